/-
Hand-written all-sizes model of `panqec/codes/fractons/_xcube_code.py` (`XCubeCode`), as functions
of the lattice size `(Lx, Ly, Lz)`.

Transcription rules: nested `range` loops / `itertools.product` = `grid3` over `pyRange2` in the same
nesting order; the periodic wrap `(x + d) % (2*L)` = `pmod` (Python `%`, non-negative for a positive
modulus); `is_qubit` = membership in the qubit list; `operator[q] = pauli` = `Op.insert` (two deltas
hit the same qubit when a side is 1, then the dict keeps the first position).  A `ValueError` is
`none` (`Lattice.getStab` returns `[]` there, `getStab?` keeps the error).  `qubit_axis` of this class
tests parities only (no membership test), so it answers for out-of-range locations too.

Supported family (DESIGN.md section 4): all `L_i ≥ 2`.  No Mathlib.
-/
import PanqecVerif.Model.Lattices.Util3Db

namespace Panqec.XCubeCode
open Panqec.Lat3Db

def allTrue : Int → Int → Int → Bool := fun _ _ _ => true

/-- `get_qubit_coordinates` -/
def qubits (Lx Ly Lz : Nat) : List Coord :=
  -- Qubits along e_x
  grid3 (pyRange2 1 (2*Lx)) (pyRange2 0 (2*Ly)) (pyRange2 0 (2*Lz)) allTrue ++
  -- Qubits along e_y
  grid3 (pyRange2 0 (2*Lx)) (pyRange2 1 (2*Ly)) (pyRange2 0 (2*Lz)) allTrue ++
  -- Qubits along e_z
  grid3 (pyRange2 0 (2*Lx)) (pyRange2 0 (2*Ly)) (pyRange2 1 (2*Lz)) allTrue

/-- `get_stabilizer_coordinates`: cubes `(x, y, z)`, then faces `(axis, x, y, z)` -/
def stabs (Lx Ly Lz : Nat) : List Coord :=
  grid3 (pyRange2 1 (2*Lx)) (pyRange2 1 (2*Ly)) (pyRange2 1 (2*Lz)) allTrue ++
  ([0, 1, 2] : List Int).flatMap fun axis =>
    (grid3 (pyRange2 0 (2*Lx)) (pyRange2 0 (2*Ly)) (pyRange2 0 (2*Lz)) allTrue).map fun c => axis :: c

def isQubit (Lx Ly Lz : Nat) (q : Coord) : Bool := (qubits Lx Ly Lz).contains q
def isStab (Lx Ly Lz : Nat) (s : Coord) : Bool := (stabs Lx Ly Lz).contains s

/-- `stabilizer_type` (`none` = ValueError) -/
def stabilizerType (Lx Ly Lz : Nat) (loc : Coord) : Option String :=
  if !isStab Lx Ly Lz loc then none
  else some (if loc.length == 4 then "face" else "cube")

def cubeDelta : List Coord :=
  [[1, 1, 0], [-1, -1, 0], [1, -1, 0], [-1, 1, 0],
   [-1, 0, -1], [1, 0, -1], [0, -1, -1], [0, 1, -1],
   [-1, 0, 1], [1, 0, 1], [0, -1, 1], [0, 1, 1]]
def faceDeltaX : List Coord := [[0, 1, 0], [0, -1, 0], [0, 0, 1], [0, 0, -1]]
def faceDeltaY : List Coord := [[1, 0, 0], [-1, 0, 0], [0, 0, 1], [0, 0, -1]]
def faceDeltaZ : List Coord := [[1, 0, 0], [-1, 0, 0], [0, 1, 0], [0, -1, 0]]

/-- `((x + d[0]) % (2*Lx), (y + d[1]) % (2*Ly), (z + d[2]) % (2*Lz))` -/
def wrapAdd (Lx Ly Lz : Nat) (x y z : Int) (d : Coord) : Coord :=
  match d with
  | [dx, dy, dz] => [pmod (x + dx) (2*Lx), pmod (y + dy) (2*Ly), pmod (z + dz) (2*Lz)]
  | _ => []

/-- `get_stabilizer` (`none` = ValueError for a non-stabilizer location) -/
def getStab? (Lx Ly Lz : Nat) (loc : Coord) : Option Op :=
  if !isStab Lx Ly Lz loc then none
  else match loc with
    | [x, y, z] =>
      some (buildOp (isQubit Lx Ly Lz) (cubeDelta.map (wrapAdd Lx Ly Lz x y z)) Pauli.Z)
    | [axis, x, y, z] =>
      let delta := if axis == 0 then faceDeltaX else if axis == 1 then faceDeltaY else faceDeltaZ
      some (buildOp (isQubit Lx Ly Lz) (delta.map (wrapAdd Lx Ly Lz x y z)) Pauli.X)
    | _ => none

def getStab (Lx Ly Lz : Nat) (loc : Coord) : Op := (getStab? Lx Ly Lz loc).getD []

/-- `qubit_axis` (`none` = ValueError); parity tests only -/
def qubitAxis (loc : Coord) : Option String :=
  match loc with
  | [x, y, z] =>
    if z % 2 == 0 && x % 2 == 1 && y % 2 == 0 then some "x"
    else if z % 2 == 0 && x % 2 == 0 && y % 2 == 1 then some "y"
    else if z % 2 == 1 && x % 2 == 0 && y % 2 == 0 then some "z"
    else none
  | _ => none

/-- `get_logicals_x` -/
def logX (Lx Ly Lz : Nat) : List Op :=
  ((pyRange2 0 (2*Ly)).map fun y => dictOf ((pyRange2 0 (2*Lz)).map fun z => [1, y, z]) Pauli.X) ++
  ((pyRange2 2 (2*Lz)).map fun z => dictOf ((pyRange2 0 (2*Ly)).map fun y => [1, y, z]) Pauli.X) ++
  ((pyRange2 0 (2*Lx)).map fun x => dictOf ((pyRange2 0 (2*Lz)).map fun z => [x, 1, z]) Pauli.X) ++
  ((pyRange2 2 (2*Lz)).map fun z => dictOf ((pyRange2 0 (2*Lx)).map fun x => [x, 1, z]) Pauli.X) ++
  ((pyRange2 0 (2*Lx)).map fun x => dictOf ((pyRange2 0 (2*Ly)).map fun y => [x, y, 1]) Pauli.X) ++
  ((pyRange2 2 (2*Ly)).map fun y => dictOf ((pyRange2 0 (2*Lx)).map fun x => [x, y, 1]) Pauli.X)

/-- `get_logicals_z` -/
def logZ (Lx Ly Lz : Nat) : List Op :=
  ((pyRange2 0 (2*Ly)).map fun y => dictOf ((pyRange2 1 (2*Lx)).map fun x => [x, y, 0]) Pauli.Z) ++
  ((pyRange2 2 (2*Lz)).map fun z =>
    dictOf (((pyRange2 1 (2*Lx)).map fun x => [x, 0, 0]) ++ ((pyRange2 1 (2*Lx)).map fun x => [x, 0, z])) Pauli.Z) ++
  ((pyRange2 0 (2*Lx)).map fun x => dictOf ((pyRange2 1 (2*Ly)).map fun y => [x, y, 0]) Pauli.Z) ++
  ((pyRange2 2 (2*Lz)).map fun z =>
    dictOf (((pyRange2 1 (2*Ly)).map fun y => [0, y, 0]) ++ ((pyRange2 1 (2*Ly)).map fun y => [0, y, z])) Pauli.Z) ++
  ((pyRange2 0 (2*Lx)).map fun x => dictOf ((pyRange2 1 (2*Lz)).map fun z => [x, 0, z]) Pauli.Z) ++
  ((pyRange2 2 (2*Ly)).map fun y =>
    dictOf (((pyRange2 1 (2*Lz)).map fun z => [0, 0, z]) ++ ((pyRange2 1 (2*Lz)).map fun z => [0, y, z])) Pauli.Z)

/-- body of `get_deformation` for a given value of `deformation_axis` (`none` = ValueError),
    checks in the order of the code -/
def getDeformationAt (name axis : String) (loc : Coord) : Option PauliMap :=
  if !(["x", "y", "z"].contains axis) then none
  else if name == "XZZX" then
    match qubitAxis loc with
    | none => none
    | some a => some (if a == axis then PauliMap.swapXZ else PauliMap.id)
  else none

/-- `get_deformation(location, deformation_name, deformation_axis='z')` (`none` = ValueError);
    `axis = none`: the caller does not pass `deformation_axis`, the signature default `'z'` applies -/
def getDeformation (name : String) (axis : Option String) (loc : Coord) : Option PauliMap :=
  getDeformationAt name (axis.getD "z") loc

/-! ### the explicit independent family of `n − k` generators of the rank clause
(`C01XCubeCode.generators_independent`, proved in `Proofs/LatXCubeCodeRank*.lean`); printed by the
driver op `rankfamily` and evaluated on the implementation's parity-check matrix on every run -/

/-- selected cubes (Z-type; `Lx·Ly·Lz − (Lx + Ly + Lz) + 2` of them): all cubes with at most one
    coordinate equal to 1 -/
def selCubes (Lx Ly Lz : Nat) : List Coord :=
  grid3 (pyRange2 1 (2*Lx)) (pyRange2 3 (2*Ly)) (pyRange2 3 (2*Lz)) (fun _ _ _ => true) ++
  (grid3 (pyRange2 3 (2*Lx)) [1] (pyRange2 3 (2*Lz)) (fun _ _ _ => true) ++
   grid3 (pyRange2 3 (2*Lx)) (pyRange2 3 (2*Ly)) [1] (fun _ _ _ => true))

/-- vertices of the selected axis-0 operators -/
def selFaces0 (Lx Ly Lz : Nat) : List Coord :=
  grid3 (pyRange2 0 (2*Lx)) (pyRange2 2 (2*Ly)) (pyRange2 0 (2*Lz)) (fun _ _ _ => true) ++
  grid3 (pyRange2 2 (2*Lx)) [0] (pyRange2 2 (2*Lz)) (fun _ _ _ => true)

/-- vertices of the selected axis-1 operators -/
def selFaces1 (Lx Ly Lz : Nat) : List Coord :=
  grid3 (pyRange2 2 (2*Lx)) (pyRange2 0 (2*Ly)) (pyRange2 0 (2*Lz)) (fun _ _ _ => true) ++
  grid3 [0] (pyRange2 0 (2*Ly)) (pyRange2 2 (2*Lz)) (fun _ _ _ => true)

/-- the selected family: cubes, then axis-0 and axis-1 vertex operators (none of axis 2) -/
def selStabs (Lx Ly Lz : Nat) : List Coord :=
  selCubes Lx Ly Lz ++
    ((selFaces0 Lx Ly Lz).map (fun c => (0 : Int) :: c) ++ (selFaces1 Lx Ly Lz).map (fun c => (1 : Int) :: c))

def lattice (Lx Ly Lz : Nat) : Lattice :=
  { qubits := qubits Lx Ly Lz, stabs := stabs Lx Ly Lz, getStab := getStab Lx Ly Lz,
    logX := logX Lx Ly Lz, logZ := logZ Lx Ly Lz }

end Panqec.XCubeCode
