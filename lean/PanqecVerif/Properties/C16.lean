/-
C16 — threshold estimation recovers a planted finite-size-scaling threshold  (level: other / partial).

FULL STATEMENT (not provable in Lean as it stands): when the logical error rates of ≥ 3 code
distances at ≥ 7 error rates lie on `A + B x + C x²`, `x = (p - p_th) d^ν`, then
`Analysis.thresholds` reports `p_th_fss = p_th` up to fit tolerance, inside
`[p_th_fss_left, p_th_fss_right]` and inside the data range, with `fit_status = 'success'`,
independently of the order of files and rows.

WHAT IS PROVED HERE (the part of the pipeline that is panqec's own arithmetic and logic):
  * `fit_function` / `rescale_prob` are the documented ansatz (the code uses `d**nu`; the power
    `s = d**nu` is an arbitrary parameter per row, so the statements hold for every exponent
    convention and every ν);
  * the planted parameters have zero residual, hence minimise the least-squares cost that
    `curve_fit` minimises (`cost ≥ 0 = cost planted`), and every zero-cost parameter vector
    reproduces every data point;
  * cost, truncation and the reported quantiles are invariant under permutations of the rows /
    bootstrap samples; the default truncation limits keep every row;
  * the reported estimate (median of the bootstrap column) lies inside the reported interval
    (0.16 / 0.84 quantiles) for every non-empty bootstrap sample;
  * `get_fit_status`: `success` iff all its conditions hold, each failure string exactly under
    its condition, and `success` under the planted-box hypotheses.

WHAT IS NOT PROVED (…`_partial`): that `scipy.optimize.curve_fit` (Levenberg–Marquardt from the
start point `[p_th_nearest, 2, f_0, 1, 1]`) converges to the minimiser, and that the quantiles
of 100 beta-resampled refits bracket it.  That is numeric runtime behaviour of a third-party
routine; it is exercised as a TEST by the correspondence (planted data → `Analysis.thresholds`).
-/
import PanqecVerif.Proofs.AnalysisQuantile

namespace Panqec.C16

open Panqec Panqec.An

/-- `fit_function((p, d), p_th, nu, A, B, C) = A + B x + C x²` with `x = rescale_prob = (p - p_th) d^ν` -/
theorem fit_function_is_ansatz (p s pth A B C : Rat) :
    rescaleProb p pth s = (p - pth) * s ∧
    fitFunction p s pth A B C = A + B * rescaleProb p pth s + C * (rescaleProb p pth s) ^ 2 :=
  ⟨rfl, rfl⟩

/-- at the threshold the ansatz does not depend on the distance: all curves cross at `(p_th, A)` -/
theorem curves_cross_at_threshold (s pth A B C : Rat) : fitFunction pth s pth A B C = A := by
  simp [fitFunction]

/-- data that lie on the ansatz have zero residual at the planted parameters, and the planted
    parameters are a global minimiser of the least-squares cost -/
theorem planted_parameters_minimise_cost (θ : Params) (rows : List Row)
    (hplant : ∀ r ∈ rows, r.f = fitFunction r.p r.s θ.pth θ.A θ.B θ.C) :
    cost θ rows = 0 ∧ ∀ θ' : Params, cost θ rows ≤ cost θ' rows := by
  have h0 : cost θ rows = 0 :=
    (cost_eq_zero_iff θ rows).mpr (fun r hr => by simp [An.residual, hplant r hr])
  exact ⟨h0, fun θ' => h0 ▸ cost_nonneg θ' rows⟩

/-- conversely every minimiser of the cost of planted data reproduces every data point -/
theorem minimiser_reproduces_data (θ θ' : Params) (rows : List Row)
    (hplant : ∀ r ∈ rows, r.f = fitFunction r.p r.s θ.pth θ.A θ.B θ.C)
    (hmin : ∀ θ'' : Params, cost θ' rows ≤ cost θ'' rows) :
    ∀ r ∈ rows, fitFunction r.p r.s θ'.pth θ'.A θ'.B θ'.C = r.f := by
  have h0 := (planted_parameters_minimise_cost θ rows hplant).1
  have h1 : cost θ' rows = 0 := le_antisymm (h0 ▸ hmin θ) (cost_nonneg θ' rows)
  intro r hr
  have := (cost_eq_zero_iff θ' rows).mp h1 r hr
  unfold An.residual at this
  linarith

/-- FULL recovery claim, with the optimiser as a parameter: *if* the fitting routine returns a
    minimiser of the cost (contract of `curve_fit`, not proved), the fitted curve passes through
    every planted point and its cost is zero.  Identification of `p_th` itself from a zero-cost
    fit and the bootstrap quantiles are only tested. -/
theorem recovery_partial (fit : List Row → Params) (θ : Params) (rows : List Row)
    (contract : ∀ θ'' : Params, cost (fit rows) rows ≤ cost θ'' rows)
    (hplant : ∀ r ∈ rows, r.f = fitFunction r.p r.s θ.pth θ.A θ.B θ.C) :
    cost (fit rows) rows = 0 ∧
    ∀ r ∈ rows, fitFunction r.p r.s (fit rows).pth (fit rows).A (fit rows).B (fit rows).C = r.f := by
  have h := minimiser_reproduces_data θ (fit rows) rows hplant contract
  refine ⟨(cost_eq_zero_iff _ _).mpr (fun r hr => ?_), h⟩
  unfold An.residual; rw [h r hr]; ring

theorem cost_order_irrelevant (θ : Params) {rows₁ rows₂ : List Row} (h : rows₁.Perm rows₂) :
    cost θ rows₁ = cost θ rows₂ := cost_perm θ h

theorem truncation_order_irrelevant (pl pr : Rat) {rows₁ rows₂ : List Row} (h : rows₁.Perm rows₂) :
    (truncate pl pr rows₁).Perm (truncate pl pr rows₂) := truncate_perm pl pr h

/-- with the default limits `p_left = min error_rate`, `p_right = max error_rate` no row is dropped -/
theorem default_truncation_keeps_all_rows (rows : List Row) (pl pr : Rat)
    (hl : minRate rows = some pl) (hr : maxRate rows = some pr) : truncate pl pr rows = rows :=
  truncate_eq_self fun r hmem => ⟨minRate_le hl r hmem, le_maxRate hr r hmem⟩

/-- median and the 0.16 / 0.84 quantiles do not depend on the order of the bootstrap rows -/
theorem quantiles_order_irrelevant {a b : List Rat} (h : a.Perm b) (q : Rat) :
    quantile a q = quantile b q := quantile_perm h q

/-- the reported estimate lies inside its own reported interval, for every non-empty bootstrap
    sample: `quantile 0.16 ≤ median ≤ quantile 0.84` -/
theorem estimate_inside_its_interval (a : List Rat) (ha : a ≠ []) :
    ∃ l m r : Rat, quantile a (16 / 100) = some l ∧ quantile a (1 / 2) = some m ∧
      quantile a (84 / 100) = some r ∧ l ≤ m ∧ m ≤ r := by
  obtain ⟨l, hl⟩ := quantile_some a (16 / 100) ha
  obtain ⟨m, hm⟩ := quantile_some a (1 / 2) ha
  obtain ⟨r, hr⟩ := quantile_some a (84 / 100) ha
  exact ⟨l, m, r, hl, hm, hr,
    quantile_mono a (by norm_num) (by norm_num) (by norm_num) hl hm,
    quantile_mono a (by norm_num) (by norm_num) (by norm_num) hm hr⟩

/-! ## what is reported as `fss_params[0]`

`get_fit_params` starts a fit from the midpoint of the error-rate range when the hint `params_0[0]`
lies outside that range, and the bootstrap loop of `fit_fss_params` passes `params_opt` itself as
hint.  Since 182c096 the replacement is made on a copy. -/

/-- the reported best-fit parameters are exactly the optimiser's, whatever the resamples; each
    bootstrap fit starts from the optimiser's value, or from the midpoint of its own resample's
    range when that value lies outside -/
theorem reported_threshold_is_the_optimisers (raw : Option Rat) (bounds : List (Rat × Rat)) :
    reportedPth raw bounds = raw ∧ (bootstrapLoop raw bounds).2 = bounds.map (hintFor raw) := by
  unfold reportedPth
  rw [bootstrapLoop_spec]
  exact ⟨rfl, rfl⟩

/-- a hint inside the range is used as it is; otherwise the start value is inside the range -/
theorem start_value_inside_range (c : Rat) (b : Rat × Rat) (hb : b.1 ≤ b.2) :
    ((b.1 ≤ c ∧ c ≤ b.2) → hintFor (some c) b = some c) ∧
    ∃ v, hintFor (some c) b = some v ∧ b.1 ≤ v ∧ v ≤ b.2 := by
  obtain ⟨v, hv, h1, h2, h3⟩ := hintFor_some c hb
  exact ⟨fun h => by rw [hv, h3 h], v, hv, h1, h2⟩

/-- regression (behaviour before 182c096, `oldReportedPth`): the in-place replacement leaked into
    the reported value as soon as the first resample's range excluded the fitted threshold -/
theorem regression_old_reported_threshold_overwritten (raw : Rat) (b : Rat × Rat) (bs : List (Rat × Rat))
    (hout : ¬ (b.1 ≤ raw ∧ raw ≤ b.2)) :
    oldReportedPth (some raw) (b :: bs) = oldReportedPth (some ((b.1 + b.2) / 2)) bs := by
  simp [oldReportedPth, hintFor, if_neg hout]

/-- regression witness (numbers of the replayed data set, rounded): the optimiser returned
    p_th = -0.012 for rates in [0.116347, 0.202323]; 0.159335 was reported, -0.012 is reported now -/
theorem regression_fss_params_overwritten_witness :
    oldReportedPth (some (-12 / 1000)) [(116347 / 1000000, 202323 / 1000000), (116347 / 1000000, 202323 / 1000000)]
      = some (159335 / 1000000) ∧
    reportedPth (some (-12 / 1000)) [(116347 / 1000000, 202323 / 1000000), (116347 / 1000000, 202323 / 1000000)]
      = some (-12 / 1000) := by
  decide +kernel

section finite
variable (f0 nu A B C pth l r se pl pr : Rat)

/-- the decision chain on finite entries, in the order of the code -/
theorem status_chain :
    fitStatus (finiteEntry f0 nu A B C pth l r se pl pr) =
      if isClose l r then .zeroCI
      else if isClose se 0 then .zeroSE
      else if outside01 pth || outside01 l || outside01 r || outside01 se then .invalidThreshold
      else if outside01 A then .invalidRateAtThreshold
      else if pth < pl then .leftOfData
      else if pr < pth then .rightOfData
      else if isClose A 0 && isClose B 0 && isClose C 0 then .zeroFit
      else .success := rfl

/-- each failure string is returned exactly under its condition (all earlier tests passed);
    `bad` = some reported number outside [0,1] -/
theorem status_failure_conditions :
    let e := finiteEntry f0 nu A B C pth l r se pl pr
    let bad := outside01 pth || outside01 l || outside01 r || outside01 se
    (fitStatus e = .zeroCI ↔ isClose l r = true) ∧
    (fitStatus e = .zeroSE ↔ isClose l r = false ∧ isClose se 0 = true) ∧
    (fitStatus e = .invalidThreshold ↔ isClose l r = false ∧ isClose se 0 = false ∧ bad = true) ∧
    (fitStatus e = .invalidRateAtThreshold ↔
      isClose l r = false ∧ isClose se 0 = false ∧ bad = false ∧ outside01 A = true) ∧
    (fitStatus e = .leftOfData ↔
      isClose l r = false ∧ isClose se 0 = false ∧ bad = false ∧ outside01 A = false ∧ pth < pl) ∧
    (fitStatus e = .rightOfData ↔
      isClose l r = false ∧ isClose se 0 = false ∧ bad = false ∧ outside01 A = false ∧ pl ≤ pth ∧ pr < pth) ∧
    (fitStatus e = .zeroFit ↔
      isClose l r = false ∧ isClose se 0 = false ∧ bad = false ∧ outside01 A = false ∧ pl ≤ pth ∧ pth ≤ pr ∧
      (isClose A 0 && isClose B 0 && isClose C 0) = true) := by
  intro e bad
  simp only [e, bad, status_chain]
  generalize (outside01 pth || outside01 l || outside01 r || outside01 se) = bad'
  generalize (isClose A 0 && isClose B 0 && isClose C 0) = z
  /- walk down the chain with `ite_eq_iff`: a test that fires returns a status different from
     the one asked for, so only the branch of the asked status survives -/
  simp only [ite_eq_iff, reduceCtorEq, and_false, and_true, false_or, or_false, Bool.not_eq_true,
    not_lt]

/-- `success` exactly when every test passes -/
theorem status_success_iff :
    fitStatus (finiteEntry f0 nu A B C pth l r se pl pr) = .success ↔
      isClose l r = false ∧ isClose se 0 = false ∧
      (outside01 pth || outside01 l || outside01 r || outside01 se) = false ∧
      outside01 A = false ∧ pl ≤ pth ∧ pth ≤ pr ∧
      (isClose A 0 && isClose B 0 && isClose C 0) = false := by
  rw [status_chain]
  generalize (outside01 pth || outside01 l || outside01 r || outside01 se) = bad'
  generalize (isClose A 0 && isClose B 0 && isClose C 0) = z
  simp only [ite_eq_iff, reduceCtorEq, and_false, and_true, false_or, Bool.not_eq_true, not_lt]

/-- PLANTED BOX: a threshold inside the data range and inside (0,1), an interval of visible
    width, a visible standard error, and a logical rate at threshold that is a visible
    probability give `fit_status = 'success'` -/
theorem planted_box_success
    (hci : 1 / 100000000 + 1 / 100000 * |r| < |l - r|) (hse : 1 / 100000000 < |se|)
    (hpth : 0 ≤ pth ∧ pth ≤ 1) (hl : 0 ≤ l ∧ l ≤ 1) (hr : 0 ≤ r ∧ r ≤ 1) (hse1 : 0 ≤ se ∧ se ≤ 1)
    (hA : 1 / 100000000 < A ∧ A ≤ 1) (hrange : pl ≤ pth ∧ pth ≤ pr) :
    fitStatus (finiteEntry f0 nu A B C pth l r se pl pr) = .success := by
  rw [status_success_iff]
  have n1 : isClose l r = false := by
    rw [Bool.eq_false_iff]; intro h; rw [isClose_iff] at h; linarith
  have n2 : isClose se 0 = false := by
    rw [Bool.eq_false_iff]; intro h; rw [isClose_zero_iff] at h; linarith
  have n3 : isClose A 0 = false := by
    rw [Bool.eq_false_iff]; intro h; rw [isClose_zero_iff] at h
    have : |A| = A := abs_of_pos (by linarith [hA.1])
    linarith [hA.1]
  refine ⟨n1, n2, ?_, (outside01_iff _).mpr ⟨by linarith [hA.1], hA.2⟩, hrange.1, hrange.2, ?_⟩
  · rw [(outside01_iff _).mpr hpth, (outside01_iff _).mpr hl, (outside01_iff _).mpr hr,
      (outside01_iff _).mpr hse1]; rfl
  · rw [n3]; rfl

/-- the acceptance predicate used by the planted-threshold test is exactly the C16 statement -/
theorem recovered_iff (planted tol : Rat) :
    recovered planted tol (finiteEntry f0 nu A B C pth l r se pl pr) = true ↔
      |pth - planted| ≤ tol ∧ l ≤ pth ∧ pth ≤ r ∧ pl ≤ pth ∧ pth ≤ pr ∧
      fitStatus (finiteEntry f0 nu A B C pth l r se pl pr) = .success := by
  unfold recovered finiteEntry
  simp only [absR_eq_abs, Bool.and_eq_true, decide_eq_true_eq, beq_iff_eq, and_assoc]

end finite

/-- 'Curve fitting failed.' exactly when some fitted parameter is NaN -/
theorem status_curve_fit_failed_iff (e : FitEntry) :
    fitStatus e = .curveFitFailed ↔
      (e.fss0 = none ∨ e.nu = none ∨ e.A = none ∨ e.B = none ∨ e.C = none) := by
  rcases fitStatus_cases e with ⟨h, hs⟩ | ⟨h, ⟨_, hs⟩ | ⟨f0, nu, A, B, C, pth, l, r, se, pl, pr, rfl⟩⟩
  · exact iff_of_true hs h
  · simp [hs, h]
  · exact iff_of_false (status_finite_ne ..).1 (by simp [finiteEntry])

/-- 'NaN threshold estimate or uncertainty.' exactly when the parameters are finite and one of
    the four reported numbers is NaN -/
theorem status_nan_iff (e : FitEntry) :
    fitStatus e = .nanThreshold ↔
      (e.fss0 ≠ none ∧ e.nu ≠ none ∧ e.A ≠ none ∧ e.B ≠ none ∧ e.C ≠ none) ∧
      (e.pth = none ∨ e.left = none ∨ e.right = none ∨ e.se = none) := by
  rcases fitStatus_cases e with ⟨h, hs⟩ | ⟨h, ⟨h', hs⟩ | ⟨f0, nu, A, B, C, pth, l, r, se, pl, pr, rfl⟩⟩
  · exact iff_of_false (hs ▸ by decide) fun hh => by simp [hh.1] at h
  · exact iff_of_true hs ⟨h, h'⟩
  · exact iff_of_false (status_finite_ne ..).2 (by simp [finiteEntry])

/-! ## non-vacuity -/

/-- a planted instance: three "distances" (scales 4, 6, 8 for ν = 1), rates around p_th = 1/10 -/
def θ₀ : Params := { pth := 1 / 10, A := 3 / 10, B := 4 / 5, C := 1 / 2 }
def rows₀ : List Row :=
  ([4, 6, 8] : List Rat).flatMap fun s =>
    ([7 / 100, 9 / 100, 1 / 10, 11 / 100, 13 / 100] : List Rat).map fun p =>
      { p := p, s := s, f := fitFunction p s θ₀.pth θ₀.A θ₀.B θ₀.C }

example : ∀ r ∈ rows₀, r.f = fitFunction r.p r.s θ₀.pth θ₀.A θ₀.B θ₀.C := by decide +kernel
example : cost θ₀ rows₀ = 0 := by decide +kernel
example : cost { θ₀ with pth := 11 / 100 } rows₀ ≠ 0 := by decide +kernel
example : minRate rows₀ = some (7 / 100) ∧ maxRate rows₀ = some (13 / 100) := by decide +kernel
example : fitStatus (finiteEntry (1/10) 1 (3/10) (4/5) (1/2) (1/10) (99/1000) (101/1000) (1/1000)
    (7/100) (13/100)) = .success := by decide +kernel
example : fitStatus (finiteEntry (1/10) 1 (3/10) (4/5) (1/2) (1/10) (1/10) (1/10) (1/1000)
    (7/100) (13/100)) = .zeroCI := by decide +kernel
example : fitStatus (finiteEntry (1/10) 1 (3/10) (4/5) (1/2) (1/20) (4/100) (6/100) (1/1000)
    (7/100) (13/100)) = .leftOfData := by decide +kernel
example : quantile [3, 1, 2, 5, 4] (1 / 2) = some 3 ∧ quantile [3, 1, 2, 5, 4] (16 / 100) = some (41 / 25) := by
  decide +kernel

end Panqec.C16
