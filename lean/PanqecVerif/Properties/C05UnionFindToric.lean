/-
C05 — `UnionFindDecoder` on `Toric2DCode`, ALL lattice sizes of the supported family (`Lx, Ly ≥ 2`).

`Properties/C05UnionFind.lean` proves that the model of `Support.decode()`
(`panqec/decoders/union_find/uf_support.py`, with `Peeling_Tree.peel` as repaired for
finding D15) terminates and returns a binary vector with exactly the given syndrome on every
parity-check matrix satisfying the decidable predicate `closedMultigraph` (0/1 entries, every
column of weight 0 or 2, two rows sharing fewer than 256 columns — parallel edges allowed), for
every error and every schedule of set iteration orders.  This file proves that the
two matrices that `UnionFindDecoder.decode` (`uf_decoder.py`) hands to `Support` — `code.Hz` (the Z
block of the vertex rows, with the Z-row syndrome) and `code.Hx` (the X block of the face rows,
with the X-row syndrome) of the parity-check matrix that the generic code assembles from the
all-sizes lattice model `Model/Lattices/Toric2DCode.lean` (`(lattice Lx Ly).rowsH`,
`C01Toric2DCode.valid_code`) — satisfy `closedMultigraph` for EVERY `Lx, Ly ≥ 2`.

How: both matrices are incidence matrices of the torus (vertices / faces against qubits,
`inc s q` ⇔ `q` is a key of the dict `get_stabilizer(s)`); every qubit lies on exactly two vertices
and two faces (column weight 2), two generators share at most four qubits (far below 256).  When a
side is 2 two generators are joined by TWO qubits (parallel edges: not `graphLike`, the root cause
of finding D15); `closedGraph` holds exactly for sides ≥ 3.  The decoder theorem
`unionfind_toric_reproduces_syndrome` is for every schedule (solver `ufSolveSched sched`);
`unionfind_toric_outcome` adds, with `C01Toric2DCode.valid_code` and C04, that the run is reported as
a success exactly when the residual `e ⊕ c` is a product of generators.  The regression theorems at
the end are about `UnionFindDecoder.decode` with the internals BEFORE the repair (`oldUfSolve`).

Proofs: `Proofs/UnionFindIncidence.lean` (incidence criterion),
`Proofs/LatToric2DCodeSector.lean` (sector matrices = incidence matrices),
`Proofs/LatToric2DCodeGraph.lean` (geometry of the torus), `Proofs/UnionFindSched.lean`.
-/
import PanqecVerif.Proofs.LatToric2DCodeGraph
import PanqecVerif.Proofs.UnionFindSched
import PanqecVerif.Properties.C01Toric2DCode
import PanqecVerif.Properties.C04
import PanqecVerif.Properties.C05UnionFind

namespace Panqec.C05UFToric

open Panqec Panqec.UF Panqec.Toric2DCode Panqec.Lat2D

/-- **which blocks `Support` gets** (sides ≥ 2): the assembled parity-check matrix is CSS, its
    `Hz` is the incidence matrix of the vertex locations (in `get_stabilizer_coordinates` order)
    against the qubit locations, its `Hx` the incidence matrix of the face locations, each on
    `n = 2·Lx·Ly` columns. -/
theorem toric_sector_matrices (Lx Ly : Nat) (hx : 2 ≤ Lx) (hy : 2 ≤ Ly) :
    isCss (lattice Lx Ly).rowsH = true ∧
    Hz (lattice Lx Ly).rowsH = incMat (verts Lx Ly) (qubits Lx Ly) (inc Lx Ly) ∧
    Hx (lattice Lx Ly).rowsH = incMat (faces Lx Ly) (qubits Lx Ly) (inc Lx Ly) ∧
    (lattice Lx Ly).stabs = verts Lx Ly ++ faces Lx Ly ∧
    ncols (Hz (lattice Lx Ly).rowsH) = 2 * Lx * Ly ∧
    ncols (Hx (lattice Lx Ly).rowsH) = 2 * Lx * Ly :=
  ⟨isCss_rowsH hx hy, Hz_rowsH hx hy, Hx_rowsH hx hy, rfl, ncols_Hz hx hy, ncols_Hx hx hy⟩

/-- the incidence relation is the support of the operator the lattice model returns:
    `inc s q` iff `q` is a key of the dict `get_stabilizer(s)` (sides ≥ 2) -/
theorem toric_inc_is_support (Lx Ly : Nat) (hx : 2 ≤ Lx) (hy : 2 ≤ Ly) (s q : Coord)
    (hs : s ∈ (lattice Lx Ly).stabs) :
    inc Lx Ly s q = true ↔ q ∈ ((lattice Lx Ly).getStab s).map Prod.fst := by
  obtain ⟨x, y, rfl, _⟩ := mem_stabs.mp hs
  rw [getStab_eq hx hy hs, map_fst_letter]
  unfold inc nbrsOf
  rw [List.contains_iff_mem]
  rfl

/-- **every qubit lies in exactly two vertex operators and in exactly two face operators**
    (sides ≥ 2) -/
theorem toric_qubit_on_two_generators (Lx Ly : Nat) (hx : 2 ≤ Lx) (hy : 2 ≤ Ly) (q : Coord)
    (hq : q ∈ (lattice Lx Ly).qubits) :
    (verts Lx Ly).countP (fun v => inc Lx Ly v q) = 2 ∧
    (faces Lx Ly).countP (fun f => inc Lx Ly f q) = 2 :=
  ⟨two_per_qubit (Or.inl rfl) hx hy _ (nodup_verts Lx Ly) mem_verts_S q hq,
   two_per_qubit (Or.inr rfl) hx hy _ (nodup_faces Lx Ly) mem_faces_S q hq⟩

/-- the same at the matrix level: every column of `Hz` and of `Hx` has weight exactly 2
    (sides ≥ 2) -/
theorem toric_column_weight_two (Lx Ly : Nat) (hx : 2 ≤ Lx) (hy : 2 ≤ Ly) (q : Nat)
    (hq : q < 2 * Lx * Ly) :
    cnt (Hz (lattice Lx Ly).rowsH).length (fun s => hb (Hz (lattice Lx Ly).rowsH) s q) = 2 ∧
    cnt (Hx (lattice Lx Ly).rowsH).length (fun s => hb (Hx (lattice Lx Ly).rowsH) s q) = 2 := by
  have hq' : q < (qubits Lx Ly).length := by rw [length_qubits]; exact hq
  rw [Hz_rowsH hx hy, Hx_rowsH hx hy, cnt_col_incMat _ _ _ q hq', cnt_col_incMat _ _ _ q hq']
  exact toric_qubit_on_two_generators Lx Ly hx hy _ (List.getElem_mem hq')

/-- **two different generators of one type share at most one qubit** (sides ≥ 3) -/
theorem toric_generators_share_at_most_one (Lx Ly : Nat) (hx : 3 ≤ Lx) (hy : 3 ≤ Ly)
    (v w : Coord) (hvw : v ≠ w)
    (h : (v ∈ verts Lx Ly ∧ w ∈ verts Lx Ly) ∨ (v ∈ faces Lx Ly ∧ w ∈ faces Lx Ly)) :
    (qubits Lx Ly).countP (fun q => inc Lx Ly v q && inc Lx Ly w q) ≤ 1 := by
  have key : ∀ (t : Int), (t = 0 ∨ t = 1) →
      (∃ x y, v = [x, y] ∧ IsS t Lx Ly x y) → (∃ x y, w = [x, y] ∧ IsS t Lx Ly x y) →
      (qubits Lx Ly).countP (fun q => inc Lx Ly v q && inc Lx Ly w q) ≤ 1 := by
    intro t ht ⟨ax, ay, hv, ha⟩ ⟨bx, by', hw, hb⟩
    subst hv hw
    apply countP_le_one_of_unique _ _ (nodup_qubits Lx Ly)
    intro q1 hq1 q2 hq2 hi1 hi2
    obtain ⟨q1x, q1y, rfl, h1⟩ := mem_qubits.mp hq1
    obtain ⟨q2x, q2y, rfl, h2⟩ := mem_qubits.mp hq2
    rw [Bool.and_eq_true, inc_iff, inc_iff] at hi1 hi2
    have := share_unique ht hx hy ha hb (by
      rintro ⟨rfl, rfl⟩; exact hvw rfl) h1 h2 hi1.1 hi1.2 hi2.1 hi2.2
    rw [this.1, this.2]
  rcases h with ⟨h1, h2⟩ | ⟨h1, h2⟩
  · exact key 0 (Or.inl rfl) (mem_verts.mp h1) (mem_verts.mp h2)
  · exact key 1 (Or.inr rfl) (mem_faces.mp h1) (mem_faces.mp h2)

/-- two generators (of any type) share at most four qubits (any size): far below the bound 256
    of `multigraphLike` -/
theorem toric_generators_share_at_most_four (Lx Ly : Nat) (v w : Coord) :
    (qubits Lx Ly).countP (fun q => inc Lx Ly v q && inc Lx Ly w q) ≤ 4 :=
  share_le_four v w

/-- **THE GAP, CLOSED FOR THE WHOLE FAMILY**: for every `Lx, Ly ≥ 2` both sector matrices of the
    assembled parity-check matrix of `Toric2DCode(Lx, Ly)` satisfy `closedMultigraph` (every
    column of weight 2; parallel edges when a side is 2). -/
theorem toric_sectors_closed_multigraph (Lx Ly : Nat) (hx : 2 ≤ Lx) (hy : 2 ≤ Ly) :
    closedMultigraph (Hz (lattice Lx Ly).rowsH) = true ∧
    closedMultigraph (Hx (lattice Lx Ly).rowsH) = true :=
  ⟨closedMultigraph_Hz hx hy, closedMultigraph_Hx hx hy⟩

/-- for every `Lx, Ly ≥ 3` both sector matrices are moreover simple: `closedGraph` (the hypothesis
    of `C05UF.old_uf_solver_contract`). -/
theorem toric_sectors_closed (Lx Ly : Nat) (hx : 3 ≤ Lx) (hy : 3 ≤ Ly) :
    closedGraph (Hz (lattice Lx Ly).rowsH) = true ∧
    closedGraph (Hx (lattice Lx Ly).rowsH) = true :=
  ⟨closedGraph_Hz hx hy, closedGraph_Hx hx hy⟩

/-- hence `Support(sy, Hz).decode()` and `Support(sy, Hx).decode()` are total and correct on the
    syndrome of every error, for every schedule, and never leave the modelled fragment
    (`uf_decode_total` instantiated at the two sector matrices of every lattice, side 2 included) -/
theorem toric_support_decode_total (Lx Ly : Nat) (hx : 2 ≤ Lx) (hy : 2 ≤ Ly) (v : Vec)
    (hv : v.length = 2 * Lx * Ly) (sched : List (List Int)) :
    ∀ M, (M = Hz (lattice Lx Ly).rowsH ∨ M = Hx (lattice Lx Ly).rowsH) →
      ∃ c, (decodeWith M (sectorSyndrome M v) sched).outcome = .ok c ∧ c.length = 2 * Lx * Ly ∧
        (∀ x, x ∈ c → x < 2) ∧ sectorSyndrome M c = sectorSyndrome M v ∧
        (decodeWith M (sectorSyndrome M v) sched).bad = false := by
  intro M hM
  have hc : closedMultigraph M = true ∧ ncols M = 2 * Lx * Ly := by
    rcases hM with rfl | rfl
    · exact ⟨closedMultigraph_Hz hx hy, ncols_Hz hx hy⟩
    · exact ⟨closedMultigraph_Hx hx hy, ncols_Hx hx hy⟩
  have := C05UF.uf_decode_total M hc.1 v (hc.2 ▸ hv) sched
  rwa [hc.2] at this

/-- **UnionFindDecoder on every `Toric2DCode(Lx, Ly)`, `Lx, Ly ≥ 2`** (the whole supported family;
    sides of length 2 included since the repair of `peel`): the matrix `H` below is what
    `code.stabilizer_matrix` assembles (no `KeyError`); for every Pauli error `e` (any vector of
    length `2n`, `n = 2·Lx·Ly`) and every schedule of set iteration orders (which may depend on
    the matrix and the syndrome of the call), `decode(measure_syndrome(e))` of the model
    (glue of `uf_decoder.py` + internals of `uf_support.py`) returns — no exception, no
    divergence — a binary vector `c` of length `2n` with `measure_syndrome(c) =
    measure_syndrome(e)`, and `e ⊕ c` is in the code space. -/
theorem unionfind_toric_reproduces_syndrome (Lx Ly : Nat) (hx : 2 ≤ Lx) (hy : 2 ≤ Ly)
    (sched : Mat → Vec → List (List Int)) (e : Vec) (he : e.length = 2 * (2 * Lx * Ly)) :
    stabilizerMatrix (lattice Lx Ly).toCodeData = some (lattice Lx Ly).rowsH ∧
    ∃ c ev, ufDecode (ufSolveSched sched) (lattice Lx Ly).rowsH (2 * Lx * Ly)
        (measureSyndrome (lattice Lx Ly).rowsH e) = .ok (c, ev) ∧
      c.length = 2 * (2 * Lx * Ly) ∧ (∀ x ∈ c, x < 2) ∧
      measureSyndrome (lattice Lx Ly).rowsH c = measureSyndrome (lattice Lx Ly).rowsH e ∧
      inCodespace (lattice Lx Ly).rowsH (vxor e c) = true := by
  refine ⟨(C01Toric2DCode.valid_code Lx Ly hx hy).1, ?_⟩
  obtain ⟨c, ev, h1, h2, h3, h4⟩ := ufDecode_sched_valid sched (lattice Lx Ly).rowsH
    (2 * Lx * Ly) (isCss_rowsH hx hy) (closedMultigraph_Hz hx hy) (closedMultigraph_Hx hx hy)
    (ncols_Hz hx hy) (ncols_Hx hx hy) e he
  exact ⟨c, ev, h1, h2, h3, h4, in_codespace_of_same_syndrome _ e c (by omega) h4⟩

/-- the same for the list-order schedule `ufSolve` of `Model/UnionFind.lean` (the solver of
    `C05UF.unionfind_decoder_reproduces_syndrome`) -/
theorem unionfind_toric_reproduces_syndrome_list_order (Lx Ly : Nat) (hx : 2 ≤ Lx) (hy : 2 ≤ Ly)
    (e : Vec) (he : e.length = 2 * (2 * Lx * Ly)) :
    ∃ c ev, ufDecode ufSolve (lattice Lx Ly).rowsH (2 * Lx * Ly)
        (measureSyndrome (lattice Lx Ly).rowsH e) = .ok (c, ev) ∧
      c.length = 2 * (2 * Lx * Ly) ∧ (∀ x ∈ c, x < 2) ∧
      measureSyndrome (lattice Lx Ly).rowsH c = measureSyndrome (lattice Lx Ly).rowsH e :=
  C05UF.unionfind_decoder_reproduces_syndrome _ _ (isCss_rowsH hx hy)
    (closedMultigraph_Hz hx hy) (closedMultigraph_Hx hx hy) (ncols_Hz hx hy)
    (ncols_Hx hx hy) e he

/-- **what the run is reported as** (with `C01Toric2DCode.valid_code` and
    `C04.success_iff_stabilizer`): for a binary error `e` the residual `e ⊕ c` of the decoder's
    answer is in the code space, and `is_success(e ⊕ c)` is `true` exactly when the residual is
    a product of stabilizer generators — for every size, error and schedule. -/
theorem unionfind_toric_outcome (Lx Ly : Nat) (hx : 2 ≤ Lx) (hy : 2 ≤ Ly)
    (sched : Mat → Vec → List (List Int)) (dt : DType) (e : Vec)
    (he : e.length = 2 * (2 * Lx * Ly)) :
    ∃ c ev, ufDecode (ufSolveSched sched) (lattice Lx Ly).rowsH (2 * Lx * Ly)
        (measureSyndrome (lattice Lx Ly).rowsH e) = .ok (c, ev) ∧
      inCodespace (lattice Lx Ly).rowsH (vxor e c) = true ∧
      (isSuccess dt (lattice Lx Ly).rowsH (lattice Lx Ly).rowsX (lattice Lx Ly).rowsZ (vxor e c)
          = true ↔ InSpan (2 * (2 * Lx * Ly)) (lattice Lx Ly).rowsH (vxor e c)) := by
  obtain ⟨_, c, ev, h1, h2, _, _, h5⟩ := unionfind_toric_reproduces_syndrome Lx Ly hx hy sched e he
  refine ⟨c, ev, h1, h5, ?_⟩
  have hv := (C01Toric2DCode.valid_code Lx Ly (by omega) (by omega)).2.2.2
  exact C04.success_iff_stabilizer hv dt (vxor e c)
    (by rw [vxor_length e c (by omega)]; exact he) (vxor_binary e c)

/-- **parallel edges, all sizes**: as soon as one side is 2 (the other any size ≥ 2) both
    sector matrices have two generators joined by two qubits — `(0,0)`–`(2,0)` through `(1,0)`
    and `(3,0)` for `Lx = 2`, … — hence are not `graphLike`: on them the code BEFORE the repair of
    `peel` returned wrong corrections (`C05UF.old_uf_fails_on_parallel_edges`,
    finding D15); they are closed multigraphs (`toric_sectors_closed_multigraph`) and the repaired
    code is correct on them. -/
theorem toric_side_two_not_graphLike (Lx Ly : Nat) (hx : 2 ≤ Lx) (hy : 2 ≤ Ly)
    (h2 : Lx = 2 ∨ Ly = 2) :
    graphLike (Hz (lattice Lx Ly).rowsH) = false ∧ graphLike (Hx (lattice Lx Ly).rowsH) = false := by
  rcases h2 with rfl | rfl
  · exact parallel_x hy
  · exact parallel_y hx

/-- so `closedGraph` (no parallel edges) of the sector matrices holds EXACTLY for sides ≥ 3
    (within the supported family `Lx, Ly ≥ 2`), while `closedMultigraph` holds for all of them -/
theorem toric_sectors_closed_iff (Lx Ly : Nat) (hx : 2 ≤ Lx) (hy : 2 ≤ Ly) :
    (closedGraph (Hz (lattice Lx Ly).rowsH) = true ∧ closedGraph (Hx (lattice Lx Ly).rowsH) = true)
      ↔ (3 ≤ Lx ∧ 3 ≤ Ly) := by
  constructor
  · intro ⟨hz, _⟩
    by_contra hne
    have h2 : Lx = 2 ∨ Ly = 2 := by omega
    have := (toric_side_two_not_graphLike Lx Ly hx hy h2).1
    unfold closedGraph at hz
    rw [this] at hz
    simp at hz
  · intro ⟨h1, h2⟩
    exact toric_sectors_closed Lx Ly h1 h2

/-! ### regression at the decoder level: before and after the repair of `peel` -/

/-- `UnionFindDecoder.decode` with the internals BEFORE the repair (`oldUfSolve`) on every
    `Toric2DCode(Lx, Ly)` with sides ≥ 3: correct too (list order) — the repair was needed for
    sides of length 2 only -/
theorem old_unionfind_toric_sides_ge_three (Lx Ly : Nat) (hx : 3 ≤ Lx) (hy : 3 ≤ Ly)
    (e : Vec) (he : e.length = 2 * (2 * Lx * Ly)) :
    ∃ c ev, ufDecode oldUfSolve (lattice Lx Ly).rowsH (2 * Lx * Ly)
        (measureSyndrome (lattice Lx Ly).rowsH e) = .ok (c, ev) ∧
      c.length = 2 * (2 * Lx * Ly) ∧ (∀ x ∈ c, x < 2) ∧
      measureSyndrome (lattice Lx Ly).rowsH c = measureSyndrome (lattice Lx Ly).rowsH e := by
  have hx2 : 2 ≤ Lx := by omega
  have hy2 : 2 ≤ Ly := by omega
  obtain ⟨c, ev, h1, _, h3, h4, h5⟩ := uf_valid oldUfSolve (lattice Lx Ly).rowsH (2 * Lx * Ly)
    (isCss_rowsH hx2 hy2)
    (ncols_Hz hx2 hy2 ▸ C05UF.old_uf_solver_contract _ (closedGraph_Hz hx hy))
    (ncols_Hx hx2 hy2 ▸ C05UF.old_uf_solver_contract _ (closedGraph_Hx hx hy)) e he
  exact ⟨c, ev, h1, h3, h4, h5⟩

/-- X error on qubit 0 of `Toric2DCode(2, 2)` (8 qubits: `[x | z]`, 16 entries) -/
def x0Toric22 : Vec := [1,0,0,0,0,0,0,0, 0,0,0,0,0,0,0,0]

/-- **finding D15 at the decoder level**: on `Toric2DCode(2,2)` and an X error on
    qubit 0, `UnionFindDecoder.decode(measure_syndrome(e))` with the internals BEFORE the repair
    returned X on qubits 0 and 2, whose syndrome is zero, not the measured one. -/
theorem old_unionfind_toric22_wrong_syndrome :
    ∃ c ev, ufDecode oldUfSolve (lattice 2 2).rowsH 8 (measureSyndrome (lattice 2 2).rowsH x0Toric22)
        = .ok (c, ev) ∧ c = [1,0,1,0,0,0,0,0, 0,0,0,0,0,0,0,0] ∧
      measureSyndrome (lattice 2 2).rowsH c ≠ measureSyndrome (lattice 2 2).rowsH x0Toric22 := by
  refine ⟨_, _, rfl, ?_⟩
  decide +kernel

/-- **after the repair** the same call returns the error itself (kernel-evaluated instance of
    `unionfind_toric_reproduces_syndrome` at `Lx = Ly = 2`) -/
theorem unionfind_toric22_fixed :
    ∃ c ev, ufDecode ufSolve (lattice 2 2).rowsH 8 (measureSyndrome (lattice 2 2).rowsH x0Toric22)
        = .ok (c, ev) ∧ c = x0Toric22 ∧
      measureSyndrome (lattice 2 2).rowsH c = measureSyndrome (lattice 2 2).rowsH x0Toric22 := by
  refine ⟨_, _, rfl, ?_⟩
  decide +kernel

/-! ### non-vacuity -/

/-- side-2 lattices are inside the hypothesis of the decoder theorem: `(2, 3)`, `(5, 2)` -/
example : closedMultigraph (Hz (lattice 2 3).rowsH) = true ∧ closedMultigraph (Hx (lattice 5 2).rowsH) = true :=
  ⟨(toric_sectors_closed_multigraph 2 3 (by decide) (by decide)).1,
   (toric_sectors_closed_multigraph 5 2 (by decide) (by decide)).2⟩

/-- the end-to-end theorem applies to a side-2 lattice: any error on `Toric2DCode(2, 3)`, any schedule -/
example (sched : Mat → Vec → List (List Int)) (e : Vec) (he : e.length = 24) :
    ∃ c ev, ufDecode (ufSolveSched sched) (lattice 2 3).rowsH (2 * 2 * 3)
        (measureSyndrome (lattice 2 3).rowsH e) = .ok (c, ev) ∧
      measureSyndrome (lattice 2 3).rowsH c = measureSyndrome (lattice 2 3).rowsH e :=
  let ⟨_, c, ev, h1, _, _, h4, _⟩ := unionfind_toric_reproduces_syndrome 2 3 (by decide) (by decide) sched e he
  ⟨c, ev, h1, h4⟩

/-- the sector matrix of the 2×3 lattice is the matrix written out in `C05UnionFind` -/
example : Hz (lattice 2 3).rowsH = C05UF.hzToric23 := by decide +kernel

/-- a non-square lattice: `Toric2DCode(3, 4)`, 24 qubits, 12 + 12 generators -/
example : closedGraph (Hz (lattice 3 4).rowsH) = true ∧ closedGraph (Hx (lattice 3 4).rowsH) = true :=
  toric_sectors_closed 3 4 (by decide) (by decide)

example : ncols (Hz (lattice 3 4).rowsH) = 24 ∧ (verts 3 4).length = 12 ∧ (faces 3 4).length = 12 :=
  ⟨(toric_sector_matrices 3 4 (by decide) (by decide)).2.2.2.2.1, by decide, by decide⟩

/-- the incidence relation on concrete locations of the 3×4 lattice: the vertex `(0,0)` carries
    the qubits `(5,0)`, `(1,0)`, `(0,7)`, `(0,1)` and no other -/
example : inc 3 4 [0, 0] [5, 0] = true ∧ inc 3 4 [0, 0] [1, 0] = true ∧
    inc 3 4 [0, 0] [0, 7] = true ∧ inc 3 4 [0, 0] [0, 1] = true ∧ inc 3 4 [0, 0] [3, 0] = false := by
  decide

/-- the qubit `(1,0)` of the 3×4 lattice lies on the vertices `(0,0)`, `(2,0)` and on the faces
    `(1,7)`, `(1,1)` -/
example : (verts 3 4).filter (fun v => inc 3 4 v [1, 0]) = [[0, 0], [2, 0]] ∧
    (faces 3 4).filter (fun f => inc 3 4 f [1, 0]) = [[1, 1], [1, 7]] := by decide

/-- the end-to-end theorem applies: a Y error on qubit 0 and an X error on qubit 7 of the 3×4
    lattice (any schedule) -/
example (sched : Mat → Vec → List (List Int)) :
    ∃ c ev, ufDecode (ufSolveSched sched) (lattice 3 4).rowsH (2 * 3 * 4)
        (measureSyndrome (lattice 3 4).rowsH
          ((List.replicate 48 0).set 0 1 |>.set 24 1 |>.set 7 1)) = .ok (c, ev) ∧
      c.length = 2 * (2 * 3 * 4) :=
  let ⟨_, c, ev, h1, h2, _⟩ := unionfind_toric_reproduces_syndrome 3 4 (by decide) (by decide) sched
    ((List.replicate 48 0).set 0 1 |>.set 24 1 |>.set 7 1) (by decide)
  ⟨c, ev, h1, h2⟩

/-- the all-sizes sector matrices at 3×3 are the matrices written out in `C05UnionFind` -/
example : Hz (lattice 3 3).rowsH = C05UF.hzToric33 := by decide +kernel

example : Hx (lattice 3 3).rowsH = Hx C05UF.toric33 ∧ (lattice 3 3).rowsH = C05UF.toric33 := by
  decide +kernel

/-- sides equal to 2: `(2, 3)`, `(5, 2)` -/
example : graphLike (Hz (lattice 2 3).rowsH) = false :=
  (toric_side_two_not_graphLike 2 3 (by decide) (by decide) (Or.inl rfl)).1
example : graphLike (Hx (lattice 5 2).rowsH) = false :=
  (toric_side_two_not_graphLike 5 2 (by decide) (by decide) (Or.inr rfl)).2
/-- the witness matrix of finding D15 is the sector matrix of the 2×2 lattice -/
example : Hz (lattice 2 2).rowsH = C05UF.hzToric22 := by decide +kernel

end Panqec.C05UFToric
