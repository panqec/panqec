/-
C03 — Pauli representations are lossless and the symplectic product is exact.

The lemmas about `dot`, `symp` and the converters are in `Proofs/Bits.lean`, `measureSyndrome_eq`
in `Proofs/RowCombos.lean`.
All statements are for every length and every vector (no size bound).
-/
import PanqecVerif.Proofs.RowCombos

namespace Panqec.C03

open Panqec

/-- Every computational path of `bs_prod` (dense `uint8` with wrap-around at any
    overlap weight, dense wide integers, sparse csr) returns the GF(2) symplectic
    form `x_a·z_b + z_a·x_b`. -/
theorem bs_prod_is_symplectic_form (dt : DType) (sparse : Bool) (a b : List Nat)
    (hg : bsGuard a b = .ok ()) : bsProd dt sparse a b = .ok (symp a b) := by
  unfold bsProd
  rw [hg]
  cases sparse
  · simp [bsProdDense_eq_symp]
  · simp [bsProdSparse_eq_symp]

/-- the same for stacks: entry (i,j) of `bs_prod(A,B)` is the form of row i and row j -/
theorem bs_prod_matrix_entries (dt : DType) (sparse : Bool) (A B : List (List Nat)) :
    bsProdMat dt sparse A B = A.map fun r => B.map fun c => symp r c := by
  unfold bsProdMat
  cases sparse <;> simp [bsProdDense_eq_symp, bsProdSparse_eq_symp]

/-- `bs_prod` rejects exactly odd-length and unequal-length inputs -/
theorem bs_prod_guard (a b : List Nat) :
    bsGuard a b = .ok () ↔ a.length % 2 = 0 ∧ b.length % 2 = 0 ∧ b.length = a.length := by
  unfold bsGuard
  split
  · simp_all
  · split
    · simp_all
    · split <;> simp_all

theorem symmetric (a b : List Nat) : symp a b = symp b a := symp_comm a b

theorem zero_on_equal_arguments (a : List Nat) : symp a a = 0 := by
  unfold symp
  rw [dot_comm (zPart a) (xPart a)]
  omega

theorem bilinear_left (a b c : List Nat) (h : a.length = b.length) :
    symp (vxor a b) c = (symp a c + symp b c) % 2 := symp_vxor_left a b c h

theorem bilinear_right (a b c : List Nat) (h : b.length = c.length) :
    symp a (vxor b c) = (symp a b + symp a c) % 2 := symp_vxor_right a b c h

/-- the form only sees entries modulo 2 (so any integer dtype holding 0/1 data agrees) -/
theorem depends_on_parity_only (a c : List Nat) : symp (a.map (· % 2)) c = symp a c :=
  symp_map_mod_left a c

/-- syndrome measurement is GF(2)-linear in the error, for every parity-check matrix -/
theorem syndrome_linear (H : List (List Nat)) (e f : List Nat) (h : e.length = f.length) :
    measureSyndrome H (vxor e f) = vxor (measureSyndrome H e) (measureSyndrome H f) := by
  simp only [measureSyndrome_eq]
  exact vxor_map_symp H e f h

/-- Pauli string → BSF → Pauli string is the identity -/
theorem string_bsf_roundtrip (ps : List Pauli) : bsfToPauli (pauliToBsf ps) = ps :=
  bsfToPauli_pauliToBsf ps

/-- BSF → Pauli string → BSF is the identity on binary vectors of even length -/
theorem bsf_string_roundtrip (v : List Nat) (heven : v.length % 2 = 0) (hbin : ∀ x ∈ v, x < 2) :
    pauliToBsf (bsfToPauli v) = v := pauliToBsf_bsfToPauli v heven hbin

theorem weight_counts_nonidentity (ps : List Pauli) :
    bsfWt (pauliToBsf ps) = ps.countP (· ≠ Pauli.I) := by
  unfold bsfWt
  rw [xPart_pauliToBsf, zPart_pauliToBsf, countP_zipWith_bits]

/-- the weight of a stack of operators (2-D input of `bsf_wt`, dense or sparse) is the number of non-identity
    letters of the stacked Pauli strings: weights and strings agree row by row -/
theorem bsfWtStack_pauliToBsf (pss : List (List Pauli)) :
    bsfWtStack (pss.map pauliToBsf) = (pss.map fun ps => ps.countP (· ≠ Pauli.I)).sum := by
  unfold bsfWtStack
  rw [List.map_map]
  congr 1
  apply List.map_congr_left
  intro ps _
  exact weight_counts_nonidentity ps


/-- BSF → integer → BSF is the identity (binary vector of `n ≥ 1` qubits) -/
theorem int_roundtrip (v : List Nat) (n : Nat) (hn : 0 < n) (hlen : v.length = 2 * n)
    (hbin : ∀ x ∈ v, x < 2) : intToBvector (bvectorToInt v) n = v := by
  unfold intToBvector
  have hlt := bvectorToInt_lt v hbin
  have hw : max (2 * n) (Nat.log2 (bvectorToInt v) + 1) = v.length := by
    by_cases hk : bvectorToInt v = 0
    · rw [hk]
      have h0 : Nat.log2 0 = 0 := by decide
      rw [h0]; omega
    · have := (Nat.log2_lt hk).mpr hlt
      omega
  rw [hw]
  exact natToBitsBE_bvectorToInt v hbin

/-- integer → BSF → integer is the identity for every integer -/
theorem int_roundtrip' (k n : Nat) : bvectorToInt (intToBvector k n) = k := by
  unfold intToBvector
  apply bvectorToInt_natToBitsBE
  by_cases hk : k = 0
  · subst hk; exact Nat.two_pow_pos _
  · have h1 : k < 2 ^ (Nat.log2 k + 1) := Nat.lt_log2_self
    exact Nat.lt_of_lt_of_le h1 (Nat.pow_le_pow_right (by omega) (by omega))

/-! non-vacuity: concrete non-trivial instances of the hypotheses -/
example : bsGuard [1, 0, 0, 1] [0, 1, 1, 1] = .ok () := rfl
example : symp [1, 0, 0, 1] [0, 1, 1, 1] = 0 ∧ symp [1, 0, 0, 0] [0, 0, 1, 0] = 1 := by decide
example : bvectorToInt (intToBvector 11 2) = 11 := by decide
/-- the wrap that matters: 256 overlapping positions in `uint8` still give parity 0 -/
example : bsProdDense .u8 (List.replicate 256 1 ++ List.replicate 256 0)
    (List.replicate 256 0 ++ List.replicate 256 1) = 0 := by
  rw [bsProdDense_eq_symp]; decide +kernel

end Panqec.C03
