/-
C01 for `Color3DCode`, ALL sizes of the supported family (every side even and `≥ 2`; DESIGN.md
section 4): the hand-written lattice model `Model/Lattices/Color3DCode.lean` (tied to
`panqec/codes/color_3d/_color_3d_code.py` by the correspondence streams of
`harness/lattices/color3dcode.py`, which also run odd sizes) is a well-formed coordinate system — the
qubit list, which the class DERIVES from the stabilizer supports, is duplicate-free and disjoint
from the stabilizer locations, and no generator loses a key to the wrap-around `% 4L` (the C02
clause, for every size of the family) — whose generators commute (a cell and a face of the
tessellation by truncated octahedra share an even number of vertices), whose nine logical pairs
(X strings, Z membranes; three of the membranes are the unions of the hexagons between red and
green cells) commute with the generators and have the pairing table `ω(X_i, Z_j) = δ_ij`; `n = 12·LxLyLz`, `k = 9`,
`n_stabilizers = 8·LxLyLz + (2Lx+1)(2Ly+1)(2Lz+1)` (the class lists every hexagon of the seam planes
twice); the class has no `get_deformation`.

Method: the periodic identification is removed once — two wrapped keys of two locations coincide
iff the difference of the deltas equals the offset of the locations modulo the periods
(`wrapAt_eq_iff`, `Proofs/LatColor3DCodeComm.lean`); a key of a logical operator is tested through
the CENTRED difference of the location from the plane or line of the operator (`cd`,
`Proofs/LatColor3DCodeWrap.lean`) — after which every overlap count is a finite function of the
residues modulo 4 or 8 and the centred differences of the location, evaluated by the kernel
(`decide +kernel`) over all parameter values.  Evenness of the sides is used exactly where the class
needs it: the colour `(x+y+z) % 8` of a cell must survive the wrap-around.

The rank clause (GF(2) rank of the generators `= n − k = 12·LxLyLz − 9`) is proved here for all
sizes only in its Z-type half: `z_generators_independent_partial` — an explicit family of
`2·LxLyLz − 3` cell generators (all cells but a red, a yellow and a green one, so the cells
satisfy at most three relations; "the cells of one colour multiply to the cells of another
colour" are three) is GF(2)-independent, by a peeling order with one witness qubit per cell (a
starting line of cells in `y`, then the slab `z ≤ 6` in `x`, then layer by layer in `z`;
`Proofs/LatColor3DCodeRank*.lean`).
MISSING for `valid_code`: the X-type half, `10·LxLyLz − 6` independent face generators (the faces of
every cell satisfy two local relations, so the family needs a 2-D ordered seam region); the full rank
clause is covered by the kernel-checked instances of `Properties/C01.lean`
(`valid_Color3DCode_partial`).
-/
import PanqecVerif.Proofs.LatColor3DCodeCommPair
import PanqecVerif.Proofs.LatColor3DCodeWF
import PanqecVerif.Proofs.LatColor3DCodeRankIndep

namespace Panqec.C01Color3DCode
open Panqec.Color3DCode Panqec.Lat2D Panqec.Color

/-- coordinates distinct and disjoint (the qubit list is derived from the stabilizers: first
    occurrences only); every stabilizer and logical is a dict (distinct keys — the 24 / 6 / 4 wrapped
    vertices of a generator never collide; the membranes assign many keys twice, the dict keeps the
    first occurrence) supported on qubits with letters ≠ I; stabilizers are non-empty — every size
    of the family -/
theorem wf (Lx Ly Lz : Nat) (h : Family Lx Ly Lz) : (lattice Lx Ly Lz).WF :=
  wf_all h.1.1 h.2.1.1 h.2.2.1 h.1.2 h.2.1.2 h.2.2.2

/-- all pairs of generators commute, the nine X and nine Z logicals commute with every generator,
    `opAntiCount (X_i, Z_j)` is odd iff `i = j`, logicals of the same letter commute — every size of
    the family -/
theorem commPair (Lx Ly Lz : Nat) (h : Family Lx Ly Lz) : (lattice Lx Ly Lz).CommPair :=
  commPair_all h.1.1 h.2.1.1 h.2.2.1 h.1.2 h.2.1.2 h.2.2.2

/-- the generators commute as soon as every side is `≥ 2` (odd sides included: only the logical
    operators need the 4-colouring) -/
theorem stabilizers_commute (Lx Ly Lz : Nat) (hx : 2 ≤ Lx) (hy : 2 ≤ Ly) (hz : 2 ≤ Lz) :
    ∀ s ∈ (lattice Lx Ly Lz).stabs, ∀ t ∈ (lattice Lx Ly Lz).stabs,
      opCommute ((lattice Lx Ly Lz).getStab s) ((lattice Lx Ly Lz).getStab t) = true :=
  stab_comm_all hx hy hz

/-- `n = 12·LxLyLz` (every side `≥ 2`): the derived qubit list has exactly the sites of the closed
    form `isQubit_rule`, twelve per unit cell -/
theorem n_formula (Lx Ly Lz : Nat) (hx : 2 ≤ Lx) (hy : 2 ≤ Ly) (hz : 2 ≤ Lz) :
    (lattice Lx Ly Lz).toCodeData.n = 12 * (Lz * (Lx * Ly)) := by
  dsimp only [lattice, Lattice.toCodeData, CodeData.n]
  exact length_qubits hx hy hz

/-- `k = 9` (every size): nine logical X strings, nine logical Z membranes -/
theorem k_value (Lx Ly Lz : Nat) : (lattice Lx Ly Lz).toCodeData.k = 9 := rfl

/-- `n_stabilizers = 8·LxLyLz + (2Lx+1)(2Ly+1)(2Lz+1)` (every size): `2·LxLyLz` cells, `6·LxLyLz`
    squares, and `(2Lx+1)(2Ly+1)(2Lz+1)` LISTED hexagons — `range(1, 4L+2, 2)` lists the seam plane
    `4L+1`, which is the plane `1` again -/
theorem n_stabilizers (Lx Ly Lz : Nat) :
    (lattice Lx Ly Lz).stabs.length =
      8 * (Lz * (Lx * Ly)) + (2 * Lz + 1) * ((2 * Lx + 1) * (2 * Ly + 1)) :=
  length_stabs Lx Ly Lz

/-- `is_stabilizer` in closed form: the nine boxes of `get_stabilizer_coordinates` -/
theorem isStabilizer_rule (Lx Ly Lz : Nat) (x y z : Int) :
    [x, y, z] ∈ (lattice Lx Ly Lz).stabs ↔ IsS Lx Ly Lz x y z :=
  mem_stabs'

/-- `is_qubit` in closed form — the DERIVED qubit list consists exactly of the points of the box
    with one odd coordinate whose two even coordinates differ by 2 modulo 4 (the vertices of the
    truncated octahedra) -/
theorem isQubit_rule (Lx Ly Lz : Nat) (hx : 2 ≤ Lx) (hy : 2 ≤ Ly) (hz : 2 ≤ Lz) (a b c : Int) :
    isQubit Lx Ly Lz [a, b, c] = true ↔ IsQ Lx Ly Lz a b c :=
  isQubit_iff hx hy hz

/-- `stabilizer_type` never misses its colour table (no `KeyError`) -/
theorem stabilizerType_total (x y z : Int) : typeOf x y z ≠ StabType.keyError :=
  typeOf_ne_keyError x y z

/-- every generator is the dict of its wrapped deltas, in delta order (that they do not collide is
    part of `wf`): 24 on a cell (letter `Z`), 4 on a square, 6 on a hexagon (letter `X`) -/
theorem stabilizer_closed_form (Lx Ly Lz : Nat) (hx : 2 ≤ Lx) (hy : 2 ≤ Ly) (hz : 2 ≤ Lz) (x y z : Int)
    (h : [x, y, z] ∈ (lattice Lx Ly Lz).stabs) :
    (lattice Lx Ly Lz).getStab [x, y, z] =
      ((shape x y z).map (wrapAt (4 * (Lx : Int)) (4 * (Ly : Int)) (4 * (Lz : Int)) x y z)).map
        (fun q => (q, letterOf x y z)) :=
  getStab_eq hx hy hz h

/-- the first hexagon membrane of `get_logicals_z` in closed form: the keys of the hexagons of the
    plane `x = 3` whose free coordinates add up to `0 (mod 8)` — the hexagons shared by a red and a
    green cell (the two others are its images under the coordinate permutations, `kZ6_place`,
    `kZ9_place`) -/
theorem hexagon_membrane_rule (Lx Ly Lz : Nat) (h : Family Lx Ly Lz) (q : Coord) :
    q ∈ kZ3 Lx Ly Lz ↔
      ∃ y z, InH Ly y ∧ InH Lz z ∧ (y + z) % 8 = 0 ∧ q ∈ keys Lx Ly Lz 3 y z :=
  mem_kZ3 h.1.1 h.2.1.1 h.2.2.1 h.1.2 h.2.1.2 h.2.2.2

/-- PARTIAL rank clause (Z-type half), every side `≥ 2`: the `2·LxLyLz − 3` cell generators of
    `selCells` (every cell of `get_stabilizer_coordinates` except `(6,2,2)`, `(6,2,6)`, `(4,4,4)` — a
    red, a yellow and a green cell) are distinct stabilizer locations whose operators are
    GF(2)-independent: no non-empty sub-family has even Z-parity (and X-parity) on every qubit.
    MISSING for the full rank clause `rank = n − k`: `10·LxLyLz − 6` independent face generators. -/
theorem z_generators_independent_partial (Lx Ly Lz : Nat) (hx : 2 ≤ Lx) (hy : 2 ≤ Ly) (hz : 2 ≤ Lz) :
    (selCells Lx Ly Lz).Nodup ∧ (∀ s ∈ selCells Lx Ly Lz, s ∈ (lattice Lx Ly Lz).stabs) ∧
    (selCells Lx Ly Lz).length + 3 = 2 * (Lz * (Lx * Ly)) ∧
    Cubic3D.OpsIndep ((selCells Lx Ly Lz).map (lattice Lx Ly Lz).getStab) :=
  ⟨nodup_selCells Lx Ly Lz, selCells_sub, length_selCells Lx Ly Lz hx (by omega) hz,
    cells_indep hx hy hz⟩

/-- the class defines no deformation: the inherited `get_deformation` RETURNS a
    `NotImplementedError` instance for every name and location -/
theorem deformation_rule (name : String) (loc : Coord) :
    getDeformation name loc = DeformResult.returnsNotImplementedError := rfl

/-- `qubit_axis` is `'x'` on every 3-tuple -/
theorem qubitAxis_rule (x y z : Int) : qubitAxis [x, y, z] = some "x" := rfl

example : Family 2 2 2 := by decide
example : Family 4 2 6 := by decide
example : (lattice 2 2 2).WF := wf 2 2 2 (by decide)
example : (lattice 2 4 6).CommPair := commPair 2 4 6 (by decide)
example : (lattice 2 2 4).toCodeData.n = 192 := n_formula 2 2 4 (by decide) (by decide) (by decide)
example : (lattice 2 2 2).stabs.length = 189 := n_stabilizers 2 2 2
example : (selCells 2 2 2).length = 13 := by decide
example : Cubic3D.OpsIndep ((selCells 2 4 6).map (lattice 2 4 6).getStab) :=
  (z_generators_independent_partial 2 4 6 (by decide) (by decide) (by decide)).2.2.2
example : typeOf 2 2 6 = StabType.red := by decide
example : typeOf 4 4 4 = StabType.green := by decide
example : stabilizerType 2 2 2 [2, 2, 2] = some StabType.yellow := by decide
example : getDeformation "XZZX" [0, 1, 2] = DeformResult.returnsNotImplementedError := rfl
set_option maxRecDepth 100000 in
example : (lattice 2 2 2).getStab [0, 2, 2] =
    [([0, 2, 1], .X), ([0, 2, 3], .X), ([0, 1, 2], .X), ([0, 3, 2], .X)] := by
  decide
-- the hexagon `(9, 1, 1)` of the seam plane is the hexagon `(1, 1, 1)` again
set_option maxRecDepth 100000 in
example : (lattice 2 2 2).getStab [9, 1, 1] = (lattice 2 2 2).getStab [1, 1, 1] ∧
    (lattice 2 2 2).getStab [9, 1, 1] =
      [([0, 1, 2], .X), ([2, 1, 0], .X), ([1, 0, 2], .X), ([1, 2, 0], .X), ([0, 2, 1], .X), ([2, 0, 1], .X)] := by
  decide

end Panqec.C01Color3DCode
