/-
C05 — decoders return valid corrections that reproduce the measured syndrome.

Model: `Model/Decoders.lean` (the glue of each decoder around its third-party
solver; the solver is a parameter).  Contracts (`Proofs/DecodersGlue.lean`):
`SolverValidOn n solve M` (PyMatching built from `M`), `UfValidOn`, `BpValidOn`:
for a syndrome in the image of `M` the answer is a binary vector of length `n`
with `M c = s (mod 2)`; `SolverOptimalOn` adds minimum total weight.

Every statement is for every parity-check matrix `H` (any size), every error and
every weight vector.  Proved, not sampled: which matrix goes with which sector
syndrome, which weights and which half of the output.

Tested only (harness, labelled as such): the contracts themselves,
constructibility of every (decoder, allowed code) pair, and "binary vector of
length 2n without raising" for the sweep decoders, which enter this file as a
black box (`sweepmatch_interface`; the automata themselves are C10).

Decoders with a model of their own are in their own files: the union-find
solver behind `uf` in `C05UnionFind.lean` / `C05UnionFindToric.lean`
(`Model/UnionFind.lean`), MBP in `C05Mbp.lean` (`Model/MbpDecoder.lean`),
XCube matching in `C05XCube.lean` (`Model/XCubeDecoder.lean`).
-/
import PanqecVerif.Proofs.DecodersWeights

namespace Panqec.C05

open Panqec

/-- CSS block structure: the X-row syndrome of `[x | z]` depends only on `z`, through `Hx` -/
theorem css_x_rows_see_only_z (H : Mat) (hcss : isCss H = true) (v : Vec) :
    extractXSyndrome H (measureSyndrome H v) = sectorSyndrome (Hx H) (zPart v) :=
  css_xrow_block H hcss v

/-- CSS block structure: the Z-row syndrome of `[x | z]` depends only on `x`, through `Hz` -/
theorem css_z_rows_see_only_x (H : Mat) (hcss : isCss H = true) (v : Vec) :
    extractZSyndrome H (measureSyndrome H v) = sectorSyndrome (Hz H) (xPart v) :=
  css_zrow_block H hcss v

/-- Pairing in `MatchingDecoder.__init__` with the model's own weights:
    `matcher_x = Matching(Hz, w_x)` with `w_x = logOdds(px + py)` and
    `matcher_z = Matching(Hx, w_z)` with `w_z = logOdds(pz + py)`; the constructor fails
    exactly on non-CSS codes (for a legal `error_type`). -/
theorem matching_pairing {W : Type} (logOdds : Rat → W) (H : Mat) (n : Nat) (px py pz : List Rat) :
    MatchingDec.new H n none none (getWeights logOdds px py pz) =
      if isCss H then
        .ok { H := H, n := n, errType := .all,
              matcherX := some ⟨Hz H, (raddv px py).map logOdds⟩,
              matcherZ := some ⟨Hx H, (raddv pz py).map logOdds⟩ }
      else .error .valueError := by
  unfold MatchingDec.new getWeights
  cases isCss H <;> simp [parseErrType, ErrType_dec.doesX, ErrType_dec.doesZ]

/-- **MatchingDecoder**: for every CSS matrix, every error `e` and every weights, the
    correction is `[solve(Hz, w_x, Z-row syndrome) | solve(Hx, w_z, X-row syndrome)]`, has
    length `2n`, is binary, and has exactly the measured syndrome. -/
theorem matching_correction_reproduces_syndrome {W : Type} (solve : WSolver W) (H : Mat) (n : Nat)
    (weights : Option (List W × List W)) (mw : List W × List W) (d : MatchingDec W)
    (hnew : MatchingDec.new H n none weights mw = .ok d)
    (hX : SolverValidOn n solve (Hz H)) (hZ : SolverValidOn n solve (Hx H))
    (e : Vec) (he : e.length = 2 * n) :
    ∃ c ev, d.decode solve (measureSyndrome H e) = .ok (c, ev) ∧
      c = solve (Hz H) (weights.getD mw).1 (extractZSyndrome H (measureSyndrome H e)) ++
          solve (Hx H) (weights.getD mw).2 (extractXSyndrome H (measureSyndrome H e)) ∧
      c.length = 2 * n ∧ (∀ x ∈ c, x < 2) ∧ measureSyndrome H c = measureSyndrome H e :=
  let ⟨ev, hd, hs⟩ := matching_sectors solve H n weights mw d hnew hX hZ e he
  ⟨_, ev, hd, rfl, hs.valid⟩

/-- hence error + correction is back in the code space -/
theorem matching_residual_in_codespace {W : Type} (solve : WSolver W) (H : Mat) (n : Nat)
    (weights : Option (List W × List W)) (mw : List W × List W) (d : MatchingDec W)
    (hnew : MatchingDec.new H n none weights mw = .ok d)
    (hX : SolverValidOn n solve (Hz H)) (hZ : SolverValidOn n solve (Hx H))
    (e : Vec) (he : e.length = 2 * n) :
    ∃ c ev, d.decode solve (measureSyndrome H e) = .ok (c, ev) ∧
      inCodespace H (vxor e c) = true := by
  obtain ⟨ev, hd, hs⟩ := matching_sectors solve H n weights mw d hnew hX hZ e he
  obtain ⟨hl, _, hs⟩ := hs.valid
  exact ⟨_, ev, hd, in_codespace_of_same_syndrome H e _ (he.trans hl.symm) hs⟩

/-- any correction with the measured syndrome brings the state back to the code space -/
theorem same_syndrome_gives_codespace (H : Mat) (e c : Vec) (hlen : e.length = c.length)
    (hs : measureSyndrome H c = measureSyndrome H e) : inCodespace H (vxor e c) = true :=
  in_codespace_of_same_syndrome H e c hlen hs

/-- **trivial syndrome ↦ trivial correction** for matching: minimum-weight contract and
    positive weights (marginals below 1/2, see `C09.weights_positive`). -/
theorem matching_zero_syndrome_zero_correction {K : Type} [Field K] [LinearOrder K]
    [IsStrictOrderedRing K] (solve : WSolver K) (H : Mat) (n : Nat) (wx wz : List K)
    (mw : List K × List K) (d : MatchingDec K)
    (hnew : MatchingDec.new H n none (some (wx, wz)) mw = .ok d)
    (hwx : ∀ x ∈ wx, 0 < x) (hwz : ∀ x ∈ wz, 0 < x) (hlx : wx.length = n) (hlz : wz.length = n)
    (hX : SolverValidOn n solve (Hz H)) (hZ : SolverValidOn n solve (Hx H))
    (hoX : SolverOptimalOn n solve (Hz H)) (hoZ : SolverOptimalOn n solve (Hx H)) :
    ∃ ev, d.decode solve (List.replicate H.length 0) = .ok (List.replicate (2 * n) 0, ev) := by
  obtain ⟨ev, hd, ⟨hcss, -, -⟩⟩ := matching_sectors solve H n (some (wx, wz)) mw d hnew hX hZ
    (List.replicate (2 * n) 0) (by simp)
  rw [measureSyndrome_zeros] at hd
  refine ⟨ev, ?_⟩
  rw [hd]
  have hz : extractZSyndrome H (List.replicate H.length 0) = List.replicate (Hz H).length 0 := by
    simpa only [measureSyndrome_zeros, xPart_zeros, sectorSyndrome_zeros] using
      css_zrow_block H hcss (List.replicate (2 * n) 0)
  have hx : extractXSyndrome H (List.replicate H.length 0) = List.replicate (Hx H).length 0 := by
    simpa only [measureSyndrome_zeros, zPart_zeros, sectorSyndrome_zeros] using
      css_xrow_block H hcss (List.replicate (2 * n) 0)
  simp only [Option.getD_some]
  rw [hz, hx, solver_zero_of_zero_syndrome n solve (Hz H) wx hwx hlx hX hoX,
    solver_zero_of_zero_syndrome n solve (Hx H) wz hwz hlz hZ hoZ]
  have : 2 * n = n + n := by omega
  rw [this, List.replicate_add]

/-- **UnionFindDecoder**: X half from `Support(Z-row syndrome, Hz)`, Z half from
    `Support(X-row syndrome, Hx)`; the correction reproduces the syndrome. -/
theorem unionfind_correction_reproduces_syndrome (uf : USolver) (H : Mat) (n : Nat)
    (hcss : isCss H = true) (hufX : UfValidOn n uf (Hz H)) (hufZ : UfValidOn n uf (Hx H))
    (e : Vec) (he : e.length = 2 * n) :
    ∃ c ev, ufDecode uf H n (measureSyndrome H e) = .ok (c, ev) ∧
      c = uf (Hz H) (extractZSyndrome H (measureSyndrome H e)) ++
          uf (Hx H) (extractXSyndrome H (measureSyndrome H e)) ∧
      c.length = 2 * n ∧ (∀ x ∈ c, x < 2) ∧ measureSyndrome H c = measureSyndrome H e :=
  uf_valid uf H n hcss hufX hufZ e he

/-- **BP-OSD, CSS codes**, on an object in any state reachable from `__init__` by any
    history of `decode` calls: Z correction from the ldpc object built on `Hx` fed the
    X-row syndrome, X correction from the one built on `Hz` fed the Z-row syndrome,
    concatenated `[x | z]`; reproduces the syndrome (with or without `channel_update`). -/
theorem bposd_css_correction_reproduces_syndrome (S : BpSolver) (d : BpDec_dec)
    (hcss : isCss d.H = true) (hSX : BpValidOn d.n S (Hz d.H)) (hSZ : BpValidOn d.n S (Hx d.H))
    (hist : List Vec) (e : Vec) (he : e.length = 2 * d.n) :
    ∃ c, (d.decode S (d.run S BpSt.init hist) (measureSyndrome d.H e)).2.2 = .ok c ∧
      c.length = 2 * d.n ∧ (∀ x ∈ c, x < 2) ∧ measureSyndrome d.H c = measureSyndrome d.H e := by
  rw [(d.decode_eq_pure S _ _ (d.run_good S hist _ d.good_init)).1]
  exact bposd_css_valid S d hcss hSX hSZ e he

/-- **BP-OSD, non-CSS codes** (Clifford-deformed): one ldpc object on the full matrix with
    priors `[pz+py | px+py]`; the answer is in `[z | x]` order and its halves are swapped
    back; reproduces the syndrome. -/
theorem bposd_noncss_correction_reproduces_syndrome (S : BpSolver) (d : BpDec_dec)
    (hcss : isCss d.H = false) (hrows : ∀ r ∈ d.H, r.length = 2 * d.n)
    (hS : BpValidOn (2 * d.n) S d.H) (hist : List Vec) (e : Vec) (he : e.length = 2 * d.n) :
    ∃ c, (d.decode S (d.run S BpSt.init hist) (measureSyndrome d.H e)).2.2 = .ok c ∧
      c.length = 2 * d.n ∧ (∀ x ∈ c, x < 2) ∧ measureSyndrome d.H c = measureSyndrome d.H e := by
  rw [(d.decode_eq_pure S _ _ (d.run_good S hist _ d.good_init)).1]
  exact bposd_noncss_valid S d hcss hrows hS e he

/-- what the non-CSS ldpc object is given: the full matrix, no serial schedule, priors
    `[pz+py | px+py]` (model fact used by the correspondence) -/
theorem bposd_noncss_priors (S : BpSolver) (d : BpDec_dec) (hcss : isCss d.H = false) (s : Vec)
    (hl : s.length = d.H.length) :
    d.pureDecode S s =
      .ok ((S.decode d.H false (raddv d.pz d.py ++ raddv d.px d.py) s).drop d.n ++
           (S.decode d.H false (raddv d.pz d.py ++ raddv d.px d.py) s).take d.n) := by
  unfold BpDec_dec.pureDecode; simp [hcss, hl]

/-- **Sweep-match decoders** (`SweepMatchDecoder`, `RotatedSweepMatchDecoder`): with a
    sweeper that returns a Z-only binary vector of length `2n` (black box, any generator
    state) the result is `[matching X part | sweeper Z part]`: length `2n`, binary, and
    its Z-row syndrome is the measured one. -/
theorem sweepmatch_interface {W R : Type} (sweep : R → Vec → R × Vec) (solve : WSolver W)
    (H : Mat) (n : Nat) (mw : List W × List W) (m : MatchingDec W)
    (hm : sweepMatchMatcher H n mw = .ok m)
    (hX : SolverValidOn n solve (Hz H))
    (hsweep : ∀ r s, ∃ zz, (sweep r s).2 = List.replicate n 0 ++ zz ∧ zz.length = n ∧ ∀ x ∈ zz, x < 2)
    (rng : R) (e : Vec) (he : e.length = 2 * n) :
    ∃ c ev, (sweepMatchDecode sweep solve m rng (measureSyndrome H e)).2 = .ok (c, ev) ∧
      c.length = 2 * n ∧ (∀ x ∈ c, x < 2) ∧
      xPart c = solve (Hz H) mw.1 (extractZSyndrome H (measureSyndrome H e)) ∧
      extractZSyndrome H (measureSyndrome H c) = extractZSyndrome H (measureSyndrome H e) :=
  sweepmatch_valid sweep solve H n mw m hm hX hsweep rng e he

/-! ### non-vacuity: the two-qubit code with checks XX and ZZ and a brute-force solver -/

def bruteSolve2 : WSolver Rat := fun M _ sy =>
  ([[0, 0], [1, 0], [0, 1], [1, 1]].find? fun v => sectorSyndrome M v == sy).getD [0, 0]

def H2 : Mat := [[1, 1, 0, 0], [0, 0, 1, 1]]

example : isCss H2 = true := by decide
example : Hx H2 = [[1, 1]] ∧ Hz H2 = [[1, 1]] := by decide

theorem bruteSolve2_valid : SolverValidOn 2 bruteSolve2 [[1, 1]] := by
  intro w sy ⟨v, _, hv⟩
  subst hv
  have hk : dot [1, 1] v % 2 < 2 := Nat.mod_lt _ (by omega)
  unfold sectorSyndrome
  simp only [List.map_cons, List.map_nil]
  generalize dot [1, 1] v % 2 = k at hk
  obtain rfl | rfl : k = 0 ∨ k = 1 := by omega
  · exact show Solves 2 [[1, 1]] [0] [0, 0] from ⟨rfl, by decide, rfl⟩
  · exact show Solves 2 [[1, 1]] [1] [1, 0] from ⟨rfl, by decide, rfl⟩

/-- the theorem applies to concrete data: X error on qubit 0 is answered by a valid correction -/
example : ∃ d, MatchingDec.new H2 2 none (some ([1, 1], [1, 1])) ([], []) = .ok d ∧
    (d.decode bruteSolve2 (measureSyndrome H2 [1, 0, 0, 0])).toOption.map (·.1) = some [1, 0, 0, 0] := by
  refine ⟨_, rfl, ?_⟩
  decide

end Panqec.C05
