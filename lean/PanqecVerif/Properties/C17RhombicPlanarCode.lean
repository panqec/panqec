/-
C17 for `RhombicPlanarCode`, ALL sizes of the supported family (`Lx, Ly ≥ 2`, `Lz ≥ 1`, no upper
bound): the distance `code.d` reports is the true code distance,
`min (Lx·Ly + (Lx−1)(Ly−1)) Lz` — for the undeformed code and for the deformed code the class offers
(`'Checkerboard XZZX'`).  (The distance is NOT `min(Lx, Ly, Lz)`: the X sheet has
`Lx·Ly + (Lx−1)(Ly−1)` qubits and a tall lattice has that distance, e.g.
`RhombicPlanarCode(2, 2, 7).d = 5`, and that is the true distance.)

The matrices are the ones the generic code model assembles from the hand-written lattice model
`Model/Lattices/RhombicPlanarCode.lean` (tied to `panqec/codes/surface_3d/_rhombic_planar_code.py`
by the correspondence streams of `harness/lattices/rhombicplanarcode.py`); they form a valid
`[[n, 1]]` code for every size of the family (`C01RhombicPlanarCode.valid_code`).

* `weights_listed`, `reported_distance` — the listed logical X is the sheet of all x- and y-edges
  of the plane `z = 0` (weight `Lx·Ly + (Lx−1)(Ly−1)`), the listed logical Z the vertical stack of
  the x-edges `(2Lx−1, 2Ly−2, ·)` (weight `Lz`); `code.d` (`distance`, the minimum Pauli weight over
  the rows of `logicals_x` and `logicals_z`, as `StabilizerCode.d` computes it) is their minimum.
* `lower_bound` — every non-trivial logical operator has at least that weight.  Packing argument
  (`Proofs/DistLattice.lean`, `Proofs/DistCheckerboard.lean`, `Proofs/DistCheckerboardOpen.lean`,
  `Proofs/DistRhombicPlanarCode{Parity,LowerBound}.lean`): a non-trivial logical anticommutes with one of the two
  listed logicals (C04).  The X sheet has the `Lz` translates `z = 2i`, consecutive translates
  differing by the coloured cubes (and half cubes of the rough boundaries) of the slab between them —
  every in-plane edge lies on exactly one of them, every vertical edge on exactly two.  The Z stack
  is equivalent to each of the `Lx·Ly + (Lx−1)(Ly−1)` vertical stacks of x-edges and of y-edges: the
  product of the triangles of one axis over a vertical stack of vertices is the stack of their
  x-legs times the stack of their y-legs (the z-legs point alternately up and down and cancel in
  pairs), and the four triangles around a cell of the xy grid tie the x-stacks at its corners to
  the y-stack at its centre.  So every operator commuting with all generators anticommutes with
  each representative exactly when it anticommutes with the listed logical: its support meets each
  of them.
* `distance` — `IsDistance n H (min (Lx·Ly + (Lx−1)(Ly−1)) Lz)`: some non-trivial logical operator
  has that weight and none is lighter; `distance_reported` states it for the reported `d`.
* `distance_deformed`, `distance_deformed_offered` — the same for the deformed code
  (`deform('Checkerboard XZZX')`; every other name raises), every size
  (`C17.distance_deformation_invariant`).
-/
import PanqecVerif.Properties.C01RhombicPlanarCode
import PanqecVerif.Proofs.DistRhombicPlanarCodeLowerBound
import PanqecVerif.Proofs.Dist
import PanqecVerif.Proofs.DistDeform

namespace Panqec.C17RhombicPlanarCode
open Panqec.RhombicPlanarCode

/-- the number of qubits `n = Lx·Ly·Lz + (Lx−1)(Ly−1)Lz + (Lx−1)Ly(Lz−1)` -/
def nQ (Lx Ly Lz : Nat) : Nat := Lx * Ly * Lz + (Lx - 1) * (Ly - 1) * Lz + (Lx - 1) * Ly * (Lz - 1)

/-- the distance `min (Lx·Ly + (Lx−1)(Ly−1)) Lz` -/
def dist (Lx Ly Lz : Nat) : Nat := min (Lx * Ly + (Lx - 1) * (Ly - 1)) Lz

/-- the row of `logicals_x` has Pauli weight `Lx·Ly + (Lx−1)(Ly−1)` (sheet), that of `logicals_z`
    `Lz` (vertical stack) — every `Lx, Ly, Lz ≥ 1` -/
theorem weights_listed (Lx Ly Lz : Nat) (hx : 1 ≤ Lx) (hy : 1 ≤ Ly) (hz : 1 ≤ Lz) :
    (lattice Lx Ly Lz).rowsX.map pauliWeight = [Lx * Ly + (Lx - 1) * (Ly - 1)] ∧
    (lattice Lx Ly Lz).rowsZ.map pauliWeight = [Lz] :=
  RhombicPlanarCode.weights_listed hz (C01RhombicPlanarCode.wf Lx Ly Lz hx hy)

/-- what `code.d` returns — the minimum weight over the listed logical operators — is
    `min (Lx·Ly + (Lx−1)(Ly−1)) Lz`, every `Lx, Ly, Lz ≥ 1` -/
theorem reported_distance (Lx Ly Lz : Nat) (hx : 1 ≤ Lx) (hy : 1 ≤ Ly) (hz : 1 ≤ Lz) :
    Panqec.distance (lattice Lx Ly Lz).rowsX (lattice Lx Ly Lz).rowsZ = some (dist Lx Ly Lz) :=
  RhombicPlanarCode.reported_distance hz (C01RhombicPlanarCode.wf Lx Ly Lz hx hy)

/-- no non-trivial logical operator (commutes with every generator, is not a product of
    generators) of the `Lx × Ly × Lz` rhombic planar code is lighter than
    `min (Lx·Ly + (Lx−1)(Ly−1)) Lz` — every `Lx, Ly ≥ 2`, `Lz ≥ 1` -/
theorem lower_bound (Lx Ly Lz : Nat) (hx : 2 ≤ Lx) (hy : 2 ≤ Ly) (hz : 1 ≤ Lz) :
    ∀ v, IsNontrivialLogical (nQ Lx Ly Lz) (lattice Lx Ly Lz).rowsH v →
      dist Lx Ly Lz ≤ pauliWeight v :=
  RhombicPlanarCode.lower_bound hx hy hz (C01RhombicPlanarCode.wf Lx Ly Lz (by omega) (by omega))
    (C01RhombicPlanarCode.n_formula Lx Ly Lz)
    (C01RhombicPlanarCode.valid_code Lx Ly Lz hx hy hz).2.2.2

/-- THE C17 STATEMENT FOR ALL SIZES of the supported family (`Lx, Ly ≥ 2`, `Lz ≥ 1`): the code
    distance of the `Lx × Ly × Lz` rhombic planar code — the minimum weight of a non-trivial logical
    operator of the assembled parity-check matrix — is `min (Lx·Ly + (Lx−1)(Ly−1)) Lz` -/
theorem distance (Lx Ly Lz : Nat) (hx : 2 ≤ Lx) (hy : 2 ≤ Ly) (hz : 1 ≤ Lz) :
    IsDistance (nQ Lx Ly Lz) (lattice Lx Ly Lz).rowsH (dist Lx Ly Lz) :=
  distance_criterion (C01RhombicPlanarCode.valid_code Lx Ly Lz hx hy hz).2.2.2
    (dist Lx Ly Lz)
    (exists_listed_of_distance _ _ _ (reported_distance Lx Ly Lz (by omega) (by omega) hz))
    (lower_bound Lx Ly Lz hx hy hz)

/-- `distance` with `n` and `d` written out -/
theorem distance_explicit (Lx Ly Lz : Nat) (hx : 2 ≤ Lx) (hy : 2 ≤ Ly) (hz : 1 ≤ Lz) :
    IsDistance (Lx * Ly * Lz + (Lx - 1) * (Ly - 1) * Lz + (Lx - 1) * Ly * (Lz - 1))
      (lattice Lx Ly Lz).rowsH (min (Lx * Ly + (Lx - 1) * (Ly - 1)) Lz) :=
  distance Lx Ly Lz hx hy hz

/-- the same, stated for whatever `code.d` reports: the reported distance exists and is the
    true distance -/
theorem distance_reported (Lx Ly Lz : Nat) (hx : 2 ≤ Lx) (hy : 2 ≤ Ly) (hz : 1 ≤ Lz) :
    ∃ d, Panqec.distance (lattice Lx Ly Lz).rowsX (lattice Lx Ly Lz).rowsZ = some d ∧
      IsDistance (nQ Lx Ly Lz) (lattice Lx Ly Lz).rowsH d :=
  ⟨_, reported_distance Lx Ly Lz (by omega) (by omega) hz, distance Lx Ly Lz hx hy hz⟩

/-- the class offers the deformation 'Checkerboard XZZX': `get_deformation` is defined on every
    qubit of every lattice (any other name raises, `C01RhombicPlanarCode.deformation_rule`) -/
theorem deformation_defined (Lx Ly Lz : Nat) (q : Coord) (hq : q ∈ (lattice Lx Ly Lz).qubits) :
    ∃ m, getDeformation "Checkerboard XZZX" q = some m := by
  obtain ⟨x, y, z, rfl⟩ := mem_qubits_shape Lx Ly Lz q hq
  exact ⟨_, C01RhombicPlanarCode.deformation_on_qubits Lx Ly Lz x y z hq⟩

/-- THE C17 STATEMENT FOR EVERY DEFORMED CODE OF THE CLASS, ALL SIZES (`Lx, Ly ≥ 2`, `Lz ≥ 1`): for
    every deformation name for which `get_deformation` is defined on the qubits (`D q` = the
    relabelling it returns on `q`), the matrices the deformed getters assemble are the relabelled
    rows, they form a valid `[[n, 1]]` code, `code.d` reports `min (Lx·Ly + (Lx−1)(Ly−1)) Lz`, and
    that is the true distance of the deformed code -/
theorem distance_deformed (Lx Ly Lz : Nat) (hx : 2 ≤ Lx) (hy : 2 ≤ Ly) (hz : 1 ≤ Lz)
    (name : String) (D : Coord → PauliMap)
    (hD : ∀ q ∈ (lattice Lx Ly Lz).qubits, getDeformation name q = some (D q)) :
    stabilizerMatrix ((lattice Lx Ly Lz).toCodeData.deform D) =
        some ((lattice Lx Ly Lz).rowsH.map (deformBsf ((lattice Lx Ly Lz).qubits.map D))) ∧
    logicalsX ((lattice Lx Ly Lz).toCodeData.deform D) =
        some ((lattice Lx Ly Lz).rowsX.map (deformBsf ((lattice Lx Ly Lz).qubits.map D))) ∧
    logicalsZ ((lattice Lx Ly Lz).toCodeData.deform D) =
        some ((lattice Lx Ly Lz).rowsZ.map (deformBsf ((lattice Lx Ly Lz).qubits.map D))) ∧
    ValidCodeL (nQ Lx Ly Lz) 1
      ((lattice Lx Ly Lz).rowsH.map (deformBsf ((lattice Lx Ly Lz).qubits.map D)))
      ((lattice Lx Ly Lz).rowsX.map (deformBsf ((lattice Lx Ly Lz).qubits.map D)))
      ((lattice Lx Ly Lz).rowsZ.map (deformBsf ((lattice Lx Ly Lz).qubits.map D))) ∧
    Panqec.distance ((lattice Lx Ly Lz).rowsX.map (deformBsf ((lattice Lx Ly Lz).qubits.map D)))
      ((lattice Lx Ly Lz).rowsZ.map (deformBsf ((lattice Lx Ly Lz).qubits.map D))) =
        some (dist Lx Ly Lz) ∧
    IsDistance (nQ Lx Ly Lz)
      ((lattice Lx Ly Lz).rowsH.map (deformBsf ((lattice Lx Ly Lz).qubits.map D)))
      (dist Lx Ly Lz) :=
  Lattice.deformed_distance (lattice Lx Ly Lz)
    (C01RhombicPlanarCode.wf Lx Ly Lz (by omega) (by omega))
    (C01RhombicPlanarCode.n_formula Lx Ly Lz)
    (C01RhombicPlanarCode.valid_code Lx Ly Lz hx hy hz).2.2.2
    (reported_distance Lx Ly Lz (by omega) (by omega) hz) (distance Lx Ly Lz hx hy hz) D
    (fun q hq => C01RhombicPlanarCode.deformation_isPerm name q _ (hD q hq))

/-- the relabelling `get_deformation(·, name)` as a function of the location (identity where it
    raises — nowhere on the qubits for the offered name) -/
def deformationOf (name : String) (q : Coord) : PauliMap :=
  (getDeformation name q).getD PauliMap.id

/-- the 'Checkerboard XZZX' code has distance `min (Lx·Ly + (Lx−1)(Ly−1)) Lz` — every size of the
    family -/
theorem distance_deformed_offered (Lx Ly Lz : Nat) (hx : 2 ≤ Lx) (hy : 2 ≤ Ly) (hz : 1 ≤ Lz) :
    IsDistance (nQ Lx Ly Lz)
      ((lattice Lx Ly Lz).rowsH.map (deformBsf ((lattice Lx Ly Lz).qubits.map
        (deformationOf "Checkerboard XZZX")))) (dist Lx Ly Lz) :=
  (distance_deformed Lx Ly Lz hx hy hz "Checkerboard XZZX"
    (deformationOf "Checkerboard XZZX") (fun q hq => by
      obtain ⟨m, hm⟩ := deformation_defined Lx Ly Lz q hq
      unfold deformationOf
      rw [hm]; rfl)).2.2.2.2.2

/-! ### non-vacuity -/

example : IsDistance 41 (lattice 2 3 4).rowsH 4 := distance 2 3 4 (by decide) (by decide) (by decide)
/-- a tall lattice: the distance is the weight of the sheet, not `Lz` -/
example : IsDistance 47 (lattice 2 2 7).rowsH 5 := distance 2 2 7 (by decide) (by decide) (by decide)
example : IsDistance (nQ 10 8 6) (lattice 10 8 6).rowsH 6 :=
  distance 10 8 6 (by decide) (by decide) (by decide)
/-- the hypothesis of `lower_bound` is satisfiable: the listed logical X is a non-trivial logical
    operator -/
example : IsNontrivialLogical 12 (lattice 2 2 2).rowsH ((lattice 2 2 2).rowsX.getD 0 []) :=
  listedX_nontrivial (C01RhombicPlanarCode.valid_code 2 2 2 (by decide) (by decide) (by decide)).2.2.2
    (by decide +kernel)
example : (lattice 3 4 3).rowsX.map pauliWeight = [18] ∧ (lattice 3 4 3).rowsZ.map pauliWeight = [3] :=
  weights_listed 3 4 3 (by decide) (by decide) (by decide)
/-- the 'Checkerboard XZZX' code on the `3 × 3 × 4` lattice has distance 4 -/
example : IsDistance (nQ 3 3 4) ((lattice 3 3 4).rowsH.map
    (deformBsf ((lattice 3 3 4).qubits.map (deformationOf "Checkerboard XZZX")))) 4 :=
  distance_deformed_offered 3 3 4 (by decide) (by decide) (by decide)
example : deformationOf "Checkerboard XZZX" [2, 2, 1] = PauliMap.swapXZ := by decide +kernel

end Panqec.C17RhombicPlanarCode
