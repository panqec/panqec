/-
C17 — the reported distance `d` is the true code distance.

`IsDistance n H d` (Proofs/ValidCode.lean): some non-trivial logical operator (commutes with
every generator, is not a product of generators) has Pauli weight `d`, and none is lighter.
`code.d` is the minimum weight of the *listed* logical operators — an upper bound only; the
property is that no lighter non-trivial logical exists.

Generic theorems (every n, k, every matrices):
* `distance_criterion` — upper bound from a listed logical + lower bound ⇒ `IsDistance`;
* `packing_bound` — `m` representatives modulo the stabilizer group with pairwise disjoint
  supports for every listed logical ⇒ every non-trivial logical has weight ≥ `m` (uses C04:
  a non-trivial logical anticommutes with some listed logical);
* `exhaustive_bound`, `exhaustive_css_bound`, `checker_sound` — soundness of the executable
  certificate checker `checkDistance` (Model/Dist.lean) for EVERY packed code and certificate.

Instance theorems `distance_<Class>_partial`: for every instance of the regenerated table of
the class that carries a certificate (`Generated.<Class>.certified`; tables and certificates
are regenerated from /repo by harness/regen_codes.py and harness/regen_dist.py on every run and
kernel-checked with `decide +kernel`), the reported `d` is the true distance.

FULL STATEMENT (not proved): for every class and every supported size (DESIGN.md §4),
`IsDistance n H code.d`.  PROVED: the same for every supported size up to the table bound
(2-D: L ≤ 6, 3-D: L ≤ 4, n ≤ 400) for which the untrusted search finds a certificate —
everything except `Color666PlanarCode` L ≥ 3 (the triangular 6.6.6 colour code has d² > n, so
disjoint representatives cannot exist, and the enumeration below `d` is beyond the kernel; the
periodic 6.6.6 code, n = 18L², d = 4L, has an exact packing: 3L translates of the listed zig-zag
string and the L straight lines of the same colour).  `coverage_<Class>` states how many instances
of each table are certified, so a silently shrinking coverage breaks the build.  ALL SIZES
(unbounded in L) are proved for fourteen hand-modelled classes: `Properties/C17Toric2DCode.lean`
(`Lx, Ly ≥ 2`), `Properties/C17Planar2DCode.lean`, `Properties/C17RotatedPlanar2DCode.lean`
(`Lx, Ly ≥ 1`): `IsDistance n H (min Lx Ly)`; `Properties/C17Toric3DCode.lean`,
`Properties/C17XCubeCode.lean` (`Lx, Ly, Lz ≥ 2`): `IsDistance n H (min Lx (min Ly Lz))`;
`Properties/C17Planar3DCode.lean`, `Properties/C17RotatedPlanar3DCode.lean` (`Lx, Ly, Lz ≥ 1`):
`IsDistance n H (min Lx (Ly·Lz))`; `Properties/C17RhombicToricCode.lean` (all `L_i` even `≥ 2`):
`IsDistance n H (min Lx (min Ly Lz))`; `Properties/C17RhombicPlanarCode.lean` (`Lx, Ly ≥ 2`,
`Lz ≥ 1`): `IsDistance n H (min (Lx·Ly + (Lx−1)(Ly−1)) Lz)`; `Properties/C17Color488Code.lean`
(`Lx, Ly ≥ 1`): `IsDistance (8·Lx·Ly) H (min (2Lx) (2Ly))`; `Properties/C17Color666ToricCode.lean`
(`Lx = Ly = L ≥ 1`): `IsDistance (18·L²) H (4L)`; `Properties/C17RotatedToric3DCode.lean`
(`Lx, Ly ≥ 2` not both odd, `Lz ≥ 1`): `min Lx Ly`, `min Ly (Lx·Lz)` or `min Lx (Ly·Lz)` by the
parities of `Lx`, `Ly`; `Properties/C17HollowPlanar3DCode.lean` (`Lx, Ly, Lz ≥ 1`):
`min Lx (wZ Lx Ly Lz)`; `Properties/C17HollowRhombicCode.lean` (`Lx, Ly ≥ 2`, `Lz ≥ 3`, the sizes
that give a valid code): `min wX Lz` — and `code.d` equals that value for every such lattice
size; the same for every DEFORMED code of these classes, through the generic
`distance_deformation_invariant` below (a per-qubit permutation of {X, Y, Z} changes neither the
distance nor the reported distance of ANY code).  Missing for the full statement: the all-sizes
statement for `Color666PlanarCode` and `Color3DCode`, which have the instance theorems below only.
-/
import PanqecVerif.Instances.DistAll
import PanqecVerif.Proofs.Dist
import PanqecVerif.Proofs.DistDeform

namespace Panqec.C17
open Panqec

/-- If some listed logical operator of a valid code has weight `d` and no non-trivial logical
    operator is lighter, `d` is the distance. -/
theorem distance_criterion {n k : Nat} {H Lx Lz : List (List Nat)}
    (hv : ValidCodeL n k H Lx Lz) (d : Nat)
    (hex : ∃ l ∈ Lx ++ Lz, pauliWeight l = d)
    (hlow : ∀ v, IsNontrivialLogical n H v → d ≤ pauliWeight v) : IsDistance n H d :=
  Panqec.distance_criterion hv d hex hlow

/-- Packing bound: if every listed logical `l` has `m` representatives `r` modulo the
    stabilizer group (`l ⊕ r` is a product of generators) with pairwise disjoint Pauli
    supports, every non-trivial logical operator has weight at least `m`. -/
theorem packing_bound {n k : Nat} {H Lx Lz : List (List Nat)}
    (hv : ValidCodeL n k H Lx Lz) (m : Nat)
    (hreps : ∀ l ∈ Lx ++ Lz, ∃ reps : List (List Nat), reps.length = m ∧
      (∀ r ∈ reps, r.length = 2 * n ∧ InSpan (2 * n) H (vxor l r)) ∧
      reps.Pairwise SuppDisjoint) :
    ∀ v, IsNontrivialLogical n H v → m ≤ pauliWeight v :=
  packing_lower_bound hv m hreps

/-! ### Clifford deformation (`StabilizerCode.deform`, C08) does not change the distance

`deform` replaces every row of `stabilizer_matrix`, `logicals_x`, `logicals_z` by its image under
`deformBsf Ds` (C08 `matrices_deform`), `Ds` = the per-qubit relabellings `get_deformation`
returns, each a permutation of {X, Y, Z} (`deformationTable_perm`, regenerated from the source).
Quantifiers: every `n`, every such `Ds`, every stack of binary rows `H`. -/

/-- a per-qubit permutation of {X, Y, Z} does not change the Pauli weight of an operator -/
theorem weight_deformation_invariant {n : Nat} {Ds : List PauliMap} (hlen : Ds.length = n)
    (hperm : ∀ D ∈ Ds, D.isPerm = true) {v : List Nat}
    (hv : v.length = 2 * n) (hb : ∀ x ∈ v, x < 2) :
    pauliWeight (deformBsf Ds v) = pauliWeight v :=
  Deform.pauliWeight_deformBsf hlen hperm hv hb

/-- `v` is a non-trivial logical operator of the generators `H` exactly when its image is a
    non-trivial logical operator of the relabelled generators (commutation: C08
    `symp_deformBsf`; span: `inSpan_deform` for the relabelling and for its inverse) -/
theorem nontrivial_logical_deformation_iff {n : Nat} {Ds : List PauliMap} (hlen : Ds.length = n)
    (hperm : ∀ D ∈ Ds, D.isPerm = true) {H : List (List Nat)} (hH : WFRows n H)
    {v : List Nat} (hl : v.length = 2 * n) (hb : ∀ x ∈ v, x < 2) :
    IsNontrivialLogical n (H.map (deformBsf Ds)) (deformBsf Ds v) ↔ IsNontrivialLogical n H v :=
  Deform.nontrivial_deform_iff hlen hperm hH hl hb

/-- … and every non-trivial logical operator of the relabelled generators is such an image -/
theorem nontrivial_logical_deformation_surj {n : Nat} {Ds : List PauliMap} (hlen : Ds.length = n)
    (hperm : ∀ D ∈ Ds, D.isPerm = true) {H : List (List Nat)} (hH : WFRows n H)
    {w : List Nat} (h : IsNontrivialLogical n (H.map (deformBsf Ds)) w) :
    ∃ v, IsNontrivialLogical n H v ∧ deformBsf Ds v = w :=
  ⟨_, Deform.nontrivial_deform_inv hlen hperm hH h⟩

/-- **The distance is invariant under Clifford deformation**: if `d` is the distance of the
    code with generators `H` (binary rows of length `2n`), it is the distance of the code whose
    generators are relabelled qubit by qubit by permutations of {X, Y, Z}. -/
theorem distance_deformation_invariant {n d : Nat} {Ds : List PauliMap} (hlen : Ds.length = n)
    (hperm : ∀ D ∈ Ds, D.isPerm = true) {H : List (List Nat)} (hH : WFRows n H)
    (h : IsDistance n H d) : IsDistance n (H.map (deformBsf Ds)) d :=
  Deform.isDistance_deform hlen hperm hH h

/-- the same in both directions (the relabelling is a bijection) -/
theorem distance_deformation_invariant_iff {n d : Nat} {Ds : List PauliMap} (hlen : Ds.length = n)
    (hperm : ∀ D ∈ Ds, D.isPerm = true) {H : List (List Nat)} (hH : WFRows n H) :
    IsDistance n (H.map (deformBsf Ds)) d ↔ IsDistance n H d :=
  Deform.isDistance_deform_iff hlen hperm hH

/-- **The reported distance is invariant**: `code.d` (minimum weight over the rows of
    `logicals_x`, `logicals_z`) of the deformed code is that of the undeformed code. -/
theorem reported_distance_deformation_invariant {n : Nat} {Ds : List PauliMap}
    (hlen : Ds.length = n) (hperm : ∀ D ∈ Ds, D.isPerm = true) {Lx Lz : List (List Nat)}
    (hX : WFRows n Lx) (hZ : WFRows n Lz) :
    distance (Lx.map (deformBsf Ds)) (Lz.map (deformBsf Ds)) = distance Lx Lz :=
  Deform.distance_deform hlen hperm hX hZ

/-- Assembled for a hand-written lattice model `l` (valid `[[n, k]]` code of reported and true
    distance `d`) and ANY assignment `D` of permutations of {X, Y, Z} to its qubits: the three
    matrices computed from the deformed getters are the relabelled rows (no `KeyError`), they
    form a valid `[[n, k]]` code, `code.d` is still `d` and `d` is still the true distance. -/
theorem deformed_lattice_distance (l : Lattice) (hwf : l.WF) {n k d : Nat}
    (hn : l.qubits.length = n) (hv : ValidCodeL n k l.rowsH l.rowsX l.rowsZ)
    (hrep : distance l.rowsX l.rowsZ = some d) (hd : IsDistance n l.rowsH d)
    (D : Coord → PauliMap) (hperm : ∀ q ∈ l.qubits, (D q).isPerm = true) :
    stabilizerMatrix (l.toCodeData.deform D) =
        some (l.rowsH.map (deformBsf (l.qubits.map D))) ∧
    logicalsX (l.toCodeData.deform D) = some (l.rowsX.map (deformBsf (l.qubits.map D))) ∧
    logicalsZ (l.toCodeData.deform D) = some (l.rowsZ.map (deformBsf (l.qubits.map D))) ∧
    ValidCodeL n k (l.rowsH.map (deformBsf (l.qubits.map D)))
      (l.rowsX.map (deformBsf (l.qubits.map D))) (l.rowsZ.map (deformBsf (l.qubits.map D))) ∧
    distance (l.rowsX.map (deformBsf (l.qubits.map D)))
      (l.rowsZ.map (deformBsf (l.qubits.map D))) = some d ∧
    IsDistance n (l.rowsH.map (deformBsf (l.qubits.map D))) d :=
  Lattice.deformed_distance l hwf hn hv hrep hd D hperm

/-- Enumeration bound: if `checkExhaustive` accepts (every Pauli operator of weight `< d` is
    detected by a generator or commutes with every listed logical), every non-trivial logical
    operator of the (valid) code has weight at least `d`. -/
theorem exhaustive_bound (c : MaskCode)
    (hv : ValidCodeL c.n c.k (c.stabs.map (unpackBits (2 * c.n)))
      (c.logX.map (unpackBits (2 * c.n))) (c.logZ.map (unpackBits (2 * c.n))))
    (h : checkExhaustive c = true) :
    ∀ v, IsNontrivialLogical c.n (c.stabs.map (unpackBits (2 * c.n))) v →
      c.d ≤ pauliWeight v :=
  checkExhaustive_sound c hv h

/-- CSS codes: if every generator is pure X-type or pure Z-type and `checkExhaustiveCSS` accepts
    (every pure X-type and every pure Z-type operator of weight `< d` is detected or commutes with
    every listed logical), every non-trivial logical operator — of any type — has weight at
    least `d`: the X part or the Z part of a non-trivial logical of a CSS code is a non-trivial
    logical that is not heavier. -/
theorem exhaustive_css_bound (c : MaskCode)
    (hv : ValidCodeL c.n c.k (c.stabs.map (unpackBits (2 * c.n)))
      (c.logX.map (unpackBits (2 * c.n))) (c.logZ.map (unpackBits (2 * c.n))))
    (h : checkExhaustiveCSS c = true) :
    ∀ v, IsNontrivialLogical c.n (c.stabs.map (unpackBits (2 * c.n))) v →
      c.d ≤ pauliWeight v :=
  checkExhaustiveCSS_sound c hv h

/-- Soundness of the executable checks, for every packed code and every certificate: a valid
    code (`checkValidFast`) whose reported `d` is the weight of its lightest listed logical
    (`reportedDistanceFast`) and whose lower-bound certificate is accepted (`checkDistance`)
    has distance exactly `d`. -/
theorem checker_sound (c : MaskCode) (rc : RankCert) (cert : DistCert)
    (hvalid : checkValidFast c rc = true) (hrep : reportedDistanceFast c = true)
    (h : checkDistance c cert = true) :
    IsDistance c.n (c.stabs.map (unpackBits (2 * c.n))) c.d :=
  checkDistance_sound c rc cert hvalid hrep h

/-- The distance statement for one certified table entry. -/
abbrev InstanceDistance (q : MaskCode × RankCert × DistCert) : Prop :=
  IsDistance q.1.n (q.1.stabs.map (unpackBits (2 * q.1.n))) q.1.d

/-! Bounded instance theorems, one per exported class (full statement: ∀ supported size). -/
theorem distance_Toric2DCode_partial : ∀ q ∈ Generated.Toric2DCode.certified, InstanceDistance q :=
  Instances.Toric2DCode_distance
theorem distance_Planar2DCode_partial : ∀ q ∈ Generated.Planar2DCode.certified, InstanceDistance q :=
  Instances.Planar2DCode_distance
theorem distance_RotatedPlanar2DCode_partial : ∀ q ∈ Generated.RotatedPlanar2DCode.certified, InstanceDistance q :=
  Instances.RotatedPlanar2DCode_distance
theorem distance_Color666PlanarCode_partial : ∀ q ∈ Generated.Color666PlanarCode.certified, InstanceDistance q :=
  Instances.Color666PlanarCode_distance
theorem distance_Color666ToricCode_partial : ∀ q ∈ Generated.Color666ToricCode.certified, InstanceDistance q :=
  Instances.Color666ToricCode_distance
theorem distance_Color488Code_partial : ∀ q ∈ Generated.Color488Code.certified, InstanceDistance q :=
  Instances.Color488Code_distance
theorem distance_Toric3DCode_partial : ∀ q ∈ Generated.Toric3DCode.certified, InstanceDistance q :=
  Instances.Toric3DCode_distance
theorem distance_Planar3DCode_partial : ∀ q ∈ Generated.Planar3DCode.certified, InstanceDistance q :=
  Instances.Planar3DCode_distance
theorem distance_RotatedPlanar3DCode_partial : ∀ q ∈ Generated.RotatedPlanar3DCode.certified, InstanceDistance q :=
  Instances.RotatedPlanar3DCode_distance
theorem distance_RotatedToric3DCode_partial : ∀ q ∈ Generated.RotatedToric3DCode.certified, InstanceDistance q :=
  Instances.RotatedToric3DCode_distance
theorem distance_RhombicToricCode_partial : ∀ q ∈ Generated.RhombicToricCode.certified, InstanceDistance q :=
  Instances.RhombicToricCode_distance
theorem distance_RhombicPlanarCode_partial : ∀ q ∈ Generated.RhombicPlanarCode.certified, InstanceDistance q :=
  Instances.RhombicPlanarCode_distance
theorem distance_XCubeCode_partial : ∀ q ∈ Generated.XCubeCode.certified, InstanceDistance q :=
  Instances.XCubeCode_distance
theorem distance_HollowPlanar3DCode_partial : ∀ q ∈ Generated.HollowPlanar3DCode.certified, InstanceDistance q :=
  Instances.HollowPlanar3DCode_distance
theorem distance_HollowRhombicCode_partial : ∀ q ∈ Generated.HollowRhombicCode.certified, InstanceDistance q :=
  Instances.HollowRhombicCode_distance
theorem distance_Color3DCode_partial : ∀ q ∈ Generated.Color3DCode.certified, InstanceDistance q :=
  Instances.Color3DCode_distance

/-! Coverage: (certified instances, table instances) per class. -/
theorem coverage_Toric2DCode :
    Generated.Toric2DCode.certified.length = 25 ∧ Generated.Toric2DCode.all.length = 25 := by
  decide +kernel
theorem coverage_Planar2DCode :
    Generated.Planar2DCode.certified.length = 36 ∧ Generated.Planar2DCode.all.length = 36 := by
  decide +kernel
theorem coverage_RotatedPlanar2DCode :
    Generated.RotatedPlanar2DCode.certified.length = 36 ∧ Generated.RotatedPlanar2DCode.all.length = 36 := by
  decide +kernel
theorem coverage_Color666PlanarCode :
    Generated.Color666PlanarCode.certified.length = 2 ∧ Generated.Color666PlanarCode.all.length = 6 := by
  decide +kernel
theorem coverage_Color666ToricCode :
    Generated.Color666ToricCode.certified.length = 4 ∧ Generated.Color666ToricCode.all.length = 4 := by
  decide +kernel
theorem coverage_Color488Code :
    Generated.Color488Code.certified.length = 36 ∧ Generated.Color488Code.all.length = 36 := by
  decide +kernel
theorem coverage_Toric3DCode :
    Generated.Toric3DCode.certified.length = 27 ∧ Generated.Toric3DCode.all.length = 27 := by
  decide +kernel
theorem coverage_Planar3DCode :
    Generated.Planar3DCode.certified.length = 64 ∧ Generated.Planar3DCode.all.length = 64 := by
  decide +kernel
theorem coverage_RotatedPlanar3DCode :
    Generated.RotatedPlanar3DCode.certified.length = 64 ∧ Generated.RotatedPlanar3DCode.all.length = 64 := by
  decide +kernel
theorem coverage_RotatedToric3DCode :
    Generated.RotatedToric3DCode.certified.length = 32 ∧ Generated.RotatedToric3DCode.all.length = 32 := by
  decide +kernel
theorem coverage_RhombicToricCode :
    Generated.RhombicToricCode.certified.length = 8 ∧ Generated.RhombicToricCode.all.length = 8 := by
  decide +kernel
theorem coverage_RhombicPlanarCode :
    Generated.RhombicPlanarCode.certified.length = 36 ∧ Generated.RhombicPlanarCode.all.length = 36 := by
  decide +kernel
theorem coverage_XCubeCode :
    Generated.XCubeCode.certified.length = 27 ∧ Generated.XCubeCode.all.length = 27 := by
  decide +kernel
theorem coverage_HollowPlanar3DCode :
    Generated.HollowPlanar3DCode.certified.length = 64 ∧ Generated.HollowPlanar3DCode.all.length = 64 := by
  decide +kernel
theorem coverage_HollowRhombicCode :
    Generated.HollowRhombicCode.certified.length = 20 ∧ Generated.HollowRhombicCode.all.length = 20 := by
  decide +kernel
theorem coverage_Color3DCode :
    Generated.Color3DCode.certified.length = 7 ∧ Generated.Color3DCode.all.length = 7 := by
  decide +kernel

/-! non-vacuity -/

/-- the tables are not empty and contain codes of distance up to 6 -/
example : (Generated.Toric2DCode.certified.map fun q => q.1.d).contains 6 = true := by
  decide +kernel
example : (Generated.Toric3DCode.certified.map fun q => (q.1.n, q.1.d)).contains (192, 4) = true := by
  decide +kernel

/-- one instance spelled out: the 3×3 toric code has distance 3 -/
example : IsDistance 18 (Generated.Toric2DCode.i3_3.stabs.map (unpackBits 36)) 3 :=
  checker_sound Generated.Toric2DCode.i3_3 Generated.Toric2DCode.i3_3_cert
    Generated.Toric2DCode.i3_3_dist (by decide +kernel) (by decide +kernel) (by decide +kernel)

/-- the checker is not vacuous: an overstated distance is rejected by the enumeration
    (`XXII` has weight 2 < 3) and no family of 3 disjoint representatives exists -/
example : checkDistance { code422 with d := 3 } .exhaustive = false := by decide
example : checkDistance code422 .exhaustive = true := by decide
example : checkDistance code422 .exhaustiveCSS = true := by decide
example : checkDistance { code422 with d := 3 } .exhaustiveCSS = false := by decide
/-- a non-CSS code (generators `XZZX`-like) is refused by the CSS-restricted enumeration -/
example : checkDistance { code422 with stabs := [0x69, 0x96] } .exhaustiveCSS = false := by decide
example : checkDistance code422 (.packing [0, 1, 0, 1, 0, 2, 0, 2]) = true := by decide
example : checkDistance code422 (.packing [0, 0, 0, 1, 0, 2, 0, 2]) = false := by decide
/-- on the 3×3 toric code a claimed `d = 4` is refuted by the enumeration -/
example : checkDistance { Generated.Toric2DCode.i3_3 with d := 4 } .exhaustive = false := by
  decide +kernel

/-- deformation invariance instantiated: the `[[4,2,2]]` code relabelled by a Hadamard on
    qubits 0 and 3 and `Y↔Z` on qubit 2 (generators `ZXXZ`, `XZYX`) still has distance 2, and the
    weight-2 operator `XXII ↦ ZXII` is a non-trivial logical of it -/
example : IsDistance 4 ((code422.stabs.map (unpackBits 8)).map
    (deformBsf [.swapXZ, .id, .swapYZ, .swapXZ])) 2 :=
  distance_deformation_invariant (n := 4) (Ds := [.swapXZ, .id, .swapYZ, .swapXZ]) rfl (by decide)
    (by unfold WFRows; decide)
    (checker_sound code422 cert422 .exhaustive (by decide) (by decide) (by decide))
example : (code422.stabs.map (unpackBits 8)).map (deformBsf [.swapXZ, .id, .swapYZ, .swapXZ]) =
    [[0,1,1,0, 1,0,0,1], [1,0,1,1, 0,1,1,0]] := by decide
/-- the permutation hypothesis is needed: a map sending `Y` to `I` changes the weight of `Y` -/
example : pauliWeight (deformBsf [⟨.X, .I, .Z⟩] [1, 1]) = 0 ∧ pauliWeight [1, 1] = 1 := by decide

end Panqec.C17
