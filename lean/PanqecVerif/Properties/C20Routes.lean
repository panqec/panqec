/-
C20, routes that hand the request to the library: `/decode` (`GUI.send_correction`), `/new-errors`
(`send_random_errors`), `_instantiate_code`, `/decoder-names` — the glue of `panqec/gui/_gui.py`
(`Model/GuiRoutes.lean`), with the library a parameter (`Library`) and, for `/new-errors`, the
lattice models and the noise model of C07 behind it (`Model/GuiRoutesLib.lean`).

* `decode_constructs`, `decode_answer`, `decode_rejects` — ANY library, ANY menus: the objects
  `/decode` constructs are exactly those the request names (`selectDecode`: class and positional
  sizes, `deform` iff the deformation is not "None", direction and noise deformation, decoder class,
  `p`, keyword arguments), in the order code → error model → decoder → `decode(syndrome)`; the answer
  is the library decoder's correction split at `code.n`; a request whose selection fails is never
  answered.  Same for `/new-errors` (`new_errors_constructs`, `new_errors_answer`).
* the selection rules: `select_code_2d` (a 2-D class gets `(Lx, Ly)`, `Lz` ignored, present or not),
  `select_code_3d`, `select_code_3d_without_Lz`, `select_code_unknown`, `deformation_none_rule`,
  `noise_deformation_rule`, `decoder_kwargs_rule`.
* `decode_reads_only`, `new_errors_reads_only`: the answer depends on the listed request fields
  only.  The repaired defect (fix a7fdabc): the front end sends the "Channel update (BP)" box as
  `channel_update`; the old glue (`oldSendCorrection`) could not depend on it
  (`old_decode_ignores_channel_update`, `old_channel_update_not_forwarded`), the repaired one
  forwards its truth value to 'BP-OSD' (`decoder_kwargs_rule`, `channel_update_reaches_bposd`) and
  is the old route for every other decoder (`repaired_agrees_off_bposd`).
* regenerated tables (`Generated/GuiRoutes.lean`: `noise_directions`, constructor signatures of the
  menu decoders, request bodies and decoder options of `main.js`), by `decide`:
  `menu_decode_selection` (every menu code × deformation × direction × decoder: the selection
  succeeds with exactly the named objects), `directions_sum_to_one`, `front_end_fields_served`,
  `options_forwarded` (EVERY option control of the decoder folder — `max_bp_iter`, `channel_update`,
  `alpha`, `beta` — reaches exactly the decoders whose constructor has a parameter of that name;
  every keyword passed is accepted), `decoder_options_read`.
* `new_errors_is_model_sample` (in `Properties/C20RoutesNoise.lean`): with the lattice and noise models as the library, `/new-errors`
  returns `generate` of `probability_distribution` of the requested direction, rate and noise
  deformation on the requested class and size (C07 says what that distribution is), all `2n` entries.
* `decoder_names_route`: `/decoder-names` = `offeredDecoders` of the class the menu name denotes.
-/
import PanqecVerif.Proofs.GuiRoutes
import PanqecVerif.Generated.GuiRoutes
import PanqecVerif.Generated.Gui
import PanqecVerif.Proofs.Noise

namespace Panqec.C20Routes
open Panqec.Gui Panqec.GuiRepr Panqec.GuiRoutes

variable {Code EM Dec : Type}

/-- `/decode` constructs exactly what the request names: whenever the selection (`selectDecode`: no
    library involved) succeeds, `send_correction` IS the chain of library calls `runDecode` on it —
    `codes[code_name](*sizes)`, `deform` iff asked, `PauliErrorModel(direction, noise deformation)`,
    `decoders[decoder](code, error_model, p, **kwargs)`, `decode(syndrome)`, split at `code.n` -/
theorem decode_constructs (L : Library Code EM Dec) (codes : List CodeMenu)
    (decs : List DecoderMenu) (dirs : List (String × Dir)) (content : Req) (sel : DecodeSel)
    (h : selectDecode codes decs dirs content = .ok sel) :
    sendCorrection L codes decs dirs content = runDecode L sel := by
  simp only [selectDecode, bind_eq_ok, pure_eq_ok] at h
  obtain ⟨_, h1, _, h2, _, h3, _, h4, _, h5, _, h6, _, h7, _, h8, _, h9, _, h10, _, h11, rfl⟩ := h
  unfold sendCorrection runDecode instantiateCode
  simp only [h1, h2, h3, h4, h5, h6, h7, h8, h9, h10, h11, ok_bind]

/-- a request whose selection fails (missing field, unknown code / error model / decoder name, 3-D
    code without `Lz`) is never answered, whatever the library does -/
theorem decode_rejects (L : Library Code EM Dec) (codes : List CodeMenu)
    (decs : List DecoderMenu) (dirs : List (String × Dir)) (content : Req) (e : String)
    (h : selectDecode codes decs dirs content = .error e) :
    ∃ e', sendCorrection L codes decs dirs content = .error e' := by
  cases hs : sendCorrection L codes decs dirs content with
  | error e' => exact ⟨e', rfl⟩
  | ok ans =>
    exfalso
    simp only [sendCorrection, instantiateCode, bind_eq_ok] at hs
    obtain ⟨_, h1, _, h2, _, h3, _, h4, _, h5, _, h6, _, h7, _, h8, _, ⟨_, h9, _⟩, _, h10, _, _, _, h12, _⟩ := hs
    unfold selectDecode at h
    simp only [h1, h2, h3, h4, h5, h6, h7, h8, h9, h10, h12, ok_bind] at h
    cases h

/-- THE ANSWER OF `/decode`: if the route answers, the selection succeeded, every constructor call
    named by it succeeded, and the answer is the library decoder's correction for the request's
    syndrome, `x` = the first `code.n` entries, `z` = the rest (nothing lost, nothing reordered) -/
theorem decode_answer (L : Library Code EM Dec) (codes : List CodeMenu)
    (decs : List DecoderMenu) (dirs : List (String × Dir)) (content : Req) (ans : JV)
    (h : sendCorrection L codes decs dirs content = .ok ans) :
    ∃ sel code em dec correction,
      selectDecode codes decs dirs content = .ok sel ∧
      runCode L sel.code = .ok code ∧
      L.newErrorModel sel.direction sel.noiseDeformation = .ok em ∧
      L.newDecoder sel.decoderCls code em sel.p sel.kwargs = .ok dec ∧
      L.decode dec sel.syndrome = .ok correction ∧
      ans = .obj [("x", JV.ints (correction.take (L.n code))),
                  ("z", JV.ints (correction.drop (L.n code)))] ∧
      correction.take (L.n code) ++ correction.drop (L.n code) = correction := by
  cases hsel : selectDecode codes decs dirs content with
  | error e =>
    obtain ⟨e', he'⟩ := decode_rejects L codes decs dirs content e hsel
    rw [he'] at h; cases h
  | ok sel =>
    rw [decode_constructs L codes decs dirs content sel hsel] at h
    simp only [runDecode, bind_eq_ok, pure_eq_ok] at h
    obtain ⟨code, h1, em, h2, dec, h3, corr, h4, rfl⟩ := h
    exact ⟨sel, code, em, dec, corr, rfl, h1, h2, h3, h4, rfl, List.take_append_drop _ _⟩

/-- a correction of length `2n` is split into two halves of length `n` -/
theorem split_halves (n : Nat) (correction : List Int) (h : correction.length = 2 * n) :
    (correction.take n).length = n ∧ (correction.drop n).length = n := by
  constructor
  · rw [List.length_take]; omega
  · rw [List.length_drop]; omega

/-- `/new-errors` constructs exactly what the request names and asks the noise model for a sample
    of the requested channel on the requested code -/
theorem new_errors_constructs (L : Library Code EM Dec) (codes : List CodeMenu)
    (dirs : List (String × Dir)) (content : Req) (sel : NoiseSel)
    (h : selectNoise codes dirs content = .ok sel) :
    sendRandomErrors L codes dirs content = runNoise L sel := by
  simp only [selectNoise, bind_eq_ok, pure_eq_ok] at h
  obtain ⟨_, h1, _, h2, _, h3, _, h4, _, h5, rfl⟩ := h
  unfold sendRandomErrors runNoise instantiateCode
  simp only [h1, h2, h3, h4, h5, ok_bind]

/-- THE ANSWER OF `/new-errors`: if the route answers, the answer is the WHOLE vector
    `error_model.generate(code, p)` returned (not split), for the error model and code the request
    names; and (the discarded `error_spec` comprehension having run) its entries `i` and `i + n`,
    `i < n`, exist and are 0 / 1 -/
theorem new_errors_answer (L : Library Code EM Dec) (codes : List CodeMenu)
    (dirs : List (String × Dir)) (content : Req) (ans : JV)
    (h : sendRandomErrors L codes dirs content = .ok ans) :
    ∃ sel code em errors,
      selectNoise codes dirs content = .ok sel ∧
      runCode L sel.code = .ok code ∧
      L.newErrorModel sel.direction sel.noiseDeformation = .ok em ∧
      L.generate em code sel.p = .ok errors ∧
      ans = JV.ints errors ∧
      ∀ i < L.n code, ∃ a b, errors[i]? = some a ∧ errors[i + L.n code]? = some b ∧
        (a = 0 ∨ a = 1) ∧ (b = 0 ∨ b = 1) := by
  simp only [sendRandomErrors, instantiateCode, bind_eq_ok, pure_eq_ok] at h
  obtain ⟨p, h1, nd, h2, _, h3, code, ⟨cs, h4a, h4b⟩, dir, h5, em, h6, errors, h7, _, h8, rfl⟩ := h
  refine ⟨⟨cs, dir, noiseDeformation nd, p⟩, code, em, errors, ?_, h4b, h6, h7, rfl,
    (errorSpecCheck_ok_iff _ _).mp h8⟩
  unfold selectNoise
  simp only [h1, h2, h3, h4a, h5, ok_bind]
  rfl

/-- `code_deformation_name`: `"None"` means no `deform` call, every other value is passed on -/
theorem deformation_none_rule (codes : List CodeMenu) (data : Req) (sel : CodeSel) (dn : JV)
    (hd : getKey data "code_deformation_name" = some dn) (h : selectCode codes data = .ok sel) :
    sel.deformation = if isStr dn "None" then none else some dn := by
  simp only [selectCode, bind_eq_ok, field_eq_ok, hd, Option.some.injEq] at h
  obtain ⟨_, _, _, _, name, _, _, rfl, h⟩ := h
  split at h
  · split at h
    · obtain ⟨_, _, h⟩ := bind_eq_ok.mp h
      cases h; rfl
    · split at h
      · obtain ⟨_, _, h⟩ := bind_eq_ok.mp h
        split at h
        · cases h; rfl
        · cases h
      · cases h
  · cases h

/-- THE RULE FOR 2-D CLASSES: a menu name of a 2-D class selects that class with the positional
    arguments `(Lx, Ly)` — `Lz` is not used, whether the request carries it (the front end always
    does) or not -/
theorem select_code_2d (codes : List CodeMenu) (data : Req) (c : CodeMenu) (lx ly dn : JV)
    (hfind : codes.find? (·.menuName == c.menuName) = some c) (hdim : c.dimension = 2)
    (hx : getKey data "Lx" = some lx) (hy : getKey data "Ly" = some ly)
    (hn : getKey data "code_name" = some (.str c.menuName))
    (hd : getKey data "code_deformation_name" = some dn) :
    selectCode codes data =
      .ok ⟨c.cls, [lx, ly], if isStr dn "None" then none else some dn⟩ := by
  rw [selectCode_of_find hfind hx hy hn hd, if_pos (codeNames_contains hfind hdim)]

/-- a menu name of a 3-D class selects that class with `(Lx, Ly, Lz)` -/
theorem select_code_3d (codes : List CodeMenu) (data : Req) (c : CodeMenu) (lx ly lz dn : JV)
    (hfind : codes.find? (·.menuName == c.menuName) = some c) (hdim : c.dimension = 3)
    (hnodup : ∀ c' ∈ codes, c'.menuName = c.menuName → c'.dimension = 3)
    (hx : getKey data "Lx" = some lx) (hy : getKey data "Ly" = some ly)
    (hz : getKey data "Lz" = some lz)
    (hn : getKey data "code_name" = some (.str c.menuName))
    (hd : getKey data "code_deformation_name" = some dn) :
    selectCode codes data =
      .ok ⟨c.cls, [lx, ly, lz], if isStr dn "None" then none else some dn⟩ := by
  rw [selectCode_of_find hfind hx hy hn hd,
    codeNames_not_contains 2 fun c' hc' hn => by rw [hnodup c' hc' hn]; decide,
    if_neg Bool.false_ne_true, if_pos (codeNames_contains hfind hdim), hz]

/-- a 3-D class without `Lz` in the request: `UnboundLocalError` (the front end always sends it) -/
theorem select_code_3d_without_Lz (codes : List CodeMenu) (data : Req) (c : CodeMenu)
    (lx ly dn : JV)
    (hfind : codes.find? (·.menuName == c.menuName) = some c) (hdim : c.dimension = 3)
    (hnodup : ∀ c' ∈ codes, c'.menuName = c.menuName → c'.dimension = 3)
    (hx : getKey data "Lx" = some lx) (hy : getKey data "Ly" = some ly)
    (hz : getKey data "Lz" = none)
    (hn : getKey data "code_name" = some (.str c.menuName))
    (hd : getKey data "code_deformation_name" = some dn) :
    selectCode codes data = .error "UnboundLocalError" := by
  rw [selectCode_of_find hfind hx hy hn hd,
    codeNames_not_contains 2 fun c' hc' hn => by rw [hnodup c' hc' hn]; decide,
    if_neg Bool.false_ne_true, if_pos (codeNames_contains hfind hdim), hz]

/-- a name that is in neither menu (or is not a string): `ValueError`, nothing is constructed -/
theorem select_code_unknown (codes : List CodeMenu) (data : Req) (name lx ly dn : JV)
    (hx : getKey data "Lx" = some lx) (hy : getKey data "Ly" = some ly)
    (hn : getKey data "code_name" = some name)
    (hd : getKey data "code_deformation_name" = some dn)
    (hnot : ∀ s, name = .str s → ∀ c ∈ codes, c.menuName = s → c.dimension ≠ 2 ∧ c.dimension ≠ 3) :
    selectCode codes data = .error "ValueError" := by
  unfold selectCode
  simp only [field_of_getKey hx, field_of_getKey hy, field_of_getKey hn, field_of_getKey hd, ok_bind]
  cases name with
  | str s =>
    simp only [codeNames_not_contains 2 fun c' hc' hn => (hnot s rfl c' hc' hn).1,
      codeNames_not_contains 3 fun c' hc' hn => (hnot s rfl c' hc' hn).2, Bool.false_eq_true, if_false]
  | _ => rfl

/-- `noise_deformation_name`: `"None"` becomes Python `None`, every other value is passed on -/
theorem noise_deformation_rule (v : JV) :
    (v = .str "None" → noiseDeformation v = .null) ∧
    ((∀ s, v = .str s → s ≠ "None") → noiseDeformation v = v) := by
  constructor
  · rintro rfl; rfl
  · intro h
    unfold noiseDeformation isStr
    cases v with
    | str t =>
      have := h t rfl
      have hb : (t == "None") = false := by simpa using this
      simp [hb]
    | _ => rfl

/-- THE KEYWORD ARGUMENTS PER DECODER: 'BP-OSD' gets `max_bp_iter` (as sent), `osd_order = 0` and
    `channel_update` = the truth value of the request's field (`False` when absent); 'MBP' gets
    `max_bp_iter`, `alpha`, `beta` (as sent); every other decoder gets none — and no decoder gets
    anything else -/
theorem decoder_kwargs_rule (m a b : JV) (cu : Option JV) :
    decoderKwargs (.str "BP-OSD") m a b cu =
      [("max_bp_iter", m), ("osd_order", JV.i 0),
       ("channel_update", .bool (truthy (cu.getD (.bool false))))] ∧
    decoderKwargs (.str "MBP") m a b cu = [("max_bp_iter", m), ("alpha", a), ("beta", b)] ∧
    (∀ v, (∀ s, v = .str s → s ≠ "BP-OSD" ∧ s ≠ "MBP") → decoderKwargs v m a b cu = []) := by
  refine ⟨rfl, rfl, ?_⟩
  intro v hv
  unfold decoderKwargs inNames isStr
  cases v with
  | str s =>
    obtain ⟨h1, h2⟩ := hv s rfl
    have e1 : (s == "BP-OSD") = false := by simpa using h1
    have e2 : (s == "MBP") = false := by simpa using h2
    simp [e1, e2, h1, h2]
  | _ => rfl

/-- the box of the menu reaches the BP-OSD decoder: ticked (`true`) → `channel_update=True`,
    unticked or absent → `False` -/
theorem channel_update_reaches_bposd (m a b : JV) :
    (decoderKwargs (.str "BP-OSD") m a b (some (.bool true))).find? (·.1 == "channel_update") =
      some ("channel_update", .bool true) ∧
    (decoderKwargs (.str "BP-OSD") m a b (some (.bool false))).find? (·.1 == "channel_update") =
      some ("channel_update", .bool false) ∧
    (decoderKwargs (.str "BP-OSD") m a b none).find? (·.1 == "channel_update") =
      some ("channel_update", .bool false) := ⟨rfl, rfl, rfl⟩

/-- `/decode` reads the fourteen fields of `decodeFieldsRead` and nothing else: two requests that
    agree on them get the same answer (same constructor calls, same error) from any library -/
theorem decode_reads_only (L : Library Code EM Dec) (codes : List CodeMenu)
    (decs : List DecoderMenu) (dirs : List (String × Dir)) (r1 r2 : Req)
    (h : ∀ k ∈ decodeFieldsRead, getKey r1 k = getKey r2 k) :
    sendCorrection L codes decs dirs r1 = sendCorrection L codes decs dirs r2 := by
  simp only [decodeFieldsRead, List.forall_mem_cons] at h
  unfold sendCorrection instantiateCode selectCode field
  simp only [h]

/-- `/new-errors` reads the eight fields of `newErrorsFieldsRead` and nothing else -/
theorem new_errors_reads_only (L : Library Code EM Dec) (codes : List CodeMenu)
    (dirs : List (String × Dir)) (r1 r2 : Req)
    (h : ∀ k ∈ newErrorsFieldsRead, getKey r1 k = getKey r2 k) :
    sendRandomErrors L codes dirs r1 = sendRandomErrors L codes dirs r2 := by
  simp only [newErrorsFieldsRead, List.forall_mem_cons] at h
  unfold sendRandomErrors instantiateCode selectCode field
  simp only [h]

/-- the glue before the repair read the thirteen fields of `oldDecodeFieldsRead` only -/
theorem old_decode_reads_only (L : Library Code EM Dec) (codes : List CodeMenu)
    (decs : List DecoderMenu) (dirs : List (String × Dir)) (r1 r2 : Req)
    (h : ∀ k ∈ oldDecodeFieldsRead, getKey r1 k = getKey r2 k) :
    oldSendCorrection L codes decs dirs r1 = oldSendCorrection L codes decs dirs r2 := by
  simp only [oldDecodeFieldsRead, List.forall_mem_cons] at h
  unfold oldSendCorrection instantiateCode selectCode field
  simp only [h]

/-- THE DEFECT THAT WAS REPAIRED (regression statement about the old glue): whatever value the
    request carried for `channel_update` — the "Channel update (BP)" box of the menu — the old answer
    of `/decode` was the same, for every library: the chosen option could not reach the decoder -/
theorem old_decode_ignores_channel_update (L : Library Code EM Dec) (codes : List CodeMenu)
    (decs : List DecoderMenu) (dirs : List (String × Dir)) (content : Req) (v : JV) :
    oldSendCorrection L codes decs dirs (setKey content "channel_update" v) =
      oldSendCorrection L codes decs dirs content := by
  apply old_decode_reads_only
  intro k hk
  apply getKey_setKey_ne
  revert k
  decide

/-- the repaired route differs from the old one in the keyword arguments only, and only for
    'BP-OSD': for every other decoder value the two routes are the same function of the request -/
theorem repaired_agrees_off_bposd (L : Library Code EM Dec) (codes : List CodeMenu)
    (decs : List DecoderMenu) (dirs : List (String × Dir)) (content : Req)
    (h : ∀ v, getKey content "decoder" = some v → isStr v "BP-OSD" = false) :
    sendCorrection L codes decs dirs content = oldSendCorrection L codes decs dirs content := by
  unfold sendCorrection oldSendCorrection
  cases hd : getKey content "decoder" with
  | none =>
    have hf : field content "decoder" = .error "KeyError" := by unfold field; rw [hd]
    simp only [hf, err_bind]
  | some v =>
    have hf : field content "decoder" = .ok v := field_of_getKey hd
    have hk : ∀ m a b cu, decoderKwargs v m a b cu = oldDecoderKwargs v m a b := by
      intro m a b cu
      unfold decoderKwargs oldDecoderKwargs
      rw [h v hd]
      rfl
    simp only [hf, ok_bind, hk]

/-- the selection a front-end `/decode` request must produce -/
def expectedDecodeSel (c : CodeMenu) (d : DecoderMenu) (e : String × Dir)
    (lx ly lz p m a b cu syn : JV) (ndn cdn : String) : DecodeSel :=
  ⟨⟨c.cls, sizeArgs c lx ly lz, if isStr (.str cdn) "None" then none else some (.str cdn)⟩,
   e.2, noiseDeformation (.str ndn), d.cls, p, decoderKwargs (.str d.menuName) m a b (some cu), syn⟩

/-- for ANY menus whose names are distinct keys (as those of Python dicts are): a front-end request
    naming a menu code, a menu decoder and a menu error model selects exactly them -/
theorem select_decode_front_end (codes : List CodeMenu) (decs : List DecoderMenu)
    (dirs : List (String × Dir)) (c : CodeMenu) (d : DecoderMenu) (e : String × Dir)
    (hc : codes.find? (·.menuName == c.menuName) = some c)
    (hdim : c.dimension = 2 ∨ c.dimension = 3)
    (huniq : ∀ c' ∈ codes, c'.menuName = c.menuName → c'.dimension = c.dimension)
    (hd : decs.find? (·.menuName == d.menuName) = some d)
    (he : dirs.find? (·.1 == e.1) = some e)
    (lx ly lz p m a b cu syn : JV) (ndn cdn : String) :
    selectDecode codes decs dirs
        (frontEndDecodeReq c.menuName lx ly lz p m a b cu syn ndn d.menuName e.1 cdn) =
      .ok (expectedDecodeSel c d e lx ly lz p m a b cu syn ndn cdn) := by
  unfold selectDecode
  rw [select_code_menu codes _ c lx ly lz (.str cdn) hc hdim huniq rfl rfl rfl rfl rfl]
  simp only [field, frontEndDecodeReq, getKey, List.find?_cons, String.reduceBEq, Option.map_some, ok_bind,
    directionOf, dictKey, he, decoderClassOf, hd]
  rfl

theorem menus_well_keyed :
    menusWellKeyed Generated.Gui.codes Generated.Gui.decoders
      Generated.GuiRoutes.noiseDirections = true := by decide +kernel

/-- EVERY MENU COMBINATION, on the regenerated menus of the current source: for every code of the
    code menu, every decoder of the decoder menu (offered for that code or not: the route does not
    check), every error model of `noise_directions`, any sizes, rate, options, syndrome, any code
    and noise deformation names, the request `main.js` builds selects exactly: the class of that
    menu entry with `(Lx, Ly)` (2-D) or `(Lx, Ly, Lz)` (3-D), `deform(name)` iff the name is not
    "None", the direction of that error model with the noise deformation (`None` for "None"), the
    class of that decoder entry with the rate as sent and the keyword arguments of
    `decoder_kwargs_rule`, and the syndrome as sent -/
theorem menu_decode_selection (c : CodeMenu) (hc : c ∈ Generated.Gui.codes)
    (d : DecoderMenu) (hd : d ∈ Generated.Gui.decoders)
    (e : String × Dir) (he : e ∈ Generated.GuiRoutes.noiseDirections)
    (lx ly lz p m a b cu syn : JV) (ndn cdn : String) :
    selectDecode Generated.Gui.codes Generated.Gui.decoders Generated.GuiRoutes.noiseDirections
        (frontEndDecodeReq c.menuName lx ly lz p m a b cu syn ndn d.menuName e.1 cdn) =
      .ok (expectedDecodeSel c d e lx ly lz p m a b cu syn ndn cdn) := by
  obtain ⟨h1, h2, h3⟩ := menusWellKeyed_unpack menus_well_keyed
  obtain ⟨hfind, hdim, huniq⟩ := h1 c hc
  exact select_decode_front_end _ _ _ c d e hfind hdim huniq (h2 d hd) (h3 e he) ..

/-- the same for `/new-errors` -/
theorem menu_noise_selection (c : CodeMenu) (hc : c ∈ Generated.Gui.codes)
    (e : String × Dir) (he : e ∈ Generated.GuiRoutes.noiseDirections)
    (lx ly lz p : JV) (ndn cdn : String) :
    selectNoise Generated.Gui.codes Generated.GuiRoutes.noiseDirections
        (frontEndNoiseReq c.menuName lx ly lz p ndn e.1 cdn) =
      .ok ⟨⟨c.cls, sizeArgs c lx ly lz, if isStr (.str cdn) "None" then none else some (.str cdn)⟩,
           e.2, noiseDeformation (.str ndn), p⟩ := by
  obtain ⟨h1, _, h3⟩ := menusWellKeyed_unpack menus_well_keyed
  obtain ⟨hfind, hdim, huniq⟩ := h1 c hc
  unfold selectNoise
  rw [select_code_menu _ _ c lx ly lz (.str cdn) hfind hdim huniq rfl rfl rfl rfl rfl]
  simp only [field, frontEndNoiseReq, getKey, List.find?_cons, String.reduceBEq, Option.map_some, ok_bind,
    directionOf, dictKey, h3 e he]
  rfl

/-- the noise directions of the menu sum to one (so `PauliErrorModel` accepts them) and are
    non-negative -/
theorem directions_sum_to_one :
    ∀ e ∈ Generated.GuiRoutes.noiseDirections,
      e.2.1 + e.2.2.1 + e.2.2.2 = 1 ∧ 0 ≤ e.2.1 ∧ 0 ≤ e.2.2.1 ∧ 0 ≤ e.2.2.2 := by
  decide +kernel

open Generated.GuiRoutes in
/-- the requests `main.js` builds carry every field the routes read (no `KeyError` for a front-end
    request), `frontEndDecodeReq` / `frontEndNoiseReq` have exactly the keys `main.js` writes, and
    EVERY field sent is read (before the repair `channel_update` was the one field of `/decode` that
    was sent and not read) -/
theorem front_end_fields_served :
    decodeFieldsRead.all decodeFieldsSent.contains = true ∧
    newErrorsFieldsRead.all newErrorsFieldsSent.contains = true ∧
    decodeFieldsSent.filter (fun f => !decodeFieldsRead.contains f) = [] ∧
    newErrorsFieldsSent.filter (fun f => !newErrorsFieldsRead.contains f) = [] ∧
    decodeFieldsSent.filter (fun f => !oldDecodeFieldsRead.contains f) = ["channel_update"] ∧
    (∀ n lx ly lz p m a b cu syn ndn dec em cdn,
      (frontEndDecodeReq n lx ly lz p m a b cu syn ndn dec em cdn).map (·.1) = decodeFieldsSent) ∧
    (∀ n lx ly lz p ndn em cdn,
      (frontEndNoiseReq n lx ly lz p ndn em cdn).map (·.1) = newErrorsFieldsSent) := by
  refine ⟨by decide, by decide, by decide, by decide, by decide, ?_, ?_⟩
  · intros; rfl
  · intros; rfl

/-- the keyword parameters of the constructor of a menu decoder (`[]` for an unknown name) -/
def ctorParams (name : String) : List String :=
  ((Generated.GuiRoutes.decoderCtorParams.find? (·.1 == name)).map (·.2)).getD []

/-- THE OPTIONS REACH THE DECODERS: on the regenerated menu and constructor signatures, for every
    menu decoder (a) every keyword argument the route passes is a parameter of its constructor (no
    `TypeError`), and (b) EVERY option control of the menu's decoder folder (`max_bp_iter`,
    `channel_update`, `alpha`, `beta`: all controls but the decoder selector itself) is forwarded to
    exactly the decoders whose constructor has a parameter of that name -/
theorem options_forwarded :
    Generated.Gui.decoders.all (fun d =>
      ((decoderKwargs (.str d.menuName) .null .null .null none).map (·.1)).all
          (ctorParams d.menuName).contains &&
      (Generated.GuiRoutes.decoderFolderOptions.filter (· != "decoder")).all fun o =>
        (ctorParams d.menuName).contains o == (forwardedOptions d.menuName).contains o) = true := by
  decide +kernel

/-- every control of the decoder folder is a request field the route reads -/
theorem decoder_options_read :
    Generated.GuiRoutes.decoderFolderOptions.all decodeFieldsRead.contains = true := by decide +kernel

/-- THE DEFECT THAT WAS REPAIRED, regression statement on the regenerated tables: "Channel update
    (BP)" is a control of the menu's decoder folder, `main.js` sends it to `/decode` as
    `channel_update`, it IS a parameter of the constructor of the 'BP-OSD' decoder — and the OLD glue
    neither read nor forwarded it (the decoder always ran with the default `channel_update=False`;
    with `old_decode_ignores_channel_update`: ticking the box could not change the answer, although
    the library decoder's answer does change).  It was the only such control. -/
theorem old_channel_update_not_forwarded :
    "channel_update" ∈ Generated.GuiRoutes.decoderFolderOptions ∧
    "channel_update" ∈ Generated.GuiRoutes.decodeFieldsSent ∧
    "channel_update" ∈ ctorParams "BP-OSD" ∧
    "channel_update" ∉ oldDecodeFieldsRead ∧
    "channel_update" ∉ oldForwardedOptions "BP-OSD" ∧
    "channel_update" ∈ forwardedOptions "BP-OSD" ∧
    Generated.GuiRoutes.decoderFolderOptions.filter (fun o => !oldDecodeFieldsRead.contains o) =
      ["channel_update"] := by
  decide +kernel

/-- `/decoder-names` answers with `offeredDecoders` of the class the menu name denotes (so, by
    `C20.offered_iff_allowed`, exactly the decoders declaring support for it); an unknown name is a
    `KeyError` -/
theorem decoder_names_route (codes : List CodeMenu) (decs : List DecoderMenu) (content : Req) :
    (∀ l, sendDecoderNames codes decs content = .ok l ↔
      ∃ s c, getKey content "code_name" = some (.str s) ∧
        codes.find? (·.menuName == s) = some c ∧ l = offeredDecoders decs c.cls) ∧
    (∀ s, getKey content "code_name" = some (.str s) →
      codes.find? (·.menuName == s) = none →
      sendDecoderNames codes decs content = .error "KeyError") := by
  constructor
  · intro l
    constructor
    · intro h
      simp only [sendDecoderNames, bind_eq_ok, pure_eq_ok, field_eq_ok] at h
      obtain ⟨name, h1, k, h3, cls, h2, rfl⟩ := h
      unfold classOf at h2
      split at h2
      · next c hf =>
        cases h2
        cases name <;> cases h3
        exact ⟨_, c, h1, hf, rfl⟩
      · cases h2
    · rintro ⟨s, c, h1, h2, rfl⟩
      unfold sendDecoderNames
      simp only [field_of_getKey h1, ok_bind, dictKey, classOf, h2]
      rfl
  · intro s h1 h2
    unfold sendDecoderNames
    simp only [field_of_getKey h1, ok_bind, dictKey, classOf, h2]
    rfl

/-! ### non-vacuity -/

/-- a front-end request for 'Toric 2D' 3 × 4 (with the `Lz` the front end always sends), XZZX code,
    undeformed depolarizing noise, BP-OSD: -/
example :
    selectDecode Generated.Gui.codes Generated.Gui.decoders Generated.GuiRoutes.noiseDirections
      (frontEndDecodeReq "Toric 2D" (JV.i 3) (JV.i 4) (JV.i 3) (JV.d 1 1) (JV.i 20) (JV.d 4 1)
        (JV.i 0) (.bool true) (JV.ints [0, 1]) "None" "BP-OSD" "Depolarizing" "XZZX") =
    .ok ⟨⟨"Toric2DCode", [JV.i 3, JV.i 4], some (.str "XZZX")⟩, (1/3, 1/3, 1/3), .null,
         "BeliefPropagationOSDDecoder", JV.d 1 1,
         [("max_bp_iter", JV.i 20), ("osd_order", JV.i 0), ("channel_update", .bool true)],
         JV.ints [0, 1]⟩ :=
  menu_decode_selection ⟨"Toric 2D", "Toric2DCode", 2, ["XZZX", "XY"], ["face", "vertex"]⟩
    (by decide +kernel) ⟨"BP-OSD", "BeliefPropagationOSDDecoder", none⟩ (by decide +kernel)
    ("Depolarizing", (1/3, 1/3, 1/3)) (by decide +kernel) ..

/-- the split of a correction of length 2n = 6 at n = 3 -/
example : splitAnswer 3 [1, 0, 0, 0, 1, 1] =
    .obj [("x", JV.ints [1, 0, 0]), ("z", JV.ints [0, 1, 1])] := rfl
/-- a 3-D code without `Lz` -/
example : selectCode Generated.Gui.codes
    [("Lx", JV.i 2), ("Ly", JV.i 2), ("code_name", .str "Toric 3D"),
     ("code_deformation_name", .str "None")] = .error "UnboundLocalError" := by rfl
/-- a 2-D code without `Lz` is served -/
example : selectCode Generated.Gui.codes
    [("Lx", JV.i 2), ("Ly", JV.i 2), ("code_name", .str "Planar 2D"),
     ("code_deformation_name", .str "None")] = .ok ⟨"Planar2DCode", [JV.i 2, JV.i 2], none⟩ := by
  rfl
example : errorSpecCheck 2 [0, 1, 1, 0] = .ok () := by decide
example : errorSpecCheck 2 [0, 2, 1, 0] = .error "KeyError" := by decide
example : errorSpecCheck 2 [0, 1, 1] = .error "IndexError" := by decide

end Panqec.C20Routes
