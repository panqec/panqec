/-
C17 for `Planar3DCode`, ALL sizes of the supported family (`Lx, Ly, Lz ≥ 1`, no upper bound): the
distance `code.d` reports is the true code distance, `min Lx (Ly·Lz)` — for the undeformed code
and for every deformed code the class offers.

The matrices are the ones the generic code model assembles from the hand-written lattice model
`Model/Lattices/Planar3DCode.lean` (tied to `panqec/codes/surface_3d/_planar_3d_code.py` by the
correspondence streams of `harness/lattices/planar3dcode.py`); they form a valid `[[n, 1]]` code
for every size (`C01Planar3DCode.valid_code`).

* `reported_distance` — `code.d` (`distance`, the minimum Pauli weight over the rows of
  `logicals_x` and `logicals_z`, as `StabilizerCode.d` computes it) is `min Lx (Ly·Lz)`: the listed
  logical X is a line of `Lx` x-edges, the listed logical Z a plane of `Ly·Lz` x-edges
  (`weights_listed`).  (Checked against the Python: `Planar3DCode(4, 3, 2).d == 4`,
  `Planar3DCode(2, 3, 4).d == 2`, `Planar3DCode(3, 1, 2).d == 2`.)
* `lower_bound` — every non-trivial logical operator has weight `≥ min Lx (Ly·Lz)`.  Packing
  argument (`Proofs/DistLattice.lean`, `Proofs/DistCubic3D.lean`, `Proofs/DistPlanar3DCode.lean`): a
  non-trivial logical anticommutes with the listed X line or with the listed Z plane (C04).  The
  line has `Ly·Lz` lattice translates `(y, z) = (2j, 2k)` with pairwise disjoint supports (moving
  `z` by 2 multiplies by the row of xz face generators between the lines, moving `y` by the row of
  xy face generators); the plane has `Lx` translates `x = 2i + 1`, consecutive ones differing by the
  slab of vertex generators between them; generators at the open boundaries have fewer qubits.
  So every operator commuting with all generators meets all `Ly·Lz` translates of the line or all
  `Lx` translates of the plane.
* `distance` — `IsDistance n H (min Lx (Ly·Lz))`; `distance_reported` for the reported `d`.
* `distance_deformed`, `distance_deformed_offered` — the same for EVERY DEFORMED code of the class
  (`deform('XZZX', deformation_axis=ax)`, `ax ∈ {x, y, z}`; an omitted axis is `'z'` by
  `C01Planar3DCode.deformation_default_axis`; every other name or axis raises), every size
  (`C17.distance_deformation_invariant`).
-/
import PanqecVerif.Properties.C01Planar3DCode
import PanqecVerif.Proofs.DistPlanar3DCode
import PanqecVerif.Proofs.Dist
import PanqecVerif.Proofs.DistDeform

namespace Panqec.C17Planar3DCode
open Panqec.Cubic3D Panqec.Planar3DCode

/-- the number of qubits, `Lx·Ly·Lz + (Lx−1)(Ly−1)·Lz + (Lx−1)·Ly·(Lz−1)` -/
abbrev nq (Lx Ly Lz : Nat) : Nat :=
  Lx * Ly * Lz + (Lx - 1) * (Ly - 1) * Lz + (Lx - 1) * Ly * (Lz - 1)

/-- the row of `logicals_x` has Pauli weight `Lx` (a line), the row of `logicals_z` weight `Ly·Lz`
    (a plane) — every `Lx, Ly, Lz ≥ 1` -/
theorem weights_listed (Lx Ly Lz : Nat) (hLx : 1 ≤ Lx) (hLy : 1 ≤ Ly) (hLz : 1 ≤ Lz) :
    (lattice Lx Ly Lz).rowsX.map pauliWeight = [Lx] ∧
    (lattice Lx Ly Lz).rowsZ.map pauliWeight = [Ly * Lz] :=
  Planar3DCode.weights_listed (C01Planar3DCode.wf Lx Ly Lz hLx hLy hLz)

/-- what `code.d` returns — the minimum weight over the listed logical operators — is
    `min Lx (Ly·Lz)`, every `Lx, Ly, Lz ≥ 1` -/
theorem reported_distance (Lx Ly Lz : Nat) (hLx : 1 ≤ Lx) (hLy : 1 ≤ Ly) (hLz : 1 ≤ Lz) :
    Panqec.distance (lattice Lx Ly Lz).rowsX (lattice Lx Ly Lz).rowsZ =
      some (min Lx (Ly * Lz)) :=
  Planar3DCode.reported_distance (C01Planar3DCode.wf Lx Ly Lz hLx hLy hLz)

/-- no non-trivial logical operator (commutes with every generator, is not a product of
    generators) of the `Lx × Ly × Lz` 3-D planar code is lighter than `min Lx (Ly·Lz)` — every
    `Lx, Ly, Lz ≥ 1` -/
theorem lower_bound (Lx Ly Lz : Nat) (hLx : 1 ≤ Lx) (hLy : 1 ≤ Ly) (hLz : 1 ≤ Lz) :
    ∀ v, IsNontrivialLogical (nq Lx Ly Lz) (lattice Lx Ly Lz).rowsH v →
      min Lx (Ly * Lz) ≤ pauliWeight v :=
  Planar3DCode.lower_bound hLz (C01Planar3DCode.wf Lx Ly Lz hLx hLy hLz)
    (qubits_length Lx Ly Lz) (C01Planar3DCode.valid_code Lx Ly Lz hLx hLy hLz).2.2.2

/-- THE C17 STATEMENT FOR ALL SIZES (`Lx, Ly, Lz ≥ 1`): the code distance of the `Lx × Ly × Lz`
    3-D planar code — the minimum weight of a non-trivial logical operator of the assembled
    parity-check matrix — is `min Lx (Ly·Lz)` -/
theorem distance (Lx Ly Lz : Nat) (hLx : 1 ≤ Lx) (hLy : 1 ≤ Ly) (hLz : 1 ≤ Lz) :
    IsDistance (nq Lx Ly Lz) (lattice Lx Ly Lz).rowsH (min Lx (Ly * Lz)) :=
  distance_criterion (C01Planar3DCode.valid_code Lx Ly Lz hLx hLy hLz).2.2.2 (min Lx (Ly * Lz))
    (exists_listed_of_distance _ _ _ (reported_distance Lx Ly Lz hLx hLy hLz))
    (lower_bound Lx Ly Lz hLx hLy hLz)

/-- the same, stated for whatever `code.d` reports: the reported distance exists and is the
    true distance -/
theorem distance_reported (Lx Ly Lz : Nat) (hLx : 1 ≤ Lx) (hLy : 1 ≤ Ly) (hLz : 1 ≤ Lz) :
    ∃ d, Panqec.distance (lattice Lx Ly Lz).rowsX (lattice Lx Ly Lz).rowsZ = some d ∧
      IsDistance (nq Lx Ly Lz) (lattice Lx Ly Lz).rowsH d :=
  ⟨_, reported_distance Lx Ly Lz hLx hLy hLz, distance Lx Ly Lz hLx hLy hLz⟩

/-! ### deformed codes (`code.deform('XZZX', deformation_axis=ax)`) -/

/-- the class offers the deformation 'XZZX' along the axes 'x', 'y', 'z' (default 'z'): for these
    `get_deformation` is defined on every qubit of every lattice (any other name or axis raises,
    `C01Planar3DCode.deformation_other_name` / `deformation_bad_axis`) -/
theorem deformation_defined (Lx Ly Lz : Nat) (ax : Axis) (q : Coord)
    (hq : q ∈ (lattice Lx Ly Lz).qubits) :
    ∃ m, Planar3DCode.getDeformation "XZZX" (some ax.toString) q = some m := by
  obtain ⟨a, _, h⟩ := C01Planar3DCode.deformation_rule Lx Ly Lz hq ax
  exact ⟨_, h⟩

/-- THE C17 STATEMENT FOR EVERY DEFORMED CODE OF THE CLASS, ALL SIZES (`Lx, Ly, Lz ≥ 1`): for every
    deformation name and axis for which `get_deformation` is defined on the qubits (`D q` = the
    relabelling it returns on `q`), the matrices the deformed getters assemble are the relabelled
    rows, they form a valid `[[n, 1]]` code, `code.d` reports `min Lx (Ly·Lz)`, and that is the true
    distance of the deformed code -/
theorem distance_deformed (Lx Ly Lz : Nat) (hLx : 1 ≤ Lx) (hLy : 1 ≤ Ly) (hLz : 1 ≤ Lz)
    (name : String) (axis : Option String) (D : Coord → PauliMap)
    (hD : ∀ q ∈ (lattice Lx Ly Lz).qubits,
      Planar3DCode.getDeformation name axis q = some (D q)) :
    stabilizerMatrix ((lattice Lx Ly Lz).toCodeData.deform D) =
        some ((lattice Lx Ly Lz).rowsH.map (deformBsf ((lattice Lx Ly Lz).qubits.map D))) ∧
    logicalsX ((lattice Lx Ly Lz).toCodeData.deform D) =
        some ((lattice Lx Ly Lz).rowsX.map (deformBsf ((lattice Lx Ly Lz).qubits.map D))) ∧
    logicalsZ ((lattice Lx Ly Lz).toCodeData.deform D) =
        some ((lattice Lx Ly Lz).rowsZ.map (deformBsf ((lattice Lx Ly Lz).qubits.map D))) ∧
    ValidCodeL (nq Lx Ly Lz) 1
      ((lattice Lx Ly Lz).rowsH.map (deformBsf ((lattice Lx Ly Lz).qubits.map D)))
      ((lattice Lx Ly Lz).rowsX.map (deformBsf ((lattice Lx Ly Lz).qubits.map D)))
      ((lattice Lx Ly Lz).rowsZ.map (deformBsf ((lattice Lx Ly Lz).qubits.map D))) ∧
    Panqec.distance ((lattice Lx Ly Lz).rowsX.map (deformBsf ((lattice Lx Ly Lz).qubits.map D)))
      ((lattice Lx Ly Lz).rowsZ.map (deformBsf ((lattice Lx Ly Lz).qubits.map D))) =
        some (min Lx (Ly * Lz)) ∧
    IsDistance (nq Lx Ly Lz)
      ((lattice Lx Ly Lz).rowsH.map (deformBsf ((lattice Lx Ly Lz).qubits.map D)))
      (min Lx (Ly * Lz)) :=
  Lattice.deformed_distance (lattice Lx Ly Lz) (C01Planar3DCode.wf Lx Ly Lz hLx hLy hLz)
    (C01Planar3DCode.n_formula Lx Ly Lz) (C01Planar3DCode.valid_code Lx Ly Lz hLx hLy hLz).2.2.2
    (reported_distance Lx Ly Lz hLx hLy hLz) (distance Lx Ly Lz hLx hLy hLz) D
    (fun q hq => C01Planar3DCode.deformation_perm (hD q hq))

/-- the relabelling `get_deformation(·, name, axis)` as a function of the location (identity
    where it raises — nowhere on the qubits for the offered name and axes) -/
def deformationOf (name : String) (axis : Option String) (q : Coord) : PauliMap :=
  (Planar3DCode.getDeformation name axis q).getD PauliMap.id

/-- the XZZX-deformed code along every axis has distance `min Lx (Ly·Lz)` — every size -/
theorem distance_deformed_offered (Lx Ly Lz : Nat) (hLx : 1 ≤ Lx) (hLy : 1 ≤ Ly) (hLz : 1 ≤ Lz)
    (ax : Axis) :
    IsDistance (nq Lx Ly Lz)
      ((lattice Lx Ly Lz).rowsH.map (deformBsf ((lattice Lx Ly Lz).qubits.map
        (deformationOf "XZZX" (some ax.toString))))) (min Lx (Ly * Lz)) :=
  (distance_deformed Lx Ly Lz hLx hLy hLz "XZZX" (some ax.toString)
    (deformationOf "XZZX" (some ax.toString)) (fun q hq => by
      obtain ⟨m, hm⟩ := deformation_defined Lx Ly Lz ax q hq
      unfold deformationOf
      rw [hm]; rfl)).2.2.2.2.2

/-! ### non-vacuity -/

example : IsDistance 41 (lattice 2 3 4).rowsH 2 :=
  distance 2 3 4 (by decide) (by decide) (by decide)
/-- the distance is not `min Lx (min Ly Lz)`: the `4 × 3 × 2` code has distance 4 -/
example : IsDistance 45 (lattice 4 3 2).rowsH 4 :=
  distance 4 3 2 (by decide) (by decide) (by decide)
/-- … and the membrane can be the lighter one: the `3 × 1 × 2` code has distance 2 -/
example : IsDistance 8 (lattice 3 1 2).rowsH 2 :=
  distance 3 1 2 (by decide) (by decide) (by decide)
/-- the smallest member of the family: one qubit, no generator, distance 1 -/
example : IsDistance 1 (lattice 1 1 1).rowsH 1 :=
  distance 1 1 1 (by decide) (by decide) (by decide)
/-- the hypothesis of `lower_bound` is satisfiable: the listed logical X is a non-trivial
    logical operator -/
example : IsNontrivialLogical 12 (lattice 2 2 2).rowsH ((lattice 2 2 2).rowsX.getD 0 []) :=
  listedX_nontrivial (C01Planar3DCode.valid_code 2 2 2 (by decide) (by decide) (by decide)).2.2.2
    (by decide +kernel)
example : (lattice 2 3 4).rowsX.map pauliWeight = [2] ∧
    (lattice 2 3 4).rowsZ.map pauliWeight = [12] :=
  weights_listed 2 3 4 (by decide) (by decide) (by decide)
/-- the XZZX code on the `3 × 4 × 5` lattice (default axis 'z') has distance 3 -/
example : IsDistance (nq 3 4 5) ((lattice 3 4 5).rowsH.map
    (deformBsf ((lattice 3 4 5).qubits.map (deformationOf "XZZX" (some "z"))))) 3 :=
  distance_deformed_offered 3 4 5 (by decide) (by decide) (by decide) Axis.z
example : deformationOf "XZZX" (some "z") [2, 0, 1] = PauliMap.swapXZ := by decide +kernel

end Panqec.C17Planar3DCode
