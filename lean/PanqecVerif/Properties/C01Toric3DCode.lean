/-
C01 for `Toric3DCode`, ALL sizes of the supported family `2 ≤ Lx, Ly, Lz` (no bound on the size):
the hand-written lattice model `Model/Lattices/Toric3DCode.lean` (tied to the Python class by the
correspondence streams of `harness/lattices/toric3dcode.py`) is a well-formed coordinate system,
all stabilizer generators commute, the logical operators commute with the stabilizers and satisfy the
pairing table, `n = 3·Lx·Ly·Lz`, `k = 3`, and `get_deformation` follows the `XZZX` rule.

The rank clause is proved for all sizes at the operator level (`rank_family`): an explicit family
of `n − k = 3·Lx·Ly·Lz − 3` distinct generators (all vertices but the origin; the xz / yz faces
below the top layer plus a spanning tree of top-layer vertical faces; the xy faces of the layer
`z = 0` but one) is GF(2)-independent (no non-empty sub-family has even X- and Z-parity on every
location).  `valid_code` puts everything together through the generic bridges
`Proofs/OpComm.lean` (`symp (to_bsf a) (to_bsf b) = opAntiCount a b mod 2` ⇒ `CommPairL` of the
assembled rows) and `Proofs/LatRankBridge.lean` (parity-form
independent family of `n − k` distinct generators ⇒ `HasRank (2n) rowsH (n − k)`): the matrices
that `stabilizer_matrix`, `logicals_x`, `logicals_z` of the generic code model (`Model/Code.lean`,
C02) assemble from this lattice model form a valid `[[n, k]]` stabilizer code (`ValidCodeL`: all
four clauses of C01, rank included) for EVERY size of the family.
-/
import PanqecVerif.Proofs.LatToric3DCodeRank
import PanqecVerif.Proofs.LatRankBridge

namespace Panqec.C01Toric3DCode
open Panqec.Cubic3D Panqec.Toric3DCode

/-- Well-formedness for every supported size: qubit / stabilizer coordinates are distinct and
    disjoint, every `get_stabilizer(loc)` and every logical operator is a dict (distinct keys)
    supported on qubits with letters ≠ I, and no stabilizer is empty. -/
theorem wf (Lx Ly Lz : Nat) (hLx : 2 ≤ Lx) (hLy : 2 ≤ Ly) (hLz : 2 ≤ Lz) :
    (lattice Lx Ly Lz).WF :=
  (css hLx hLy hLz).wf

/-- The operator-level C01 clauses other than rank, for every supported size: any two stabilizer
    generators commute; every logical X / Z commutes with every generator; there are as many
    logical X as logical Z; `X_i` anticommutes with `Z_j` exactly when `i = j`; logical X's commute
    with each other, and so do logical Z's. -/
theorem commPair (Lx Ly Lz : Nat) (hLx : 2 ≤ Lx) (hLy : 2 ≤ Ly) (hLz : 2 ≤ Lz) :
    (lattice Lx Ly Lz).CommPair :=
  (css hLx hLy hLz).commPair

/-- `n = 3·Lx·Ly·Lz` (every size, supported or not). -/
theorem n_formula (Lx Ly Lz : Nat) : (lattice Lx Ly Lz).toCodeData.n = 3 * (Lx * Ly * Lz) := by
  simp only [Lattice.toCodeData, CodeData.n, lattice_qubits]; exact qubits_length Lx Ly Lz

/-- the number of stabilizer generators is `4·Lx·Ly·Lz` (every size). -/
theorem n_stabilizers_formula (Lx Ly Lz : Nat) :
    (lattice Lx Ly Lz).toCodeData.stabs.length = 4 * (Lx * Ly * Lz) := by
  simp only [Lattice.toCodeData, lattice_stabs]; exact stabs_length Lx Ly Lz

/-- `k = 3` (every size). -/
theorem k_value (Lx Ly Lz : Nat) : (lattice Lx Ly Lz).toCodeData.k = 3 := by
  simp only [Lattice.toCodeData, CodeData.k, lattice_logX]; rfl

/-- The rank clause for every supported size: `rankFamily` (see `Proofs/LatToric3DCodeRank.lean`)
    is a list of `n − k` distinct stabilizer locations whose operators are GF(2)-independent: no
    non-empty sub-family multiplies to the identity (even X-parity and even Z-parity on every
    location). -/
theorem rank_family (Lx Ly Lz : Nat) (hLx : 2 ≤ Lx) (hLy : 2 ≤ Ly) (hLz : 2 ≤ Lz) :
    ∃ B : List Coord, B.Nodup ∧ (∀ s ∈ B, s ∈ (lattice Lx Ly Lz).stabs) ∧
      B.length = (lattice Lx Ly Lz).toCodeData.n - (lattice Lx Ly Lz).toCodeData.k ∧
      OpsIndep (B.map (lattice Lx Ly Lz).getStab) := by
  refine ⟨rankFamily Lx Ly Lz, rankFamily_nodup, ?_, ?_, ?_⟩
  · rw [lattice_stabs]; exact rankFamily_sub (by omega) (by omega) (by omega)
  · rw [k_value]
    simp only [Lattice.toCodeData, CodeData.n, lattice_qubits]
    exact rankFamily_length (by omega) (by omega) (by omega)
  · rw [lattice_getStab]; exact rankFamily_indep hLx hLy hLz

/-- THE C01 STATEMENT FOR ALL SIZES (`Lx, Ly, Lz ≥ 2`): `stabilizer_matrix`, `logicals_x`,
    `logicals_z` of the generic code model, applied to this lattice model, return (no `KeyError`)
    matrices that form a valid `[[n, k]] = [[3·Lx·Ly·Lz, 3]]` stabilizer code: generators pairwise
    commute, logicals commute with the generators, `ω(X_i, Z_j) = δ_ij`,
    `ω(X_i, X_j) = ω(Z_i, Z_j) = 0`, and the generators have GF(2) rank `n − k` -/
theorem valid_code (Lx Ly Lz : Nat) (hLx : 2 ≤ Lx) (hLy : 2 ≤ Ly) (hLz : 2 ≤ Lz) :
    stabilizerMatrix (lattice Lx Ly Lz).toCodeData = some (lattice Lx Ly Lz).rowsH ∧
    logicalsX (lattice Lx Ly Lz).toCodeData = some (lattice Lx Ly Lz).rowsX ∧
    logicalsZ (lattice Lx Ly Lz).toCodeData = some (lattice Lx Ly Lz).rowsZ ∧
    ValidCodeL (3 * (Lx * Ly * Lz)) 3
      (lattice Lx Ly Lz).rowsH (lattice Lx Ly Lz).rowsX (lattice Lx Ly Lz).rowsZ := by
  obtain ⟨B, hnd, hsub, hlen, hind⟩ := rank_family Lx Ly Lz hLx hLy hLz
  have h := validCode_of_opsIndep (lattice Lx Ly Lz) (wf Lx Ly Lz hLx hLy hLz)
    (commPair Lx Ly Lz hLx hLy hLz) B hnd hsub hlen hind
  rw [n_formula, k_value] at h
  exact h

/-- CSS structure for every supported size: a stabilizer location is a `'vertex'` whose operator carries only Z
    (on exactly 6 qubits) or a `'face'` whose operator carries only X (on exactly 4 qubits). -/
theorem stabilizer_shape (Lx Ly Lz : Nat) (hLx : 2 ≤ Lx) (hLy : 2 ≤ Ly) (hLz : 2 ≤ Lz) {s : Coord}
    (hs : s ∈ (lattice Lx Ly Lz).stabs) :
    (Toric3DCode.stabilizerType Lx Ly Lz s = some StabType.vertex ∧
      ∃ ks, (lattice Lx Ly Lz).getStab s = uop ks Pauli.Z ∧ ks.length = 6) ∨
    (Toric3DCode.stabilizerType Lx Ly Lz s = some StabType.face ∧
      ∃ ks, (lattice Lx Ly Lz).getStab s = uop ks Pauli.X ∧ ks.length = 4) := by
  rw [lattice_stabs] at hs
  rw [lattice_getStab]
  exact stab_shape hLx hLy hLz hs

/-- `get_deformation('XZZX', axis)` on every qubit of every size: the qubit has an axis (x, y, z
    for the three blocks of `get_qubit_coordinates`), and the deformation is X↔Z exactly on the
    qubits whose axis is the deformation axis, the identity elsewhere. -/
theorem deformation_rule (Lx Ly Lz : Nat) {q : Coord} (hq : q ∈ (lattice Lx Ly Lz).qubits)
    (ax : Axis) :
    ∃ a, Toric3DCode.qubitAxis q = some a ∧
      Toric3DCode.getDeformation "XZZX" (some ax.toString) q =
        some (if a = ax then PauliMap.swapXZ else PauliMap.id) := by
  rw [lattice_qubits] at hq
  obtain ⟨x, y, z, rfl⟩ := shape_of_mem_qubits hq
  refine ⟨_, qubitAxis_of_mem_qubits hq, ?_⟩
  unfold Toric3DCode.getDeformation
  rw [getDeformation_xzzx]
  have := qubitAxis_of_mem_qubits hq
  unfold Toric3DCode.qubitAxis at this
  rw [this]; rfl

/-- the axis of a qubit is the direction of its edge: odd x / odd y / odd z coordinate -/
theorem qubit_axis_rule (Lx Ly Lz : Nat) {x y z : Int} (hq : [x, y, z] ∈ (lattice Lx Ly Lz).qubits) :
    Toric3DCode.qubitAxis [x, y, z] =
      some (if x % 2 = 1 then Axis.x else if y % 2 = 1 then Axis.y else Axis.z) := by
  rw [lattice_qubits] at hq; exact qubitAxis_of_mem_qubits hq

/-- the default `deformation_axis` is `'y'` -/
theorem deformation_default_axis (name : String) (loc : Coord) :
    Toric3DCode.getDeformation name none loc = Toric3DCode.getDeformation name (some "y") loc := rfl

/-- any deformation name other than `'XZZX'` is rejected (`ValueError`), in particular `'XY'` -/
theorem deformation_other_name {name : String} (h : name ≠ "XZZX") (axis : Option String)
    (loc : Coord) : Toric3DCode.getDeformation name axis loc = none :=
  getDeformation_bad_name _ h axis loc

/-- an axis other than `'x'`, `'y'`, `'z'` is rejected (`ValueError`) -/
theorem deformation_bad_axis (name : String) {s : String} (h : Axis.ofString? s = none)
    (loc : Coord) : Toric3DCode.getDeformation name (some s) loc = none :=
  getDeformation_bad_axis _ name h loc

/-- whatever `get_deformation` returns is a permutation of {X, Y, Z} (so C08 applies) -/
theorem deformation_perm {name : String} {axis : Option String} {loc : Coord} {m : PauliMap}
    (h : Toric3DCode.getDeformation name axis loc = some m) : m.isPerm = true :=
  getDeformation_isPerm h

/-! ### non-vacuity: the hypotheses are satisfiable and the model computes non-trivial data -/

example : (lattice 2 3 4).WF := wf 2 3 4 (by decide) (by decide) (by decide)
example : (lattice 2 3 4).CommPair := commPair 2 3 4 (by decide) (by decide) (by decide)
example : (lattice 2 3 4).toCodeData.n = 72 := n_formula 2 3 4
example : (rankFamily 2 3 4).length = 69 := by decide +kernel
example : ValidCodeL 72 3 (lattice 2 3 4).rowsH (lattice 2 3 4).rowsX (lattice 2 3 4).rowsZ :=
  (valid_code 2 3 4 (by decide) (by decide) (by decide)).2.2.2
example : HasRank (2 * 24) (lattice 2 2 2).rowsH 21 :=
  (valid_code 2 2 2 (by decide) (by decide) (by decide)).2.2.2.rank
example : getStab 2 2 2 [0, 0, 0] =
    [([3, 0, 0], .Z), ([1, 0, 0], .Z), ([0, 3, 0], .Z), ([0, 1, 0], .Z), ([0, 0, 3], .Z),
     ([0, 0, 1], .Z)] := by decide +kernel
example : getStab 2 2 2 [3, 3, 0] =
    [([2, 3, 0], .X), ([0, 3, 0], .X), ([3, 2, 0], .X), ([3, 0, 0], .X)] := by decide +kernel
/-- outside the family the dict overwrite is visible: at `Lx = 1` a vertex has 5 qubits, not 6 -/
example : (getStab 1 2 2 [0, 0, 0]).length = 5 := by decide +kernel
example : opAntiCount ((logX 2 2 2).getD 0 []) ((logZ 2 2 2).getD 0 []) = 1 := by decide +kernel
example : Toric3DCode.getDeformation "XZZX" (some "x") [1, 0, 0] = some PauliMap.swapXZ := by decide +kernel
example : Toric3DCode.getDeformation "XZZX" none [1, 0, 0] = some PauliMap.id := by decide +kernel
example : Toric3DCode.getDeformation "XY" none [1, 0, 0] = none := by decide +kernel

end Panqec.C01Toric3DCode
