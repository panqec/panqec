/-
C18, last clause — "the Metropolis step of the splitting method therefore uses true
likelihood ratios": the body of `SplittingSimulation`
(`panqec/simulation/_splitting_simulation.py`, model `Model/Splitting.lean`).

Property theorems only (helper lemmas: `Proofs/SplittingStep.lean`, `Proofs/SplittingRun.lean`,
`Proofs/SplittingEst.lean`).  Quantifiers: every code (any `H`, `Lx`, `Lz`), every decoder
(any function of the syndrome, one per error rate), every list `ds` of per-qubit
distributions (so: every error rate, direction and deformation — `ds` is what
`probability_distribution` returns, C07), every previous error, every draw.

What holds: (a) each step accepts with probability `min(1, P(e')/P(e))` of the product-form
probabilities of C18 and moves only into the failure set; (b) the step is in detailed
balance with the product distribution restricted to that set; (d) the bookkeeping of
`_run` / `get_results`.  What does NOT hold: (c) the estimator
`compute_logical_probabilities` forms `exp(log P_j(e) − log P_{j+1}(e'))` for two DIFFERENT
errors `e`, `e'` (the current errors of two independent chains), not a likelihood ratio of
one error; the telescoping algebra is right, the factors are not
(`estimator_is_not_the_acceptance_ratio`).
-/
import PanqecVerif.Proofs.SplittingRun
import PanqecVerif.Proofs.SplittingEst

namespace Panqec.C18Splitting

open Panqec Panqec.Split

/-- A call from a previous error of non-zero probability: the proposal is the previous
    error times the drawn letter on the drawn qubit; the acceptance probability is
    `min(1, P(new)/P(previous))` with `P` the per-qubit product of C18 — equivalently the
    ratio of the two single-qubit probabilities on the changed qubit; the coin is 1 exactly
    for variates in `[1-q, 1)`; the chain moves iff the coin is 1 and the proposal does not
    decode successfully; the pair returned is (error, its probability at this rate). -/
theorem chain_step_uses_likelihood_ratio (dt : DType) (c : Sim.CodeMats)
    (decode : List Nat → List Nat) (rate : Rat) (ds : List Dist) (s : List Pauli) (d : Draw)
    (dq : Dist) (σ τ : Pauli) (hs : s.length = ds.length) (hr : Sim.rateOk rate = true)
    (hq : ds[d.idx]? = some dq) (hτ : s[d.idx]? = some τ)
    (hσ : (proposalLetters dq)[d.letter]? = some σ) (hpos : stringProb ds s ≠ 0) :
    ∃ tr, getNextError dt c ds.length decode rate ds (pauliToBsf s) d = .ok tr ∧
      tr.proposed = pauliToBsf (s.set d.idx (σ.mul τ)) ∧
      tr.q = min 1 (stringProb ds (s.set d.idx (σ.mul τ)) / stringProb ds s) ∧
      tr.q = min 1 (dq.get (σ.mul τ) / dq.get τ) ∧
      tr.coin = decide (1 - tr.q ≤ d.u) ∧
      tr.accepted = (tr.coin && fails dt c decode tr.proposed) ∧
      tr.next = (if tr.accepted then tr.proposed else pauliToBsf s) ∧
      tr.pNext = (if tr.accepted then stringProb ds (s.set d.idx (σ.mul τ)) else stringProb ds s) := by
  refine ⟨_, getNextError_pauli dt c decode rate ds s d dq σ τ hs hr hq hτ hσ, rfl, ?_, ?_, rfl, rfl, rfl, rfl⟩
  · exact acceptQ_eq_min _ _ hpos
  · show acceptQ _ _ = _
    rw [acceptQ_eq_min _ _ hpos, stringProb_ratio ds s d.idx dq τ (σ.mul τ) hq hτ hpos]

/-- the same for the channel as stated (C07): on an undeformed qubit the ratio is formed from
    `(1-p, r_x p, r_y p, r_z p)`, on a deformed qubit from the same numbers permuted by that
    qubit's deformation — for every rate, direction and (permutation) deformation -/
theorem chain_step_stated_channel (dt : DType) (c : Sim.CodeMats) (decode : List Nat → List Nat)
    (p rx ry rz : Rat) (n : Nat) (Ds : Option (List PauliMap)) (ds : List Dist)
    (hds : probabilityDistribution p rx ry rz n Ds = some ds)
    (s : List Pauli) (d : Draw) (dq : Dist) (σ τ : Pauli) (hs : s.length = ds.length)
    (hr : Sim.rateOk p = true) (hq : ds[d.idx]? = some dq) (hτ : s[d.idx]? = some τ)
    (hσ : (proposalLetters dq)[d.letter]? = some σ) (hpos : stringProb ds s ≠ 0) :
    ∃ tr, getNextError dt c ds.length decode p ds (pauliToBsf s) d = .ok tr ∧
      tr.q = min 1 (dq.get (σ.mul τ) / dq.get τ) ∧
      (Ds = none → dq = baseDist p rx ry rz) ∧
      (∀ L, Ds = some L → (∀ D ∈ L, D.isPerm = true) →
        ∃ D, L[d.idx]? = some D ∧ dq = permDist D (baseDist p rx ry rz)) := by
  obtain ⟨tr, h1, _, _, h4, _⟩ :=
    chain_step_uses_likelihood_ratio dt c decode p ds s d dq σ τ hs hr hq hτ hσ hpos
  refine ⟨tr, h1, h4, ?_, ?_⟩
  · rintro rfl
    cases hds
    exact (List.mem_replicate.mp (List.mem_of_getElem? hq)).2
  · rintro L rfl hperm
    simp only [probabilityDistribution] at hds
    rw [mapM_deformDist_of_perm _ L hperm, Option.some.injEq] at hds
    subst hds
    rw [List.getElem?_map] at hq
    obtain ⟨D, hL, rfl⟩ := Option.map_eq_some_iff.mp hq
    exact ⟨D, hL, rfl⟩

/-- a previous error of probability 0 (`log = -inf`; only at rate 1): the difference of logs
    is `+inf` or `nan`, `min(0, ·)` is 0, the proposal is accepted with probability 1 -/
theorem chain_step_from_impossible_error (dt : DType) (c : Sim.CodeMats)
    (decode : List Nat → List Nat) (rate : Rat) (ds : List Dist) (s : List Pauli) (d : Draw)
    (dq : Dist) (σ τ : Pauli) (hs : s.length = ds.length) (hr : Sim.rateOk rate = true)
    (hq : ds[d.idx]? = some dq) (hτ : s[d.idx]? = some τ)
    (hσ : (proposalLetters dq)[d.letter]? = some σ) (h0 : stringProb ds s = 0) :
    ∃ tr, getNextError dt c ds.length decode rate ds (pauliToBsf s) d = .ok tr ∧ tr.q = 1 := by
  refine ⟨_, getNextError_pauli dt c decode rate ds s d dq σ τ hs hr hq hτ hσ, ?_⟩
  show acceptQ _ _ = 1
  simp [acceptQ, h0]

/-- the guard on the error rate comes before any draw -/
theorem chain_step_rate_guard (dt : DType) (c : Sim.CodeMats) (n : Nat) (decode : List Nat → List Nat)
    (rate : Rat) (ds : List Dist) (prev : List Nat) (d : Draw) (h : ¬ (0 ≤ rate ∧ rate ≤ 1)) :
    getNextError dt c n decode rate ds prev d = .error .rate := by
  apply getNextError_rate
  simpa [Sim.rateOk] using h

/-- a qubit on which X, Y and Z all have probability 0 (rate 0): `np.random.choice([])` raises -/
theorem chain_step_no_candidate_letter (dt : DType) (c : Sim.CodeMats) (n : Nat)
    (decode : List Nat → List Nat) (rate : Rat) (ds : List Dist) (prev : List Nat) (d : Draw)
    (dq : Dist) (hr : Sim.rateOk rate = true) (hq : ds[d.idx]? = some dq)
    (h0 : dq.x = 0 ∧ dq.y = 0 ∧ dq.z = 0) :
    getNextError dt c n decode rate ds prev d = .error .noLetters := by
  simp [getNextError, hr, hq, proposalLetters, h0.1, h0.2.1, h0.2.2]

/-- whatever the call, the value returned with the error is that error's probability at the
    chain's own rate (this is what `_run` appends to `log_p_errors[i_p]`) -/
theorem returned_value_is_probability_of_returned_error (dt : DType) (c : Sim.CodeMats) (n : Nat)
    (decode : List Nat → List Nat) (rate : Rat) (ds : List Dist) (prev : List Nat) (d : Draw)
    (t : StepTrace) (h : getNextError dt c n decode rate ds prev d = .ok t) :
    errorProbability ds t.next = some t.pNext :=
  getNextError_pNext dt c n decode rate ds prev d t h

/-- the acceptance probability is a probability -/
theorem acceptance_probability_in_unit_interval (a b : Rat) (ha : 0 ≤ a) (hb : 0 ≤ b) :
    0 ≤ acceptQ a b ∧ acceptQ a b ≤ 1 := by
  by_cases h0 : a = 0
  · subst h0; simp [acceptQ]
  · rw [acceptQ_eq_min a b h0]
    exact ⟨le_min zero_le_one (div_nonneg hb ha), min_le_left _ _⟩

/-- the set of coin variates on which a call moves is the interval `[1 - q, 1)` (of length
    `q`) when the proposal fails to decode, and empty otherwise -/
theorem moves_iff_variate_in_interval (dt : DType) (c : Sim.CodeMats) (n : Nat)
    (decode : List Nat → List Nat) (rate : Rat) (ds : List Dist) (prev : List Nat) (d : Draw)
    (t : StepTrace) (h : getNextError dt c n decode rate ds prev d = .ok t) :
    t.accepted = true ↔ (1 - t.q ≤ d.u ∧ fails dt c decode t.proposed = true) := by
  obtain ⟨dq, σ, a, b, _, _, _, _, _, rfl⟩ := getNextError_inv dt c n decode rate ds prev d t h
  simp [traceOf, coin]

/-- The set the chain is conditioned on: `fails dt c decode e`, i.e. decoding `e` with this
    chain's decoder does NOT succeed in the sense of `run_once` (C11) — a logical error or a
    residual syndrome. -/
theorem failure_set_is_complement_of_success (dt : DType) (c : Sim.CodeMats)
    (decode : List Nat → List Nat) (e : List Nat) :
    fails dt c decode e = !(Sim.classify dt c e decode).success := by
  have hany : ∀ l : List Nat, l.any (· != 0) = !l.all (· == 0) := fun l => by
    rw [List.not_all_eq_any_not]; rfl
  simp only [fails, failTest, Test.fails, Sim.classify, isLogicalError, hany]
  cases (logicalErrors dt c.Lx c.Lz (vxor (decode (measureSyndrome c.H e)) e)).all (· == 0) <;> simp

/-- Detailed balance of one step with respect to `target = P · 1[failure set]`, for every
    single-qubit move `(i, σ)`: `target(s) · K(s → s·σ_i) = target(s·σ_i) · K(s·σ_i → s)`, where
    `K` = (1/n)(1/#candidate letters)(acceptance probability)·1[destination fails]
    (`moveProb`).  Division-free, valid also when probabilities vanish. -/
theorem metropolis_detailed_balance (ds : List Dist) (F : List Pauli → Bool) (s : List Pauli)
    (i : Nat) (σ τ : Pauli) (hnn : ∀ d ∈ ds, ∀ ρ, 0 ≤ d.get ρ) (hτ : s[i]? = some τ) :
    target ds F s * moveProb ds F s i σ =
      target ds F (s.set i (σ.mul τ)) * moveProb ds F (s.set i (σ.mul τ)) i σ := by
  have hi := (List.getElem?_eq_some_iff.mp hτ).1
  have ht : (s.set i (σ.mul τ))[i]? = some (σ.mul τ) := by simp [hi]
  unfold moveProb target
  rw [ht, hτ]
  cases ds[i]? with
  | none => simp
  | some dq =>
    have hs := stringProb_nonneg ds s hnn
    have ht := stringProb_nonneg ds (s.set i (σ.mul τ)) hnn
    have h : stringProb ds s * acceptQ (stringProb ds s) (stringProb ds (s.set i (σ.mul τ))) =
        stringProb ds (s.set i (σ.mul τ)) *
          acceptQ (stringProb ds (s.set i (σ.mul τ))) (stringProb ds s) := by
      rw [mul_acceptQ _ _ hs ht, mul_acceptQ _ _ ht hs, min_comm]
    simp only [set_set_self s i σ τ hτ]
    by_cases hσ : σ ∈ proposalLetters dq <;> by_cases hFs : F s = true <;>
      by_cases hFt : F (s.set i (σ.mul τ)) = true <;>
      simp only [hσ, hFs, hFt, and_self, and_false, false_and, if_true, if_false, zero_mul, mul_zero,
        Bool.false_eq_true]
    rw [mul_left_comm, h, mul_left_comm]

/-- the reverse move uses the same qubit and the same letter -/
theorem reverse_move (s : List Pauli) (i : Nat) (σ τ : Pauli) (h : s[i]? = some τ) :
    (s.set i (σ.mul τ)).set i (σ.mul (σ.mul τ)) = s :=
  set_set_self s i σ τ h

/-- Stationarity, summed form: for any list `M` of moves, the mass flowing into `s` along the
    reverses of `M` plus the mass that stays equals `target s` when the staying probability is
    `1 - Σ_M K(s → ·)`. -/
theorem metropolis_stationary (ds : List Dist) (F : List Pauli → Bool) (s : List Pauli)
    (M : List (Nat × Pauli)) (hnn : ∀ d ∈ ds, ∀ ρ, 0 ≤ d.get ρ) (hM : ∀ m ∈ M, m.1 < s.length) :
    ratSum (M.map fun m => target ds F (s.set m.1 (m.2.mul (s[m.1]?.getD .I))) *
        moveProb ds F (s.set m.1 (m.2.mul (s[m.1]?.getD .I))) m.1 m.2) +
      target ds F s * (1 - ratSum (M.map fun m => moveProb ds F s m.1 m.2)) = target ds F s := by
  induction M with
  | nil => simp [ratSum]
  | cons m M ih =>
    have hτ : s[m.1]? = some (s[m.1]?.getD .I) := by
      rw [List.getElem?_eq_getElem (hM m (by simp))]; rfl
    -- the mass entering along the reverse of `m` is the mass leaving along `m`
    have := metropolis_detailed_balance ds F s m.1 m.2 _ hnn hτ
    have ih := ih fun x hx => hM x (by simp [hx])
    simp only [List.map_cons, ratSum] at ih ⊢
    linarith

/-- once a chain is in the failure set of its decoder it never leaves it -/
theorem chain_stays_in_failure_set (dt : DType) (c : Sim.CodeMats) (n : Nat)
    (decode : List Nat → List Nat) (rate : Rat) (ds : List Dist) (prev : List Nat) (d : Draw)
    (t : StepTrace) (h : getNextError dt c n decode rate ds prev d = .ok t)
    (hp : fails dt c decode prev = true) : fails dt c decode t.next = true :=
  getNextError_stays dt c n decode rate ds prev d t h hp

/-- every move ends in the failure set of the moving chain's own decoder, wherever it started -/
theorem every_move_ends_in_failure_set (cfg : Cfg) (draws : Nat → Draw) (s s' : State) (j : Nat)
    (rate : Rat) (t : StepTrace) (h : chainStep cfg draws s j rate = .ok (s', t))
    (hacc : t.accepted = true) :
    ∃ dec, cfg.decoders[j]? = some dec ∧ s'.current[j]? = some t.next ∧
      fails cfg.dt cfg.code dec t.next = true := by
  obtain ⟨dec, prev, ds, hdec, hcur, _, hg, rfl⟩ := chainStep_inv h
  have hjlt := (List.getElem?_eq_some_iff.mp hcur).1
  have := (getNextError_next _ _ _ _ _ _ _ _ _ hg).1 hacc
  exact ⟨dec, hdec, by simp [List.getElem?_set_self hjlt], by rw [this.1]; exact this.2.1⟩

/-- the initial error (the same for all chains) is checked against `decoders[0]` only: it is
    in the failure set of the first decoder; nothing is checked for the other decoders -/
theorem initial_error_fails_first_decoder (cfg : Cfg) (cur : List (List Nat))
    (h : initialise cfg = .ok cur) :
    cur.length = cfg.rates.length ∧
    ∀ dec e, cfg.decoders[0]? = some dec → e ∈ cur → fails cfg.dt cfg.code dec e = true :=
  initialise_spec cfg cur h

/-- confinement is preserved by every step of every chain -/
theorem confinement_preserved (cfg : Cfg) (draws : Nat → Draw) (s s' : State) (j i : Nat) (rate : Rat)
    (t : StepTrace) (hc : Confined cfg s i) (h : chainStep cfg draws s j rate = .ok (s', t)) :
    Confined cfg s' i := by
  obtain ⟨dec, prev, ds, hdec, hcur, _, hg, rfl⟩ := chainStep_inv h
  intro dec' cur hd hcu
  by_cases hij : j = i
  · subst hij
    rw [List.getElem?_set_self (List.getElem?_eq_some_iff.mp hcur).1] at hcu
    cases hcu
    cases hdec.symm.trans hd
    exact getNextError_stays _ _ _ _ _ _ _ _ _ hg (hc dec prev hdec hcur)
  · rw [List.getElem?_set_ne hij] at hcu
    exact hc dec' cur hd hcu

/-- after `_run(k)` on a fresh object: `n_runs = k`, one list per error rate in
    `log_p_errors`, each of length `k`, one current error per rate, `3·k·len(error_rates)`
    draws consumed (`k·len(error_rates)` calls), `logical_error_rates` still `[]` -/
theorem run_lengths (cfg : Cfg) (draws : Nat → Draw) (k : Nat) (s' : State) (tr : List StepTrace)
    (h : runTr cfg draws k (State.init cfg) = .ok (s', tr)) :
    s'.nRuns = k ∧ s'.logP.length = cfg.rates.length ∧ (∀ l ∈ s'.logP, l.length = k) ∧
      s'.current.length = cfg.rates.length ∧ s'.pos = k * cfg.rates.length ∧
      tr.length = k * cfg.rates.length ∧ s'.pEst = none := by
  obtain ⟨hw, hn, ht, hp⟩ := runTr_init cfg draws k s' tr h
  exact ⟨hn, hw.logLen, by simpa [hn] using hw.rows, hw.curLen, by simpa [hn] using hw.pos, ht, hp⟩

/-- `_run(a)` then `_run(b)` is `_run(a + b)`: same state, same sequence of steps -/
theorem interleaving_irrelevant (cfg : Cfg) (draws : Nat → Draw) (a b : Nat) (s1 s2 : State)
    (tr1 tr2 : List StepTrace) (hne : cfg.rates ≠ [])
    (h1 : runTr cfg draws a (State.init cfg) = .ok (s1, tr1))
    (h2 : runTr cfg draws b s1 = .ok (s2, tr2)) :
    runTr cfg draws (a + b) (State.init cfg) = .ok (s2, tr1 ++ tr2) :=
  runTr_add cfg draws a b (State.init cfg) s1 s2 tr1 tr2 hne (Or.inl rfl) h1 h2

/-- the last value recorded for a chain is the probability, at that chain's rate, of the
    error the chain is in (invariant of every chain step) -/
theorem recorded_value_is_probability_of_current_error (cfg : Cfg) (draws : Nat → Draw)
    (s s' : State) (j : Nat) (rate : Rat) (t : StepTrace) (hr : Rec cfg s)
    (h : chainStep cfg draws s j rate = .ok (s', t)) : Rec cfg s' := by
  obtain ⟨dec, prev, ds, _, hcur, hds, hg, rfl⟩ := chainStep_inv h
  intro i ds' cur l hd hc hl x hx
  by_cases hij : j = i
  · subst hij
    rw [List.getElem?_set_self (List.getElem?_eq_some_iff.mp hcur).1] at hc
    cases hc
    cases hds.symm.trans hd
    -- the row of chain `j` is the old row with `t.pNext` appended
    simp only [List.getElem?_modify, if_true] at hl
    obtain ⟨l0, -, rfl⟩ := Option.map_eq_some_iff.mp hl
    simp only [List.getLast?_append, List.getLast?_singleton, Option.some_or, Option.some.injEq] at hx
    subst hx
    exact getNextError_pNext _ _ _ _ _ _ _ _ _ hg
  · rw [List.getElem?_set_ne hij] at hc
    simp only [List.getElem?_modify, hij, if_false, id_map'] at hl
    exact hr i ds' cur l hd hc hl x hx

/-- … so after any `_run(k)` on a fresh object, for every chain, the last entry of its
    `log_p_errors` list is the probability — at THAT chain's rate — of THAT chain's current
    error: what the estimator later subtracts are log-probabilities of different errors -/
theorem run_records_own_rate_probability_of_own_error (cfg : Cfg) (draws : Nat → Draw) (k : Nat)
    (s' : State) (tr : List StepTrace) (h : runTr cfg draws k (State.init cfg) = .ok (s', tr)) :
    ∀ (i : Nat) (ds : List Dist) (cur : List Nat) (l : List Rat), cfg.dists[i]? = some ds →
      s'.current[i]? = some cur → s'.logP[i]? = some l →
      ∀ x, l.getLast? = some x → errorProbability ds cur = some x :=
  runTr_init_preserves cfg draws (Rec cfg)
    (fun s s1 j rate t => recorded_value_is_probability_of_current_error cfg draws s s1 j rate t)
    (fun _ _ hp => hp) (fun cur _ i ds c l _ _ hl x hx => by
      -- every list of `log_p_errors` is still empty
      simp only [State.init, List.getElem?_replicate] at hl
      split at hl
      · cases hl; simp at hx
      · cases hl) k s' tr h

/-- the chain at the highest rate (chain 0, decoder 0) is inside the failure set of its decoder
    after every `_run(k)` on a fresh object; so is every chain `i` whose decoder also fails on
    the common initial error -/
theorem run_keeps_chains_in_failure_set (cfg : Cfg) (draws : Nat → Draw) (k : Nat) (i : Nat)
    (s' : State) (tr : List StepTrace) (h : runTr cfg draws k (State.init cfg) = .ok (s', tr))
    (hi : i = 0 ∨ ∀ cur dec e, initialise cfg = .ok cur → cfg.decoders[i]? = some dec → e ∈ cur →
      fails cfg.dt cfg.code dec e = true) :
    Confined cfg s' i := by
  refine runTr_init_preserves cfg draws (fun s => Confined cfg s i)
    (fun s s1 j rate t => confinement_preserved cfg draws s s1 j i rate t)
    (fun _ _ hp => hp) ?_ k s' tr h
  intro cur hcur dec e hd he
  have hmem : e ∈ cur := List.mem_of_getElem? he
  rcases hi with h0 | hall
  · subst h0
    exact (initialise_spec cfg cur hcur).2 dec e hd hmem
  · exact hall cur dec e hcur hd hmem

/-- `get_results()` before `postprocess()` raises (`1 - []`): and nothing in `_run` or in the
    batch layer calls `postprocess` -/
theorem get_results_before_postprocess_raises (cfg : Cfg) (draws : Nat → Draw) (k : Nat)
    (s' : State) (tr : List StepTrace) (h : runTr cfg draws k (State.init cfg) = .ok (s', tr)) :
    getResults cfg s' = .error .type := by
  have := (run_lengths cfg draws k s' tr h).2.2.2.2.2.2
  simp [getResults, this]

/-- after `_run(k)` and `postprocess()`: `get_results()` reports `n_runs = k`, the error rates
    in descending order as stored, and one `p_est` / `p_se` entry per error rate; the first
    entry of `p_est` is the direct Monte-Carlo estimate at the highest rate -/
theorem get_results_consistent (cfg : Cfg) (draws : Nat → Draw) (u : Nat → Rat) (k : Nat)
    (s1 s2 : State) (tr : List StepTrace) (h1 : runTr cfg draws k (State.init cfg) = .ok (s1, tr))
    (h2 : postprocess cfg u s1 = .ok s2) :
    ∃ r p0 rest, getResults cfg s2 = .ok r ∧ r.nRuns = k ∧ r.errorRates = cfg.rates ∧
      r.pEst.length = cfg.rates.length ∧ r.seRadicand.length = cfg.rates.length ∧
      initialLogicalP cfg u = .ok p0 ∧ r.pEst = p0 :: rest := by
  obtain ⟨hw, hn, _, _⟩ := runTr_init cfg draws k s1 tr h1
  obtain ⟨p0, l, hi, ht, rfl⟩ := postprocess_inv h2
  have hl := telescope_length cfg.startRun s1.logP p0 l ht
  have hne : cfg.rates.length ≠ 0 := fun h0 => by
    simp [initialLogicalP, List.length_eq_zero_iff.mp h0] at hi
  have hlen : (p0 :: l).length = cfg.rates.length := by
    rw [List.length_cons, hl, hw.logLen]; omega
  exact ⟨_, p0, l, rfl, hn, rfl, hlen, by simpa using hlen, hi, rfl⟩

/-- every sample contributes exactly 1 to `lhs + rhs` (`g(x) + g(1/x) = 1`): the balance
    `lhs = rhs` that `compute_optimal_c` looks for is `lhs = N/2` -/
theorem lhs_plus_rhs_is_sample_count (c : Rat) (hc : 0 < c) (ab : List (Rat × Rat))
    (h : ∀ p ∈ ab, 0 < p.1 ∧ 0 < p.2) : lhs c ab + rhs c ab = (ab.length : Rat) :=
  lhs_add_rhs c hc ab h

/-- `lhs - rhs` is decreasing in `c`, so it changes sign at most once -/
theorem balance_function_decreasing (c c' : Rat) (hc : 0 < c) (hcc : c ≤ c') (ab : List (Rat × Rat))
    (h : ∀ p ∈ ab, 0 < p.1 ∧ 0 < p.2) : lhs c' ab - rhs c' ab ≤ lhs c ab - rhs c ab := by
  have h1 := lhs_add_rhs c hc ab h
  have h2 := lhs_add_rhs c' (lt_of_lt_of_le hc hcc) ab h
  have h3 := lhs_anti c c' hc hcc ab h
  linarith

/-- what the grid search of `compute_optimal_c` returns: the grid point just below the
    balance point (bracket `[c_k, c_{k+1}]`, `k ≤ 98`, step 0.0101), or the fallback `1`
    when `lhs - rhs` has the same sign on the whole grid `[0.0001, 1]` (in particular whenever
    the balance point is above 1) -/
theorem optimal_c_brackets_balance_point (ab : List (Rat × Rat)) (h : ∀ p ∈ ab, 0 < p.1 ∧ 0 < p.2) :
    (∃ k, k ≤ 98 ∧ optimalC ab = gridC k ∧
        0 ≤ lhs (gridC k) ab - rhs (gridC k) ab ∧
        lhs (gridC (k + 1)) ab - rhs (gridC (k + 1)) ab ≤ 0 ∧
        lhs (gridC (k + 1)) ab - rhs (gridC (k + 1)) ab < lhs (gridC k) ab - rhs (gridC k) ab) ∨
    (optimalC ab = 1 ∧ ∀ j, j ≤ 99 →
        sgn (lhs (gridC j) ab - rhs (gridC j) ab) = sgn (lhs (gridC 0) ab - rhs (gridC 0) ab)) := by
  unfold optimalC
  cases hf : firstSignChange (fun i => lhs (gridC i) ab - rhs (gridC i) ab) 99 0 with
  | some k =>
    obtain ⟨_, h2, h3, _⟩ := firstSignChange_some _ 99 0 k hf
    -- `lhs - rhs` decreases from `c_k` to `c_{k+1}` and changes sign there
    have hanti := balance_function_decreasing (gridC k) (gridC (k + 1)) (gridC_pos k)
      (gridC_mono k (k + 1) (by omega)) ab h
    refine Or.inl ⟨k, by omega, rfl, ?_, ?_, lt_of_le_of_ne hanti fun he => h3 (by rw [he])⟩
    · by_contra hneg
      have hk := not_le.mp hneg
      have hk1 := lt_of_le_of_lt hanti hk
      exact h3 (by simp [sgn, hk, hk1, not_lt_of_gt hk, not_lt_of_gt hk1])
    · by_contra hpos
      have hk1 := not_le.mp hpos
      have hk := lt_of_lt_of_le hk1 hanti
      exact h3 (by simp [sgn, hk, hk1])
  | none =>
    refine Or.inr ⟨rfl, fun j => ?_⟩
    have hn := firstSignChange_none _ 99 0 hf
    induction j with
    | zero => intro _; rfl
    | succ j ih =>
      intro hj
      rw [hn j (by omega) (by omega)]
      exact ih (by omega)

/-- at an exact balance point the factor `c · numerator / denominator` is `c` itself -/
theorem ratio_at_balance_point (c : Rat) (ab : List (Rat × Rat)) (hbal : lhs c ab = rhs c ab)
    (h0 : rhs c ab ≠ 0) : ratioOf c ab = c := by
  rw [ratioOf, hbal, mul_div_assoc, div_self h0, mul_one]

/-- Telescoping identity (algebra over `Rat`): if `logical_p[0]` is the failure probability
    `Z 0` at the highest rate and every factor is the exact conditional ratio
    (`Z j · ratio_j = Z (j+1)`), `compute_logical_probabilities` returns `Z 0, Z 1, …, Z (R-1)`:
    in particular the last entry is the failure probability at the lowest rate. -/
theorem telescoping_identity (start : Nat) (Z : Nat → Rat) (lp : List (List Rat)) (l : List Rat)
    (h : telescope start (Z 0) lp = .ok l)
    (hr : ∀ i pj pk ab, lp[i]? = some pj → lp[i + 1]? = some pk → samplePairs start pj pk = .ok ab →
      Z i * ratioOf (optimalC ab) ab = Z (i + 1)) :
    Z 0 :: l = (List.range lp.length.pred.succ).map Z := by
  have := telescope_exact start Z lp 0 l h (by simpa using hr)
  rw [this, List.range_succ_eq_map, List.map_cons, List.map_map]
  simp [Function.comp]

/-- the value returned for the lowest rate is `logical_p[0]` times the product of all factors -/
theorem logical_probability_is_product (start : Nat) (lp : List (List Rat)) (p0 : Rat) (l : List Rat)
    (h : telescope start p0 lp = .ok l) :
    ∃ rs : List Rat, rs.length = l.length ∧ (l.getLast?.getD p0) = p0 * ratProd rs :=
  telescope_product start lp p0 l h

/-- The acceptance-ratio identity the method rests on (Bennett; Bravyi–Vargo eq. for
    `P(p_{j+1})/P(p_j)`): for densities `a_e`, `b_e` on the failure set and ANY `c > 0`,
    `c · E_a[g(c·a/b)] / E_b[g(b/(c·a))] = (Σ b) / (Σ a)`, both densities being evaluated on
    the SAME error inside each expectation. -/
theorem acceptance_ratio_identity (c : Rat) (hc : 0 < c) (w : List (Rat × Rat))
    (h : ∀ p ∈ w, 0 < p.1 ∧ 0 < p.2) (hne : w ≠ []) :
    c * (num1 c w / mass1 w) / (den2 c w / mass2 w) = mass2 w / mass1 w := by
  have h1 : 0 < mass1 w := ratSum_map_pos Prod.fst w (fun p hp => (h p hp).1) hne
  have h2 : 0 < mass2 w := ratSum_map_pos Prod.snd w (fun p hp => (h p hp).2) hne
  have h3 : 0 < den2 c w := ratSum_map_pos _ w
    (fun p hp => mul_pos (h p hp).2 (rhsTerm_pos c p.1 p.2 (h p hp).1 (h p hp).2 hc)) hne
  rw [← bennett_sums c hc w h] at h3 ⊢
  have h4 : num1 c w ≠ 0 := by
    intro h0; rw [h0, mul_zero] at h3; exact lt_irrefl _ h3
  field_simp

/-- What the class computes instead.  On the population of `Proofs/SplittingEst.lean`
    (failure set of two errors, densities `(1/4, 1/8)` and `(1/8, 1/32)`, every pair of
    current errors of the two independent chains occurring with exactly its stationary
    frequency), the acceptance-ratio identity gives the exact ratio `5/12` for every `c`, while
    `compute_logical_probabilities` — which pairs `log P_j` of chain `j`'s error with
    `log P_{j+1}` of chain `j+1`'s error — returns `0.4856…`: the estimator is not consistent. -/
theorem estimator_is_not_the_acceptance_ratio :
    (∀ c : Rat, 0 < c → c * (num1 c witnessW / mass1 witnessW) / (den2 c witnessW / mass2 witnessW) = 5 / 12) ∧
    telescope 0 1 [witnessA, witnessB] = .ok [(546632863706 : Rat) / 1125749669665] ∧
    (546632863706 : Rat) / 1125749669665 ≠ 5 / 12 := by
  refine ⟨fun c hc => ?_, by decide +kernel, by norm_num⟩
  rw [acceptance_ratio_identity c hc witnessW (by simp [witnessW]) (by simp [witnessW])]
  norm_num [mass1, mass2, witnessW, ratSum]

/-! ### non-vacuity -/

/-- a concrete accepted step: planar 1×1 code (one qubit, no stabilizer), previous error X at
    rate 1/4 with direction (1/2, 1/4, 1/4), letter Z drawn: proposal Y, `q = 1/2` -/
example :
    (getNextError .wide ⟨[], [[1, 0]], [[0, 1]]⟩ 1 (fun _ => [0, 0]) (1/4) [⟨3/4, 1/8, 1/16, 1/16⟩]
      [1, 0] ⟨0, 2, 3/4⟩).map (fun t => (t.proposed, t.q, t.coin, t.accepted, t.next, t.pNext)) =
      .ok ([1, 1], 1/2, true, true, [1, 1], 1/16) := by decide +kernel

example : optimalC [(1/4, 1/8), (1/8, 1/8)] = 7071 / 10000 := by decide +kernel

example : (State.init ⟨.wide, ⟨[], [[1, 0]], [[0, 1]]⟩, 1, [1/4, 1/8], [], [], [], 1, 0⟩).logP.length = 2 := by
  decide

end Panqec.C18Splitting
