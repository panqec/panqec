/-
C01 for `Toric2DCode`, ALL sizes of the supported family (`Lx ≥ 2`, `Ly ≥ 2`, no upper bound):
the hand-written lattice model `Model/Lattices/Toric2DCode.lean` (tied to
`panqec/codes/surface_2d/_toric_2d_code.py` by the correspondence streams of
`harness/lattices/toric2dcode.py`) is a well-formed coordinate system whose stabilizers
commute, whose logicals commute with the stabilizers and pair up as `δ_ij`; `n = 2·Lx·Ly`,
`k = 2`; `get_deformation` follows the stated rule at every location.

Rank clause, for all sizes: the generators at all stabilizer locations except the vertex `(0, 0)` and the face `(1, 1)` are independent (`generators_independent`, via a
triangular family of single-qubit probes) and there are exactly `n − k` of them
(`generators_count`).  `valid_code` puts everything together through the generic bridge
`Proofs/OpComm.lean` (`symp (to_bsf a) (to_bsf b) = opAntiCount a b mod 2` for dicts with distinct
keys ⇒ `CommPairL` of the assembled rows) and `Proofs/LatRankBridge.lean` (operator-level
independent sub-family of `n − k` generators ⇒ `HasRank (2n) rowsH (n − k)`): the matrices
that `stabilizer_matrix`, `logicals_x`, `logicals_z` of the generic code model (`Model/Code.lean`,
C02) assemble from this lattice model form a valid `[[n, k]]` stabilizer code (`ValidCodeL`: all
four clauses of C01, rank included) for EVERY size of the family.

The family of the rank clause (`selStabs`) is defined in the Mathlib-free model file, printed by the driver op
`rankfamily` and evaluated on the IMPLEMENTATION's parity-check matrix on every run (stream
`lat-Toric2DCode-rank-family`: members `n − k`, all distinct stabilizer locations, GF(2) rank `n − k`).
-/
import PanqecVerif.Proofs.LatRankBridge
import PanqecVerif.Proofs.LatToric2DCodeRank

namespace Panqec.C01Toric2DCode
open Panqec.Toric2DCode Panqec.Lat2D

/-- coordinates distinct and disjoint; every stabilizer and logical is a dict (distinct keys)
    supported on qubits with letters ≠ I; stabilizers are non-empty — every `Lx, Ly ≥ 2` -/
theorem wf (Lx Ly : Nat) (hx : 2 ≤ Lx) (hy : 2 ≤ Ly) : (lattice Lx Ly).WF :=
  Toric2DCode.wf hx hy

/-- all pairs of stabilizers commute, every logical commutes with every stabilizer,
    `opAntiCount (X_i, Z_j)` is odd iff `i = j`, `X_i X_j` and `Z_i Z_j` commute —
    every `Lx, Ly ≥ 2` -/
theorem commPair (Lx Ly : Nat) (hx : 2 ≤ Lx) (hy : 2 ≤ Ly) : (lattice Lx Ly).CommPair :=
  Toric2DCode.commPair hx hy

/-- `n = 2·Lx·Ly` (every size) -/
theorem n_formula (Lx Ly : Nat) : (lattice Lx Ly).toCodeData.n = 2 * Lx * Ly :=
  length_qubits Lx Ly

/-- `k = 2` (every size) -/
theorem k_value (Lx Ly : Nat) : (lattice Lx Ly).toCodeData.k = 2 := rfl

/-- number of stabilizer generators `= 2·Lx·Ly = n` (so `n − k` of them are independent at
    best: two relations) -/
theorem n_stabilizers (Lx Ly : Nat) : (lattice Lx Ly).stabs.length = 2 * Lx * Ly :=
  length_stabs Lx Ly

/-- rank clause, operator level: the `2·Lx·Ly − 2` generators at all stabilizer locations except
    the vertex `(0, 0)` and the face `(1, 1)` are independent — every non-empty duplicate-free
    sub-family `T` has a Pauli operator `d` on the qubits anticommuting with an odd number of
    members of `T` (so no non-trivial product of them is trivial) — every `Lx, Ly ≥ 2` -/
theorem generators_independent (Lx Ly : Nat) (hx : 2 ≤ Lx) (hy : 2 ≤ Ly) :
    IndepGenerators (lattice Lx Ly) (selStabs Lx Ly) :=
  indep_sel hx hy

/-- the independent family is a sub-family of the stabilizer locations with `n − k` members -/
theorem generators_count (Lx Ly : Nat) (hx : 1 ≤ Lx) (hy : 1 ≤ Ly) :
    (∀ s ∈ selStabs Lx Ly, s ∈ (lattice Lx Ly).stabs) ∧
    (selStabs Lx Ly).length + (lattice Lx Ly).toCodeData.k = (lattice Lx Ly).toCodeData.n := by
  refine ⟨fun s hs => (mem_selStabs.mp hs).1, ?_⟩
  rw [n_formula, k_value]
  exact length_selStabs hx hy

/-- THE C01 STATEMENT FOR ALL SIZES (`Lx, Ly ≥ 2`): `stabilizer_matrix`, `logicals_x`, `logicals_z` of
    the generic code model, applied to this lattice model, return (no `KeyError`) matrices that
    form a valid `[[n, k]]` stabilizer code: generators pairwise commute, logicals commute with
    the generators, `ω(X_i, Z_j) = δ_ij`, `ω(X_i, X_j) = ω(Z_i, Z_j) = 0`, and the generators
    have GF(2) rank `n − k` -/
theorem valid_code (Lx Ly : Nat) (hx : 2 ≤ Lx) (hy : 2 ≤ Ly) :
    stabilizerMatrix (lattice Lx Ly).toCodeData = some (lattice Lx Ly).rowsH ∧
    logicalsX (lattice Lx Ly).toCodeData = some (lattice Lx Ly).rowsX ∧
    logicalsZ (lattice Lx Ly).toCodeData = some (lattice Lx Ly).rowsZ ∧
    ValidCodeL (2 * Lx * Ly) 2
      (lattice Lx Ly).rowsH (lattice Lx Ly).rowsX (lattice Lx Ly).rowsZ := by
  have h := validCode_of_lattice (lattice Lx Ly) (wf Lx Ly hx hy) (commPair Lx Ly hx hy)
    (selStabs Lx Ly) List.filter_sublist (generators_independent Lx Ly hx hy) ((generators_count Lx Ly (by omega) (by omega)).2)
  rw [n_formula, k_value] at h
  exact h

/-- for `Lx, Ly ≥ 2` every stabilizer is the dict of its four distinct wrapped neighbours, in
    delta order, letter `Z` on vertices (even `x`) and `X` on faces -/
theorem stabilizer_closed_form (Lx Ly : Nat) (hx : 2 ≤ Lx) (hy : 2 ≤ Ly) (x y : Int)
    (h : [x, y] ∈ (lattice Lx Ly).stabs) :
    (lattice Lx Ly).getStab [x, y] =
      [([if x = 0 then 2 * (Lx : Int) - 1 else x - 1, y], if x % 2 = 0 then Pauli.Z else Pauli.X),
       ([if x + 1 = 2 * (Lx : Int) then 0 else x + 1, y], if x % 2 = 0 then Pauli.Z else Pauli.X),
       ([x, if y = 0 then 2 * (Ly : Int) - 1 else y - 1], if x % 2 = 0 then Pauli.Z else Pauli.X),
       ([x, if y + 1 = 2 * (Ly : Int) then 0 else y + 1], if x % 2 = 0 then Pauli.Z else Pauli.X)] :=
  getStab_eq hx hy h

/-- `qubit_axis` on the qubits of the lattice: a closed-form parity test -/
theorem qubitAxis_rule (Lx Ly : Nat) (q : Coord) (h : q ∈ (lattice Lx Ly).qubits) :
    ∃ x y, q = [x, y] ∧
      ((x % 2 = 1 ∧ y % 2 = 0 ∧ qubitAxis q = some "x") ∨
       (x % 2 = 0 ∧ y % 2 = 1 ∧ qubitAxis q = some "y")) :=
  qubitAxis_of_mem h

/-- 'XZZX': X↔Z exactly on the qubits whose axis is the deformation axis, identity elsewhere;
    `ValueError` (none) where `qubit_axis` raises -/
theorem deformation_rule_XZZX (axis : String) (loc : Coord) (hax : axis = "x" ∨ axis = "y") :
    getDeformation "XZZX" (some axis) loc =
      (qubitAxis loc).map (fun a => if a = axis then PauliMap.swapXZ else PauliMap.id) :=
  deformBy_XZZX _ _ _ hax

/-- 'XY': Y↔Z at every location -/
theorem deformation_rule_XY (axis : String) (loc : Coord) (hax : axis = "x" ∨ axis = "y") :
    getDeformation "XY" (some axis) loc = some PauliMap.swapYZ :=
  deformBy_XY _ _ _ hax

/-- a call that does not pass `deformation_axis` (the signature default `'y'`: `deform(name)` of
    the visualizer backend and of simulation inputs without `deformation_kwargs`) deforms along y -/
theorem deformation_default_axis (name : String) (loc : Coord) :
    getDeformation name none loc = getDeformation name (some "y") loc := rfl

/-- any other axis: ValueError -/
theorem deformation_rule_bad_axis (name axis : String) (loc : Coord)
    (hx : axis ≠ "x") (hy : axis ≠ "y") : getDeformation name (some axis) loc = none :=
  deformBy_bad_axis _ _ _ _ hx hy

/-- any other name: ValueError -/
theorem deformation_rule_bad_name (name : String) (axis : Option String) (loc : Coord)
    (h1 : name ≠ "XZZX") (h2 : name ≠ "XY") : getDeformation name axis loc = none :=
  deformBy_bad_name _ _ _ _ h1 h2

/-- on every qubit of every lattice, 'XZZX' along a valid axis is defined and is one of the two
    maps -/
theorem deformation_rule_on_qubits (Lx Ly : Nat) (axis : String) (q : Coord)
    (hax : axis = "x" ∨ axis = "y") (h : q ∈ (lattice Lx Ly).qubits) :
    getDeformation "XZZX" (some axis) q =
      some (if qubitAxis q = some axis then PauliMap.swapXZ else PauliMap.id) := by
  rw [deformation_rule_XZZX axis q hax]
  obtain ⟨x, y, rfl, h' | h'⟩ := qubitAxis_of_mem h <;> rw [h'.2.2] <;> simp

/-! ### non-vacuity -/

example : (lattice 2 3).WF := wf 2 3 (by decide) (by decide)
example : (lattice 7 4).CommPair := commPair 7 4 (by decide) (by decide)
example : (lattice 2 3).getStab [0, 0] =
    [([3, 0], .Z), ([1, 0], .Z), ([0, 5], .Z), ([0, 1], .Z)] := by decide
example : (lattice 2 3).getStab [3, 5] =
    [([2, 5], .X), ([0, 5], .X), ([3, 4], .X), ([3, 0], .X)] := by decide
/-- outside the family (`Lx = 1`) the two x-neighbours coincide and the dict has 3 entries -/
example : (lattice 1 2).getStab [0, 0] = [([1, 0], .Z), ([0, 3], .Z), ([0, 1], .Z)] := by decide
example : getDeformation "XZZX" (some "x") [1, 0] = some PauliMap.swapXZ := by decide
example : getDeformation "XZZX" (some "y") [1, 0] = some PauliMap.id := by decide
example : getDeformation "XZZX" (some "z") [1, 0] = none := by decide
/-- keyword omitted: the default axis `y` -/
example : getDeformation "XZZX" none [1, 0] = getDeformation "XZZX" (some "y") [1, 0] := rfl
example : getDeformation "XY" none [1, 0] = some PauliMap.swapYZ := by decide
example : getDeformation "XZZX" none [1, 0] ≠ getDeformation "XZZX" (some "x") [1, 0] := by decide
example : IndepGenerators (lattice 2 3) (selStabs 2 3) :=
  generators_independent 2 3 (by decide) (by decide)
example : (selStabs 2 3).length = 10 := by decide
example : ValidCodeL 12 2 (lattice 2 3).rowsH (lattice 2 3).rowsX
    (lattice 2 3).rowsZ := (valid_code 2 3 (by decide) (by decide)).2.2.2

end Panqec.C01Toric2DCode
