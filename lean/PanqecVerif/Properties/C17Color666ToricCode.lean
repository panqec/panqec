/-
C17 for `Color666ToricCode`, ALL sizes of the supported family (square lattices `Lx = Ly = L ≥ 1`,
no upper bound): the distance `code.d` reports is the true code distance, `4L` — for the undeformed
code and for the deformed code the class offers (`'X3Z3'`).

The matrices are the ones the generic code model assembles from the hand-written lattice model
`Model/Lattices/Color666ToricCode.lean` (tied to `panqec/codes/color_2d/_color_666_toric_code.py` by
the correspondence streams of `harness/lattices/color666toriccode.py`); they form a valid
`[[18L², 4]]` code for every `L ≥ 1` (`C01Color666ToricCode.valid_code`).

Reported distance: each of the four rows of `logicals_x` and of `logicals_z` (a single letter on one
of the zig-zag strings `kA … kD` winding around the torus) has weight `4L`; `code.d` (`distance`, the
minimum Pauli weight over the listed logicals, as `StabilizerCode.d` computes it) is `4L`.

Lower bound `4L`, by a packing argument (`Proofs/DistLattice.lean`, `Proofs/DistSameClass.lean`,
`Proofs/DistColor666ToricCode{Ladder, Reps, LineParity, LowerBound}.lean`): a non-trivial logical anticommutes with one of the
eight listed logicals (C04).  In FACE coordinates
the sheared torus of the class is an unsheared `3L × 3L` torus of hexagons, each owning its right
and its left corner; a second frame (the picture rotated by 240°) brings the strings `kA`, `kB`
into the position of `kC`, `kD`.  A listed string is a zig-zag `Z c t₀` of its frame; its `3L`
translates `Z c t` are pairwise disjoint and consecutive ones differ by the column of faces
between them, so every operator commuting with all generators anticommutes with each of them
exactly when it anticommutes with the listed logical (ladder).  The qubits the translates leave
free are the `L` closed straight lines (`6L` qubits each) through the faces of the third colour:
such a line is homologous to the zig-zag only modulo 2 — the generators whose product relates
them fill half of the torus — so its equivalence is obtained from C04 (`Lattice.same_class`):
the line meets every face in 0 or 2 qubits and has the same intersection parities with the four
listed strings as the zig-zag (`line_zig_parity`: odd exactly against the strings of the other
frame and the other colour; the pairing table of the strings agrees).  The `3L + L = 4L`
representatives use every one of the `18L²` qubits exactly once.

The deformed code (`deform('X3Z3')`; every other name raises) has the same distance, every size
(`C17.distance_deformation_invariant`).
-/
import PanqecVerif.Properties.C01Color666ToricCode
import PanqecVerif.Proofs.DistColor666ToricCodeLowerBound
import PanqecVerif.Proofs.Dist
import PanqecVerif.Proofs.DistDeform

namespace Panqec.C17Color666ToricCode
open Panqec.Color666ToricCode Panqec.Color

/-- every row of `logicals_x` and of `logicals_z` has Pauli weight `4L` — every `L ≥ 1` -/
theorem weights_listed (L : Nat) (hL : 1 ≤ L) :
    (lattice L L).rowsX.map pauliWeight = [4 * L, 4 * L, 4 * L, 4 * L] ∧
    (lattice L L).rowsZ.map pauliWeight = [4 * L, 4 * L, 4 * L, 4 * L] :=
  Color666ToricCode.weights_listed hL (C01Color666ToricCode.wf L hL)

/-- what `code.d` returns — the minimum weight over the listed logical operators — is `4L`, every
    `L ≥ 1` -/
theorem reported_distance (L : Nat) (hL : 1 ≤ L) :
    Panqec.distance (lattice L L).rowsX (lattice L L).rowsZ = some (4 * L) :=
  Color666ToricCode.reported_distance hL (C01Color666ToricCode.wf L hL)

/-- no non-trivial logical operator (commutes with every generator, is not a product of
    generators) of the `L × L` 6.6.6 toric colour code is lighter than `4L` — every `L ≥ 1` -/
theorem lower_bound (L : Nat) (hL : 1 ≤ L) :
    ∀ v, IsNontrivialLogical (18 * (L * L)) (lattice L L).rowsH v → 4 * L ≤ pauliWeight v :=
  Color666ToricCode.lower_bound hL (C01Color666ToricCode.wf L hL) (C01Color666ToricCode.n_formula L hL)
    (C01Color666ToricCode.valid_code L hL).2.2.2

/-- THE C17 STATEMENT FOR ALL SIZES of the supported family (`Lx = Ly = L ≥ 1`): the code distance
    of the `L × L` 6.6.6 toric colour code — the minimum weight of a non-trivial logical operator of the
    assembled parity-check matrix — is `4L` -/
theorem distance (L : Nat) (hL : 1 ≤ L) : IsDistance (18 * (L * L)) (lattice L L).rowsH (4 * L) :=
  distance_criterion (C01Color666ToricCode.valid_code L hL).2.2.2 (4 * L)
    (exists_listed_of_distance _ _ _ (reported_distance L hL)) (lower_bound L hL)

/-- the same, stated for whatever `code.d` reports: the reported distance exists and is the
    true distance -/
theorem distance_reported (L : Nat) (hL : 1 ≤ L) :
    ∃ d, Panqec.distance (lattice L L).rowsX (lattice L L).rowsZ = some d ∧
      IsDistance (18 * (L * L)) (lattice L L).rowsH d :=
  ⟨_, reported_distance L hL, distance L hL⟩

/-- every map `get_deformation` returns is a permutation of {X, Y, Z} (so C08 applies) -/
theorem deformation_isPerm {name : String} {loc : Coord} {m : PauliMap}
    (h : getDeformation name loc = DeformResult.map m) : m.isPerm = true := by
  unfold getDeformation at h
  split at h
  · split at h
    · split at h
      · cases h
      · split at h <;> (injection h with h; subst h; decide)
    · cases h
  · cases h

/-- the class offers the deformation 'X3Z3': `get_deformation` is defined on every qubit of every
    lattice (any other name raises, `C01Color666ToricCode.deformation_rule_bad_name`) -/
theorem deformation_defined (L : Nat) (hL : 1 ≤ L) (q : Coord) (hq : q ∈ (lattice L L).qubits) :
    ∃ m, getDeformation "X3Z3" q = DeformResult.map m := by
  rcases C01Color666ToricCode.deformation_rule_on_qubits L hL q hq with h | h
  · exact ⟨_, h⟩
  · exact ⟨_, h⟩

/-- THE C17 STATEMENT FOR EVERY DEFORMED CODE OF THE CLASS, ALL SIZES (`L ≥ 1`): for every
    deformation name for which `get_deformation` returns a map on the qubits (`D q` = the relabelling
    it returns on `q`), the matrices the deformed getters assemble are the relabelled rows, they form
    a valid `[[18L², 4]]` code, `code.d` reports `4L`, and that is the true distance of the deformed
    code -/
theorem distance_deformed (L : Nat) (hL : 1 ≤ L) (name : String) (D : Coord → PauliMap)
    (hD : ∀ q ∈ (lattice L L).qubits, getDeformation name q = DeformResult.map (D q)) :
    stabilizerMatrix ((lattice L L).toCodeData.deform D) =
        some ((lattice L L).rowsH.map (deformBsf ((lattice L L).qubits.map D))) ∧
    logicalsX ((lattice L L).toCodeData.deform D) =
        some ((lattice L L).rowsX.map (deformBsf ((lattice L L).qubits.map D))) ∧
    logicalsZ ((lattice L L).toCodeData.deform D) =
        some ((lattice L L).rowsZ.map (deformBsf ((lattice L L).qubits.map D))) ∧
    ValidCodeL (18 * (L * L)) 4
      ((lattice L L).rowsH.map (deformBsf ((lattice L L).qubits.map D)))
      ((lattice L L).rowsX.map (deformBsf ((lattice L L).qubits.map D)))
      ((lattice L L).rowsZ.map (deformBsf ((lattice L L).qubits.map D))) ∧
    Panqec.distance ((lattice L L).rowsX.map (deformBsf ((lattice L L).qubits.map D)))
      ((lattice L L).rowsZ.map (deformBsf ((lattice L L).qubits.map D))) = some (4 * L) ∧
    IsDistance (18 * (L * L))
      ((lattice L L).rowsH.map (deformBsf ((lattice L L).qubits.map D))) (4 * L) :=
  Lattice.deformed_distance (lattice L L) (C01Color666ToricCode.wf L hL)
    (C01Color666ToricCode.n_formula L hL) (C01Color666ToricCode.valid_code L hL).2.2.2
    (reported_distance L hL) (distance L hL) D (fun q hq => deformation_isPerm (hD q hq))

/-- the relabelling `get_deformation(·, name)` as a function of the location (identity where it
    raises — nowhere on the qubits for the offered name) -/
def deformationOf (name : String) (q : Coord) : PauliMap :=
  match getDeformation name q with
  | DeformResult.map m => m
  | _ => PauliMap.id

/-- the 'X3Z3' code has distance `4L` — every size of the family -/
theorem distance_deformed_offered (L : Nat) (hL : 1 ≤ L) :
    IsDistance (18 * (L * L))
      ((lattice L L).rowsH.map (deformBsf ((lattice L L).qubits.map (deformationOf "X3Z3"))))
      (4 * L) :=
  (distance_deformed L hL "X3Z3" (deformationOf "X3Z3") (fun q hq => by
      obtain ⟨m, hm⟩ := deformation_defined L hL q hq
      unfold deformationOf
      rw [hm])).2.2.2.2.2

example : IsDistance 18 (lattice 1 1).rowsH 4 := distance 1 (by decide)
example : IsDistance 162 (lattice 3 3).rowsH 12 := distance 3 (by decide)
example : IsDistance 1800 (lattice 10 10).rowsH 40 := distance 10 (by decide)
/-- the hypothesis of `lower_bound` is satisfiable: the first listed logical X is a non-trivial
    logical operator -/
example : IsNontrivialLogical 18 (lattice 1 1).rowsH ((lattice 1 1).rowsX.getD 0 []) :=
  listedX_nontrivial (C01Color666ToricCode.valid_code 1 (by decide)).2.2.2
    (getD_mem' _ _ 0 (by
      rw [(C01Color666ToricCode.valid_code 1 (by decide)).2.2.2.kX]; decide))
example : (lattice 3 3).rowsX.map pauliWeight = [12, 12, 12, 12] ∧
    (lattice 3 3).rowsZ.map pauliWeight = [12, 12, 12, 12] := weights_listed 3 (by decide)
/-- the 'X3Z3' code on the `4 × 4` lattice has distance 16 -/
example : IsDistance 288 ((lattice 4 4).rowsH.map
    (deformBsf ((lattice 4 4).qubits.map (deformationOf "X3Z3")))) 16 :=
  distance_deformed_offered 4 (by decide)
example : deformationOf "X3Z3" [1, 0] = PauliMap.swapXZ := by decide
example : deformationOf "X3Z3" [3, 4] = PauliMap.id := by decide

end Panqec.C17Color666ToricCode
