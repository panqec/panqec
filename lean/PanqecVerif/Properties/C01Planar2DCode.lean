/-
C01 for `Planar2DCode`, ALL sizes of the supported family (`Lx ≥ 1`, `Ly ≥ 1`, no upper bound):
the hand-written lattice model `Model/Lattices/Planar2DCode.lean` (tied to
`panqec/codes/surface_2d/_planar_2d_code.py` by the correspondence streams of
`harness/lattices/planar2dcode.py`) is a well-formed coordinate system whose stabilizers
commute, whose logicals commute with the stabilizers and anticommute with each other;
`n = Lx·Ly + (Lx−1)(Ly−1)`, `k = 1`; `get_deformation` follows the stated rule at every location.

Rank clause, for all sizes: the generators at all stabilizer locations are independent (`generators_independent`, via a
triangular family of single-qubit probes) and there are exactly `n − k` of them
(`generators_count`).  `valid_code` puts everything together through the generic bridge
`Proofs/OpComm.lean` (`symp (to_bsf a) (to_bsf b) = opAntiCount a b mod 2` for dicts with distinct
keys ⇒ `CommPairL` of the assembled rows) and `Proofs/LatRankBridge.lean` (operator-level
independent sub-family of `n − k` generators ⇒ `HasRank (2n) rowsH (n − k)`): the matrices
that `stabilizer_matrix`, `logicals_x`, `logicals_z` of the generic code model (`Model/Code.lean`,
C02) assemble from this lattice model form a valid `[[n, k]]` stabilizer code (`ValidCodeL`: all
four clauses of C01, rank included) for EVERY size of the family.

The family of the rank clause is the whole list `(lattice Lx Ly).stabs`; the driver op `rankfamily` prints it
and the stream `lat-Planar2DCode-rank-family` evaluates it on the IMPLEMENTATION's parity-check matrix on
every run (members `n − k`, all distinct stabilizer locations, GF(2) rank `n − k`).
-/
import PanqecVerif.Proofs.LatRankBridge
import PanqecVerif.Proofs.LatPlanar2DCodeRank

namespace Panqec.C01Planar2DCode
open Panqec.Planar2DCode Panqec.Lat2D

/-- coordinates distinct and disjoint; every stabilizer and logical is a dict (distinct keys)
    supported on qubits with letters ≠ I; stabilizers are non-empty — every `Lx, Ly ≥ 1` -/
theorem wf (Lx Ly : Nat) (hx : 1 ≤ Lx) (hy : 1 ≤ Ly) : (lattice Lx Ly).WF :=
  Planar2DCode.wf hx hy

/-- all pairs of stabilizers commute, the logicals commute with every stabilizer,
    `opAntiCount (X_0, Z_0)` is odd — every `Lx, Ly ≥ 1` -/
theorem commPair (Lx Ly : Nat) (hx : 1 ≤ Lx) (hy : 1 ≤ Ly) : (lattice Lx Ly).CommPair :=
  Planar2DCode.commPair hx hy

/-- `n = Lx·Ly + (Lx−1)·(Ly−1)` (every size; natural subtraction) -/
theorem n_formula (Lx Ly : Nat) :
    (lattice Lx Ly).toCodeData.n = Lx * Ly + (Lx - 1) * (Ly - 1) :=
  length_qubits Lx Ly

/-- `k = 1` (every size) -/
theorem k_value (Lx Ly : Nat) : (lattice Lx Ly).toCodeData.k = 1 := rfl

/-- number of stabilizer generators `= (Lx−1)·Ly + Lx·(Ly−1)` (`= n − 1` for `Lx, Ly ≥ 1`) -/
theorem n_stabilizers (Lx Ly : Nat) :
    (lattice Lx Ly).stabs.length = (Lx - 1) * Ly + Lx * (Ly - 1) :=
  length_stabs Lx Ly

/-- rank clause, operator level: the generators at ALL stabilizer locations are independent —
    every non-empty duplicate-free sub-family `T` has a Pauli operator `d` on the qubits
    anticommuting with an odd number of members of `T` (so no non-trivial product of generators
    is trivial) — every size -/
theorem generators_independent (Lx Ly : Nat) :
    IndepGenerators (lattice Lx Ly) (lattice Lx Ly).stabs :=
  indep_all Lx Ly

/-- there are exactly `n − k` generators (`Lx, Ly ≥ 1`) -/
theorem generators_count (Lx Ly : Nat) (hx : 1 ≤ Lx) (hy : 1 ≤ Ly) :
    (lattice Lx Ly).stabs.length + (lattice Lx Ly).toCodeData.k = (lattice Lx Ly).toCodeData.n := by
  have h := length_stabs_eq hx hy
  have hn : 1 ≤ (qubits Lx Ly).length := by
    rw [length_qubits]
    have : 1 ≤ Lx * Ly := Nat.mul_le_mul hx hy
    omega
  show (stabs Lx Ly).length + 1 = (qubits Lx Ly).length
  omega

/-- THE C01 STATEMENT FOR ALL SIZES (`Lx, Ly ≥ 1`): `stabilizer_matrix`, `logicals_x`, `logicals_z` of
    the generic code model, applied to this lattice model, return (no `KeyError`) matrices that
    form a valid `[[n, k]]` stabilizer code: generators pairwise commute, logicals commute with
    the generators, `ω(X_i, Z_j) = δ_ij`, `ω(X_i, X_j) = ω(Z_i, Z_j) = 0`, and the generators
    have GF(2) rank `n − k` -/
theorem valid_code (Lx Ly : Nat) (hx : 1 ≤ Lx) (hy : 1 ≤ Ly) :
    stabilizerMatrix (lattice Lx Ly).toCodeData = some (lattice Lx Ly).rowsH ∧
    logicalsX (lattice Lx Ly).toCodeData = some (lattice Lx Ly).rowsX ∧
    logicalsZ (lattice Lx Ly).toCodeData = some (lattice Lx Ly).rowsZ ∧
    ValidCodeL (Lx * Ly + (Lx - 1) * (Ly - 1)) 1
      (lattice Lx Ly).rowsH (lattice Lx Ly).rowsX (lattice Lx Ly).rowsZ := by
  have h := validCode_of_lattice (lattice Lx Ly) (wf Lx Ly hx hy) (commPair Lx Ly hx hy)
    (lattice Lx Ly).stabs (List.Sublist.refl _) (generators_independent Lx Ly) (generators_count Lx Ly hx hy)
  rw [n_formula, k_value] at h
  exact h

/-- `is_qubit` in closed form -/
theorem isQubit_rule (Lx Ly : Nat) (x y : Int) :
    isQubit Lx Ly [x, y] = true ↔
      (x % 2 = 1 ∧ y % 2 = 0 ∧ 1 ≤ x ∧ x < 2 * (Lx : Int) ∧ 0 ≤ y ∧ y < 2 * (Ly : Int)) ∨
      (x % 2 = 0 ∧ y % 2 = 1 ∧ 2 ≤ x ∧ x < 2 * (Lx : Int) ∧ 1 ≤ y ∧ y < 2 * (Ly : Int) - 1) :=
  isQubit_iff

/-- every stabilizer is the dict of those of its four neighbours (delta order) that are qubits,
    letter `Z` on vertices (even `x`) and `X` on faces -/
theorem stabilizer_closed_form (Lx Ly : Nat) (x y : Int) (h : [x, y] ∈ (lattice Lx Ly).stabs) :
    (lattice Lx Ly).getStab [x, y] =
      ([[x - 1, y], [x + 1, y], [x, y - 1], [x, y + 1]].filter (isQubit Lx Ly)).map
        (fun q => (q, if x % 2 = 0 then Pauli.Z else Pauli.X)) :=
  getStab_eq h

/-- `qubit_axis` on the qubits of the lattice: a closed-form parity test -/
theorem qubitAxis_rule (Lx Ly : Nat) (q : Coord) (h : q ∈ (lattice Lx Ly).qubits) :
    ∃ x y, q = [x, y] ∧
      ((x % 2 = 1 ∧ y % 2 = 0 ∧ qubitAxis q = some "x") ∨
       (x % 2 = 0 ∧ y % 2 = 1 ∧ qubitAxis q = some "y")) :=
  qubitAxis_of_mem h

/-- 'XZZX': X↔Z exactly on the qubits whose axis is the deformation axis, identity elsewhere;
    `ValueError` (none) where `qubit_axis` raises -/
theorem deformation_rule_XZZX (axis : String) (loc : Coord) (hax : axis = "x" ∨ axis = "y") :
    getDeformation "XZZX" (some axis) loc =
      (qubitAxis loc).map (fun a => if a = axis then PauliMap.swapXZ else PauliMap.id) :=
  deformBy_XZZX _ _ _ hax

/-- 'XY': Y↔Z at every location -/
theorem deformation_rule_XY (axis : String) (loc : Coord) (hax : axis = "x" ∨ axis = "y") :
    getDeformation "XY" (some axis) loc = some PauliMap.swapYZ :=
  deformBy_XY _ _ _ hax

/-- a call that does not pass `deformation_axis` (the signature default `'y'`: `deform(name)` of
    the visualizer backend and of simulation inputs without `deformation_kwargs`) deforms along y -/
theorem deformation_default_axis (name : String) (loc : Coord) :
    getDeformation name none loc = getDeformation name (some "y") loc := rfl

/-- any other axis: ValueError -/
theorem deformation_rule_bad_axis (name axis : String) (loc : Coord)
    (hx : axis ≠ "x") (hy : axis ≠ "y") : getDeformation name (some axis) loc = none :=
  deformBy_bad_axis _ _ _ _ hx hy

/-- any other name: ValueError -/
theorem deformation_rule_bad_name (name : String) (axis : Option String) (loc : Coord)
    (h1 : name ≠ "XZZX") (h2 : name ≠ "XY") : getDeformation name axis loc = none :=
  deformBy_bad_name _ _ _ _ h1 h2

/-- on every qubit of every lattice, 'XZZX' along a valid axis is defined and is one of the two
    maps -/
theorem deformation_rule_on_qubits (Lx Ly : Nat) (axis : String) (q : Coord)
    (hax : axis = "x" ∨ axis = "y") (h : q ∈ (lattice Lx Ly).qubits) :
    getDeformation "XZZX" (some axis) q =
      some (if qubitAxis q = some axis then PauliMap.swapXZ else PauliMap.id) := by
  rw [deformation_rule_XZZX axis q hax]
  obtain ⟨x, y, rfl, h' | h'⟩ := qubitAxis_of_mem h <;> rw [h'.2.2] <;> simp

/-! ### non-vacuity -/

example : (lattice 1 1).WF := wf 1 1 (by decide) (by decide)
example : (lattice 3 2).CommPair := commPair 3 2 (by decide) (by decide)
example : (lattice 3 2).getStab [2, 0] = [([1, 0], .Z), ([3, 0], .Z), ([2, 1], .Z)] := by decide
example : (lattice 3 2).getStab [1, 1] = [([2, 1], .X), ([1, 0], .X), ([1, 2], .X)] := by decide
example : (lattice 3 2).getStab [1, 0] = [] := by decide
example : (lattice 3 2).toCodeData.n = 8 := by decide
example : getDeformation "XZZX" (some "y") [2, 1] = some PauliMap.swapXZ := by decide
/-- keyword omitted: the default axis `y` -/
example : getDeformation "XZZX" none [2, 1] = getDeformation "XZZX" (some "y") [2, 1] := rfl
example : getDeformation "XY" none [2, 1] = some PauliMap.swapYZ := by decide
example : getDeformation "XZZX" none [2, 1] ≠ getDeformation "XZZX" (some "x") [2, 1] := by decide
example : IndepGenerators (lattice 3 2) (lattice 3 2).stabs := generators_independent 3 2
example : (lattice 3 2).stabs.length = 7 := by decide
example : ValidCodeL 8 1 (lattice 3 2).rowsH (lattice 3 2).rowsX
    (lattice 3 2).rowsZ := (valid_code 3 2 (by decide) (by decide)).2.2.2

end Panqec.C01Planar2DCode
