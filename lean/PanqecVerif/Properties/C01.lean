/-
C01 — every library code is a valid [[n,k]] stabilizer code.

* `ValidCodeL n k H Lx Lz` (Proofs/ValidCode.lean) is the statement: generators pairwise
  commute, logicals commute with generators, X_i/Z_j anticommute iff i = j (XX, ZZ commute),
  GF(2) rank of the generators = n − k.
* `checker_sound`: the executable checker is sound for EVERY code (all n, k, matrices).
* `rank_upper_bound`: commutation + pairing alone force rank ≤ n − k, for every code.
* `valid_<Class>_partial`: every instance of the regenerated table of that class (all supported
  sizes up to the bound in harness/regen_codes.py, rectangular/cuboid included) satisfies
  `ValidCodeL` — kernel-checked (`decide +kernel`) against tables regenerated from /repo on
  every run.  These are bounded (per-instance) theorems; the statements for all sizes of a
  class are in `Properties/C01<Class>.lean`.
* deformations: `deformation_maps_are_permutations` (regenerated table of every map any class
  returns) + C08.validCode_deform (every per-qubit permutation preserves `ValidCodeL`).
-/
import PanqecVerif.Instances.All
import PanqecVerif.Proofs.CodeAlgebra
import PanqecVerif.Proofs.DeformTable
import PanqecVerif.Proofs.Deform

namespace Panqec.C01
open Panqec

/-- Soundness of the executable validity checker, for every packed code and certificate. -/
theorem checker_sound (c : MaskCode) (rc : RankCert) (h : checkValidFast c rc = true) :
    ValidCodeL c.n c.k (c.stabs.map (unpackBits (2 * c.n)))
      (c.logX.map (unpackBits (2 * c.n))) (c.logZ.map (unpackBits (2 * c.n))) :=
  checkValidFast_sound c rc h

/-- For every code: if generators commute, logicals commute with them and the pairing table
    holds, no independent family of generators has more than n − k members — a wrong `k` or
    dependent logicals cannot hide behind the rank clause. -/
theorem rank_upper_bound {n k : Nat} {H Lx Lz : List (List Nat)}
    (hc : CommPairL n k H Lx Lz) (basis : List (List Nat)) (hsub : basis.Sublist H)
    (hind : Indep (2 * n) basis) : basis.length ≤ n - k :=
  rank_le_of_commute_pairing hc basis hsub hind

/-- Every single-qubit map returned by any class's `get_deformation` (table regenerated from
    the source over all instance sizes, names and axes) is a permutation of {X,Y,Z}; together
    with `C08.validCode_deform` every offered deformation of a valid code is a valid code. -/
theorem deformation_maps_are_permutations :
    ∀ e ∈ Generated.deformationTable, e.2.2.isPerm = true := by
  intro e he
  exact List.all_eq_true.mp deformationTable_perm e he

/-- Every deformation of a valid code is a valid code: for ANY assignment of permutations of
    {X,Y,Z} to the qubits (all sizes, all codes), relabelling every generator and logical keeps
    all four clauses, rank included.  With `deformation_maps_are_permutations` this covers every
    deformation name and axis any class offers. -/
theorem deformed_code_valid {n k : Nat} {Ds : List PauliMap} (hlen : Ds.length = n)
    (hperm : ∀ D ∈ Ds, D.isPerm = true) {H Lx Lz : List (List Nat)}
    (hv : ValidCodeL n k H Lx Lz) :
    ValidCodeL n k (H.map (deformBsf Ds)) (Lx.map (deformBsf Ds)) (Lz.map (deformBsf Ds)) :=
  Deform.validCode_deform hlen hperm hv

/-- The valid-code statement for one packed instance. -/
abbrev InstanceValid (p : MaskCode × RankCert) : Prop :=
  ValidCodeL p.1.n p.1.k (p.1.stabs.map (unpackBits (2 * p.1.n)))
    (p.1.logX.map (unpackBits (2 * p.1.n))) (p.1.logZ.map (unpackBits (2 * p.1.n)))

/-! Bounded instance theorems (full statement: ∀ supported size; proved: ∀ size in the
    regenerated table).  One per exported class. -/
theorem valid_Toric2DCode_partial : ∀ p ∈ Generated.Toric2DCode.all, InstanceValid p :=
  fun p hp => (Instances.Toric2DCode_valid p hp).1
theorem valid_Planar2DCode_partial : ∀ p ∈ Generated.Planar2DCode.all, InstanceValid p :=
  fun p hp => (Instances.Planar2DCode_valid p hp).1
theorem valid_RotatedPlanar2DCode_partial : ∀ p ∈ Generated.RotatedPlanar2DCode.all, InstanceValid p :=
  fun p hp => (Instances.RotatedPlanar2DCode_valid p hp).1
theorem valid_Color666PlanarCode_partial : ∀ p ∈ Generated.Color666PlanarCode.all, InstanceValid p :=
  fun p hp => (Instances.Color666PlanarCode_valid p hp).1
theorem valid_Color666ToricCode_partial : ∀ p ∈ Generated.Color666ToricCode.all, InstanceValid p :=
  fun p hp => (Instances.Color666ToricCode_valid p hp).1
theorem valid_Color488Code_partial : ∀ p ∈ Generated.Color488Code.all, InstanceValid p :=
  fun p hp => (Instances.Color488Code_valid p hp).1
theorem valid_Toric3DCode_partial : ∀ p ∈ Generated.Toric3DCode.all, InstanceValid p :=
  fun p hp => (Instances.Toric3DCode_valid p hp).1
theorem valid_Planar3DCode_partial : ∀ p ∈ Generated.Planar3DCode.all, InstanceValid p :=
  fun p hp => (Instances.Planar3DCode_valid p hp).1
theorem valid_RotatedPlanar3DCode_partial : ∀ p ∈ Generated.RotatedPlanar3DCode.all, InstanceValid p :=
  fun p hp => (Instances.RotatedPlanar3DCode_valid p hp).1
theorem valid_RotatedToric3DCode_partial : ∀ p ∈ Generated.RotatedToric3DCode.all, InstanceValid p :=
  fun p hp => (Instances.RotatedToric3DCode_valid p hp).1
theorem valid_RhombicToricCode_partial : ∀ p ∈ Generated.RhombicToricCode.all, InstanceValid p :=
  fun p hp => (Instances.RhombicToricCode_valid p hp).1
theorem valid_RhombicPlanarCode_partial : ∀ p ∈ Generated.RhombicPlanarCode.all, InstanceValid p :=
  fun p hp => (Instances.RhombicPlanarCode_valid p hp).1
theorem valid_XCubeCode_partial : ∀ p ∈ Generated.XCubeCode.all, InstanceValid p :=
  fun p hp => (Instances.XCubeCode_valid p hp).1
theorem valid_HollowPlanar3DCode_partial : ∀ p ∈ Generated.HollowPlanar3DCode.all, InstanceValid p :=
  fun p hp => (Instances.HollowPlanar3DCode_valid p hp).1
theorem valid_HollowRhombicCode_partial : ∀ p ∈ Generated.HollowRhombicCode.all, InstanceValid p :=
  fun p hp => (Instances.HollowRhombicCode_valid p hp).1
theorem valid_Color3DCode_partial : ∀ p ∈ Generated.Color3DCode.all, InstanceValid p :=
  fun p hp => (Instances.Color3DCode_valid p hp).1

/-! non-vacuity: the tables are not empty and contain non-trivial codes -/
example : Generated.Toric3DCode.all.length ≥ 8 := by decide
example : (Generated.Toric3DCode.all.map fun p => p.1.n).contains 81 = true := by decide

end Panqec.C01
