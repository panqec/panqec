/-
C01 (lattice part) for `RotatedToric3DCode`, for EVERY lattice size (no bound).

The model `Model/Lattices/RotatedToric3DCode.lean` is a hand-written transcription of
`panqec/codes/surface_3d/_rotated_toric_3d_code.py` as functions of the size (seam rules, defect
lines for an odd `L_x` / `L_y`, vertical faces dropped on the defect columns, logical operators as
comprehensions over `qubit_coordinates`); it is tied to the implementation by the correspondence
streams of `harness/lattices/rotatedtoric3dcode.py`.  Property theorems only; the lemmas are in
`Proofs/LatRotatedToric3DCode*.lean`.

Supported family (DESIGN.md section 4): `L_x, L_y ≥ 2`, `L_z ≥ 1`, not both `L_x` and `L_y` odd.
For every size of the family: the coordinate system is well-formed (`wf`), any two stabilizer
generators commute, the logical operators commute with the generators and satisfy the pairing
table (`commPair`) — with two logical qubits when `L_x`, `L_y` are both even, one (with a logical Z
made of Y letters along the defect line) when one of them is odd.  The proof goes through the
observation that, whether or not a layer stabilizer sits on a defect line, it writes on a
neighbouring qubit `q` the letter fixed by the colour of `q` and by the diagonal on which it sees
`q` (`Proofs/LatRotatedToric3DCodeCandidates.lean`, `Proofs/LatRotatedToric3DCodeStab.lean`): the swapped
letters of the class on a defect line are exactly what the checkerboard on the other side of the
seam asks for.

The rank clause is proved for all sizes of the family, both parities (`rank_family`): the explicit
family `rankFamily` of the model — every vertex and horizontal face of the bottom layer except the
vertex `(2, 4, 1)` and, for even × even, the face `(2, 2, 1)`; every vertex of the layers above; the
horizontal faces of the layers above that lie next to the dropped column of vertical faces (odd `Lx`
or `Ly` only); every vertical face — has `n − k` distinct members whose operators are
GF(2)-independent (triangular witness criterion, `Proofs/LatRotatedToric3DCodeRankHits-3.lean`; the
generators of the defect lines, which carry both X and Z letters, are handled by the same sign
rule as in `commPair`).  `valid_code` assembles everything through the generic bridges
(`Proofs/OpComm.lean`, `Proofs/LatRankBridge.lean`): the matrices that `stabilizer_matrix`,
`logicals_x`, `logicals_z` of the generic code model (`Model/Code.lean`, C02) build from this
lattice model form a valid `[[n, k]]` stabilizer code (`ValidCodeL`: all four clauses of C01, rank
included) for EVERY size of the family, `k = 2` for even × even and `k = 1` otherwise.
-/
import PanqecVerif.Proofs.LatRotatedToric3DCodeRankIndep
import PanqecVerif.Proofs.LatRankBridge

namespace Panqec.C01RotatedToric3DCode

open Panqec Panqec.RotatedToric3DCode

/-- Well-formedness for every size of the supported family: qubit / stabilizer coordinates are
    distinct and disjoint, every `get_stabilizer(loc)` and every logical operator is a dict
    (distinct keys: the neighbours after the seam rules are pairwise distinct from `L = 2` on)
    supported on qubits with letters ≠ I, and no stabilizer is empty. -/
theorem wf (Lx Ly Lz : Nat) (hx : 2 ≤ Lx) (hy : 2 ≤ Ly) (hodd : ¬ (Lx % 2 = 1 ∧ Ly % 2 = 1)) :
    (lattice Lx Ly Lz).WF :=
  RotatedToric3DCode.wf ⟨hx, hy, hodd⟩

/-- The operator-level C01 clauses other than rank, for every size of the supported family: any
    two stabilizer generators commute (also across the seams and on the defect lines of an odd
    `Lx` / `Ly`, where generators carry both X and Z letters); every logical X and logical Z
    commutes with every generator; there are as many logical Z as logical X operators (their
    number is `k_value`) and `X_i`, `Z_j` anticommute exactly for `i = j`; logical X's
    (Z's) commute among themselves. -/
theorem commPair (Lx Ly Lz : Nat) (hx : 2 ≤ Lx) (hy : 2 ≤ Ly) (hz : 1 ≤ Lz)
    (hodd : ¬ (Lx % 2 = 1 ∧ Ly % 2 = 1)) : (lattice Lx Ly Lz).CommPair :=
  RotatedToric3DCode.commPair ⟨hx, hy, hodd⟩ hz

/-- The letter rule behind `commPair`, every size of the supported family: every generator is one
    of four kinds (vertex, horizontal face, vertical face of either orientation); its operator is
    carried by those of its 6 / 4 seam-wrapped neighbours that are qubits, and on a neighbour `q`
    it writes Z when its sign for `q` (main diagonal / vertical: `true`, anti-diagonal: `false`;
    reversed for the faces as listed in `KV`, `KH`, `KFX`, `KFY`) agrees with the colour of `q`, X
    otherwise — on and off the defect lines alike. -/
theorem stabilizer_letter_rule (Lx Ly Lz : Nat) (hx : 2 ≤ Lx) (hy : 2 ≤ Ly)
    (hodd : ¬ (Lx % 2 = 1 ∧ Ly % 2 = 1)) {s : Coord} (hs : s ∈ (lattice Lx Ly Lz).stabs) :
    ∃ K : List (Coord × Bool), Kind Lx Ly Lz s K ∧
      ∃ g : Coord → Pauli,
        (lattice Lx Ly Lz).getStab s =
          gop ((K.map Prod.fst).filter (isQubit Lx Ly Lz)) g ∧
        ∀ e ∈ K, g e.1 = dl e.2 e.1 := by
  obtain ⟨K, hk⟩ := kind_of_mem hs
  exact ⟨K, hk, (signed_of_kind ⟨hx, hy, hodd⟩ hk).eq⟩

/-- `n = Lx·Ly·Lz` horizontal qubits plus `(Lz − 1)` layers of vertical qubits, one at each point of
    the checkerboard `{(i, j) : 1 ≤ i ≤ Lx, 1 ≤ j ≤ Ly, i + j odd}` (every size) -/
theorem n_formula (Lx Ly Lz : Nat) :
    (lattice Lx Ly Lz).toCodeData.n =
      Lx * Ly * Lz + (((Lx + 1) / 2) * (Ly / 2) + (Lx / 2) * ((Ly + 1) / 2)) * (Lz - 1) :=
  length_qubits Lx Ly Lz

/-- in the supported family the checkerboard has `Lx·Ly/2` points: `2n = Lx·Ly·(3Lz − 1)`, stated
    without division as `2n + Lx·Ly = 3·Lx·Ly·Lz` -/
theorem n_formula_family (Lx Ly Lz : Nat) (hLz : 1 ≤ Lz) (h : ¬ (Lx % 2 = 1 ∧ Ly % 2 = 1)) :
    2 * (lattice Lx Ly Lz).toCodeData.n + Lx * Ly = 3 * (Lx * Ly * Lz) := by
  rw [n_formula]
  have hc := checker_even Lx Ly h
  generalize ((Lx + 1) / 2) * (Ly / 2) + (Lx / 2) * ((Ly + 1) / 2) = c at hc
  obtain ⟨m, rfl⟩ : ∃ m, Lz = m + 1 := ⟨Lz - 1, by omega⟩
  simp only [Nat.add_sub_cancel]
  rw [Nat.mul_add, ← Nat.mul_assoc 2 c m, hc, Nat.mul_add (Lx * Ly) m 1]
  omega

/-- `k = 2` when both `Lx` and `Ly` are even, `k = 1` otherwise (every size) -/
theorem k_value (Lx Ly Lz : Nat) :
    (lattice Lx Ly Lz).toCodeData.k = if Lx % 2 = 0 ∧ Ly % 2 = 0 then 2 else 1 :=
  logX_length Lx Ly Lz

/-- The rank clause for every size of the supported family: `rankFamily` is a duplicate-free list of
    stabilizer locations with exactly `n − k` members whose operators are GF(2)-independent: no
    non-empty sub-family multiplies to the identity (even X-parity and even Z-parity on every
    location).  Even × even: `n − 2` members (one vertex and one horizontal face of the bottom layer
    left out); odd × even and even × odd: `n − 1` (one vertex left out; the horizontal faces next to
    the dropped column of vertical faces are kept in every layer). -/
theorem rank_family (Lx Ly Lz : Nat) (hx : 2 ≤ Lx) (hy : 2 ≤ Ly) (hz : 1 ≤ Lz)
    (hodd : ¬ (Lx % 2 = 1 ∧ Ly % 2 = 1)) :
    (rankFamily Lx Ly Lz).Nodup ∧ (∀ s ∈ rankFamily Lx Ly Lz, s ∈ (lattice Lx Ly Lz).stabs) ∧
      (rankFamily Lx Ly Lz).length =
        (lattice Lx Ly Lz).toCodeData.n - (lattice Lx Ly Lz).toCodeData.k ∧
      Cubic3D.OpsIndep ((rankFamily Lx Ly Lz).map (lattice Lx Ly Lz).getStab) := by
  refine ⟨rankFamily_nodup hx hy Lz, fun s hs => rankFamily_subset ⟨hx, hy, hodd⟩ hz hs, ?_,
    rankFamily_indep ⟨hx, hy, hodd⟩ hz⟩
  rw [k_value]
  exact rankFamily_length ⟨hx, hy, hodd⟩ hz

/-- the number of members of the independent family in closed form:
    `|rankFamily| + k = Lx·Ly·Lz + checkerboard·(Lz − 1)` (every size of the family) -/
theorem generators_count (Lx Ly Lz : Nat) (hx : 2 ≤ Lx) (hy : 2 ≤ Ly) (hz : 1 ≤ Lz)
    (hodd : ¬ (Lx % 2 = 1 ∧ Ly % 2 = 1)) :
    (rankFamily Lx Ly Lz).length + (if Lx % 2 = 0 ∧ Ly % 2 = 0 then 2 else 1) =
      Lx * Ly * Lz + (((Lx + 1) / 2) * (Ly / 2) + (Lx / 2) * ((Ly + 1) / 2)) * (Lz - 1) := by
  have h := rankFamily_length (Lz := Lz) ⟨hx, hy, hodd⟩ hz
  have hn := length_qubits Lx Ly Lz
  have hpos : 4 ≤ Lx * Ly := Nat.mul_le_mul hx hy
  have hpos' : Lx * Ly * 1 ≤ Lx * Ly * Lz := Nat.mul_le_mul_left _ hz
  rw [← hn, h]
  split <;> omega

/-- **C01, all clauses, all sizes of the supported family** (`Lx, Ly ≥ 2` not both odd, `Lz ≥ 1`):
    `stabilizer_matrix`, `logicals_x`, `logicals_z` of the generic code model, applied to this
    lattice model, return (no `KeyError`) matrices that form a valid `[[n, k]]` stabilizer code with
    `n = Lx·Ly·Lz + checkerboard·(Lz − 1)` and `k = 2` (even × even) or `k = 1` (odd × even, even ×
    odd): generators pairwise commute (also on the defect lines), logicals commute with the
    generators, `ω(X_i, Z_j) = δ_ij`, `ω(X_i, X_j) = ω(Z_i, Z_j) = 0`, and the generators have GF(2)
    rank `n − k` -/
theorem valid_code (Lx Ly Lz : Nat) (hx : 2 ≤ Lx) (hy : 2 ≤ Ly) (hz : 1 ≤ Lz)
    (hodd : ¬ (Lx % 2 = 1 ∧ Ly % 2 = 1)) :
    stabilizerMatrix (lattice Lx Ly Lz).toCodeData = some (lattice Lx Ly Lz).rowsH ∧
    logicalsX (lattice Lx Ly Lz).toCodeData = some (lattice Lx Ly Lz).rowsX ∧
    logicalsZ (lattice Lx Ly Lz).toCodeData = some (lattice Lx Ly Lz).rowsZ ∧
    ValidCodeL (Lx * Ly * Lz + (((Lx + 1) / 2) * (Ly / 2) + (Lx / 2) * ((Ly + 1) / 2)) * (Lz - 1))
      (if Lx % 2 = 0 ∧ Ly % 2 = 0 then 2 else 1)
      (lattice Lx Ly Lz).rowsH (lattice Lx Ly Lz).rowsX (lattice Lx Ly Lz).rowsZ := by
  obtain ⟨hnd, hsub, hlen, hind⟩ := rank_family Lx Ly Lz hx hy hz hodd
  have h := Cubic3D.validCode_of_opsIndep (lattice Lx Ly Lz) (wf Lx Ly Lz hx hy hodd)
    (commPair Lx Ly Lz hx hy hz hodd) (rankFamily Lx Ly Lz) hnd hsub hlen hind
  rw [n_formula, k_value] at h
  exact h

/-- as many logical Z as logical X operators (every size) -/
theorem k_same (Lx Ly Lz : Nat) :
    (lattice Lx Ly Lz).logX.length = (lattice Lx Ly Lz).logZ.length := by
  rw [lattice_logX, lattice_logZ, logX_length, logZ_length]

/-- `qubit_axis` of a qubit: `z` for the vertical qubits (even z); for the horizontal ones `x` when
    `(x + y) % 4 = 2` and `y` otherwise; every other location is a `ValueError`. -/
theorem qubit_axis_rule (Lx Ly Lz : Nat) (x y z : Int) (h : [x, y, z] ∈ (lattice Lx Ly Lz).qubits) :
    qubitAxis Lx Ly Lz [x, y, z] =
      some (if z % 2 = 0 then "z" else if (x + y) % 4 = 2 then "x" else "y") :=
  qubitAxis_qubit Lx Ly Lz x y z h

theorem qubit_axis_error (Lx Ly Lz : Nat) (loc : Coord) (h : loc ∉ (lattice Lx Ly Lz).qubits) :
    qubitAxis Lx Ly Lz loc = none :=
  qubitAxis_nonqubit Lx Ly Lz loc h

/-- `get_deformation` for every location, name and axis (default axis `'y'` when the keyword is not
    passed): an axis outside x/y/z or a name other than `XZZX` is a `ValueError`; `XZZX` swaps X and
    Z exactly on the qubits whose `qubit_axis` equals the deformation axis and is the identity on
    the other qubits (`ValueError` on a non-qubit). -/
theorem deformation_rule (Lx Ly Lz : Nat) (name : String) (axis : Option String) (loc : Coord) :
    getDeformation Lx Ly Lz name axis loc =
      if axis.getD "y" ≠ "x" ∧ axis.getD "y" ≠ "y" ∧ axis.getD "y" ≠ "z" then none
      else if name ≠ "XZZX" then none
      else (qubitAxis Lx Ly Lz loc).map fun a =>
        if a = axis.getD "y" then PauliMap.swapXZ else PauliMap.id :=
  getDeformation_rule Lx Ly Lz name axis loc

/-- consequently every deformation the class returns is a permutation of {X, Y, Z} -/
theorem deformation_isPerm (Lx Ly Lz : Nat) (name : String) (axis : Option String) (loc : Coord)
    (m : PauliMap) (h : getDeformation Lx Ly Lz name axis loc = some m) : m.isPerm = true := by
  rw [getDeformation_rule] at h
  split at h
  · cases h
  · split at h
    · cases h
    · cases hq : qubitAxis Lx Ly Lz loc with
      | none => rw [hq] at h; cases h
      | some a =>
        rw [hq] at h
        simp only [Option.map_some, Option.some.injEq] at h
        subst h
        split <;> decide

/-! ### non-vacuity: the model computes non-trivial data -/

example : (lattice 2 3 2).toCodeData.n = 15 := by decide +kernel
example : (lattice 2 3 2).toCodeData.k = 1 := by decide +kernel
example : (lattice 4 2 1).toCodeData.k = 2 := by decide +kernel
/-- a vertex on the defect line `x = 2·Lx` of a 3×2×1 lattice: Z on the left, X across the seam -/
example : getStab 3 2 1 [6, 4, 1] =
    [([1, 3, 1], Pauli.X), ([5, 1, 1], Pauli.Z), ([1, 1, 1], Pauli.X), ([5, 3, 1], Pauli.Z)] := by
  decide +kernel
/-- the vertical faces of the defect column are not stabilizers -/
example : getStab? 3 2 2 [1, 1, 2] = none ∧ (getStab? 3 2 2 [3, 1, 2]).isSome = true := by
  decide +kernel
/-- odd × even: the single logical Z is a string of Y -/
example : logZ 3 2 1 = [[([1, 1, 1], Pauli.Y), ([3, 1, 1], Pauli.Y), ([5, 1, 1], Pauli.Y)]] := by
  decide +kernel
example : (lattice 3 2 2).WF := wf 3 2 2 (by decide) (by decide) (by decide)
example : (lattice 3 4 2).CommPair := commPair 3 4 2 (by decide) (by decide) (by decide) (by decide)
example : (lattice 4 6 3).CommPair := commPair 4 6 3 (by decide) (by decide) (by decide) (by decide)
/-- odd × even: the logical X (a line of X) and the logical Z (a line of Y) anticommute -/
example : opAntiCount ((logX 3 2 1).getD 0 []) ((logZ 3 2 1).getD 0 []) = 1 := by decide +kernel
/-- odd × even, with a defect line: 48 qubits, one logical qubit, 47 independent generators -/
example : ValidCodeL 48 1 (lattice 3 4 3).rowsH (lattice 3 4 3).rowsX (lattice 3 4 3).rowsZ :=
  (valid_code 3 4 3 (by decide) (by decide) (by decide) (by decide)).2.2.2
/-- even × even: two logical qubits -/
example : ValidCodeL 40 2 (lattice 4 4 2).rowsH (lattice 4 4 2).rowsX (lattice 4 4 2).rowsZ :=
  (valid_code 4 4 2 (by decide) (by decide) (by decide) (by decide)).2.2.2
/-- even × odd, a single layer (the 2-D twisted toric code) -/
example : ValidCodeL 6 1 (lattice 2 3 1).rowsH (lattice 2 3 1).rowsX (lattice 2 3 1).rowsZ :=
  (valid_code 2 3 1 (by decide) (by decide) (by decide) (by decide)).2.2.2
example : (rankFamily 3 4 3).length = 47 ∧ (stabs 3 4 3).length = 52 := by decide +kernel
example : (rankFamily 4 4 2).length = 38 ∧ (stabs 4 4 2).length = 48 := by decide +kernel
/-- the family keeps the horizontal faces next to the dropped column in the upper layers -/
example : [2, 2, 3] ∈ rankFamily 3 4 3 ∧ [4, 4, 3] ∉ rankFamily 3 4 3 ∧ [2, 4, 1] ∉ rankFamily 3 4 3 := by
  decide +kernel
/-- `OpsIndep` is not vacuous: a family containing the same operator twice is dependent -/
example : ¬ Cubic3D.OpsIndep [[(([1, 1, 1] : Coord), Pauli.X)], [([1, 1, 1], Pauli.X)]] := by
  intro h
  have := h _ (List.Sublist.refl _) (by
    intro q
    by_cases hq : q = [1, 1, 1]
    · simp [Cubic3D.hitX, Cubic3D.hitZ, Op.get?, hq]
    · have hq' : ¬ ([1, 1, 1] : Coord) = q := fun e => hq e.symm
      simp [Cubic3D.hitX, Cubic3D.hitZ, Op.get?, hq'])
  simp at this
example : getDeformation 2 2 2 "XZZX" none [2, 4, 2] = some PauliMap.id := by decide +kernel
example : getDeformation 2 2 2 "XZZX" (some "z") [2, 4, 2] = some PauliMap.swapXZ := by decide +kernel
example : getDeformation 2 2 2 "XY" (some "x") [2, 4, 2] = none := by decide +kernel

end Panqec.C01RotatedToric3DCode
