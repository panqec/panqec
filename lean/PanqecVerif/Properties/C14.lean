/-
C14 — parallel runs execute exactly the requested trials per input.

Property theorems only; the model is `Model/Cli.lean` (`taskPlan`, `runParallel`), helper
lemmas are in `Proofs/CliPlan.lean`.
All statements hold for every number of inputs `I ≥ 1`, nodes `N`, cores `C`, trials `T`
with `I ≤ N*C` (no size bound).

Second part (end of the file): what a task does with its `n_runs` — the body `run_file`
(`Model/RunFile.lean` = `Model/Spec.lean` expansion ∘ `Model/Batch.lean` protocol; helper lemmas
in `Proofs/RunFile.lean`) — and the composition plan → run.
-/
import PanqecVerif.Proofs.CliPlan
import PanqecVerif.Proofs.RunFile
import PanqecVerif.Model.Sim

namespace Panqec.C14

open Panqec.Cli

/-- With at least as many tasks as inputs, a valid job index and a core count the machine
    has, `run_parallel` raises nothing and starts exactly the tasks
    `taskPlan I N C T job 0 … taskPlan I N C T job (C-1)`, in this order. -/
theorem run_parallel_does_not_raise (I N C cpu T job : Nat) (hI : 0 < I) (hC : 0 < C)
    (hcpu : C ≤ cpu) (hj : 1 ≤ job ∧ job ≤ N) (hle : I ≤ N * C) :
    runParallel I N C cpu T job = .ok ((List.range C).map (taskPlan I N C T job)) := by
  unfold runParallel
  have h0 : ¬ C = 0 := by omega
  have hq : ¬ N * C / I = 0 := by
    have := Nat.div_pos hle hI; omega
  have hI0 : ¬ I = 0 := by omega
  simp [hj, h0, hcpu, hq, hI0]

/-- an absent `--n_cores` means "all cores of the machine" -/
theorem run_parallel_default_cores (I N cpu T job : Nat) :
    runParallel I N 0 cpu T job = runParallel I N cpu cpu T job ∨ cpu = 0 := by
  by_cases h : cpu = 0
  · exact Or.inr h
  · left; unfold runParallel; simp [h]

/-- the only configuration error after the guards is the division by zero, and it occurs
    exactly when there are fewer tasks than inputs -/
theorem run_parallel_zero_division_iff (I N C cpu T job : Nat) (hI : 0 < I) (hC : 0 < C)
    (hcpu : C ≤ cpu) (hj : 1 ≤ job ∧ job ≤ N) :
    runParallel I N C cpu T job = .error .zeroDivision ↔ N * C < I := by
  unfold runParallel
  have h0 : ¬ C = 0 := by omega
  have hI0 : ¬ I = 0 := by omega
  have hdiv : N * C / I = 0 ↔ N * C < I := by
    rw [Nat.div_eq_zero_iff]; omega
  by_cases hlt : N * C < I
  · simp [hj, h0, hcpu, hI0, hdiv.mpr hlt, hlt]
  · have : ¬ N * C / I = 0 := fun h => hlt (hdiv.mp h)
    simp [hj, h0, hcpu, hI0, this, hlt]

/-- every task works on an existing input file -/
theorem task_input_exists (I N C T job core : Nat) (hI : 0 < I) :
    (taskPlan I N C T job core).input < I := by
  simp only [taskPlan, inputOf]
  split <;> omega

/-- **Conservation.** The tasks started by all nodes `job = 1..N` together run exactly `T`
    trials on every input `j`. -/
theorem trials_conserved (I N C T j : Nat) (hI : 0 < I) (hle : I ≤ N * C) (hj : j < I) :
    trialsFor j (allTasks I N C T) = T := by
  rw [trialsFor_allTasks]
  exact sum_runsOf (Nat.div_pos hle hI) (div_mod_split hI _) T hj

/-- every input is worked on by exactly `N*C / I` tasks, the last input by `N*C / I + N*C % I`
    (in particular by at least one) -/
theorem tasks_per_input (I N C T j : Nat) (hI : 0 < I) (hle : I ≤ N * C) (hj : j < I) :
    ((allTasks I N C T).filter (fun t => t.input == j)).length =
      (if j = I - 1 then N * C / I + N * C % I else N * C / I) := by
  rw [tasksFor_allTasks, tasksOf_eq_range' (Nat.div_pos hle hI) (div_mod_split hI _) hj,
    List.length_range']
  rfl

/-- `allTasks` is what the `N` invocations of `run_parallel` start, node after node -/
theorem all_tasks_are_the_nodes_tasks (I N C cpu T : Nat) (hI : 0 < I) (hC : 0 < C)
    (hcpu : C ≤ cpu) (hle : I ≤ N * C) :
    (List.range N).map (fun n => runParallel I N C cpu T (n + 1)) =
      (List.range N).map (fun n => .ok ((List.range C).map (taskPlan I N C T (n + 1)))) := by
  apply List.map_congr_left
  intro n hn
  have := List.mem_range.mp hn
  exact run_parallel_does_not_raise I N C cpu T (n + 1) hI hC hcpu ⟨by omega, by omega⟩ hle

/-- every task gets at least one trial when the trials cover the tasks of one input
    (`N*C / I + N*C % I` is the largest number of tasks any input has) -/
theorem every_task_runs (I N C T job core : Nat) (hI : 0 < I) (hle : I ≤ N * C)
    (hT : N * C / I + N * C % I ≤ T) : 1 ≤ (taskPlan I N C T job core).nRuns := by
  have hq : 0 < N * C / I := Nat.div_pos hle hI
  simp only [taskPlan, runsOf]
  generalize inputOf (N * C / I) I (taskIndex C job core) = j
  have htp : 0 < tpi (N * C / I) (N * C % I) I j ∧ tpi (N * C / I) (N * C % I) I j ≤ T := by
    unfold tpi; split <;> omega
  have := Nat.div_pos htp.2 htp.1
  split <;> omega

/-- result files of different tasks (any two distinct (node, core) pairs) are different -/
theorem result_files_distinct (I N C T job job' core core' : Nat)
    (hc : core < C) (hc' : core' < C) (hj : 1 ≤ job) (hj' : 1 ≤ job')
    (h : (taskPlan I N C T job core).resultFile = (taskPlan I N C T job' core').resultFile) :
    job = job' ∧ core = core' := by
  simp only [taskPlan] at h
  exact taskIndex_injective C job job' core core' hc hc' hj hj' (resultName_injective _ _ _ h)

/-- the same for the progress logs -/
theorem log_files_distinct (I N C T job job' core core' : Nat)
    (hc : core < C) (hc' : core' < C) (hj : 1 ≤ job) (hj' : 1 ≤ job')
    (h : (taskPlan I N C T job core).logFile = (taskPlan I N C T job' core').logFile) :
    job = job' ∧ core = core' := by
  simp only [taskPlan] at h
  exact taskIndex_injective C job job' core core' hc hc' hj hj' (progressName_injective _ _ _ h)

/-- the number in a result file name is the global task number `i_task + 1` -/
theorem result_file_number (nT t : Nat) : strVal (taskNumber nT t) = t + 1 :=
  strVal_taskNumber nT t

/-- Regression example (defect D2, repaired by 51dca01): with the historical remainder
    `trials % n_runs` one input on 4 tasks asked for 10 trials ran only 8. -/
theorem old_remainder_loses_trials : allRunsOld 1 4 10 0 = 8 := by decide

/-! non-vacuity: 3 inputs, 2 nodes × 4 cores, 17 trials -/
example : trialsFor 2 (allTasks 3 2 4 17) = 17 := by decide
example : (allTasks 3 2 4 17).map (fun t => (t.input, t.nRuns)) =
    [(0, 8), (0, 9), (1, 8), (1, 9), (2, 4), (2, 4), (2, 4), (2, 5)] := by decide
example : (taskPlan 3 2 6 17 2 3).resultFile = "results_10.json.gz".toList := by decide
example : (taskPlan 3 2 6 17 1 3).resultFile = "results_04.json.gz".toList := by decide
example : runParallel 5 2 2 8 17 1 = .error .zeroDivision := by rfl

open Panqec.RunFile Panqec.Batch in
/-- **`run_file` completes the requested trials.**  Let the input file expand (`read_input_dict`)
    to the batch `b` of direct simulations, at least one, pairwise different (`idents` numbers
    them by their recorded inputs), and let the results file be in any admissible state before
    the task (`UniformFile`): absent (`k = 0`), or a complete well-formed document holding a
    record with `k` trials for every expanded simulation and nothing else — the state a
    `run_file(…, k)` call leaves.  Then, for every `n_trials = n`, output format and trial
    counter, `run_file` raises nothing and returns with the batch of the specification (label,
    method, simulations); the run has ended (`done`) within the model's step bound; the
    results file is absent or a complete document; for **every expanded simulation** it holds
    (`Holds`) a record carrying that simulation's identity with exactly `max k n` trials and
    three result lists of exactly that length (no file at all only when `max k n = 0`); it has
    records of expanded simulations only, each simulation once. -/
theorem run_file_completes_requested_trials (spec : Spec.Spec) (b : Spec.Batch) (fmt : Fmt)
    (pre : FileSt) (next0 k n : Nat)
    (hread : Spec.readInputDict spec = .ok b)
    (hdirect : b.sims.any (·.splitting) = false)
    (hne : idents b.sims ≠ []) (hnd : (idents b.sims).Nodup)
    (hpre : UniformFile pre (idents b.sims) k next0) :
    ∃ res, runFile spec fmt pre next0 n = .ok res ∧
      res.label = b.label ∧ res.method = b.method ∧ res.sims = b.sims ∧
      res.ids = idents b.sims ∧ res.final.proc.pc = .done ∧
      (res.final.disk.file = .absent ∨ ∃ d, res.final.disk.file = .complete d) ∧
      (∀ x ∈ idents b.sims, Holds res.final.disk.file x (max k n) ∧
        trialsRecorded res.final.disk.file x = max k n) ∧
      (∀ r ∈ docOf res.final.disk.file, r.inputs ∈ idents b.sims) ∧
      ((docOf res.final.disk.file).map (·.inputs)).Nodup := by
  obtain ⟨hdone, hfile, hholds, hsub, hnodup⟩ :=
    runBatch_uniform fmt pre next0 (idents b.sims) k n hne hnd hpre
  have heq : runFile spec fmt pre next0 n = .ok ⟨b.label, b.method, b.sims, idents b.sims,
      firstTrialOf (startProc (initWorld fmt pre next0) (idents b.sims) n saveFrequency).proc.pc,
      runBatch fmt pre next0 (idents b.sims) n⟩ := by
    unfold runFile
    simp only [hread, hdirect, Bool.false_eq_true, if_false, hdone]
  exact ⟨_, heq, rfl, rfl, rfl, rfl, hdone, hfile,
    fun x hx => ⟨hholds x hx, trialsRecorded_of_holds (hholds x hx)⟩, hsub, hnodup⟩

open Panqec.RunFile Panqec.Batch in
/-- the same for a task that starts without a results file (every task of `run_parallel`
    after `--delete-existing`, or in a fresh data directory): each simulation ends with exactly
    `n` trials -/
theorem run_file_from_scratch (fmt : Fmt) (ids : List Nat) (n x : Nat)
    (hne : ids ≠ []) (hnd : ids.Nodup) (hx : x ∈ ids) :
    trialsRecorded (runBatch fmt .absent 0 ids n).disk.file x = n := by
  have := (runBatch_uniform fmt .absent 0 ids 0 n hne hnd (Or.inl ⟨rfl, rfl⟩)).2.2.1 x hx
  rw [Nat.zero_max] at this
  exact trialsRecorded_of_holds this

open Panqec.RunFile Panqec.Batch in
/-- **Plan, then run: the trials arrive.**  `I ≥ 1` input files on `N` nodes × `C` cores with
    `I ≤ N·C`; every task of the plan of `run_parallel` executes `run_file` on its own results
    file, starting without one.  Then for every input `j` and every simulation `x` of its
    (non-empty, duplicate-free) expansion `ids`, the trials recorded for `x` in the result files
    of the tasks of `j` — what `merge-results` and `Analysis` add up — sum to exactly the
    requested `T`.  (Composition of `trials_conserved` with `run_file_from_scratch`.) -/
theorem plan_then_run_conserves_trials (fmt : Fmt) (ids : List Nat) (I N C T j x : Nat)
    (hI : 0 < I) (hle : I ≤ N * C) (hj : j < I)
    (hne : ids ≠ []) (hnd : ids.Nodup) (hx : x ∈ ids) :
    pipelineTrials fmt ids (allTasks I N C T) j x = T := by
  unfold pipelineTrials
  have : ((allTasks I N C T).filter (fun t => t.input == j)).map (fun t =>
      trialsRecorded (runBatch fmt .absent 0 ids t.nRuns).disk.file x) =
      ((allTasks I N C T).filter (fun t => t.input == j)).map (·.nRuns) :=
    List.map_congr_left fun t _ => run_file_from_scratch fmt ids t.nRuns x hne hnd hx
  rw [this]
  exact trials_conserved I N C T j hI hle hj

/-- the record of the protocol model advances like the trial bookkeeping of
    `DirectSimulation._run` (`Model/Sim.lean`): one trial adds one to `n_runs` and one entry to
    each of the three result lists -/
theorem record_shape_is_the_trial_bookkeeping (cfg : Sim.Config) (u : Nat → Rat)
    (s s' : Sim.State) (r : Batch.Sim) (id : Nat) (h : Sim.step cfg u s = .ok s')
    (hr : r.nRuns = s.nRuns ∧ r.ee.length = s.effectiveError.length ∧
      r.su.length = s.success.length ∧ r.cs.length = s.codespace.length) :
    (r.runOne id).nRuns = s'.nRuns ∧ (r.runOne id).ee.length = s'.effectiveError.length ∧
      (r.runOne id).su.length = s'.success.length ∧ (r.runOne id).cs.length = s'.codespace.length := by
  unfold Sim.step at h
  split at h
  · cases h
  · cases h
    simp only [Batch.Sim.runOne, List.length_append, List.length_singleton]
    omega

/-! non-vacuity: three simulations, first 2 trials from scratch, then 5 on the file left behind;
    a 2-node × 2-core plan on 3 inputs -/
section
open Panqec.RunFile Panqec.Batch

example : (runBatch .gz .absent 0 [0, 1, 2] 2).disk.file =
    .complete [⟨0, 2, [0, 3], [0, 3], [0, 3]⟩, ⟨1, 2, [1, 4], [1, 4], [1, 4]⟩,
               ⟨2, 2, [2, 5], [2, 5], [2, 5]⟩] := by decide +kernel

/-- the file a first task leaves is an admissible state for the next one -/
example : UniformFile (.complete [⟨0, 2, [0, 3], [0, 3], [0, 3]⟩, ⟨1, 2, [1, 4], [1, 4], [1, 4]⟩,
    ⟨2, 2, [2, 5], [2, 5], [2, 5]⟩]) [0, 1, 2] 2 6 :=
  Or.inr ⟨_, rfl, ⟨by decide, by simp [Sim.WF], by decide⟩, by decide, by decide⟩

example : shapeOf (runBatch .json (runBatch .json .absent 0 [0, 1, 2] 2).disk.file 6 [0, 1, 2] 5).disk.file =
    [(0, 5, 5, 5, 5), (1, 5, 5, 5, 5), (2, 5, 5, 5, 5)] := by decide +kernel
example : shapeOf (runBatch .json (runBatch .json .absent 0 [0, 1, 2] 2).disk.file 6 [0, 1, 2] 1).disk.file =
    [(0, 2, 2, 2, 2), (1, 2, 2, 2, 2), (2, 2, 2, 2, 2)] := by decide +kernel
example : pipelineTrials .gz [0, 1] (allTasks 3 2 2 7) 2 1 = 7 := by decide +kernel

/-- an input file: two sizes of the toric code, one noise direction, matching decoder, one rate -/
def demoSpec : Spec.Spec :=
  ⟨some (.single ⟨some "demo", none,
    some ⟨some "Toric2DCode", some (.list [.dict [("L_x", .int 2)], .dict [("L_x", .int 3), ("L_y", .int 2)]])⟩,
    some ⟨some "PauliErrorModel", some (.dict [("r_x", .num (1/4)), ("r_y", .num (1/4)), ("r_z", .num (1/2))])⟩,
    some ⟨some "MatchingDecoder", some (.dict [])⟩,
    some (.list [.num (1/8)]), none⟩), none⟩

/-- the hypotheses of `run_file_completes_requested_trials` hold on it: two direct
    simulations with different recorded inputs -/
example : ((Spec.readInputDict demoSpec).toOption.map fun b =>
    (b.label, b.sims.length, idents b.sims, b.sims.any (·.splitting))) =
    some ("demo", 2, [0, 1], false) := by decide +kernel

/-- … and the whole of `run_file` on it: 3 trials from scratch, progress log `3/3` -/
example : ((runFile demoSpec .gz .absent 0 3).toOption.map fun r => shapeOf r.final.disk.file) =
    some [(0, 3, 3, 3, 3), (1, 3, 3, 3, 3)] := by decide +kernel
example : ((runFile demoSpec .gz .absent 0 3).toOption.map fun r => (r.ids, r.log, r.progressRange)) =
    some ([0, 1], some (3, 3), (0, 3)) := by decide +kernel
end

end Panqec.C14
