/-
C01 (lattice part) — `RhombicToricCode` for EVERY lattice size of the supported family (all `L_i`
even and `≥ 2`; no bound on the size).

The model `Model/Lattices/RhombicToricCode.lean` is a hand-written transcription of
`panqec/codes/surface_3d/_rhombic_toric_code.py` as functions of the size (periodic wrap `%`, the
`(x+y+z) % 4` colouring of the cubes, `is_qubit` filter, dict overwrite); it is tied to the
implementation by the correspondence streams of `harness/lattices/rhombictoriccode.py`.  Property
theorems only; the lemmas are in `Proofs/LatRhombic.lean`, `Proofs/LatRhombicToricCode*.lean` and, for the
list of qubits (that of `XCubeCode`), `Proofs/LatXCubeCodeBasics.lean`.

Commutation of a cube (X on its twelve edges) with a triangle (Z on three legs): with `d` the
cyclic offset from the vertex to the cube and `s` the sign vector of the triangle, the shared qubits
are the legs `i` with `d_i = s_i` (all `|d_i| = 1`); the cube is coloured (`(x+y+z) % 4 = 1`), the
triangle points into an uncoloured cube (`% 4 = 3`), and because the periods `2·L_i` are multiples of
4 (the sizes are even) the colouring is consistent across the boundary, so `d` and `s` differ in an
odd number of places and the overlap is 0 or 2.  Pairing: `X_i` (sheet normal to axis `i`) meets
`Z_i` in one qubit, and `Z_j`, `j ≠ i`, in none or in a whole line of `L` qubits — an even number.
The evenness of the sizes is used in these two places, in the probes of the rank clause and in
the rank count.

Rank clause, for all even sizes `≥ 2` (`Lx·Ly·Lz/2 + 4·Lx·Ly·Lz` generators, rank `3·Lx·Ly·Lz − 3`: the
product of all cubes is the identity; the four triangles of a vertex and the eight corner triangles
of an uncoloured cube multiply to the identity, and there are two more global relations): all
coloured cubes but `(3, 1, 1)`; in the columns `0 < x < 2Lx−2` the triangles of axis 2 and 3 and
those of axis 1 with `(x+y+z) % 4 = 2`; in the column `x = 2Lx−2` all of axis 1, 2, 3 but axis 1 at
`(2Lx−2, 0, 0)`; in the column `x = 0` a spanning tree of the corner graph of the y-z torus — are
independent (`generators_independent`: triangular family of single-qubit probes with a
lexicographic rank, `Proofs/LatRhombicToricCodeRank{Probes,Order,Indep}.lean`) and there are exactly `n − 3` of them
(`generators_count`).  `valid_code` puts everything together through the generic bridges
`Proofs/OpComm.lean` and `Proofs/LatRankBridge.lean`: the matrices
that `stabilizer_matrix`, `logicals_x`, `logicals_z` of the generic code model (`Model/Code.lean`, C02)
assemble from this lattice model form a valid `[[3·Lx·Ly·Lz, 3]]` stabilizer code (`ValidCodeL`: all
four clauses of C01, rank included) for EVERY size of the family.
-/
import PanqecVerif.Proofs.LatRhombicToricCodeRankIndep
import PanqecVerif.Proofs.LatRankBridge

namespace Panqec.C01RhombicToricCode

open Panqec Panqec.RhombicToricCode Panqec.Lat2D

/-- Coordinates are distinct, qubit and stabilizer coordinates are disjoint, every stabilizer and
    logical operator is a dict (distinct keys) supported on qubits with letters X/Y/Z, and no
    stabilizer is empty — for every size ≥ 2 (even or odd). -/
theorem wf (Lx Ly Lz : Nat) (hx : 2 ≤ Lx) (hy : 2 ≤ Ly) (hz : 2 ≤ Lz) : (lattice Lx Ly Lz).WF :=
  RhombicToricCode.wf Lx Ly Lz hx hy hz

/-- All pairs of stabilizer generators commute (cube against triangle by the colouring argument,
    across the periodic boundary), the three logical X (sheets) and the three logical Z (lines of
    parallel edges) commute with every generator, `opAntiCount (X_i, Z_j)` is odd iff `i = j`, and
    the logical X's (Z's) commute among themselves — for every even size ≥ 2. -/
theorem commPair (Lx Ly Lz : Nat) (hx : 2 ≤ Lx) (hy : 2 ≤ Ly) (hz : 2 ≤ Lz)
    (hex : Lx % 2 = 0) (hey : Ly % 2 = 0) (hez : Lz % 2 = 0) : (lattice Lx Ly Lz).CommPair :=
  RhombicToricCode.commPair Lx Ly Lz hx hy hz hex hey hez

/-- one qubit per edge of the periodic cubic lattice -/
theorem n_formula (Lx Ly Lz : Nat) : (lattice Lx Ly Lz).toCodeData.n = 3 * (Lx * Ly * Lz) :=
  XCubeCode.length_qubits Lx Ly Lz

/-- `k = 3` (every size) -/
theorem k_value (Lx Ly Lz : Nat) : (lattice Lx Ly Lz).toCodeData.k = 3 :=
  length_logX Lx Ly Lz

/-- the number of stabilizer generators (every size): half of the cubes (rounded down: the corner
    `(1, 1, 1)` is not coloured) and four triangles per vertex -/
theorem n_stabilizers (Lx Ly Lz : Nat) :
    (lattice Lx Ly Lz).toCodeData.stabs.length = Lx * (Ly * Lz) / 2 + 4 * (Lx * Ly * Lz) :=
  length_stabs Lx Ly Lz

/-- rank clause, operator level: the selected generators (`selStabs`: all coloured cubes but
    `(3, 1, 1)`; the triangles described in the header, column by column) are independent — every
    non-empty duplicate-free sub-family `T` has a Pauli operator `d` on the qubits anticommuting with
    an odd number of members of `T` (so no non-trivial product of them is trivial) — every even
    size `≥ 2` -/
theorem generators_independent (Lx Ly Lz : Nat) (hx : 2 ≤ Lx) (hy : 2 ≤ Ly) (hz : 2 ≤ Lz)
    (hex : Lx % 2 = 0) (hey : Ly % 2 = 0) (hez : Lz % 2 = 0) :
    IndepGenerators (lattice Lx Ly Lz) (selStabs Lx Ly Lz) :=
  indep_sel Lx Ly Lz hx hy hz hex hey hez

/-- the independent family consists of `n − k` distinct stabilizer locations -/
theorem generators_count (Lx Ly Lz : Nat) (hx : 2 ≤ Lx) (hy : 2 ≤ Ly) (hz : 2 ≤ Lz)
    (hey : Ly % 2 = 0) :
    (selStabs Lx Ly Lz).Nodup ∧ (∀ s ∈ selStabs Lx Ly Lz, s ∈ (lattice Lx Ly Lz).stabs) ∧
    (selStabs Lx Ly Lz).length + (lattice Lx Ly Lz).toCodeData.k =
      (lattice Lx Ly Lz).toCodeData.n :=
  ⟨nodup_selStabs Lx Ly Lz hx hy hz, fun _ hs => selStabs_sub hx hy hz hs,
    selStabs_count Lx Ly Lz hx hy hz hey⟩

/-- THE C01 STATEMENT FOR ALL SIZES of the supported family (all `L_i` even and `≥ 2`):
    `stabilizer_matrix`, `logicals_x`, `logicals_z` of the generic code model, applied to this
    lattice model, return (no `KeyError`) matrices that form a valid `[[3·Lx·Ly·Lz, 3]]` stabilizer
    code: generators pairwise commute, logicals commute with the generators, `ω(X_i, Z_j) = δ_ij`,
    `ω(X_i, X_j) = ω(Z_i, Z_j) = 0`, and the generators have GF(2) rank `n − 3` -/
theorem valid_code (Lx Ly Lz : Nat) (hx : 2 ≤ Lx) (hy : 2 ≤ Ly) (hz : 2 ≤ Lz)
    (hex : Lx % 2 = 0) (hey : Ly % 2 = 0) (hez : Lz % 2 = 0) :
    stabilizerMatrix (lattice Lx Ly Lz).toCodeData = some (lattice Lx Ly Lz).rowsH ∧
    logicalsX (lattice Lx Ly Lz).toCodeData = some (lattice Lx Ly Lz).rowsX ∧
    logicalsZ (lattice Lx Ly Lz).toCodeData = some (lattice Lx Ly Lz).rowsZ ∧
    ValidCodeL (3 * (Lx * Ly * Lz)) 3
      (lattice Lx Ly Lz).rowsH (lattice Lx Ly Lz).rowsX (lattice Lx Ly Lz).rowsZ := by
  obtain ⟨hnd, hsub, hcount⟩ := generators_count Lx Ly Lz hx hy hz hey
  have h := validCode_of_lattice_subset (lattice Lx Ly Lz) (wf Lx Ly Lz hx hy hz)
    (commPair Lx Ly Lz hx hy hz hex hey hez) (selStabs Lx Ly Lz) hnd hsub
    (generators_independent Lx Ly Lz hx hy hz hex hey hez) hcount
  rw [n_formula, k_value] at h
  exact h

/-- `qubit_axis` of a qubit is the direction of its edge (the odd coordinate) -/
theorem qubit_axis_rule (Lx Ly Lz : Nat) (x y z : Int) (h : [x, y, z] ∈ (lattice Lx Ly Lz).qubits) :
    qubitAxis [x, y, z] = some (if x % 2 = 1 then "x" else if y % 2 = 1 then "y" else "z") :=
  qubitAxis_qubit Lx Ly Lz x y z h

/-- `get_deformation(location, name)` for every name and every location with three coordinates
    (keyword arguments are ignored by the class): a name other than `'Checkerboard XZZX'` is a
    `ValueError`; otherwise `ValueError` where `qubit_axis` raises, X ↔ Z exactly on the z edges
    with `z % 4 = 3 ∧ (x+y) % 4 = 2` or `z % 4 = 1 ∧ (x+y) % 4 = 0`, and the identity elsewhere. -/
theorem deformation_rule (name : String) (x y z : Int) :
    getDeformation name [x, y, z] =
      if name ≠ "Checkerboard XZZX" then none
      else (qubitAxis [x, y, z]).map fun a =>
        if a = "z" ∧ ((z % 4 = 3 ∧ (x + y) % 4 = 2) ∨ (z % 4 = 1 ∧ (x + y) % 4 = 0))
        then PauliMap.swapXZ else PauliMap.id :=
  Rhombic.getDeformation_rule name x y z

/-- a location that does not have three coordinates is rejected (the tuple unpacking raises
    `ValueError`) -/
theorem deformation_bad_location (name : String) (loc : Coord) (h : loc.length ≠ 3) :
    getDeformation name loc = none :=
  Rhombic.getDeformation_bad_location name loc h

/-- on the qubits of every size: the deformation is defined, and it is X ↔ Z exactly on the z edges
    of the checkerboard -/
theorem deformation_on_qubits (Lx Ly Lz : Nat) (x y z : Int)
    (h : [x, y, z] ∈ (lattice Lx Ly Lz).qubits) :
    getDeformation "Checkerboard XZZX" [x, y, z] =
      some (if z % 2 = 1 ∧ ((z % 4 = 3 ∧ (x + y) % 4 = 2) ∨ (z % 4 = 1 ∧ (x + y) % 4 = 0))
        then PauliMap.swapXZ else PauliMap.id) := by
  rw [deformation_rule, qubit_axis_rule Lx Ly Lz x y z h]
  have hq := (mem_qubits_iff Lx Ly Lz x y z).mp h
  unfold QX QY QZ Lat3Db.R0 Lat3Db.R1 at hq
  simp only [ne_eq, not_true_eq_false, if_false, Option.map_some, Option.some.injEq]
  by_cases hx : x % 2 = 1
  · have hz : ¬ z % 2 = 1 := by omega
    simp [hx, hz]
  · by_cases hy : y % 2 = 1
    · have hz : ¬ z % 2 = 1 := by omega
      simp [hx, hy, hz]
    · have hz : z % 2 = 1 := by omega
      simp [hx, hy, hz]

/-- consequently every deformation the class returns is a permutation of {X, Y, Z} (so C08
    applies) -/
theorem deformation_isPerm (name : String) (loc : Coord) (m : PauliMap)
    (h : getDeformation name loc = some m) : m.isPerm = true :=
  Rhombic.getDeformation_isPerm h

/-! ### non-vacuity -/

example : (lattice 2 2 2).WF := wf 2 2 2 (by decide) (by decide) (by decide)
example : (lattice 2 4 6).CommPair :=
  commPair 2 4 6 (by decide) (by decide) (by decide) (by decide) (by decide) (by decide)
example : (lattice 2 2 4).toCodeData.n = 48 := n_formula 2 2 4
example : (lattice 2 2 2).toCodeData.n = 24 := by decide
example : (lattice 2 2 2).stabs.length = 36 := by decide
/-- a cube across the periodic boundary: twelve distinct edges -/
example : (getStab 2 2 2 [3, 3, 3]).length = 12 := by decide +kernel
/-- a triangle at the origin wraps to the far side -/
example : getStab 2 2 2 [1, 0, 0, 0] = [([3, 0, 0], .Z), ([0, 3, 0], .Z), ([0, 0, 1], .Z)] := by
  decide +kernel
example : opAntiCount ((logX 2 2 2).getD 0 []) ((logZ 2 2 2).getD 0 []) = 1 := by decide +kernel
/-- `X_0` and `Z_2` share the `Lz = 2` qubits of a whole line: an even number -/
example : opAntiCount ((logX 2 2 2).getD 0 []) ((logZ 2 2 2).getD 2 []) = 2 := by decide +kernel
example : IndepGenerators (lattice 2 4 6) (selStabs 2 4 6) :=
  generators_independent 2 4 6 (by decide) (by decide) (by decide) (by decide) (by decide) (by decide)
example : (selStabs 2 2 2).length = 21 := by decide +kernel
example : ValidCodeL 144 3 (lattice 2 4 6).rowsH (lattice 2 4 6).rowsX (lattice 2 4 6).rowsZ :=
  (valid_code 2 4 6 (by decide) (by decide) (by decide) (by decide) (by decide) (by decide)).2.2.2
/-- the smallest member of the family: 36 generators, rank 21 -/
example : (lattice 2 2 2).stabs.length = 36 ∧ HasRank (2 * 24) (lattice 2 2 2).rowsH 21 :=
  ⟨by decide,
    (valid_code 2 2 2 (by decide) (by decide) (by decide) (by decide) (by decide) (by decide)).2.2.2.rank⟩
example : getDeformation "Checkerboard XZZX" [0, 0, 1] = some PauliMap.swapXZ := by decide
example : getDeformation "Checkerboard XZZX" [2, 0, 1] = some PauliMap.id := by decide
example : getDeformation "Checkerboard XZZX" [1, 1, 1] = none := by decide
example : getDeformation "XZZX" [0, 0, 1] = none := by decide

end Panqec.C01RhombicToricCode
