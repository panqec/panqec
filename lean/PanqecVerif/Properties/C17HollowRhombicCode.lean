/-
C17 for `HollowRhombicCode`, EVERY size of the supported family (`Lx, Ly ≥ 2`, `Lz ≥ 3`, no upper
bound) that is a valid code, i.e. that is not `Deficient` (`C01HollowRhombicCode.valid_iff_not_deficient`):
the distance `code.d` reports is the true code distance, `min wX Lz`, where

    wX = Lx·Ly + (Lx−1)(Ly−1) − [Lz ≥ 5]·((Lx−2)(Ly−4) + (Lx−3)(Ly−3))

is the weight of the listed logical X — the existing x- and y-edges of the plane `z = 4`, which
crosses the hole exactly when `Lz ≥ 5` — for the undeformed code and for the deformed code the class
offers (`'Checkerboard XZZX'`).  As for `RhombicPlanarCode` the distance is not `min(Lx, Ly, Lz)`:
`HollowRhombicCode(2, 2, 9).d = 5`, `(3, 3, 14).d = 13`, and the exact search (integer program on
both CSS sectors, 107 non-deficient sizes with `n ≤ 330` and the tall lattices `(2,3,9)`, `(3,3,14)`,
`(2,4,11)`) confirms that these are the true distances.  The hard-coded height `z = 4` of the listed
sheet is the right choice for every size: it is a lightest sheet (it goes through the hole whenever
a horizontal plane can).

The matrices are the ones the generic code model assembles from the hand-written lattice model
`Model/Lattices/HollowRhombicCode.lean` (tied to `panqec/codes/surface_3d/_hollow_rhombic_code.py` by
the correspondence streams of `harness/lattices/hollowrhombiccode.py`).

* `weights_listed`, `reported_distance` — the listed logical X has weight `wX` (counted: the two
  edge loops of the plane with the hole guard), the listed logical Z (the vertical stack
  `(2Lx−1, 2Ly−2, ·)`) weight `Lz`; `code.d` (`distance`, the minimum Pauli weight over the rows of
  `logicals_x` and `logicals_z`, as `StabilizerCode.d` computes it) is their minimum.  Every size
  of the family, deficient or not.
* `lower_bound` — every non-trivial logical operator has at least that weight.  Packing argument
  (`Proofs/DistLattice.lean`, `Proofs/DistSameClass.lean`, `Proofs/DistHollowRhombicCode{Sheets,LowerBound}.lean`): a
  non-trivial logical anticommutes with one of the two listed logicals (C04).  The X sheet has the
  `Lz` representatives `z = 2i` (existing x- and y-edges of that plane): a listed triangle has its
  x key iff it has its y key (`C01HollowRhombicCode.triangle_keys_rule`), so every sheet commutes with
  every generator, and it meets the listed Z stack in one qubit.  The Z stack has one
  representative per key `(x, y, 4)` of the listed sheet — `wX` of them — namely the vertical stack
  `(x, y, ·)`: all its locations are qubits (the hole has the same cross-section at every height it
  reaches, and it reaches the height 4 whenever it reaches an even height), it meets every cube in
  0 or 2 edges and the listed sheet in one.  A representative is NOT shown to differ from the
  listed logical by an explicit product of generators: it commutes with all generators and has
  the same parities against the two listed logicals, hence is in the class of the listed logical
  by C04 (`Lattice.same_class`) — this is where the validity of the code (not deficient) enters.
* `distance` — `IsDistance n H (min wX Lz)`; `distance_reported` states it for the reported `d`.
* `distance_deformed`, `distance_deformed_offered` — the same for the deformed code
  (`deform('Checkerboard XZZX')`; every other name raises), every non-deficient size
  (`C17.distance_deformation_invariant`).
* `deficient_reported_distance_wrong_x` / `_y` — NEGATIVE, a consequence of the recorded C01 finding:
  on the deficient sizes with `Lx = 3` (`Ly, Lz ≥ 6`) and with `Ly = 4` (`Lx ≥ 5`, `Lz ≥ 6`) the
  reported `d ≥ 6` is not the minimum weight of an operator that commutes with all generators and
  is not a product of generators: the undeclared logical X of the thin hole, a plaquette of
  weight 4, is one (`HollowRhombicCode(3, 6, 6).d = 6`, exact search: 4).
-/
import PanqecVerif.Properties.C01HollowRhombicCode
import PanqecVerif.Proofs.DistHollowRhombicCodeLowerBound
import PanqecVerif.Proofs.DistHollowRhombicCodeSecondPair
import PanqecVerif.Proofs.Dist
import PanqecVerif.Proofs.DistDeform

namespace Panqec.C17HollowRhombicCode
open Panqec.HollowRhombicCode Panqec.Color
open Panqec.C01HollowRhombicCode (Family Deficient)

/-- the number of qubits: the edges of the `Lx × Ly × Lz` planar cubic lattice minus the x, y and z
    edges in the hole -/
def nQ (Lx Ly Lz : Nat) : Nat :=
  Lx * Ly * Lz + (Lx - 1) * (Ly - 1) * Lz + (Lx - 1) * Ly * (Lz - 1) -
    ((Lx - 2) * (Ly - 4) * (Lz - 4) + (Lx - 3) * (Ly - 3) * (Lz - 4) + (Lx - 3) * (Ly - 4) * (Lz - 3))

theorem n_eq (Lx Ly Lz : Nat) : (lattice Lx Ly Lz).qubits.length = nQ Lx Ly Lz := by
  have := C01HollowRhombicCode.n_formula Lx Ly Lz
  unfold nQ
  show (qubits Lx Ly Lz).length = _
  have e : (lattice Lx Ly Lz).toCodeData.n = (qubits Lx Ly Lz).length := rfl
  omega

/-- the weight of the listed sheet `z = 4` -/
abbrev wX := HollowRhombicCode.wX

/-- the distance `min wX Lz` -/
def dist (Lx Ly Lz : Nat) : Nat := min (wX Lx Ly Lz) Lz

/-- the row of `logicals_x` has Pauli weight `wX` (the existing edges of the plane `z = 4`), that of
    `logicals_z` `Lz` (vertical stack) — every size of the family -/
theorem weights_listed (Lx Ly Lz : Nat) (h : Family Lx Ly Lz) :
    (lattice Lx Ly Lz).rowsX.map pauliWeight = [wX Lx Ly Lz] ∧
    (lattice Lx Ly Lz).rowsZ.map pauliWeight = [Lz] :=
  HollowRhombicCode.weights_listed h.2.2 (C01HollowRhombicCode.wf Lx Ly Lz h)

/-- `wX` written out: without hole in the plane (`Lz ≤ 4`) the full sheet, with the hole the sheet
    minus its `(Lx−2)(Ly−4)` x-edges and `(Lx−3)(Ly−3)` y-edges -/
theorem wX_formula (Lx Ly Lz : Nat) :
    (Lz ≤ 4 → wX Lx Ly Lz = Lx * Ly + (Lx - 1) * (Ly - 1)) ∧
    (5 ≤ Lz → wX Lx Ly Lz + ((Lx - 2) * (Ly - 4) + (Lx - 3) * (Ly - 3)) =
      Lx * Ly + (Lx - 1) * (Ly - 1)) := by
  unfold wX HollowRhombicCode.wX
  constructor
  · intro h; rw [if_neg (by omega)]; rfl
  · intro h
    rw [if_pos h]
    have : (Lx - 2) * (Ly - 4) + (Lx - 3) * (Ly - 3) ≤ Lx * Ly + (Lx - 1) * (Ly - 1) := by
      have h1 : (Lx - 2) * (Ly - 4) ≤ Lx * Ly := Nat.mul_le_mul (by omega) (by omega)
      have h2 : (Lx - 3) * (Ly - 3) ≤ (Lx - 1) * (Ly - 1) := Nat.mul_le_mul (by omega) (by omega)
      omega
    omega

/-- what `code.d` returns — the minimum weight over the listed logical operators — is
    `min wX Lz`, every size of the family -/
theorem reported_distance (Lx Ly Lz : Nat) (h : Family Lx Ly Lz) :
    Panqec.distance (lattice Lx Ly Lz).rowsX (lattice Lx Ly Lz).rowsZ = some (dist Lx Ly Lz) :=
  HollowRhombicCode.reported_distance h.2.2 (C01HollowRhombicCode.wf Lx Ly Lz h)

/-- no non-trivial logical operator (commutes with every generator, is not a product of
    generators) of the `Lx × Ly × Lz` hollow rhombic code is lighter than `min wX Lz` — every size of
    the family that is not deficient -/
theorem lower_bound (Lx Ly Lz : Nat) (h : Family Lx Ly Lz) (hd : ¬ Deficient Lx Ly Lz) :
    ∀ v, IsNontrivialLogical (nQ Lx Ly Lz) (lattice Lx Ly Lz).rowsH v →
      dist Lx Ly Lz ≤ pauliWeight v := by
  have hv := (C01HollowRhombicCode.valid_code Lx Ly Lz h hd).2.2.2
  have e : (lattice Lx Ly Lz).toCodeData.n = nQ Lx Ly Lz := n_eq Lx Ly Lz
  rw [e] at hv
  have := HollowRhombicCode.lower_bound h.1 h.2.1 h.2.2 (C01HollowRhombicCode.wf Lx Ly Lz h)
    (n_eq Lx Ly Lz) hv
  rw [HollowRhombicCode.length_sheetKeys h.2.2] at this
  exact this

/-- the validity premise with `n` written out -/
theorem valid (Lx Ly Lz : Nat) (h : Family Lx Ly Lz) (hd : ¬ Deficient Lx Ly Lz) :
    ValidCodeL (nQ Lx Ly Lz) 1 (lattice Lx Ly Lz).rowsH (lattice Lx Ly Lz).rowsX
      (lattice Lx Ly Lz).rowsZ := by
  have hv := (C01HollowRhombicCode.valid_code Lx Ly Lz h hd).2.2.2
  have e : (lattice Lx Ly Lz).toCodeData.n = nQ Lx Ly Lz := n_eq Lx Ly Lz
  rw [e] at hv
  exact hv

/-- THE C17 STATEMENT FOR ALL VALID SIZES of the supported family (`Lx, Ly ≥ 2`, `Lz ≥ 3`, not
    deficient): the code distance of the `Lx × Ly × Lz` hollow rhombic code — the minimum weight of a
    non-trivial logical operator of the assembled parity-check matrix — is `min wX Lz` -/
theorem distance (Lx Ly Lz : Nat) (h : Family Lx Ly Lz) (hd : ¬ Deficient Lx Ly Lz) :
    IsDistance (nQ Lx Ly Lz) (lattice Lx Ly Lz).rowsH (dist Lx Ly Lz) :=
  distance_criterion (valid Lx Ly Lz h hd) (dist Lx Ly Lz)
    (exists_listed_of_distance _ _ _ (reported_distance Lx Ly Lz h))
    (lower_bound Lx Ly Lz h hd)

/-- the same, stated for whatever `code.d` reports: the reported distance exists and is the
    true distance -/
theorem distance_reported (Lx Ly Lz : Nat) (h : Family Lx Ly Lz) (hd : ¬ Deficient Lx Ly Lz) :
    ∃ d, Panqec.distance (lattice Lx Ly Lz).rowsX (lattice Lx Ly Lz).rowsZ = some d ∧
      IsDistance (nQ Lx Ly Lz) (lattice Lx Ly Lz).rowsH d :=
  ⟨_, reported_distance Lx Ly Lz h, distance Lx Ly Lz h hd⟩

/-- the tall lattices: for `Lz ≥ wX` the distance is the weight of the sheet, not the height -/
theorem distance_tall (Lx Ly Lz : Nat) (h : Family Lx Ly Lz) (hd : ¬ Deficient Lx Ly Lz)
    (ht : wX Lx Ly Lz ≤ Lz) :
    IsDistance (nQ Lx Ly Lz) (lattice Lx Ly Lz).rowsH (wX Lx Ly Lz) := by
  have := distance Lx Ly Lz h hd
  unfold dist at this
  rwa [Nat.min_eq_left ht] at this

/-- every map `get_deformation` returns is a permutation of {X, Y, Z} (so C08 applies) -/
theorem deformation_isPerm {name : String} {loc : Coord} {m : PauliMap}
    (h : getDeformation name loc = DeformResult.map m) : m.isPerm = true := by
  unfold getDeformation at h
  split at h
  · split at h
    · split at h
      · cases h
      · split at h <;> (injection h with h; subst h; decide)
    · cases h
  · cases h

/-- the class offers the deformation 'Checkerboard XZZX': `get_deformation` is defined on every
    qubit of every lattice (any other name raises, `C01HollowRhombicCode.deformation_rule_bad_name`) -/
theorem deformation_defined (Lx Ly Lz : Nat) (q : Coord) (hq : q ∈ (lattice Lx Ly Lz).qubits) :
    ∃ m, getDeformation "Checkerboard XZZX" q = DeformResult.map m := by
  rcases C01HollowRhombicCode.deformation_rule_on_qubits Lx Ly Lz q hq with h | h
  · exact ⟨_, h⟩
  · exact ⟨_, h⟩

/-- THE C17 STATEMENT FOR EVERY DEFORMED CODE OF THE CLASS, ALL VALID SIZES: for every deformation
    name for which `get_deformation` returns a map on the qubits (`D q` = the relabelling it returns
    on `q`), the matrices the deformed getters assemble are the relabelled rows, they form a valid
    `[[n, 1]]` code, `code.d` reports `min wX Lz`, and that is the true distance of the deformed
    code -/
theorem distance_deformed (Lx Ly Lz : Nat) (h : Family Lx Ly Lz) (hd : ¬ Deficient Lx Ly Lz)
    (name : String) (D : Coord → PauliMap)
    (hD : ∀ q ∈ (lattice Lx Ly Lz).qubits, getDeformation name q = DeformResult.map (D q)) :
    stabilizerMatrix ((lattice Lx Ly Lz).toCodeData.deform D) =
        some ((lattice Lx Ly Lz).rowsH.map (deformBsf ((lattice Lx Ly Lz).qubits.map D))) ∧
    logicalsX ((lattice Lx Ly Lz).toCodeData.deform D) =
        some ((lattice Lx Ly Lz).rowsX.map (deformBsf ((lattice Lx Ly Lz).qubits.map D))) ∧
    logicalsZ ((lattice Lx Ly Lz).toCodeData.deform D) =
        some ((lattice Lx Ly Lz).rowsZ.map (deformBsf ((lattice Lx Ly Lz).qubits.map D))) ∧
    ValidCodeL (nQ Lx Ly Lz) 1
      ((lattice Lx Ly Lz).rowsH.map (deformBsf ((lattice Lx Ly Lz).qubits.map D)))
      ((lattice Lx Ly Lz).rowsX.map (deformBsf ((lattice Lx Ly Lz).qubits.map D)))
      ((lattice Lx Ly Lz).rowsZ.map (deformBsf ((lattice Lx Ly Lz).qubits.map D))) ∧
    Panqec.distance ((lattice Lx Ly Lz).rowsX.map (deformBsf ((lattice Lx Ly Lz).qubits.map D)))
      ((lattice Lx Ly Lz).rowsZ.map (deformBsf ((lattice Lx Ly Lz).qubits.map D))) =
        some (dist Lx Ly Lz) ∧
    IsDistance (nQ Lx Ly Lz)
      ((lattice Lx Ly Lz).rowsH.map (deformBsf ((lattice Lx Ly Lz).qubits.map D)))
      (dist Lx Ly Lz) :=
  Lattice.deformed_distance (lattice Lx Ly Lz) (C01HollowRhombicCode.wf Lx Ly Lz h)
    (n_eq Lx Ly Lz) (valid Lx Ly Lz h hd) (reported_distance Lx Ly Lz h) (distance Lx Ly Lz h hd) D
    (fun q hq => deformation_isPerm (hD q hq))

/-- the relabelling `get_deformation(·, name)` as a function of the location (identity where it
    raises — nowhere on the qubits for the offered name) -/
def deformationOf (name : String) (q : Coord) : PauliMap :=
  match getDeformation name q with
  | DeformResult.map m => m
  | _ => PauliMap.id

/-- the 'Checkerboard XZZX' code has distance `min wX Lz` — every valid size of the family -/
theorem distance_deformed_offered (Lx Ly Lz : Nat) (h : Family Lx Ly Lz) (hd : ¬ Deficient Lx Ly Lz) :
    IsDistance (nQ Lx Ly Lz)
      ((lattice Lx Ly Lz).rowsH.map (deformBsf ((lattice Lx Ly Lz).qubits.map
        (deformationOf "Checkerboard XZZX")))) (dist Lx Ly Lz) :=
  (distance_deformed Lx Ly Lz h hd "Checkerboard XZZX"
    (deformationOf "Checkerboard XZZX") (fun q hq => by
      obtain ⟨m, hm⟩ := deformation_defined Lx Ly Lz q hq
      unfold deformationOf
      rw [hm])).2.2.2.2.2

/-- NEGATIVE (consequence of the recorded C01 finding): for EVERY `Ly, Lz ≥ 6` the class
    `HollowRhombicCode(3, Ly, Lz)` reports `d = min wX Lz ≥ 6`, but an operator of weight 4 (X on
    the four qubits of the plaquette `{(2,5,4), (2,5,6), (2,4,5), (2,6,5)}` next to the thin hole)
    commutes with every generator and is not a product of generators: the reported value is not
    the minimum weight of a non-trivial logical operator of the assembled check matrix -/
theorem deficient_reported_distance_wrong_x (Ly Lz : Nat) (hy : 6 ≤ Ly) (hz : 6 ≤ Lz) :
    Panqec.distance (lattice 3 Ly Lz).rowsX (lattice 3 Ly Lz).rowsZ = some (dist 3 Ly Lz) ∧
    6 ≤ dist 3 Ly Lz ∧
    (∃ v, IsNontrivialLogical (nQ 3 Ly Lz) (lattice 3 Ly Lz).rowsH v ∧ pauliWeight v = 4) ∧
    ¬ IsDistance (nQ 3 Ly Lz) (lattice 3 Ly Lz).rowsH (dist 3 Ly Lz) := by
  have hf : Family 3 Ly Lz := ⟨by decide, by omega, by omega⟩
  have hd6 : 6 ≤ dist 3 Ly Lz := by
    unfold dist
    have h5 := (wX_formula 3 Ly Lz).2 (by omega)
    simp only [Nat.sub_self, Nat.zero_mul, Nat.add_zero] at h5
    have : (3 - 2) * (Ly - 4) = Ly - 4 := by omega
    rw [this] at h5
    omega
  obtain ⟨v, hv, (hw : pauliWeight v = 4)⟩ := (HollowRhombicCode.ThinA.secondPair hy hz).light_logical (n_eq 3 Ly Lz)
  refine ⟨reported_distance 3 Ly Lz hf, hd6, ⟨v, hv, hw⟩, ?_⟩
  intro hdist
  have := hdist.2 v hv
  omega

/-- the same for every `Lx ≥ 5`, `Lz ≥ 6` with `Ly = 4` (plaquette `{(5,2,4), (5,2,6), (4,2,5), (6,2,5)}`) -/
theorem deficient_reported_distance_wrong_y (Lx Lz : Nat) (hx : 5 ≤ Lx) (hz : 6 ≤ Lz) :
    Panqec.distance (lattice Lx 4 Lz).rowsX (lattice Lx 4 Lz).rowsZ = some (dist Lx 4 Lz) ∧
    6 ≤ dist Lx 4 Lz ∧
    (∃ v, IsNontrivialLogical (nQ Lx 4 Lz) (lattice Lx 4 Lz).rowsH v ∧ pauliWeight v = 4) ∧
    ¬ IsDistance (nQ Lx 4 Lz) (lattice Lx 4 Lz).rowsH (dist Lx 4 Lz) := by
  have hf : Family Lx 4 Lz := ⟨by omega, by decide, by omega⟩
  have hd6 : 6 ≤ dist Lx 4 Lz := by
    unfold dist
    have h5 := (wX_formula Lx 4 Lz).2 (by omega)
    simp only [Nat.sub_self, Nat.mul_zero, Nat.zero_add] at h5
    have e1 : (Lx - 3) * (4 - 3) = Lx - 3 := by omega
    have e2 : (Lx - 1) * (4 - 1) = 3 * (Lx - 1) := by omega
    rw [e1, e2] at h5
    omega
  obtain ⟨v, hv, (hw : pauliWeight v = 4)⟩ := (HollowRhombicCode.ThinB.secondPair hx hz).light_logical (n_eq Lx 4 Lz)
  refine ⟨reported_distance Lx 4 Lz hf, hd6, ⟨v, hv, hw⟩, ?_⟩
  intro hdist
  have := hdist.2 v hv
  omega

/-! ### non-vacuity -/

example : IsDistance 19 (lattice 2 2 3).rowsH 3 :=
  distance 2 2 3 (by decide) (by decide)
/-- a tall lattice: the distance is the weight of the sheet, not `Lz` -/
example : IsDistance 61 (lattice 2 2 9).rowsH 5 :=
  distance 2 2 9 (by decide) (by decide)
/-- a lattice with a thick hole: 520 qubits, the sheet through the hole has 40 qubits, `d = 8` -/
example : IsDistance 520 (lattice 6 5 8).rowsH 8 :=
  distance 6 5 8 (by decide) (by decide)
example : wX 6 5 8 = 40 ∧ wX 6 5 4 = 50 ∧ wX 4 5 5 = 28 ∧ wX 3 3 14 = 13 := by decide
/-- a long lattice with a hole where the sheet decides: `(4, 5, 40)` has `d = 28` -/
example : IsDistance (nQ 4 5 40) (lattice 4 5 40).rowsH 28 :=
  distance_tall 4 5 40 (by decide) (by decide) (by decide)
/-- the hypothesis of `lower_bound` is satisfiable: the listed logical X is a non-trivial logical
    operator -/
example : IsNontrivialLogical 19 (lattice 2 2 3).rowsH ((lattice 2 2 3).rowsX.getD 0 []) :=
  listedX_nontrivial (valid 2 2 3 (by decide) (by decide)) (by decide +kernel)
example : (lattice 4 5 5).rowsX.map pauliWeight = [28] ∧ (lattice 4 5 5).rowsZ.map pauliWeight = [5] :=
  weights_listed 4 5 5 (by decide)
/-- the 'Checkerboard XZZX' code on the `3 × 4 × 5` lattice has distance 5 -/
example : IsDistance (nQ 3 4 5) ((lattice 3 4 5).rowsH.map
    (deformBsf ((lattice 3 4 5).qubits.map (deformationOf "Checkerboard XZZX")))) 5 :=
  distance_deformed_offered 3 4 5 (by decide) (by decide)
example : deformationOf "Checkerboard XZZX" [2, 0, 3] = PauliMap.swapXZ := by decide
/-- `HollowRhombicCode(3, 6, 6)` reports 6; an operator of weight 4 is a non-trivial logical -/
example : ¬ IsDistance 224 (lattice 3 6 6).rowsH 6 :=
  (deficient_reported_distance_wrong_x 6 6 (by decide) (by decide)).2.2.2

end Panqec.C17HollowRhombicCode
