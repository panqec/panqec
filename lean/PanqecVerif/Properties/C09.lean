/-
C09 — matching is exactly minimum-weight; correctable sets are always corrected.

(a) `minWeight_iff_mostLikely`: for positive per-qubit flip / no-flip likelihoods,
    minimising PyMatching's objective `Σ w_i c_i` with `w_i = -log(a_i/b_i)` over any set
    of candidate corrections is the same as maximising the likelihood
    `Π a_i^{c_i} b_i^{1-c_i}` (real logarithm, Mathlib).  With `a = P`, `b = 1 - P` this is
    the i.i.d. likelihood; with `a = P + ε`, `b = 1 - P + ε` it is literally the formula of
    `get_weights`.  Marginals below 1/2 give positive weights.
(b) `matching_corrects_up_to_t`: for every CSS matrix, if the matching solver is valid and of
    minimum weight under uniform positive weights and both sector distances are at least
    `2t+1`, every error with at most `t` flips per sector (in particular every Pauli error
    of weight ≤ t) is corrected up to a trivial operator of each sector.
(c) the pairing (X corrections from `(Hz, w_x)` and the Z-row syndrome, Z corrections from
    `(Hx, w_z)` and the X-row syndrome) is `C05.matching_pairing` /
    `C05.matching_correction_reproduces_syndrome`, reused here.

NOT proved (bounded replay on the implementation, labelled partial in the harness):
PyMatching's optimality itself (third-party contract, tested against the full coset),
union-find t-correctability (the model `Model/UnionFind.lean` of `uf_support.py` carries the
syndrome-reproduction theorems of `Properties/C05UnionFind.lean`, no minimum-weight or
t-correctability statement), and the sweep-match
single-qubit claim (sweep automata belong to C10; replay on the stated lattice set).
"Trivial operator ⇒ `is_success`" is C04's theorem and is not repeated here.
-/
import PanqecVerif.Proofs.DecodersWeights

namespace Panqec.C09

open Panqec

/-- **(a)** For any set `S` of candidate corrections (binary, one entry per qubit) — e.g.
    all solutions of `H c = s` — a candidate has minimum total weight
    `Σ_i w_i c_i`, `w_i = -log (a_i / b_i)`, iff it has maximum likelihood
    `Π_i (c_i = 1 ? a_i : b_i)`. -/
theorem minWeight_iff_mostLikely (a b : List ℝ) (ha : ∀ x ∈ a, 0 < x) (hb : ∀ x ∈ b, 0 < x)
    (hab : a.length = b.length) (S : Set Vec)
    (hS : ∀ c ∈ S, c.length = a.length ∧ ∀ x ∈ c, x < 2) (c : Vec) (hc : c ∈ S) :
    (∀ c' ∈ S, wdot (logOddsWeights a b) c ≤ wdot (logOddsWeights a b) c') ↔
    (∀ c' ∈ S, lik a b c' ≤ lik a b c) :=
  forall₂_congr fun c' hc' => weight_le_iff_lik_ge a b c c' ha hb hab (hS c hc) (hS c' hc')

/-- the i.i.d. instance: marginals `P_i ∈ (0,1)`, weights `log((1-P_i)/P_i)`, likelihood
    `Π P_i^{c_i} (1-P_i)^{1-c_i}` -/
theorem minWeight_iff_mostLikely_iid (P : List ℝ) (hP : ∀ p ∈ P, 0 < p ∧ p < 1) (S : Set Vec)
    (hS : ∀ c ∈ S, c.length = P.length ∧ ∀ x ∈ c, x < 2) (c : Vec) (hc : c ∈ S) :
    (∀ c' ∈ S, wdot (logOddsWeights P (P.map (1 - ·))) c ≤ wdot (logOddsWeights P (P.map (1 - ·))) c') ↔
    (∀ c' ∈ S, lik P (P.map (1 - ·)) c' ≤ lik P (P.map (1 - ·)) c) := by
  apply minWeight_iff_mostLikely P (P.map (1 - ·)) (fun x hx => (hP x hx).1) _ (by simp) S hS c hc
  intro x hx
  obtain ⟨p, hp, rfl⟩ := List.mem_map.mp hx
  have := (hP p hp).2
  linarith

/-- the literal formula of `get_weights`: `w_i = -log((P_i + ε) / (1 - P_i + ε))` for any
    guard `ε > 0` and marginals `P_i ∈ [0,1]` is minimum-weight ⇔ maximum of the
    ε-regularised likelihood `Π (P_i+ε)^{c_i} (1-P_i+ε)^{1-c_i}` -/
theorem minWeight_iff_mostLikely_eps (P : List ℝ) (ε : ℝ) (hε : 0 < ε)
    (hP : ∀ p ∈ P, 0 ≤ p ∧ p ≤ 1) (S : Set Vec)
    (hS : ∀ c ∈ S, c.length = P.length ∧ ∀ x ∈ c, x < 2) (c : Vec) (hc : c ∈ S) :
    (∀ c' ∈ S, wdot (logOddsWeights (P.map (· + ε)) (P.map (1 - · + ε))) c ≤
               wdot (logOddsWeights (P.map (· + ε)) (P.map (1 - · + ε))) c') ↔
    (∀ c' ∈ S, lik (P.map (· + ε)) (P.map (1 - · + ε)) c' ≤
               lik (P.map (· + ε)) (P.map (1 - · + ε)) c) := by
  apply minWeight_iff_mostLikely _ _ _ _ (by simp) S (by simpa using hS) c hc
  · intro x hx
    obtain ⟨p, hp, rfl⟩ := List.mem_map.mp hx
    have := (hP p hp).1
    linarith
  · intro x hx
    obtain ⟨p, hp, rfl⟩ := List.mem_map.mp hx
    have := (hP p hp).2
    linarith

/-- marginals below 1/2 give strictly positive matching weights -/
theorem weights_positive (p : ℝ) (h0 : 0 < p) (h1 : p < 1 / 2) : 0 < -Real.log (p / (1 - p)) :=
  logOdds_pos p h0 h1

/-- **(b), one sector, abstract**: minimum Hamming weight decoding + sector distance
    `≥ 2t+1` ⇒ every error of weight `≤ t` leaves a residual that is undetectable, of
    weight `≤ 2t`, and trivial. -/
theorem corrects_up_to_t_sector (M : Mat) (n t : Nat) (IsStab : Vec → Prop)
    (hdist : ∀ v : Vec, v.length = n → (∀ x ∈ v, x < 2) →
        (∀ x ∈ sectorSyndrome M v, x = 0) → ¬ IsStab v → 2 * t + 1 ≤ hammingWt v)
    (e c : Vec) (he : e.length = n) (heb : ∀ x ∈ e, x < 2) (hwt : hammingWt e ≤ t)
    (hc : Solves n M (sectorSyndrome M e) c)
    (hmin : ∀ c', Solves n M (sectorSyndrome M e) c' → hammingWt c ≤ hammingWt c') :
    (∀ x ∈ sectorSyndrome M (vxor e c), x = 0) ∧ hammingWt (vxor e c) ≤ 2 * t ∧
      IsStab (vxor e c) :=
  Panqec.corrects_up_to_t_sector M n t IsStab hdist e c he heb hwt hc hmin

/-- **(b)+(c), the matching decoder**: for every CSS matrix `H`, uniform positive weights
    `w0`, a valid minimum-weight solver, X-sector distance (undetectable by `Hz`, not in
    `StabX`) and Z-sector distance (undetectable by `Hx`, not in `StabZ`) at least `2t+1`:
    every binary error with at most `t` X flips and at most `t` Z flips is decoded to a
    correction such that the X part of `e ⊕ c` is in `StabX` and the Z part in `StabZ`, and
    `e ⊕ c` is in the code space. -/
theorem matching_corrects_up_to_t {K : Type} [Field K] [LinearOrder K] [IsStrictOrderedRing K]
    (solve : WSolver K) (H : Mat) (n t : Nat) (w0 : K) (hw0 : 0 < w0)
    (mw : List K × List K) (d : MatchingDec K)
    (hnew : MatchingDec.new H n none
      (some (List.replicate n w0, List.replicate n w0)) mw = .ok d)
    (hX : SolverValidOn n solve (Hz H)) (hZ : SolverValidOn n solve (Hx H))
    (hoX : SolverOptimalOn n solve (Hz H)) (hoZ : SolverOptimalOn n solve (Hx H))
    (StabX StabZ : Vec → Prop)
    (hdX : ∀ v : Vec, v.length = n → (∀ x ∈ v, x < 2) →
        (∀ x ∈ sectorSyndrome (Hz H) v, x = 0) → ¬ StabX v → 2 * t + 1 ≤ hammingWt v)
    (hdZ : ∀ v : Vec, v.length = n → (∀ x ∈ v, x < 2) →
        (∀ x ∈ sectorSyndrome (Hx H) v, x = 0) → ¬ StabZ v → 2 * t + 1 ≤ hammingWt v)
    (e : Vec) (he : e.length = 2 * n) (heb : ∀ x ∈ e, x < 2)
    (hwx : hammingWt (xPart e) ≤ t) (hwz : hammingWt (zPart e) ≤ t) :
    ∃ c ev, d.decode solve (measureSyndrome H e) = .ok (c, ev) ∧
      StabX (xPart (vxor e c)) ∧ StabZ (zPart (vxor e c)) ∧ inCodespace H (vxor e c) = true := by
  obtain ⟨ev, hd, hs⟩ := matching_sectors solve H n _ mw d hnew hX hZ e he
  exact ⟨_, ev, hd, hs.corrects_up_to_t t StabX StabZ hdX hdZ he heb hwx hwz
    (hoX.minHamming hw0 hs.x) (hoZ.minHamming hw0 hs.z)⟩

/-- a Pauli error of weight `≤ t` (panqec's `bsf_wt`) has at most `t` flips in each sector -/
theorem pauli_weight_bounds_sector_weights (e : Vec) (n t : Nat) (he : e.length = 2 * n)
    (hw : bsfWt e ≤ t) : hammingWt (xPart e) ≤ t ∧ hammingWt (zPart e) ≤ t := by
  have := sector_weights_le_pauli_weight e n he
  omega

/-- **(c)** pairing, restated from C05: with `error_type=None` the X half of the correction is
    the solver's answer for `(Hz, w_x, Z-row syndrome)`, the Z half for `(Hx, w_z, X-row
    syndrome)` -/
theorem matching_sector_pairing {W : Type} (solve : WSolver W) (H : Mat) (n : Nat)
    (wx wz : List W) (mw : List W × List W) (d : MatchingDec W)
    (hnew : MatchingDec.new H n none (some (wx, wz)) mw = .ok d)
    (hX : SolverValidOn n solve (Hz H)) (hZ : SolverValidOn n solve (Hx H))
    (e : Vec) (he : e.length = 2 * n) :
    ∃ c ev, d.decode solve (measureSyndrome H e) = .ok (c, ev) ∧
      xPart c = solve (Hz H) wx (extractZSyndrome H (measureSyndrome H e)) ∧
      zPart c = solve (Hx H) wz (extractXSyndrome H (measureSyndrome H e)) := by
  obtain ⟨ev, hd, hs⟩ := matching_sectors solve H n (some (wx, wz)) mw d hnew hX hZ e he
  exact ⟨_, ev, hd, hs.xPart_eq, hs.zPart_eq⟩

/-! non-vacuity -/

/-- two qubits with flip probabilities 1/10 and 3/10: flipping the second one (`[0,1]`) is
    lighter than flipping the first (`[1,0]`) and more likely -/
example : lik [1/10, 3/10] [9/10, 7/10] [1, 0] ≤ lik [1/10, 3/10] [9/10, 7/10] [0, 1] := by
  simp only [lik]; norm_num

/-- the distance hypothesis is satisfiable with t = 1: the 3-bit repetition code
    (`M` = two parity checks, only the zero vector is trivial, distance 3) -/
example : ∀ v : Vec, v.length = 3 → (∀ x ∈ v, x < 2) →
    (∀ x ∈ sectorSyndrome [[1, 1, 0], [0, 1, 1]] v, x = 0) → ¬ (v = [0, 0, 0]) →
    2 * 1 + 1 ≤ hammingWt v := by
  intro v hl hb hs hn
  match v, hl with
  | [a, b, c], _ =>
    have ha : a < 2 := hb a (by simp)
    have hb' : b < 2 := hb b (by simp)
    have hc : c < 2 := hb c (by simp)
    -- the two parity checks: `a + b` and `b + c` are even
    have h1 : (1 * a + (1 * b + (0 * c + 0))) % 2 = 0 := hs _ (List.mem_cons_self ..)
    have h2 : (0 * a + (1 * b + (1 * c + 0))) % 2 = 0 :=
      hs _ (List.mem_cons_of_mem _ (List.mem_cons_self ..))
    obtain rfl : a = b := by omega
    obtain rfl : a = c := by omega
    obtain rfl | rfl : a = 0 ∨ a = 1 := by omega
    · exact absurd rfl hn
    · decide

end Panqec.C09
