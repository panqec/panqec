/-
C01 for `Planar3DCode`, ALL sizes of the supported family `1 ≤ Lx, Ly, Lz` (no bound on the size):
the hand-written lattice model `Model/Lattices/Planar3DCode.lean` (tied to the Python class by the
correspondence streams of `harness/lattices/planar3dcode.py`) is a well-formed coordinate system,
all stabilizer generators commute (the operators are truncated at the open boundaries by the
`is_qubit` filter), the logical operators commute with the stabilizers and anticommute with each
other, `n = Lx·Ly·Lz + (Lx−1)(Ly−1)Lz + (Lx−1)Ly(Lz−1)`, `k = 1`, and `get_deformation` follows the
`XZZX` rule.

The rank clause is proved for all sizes at the operator level (`rank_family`): an explicit family
of `n − k` generators — all vertices, the xy faces of the layer `z = 0`, all yz and xz faces — is
GF(2)-independent (no non-empty sub-family has even X- and Z-parity on every location).
`valid_code` puts everything together through the generic bridges `Proofs/OpComm.lean`
(`symp (to_bsf a) (to_bsf b) = opAntiCount a b mod 2` ⇒ `CommPairL` of the assembled rows) and
`Proofs/LatRankBridge.lean` (parity-form independent family of
`n − k` distinct generators ⇒ `HasRank (2n) rowsH (n − k)`): the matrices that
`stabilizer_matrix`, `logicals_x`, `logicals_z` of the generic code model (`Model/Code.lean`, C02)
assemble from this lattice model form a valid `[[n, 1]]` stabilizer code (`ValidCodeL`: all four
clauses of C01, rank included) for EVERY size of the family.
-/
import PanqecVerif.Proofs.LatPlanar3DCodeRank
import PanqecVerif.Proofs.LatRankBridge

namespace Panqec.C01Planar3DCode
open Panqec.Cubic3D Panqec.Planar3DCode

/-- Well-formedness for every supported size: qubit / stabilizer coordinates are distinct and
    disjoint, every `get_stabilizer(loc)` and every logical operator is a dict (distinct keys)
    supported on qubits with letters ≠ I, and no stabilizer is empty (also at the boundaries). -/
theorem wf (Lx Ly Lz : Nat) (hLx : 1 ≤ Lx) (hLy : 1 ≤ Ly) (hLz : 1 ≤ Lz) :
    (lattice Lx Ly Lz).WF :=
  (css hLx hLy hLz).wf

/-- The operator-level C01 clauses other than rank, for every supported size: any two stabilizer
    generators commute; the logical X and the logical Z commute with every generator; there is one
    of each and they anticommute. -/
theorem commPair (Lx Ly Lz : Nat) (hLx : 1 ≤ Lx) (hLy : 1 ≤ Ly) (hLz : 1 ≤ Lz) :
    (lattice Lx Ly Lz).CommPair :=
  (css hLx hLy hLz).commPair

/-- `n = Lx·Ly·Lz + (Lx−1)·(Ly−1)·Lz + (Lx−1)·Ly·(Lz−1)` (x, y and z edges; every size, with
    truncated subtraction). -/
theorem n_formula (Lx Ly Lz : Nat) : (lattice Lx Ly Lz).toCodeData.n =
    Lx * Ly * Lz + (Lx - 1) * (Ly - 1) * Lz + (Lx - 1) * Ly * (Lz - 1) := by
  simp only [Lattice.toCodeData, CodeData.n, lattice_qubits]; exact qubits_length Lx Ly Lz

/-- the number of stabilizer generators (vertices, xy / yz / xz faces; every size). -/
theorem n_stabilizers_formula (Lx Ly Lz : Nat) :
    (lattice Lx Ly Lz).toCodeData.stabs.length =
      (Lx - 1) * Ly * Lz + Lx * (Ly - 1) * Lz + (Lx - 1) * (Ly - 1) * (Lz - 1) +
        Lx * Ly * (Lz - 1) := by
  simp only [Lattice.toCodeData, lattice_stabs]; exact stabs_length Lx Ly Lz

/-- `k = 1` (every size). -/
theorem k_value (Lx Ly Lz : Nat) : (lattice Lx Ly Lz).toCodeData.k = 1 := by
  simp only [Lattice.toCodeData, CodeData.k, lattice_logX]; rfl

/-- The rank clause for every supported size: `rankFamily` (all vertices, the xy faces with
    `z = 0`, all yz faces, all xz faces) is a sub-list of `get_stabilizer_coordinates` with exactly
    `n − k` members whose operators are GF(2)-independent: no non-empty sub-family multiplies to the
    identity (even X-parity and even Z-parity on every location). -/
theorem rank_family (Lx Ly Lz : Nat) (hLx : 1 ≤ Lx) (hLy : 1 ≤ Ly) (hLz : 1 ≤ Lz) :
    ∃ B : List Coord, B.Sublist (lattice Lx Ly Lz).stabs ∧
      B.length = (lattice Lx Ly Lz).toCodeData.n - (lattice Lx Ly Lz).toCodeData.k ∧
      OpsIndep (B.map (lattice Lx Ly Lz).getStab) := by
  refine ⟨rankFamily Lx Ly Lz, ?_, ?_, ?_⟩
  · rw [lattice_stabs]; exact rankFamily_sublist hLz
  · rw [k_value]
    simp only [Lattice.toCodeData, CodeData.n, lattice_qubits]
    exact rankFamily_length hLx hLy hLz
  · rw [lattice_getStab]; exact rankFamily_indep hLz

/-- THE C01 STATEMENT FOR ALL SIZES (`Lx, Ly, Lz ≥ 1`): `stabilizer_matrix`, `logicals_x`,
    `logicals_z` of the generic code model, applied to this lattice model, return (no `KeyError`)
    matrices that form a valid `[[n, 1]]` stabilizer code
    (`n = Lx·Ly·Lz + (Lx−1)(Ly−1)Lz + (Lx−1)Ly(Lz−1)`): generators pairwise commute, logicals
    commute with the generators, `ω(X, Z) = 1`, `ω(X, X) = ω(Z, Z) = 0`, and the generators have
    GF(2) rank `n − 1` -/
theorem valid_code (Lx Ly Lz : Nat) (hLx : 1 ≤ Lx) (hLy : 1 ≤ Ly) (hLz : 1 ≤ Lz) :
    stabilizerMatrix (lattice Lx Ly Lz).toCodeData = some (lattice Lx Ly Lz).rowsH ∧
    logicalsX (lattice Lx Ly Lz).toCodeData = some (lattice Lx Ly Lz).rowsX ∧
    logicalsZ (lattice Lx Ly Lz).toCodeData = some (lattice Lx Ly Lz).rowsZ ∧
    ValidCodeL (Lx * Ly * Lz + (Lx - 1) * (Ly - 1) * Lz + (Lx - 1) * Ly * (Lz - 1)) 1
      (lattice Lx Ly Lz).rowsH (lattice Lx Ly Lz).rowsX (lattice Lx Ly Lz).rowsZ := by
  obtain ⟨B, hsub, hlen, hind⟩ := rank_family Lx Ly Lz hLx hLy hLz
  have hwf := wf Lx Ly Lz hLx hLy hLz
  have h := validCode_of_opsIndep (lattice Lx Ly Lz) hwf
    (commPair Lx Ly Lz hLx hLy hLz) B (hwf.stabs_nodup.sublist hsub) (fun s hs => hsub.subset hs)
    hlen hind
  rw [n_formula, k_value] at h
  exact h

/-- CSS structure for every size: a stabilizer location is a `'vertex'` whose operator carries only Z
    (on at most 6 qubits) or a `'face'` whose operator carries only X (on at most 4 qubits). -/
theorem stabilizer_shape (Lx Ly Lz : Nat) {s : Coord}
    (hs : s ∈ (lattice Lx Ly Lz).stabs) :
    (Planar3DCode.stabilizerType Lx Ly Lz s = some StabType.vertex ∧
      ∃ ks, (lattice Lx Ly Lz).getStab s = uop ks Pauli.Z ∧ ks.length ≤ 6) ∨
    (Planar3DCode.stabilizerType Lx Ly Lz s = some StabType.face ∧
      ∃ ks, (lattice Lx Ly Lz).getStab s = uop ks Pauli.X ∧ ks.length ≤ 4) := by
  rw [lattice_stabs] at hs
  rw [lattice_getStab]
  exact stab_shape hs

/-- `get_deformation('XZZX', axis)` on every qubit of every size: the qubit has an axis (x, y, z
    for the three blocks of `get_qubit_coordinates`), and the deformation is X↔Z exactly on the
    qubits whose axis is the deformation axis, the identity elsewhere. -/
theorem deformation_rule (Lx Ly Lz : Nat) {q : Coord} (hq : q ∈ (lattice Lx Ly Lz).qubits)
    (ax : Axis) :
    ∃ a, Planar3DCode.qubitAxis q = some a ∧
      Planar3DCode.getDeformation "XZZX" (some ax.toString) q =
        some (if a = ax then PauliMap.swapXZ else PauliMap.id) := by
  rw [lattice_qubits] at hq
  obtain ⟨x, y, z, rfl⟩ := shape_of_mem_qubits hq
  refine ⟨_, qubitAxis_of_mem_qubits hq, ?_⟩
  unfold Planar3DCode.getDeformation
  rw [getDeformation_xzzx]
  have := qubitAxis_of_mem_qubits hq
  unfold Planar3DCode.qubitAxis at this
  rw [this]; rfl

/-- the axis of a qubit is the direction of its edge: odd x / odd y / odd z coordinate -/
theorem qubit_axis_rule (Lx Ly Lz : Nat) {x y z : Int} (hq : [x, y, z] ∈ (lattice Lx Ly Lz).qubits) :
    Planar3DCode.qubitAxis [x, y, z] =
      some (if x % 2 = 1 then Axis.x else if y % 2 = 1 then Axis.y else Axis.z) := by
  rw [lattice_qubits] at hq; exact qubitAxis_of_mem_qubits hq

/-- the default `deformation_axis` is `'z'` -/
theorem deformation_default_axis (name : String) (loc : Coord) :
    Planar3DCode.getDeformation name none loc =
      Planar3DCode.getDeformation name (some "z") loc := rfl

/-- any deformation name other than `'XZZX'` is rejected (`ValueError`), in particular `'XY'` -/
theorem deformation_other_name {name : String} (h : name ≠ "XZZX") (axis : Option String)
    (loc : Coord) : Planar3DCode.getDeformation name axis loc = none :=
  getDeformation_bad_name _ h axis loc

/-- an axis other than `'x'`, `'y'`, `'z'` is rejected (`ValueError`) -/
theorem deformation_bad_axis (name : String) {s : String} (h : Axis.ofString? s = none)
    (loc : Coord) : Planar3DCode.getDeformation name (some s) loc = none :=
  getDeformation_bad_axis _ name h loc

/-- whatever `get_deformation` returns is a permutation of {X, Y, Z} (so C08 applies) -/
theorem deformation_perm {name : String} {axis : Option String} {loc : Coord} {m : PauliMap}
    (h : Planar3DCode.getDeformation name axis loc = some m) : m.isPerm = true :=
  getDeformation_isPerm h

/-! ### non-vacuity: the hypotheses are satisfiable and the model computes non-trivial data -/

example : (lattice 1 1 1).WF := wf 1 1 1 (by decide) (by decide) (by decide)
example : (lattice 2 3 4).CommPair := commPair 2 3 4 (by decide) (by decide) (by decide)
example : (lattice 2 3 4).toCodeData.n = 41 := n_formula 2 3 4
example : (rankFamily 2 3 4).length = 40 := by decide +kernel
example : ValidCodeL 41 1 (lattice 2 3 4).rowsH (lattice 2 3 4).rowsX (lattice 2 3 4).rowsZ :=
  (valid_code 2 3 4 (by decide) (by decide) (by decide)).2.2.2
/-- the smallest member of the family: one qubit, no generator, rank 0 -/
example : ValidCodeL 1 1 (lattice 1 1 1).rowsH (lattice 1 1 1).rowsX (lattice 1 1 1).rowsZ :=
  (valid_code 1 1 1 (by decide) (by decide) (by decide)).2.2.2
/-- `OpsIndep` is not vacuous: a family containing the same operator twice is dependent -/
example : ¬ OpsIndep [uop [[1, 0, 0]] .X, uop [[1, 0, 0]] .X] := by
  intro h
  have := h _ (List.Sublist.refl _) (by
    intro q
    simp only [List.countP_cons, List.countP_nil, hitX_uop, hitZ_uop]
    by_cases hq : q ∈ [[(1 : Int), 0, 0]] <;> simp [hq])
  simp at this
/-- a vertex on the boundary `y = 0`, `z = 0`: four of the six neighbours are qubits -/
example : getStab 2 2 2 [2, 0, 0] =
    [([3, 0, 0], .Z), ([1, 0, 0], .Z), ([2, 1, 0], .Z), ([2, 0, 1], .Z)] := by decide +kernel
/-- an xy face on the rough boundary `x = 1`: three of the four neighbours are qubits -/
example : getStab 2 2 2 [1, 1, 0] =
    [([2, 1, 0], .X), ([1, 0, 0], .X), ([1, 2, 0], .X)] := by decide +kernel
example : opAntiCount ((logX 2 2 2).getD 0 []) ((logZ 2 2 2).getD 0 []) = 1 := by decide +kernel
example : Planar3DCode.getDeformation "XZZX" none [2, 0, 1] = some PauliMap.swapXZ := by
  decide +kernel
example : Planar3DCode.getDeformation "XZZX" (some "x") [2, 0, 1] = some PauliMap.id := by
  decide +kernel
example : Planar3DCode.getDeformation "XY" none [1, 0, 0] = none := by decide +kernel

end Panqec.C01Planar3DCode
