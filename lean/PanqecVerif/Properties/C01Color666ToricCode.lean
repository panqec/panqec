/-
C01 for `Color666ToricCode`, ALL square sizes `Lx = Ly = L ≥ 1` (the supported family; the
non-square sizes the class documents are a recorded known finding, D14): the hand-written lattice
model `Model/Lattices/Color666ToricCode.lean` (tied to
`panqec/codes/color_2d/_color_666_toric_code.py` by the correspondence streams of
`harness/lattices/color666toriccode.py`, which also run the non-square sizes) is a well-formed
coordinate system — the qubit list, which the class DERIVES from the stabilizer supports, is
duplicate-free and disjoint from the stabilizer locations, and no stabilizer dict loses a key to
the class's periodic identification (`x % 9L`, shift of `y` by `6L` / `12L`, corner rule): that
identification is shown to be the canonical representative modulo the lattice `⟨(9L, 6L), (0, 12L)⟩`
(the C02 clause, for every square size) — whose stabilizers commute (any two hexagons of the periodic
6.6.6 tiling share 0, 2 or 6 qubits), whose four logical pairs (zig-zag strings winding around the
torus) commute with the stabilizers and have the pairing table `ω(X_i, Z_j) = δ_ij`;
`n = 18L²`, `k = 4`, `n_stabilizers = 18L²`; `get_deformation` follows the stated rule.

Rank clause, for all sizes: the `18L² − 4 = n − k` generators of the family `sel L` (X and Z
generator of every hexagon but `(2, 2)` and `(5, 4)`, two adjacent faces of different colours) are
independent (`rank_family`, triangular single-qubit probes along a peeling order of the triangular
lattice of faces on the torus).  `valid_code` puts everything together through the generic bridges
`Proofs/OpComm.lean` and `Proofs/LatRankBridge.lean`: the matrices
that `stabilizer_matrix`, `logicals_x`, `logicals_z` of the generic code model (`Model/Code.lean`,
C02) assemble from this lattice model form a valid `[[18L², 4]]` stabilizer code (`ValidCodeL`: all
four clauses of C01, rank included) for EVERY square size.

The family `sel` is defined in the Mathlib-free model file, printed by the driver op `rankfamily` and evaluated
on the IMPLEMENTATION's parity-check matrix on every run (stream `lat-Color666ToricCode-rank-family`, square
sizes: members `n − k`, all distinct stabilizer locations, GF(2) rank `n − k`).
-/
import PanqecVerif.Proofs.LatRankBridge
import PanqecVerif.Proofs.LatColor666ToricCodeRank

namespace Panqec.C01Color666ToricCode
open Panqec.Color666ToricCode Panqec.Lat2D Panqec.Color

/-- coordinates distinct and disjoint (the qubit list is derived from the stabilizers: first
    occurrences only); every stabilizer and logical is a dict (distinct keys — the six wrapped
    corners of a hexagon never collide, the strings never revisit a qubit) supported on qubits with
    letters ≠ I; stabilizers are non-empty — every `L ≥ 1` -/
theorem wf (L : Nat) (hL : 1 ≤ L) : (lattice L L).WF :=
  (css hL).wf

/-- all pairs of stabilizers commute, the four X and four Z logicals commute with every
    stabilizer, `opAntiCount (X_i, Z_j)` is odd iff `i = j` — every `L ≥ 1` -/
theorem commPair (L : Nat) (hL : 1 ≤ L) : (lattice L L).CommPair :=
  (css hL).commPair

/-- `n = 18L²` (every `L ≥ 1`): the derived qubit list has exactly the sites of the closed form
    `isQubit_rule`, `3L` in each of the `6L` columns `x ≡ 0, 1 (mod 3)` -/
theorem n_formula (L : Nat) (hL : 1 ≤ L) : (lattice L L).toCodeData.n = 18 * (L * L) :=
  length_qubits hL

/-- `k = 4` (every size) -/
theorem k_value (L : Nat) : (lattice L L).toCodeData.k = 4 := rfl

/-- `n_stabilizers = 18L²` (every size): an X and a Z generator on each of the `9L²` hexagons -/
theorem n_stabilizers (L : Nat) : (lattice L L).stabs.length = 18 * (L * L) :=
  length_stabs L

/-- `is_stabilizer` in closed form: columns `x ≡ 2 (mod 3)`, `3L` faces per column starting at
    `y = 2 + 2(x−2)//3` in steps of 4 -/
theorem isStabilizer_rule (L : Nat) (x y p : Int) :
    [x, y, p] ∈ (lattice L L).stabs ↔
      ((x % 3 = 2 ∧ 2 ≤ x ∧ x < 9 * (L : Int) ∧ 2 + (2 * (x - 2)) / 3 ≤ y ∧
        y ≤ 12 * (L : Int) + (2 * (x - 2)) / 3 ∧ (y - (2 + (2 * (x - 2)) / 3)) % 4 = 0) ∧
        (p = 0 ∨ p = 1)) :=
  mem_stabs'

/-- `is_qubit` in closed form — the DERIVED qubit list consists exactly of the vertices of the
    hexagonal tiling in the rhombic fundamental domain `skew x ≤ y < 12L + skew x`
    (`−2 < y ≤ 12L − 2` in the column `x = 0`: the corner rule) -/
theorem isQubit_rule (L : Nat) (hL : 1 ≤ L) (x y : Int) :
    isQubit L L [x, y] = true ↔
      ((0 ≤ x ∧ x < 9 * (L : Int) ∧
        ((x = 0 ∧ -2 < y ∧ y ≤ 12 * (L : Int) - 2) ∨
         (x ≠ 0 ∧ (2 * (x - 2)) / 3 ≤ y ∧ y < 12 * (L : Int) + (2 * (x - 2)) / 3))) ∧
       (((x % 6 = 1 ∨ x % 6 = 3) ∧ y % 4 = 0) ∨ ((x % 6 = 0 ∨ x % 6 = 4) ∧ y % 4 = 2))) := by
  rw [isQubit_iff hL, isQ_unfold]

/-- the periodic identification of the class is a canonical representative: the keys assigned for
    two points (each at most one period away from the domain) are equal iff the points are
    congruent modulo the lattice generated by `(9L, 6L)` and `(0, 12L)` -/
theorem wrap_is_canonical (L : Nat) (hL : 1 ≤ L) (px py px' py' : Int) (hn : Near L px py)
    (hn' : Near L px' py') :
    wrapP L px py = wrapP L px' py' ↔
      ((px' - px) % (9 * (L : Int)) = 0 ∧
       ((3 * py' - 2 * px') - (3 * py - 2 * px)) % (36 * (L : Int)) = 0) :=
  wrapP_eq_iff hL hn hn'

/-- every stabilizer is the dict of the six wrapped corners of its hexagon, in delta order and
    without collision, letter `X` for `p = 0` and `Z` for `p = 1` -/
theorem stabilizer_closed_form (L : Nat) (hL : 1 ≤ L) (x y p : Int)
    (h : [x, y, p] ∈ (lattice L L).stabs) :
    (lattice L L).getStab [x, y, p] =
      [wrapQ L L x y (-1) (-2), wrapQ L L x y 1 (-2), wrapQ L L x y 2 0, wrapQ L L x y 1 2,
       wrapQ L L x y (-1) 2, wrapQ L L x y (-2) 0].map
        (fun q => (q, if p = 0 then Pauli.X else Pauli.Z)) :=
  getStab_eq hL h

/-- the logical operators: single letters on the four strings `kA … kD` (the key lists of the four
    loops of `get_logicals_x`, `is_qubit` branch included) -/
theorem logical_strings (L : Nat) (hL : 1 ≤ L) :
    (lattice L L).logX = [(kA L).map (fun q => (q, Pauli.X)), (kB L).map (fun q => (q, Pauli.X)),
      (kC L).map (fun q => (q, Pauli.X)), (kD L).map (fun q => (q, Pauli.X))] ∧
    (lattice L L).logZ = [(kC L).map (fun q => (q, Pauli.Z)), (kD L).map (fun q => (q, Pauli.Z)),
      (kA L).map (fun q => (q, Pauli.Z)), (kB L).map (fun q => (q, Pauli.Z))] :=
  ⟨logX_eq hL, logZ_eq hL⟩

/-- 'X3Z3' on a 2-tuple: KeyError where `x % 12` is not a key of the table, else X↔Z exactly where
    the table value equals `y % 8` (keyword arguments are ignored) -/
theorem deformation_rule (x y : Int) :
    getDeformation "X3Z3" [x, y] =
      match xToY (x % 12) with
      | none => DeformResult.keyError
      | some v => DeformResult.map (if v = y % 8 then PauliMap.swapXZ else PauliMap.id) := by
  unfold getDeformation
  simp only [if_true]
  cases xToY (x % 12) with
  | none => rfl
  | some v =>
    by_cases h : v = y % 8
    · simp only [if_pos h]
    · simp only [if_neg h]

/-- any other name: ValueError -/
theorem deformation_rule_bad_name (name : String) (loc : Coord) (h : name ≠ "X3Z3") :
    getDeformation name loc = DeformResult.valueError := by
  unfold getDeformation
  split
  · rw [if_neg h]
  · rfl

/-- on the qubits of every lattice 'X3Z3' never raises: it returns one of the two maps -/
theorem deformation_rule_on_qubits (L : Nat) (hL : 1 ≤ L) (q : Coord) (h : q ∈ (lattice L L).qubits) :
    getDeformation "X3Z3" q = DeformResult.map PauliMap.swapXZ ∨
    getDeformation "X3Z3" q = DeformResult.map PauliMap.id :=
  x3z3_on_qubits hL h

/-- `qubit_axis` is `'x'` on every 2-tuple -/
theorem qubitAxis_rule (x y : Int) : qubitAxis [x, y] = some "x" := rfl

/-- rank clause, operator level: an explicit duplicate-free family of `n − k` stabilizer locations
    whose generators are independent — every non-empty duplicate-free sub-family `T` has a Pauli
    operator `d` on the qubits anticommuting with an odd number of members of `T` — every `L ≥ 1` -/
theorem rank_family (L : Nat) (hL : 1 ≤ L) :
    (sel L).Nodup ∧ (∀ s ∈ sel L, s ∈ (lattice L L).stabs) ∧
    IndepGenerators (lattice L L) (sel L) ∧
    (sel L).length + (lattice L L).toCodeData.k = (lattice L L).toCodeData.n :=
  ⟨nodup_sel L, sel_subset, indep_sel hL, by rw [n_formula L hL, k_value]; exact length_sel hL⟩

/-- THE C01 STATEMENT FOR ALL SQUARE SIZES (`L ≥ 1`): `stabilizer_matrix`, `logicals_x`,
    `logicals_z` of the generic code model, applied to this lattice model, return (no `KeyError`)
    matrices that form a valid `[[18L², 4]]` stabilizer code: generators pairwise commute, logicals
    commute with the generators, `ω(X_i, Z_j) = δ_ij`, `ω(X_i, X_j) = ω(Z_i, Z_j) = 0`, and the
    generators have GF(2) rank `n − k` -/
theorem valid_code (L : Nat) (hL : 1 ≤ L) :
    stabilizerMatrix (lattice L L).toCodeData = some (lattice L L).rowsH ∧
    logicalsX (lattice L L).toCodeData = some (lattice L L).rowsX ∧
    logicalsZ (lattice L L).toCodeData = some (lattice L L).rowsZ ∧
    ValidCodeL (18 * (L * L)) 4
      (lattice L L).rowsH (lattice L L).rowsX (lattice L L).rowsZ := by
  obtain ⟨h1, h2, h3, h4⟩ := rank_family L hL
  have h := validCode_of_lattice_subset (lattice L L) (wf L hL) (commPair L hL) (sel L) h1 h2 h3 h4
  rw [n_formula L hL, k_value] at h
  exact h

example : (lattice 1 1).WF := wf 1 (by decide)
example : (lattice 5 5).CommPair := commPair 5 (by decide)
example : (lattice 3 3).toCodeData.n = 162 := n_formula 3 (by decide)
example : (lattice 3 3).stabs.length = 162 := n_stabilizers 3
example : IndepGenerators (lattice 2 2) (sel 2) := (rank_family 2 (by decide)).2.2.1
example : ValidCodeL 18 4 (lattice 1 1).rowsH (lattice 1 1).rowsX (lattice 1 1).rowsZ :=
  (valid_code 1 (by decide)).2.2.2
example : ValidCodeL 162 4 (lattice 3 3).rowsH (lattice 3 3).rowsX (lattice 3 3).rowsZ :=
  (valid_code 3 (by decide)).2.2.2
example : getDeformation "X3Z3" [1, 0] = DeformResult.map PauliMap.swapXZ := by decide
example : getDeformation "X3Z3" [3, 4] = DeformResult.map PauliMap.id := by decide
example : getDeformation "X3Z3" [2, 2] = DeformResult.keyError := by decide
example : getDeformation "XXZZ" [1, 0] = DeformResult.valueError := by decide
set_option maxRecDepth 100000 in
example : wrapQ 1 1 8 6 1 (-2) = [0, 10] := by decide
set_option maxRecDepth 100000 in
example : (lattice 1 1).getStab [8, 6, 0] =
    [([7, 4], .X), ([0, 10], .X), ([1, 0], .X), ([0, 2], .X), ([7, 8], .X), ([6, 6], .X)] := by
  decide

end Panqec.C01Color666ToricCode
