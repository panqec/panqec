/-
C08 — Clifford deformation is one consistent single-qubit relabelling.

Property theorems only (thin wrappers); the proofs are in `Proofs/Deform.lean` (vectors and
stacks of rows), `Proofs/DeformOp.lean` (operator dicts, `apply_deformation`) and
`Proofs/DeformHistory.lean` (object history).  Core Lean only, no Mathlib.

Quantifiers: every `n`, every list `Ds` of `n` single-qubit relabellings each of which is a
permutation of {X, Y, Z} (`PauliMap.isPerm`; this covers `id`, X↔Z, Y↔Z and anything else a
class's `get_deformation` could return), every binary vector of length `2n`, every valid
code, every sequence of `deform` / property-access operations on one object.

Model functions: `deformBsf Ds` = the relabelling acting on a BSF vector qubit by qubit;
`deformOp D` = what the getter wrappers installed by `StabilizerCode.deform` do to an
operator dict; `CodeData.deform`; `applyDeformation` = `bpauli.apply_deformation`;
`Deform.Obj` / `Deform.Step` = the object-history state machine (`Model/Deform.lean`).

Not covered here (other deliverables of C08): the per-class `get_deformation` tables and the
noise-model side `P_D(e) = P(D e)`.
-/
import PanqecVerif.Proofs.Deform
import PanqecVerif.Proofs.DeformOp
import PanqecVerif.Proofs.DeformHistory
import PanqecVerif.Proofs.Mask

namespace Panqec.C08

open Panqec Panqec.Deform

/-- **Commutation is preserved.**  Relabelling both operators by the same per-qubit
    permutations of {X,Y,Z} does not change their symplectic product. -/
theorem symp_deformBsf {n : Nat} {Ds : List PauliMap} (hlen : Ds.length = n)
    (hperm : ∀ D ∈ Ds, D.isPerm = true) {a b : List Nat}
    (ha : a.length = 2 * n) (hab : ∀ x ∈ a, x < 2)
    (hb : b.length = 2 * n) (hbb : ∀ x ∈ b, x < 2) :
    symp (deformBsf Ds a) (deformBsf Ds b) = symp a b :=
  Deform.symp_deformBsf hlen hperm ha hab hb hbb

/-- The same for arbitrary non-negative integer entries (both sides read the entries
    modulo 2 only). -/
theorem symp_deformBsf_any {n : Nat} {Ds : List PauliMap} (hlen : Ds.length = n)
    (hperm : ∀ D ∈ Ds, D.isPerm = true) {a b : List Nat}
    (ha : a.length = 2 * n) (hb : b.length = 2 * n) :
    symp (deformBsf Ds a) (deformBsf Ds b) = symp a b :=
  Deform.symp_deformBsf_any hlen hperm ha hb

/-- The lemma behind it: the symplectic product of two Pauli strings is the parity of the
    number of positions where the two letters anticommute. -/
theorem symp_counts_anticommuting_positions (ps qs : List Pauli) :
    symp (pauliToBsf ps) (pauliToBsf qs) = acommCount ps qs % 2 :=
  symp_pauliToBsf ps qs

/-- **GF(2)-linearity**: the relabelling of a product is the product of the relabellings. -/
theorem deformBsf_vxor {n : Nat} {Ds : List PauliMap}
    (hperm : ∀ D ∈ Ds, D.isPerm = true) {a b : List Nat}
    (ha : a.length = 2 * n) (hb : b.length = 2 * n) :
    deformBsf Ds (vxor a b) = vxor (deformBsf Ds a) (deformBsf Ds b) :=
  Deform.deformBsf_vxor hperm ha hb

/-- The result is always a 0/1 vector. -/
theorem deformBsf_binary (Ds : List PauliMap) (v : List Nat) : ∀ x ∈ deformBsf Ds v, x < 2 :=
  Deform.deformBsf_binary Ds v

/-- The number of qubits is preserved. -/
theorem deformBsf_length {n : Nat} {Ds : List PauliMap} (hlen : Ds.length = n) {v : List Nat}
    (hv : v.length = 2 * n) : (deformBsf Ds v).length = 2 * n :=
  Deform.deformBsf_length hlen hv

/-- The inverse of a permutation of {X,Y,Z} is a permutation of {X,Y,Z}. -/
theorem inv_isPerm (D : PauliMap) (h : D.isPerm = true) : D.inv.isPerm = true :=
  Deform.inv_isPerm D h

/-- **Invertibility**: relabelling by the inverse maps undoes the relabelling. -/
theorem deformBsf_inverse {n : Nat} {Ds : List PauliMap} (hlen : Ds.length = n)
    (hperm : ∀ D ∈ Ds, D.isPerm = true) {a : List Nat}
    (ha : a.length = 2 * n) (hab : ∀ x ∈ a, x < 2) :
    deformBsf (Ds.map PauliMap.inv) (deformBsf Ds a) = a :=
  Deform.deformBsf_inverse hlen hperm ha hab

/-- … and the other way round, so `deformBsf Ds` is a bijection of the binary vectors of
    length `2n`. -/
theorem deformBsf_inverse_right {n : Nat} {Ds : List PauliMap} (hlen : Ds.length = n)
    (hperm : ∀ D ∈ Ds, D.isPerm = true) {a : List Nat}
    (ha : a.length = 2 * n) (hab : ∀ x ∈ a, x < 2) :
    deformBsf Ds (deformBsf (Ds.map PauliMap.inv) a) = a :=
  Deform.deformBsf_inverse_right hlen hperm ha hab

/-- **`to_bsf` of the relabelled dict = relabelled `to_bsf`** (including the `KeyError`
    case `none`), for an operator dict with distinct keys.  The hypotheses `qs.Nodup`,
    `NoIdentity op` and "every `D q` is a permutation" are not needed. -/
theorem toBsf_deformOp (qs : List Coord) (op : Op) (D : Coord → PauliMap)
    (hq : qs.Nodup) (hk : KeysNodup op) (hi : NoIdentity op)
    (hperm : ∀ q, (D q).isPerm = true) :
    toBsf qs (deformOp D op) = (toBsf qs op).map (deformBsf (qs.map D)) :=
  Deform.toBsf_deformOp qs op D hq hk hi hperm

/-- The strong form: distinct dict keys suffice. -/
theorem toBsf_deformOp_of_keysNodup (qs : List Coord) (op : Op) (D : Coord → PauliMap)
    (hk : KeysNodup op) :
    toBsf qs (deformOp D op) = (toBsf qs op).map (deformBsf (qs.map D)) :=
  Deform.toBsf_deformOp_of_keysNodup qs op D hk

/-- **Deforming a code replaces every stabilizer and logical by its image**: the three
    matrices computed from the deformed getters are the undeformed matrices with every row
    relabelled by `deformBsf (qubits.map D)`. -/
theorem matrices_deform (c : CodeData) (D : Coord → PauliMap)
    (hS : ∀ op ∈ c.stabOps, KeysNodup op) (hX : ∀ op ∈ c.logX, KeysNodup op)
    (hZ : ∀ op ∈ c.logZ, KeysNodup op) :
    stabilizerMatrix (c.deform D) =
      (stabilizerMatrix c).map (List.map (deformBsf (c.qubits.map D))) ∧
    logicalsX (c.deform D) = (logicalsX c).map (List.map (deformBsf (c.qubits.map D))) ∧
    logicalsZ (c.deform D) = (logicalsZ c).map (List.map (deformBsf (c.qubits.map D))) :=
  ⟨stabilizerMatrix_deform c D hS, logicalsX_deform c D hX, logicalsZ_deform c D hZ⟩

/-- **n, k, commutation, pairing and rank are preserved**: the relabelled rows of a valid
    `[[n,k]]` code form a valid `[[n,k]]` code (all clauses of C01, including the GF(2)
    rank `n - k`: independence and span are preserved by a linear bijection). -/
theorem validCode_deform {n k : Nat} {Ds : List PauliMap} (hlen : Ds.length = n)
    (hperm : ∀ D ∈ Ds, D.isPerm = true) {H Lx Lz : List (List Nat)}
    (hv : ValidCodeL n k H Lx Lz) :
    ValidCodeL n k (H.map (deformBsf Ds)) (Lx.map (deformBsf Ds)) (Lz.map (deformBsf Ds)) :=
  Deform.validCode_deform hlen hperm hv

/-- Stabilizer-group membership carries over to the relabelled rows and vector (this implication;
    the converse is the same statement for the inverse maps)… -/
theorem inSpan_deform {n : Nat} {Ds : List PauliMap} (hlen : Ds.length = n)
    (hperm : ∀ D ∈ Ds, D.isPerm = true) {rows : List (List Nat)} {v : List Nat}
    (hw : ∀ r ∈ rows, r.length = 2 * n) (h : InSpan (2 * n) rows v) :
    InSpan (2 * n) (rows.map (deformBsf Ds)) (deformBsf Ds v) :=
  inSpan_map hlen hperm hw h

/-- … and so does the rank of any stack of rows. -/
theorem hasRank_deform {n r : Nat} {Ds : List PauliMap} (hlen : Ds.length = n)
    (hperm : ∀ D ∈ Ds, D.isPerm = true) {rows : List (List Nat)}
    (hw : ∀ r ∈ rows, r.length = 2 * n) (h : HasRank (2 * n) rows r) :
    HasRank (2 * n) (rows.map (deformBsf Ds)) r :=
  hasRank_map hlen hperm hw h

/-- **Same syndrome**: the deformed code sees the relabelled error `D(e)` exactly as the
    original code sees `e`. -/
theorem syndrome_deform {n : Nat} {Ds : List PauliMap} (hlen : Ds.length = n)
    (hperm : ∀ D ∈ Ds, D.isPerm = true) {H : List (List Nat)} (hH : WFRows n H)
    {e : List Nat} (he : e.length = 2 * n) (heb : ∀ x ∈ e, x < 2) :
    measureSyndrome (H.map (deformBsf Ds)) (deformBsf Ds e) = measureSyndrome H e :=
  Deform.syndrome_deform hlen hperm hH he heb

/-- **Same logical effect** (both dtypes of the dense `bs_prod` path). -/
theorem logicalErrors_deform {n : Nat} {Ds : List PauliMap} (hlen : Ds.length = n)
    (hperm : ∀ D ∈ Ds, D.isPerm = true) (dt : DType) {Lx Lz : List (List Nat)}
    (hX : WFRows n Lx) (hZ : WFRows n Lz)
    {e : List Nat} (he : e.length = 2 * n) (heb : ∀ x ∈ e, x < 2) :
    logicalErrors dt (Lx.map (deformBsf Ds)) (Lz.map (deformBsf Ds)) (deformBsf Ds e) =
      logicalErrors dt Lx Lz e :=
  Deform.logicalErrors_deform hlen hperm dt hX hZ he heb

/-- **Same verdict** of `is_success`. -/
theorem isSuccess_deform {n : Nat} {Ds : List PauliMap} (hlen : Ds.length = n)
    (hperm : ∀ D ∈ Ds, D.isPerm = true) (dt : DType) {H Lx Lz : List (List Nat)}
    (hH : WFRows n H) (hX : WFRows n Lx) (hZ : WFRows n Lz)
    {e : List Nat} (he : e.length = 2 * n) (heb : ∀ x ∈ e, x < 2) :
    isSuccess dt (H.map (deformBsf Ds)) (Lx.map (deformBsf Ds)) (Lz.map (deformBsf Ds))
        (deformBsf Ds e) = isSuccess dt H Lx Lz e :=
  Deform.isSuccess_deform hlen hperm dt hH hX hZ he heb

/-- **`apply_deformation(indices, bsf)` is the Hadamard relabelling X↔Z on exactly the
    flagged qubits** (identity elsewhere), for a binary vector of the right length. -/
theorem applyDeformation_eq (flags : List Bool) (v : List Nat)
    (hv : v.length = 2 * flags.length) (hb : ∀ x ∈ v, x < 2) :
    applyDeformation flags v =
      some (deformBsf (flags.map fun f => if f then PauliMap.swapXZ else PauliMap.id) v) :=
  Deform.applyDeformation_eq flags v hv hb

/-- The error case: `ValueError` exactly when the length is not `2 * len(indices)`. -/
theorem applyDeformation_eq_none_iff (flags : List Bool) (v : List Nat) :
    applyDeformation flags v = none ↔ v.length ≠ 2 * flags.length :=
  Deform.applyDeformation_eq_none_iff flags v

/-- **History independence.**  After EVERY sequence of `deform` calls and property
    accesses on one object, the matrices a caller reads are those of the last deformation
    applied to the UNDEFORMED code — independent of earlier deformations and of which
    caches were filled when; with no `deform` at all they are those of the class's own
    getters.  (`expected orig ops` is `matricesOf (orig.deform D_last)` resp.
    `matricesOf orig`.) -/
theorem history_independent (orig : CodeData) (ops : List Step) :
    (Obj.run false (Obj.init orig) ops).observe = expected orig ops :=
  Deform.history_independent orig ops

/-- The same, spelled out: any prefix, then `deform D`, then any property accesses. -/
theorem history_independent_last (orig : CodeData) (pre post : List Step)
    (D : Coord → PauliMap) (hpost : noDeform post) :
    (Obj.run false (Obj.init orig) (pre ++ .deform D :: post)).observe =
      matricesOf (orig.deform D) :=
  Deform.history_independent_last orig pre post D hpost

/-- No `deform` at all: the observables are those of the undeformed code. -/
theorem history_independent_none (orig : CodeData) (ops : List Step) (h : noDeform ops) :
    (Obj.run false (Obj.init orig) ops).observe = matricesOf orig :=
  Deform.history_independent_none orig ops h

/-- The invariant the proof goes through (exposed because it says more than the
    observables: the captured getters are never overwritten). -/
theorem history_invariant (orig : CodeData) (ops : List Step) :
    Inv orig (lastDeform ops) (Obj.run false (Obj.init orig) ops) :=
  inv_run orig ops

/-- **End to end.**  If the undeformed code is a valid `[[n,k]]` code (matrices `H`, `Lx`,
    `Lz`, operator dicts with distinct keys) and `get_deformation` returns a permutation of
    {X,Y,Z} for every qubit, then after any history ending in `deform D` (plus accesses) the
    object exposes the relabelled matrices, and they form a valid `[[n,k]]` code. -/
theorem deformed_object_valid {n k : Nat} (orig : CodeData) {H Lx Lz : List (List Nat)}
    (hn : orig.qubits.length = n)
    (hH : stabilizerMatrix orig = some H) (hLx : logicalsX orig = some Lx)
    (hLz : logicalsZ orig = some Lz) (hv : ValidCodeL n k H Lx Lz)
    (hS : ∀ op ∈ orig.stabOps, KeysNodup op) (hX : ∀ op ∈ orig.logX, KeysNodup op)
    (hZ : ∀ op ∈ orig.logZ, KeysNodup op)
    (D : Coord → PauliMap) (hperm : ∀ q, (D q).isPerm = true)
    (pre post : List Step) (hpost : noDeform post) :
    let f := deformBsf (orig.qubits.map D)
    (Obj.run false (Obj.init orig) (pre ++ .deform D :: post)).observe =
        ⟨some (H.map f), some (Lx.map f), some (Lz.map f)⟩ ∧
      ValidCodeL n k (H.map f) (Lx.map f) (Lz.map f) := by
  intro f
  have hm := matrices_deform orig D hS hX hZ
  refine ⟨?_, Deform.validCode_deform (by simpa using hn)
    (List.forall_mem_map.mpr fun q _ => hperm q) hv⟩
  rw [Deform.history_independent_last orig pre post D hpost, matricesOf,
    hm.1, hm.2.1, hm.2.2, hH, hLx, hLz]
  rfl

/-! ### non-vacuity and the regression example -/

/-- the `[[4,2,2]]` code: `H = [XXXX, ZZZZ]`, `X̄ = XXII, XIXI`, `Z̄ = IZIZ, IIZZ` -/
def c422 : CodeData :=
  { qubits := [[0], [1], [2], [3]]
    stabs := [[0], [1]]
    stabOps := [[([0], .X), ([1], .X), ([2], .X), ([3], .X)],
                [([0], .Z), ([1], .Z), ([2], .Z), ([3], .Z)]]
    logX := [[([0], .X), ([1], .X)], [([0], .X), ([2], .X)]]
    logZ := [[([1], .Z), ([3], .Z)], [([2], .Z), ([3], .Z)]] }

def H422 : List (List Nat) := [[1,1,1,1, 0,0,0,0], [0,0,0,0, 1,1,1,1]]
def Lx422 : List (List Nat) := [[1,1,0,0, 0,0,0,0], [1,0,1,0, 0,0,0,0]]
def Lz422 : List (List Nat) := [[0,0,0,0, 0,1,0,1], [0,0,0,0, 0,0,1,1]]

/-- a mixed assignment: Hadamard on qubits 0 and 3, Y↔Z on qubit 2, nothing on qubit 1 -/
def Dmix : Coord → PauliMap
  | [0] => .swapXZ
  | [2] => .swapYZ
  | [3] => .swapXZ
  | _ => .id

def DsMix : List PauliMap := [.swapXZ, .id, .swapYZ, .swapXZ]

theorem Dmix_isPerm (q : Coord) : (Dmix q).isPerm = true := by
  unfold Dmix; split <;> decide

theorem DsMix_isPerm : ∀ D ∈ DsMix, D.isPerm = true := by decide

example : matricesOf c422 = ⟨some H422, some Lx422, some Lz422⟩ := by decide
example : c422.qubits.map Dmix = DsMix := by decide

/-- by the mask checker on the packed rows (bit `j` = X on qubit `j`, bit `4 + j` = Z on it) -/
theorem valid422 : ValidCodeL 4 2 H422 Lx422 Lz422 :=
  checkValid_sound ⟨4, 2, [0x0F, 0xF0], [0x03, 0x05], [0xA0, 0xC0], 2⟩
    ⟨[0, 1], [0x10, 0x01], [1, 2]⟩ (by decide)

/-- the relabelled `[[4,2,2]]` code, computed: `XXXX ↦ ZXXZ`, `ZZZZ ↦ XZYX`,
    `XXII ↦ ZXII`, `XIXI ↦ ZIXI`, `IZIZ ↦ IZIX`, `IIZZ ↦ IIYX` -/
example : H422.map (deformBsf DsMix) = [[0,1,1,0, 1,0,0,1], [1,0,1,1, 0,1,1,0]] ∧
    Lx422.map (deformBsf DsMix) = [[0,1,0,0, 1,0,0,0], [0,0,1,0, 1,0,0,0]] ∧
    Lz422.map (deformBsf DsMix) = [[0,0,0,1, 0,1,0,0], [0,0,1,1, 0,0,1,0]] := by decide

/-- `validCode_deform` instantiated on it (hypotheses satisfiable, conclusion non-trivial) -/
example : ValidCodeL 4 2 [[0,1,1,0, 1,0,0,1], [1,0,1,1, 0,1,1,0]]
    [[0,1,0,0, 1,0,0,0], [0,0,1,0, 1,0,0,0]] [[0,0,0,1, 0,1,0,0], [0,0,1,1, 0,0,1,0]] :=
  validCode_deform (Ds := DsMix) rfl DsMix_isPerm valid422

/-- the dict-level deformation of the object gives the same matrices (`matrices_deform`) -/
example : matricesOf (c422.deform Dmix) =
    ⟨some [[0,1,1,0, 1,0,0,1], [1,0,1,1, 0,1,1,0]],
     some [[0,1,0,0, 1,0,0,0], [0,0,1,0, 1,0,0,0]],
     some [[0,0,0,1, 0,1,0,0], [0,0,1,1, 0,0,1,0]]⟩ := by decide

/-- commutation: `e = XIIZ` anticommutes with `ZZZZ` only; its image `ZIIX` anticommutes
    with the image of `ZZZZ` only -/
example : measureSyndrome H422 [1,0,0,0, 0,0,0,1] = [1, 1] ∧
    deformBsf DsMix [1,0,0,0, 0,0,0,1] = [0,0,0,1, 1,0,0,0] ∧
    measureSyndrome (H422.map (deformBsf DsMix)) (deformBsf DsMix [1,0,0,0, 0,0,0,1]) = [1, 1] ∧
    logicalErrors .u8 Lx422 Lz422 [1,0,0,0, 0,0,0,1] = [0, 0, 0, 0] ∧
    logicalErrors .u8 (Lx422.map (deformBsf DsMix)) (Lz422.map (deformBsf DsMix))
      (deformBsf DsMix [1,0,0,0, 0,0,0,1]) = [0, 0, 0, 0] := by decide

/-- a logical error stays a logical error with the same effect (`X̄₁ = XXII`) -/
example : logicalErrors .wide Lx422 Lz422 [1,1,0,0, 0,0,0,0] = [1, 0, 0, 0] ∧
    logicalErrors .wide (Lx422.map (deformBsf DsMix)) (Lz422.map (deformBsf DsMix))
      (deformBsf DsMix [1,1,0,0, 0,0,0,0]) = [1, 0, 0, 0] := by decide

/-- inverse instantiated -/
example : deformBsf (DsMix.map PauliMap.inv) (deformBsf DsMix [1,0,1,1, 0,1,1,0]) =
    [1,0,1,1, 0,1,1,0] := by decide

/-- a map that is NOT a permutation (X and Z both sent to Z) does not preserve
    commutation: the permutation hypothesis is needed -/
example : symp (deformBsf [⟨.Z, .Y, .Z⟩] [1, 0]) (deformBsf [⟨.Z, .Y, .Z⟩] [0, 1]) = 0 ∧
    symp [1, 0] [0, 1] = 1 := by decide

/-- `apply_deformation([True, False, True], XYZ) = ZYX` and the error case -/
example : applyDeformation [true, false, true] [1,1,0, 0,1,1] = some [0,1,1, 1,1,0] ∧
    deformBsf [.swapXZ, .id, .swapXZ] [1,1,0, 0,1,1] = [0,1,1, 1,1,0] ∧
    applyDeformation [true, false, true] [1,1,0, 0,1] = none := by decide

/-- an XZZX-like deformation: Hadamard on the qubits `[1]` and `[3]` -/
def Dxzzx : Coord → PauliMap
  | [1] => .swapXZ
  | [3] => .swapXZ
  | _ => .id

/-- the XY deformation: Y↔Z on every qubit -/
def Dxy : Coord → PauliMap := fun _ => .swapYZ

/-- a history with two different deformations and caches filled in between: the object
    shows `XY` applied to the undeformed code -/
example : (Obj.run false (Obj.init c422)
      [.accessH, .deform Dxzzx, .accessLx, .accessH, .deform Dxy, .accessLz]).observe =
    matricesOf (c422.deform Dxy) :=
  history_independent_last c422 [.accessH, .deform Dxzzx, .accessLx, .accessH] [.accessLz] Dxy
    (by intro op hop D; simp at hop; subst hop; simp)

/-- the same history evaluated, against the explicit matrices (`ZZZZ ↦ YYYY`) -/
example : (Obj.run false (Obj.init c422)
      [.accessH, .deform Dxzzx, .accessLx, .accessH, .deform Dxy, .accessLz]).observe =
    ⟨some [[1,1,1,1, 0,0,0,0], [1,1,1,1, 1,1,1,1]],
     some Lx422,
     some [[0,1,0,1, 0,1,0,1], [0,0,1,1, 0,0,1,1]]⟩ := by decide

/-- `deform XZZX; deform XZZX` on the faithful model: still XZZX of the undeformed code
    (`XXXX ↦ XZXZ`) -/
example : (Obj.run false (Obj.init c422) [.deform Dxzzx, .deform Dxzzx]).observe =
    matricesOf (c422.deform Dxzzx) ∧
    (matricesOf (c422.deform Dxzzx)).H = some [[1,0,1,0, 0,1,0,1], [0,1,0,1, 1,0,1,0]] := by
  decide

/-- **Regression example.**  The BROKEN variant (the current getters are captured on every
    `deform`, i.e. the deformation is applied to already deformed getters) violates
    `history_independent` for `deform XZZX; deform XZZX`: the two Hadamards cancel and the
    object shows the undeformed code. -/
theorem broken_variant_violates :
    (Obj.run true (Obj.init c422) [.deform Dxzzx, .deform Dxzzx]).observe ≠
      expected c422 [.deform Dxzzx, .deform Dxzzx] ∧
    (Obj.run true (Obj.init c422) [.deform Dxzzx, .deform Dxzzx]).observe = matricesOf c422 := by
  decide

/-- a stale cache would be visible too: without the re-initialisation the matrix read
    before `deform` would survive; the faithful model clears it -/
example : (Obj.run false (Obj.init c422) [.accessH, .deform Dxzzx]).cachedH = none := by decide

end Panqec.C08
