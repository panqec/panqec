/-
C17 for `RotatedToric3DCode`, ALL sizes of the supported family (`Lx, Ly ≥ 2` not both odd,
`Lz ≥ 1`, no upper bound): the distance `code.d` reports is the true code distance —

* even × even (`k = 2`): `min Lx Ly`;
* odd × even (`k = 1`, defect line, logical Z made of Y letters): `min Ly (Lx·Lz)`;
* even × odd: `min Lx (Ly·Lz)`

(`dist Lx Ly Lz`) — for the undeformed code and for every deformed code the class offers
(`'XZZX'` along `x`, `y`, `z`).  E.g. `RotatedToric3DCode(3, 10, 3).d == 9 = Lx·Lz`: the lightest
logical is the wall of Y along the defect.

The matrices are the ones the generic code model assembles from the hand-written lattice model
`Model/Lattices/RotatedToric3DCode.lean` (tied to `panqec/codes/surface_3d/_rotated_toric_3d_code.py`
by the correspondence streams of `harness/lattices/rotatedtoric3dcode.py`); they form a valid
`[[n, k]]` code for every size of the family (`C01RotatedToric3DCode.valid_code`).

* `weights_listed_EE / _OE / _EO`, `reported_distance` — `code.d` (the minimum Pauli weight over the
  rows of `logicals_x` and `logicals_z`, as `StabilizerCode.d` computes it).
* `lower_bound` — every non-trivial logical operator has weight `≥ dist`.  Packing argument
  (`Proofs/DistRotatedToric3DCode*.lean`) in the SIGN picture of `C01RotatedToric3DCode.commPair`
  (a generator writes Z on a neighbour when its sign for that neighbour is the colour of the
  neighbour, X otherwise — on and off the defect lines), so the generators of the defect lines,
  which carry both letters, need no special treatment: the Y-count of a wall `y = g` (all layers)
  has the parity of the next wall because ALL layer generators of the row between them see every
  qubit of either wall once per diagonal and every vertical qubit of the row twice; the X-count of
  a row of a layer has the parity of the next row when `Lx` is even (the faces between them tile
  both rows like dominoes around the seam) and of the same row one layer up (row of vertical faces;
  the dropped column of an odd side is avoided: one moves in the layer first).  Translates: even ×
  even — X rows / columns of the bottom layer (`Ly` / `Lx`), Z walls (`Lx` / `Ly`; Z-count = Y-count −
  X-counts); odd × even — the X column has `Lx·Lz` translates (every column of every layer), the Y
  wall `Ly`.
* `distance` — `IsDistance n H (dist Lx Ly Lz)`; `distance_reported` for the reported `d`.
* `distance_deformed`, `distance_deformed_offered` — the same for every deformed code.
-/
import PanqecVerif.Properties.C01RotatedToric3DCode
import PanqecVerif.Proofs.DistRotatedToric3DCodeWeights
import PanqecVerif.Proofs.Dist
import PanqecVerif.Proofs.DistDeform

namespace Panqec.C17RotatedToric3DCode
open Panqec Panqec.RotatedToric3DCode

/-- the number of qubits (`C01RotatedToric3DCode.n_formula`) -/
abbrev nq (Lx Ly Lz : Nat) : Nat :=
  Lx * Ly * Lz + (((Lx + 1) / 2) * (Ly / 2) + (Lx / 2) * ((Ly + 1) / 2)) * (Lz - 1)

/-- the number of logical qubits -/
abbrev kq (Lx Ly : Nat) : Nat := if Lx % 2 = 0 ∧ Ly % 2 = 0 then 2 else 1

/-- the distance: `min Lx Ly` for even × even, `min Ly (Lx·Lz)` for an odd `Lx`, `min Lx (Ly·Lz)`
    for an odd `Ly` -/
def dist (Lx Ly Lz : Nat) : Nat :=
  if Lx % 2 = 0 ∧ Ly % 2 = 0 then min Lx Ly
  else if Lx % 2 = 1 then min Ly (Lx * Lz) else min Lx (Ly * Lz)

/-- even × even: the rows of `logicals_x` have weights `Lx` (row) and `Ly` (column), the rows of
    `logicals_z` weights `Ly·Lz` (wall `x = 1`) and `Lx·Lz` (wall `y = 1`) -/
theorem weights_listed_EE (Lx Ly Lz : Nat) (hx : 2 ≤ Lx) (hy : 2 ≤ Ly) (hz : 1 ≤ Lz)
    (hpx : Lx % 2 = 0) (hpy : Ly % 2 = 0) :
    (lattice Lx Ly Lz).rowsX.map pauliWeight = [Lx, Ly] ∧
    (lattice Lx Ly Lz).rowsZ.map pauliWeight = [Ly * Lz, Lx * Lz] :=
  weights_EE ⟨hx, hy, by omega⟩ hpx hpy hz

/-- odd × even: the logical X is a column of `Ly` X letters, the logical Z a wall of `Lx·Lz` Y
    letters along the defect -/
theorem weights_listed_OE (Lx Ly Lz : Nat) (hx : 2 ≤ Lx) (hy : 2 ≤ Ly) (hz : 1 ≤ Lz)
    (hpx : Lx % 2 = 1) (hpy : Ly % 2 = 0) :
    (lattice Lx Ly Lz).rowsX.map pauliWeight = [Ly] ∧
    (lattice Lx Ly Lz).rowsZ.map pauliWeight = [Lx * Lz] :=
  weights_OE ⟨hx, hy, by omega⟩ hpx hpy hz

/-- even × odd: a row of `Lx` X letters, a wall of `Ly·Lz` Y letters -/
theorem weights_listed_EO (Lx Ly Lz : Nat) (hx : 2 ≤ Lx) (hy : 2 ≤ Ly) (hz : 1 ≤ Lz)
    (hpx : Lx % 2 = 0) (hpy : Ly % 2 = 1) :
    (lattice Lx Ly Lz).rowsX.map pauliWeight = [Lx] ∧
    (lattice Lx Ly Lz).rowsZ.map pauliWeight = [Ly * Lz] :=
  weights_EO ⟨hx, hy, by omega⟩ hpx hpy hz

/-- what `code.d` returns — the minimum weight over the listed logical operators — is
    `dist Lx Ly Lz`, every size of the family -/
theorem reported_distance (Lx Ly Lz : Nat) (hx : 2 ≤ Lx) (hy : 2 ≤ Ly) (hz : 1 ≤ Lz)
    (hodd : ¬ (Lx % 2 = 1 ∧ Ly % 2 = 1)) :
    Panqec.distance (lattice Lx Ly Lz).rowsX (lattice Lx Ly Lz).rowsZ =
      some (dist Lx Ly Lz) := by
  unfold dist
  by_cases hee : Lx % 2 = 0 ∧ Ly % 2 = 0
  · rw [if_pos hee]; exact reported_EE ⟨hx, hy, hodd⟩ hee.1 hee.2 hz
  · rw [if_neg hee]
    by_cases hpx : Lx % 2 = 1
    · rw [if_pos hpx]; exact reported_OE ⟨hx, hy, hodd⟩ hpx (by omega) hz
    · rw [if_neg hpx]; exact reported_EO ⟨hx, hy, hodd⟩ (by omega) (by omega) hz

/-- no non-trivial logical operator (commutes with every generator, is not a product of
    generators) of the `Lx × Ly × Lz` rotated toric code is lighter than `dist Lx Ly Lz` — every
    size of the family -/
theorem lower_bound (Lx Ly Lz : Nat) (hx : 2 ≤ Lx) (hy : 2 ≤ Ly) (hz : 1 ≤ Lz)
    (hodd : ¬ (Lx % 2 = 1 ∧ Ly % 2 = 1)) :
    ∀ v, IsNontrivialLogical (nq Lx Ly Lz) (lattice Lx Ly Lz).rowsH v →
      dist Lx Ly Lz ≤ pauliWeight v := by
  have hv := (C01RotatedToric3DCode.valid_code Lx Ly Lz hx hy hz hodd).2.2.2
  have hn : (qubits Lx Ly Lz).length = nq Lx Ly Lz := length_qubits Lx Ly Lz
  unfold dist
  by_cases hee : Lx % 2 = 0 ∧ Ly % 2 = 0
  · rw [if_pos hee] at hv ⊢
    exact lower_bound_EE ⟨hx, hy, hodd⟩ hz hee.1 hee.2 hn hv
  · rw [if_neg hee] at hv ⊢
    by_cases hpx : Lx % 2 = 1
    · rw [if_pos hpx]; exact lower_bound_OE ⟨hx, hy, hodd⟩ hz hpx (by omega) hn hv
    · rw [if_neg hpx]; exact lower_bound_EO ⟨hx, hy, hodd⟩ hz (by omega) (by omega) hn hv

/-- THE C17 STATEMENT FOR ALL SIZES OF THE FAMILY (`Lx, Ly ≥ 2` not both odd, `Lz ≥ 1`): the code
    distance of the `Lx × Ly × Lz` rotated toric code — the minimum weight of a non-trivial logical
    operator of the assembled parity-check matrix — is `dist Lx Ly Lz` -/
theorem distance (Lx Ly Lz : Nat) (hx : 2 ≤ Lx) (hy : 2 ≤ Ly) (hz : 1 ≤ Lz)
    (hodd : ¬ (Lx % 2 = 1 ∧ Ly % 2 = 1)) :
    IsDistance (nq Lx Ly Lz) (lattice Lx Ly Lz).rowsH (dist Lx Ly Lz) :=
  distance_criterion (C01RotatedToric3DCode.valid_code Lx Ly Lz hx hy hz hodd).2.2.2
    (dist Lx Ly Lz)
    (exists_listed_of_distance _ _ _ (reported_distance Lx Ly Lz hx hy hz hodd))
    (lower_bound Lx Ly Lz hx hy hz hodd)

/-- the same, stated for whatever `code.d` reports: the reported distance exists and is the
    true distance -/
theorem distance_reported (Lx Ly Lz : Nat) (hx : 2 ≤ Lx) (hy : 2 ≤ Ly) (hz : 1 ≤ Lz)
    (hodd : ¬ (Lx % 2 = 1 ∧ Ly % 2 = 1)) :
    ∃ d, Panqec.distance (lattice Lx Ly Lz).rowsX (lattice Lx Ly Lz).rowsZ = some d ∧
      IsDistance (nq Lx Ly Lz) (lattice Lx Ly Lz).rowsH d :=
  ⟨_, reported_distance Lx Ly Lz hx hy hz hodd, distance Lx Ly Lz hx hy hz hodd⟩

/-! ### deformed codes (`code.deform('XZZX', deformation_axis=ax)`) -/

/-- the class offers the deformation 'XZZX' along the axes 'x', 'y', 'z' (default 'y'): for these
    `get_deformation` is defined on every qubit of every lattice (any other name or axis raises,
    `C01RotatedToric3DCode.deformation_rule`) -/
theorem deformation_defined (Lx Ly Lz : Nat) (ax : String) (hax : ax = "x" ∨ ax = "y" ∨ ax = "z")
    (q : Coord) (hq : q ∈ (lattice Lx Ly Lz).qubits) :
    ∃ m, getDeformation Lx Ly Lz "XZZX" (some ax) q = some m := by
  obtain ⟨x, y, z, rfl⟩ := mem_qubits_shape _ _ _ _ hq
  rw [C01RotatedToric3DCode.deformation_rule, C01RotatedToric3DCode.qubit_axis_rule Lx Ly Lz x y z hq]
  rcases hax with rfl | rfl | rfl <;> simp

/-- THE C17 STATEMENT FOR EVERY DEFORMED CODE OF THE CLASS, ALL SIZES OF THE FAMILY: for every
    deformation name and axis for which `get_deformation` is defined on the qubits (`D q` = the
    relabelling it returns on `q`), the matrices the deformed getters assemble are the relabelled
    rows, they form a valid `[[n, k]]` code, `code.d` reports `dist Lx Ly Lz`, and that is the true
    distance of the deformed code -/
theorem distance_deformed (Lx Ly Lz : Nat) (hx : 2 ≤ Lx) (hy : 2 ≤ Ly) (hz : 1 ≤ Lz)
    (hodd : ¬ (Lx % 2 = 1 ∧ Ly % 2 = 1))
    (name : String) (axis : Option String) (D : Coord → PauliMap)
    (hD : ∀ q ∈ (lattice Lx Ly Lz).qubits, getDeformation Lx Ly Lz name axis q = some (D q)) :
    stabilizerMatrix ((lattice Lx Ly Lz).toCodeData.deform D) =
        some ((lattice Lx Ly Lz).rowsH.map (deformBsf ((lattice Lx Ly Lz).qubits.map D))) ∧
    logicalsX ((lattice Lx Ly Lz).toCodeData.deform D) =
        some ((lattice Lx Ly Lz).rowsX.map (deformBsf ((lattice Lx Ly Lz).qubits.map D))) ∧
    logicalsZ ((lattice Lx Ly Lz).toCodeData.deform D) =
        some ((lattice Lx Ly Lz).rowsZ.map (deformBsf ((lattice Lx Ly Lz).qubits.map D))) ∧
    ValidCodeL (nq Lx Ly Lz) (kq Lx Ly)
      ((lattice Lx Ly Lz).rowsH.map (deformBsf ((lattice Lx Ly Lz).qubits.map D)))
      ((lattice Lx Ly Lz).rowsX.map (deformBsf ((lattice Lx Ly Lz).qubits.map D)))
      ((lattice Lx Ly Lz).rowsZ.map (deformBsf ((lattice Lx Ly Lz).qubits.map D))) ∧
    Panqec.distance ((lattice Lx Ly Lz).rowsX.map (deformBsf ((lattice Lx Ly Lz).qubits.map D)))
      ((lattice Lx Ly Lz).rowsZ.map (deformBsf ((lattice Lx Ly Lz).qubits.map D))) =
        some (dist Lx Ly Lz) ∧
    IsDistance (nq Lx Ly Lz)
      ((lattice Lx Ly Lz).rowsH.map (deformBsf ((lattice Lx Ly Lz).qubits.map D)))
      (dist Lx Ly Lz) :=
  Lattice.deformed_distance (lattice Lx Ly Lz) (C01RotatedToric3DCode.wf Lx Ly Lz hx hy hodd)
    (length_qubits Lx Ly Lz) (C01RotatedToric3DCode.valid_code Lx Ly Lz hx hy hz hodd).2.2.2
    (reported_distance Lx Ly Lz hx hy hz hodd) (distance Lx Ly Lz hx hy hz hodd) D
    (fun q hq => C01RotatedToric3DCode.deformation_isPerm Lx Ly Lz name axis q (D q) (hD q hq))

/-- the relabelling `get_deformation(·, name, axis)` as a function of the location (identity
    where it raises — nowhere on the qubits for the offered name and axes) -/
def deformationOf (Lx Ly Lz : Nat) (name : String) (axis : Option String) (q : Coord) : PauliMap :=
  (getDeformation Lx Ly Lz name axis q).getD PauliMap.id

/-- the XZZX-deformed code along every axis has distance `dist Lx Ly Lz` — every size of the
    family -/
theorem distance_deformed_offered (Lx Ly Lz : Nat) (hx : 2 ≤ Lx) (hy : 2 ≤ Ly) (hz : 1 ≤ Lz)
    (hodd : ¬ (Lx % 2 = 1 ∧ Ly % 2 = 1)) (ax : String) (hax : ax = "x" ∨ ax = "y" ∨ ax = "z") :
    IsDistance (nq Lx Ly Lz)
      ((lattice Lx Ly Lz).rowsH.map (deformBsf ((lattice Lx Ly Lz).qubits.map
        (deformationOf Lx Ly Lz "XZZX" (some ax))))) (dist Lx Ly Lz) :=
  (distance_deformed Lx Ly Lz hx hy hz hodd "XZZX" (some ax)
    (deformationOf Lx Ly Lz "XZZX" (some ax)) (fun q hq => by
      obtain ⟨m, hm⟩ := deformation_defined Lx Ly Lz ax hax q hq
      unfold deformationOf
      rw [hm]; rfl)).2.2.2.2.2

/-! ### non-vacuity -/

/-- even × even -/
example : IsDistance 40 (lattice 4 4 2).rowsH 4 :=
  distance 4 4 2 (by decide) (by decide) (by decide) (by decide)
example : IsDistance 60 (lattice 4 6 2).rowsH 4 :=
  distance 4 6 2 (by decide) (by decide) (by decide) (by decide)
/-- odd × even: the distance is `Lx·Lz = 9`, below `Ly = 10` — the wall of Y along the defect -/
example : IsDistance 120 (lattice 3 10 3).rowsH 9 :=
  distance 3 10 3 (by decide) (by decide) (by decide) (by decide)
/-- odd × even with the column shorter: `min Ly (Lx·Lz) = Ly` -/
example : IsDistance 48 (lattice 3 4 3).rowsH 4 :=
  distance 3 4 3 (by decide) (by decide) (by decide) (by decide)
/-- even × odd, one layer (the 2-D twisted toric code) -/
example : IsDistance 6 (lattice 2 3 1).rowsH 2 :=
  distance 2 3 1 (by decide) (by decide) (by decide) (by decide)
example : dist 4 4 2 = 4 ∧ dist 3 10 3 = 9 ∧ dist 3 4 3 = 4 ∧ dist 2 3 1 = 2 ∧ dist 6 5 2 = 6 := by
  decide
/-- the hypothesis of `lower_bound` is satisfiable: a listed logical is a non-trivial logical -/
example : IsNontrivialLogical 15 (lattice 3 2 2).rowsH ((lattice 3 2 2).rowsX.getD 0 []) :=
  listedX_nontrivial (C01RotatedToric3DCode.valid_code 3 2 2 (by decide) (by decide) (by decide)
    (by decide)).2.2.2 (by decide +kernel)
example : (lattice 3 4 2).rowsX.map pauliWeight = [4] ∧
    (lattice 3 4 2).rowsZ.map pauliWeight = [6] :=
  weights_listed_OE 3 4 2 (by decide) (by decide) (by decide) (by decide) (by decide)
/-- the XZZX code on the `3 × 4 × 3` lattice (axis 'z') has distance 4 -/
example : IsDistance (nq 3 4 3) ((lattice 3 4 3).rowsH.map
    (deformBsf ((lattice 3 4 3).qubits.map (deformationOf 3 4 3 "XZZX" (some "z"))))) 4 :=
  distance_deformed_offered 3 4 3 (by decide) (by decide) (by decide) (by decide) "z"
    (Or.inr (Or.inr rfl))
example : deformationOf 2 2 2 "XZZX" (some "z") [2, 4, 2] = PauliMap.swapXZ := by decide +kernel

end Panqec.C17RotatedToric3DCode
