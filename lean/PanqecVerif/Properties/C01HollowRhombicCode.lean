/-
C01 for `HollowRhombicCode`, ALL sizes of the supported family (`Lx, Ly ≥ 2`, `Lz ≥ 3`; DESIGN.md
section 4 — the theorems below even hold for `Lx, Ly ≥ 1`): the hand-written lattice model
`Model/Lattices/HollowRhombicCode.lean` (tied to `panqec/codes/surface_3d/_hollow_rhombic_code.py` by
the correspondence streams of `harness/lattices/hollowrhombiccode.py`) is a well-formed coordinate
system (distinct and disjoint coordinates, every operator a dict supported on qubits, no empty
generator: the C02 clause for every size) whose generators commute — a cube of the checkerboard
contains two of the three potential qubits of an adjacent triangle, and the selection rule of the
triangle loop (number of keys, magnetic / electric boundary bands, `em_edge`, `constant_z`) is shown
to keep a two-key triangle only where both cubes that would see a single key of it are absent —
whose logical pair (the sheet `z = 4` of X, the line `(2Lx−1, 2Ly−2, ·)` of Z) commutes with the
generators and anticommutes with each other; `n` and `n_stabilizers` in closed form, `k = 1`;
`get_deformation` follows the stated rule.

RANK CLAUSE.  The GF(2) rank of the generators is `n − k` for most sizes of the family but NOT for all
(recorded known finding).  `Deficient Lx Ly Lz` — the hole is one layer of edges thin in one direction
and at least two unit cells wide in the two others: `Lx = 3 ∧ Ly ≥ 6 ∧ Lz ≥ 6`, or `Ly = 4 ∧ Lx ≥ 5 ∧ Lz ≥ 6`,
or `Lz = 4 ∧ Lx ≥ 5 ∧ Ly ≥ 6` — is the exact set of sizes with a smaller rank (measured on every size with
`Lx ≤ 7`, `Ly, Lz ≤ 9`, `n ≤ 900`: 332 sizes, 40 deficient, deficit `⌈ab/2⌉` with `a, b ≥ 1` the numbers of
unit cells of the thin hole in its two wide directions).
NEGATIVE SIDE, proved for EVERY deficient size (`deficient_not_valid`; the three families
`thin_hole_family_x / _y / _z`; instance `thin_hole_rank_deficient`): an undeclared second logical pair,
hence rank `≤ n − 2`, not a valid `[[n, 1]]` code.
POSITIVE SIDE, proved for EVERY size of the family that is not deficient (`valid_code`): `rankFamily`
(all cubes; the triangles selected by `selTri`: the family of `RhombicPlanarCode` restricted to the
listed triangles, plus the triangles of axis 1 at the vertices next to the hole and the lower
triangles of axis 0 under the hole edges `(3, ·, 3)`, `(·, 3, 3)` and along the hole edge `(3, 3, ·)`) is
independent for EVERY size (`generators_independent`: triangular family of probes, single qubits and
four families of two- and three-qubit probes) and has `n − 1` members for every non-deficient size
(`generators_count`: partition of the selected triangles into boxes of arithmetic progressions,
checkerboard counts) — all four clauses of C01, rank included.
Together (`valid_iff_not_deficient`, `rank_iff_not_deficient`): a size of the supported family is a
valid `[[n, 1]]` code, and its generators have rank `n − 1`, IFF it is not deficient.
-/
import PanqecVerif.Proofs.LatHollowRhombicCodeThin
import PanqecVerif.Proofs.LatHollowRhombicCodeRankIndep
import PanqecVerif.Proofs.LatHollowRhombicCodeCount
import PanqecVerif.Proofs.LatRankBridge

namespace Panqec.C01HollowRhombicCode
open Panqec.HollowRhombicCode Panqec.Color
open Panqec.Cubic3D (Axis opCommute_uop_same)

/-- coordinates distinct and disjoint; every stabilizer and logical is a dict (distinct keys)
    supported on qubits with letters ≠ I; no listed generator is empty (a cube sticking out of the
    hole keeps at least one edge, a listed triangle has at least two keys) — every size of the
    family -/
theorem wf (Lx Ly Lz : Nat) (h : Family Lx Ly Lz) : (lattice Lx Ly Lz).WF :=
  wf_all (by unfold Family at h; omega) (by unfold Family at h; omega) h.2.2

/-- all pairs of generators commute, the logical X sheet and the logical Z line commute with every
    generator, `opAntiCount (X, Z)` is odd — every size of the family -/
theorem commPair (Lx Ly Lz : Nat) (h : Family Lx Ly Lz) : (lattice Lx Ly Lz).CommPair :=
  HollowRhombicCode.commPair (by unfold Family at h; omega) (by unfold Family at h; omega) h.2.2

/-- the generators commute for EVERY size (the family is not needed) -/
theorem stabilizers_commute (Lx Ly Lz : Nat) :
    ∀ s ∈ (lattice Lx Ly Lz).stabs, ∀ t ∈ (lattice Lx Ly Lz).stabs,
      opCommute ((lattice Lx Ly Lz).getStab s) ((lattice Lx Ly Lz).getStab t) = true :=
  stab_comm_all Lx Ly Lz

/-- `n` (every size): the edges of the `Lx × Ly × Lz` planar cubic lattice minus the x, y and z edges
    in the hole (natural-number subtraction: the hole is empty for `Lx ≤ 2`, `Ly ≤ 3` or `Lz ≤ 3`) -/
theorem n_formula (Lx Ly Lz : Nat) :
    (lattice Lx Ly Lz).toCodeData.n +
      ((Lx - 2) * (Ly - 4) * (Lz - 4) + (Lx - 3) * (Ly - 3) * (Lz - 4) +
        (Lx - 3) * (Ly - 4) * (Lz - 3)) =
    Lx * Ly * Lz + (Lx - 1) * (Ly - 1) * Lz + (Lx - 1) * Ly * (Lz - 1) :=
  qubits_length_add Lx Ly Lz

/-- `k = 1` (every size): one logical X sheet, one logical Z line -/
theorem k_value (Lx Ly Lz : Nat) : (lattice Lx Ly Lz).toCodeData.k = 1 := rfl

/-- the qubit list is the edge list of `Planar3DCode` with the locations in the hole removed, in
    the same order -/
theorem qubits_rule (Lx Ly Lz : Nat) :
    (lattice Lx Ly Lz).qubits = (Planar3DCode.qubits Lx Ly Lz).filter (notHoleC Lx Ly Lz) :=
  qubits_eq Lx Ly Lz

/-- `is_stabilizer` in closed form: the cubes of the checkerboard `(x+y+z) % 4 = 1` with odd
    coordinates `1 ≤ x ≤ 2Lx−1`, `−1 ≤ y ≤ 2Ly−1`, `1 ≤ z ≤ 2Lz−3` that are not entirely inside the
    hole, and the triangles `(a, x, y, z)`, `0 ≤ a ≤ 3`, at the vertices `2 ≤ x ≤ 2Lx−2`,
    `0 ≤ y ≤ 2Ly−2`, `0 ≤ z ≤ 2Lz−2` outside the hole which have at least two keys and are not
    excluded as two-key triangles of a magnetic boundary band (`TriKeep`) -/
theorem isStabilizer_rule (Lx Ly Lz : Nat) (s : Coord) :
    s ∈ (lattice Lx Ly Lz).stabs ↔ (∃ x y z, s = [x, y, z] ∧ CubeLoc Lx Ly Lz x y z) ∨
      (∃ a x y z, s = [a, x, y, z] ∧ (0 ≤ a ∧ a < 4) ∧ VertexLoc Lx Ly Lz x y z ∧
        TriKeep Lx Ly Lz (TX Lx Ly Lz a x y z) (TY Lx Ly Lz a x y z) (TZ Lx Ly Lz a x y z) x y z) :=
  mem_stabs

/-- a listed triangle has its x key iff it has its y key, and — unless its z key points out of the
    faces `z = 0`, `z = 2Lz−2` — iff it has its z key: the only truncated triangles that survive
    the selection are the two-key triangles of the two electric faces -/
theorem triangle_keys_rule (Lx Ly Lz : Nat) (a x y z : Int)
    (h : [a, x, y, z] ∈ (lattice Lx Ly Lz).stabs) :
    (TX Lx Ly Lz a x y z ↔ TY Lx Ly Lz a x y z) ∧
    ((1 ≤ z + sgnZ a x y z ∧ z + sgnZ a x y z < 2 * (Lz : Int) - 1) →
      (TY Lx Ly Lz a x y z ↔ TZ Lx Ly Lz a x y z)) := by
  rcases mem_stabs.mp h with ⟨x', y', z', e, _⟩ | ⟨a', x', y', z', e, ha, hv, hk⟩
  · have := congrArg List.length e; simp at this
  · simp only [List.cons.injEq, and_true] at e
    obtain ⟨rfl, rfl, rfl, rfl⟩ := e
    exact ⟨keep_xy hv (sgnX_cases a) (sgnY_cases a) (sgnZ_cases a x y z) hk,
      fun hcz => keep_yz hv (sgnX_cases a) (sgnY_cases a) (sgnZ_cases a x y z) hcz hk⟩

/-- every generator is the dict of its candidate locations that are qubits, in delta order: twelve
    candidates (letter `X`) on a cube, three (letter `Z`) on a triangle -/
theorem stabilizer_closed_form (Lx Ly Lz : Nat) :
    (∀ x y z, (lattice Lx Ly Lz).getStab [x, y, z] =
      ((cubeCands x y z).filter (isq Lx Ly Lz)).map (fun q => (q, Pauli.X))) ∧
    (∀ a x y z, 0 ≤ a ∧ a < 4 → (lattice Lx Ly Lz).getStab [a, x, y, z] =
      ((triCands a x y z).filter (isq Lx Ly Lz)).map (fun q => (q, Pauli.Z))) :=
  ⟨fun x y z => getStab_cube' Lx Ly Lz x y z, fun _ _ _ _ ha => getStab_tri' Lx Ly Lz ha⟩

/-- `'Checkerboard XZZX'`: X↔Z exactly on the z edges with `z % 4 = 3 ∧ (x+y) % 4 = 2` or
    `z % 4 = 1 ∧ (x+y) % 4 = 0`; the identity on all other edges (keyword arguments are ignored) -/
theorem deformation_rule (x y z : Int) (a : Axis) (h : qubitAxis [x, y, z] = some a) :
    getDeformation "Checkerboard XZZX" [x, y, z] =
      DeformResult.map (if a = Axis.z ∧ ((z % 4 = 3 ∧ (x + y) % 4 = 2) ∨ (z % 4 = 1 ∧ (x + y) % 4 = 0))
        then PauliMap.swapXZ else PauliMap.id) := by
  unfold getDeformation
  rw [if_pos rfl]
  simp only [h]
  split <;> rfl

/-- on a location that is not an edge of the cubic lattice: ValueError (from `qubit_axis`) -/
theorem deformation_rule_not_edge (loc : Coord) (h : qubitAxis loc = none) :
    getDeformation "Checkerboard XZZX" loc = DeformResult.valueError := by
  unfold getDeformation
  rw [if_pos rfl]
  match loc, h with
  | [x, y, z], h => simp only [h]
  | [], _ => rfl
  | [_], _ => rfl
  | [_, _], _ => rfl
  | _ :: _ :: _ :: _ :: _, _ => rfl

/-- any name other than `'Checkerboard XZZX'`: ValueError, whatever the location -/
theorem deformation_rule_bad_name (name : String) (loc : Coord) (h : name ≠ "Checkerboard XZZX") :
    getDeformation name loc = DeformResult.valueError := by
  unfold getDeformation; rw [if_neg h]

/-- on the qubits of every lattice the deformation never raises: it returns one of the two maps,
    both permutations of `{X, Y, Z}` -/
theorem deformation_rule_on_qubits (Lx Ly Lz : Nat) (q : Coord) (h : q ∈ (lattice Lx Ly Lz).qubits) :
    getDeformation "Checkerboard XZZX" q = DeformResult.map PauliMap.swapXZ ∨
    getDeformation "Checkerboard XZZX" q = DeformResult.map PauliMap.id := by
  obtain ⟨x, y, z, rfl⟩ := shape_of_mem_qubits h
  have hp := qubit_parity h
  have : ∃ a, qubitAxis [x, y, z] = some a := by
    rcases hp with ⟨h1, h2, h3⟩ | ⟨h1, h2, h3⟩ | ⟨h1, h2, h3⟩
    · exact ⟨_, Cubic3D.qubitAxis_x h1 h2 h3⟩
    · exact ⟨_, Cubic3D.qubitAxis_y h1 h2 h3⟩
    · exact ⟨_, Cubic3D.qubitAxis_z h1 h2 h3⟩
  obtain ⟨a, ha⟩ := this
  rw [deformation_rule x y z a ha]
  split
  · exact Or.inl rfl
  · exact Or.inr rfl

/-- `qubit_axis` on the qubits: the direction of the edge -/
theorem qubitAxis_rule (Lx Ly Lz : Nat) (x y z : Int) (h : [x, y, z] ∈ (lattice Lx Ly Lz).qubits) :
    qubitAxis [x, y, z] =
      some (if x % 2 = 1 then Axis.x else if y % 2 = 1 then Axis.y else Axis.z) := by
  rcases qubit_parity h with ⟨h1, h2, h3⟩ | ⟨h1, h2, h3⟩ | ⟨h1, h2, h3⟩
  · show Cubic3D.qubitAxis [x, y, z] = _
    rw [Cubic3D.qubitAxis_x h1 h2 h3, if_pos h1]
  · show Cubic3D.qubitAxis [x, y, z] = _
    rw [Cubic3D.qubitAxis_y h1 h2 h3, if_neg (by omega), if_pos h2]
  · show Cubic3D.qubitAxis [x, y, z] = _
    rw [Cubic3D.qubitAxis_z h1 h2 h3, if_neg (by omega), if_neg (by omega)]


/-- NEGATIVE RESULT (kernel-checked, recorded known finding): `HollowRhombicCode(3, 6, 6)` — inside
    the supported family — is NOT a valid `[[224, 1]]` code.  Commutation and pairing hold (`commPair`),
    but the lattice carries a second, undeclared logical pair (`X2keys`, weight 10; `Z2keys`, weight 6:
    they commute with all 277 generators and with the declared sheet and line, and anticommute with
    each other — `second_logical_pair`), so that every independent family of generators has at most
    `n − 2 = 222` members: the rank clause `rank = n − k = 223` fails.  The matrices are the ones the
    generic code model assembles from the lattice model (the same objects as in the `valid_code`
    theorems of the other classes). -/
theorem thin_hole_rank_deficient :
    (lattice 3 6 6).toCodeData.n = 224 ∧ (lattice 3 6 6).toCodeData.k = 1 ∧
    stabilizerMatrix (lattice 3 6 6).toCodeData = some (lattice 3 6 6).rowsH ∧
    (∀ r, HasRank (2 * 224) (lattice 3 6 6).rowsH r → r ≤ 222) ∧
    ¬ ValidCodeL 224 1 (lattice 3 6 6).rowsH (lattice 3 6 6).rowsX (lattice 3 6 6).rowsZ := by
  refine ⟨n_366, rfl, Lattice.stabilizerMatrix_eq (wf 3 6 6 (by decide)), rank_le_366, ?_⟩
  intro h
  have := rank_le_366 _ h.rank
  omega

/-- the second logical pair of `HollowRhombicCode(3, 6, 6)`: the lattice with `X2keys`, `Z2keys` added to the
    declared logical operators is well formed and satisfies every commutation / pairing clause with
    `k = 2` -/
theorem second_logical_pair : lat2.WF ∧ lat2.CommPair ∧ lat2.logX.length = 2 ∧
    lat2.stabs = (lattice 3 6 6).stabs ∧ lat2.qubits = (lattice 3 6 6).qubits :=
  ⟨secondPair_366.wf, secondPair_366.commPair, by rw [lat2_logX]; rfl, rfl, rfl⟩


/-- the statement "not a valid `[[n, 1]]` code although commutation and pairing hold": every
    independent family of generators has at most `n − 2` members -/
def RankDeficient (l : Lattice) : Prop :=
  l.CommPair ∧ (∀ r, HasRank (2 * l.toCodeData.n) l.rowsH r → r + 2 ≤ l.toCodeData.n) ∧
  ¬ ValidCodeL l.toCodeData.n 1 l.rowsH l.rowsX l.rowsZ

/-- commutation and pairing with a rank bound `n − 2` give `RankDeficient`: the rank clause
    `rank = n − 1` of `ValidCodeL n 1` cannot hold -/
theorem rankDeficient_of {l : Lattice} (hc : l.CommPair)
    (h : ∀ r, HasRank (2 * l.qubits.length) l.rowsH r → r + 2 ≤ l.qubits.length) : RankDeficient l := by
  refine ⟨hc, h, ?_⟩
  intro hv
  have := h _ hv.rank
  have e : l.toCodeData.n = l.qubits.length := rfl
  omega

/-- NEGATIVE RESULT FOR A WHOLE FAMILY (recorded known finding): for EVERY `Ly, Lz ≥ 6` the class
    `HollowRhombicCode(3, Ly, Lz)` — hole one layer thin in `x` — is not a valid `[[n, 1]]` code: the
    plaquette `X2 = {(2,5,4), (2,5,6), (2,4,5), (2,6,5)}` next to the hole and the operator
    `Z2` of weight 6 form an undeclared second logical pair -/
theorem thin_hole_family_x (Ly Lz : Nat) (hy : 6 ≤ Ly) (hz : 6 ≤ Lz) :
    Family 3 Ly Lz ∧ RankDeficient (lattice 3 Ly Lz) :=
  ⟨⟨by decide, by omega, by omega⟩,
    rankDeficient_of (commPair 3 Ly Lz ⟨by decide, by omega, by omega⟩) (ThinA.rank_le hy hz)⟩

/-- the same for every `Lx ≥ 5`, `Lz ≥ 6` with `Ly = 4` (hole one layer thin in `y`; plaquette
    `{(5,2,4), (5,2,6), (4,2,5), (6,2,5)}`) -/
theorem thin_hole_family_y (Lx Lz : Nat) (hx : 5 ≤ Lx) (hz : 6 ≤ Lz) :
    Family Lx 4 Lz ∧ RankDeficient (lattice Lx 4 Lz) :=
  ⟨⟨by omega, by decide, by omega⟩,
    rankDeficient_of (commPair Lx 4 Lz ⟨by omega, by decide, by omega⟩) (ThinB.rank_le hx hz)⟩

/-- the same for every `Lx ≥ 5`, `Ly ≥ 6` with `Lz = 4` (hole one layer thin in `z`; plaquette
    `{(5,4,2), (5,6,2), (4,5,2), (6,5,2)}`) -/
theorem thin_hole_family_z (Lx Ly : Nat) (hx : 5 ≤ Lx) (hy : 6 ≤ Ly) :
    Family Lx Ly 4 ∧ RankDeficient (lattice Lx Ly 4) :=
  ⟨⟨by omega, by omega, by decide⟩,
    rankDeficient_of (commPair Lx Ly 4 ⟨by omega, by omega, by decide⟩) (ThinC.rank_le hx hy)⟩

/-- THE EXACT SET OF RANK-DEFICIENT SIZES (measured on the implementation: GF(2) rank of
    `stabilizer_matrix` against `n − k` for every size of the family with `Lx ≤ 7`, `Ly, Lz ≤ 9`,
    `n ≤ 900` — 332 sizes, 40 of them deficient, exactly the ones below; the positive theorem
    `valid_code`, `deficient_not_valid` and `valid_iff_not_deficient` are the proof: `Deficient` is exact).  The hole of the class has
    `(Lx − 3) × (Ly − 4) × (Lz − 4)` vertices and is one layer of edges thin in `x` for `Lx = 3`, in `y` for
    `Ly = 4`, in `z` for `Lz = 4`; a size is deficient iff the hole is thin in one direction and at least
    two unit cells wide in the other two: with `a, b` the numbers of unit cells of the thin hole in the
    two wide directions (`(Ly − 5, Lz − 5)`, `(Lx − 4, Lz − 5)`, `(Lx − 4, Ly − 5)`), `a, b ≥ 1`, the measured
    deficit is `⌈a·b / 2⌉` -/
def Deficient (Lx Ly Lz : Nat) : Prop :=
  (Lx = 3 ∧ 6 ≤ Ly ∧ 6 ≤ Lz) ∨ (Ly = 4 ∧ 5 ≤ Lx ∧ 6 ≤ Lz) ∨ (Lz = 4 ∧ 5 ≤ Lx ∧ 6 ≤ Ly)

instance (Lx Ly Lz : Nat) : Decidable (Deficient Lx Ly Lz) := by unfold Deficient; infer_instance

/-- a deficient size is a size of the supported family -/
theorem deficient_family {Lx Ly Lz : Nat} (h : Deficient Lx Ly Lz) : Family Lx Ly Lz := by
  unfold Deficient at h; unfold Family; omega

/-- NEGATIVE SIDE, EVERY DEFICIENT SIZE (recorded known finding): commutation and pairing hold, but
    every independent family of generators has at most `n − 2` members (the undeclared second
    logical pair of the three thin-hole families) and the class is not a valid `[[n, 1]]` code -/
theorem deficient_not_valid (Lx Ly Lz : Nat) (h : Deficient Lx Ly Lz) :
    RankDeficient (lattice Lx Ly Lz) := by
  rcases h with ⟨rfl, hy, hz⟩ | ⟨rfl, hx, hz⟩ | ⟨rfl, hx, hy⟩
  · exact (thin_hole_family_x Ly Lz hy hz).2
  · exact (thin_hole_family_y Lx Lz hx hz).2
  · exact (thin_hole_family_z Lx Ly hx hy).2

/-- THE INDEPENDENT FAMILY (operator level, EVERY size with `Ly ≥ 1`, deficient sizes included): the
    members of `rankFamily` — all cubes; all triangles of axis 3 and 2; of axis 1 those at a vertex
    where the triangle of axis 3 or 2 is not listed (the row `y = 2Ly−2` and the vertices next to the
    hole); of axis 0 those of the last column `x = 2Lx−2`, the upper one (`(x+y+z) % 4 = 2`, `z ≥ 2`) of
    the two that share a z edge, the lower one where the upper one is not listed, and the lower ones
    `(0, 2, 2, z)`, `z % 4 = 0`, `8 ≤ z ≤ 2Lz−6`, along the hole edge `x = y = 3` when `Lx, Ly ≥ 4` or `Lx = 3`,
    `Ly ≥ 5`, and for `Lz = 4` the lower ones `(0, 2, y, 2)` under the hole edge `(3, ·, 3)` (`Lx = 4`, `Ly ≥ 5`) or
    `(0, x, 2, 2)` under the hole edge `(·, 3, 3)` (`Ly = 5`, `Lx ≥ 5`) — are independent: every non-empty
    duplicate-free sub-family has a Pauli operator on the qubits anticommuting with an odd number of
    its members (a triangular family of probes: single qubits, and `X(3,2,z) X(4,2,z−1) X(3,2,z−2)` /
    `X(2,3,z) X(2,4,z−1) X(2,3,z−2)` / `X(3,y,2) X(4,y−1,2) X(3,y−2,2)` / `X(x,3,2) X(x−1,4,2)` for the kept
    lower triangles) -/
theorem generators_independent (Lx Ly Lz : Nat) (hy : 1 ≤ Ly) :
    Lat2D.IndepGenerators (lattice Lx Ly Lz) (rankFamily Lx Ly Lz) :=
  indep_rankFamily Lx Ly Lz hy

/-- the family consists of distinct stabilizer locations (every size) -/
theorem generators_listed (Lx Ly Lz : Nat) :
    (rankFamily Lx Ly Lz).Nodup ∧ ∀ s ∈ rankFamily Lx Ly Lz, s ∈ (lattice Lx Ly Lz).stabs :=
  ⟨nodup_rankFamily Lx Ly Lz, fun _ hs => rankFamily_sub hs⟩

/-- the regimes in which the family is counted: no hole or a hole one layer thin in two directions
    (`NoHole`: `_is_in_hole` is never true on a vertex, a leg or a corner); a hole at least two layers
    thick in every direction; the seven one-parameter families of sizes whose hole is thin in one
    direction and that are not deficient -/
def Covered (Lx Ly Lz : Nat) : Prop :=
  NoHole Lx Ly Lz ∨ (4 ≤ Lx ∧ 5 ≤ Ly ∧ 5 ≤ Lz) ∨ (Lx = 3 ∧ 4 ≤ Ly ∧ Lz = 5) ∨ (Lx = 3 ∧ Ly = 4 ∧ 5 ≤ Lz) ∨
  (Lx = 3 ∧ Ly = 5 ∧ 5 ≤ Lz) ∨ (Lx = 4 ∧ Ly = 4 ∧ 5 ≤ Lz) ∨ (4 ≤ Lx ∧ Ly = 4 ∧ Lz = 5) ∨
  (Lx = 4 ∧ 5 ≤ Ly ∧ Lz = 4) ∨ (5 ≤ Lx ∧ Ly = 5 ∧ Lz = 4)

instance (Lx Ly Lz : Nat) : Decidable (Covered Lx Ly Lz) := by unfold Covered; infer_instance

/-- the regimes cover exactly the sizes of the family that are not deficient -/
theorem covered_iff {Lx Ly Lz : Nat} (h : Family Lx Ly Lz) :
    Covered Lx Ly Lz ↔ ¬ Deficient Lx Ly Lz := by
  unfold Family at h
  constructor
  · intro hc
    unfold Covered NoHole at hc
    unfold Deficient
    rcases hc with (hc | hc | hc | hc | hc | hc) | hc | hc | hc | hc | hc | hc | hc | hc <;> omega
  · intro hd
    unfold Deficient at hd
    unfold Covered NoHole
    by_cases a1 : Lx ≤ 2
    · exact Or.inl (Or.inl a1)
    by_cases a2 : Ly ≤ 3
    · exact Or.inl (Or.inr (Or.inl a2))
    by_cases a3 : Lz ≤ 3
    · exact Or.inl (Or.inr (Or.inr (Or.inl a3)))
    by_cases b1 : Lx = 3
    · by_cases b2 : Ly = 4
      · exact Or.inl (Or.inr (Or.inr (Or.inr (Or.inl ⟨b1, b2⟩))))
      by_cases b3 : Lz = 4
      · exact Or.inl (Or.inr (Or.inr (Or.inr (Or.inr (Or.inl ⟨b1, b3⟩)))))
      by_cases b4 : Lz = 5
      · exact Or.inr (Or.inr (Or.inl ⟨b1, by omega, b4⟩))
      · exact Or.inr (Or.inr (Or.inr (Or.inr (Or.inl ⟨b1, by omega, by omega⟩))))
    by_cases c1 : Ly = 4
    · by_cases c2 : Lz = 4
      · exact Or.inl (Or.inr (Or.inr (Or.inr (Or.inr (Or.inr ⟨c1, c2⟩)))))
      by_cases c3 : Lz = 5
      · exact Or.inr (Or.inr (Or.inr (Or.inr (Or.inr (Or.inr (Or.inl ⟨by omega, c1, c3⟩))))))
      · exact Or.inr (Or.inr (Or.inr (Or.inr (Or.inr (Or.inl ⟨by omega, c1, by omega⟩)))))
    by_cases d1 : Lz = 4
    · by_cases d2 : Lx = 4
      · exact Or.inr (Or.inr (Or.inr (Or.inr (Or.inr (Or.inr (Or.inr (Or.inl ⟨d2, by omega, d1⟩)))))))
      · exact Or.inr (Or.inr (Or.inr (Or.inr (Or.inr (Or.inr (Or.inr (Or.inr
          ⟨by omega, by omega, d1⟩)))))))
    · exact Or.inr (Or.inl ⟨by omega, by omega, by omega⟩)

/-- the family has exactly `n − k = n − 1` members: EVERY size of the family that is not deficient -/
theorem generators_count (Lx Ly Lz : Nat) (h : Family Lx Ly Lz) (hd : ¬ Deficient Lx Ly Lz) :
    (rankFamily Lx Ly Lz).length + (lattice Lx Ly Lz).toCodeData.k = (lattice Lx Ly Lz).toCodeData.n := by
  show (rankFamily Lx Ly Lz).length + 1 = (qubits Lx Ly Lz).length
  have hc := (covered_iff h).mpr hd
  obtain ⟨hx, hy, hz⟩ := h
  rcases hc with hc | ⟨h1, h2, h3⟩ | ⟨e1, h2, e3⟩ | ⟨e1, e2, h3⟩ | ⟨e1, e2, h3'⟩ | ⟨e1, e2, h3⟩ |
    ⟨h1, e2, e3⟩ | ⟨e1, h2, e3⟩ | ⟨h1, e2, e3⟩
  · exact noHole_count hc hx hy (by omega)
  · exact thick_count h1 h2 h3
  · rw [e1, e3]; exact count_3_L_5 Ly h2
  · rw [e1, e2]; exact count_3_4_L Lz h3
  · rw [e1, e2]; exact count_3_5_L Lz h3'
  · rw [e1, e2]; exact count_4_4_L Lz h3
  · rw [e2, e3]; exact count_L_4_5 Lx h1
  · rw [e1, e3]; exact count_4_L_4 Ly h2
  · rw [e2, e3]; exact count_L_5_4 Lx h1

/-- the number of cubes (every size): the cubes of the checkerboard in the box `Lx × (Ly+1) × (Lz−1)`
    (rounded up) minus those with all eight corners in the hole (the box
    `(Lx−4) × (Ly−5) × (Lz−5)`, rounded down) -/
theorem n_cubes (Lx Ly Lz : Nat) :
    (cubes Lx Ly Lz).length + (Lx - 4) * ((Ly - 5) * (Lz - 5)) / 2 =
      (Lx * ((Ly + 1) * (Lz - 1)) + 1) / 2 := by
  have := cubes_count Lx Ly Lz
  unfold Rhombic.half at this
  simpa using this

/-- the number of vertices in the hole and next to it where triangles are missing: `abc + ab + ac + bc`
    for a hole of `a × b × c = (Lx−3) × (Ly−4) × (Lz−4)` vertices (`0` without hole) -/
def holeTerm (Lx Ly Lz : Nat) : Nat :=
  if 3 ≤ Lx ∧ 4 ≤ Ly ∧ 4 ≤ Lz then
    (Lx - 3) * (Ly - 4) * (Lz - 4) + (Ly - 4) * (Lz - 4) + (Lx - 3) * (Lz - 4) + (Lx - 3) * (Ly - 4)
  else 0

/-- the number of listed triangles (every size of the family): `4(Lx−1)(Ly−1)Lz` as for
    `RhombicPlanarCode`, minus four per vertex in the hole and two per vertex next to it, on each of
    its six faces, i.e. `4(abc + ab + ac + bc)` -/
theorem n_triangles (Lx Ly Lz : Nat) (h : Family Lx Ly Lz) :
    (triangles Lx Ly Lz).length + 4 * holeTerm Lx Ly Lz = 4 * ((Lx - 1) * (Ly - 1) * Lz) := by
  obtain ⟨hx, hy, hz⟩ := h
  unfold holeTerm
  by_cases hh : 3 ≤ Lx ∧ 4 ≤ Ly ∧ 4 ≤ Lz
  · rw [if_pos hh]
    exact triangles_count_hole hh.1 hh.2.1 hh.2.2
  · rw [if_neg hh, Nat.mul_zero, Nat.add_zero]
    exact triangles_count_noHole (by omega) hx hy

/-- `n_stabilizers` in closed form (every size of the family): the cubes of `n_cubes` and the
    triangles of `n_triangles` -/
theorem n_stabilizers (Lx Ly Lz : Nat) (h : Family Lx Ly Lz) :
    (lattice Lx Ly Lz).toCodeData.stabs.length + (Lx - 4) * ((Ly - 5) * (Lz - 5)) / 2 +
      4 * holeTerm Lx Ly Lz =
    (Lx * ((Ly + 1) * (Lz - 1)) + 1) / 2 + 4 * ((Lx - 1) * (Ly - 1) * Lz) := by
  have h1 := n_cubes Lx Ly Lz
  have h2 := n_triangles Lx Ly Lz h
  show (cubes Lx Ly Lz ++ triangles Lx Ly Lz).length + _ + _ = _
  rw [List.length_append]
  omega

/-- THE C01 STATEMENT, POSITIVE SIDE, EVERY NON-DEFICIENT SIZE of the supported family: the matrices
    that `stabilizer_matrix`, `logicals_x`, `logicals_z` of the generic code model assemble from this
    lattice model form a valid `[[n, 1]]` stabilizer code — generators pairwise commute, logicals
    commute with the generators, `ω(X, Z) = 1`, `ω(X, X) = ω(Z, Z) = 0`, and the generators have GF(2)
    rank `n − 1` (`n` as in `n_formula`) -/
theorem valid_code (Lx Ly Lz : Nat) (h : Family Lx Ly Lz) (hd : ¬ Deficient Lx Ly Lz) :
    stabilizerMatrix (lattice Lx Ly Lz).toCodeData = some (lattice Lx Ly Lz).rowsH ∧
    logicalsX (lattice Lx Ly Lz).toCodeData = some (lattice Lx Ly Lz).rowsX ∧
    logicalsZ (lattice Lx Ly Lz).toCodeData = some (lattice Lx Ly Lz).rowsZ ∧
    ValidCodeL (lattice Lx Ly Lz).toCodeData.n 1
      (lattice Lx Ly Lz).rowsH (lattice Lx Ly Lz).rowsX (lattice Lx Ly Lz).rowsZ :=
  Lat2D.validCode_of_lattice_subset (lattice Lx Ly Lz) (wf Lx Ly Lz h) (commPair Lx Ly Lz h)
    (rankFamily Lx Ly Lz) (nodup_rankFamily Lx Ly Lz) (fun _ hs => rankFamily_sub hs)
    (generators_independent Lx Ly Lz (by unfold Family at h; omega))
    (generators_count Lx Ly Lz h hd)

/-- THE EXACT CHARACTERISATION: a size of the supported family is a valid `[[n, 1]]` code iff it is not
    deficient -/
theorem valid_iff_not_deficient (Lx Ly Lz : Nat) (h : Family Lx Ly Lz) :
    ValidCodeL (lattice Lx Ly Lz).toCodeData.n 1
      (lattice Lx Ly Lz).rowsH (lattice Lx Ly Lz).rowsX (lattice Lx Ly Lz).rowsZ ↔
    ¬ Deficient Lx Ly Lz :=
  ⟨fun hv hd => (deficient_not_valid Lx Ly Lz hd).2.2 hv,
    fun hd => (valid_code Lx Ly Lz h hd).2.2.2⟩

/-- the GF(2) rank of the generators is `n − 1` iff the size is not deficient -/
theorem rank_iff_not_deficient (Lx Ly Lz : Nat) (h : Family Lx Ly Lz) :
    HasRank (2 * (lattice Lx Ly Lz).toCodeData.n) (lattice Lx Ly Lz).rowsH
      ((lattice Lx Ly Lz).toCodeData.n - 1) ↔ ¬ Deficient Lx Ly Lz := by
  constructor
  · intro hr hd
    have := (deficient_not_valid Lx Ly Lz hd).2.1 _ hr
    omega
  · intro hd
    exact (valid_code Lx Ly Lz h hd).2.2.2.rank

/-! ### non-vacuity -/

example : Family 2 2 3 := by decide
example : Family 3 6 6 := by decide
example : (lattice 2 2 3).WF := wf 2 2 3 (by decide)
example : (lattice 3 6 6).CommPair := commPair 3 6 6 (by decide)
example : (lattice 5 7 9).CommPair := commPair 5 7 9 (by decide)
example : (lattice 3 6 6).toCodeData.n = 224 := by have := n_formula 3 6 6; omega
example : (lattice 2 2 3).toCodeData.n = 19 := by have := n_formula 2 2 3; omega
example : getDeformation "Checkerboard XZZX" [2, 0, 3] = DeformResult.map PauliMap.swapXZ := by decide
example : getDeformation "Checkerboard XZZX" [2, 0, 1] = DeformResult.map PauliMap.id := by decide
example : getDeformation "Checkerboard XZZX" [1, 0, 0] = DeformResult.map PauliMap.id := by decide
example : getDeformation "Checkerboard XZZX" [1, 1, 1] = DeformResult.valueError := by decide
example : getDeformation "XZZX" [1, 0, 0] = DeformResult.valueError := by decide
example : Deficient 3 6 6 ∧ Deficient 7 4 9 ∧ Deficient 5 6 4 ∧ ¬ Deficient 4 6 6 ∧ ¬ Deficient 3 5 9 ∧
    ¬ Deficient 4 4 9 ∧ ¬ Deficient 4 9 4 ∧ ¬ Deficient 3 6 5 := by decide
example : RankDeficient (lattice 3 7 9) := (thin_hole_family_x 7 9 (by decide) (by decide)).2
example : RankDeficient (lattice 6 4 6) := (thin_hole_family_y 6 6 (by decide) (by decide)).2
set_option maxRecDepth 100000 in
example : (lattice 2 2 3).getStab [0, 2, 0, 0] = [([3, 0, 0], .Z), ([2, 1, 0], .Z)] := by
  decide
set_option maxRecDepth 100000 in
example : (lattice 2 2 3).getStab [1, -1, 1] = [([2, 0, 1], .X), ([1, 0, 2], .X), ([1, 0, 0], .X)] := by
  decide

example : Covered 2 2 3 ∧ Covered 7 3 9 ∧ Covered 4 5 5 ∧ Covered 6 9 8 ∧ Covered 3 5 5 ∧ Covered 4 4 9 ∧
    Covered 3 9 4 ∧ Covered 9 4 4 ∧ Covered 3 9 5 ∧ Covered 3 5 11 ∧ Covered 4 9 4 ∧ Covered 9 5 4 ∧
    ¬ Covered 3 6 6 ∧ ¬ Covered 5 6 4 := by
  decide
/-- a size with a thick hole: 520 qubits, rank 519 -/
example : HasRank (2 * (lattice 6 5 8).toCodeData.n) (lattice 6 5 8).rowsH
    ((lattice 6 5 8).toCodeData.n - 1) ∧ (lattice 6 5 8).toCodeData.n = 520 :=
  ⟨(valid_code 6 5 8 (by decide) (by decide)).2.2.2.rank,
    by have := n_formula 6 5 8; omega⟩
example : Lat2D.IndepGenerators (lattice 3 6 6) (rankFamily 3 6 6) :=
  generators_independent 3 6 6 (by decide)
example : (cubes 5 6 7).length = 104 := by have := n_cubes 5 6 7; omega
/-- `(5, 6, 7)`: 104 cubes and 448 triangles -/
example : (lattice 5 6 7).toCodeData.stabs.length = 552 := by
  have := n_stabilizers 5 6 7 (by decide)
  have e : holeTerm 5 6 7 = 28 := by decide
  rw [e] at this
  omega

end Panqec.C01HollowRhombicCode
