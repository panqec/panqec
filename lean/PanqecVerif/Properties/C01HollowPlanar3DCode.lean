/-
C01 for `HollowPlanar3DCode`, ALL sizes of the supported family `1 ≤ Lx, Ly, Lz` (no bound on the
size): the hand-written lattice model `Model/Lattices/HollowPlanar3DCode.lean` (tied to the Python
class by the correspondence streams of `harness/lattices/hollowplanar3dcode.py`) is a well-formed
coordinate system, all stabilizer generators commute (vertex operators are truncated by the
`is_qubit` filter at the open boundaries AND at the hole; face operators outside the hole are never
truncated by the hole), the logical operators commute with the stabilizers and anticommute with each
other (the logical Z is the one `get_logicals_z` lists: Z on the existing x edges of the
cross-section `x = 3` when `Lx ≥ 3` — the membrane through the cavity — and of the end plane `x = 1`
when `Lx ≤ 2`; it differs from the end plane `oldLogZ` by the product of the vertex generators with
`x = 2`, so it meets every face generator on an even number of qubits and the logical X line on one
qubit), `n` = the `n` of `Planar3DCode` minus the edges in the hole, `k = 1`, and `get_deformation`
never returns a map (the class defines none; `deformation_names = []`).

The rank clause is proved for all sizes at the operator level (`rank_family`): an explicit family
of `n − k` generators — all vertices, all yz and xz faces, the xy faces of the layer `z = 0` and the
xy faces of the top of the tube except one — is GF(2)-independent.  (Relations left out: one xy face
per cube of the two end slabs `x = 1`, `x = 2Lx − 1`, and one face for the closed surface around the
cavity.)  `valid_code` puts everything together through the generic bridges `Proofs/OpComm.lean`
(`symp (to_bsf a) (to_bsf b) = opAntiCount a b mod 2` ⇒ `CommPairL` of the assembled rows) and
`Proofs/LatRankBridge.lean` (parity-form independent family of `n − k` distinct generators ⇒
`HasRank (2n) rowsH (n − k)`): the matrices that `stabilizer_matrix`, `logicals_x`, `logicals_z` of
the generic code model (`Model/Code.lean`, C02) assemble from this lattice model form a valid
`[[n, 1]]` stabilizer code (`ValidCodeL`: all four clauses of C01, rank included) for EVERY size of
the family, with or without a cavity.
-/
import PanqecVerif.Proofs.LatHollowPlanar3DCodeRank
import PanqecVerif.Proofs.LatHollowPlanar3DCodeCss
import PanqecVerif.Proofs.LatRankBridge

namespace Panqec.C01HollowPlanar3DCode
open Panqec.Cubic3D Panqec.HollowPlanar3DCode

/-- Well-formedness for every supported size: qubit / stabilizer coordinates are distinct and
    disjoint, every `get_stabilizer(loc)` and every logical operator is a dict (distinct keys)
    supported on qubits with letters ≠ I, and no stabilizer is empty (also at the boundaries and
    next to the hole). -/
theorem wf (Lx Ly Lz : Nat) (hLx : 1 ≤ Lx) (hLy : 1 ≤ Ly) (hLz : 1 ≤ Lz) :
    (lattice Lx Ly Lz).WF :=
  (css hLx hLy hLz).wf

/-- The operator-level C01 clauses other than rank, for every supported size: any two stabilizer
    generators commute; the logical X and the logical Z (the cross-section `x = 3` without the hole
    when `Lx ≥ 3`, the end plane `x = 1` otherwise) commute with every generator; there is one
    of each and they anticommute. -/
theorem commPair (Lx Ly Lz : Nat) (hLx : 1 ≤ Lx) (hLy : 1 ≤ Ly) (hLz : 1 ≤ Lz) :
    (lattice Lx Ly Lz).CommPair :=
  (css hLx hLy hLz).commPair

/-- `n` = (x, y and z edges of `Planar3DCode`) − (x, y and z edges in the hole), every size, with
    truncated subtraction: the hole removes `(Lx−2)(Ly−2)(Lz−2)` x edges, `(Lx−3)(Ly−1)(Lz−2)` y
    edges and `(Lx−3)(Ly−2)(Lz−1)` z edges (nothing unless `Lx ≥ 3` and `Ly, Lz ≥ 2`). -/
theorem n_formula (Lx Ly Lz : Nat) : (lattice Lx Ly Lz).toCodeData.n =
    Lx * Ly * Lz + (Lx - 1) * (Ly - 1) * Lz + (Lx - 1) * Ly * (Lz - 1) -
      ((Lx - 2) * (Ly - 2) * (Lz - 2) + (Lx - 3) * (Ly - 1) * (Lz - 2) +
        (Lx - 3) * (Ly - 2) * (Lz - 1)) := by
  simp only [Lattice.toCodeData, CodeData.n, lattice_qubits]
  have := qubits_length_add Lx Ly Lz
  omega

/-- the number of stabilizer generators: the vertices, xy / yz / xz faces of `Planar3DCode` minus
    those in the hole (every size, truncated subtraction). -/
theorem n_stabilizers_formula (Lx Ly Lz : Nat) :
    (lattice Lx Ly Lz).toCodeData.stabs.length =
      (Lx - 1) * Ly * Lz + Lx * (Ly - 1) * Lz + (Lx - 1) * (Ly - 1) * (Lz - 1) +
        Lx * Ly * (Lz - 1) -
      ((Lx - 3) * (Ly - 2) * (Lz - 2) + (Lx - 2) * (Ly - 1) * (Lz - 2) +
        (Lx - 3) * (Ly - 1) * (Lz - 1) + (Lx - 2) * (Ly - 2) * (Lz - 1)) := by
  simp only [Lattice.toCodeData, lattice_stabs]
  have := stabs_length_add Lx Ly Lz
  omega

/-- `k = 1` (every size). -/
theorem k_value (Lx Ly Lz : Nat) : (lattice Lx Ly Lz).toCodeData.k = 1 := by
  simp only [Lattice.toCodeData, CodeData.k, lattice_logX]; rfl

/-- The rank clause for every supported size: `rankFamily` (the stabilizer locations other than the
    xy faces `(1, y, z)`, `(2Lx−1, y, z)`, `(3, 1, z)` with `z ≠ 0`: all vertices, all yz and xz faces,
    the xy faces with `z = 0`, the xy faces of the top of the tube except `(3, 1, 2Lz−2)`) is a
    sub-list of `get_stabilizer_coordinates` with exactly `n − k` members whose operators are
    GF(2)-independent: no non-empty sub-family multiplies to the identity (even X-parity and even
    Z-parity on every location). -/
theorem rank_family (Lx Ly Lz : Nat) (hLx : 1 ≤ Lx) (hLy : 1 ≤ Ly) (hLz : 1 ≤ Lz) :
    ∃ B : List Coord, B.Sublist (lattice Lx Ly Lz).stabs ∧
      B.length = (lattice Lx Ly Lz).toCodeData.n - (lattice Lx Ly Lz).toCodeData.k ∧
      OpsIndep (B.map (lattice Lx Ly Lz).getStab) := by
  refine ⟨rankFamily Lx Ly Lz, ?_, ?_, ?_⟩
  · rw [lattice_stabs]; exact rankFamily_sublist Lx Ly Lz
  · rw [k_value]
    simp only [Lattice.toCodeData, CodeData.n, lattice_qubits]
    exact rankFamily_length hLx hLy hLz
  · rw [lattice_getStab]; exact rankFamily_indep Lx Ly Lz

/-- **C01, all clauses, all sizes** (`1 ≤ Lx, Ly, Lz`): `stabilizer_matrix`, `logicals_x`,
    `logicals_z` of the generic code model, applied to this lattice model, return (no `KeyError`)
    matrices that form a valid `[[n, 1]]` stabilizer code (`n` = the `n` of `Planar3DCode` minus the
    edges in the hole, truncated subtraction as in `n_formula`): generators pairwise commute,
    logicals commute with the generators, `ω(X, Z) = 1`, `ω(X, X) = ω(Z, Z) = 0`, and the
    generators have GF(2) rank `n − 1` -/
theorem valid_code (Lx Ly Lz : Nat) (hLx : 1 ≤ Lx) (hLy : 1 ≤ Ly) (hLz : 1 ≤ Lz) :
    stabilizerMatrix (lattice Lx Ly Lz).toCodeData = some (lattice Lx Ly Lz).rowsH ∧
    logicalsX (lattice Lx Ly Lz).toCodeData = some (lattice Lx Ly Lz).rowsX ∧
    logicalsZ (lattice Lx Ly Lz).toCodeData = some (lattice Lx Ly Lz).rowsZ ∧
    ValidCodeL (Lx * Ly * Lz + (Lx - 1) * (Ly - 1) * Lz + (Lx - 1) * Ly * (Lz - 1) -
        ((Lx - 2) * (Ly - 2) * (Lz - 2) + (Lx - 3) * (Ly - 1) * (Lz - 2) +
          (Lx - 3) * (Ly - 2) * (Lz - 1))) 1
      (lattice Lx Ly Lz).rowsH (lattice Lx Ly Lz).rowsX (lattice Lx Ly Lz).rowsZ := by
  obtain ⟨B, hsub, hlen, hind⟩ := rank_family Lx Ly Lz hLx hLy hLz
  have hwf := wf Lx Ly Lz hLx hLy hLz
  have h := validCode_of_opsIndep (lattice Lx Ly Lz) hwf
    (commPair Lx Ly Lz hLx hLy hLz) B (hwf.stabs_nodup.sublist hsub) (fun s hs => hsub.subset hs)
    hlen hind
  rw [n_formula, k_value] at h
  exact h

/-- The coordinate lists are those of `Planar3DCode` with the hole
    `2 < x < 2Lx−2, 1 ≤ y < 2Ly−2, 1 ≤ z < 2Lz−2` removed, in the same order. -/
theorem coordinates_rule (Lx Ly Lz : Nat) :
    (lattice Lx Ly Lz).qubits =
      (Planar3DCode.lattice Lx Ly Lz).qubits.filter (notHoleC Lx Ly Lz) ∧
    (lattice Lx Ly Lz).stabs =
      (Planar3DCode.lattice Lx Ly Lz).stabs.filter (notHoleC Lx Ly Lz) ∧
    ∀ x y z : Int, (notHoleC Lx Ly Lz [x, y, z] = true ↔
      ¬ ((2 < x ∧ x < 2 * (Lx : Int) - 2) ∧ (1 ≤ y ∧ y < 2 * (Ly : Int) - 2) ∧
        (1 ≤ z ∧ z < 2 * (Lz : Int) - 2))) :=
  ⟨by rw [lattice_qubits, Planar3DCode.lattice_qubits]; exact qubits_eq Lx Ly Lz,
   by rw [lattice_stabs, Planar3DCode.lattice_stabs]; exact stabs_eq Lx Ly Lz,
   fun _ _ _ => notHoleC3⟩

/-- CSS structure for every size: a stabilizer location is a `'vertex'` whose operator carries only Z
    (on at most 6 qubits) or a `'face'` whose operator carries only X (on at most 4 qubits). -/
theorem stabilizer_shape (Lx Ly Lz : Nat) {s : Coord}
    (hs : s ∈ (lattice Lx Ly Lz).stabs) :
    (HollowPlanar3DCode.stabilizerType Lx Ly Lz s = some StabType.vertex ∧
      ∃ ks, (lattice Lx Ly Lz).getStab s = uop ks Pauli.Z ∧ ks.length ≤ 6) ∨
    (HollowPlanar3DCode.stabilizerType Lx Ly Lz s = some StabType.face ∧
      ∃ ks, (lattice Lx Ly Lz).getStab s = uop ks Pauli.X ∧ ks.length ≤ 4) := by
  rw [lattice_stabs] at hs
  rw [lattice_getStab]
  exact stab_shape hs

/-- A face operator outside the hole is exactly the face operator of `Planar3DCode` (the hole never
    truncates a face); a vertex operator is the one of `Planar3DCode` with the edges in the hole
    removed. -/
theorem stabilizer_vs_planar (Lx Ly Lz : Nat) {s : Coord}
    (hs : s ∈ (lattice Lx Ly Lz).stabs) :
    (HollowPlanar3DCode.stabilizerType Lx Ly Lz s = some StabType.face →
      (lattice Lx Ly Lz).getStab s = (Planar3DCode.lattice Lx Ly Lz).getStab s) ∧
    (lattice Lx Ly Lz).getStab s =
      ((Planar3DCode.lattice Lx Ly Lz).getStab s).filter fun e => notHoleC Lx Ly Lz e.1 := by
  rw [lattice_stabs] at hs
  rw [lattice_getStab, Planar3DCode.lattice_getStab]
  have hfil : ∀ (ks : List Coord) (p : Pauli),
      (uop ks p).filter (fun e => notHoleC Lx Ly Lz e.1) = uop (ks.filter (notHoleC Lx Ly Lz)) p := by
    intro ks p; simp only [uop, List.filter_map]; rfl
  obtain ⟨hn, ⟨x, y, z, rfl, h⟩ | ⟨ax, u, v, w, rfl, h⟩⟩ := stab_cases hs
  · refine ⟨?_, ?_⟩
    · intro ht
      obtain ⟨hx, hy, _⟩ := h
      simp only [Planar3DCode.inE, Planar3DCode.inE2] at hx hy
      simp [HollowPlanar3DCode.stabilizerType, hs, typeOf, hx.2.2, hy.2.2] at ht
    · rw [getStab_vertex h (notHoleC3.mp hn), Planar3DCode.getStab_vertex h, hfil]; rfl
  · rw [getStab_face h hn, Planar3DCode.getStab_face h, hfil,
      List.filter_eq_self.mpr (face_edges h hn)]
    exact ⟨fun _ => rfl, rfl⟩

/-- `get_deformation` for every location, name and axis: the class defines no deformation (the
    inherited method returns a `NotImplementedError` instance, never a map), so there is no
    deformed variant of this code to validate. -/
theorem deformation_rule (name : String) (axis : Option String) (loc : Coord) :
    HollowPlanar3DCode.getDeformation name axis loc = none := rfl

/-- whatever `get_deformation` returns is a permutation of {X, Y, Z} (vacuous for this class: it
    returns no map; stated so that the C08 hypothesis is discharged uniformly over the classes) -/
theorem deformation_perm {name : String} {axis : Option String} {loc : Coord} {m : PauliMap}
    (h : HollowPlanar3DCode.getDeformation name axis loc = some m) : m.isPerm = true := by
  simp [HollowPlanar3DCode.getDeformation] at h

/-- the axis of a qubit is the direction of its edge: odd x / odd y / odd z coordinate -/
theorem qubit_axis_rule (Lx Ly Lz : Nat) {x y z : Int} (hq : [x, y, z] ∈ (lattice Lx Ly Lz).qubits) :
    HollowPlanar3DCode.qubitAxis [x, y, z] =
      some (if x % 2 = 1 then Axis.x else if y % 2 = 1 then Axis.y else Axis.z) := by
  rw [lattice_qubits] at hq; exact qubitAxis_of_mem_qubits hq

/-! ### non-vacuity: the hypotheses are satisfiable and the model computes non-trivial data -/

example : (lattice 1 1 1).WF := wf 1 1 1 (by decide) (by decide) (by decide)
example : (lattice 4 3 3).CommPair := commPair 4 3 3 (by decide) (by decide) (by decide)
/-- 3×3×3: exactly one qubit, the x edge `(3, 2, 2)`, is removed from the 51 of `Planar3DCode` -/
example : (lattice 3 3 3).toCodeData.n = 50 := n_formula 3 3 3
example : (lattice 4 3 3).toCodeData.n = 66 := n_formula 4 3 3
example : (rankFamily 4 3 3).length = 65 := by decide +kernel
/-- a size with a cavity (4×3×3: 7 edges removed, n = 66) -/
example : ValidCodeL 66 1 (lattice 4 3 3).rowsH (lattice 4 3 3).rowsX (lattice 4 3 3).rowsZ :=
  (valid_code 4 3 3 (by decide) (by decide) (by decide)).2.2.2
/-- the smallest member of the family: one qubit, no generator, rank 0 -/
example : ValidCodeL 1 1 (lattice 1 1 1).rowsH (lattice 1 1 1).rowsX (lattice 1 1 1).rowsZ :=
  (valid_code 1 1 1 (by decide) (by decide) (by decide)).2.2.2
/-- the family really drops stabilizers: 4×3×3 has 74 generators, 9 more than `n − k` -/
example : (stabs 4 3 3).length = 74 := by decide +kernel
/-- `OpsIndep` is not vacuous: a family containing the same operator twice is dependent -/
example : ¬ OpsIndep [uop [[1, 0, 0]] .X, uop [[1, 0, 0]] .X] := by
  intro h
  have := h _ (List.Sublist.refl _) (by
    intro q
    simp only [List.countP_cons, List.countP_nil, hitX_uop, hitZ_uop]
    by_cases hq : q ∈ [[(1 : Int), 0, 0]] <;> simp [hq])
  simp at this
example : [3, 2, 2] ∉ qubits 3 3 3 ∧ [3, 2, 2] ∈ Planar3DCode.qubits 3 3 3 := by decide +kernel
/-- the vertex `(2, 2, 2)` next to the hole: the edge `(3, 2, 2)` is missing, five neighbours left -/
example : getStab 3 3 3 [2, 2, 2] =
    [([1, 2, 2], .Z), ([2, 3, 2], .Z), ([2, 1, 2], .Z), ([2, 2, 3], .Z), ([2, 2, 1], .Z)] := by
  decide +kernel
/-- a face location in the hole is not a stabilizer (`ValueError`), its neighbour outside is -/
example : getStab? 3 3 3 [3, 1, 2] = none ∧
    getStab? 3 3 3 [3, 1, 4] =
      some [([2, 1, 4], .X), ([4, 1, 4], .X), ([3, 0, 4], .X), ([3, 2, 4], .X)] := by decide +kernel
example : opAntiCount ((logX 3 3 3).getD 0 []) ((logZ 3 3 3).getD 0 []) = 1 := by decide +kernel
/-- the listed logical Z of a lattice with a cavity: the 8 x edges `(3, y, z)` around the hole
    (`(3, 2, 2)` is not a qubit) -/
example : logZ 3 3 3 = [[([3, 0, 0], .Z), ([3, 0, 2], .Z), ([3, 0, 4], .Z), ([3, 2, 0], .Z),
    ([3, 2, 4], .Z), ([3, 4, 0], .Z), ([3, 4, 2], .Z), ([3, 4, 4], .Z)]] := by decide +kernel
/-- `Lx ≤ 2`: there is no cross-section `x = 3` inside the hole range; the end plane `x = 1` -/
example : logZ 2 2 2 = [[([1, 0, 0], .Z), ([1, 0, 2], .Z), ([1, 2, 0], .Z), ([1, 2, 2], .Z)]] ∧
    logZ 2 2 2 = oldLogZ 2 2 2 := by decide +kernel
/-- `Lx ≥ 3` but no x edge in the hole (`Ly = 2`): the full plane `x = 3` -/
example : logZ 4 2 3 = [[([3, 0, 0], .Z), ([3, 0, 2], .Z), ([3, 0, 4], .Z), ([3, 2, 0], .Z),
    ([3, 2, 2], .Z), ([3, 2, 4], .Z)]] := by decide +kernel
example : HollowPlanar3DCode.getDeformation "XZZX" none [1, 0, 0] = none := rfl

end Panqec.C01HollowPlanar3DCode
