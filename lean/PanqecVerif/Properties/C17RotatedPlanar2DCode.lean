/-
C17 for `RotatedPlanar2DCode`, ALL sizes of the supported family (`Lx ≥ 1`, `Ly ≥ 1`, no upper
bound): the distance `code.d` reports is the true code distance, `min Lx Ly`.

The matrices are the ones the generic code model assembles from the hand-written lattice model
`Model/Lattices/RotatedPlanar2DCode.lean` (tied to
`panqec/codes/surface_2d/_rotated_planar_2d_code.py` by the correspondence streams of
`harness/lattices/rotatedplanar2dcode.py`); they form a valid `[[Lx·Ly, 1]]` code for every size
(`C01RotatedPlanar2DCode.valid_code`).

* `reported_distance` — `code.d` (`distance`, the minimum Pauli weight over the rows of
  `logicals_x` and `logicals_z`, as `StabilizerCode.d` computes it) is `min Lx Ly`; the listed
  logical X (row `y = 1`) has weight `Lx`, the listed logical Z (column `x = 1`) weight `Ly`
  (`weights_listed`).
* `lower_bound` — every non-trivial logical operator has weight `≥ min Lx Ly`.  Packing argument
  (`Proofs/DistLattice.lean`, `Proofs/DistRotatedPlanar2DCode.lean`): a non-trivial logical
  anticommutes with `X̄` or `Z̄` (C04); `X̄` has the `Ly` translates `y = 2i + 1`, `Z̄` the `Lx`
  translates `x = 2i + 1`, pairwise disjoint; the X-type generators of the row `y = 2i + 2`
  (every other site, weight-2 generators at the two ends) tile the two neighbouring qubit rows
  like dominoes, so their product is the product of the two rows (same for the Z-type
  generators of a column): every operator commuting with all generators anticommutes with each
  translate exactly when it anticommutes with the line.
* `distance` — `IsDistance (Lx·Ly) H (min Lx Ly)`; `distance_reported` states it for the
  reported `d`.
* `distance_deformed`, `distance_deformed_offered` — the same for EVERY DEFORMED code of the
  class (every name and axis `get_deformation` accepts: 'XZZX' / 'XY' along 'x' / 'y'), every
  size: the deformed getters assemble the relabelled rows, these form a valid code, `code.d`
  is `min Lx Ly` and that is the true distance (`C17.distance_deformation_invariant`: a
  per-qubit permutation of {X, Y, Z} preserves weight, commutation and span).
-/
import PanqecVerif.Properties.C01RotatedPlanar2DCode
import PanqecVerif.Proofs.DistRotatedPlanar2DCode
import PanqecVerif.Proofs.Dist
import PanqecVerif.Proofs.DistDeform

namespace Panqec.C17RotatedPlanar2DCode
open Panqec.RotatedPlanar2DCode Panqec.Lat2D

/-- the row of `logicals_x` has Pauli weight `Lx`, the row of `logicals_z` weight `Ly` —
    every `Lx, Ly ≥ 1` -/
theorem weights_listed (Lx Ly : Nat) (hx : 1 ≤ Lx) (hy : 1 ≤ Ly) :
    (lattice Lx Ly).rowsX.map pauliWeight = [Lx] ∧
    (lattice Lx Ly).rowsZ.map pauliWeight = [Ly] :=
  RotatedPlanar2DCode.weights_listed hx hy

/-- what `code.d` returns — the minimum weight over the listed logical operators — is
    `min Lx Ly`, every `Lx, Ly ≥ 1` -/
theorem reported_distance (Lx Ly : Nat) (hx : 1 ≤ Lx) (hy : 1 ≤ Ly) :
    Panqec.distance (lattice Lx Ly).rowsX (lattice Lx Ly).rowsZ = some (min Lx Ly) :=
  RotatedPlanar2DCode.reported_distance hx hy

/-- no non-trivial logical operator (commutes with every generator, is not a product of
    generators) of the `Lx × Ly` rotated planar code is lighter than `min Lx Ly` — every
    `Lx, Ly ≥ 1` -/
theorem lower_bound (Lx Ly : Nat) (hx : 1 ≤ Lx) (hy : 1 ≤ Ly) :
    ∀ v, IsNontrivialLogical (Lx * Ly) (lattice Lx Ly).rowsH v → min Lx Ly ≤ pauliWeight v :=
  RotatedPlanar2DCode.lower_bound hx hy (C01RotatedPlanar2DCode.valid_code Lx Ly hx hy).2.2.2

/-- THE C17 STATEMENT FOR ALL SIZES (`Lx, Ly ≥ 1`): the code distance of the `Lx × Ly` rotated
    planar code — the minimum weight of a non-trivial logical operator of the assembled
    parity-check matrix — is `min Lx Ly` -/
theorem distance (Lx Ly : Nat) (hx : 1 ≤ Lx) (hy : 1 ≤ Ly) :
    IsDistance (Lx * Ly) (lattice Lx Ly).rowsH (min Lx Ly) :=
  distance_criterion (C01RotatedPlanar2DCode.valid_code Lx Ly hx hy).2.2.2 (min Lx Ly)
    (exists_listed_of_distance _ _ _ (reported_distance Lx Ly hx hy)) (lower_bound Lx Ly hx hy)

/-- the same, stated for whatever `code.d` reports: the reported distance exists and is the
    true distance -/
theorem distance_reported (Lx Ly : Nat) (hx : 1 ≤ Lx) (hy : 1 ≤ Ly) :
    ∃ d, Panqec.distance (lattice Lx Ly).rowsX (lattice Lx Ly).rowsZ = some d ∧
      IsDistance (Lx * Ly) (lattice Lx Ly).rowsH d :=
  ⟨min Lx Ly, reported_distance Lx Ly hx hy, distance Lx Ly hx hy⟩

/-! ### deformed codes (`code.deform(name, deformation_axis=axis)`) -/

/-- the class offers the deformations 'XZZX' and 'XY' along the axes 'x' and 'y' (`none` = keyword
    omitted = the default 'y', `C01RotatedPlanar2DCode.deformation_default_axis`): for these
    `get_deformation` is defined on every qubit of every lattice (for any other name or axis it
    raises, `C01RotatedPlanar2DCode.deformation_rule_bad_name` / `deformation_rule_bad_axis`) -/
theorem deformation_defined (Lx Ly : Nat) (name : String) (axis : Option String)
    (hn : name = "XZZX" ∨ name = "XY") (ha : axis = none ∨ axis = some "x" ∨ axis = some "y")
    (q : Coord) (hq : q ∈ (lattice Lx Ly).qubits) : ∃ m, getDeformation name axis q = some m := by
  have key : ∀ a : String, a = "x" ∨ a = "y" → ∃ m, getDeformation name (some a) q = some m := by
    intro a ha'
    rcases hn with rfl | rfl
    · exact ⟨_, C01RotatedPlanar2DCode.deformation_rule_on_qubits Lx Ly a q ha' hq⟩
    · exact ⟨_, C01RotatedPlanar2DCode.deformation_rule_XY a q ha'⟩
  rcases ha with rfl | rfl | rfl
  · rw [C01RotatedPlanar2DCode.deformation_default_axis]; exact key "y" (Or.inr rfl)
  · exact key "x" (Or.inl rfl)
  · exact key "y" (Or.inr rfl)

/-- THE C17 STATEMENT FOR EVERY DEFORMED CODE OF THE CLASS, ALL SIZES (`Lx, Ly ≥ 1`): for every
    deformation name and axis for which `get_deformation` is defined on the qubits (`D q` = the
    relabelling it returns on `q`), the matrices the deformed getters assemble are the
    relabelled rows, they form a valid `[[n, 1]]` code, `code.d` reports `min Lx Ly`, and
    `min Lx Ly` is the true distance of the deformed code -/
theorem distance_deformed (Lx Ly : Nat) (hx : 1 ≤ Lx) (hy : 1 ≤ Ly) (name : String)
    (axis : Option String) (D : Coord → PauliMap)
    (hD : ∀ q ∈ (lattice Lx Ly).qubits, getDeformation name axis q = some (D q)) :
    stabilizerMatrix ((lattice Lx Ly).toCodeData.deform D) =
        some ((lattice Lx Ly).rowsH.map (deformBsf ((lattice Lx Ly).qubits.map D))) ∧
    logicalsX ((lattice Lx Ly).toCodeData.deform D) =
        some ((lattice Lx Ly).rowsX.map (deformBsf ((lattice Lx Ly).qubits.map D))) ∧
    logicalsZ ((lattice Lx Ly).toCodeData.deform D) =
        some ((lattice Lx Ly).rowsZ.map (deformBsf ((lattice Lx Ly).qubits.map D))) ∧
    ValidCodeL (Lx * Ly) 1
      ((lattice Lx Ly).rowsH.map (deformBsf ((lattice Lx Ly).qubits.map D)))
      ((lattice Lx Ly).rowsX.map (deformBsf ((lattice Lx Ly).qubits.map D)))
      ((lattice Lx Ly).rowsZ.map (deformBsf ((lattice Lx Ly).qubits.map D))) ∧
    Panqec.distance ((lattice Lx Ly).rowsX.map (deformBsf ((lattice Lx Ly).qubits.map D)))
      ((lattice Lx Ly).rowsZ.map (deformBsf ((lattice Lx Ly).qubits.map D))) =
        some (min Lx Ly) ∧
    IsDistance (Lx * Ly)
      ((lattice Lx Ly).rowsH.map (deformBsf ((lattice Lx Ly).qubits.map D))) (min Lx Ly) :=
  Lattice.deformed_distance (lattice Lx Ly) (C01RotatedPlanar2DCode.wf Lx Ly hx hy)
    (C01RotatedPlanar2DCode.n_formula Lx Ly) (C01RotatedPlanar2DCode.valid_code Lx Ly hx hy).2.2.2
    (reported_distance Lx Ly hx hy) (distance Lx Ly hx hy) D
    (fun q hq => Lat2D.deformBy_isPerm (hD q hq))

/-- the relabelling `get_deformation(·, name, axis)` as a function of the location (identity
    where it raises — nowhere on the qubits for the offered names and axes) -/
def deformationOf (name : String) (axis : Option String) (q : Coord) : PauliMap :=
  (getDeformation name axis q).getD PauliMap.id

/-- the deformed code of every offered name and axis has distance `min Lx Ly` — every size -/
theorem distance_deformed_offered (Lx Ly : Nat) (hx : 1 ≤ Lx) (hy : 1 ≤ Ly)
    (name : String) (axis : Option String) (hn : name = "XZZX" ∨ name = "XY")
    (ha : axis = none ∨ axis = some "x" ∨ axis = some "y") :
    IsDistance (Lx * Ly)
      ((lattice Lx Ly).rowsH.map
        (deformBsf ((lattice Lx Ly).qubits.map (deformationOf name axis)))) (min Lx Ly) :=
  (distance_deformed Lx Ly hx hy name axis (deformationOf name axis) (fun q hq => by
    obtain ⟨m, hm⟩ := deformation_defined Lx Ly name axis hn ha q hq
    unfold deformationOf
    rw [hm]; rfl)).2.2.2.2.2

/-! ### non-vacuity -/

example : IsDistance 12 (lattice 3 4).rowsH 3 := distance 3 4 (by decide) (by decide)
example : IsDistance 70 (lattice 10 7).rowsH 7 := distance 10 7 (by decide) (by decide)
/-- the smallest member of the family: one qubit, no generator, distance 1 -/
example : IsDistance 1 (lattice 1 1).rowsH 1 := distance 1 1 (by decide) (by decide)
/-- the hypothesis of `lower_bound` is satisfiable: the listed logical X is a non-trivial
    logical operator -/
example : IsNontrivialLogical 6 (lattice 2 3).rowsH ((lattice 2 3).rowsX.getD 0 []) :=
  listedX_nontrivial (C01RotatedPlanar2DCode.valid_code 2 3 (by decide) (by decide)).2.2.2
    (by decide)
example : (lattice 2 3).rowsX.map pauliWeight = [2] ∧ (lattice 2 3).rowsZ.map pauliWeight = [3] :=
  weights_listed 2 3 (by decide) (by decide)

/-- the XZZX code on the `3 × 4` lattice has distance 3; its first generator is relabelled -/
example : IsDistance 12 ((lattice 3 4).rowsH.map
    (deformBsf ((lattice 3 4).qubits.map (deformationOf "XZZX" (some "x"))))) 3 :=
  distance_deformed_offered 3 4 (by decide) (by decide) "XZZX" (some "x") (Or.inl rfl) (Or.inr (Or.inl rfl))
example : ((lattice 2 2).rowsH.map
    (deformBsf ((lattice 2 2).qubits.map (deformationOf "XZZX" (some "x"))))) ≠ (lattice 2 2).rowsH := by
  decide

end Panqec.C17RotatedPlanar2DCode
