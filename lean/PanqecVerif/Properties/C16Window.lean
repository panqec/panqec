/-
C16, second part — WHICH ROWS the finite-size-scaling fit sees and WHERE it starts.

Model: `Model/AnalysisWindow.lean` (`get_p_th_nearest`, `get_p_th_sd_interp`, the default / `autotruncate` /
manual-override windows of `Analysis.calculate_thresholds`, the truncation and start vector of the first
`curve_fit`, `apply_overrides`, the skip / replace look-ups, `p_th_fss_se`).

PROVED (all tables, all grids, every monotone "square root" `sq`):
  * `get_p_th_nearest` returns one of the supplied error rates (data-range clause), is defined exactly on
    non-empty tables, and does not depend on the row order when every (code, rate) carries one value and the
    code tuples have distinct `n`; in the pipeline (one 'code' name per parameter set) it returns the
    SMALLEST error rate: the crossing heuristic is vacuous there.
  * `get_p_th_sd_interp` does not depend on the row order (no side condition inside its domain); its three
    values are grid points with `p_left ≤ p_crossover ≤ p_right`, the exact grid starts at the smallest rate and
    ends below `p_max + res`; it is total on two or more curves and fails (ValueError) on one; for curves that
    are straight lines through a common point `(p_th, A)` (ansatz with `C = 0`) the crossover is the grid point
    nearest to `p_th` (`|p_crossover − p_th| < res/2`) and the window is the whole grid.
  * default window: all rows, the seed `p_th_nearest` inside it; the first fit starts inside the range of the
    rows it uses, at the seed itself whenever the seed lies in that range, with `A₀` inside the range of the
    logical rates; the start does not depend on the row order; the call fails exactly when the window holds no
    row with a finite rate.
  * the whole selection (`calculate_thresholds` up to `curve_fit`) does not depend on the order of the rows of the
    results table (`thresholds_rows_order_irrelevant`).
  * overrides: a skipped parameter set has no row, every other one has exactly one; a replaced one reports
    exactly the given numbers and is not fitted; `apply_overrides` writes class-NAME keys while
    `calculate_thresholds` looks up LABEL keys, so a spec given to `Analysis(overrides=…)` never changes the
    thresholds (`overrides_spec_never_applies`; the implementation agrees, see the correspondence stream).

NOT TRUE (witnesses below): the `autotruncate` window need not contain the seed nor any data row
(`autotruncate_window_can_miss_every_row`: the call then dies with ValueError), so clause (d) "the window holds
the rows the fit needs" is proved for the default window only.
-/
import PanqecVerif.Proofs.AnalysisWindowOrder

namespace Panqec.C16Window

open Panqec Panqec.An

/-- DATA RANGE: the seed `p_th_nearest` is one of the supplied error rates, hence between the smallest and the
    largest one -/
theorem nearest_is_a_supplied_rate {rows : List TRow} {p lo hi : Rat} (h : pThNearest rows = .ok p)
    (hlo : minList (rows.map (·.rate)) = some lo) (hhi : maxList (rows.map (·.rate)) = some hi) :
    (∃ r ∈ rows, r.rate = p) ∧ lo ≤ p ∧ p ≤ hi := by
  obtain ⟨r, hr, rfl⟩ := pThNearest_mem h
  exact ⟨⟨r, hr, rfl⟩, (minList_iff.mp hlo).2 _ (List.mem_map_of_mem hr), (maxList_iff.mp hhi).2 _ (List.mem_map_of_mem hr)⟩

/-- the function fails exactly on the empty table -/
theorem nearest_defined_iff (rows : List TRow) : (∃ p, pThNearest rows = .ok p) ↔ rows ≠ [] := by
  constructor
  · rintro ⟨p, hp⟩ rfl
    cases hp
  · intro hne
    cases h : pThNearest rows with
    | ok p => exact ⟨p, rfl⟩
    | error e => exact absurd ((pThNearest_error_iff rows).mp ⟨e, h⟩) hne

/-- ORDER INDEPENDENCE: any permutation of the rows gives the same seed, provided every (code, error rate)
    carries one value (`Keyed`, guaranteed by the group-by of `aggregate`) and distinct code tuples have
    distinct `n` (`DistinctN`; the sort by `n` is then determined) -/
theorem nearest_order_irrelevant {rows₁ rows₂ : List TRow} (h : rows₁.Perm rows₂) (hk : Keyed rows₁)
    (hn : DistinctN rows₁) : pThNearest rows₁ = pThNearest rows₂ := pThNearest_perm h hk hn

/-- In the pipeline every row of a parameter set carries the same 'code' (the class name): the function
    returns the smallest error rate, whatever the logical rates are. -/
theorem nearest_in_pipeline_is_smallest_rate {rows : List TRow} {c : Nat} {m : Rat} (h : ∀ r ∈ rows, r.code = c)
    (hm : minList (rows.map (·.rate)) = some m) : pThNearest rows = .ok m := pThNearest_single_code h hm

/-- ORDER INDEPENDENCE: any permutation of the rows gives the same (crossover, left, right), for every grid and
    every `sq` (outside the modelled domain both sides are the same error) -/
theorem sd_interp_order_irrelevant (sq : Rat → Rat) (grid : List Rat) {rows₁ rows₂ : List TRow}
    (h : rows₁.Perm rows₂) : sdInterp sq grid rows₁ = sdInterp sq grid rows₂ := sdInterp_perm sq grid h

/-- the three returned values are points of the grid, in the order left ≤ crossover ≤ right when the grid is
    increasing: the window of `autotruncate` contains the reported `p_th_sd` -/
theorem sd_interp_window_ordered {sq : Rat → Rat} {grid : List Rat} {rows : List TRow} {pc pl pr : Rat}
    (h : sdInterp sq grid rows = .ok (pc, pl, pr)) (hs : grid.Pairwise (· ≤ ·)) :
    pc ∈ grid ∧ pl ∈ grid ∧ pr ∈ grid ∧ pl ≤ pc ∧ pc ≤ pr := by
  obtain ⟨ic, il, ir, _, h1, h2, h3, rfl, rfl, rfl⟩ := sdInterp_spec h
  have mem : ∀ i, i < grid.length → grid.getD i 0 ∈ grid := by
    intro i hi
    rw [List.getD_eq_getElem _ _ hi]
    exact List.getElem_mem hi
  exact ⟨mem ic (by omega), mem il (by omega), mem ir h3, sorted_getD_le hs h1 (by omega) 0 0, sorted_getD_le hs h2 h3 0 0⟩

/-- DATA RANGE on the exact grid `p_min + i·res`, `i < N`: the window starts at or after the smallest rate and ends
    at or before the last grid point; with the exact length `N = ⌈(p_max + res − p_min)/res⌉` that point is
    below `p_max + res` -/
theorem sd_interp_inside_data_range {sq : Rat → Rat} {rows : List TRow} {pmin pmaxE res pc pl pr : Rat}
    (hres : 0 < res) (hle : pmin ≤ pmaxE)
    (h : sdInterp sq (exactGrid pmin res (gridLenExact pmin pmaxE res)) rows = .ok (pc, pl, pr)) :
    pmin ≤ pl ∧ pl ≤ pc ∧ pc ≤ pr ∧ pr < pmaxE + res := by
  obtain ⟨ic, il, ir, _, h1, h2, h3, rfl, rfl, rfl⟩ := sdInterp_spec h
  rw [exactGrid_length] at h3
  obtain ⟨_, hlast, _⟩ := gridLenExact_spec hres hle
  rw [exactGrid_getD _ _ (by omega : ic < _), exactGrid_getD _ _ (by omega : il < _), exactGrid_getD _ _ h3]
  refine ⟨?_, gridPt_mono (le_of_lt hres) h1, gridPt_mono (le_of_lt hres) h2, ?_⟩
  · simpa [gridPt] using gridPt_mono (pmin := pmin) hres.le (Nat.zero_le il)
  · exact lt_of_le_of_lt (gridPt_mono (le_of_lt hres) (by omega)) hlast

/-- two or more curves inside the domain: the function returns a window (the list of local minima of the spread
    is never empty) -/
theorem sd_interp_total (sq : Rat → Rat) {grid : List Rat} {rows : List TRow} (hg : grid ≠ [])
    (hd : sdDomain rows = true) (hl : 2 ≤ (labelsOf rows).length) : ∃ r, sdInterp sq grid rows = .ok r := by
  obtain ⟨⟨ic, il, ir⟩, hr⟩ := sdInterpIdx_total sq hg hd hl
  exact ⟨_, by unfold sdInterp; rw [hr]⟩

/-- a single distance: the spread over one curve is NaN everywhere and `np.argmax([])` raises ValueError -/
theorem sd_interp_single_distance_fails (sq : Rat → Rat) (grid : List Rat) {rows : List TRow} (hne : rows ≠ [])
    (hd : sdDomain rows = true) (hl : (labelsOf rows).length < 2) : sdInterp sq grid rows = .error .noMinimum := by
  unfold sdInterp
  rw [sdInterpIdx_one_curve sq grid hne hd hl]

/-- on a V-shaped spread (strictly falling up to grid index `j`, strictly rising after it) the crossover is the
    bottom of the V and the window is the whole grid -/
theorem sd_select_on_v_shape {sd : List Rat} {j : Nat} (h : VShape sd j) : sdSelect sd = .ok (j, 0, sd.length - 1) :=
  sdSelect_vshape h

/-- (c) CROSSING POINT.  Curves that are straight lines through a common point `(p_th, A)` with at least two
    different slopes (the ansatz with `C = 0`: slope `B d^ν`), every distance sampled at two or more rates, any rates
    (not necessarily the same for all distances): on the exact grid the interpolated crossover is the grid point `j`
    nearest to `p_th` — `|p_crossover − p_th| < res/2` for `p_th` inside the grid span — and the window is the
    whole grid.  `sq` is any strictly increasing function on the non-negative rationals (the real square root is
    one).  Not covered: `p_th` exactly half-way between two grid points (a tie of the spread), curved data
    (`C ≠ 0`: measured, within 1.2 grid steps on the planted instances). -/
theorem crossover_of_lines (sq : Rat → Rat) (hsq : ∀ a c : Rat, 0 ≤ a → a < c → sq a < sq c)
    {rows : List TRow} {pth A : Rat} {b : Nat → Rat} (h : OnLines rows pth A b)
    (hb : ∃ l₁ ∈ labelsOf rows, ∃ l₂ ∈ labelsOf rows, b l₁ ≠ b l₂)
    (hfin : ∀ r ∈ rows, r.pest.isSome = true)
    {pmin res : Rat} (hres : 0 < res) {N j : Nat} (hj : j < N)
    (hlo : j = 0 ∨ gridPt pmin res j - res / 2 < pth) (hhi : j + 1 = N ∨ pth < gridPt pmin res j + res / 2) :
    sdInterp sq (exactGrid pmin res N) rows =
      .ok (gridPt pmin res j, gridPt pmin res 0, gridPt pmin res (N - 1)) := by
  obtain ⟨l₁, hl₁, l₂, hl₂, hne⟩ := hb
  have hV : 0 < sampleVariance ((labelsOf rows).map b) :=
    sampleVariance_pos (List.mem_map_of_mem hl₁) (List.mem_map_of_mem hl₂) hne
  have hlab := two_le_length_of_ne hl₁ hl₂ fun e => hne (e ▸ rfl)
  have hV' := vshape_of_lines sq hsq hV hres hj hlo hhi
  rw [sdInterp, sdInterpIdx_eq_select sq _ ((sdDomain_iff rows).mpr ⟨hfin, h.keys⟩) hlab, sdValues_lines sq h,
    sdSelect_vshape hV']
  simp only [List.length_map, exactGrid_length]
  rw [exactGrid_getD _ _ hj, exactGrid_getD _ _ (by omega : 0 < N), exactGrid_getD _ _ (by omega : N - 1 < N)]

/-- the bound of (c) in the form "within half a grid step": for `p_th` in the span of the grid and `j` as above -/
theorem crossover_within_half_step {pmin res pth : Rat} {N j : Nat} (hres : 0 < res) (hj : j < N)
    (hlo : j = 0 ∨ gridPt pmin res j - res / 2 < pth) (hhi : j + 1 = N ∨ pth < gridPt pmin res j + res / 2)
    (hspan : gridPt pmin res 0 ≤ pth ∧ pth ≤ gridPt pmin res (N - 1)) : |gridPt pmin res j - pth| < res / 2 := by
  rw [abs_lt]
  constructor
  · rcases hhi with hN | hhi
    · have : N - 1 = j := by omega
      rw [this] at hspan
      linarith [hspan.2]
    · linarith
  · rcases hlo with h0 | hlo
    · subst h0
      linarith [hspan.1]
    · linarith

/-- (d) DEFAULT WINDOW: limits = smallest and largest rate, every row is handed on, the window keeps every row with
    a finite logical rate, and the seed (one of the rates) lies inside it -/
theorem default_window_keeps_everything {rows : List TRow} {pn : Rat} {w : Window}
    (h : windowDefault rows pn = some w) (hpn : ∃ r ∈ rows, r.rate = pn) :
    w.rows = rows ∧ truncRows w.rows w.pLeft w.pRight = rows.filter (·.pest.isSome) ∧
    w.pLeft ≤ w.pNearest ∧ w.pNearest ≤ w.pRight ∧ w.pSd = w.pNearest := by
  obtain ⟨hlo, hhi, hr, hn, hs⟩ := windowDefault_spec h
  obtain ⟨r, hr', rfl⟩ := hpn
  refine ⟨hr, ?_, ?_, ?_, by rw [hs, hn]⟩
  · rw [hr]; exact truncRows_default hlo hhi
  · rw [hn]; exact (minList_iff.mp hlo).2 _ (List.mem_map_of_mem hr')
  · rw [hn]; exact (maxList_iff.mp hhi).2 _ (List.mem_map_of_mem hr')

/-- START OF THE FIRST FIT (any window): `curve_fit` receives the rows inside the window (at least one), starts
    `p_th` inside the range `[lo, hi]` of their error rates — hence inside the window —, at the seed itself
    whenever the seed lies in that range, and starts `A` inside the range of their logical rates -/
theorem first_fit_start_inside_window {rows : List TRow} {pl pr pn : Rat} {n : Nat} {p0 f0 : Rat}
    (h : firstFitStart rows pl pr pn = .ok (n, p0, f0)) :
    n = (truncRows rows pl pr).length ∧ 0 < n ∧ pl ≤ p0 ∧ p0 ≤ pr ∧
    (∃ lo hi, minList ((truncRows rows pl pr).map (·.rate)) = some lo ∧
      maxList ((truncRows rows pl pr).map (·.rate)) = some hi ∧ lo ≤ p0 ∧ p0 ≤ hi ∧ ((lo ≤ pn ∧ pn ≤ hi) → p0 = pn)) ∧
    ∀ a b : Rat, (∀ r ∈ truncRows rows pl pr, ∀ v, r.pest = some v → a ≤ v ∧ v ≤ b) → a ≤ f0 ∧ f0 ≤ b := by
  obtain ⟨h1, h2, lo, hi, h3, h4, h5, h6, h7, h8, h9, h10⟩ := firstFitStart_spec h
  exact ⟨h1, h2, le_trans h5 h7, le_trans h8 h6, ⟨lo, hi, h3, h4, h7, h8, h9⟩, h10⟩

/-- the start does not depend on the order of the rows -/
theorem first_fit_start_order_irrelevant {rows₁ rows₂ : List TRow} (h : rows₁.Perm rows₂) (pl pr pn : Rat) :
    firstFitStart rows₁ pl pr pn = firstFitStart rows₂ pl pr pn := firstFitStart_perm h pl pr pn

/-- the call dies (ValueError of `min()` on an empty sequence, not caught) exactly when no row with a finite
    logical rate lies inside the window -/
theorem first_fit_fails_iff_window_empty (rows : List TRow) (pl pr pn : Rat) :
    (∃ e, firstFitStart rows pl pr pn = .error e) ↔ truncRows rows pl pr = [] :=
  firstFitStart_error_iff rows pl pr pn

/-- default window, finite rates, seed among the rates: the first fit sees all rows and starts at the seed -/
theorem default_first_fit_starts_at_seed {rows : List TRow} {pn : Rat} {w : Window}
    (h : windowDefault rows pn = some w) (hpn : ∃ r ∈ rows, r.rate = pn) (hfin : ∀ r ∈ rows, r.pest.isSome = true) :
    ∃ f0, firstFitStart w.rows w.pLeft w.pRight w.pNearest = .ok (rows.length, pn, f0) := by
  obtain ⟨hlo, hhi, hr, hn, _⟩ := windowDefault_spec h
  have htr : truncRows rows w.pLeft w.pRight = rows := by
    rw [truncRows_default hlo hhi, List.filter_eq_self]
    exact hfin
  cases hf : firstFitStart w.rows w.pLeft w.pRight w.pNearest with
  | error e =>
    have := (firstFitStart_error_iff _ _ _ _).mp ⟨e, hf⟩
    rw [hr, htr] at this
    obtain ⟨r, hr', _⟩ := hpn
    subst this
    simp at hr'
  | ok v =>
    obtain ⟨n, p0, f0⟩ := v
    obtain ⟨h1, _, lo, hi, h3, h4, _, _, _, _, h9, _⟩ := firstFitStart_spec hf
    rw [hr, htr] at h1 h3 h4
    rw [h3] at hlo
    rw [h4] at hhi
    injection hlo with hlo
    injection hhi with hhi
    obtain ⟨r, hr', hrp⟩ := hpn
    have hin : lo ≤ w.pNearest ∧ w.pNearest ≤ hi := by
      rw [hn, ← hrp]
      exact ⟨(minList_iff.mp h3).2 _ (List.mem_map_of_mem hr'), (maxList_iff.mp h4).2 _ (List.mem_map_of_mem hr')⟩
    exact ⟨f0, by rw [h1, h9 hin, hn]⟩

/-- MANUAL WINDOW: the limits are the given ones widened by 1e-9 (the data range where none is given), the rows
    are cut by the size limits, and the reported `p_th_sd` lies inside a non-inverted window -/
theorem manual_window_limits {spec : TruncSpec} {rows : List TRow} {pn : Rat} {w : Window}
    (h : windowOverride spec rows pn = some w) :
    (∀ v, spec.hasRate = true → spec.rmin = some v → w.pLeft = v - tol9) ∧
    (∀ v, spec.hasRate = true → spec.rmax = some v → w.pRight = v + tol9) ∧
    (spec.hasRate = false → minList (rows.map (·.rate)) = some w.pLeft ∧ maxList (rows.map (·.rate)) = some w.pRight) ∧
    (∀ r ∈ w.rows, r ∈ rows) ∧ (w.pLeft ≤ w.pRight → w.pLeft ≤ w.pSd ∧ w.pSd ≤ w.pRight) := by
  obtain ⟨lo, hi, hlo, hhi, hl, hr, _, _, hrows⟩ := windowOverride_spec h
  refine ⟨?_, ?_, ?_, fun r hr' => ((hrows r).mp hr').1, windowOverride_pSd_inside h⟩
  · intro v hv hmin; rw [hl, hv, hmin]; rfl
  · intro v hv hmax; rw [hr, hv, hmax]; rfl
  · intro hv
    rw [hl, hr, hv]
    exact ⟨hlo, hhi⟩

/-- (d), the part that fails.  The window of `autotruncate` contains the reported `p_th_sd` (above), but neither the seed nor
    a minimum number of rows — not even one.  WITNESS: two distances at the rates 0.1005, 0.103, 0.108, 0.109
    (exact grid, no rounding involved): the window is [0.1035, 0.1075], strictly between two data rates; the seed
    0.1005 lies outside, no row lies inside, and the first fit dies with ValueError. -/
def emptyWindowRows : List TRow :=
  [ ⟨0, 0, 8, 1, 2, 201/2000, some (5/16)⟩, ⟨0, 0, 8, 1, 2, 103/1000, some (1/2)⟩,
    ⟨0, 0, 8, 1, 2, 27/250, some (1/16)⟩, ⟨0, 0, 8, 1, 2, 109/1000, some (1/4)⟩,
    ⟨0, 1, 18, 1, 3, 201/2000, some (1/2)⟩, ⟨0, 1, 18, 1, 3, 103/1000, some (1/16)⟩,
    ⟨0, 1, 18, 1, 3, 27/250, some (11/16)⟩, ⟨0, 1, 18, 1, 3, 109/1000, some (5/16)⟩ ]

theorem autotruncate_window_can_miss_every_row :
    pThNearest emptyWindowRows = .ok (201/2000) ∧
    sdExactGrid (1/1000) emptyWindowRows (some (201/2000)) = exactGrid (201/2000) (1/1000) 10 ∧
    windowAuto sqrtApprox (exactGrid (201/2000) (1/1000) 10) emptyWindowRows (201/2000) =
      .ok { pNearest := 201/2000, pSd := 211/2000, pLeft := 207/2000, pRight := 43/400, rows := emptyWindowRows } ∧
    truncRows emptyWindowRows (207/2000) (43/400) = [] ∧
    firstFitStart emptyWindowRows (207/2000) (43/400) (201/2000) = .error .emptyWindow := by
  decide +kernel

/-- SKIP: `calculate_thresholds` reports one entry per parameter set that is not in `self.skips`, in sorted
    order, and none for a skipped one -/
theorem skip_removes_the_row {st : OvState} {sector : Nat} {mode : WindowMode} {rs : List ResRow}
    {es : List ThreshEntry} (h : calcThresholds st sector mode rs = .ok es) :
    es.map ThreshEntry.key = (paramSets rs).filter (fun t => !st.skips.contains t) ∧
    (∀ e ∈ es, e.key ∉ st.skips) ∧ (es.map ThreshEntry.key).Nodup := by
  have hk := calcThresholds_keys h
  refine ⟨hk, ?_, ?_⟩
  · intro e he hmem
    have : e.key ∈ es.map ThreshEntry.key := List.mem_map_of_mem he
    rw [hk] at this
    have := (List.mem_filter.mp this).2
    simp [hmem] at this
  · rw [hk]; exact (paramSets_nodup rs).filter _

/-- REPLACE: a parameter set in `self.replaces` with a 'p_th_fss' is not fitted and reports exactly the given
    values: estimate, estimate − uncertainty, estimate + uncertainty, uncertainty (0 when none is given) -/
theorem replace_reports_exactly_the_given_values {st : OvState} {sector : Nat} {mode : WindowMode}
    {rs : List ResRow} {es : List ThreshEntry} (h : calcThresholds st sector mode rs = .ok es)
    {e : ThreshEntry} (he : e ∈ es) {rp : Replace} {v : Rat} (hrp : st.replaces.lookup e.key = some rp)
    (hv : rp.pth = some v) :
    ∃ w, e = .replaced e.key w (v, v - rp.se.getD 0, v + rp.se.getD 0, rp.se.getD 0) :=
  thresholdEntry_replaced (calcThresholds_entries h e he) hrp hv

/-- a parameter set that is not replaced is fitted, on the rows and from the start of its window -/
theorem not_replaced_is_fitted {st : OvState} {sector : Nat} {mode : WindowMode} {rs : List ResRow}
    {es : List ThreshEntry} (h : calcThresholds st sector mode rs = .ok es) {e : ThreshEntry} (he : e ∈ es)
    (hrp : st.replaces.lookup e.key = none) :
    ∃ w n p0 f0, e = .fitted e.key w n p0 f0 ∧ firstFitStart w.rows w.pLeft w.pRight w.pNearest = .ok (n, p0, f0) :=
  thresholdEntry_fitted (calcThresholds_entries h e he) hrp

/-- `apply_overrides` keys everything it writes by `(code, error_model, decoder)` CLASS NAMES of rows of the
    results table -/
theorem apply_overrides_writes_name_keys (rs : List ResRow) (spec : List Override) :
    (∀ t ∈ (applyOverrides rs spec).skips, ∃ r ∈ rs, r.nameKey = t) ∧
    (∀ e ∈ (applyOverrides rs spec).replaces, ∃ r ∈ rs, r.nameKey = e.1) ∧
    (∀ e ∈ (applyOverrides rs spec).overrides, ∃ r ∈ rs, r.nameKey = e.1.2) := by
  obtain ⟨h1, h2, h3⟩ := applyOverrides_keysIn rs spec
  exact ⟨fun t ht => List.mem_map.mp (h1 t ht), fun e he => List.mem_map.mp (h2 e he),
    fun e he => List.mem_map.mp (h3 e he)⟩

/-- DEFECT of the implementation, as a theorem about the faithful model: `calculate_thresholds` looks the
    parameter sets up by `(code, error_model_label, decoder_label)`.  A label (`'Name(param=…)'`) is never a class
    name, so no key written by `apply_overrides` is ever found: whatever spec is given to
    `Analysis(overrides=…)` — skip, replace or truncate — the thresholds are those of the run without overrides
    (provided every 'replace' override matches some row; otherwise `extra_thresholds` makes the call fail). -/
theorem overrides_spec_never_applies (rs : List ResRow) (spec : List Override) (sector : Nat) (mode : WindowMode)
    (hdisj : ∀ r ∈ rs, ∀ r' ∈ rs, r.labelKey ≠ r'.nameKey) (hextra : (applyOverrides rs spec).extra = []) :
    calcThresholds (applyOverrides rs spec) sector mode rs = calcThresholds {} sector mode rs :=
  calcThresholds_blind sector mode (applyOverrides_keysIn rs spec) hdisj hextra

/-- skipping every parameter set leaves nothing to concatenate: the call fails (ValueError) -/
theorem skipping_everything_fails {st : OvState} {rs : List ResRow} (sector : Nat) (mode : WindowMode)
    (h : ∀ t ∈ paramSets rs, st.skips.contains t = true) : calcThresholds st sector mode rs = .error .nothingFitted :=
  calcThresholds_nothing_left sector mode h

/-- ORDER INDEPENDENCE of the whole row selection (`calculate_thresholds` up to the call of `curve_fit`, any
    override state, default or `autotruncate` windows with a grid rule that does not look at the row order — the
    exact grid and numpy's both depend on the smallest and largest rate only): permuting the rows of the results
    table changes neither the parameter sets reported, nor any window limit (`p_th_nearest`, `p_th_sd`, `p_left`,
    `p_right`), nor the number of rows and the start values `p0[0]`, `p0[2]` handed to the first fit, nor the
    replacement values, nor the error the call ends with.  (No side condition: inside one parameter set all rows
    carry the same 'code', so `get_p_th_nearest` is the smallest rate.) -/
theorem thresholds_rows_order_irrelevant (st : OvState) (sector : Nat) {mode : WindowMode} (hmode : mode.OrderFree)
    {rs₁ rs₂ : List ResRow} (h : rs₁.Perm rs₂) : calcReport st sector mode rs₁ = calcReport st sector mode rs₂ :=
  calcReport_perm st sector hmode h

/-- the default mode and `autotruncate` on the exact grid satisfy the hypothesis of the previous theorem -/
theorem exact_grid_modes_order_free (sq : Rat → Rat) (res : Rat) :
    WindowMode.default.OrderFree ∧
    (WindowMode.auto sq fun rows pn => sdExactGrid res rows (some pn)).OrderFree := by
  refine ⟨trivial, ?_⟩
  intro a b pn h
  show sdExactGrid res a (some pn) = sdExactGrid res b (some pn)
  unfold sdExactGrid sdGridLen
  rw [minList_perm (h.map _), maxList_perm (h.map _)]

/-- the radicand of `p_th_fss_se` (population variance of the bootstrap column) is non-negative, does not depend
    on the order of the bootstrap rows, and vanishes exactly on a constant column — the case `get_fit_status`
    reports as 'Zero SE uncertainty.' -/
theorem se_radicand (col : List Rat) :
    0 ≤ popVariance col ∧ (∀ col', col.Perm col' → popVariance col = popVariance col') ∧
    (col ≠ [] → (popVariance col = 0 ↔ ∀ x ∈ col, ∀ y ∈ col, x = y)) :=
  ⟨popVariance_nonneg col, fun _ h => popVariance_perm h, popVariance_eq_zero_iff⟩

/-! ## non-vacuity and instances -/

/-- three distances on lines through (1/10, 3/10) with slopes 2, 3, 4; distance 2 lacks the rate 0.12 -/
def lineRows : List TRow :=
  [ ⟨0, 0, 8, 1, 2, 2/25, some (3/10 + 2 * (2/25 - 1/10))⟩, ⟨0, 0, 8, 1, 2, 1/10, some (3/10)⟩,
    ⟨0, 1, 18, 1, 3, 2/25, some (3/10 + 3 * (2/25 - 1/10))⟩, ⟨0, 1, 18, 1, 3, 1/10, some (3/10)⟩,
    ⟨0, 1, 18, 1, 3, 3/25, some (3/10 + 3 * (3/25 - 1/10))⟩,
    ⟨0, 2, 32, 1, 4, 2/25, some (3/10 + 4 * (2/25 - 1/10))⟩, ⟨0, 2, 32, 1, 4, 3/25, some (3/10 + 4 * (3/25 - 1/10))⟩ ]

def lineSlope (l : Nat) : Rat := (l : Rat) + 2

theorem lineRows_onLines : OnLines lineRows (1/10) (3/10) lineSlope :=
  ⟨by decide +kernel, by decide +kernel, by unfold KeysNodup; decide +kernel⟩

/-- instance of (c) with `sq` the identity (strictly increasing): crossover exactly at p_th = 0.1 = grid point 20 -/
example : sdInterp (fun x => x) (exactGrid (2/25) (1/1000) 41) lineRows = .ok (1/10, 2/25, 3/25) := by
  have := crossover_of_lines (fun x => x) (fun _ _ _ h => h) lineRows_onLines
    ⟨0, by decide +kernel, 1, by decide +kernel, by decide +kernel⟩ (by decide +kernel)
    (pmin := 2/25) (res := 1/1000) (by norm_num) (N := 41) (j := 20) (by norm_num)
    (Or.inr (by unfold gridPt; norm_num)) (Or.inr (by unfold gridPt; norm_num))
  rw [this]
  unfold gridPt; norm_num

set_option maxRecDepth 100000 in
/-- and the driver's `sqrtApprox` gives the same window on this table -/
example : sdInterp sqrtApprox (sdExactGrid (1/1000) lineRows none) lineRows = .ok (1/10, 2/25, 3/25) := by
  decide +kernel

/-- the hypotheses of the order-independence theorem hold on a table with a per-size 'code' column -/
def codedRows : List TRow :=
  [ ⟨0, 0, 8, 1, 2, 1/10, some (1/4)⟩, ⟨0, 0, 8, 1, 2, 1/5, some (1/2)⟩, ⟨0, 0, 8, 1, 2, 3/10, some (5/8)⟩,
    ⟨1, 1, 18, 1, 3, 1/10, some (1/8)⟩, ⟨1, 1, 18, 1, 3, 1/5, some (1/2 + 1/64)⟩, ⟨1, 1, 18, 1, 3, 3/10, some (7/8)⟩ ]

example : Keyed codedRows ∧ DistinctN codedRows := by
  constructor
  · unfold Keyed; decide +kernel
  · unfold DistinctN; decide +kernel

/-- the documented interface (one 'code' per size): the order of the curves changes after 0.1 → seed 0.1;
    the same data with the pipeline's 'code' column (one name): the smallest rate, 0.1, whatever the data -/
example : pThNearest codedRows = .ok (1/10) ∧
    pThNearest (codedRows.map fun r => { r with code := 0 }) = .ok (1/10) ∧
    pThNearest (codedRows.reverse) = .ok (1/10) := by decide +kernel

/-- a table where the heuristic answers differently with per-size codes (0.2) and with one code name (0.1) -/
example :
    let rows : List TRow :=
      [ ⟨0, 0, 8, 1, 2, 1/10, some (1/8)⟩, ⟨0, 0, 8, 1, 2, 1/5, some (1/4)⟩, ⟨0, 0, 8, 1, 2, 3/10, some (1/2)⟩,
        ⟨1, 1, 18, 1, 3, 1/10, some (1/16)⟩, ⟨1, 1, 18, 1, 3, 1/5, some (3/16)⟩, ⟨1, 1, 18, 1, 3, 3/10, some (3/4)⟩ ]
    pThNearest rows = .ok (1/5) ∧ pThNearest (rows.map fun r => { r with code := 0 }) = .ok (1/10) := by
  decide +kernel

/-- a results table with two parameter sets (two decoders); class names 1, 2 / 3; labels 11, 12 / 13 -/
def twoSets : List ResRow :=
  (codedRows.map fun r => { row := { r with code := 0 }, em := 1, dec := 2, emLabel := 11, decLabel := 12, attrs := [(0, 2)] }) ++
  (codedRows.map fun r => { row := { r with code := 0 }, em := 1, dec := 3, emLabel := 11, decLabel := 13, attrs := [(0, 3)] })

/-- a spec that skips decoder 2 and replaces the threshold of decoder 3 -/
def demoSpec : List Override :=
  [ { filters := [(0, 2)], skip := true },
    { filters := [(0, 3)], replace := some { pth := some (1/2), se := some (1/100) } } ]

set_option maxRecDepth 100000 in
/-- what `apply_overrides` stores: name keys; what `calculate_thresholds` makes of it: nothing — both parameter
    sets are fitted on all their rows, as without a spec -/
example :
    (applyOverrides twoSets demoSpec).skips = [(0, 1, 2)] ∧
    (applyOverrides twoSets demoSpec).replaces = [((0, 1, 3), { pth := some (1/2), se := some (1/100) })] ∧
    (calcThresholds (applyOverrides twoSets demoSpec) 0 .default twoSets).toOption.map (·.map ThreshEntry.key) =
      some [(0, 11, 12), (0, 11, 13)] ∧
    (calcThresholds (applyOverrides twoSets demoSpec) 0 .default twoSets).toOption.map (·.all ThreshEntry.isFitted) =
      some true := by
  decide +kernel

set_option maxRecDepth 100000 in
/-- the reports of the two parameter sets, and the same reports from the reversed table -/
example :
    (calcReport {} 0 .default twoSets).toOption =
      some [⟨(0, 11, 12), 1/10, 1/10, 1/10, 3/10, some (6, 1/10, 3/16), none⟩,
            ⟨(0, 11, 13), 1/10, 1/10, 1/10, 3/10, some (6, 1/10, 3/16), none⟩] ∧
    (calcReport {} 0 .default twoSets.reverse).toOption = (calcReport {} 0 .default twoSets).toOption := by
  decide +kernel

set_option maxRecDepth 100000 in
/-- the same state keyed the way `calculate_thresholds` reads it (label triples) does what the documentation says:
    decoder 2 has no row, decoder 3 reports 0.5 ∓ 0.01 … and the call fails, because nothing was fitted -/
example :
    (match calcThresholds
        { skips := [(0, 11, 12)], replaces := [((0, 11, 13), { pth := some (1/2), se := some (1/100) })] }
        0 .default twoSets with
      | .error e => some e
      | .ok _ => none) = some .nothingFitted ∧
    ((calcThresholds { skips := [(0, 11, 12)] } 0 .default twoSets).toOption.map (·.map ThreshEntry.key)) =
      some [(0, 11, 13)] := by
  decide +kernel

example : popVariance [1/10, 1/10, 1/10] = 0 ∧ popVariance [1/10, 3/10] = 1/100 := by decide +kernel

end Panqec.C16Window
