/-
C03 (rank part) — `gf2_rank` / `brank` of `panqec/bpauli.py` compute the GF(2) rank.

Model: `Model/Bits.lean` (`lowBit`, `gf2RankAux`, `gf2Rank`, `bvectorToInt`, `brank`) — pop the
LAST row as pivot; if it is non-zero, count it and xor it into every remaining row that has
the pivot's lowest set bit.

Property theorems only; the lemmas are in `Proofs/Gf2RankBits.lean` (bit facts),
`Proofs/Gf2Rank.lean` (loop invariant against `Module.finrank`), `Proofs/Gf2RankBrank.lean`
(big-endian packing = coordinate reversal), `Proofs/Gf2RankSel.lean` and
`Proofs/Gf2RankList.lean` (elementary xor-combination form of the rank).
All statements are for every number of rows and every width (no size bound).
-/
import PanqecVerif.Proofs.Gf2Rank
import PanqecVerif.Proofs.Gf2RankBrank
import PanqecVerif.Proofs.Gf2RankList

namespace Panqec.C03Rank

open Panqec Module Submodule

/-- `lowBit r` is `r & -r`: for `r ≠ 0` it is `2 ^ t` where `t` is the index of the lowest
    set bit of `r` (bit `t` is set and no lower bit is). -/
theorem lowBit_is_lowest_set_bit (r : ℕ) (h : r ≠ 0) :
    ∃ t, lowBit r = 2 ^ t ∧ r.testBit t = true ∧ ∀ i < t, r.testBit i = false :=
  lowBit_spec r h

/-- the elimination test `row & lsb` (with `lsb = lowBit pivot`) is "the row has the
    pivot's lowest set bit" -/
theorem elimination_test_reads_pivot_bit (pivot row : ℕ) (h : pivot ≠ 0) :
    ∃ t, (pivot.testBit t = true ∧ ∀ i < t, pivot.testBit i = false) ∧
      (row &&& lowBit pivot ≠ 0 ↔ row.testBit t = true) := by
  obtain ⟨t, hl, hb⟩ := lowBit_spec pivot h
  exact ⟨t, hb, by rw [hl]; exact and_two_pow_ne_zero_iff row t⟩

/-- **MAIN: `gf2_rank` computes the GF(2) rank.**  For rows that fit in `w` bits, the
    number returned by the elimination loop is the dimension over `ZMod 2` of the span of
    the rows read as vectors `Fin w → ZMod 2` (coordinate `i` = bit `i` of the row). -/
theorem gf2Rank_eq_finrank (w : ℕ) (rows : List ℕ) (h : ∀ r ∈ rows, r < 2 ^ w) :
    gf2Rank rows =
      finrank (ZMod 2) (span (ZMod 2)
        (Set.range fun i : Fin rows.length =>
          (fun j : Fin w => if rows[i].testBit j then (1 : ZMod 2) else 0))) :=
  Panqec.gf2Rank_eq_finrank w rows h

/-- the loop invariant behind the main theorem, for every intermediate state: with enough
    fuel the loop returns (rank counted so far) + (GF(2) rank of the rows still stacked) -/
theorem gf2RankAux_invariant (w fuel : ℕ) (rows : List ℕ) (rank : ℕ)
    (hf : rows.length ≤ fuel) (h : ∀ r ∈ rows, r < 2 ^ w) :
    gf2RankAux fuel rows rank = rank + maskRank w rows :=
  gf2RankAux_eq w fuel rows rank hf h

/-- **`brank` computes the GF(2) rank of a 0/1 matrix**: for a matrix whose rows all have
    length `w` and entries 0/1, `brank m` is the dimension of the span of its rows read as
    vectors `Fin w → ZMod 2` (coordinate `j` = entry `j`; the big-endian packing
    `bvectorToInt` only reverses the coordinate order). -/
theorem brank_eq_rank (w : ℕ) (m : List (List ℕ))
    (hlen : ∀ r ∈ m, r.length = w) (hbin : ∀ r ∈ m, ∀ x ∈ r, x < 2) :
    brank m =
      finrank (ZMod 2) (span (ZMod 2)
        (Set.range fun i : Fin m.length =>
          (fun j : Fin w => ((m[i].getD j 0 : ℕ) : ZMod 2)))) :=
  Panqec.brank_eq_rank w m hlen hbin

/-- **elementary form, no width hypothesis**: `gf2Rank rows = r` exactly when the xor-span
    of the rows has a basis of `r` masks — a list `basis` of length `r` such that only the
    empty selection of it xors to zero, every basis mask is a xor of some rows, and every
    row is a xor of some basis masks. -/
theorem gf2Rank_eq_iff_basis (rows : List ℕ) (r : ℕ) :
    gf2Rank rows = r ↔
      ∃ basis : List ℕ, basis.length = r ∧
        (∀ sel, sel < 2 ^ basis.length → xorSelect basis sel = 0 → sel = 0) ∧
        (∀ b ∈ basis, ∃ sel, xorSelect rows sel = b) ∧
        (∀ v ∈ rows, ∃ sel, xorSelect basis sel = v) :=
  gf2Rank_eq_iff_maskRank rows r

/-- the elementary rank is well defined: two bases of the same xor-span have the same
    number of elements -/
theorem maskRank_unique {rows : List ℕ} {r r' : ℕ} (h : MaskRank rows r) (h' : MaskRank rows r') :
    r = r' :=
  Panqec.maskRank_unique h h'

/-- a basis can be chosen among the rows themselves, and it has `gf2Rank rows` elements -/
theorem exists_row_basis (rows : List ℕ) :
    ∃ basis : List ℕ, basis.length = gf2Rank rows ∧ MaskIndep basis ∧
      (∀ b ∈ basis, b ∈ rows) ∧ ∀ v ∈ rows, MaskInSpan basis v := by
  obtain ⟨basis, hind, hsub, hspan⟩ := exists_maskBasis rows
  refine ⟨basis, ?_, hind, hsub, hspan⟩
  exact (gf2Rank_eq_of_maskRank
    ⟨basis, rfl, hind, fun b hb => maskInSpan_of_mem (hsub b hb), hspan⟩).symm

/-- consequences one expects of a rank: at most the number of rows, at most the width -/
theorem gf2Rank_le_length (rows : List ℕ) : gf2Rank rows ≤ rows.length := by
  obtain ⟨w, hw⟩ := exists_width rows
  rw [Panqec.gf2Rank_eq_finrank w rows hw, maskRank, maskSpan]
  have h := finrank_range_le_card (R := ZMod 2)
    (fun i : Fin rows.length => toVecMask w rows[i])
  simpa [Set.finrank] using h

theorem gf2Rank_le_width (w : ℕ) (rows : List ℕ) (h : ∀ r ∈ rows, r < 2 ^ w) :
    gf2Rank rows ≤ w := by
  rw [Panqec.gf2Rank_eq_finrank w rows h, maskRank]
  have := Submodule.finrank_le (maskSpan w rows)
  simpa using this

/-! ### non-vacuity: concrete runs of the model -/

example : lowBit 12 = 4 := by decide
example : gf2Rank [6, 3, 5] = 2 := by decide
example : gf2Rank [1, 2, 4, 7] = 3 := by decide
example : gf2Rank [0, 0] = 0 := by decide
example : gf2Rank [] = 0 := by decide
example : brank [[1, 1, 0], [0, 1, 1], [1, 0, 1]] = 2 := by decide
example : brank [[1, 0, 0], [0, 1, 0], [0, 0, 1]] = 3 := by decide
/-- the hypotheses of `brank_eq_rank` hold on a concrete matrix -/
example : (∀ r ∈ [[1, 1, 0], [0, 1, 1], [1, 0, 1]], r.length = 3) ∧
    (∀ r ∈ [[1, 1, 0], [0, 1, 1], [1, 0, 1]], ∀ x ∈ r, x < 2) := by decide
/-- `[6, 3]` is a basis of the xor-span of `[6, 3, 5]` (5 = 6 ^^^ 3), witnessing rank 2 -/
example : MaskRank [6, 3, 5] 2 :=
  ⟨[6, 3], rfl, by unfold MaskIndep; decide,
    List.forall_mem_cons.mpr ⟨⟨1, by decide⟩, List.forall_mem_cons.mpr ⟨⟨2, by decide⟩, by simp⟩⟩,
    List.forall_mem_cons.mpr ⟨⟨1, by decide⟩, List.forall_mem_cons.mpr ⟨⟨2, by decide⟩,
      List.forall_mem_cons.mpr ⟨⟨3, by decide⟩, by simp⟩⟩⟩⟩

end Panqec.C03Rank
