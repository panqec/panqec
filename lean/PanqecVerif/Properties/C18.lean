/-
C18 — error probabilities multiply per qubit and normalise.

Property theorems only (helper lemmas: `Proofs/NoiseProb.lean`, `Proofs/NoiseSplit.lean`,
`Proofs/NoiseLog.lean`).
Quantifiers: every number of qubits, every list of per-qubit distributions (so: every
direction, error rate and deformation), every error.
-/
import PanqecVerif.Proofs.NoiseLog
import PanqecVerif.Proofs.NoiseSplit

namespace Panqec.C18

open Panqec

/-- one entry of `prob_vector` is the channel probability of the Pauli on that qubit
    (numpy truthiness of the two bits) -/
theorem entry_is_channel_probability (d : Dist) (x z : Nat) :
    probEntry d x z = d.get (Pauli.ofBits (truth x) (truth z)) := by
  by_cases hx : x = 0 <;> by_cases hz : z = 0 <;>
    simp [probEntry, ind, truth, hx, hz, Pauli.ofBits, Dist.get]

/-- `error_probability` of the BSF vector of a Pauli string is the product over qubits of
    the probability of its letter -/
theorem error_probability_product_form (ds : List Dist) (s : List Pauli)
    (h : s.length = ds.length) :
    errorProbability ds (pauliToBsf s) = some (ratProd (List.zipWith Dist.get ds s)) :=
  errorProbability_pauliToBsf ds s h

/-- the same for an arbitrary binary vector of length `2n`, through `bsf_to_pauli` -/
theorem error_probability_of_bsf (ds : List Dist) (e : List Nat)
    (hlen : e.length = 2 * ds.length) (hbin : ∀ x ∈ e, x < 2) :
    errorProbability ds e = some (stringProb ds (bsfToPauli e)) := by
  have h1 : pauliToBsf (bsfToPauli e) = e := pauliToBsf_bsfToPauli e (by omega) hbin
  have h2 : (bsfToPauli e).length = ds.length := by
    simp [bsfToPauli, xPart_length, zPart_length, hlen]; omega
  rw [← errorProbability_pauliToBsf ds (bsfToPauli e) h2, h1]

/-- other lengths are rejected -/
theorem error_probability_shape (ds : List Dist) (e : List Nat) (h : e.length ≠ 2 * ds.length) :
    errorProbability ds e = none := by
  simp [errorProbability, probVector, probVectorWith, h]

/-- `allPaulis n` lists exactly the Pauli strings of length `n`, and there are `4^n` entries -/
theorem all_errors_enumerated (n : Nat) :
    (allPaulis n).length = 4 ^ n ∧ (∀ s, s ∈ allPaulis n ↔ s.length = n) ∧ (allPaulis n).Nodup :=
  ⟨allPaulis_length n, mem_allPaulis n, allPaulis_nodup n⟩

/-- the probabilities of all `4^n` errors sum to the product of the per-qubit totals … -/
theorem sum_over_all_errors (ds : List Dist) :
    ∃ vals, (allPaulis ds.length).mapM (fun s => errorProbability ds (pauliToBsf s)) = some vals ∧
      ratSum vals = ratProd (ds.map Dist.total) := by
  refine ⟨(allPaulis ds.length).map (stringProb ds), ?_, sum_stringProb ds⟩
  apply mapM_eq_some_map_of_forall
  intro s hs
  exact errorProbability_pauliToBsf ds s ((mem_allPaulis _ s).mp hs)

/-- … hence to 1 as soon as every qubit's distribution sums to 1 (in particular for the
    channel of C07, deformed or not) -/
theorem probabilities_sum_to_one (ds : List Dist) (h : ∀ d ∈ ds, d.total = 1) :
    ∃ vals, (allPaulis ds.length).mapM (fun s => errorProbability ds (pauliToBsf s)) = some vals ∧
      ratSum vals = 1 := by
  obtain ⟨vals, h1, h2⟩ := sum_over_all_errors ds
  refine ⟨vals, h1, ?_⟩
  rw [h2]
  apply ratProd_eq_one_of_all_one
  intro x hx
  obtain ⟨d, hd, rfl⟩ := List.mem_map.mp hx
  exact h d hd

/-- `log_output=True` sums `np.log` over the same vector whose product is the probability:
    over the reals the sum of logs is the log of the product whenever all entries are
    positive (an entry 0 gives `-inf` in the code and probability 0 here) -/
theorem log_form (ds : List Dist) (e : List Nat) (v : List Rat) (hv : probVector ds e = some v)
    (hpos : ∀ x ∈ v, 0 < x) :
    ∃ P : Rat, errorProbability ds e = some P ∧ 0 < P ∧ Real.log (P : ℝ) = logSum v := by
  refine ⟨ratProd v, by simp [errorProbability, hv], (log_ratProd v hpos).2, (log_ratProd v hpos).1⟩

/-- `generate` returns the error `s` exactly on a box of variates whose volume is
    `error_probability(s)` -/
theorem sampling_consistent (ds : List Dist) (s : List Pauli) (us : List Rat)
    (hv : ∀ d ∈ ds, d.Valid) (hu : ∀ u ∈ us, 0 ≤ u ∧ u < 1) (hl : ds.length = us.length)
    (hs : s.length = ds.length) :
    (generate ds us = pauliToBsf s ↔ inBox ds s us) ∧
    errorProbability ds (pauliToBsf s) = some (boxVolume ds s) := by
  constructor
  · rw [← sampleLetters_iff_inBox ds s us hv hu hl]
    unfold generate
    constructor
    · intro h
      have := congrArg bsfToPauli h
      rwa [bsfToPauli_pauliToBsf, bsfToPauli_pauliToBsf] at this
    · intro h; rw [h]
  · rw [boxVolume_eq_stringProb]
    exact errorProbability_pauliToBsf ds s hs

/-- the acceptance probability of `get_next_error` is `min(1, P(new)/P(previous))` with `P`
    the product-form probabilities -/
theorem acceptance_is_likelihood_ratio (ds : List Dist) (s : List Pauli) (idx : Nat) (σ : Pauli)
    (t : List Pauli) (hs : s.length = ds.length) (ht : t.length = ds.length)
    (hnew : proposeError ds.length (pauliToBsf s) idx σ = pauliToBsf t) :
    splittingStep ds (pauliToBsf s) idx σ =
      some (pauliToBsf t, if stringProb ds t / stringProb ds s ≤ 1
                          then stringProb ds t / stringProb ds s else 1) := by
  simp [splittingStep, hnew, errorProbability_pauliToBsf ds s hs,
    errorProbability_pauliToBsf ds t ht, acceptRatio]

/-- the proposal multiplies the previous error by the drawn letter on the drawn qubit -/
theorem proposal_is_single_qubit_product (s : List Pauli) (idx : Nat) (σ τ : Pauli)
    (h : s[idx]? = some τ) :
    proposeError s.length (pauliToBsf s) idx σ = pauliToBsf (s.set idx (σ.mul τ)) :=
  proposeError_pauliToBsf s idx σ τ h

/-- so the ratio only involves the changed qubit: `P(new) · p_i(old letter) = P(previous) ·
    p_i(new letter)` (division-free form, valid also when probabilities vanish) -/
theorem likelihood_ratio_single_qubit (ds : List Dist) (s : List Pauli) (i : Nat) (d : Dist)
    (σ τ : Pauli) (hd : ds[i]? = some d) (hs : s[i]? = some σ) :
    stringProb ds (s.set i τ) * d.get σ = stringProb ds s * d.get τ :=
  stringProb_set ds s i d σ τ hd hs

/-! ### the mask the code had before the fix does NOT normalise -/

/-- with the Y mask `error[:n] == error[n:]` the four single-qubit probabilities sum to
    `1 + p_Y` -/
theorem old_mask_sum (d : Dist) (h : d.total = 1) :
    ∃ vals, (allPaulis 1).mapM (fun s => oldErrorProbability [d] (pauliToBsf s)) = some vals ∧
      ratSum vals = 1 + d.y := by
  -- on one qubit the old formula gives `p_σ`, plus `p_Y` once more for `σ = I`
  have key : ∀ σ, oldErrorProbability [d] (pauliToBsf [σ]) =
      some (d.get σ + if σ = .I then d.y else 0) := fun σ => by
    rw [oldErrorProbability, probVectorWith_pauliToBsf _ [d] [σ] rfl]
    simp [ratProd, oldProbEntry_bits]
  simp only [Dist.total] at h
  refine ⟨[d.i + d.y, d.x, d.y, d.z], ?_, ?_⟩
  · simp [allPaulis, key, Dist.get]
  · simp only [ratSum]; linarith

/-- regression witness: for `(p_I, p_X, p_Y, p_Z) = (1/2, 1/4, 1/8, 1/8)` the old formula sums to 9/8 -/
theorem old_mask_not_normalised :
    ∃ vals, (allPaulis 1).mapM (fun s => oldErrorProbability [⟨1/2, 1/4, 1/8, 1/8⟩] (pauliToBsf s))
      = some vals ∧ ratSum vals ≠ 1 := by
  obtain ⟨vals, h1, h2⟩ := old_mask_sum ⟨1/2, 1/4, 1/8, 1/8⟩ (by norm_num [Dist.total])
  exact ⟨vals, h1, by rw [h2]; norm_num⟩

/-! ### non-vacuity -/

example : errorProbability [⟨1/2, 1/4, 1/8, 1/8⟩, ⟨3/4, 1/8, 1/16, 1/16⟩] [1, 0, 1, 1] = some (1/128) := by
  norm_num [errorProbability, probVector, probVectorWith, entriesGo, probEntry, ind, ratProd]
example : (allPaulis 2).length = 16 := by decide

end Panqec.C18
