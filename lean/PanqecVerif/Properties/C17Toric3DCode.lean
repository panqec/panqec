/-
C17 for `Toric3DCode`, ALL sizes of the supported family (`Lx, Ly, Lz ≥ 2`, no upper bound): the
distance `code.d` reports is the true code distance, `min Lx (min Ly Lz)` — for the undeformed
code and for every deformed code the class offers.

The matrices are the ones the generic code model assembles from the hand-written lattice model
`Model/Lattices/Toric3DCode.lean` (tied to `panqec/codes/surface_3d/_toric_3d_code.py` by the
correspondence streams of `harness/lattices/toric3dcode.py`); they form a valid
`[[3·Lx·Ly·Lz, 3]]` code for every size (`C01Toric3DCode.valid_code`).

* `reported_distance` — `code.d` (`distance`, the minimum Pauli weight over the rows of
  `logicals_x` and `logicals_z`, as `StabilizerCode.d` computes it) is `min Lx (min Ly Lz)`; the
  listed logicals are three X lines of weights `Lx, Ly, Lz` and three Z planes of weights
  `Ly·Lz, Lz·Lx, Lx·Ly` (`weights_listed`).
* `lower_bound` — every non-trivial logical operator has weight `≥ min Lx (min Ly Lz)`.  Packing
  argument (`Proofs/DistLattice.lean`, `Proofs/DistCubic3D.lean`, `Proofs/DistToric3DCode*.lean`):
  a non-trivial logical anticommutes with one of the six listed logicals (C04).  A listed X line
  along one axis has `L` lattice translates along a second axis with pairwise disjoint supports,
  consecutive translates differing by the product of the row of face generators between them; a
  listed Z plane has `L` translates along its normal, consecutive translates differing by the
  product of the slab of vertex generators between them.  So every operator commuting with all
  generators anticommutes with each translate exactly when it anticommutes with the listed
  logical — its support meets every translate.
* `distance` — `IsDistance (3·Lx·Ly·Lz) H (min Lx (min Ly Lz))`: some non-trivial logical operator
  has that weight and none is lighter; `distance_reported` states it for the reported `d`.
* `distance_deformed`, `distance_deformed_offered` — the same for EVERY DEFORMED code of the class
  (`deform('XZZX', deformation_axis=ax)`, `ax ∈ {x, y, z}`; an omitted axis is `'y'` by
  `C01Toric3DCode.deformation_default_axis`; every other name or axis raises), every size: the
  deformed getters assemble the relabelled rows, these form a valid code, `code.d` is
  `min Lx (min Ly Lz)` and that is the true distance
  (`C17.distance_deformation_invariant`).
-/
import PanqecVerif.Properties.C01Toric3DCode
import PanqecVerif.Proofs.DistToric3DCodeLowerBound
import PanqecVerif.Proofs.Dist
import PanqecVerif.Proofs.DistDeform

namespace Panqec.C17Toric3DCode
open Panqec.Cubic3D Panqec.Toric3DCode

/-- the rows of `logicals_x` have Pauli weights `[Lx, Ly, Lz]` (lines), those of `logicals_z`
    `[Ly·Lz, Lz·Lx, Lx·Ly]` (planes) — every `Lx, Ly, Lz ≥ 2` -/
theorem weights_listed (Lx Ly Lz : Nat) (hLx : 2 ≤ Lx) (hLy : 2 ≤ Ly) (hLz : 2 ≤ Lz) :
    (lattice Lx Ly Lz).rowsX.map pauliWeight = [Lx, Ly, Lz] ∧
    (lattice Lx Ly Lz).rowsZ.map pauliWeight = [Ly * Lz, Lz * Lx, Lx * Ly] :=
  Toric3DCode.weights_listed (C01Toric3DCode.wf Lx Ly Lz hLx hLy hLz)

/-- what `code.d` returns — the minimum weight over the listed logical operators — is
    `min Lx (min Ly Lz)`, every `Lx, Ly, Lz ≥ 2` -/
theorem reported_distance (Lx Ly Lz : Nat) (hLx : 2 ≤ Lx) (hLy : 2 ≤ Ly) (hLz : 2 ≤ Lz) :
    Panqec.distance (lattice Lx Ly Lz).rowsX (lattice Lx Ly Lz).rowsZ =
      some (min Lx (min Ly Lz)) :=
  Toric3DCode.reported_distance (by omega) (by omega) (by omega)
    (C01Toric3DCode.wf Lx Ly Lz hLx hLy hLz)

/-- no non-trivial logical operator (commutes with every generator, is not a product of
    generators) of the `Lx × Ly × Lz` 3-D toric code is lighter than `min Lx (min Ly Lz)` — every
    `Lx, Ly, Lz ≥ 2` -/
theorem lower_bound (Lx Ly Lz : Nat) (hLx : 2 ≤ Lx) (hLy : 2 ≤ Ly) (hLz : 2 ≤ Lz) :
    ∀ v, IsNontrivialLogical (3 * (Lx * Ly * Lz)) (lattice Lx Ly Lz).rowsH v →
      min Lx (min Ly Lz) ≤ pauliWeight v :=
  Toric3DCode.lower_bound hLx hLy hLz (C01Toric3DCode.wf Lx Ly Lz hLx hLy hLz)
    (C01Toric3DCode.valid_code Lx Ly Lz hLx hLy hLz).2.2.2

/-- THE C17 STATEMENT FOR ALL SIZES (`Lx, Ly, Lz ≥ 2`): the code distance of the `Lx × Ly × Lz`
    3-D toric code — the minimum weight of a non-trivial logical operator of the assembled
    parity-check matrix — is `min Lx (min Ly Lz)` -/
theorem distance (Lx Ly Lz : Nat) (hLx : 2 ≤ Lx) (hLy : 2 ≤ Ly) (hLz : 2 ≤ Lz) :
    IsDistance (3 * (Lx * Ly * Lz)) (lattice Lx Ly Lz).rowsH (min Lx (min Ly Lz)) :=
  distance_criterion (C01Toric3DCode.valid_code Lx Ly Lz hLx hLy hLz).2.2.2 (min Lx (min Ly Lz))
    (exists_listed_of_distance _ _ _ (reported_distance Lx Ly Lz hLx hLy hLz))
    (lower_bound Lx Ly Lz hLx hLy hLz)

/-- the same, stated for whatever `code.d` reports: the reported distance exists and is the
    true distance -/
theorem distance_reported (Lx Ly Lz : Nat) (hLx : 2 ≤ Lx) (hLy : 2 ≤ Ly) (hLz : 2 ≤ Lz) :
    ∃ d, Panqec.distance (lattice Lx Ly Lz).rowsX (lattice Lx Ly Lz).rowsZ = some d ∧
      IsDistance (3 * (Lx * Ly * Lz)) (lattice Lx Ly Lz).rowsH d :=
  ⟨_, reported_distance Lx Ly Lz hLx hLy hLz, distance Lx Ly Lz hLx hLy hLz⟩

/-! ### deformed codes (`code.deform('XZZX', deformation_axis=ax)`) -/

/-- the class offers the deformation 'XZZX' along the axes 'x', 'y', 'z' (default 'y'): for these
    `get_deformation` is defined on every qubit of every lattice (any other name or axis raises,
    `C01Toric3DCode.deformation_other_name` / `deformation_bad_axis`) -/
theorem deformation_defined (Lx Ly Lz : Nat) (ax : Axis) (q : Coord)
    (hq : q ∈ (lattice Lx Ly Lz).qubits) :
    ∃ m, Toric3DCode.getDeformation "XZZX" (some ax.toString) q = some m := by
  obtain ⟨a, _, h⟩ := C01Toric3DCode.deformation_rule Lx Ly Lz hq ax
  exact ⟨_, h⟩

/-- THE C17 STATEMENT FOR EVERY DEFORMED CODE OF THE CLASS, ALL SIZES (`Lx, Ly, Lz ≥ 2`): for every
    deformation name and axis for which `get_deformation` is defined on the qubits (`D q` = the
    relabelling it returns on `q`), the matrices the deformed getters assemble are the relabelled
    rows, they form a valid `[[n, 3]]` code, `code.d` reports `min Lx (min Ly Lz)`, and that is the
    true distance of the deformed code -/
theorem distance_deformed (Lx Ly Lz : Nat) (hLx : 2 ≤ Lx) (hLy : 2 ≤ Ly) (hLz : 2 ≤ Lz)
    (name : String) (axis : Option String) (D : Coord → PauliMap)
    (hD : ∀ q ∈ (lattice Lx Ly Lz).qubits,
      Toric3DCode.getDeformation name axis q = some (D q)) :
    stabilizerMatrix ((lattice Lx Ly Lz).toCodeData.deform D) =
        some ((lattice Lx Ly Lz).rowsH.map (deformBsf ((lattice Lx Ly Lz).qubits.map D))) ∧
    logicalsX ((lattice Lx Ly Lz).toCodeData.deform D) =
        some ((lattice Lx Ly Lz).rowsX.map (deformBsf ((lattice Lx Ly Lz).qubits.map D))) ∧
    logicalsZ ((lattice Lx Ly Lz).toCodeData.deform D) =
        some ((lattice Lx Ly Lz).rowsZ.map (deformBsf ((lattice Lx Ly Lz).qubits.map D))) ∧
    ValidCodeL (3 * (Lx * Ly * Lz)) 3
      ((lattice Lx Ly Lz).rowsH.map (deformBsf ((lattice Lx Ly Lz).qubits.map D)))
      ((lattice Lx Ly Lz).rowsX.map (deformBsf ((lattice Lx Ly Lz).qubits.map D)))
      ((lattice Lx Ly Lz).rowsZ.map (deformBsf ((lattice Lx Ly Lz).qubits.map D))) ∧
    Panqec.distance ((lattice Lx Ly Lz).rowsX.map (deformBsf ((lattice Lx Ly Lz).qubits.map D)))
      ((lattice Lx Ly Lz).rowsZ.map (deformBsf ((lattice Lx Ly Lz).qubits.map D))) =
        some (min Lx (min Ly Lz)) ∧
    IsDistance (3 * (Lx * Ly * Lz))
      ((lattice Lx Ly Lz).rowsH.map (deformBsf ((lattice Lx Ly Lz).qubits.map D)))
      (min Lx (min Ly Lz)) :=
  Lattice.deformed_distance (lattice Lx Ly Lz) (C01Toric3DCode.wf Lx Ly Lz hLx hLy hLz)
    (C01Toric3DCode.n_formula Lx Ly Lz) (C01Toric3DCode.valid_code Lx Ly Lz hLx hLy hLz).2.2.2
    (reported_distance Lx Ly Lz hLx hLy hLz) (distance Lx Ly Lz hLx hLy hLz) D
    (fun q hq => C01Toric3DCode.deformation_perm (hD q hq))

/-- the relabelling `get_deformation(·, name, axis)` as a function of the location (identity
    where it raises — nowhere on the qubits for the offered name and axes) -/
def deformationOf (name : String) (axis : Option String) (q : Coord) : PauliMap :=
  (Toric3DCode.getDeformation name axis q).getD PauliMap.id

/-- the XZZX-deformed code along every axis has distance `min Lx (min Ly Lz)` — every size -/
theorem distance_deformed_offered (Lx Ly Lz : Nat) (hLx : 2 ≤ Lx) (hLy : 2 ≤ Ly) (hLz : 2 ≤ Lz)
    (ax : Axis) :
    IsDistance (3 * (Lx * Ly * Lz))
      ((lattice Lx Ly Lz).rowsH.map (deformBsf ((lattice Lx Ly Lz).qubits.map
        (deformationOf "XZZX" (some ax.toString))))) (min Lx (min Ly Lz)) :=
  (distance_deformed Lx Ly Lz hLx hLy hLz "XZZX" (some ax.toString)
    (deformationOf "XZZX" (some ax.toString)) (fun q hq => by
      obtain ⟨m, hm⟩ := deformation_defined Lx Ly Lz ax q hq
      unfold deformationOf
      rw [hm]; rfl)).2.2.2.2.2

/-! ### non-vacuity -/

example : IsDistance 72 (lattice 2 3 4).rowsH 2 :=
  distance 2 3 4 (by decide) (by decide) (by decide)
example : IsDistance 1260 (lattice 10 7 6).rowsH 6 :=
  distance 10 7 6 (by decide) (by decide) (by decide)
/-- the hypothesis of `lower_bound` is satisfiable: the first listed logical X is a non-trivial
    logical operator -/
example : IsNontrivialLogical 24 (lattice 2 2 2).rowsH ((lattice 2 2 2).rowsX.getD 0 []) :=
  listedX_nontrivial (C01Toric3DCode.valid_code 2 2 2 (by decide) (by decide) (by decide)).2.2.2
    (by decide +kernel)
example : (lattice 2 3 4).rowsX.map pauliWeight = [2, 3, 4] ∧
    (lattice 2 3 4).rowsZ.map pauliWeight = [12, 8, 6] :=
  weights_listed 2 3 4 (by decide) (by decide) (by decide)
/-- the XZZX code on the `3 × 4 × 5` lattice (default axis 'y') has distance 3 -/
example : IsDistance 180 ((lattice 3 4 5).rowsH.map
    (deformBsf ((lattice 3 4 5).qubits.map (deformationOf "XZZX" (some "y"))))) 3 :=
  distance_deformed_offered 3 4 5 (by decide) (by decide) (by decide) Axis.y
example : deformationOf "XZZX" (some "y") [0, 1, 0] = PauliMap.swapXZ := by decide +kernel

end Panqec.C17Toric3DCode
