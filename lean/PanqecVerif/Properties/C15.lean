/-
C15 — analysis aggregates are conserved however results are split.

Property theorems only; helper lemmas are in `Proofs/Analysis.lean` (lists, core Lean),
`Proofs/AnalysisRates.lean` (rates over ℚ) and `Proofs/AnalysisWordRate.lean` (word rate over ℝ).
Every statement is for all lists of containers / entries / trials (no size bound), all k.

Vocabulary: a `Trial` is (effective-error row, success, codespace); an `Entry` is one results
dict (three columns); `Data` is the parsed JSON of a file (dict or nested lists, which is
also what `merge-results` writes); `aggregate` is `Analysis.aggregate` (group by the input
key, sum / concatenate); `pool ms` is the list of all trials stored in the entries `ms`.
-/
import PanqecVerif.Proofs.AnalysisWordRate

namespace Panqec.C15

open Panqec Panqec.An

/-- `merge-results` does not change the entries that are read -/
theorem merge_results_preserves_entries (files : List Data) :
    (mergeResults files).flatten = flattenList files := flatten_list files

/-- reading several files one after the other = reading their concatenation; a list nested in
    a list reads as its members (arbitrary nesting depth by iteration) -/
theorem reading_is_concatenation (a b : List Data) (l : List Data) :
    flattenList (a ++ b) = flattenList a ++ flattenList b ∧
    flattenList (Data.list l :: b) = flattenList l ++ flattenList b := by
  refine ⟨flattenList_append a b, ?_⟩
  simp [flattenList, Data.flatten]

/-- any order of the files (and of the containers inside a merged file) gives, for every key,
    a permutation of the same pooled trials, and the same set of keys -/
theorem file_order_irrelevant {files₁ files₂ : List Data} (h : files₁.Perm files₂) (κ : Key) :
    (pool (groupOf (flattenList files₁) κ)).Perm (pool (groupOf (flattenList files₂) κ)) ∧
    (κ ∈ keysOf (flattenList files₁) ↔ κ ∈ keysOf (flattenList files₂)) :=
  ⟨pool_perm (groupOf_perm (flattenList_perm h) κ), mem_keysOf_perm (flattenList_perm h) κ⟩

/-- splitting the entries of a key over two file sets pools their trials -/
theorem pool_of_split (es₁ es₂ : List Entry) (κ : Key) :
    pool (groupOf (es₁ ++ es₂) κ) = pool (groupOf es₁ κ) ++ pool (groupOf es₂ κ) := by
  rw [groupOf_append, pool_append]

/-- `aggregate` reports exactly one row per key that occurs, and that row is the group of all
    entries with this key -/
theorem aggregate_rows {es : List Entry} {gs : List Group} (h : aggregate es = .ok gs) :
    (∀ g ∈ gs, ∃ κ ∈ keysOf es, mkGroup κ (groupOf es κ) = .ok g) ∧
    (∀ κ ∈ keysOf es, ∃ g ∈ gs, mkGroup κ (groupOf es κ) = .ok g) ∧
    (∀ κ, κ ∈ keysOf es ↔ ∃ e ∈ es, e.key = κ) :=
  ⟨(aggregate_spec h).1, (aggregate_spec h).2, fun _ => mem_keysOf⟩

/-- `aggregate` succeeds whenever, per key, all stored rows have one width (entries without trials are
    allowed: they have no row) -/
theorem aggregate_succeeds (es : List Entry)
    (h : ∀ κ, ∃ W, ∀ e ∈ groupOf es κ, e.HasWidth W) : ∃ gs, aggregate es = .ok gs :=
  mapM_except_total _ _ fun κ _ =>
    let ⟨_, hW⟩ := h κ
    mkGroup_ok_of_width hW

/-- the counts of a row are the counts of the pooled trials: `n_trials` is their number,
    `n_fail` the number of unsuccessful ones, `n_trials_X = n_trials_Z` is k times the number of
    in-codespace trials, `n_results` (denominator of the single-qubit rates) their number -/
theorem reported_counts_are_pooled_counts {κ : Key} {ms : List Entry} {g : Group}
    (h : mkGroup κ ms = .ok g) (wf : ∀ e ∈ ms, e.WF) :
    g.nTrials = (pool ms).length ∧
    g.nFail = ((pool ms).countP (fun t => !t.su) : Int) ∧
    g.nTrialsSector = g.k * (pool ms).countP (·.cs) ∧
    g.nResults = (pool ms).length ∧
    g.wall = (ms.map (·.wall)).sum := by
  have hp := mkGroup_isPool h wf
  exact ⟨hp.nTrials, hp.nFail, hp.nTrialsSector, hp.nResults, (mkGroup_key h).2.2.2⟩

/-- `n_fail_X` / `n_fail_Z` are the flagged logical X / Z bits (first / last `w/2` columns)
    summed over the in-codespace trials; with rows of width `2k` the blocks are the first and
    the last `k` bits -/
theorem sector_counts_are_flagged_bits {κ : Key} {ms : List Entry} {g : Group} {k : Nat}
    (h : mkGroup κ ms = .ok g) (wf : ∀ e ∈ ms, e.WF) (hne : pool ms ≠ [])
    (hw : ∀ e ∈ ms, e.HasWidth (2 * k)) (sectorX : Bool) :
    g.countFails sectorX = .ok
      ((((pool ms).filter (·.cs)).map fun t =>
        (if sectorX then t.row.take k else t.row.drop k).sum).sum) := by
  have hs := mkGroup_shape_of_width h wf hw
  rw [if_neg hne] at hs
  have := (mkGroup_isPool h wf).countFails hs sectorX
  rw [this]
  simp [specSectorFails]

/-- single-logical-qubit rates: for every logical qubit `i < k` and each of the four events
    (any, X, Y, Z) the count is the number of pooled trials whose bits `(x_i, z_i)` show that
    event; on binary rows the X, Y, Z counts add up to the `any` count -/
theorem single_qubit_counts {κ : Key} {ms : List Entry} {g : Group} {k : Nat}
    (h : mkGroup κ ms = .ok g) (wf : ∀ e ∈ ms, e.WF) (hne : pool ms ≠ [])
    (hw : ∀ e ∈ ms, e.HasWidth (2 * k)) (hk : g.k = k) (hk0 : 0 < k) :
    g.singleCounts = .ok (some ((List.range k).map fun i =>
      (List.range 4).map fun t => specPattern k i t (pool ms))) ∧
    ((∀ t ∈ pool ms, ∀ x ∈ t.row, x < 2) → ∀ i,
      specPattern k i 0 (pool ms) =
        specPattern k i 1 (pool ms) + specPattern k i 2 (pool ms) + specPattern k i 3 (pool ms)) := by
  have hs := mkGroup_shape_of_width h wf hw
  rw [if_neg hne] at hs
  have := (mkGroup_isPool h wf).singleCounts hs (by omega) (by rw [hk]; omega)
  rw [this, hk]
  refine ⟨by simp, fun hbin i => specPattern_partition k i _ hbin⟩

/-- `p_est = 1 - mean(success)` is `n_fail / n_trials`, a number in [0,1]; a pool without
    trials has no estimate (NaN) -/
theorem p_est_is_fail_fraction {κ : Key} {ms : List Entry} {g : Group}
    (h : mkGroup κ ms = .ok g) (wf : ∀ e ∈ ms, e.WF) :
    (pool ms ≠ [] → ∃ p : Rat, g.pEst = some p ∧ p = (g.nFail : Rat) / (g.nTrials : Rat) ∧
      0 ≤ p ∧ p ≤ 1) ∧
    (pool ms = [] → g.pEst = none) := by
  have hp := mkGroup_isPool h wf
  constructor
  · intro hne
    refine ⟨_, hp.pEst hne, ?_, ?_⟩
    · rw [hp.nFail, hp.nTrials]; simp
    · exact rate_mem_unit _ _ (specNFail_le_length _) (List.length_pos_iff.mpr hne)
  · intro he
    rw [he] at hp
    exact hp.pEst_empty

/-- the standard error is `sqrt` of `p (1-p) / (n+1)`; the radicand lies in `[0, 1/(4(n+1))]` -/
theorem se_radicand (p : Rat) (n : Nat) (h0 : 0 ≤ p) (h1 : p ≤ 1) :
    seRad p n = p * (1 - p) / ((n : Rat) + 1) ∧ 0 ≤ seRad p n ∧ seRad p n ≤ 1 / (4 * ((n : Rat) + 1)) :=
  ⟨rfl, seRad_nonneg p n h0 h1, seRad_le_quarter p n⟩

/-- MAIN THEOREM.  Two ways of storing the same multiset of trials of one key (any partition
    into entries / files / containers, any order of entries and of trials) give the same row:
    pooled `n_trials`, `n_fail`, `p_est`, sector trial and fail counts, single-qubit counts. -/
theorem pooled_counts_invariant {κ : Key} {ms₁ ms₂ : List Entry} {g₁ g₂ : Group}
    (h₁ : mkGroup κ ms₁ = .ok g₁) (h₂ : mkGroup κ ms₂ = .ok g₂)
    (wf₁ : ∀ e ∈ ms₁, e.WF) (wf₂ : ∀ e ∈ ms₂, e.WF)
    (hperm : (pool ms₁).Perm (pool ms₂)) (hk : g₁.k = g₂.k) (hs : g₁.shape = g₂.shape) :
    g₁.nTrials = g₂.nTrials ∧ g₁.nFail = g₂.nFail ∧ g₁.pEst = g₂.pEst ∧
    g₁.nTrialsSector = g₂.nTrialsSector ∧
    g₁.countFails true = g₂.countFails true ∧ g₁.countFails false = g₂.countFails false ∧
    g₁.nResults = g₂.nResults ∧ g₁.singleCounts = g₂.singleCounts := by
  have p₁ := mkGroup_isPool h₁ wf₁
  have p₂ := mkGroup_isPool h₂ wf₂
  have hlen : (pool ms₁).length = (pool ms₂).length := hperm.length_eq
  have hnf : specNFail (pool ms₁) = specNFail (pool ms₂) := specNFail_perm hperm
  have hnT : g₁.nTrials = g₂.nTrials := by rw [p₁.nTrials, p₂.nTrials, hlen]
  have hnF : g₁.nFail = g₂.nFail := by rw [p₁.nFail, p₂.nFail, hnf]
  have hpe : g₁.pEst = g₂.pEst := by
    by_cases hne : pool ms₁ = []
    · have e₁ : g₁.IsPool [] := hne ▸ p₁
      have e₂ : g₂.IsPool [] := List.nil_perm.mp (hne ▸ hperm) ▸ p₂
      rw [e₁.pEst_empty, e₂.pEst_empty]
    · rw [p₁.pEst hne, p₂.pEst fun h0 => hne (List.perm_nil.mp (h0 ▸ hperm)), hnf, hlen]
  have hcf : ∀ b, g₁.countFails b = g₂.countFails b := by
    intro b
    cases hsh : g₁.shape with
    | none =>
      have hsh₂ : g₂.shape = none := by rw [← hs, hsh]
      simp [Group.countFails, hsh, hsh₂]
    | some w =>
      have hsh₂ : g₂.shape = some w := by rw [← hs, hsh]
      rw [p₁.countFails hsh b, p₂.countFails hsh₂ b, specSectorFails_perm _ _ hperm]
  refine ⟨hnT, hnF, hpe, ?_, hcf true, hcf false, ?_, ?_⟩
  · rw [p₁.nTrialsSector, p₂.nTrialsSector, hk, specCodespace_perm hperm]
  · rw [p₁.nResults, p₂.nResults, hlen]
  · unfold Group.singleCounts
    rw [← hs, ← hk]
    cases g₁.shape with
    | none => rfl
    | some w =>
      simp only [p₁.patternCount, p₂.patternCount, fun kq i t => specPattern_perm kq i t hperm]

/-- the same with the side conditions discharged from the stored data: all entries of the key
    are well-formed results of one code (`k` logical qubits, rows of width `2k`); entries WITHOUT
    TRIALS are allowed on both sides -/
theorem pooled_counts_invariant_of_code {κ : Key} {ms₁ ms₂ : List Entry} {g₁ g₂ : Group} {k : Nat}
    (h₁ : mkGroup κ ms₁ = .ok g₁) (h₂ : mkGroup κ ms₂ = .ok g₂)
    (wf₁ : ∀ e ∈ ms₁, e.WF ∧ e.HasWidth (2 * k) ∧ e.k = k)
    (wf₂ : ∀ e ∈ ms₂, e.WF ∧ e.HasWidth (2 * k) ∧ e.k = k)
    (hne₁ : ms₁ ≠ []) (hne₂ : ms₂ ≠ [])
    (hperm : (pool ms₁).Perm (pool ms₂)) :
    g₁.nTrials = g₂.nTrials ∧ g₁.nFail = g₂.nFail ∧ g₁.pEst = g₂.pEst ∧
    g₁.nTrialsSector = g₂.nTrialsSector ∧
    g₁.countFails true = g₂.countFails true ∧ g₁.countFails false = g₂.countFails false ∧
    g₁.nResults = g₂.nResults ∧ g₁.singleCounts = g₂.singleCounts := by
  have hk : ∀ {ms : List Entry} {g : Group}, mkGroup κ ms = .ok g → ms ≠ [] →
      (∀ e ∈ ms, e.WF ∧ e.HasWidth (2 * k) ∧ e.k = k) → g.k = k := by
    intro ms g hg hne hall
    rw [(mkGroup_key hg).2.1]
    cases ms with
    | nil => exact absurd rfl hne
    | cons e rest => simpa using (hall e (by simp)).2.2
  apply pooled_counts_invariant h₁ h₂ (fun e he => (wf₁ e he).1) (fun e he => (wf₂ e he).1) hperm
  · rw [hk h₁ hne₁ wf₁, hk h₂ hne₂ wf₂]
  · rw [mkGroup_shape_of_width h₁ (fun e he => (wf₁ e he).1) (fun e he => (wf₁ e he).2.1),
        mkGroup_shape_of_width h₂ (fun e he => (wf₂ e he).1) (fun e he => (wf₂ e he).2.1)]
    simp only [← List.length_eq_zero_iff, hperm.length_eq]

/-- at the level of whole file sets: if two sets of files hold, for the key `κ`, well-formed
    entries whose pooled trials are permutations of each other (same code, hence same `k` and row
    width `2k`; any number of zero-trial entries), the rows reported for `κ` coincide in every count -/
theorem analysis_conserved_under_repartition {files₁ files₂ : List Data} {κ : Key} {g₁ g₂ : Group}
    {k : Nat}
    (h₁ : mkGroup κ (groupOf (flattenList files₁) κ) = .ok g₁)
    (h₂ : mkGroup κ (groupOf (flattenList files₂) κ) = .ok g₂)
    (wf₁ : ∀ e ∈ groupOf (flattenList files₁) κ, e.WF ∧ e.HasWidth (2 * k) ∧ e.k = k)
    (wf₂ : ∀ e ∈ groupOf (flattenList files₂) κ, e.WF ∧ e.HasWidth (2 * k) ∧ e.k = k)
    (hne₁ : groupOf (flattenList files₁) κ ≠ []) (hne₂ : groupOf (flattenList files₂) κ ≠ [])
    (hperm : (pool (groupOf (flattenList files₁) κ)).Perm (pool (groupOf (flattenList files₂) κ))) :
    g₁.nTrials = g₂.nTrials ∧ g₁.nFail = g₂.nFail ∧ g₁.pEst = g₂.pEst ∧
    g₁.nTrialsSector = g₂.nTrialsSector ∧
    g₁.countFails true = g₂.countFails true ∧ g₁.countFails false = g₂.countFails false ∧
    g₁.nResults = g₂.nResults ∧ g₁.singleCounts = g₂.singleCounts :=
  pooled_counts_invariant_of_code h₁ h₂ wf₁ wf₂ hne₁ hne₂ hperm

/-- parts with zero trials (a run that saved before its first trial) change nothing: pooling the
    entries `ms` together with any zero-trial entries `extra`, in any interleaving `ms'`, succeeds
    and reports the row of `ms` -/
theorem zero_trial_parts_change_nothing {κ : Key} {ms extra ms' : List Entry} {g : Group} {k : Nat}
    (h : mkGroup κ ms = .ok g)
    (wf : ∀ e ∈ ms, e.WF ∧ e.HasWidth (2 * k) ∧ e.k = k) (hne : ms ≠ [])
    (hextra : ∀ e ∈ extra, e.ee = [] ∧ e.success = [] ∧ e.codespace = [] ∧ e.k = k)
    (hperm : ms'.Perm (ms ++ extra)) :
    ∃ g', mkGroup κ ms' = .ok g' ∧
      g'.nTrials = g.nTrials ∧ g'.nFail = g.nFail ∧ g'.pEst = g.pEst ∧
      g'.nTrialsSector = g.nTrialsSector ∧
      g'.countFails true = g.countFails true ∧ g'.countFails false = g.countFails false ∧
      g'.nResults = g.nResults ∧ g'.singleCounts = g.singleCounts := by
  have hx : ∀ e ∈ extra, e.WF ∧ e.HasWidth (2 * k) ∧ e.k = k := by
    intro e he
    obtain ⟨h1, h2, h3, h4⟩ := hextra e he
    exact ⟨by simp [Entry.WF, h1, h2, h3], by simp [Entry.HasWidth, h1], h4⟩
  have hall : ∀ e ∈ ms', e.WF ∧ e.HasWidth (2 * k) ∧ e.k = k := by
    intro e he
    rcases List.mem_append.mp (hperm.mem_iff.mp he) with h1 | h1
    · exact wf e h1
    · exact hx e h1
  obtain ⟨g', hg'⟩ := mkGroup_ok_of_width (κ := κ) (fun e he => (hall e he).2.1)
  have hpx : pool extra = [] := by
    unfold pool
    rw [List.flatMap_eq_nil_iff]
    intro e he
    obtain ⟨h1, _, _, _⟩ := hextra e he
    simp [Entry.trials, h1, zip3]
  have hpool : (pool ms').Perm (pool ms) := by
    have := pool_perm hperm
    rwa [pool_append, hpx, List.append_nil] at this
  have hne' : ms' ≠ [] := fun h0 => hne (List.append_eq_nil_iff.mp (List.nil_perm.mp (h0 ▸ hperm))).1
  exact ⟨g', hg', pooled_counts_invariant_of_code hg' h hall wf hne' hne hpool⟩

/-- the wall time of a row is the sum over its entries, in any order -/
theorem wall_time_order_irrelevant {κ : Key} {ms₁ ms₂ : List Entry} {g₁ g₂ : Group}
    (h₁ : mkGroup κ ms₁ = .ok g₁) (h₂ : mkGroup κ ms₂ = .ok g₂) (hperm : ms₁.Perm ms₂) :
    g₁.wall = g₂.wall := by
  rw [(mkGroup_key h₁).2.2.2, (mkGroup_key h₂).2.2.2, sum_wall_perm hperm]

/-- counts are additive over a split of the pooled trials (`count (l₁ ++ l₂) = count l₁ + count l₂`) -/
theorem counts_additive (P Q : List Trial) (kq i t : Nat) (b : Bool) :
    (P ++ Q).length = P.length + Q.length ∧
    specNFail (P ++ Q) = specNFail P + specNFail Q ∧
    specCodespace (P ++ Q) = specCodespace P + specCodespace Q ∧
    specSectorFails kq b (P ++ Q) = specSectorFails kq b P + specSectorFails kq b Q ∧
    specPattern kq i t (P ++ Q) = specPattern kq i t P + specPattern kq i t Q :=
  ⟨List.length_append, specNFail_append P Q, specCodespace_append P Q,
   specSectorFails_append kq b P Q, specPattern_append kq i t P Q⟩

/-! ## word error rate (over ℝ; the code evaluates the same expressions in floating point) -/

/-- `p_word = 1 - (1-p)^(1/k)` satisfies `(1 - p_word)^k = 1 - p` -/
theorem word_rate_relation (p : ℝ) (k : ℕ) (hk : 0 < k) (hp : p ≤ 1) :
    (1 - wordRate p k) ^ k = 1 - p := wordRate_relation p k hk hp

/-- `p_word_se = (1/k)(1-p)^(1/k-1) · p_se` is the first-order propagation of `p_se`: the
    factor is the derivative of `p ↦ p_word` -/
theorem word_rate_se_is_first_order_propagation (p se : ℝ) (k : ℕ) (hp : p < 1) :
    ∃ d : ℝ, HasDerivAt (fun q => wordRate q k) d p ∧ wordSe p se k = d * se :=
  ⟨_, wordRate_hasDerivAt p k hp, rfl⟩

/-- root-free form of the same fact (the relation the model driver tests on the reported
    floats): `p_word_se · k · (1 - p_word)^(k-1) = p_se` -/
theorem word_rate_se_rootfree (p se : ℝ) (k : ℕ) (hk : 0 < k) (hp : p < 1) :
    wordSe p se k * k * (1 - wordRate p k) ^ (k - 1) = se := wordSe_rootfree p se k hk hp

/-! ## what the verdict `ok` of the model driver means for a float column -/

theorem float_verdicts_sound {ε δ f r p w : Rat} {k : ℕ} (hε0 : 0 ≤ ε) (hε1 : ε ≤ 1) :
    (within ε δ f r = true → |f - r| ≤ ε * |r| + δ) ∧
    (sqrtWithin ε f r = true → (f : ℝ) * (1 - ε) ≤ Real.sqrt r ∧ Real.sqrt r ≤ (f : ℝ) * (1 + ε)) ∧
    (0 < k → p ≤ 1 → wordWithin ε δ k p w = true →
      ((w * (1 - ε) - δ : Rat) : ℝ) ≤ wordRate p k ∧ wordRate p k ≤ ((w * (1 + ε) + δ : Rat) : ℝ)) :=
  ⟨within_sound, sqrtWithin_sound hε0 hε1, fun hk hp h => wordWithin_sound hk hp h⟩

/-! ## regression: partitions with an empty part (fixed in /repo by ad5e045)

A results entry without trials has a 1-dimensional `effective_error`.  Before ad5e045 `aggregate`
called `np.concatenate` on all members of a group, which refuses to pool it with the 2-dimensional
arrays of the other entries, and `Analysis` raised (`oldShapesAgree`).  `concatenate_nonempty` now
skips such entries; the same two entries are replayed on the implementation by the oracle (class
`empty-part`). -/

def witnessNonEmpty : Entry := Entry.ofTrials 0 (1/10) 1 (1/2) [⟨[1, 0], false, true⟩]
def witnessEmpty : Entry := Entry.ofTrials 0 (1/10) 1 0 []

/-- the witness of the former defect is now pooled, in either order, with the counts of the
    non-empty part -/
theorem empty_part_is_pooled :
    witnessNonEmpty.WF ∧ witnessEmpty.WF ∧ witnessNonEmpty.key = witnessEmpty.key ∧
    pool [witnessNonEmpty, witnessEmpty] = pool [witnessNonEmpty] ∧
    (aggregate [witnessNonEmpty]).toOption.map (fun gs => gs.map fun g => (g.nTrials, g.nFail))
      = some [(1, 1)] ∧
    (aggregate [witnessNonEmpty, witnessEmpty]).toOption.map
      (fun gs => gs.map fun g => (g.nTrials, g.nFail, g.countFails true, g.shape)) = some [(1, 1, .ok 1, some 2)] ∧
    (aggregate [witnessEmpty, witnessNonEmpty]).toOption.map
      (fun gs => gs.map fun g => (g.nTrials, g.nFail, g.countFails true, g.shape)) = some [(1, 1, .ok 1, some 2)] := by
  refine ⟨Entry.ofTrials_wf _ _ _ _ _, Entry.ofTrials_wf _ _ _ _ _, rfl, rfl, ?_, ?_, ?_⟩ <;>
    decide +kernel

/-- regression example: the behaviour before ad5e045 rejected exactly this input -/
theorem regression_empty_part_broke_old_aggregate :
    oldAggregateOk [witnessNonEmpty] = true ∧
    oldAggregateOk [witnessNonEmpty, witnessEmpty] = false ∧
    oldAggregateOk [witnessEmpty, witnessNonEmpty] = false := by
  decide +kernel

/-! ## non-vacuity -/

/-- two different splits of the same three trials (k = 1): `[t₁,t₂] ++ [t₃]` in two entries vs
    `[t₃,t₁,t₂]` in one entry -/
def t₁ : Trial := ⟨[1, 0], false, true⟩
def t₂ : Trial := ⟨[0, 0], true, true⟩
def t₃ : Trial := ⟨[0, 1], false, false⟩
def splitA : List Entry := [Entry.ofTrials 0 (1/10) 1 (1/2) [t₁, t₂], Entry.ofTrials 0 (1/10) 1 (1/4) [t₃]]
def splitB : List Entry := [Entry.ofTrials 0 (1/10) 1 (3/4) [t₃, t₁, t₂]]

example : (pool splitA).Perm (pool splitB) := by decide
example : ∀ e ∈ splitA, e.WF ∧ e.HasWidth 2 := by
  intro e he
  simp only [splitA, List.mem_cons, List.not_mem_nil, or_false] at he
  rcases he with rfl | rfl <;> exact ⟨Entry.ofTrials_wf _ _ _ _ _, by unfold Entry.HasWidth; decide⟩
example : ∃ g, mkGroup (0, 100000) splitA = .ok g ∧ g.nTrials = 3 ∧ g.nFail = 2 ∧
    g.countFails true = .ok 1 ∧ g.countFails false = .ok 0 ∧ g.nTrialsSector = 2 :=
  ⟨_, rfl, by decide +kernel, by decide +kernel, by decide +kernel, by decide +kernel, by decide +kernel⟩
example : rintHalfEven ((1 / 10 : Rat) * 1000000) = 100000 := by decide +kernel

end Panqec.C15
