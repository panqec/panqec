/-
C17 for `Toric2DCode`, ALL sizes of the supported family (`Lx ≥ 2`, `Ly ≥ 2`, no upper bound):
the distance `code.d` reports is the true code distance, `min Lx Ly`.

The matrices are the ones the generic code model assembles from the hand-written lattice model
`Model/Lattices/Toric2DCode.lean` (tied to `panqec/codes/surface_2d/_toric_2d_code.py` by the
correspondence streams of `harness/lattices/toric2dcode.py`); they form a valid `[[2·Lx·Ly, 2]]`
code for every size (`C01Toric2DCode.valid_code`).

* `reported_distance` — `code.d` (`distance`, the minimum Pauli weight over the rows of
  `logicals_x` and `logicals_z`, as `StabilizerCode.d` computes it) is `min Lx Ly`; the four
  listed logicals have weights `Lx, Ly` (X) and `Ly, Lx` (Z) (`weights_listed`).
* `lower_bound` — every non-trivial logical operator has weight `≥ min Lx Ly`.  Packing argument
  (`Proofs/DistLattice.lean`, `Proofs/DistToric2DCode.lean`): a non-trivial logical anticommutes
  with one of the four listed lines (C04); that line of `Ly` (resp. `Lx`) qubits has `Lx` (resp.
  `Ly`) lattice translates with pairwise disjoint supports; consecutive translates differ by the
  product of the column / row of vertex (Z lines) or face (X lines) generators between them, so
  every operator commuting with all generators anticommutes with each translate exactly when it
  anticommutes with the line — its support meets every translate.
* `distance` — `IsDistance (2·Lx·Ly) H (min Lx Ly)`: some non-trivial logical operator has weight
  `min Lx Ly` and none is lighter; `distance_reported` states it for the reported `d`.
* `distance_deformed`, `distance_deformed_offered` — the same for EVERY DEFORMED code of the
  class (every name and axis `get_deformation` accepts: 'XZZX' / 'XY' along 'x' / 'y'), every
  size: the deformed getters assemble the relabelled rows, these form a valid code, `code.d`
  is `min Lx Ly` and that is the true distance (`C17.distance_deformation_invariant`: a
  per-qubit permutation of {X, Y, Z} preserves weight, commutation and span).
-/
import PanqecVerif.Properties.C01Toric2DCode
import PanqecVerif.Proofs.DistToric2DCode
import PanqecVerif.Proofs.Dist
import PanqecVerif.Proofs.DistDeform

namespace Panqec.C17Toric2DCode
open Panqec.Toric2DCode Panqec.Lat2D

/-- the rows of `logicals_x` have Pauli weights `[Lx, Ly]`, those of `logicals_z` `[Ly, Lx]` —
    every `Lx, Ly ≥ 2` -/
theorem weights_listed (Lx Ly : Nat) (hx : 2 ≤ Lx) (hy : 2 ≤ Ly) :
    (lattice Lx Ly).rowsX.map pauliWeight = [Lx, Ly] ∧
    (lattice Lx Ly).rowsZ.map pauliWeight = [Ly, Lx] :=
  Toric2DCode.weights_listed hx hy

/-- what `code.d` returns — the minimum weight over the listed logical operators — is
    `min Lx Ly`, every `Lx, Ly ≥ 2` -/
theorem reported_distance (Lx Ly : Nat) (hx : 2 ≤ Lx) (hy : 2 ≤ Ly) :
    Panqec.distance (lattice Lx Ly).rowsX (lattice Lx Ly).rowsZ = some (min Lx Ly) :=
  Toric2DCode.reported_distance hx hy

/-- no non-trivial logical operator (commutes with every generator, is not a product of
    generators) of the `Lx × Ly` toric code is lighter than `min Lx Ly` — every `Lx, Ly ≥ 2` -/
theorem lower_bound (Lx Ly : Nat) (hx : 2 ≤ Lx) (hy : 2 ≤ Ly) :
    ∀ v, IsNontrivialLogical (2 * Lx * Ly) (lattice Lx Ly).rowsH v → min Lx Ly ≤ pauliWeight v :=
  Toric2DCode.lower_bound hx hy (C01Toric2DCode.valid_code Lx Ly hx hy).2.2.2

/-- THE C17 STATEMENT FOR ALL SIZES (`Lx, Ly ≥ 2`): the code distance of the `Lx × Ly` toric
    code — the minimum weight of a non-trivial logical operator of the assembled parity-check
    matrix — is `min Lx Ly` -/
theorem distance (Lx Ly : Nat) (hx : 2 ≤ Lx) (hy : 2 ≤ Ly) :
    IsDistance (2 * Lx * Ly) (lattice Lx Ly).rowsH (min Lx Ly) :=
  distance_criterion (C01Toric2DCode.valid_code Lx Ly hx hy).2.2.2 (min Lx Ly)
    (exists_listed_of_distance _ _ _ (reported_distance Lx Ly hx hy)) (lower_bound Lx Ly hx hy)

/-- the same, stated for whatever `code.d` reports: the reported distance exists and is the
    true distance -/
theorem distance_reported (Lx Ly : Nat) (hx : 2 ≤ Lx) (hy : 2 ≤ Ly) :
    ∃ d, Panqec.distance (lattice Lx Ly).rowsX (lattice Lx Ly).rowsZ = some d ∧
      IsDistance (2 * Lx * Ly) (lattice Lx Ly).rowsH d :=
  ⟨min Lx Ly, reported_distance Lx Ly hx hy, distance Lx Ly hx hy⟩

/-! ### deformed codes (`code.deform(name, deformation_axis=axis)`) -/

/-- the class offers the deformations 'XZZX' and 'XY' along the axes 'x' and 'y' (`none` = keyword
    omitted = the default 'y', `C01Toric2DCode.deformation_default_axis`): for these
    `get_deformation` is defined on every qubit of every lattice (for any other name or axis it
    raises, `C01Toric2DCode.deformation_rule_bad_name` / `deformation_rule_bad_axis`) -/
theorem deformation_defined (Lx Ly : Nat) (name : String) (axis : Option String)
    (hn : name = "XZZX" ∨ name = "XY") (ha : axis = none ∨ axis = some "x" ∨ axis = some "y")
    (q : Coord) (hq : q ∈ (lattice Lx Ly).qubits) : ∃ m, getDeformation name axis q = some m := by
  have key : ∀ a : String, a = "x" ∨ a = "y" → ∃ m, getDeformation name (some a) q = some m := by
    intro a ha'
    rcases hn with rfl | rfl
    · exact ⟨_, C01Toric2DCode.deformation_rule_on_qubits Lx Ly a q ha' hq⟩
    · exact ⟨_, C01Toric2DCode.deformation_rule_XY a q ha'⟩
  rcases ha with rfl | rfl | rfl
  · rw [C01Toric2DCode.deformation_default_axis]; exact key "y" (Or.inr rfl)
  · exact key "x" (Or.inl rfl)
  · exact key "y" (Or.inr rfl)

/-- THE C17 STATEMENT FOR EVERY DEFORMED CODE OF THE CLASS, ALL SIZES (`Lx, Ly ≥ 2`): for every
    deformation name and axis for which `get_deformation` is defined on the qubits (`D q` = the
    relabelling it returns on `q`), the matrices the deformed getters assemble are the
    relabelled rows, they form a valid `[[n, 2]]` code, `code.d` reports `min Lx Ly`, and
    `min Lx Ly` is the true distance of the deformed code -/
theorem distance_deformed (Lx Ly : Nat) (hx : 2 ≤ Lx) (hy : 2 ≤ Ly) (name : String)
    (axis : Option String) (D : Coord → PauliMap)
    (hD : ∀ q ∈ (lattice Lx Ly).qubits, getDeformation name axis q = some (D q)) :
    stabilizerMatrix ((lattice Lx Ly).toCodeData.deform D) =
        some ((lattice Lx Ly).rowsH.map (deformBsf ((lattice Lx Ly).qubits.map D))) ∧
    logicalsX ((lattice Lx Ly).toCodeData.deform D) =
        some ((lattice Lx Ly).rowsX.map (deformBsf ((lattice Lx Ly).qubits.map D))) ∧
    logicalsZ ((lattice Lx Ly).toCodeData.deform D) =
        some ((lattice Lx Ly).rowsZ.map (deformBsf ((lattice Lx Ly).qubits.map D))) ∧
    ValidCodeL (2 * Lx * Ly) 2
      ((lattice Lx Ly).rowsH.map (deformBsf ((lattice Lx Ly).qubits.map D)))
      ((lattice Lx Ly).rowsX.map (deformBsf ((lattice Lx Ly).qubits.map D)))
      ((lattice Lx Ly).rowsZ.map (deformBsf ((lattice Lx Ly).qubits.map D))) ∧
    Panqec.distance ((lattice Lx Ly).rowsX.map (deformBsf ((lattice Lx Ly).qubits.map D)))
      ((lattice Lx Ly).rowsZ.map (deformBsf ((lattice Lx Ly).qubits.map D))) =
        some (min Lx Ly) ∧
    IsDistance (2 * Lx * Ly)
      ((lattice Lx Ly).rowsH.map (deformBsf ((lattice Lx Ly).qubits.map D))) (min Lx Ly) :=
  Lattice.deformed_distance (lattice Lx Ly) (C01Toric2DCode.wf Lx Ly hx hy)
    (C01Toric2DCode.n_formula Lx Ly) (C01Toric2DCode.valid_code Lx Ly hx hy).2.2.2
    (reported_distance Lx Ly hx hy) (distance Lx Ly hx hy) D
    (fun q hq => Lat2D.deformBy_isPerm (hD q hq))

/-- the relabelling `get_deformation(·, name, axis)` as a function of the location (identity
    where it raises — nowhere on the qubits for the offered names and axes) -/
def deformationOf (name : String) (axis : Option String) (q : Coord) : PauliMap :=
  (getDeformation name axis q).getD PauliMap.id

/-- the deformed code of every offered name and axis has distance `min Lx Ly` — every size -/
theorem distance_deformed_offered (Lx Ly : Nat) (hx : 2 ≤ Lx) (hy : 2 ≤ Ly)
    (name : String) (axis : Option String) (hn : name = "XZZX" ∨ name = "XY")
    (ha : axis = none ∨ axis = some "x" ∨ axis = some "y") :
    IsDistance (2 * Lx * Ly)
      ((lattice Lx Ly).rowsH.map
        (deformBsf ((lattice Lx Ly).qubits.map (deformationOf name axis)))) (min Lx Ly) :=
  (distance_deformed Lx Ly hx hy name axis (deformationOf name axis) (fun q hq => by
    obtain ⟨m, hm⟩ := deformation_defined Lx Ly name axis hn ha q hq
    unfold deformationOf
    rw [hm]; rfl)).2.2.2.2.2

/-! ### non-vacuity -/

example : IsDistance 24 (lattice 3 4).rowsH 3 := distance 3 4 (by decide) (by decide)
example : IsDistance 140 (lattice 10 7).rowsH 7 := distance 10 7 (by decide) (by decide)
/-- the hypothesis of `lower_bound` is satisfiable: the first listed logical X is a non-trivial
    logical operator, of weight `Lx` -/
example : IsNontrivialLogical 12 (lattice 2 3).rowsH ((lattice 2 3).rowsX.getD 0 []) :=
  listedX_nontrivial (C01Toric2DCode.valid_code 2 3 (by decide) (by decide)).2.2.2 (by decide)
example : (lattice 2 3).rowsX.map pauliWeight = [2, 3] :=
  (weights_listed 2 3 (by decide) (by decide)).1
/-- outside the family (`Lx = 1`) the model reports `d = 1` -/
example : Panqec.distance (lattice 1 2).rowsX (lattice 1 2).rowsZ = some 1 := by decide

/-- the XZZX code on the `3 × 4` lattice has distance 3; its first generator is relabelled -/
example : IsDistance 24 ((lattice 3 4).rowsH.map
    (deformBsf ((lattice 3 4).qubits.map (deformationOf "XZZX" (some "x"))))) 3 :=
  distance_deformed_offered 3 4 (by decide) (by decide) "XZZX" (some "x") (Or.inl rfl) (Or.inr (Or.inl rfl))
example : ((lattice 2 2).rowsH.map
    (deformBsf ((lattice 2 2).qubits.map (deformationOf "XZZX" (some "x"))))) ≠ (lattice 2 2).rowsH := by
  decide

end Panqec.C17Toric2DCode
