/-
C03 (part) — `panqec/bsparse.py`: the binary-sparse helpers that the sparse operands of the binary
symplectic form go through.  Model: `Model/BSparse.lean` (a csr matrix = width, dtype, per row the stored
`(column, value)` pairs in storage order), tied to the implementation by the `bsparse-*` correspondence
streams of `harness/props/c03_bsparse.py`.  Helper lemmas: `Proofs/BSparse.lean`.

All statements are for every shape and every stored form (no size bound); hypotheses name exactly what a
statement needs (e.g. "duplicate-free column list"), and where the code deviates from the dense reading of
a matrix (explicitly stored zeros) that is stated as a theorem about a concrete witness.
-/
import PanqecVerif.Proofs.BSparse

namespace Panqec.C03BSparse

open Panqec Panqec.BSp

/-- `insert_mod2` accepts a csr matrix exactly when it has one row -/
theorem insert_mod2_accepts_rows_only (i : Nat) (m : Csr) :
    (∃ m', insertMod2 i (.csr m) = .ok m') ↔ m.rows.length = 1 := by
  unfold insertMod2
  by_cases h : m.rows.length = 1
  · simp [h]
  · simp [h]

/-- `insert_mod2(index, row)` flips what `is_one(index, ·)` answers and leaves `is_one(j, ·)` unchanged for
    every other `j` — for every stored form of the row (unsorted, duplicates, stored zeros, any dtype),
    also for an index outside the row. -/
theorem insert_mod2_toggles_exactly_index (i nc : Nat) (dt : DT) (r : List Entry) :
    ∃ m', insertMod2 i (.csr ⟨nc, dt, [r]⟩) = .ok m' ∧ m'.rows.length = 1 ∧ m'.ncols = nc ∧
      (∀ b, isOne i (.csr ⟨nc, dt, [r]⟩) = .ok b → isOne i (.csr m') = .ok (!b)) ∧
      (∀ j, j ≠ i → isOne j (.csr m') = isOne j (.csr ⟨nc, dt, [r]⟩)) := by
  refine ⟨_, insertMod2_row i nc dt r, rfl, rfl, ?_, ?_⟩
  · intro b hb
    rw [isOne_row] at hb ⊢
    rw [map_pair_fst]
    injection hb with hb
    subst hb
    rw [decide_mem_insCols_self]
  · intro j hj
    rw [isOne_row, isOne_row, map_pair_fst, decide_mem_insCols_other _ _ _ hj]

/-- `insert_mod2` twice with the same index gives back a row with the same `is_one` answers everywhere
    (involution on the set of stored columns). -/
theorem insert_mod2_involution (i nc : Nat) (dt : DT) (r : List Entry) :
    ∃ m' m'', insertMod2 i (.csr ⟨nc, dt, [r]⟩) = .ok m' ∧ insertMod2 i (.csr m') = .ok m'' ∧
      ∀ j, isOne j (.csr m'') = isOne j (.csr ⟨nc, dt, [r]⟩) := by
  refine ⟨_, _, insertMod2_row i nc dt r, insertMod2_row i nc .u8 _, ?_⟩
  intro j
  rw [isOne_row, isOne_row, map_pair_fst, map_pair_fst]
  by_cases hj : j = i
  · subst hj
    rw [decide_mem_insCols_self, decide_mem_insCols_self, Bool.not_not]
  · rw [decide_mem_insCols_other _ _ _ hj, decide_mem_insCols_other _ _ _ hj]

/-- on a row whose stored columns are distinct and whose stored values are ones (what `zero_row`,
    `from_array` of 0/1 data and `insert_mod2` itself produce) one `insert_mod2(i, ·)` toggles the dense
    value at column `i` and leaves the dense value of every other column as it was. -/
theorem insert_mod2_dense_toggle (i nc : Nat) (dt : DT) (cols : List Nat) (hn : cols.Nodup) (j : Nat) :
    ∃ m', insertMod2 i (.csr ⟨nc, dt, [cols.map fun c => (c, 1)]⟩) = .ok m' ∧
      ∀ r' ∈ m'.rows, denseVal .u8 r' j =
        if j = i then (if i ∈ cols then 0 else 1) else (if j ∈ cols then 1 else 0) := by
  have hr := map_pair_fst cols
  refine ⟨_, insertMod2_row i nc dt _, ?_⟩
  intro r' hr'
  simp only [List.mem_singleton] at hr'
  subst hr'
  rw [hr, denseVal_ones _ (insCols_nodup i cols hn)]
  simp only [mem_insCols]
  by_cases hj : j = i <;> by_cases hjc : j ∈ cols <;> simp_all

/-- Stored zeros are not binary zeros for these two functions: on the row `[0 0 0 0 1 0]` stored with an
    explicit zero at column 2, `is_one(2, ·)` answers True, and `insert_mod2(5, ·)` turns column 2 into a
    one (`to_array` goes from `000010` to `001011`). -/
theorem stored_zero_is_seen_as_one :
    isOne 2 (.csr ⟨6, .u8, [[(2, 0), (4, 1)]]⟩) = .ok true ∧
    toArray (.csr ⟨6, .u8, [[(2, 0), (4, 1)]]⟩) = .ok (.arr2 .u8 6 [[0, 0, 0, 0, 1, 0]]) ∧
    (insertMod2 5 (.csr ⟨6, .u8, [[(2, 0), (4, 1)]]⟩) >>= fun m => toArray (.csr m)) =
      .ok (.arr2 .u8 6 [[0, 0, 1, 0, 1, 1]]) := ⟨by decide, by decide, by decide⟩

/-- shape rule of `dot` on csr operands: one row each and equal widths, otherwise `ValueError` -/
theorem dot_shape_rule (a b : Csr) :
    BSp.dot (.csr a) (.csr b) =
      if a.rows.length = 1 ∧ b.rows.length = 1 ∧ a.ncols = b.ncols
      then .ok (nCommon a.indices b.indices % 2) else .error .valueError := by
  unfold BSp.dot
  by_cases h1 : a.rows.length = 1 <;> by_cases h2 : b.rows.length = 1 <;>
    by_cases h3 : a.ncols = b.ncols <;> simp [h1, h2, h3]

/-- `dot` counts, modulo 2, the columns that are STORED in both rows (each once, whatever the stored
    values and however often the column is stored) -/
theorem dot_counts_common_stored_columns (n : Nat) (dta dtb : DT) (ra rb : List Entry)
    (ha : ∀ e ∈ ra, e.1 < n) :
    BSp.dot (.csr ⟨n, dta, [ra]⟩) (.csr ⟨n, dtb, [rb]⟩) =
      .ok (((List.range n).filter fun c =>
        decide (c ∈ ra.map (·.1)) && decide (c ∈ rb.map (·.1))).length % 2) := by
  rw [dot_shape_rule]
  simp only [List.length_cons, List.length_nil, and_self, if_true, indices_single]
  rw [nCommon_eq_count n _ _ (by
    intro c hc
    rcases List.mem_map.mp hc with ⟨e, he, rfl⟩
    exact ha e he)]

/-- for binary rows (distinct in-range stored columns, stored values one) `dot` is the GF(2) inner product
    of the dense rows: the integer dot product of `Model/Bits.lean` reduced modulo 2 (the quantity the
    symplectic form `symp` is built from) -/
theorem dot_is_gf2_inner_product (n : Nat) (A B : List Nat) (hA : ∀ c ∈ A, c < n)
    (hnA : A.Nodup) (hnB : B.Nodup) :
    BSp.dot (.csr ⟨n, .u8, [A.map fun c => (c, 1)]⟩) (.csr ⟨n, .u8, [B.map fun c => (c, 1)]⟩) =
      .ok (Panqec.dot (denseRow .u8 n (A.map fun c => (c, 1))) (denseRow .u8 n (B.map fun c => (c, 1))) % 2) := by
  rw [dot_shape_rule]
  simp only [List.length_cons, List.length_nil, and_self, if_true, indices_single, map_pair_fst]
  rw [nCommon_eq_bitsDot n A B hA hnA hnB]

/-- with a stored zero `dot` differs from the inner product of the dense values:
    `a = [0 0 0 0 1 0]` stored as {2:0, 4:1}, `b = [0 0 1 0 1 0]`: dense inner product 1, `dot` = 0 -/
theorem dot_counts_stored_zeros :
    BSp.dot (.csr ⟨6, .u8, [[(2, 0), (4, 1)]]⟩) (.list1 [0, 0, 1, 0, 1, 0]) = .ok 0 ∧
    Panqec.dot (denseRow .u8 6 [(2, 0), (4, 1)]) [0, 0, 1, 0, 1, 0] % 2 = 1 := ⟨by decide, by decide⟩

/-- two csr matrices of one dtype are `equal` exactly when their `to_array` values are equal (shape
    included) — stored zeros, storage order and duplicates do not matter here -/
theorem equal_iff_same_dense (a b : Csr) (hdt : a.dt = b.dt) :
    equal (.csr a) (.csr b) = .ok true ↔ toArray (.csr a) = toArray (.csr b) := by
  rcases a with ⟨na, dta, A⟩
  rcases b with ⟨nb, dtb, B⟩
  simp only at hdt
  subst hdt
  have hp : DT.promote dta dta = dta := by cases dta <;> rfl
  simp only [equal, equalCsr, toArray, hp, Except.ok.injEq, Arg.arr2.injEq, true_and]
  by_cases hc : na = nb
  · subst hc
    by_cases hl : A.length = B.length
    · simp [hl]
    · have : A.map (denseRow dta na) ≠ B.map (denseRow dta na) :=
        fun h => hl (by simpa using congrArg List.length h)
      simp [hl, this]
  · simp [hc]

/-- matrices of different shapes are never `equal` -/
theorem equal_false_of_shape (a b : Csr) (h : a.rows.length ≠ b.rows.length ∨ a.ncols ≠ b.ncols) :
    equal (.csr a) (.csr b) = .ok false := by
  simp [equal, equalCsr, h]

/-- `equal(0, m)` (either argument order) holds exactly when NOTHING is stored in `m` -/
theorem equal_zero_iff_nothing_stored (m : Csr) :
    (equal (.int 0) (.csr m) = .ok true ↔ m.data = []) ∧
    equal (.csr m) (.int 0) = equal (.int 0) (.csr m) := by
  constructor
  · simp [equal, equalInt]
  · rfl

/-- … so a matrix that stores a zero is not `equal` to `0` although it is `equal` to `zero_row` and its
    `to_array` is all zero -/
theorem equal_zero_rejects_stored_zero :
    equal (.int 0) (.csr ⟨3, .u8, [[(1, 0)]]⟩) = .ok false ∧
    equal (.csr ⟨3, .u8, [[(1, 0)]]⟩) (.csr ⟨3, .u8, [[]]⟩) = .ok true ∧
    toArray (.csr ⟨3, .u8, [[(1, 0)]]⟩) = .ok (.arr2 .u8 3 [[0, 0, 0]]) := ⟨by decide, by decide, by decide⟩

/-- anything that is not csr/csr or csr/int is a `TypeError` -/
theorem equal_type_rule (x y : Arg) :
    equal x y = .error .typeError ↔
      ¬ ((x.isCsr ∧ y.isCsr) ∨ (x.isCsr ∧ ∃ k, y = .int k) ∨ (y.isCsr ∧ ∃ k, x = .int k)) := by
  cases x <;> cases y <;> simp [equal, Arg.isCsr]

/-- `hsplit` rejects exactly the odd widths (csr input) -/
theorem hsplit_error_rule (m : Csr) :
    (hsplit (.csr m) = .error .valueError ↔ m.ncols % 2 = 1) ∧
    ((∃ p, hsplit (.csr m) = .ok p) ↔ m.ncols % 2 = 0) := by
  unfold hsplit
  by_cases h : m.ncols % 2 = 0
  · have h' : ¬ m.ncols % 2 = 1 := by omega
    by_cases h1 : m.rows.length = 1 <;> simp [h, h1]
  · have h' : m.ncols % 2 = 1 := by omega
    simp [h']

/-- `hsplit(hstack([a, b])) = (a, b)` for `uint8` csr matrices of equal shape, the columns of `a` in range,
    more or fewer than one row: the stored form (order, duplicates, stored zeros) comes back unchanged -/
theorem hsplit_hstack_matrix (n : Nat) (A B : List (List Entry)) (hl : A.length = B.length)
    (hne : A.length ≠ 1) (hA : ∀ r ∈ A, ∀ e ∈ r, e.1 < n) :
    (hstack [.csr ⟨n, .u8, A⟩, .csr ⟨n, .u8, B⟩] >>= fun m => hsplit (.csr m)) =
      .ok (.csr ⟨n, .u8, A⟩, .csr ⟨n, .u8, B⟩) := by
  rw [hstack_two_u8 n n A B hl]
  show hsplit (.csr ⟨n + n, .u8, hcat2 n A B⟩) = _
  unfold hsplit
  have h2 : (n + n) % 2 = 0 := by omega
  have h3 : (n + n) / 2 = n := by omega
  simp only [h2, h3, ne_eq, not_true_eq_false, if_false, hcat2_length n A B hl, hne]
  rw [map_filter_lt_hcat2 n A B hl hA, map_filter_ge_hcat2 n A B hl hA]

/-- the same for single rows, where `hsplit` rebuilds both halves with stored values one: the round trip
    is the identity when the stored values are ones (binary rows) -/
theorem hsplit_hstack_row (n : Nat) (ca cb : List Nat) (ha : ∀ c ∈ ca, c < n) :
    (hstack [.csr ⟨n, .u8, [ca.map fun c => (c, 1)]⟩, .csr ⟨n, .u8, [cb.map fun c => (c, 1)]⟩]
        >>= fun m => hsplit (.csr m)) =
      .ok (.csr ⟨n, .u8, [ca.map fun c => (c, 1)]⟩, .csr ⟨n, .u8, [cb.map fun c => (c, 1)]⟩) := by
  rw [hstack_two_u8 n n [ca.map fun c => (c, 1)] [cb.map fun c => (c, 1)] rfl]
  show hsplit (.csr ⟨n + n, .u8,
    [(ca.map fun c => ((c, 1) : Entry)) ++ shiftRow n (cb.map fun c => (c, 1))]⟩) = _
  -- the stored columns are `ca ++ cb.map (· + n)`; filtering on `· < n` takes them apart again
  obtain ⟨f1, f2⟩ := filter_key_append (fun c => c) n ha (b := cb.map (· + n)) fun c hc => by
    obtain ⟨c', _, rfl⟩ := List.mem_map.mp hc
    exact Nat.le_add_left n c'
  have h2 : (n + n) % 2 = 0 := by omega
  have h3 : (n + n) / 2 = n := by omega
  simp [hsplit, h2, h3, indices_single, shiftRow, Function.comp_def, f1, f2]

/-- dense value of `hstack([a, b])`: every row is the concatenation of the dense rows -/
theorem hstack_dense (na nb : Nat) (A B : List (List Entry)) (hl : A.length = B.length)
    (hA : ∀ r ∈ A, ∀ e ∈ r, e.1 < na) :
    (hstack [.csr ⟨na, .u8, A⟩, .csr ⟨nb, .u8, B⟩] >>= fun m => toArray (.csr m)) =
      .ok (.arr2 .u8 (na + nb)
        (List.zipWith (· ++ ·) (A.map (denseRow .u8 na)) (B.map (denseRow .u8 nb)))) := by
  rw [hstack_two_u8 na nb A B hl]
  show toArray (.csr ⟨na + nb, .u8, hcat2 na A B⟩) = _
  unfold toArray
  simp only [map_denseRow_hcat2 na nb A B hl hA]

/-- `vstack` of csr blocks: `ValueError` exactly when a width differs from the first; otherwise a `uint8`
    matrix of that width whose rows are, in order, the rows of the blocks, each with its dense value
    reduced modulo 256 — for every mixture of dtypes and every stored form (the `sum_duplicates()` that
    scipy runs on the non-`uint8` path changes the stored form but not the dense value) -/
theorem vstack_dense (m0 : Csr) (ms : List Csr) :
    (ms.any (fun m => m.ncols ≠ m0.ncols) = true →
      vstack ((m0 :: ms).map Arg.csr) = .error .valueError) ∧
    (ms.any (fun m => m.ncols ≠ m0.ncols) = false →
      (vstack ((m0 :: ms).map Arg.csr) >>= fun m => toArray (.csr m)) =
        .ok (.arr2 .u8 m0.ncols ((m0.rows ++ ms.flatMap (·.rows)).map (denseRow .u8 m0.ncols)))) := by
  rw [vstack_csr]
  constructor
  · intro h; rw [if_pos h]
  · intro h
    rw [if_neg (by rw [h]; exact Bool.false_ne_true)]
    show toArray (.csr (finishStack m0.ncols (promoteAll m0.dt ms) (m0.rows ++ ms.flatMap (·.rows)))) = _
    unfold toArray
    simp only [finishStack_dt, finishStack_ncols, finishStack_dense]

/-- when every block is already `uint8` the stored form is kept as it is: plain concatenation of rows -/
theorem vstack_u8_is_concatenation (m0 : Csr) (ms : List Csr)
    (hw : ms.any (fun m => m.ncols ≠ m0.ncols) = false) (h0 : m0.dt = .u8) (hd : ∀ m ∈ ms, m.dt = .u8) :
    vstack ((m0 :: ms).map Arg.csr) = .ok ⟨m0.ncols, .u8, m0.rows ++ ms.flatMap (·.rows)⟩ := by
  rw [vstack_csr, if_neg (by rw [hw]; exact Bool.false_ne_true)]
  have : promoteAll m0.dt ms = .u8 := by
    unfold promoteAll
    rw [h0]
    clear hw h0
    induction ms with
    | nil => rfl
    | cons m ms ih =>
      rw [List.foldl_cons, hd m (by simp)]
      exact ih (fun m' hm' => hd m' (by simp [hm']))
  rw [this]; rfl

/-- the empty lists: `vstack([])` is a `ValueError`, `hstack([])` an `IndexError` -/
theorem stack_of_nothing : vstack [] = .error .valueError ∧ hstack [] = .error .indexError :=
  ⟨rfl, rfl⟩

/-- `to_array(from_array(M)) = M` for every rectangular `uint8` array `M` (any values below 256) -/
theorem to_array_from_array (nc : Nat) (rows : List (List Nat))
    (hw : ∀ r ∈ rows, r.length = nc) (hv : ∀ r ∈ rows, ∀ v ∈ r, v < 256) :
    (fromArray (.arr2 .u8 nc rows) >>= fun m => toArray (.csr m)) = .ok (.arr2 .u8 nc rows) := by
  show toArray (.csr ⟨nc, .u8, rows.map fromDenseRow⟩) = _
  unfold toArray
  simp only [List.map_map]
  congr 2
  conv => rhs; rw [← List.map_id rows]
  apply List.map_congr_left
  intro r hr
  simp only [Function.comp, id]
  rw [← hw r hr]
  exact denseRow_fromDenseRow r (hv r hr)

/-- lists go the same way as arrays, and a dense array is returned by `to_array` as it is -/
theorem from_array_list_eq_array (dt : DT) (nc : Nat) (rows : List (List Nat)) (v : List Nat) :
    fromArray (.list2 nc rows) = fromArray (.arr2 dt nc rows) ∧
    fromArray (.list1 v) = fromArray (.arr1 dt v) ∧
    toArray (.arr2 dt nc rows) = .ok (.arr2 dt nc rows) ∧ toArray (.arr1 dt v) = .ok (.arr1 dt v) :=
  ⟨rfl, rfl, rfl, rfl⟩

/-- `from_array` never stores a value that was zero before the cast, but does store what the `uint8` cast
    turns into zero: `[0, 256, 257, 3]` becomes the stored row {1:0, 2:1, 3:3} -/
theorem from_array_stores_wrapped_zero :
    fromArray (.list1 [0, 256, 257, 3]) = .ok ⟨4, .u8, [[(1, 0), (2, 1), (3, 3)]]⟩ := by decide

/-- `zero_row`, `zero_matrix`, `empty_row`: nothing stored, `uint8`, the requested shape; `to_array` is all
    zero; only `empty_row` (and `zero_matrix` with zero rows) `is_empty`; all are `equal` to `0` -/
theorem zero_constructors (n r c : Nat) :
    zeroRow n = .ok ⟨n, .u8, [[]]⟩ ∧
    zeroMatrix [r, c] = .ok ⟨c, .u8, List.replicate r []⟩ ∧
    emptyRow n = .ok ⟨n, .u8, []⟩ ∧
    isEmpty (.csr ⟨n, .u8, [[]]⟩) = .ok false ∧
    isEmpty (.csr ⟨n, .u8, []⟩) = .ok true ∧
    isEmpty (.csr ⟨c, .u8, List.replicate r []⟩) = .ok (r == 0) ∧
    toArray (.csr ⟨n, .u8, [[]]⟩) = .ok (.arr2 .u8 n [List.replicate n 0]) ∧
    equal (.int 0) (.csr ⟨c, .u8, List.replicate r []⟩) = .ok true ∧
    (∀ i, isOne i (.csr ⟨c, .u8, List.replicate r []⟩) = .ok false) := by
  refine ⟨?_, ?_, ?_, rfl, rfl, ?_, ?_, ?_, ?_⟩
  · simp [zeroRow]
  · simp [zeroMatrix]
  · simp [emptyRow]
  · simp [isEmpty]
  · simp only [toArray, List.map_cons, List.map_nil, denseRow]
    congr 3
    apply List.ext_getElem <;> simp [denseVal, colSum, castRow, reduceIn]
  · simp [equal, equalInt, Csr.data]
  · intro i
    simp [isOne, Csr.indices]

/-- negative sizes are `ValueError`s; a shape that is not a pair is an error too -/
theorem constructors_reject (n : Int) (hn : n < 0) (k : Int) :
    zeroRow n = .error .valueError ∧ emptyRow n = .error .valueError ∧
    zeroMatrix [n, k] = .error .valueError ∧ zeroMatrix [k, n] = .error .valueError ∧
    zeroMatrix [] = .error .typeError ∧ zeroMatrix [k] = .error .valueError := by
  refine ⟨by simp [zeroRow, hn], by simp [emptyRow, hn], by simp [zeroMatrix, hn],
    by simp [zeroMatrix, hn], rfl, rfl⟩

/-- `is_sparse` is true for csr only; `is_empty` looks at the number of rows only -/
theorem is_sparse_is_empty (m : Csr) (dt : DT) (v : List Nat) (nc : Nat) (rows : List (List Nat)) :
    isSparse (.csr m) = true ∧ isSparse (.arr1 dt v) = false ∧ isSparse (.arr2 dt nc rows) = false ∧
    isSparse (.list1 v) = false ∧ isSparse (.list2 nc rows) = false ∧
    isEmpty (.csr m) = .ok (m.rows.length == 0) ∧ isEmpty (.arr2 dt nc rows) = .ok (rows.length == 0) :=
  ⟨rfl, rfl, rfl, rfl, rfl, rfl, rfl⟩

/-! non-vacuity -/

example : insertMod2 1 (.csr ⟨6, .i64, [[(3, 0), (1, 1), (1, 1), (0, 2)]]⟩) =
    .ok ⟨6, .u8, [[(0, 1), (3, 1)]]⟩ := by decide
example : insertMod2 5 (.csr ⟨6, .u8, [[(4, 1), (2, 1)]]⟩) = .ok ⟨6, .u8, [[(4, 1), (2, 1), (5, 1)]]⟩ := by
  decide
example : BSp.dot (.csr ⟨6, .u8, [[(4, 1), (2, 1), (5, 1)]]⟩) (.list1 [0, 0, 1, 0, 1, 0]) = .ok 0 := by decide
example : BSp.dot (.csr ⟨6, .u8, [[(4, 1), (2, 1), (5, 1)]]⟩) (.arr1 .i64 [1, 0, 0, 0, 1, 0]) = .ok 1 := by decide
example : BSp.dot (.csr ⟨6, .u8, [[(4, 1)]]⟩) (.csr ⟨5, .u8, [[(4, 1)]]⟩) = .error .valueError := by decide
example : equal (.csr ⟨3, .u8, [[(1, 200), (1, 100), (0, 1)]]⟩) (.csr ⟨3, .u8, [[(0, 1), (1, 44)]]⟩) = .ok true := by
  decide
example : equal (.csr ⟨3, .u8, [[(1, 200), (1, 100), (0, 1)]]⟩) (.csr ⟨3, .i64, [[(0, 1), (1, 300)]]⟩) = .ok true := by
  decide
example : hsplit (.csr ⟨5, .u8, [[]]⟩) = .error .valueError := by decide
example : (hstack [.csr ⟨2, .u8, [[(1, 1), (0, 0)], []]⟩, .csr ⟨2, .u8, [[(1, 7)], [(0, 1), (0, 1)]]⟩]
    >>= fun m => hsplit (.csr m)) =
    .ok (.csr ⟨2, .u8, [[(1, 1), (0, 0)], []]⟩, .csr ⟨2, .u8, [[(1, 7)], [(0, 1), (0, 1)]]⟩) := by decide
example : vstack [.csr ⟨3, .i64, [[(2, 300), (2, 1), (0, 256)]]⟩, .csr ⟨3, .u8, [[(1, 1)]]⟩] =
    .ok ⟨3, .u8, [[(0, 0), (2, 45)], [(1, 1)]]⟩ := by decide
example : (fromArray (.arr2 .u8 3 [[0, 255, 1], [0, 0, 0]]) >>= fun m => toArray (.csr m)) =
    .ok (.arr2 .u8 3 [[0, 255, 1], [0, 0, 0]]) := by decide

end Panqec.C03BSparse
