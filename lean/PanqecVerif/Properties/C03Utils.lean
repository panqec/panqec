/-
C03 (part) — the pure integer / list helpers of `panqec/utils.py` (`list_where`, `list_where_str`,
`set_where`, `dict_where`, `nested_map`, `face_coords`, `edge_coords`, `find_nearest`).
Model: `Model/UtilsPure.lean`, tied to the implementation by the stream `utils-pure-helpers`
(`harness/props/c03_utils.py`).  Helper lemmas: `Proofs/UtilsPure.lean`.
-/
import PanqecVerif.Proofs.UtilsPure

namespace Panqec.C03Utils

open Panqec.UtilsPure

/-- `list_where` of a 1-D array returns exactly the index tuples `(i,)` of its nonzero entries -/
theorem list_where_exact (v : List Int) (t : List Nat) :
    t ∈ listWhere1 v ↔ ∃ i, t = [i] ∧ i < v.length ∧ v.getD i 0 ≠ 0 := by
  unfold listWhere1
  rw [List.mem_map]
  constructor
  · rintro ⟨i, hi, rfl⟩
    have := (mem_idxNonzero 0 i v).mp hi
    exact ⟨i, rfl, by simpa using this.2.1, by simpa using this.2.2⟩
  · rintro ⟨i, rfl, h1, h2⟩
    exact ⟨i, (mem_idxNonzero 0 i v).mpr ⟨Nat.zero_le _, by simpa using h1, by simpa using h2⟩, rfl⟩

/-- … in ascending order without repetition (what `sorted` produces) -/
theorem list_where_sorted (v : List Int) :
    (listWhere1 v).Pairwise (fun s t => ∃ i j, s = [i] ∧ t = [j] ∧ i < j) := by
  unfold listWhere1
  rw [List.pairwise_map]
  exact (idxNonzero_sorted 0 v).imp (fun {a b} h => ⟨a, b, rfl, rfl, h⟩)

/-- `list_where` of a 2-D array: the pairs `(i, j)` of row `i`, preceded by those of the rows above -/
theorem list_where_2d_rows (r : List Int) (rs : List (List Int)) (i : Nat) :
    listWhere2Aux i (r :: rs) = (idxNonzero 0 r).map (fun j => [i, j]) ++ listWhere2Aux (i + 1) rs := rfl

/-- `dict_where` returns exactly the keys whose value is truthy -/
theorem dict_where_exact (d : List (Nat × Int)) (k : Nat) :
    k ∈ dictWhere d ↔ ∃ v, (k, v) ∈ d ∧ v ≠ 0 := by
  unfold dictWhere
  simp only [List.mem_map, List.mem_filter, decide_eq_true_eq]
  constructor
  · rintro ⟨⟨k', v⟩, ⟨h1, h2⟩, rfl⟩; exact ⟨v, h1, h2⟩
  · rintro ⟨v, h1, h2⟩; exact ⟨(k, v), ⟨h1, h2⟩, rfl⟩

/-- `find_nearest` raises on an empty array and otherwise returns an element of the array at minimal
    distance from the value -/
theorem find_nearest_is_nearest (arr : List Int) (x : Int) :
    (arr = [] → findNearest arr x = .error .valueError) ∧
    (arr ≠ [] → ∃ r, findNearest arr x = .ok r ∧ r ∈ arr ∧ ∀ a ∈ arr, (r - x).natAbs ≤ (a - x).natAbs) := by
  constructor
  · rintro rfl; rfl
  · intro h
    cases arr with
    | nil => exact absurd rfl h
    | cons a as => exact ⟨_, rfl, (nearestAux_spec x a as).1, (nearestAux_spec x a as).2⟩

/-- on two concrete arrays: of two elements at the same minimal distance the earlier one is returned
    (numpy `argmin`) -/
theorem find_nearest_first_minimum : findNearest [5, 1, 9, 3] 4 = .ok 5 ∧ findNearest [3, 1, 9, 5] 4 = .ok 3 := by
  decide

/-- `face_coords` / `edge_coords` for positive sizes and a valid axis: every output coordinate lies in
    `[0, 2·size)`, is congruent to `2·(x,y,z) + offset` modulo `2·size`, and has the parity of the offset -/
theorem coords_one (diff : Nat → List Int) (d0 d1 d2 : Int) (i x y z a b c : Int) (k : Nat)
    (hk : pyIndex3 i = some k) (hd : diff k = [d0, d1, d2]) (ha : 0 < a) (hb : 0 < b) (hc : 0 < c) :
    ∃ p q r, coordOne diff [a, b, c] [i, x, y, z] = .ok [p, q, r] ∧
      (0 ≤ p ∧ p < 2 * a ∧ p % 2 = (2 * x + d0) % 2 ∧ (2 * a) ∣ (2 * x + d0 - p)) ∧
      (0 ≤ q ∧ q < 2 * b ∧ q % 2 = (2 * y + d1) % 2 ∧ (2 * b) ∣ (2 * y + d1 - q)) ∧
      (0 ≤ r ∧ r < 2 * c ∧ r % 2 = (2 * z + d2) % 2 ∧ (2 * c) ∣ (2 * z + d2 - r)) := by
  refine ⟨npMod (2 * x + d0) (2 * a), npMod (2 * y + d1) (2 * b), npMod (2 * z + d2) (2 * c), ?_,
    npMod_spec _ a ha, npMod_spec _ b hb, npMod_spec _ c hc⟩
  simp [coordOne, hk, limOf, hd]

/-- a face has exactly two odd coordinates, an edge exactly one (positive sizes, valid axis) -/
theorem face_two_odd_edge_one_odd (i x y z a b c : Int) (k : Nat) (hk : pyIndex3 i = some k)
    (ha : 0 < a) (hb : 0 < b) (hc : 0 < c) :
    (∃ p q r, coordOne faceDiff [a, b, c] [i, x, y, z] = .ok [p, q, r] ∧ p % 2 + q % 2 + r % 2 = 2) ∧
    (∃ p q r, coordOne edgeDiff [a, b, c] [i, x, y, z] = .ok [p, q, r] ∧ p % 2 + q % 2 + r % 2 = 1) := by
  have hk3 : k = 0 ∨ k = 1 ∨ k = 2 := by
    unfold pyIndex3 at hk
    split at hk
    · injection hk with hk; omega
    · split at hk
      · injection hk with hk; omega
      · cases hk
  rcases hk3 with rfl | rfl | rfl
  · exact ⟨coordOne_parity faceDiff 0 1 1 i x y z a b c 0 hk rfl ha hb hc,
      coordOne_parity edgeDiff 1 0 0 i x y z a b c 0 hk rfl ha hb hc⟩
  · exact ⟨coordOne_parity faceDiff 1 0 1 i x y z a b c 1 hk rfl ha hb hc,
      coordOne_parity edgeDiff 0 1 0 i x y z a b c 1 hk rfl ha hb hc⟩
  · exact ⟨coordOne_parity faceDiff 1 1 0 i x y z a b c 2 hk rfl ha hb hc,
      coordOne_parity edgeDiff 0 0 1 i x y z a b c 2 hk rfl ha hb hc⟩

/-- error rule of one item: wrong tuple length, then axis outside `-3..2`, then a size that does not
    broadcast against three coordinates -/
theorem coords_error_rule (diff : Nat → List Int) (size item : List Int) :
    (item.length ≠ 4 → coordOne diff size item = .error .valueError) ∧
    (∀ i x y z, item = [i, x, y, z] → pyIndex3 i = none → coordOne diff size item = .error .indexError) ∧
    (∀ i x y z k, item = [i, x, y, z] → pyIndex3 i = some k → size.length ≠ 1 → size.length ≠ 3 →
      coordOne diff size item = .error .valueError) := by
  refine ⟨?_, ?_, ?_⟩
  · intro h
    match item, h with
    | [], _ => rfl
    | [_], _ => rfl
    | [_, _], _ => rfl
    | [_, _, _], _ => rfl
    | [_, _, _, _], h => exact absurd rfl h
    | _ :: _ :: _ :: _ :: _ :: _, _ => rfl
  · rintro i x y z rfl hk; simp [coordOne, hk]
  · rintro i x y z k rfl hk h1 h3
    have : limOf size = none := by
      match size, h1, h3 with
      | [], _, _ => rfl
      | [_], h1, _ => exact absurd rfl h1
      | [_, _], _, _ => rfl
      | [_, _, _], _, h3 => exact absurd rfl h3
      | _ :: _ :: _ :: _ :: _, _, _ => rfl
    simp [coordOne, hk, this]

/-- `nested_map` keeps the nesting, applies the function to every leaf: identity and composition laws -/
theorem nested_map_functor (f g : Int → Int) (x : NL) (xs : List NL) :
    NL.map (fun v => v) x = x ∧ NL.map f (NL.map g x) = NL.map (fun v => f (g v)) x ∧
    NL.map f (.node xs) = .node (xs.map (NL.map f)) ∧ NL.map f (.leaf 3) = .leaf (f 3) := by
  refine ⟨NL.map_id x, NL.map_comp f g x, ?_, ?_⟩
  · rw [NL.map, NL.mapList_eq_map]
  · rw [NL.map]

/-! non-vacuity -/

example : listWhere1 [0, 2, 0, -1] = [[1], [3]] := by decide
example : listWhere2 [[0, 1], [1, 1]] = [[0, 1], [1, 0], [1, 1]] := by decide
example : whereStr (listWhere2 [[0, 0, 0, 0, 0, 0, 0, 0, 0, 0, 0, 0, 1], [1, 0]]) = "012 10" := by decide
example : dictWhere [(3, 1), (1, 0), (2, -1), (0, 1)] = [3, 2, 0] := by decide
example : faceCoords [[0, 1, 2, 3], [-1, 0, 0, 0], [2, -1, -1, -1]] [2, 3, 4] =
    .ok [[2, 5, 7], [1, 1, 0], [3, 5, 6]] := by decide
example : edgeCoords [[0, 1, 2, 3], [-1, 0, 0, 0], [2, -1, -1, -1]] [2, 3, 4] =
    .ok [[3, 4, 6], [0, 0, 1], [2, 4, 7]] := by decide
example : faceCoords [[3, 1, 2, 3]] [2, 3, 4] = .error .indexError := by decide
example : pyIndex3 (-1) = some 2 := by decide

end Panqec.C03Utils
