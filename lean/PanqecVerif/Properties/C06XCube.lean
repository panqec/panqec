/-
C06 for `XCubeMatchingDecoder`: decoding is a pure function of the syndrome.

Model: `Model/XCubeDecoder.lean`.  All attributes set by `__init__` (the three toric codes, the
three `MatchingDecoder`s, weights, matrices) are immutable in `decode`; the only mutable object
reachable from the decoder is the BP-OSD decoder `self.z_decoder` (lazily initialised ldpc
objects, channel probabilities, result buffers), modelled by the state `BpSt` of
`Model/Decoders.lean` and threaded through the calls.

Proved: after every history of `decode` calls (any syndromes, any lengths, raising calls included,
any lattice size, deformed or not, any solver answers) the value or exception of `decode` is
`pureDecode`, a function of the immutable attributes and the syndrome only; a call whose matching
part raises leaves the BP-OSD decoder untouched.

The caller's syndrome: the model takes the syndrome by value; `maskX` / `restoreX` are the values
of the *copy* `decode` works on (since 6c6d144).  That the real numpy array handed in is left
untouched is compared before/after every call by the harness (tested), and the vector the code
used to write into it differs from the caller's in general (`example` below).
-/
import PanqecVerif.Proofs.XCubeDecValid
import PanqecVerif.Properties.C06

namespace Panqec.C06XCube

open Panqec Panqec.XCube

variable {W : Type}

/-- **History independence.**  For every decoder object, every history `hist` of earlier `decode`
    calls on it and every syndrome `s`, the correction or exception returned for `s` is
    `pureDecode d s`. -/
theorem xcube_history_independent (solve : WSolver W) (S : BpSolver) (castEv : Event Rat → Event W)
    (order : List Int → List Int) (d : XCubeDec W) (hist : List Vec) (s : Vec) :
    (d.decode solve S castEv order (d.run solve S castEv order BpSt.init hist) s).2.val =
      pureDecode solve S order d s :=
  (decode_eq_pure solve S castEv order d _
    (run_good solve S castEv order d hist BpSt.init d.zdec.good_init) s).1

/-- a reused object and a fresh object return the same correction (or raise the same exception) -/
theorem xcube_reused_eq_fresh (solve : WSolver W) (S : BpSolver) (castEv : Event Rat → Event W)
    (order : List Int → List Int) (d : XCubeDec W) (hist : List Vec) (s : Vec) :
    (d.decode solve S castEv order (d.run solve S castEv order BpSt.init hist) s).2.val =
      (d.decode solve S castEv order BpSt.init s).2.val := by
  rw [xcube_history_independent solve S castEv order d hist s,
    ← xcube_history_independent solve S castEv order d [] s]
  rfl

/-- the ldpc objects' buffers and channel probabilities never reach the output: two reachable
    states give the same result -/
theorem xcube_ignores_bposd_buffers (solve : WSolver W) (S : BpSolver) (castEv : Event Rat → Event W)
    (order : List Int → List Int) (d : XCubeDec W) (st st' : BpSt) (h : d.zdec.Good st)
    (h' : d.zdec.Good st') (s : Vec) :
    (d.decode solve S castEv order st s).2.val = (d.decode solve S castEv order st' s).2.val := by
  rw [(decode_eq_pure solve S castEv order d st h s).1, (decode_eq_pure solve S castEv order d st' h' s).1]

/-- a call whose matching part raises (e.g. the `KeyError` of `XCubeDec.old`, finding D16) does not touch the
    BP-OSD decoder: the object is exactly as before the call -/
theorem xcube_raising_call_leaves_state (solve : WSolver W) (S : BpSolver)
    (castEv : Event Rat → Event W) (order : List Int → List Int) (d : XCubeDec W) (st : BpSt)
    (s : Vec) (e : XErr) (h : (matchingPart solve order d s).val = .error e) :
    (d.decode solve S castEv order st s).1 = st :=
  (decode_matching_error solve S castEv order d st s e h).2

/-- what the matching part sees is the masked copy, what BP-OSD sees is the restored copy; the
    X-row part of the restored copy is the caller's -/
theorem xcube_restored_copy_keeps_x_rows (H : Mat) (s : Vec) :
    extractXSyndrome H (restoreX H s) = extractXSyndrome H s :=
  extractX_restoreX H s

/-! ### non-vacuity / regression -/

/-- the copies differ from the caller's syndrome (writing them into the caller's array was the
    defect fixed in 6c6d144): on the matrix (XX, ZZ) with syndrome (1, 1) -/
example : maskX [[1, 1, 0, 0], [0, 0, 1, 1]] [1, 1] = [0, 1] ∧
    restoreX [[1, 1, 0, 0], [0, 0, 1, 1]] [1, 1] = [1, 0] := by decide

end Panqec.C06XCube
