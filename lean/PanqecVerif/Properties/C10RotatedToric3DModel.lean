/-
C10 — companion of `Properties/C10.lean`: the lattice data of RotatedToric3DCode.

The C10 theorems about RotatedToric3DCode (`rotated_toric3D_flip_table_ok`, `…_sweep_tracks`, …) are
stated on the lattice record `Sweep.rotToric3D` of `Model/SweepLattices.lean`.  This file ties that
record, for every size, to the hand-written lattice model of the class that C01 / C17 verify
(`Model/Lattices/RotatedToric3DCode.lean`).  Kept in a file of its own because the two models
both call their record `Lattice`.  The lemmas are in `Proofs/SweepRotToricBridge.lean`.
-/
import PanqecVerif.Proofs.SweepRotToricBridge

namespace Panqec.C10

open Panqec.Sweep

/-- ONE OBJECT.  The lattice data of RotatedToric3DCode used by the C10 theorems
    (`Model/SweepLattices.lean`) is, for every size, the hand-written lattice model of C01 / C17
    (`Model/Lattices/RotatedToric3DCode.lean`, the subject of `C01RotatedToric3DCode.valid_code`,
    `stabilizer_letter_rule`, …): the same qubit and stabilizer coordinates in the same order, the
    same `stabilizer_type`, and for every stabilizer the same `get_stabilizer` dict (same keys in
    the same order, same letters, on and off the defect lines). -/
theorem rotated_toric3D_lattice_is_the_C01_model (Lx Ly Lz : Nat) :
    (rotToric3D Lx Ly Lz).qubits.map toCoord = (Panqec.RotatedToric3DCode.lattice Lx Ly Lz).qubits ∧
    (rotToric3D Lx Ly Lz).stabs.map toCoord = (Panqec.RotatedToric3DCode.lattice Lx Ly Lz).stabs ∧
    (∀ s ∈ (rotToric3D Lx Ly Lz).stabs,
      toCOp ((rotToric3D Lx Ly Lz).stabOp s) =
        (Panqec.RotatedToric3DCode.lattice Lx Ly Lz).getStab (toCoord s)) ∧
    (∀ s ∈ (rotToric3D Lx Ly Lz).stabs,
      Panqec.RotatedToric3DCode.stabilizerType Lx Ly Lz (toCoord s) =
        some (if (rotToric3D Lx Ly Lz).isFace s then "face" else "vertex")) :=
  ⟨rotToric_qubits_agree Lx Ly Lz, rotToric_stabs_agree Lx Ly Lz,
    fun s hs => rotToric_stabOp_agree Lx Ly Lz s hs,
    fun s hs => rotToric_stabilizerType_agree Lx Ly Lz s hs⟩

/-- non-vacuity: the odd × even lattice 2×3×2 has 15 qubits and 16 stabilizers, 10 of them of
    type `'face'` -/
example : (rotToric3D 2 3 2).qubits.length = 15 ∧ (rotToric3D 2 3 2).stabs.length = 16 ∧
    ((rotToric3D 2 3 2).stabs.filter (rotToric3D 2 3 2).isFace).length = 10 := by decide +kernel

end Panqec.C10
