/-
C01 (lattice part) — `RotatedPlanar3DCode` is a well-formed stabilizer-code specification whose
operators satisfy every commutation clause of C01, for EVERY lattice size in the supported family
`L_x, L_y, L_z ≥ 1` (no bound on the size).

The model `Model/Lattices/RotatedPlanar3DCode.lean` is a hand-written transcription of
`panqec/codes/surface_3d/_rotated_planar_3d_code.py` as functions of the size; it is tied to the
implementation by the correspondence streams of `harness/lattices/rotatedplanar3dcode.py`.
Property theorems only; the lemmas are in `Proofs/LatRotatedPlanar3DCode*.lean`.

Rank clause, for all sizes: all vertices, the horizontal faces of the bottom layer `z = 1` and all
vertical faces are independent (`generators_independent`, via a triangular family of single-qubit
probes, `Proofs/LatRotatedPlanar3DCodeRank.lean`) and there are exactly `n − k = n − 1` of them
(`generators_count`: one layer of the rotated planar code has `Lx·Ly − 1` vertices and faces).
`valid_code` puts everything together through the generic bridges `Proofs/OpComm.lean`
(`symp (to_bsf a) (to_bsf b) = opAntiCount a b mod 2` ⇒ `CommPairL` of the assembled rows) and
`Proofs/LatRankBridge.lean` (operator-level independent sub-family of `n − k` generators ⇒
`HasRank (2n) rowsH (n − k)`): the matrices that `stabilizer_matrix`, `logicals_x`, `logicals_z` of
the generic code model (`Model/Code.lean`, C02) assemble from this lattice model form a valid
`[[n, 1]]` stabilizer code (`ValidCodeL`: all four clauses of C01, rank included) for EVERY size of
the family.

The family (`selStabs`) is defined in the Mathlib-free model file, printed by the driver op `rankfamily` and
evaluated on the IMPLEMENTATION's parity-check matrix on every run (stream
`lat-RotatedPlanar3DCode-rank-family`: members `n − k`, all distinct stabilizer locations, GF(2) rank
`n − k`).  `deformation_default_axis`: the default `deformation_axis='z'` of the signature (stream cases
with the keyword omitted).
-/
import PanqecVerif.Proofs.LatRotatedPlanar3DCodeCss
import PanqecVerif.Proofs.LatRotatedPlanar3DCodeCount
import PanqecVerif.Proofs.LatRotatedPlanar3DCodeRankCount
import PanqecVerif.Proofs.LatRankBridge

namespace Panqec.C01RotatedPlanar3DCode

open Panqec Panqec.RotatedPlanar3DCode Panqec.Lat2D

/-- Coordinates are distinct, qubit and stabilizer coordinates are disjoint, every stabilizer and
    logical operator is a dict (distinct keys) supported on qubits with letters X/Y/Z, and no
    stabilizer is empty — for every size. -/
theorem wf (Lx Ly Lz : Nat) (hx : 1 ≤ Lx) (hy : 1 ≤ Ly) (hz : 1 ≤ Lz) : (lattice Lx Ly Lz).WF :=
  RotatedPlanar3DCode.wf Lx Ly Lz hx hy hz

/-- All pairs of stabilizer generators commute, both logical operators commute with every
    generator, logical X and logical Z anticommute (pairing table = identity), and the logical X's
    (Z's) commute among themselves — for every size. -/
theorem commPair (Lx Ly Lz : Nat) (hx : 1 ≤ Lx) (hy : 1 ≤ Ly) (hz : 1 ≤ Lz) :
    (lattice Lx Ly Lz).CommPair :=
  RotatedPlanar3DCode.commPair Lx Ly Lz hx hy hz

/-- `n = Lx·Ly·Lz` horizontal qubits plus `(Lz - 1)` layers of vertical qubits, one at each point of
    the checkerboard `{(i, j) : 1 ≤ i ≤ Lx-1, 0 ≤ j ≤ Ly, i + j odd}` -/
theorem n_formula (Lx Ly Lz : Nat) :
    (lattice Lx Ly Lz).toCodeData.n =
      Lx * Ly * Lz + ((Lx / 2) * (Ly / 2 + 1) + ((Lx - 1) / 2) * ((Ly + 1) / 2)) * (Lz - 1) :=
  length_qubits Lx Ly Lz

/-- exactly one logical qubit -/
theorem k_value (Lx Ly Lz : Nat) : (lattice Lx Ly Lz).toCodeData.k = 1 := rfl

/-- rank clause, operator level: the generators at all vertices, at the horizontal faces of the
    bottom layer `z = 1` and at all vertical faces are independent — every non-empty
    duplicate-free sub-family `T` has a Pauli operator `d` on the qubits anticommuting with an odd
    number of members of `T` (so no non-trivial product of them is trivial) — every
    `Lx, Ly, Lz ≥ 1` -/
theorem generators_independent (Lx Ly Lz : Nat) (hx : 1 ≤ Lx) (hy : 1 ≤ Ly) (hz : 1 ≤ Lz) :
    IndepGenerators (lattice Lx Ly Lz) (selStabs Lx Ly Lz) :=
  indep_sel Lx Ly Lz hx hy hz

/-- the independent family is a sub-list of `get_stabilizer_coordinates` with `n − k` members -/
theorem generators_count (Lx Ly Lz : Nat) (hx : 1 ≤ Lx) (hy : 1 ≤ Ly) (hz : 1 ≤ Lz) :
    (selStabs Lx Ly Lz).Sublist (lattice Lx Ly Lz).stabs ∧
    (selStabs Lx Ly Lz).length + (lattice Lx Ly Lz).toCodeData.k =
      (lattice Lx Ly Lz).toCodeData.n :=
  ⟨selStabs_sublist Lx Ly Lz hz, selStabs_count Lx Ly Lz hx hy hz⟩

/-- THE C01 STATEMENT FOR ALL SIZES (`Lx, Ly, Lz ≥ 1`): `stabilizer_matrix`, `logicals_x`,
    `logicals_z` of the generic code model, applied to this lattice model, return (no `KeyError`)
    matrices that form a valid `[[n, 1]]` stabilizer code (`n` as in `n_formula`): generators
    pairwise commute, logicals commute with the generators, `ω(X, Z) = 1`,
    `ω(X, X) = ω(Z, Z) = 0`, and the generators have GF(2) rank `n − 1` -/
theorem valid_code (Lx Ly Lz : Nat) (hx : 1 ≤ Lx) (hy : 1 ≤ Ly) (hz : 1 ≤ Lz) :
    stabilizerMatrix (lattice Lx Ly Lz).toCodeData = some (lattice Lx Ly Lz).rowsH ∧
    logicalsX (lattice Lx Ly Lz).toCodeData = some (lattice Lx Ly Lz).rowsX ∧
    logicalsZ (lattice Lx Ly Lz).toCodeData = some (lattice Lx Ly Lz).rowsZ ∧
    ValidCodeL
      (Lx * Ly * Lz + ((Lx / 2) * (Ly / 2 + 1) + ((Lx - 1) / 2) * ((Ly + 1) / 2)) * (Lz - 1)) 1
      (lattice Lx Ly Lz).rowsH (lattice Lx Ly Lz).rowsX (lattice Lx Ly Lz).rowsZ := by
  have h := validCode_of_lattice (lattice Lx Ly Lz) (wf Lx Ly Lz hx hy hz)
    (commPair Lx Ly Lz hx hy hz) (selStabs Lx Ly Lz) (generators_count Lx Ly Lz hx hy hz).1
    (generators_independent Lx Ly Lz hx hy hz) (generators_count Lx Ly Lz hx hy hz).2
  rw [n_formula, k_value] at h
  exact h

/-- `qubit_axis` of a qubit: `z` for the vertical qubits (even z); for the horizontal ones `x` when
    `(x + y) % 4 = 2` and `y` otherwise; every other location is a `ValueError`. -/
theorem qubit_axis_rule (Lx Ly Lz : Nat) (x y z : Int) (h : [x, y, z] ∈ (lattice Lx Ly Lz).qubits) :
    qubitAxis Lx Ly Lz [x, y, z] =
      some (if z % 2 = 0 then "z" else if (x + y) % 4 = 2 then "x" else "y") :=
  qubitAxis_qubit Lx Ly Lz x y z h

theorem qubit_axis_error (Lx Ly Lz : Nat) (loc : Coord) (h : loc ∉ (lattice Lx Ly Lz).qubits) :
    qubitAxis Lx Ly Lz loc = none :=
  qubitAxis_nonqubit Lx Ly Lz loc h

/-- `get_deformation` for every location, name and axis (keyword passed): an axis outside x/y/z or a
    name other than `XZZX` is a `ValueError`; `XZZX` swaps X and Z exactly on the qubits whose
    `qubit_axis` equals the deformation axis and is the identity on the other qubits (`ValueError` on a
    non-qubit). -/
theorem deformation_rule (Lx Ly Lz : Nat) (name axis : String) (loc : Coord) :
    getDeformation Lx Ly Lz name (some axis) loc =
      if axis ≠ "x" ∧ axis ≠ "y" ∧ axis ≠ "z" then none
      else if name ≠ "XZZX" then none
      else (qubitAxis Lx Ly Lz loc).map fun a => if a = axis then PauliMap.swapXZ else PauliMap.id :=
  getDeformation_rule Lx Ly Lz name (some axis) loc

/-- the default of the signature: `get_deformation(location, name)` without `deformation_axis` is
    `get_deformation(location, name, deformation_axis='z')` -/
theorem deformation_default_axis (Lx Ly Lz : Nat) (name : String) (loc : Coord) :
    getDeformation Lx Ly Lz name none loc = getDeformation Lx Ly Lz name (some "z") loc := rfl

/-- consequently every deformation the class returns is a permutation of {X, Y, Z} -/
theorem deformation_isPerm (Lx Ly Lz : Nat) (name : String) (axis : Option String) (loc : Coord)
    (m : PauliMap)
    (h : getDeformation Lx Ly Lz name axis loc = some m) : m.isPerm = true := by
  rw [getDeformation_rule] at h
  split at h
  · cases h
  · split at h
    · cases h
    · cases hq : qubitAxis Lx Ly Lz loc with
      | none => rw [hq] at h; cases h
      | some a =>
        rw [hq] at h
        simp only [Option.map_some, Option.some.injEq] at h
        subst h
        split <;> decide

/-! ### non-vacuity: the hypotheses are satisfiable and the model computes non-trivial data -/

example : (lattice 2 3 2).toCodeData.n = 14 := by decide
example : (lattice 2 3 2).stabs.length = 16 := by decide
example : getStab 2 2 2 [2, 0, 1] = [([1, 1, 1], Pauli.Z), ([3, 1, 1], Pauli.Z), ([2, 0, 2], Pauli.Z)] := by
  decide
example : getStab 2 2 2 [1, 1, 2] = [([2, 0, 2], Pauli.X), ([1, 1, 1], Pauli.X), ([1, 1, 3], Pauli.X)] := by
  decide
example : (lattice 3 2 4).CommPair := commPair 3 2 4 (by decide) (by decide) (by decide)
example : IndepGenerators (lattice 2 3 2) (selStabs 2 3 2) :=
  generators_independent 2 3 2 (by decide) (by decide) (by decide)
example : (selStabs 2 3 2).length = 13 := by decide
example : ValidCodeL 14 1 (lattice 2 3 2).rowsH (lattice 2 3 2).rowsX (lattice 2 3 2).rowsZ :=
  (valid_code 2 3 2 (by decide) (by decide) (by decide)).2.2.2
/-- 16 generators, rank 13: three relations among the faces -/
example : HasRank (2 * 14) (lattice 2 3 2).rowsH 13 :=
  (valid_code 2 3 2 (by decide) (by decide) (by decide)).2.2.2.rank
example : getDeformation 2 2 2 "XZZX" (some "z") [2, 0, 2] = some PauliMap.swapXZ := by decide
example : getDeformation 2 2 2 "XZZX" (some "x") [2, 0, 2] = some PauliMap.id := by decide
example : getDeformation 2 2 2 "XY" (some "x") [2, 0, 2] = none := by decide
/-- keyword omitted: the vertical qubits are deformed, the horizontal ones are not -/
example : getDeformation 2 2 2 "XZZX" none [2, 0, 2] = some PauliMap.swapXZ := by decide
example : getDeformation 2 2 2 "XZZX" none [1, 1, 1] = some PauliMap.id := by decide
example : getDeformation 2 2 2 "XY" none [2, 0, 2] = none := by decide

end Panqec.C01RotatedPlanar3DCode
