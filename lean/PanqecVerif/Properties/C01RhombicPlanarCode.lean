/-
C01 (lattice part) — `RhombicPlanarCode` for EVERY size of the supported family (`Lx, Ly ≥ 2`,
`Lz ≥ 1`; no upper bound on the size).

The model `Model/Lattices/RhombicPlanarCode.lean` is a hand-written transcription of
`panqec/codes/surface_3d/_rhombic_planar_code.py` as functions of the size (the `(x+y+z) % 4`
colouring of the cubes, the `on_edge` / `edge_triangle` / `rough_triangle` filters of
`get_stabilizer_coordinates`, the `is_qubit` truncation of the operators at the open boundaries, dict
overwrite); it is tied to the implementation by the correspondence streams of
`harness/lattices/rhombicplanarcode.py`.  Property theorems only; the lemmas are in
`Proofs/LatRhombic.lean` and `Proofs/LatRhombicPlanarCode*.lean`.

Commutation of a cube (X on its edges that are qubits) with a triangle (Z on the legs that are
qubits): with `d` the offset from the vertex to the cube and `s` the sign vector of the triangle, the
shared qubits are the legs `i` with `d_i = s_i` (all `|d_i| = 1`); the cube is coloured
(`(x+y+z) % 4 = 1`) and the triangle points into an uncoloured cube (`% 4 = 3`), so `d` and `s`
differ in an odd number of places and the overlap is 0 or 2; a leg that is not a qubit (z legs of
the bottom / top layer) is an edge of no cube, and the triangles whose y leg would be missing are
exactly the `rough_triangle`s that the class drops (`edge_triangle` is implied by `rough_triangle`).

Rank clause, for all sizes of the supported family `Lx, Ly ≥ 2`, `Lz ≥ 1`
(`⌈Lx(Ly+1)(Lz−1)/2⌉ + 4(Lx−1)(Ly−1)Lz` generators; the four triangles of a vertex with
`0 < y < 2Ly−2` multiply to the identity and so do the eight corner triangles of an uncoloured cube
not cut by an x boundary): all cubes, all triangles of axis 3 and 2, the axis-1 triangles of the row
`y = 2Ly−2`, the axis-0 triangles of the column `x = 2Lx−2` and, in the other columns, the upper one
(`(x+y+z) % 4 = 2`, `z ≥ 2`) of the two axis-0 triangles pointing into the same uncoloured cube, are
independent (`generators_independent`, via a triangular family of single-qubit probes,
`Proofs/LatRhombicPlanarCodeRankIndep.lean`) and there are exactly `n − 1` of them (`generators_count`;
checkerboard counting lemma `Proofs/LatRhombicCount.lean`).  `valid_code` puts everything together
through the generic bridges `Proofs/OpComm.lean` and `Proofs/LatRankBridge.lean`: the matrices that
`stabilizer_matrix`, `logicals_x`, `logicals_z` of the generic code model (`Model/Code.lean`, C02)
assemble from this lattice model form a valid
`[[n, 1]]` stabilizer code (`ValidCodeL`: all four clauses of C01, rank included) for EVERY size of
the family.
-/
import PanqecVerif.Proofs.LatRhombicPlanarCodeCount
import PanqecVerif.Proofs.LatRhombicPlanarCodeRankIndep
import PanqecVerif.Proofs.LatRankBridge

namespace Panqec.C01RhombicPlanarCode

open Panqec Panqec.RhombicPlanarCode Panqec.Lat2D

/-- Coordinates are distinct, qubit and stabilizer coordinates are disjoint, every stabilizer and
    logical operator is a dict (distinct keys) supported on qubits with letters X/Y/Z, and no
    stabilizer is empty (also the half cubes and two-legged triangles of the boundaries) — for every
    size with `Lx, Ly ≥ 1` (any `Lz`). -/
theorem wf (Lx Ly Lz : Nat) (hx : 1 ≤ Lx) (hy : 1 ≤ Ly) : (lattice Lx Ly Lz).WF :=
  RhombicPlanarCode.wf Lx Ly Lz hx hy

/-- All pairs of stabilizer generators commute (cube/cube and triangle/triangle trivially, cube
    against triangle by the colouring argument, truncated operators included), the logical X (sheet
    `z = 0`) and the logical Z (line of x edges along z) commute with every generator, and they
    anticommute with each other (`k = 1` pairing table) — for every size `≥ 1`. -/
theorem commPair (Lx Ly Lz : Nat) (hx : 1 ≤ Lx) (hy : 1 ≤ Ly) (hz : 1 ≤ Lz) :
    (lattice Lx Ly Lz).CommPair :=
  RhombicPlanarCode.commPair Lx Ly Lz hx hy hz

/-- the qubit lattice of `Planar3DCode`: `n = Lx·Ly·Lz + (Lx−1)(Ly−1)Lz + (Lx−1)Ly(Lz−1)`
    (every size, truncated subtraction) -/
theorem n_formula (Lx Ly Lz : Nat) : (lattice Lx Ly Lz).toCodeData.n =
    Lx * Ly * Lz + (Lx - 1) * (Ly - 1) * Lz + (Lx - 1) * Ly * (Lz - 1) :=
  length_qubits Lx Ly Lz

/-- `k = 1` (every size) -/
theorem k_value (Lx Ly Lz : Nat) : (lattice Lx Ly Lz).toCodeData.k = 1 :=
  length_logX Lx Ly Lz

/-- the number of stabilizer generators (every size with `Ly ≥ 1`): the coloured cubes of the box
    `Lx × (Ly+1) × (Lz−1)` (half of it rounded up; the half cubes `y = −1`, `y = 2Ly−1` of the rough
    boundaries included) and `4(Lx−1)(Ly−1)Lz` triangles (the rough ones are dropped) -/
theorem n_stabilizers (Lx Ly Lz : Nat) (hy : 1 ≤ Ly) :
    (lattice Lx Ly Lz).toCodeData.stabs.length =
      (Lx * ((Ly + 1) * (Lz - 1)) + 1) / 2 + 4 * ((Lx - 1) * (Ly - 1) * Lz) :=
  length_stabs Lx Ly Lz hy

/-- rank clause, operator level: the selected generators (all cubes; all triangles of axis 3 and 2;
    axis 1 in the row `y = 2Ly−2`; axis 0 in the column `x = 2Lx−2`, and elsewhere those with
    `(x+y+z) % 4 = 2`, `z ≥ 2`) are independent — every non-empty duplicate-free sub-family `T` has a
    Pauli operator `d` on the qubits anticommuting with an odd number of members of `T` (so no
    non-trivial product of them is trivial) — every `Lx, Ly ≥ 2`, every `Lz` -/
theorem generators_independent (Lx Ly Lz : Nat) (hx : 2 ≤ Lx) (hy : 2 ≤ Ly) :
    IndepGenerators (lattice Lx Ly Lz) (selStabs Lx Ly Lz) :=
  indep_sel Lx Ly Lz hx hy

/-- the independent family consists of `n − k` distinct stabilizer locations -/
theorem generators_count (Lx Ly Lz : Nat) (hx : 2 ≤ Lx) (hy : 2 ≤ Ly) (hz : 1 ≤ Lz) :
    (selStabs Lx Ly Lz).Nodup ∧ (∀ s ∈ selStabs Lx Ly Lz, s ∈ (lattice Lx Ly Lz).stabs) ∧
    (selStabs Lx Ly Lz).length + (lattice Lx Ly Lz).toCodeData.k =
      (lattice Lx Ly Lz).toCodeData.n :=
  ⟨nodup_selStabs Lx Ly Lz, fun _ hs => selStabs_sub hx hy hs, selStabs_count Lx Ly Lz hx hy hz⟩

/-- THE C01 STATEMENT FOR ALL SIZES of the supported family (`Lx, Ly ≥ 2`, `Lz ≥ 1`):
    `stabilizer_matrix`, `logicals_x`, `logicals_z` of the generic code model, applied to this
    lattice model, return (no `KeyError`) matrices that form a valid `[[n, 1]]` stabilizer code
    (`n = Lx·Ly·Lz + (Lx−1)(Ly−1)Lz + (Lx−1)Ly(Lz−1)`): generators pairwise commute, logicals
    commute with the generators, `ω(X, Z) = 1`, `ω(X, X) = ω(Z, Z) = 0`, and the generators have
    GF(2) rank `n − 1` -/
theorem valid_code (Lx Ly Lz : Nat) (hx : 2 ≤ Lx) (hy : 2 ≤ Ly) (hz : 1 ≤ Lz) :
    stabilizerMatrix (lattice Lx Ly Lz).toCodeData = some (lattice Lx Ly Lz).rowsH ∧
    logicalsX (lattice Lx Ly Lz).toCodeData = some (lattice Lx Ly Lz).rowsX ∧
    logicalsZ (lattice Lx Ly Lz).toCodeData = some (lattice Lx Ly Lz).rowsZ ∧
    ValidCodeL (Lx * Ly * Lz + (Lx - 1) * (Ly - 1) * Lz + (Lx - 1) * Ly * (Lz - 1)) 1
      (lattice Lx Ly Lz).rowsH (lattice Lx Ly Lz).rowsX (lattice Lx Ly Lz).rowsZ := by
  obtain ⟨hnd, hsub, hcount⟩ := generators_count Lx Ly Lz hx hy hz
  have h := validCode_of_lattice_subset (lattice Lx Ly Lz) (wf Lx Ly Lz (by omega) (by omega))
    (commPair Lx Ly Lz (by omega) (by omega) hz) (selStabs Lx Ly Lz) hnd hsub
    (generators_independent Lx Ly Lz hx hy) hcount
  rw [n_formula, k_value] at h
  exact h

/-- `qubit_axis` of a qubit is the direction of its edge (the odd coordinate) -/
theorem qubit_axis_rule (Lx Ly Lz : Nat) (x y z : Int) (h : [x, y, z] ∈ (lattice Lx Ly Lz).qubits) :
    qubitAxis [x, y, z] = some (if x % 2 = 1 then "x" else if y % 2 = 1 then "y" else "z") :=
  qubitAxis_qubit Lx Ly Lz x y z h

/-- `get_deformation(location, name)` for every name and every location with three coordinates
    (keyword arguments are ignored by the class): a name other than `'Checkerboard XZZX'` is a
    `ValueError`; otherwise `ValueError` where `qubit_axis` raises, X ↔ Z exactly on the z edges
    with `z % 4 = 3 ∧ (x+y) % 4 = 2` or `z % 4 = 1 ∧ (x+y) % 4 = 0`, and the identity elsewhere. -/
theorem deformation_rule (name : String) (x y z : Int) :
    getDeformation name [x, y, z] =
      if name ≠ "Checkerboard XZZX" then none
      else (qubitAxis [x, y, z]).map fun a =>
        if a = "z" ∧ ((z % 4 = 3 ∧ (x + y) % 4 = 2) ∨ (z % 4 = 1 ∧ (x + y) % 4 = 0))
        then PauliMap.swapXZ else PauliMap.id :=
  Rhombic.getDeformation_rule name x y z

/-- a location that does not have three coordinates is rejected (the tuple unpacking raises
    `ValueError`) -/
theorem deformation_bad_location (name : String) (loc : Coord) (h : loc.length ≠ 3) :
    getDeformation name loc = none :=
  Rhombic.getDeformation_bad_location name loc h

/-- on the qubits of every size: the deformation is defined, and it is X ↔ Z exactly on the z edges
    of the checkerboard -/
theorem deformation_on_qubits (Lx Ly Lz : Nat) (x y z : Int)
    (h : [x, y, z] ∈ (lattice Lx Ly Lz).qubits) :
    getDeformation "Checkerboard XZZX" [x, y, z] =
      some (if z % 2 = 1 ∧ ((z % 4 = 3 ∧ (x + y) % 4 = 2) ∨ (z % 4 = 1 ∧ (x + y) % 4 = 0))
        then PauliMap.swapXZ else PauliMap.id) := by
  rw [deformation_rule, qubit_axis_rule Lx Ly Lz x y z h]
  have hq := (mem_qubits_iff Lx Ly Lz x y z).mp h
  unfold QX QY QZ Lat3Db.R0 Lat3Db.R1 Lat3Db.R2 at hq
  simp only [ne_eq, not_true_eq_false, if_false, Option.map_some, Option.some.injEq]
  by_cases hx : x % 2 = 1
  · have hz : ¬ z % 2 = 1 := by omega
    simp [hx, hz]
  · by_cases hy : y % 2 = 1
    · have hz : ¬ z % 2 = 1 := by omega
      simp [hx, hy, hz]
    · have hz : z % 2 = 1 := by omega
      simp [hx, hy, hz]

/-- consequently every deformation the class returns is a permutation of {X, Y, Z} (so C08
    applies) -/
theorem deformation_isPerm (name : String) (loc : Coord) (m : PauliMap)
    (h : getDeformation name loc = some m) : m.isPerm = true :=
  Rhombic.getDeformation_isPerm h

/-! ### non-vacuity -/

example : (lattice 2 2 1).WF := wf 2 2 1 (by decide) (by decide)
example : (lattice 2 3 4).CommPair := commPair 2 3 4 (by decide) (by decide) (by decide)
example : (lattice 2 3 4).toCodeData.n = 41 := n_formula 2 3 4
example : (lattice 2 2 2).toCodeData.n = 12 := by decide
example : (lattice 2 2 2).stabs.length = 11 := by decide
/-- a half cube of the lower rough boundary `y = -1`: three of the twelve edges are qubits -/
example : getStab 2 2 2 [1, -1, 1] = [([2, 0, 1], .X), ([1, 0, 2], .X), ([1, 0, 0], .X)] := by
  decide +kernel
/-- a triangle of the bottom layer: the z leg is missing -/
example : getStab 2 2 2 [0, 2, 0, 0] = [([3, 0, 0], .Z), ([2, 1, 0], .Z)] := by decide +kernel
/-- an interior cube has all twelve edges -/
example : (getStab 3 3 3 [3, 3, 3]).length = 12 := by decide +kernel
example : opAntiCount ((logX 2 2 2).getD 0 []) ((logZ 2 2 2).getD 0 []) = 1 := by decide +kernel
example : IndepGenerators (lattice 2 3 4) (selStabs 2 3 4) :=
  generators_independent 2 3 4 (by decide) (by decide)
example : (selStabs 2 2 2).length = 11 := by decide
example : (selStabs 3 3 3).length = 50 := by decide +kernel
example : ValidCodeL 41 1 (lattice 2 3 4).rowsH (lattice 2 3 4).rowsX (lattice 2 3 4).rowsZ :=
  (valid_code 2 3 4 (by decide) (by decide) (by decide)).2.2.2
/-- the smallest member of the family: 5 qubits, no cube, 4 triangles, rank 4 -/
example : (lattice 2 2 1).stabs.length = 4 ∧ HasRank (2 * 5) (lattice 2 2 1).rowsH 4 :=
  ⟨by decide, (valid_code 2 2 1 (by decide) (by decide) (by decide)).2.2.2.rank⟩
/-- 60 generators, rank 50: the relations among the triangles are real -/
example : (lattice 3 3 3).stabs.length = 60 ∧ HasRank (2 * 51) (lattice 3 3 3).rowsH 50 :=
  ⟨by decide +kernel, (valid_code 3 3 3 (by decide) (by decide) (by decide)).2.2.2.rank⟩
example : getDeformation "Checkerboard XZZX" [2, 2, 1] = some PauliMap.swapXZ := by decide
example : getDeformation "Checkerboard XZZX" [2, 0, 1] = some PauliMap.id := by decide
example : getDeformation "Checkerboard XZZX" [1, 1, 1] = none := by decide
example : getDeformation "XZZX" [2, 2, 1] = none := by decide

end Panqec.C01RhombicPlanarCode
