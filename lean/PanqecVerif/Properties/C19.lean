/-
C19 — generated input files cover exactly the requested parameter grid.

Property theorems only.  Model: `Model/Cli.lean` part 2 (`readRange`, `readBiasRatios`,
`getDirection`, `generateInput`, `finalFiles`, `expand`); helper lemmas:
`Proofs/CliRange.lean`, `Proofs/CliFiles.lean`.  Numbers are exact rationals; the
float ↔ rational gap is bridged by the harness (decimal-grid inputs, snapping) and listed in
the trusted base.  All statements are for arbitrary inputs (no bound on list lengths, sizes,
number of ratios, number of rates).
-/
import PanqecVerif.Proofs.CliRange
import PanqecVerif.Proofs.CliFiles
import PanqecVerif.Proofs.ExceptList

namespace Panqec.C19

open Panqec.Cli

/-- no value of a range lies beyond `max` — for every `min`, `max`, `step` -/
theorem range_never_exceeds_max (mn mx st : Rat) : ∀ v ∈ rangeValues mn mx st, v ≤ mx :=
  rangeValues_le_max mn mx st

/-- A range is the arithmetic progression `min, min+step, …` with `⌊(max-min)/step⌋ + 1`
    elements, provided the code's tolerance `1e-9·step` does not move `(max-min)/step`
    across an integer (see `grid_has_the_tolerance`). -/
theorem range_is_progression {mn mx st : Rat} (hst : 0 < st) (hle : mn ≤ mx)
    (htol : ((mx - mn) / st + eps).floor = ((mx - mn) / st).floor) :
    rangeValues mn mx st =
      (List.range (((mx - mn) / st).floor.toNat + 1)).map fun (i : Nat) => mn + (i : Rat) * st :=
  rangeValues_eq hst hle htol

/-- the tolerance hypothesis holds on every grid whose step is fewer than `10^9` units -/
theorem grid_has_the_tolerance {u : Rat} (hu : 0 < u) (a b : Int) (s : Nat) (hs : 0 < s)
    (hs9 : s < 1000000000) :
    (((b : Rat) * u - (a : Rat) * u) / ((s : Rat) * u) + eps).floor =
      (((b : Rat) * u - (a : Rat) * u) / ((s : Rat) * u)).floor :=
  grid_tolerance hu a b s hs hs9

/-- **Ranges on a decimal (or any) grid.**  For `min = a·u`, `max = b·u ≥ min`,
    `step = s·u` with `0 < s < 10^9` the values are exactly `min + i·step` for
    `i = 0 … ⌊(b-a)/s⌋` — no side condition left. -/
theorem range_on_grid {u : Rat} (hu : 0 < u) (a b : Int) (hab : a ≤ b) (s : Nat)
    (hs : 0 < s) (hs9 : s < 1000000000) :
    rangeValues ((a : Rat) * u) ((b : Rat) * u) ((s : Rat) * u) =
      (List.range (((b - a) / (s : Int)).toNat + 1)).map
        fun (i : Nat) => (a : Rat) * u + (i : Rat) * ((s : Rat) * u) :=
  rangeValues_on_grid hu a b hab s hs hs9

/-- number of values -/
theorem range_count {mn mx st : Rat} (hst : 0 < st) (hle : mn ≤ mx)
    (htol : ((mx - mn) / st + eps).floor = ((mx - mn) / st).floor) :
    (rangeValues mn mx st).length = ((mx - mn) / st).floor.toNat + 1 := by
  rw [rangeValues_eq hst hle htol]; simp

/-- the `i`-th value is `min + i·step` (so the first is `min` and consecutive values differ
    by `step`) -/
theorem range_nth {mn mx st : Rat} (hst : 0 < st) (hle : mn ≤ mx)
    (htol : ((mx - mn) / st + eps).floor = ((mx - mn) / st).floor) (i : Nat)
    (hi : i ≤ ((mx - mn) / st).floor.toNat) :
    (rangeValues mn mx st)[i]? = some (mn + (i : Rat) * st) := by
  rw [rangeValues_eq hst hle htol, List.getElem?_map, List.getElem?_range (by omega)]
  rfl

theorem range_first_is_min {mn mx st : Rat} (hst : 0 < st) (hle : mn ≤ mx)
    (htol : ((mx - mn) / st + eps).floor = ((mx - mn) / st).floor) :
    (rangeValues mn mx st)[0]? = some mn := by
  rw [range_nth hst hle htol 0 (by omega)]; simp

theorem range_consecutive_differ_by_step {mn mx st : Rat} (hst : 0 < st) (hle : mn ≤ mx)
    (htol : ((mx - mn) / st + eps).floor = ((mx - mn) / st).floor) (i : Nat)
    (hi : i + 1 ≤ ((mx - mn) / st).floor.toNat) :
    ∃ v w, (rangeValues mn mx st)[i]? = some v ∧ (rangeValues mn mx st)[i + 1]? = some w ∧
      w - v = st := by
  refine ⟨_, _, range_nth hst hle htol i (by omega), range_nth hst hle htol (i + 1) hi, ?_⟩
  push_cast; ring

/-- the values of a range are pairwise distinct (so "each requested rate exactly once" is
    meaningful for ranges) -/
theorem range_values_distinct {mn mx st : Rat} (hst : 0 < st) (hle : mn ≤ mx)
    (htol : ((mx - mn) / st + eps).floor = ((mx - mn) / st).floor) :
    (rangeValues mn mx st).Nodup := by
  rw [rangeValues_eq hst hle htol]
  apply List.Nodup.map_on _ List.nodup_range
  intro i _ j _ h
  have h1 : (i : Rat) * st = (j : Rat) * st := by linarith
  have h2 : (i : Rat) = (j : Rat) := mul_right_cancel₀ (ne_of_gt hst) h1
  exact_mod_cast h2

/-- when `max` lies on the grid of the range (`max = min + k·step`), the last value is `max` -/
theorem range_last_is_max {mn st : Rat} (hst : 0 < st) (k : Nat)
    (htol : ((mn + (k : Rat) * st - mn) / st + eps).floor = ((mn + (k : Rat) * st - mn) / st).floor) :
    (rangeValues mn (mn + (k : Rat) * st) st).getLast? = some (mn + (k : Rat) * st) := by
  have hle : mn ≤ mn + (k : Rat) * st := by
    have : 0 ≤ (k : Rat) * st := mul_nonneg (by exact_mod_cast Nat.zero_le k) (le_of_lt hst)
    linarith
  have hx : (mn + (k : Rat) * st - mn) / st = ((k : Int) : Rat) := by
    field_simp; push_cast; ring
  have hfl : ((mn + (k : Rat) * st - mn) / st).floor = (k : Int) := by
    rw [hx, Rat.floor_intCast]
  rw [rangeValues_eq hst hle htol, hfl]
  simp [List.range_succ]

/-- the direction is defined for X, Y, Z and every ratio except `-1` -/
theorem direction_defined (p : Char) (hp : p = 'X' ∨ p = 'Y' ∨ p = 'Z') (eta : Eta)
    (h : ∀ e, eta.toRat? = some e → 1 + e ≠ 0) :
    ∃ d, getDirection p eta = .ok (some d) := by
  unfold getDirection
  cases he : eta.toRat? with
  | none => rcases hp with rfl | rfl | rfl <;> simp
  | some e =>
    have := h e he
    rcases hp with rfl | rfl | rfl <;> simp [this]

/-- explicit form of the result: bias component `r`, the two others `(1-r)/2`, where
    `r = 1` for `inf` and `r = eta/(1+eta)` otherwise -/
theorem direction_components (p : Char) (eta : Eta) (d : Direction)
    (h : getDirection p eta = .ok (some d)) :
    ∃ r : Rat, (eta.toRat? = none ∧ r = 1 ∨ ∃ e, eta.toRat? = some e ∧ 1 + e ≠ 0 ∧ r = e / (1 + e)) ∧
      d.along p = r ∧ d.across p = (1 - r) / 2 + (1 - r) / 2 ∧
      d.rx + d.ry + d.rz = r + (1 - r) / 2 + (1 - r) / 2 ∧
      (d.rx = r ∨ d.rx = (1 - r) / 2) ∧ (d.ry = r ∨ d.ry = (1 - r) / 2) ∧
      (d.rz = r ∨ d.rz = (1 - r) / 2) := by
  unfold getDirection at h
  cases he : eta.toRat? with
  | none =>
    rw [he] at h
    simp only at h
    refine ⟨1, Or.inl ⟨rfl, rfl⟩, ?_⟩
    split at h
    · cases h; subst_vars; simp [Direction.along, Direction.across]
    · split at h
      · cases h; subst_vars; simp [Direction.along, Direction.across]
      · split at h
        · cases h; subst_vars; simp [Direction.along, Direction.across]
        · cases h
  | some e =>
    rw [he] at h
    simp only at h
    by_cases h1 : 1 + e = 0
    · simp [h1] at h
    · simp only [h1, if_false] at h
      refine ⟨e / (1 + e), Or.inr ⟨e, rfl, h1, rfl⟩, ?_⟩
      split at h
      · cases h; subst_vars; simp [Direction.along, Direction.across]; ring
      · split at h
        · cases h; subst_vars; simp [Direction.along, Direction.across]
        · split at h
          · cases h; subst_vars; simp [Direction.along, Direction.across]; ring
          · cases h

/-- the direction always sums to 1 -/
theorem direction_sums_to_one (p : Char) (eta : Eta) (d : Direction)
    (h : getDirection p eta = .ok (some d)) : d.rx + d.ry + d.rz = 1 := by
  obtain ⟨r, _, _, _, hs, _⟩ := direction_components p eta d h
  rw [hs]; ring

/-- for a ratio `eta ≥ 0` (or `inf`) all components are non-negative -/
theorem direction_nonneg (p : Char) (eta : Eta) (d : Direction)
    (h : getDirection p eta = .ok (some d)) (hpos : ∀ e, eta.toRat? = some e → 0 ≤ e) :
    0 ≤ d.rx ∧ 0 ≤ d.ry ∧ 0 ≤ d.rz := by
  obtain ⟨r, hr, _, _, _, hx, hy, hz⟩ := direction_components p eta d h
  have hr' : 0 ≤ r ∧ 0 ≤ (1 - r) / 2 := by
    rcases hr with ⟨_, rfl⟩ | ⟨e, he, _, rfl⟩
    · norm_num
    · exact direction_nonneg_algebra (hpos e he)
  exact ⟨hx.elim (fun h => h ▸ hr'.1) (fun h => h ▸ hr'.2),
    hy.elim (fun h => h ▸ hr'.1) (fun h => h ▸ hr'.2),
    hz.elim (fun h => h ▸ hr'.1) (fun h => h ▸ hr'.2)⟩

/-- the direction has the requested bias ratio: `r_bias = eta · (sum of the two others)` -/
theorem direction_has_the_bias_ratio (p : Char) (eta : Eta) (e : Rat) (d : Direction)
    (he : eta.toRat? = some e) (h : getDirection p eta = .ok (some d)) :
    d.along p = e * d.across p := by
  obtain ⟨r, hr, ha, hc, _⟩ := direction_components p eta d h
  rcases hr with ⟨hn, _⟩ | ⟨e', he', h1, rfl⟩
  · rw [he] at hn; cases hn
  · rw [he] at he'; cases he'
    rw [ha, hc]
    exact (direction_algebra h1).2

/-- `inf` is the pure bias -/
theorem direction_of_inf_is_pure (p : Char) (d : Direction)
    (h : getDirection p .inf = .ok (some d)) : d.along p = 1 ∧ d.across p = 0 := by
  obtain ⟨r, hr, ha, hc, _⟩ := direction_components p .inf d h
  rcases hr with ⟨_, rfl⟩ | ⟨e, he, _, _⟩
  · rw [ha, hc]; norm_num
  · simp [Eta.toRat?] at he

/-- what `read_bias_ratios` returns is in normal form -/
theorem parsed_ratio_well_formed {tok : List Char} {e : Eta} (h : parseEta tok = .ok e) : e.WF :=
  parseEta_wf h

/-- with several ratios the file name determines the ratio: two ratios never share a file -/
theorem file_name_determines_ratio {label : List Char} {n : Nat} (hn : 1 < n) {e1 e2 : Eta}
    (h1 : e1.WF) (h2 : e2.WF) (h : fileName label n e1 = fileName label n e2) : e1 = e2 :=
  fileName_injective hn h1 h2 h

/-- the loop writes exactly one specification per requested ratio, in order, each under the
    name of its ratio -/
theorem one_specification_per_ratio (a : GenArgs) (rates : List Rat) (etas : List Eta)
    (spec : Eta → InputSpec) (hr : readRange a.prob = .ok rates)
    (he : readBiasRatios a.eta = .ok etas)
    (hs : ∀ e ∈ etas, specFor a rates e = .ok (spec e)) :
    generateInput a =
      (etas.map fun e => (fileName (spec e).label etas.length e, spec e), none) := by
  unfold generateInput
  rw [hr, he]
  exact writeAll_ok a rates etas.length spec etas hs

/-- the specification of a ratio carries the request: the rates of `--prob`, the direction of
    this ratio along `--bias`, the parsed sizes, and the names as given -/
theorem specification_content (a : GenArgs) (rates : List Rat) (e : Eta) (sp : InputSpec)
    (h : specFor a rates e = .ok sp) :
    sp.errorRates = rates ∧ getDirection a.bias e = .ok sp.direction ∧
    parseSizes a.sizes = .ok sp.codeParams ∧ sp.label = a.label.getD "experiment".toList ∧
    sp.codeName = a.codeClass ∧ sp.noiseName = a.noiseClass ∧ sp.decoderName = a.decoderClass ∧
    sp.methodName = a.method ∧ sp.deformationName = a.deformationName := by
  simp only [specFor, bind_eq_ok, pure_eq_ok] at h
  obtain ⟨dir, hd, sizes, hz, rfl⟩ := h
  exact ⟨rfl, hd, hz, rfl, rfl, rfl, rfl, rfl, rfl⟩

/-- distinct ratios keep distinct files: after the command the directory holds every
    specification that was written (no file was overwritten) -/
theorem every_ratio_keeps_its_file (label : List Char) (etas : List Eta) (spec : Eta → InputSpec)
    (hnd : etas.Nodup) (hwf : ∀ e ∈ etas, e.WF) :
    finalFiles (etas.map fun e => (fileName label etas.length e, spec e)) =
      etas.map fun e => (fileName label etas.length e, spec e) := by
  apply finalFiles_of_nodup
  rw [List.map_map]
  by_cases hn : 1 < etas.length
  · apply List.Nodup.map_on _ hnd
    intro x hx y hy hxy
    exact fileName_injective hn (hwf x hx) (hwf y hy) hxy
  · match etas, hn with
    | [], _ => simp
    | [e], _ => simp
    | _ :: _ :: _, hn => simp at hn

/-- whatever the ratios, the directory never holds two files of the same name and holds
    only files that were written -/
theorem directory_is_consistent (ws : List (List Char × InputSpec)) :
    ((finalFiles ws).map (·.1)).Nodup ∧ ∀ p ∈ finalFiles ws, p ∈ ws :=
  finalFiles_names_nodup ws

/-- For both methods the simulations read back from a generated file cover exactly the
    Cartesian product sizes × rates, in order (method `direct`: one simulation per pair;
    method `splitting`: one simulation per size, holding every rate). -/
theorem read_back_covers_grid (spec : InputSpec)
    (hm : spec.methodName = "direct".toList ∨ spec.methodName = "splitting".toList) :
    coveredPairs (expand spec) =
      (parametersRange spec.codeParams).product (parametersRange spec.errorRates) := by
  unfold coveredPairs expand
  rcases hm with hm | hm
  · simp only [hm, if_true]
    exact coveredPairs_direct _ _
  · have : ¬ ("splitting".toList = "direct".toList) := by decide
    simp only [hm, this, if_false, if_true]
    exact coveredPairs_splitting _ _

/-- number of (size, rate) pairs = |sizes| · |rates| -/
theorem read_back_count (spec : InputSpec)
    (hm : spec.methodName = "direct".toList ∨ spec.methodName = "splitting".toList)
    (hc : spec.codeParams ≠ []) (hr : spec.errorRates ≠ []) :
    (coveredPairs (expand spec)).length = spec.codeParams.length * spec.errorRates.length := by
  rw [read_back_covers_grid spec hm]
  change ((parametersRange spec.codeParams) ×ˢ (parametersRange spec.errorRates)).length = _
  rw [List.length_product, parametersRange_length _ hc, parametersRange_length _ hr]

/-- method `direct`: that many simulations -/
theorem direct_simulation_count (spec : InputSpec) (hm : spec.methodName = "direct".toList)
    (hc : spec.codeParams ≠ []) (hr : spec.errorRates ≠ []) :
    (expand spec).length = spec.codeParams.length * spec.errorRates.length := by
  unfold expand
  simp only [hm, if_true]
  rw [length_flatMap_map, parametersRange_length _ hc, parametersRange_length _ hr]

/-- every requested (size, rate) is covered, nothing else is, and each exactly once when the
    requested sizes and rates are themselves without repetition -/
theorem read_back_exactly_once (spec : InputSpec)
    (hm : spec.methodName = "direct".toList ∨ spec.methodName = "splitting".toList)
    (hc : spec.codeParams.Nodup) (hr : spec.errorRates.Nodup) :
    (coveredPairs (expand spec)).Nodup ∧
    ∀ c r, (some c, some r) ∈ coveredPairs (expand spec) ↔
      (spec.codeParams ≠ [] ∧ c ∈ spec.codeParams) ∧ (spec.errorRates ≠ [] ∧ r ∈ spec.errorRates) := by
  rw [read_back_covers_grid spec hm]
  refine ⟨(parametersRange_nodup _ hc).product (parametersRange_nodup _ hr), ?_⟩
  intro c r
  change (some c, some r) ∈ (parametersRange spec.codeParams) ×ˢ (parametersRange spec.errorRates) ↔ _
  rw [List.mem_product]
  rw [mem_parametersRange, mem_parametersRange]

/-! ## non-vacuity -/

example : rangeValues (1/10) (3/10) (1/10) = [1/10, 1/5, 3/10] := by decide +kernel
example : (match readRange "0.1:0.35:0.1".toList with | .ok l => l | .error _ => []) =
    [1/10, 1/5, 3/10] := by decide +kernel
example : (match readBiasRatios "0.5, 10,inf".toList with | .ok l => l | .error _ => []) =
    [.flt false 0 [5], .int 10, .inf] := by decide +kernel
example : (match getDirection 'Z' (.flt false 0 [5]) with | .ok (some d) => [d.rx, d.ry, d.rz] | _ => []) =
    [1/3, 1/3, 1/3] := by decide +kernel
example : fileName "lab".toList 3 (.flt false 0 [5]) = "lab_eta-0.5.json".toList := by decide +kernel
example : ((1/5 - 0) / (1/10) + eps : Rat).floor = ((1/5 - 0) / (1/10) : Rat).floor := by decide +kernel

end Panqec.C19
