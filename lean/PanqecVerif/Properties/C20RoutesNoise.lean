/-
C20, `/new-errors` with the models behind the library: on top of the hand-written lattice models
(`GuiRepr.geomOf`) and the noise model of C07 (`Model/Noise.lean`), the route returns `generate` of
`probability_distribution` of the requested direction, rate and noise deformation on the requested
class and size — all `2n` entries, the discarded `error_spec` comprehension never raising.
-/
import PanqecVerif.Proofs.GuiRoutes
import PanqecVerif.Proofs.Noise
import PanqecVerif.Generated.Gui
import PanqecVerif.Generated.GuiRoutes

namespace Panqec.C20Routes
open Panqec.Gui Panqec.GuiRepr Panqec.GuiRoutes

theorem mapM_option_length {α β} (f : α → Option β) :
    ∀ (l : List α) (l' : List β), l.mapM f = some l' → l'.length = l.length :=
  mapM_some_length f

theorem sizesOf_nats (size : List Nat) : sizesOf (size.map fun k => JV.i (Int.ofNat k)) = some size := by
  unfold sizesOf
  induction size with
  | nil => rfl
  | cons a l ih =>
    rw [List.map_cons, List.mapM_cons, ih]
    simp [JV.i]

/-- `/new-errors` IS THE MODEL'S SAMPLE OF THE REQUESTED CHANNEL: with the lattice models and the
    noise model as the library, for every class and size the lattice models cover (`geomOf`), any code
    deformation name (it does not enter: `deform` is lazy and `generate` never asks for the
    stabilizers), every direction summing to one, rate `p`, noise deformation (`None` or a name for
    which `get_deformation` is defined on the qubits: `Ds` = the per-qubit dicts in qubit order) and
    variates `us` (one per qubit), the answer is `generate` of `probability_distribution(code, p)` —
    by C07 (`deformed_distribution`): on qubit `i` the base channel `(1-p, r_x p, r_y p, r_z p)`
    permuted by the `i`-th dict — and it has `2n` entries -/
theorem new_errors_is_model_sample (us : List Rat)
    (run : DecCtor MCode MEM → JV → Except String (List Int))
    (cls : String) (size : List Nat) (g : ClassGeom) (hg : geomOf cls size = some g)
    (cdef : Option String) (dir : Dir) (hdir : dir.1 + dir.2.1 + dir.2.2 = 1)
    (ndName : Option String) (p : JV) (pr : Rat) (hp : ratOf p = some pr)
    (Ds : Option (List PauliMap)) (hDs : noiseMaps g ndName = .ok Ds)
    (ds : List Dist)
    (hds : probabilityDistribution pr dir.1 dir.2.1 dir.2.2 g.lat.qubits.length Ds = some ds)
    (hus : us.length = g.lat.qubits.length) :
    runNoise (modelLib us run)
        ⟨⟨cls, size.map (fun k => JV.i (Int.ofNat k)), cdef.map JV.str⟩, dir,
          (match ndName with | none => .null | some s => .str s), p⟩ =
      .ok (JV.ints ((generate ds us).map Int.ofNat)) ∧
    (generate ds us).length = 2 * g.lat.qubits.length := by
  have hlen : ds.length = g.lat.qubits.length := by
    cases Ds with
    | none =>
      simp only [probabilityDistribution] at hds
      cases hds; simp
    | some Dl =>
      simp only [probabilityDistribution] at hds
      rw [mapM_option_length _ _ _ hds]
      cases ndName with
      | none => simp [noiseMaps] at hDs
      | some name =>
        simp only [noiseMaps] at hDs
        cases hm : g.lat.qubits.mapM (g.deformation name) with
        | none => simp [hm] at hDs
        | some Dl' =>
          simp only [hm] at hDs
          cases hDs
          exact mapM_option_length _ _ _ hm
  have hgl : (generate ds us).length = 2 * g.lat.qubits.length := by
    rw [Panqec.generate_length ds us (by rw [hus, hlen]), hlen]
  refine ⟨?_, hgl⟩
  have hcode : runCode (modelLib us run) ⟨cls, size.map (fun k => JV.i (Int.ofNat k)), cdef.map JV.str⟩ =
      .ok ⟨g, cdef⟩ := by
    unfold runCode
    simp only [modelLib, newMCode, sizesOf_nats, hg, ok_bind]
    cases cdef <;> rfl
  have hem : (modelLib us run).newErrorModel dir (match ndName with | none => .null | some s => .str s) =
      .ok ⟨dir, ndName⟩ := by
    simp only [modelLib, hdir, ne_eq, not_true_eq_false, if_false]
    cases ndName <;> rfl
  have hgen : (modelLib us run).generate ⟨dir, ndName⟩ ⟨g, cdef⟩ p =
      .ok ((generate ds us).map Int.ofNat) := by
    simp only [modelLib, generateM, hp, hDs, hds]
  have hspec : errorSpecCheck ((modelLib us run).n ⟨g, cdef⟩) ((generate ds us).map Int.ofNat) =
      .ok () := by
    apply errorSpecCheck_binary _ _ hgl
    intro x hx
    simp only [generate, pauliToBsf, List.mem_append, List.mem_map] at hx
    rcases hx with ⟨σ, _, rfl⟩ | ⟨σ, _, rfl⟩ <;> cases σ <;> decide
  unfold runNoise
  simp only [hcode, hem, hgen, hspec, ok_bind]
  rfl

/-- non-vacuity: the hypotheses are satisfiable — Toric 2 × 2 (8 qubits), pure Z noise at p = 1/4
    without noise deformation, eight variates -/
example : (generate (List.replicate 8 (baseDist (1/4) 0 0 1))
    [1/64, 63/64, 60/64, 10/64, 1/2, 50/64, 62/64, 61/64]).length = 2 * (toric2D 2 2).lat.qubits.length :=
  (new_errors_is_model_sample [1/64, 63/64, 60/64, 10/64, 1/2, 50/64, 62/64, 61/64]
    (fun _ _ => .error "unsupported") "Toric2DCode" [2, 2] (toric2D 2 2) rfl (some "XZZX") (0, 0, 1)
    (by decide +kernel) none (JV.d 25 2) (1/4) (by decide +kernel) none rfl _ rfl (by decide)).2

end Panqec.C20Routes
