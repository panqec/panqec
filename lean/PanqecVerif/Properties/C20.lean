/-
C20 — the visualizer backend serves every offered choice with faithful data.

Table theorems are proved by `decide` over `Generated/Gui.lean`, which a translator rewrites
from the current source (menus of `_gui.py`, key structure of `gui-config.json`, colormap,
`allowed_codes`, stabilizer types of every class) on every run — so they are re-proved
against the code as it is now.  Generic theorems hold for every table.
-/
import PanqecVerif.Generated.Gui
import PanqecVerif.Proofs.GuiTables

namespace Panqec.C20
open Panqec.Gui

/-- Regenerated tables: for every code the menus list, both pictures, the qubit description and
    the description of every stabilizer type of that class exist and are complete (object,
    opacity, params, all colour keys, colour names known to the colormap). -/
theorem gui_tables_complete :
    guiComplete Generated.Gui.codes Generated.Gui.config Generated.Gui.colormap = true := by
  rw [guiComplete_filter]
  decide +kernel

/-- For EVERY set of tables: completeness implies that no lookup the backend performs for an
    offered (code, picture, stabilizer type) raises, and it returns the object with every colour
    resolved through the colormap. -/
theorem complete_lookup_succeeds (codes : List CodeMenu) (cfg : List Entry)
    (colormap : List (String × String)) (h : guiComplete codes cfg colormap = true)
    (c : CodeMenu) (hc : c ∈ codes) (pic : String) (hp : pic ∈ pictures)
    (t : String) (ht : t ∈ c.stabTypes) :
    ∃ obj cols, representation cfg colormap c.cls "stabilizers" pic t = .ok (obj, cols) ∧
      cols.map (·.1) = ["activated", "deactivated"] := by
  unfold guiComplete at h
  have h2 := List.all_eq_true.mp (List.all_eq_true.mp h c hc) pic hp
  simp only [Bool.and_eq_true] at h2
  have h3 := List.all_eq_true.mp h2.2 t ht
  unfold representation
  split at h3
  · next e hl =>
    have hkind : e.kind = "stabilizers" := by
      have := List.find?_some hl
      simp only [Bool.and_eq_true, beq_iff_eq] at this
      exact this.1.1.2
    have hreq : requiredColorKeys "stabilizers" = ["activated", "deactivated"] := by decide
    simp only [entryComplete, hkind, hreq, Bool.and_eq_true, List.all_cons, List.all_nil, Bool.and_true] at h3
    obtain ⟨_, ha, hd⟩ := h3
    split at ha
    · next na hfa =>
      split at hd
      · next nd hfd =>
        obtain ⟨xa, hra⟩ := Option.isSome_iff_exists.mp ha
        obtain ⟨xd, hrd⟩ := Option.isSome_iff_exists.mp hd
        refine ⟨e.object, [("activated", xa), ("deactivated", xd)], ?_, rfl⟩
        simp [hl, hreq, List.mapM_cons, List.mapM_nil, hfa, hfd, hra, hrd]
      · cases hd
    · cases ha
  · cases h3

/-- The decoders offered for a code are exactly those declaring support for it
    (`allowed_codes is None` or containing the class), for every decoder table. -/
theorem offered_iff_allowed (decs : List DecoderMenu) (cls name : String) :
    name ∈ offeredDecoders decs cls ↔
      ∃ d ∈ decs, d.menuName = name ∧ (d.allowed = none ∨ ∃ l, d.allowed = some l ∧ cls ∈ l) := by
  unfold offeredDecoders
  simp only [List.mem_map, List.mem_filter]
  constructor
  · rintro ⟨d, ⟨hd, hf⟩, rfl⟩
    refine ⟨d, hd, rfl, ?_⟩
    cases ha : d.allowed with
    | none => exact Or.inl rfl
    | some l =>
      right
      refine ⟨l, rfl, ?_⟩
      simp only [ha] at hf
      exact List.contains_iff_mem.mp hf
  · rintro ⟨d, hd, rfl, h⟩
    refine ⟨d, ⟨hd, ?_⟩, rfl⟩
    rcases h with h | ⟨l, hl, hm⟩
    · simp [h]
    · simp only [hl]
      exact List.contains_iff_mem.mpr hm

/-- the regenerated decoder table offers, for each menu code, exactly the decoders whose
    `allowed_codes` admit it (instance of the above on the current source) -/
theorem offered_decoders_table :
    Generated.Gui.codes.all (fun c =>
      (offeredDecoders Generated.Gui.decoders c.cls).all fun name =>
        Generated.Gui.decoders.any fun d => d.menuName == name &&
          (match d.allowed with | none => true | some l => l.contains c.cls)) = true := by
  decide +kernel

/-- `/code-data` returns one description per coordinate, in index order -/
theorem one_description_per_coordinate {α β} (coords : List α) (describe : α → β) :
    (describeAll coords describe).length = coords.length ∧
    ∀ i (h : i < coords.length), (describeAll coords describe)[i]? = some (describe coords[i]) := by
  unfold describeAll
  constructor
  · simp
  · intro i h; simp [h]

/-! non-vacuity -/
example : Generated.Gui.codes.length = 16 := by decide
example : offeredDecoders Generated.Gui.decoders "Toric2DCode" ≠ [] := by decide

end Panqec.C20
