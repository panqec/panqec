/-
C20, the list part of `/code-data`: for every size of the hand-modelled classes, every deformation the
menu offers and both pictures, the visualizer model (`Model/GuiRepr.lean`, `Model/GuiReprClasses.lean`:
the base `stabilizer_representation` / `qubit_representation` over the COMPLETE regenerated
`gui-config.json` table `Generated/GuiFull.lean`, the per-class overrides, `send_code_data`) answers
with exactly one complete description (object, colour, opacity, params, location) per qubit and per
stabilizer, the i-th one computed from and located at the i-th library coordinate of the lattice model,
and with the parity-check matrix and logical operators `rowsH` / `rowsX` / `rowsZ` of the C01
`valid_code` theorems (relabelled qubit by qubit under a deformation, C08).  The model is tied to the
Flask backend field by field by the streams `code-data-*-vs-model` of `harness/props/c20.py`.

The table facts (`classTablesOk`) are decided over the regenerated table, so a missing entry (as the
`rotated` entries of the 2-D colour codes before fix 97df331), a missing key or an unknown colour name
breaks the build of this file.
-/
import PanqecVerif.Generated.Gui
import PanqecVerif.Proofs.GuiReprSurface2D
import PanqecVerif.Proofs.GuiReprCubic3D
import PanqecVerif.Proofs.GuiReprXCube
import PanqecVerif.Proofs.GuiReprRotated3D
import PanqecVerif.Proofs.GuiReprRhombic
import PanqecVerif.Proofs.GuiReprColor
import PanqecVerif.Proofs.GuiReprColor666Toric
import PanqecVerif.Properties.C01Toric3DCode

namespace Panqec.C20Repr
open Panqec.GuiRepr Panqec.Gui

/-- **Generic statement** (any class, any tables): if the lattice model is a well-formed coordinate
    system, both pictures of the class have servable configuration entries for the qubits and for each
    stabilizer type that occurs, every qubit has an axis, the overrides are plain dict assignments and
    the requested deformation is defined on every qubit, then `send_code_data` succeeds and the answer
    is `Faithful`: `n` qubit and `m` stabilizer descriptions; for every index `i` the i-th description
    is the (successful) representation of the i-th coordinate, carries all five fields, and its
    `location` is the class's location of that coordinate; `H`, `logical_x`, `logical_z` are
    `rowsH`, `rowsX`, `rowsZ` of the lattice (each row relabelled by `deformBsf` under a deformation). -/
theorem code_data_faithful (g : ClassGeom) (T : Tables) (types : List String) (name : String)
    (hs : Servable g T types name) (rot : Bool) :
    ∃ p, g.describeAll T name rot = .ok p ∧ Faithful g T name rot p :=
  describeAll_faithful hs rot

/-- A look-up miss is an error of the whole request (this is what the missing `rotated` entries
    caused): if some stabilizer coordinate has a type without configuration entry for the requested
    picture, `send_code_data` fails. -/
theorem lookup_miss_fails (g : ClassGeom) (T : Tables) (name : String) (rot : Bool) (s : Coord) (t : String)
    (hs : s ∈ g.lat.stabs) (ht : g.stabType s = some t)
    (hmiss : lookupFull T.cfg g.cls "stabilizers" (pictureName rot) t = none) :
    ∃ e, g.describeAll T name rot = .error e := by
  have hfail : g.stabRepr T rot s = .error "KeyError" := by
    unfold ClassGeom.stabRepr baseStab
    simp only [ht, hmiss]
  unfold ClassGeom.describeAll
  cases hq : g.lat.qubits.mapM (g.qubitRepr T rot) with
  | error e' => exact ⟨e', rfl⟩
  | ok qs =>
    cases he : g.lat.stabs.mapM (g.stabRepr T rot) with
    | error e => exact ⟨e, rfl⟩
    | ok ss =>
      obtain ⟨d, _, hd⟩ := (mapM_except_ok _ _ _ he).2 s hs
      rw [hfail] at hd; cases hd

/-- The complete table used here and the summary table of `Properties/C20.lean` are two views of the
    same regenerated file: the summary rows (class, kind, picture, type, object, colour names,
    opacity / params present) of the complete entries are exactly `Generated.Gui.config`, and the
    colormaps agree. -/
theorem tables_agree :
    Generated.GuiFull.entries.map REntry.summary = Generated.Gui.config ∧
    Generated.GuiFull.colormap = Generated.Gui.colormap := by
  constructor <;> decide +kernel

/-- **Validity transfers to the answer** (C01 + C08): if the matrices of the lattice model form a valid
    `[[n, k]]` code and the installed relabelling is a permutation of {X, Y, Z} on every qubit, the
    `H`, `logical_x`, `logical_z` of a faithful answer form a valid `[[n, k]]` code, deformed or not. -/
theorem payload_valid (g : ClassGeom) (T : Tables) (name : String) (rot : Bool) (p : Payload)
    (hf : Faithful g T name rot p) {n k : Nat} (hn : g.lat.qubits.length = n)
    (hv : ValidCodeL n k g.lat.rowsH g.lat.rowsX g.lat.rowsZ)
    (hperm : ∀ q, (g.dmap name q).isPerm = true) :
    ValidCodeL n k p.H p.logicalX p.logicalZ := by
  by_cases h : name = "None"
  · obtain ⟨h1, h2, h3⟩ := hf.undeformed h
    rw [h1, h2, h3]; exact hv
  · obtain ⟨h1, h2, h3⟩ := hf.deformed h
    rw [h1, h2, h3]
    refine Deform.validCode_deform (by simpa using hn) ?_ hv
    intro D hD
    obtain ⟨q, _, rfl⟩ := List.mem_map.mp hD
    exact hperm q

/-! ### the three 2-D surface codes (no override: `location` is the coordinate itself) -/

/-- `Toric2DCode`, every size `Lx, Ly ≥ 2`, deformation None / XZZX / XY, both pictures. -/
theorem toric2D_code_data (Lx Ly : Nat) (hx : 2 ≤ Lx) (hy : 2 ≤ Ly) (name : String)
    (hn : name = "None" ∨ name = "XZZX" ∨ name = "XY") (rot : Bool) :
    ∃ p, (toric2D Lx Ly).describeAll Generated.GuiFull.tables name rot = .ok p ∧
      Faithful (toric2D Lx Ly) Generated.GuiFull.tables name rot p ∧
      (∀ c, (toric2D Lx Ly).stabLocation rot c = locJV c ∧ (toric2D Lx Ly).qubitLocation rot c = locJV c) :=
  let ⟨p, h1, h2⟩ := describeAll_faithful (toric2D_servable Lx Ly hx hy name hn) rot
  ⟨p, h1, h2, fun _ => ⟨rfl, rfl⟩⟩

/-- `Planar2DCode`, every size `Lx, Ly ≥ 1`, deformation None / XZZX / XY, both pictures. -/
theorem planar2D_code_data (Lx Ly : Nat) (hx : 1 ≤ Lx) (hy : 1 ≤ Ly) (name : String)
    (hn : name = "None" ∨ name = "XZZX" ∨ name = "XY") (rot : Bool) :
    ∃ p, (planar2D Lx Ly).describeAll Generated.GuiFull.tables name rot = .ok p ∧
      Faithful (planar2D Lx Ly) Generated.GuiFull.tables name rot p ∧
      (∀ c, (planar2D Lx Ly).stabLocation rot c = locJV c ∧ (planar2D Lx Ly).qubitLocation rot c = locJV c) :=
  let ⟨p, h1, h2⟩ := describeAll_faithful (planar2D_servable Lx Ly hx hy name hn) rot
  ⟨p, h1, h2, fun _ => ⟨rfl, rfl⟩⟩

/-- `RotatedPlanar2DCode`, every size `Lx, Ly ≥ 1`, deformation None / XZZX / XY, both pictures. -/
theorem rotatedPlanar2D_code_data (Lx Ly : Nat) (hx : 1 ≤ Lx) (hy : 1 ≤ Ly) (name : String)
    (hn : name = "None" ∨ name = "XZZX" ∨ name = "XY") (rot : Bool) :
    ∃ p, (rotatedPlanar2D Lx Ly).describeAll Generated.GuiFull.tables name rot = .ok p ∧
      Faithful (rotatedPlanar2D Lx Ly) Generated.GuiFull.tables name rot p ∧
      (∀ c, (rotatedPlanar2D Lx Ly).stabLocation rot c = locJV c ∧
        (rotatedPlanar2D Lx Ly).qubitLocation rot c = locJV c) :=
  let ⟨p, h1, h2⟩ := describeAll_faithful (rotatedPlanar2D_servable Lx Ly hx hy name hn) rot
  ⟨p, h1, h2, fun _ => ⟨rfl, rfl⟩⟩

/-! ### cubic-lattice 3-D surface codes (override: the `normal` of a face; `location` untouched) -/

theorem cubic_location (rot : Bool) (c : Coord) (t : String) :
    finalLocation (cubicStabEdits rot c t) (locJV c) = locJV c := by
  unfold cubicStabEdits
  split
  · split <;> rfl
  · rfl

/-- `Toric3DCode`, every size `Lx, Ly, Lz ≥ 2`, deformation None / XZZX, both pictures. -/
theorem toric3D_code_data (Lx Ly Lz : Nat) (hx : 2 ≤ Lx) (hy : 2 ≤ Ly) (hz : 2 ≤ Lz) (name : String)
    (hn : name = "None" ∨ name = "XZZX") (rot : Bool) :
    ∃ p, (toric3D Lx Ly Lz).describeAll Generated.GuiFull.tables name rot = .ok p ∧
      Faithful (toric3D Lx Ly Lz) Generated.GuiFull.tables name rot p ∧
      (∀ c, (toric3D Lx Ly Lz).stabLocation rot c = locJV c ∧ (toric3D Lx Ly Lz).qubitLocation rot c = locJV c) :=
  let ⟨p, h1, h2⟩ := describeAll_faithful (toric3D_servable Lx Ly Lz hx hy hz name hn) rot
  ⟨p, h1, h2, fun _ => ⟨cubic_location rot _ _, rfl⟩⟩

/-- `Planar3DCode`, every size `Lx, Ly, Lz ≥ 1`, deformation None / XZZX, both pictures. -/
theorem planar3D_code_data (Lx Ly Lz : Nat) (hx : 1 ≤ Lx) (hy : 1 ≤ Ly) (hz : 1 ≤ Lz) (name : String)
    (hn : name = "None" ∨ name = "XZZX") (rot : Bool) :
    ∃ p, (planar3D Lx Ly Lz).describeAll Generated.GuiFull.tables name rot = .ok p ∧
      Faithful (planar3D Lx Ly Lz) Generated.GuiFull.tables name rot p ∧
      (∀ c, (planar3D Lx Ly Lz).stabLocation rot c = locJV c ∧ (planar3D Lx Ly Lz).qubitLocation rot c = locJV c) :=
  let ⟨p, h1, h2⟩ := describeAll_faithful (planar3D_servable Lx Ly Lz hx hy hz name hn) rot
  ⟨p, h1, h2, fun _ => ⟨cubic_location rot _ _, rfl⟩⟩

/-- `HollowPlanar3DCode` (no deformation offered), every size `Lx, Ly, Lz ≥ 1`, both pictures. -/
theorem hollowPlanar3D_code_data (Lx Ly Lz : Nat) (hx : 1 ≤ Lx) (hy : 1 ≤ Ly) (hz : 1 ≤ Lz) (rot : Bool) :
    ∃ p, (hollowPlanar3D Lx Ly Lz).describeAll Generated.GuiFull.tables "None" rot = .ok p ∧
      Faithful (hollowPlanar3D Lx Ly Lz) Generated.GuiFull.tables "None" rot p ∧
      (∀ c, (hollowPlanar3D Lx Ly Lz).stabLocation rot c = locJV c ∧
        (hollowPlanar3D Lx Ly Lz).qubitLocation rot c = locJV c) :=
  let ⟨p, h1, h2⟩ := describeAll_faithful (hollowPlanar3D_servable Lx Ly Lz hx hy hz) rot
  ⟨p, h1, h2, fun _ => ⟨cubic_location rot _ _, rfl⟩⟩

/-- The answers carry valid codes: the `H`, `logical_x`, `logical_z` of the `Toric3DCode` answer,
    undeformed or XZZX-deformed, form a valid `[[3·Lx·Ly·Lz, 3]]` stabilizer code (C01 `valid_code`,
    C08 `validCode_deform`). -/
theorem toric3D_code_data_valid (Lx Ly Lz : Nat) (hx : 2 ≤ Lx) (hy : 2 ≤ Ly) (hz : 2 ≤ Lz) (name : String)
    (hn : name = "None" ∨ name = "XZZX") (rot : Bool) :
    ∃ p, (toric3D Lx Ly Lz).describeAll Generated.GuiFull.tables name rot = .ok p ∧
      ValidCodeL (3 * (Lx * Ly * Lz)) 3 p.H p.logicalX p.logicalZ := by
  obtain ⟨p, h1, h2, _⟩ := toric3D_code_data Lx Ly Lz hx hy hz name hn rot
  refine ⟨p, h1, payload_valid _ _ _ _ _ h2 (C01Toric3DCode.n_formula Lx Ly Lz)
    (C01Toric3DCode.valid_code Lx Ly Lz hx hy hz).2.2.2 ?_⟩
  intro q
  unfold ClassGeom.dmap
  cases hd : (toric3D Lx Ly Lz).deformation name q with
  | none => rfl
  | some m => exact C01Toric3DCode.deformation_perm (name := name) (axis := none) (loc := q) hd

/-- `XCubeCode`, every size `Lx, Ly, Lz ≥ 2`, deformation None / XZZX, both pictures. -/
theorem xcube_code_data (Lx Ly Lz : Nat) (hx : 2 ≤ Lx) (hy : 2 ≤ Ly) (hz : 2 ≤ Lz) (name : String)
    (hn : name = "None" ∨ name = "XZZX") (rot : Bool) :
    ∃ p, (xcube Lx Ly Lz).describeAll Generated.GuiFull.tables name rot = .ok p ∧
      Faithful (xcube Lx Ly Lz) Generated.GuiFull.tables name rot p :=
  describeAll_faithful (xcube_servable Lx Ly Lz hx hy hz name hn) rot

/-- in `XCubeCode` a face stabilizer `(axis, x, y, z)` is drawn at `[x, y, z]` -/
theorem xcube_face_location (rot : Bool) (axis x y z : Int) :
    finalLocation (xcubeStabEdits rot [axis, x, y, z] "face") (locJV [axis, x, y, z]) = JV.ints [x, y, z] := by
  unfold xcubeStabEdits
  simp only [beq_self_eq_true, if_true]
  split <;> split <;> rfl

/-- `RotatedPlanar3DCode`, every size `Lx, Ly, Lz ≥ 1`, deformation None / XZZX, both pictures. -/
theorem rotatedPlanar3D_code_data (Lx Ly Lz : Nat) (hx : 1 ≤ Lx) (hy : 1 ≤ Ly) (hz : 1 ≤ Lz) (name : String)
    (hn : name = "None" ∨ name = "XZZX") (rot : Bool) :
    ∃ p, (rotatedPlanar3D Lx Ly Lz).describeAll Generated.GuiFull.tables name rot = .ok p ∧
      Faithful (rotatedPlanar3D Lx Ly Lz) Generated.GuiFull.tables name rot p :=
  describeAll_faithful (rotatedPlanar3D_servable Lx Ly Lz hx hy hz name hn) rot

/-- `RotatedToric3DCode`, every size `Lx, Ly ≥ 2` not both odd (any `Lz`), deformation None / XZZX,
    both pictures. -/
theorem rotatedToric3D_code_data (Lx Ly Lz : Nat) (hx : 2 ≤ Lx) (hy : 2 ≤ Ly)
    (hodd : ¬ (Lx % 2 = 1 ∧ Ly % 2 = 1)) (name : String) (hn : name = "None" ∨ name = "XZZX") (rot : Bool) :
    ∃ p, (rotatedToric3D Lx Ly Lz).describeAll Generated.GuiFull.tables name rot = .ok p ∧
      Faithful (rotatedToric3D Lx Ly Lz) Generated.GuiFull.tables name rot p :=
  describeAll_faithful (rotatedToric3D_servable Lx Ly Lz hx hy hodd name hn) rot

/-- the two rotated 3-D classes stretch the z coordinate in the rotated picture (`z*1.4142`, kept
    symbolic), for qubits and stabilizers alike; the Kitaev picture draws at the coordinate -/
theorem rotated3D_location (rot : Bool) (x y z : Int) (t : String) :
    finalLocation (rotated3DStabEdits rot [x, y, z] t) (locJV [x, y, z]) =
      (if rot then .arr [JV.i x, JV.i y, JV.f (.mul14142 z)] else locJV [x, y, z]) ∧
    finalLocation (rotated3DQubitEdits rot [x, y, z] t) (locJV [x, y, z]) =
      (if rot then .arr [JV.i x, JV.i y, JV.f (.mul14142 z)] else locJV [x, y, z]) := by
  unfold rotated3DStabEdits rotated3DQubitEdits stretchedLocation
  cases rot <;>
    simp only [finalLocation_append, finalLocation, finalLocation_ite, ite_self, beq_self_eq_true, if_true,
      Bool.false_eq_true, if_false, and_self]

/-- `RhombicToricCode`, every size `Lx, Ly, Lz ≥ 2` (the lattice model is well-formed for every such
    size; the class documents even sizes), deformation None / Checkerboard XZZX, both pictures. -/
theorem rhombicToric_code_data (Lx Ly Lz : Nat) (hx : 2 ≤ Lx) (hy : 2 ≤ Ly) (hz : 2 ≤ Lz) (name : String)
    (hn : name = "None" ∨ name = "Checkerboard XZZX") (rot : Bool) :
    ∃ p, (rhombicToric Lx Ly Lz).describeAll Generated.GuiFull.tables name rot = .ok p ∧
      Faithful (rhombicToric Lx Ly Lz) Generated.GuiFull.tables name rot p :=
  describeAll_faithful (rhombicToric_servable Lx Ly Lz hx hy hz name hn) rot

/-- `RhombicPlanarCode`, every size `Lx, Ly ≥ 2`, `Lz ≥ 1`, deformation None / Checkerboard XZZX,
    both pictures. -/
theorem rhombicPlanar_code_data (Lx Ly Lz : Nat) (hx : 2 ≤ Lx) (hy : 2 ≤ Ly) (hz : 1 ≤ Lz) (name : String)
    (hn : name = "None" ∨ name = "Checkerboard XZZX") (rot : Bool) :
    ∃ p, (rhombicPlanar Lx Ly Lz).describeAll Generated.GuiFull.tables name rot = .ok p ∧
      Faithful (rhombicPlanar Lx Ly Lz) Generated.GuiFull.tables name rot p :=
  describeAll_faithful (rhombicPlanar_servable Lx Ly Lz hx hy hz name hn) rot

/-- `HollowRhombicCode`, every size `Lx, Ly ≥ 2`, `Lz ≥ 3`, deformation None / Checkerboard XZZX,
    both pictures (the parity-check matrix is `rowsH` of the lattice model; its rank defect at sides
    ≥ 6 is the C01 finding, not a visualizer matter). -/
theorem hollowRhombic_code_data (Lx Ly Lz : Nat) (h : C01HollowRhombicCode.Family Lx Ly Lz) (name : String)
    (hn : name = "None" ∨ name = "Checkerboard XZZX") (rot : Bool) :
    ∃ p, (hollowRhombic Lx Ly Lz).describeAll Generated.GuiFull.tables name rot = .ok p ∧
      Faithful (hollowRhombic Lx Ly Lz) Generated.GuiFull.tables name rot p :=
  describeAll_faithful (hollowRhombic_servable Lx Ly Lz h name hn) rot

/-- `Color3DCode` (no deformation offered), every size with all sides even and `≥ 2`, both pictures. -/
theorem color3D_code_data (Lx Ly Lz : Nat) (h : C01Color3DCode.Family Lx Ly Lz) (rot : Bool) :
    ∃ p, (color3D Lx Ly Lz).describeAll Generated.GuiFull.tables "None" rot = .ok p ∧
      Faithful (color3D Lx Ly Lz) Generated.GuiFull.tables "None" rot p :=
  describeAll_faithful (color3D_servable Lx Ly Lz h) rot

/-! ### the 2-D colour codes (the X/Z index of a stabilizer location is dropped: drawn at `(x, y)`) -/

/-- `Color488Code`, every square size `L ≥ 1`, deformation None / XXZZ, both pictures — the
    `rotated` entries exist since fix 97df331. -/
theorem color488_code_data (L : Nat) (hL : 1 ≤ L) (name : String) (hn : name = "None" ∨ name = "XXZZ")
    (rot : Bool) :
    ∃ p, (color488 L L).describeAll Generated.GuiFull.tables name rot = .ok p ∧
      Faithful (color488 L L) Generated.GuiFull.tables name rot p :=
  describeAll_faithful (color488_servable L hL name hn) rot

/-- `Color666PlanarCode` (no deformation offered; `Ly` is ignored by the class), every `Lx ≥ 1`, both
    pictures. -/
theorem color666Planar_code_data (Lx Ly : Nat) (hx : 1 ≤ Lx) (rot : Bool) :
    ∃ p, (color666Planar Lx Ly).describeAll Generated.GuiFull.tables "None" rot = .ok p ∧
      Faithful (color666Planar Lx Ly) Generated.GuiFull.tables "None" rot p :=
  describeAll_faithful (color666Planar_servable Lx Ly hx) rot

/-- `Color666ToricCode`, every square size `L ≥ 1`, deformation None / X3Z3, both pictures (the
    override rescales the polygon of the configuration entry by 1/2 for the X faces). -/
theorem color666Toric_code_data (L : Nat) (hL : 1 ≤ L) (name : String) (hn : name = "None" ∨ name = "X3Z3")
    (rot : Bool) :
    ∃ p, (color666Toric L L).describeAll Generated.GuiFull.tables name rot = .ok p ∧
      Faithful (color666Toric L L) Generated.GuiFull.tables name rot p :=
  (color666Toric_served L hL name hn).faithful rot

/-- the three 2-D colour codes draw the stabilizer `(x, y, p)` at `(x, y)` -/
theorem color2D_location (Lx Ly : Nat) (rot : Bool) (x y p : Int) (t : String) :
    finalLocation (color488StabEdits Lx Ly rot [x, y, p] t) (locJV [x, y, p]) = JV.ints [x, y] ∧
    finalLocation (color666PlanarStabEdits Lx rot [x, y, p] t) (locJV [x, y, p]) = JV.ints [x, y] ∧
    finalLocation (color666ToricStabEdits rot [x, y, p] t) (locJV [x, y, p]) = JV.ints [x, y] := by
  refine ⟨?_, ?_, rfl⟩
  · unfold color488StabEdits
    simp only [finalLocation_append, finalLocation, finalLocation_ite, ite_self, beq_self_eq_true, if_true]
  · unfold color666PlanarStabEdits
    simp only [finalLocation_append, finalLocation, finalLocation_ite, ite_self, beq_self_eq_true, if_true]

/-! ### non-vacuity -/

example : ∃ p, (toric3D 2 3 4).describeAll Generated.GuiFull.tables "XZZX" true = .ok p ∧
    p.qubits.length = 72 ∧ p.stabilizers.length = 96 := by
  obtain ⟨p, h1, h2, _⟩ := toric3D_code_data 2 3 4 (by decide) (by decide) (by decide) "XZZX" (Or.inr rfl) true
  refine ⟨p, h1, ?_, ?_⟩
  · rw [h2.n_qubits]; exact C01Toric3DCode.n_formula 2 3 4
  · rw [h2.n_stabs]; exact C01Toric3DCode.n_stabilizers_formula 2 3 4

/-- the override is visible: an xy face of the Kitaev picture gets the normal `[0, 0, 1]`, a yz face
    `[1, 0, 0]` -/
example : (((toric3D 2 2 2).stabRepr Generated.GuiFull.tables false [1, 1, 0]).toOption.bind
    (getKey · "params")).map (JV.beq (.obj [("w", .d 15 1), ("h", .d 15 1), ("normal", JV.ints [0, 0, 1]),
      ("angle", .i 0)])) = some true := by
  decide +kernel
example : (((toric3D 2 2 2).stabRepr Generated.GuiFull.tables false [0, 1, 1]).toOption.bind
    (getKey · "params")).map (JV.beq (.obj [("w", .d 15 1), ("h", .d 15 1), ("normal", JV.ints [1, 0, 0]),
      ("angle", .i 0)])) = some true := by
  decide +kernel
/-- the colours are resolved through the colormap -/
example : (((toric3D 2 2 2).stabRepr Generated.GuiFull.tables false [0, 1, 1]).toOption.bind
    (getKey · "color")).map (JV.beq (.obj [("activated", .str "0xf1c232"), ("deactivated", .str "0x48BEFF")])) =
    some true := by
  decide +kernel

/-- tagged constants: a face of `RotatedPlanar3DCode` with even `z` is, in the rotated picture, drawn at
    `z*1.4142` and turned by `np.pi/4` -/
example : (((rotatedPlanar3D 2 2 2).stabRepr Generated.GuiFull.tables true [1, 1, 2]).toOption.bind
    (getKey · "location")).map (JV.beq (.arr [.i 1, .i 1, .f (.mul14142 2)])) = some true := by
  decide +kernel
example : ((((rotatedPlanar3D 2 2 2).stabRepr Generated.GuiFull.tables true [1, 1, 2]).toOption.bind
    (getKey · "params")).bind fun p => match p with | .obj d => getKey d "angle" | _ => none).map
    (JV.beq (.f .piDiv4)) = some true := by
  decide +kernel
/-- exact halves: `np.array([[-1, -2], [2, 0]]) * 0.5` is `[[-0.5, -1.0], [1.0, 0.0]]`, and the int
    factor of the Z faces leaves the integers alone -/
example : beqList (scaleRows true [JV.ints [-1, -2], JV.ints [2, 0]])
    [.arr [.d (-5) 1, .d (-10) 1], .arr [.d 10 1, .d 0 1]] = true := by decide +kernel
example : beqList (scaleRows false [JV.ints [-1, -2], JV.ints [2, 0]])
    [JV.ints [-1, -2], JV.ints [2, 0]] = true := by decide +kernel

/-- a table without the `rotated` entries fails (the defect fixed by 97df331) -/
example : ∃ e, (toric2D 2 2).describeAll ⟨Generated.GuiFull.entries.filter (·.picture != "rotated"),
    Generated.GuiFull.colormap⟩ "None" true = .error e :=
  lookup_miss_fails _ _ _ _ [0, 0] "vertex" (by decide +kernel) (by decide +kernel) (by decide +kernel)

end Panqec.C20Repr
