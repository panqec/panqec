/-
C17 for `XCubeCode`, ALL sizes of the supported family (`Lx, Ly, Lz ≥ 2`, no upper bound): the
distance `code.d` reports is the true code distance, `min Lx (min Ly Lz)` — for the undeformed
code and for every deformed code the class offers.

The matrices are the ones the generic code model assembles from the hand-written lattice model
`Model/Lattices/XCubeCode.lean` (tied to `panqec/codes/fractons/_xcube_code.py` by the
correspondence streams of `harness/lattices/xcubecode.py`); they form a valid
`[[3·Lx·Ly·Lz, 2(Lx+Ly+Lz) − 3]]` code for every size (`C01XCubeCode.valid_code`).

* `reported_distance` — `code.d` (`distance`, the minimum Pauli weight over the rows of
  `logicals_x` and `logicals_z`, as `StabilizerCode.d` computes it) is `min Lx (min Ly Lz)`: the
  `2(Lx+Ly+Lz) − 3` listed X logicals are ladders of `Lz, Ly, Lz, Lx, Ly, Lx` parallel edges, the
  listed Z logicals single lines of `Lx`, `Ly`, `Lz` edges or pairs of lines (`listed_weight_ge`,
  `listed_weights_attained`).
* `lower_bound` — every non-trivial logical operator has weight `≥ min Lx (min Ly Lz)`.  Packing
  argument (`Proofs/DistLattice.lean`, `Proofs/DistCubic3D.lean`, `Proofs/DistXCubeCode{Parity,Reps}.lean`):
  a non-trivial logical anticommutes with one of the listed logicals (C04).  A ladder of parallel
  edges (X logical) has `L` translates along its edges, consecutive ones differing by the product
  of the vertex operators in between.  Z lines are rigid — a single line is NOT equivalent to a
  translate of itself; the product of a row of cubes is the product of the FOUR lines through
  its corners.  Hence the parities `U j k` of an operator commuting with all generators against
  the parallel lines at transverse position `(j, k)` satisfy the rectangle relation
  `U j k + U j 0 + U 0 k + U 0 0 ≡ 0`: the line at `(j0, 0)` is equivalent to the product of the
  three lines at `(s, 0)`, `(j0, i)`, `(s, i)`, which gives `min A B` pairwise disjoint
  representatives on an `A × B` transverse grid; a pair of lines at `(0, 0)`, `(0, k0)` is
  equivalent to the pair at `(i, 0)`, `(i, k0)`: `A` representatives.
* `distance` — `IsDistance (3·Lx·Ly·Lz) H (min Lx (min Ly Lz))`; `distance_reported` for the
  reported `d`.
* `distance_deformed`, `distance_deformed_offered` — the same for EVERY DEFORMED code of the class
  (`deform('XZZX', deformation_axis=ax)`, `ax ∈ {x, y, z}`; every other name or axis raises),
  every size (`C17.distance_deformation_invariant`).
-/
import PanqecVerif.Properties.C01XCubeCode
import PanqecVerif.Proofs.DistXCubeCodeWeights
import PanqecVerif.Proofs.DistDeform

namespace Panqec.C17XCubeCode
open Panqec Panqec.XCubeCode

/-- every listed logical operator (row of `logicals_x` or `logicals_z`) has Pauli weight at least
    `min Lx (min Ly Lz)` — every `Lx, Ly, Lz ≥ 2` -/
theorem listed_weight_ge (Lx Ly Lz : Nat) (hx : 2 ≤ Lx) (hy : 2 ≤ Ly) (hz : 2 ≤ Lz) :
    ∀ r ∈ (lattice Lx Ly Lz).rowsX ++ (lattice Lx Ly Lz).rowsZ,
      min Lx (min Ly Lz) ≤ pauliWeight r := by
  intro r hr
  have hr' : r ∈ (logX Lx Ly Lz ++ logZ Lx Ly Lz).map (opRow (qubits Lx Ly Lz)) := by
    rw [List.map_append]; exact hr
  obtain ⟨a, ha, rfl⟩ := List.mem_map.mp hr'
  rw [weight_listed (C01XCubeCode.wf Lx Ly Lz hx hy hz) ha]
  exact listed_length_ge ha

/-- each of `Lx`, `Ly`, `Lz` is the weight of a row of `logicals_x` and of a row of `logicals_z` -/
theorem listed_weights_attained (Lx Ly Lz : Nat) (hx : 2 ≤ Lx) (hy : 2 ≤ Ly) (hz : 2 ≤ Lz) :
    (∀ L ∈ [Lx, Ly, Lz], ∃ r ∈ (lattice Lx Ly Lz).rowsX, pauliWeight r = L) ∧
    (∀ L ∈ [Lx, Ly, Lz], ∃ r ∈ (lattice Lx Ly Lz).rowsZ, pauliWeight r = L) := by
  have hwf := C01XCubeCode.wf Lx Ly Lz hx hy hz
  obtain ⟨⟨a1, h1, e1⟩, ⟨a2, h2, e2⟩, ⟨a3, h3, e3⟩⟩ := listedX_attained (Lx := Lx) hy hz
  obtain ⟨⟨b1, g1, f1⟩, ⟨b2, g2, f2⟩, ⟨b3, g3, f3⟩⟩ := listedZ_attained (Lz := Lz) hx hy
  have wX : ∀ a ∈ logX Lx Ly Lz, ∃ r ∈ (lattice Lx Ly Lz).rowsX, pauliWeight r = a.length :=
    fun a ha => ⟨_, List.mem_map.mpr ⟨a, ha, rfl⟩,
      weight_listed hwf (List.mem_append.mpr (Or.inl ha))⟩
  have wZ : ∀ a ∈ logZ Lx Ly Lz, ∃ r ∈ (lattice Lx Ly Lz).rowsZ, pauliWeight r = a.length :=
    fun a ha => ⟨_, List.mem_map.mpr ⟨a, ha, rfl⟩,
      weight_listed hwf (List.mem_append.mpr (Or.inr ha))⟩
  constructor
  · intro L hL
    simp only [List.mem_cons, List.not_mem_nil, or_false] at hL
    rcases hL with rfl | rfl | rfl
    · obtain ⟨r, hr, hw⟩ := wX a1 h1; exact ⟨r, hr, hw.trans e1⟩
    · obtain ⟨r, hr, hw⟩ := wX a2 h2; exact ⟨r, hr, hw.trans e2⟩
    · obtain ⟨r, hr, hw⟩ := wX a3 h3; exact ⟨r, hr, hw.trans e3⟩
  · intro L hL
    simp only [List.mem_cons, List.not_mem_nil, or_false] at hL
    rcases hL with rfl | rfl | rfl
    · obtain ⟨r, hr, hw⟩ := wZ b1 g1; exact ⟨r, hr, hw.trans f1⟩
    · obtain ⟨r, hr, hw⟩ := wZ b2 g2; exact ⟨r, hr, hw.trans f2⟩
    · obtain ⟨r, hr, hw⟩ := wZ b3 g3; exact ⟨r, hr, hw.trans f3⟩

/-- what `code.d` returns — the minimum weight over the listed logical operators — is
    `min Lx (min Ly Lz)`, every `Lx, Ly, Lz ≥ 2` -/
theorem reported_distance (Lx Ly Lz : Nat) (hx : 2 ≤ Lx) (hy : 2 ≤ Ly) (hz : 2 ≤ Lz) :
    Panqec.distance (lattice Lx Ly Lz).rowsX (lattice Lx Ly Lz).rowsZ =
      some (min Lx (min Ly Lz)) :=
  XCubeCode.reported_distance hx hy hz (C01XCubeCode.wf Lx Ly Lz hx hy hz)

/-- no non-trivial logical operator (commutes with every generator, is not a product of
    generators) of the `Lx × Ly × Lz` X-cube code is lighter than `min Lx (min Ly Lz)` — every
    `Lx, Ly, Lz ≥ 2` -/
theorem lower_bound (Lx Ly Lz : Nat) (hx : 2 ≤ Lx) (hy : 2 ≤ Ly) (hz : 2 ≤ Lz) :
    ∀ v, IsNontrivialLogical (3 * (Lx * Ly * Lz)) (lattice Lx Ly Lz).rowsH v →
      min Lx (min Ly Lz) ≤ pauliWeight v :=
  XCubeCode.lower_bound hx hy hz (C01XCubeCode.wf Lx Ly Lz hx hy hz) (length_qubits Lx Ly Lz)
    (C01XCubeCode.valid_code Lx Ly Lz hx hy hz).2.2.2

/-- THE C17 STATEMENT FOR ALL SIZES (`Lx, Ly, Lz ≥ 2`): the code distance of the `Lx × Ly × Lz`
    X-cube code — the minimum weight of a non-trivial logical operator of the assembled
    parity-check matrix — is `min Lx (min Ly Lz)` -/
theorem distance (Lx Ly Lz : Nat) (hx : 2 ≤ Lx) (hy : 2 ≤ Ly) (hz : 2 ≤ Lz) :
    IsDistance (3 * (Lx * Ly * Lz)) (lattice Lx Ly Lz).rowsH (min Lx (min Ly Lz)) :=
  distance_criterion (C01XCubeCode.valid_code Lx Ly Lz hx hy hz).2.2.2 (min Lx (min Ly Lz))
    (exists_listed_of_distance _ _ _ (reported_distance Lx Ly Lz hx hy hz))
    (lower_bound Lx Ly Lz hx hy hz)

/-- the same, stated for whatever `code.d` reports: the reported distance exists and is the
    true distance -/
theorem distance_reported (Lx Ly Lz : Nat) (hx : 2 ≤ Lx) (hy : 2 ≤ Ly) (hz : 2 ≤ Lz) :
    ∃ d, Panqec.distance (lattice Lx Ly Lz).rowsX (lattice Lx Ly Lz).rowsZ = some d ∧
      IsDistance (3 * (Lx * Ly * Lz)) (lattice Lx Ly Lz).rowsH d :=
  ⟨_, reported_distance Lx Ly Lz hx hy hz, distance Lx Ly Lz hx hy hz⟩

/-! ### deformed codes (`code.deform('XZZX', deformation_axis=ax)`) -/

/-- the class offers the deformation 'XZZX' along the axes 'x', 'y', 'z': for these
    `get_deformation` is defined on every qubit of every lattice (any other name or axis raises,
    `C01XCubeCode.deformation_rule`) -/
theorem deformation_defined (Lx Ly Lz : Nat) (axis : String)
    (ha : axis = "x" ∨ axis = "y" ∨ axis = "z") (q : Coord)
    (hq : q ∈ (lattice Lx Ly Lz).qubits) : ∃ m, getDeformation "XZZX" (some axis) q = some m := by
  obtain ⟨x, y, z, rfl⟩ := mem_qubits_shape Lx Ly Lz q hq
  rw [C01XCubeCode.deformation_rule, C01XCubeCode.qubit_axis_rule Lx Ly Lz x y z hq]
  have h1 : ¬ (axis ≠ "x" ∧ axis ≠ "y" ∧ axis ≠ "z") := by
    rintro ⟨a, b, c⟩; rcases ha with h | h | h <;> contradiction
  rw [if_neg h1, if_neg (by decide)]
  exact ⟨_, rfl⟩

/-- THE C17 STATEMENT FOR EVERY DEFORMED CODE OF THE CLASS, ALL SIZES (`Lx, Ly, Lz ≥ 2`): for every
    deformation name and axis for which `get_deformation` is defined on the qubits (`D q` = the
    relabelling it returns on `q`), the matrices the deformed getters assemble are the relabelled
    rows, they form a valid `[[n, k]]` code, `code.d` reports `min Lx (min Ly Lz)`, and that is the
    true distance of the deformed code -/
theorem distance_deformed (Lx Ly Lz : Nat) (hx : 2 ≤ Lx) (hy : 2 ≤ Ly) (hz : 2 ≤ Lz)
    (name : String) (axis : Option String) (D : Coord → PauliMap)
    (hD : ∀ q ∈ (lattice Lx Ly Lz).qubits, getDeformation name axis q = some (D q)) :
    stabilizerMatrix ((lattice Lx Ly Lz).toCodeData.deform D) =
        some ((lattice Lx Ly Lz).rowsH.map (deformBsf ((lattice Lx Ly Lz).qubits.map D))) ∧
    logicalsX ((lattice Lx Ly Lz).toCodeData.deform D) =
        some ((lattice Lx Ly Lz).rowsX.map (deformBsf ((lattice Lx Ly Lz).qubits.map D))) ∧
    logicalsZ ((lattice Lx Ly Lz).toCodeData.deform D) =
        some ((lattice Lx Ly Lz).rowsZ.map (deformBsf ((lattice Lx Ly Lz).qubits.map D))) ∧
    ValidCodeL (3 * (Lx * Ly * Lz)) (2 * (Lx + Ly + Lz) - 3)
      ((lattice Lx Ly Lz).rowsH.map (deformBsf ((lattice Lx Ly Lz).qubits.map D)))
      ((lattice Lx Ly Lz).rowsX.map (deformBsf ((lattice Lx Ly Lz).qubits.map D)))
      ((lattice Lx Ly Lz).rowsZ.map (deformBsf ((lattice Lx Ly Lz).qubits.map D))) ∧
    Panqec.distance ((lattice Lx Ly Lz).rowsX.map (deformBsf ((lattice Lx Ly Lz).qubits.map D)))
      ((lattice Lx Ly Lz).rowsZ.map (deformBsf ((lattice Lx Ly Lz).qubits.map D))) =
        some (min Lx (min Ly Lz)) ∧
    IsDistance (3 * (Lx * Ly * Lz))
      ((lattice Lx Ly Lz).rowsH.map (deformBsf ((lattice Lx Ly Lz).qubits.map D)))
      (min Lx (min Ly Lz)) :=
  Lattice.deformed_distance (lattice Lx Ly Lz) (C01XCubeCode.wf Lx Ly Lz hx hy hz)
    (C01XCubeCode.n_formula Lx Ly Lz) (C01XCubeCode.valid_code Lx Ly Lz hx hy hz).2.2.2
    (reported_distance Lx Ly Lz hx hy hz) (distance Lx Ly Lz hx hy hz) D
    (fun q hq => C01XCubeCode.deformation_isPerm name axis q _ (hD q hq))

/-- the relabelling `get_deformation(·, name, axis)` as a function of the location (identity
    where it raises — nowhere on the qubits for the offered name and axes) -/
def deformationOf (name : String) (axis : Option String) (q : Coord) : PauliMap :=
  (getDeformation name axis q).getD PauliMap.id

/-- the XZZX-deformed code along every axis has distance `min Lx (min Ly Lz)` — every size -/
theorem distance_deformed_offered (Lx Ly Lz : Nat) (hx : 2 ≤ Lx) (hy : 2 ≤ Ly) (hz : 2 ≤ Lz)
    (axis : String) (ha : axis = "x" ∨ axis = "y" ∨ axis = "z") :
    IsDistance (3 * (Lx * Ly * Lz))
      ((lattice Lx Ly Lz).rowsH.map (deformBsf ((lattice Lx Ly Lz).qubits.map
        (deformationOf "XZZX" (some axis))))) (min Lx (min Ly Lz)) :=
  (distance_deformed Lx Ly Lz hx hy hz "XZZX" (some axis) (deformationOf "XZZX" (some axis))
    (fun q hq => by
      obtain ⟨m, hm⟩ := deformation_defined Lx Ly Lz axis ha q hq
      unfold deformationOf
      rw [hm]; rfl)).2.2.2.2.2

/-! ### non-vacuity -/

example : IsDistance 72 (lattice 2 3 4).rowsH 2 :=
  distance 2 3 4 (by decide) (by decide) (by decide)
example : IsDistance 1260 (lattice 10 7 6).rowsH 6 :=
  distance 10 7 6 (by decide) (by decide) (by decide)
/-- the hypothesis of `lower_bound` is satisfiable: the first listed logical X is a non-trivial
    logical operator -/
example : IsNontrivialLogical 24 (lattice 2 2 2).rowsH ((lattice 2 2 2).rowsX.getD 0 []) :=
  listedX_nontrivial (C01XCubeCode.valid_code 2 2 2 (by decide) (by decide) (by decide)).2.2.2
    (by decide +kernel)
example : ((lattice 2 3 4).rowsX.map pauliWeight) = [4, 4, 4, 3, 3, 3, 4, 4, 2, 2, 2, 3, 3, 2, 2] := by
  decide +kernel
example : ((lattice 2 3 4).rowsZ.map pauliWeight) = [2, 2, 2, 4, 4, 4, 3, 3, 6, 6, 6, 4, 4, 8, 8] := by
  decide +kernel
/-- the XZZX code on the `3 × 4 × 5` lattice along 'z' has distance 3 -/
example : IsDistance 180 ((lattice 3 4 5).rowsH.map
    (deformBsf ((lattice 3 4 5).qubits.map (deformationOf "XZZX" (some "z"))))) 3 :=
  distance_deformed_offered 3 4 5 (by decide) (by decide) (by decide) "z" (by decide)
example : deformationOf "XZZX" (some "z") [0, 0, 1] = PauliMap.swapXZ := by decide +kernel
/-- `code.deform('XZZX')` without an axis is the deformation along 'z' -/
example : deformationOf "XZZX" none = deformationOf "XZZX" (some "z") := rfl

end Panqec.C17XCubeCode
