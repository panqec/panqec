/-
C12 — interrupted batch runs resume without losing or duplicating trials.

Model: `Model/Batch.lean` (state machine of `BatchSimulation.run` with the atomic `save_json`:
micro-steps, KeyboardInterrupt, kill, restart).  Helper lemmas: `Proofs/Batch.lean` (the invariant),
`Proofs/BatchInv.lean` (its preservation), `Proofs/BatchLive.lean` (progress).

All theorems quantify over an arbitrary list of events `evs` (micro-steps of the running process,
KeyboardInterrupts, kills, restarts) applied to the initial world (no results file).  The only
hypothesis is `AllOK`: every (re)start uses a non-empty specification without duplicates that
contains every simulation already recorded in the file (it may have grown), a target `n_trials`
not below the recorded counts, and a save frequency ≥ 1; nobody else writes the file.
Crash schedules, interrupt schedules, save frequencies, numbers of restarts are unrestricted.
-/
import PanqecVerif.Proofs.BatchLive

namespace Panqec.C12

open Panqec.Batch

/-- the world after the events `evs`, starting without a results file, atomic `save_json` -/
abbrev after (fmt : Fmt) (evs : List Ev) : World := runEvs (World.init fmt true) evs

/-- **A restart never raises** (and no other step does): the process is never in a `failed`
    state — not `EOFError`/`BadGzipFile` from a torn file, not `min([])`, not `% 0`. -/
theorem restart_never_errors (fmt : Fmt) (evs : List Ev) (hok : AllOK (World.init fmt true) evs)
    (e : RunErr) : (after fmt evs).proc.pc ≠ .failed e :=
  (inv_run evs (inv_init fmt) hok).1.not_failed e

/-- the results file is never torn or empty: it is absent or a complete document -/
theorem file_never_torn (fmt : Fmt) (evs : List Ev) (hok : AllOK (World.init fmt true) evs) :
    (after fmt evs).disk.file = .absent ∨ ∃ d, (after fmt evs).disk.file = .complete d :=
  (inv_run evs (inv_init fmt) hok).1.fileOK

/-- **Exact counts after a completed run**: when the process has run to completion, every
    requested simulation is in memory with exactly `n_trials` trials and three result lists of
    exactly that length. -/
theorem completed_run_exact_counts_memory (fmt : Fmt) (evs : List Ev)
    (hok : AllOK (World.init fmt true) evs) (hdone : (after fmt evs).proc.pc = .done) :
    ∀ x ∈ (after fmt evs).proc.spec, ∃ s ∈ (after fmt evs).proc.mem, s.inputs = x ∧
      s.nRuns = (after fmt evs).proc.n ∧ s.ee.length = (after fmt evs).proc.n ∧
      s.su.length = (after fmt evs).proc.n ∧ s.cs.length = (after fmt evs).proc.n := by
  have h := (inv_run evs (inv_init fmt) hok).1
  intro x hx
  rw [← h.specMem] at hx
  obtain ⟨s, hs, rfl⟩ := List.mem_map.mp hx
  have hn := (h.done_counts hdone s hs).1
  obtain ⟨l1, l2, l3⟩ := (h.memOK.each s hs).1.lengths
  exact ⟨s, hs, rfl, hn, l1.trans hn, l2.trans hn, l3.trans hn⟩

/-- **Exact counts in the file after a completed run** (`n_trials ≥ 1`): the results file is a
    complete document (`fileDoc` = its records) that contains, for every requested simulation, a
    record with exactly `n_trials` trials and equally long lists. -/
theorem completed_run_exact_counts_file (fmt : Fmt) (evs : List Ev)
    (hok : AllOK (World.init fmt true) evs) (hdone : (after fmt evs).proc.pc = .done)
    (hn : 1 ≤ (after fmt evs).proc.n) :
    ((after fmt evs).proc.spec ≠ [] → ∃ d, (after fmt evs).disk.file = .complete d) ∧
      ∀ x ∈ (after fmt evs).proc.spec, ∃ r ∈ fileDoc (after fmt evs).disk.file, r.inputs = x ∧
        r.nRuns = (after fmt evs).proc.n ∧ r.ee.length = (after fmt evs).proc.n ∧
        r.su.length = (after fmt evs).proc.n ∧ r.cs.length = (after fmt evs).proc.n := by
  have h := (inv_run evs (inv_init fmt) hok).1
  have hmem : ∀ s ∈ (after fmt evs).proc.mem, s ∈ fileDoc (after fmt evs).disk.file :=
    fun s hs => (h.done_counts hdone s hs).2 hn
  have key : ∀ x ∈ (after fmt evs).proc.spec, ∃ r ∈ fileDoc (after fmt evs).disk.file, r.inputs = x ∧
      r.nRuns = (after fmt evs).proc.n ∧ r.ee.length = (after fmt evs).proc.n ∧
      r.su.length = (after fmt evs).proc.n ∧ r.cs.length = (after fmt evs).proc.n := by
    intro x hx
    obtain ⟨s, hs, a, b⟩ := completed_run_exact_counts_memory fmt evs hok hdone x hx
    exact ⟨s, hmem s hs, a, b⟩
  refine ⟨?_, key⟩
  intro hne
  rcases h.fileOK with hf | ⟨d, hf⟩
  · obtain ⟨x, hx⟩ := List.exists_mem_of_ne_nil _ hne
    obtain ⟨r, hr, _⟩ := key x hx
    rw [hf] at hr
    cases hr
  · exact ⟨d, hf⟩

/-- **The last completed save is kept unchanged as a prefix**: take the results file at any
    moment (after `evs₁`; under the atomic protocol its content *is* the last completed save) and
    let anything admissible happen afterwards (`evs₂`: more trials, saves, kills at any
    micro-step, interrupts, restarts with grown specifications).  Every record of the earlier file
    is still there, and its three result lists are prefixes of the later ones. -/
theorem last_completed_save_is_prefix (fmt : Fmt) (evs₁ evs₂ : List Ev)
    (hok : AllOK (World.init fmt true) (evs₁ ++ evs₂)) :
    ∀ r ∈ fileDoc (after fmt evs₁).disk.file,
      ∃ r' ∈ fileDoc (after fmt (evs₁ ++ evs₂)).disk.file,
        r'.inputs = r.inputs ∧ r.ee <+: r'.ee ∧ r.su <+: r'.su ∧ r.cs <+: r'.cs := by
  obtain ⟨h1, h2⟩ := (allOK_append evs₁ evs₂ _).mp hok
  have ha := (inv_run evs₁ (inv_init fmt) h1).1
  have hb := (inv_run evs₂ ha h2).2
  show FileLE _ _
  simp only [after, runEvs_append]
  exact hb

/-- **No trial is counted twice**: in the results file, at any moment, simulations are recorded
    once, and all trial identifiers of all records together are pairwise distinct (the same holds
    for each of the three lists, which hold the same trials). -/
theorem no_trial_counted_twice (fmt : Fmt) (evs : List Ev) (hok : AllOK (World.init fmt true) evs) :
    ((fileDoc (after fmt evs).disk.file).map (·.inputs)).Nodup ∧
    ((fileDoc (after fmt evs).disk.file).flatMap (·.ee)).Nodup ∧
    ∀ r ∈ fileDoc (after fmt evs).disk.file, r.su = r.ee ∧ r.cs = r.ee ∧ r.nRuns = r.ee.length := by
  have h := (inv_run evs (inv_init fmt) hok).1
  exact ⟨h.docOK.inputsNodup, h.docOK.flat_nodup, fun r hr => (h.docOK.each r hr).1⟩

/-- the same for the results held in memory by the running process -/
theorem no_trial_counted_twice_memory (fmt : Fmt) (evs : List Ev)
    (hok : AllOK (World.init fmt true) evs) :
    ((after fmt evs).proc.mem.flatMap (·.ee)).Nodup :=
  (inv_run evs (inv_init fmt) hok).1.memOK.flat_nodup

/-- every trial in the file has really been run (its identifier was issued by the counter) -/
theorem recorded_trials_were_run (fmt : Fmt) (evs : List Ev) (hok : AllOK (World.init fmt true) evs) :
    ∀ r ∈ fileDoc (after fmt evs).disk.file, ∀ id ∈ r.ee, id < (after fmt evs).next :=
  fun r hr => ((inv_run evs (inv_init fmt) hok).1.docOK.each r hr).2.2

/-- **A record is adopted only when the inputs are identical**: `load_results` of a simulation
    with inputs `x` either starts from scratch or takes over a record of the file whose inputs
    equal `x` — for *any* file content, well-formed or not. -/
theorem adoption_only_on_identical_inputs (od : Option Doc) (x : Nat) :
    loadSim od x = fresh x ∨
      ∃ d r, od = some d ∧ r ∈ d ∧ r.inputs = x ∧ loadSim od x = r := by
  rcases loadSim_cases od x with h | ⟨d, hd, hm, hx⟩
  · exact Or.inl h
  · exact Or.inr ⟨d, loadSim od x, hd, hm, hx, rfl⟩

/-- … and it is the *first* record with these inputs (`_find_current_simulation`) -/
theorem adoption_takes_first_match (d : Doc) (x : Nat) (pre : List Sim) (r : Sim) (post : List Sim)
    (hd : d = pre ++ r :: post) (hpre : ∀ p ∈ pre, p.inputs ≠ x) (hr : r.inputs = x) :
    loadSim (some d) x = r := by
  subst hd
  have : findRec (pre ++ r :: post) x = some r :=
    List.find?_eq_some_iff_append.mpr
      ⟨by simpa using hr, pre, post, rfl, fun p hp => by simpa using hpre p hp⟩
  simp only [loadSim, this]
  cases r; simp_all

/-- with a file whose records have different inputs, nothing is lost either: every record of a
    requested simulation is adopted by exactly that simulation (used by the prefix theorem) -/
theorem every_requested_record_is_adopted (d : Doc) (hn : (d.map (·.inputs)).Nodup) (r : Sim)
    (hr : r ∈ d) : loadSim (some d) r.inputs = r :=
  loadSim_of_mem hn hr

/-- **An uninterrupted restart runs to completion**: after any admissible history (kills at any
    micro-step, interrupts, earlier restarts), a new process started with an admissible
    specification reaches `done` after finitely many micro-steps, if it is left alone. -/
theorem uninterrupted_restart_completes (fmt : Fmt) (evs : List Ev)
    (hok : AllOK (World.init fmt true) evs) (spec : List Nat) (n sf : Nat)
    (hs : EvOK (after fmt evs) (.start spec n sf)) :
    ∃ k, AllOK (World.init fmt true) (evs ++ [.start spec n sf] ++ List.replicate k .step) ∧
      (after fmt (evs ++ [.start spec n sf] ++ List.replicate k .step)).proc.pc = .done ∧
      (after fmt (evs ++ [.start spec n sf] ++ List.replicate k .step)).proc.spec = spec ∧
      (after fmt (evs ++ [.start spec n sf] ++ List.replicate k .step)).proc.n = n := by
  obtain ⟨hd, _, _, hsp, hn⟩ := start_done (inv_run evs (inv_init fmt) hok).1 hs (Nat.le_refl _)
  have hrun : ∀ k, after fmt (evs ++ [.start spec n sf] ++ List.replicate k .step) =
      stepN k (startProc (after fmt evs) spec n sf) := fun k => by
    simp only [after, runEvs_append, stepN_eq_runEvs]
    rfl
  refine ⟨(n + 1) * (spec.length + 101), ?_, ?_, ?_, ?_⟩
  · rw [allOK_append, allOK_append]
    exact ⟨⟨hok, hs, trivial⟩, allOK_steps _ _⟩
  · rw [hrun]; exact hd
  · rw [hrun]; exact hsp
  · rw [hrun]; exact hn

/-- **The statement of C12 in one theorem**: after any admissible history, running the
    (possibly grown) specification again with a target `n ≥ 1` completes without error, and the
    results file then holds, for every requested simulation, exactly `n` trials with equally long
    lists, all records of the file as it was before the restart (= the last completed save) are
    unchanged prefixes, and no trial occurs twice. -/
theorem resume_is_correct (fmt : Fmt) (evs : List Ev)
    (hok : AllOK (World.init fmt true) evs) (spec : List Nat) (n sf : Nat) (hn : 1 ≤ n)
    (hs : EvOK (after fmt evs) (.start spec n sf)) :
    ∃ k, let w' := after fmt (evs ++ [.start spec n sf] ++ List.replicate k .step)
      w'.proc.pc = .done ∧
      (∃ d, w'.disk.file = .complete d) ∧
      (∀ x ∈ spec, ∃ r ∈ fileDoc w'.disk.file, r.inputs = x ∧ r.nRuns = n ∧
        r.ee.length = n ∧ r.su.length = n ∧ r.cs.length = n) ∧
      (∀ r ∈ fileDoc (after fmt evs).disk.file, ∃ r' ∈ fileDoc w'.disk.file,
        r'.inputs = r.inputs ∧ r.ee <+: r'.ee ∧ r.su <+: r'.su ∧ r.cs <+: r'.cs) ∧
      ((fileDoc w'.disk.file).flatMap (·.ee)).Nodup := by
  obtain ⟨k, hok', hdone, hspec, hnn⟩ := uninterrupted_restart_completes fmt evs hok spec n sf hs
  refine ⟨k, hdone, ?_, ?_, ?_, ?_⟩
  · have := (completed_run_exact_counts_file fmt _ hok' hdone (by rw [hnn]; exact hn)).1
    rw [hspec] at this
    exact this hs.1
  · have := (completed_run_exact_counts_file fmt _ hok' hdone (by rw [hnn]; exact hn)).2
    rw [hspec, hnn] at this
    exact this
  · have := last_completed_save_is_prefix fmt evs ([.start spec n sf] ++ List.replicate k .step)
      (by rw [← List.append_assoc]; exact hok')
    rw [← List.append_assoc] at this
    exact this
  · exact (no_trial_counted_twice fmt _ hok').2.1

/-! ### non-vacuity: the hypotheses hold on concrete, non-trivial schedules -/

/-- two simulations, 3 trials, save frequency 1; killed in the middle of the second save_json of
    the first checkpoint (temporary file torn); restart with a grown specification, larger target
    and another save frequency, interrupted by Ctrl-C during a save, then restarted again and
    run to completion -/
def demo : List Ev :=
  [.start [7, 8] 3 1] ++ List.replicate 13 .step ++ [.crash,
   .start [7, 8, 9] 4 2] ++ List.replicate 12 .step ++ [.kbint] ++ List.replicate 6 .step ++ [.crash,
   .start [7, 8, 9] 4 5] ++ List.replicate 40 .step

example : AllOK (World.init .gz true) demo := by decide +kernel
example : (after .gz demo).proc.pc = .done := by decide +kernel
example : (after .gz (demo.take 15)).disk = ⟨.complete [⟨7, 2, [0, 2], [0, 2], [0, 2]⟩,
    ⟨8, 2, [1, 3], [1, 3], [1, 3]⟩], .torn⟩ := by decide +kernel
example : (fileDoc (after .gz demo).disk.file).map (fun r => (r.inputs, r.ee)) =
    [(7, [0, 2, 4, 7]), (8, [1, 3, 5, 8]), (9, [6, 9, 10, 11])] := by decide +kernel

/-! ### the old in-place protocol (`open(file, 'w')` truncates the results file, then writes):
    the negated theorems on a concrete crash schedule (defect D11, repaired in /repo by
    "fix: save_json writes to a temporary file and renames it into place"; kept as a regression
    example — the correspondence harness compares this machine with the pre-fix `save_json`) -/

/-- one simulation, 2 trials, save frequency 1: the first `save_results` writes the file twice
    (`save_file()` then `save_json`); the process is killed while the second write is under way -/
def oldCrash : List Ev := [.start [0] 2 1] ++ List.replicate 10 .step ++ [.crash]

/-- after the first write the save had completed … -/
theorem old_protocol_completed_save (fmt : Fmt) :
    (runEvs (World.init fmt false) (oldCrash.take 9)).disk.file =
      .complete [⟨0, 2, [0, 1], [0, 1], [0, 1]⟩] := by
  cases fmt <;> decide

/-- … and the kill leaves the results file torn -/
theorem old_protocol_leaves_torn_file (fmt : Fmt) :
    (runEvs (World.init fmt false) oldCrash).disk.file = .torn := by
  cases fmt <;> decide

/-- gzip output: the restart raises (`EOFError` / `BadGzipFile`) — `restart_never_errors` fails -/
theorem old_protocol_restart_raises_gz :
    (runEvs (World.init .gz false) (oldCrash ++ [.start [0] 2 1])).proc.pc = .failed .eof := by
  decide

/-- plain JSON output: the restart silently starts from scratch; after it has completed, the
    trials 0 and 1 of the completed save are gone — `last_completed_save_is_prefix` fails -/
theorem old_protocol_loses_completed_save_json :
    ¬ FileLE (runEvs (World.init .json false) (oldCrash.take 9)).disk.file
        (runEvs (World.init .json false)
          (oldCrash ++ [.start [0] 2 1] ++ List.replicate 20 .step)).disk.file := by
  have h1 := old_protocol_completed_save .json
  have h2 : (runEvs (World.init .json false)
      (oldCrash ++ [.start [0] 2 1] ++ List.replicate 20 .step)).disk.file =
      .complete [⟨0, 2, [2, 3], [2, 3], [2, 3]⟩] := by decide
  rw [h1, h2]
  intro h
  obtain ⟨r', hr', _, hp, _⟩ := h ⟨0, 2, [0, 1], [0, 1], [0, 1]⟩ (by simp [fileDoc])
  simp only [fileDoc, List.mem_singleton] at hr'
  subst hr'
  simp at hp

/-- the same schedule under the atomic protocol is harmless -/
example : AllOK (World.init .gz true) (oldCrash ++ [.start [0] 2 1] ++ List.replicate 20 .step) := by
  decide +kernel
example : (after .gz (oldCrash ++ [.start [0] 2 1] ++ List.replicate 20 .step)).proc.pc = .done := by
  decide +kernel

end Panqec.C12
