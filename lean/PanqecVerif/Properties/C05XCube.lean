/-
C05 for `XCubeMatchingDecoder` (`panqec/decoders/xcube/_xcube_matching_decoder.py`).

Model: `Model/XCubeDecoder.lean` — the whole pure-Python glue (sub-problem construction from the
lattice size, syndrome slicing, `get_matched_pairs`, `find_connected_components`, the projection and
loop scatters, `decode_plane`, minimum-weight choice, BP-OSD call, final sum mod 2) with PyMatching
and ldpc as parameters, on top of the all-sizes lattice models of `XCubeCode` and `Toric2DCode`.
It is tied to the implementation on every run (`harness/xcube_dec.py`): every sliced syndrome,
every solver answer, every helper result, the three scatter vectors and the returned vector (or
the `KeyError` and its key) are compared on every lattice in {2,3}³ and a few larger ones.

What is proved (every lattice size, every syndrome, every solver answer unless stated):

* a returned correction is a binary vector of length `2n` (no contract needed);
* the parity-check matrix of `XCubeCode` is CSS at every size; the Z half of the correction is the
  ldpc answer on `(Hx, pz+py, X-row syndrome)` and, under the ldpc contract, the correction
  reproduces the X-row (vertex-operator) syndrome; under the ldpc contracts the BP-OSD stage
  never fails;
* **no `KeyError` on any lattice with all sides ≥ 2** (`xcube_no_keyerror`): every dict look-up
  of `decode` (toric `stabilizer_index`, `plane_syndrome`, `connected_planes`, `neighbors` in
  `find_connected_components`, `qubit_index` in the projection, `state` in `decode_plane`,
  `qubit_index` in the loop scatter) finds its key, for every syndrome vector, every PyMatching /
  ldpc answer, every `list(set)` order that keeps the elements;
* regression (code before 869642d, `XCubeDec.old`: `decode_plane` always given `(Lx, Ly)`): the
  loop-scatter keys all exist iff `Lx ≤ Ly ≤ Lz` (`old_xcube_loop_keys_exist_iff_ascending`), no
  `KeyError` on such lattices (`old_xcube_no_keyerror_of_ascending`), kernel-evaluated `KeyError
  (1, 4, 0)` on `XCubeCode(3,2,2)`, X on qubit 0 (`old_xcube_keyerror_witness_322`), and a
  kernel-evaluated wrong cube syndrome on the ascending lattice 2×2×3
  (`old_xcube_cube_syndrome_not_reproduced_223`); the repaired model decodes both inputs to the
  error itself (`xcube_repaired_on_former_witnesses`).

Not claimed: that the cube (Z-row) syndrome is reproduced for every syndrome — that is the
correctness of the projection / loop-filling heuristic itself (it held on all 1 686 corrections the
repair was tried on, and is tested by the oracle); `XCubeMatchingDecoder` is not in the list of
complete decoders of C05.

Not proved: termination of the `while` walk of `get_matched_pairs` — it is false in general: the
walk follows the PyMatching answer and a cycle in the answer makes it run forever
(`get_matched_pairs_can_hang`; observed on the implementation with zero matching weights); the
model reports that as `XErr.hang`, exactly when the loop does not terminate
(`get_matched_pairs_fuel_exact`); the harness has a watchdog.  Under the hypotheses of
`xcube_no_keyerror` the exceptions of the sub-decoders' glue and of numpy (`IndexError` on a syndrome
of the wrong length, shape errors when a solver answer has the wrong length) and `XErr.hang` are the
only ones `decode` raises: `XCube.decode_decOrHang` (`Proofs/XCubeDecNoKeyError.lean`), of which the
two no-`KeyError` theorems here are instances.
-/
import PanqecVerif.Proofs.XCubeDecValid
import PanqecVerif.Proofs.XCubeDecKeys
import PanqecVerif.Proofs.XCubeDecCss
import PanqecVerif.Proofs.XCubeDecNoKeyError
import PanqecVerif.Proofs.XCubeDecWitness
import PanqecVerif.Proofs.XCubeDecWalk
import PanqecVerif.Properties.C05

namespace Panqec.C05XCube

open Panqec Panqec.XCube

variable {W : Type}

/-- the parity-check matrix of (undeformed) `XCubeCode(Lx, Ly, Lz)` is CSS, for every size -/
theorem xcube_lattice_is_css (Lx Ly Lz : Nat) :
    isCss ((stabilizerMatrix (codeData Lx Ly Lz none)).getD []) = true :=
  isCss_xcube Lx Ly Lz

/-- **Validity.**  For every decoder object (any lattice size, deformed or not), every state of
    its BP-OSD decoder, every syndrome vector and every answer of PyMatching and ldpc: if
    `decode` returns, the result is a binary vector of length `2n`. -/
theorem xcube_correction_valid (solve : WSolver W) (S : BpSolver) (castEv : Event Rat → Event W)
    (order : List Int → List Int) (d : XCubeDec W) (st : BpSt) (s c : Vec)
    (h : (d.decode solve S castEv order st s).2.val = .ok c) :
    c.length = 2 * d.n ∧ ∀ x ∈ c, x < 2 :=
  decode_valid solve S castEv order d st s c h

/-- **The Z half, every lattice size.**  On the decoder `__init__` builds for
    `XCubeCode(Lx, Ly, Lz)`, after any history of `decode` calls, for the syndrome of any error
    `e`: if `decode` returns `c`, then the second half of `c` is
    `ldpc(Hx, priors pz + py).decode(X-row syndrome)` and — ldpc contract on `Hx` — the X-row
    (vertex operator) syndrome of `c` is the measured one, whatever PyMatching answered. -/
theorem xcube_z_half_reproduces_x_rows (logOdds : Rat → W) (Lx Ly Lz : Nat) (px py pz : List Rat)
    (cfg : BpCfg) (d : XCubeDec W) (hnew : XCubeDec.new logOdds Lx Ly Lz none px py pz cfg = .ok d)
    (solve : WSolver W) (S : BpSolver) (castEv : Event Rat → Event W) (order : List Int → List Int)
    (hS : BpValidOn d.n S (Hx d.H)) (hist : List Vec) (e : Vec) (he : e.length = 2 * d.n) (c : Vec)
    (h : (d.decode solve S castEv order (d.run solve S castEv order BpSt.init hist)
          (measureSyndrome d.H e)).2.val = .ok c) :
    zPart c = S.decode (Hx d.H) true (raddv pz py) (extractXSyndrome d.H (measureSyndrome d.H e)) ∧
      extractXSyndrome d.H (measureSyndrome d.H c) = extractXSyndrome d.H (measureSyndrome d.H e) := by
  have f := new_ok_fields logOdds Lx Ly Lz none px py pz cfg d hnew
  have hcss : isCss d.H = true := by rw [f.H]; exact isCss_xcube Lx Ly Lz
  have hg := run_good solve S castEv order d hist BpSt.init d.zdec.good_init
  have := decode_xrows solve S castEv order d f.zH hcss hS _ hg e he c h
  rwa [f.hpy, f.hpz] at this

/-- **The BP-OSD stage cannot fail** (ldpc contracts on `Hx` and `Hz`): on the decoder built for
    `XCubeCode(Lx, Ly, Lz)`, after any history, for the syndrome of any error, `decode` returns a
    correction whenever its matching part does. -/
theorem xcube_returns_when_matching_part_returns (logOdds : Rat → W) (Lx Ly Lz : Nat)
    (px py pz : List Rat) (cfg : BpCfg) (d : XCubeDec W)
    (hnew : XCubeDec.new logOdds Lx Ly Lz none px py pz cfg = .ok d)
    (solve : WSolver W) (S : BpSolver) (castEv : Event Rat → Event W) (order : List Int → List Int)
    (hSX : BpValidOn d.n S (Hz d.H)) (hSZ : BpValidOn d.n S (Hx d.H))
    (hist : List Vec) (e : Vec) (he : e.length = 2 * d.n) (pc : Vec)
    (hm : (matchingPart solve order d (measureSyndrome d.H e)).val = .ok pc) :
    ∃ c, (d.decode solve S castEv order (d.run solve S castEv order BpSt.init hist)
          (measureSyndrome d.H e)).2.val = .ok c := by
  have f := new_ok_fields logOdds Lx Ly Lz none px py pz cfg d hnew
  have hcss : isCss d.H = true := by rw [f.H]; exact isCss_xcube Lx Ly Lz
  have hg := run_good solve S castEv order d hist BpSt.init d.zdec.good_init
  exact decode_ok_of_matching_ok solve S castEv order d f.zH f.zn hcss hSX hSZ _ hg e he pc hm

/-- when the matching part raises, `decode` raises the same exception -/
theorem xcube_matching_error_propagates (solve : WSolver W) (S : BpSolver)
    (castEv : Event Rat → Event W) (order : List Int → List Int) (d : XCubeDec W) (st : BpSt)
    (s : Vec) (e : XErr) (h : (matchingPart solve order d s).val = .error e) :
    (d.decode solve S castEv order st s).2.val = .error e :=
  (decode_matching_error solve S castEv order d st s e h).1

/-- shape of the decode result as far as `KeyError` goes: it can only come from the matching part -/
theorem decode_keyError_from_matching (solve : WSolver W) (S : BpSolver) (castEv : Event Rat → Event W)
    (order : List Int → List Int) (d : XCubeDec W) (st : BpSt) (s : Vec) (k : Coord)
    (hk : (d.decode solve S castEv order st s).2.val = .error (.keyError k)) :
    (matchingPart solve order d s).val = .error (.keyError k) := by
  rcases decode_error_cases solve S castEv order d st s _ hk with h | ⟨_, h⟩
  · exact h
  · cases h

/-- `decode_plane(loops, (La, Lb))` only returns cells `(x', y')` with `x' < 2 La`, `y' < 2 Lb`,
    both even — whatever the loops -/
theorem decode_plane_returns_cells (loops : List Coord) (La Lb : Nat) (cs : List Coord)
    (h : (decodePlane loops La Lb : Out W _).val = .ok cs) : ∀ c ∈ cs, Cell La Lb c :=
  (post_decodePlane loops La Lb).post cs h

/-- **No `KeyError`, every lattice with sides ≥ 2.**  For the decoder `__init__` builds on an
    undeformed `XCubeCode(Lx, Ly, Lz)` with `Lx, Ly, Lz ≥ 2` (ordered or not): for every state of
    its BP-OSD decoder, every syndrome vector (any length, any entries), every answer of PyMatching
    and ldpc and every `list(set)` order that keeps the elements, `decode` does not raise
    `KeyError`: each of its dict look-ups finds its key. -/
theorem xcube_no_keyerror (logOdds : Rat → W) (Lx Ly Lz : Nat) (px py pz : List Rat)
    (cfg : BpCfg) (d : XCubeDec W) (hnew : XCubeDec.new logOdds Lx Ly Lz none px py pz cfg = .ok d)
    (hx : 2 ≤ Lx) (hy : 2 ≤ Ly) (hz : 2 ≤ Lz)
    (solve : WSolver W) (S : BpSolver) (castEv : Event Rat → Event W) (order : List Int → List Int)
    (horder : ∀ l x, x ∈ order l ↔ x ∈ l) (st : BpSt) (s : Vec) (k : Coord) :
    (d.decode solve S castEv order st s).2.val ≠ .error (.keyError k) := by
  have f := new_ok_fields logOdds Lx Ly Lz none px py pz cfg d hnew
  have b := built_of_new logOdds Lx Ly Lz px py pz cfg (by omega) (by omega) (by omega) d hnew
  have hok : PlaneKeysOk d := planeKeysOk_current d b.geom.qubits (by rw [f.planeSizes, f.hLx, f.hLy, f.hLz])
  have hsz : ∀ proj, 1 ≤ (d.planeSizes proj).1 ∧ 1 ≤ (d.planeSizes proj).2 := by
    intro proj; rw [f.planeSizes]; cases proj <;> simp only [planeSizesOf] <;> omega
  exact fun hk => (decode_decOrHang solve order horder d b (f.hLx ▸ hx) (f.hLy ▸ hy) (f.hLz ▸ hz) hok hsz
    S castEv st s _ hk).noKeyError k rfl

/-- the `list(set)` order used by the model driver (ascending) keeps the elements, so the theorem
    above applies to it -/
theorem ascending_keeps_elements (l : List Int) (x : Int) : x ∈ ascending l ↔ x ∈ l :=
  mem_ascending l x

/-! ### regression: the code before 869642d (`XCubeDec.old`, finding D16) -/

/-- **Which lattices could raise.**  With `decode_plane(toric_loop, (Lx, Ly))` whatever the
    projection axis, the keys `tuple_insert(cell, proj_axis, plane)` the loop scatter looks up in
    `qubit_index` — over all cells of the `(Lx, Ly)` grid, all three projection axes and all planes
    of the projection axis — all exist iff `Lx ≤ Ly ≤ Lz`. -/
theorem old_xcube_loop_keys_exist_iff_ascending (Lx Ly Lz : Nat) (hx : 1 ≤ Lx) (hy : 1 ≤ Ly) (hz : 1 ≤ Lz) :
    LoopKeysOk Lx Ly Lz ↔ Lx ≤ Ly ∧ Ly ≤ Lz :=
  loopKeysOk_iff Lx Ly Lz hx hy hz

/-- the same for a decoder object: `XCubeDec.old` has all its loop-scatter keys iff the lattice is
    ascending, whereas the repaired object always has them -/
theorem old_vs_repaired_keys (logOdds : Rat → W) (Lx Ly Lz : Nat) (px py pz : List Rat)
    (cfg : BpCfg) (d : XCubeDec W) (hnew : XCubeDec.new logOdds Lx Ly Lz none px py pz cfg = .ok d)
    (hx : 1 ≤ Lx) (hy : 1 ≤ Ly) (hz : 1 ≤ Lz) :
    PlaneKeysOk d ∧ (PlaneKeysOk d.old ↔ Lx ≤ Ly ∧ Ly ≤ Lz) := by
  have f := new_ok_fields logOdds Lx Ly Lz none px py pz cfg d hnew
  have b := built_of_new logOdds Lx Ly Lz px py pz cfg hx hy hz d hnew
  refine ⟨planeKeysOk_current d b.geom.qubits (by rw [f.planeSizes, f.hLx, f.hLy, f.hLz]), ?_⟩
  have := planeKeysOk_old_iff d b.geom.qubits b.geom.hx b.geom.hy b.geom.hz
  rwa [f.hLx, f.hLy, f.hLz] at this

/-- a returned cell whose 3-D location is not a qubit raises `KeyError` with that location -/
theorem xcube_loop_scatter_raises (d : XCubeDec W) (proj : Axis) (pp : Int) (c : Coord)
    (rest : List Coord) (pc : Vec) (h : tupleInsert c proj.toNat pp ∉ d.qubits) :
    (loopScatter d proj pp (c :: rest) pc).val = .error (.keyError (tupleInsert c proj.toNat pp)) :=
  loopScatter_raises d proj pp c rest pc h

/-- the old code raised no `KeyError` on lattices with `2 ≤ Lx ≤ Ly ≤ Lz` (all look-ups, all
    syndromes, all solver answers) -/
theorem old_xcube_no_keyerror_of_ascending (logOdds : Rat → W) (Lx Ly Lz : Nat) (px py pz : List Rat)
    (cfg : BpCfg) (d : XCubeDec W) (hnew : XCubeDec.new logOdds Lx Ly Lz none px py pz cfg = .ok d)
    (hx : 2 ≤ Lx) (hxy : Lx ≤ Ly) (hyz : Ly ≤ Lz)
    (solve : WSolver W) (S : BpSolver) (castEv : Event Rat → Event W) (order : List Int → List Int)
    (horder : ∀ l x, x ∈ order l ↔ x ∈ l) (st : BpSt) (s : Vec) (k : Coord) :
    (d.old.decode solve S castEv order st s).2.val ≠ .error (.keyError k) := by
  have f := new_ok_fields logOdds Lx Ly Lz none px py pz cfg d hnew
  have b := built_of_new logOdds Lx Ly Lz px py pz cfg (by omega) (by omega) (by omega) d hnew
  have hok : PlaneKeysOk d.old :=
    (planeKeysOk_old_iff d b.geom.qubits b.geom.hx b.geom.hy b.geom.hz).mpr
      ⟨f.hLx ▸ f.hLy ▸ hxy, f.hLy ▸ f.hLz ▸ hyz⟩
  have hsz : ∀ proj, 1 ≤ (d.old.planeSizes proj).1 ∧ 1 ≤ (d.old.planeSizes proj).2 :=
    fun _ => ⟨b.geom.hx, b.geom.hy⟩
  exact fun hk => (decode_decOrHang solve order horder d.old (built_old b) (f.hLx ▸ hx)
    (show 2 ≤ d.Ly by rw [f.hLy]; omega) (show 2 ≤ d.Lz by rw [f.hLz]; omega) hok hsz
    S castEv st s _ hk).noKeyError k rfl

/-- **Witness of finding D16 (kernel-evaluated).**  `XCubeCode(3, 2, 2)`, X error on qubit
    0, PyMatching answers that solve their sliced syndromes: the old `decode` raises
    `KeyError (1, 4, 0)`. -/
theorem old_xcube_keyerror_witness_322 :
    ∃ d, witnessDec 3 2 2 = .ok d ∧
      (witnessCall d.old (measureSyndrome d.H (xError 36 0))).val = .error (.keyError [1, 4, 0]) ∧
      answersSolve (witnessCall d.old (measureSyndrome d.H (xError 36 0))).events = true := by
  obtain ⟨d, hd, h⟩ := exists_of_onWitnessDec check322_true
  simp only [check322, Bool.and_eq_true, decide_eq_true_eq] at h
  exact ⟨d, hd, h.1.1, h.1.2⟩

/-- **The old code also returned wrong cube (Z-row) syndromes without raising (kernel-evaluated).**
    `XCubeCode(2, 2, 3)` — an ascending lattice — X error on qubit 2, PyMatching answers that solve
    their sliced syndromes, ldpc answering zero on the zero X-row syndrome: the old `decode` returns
    the zero vector, whose syndrome is not the measured one. -/
theorem old_xcube_cube_syndrome_not_reproduced_223 :
    ∃ d, witnessDec 2 2 3 = .ok d ∧
      (witnessCall d.old (measureSyndrome d.H (xError 36 2))).val = .ok (List.replicate 72 0) ∧
      answersSolve (witnessCall d.old (measureSyndrome d.H (xError 36 2))).events = true ∧
      measureSyndrome d.H (List.replicate 72 0) ≠ measureSyndrome d.H (xError 36 2) := by
  obtain ⟨d, hd, h⟩ := exists_of_onWitnessDec check223_true
  simp only [check223, Bool.and_eq_true, decide_eq_true_eq] at h
  exact ⟨d, hd, h.1.1.1, h.1.1.2, h.1.2⟩

/-- **The repaired code on the two former witnesses (kernel-evaluated)**: with the same PyMatching
    answers, X on qubit 0 of 3×2×2 and X on qubit 2 of 2×2×3 are decoded to the error itself. -/
theorem xcube_repaired_on_former_witnesses :
    (∃ d, witnessDec 3 2 2 = .ok d ∧
      (witnessCall d (measureSyndrome d.H (xError 36 0))).val = .ok (xError 36 0)) ∧
    (∃ d, witnessDec 2 2 3 = .ok d ∧
      (witnessCall d (measureSyndrome d.H (xError 36 2))).val = .ok (xError 36 2)) := by
  obtain ⟨d, hd, h⟩ := exists_of_onWitnessDec check322_true
  obtain ⟨d', hd', h'⟩ := exists_of_onWitnessDec check223_true
  simp only [check322, check223, Bool.and_eq_true, decide_eq_true_eq] at h h'
  exact ⟨⟨d, hd, h.2⟩, d', hd', h'.2⟩

/-- a correction with a cycle through the syndrome vertex makes the walk of `get_matched_pairs`
    run forever (triangle graph, all three edges in the correction): the model reports `hang`.
    On the implementation this happens with zero matching weights, e.g. pure X noise at rate 1/2 on
    `XCubeCode(3,3,3)` (watchdog in the harness; the model stops at the same point). -/
theorem get_matched_pairs_can_hang :
    (matchedPairs [[1, 1, 0], [0, 1, 1], [1, 0, 1]] [1, 1, 1] [1, 0, 0] : Out Unit _).val = .error .hang := by
  decide

/-- **The model's `hang` is exact.**  The walk is deterministic on (stabilizer, previous qubit); on
    a matrix with `rows` rows of `cols` columns there are at most `rows · (cols + 1)` such states,
    so a walk that has not ended within the model's fuel `rows · (cols + 1) + 1` has repeated a
    state: it ends within no fuel at all, i.e. the Python `while` loop does not terminate
    (pigeonhole).  So the model reports `hang` only for inputs on which `get_matched_pairs` really
    runs forever. -/
theorem get_matched_pairs_fuel_exact (H : Mat) (corr : Vec)
    (hcols : ∀ r ∈ H, r.length = (H.headD []).length) (sp : Nat) (hsp : sp < H.length)
    (h : walk H corr (walkFuel H) sp none = none) : ∀ fuel, walk H corr fuel sp none = none :=
  walk_fuel_exact H corr hcols sp hsp h

/-- without the cycle the same call returns the matched pair -/
example : (matchedPairs [[1, 1, 0], [0, 1, 1], [1, 0, 1]] [1, 0, 0] [1, 0, 1] : Out Unit _).val
    = .ok [(0, 2)] := by decide

/-! ### non-vacuity -/

/-- on the cubic lattice 2×2×2 an X error on qubit 0 is decoded to itself (an `.ok` call, to which
    the theorems above apply) -/
example : okCheck222 = true := okCheck222_true

/-- the no-`KeyError` theorem applies to the decoder of the unordered 3×2×2 witness (an object
    that exists, the driver's order) -/
example (d : XCubeDec Unit) (h : witnessDec 3 2 2 = .ok d) (s : Vec) (k : Coord) :
    (witnessCall d s).val ≠ .error (.keyError k) :=
  xcube_no_keyerror (fun _ => ()) 3 2 2 _ _ _ witnessCfg d (by unfold witnessDec at h; exact h)
    (by decide) (by decide) (by decide)
    witnessSolve witnessBp dropPriors ascending ascending_keeps_elements BpSt.init s k

example : LoopKeysOk 2 2 3 := (old_xcube_loop_keys_exist_iff_ascending 2 2 3 (by decide) (by decide) (by decide)).mpr (by decide)
example : ¬ LoopKeysOk 3 2 2 := fun h =>
  absurd ((old_xcube_loop_keys_exist_iff_ascending 3 2 2 (by decide) (by decide) (by decide)).mp h) (by decide)

/-- the ldpc contract is satisfiable together with the other hypotheses of `decode_xrows`: a
    two-qubit decoder object on the CSS matrix (XX, ZZ) with the brute-force solver of `C05` -/
def toyBp : BpSolver := { decode := fun M _ _ sy => C05.bruteSolve2 M [] sy, converged := fun _ _ _ _ => true }

example : BpValidOn 2 toyBp (Hx C05.H2) := fun _ _ sy hf => C05.bruteSolve2_valid [] sy hf

end Panqec.C05XCube
