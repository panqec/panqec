/-
C01 for `Color488Code`, ALL sizes `Lx, Ly ≥ 1` (the supported family, as the class documents it:
`L_x × L_y` unit cells; rectangular sizes since the repair of `get_logicals_x` / `get_logicals_z`,
former finding D14 — see the regression section below): the hand-written lattice model
`Model/Lattices/Color488Code.lean` (tied to `panqec/codes/color_2d/_color_488_code.py` by the
correspondence streams of `harness/lattices/color488code.py`, square and rectangular sizes)
is a well-formed coordinate system — in particular the qubit list, which the class DERIVES from the
stabilizer supports, is duplicate-free and disjoint from the stabilizer locations, and no
stabilizer dict loses a key to the wrap-around (`x` modulo `8Lx`, `y` modulo `8Ly`; the C02 clause,
for every size) — whose stabilizers commute (any two faces of the periodic 4.8.8 tiling share an
even number of qubits, seam copies and the degenerate tori with a side of one unit cell included),
whose four logical pairs commute with the stabilizers and have the pairing table
`ω(X_i, Z_j) = δ_ij`; `n = 8·Lx·Ly`, `k = 4`, `n_stabilizers = 2(2Lx+1)(2Ly+1)`; the columns
`x = 3`, `x = 7` of qubits have weight `2Ly`, the rows `y = 5`, `y = 1` weight `2Lx`;
`get_deformation` follows the stated rule at every location.

Rank clause, for all sizes: the `8·Lx·Ly − 4 = n − k` generators of the family `sel Lx Ly` (X and Z
generator of every face centre in `[0, 8Lx) × [0, 8Ly)` but the green octagon `(0, 4)` and the blue
octagon `(4, 0)`; the other listed generators are seam copies or products) are independent
(`rank_family`, triangular single-qubit probes along a peeling order of the torus).  `valid_code`
puts everything together through the generic bridges `Proofs/OpComm.lean` and
`Proofs/LatRankBridge.lean`: the matrices that `stabilizer_matrix`, `logicals_x`, `logicals_z`
of the generic code model (`Model/Code.lean`, C02) assemble from this lattice model form a valid
`[[8·Lx·Ly, 4]]` stabilizer code (`ValidCodeL`: all four clauses of C01, rank included) for EVERY
size `Lx, Ly ≥ 1`.

The family `sel` is defined in the Mathlib-free model file, printed by the driver op `rankfamily` and evaluated
on the IMPLEMENTATION's parity-check matrix on every run (stream `lat-Color488Code-rank-family`: members
`n − k`, all distinct stabilizer locations, GF(2) rank `n − k`).
-/
import PanqecVerif.Proofs.LatRankBridge
import PanqecVerif.Proofs.LatColor488CodeRank
import PanqecVerif.Proofs.LatColor488CodeOld

namespace Panqec.C01Color488Code
open Panqec.Color488Code Panqec.Lat2D Panqec.Color

/-- coordinates distinct and disjoint (the qubit list is derived from the stabilizers: first
    occurrences only); every stabilizer and logical is a dict (distinct keys — the wrapped corners
    of a face never collide) supported on qubits with letters ≠ I; stabilizers are non-empty —
    every `Lx, Ly ≥ 1` -/
theorem wf (Lx Ly : Nat) (hx : 1 ≤ Lx) (hy : 1 ≤ Ly) : (lattice Lx Ly).WF :=
  (css hx hy).wf

/-- all pairs of stabilizers commute (two faces share 0, 2, 4 or 8 qubits), the four X and four Z
    logicals commute with every stabilizer (a row or column of qubits meets a face in an even
    number of qubits), `opAntiCount (X_i, Z_j)` is odd iff `i = j` — every `Lx, Ly ≥ 1` -/
theorem commPair (Lx Ly : Nat) (hx : 1 ≤ Lx) (hy : 1 ≤ Ly) : (lattice Lx Ly).CommPair :=
  (css hx hy).commPair

/-- `n = 8·Lx·Ly` (every `Lx, Ly ≥ 1`): the derived qubit list has exactly the sites of the closed
    form `isQubit_rule`, eight per unit cell -/
theorem n_formula (Lx Ly : Nat) (hx : 1 ≤ Lx) (hy : 1 ≤ Ly) :
    (lattice Lx Ly).toCodeData.n = 8 * (Lx * Ly) :=
  length_qubits hx hy

/-- `k = 4` (every size) -/
theorem k_value (Lx Ly : Nat) : (lattice Lx Ly).toCodeData.k = 4 := rfl

/-- `n_stabilizers = 2(2Lx+1)(2Ly+1)` (every size): an X and a Z generator at each of the
    `(2Lx+1)(2Ly+1)` listed face centres (the rows `x = 8Lx`, `y = 8Ly` repeat the rows `x = 0`,
    `y = 0`) -/
theorem n_stabilizers (Lx Ly : Nat) :
    (lattice Lx Ly).stabs.length = 2 * ((2 * Lx + 1) * (2 * Ly + 1)) :=
  length_stabs Lx Ly

/-- rank clause, operator level: an explicit duplicate-free family of `n − k` stabilizer locations
    whose generators are independent — every non-empty duplicate-free sub-family `T` has a Pauli
    operator `d` on the qubits anticommuting with an odd number of members of `T` — every
    `Lx, Ly ≥ 1` -/
theorem rank_family (Lx Ly : Nat) (hx : 1 ≤ Lx) (hy : 1 ≤ Ly) :
    (sel Lx Ly).Nodup ∧ (∀ s ∈ sel Lx Ly, s ∈ (lattice Lx Ly).stabs) ∧
    IndepGenerators (lattice Lx Ly) (sel Lx Ly) ∧
    (sel Lx Ly).length + (lattice Lx Ly).toCodeData.k = (lattice Lx Ly).toCodeData.n :=
  ⟨nodup_sel Lx Ly, sel_subset, indep_sel hx hy,
    by rw [n_formula Lx Ly hx hy, k_value]; exact length_sel hx hy⟩

/-- THE C01 STATEMENT FOR ALL SIZES (`Lx, Ly ≥ 1`, square or rectangular): `stabilizer_matrix`,
    `logicals_x`, `logicals_z` of the generic code model, applied to this lattice model, return (no
    `KeyError`) matrices that form a valid `[[8·Lx·Ly, 4]]` stabilizer code: generators pairwise
    commute, logicals commute with the generators, `ω(X_i, Z_j) = δ_ij`,
    `ω(X_i, X_j) = ω(Z_i, Z_j) = 0`, and the generators have GF(2) rank `n − k` -/
theorem valid_code (Lx Ly : Nat) (hx : 1 ≤ Lx) (hy : 1 ≤ Ly) :
    stabilizerMatrix (lattice Lx Ly).toCodeData = some (lattice Lx Ly).rowsH ∧
    logicalsX (lattice Lx Ly).toCodeData = some (lattice Lx Ly).rowsX ∧
    logicalsZ (lattice Lx Ly).toCodeData = some (lattice Lx Ly).rowsZ ∧
    ValidCodeL (8 * (Lx * Ly)) 4
      (lattice Lx Ly).rowsH (lattice Lx Ly).rowsX (lattice Lx Ly).rowsZ := by
  obtain ⟨h1, h2, h3, h4⟩ := rank_family Lx Ly hx hy
  have h := validCode_of_lattice_subset (lattice Lx Ly) (wf Lx Ly hx hy) (commPair Lx Ly hx hy)
    (sel Lx Ly) h1 h2 h3 h4
  rw [n_formula Lx Ly hx hy, k_value] at h
  exact h

/-- `is_stabilizer` in closed form -/
theorem isStabilizer_rule (Lx Ly : Nat) (x y p : Int) :
    [x, y, p] ∈ (lattice Lx Ly).stabs ↔
      ((x % 4 = 0 ∧ y % 4 = 0 ∧ 0 ≤ x ∧ x ≤ 8 * (Lx : Int) ∧ 0 ≤ y ∧ y ≤ 8 * (Ly : Int)) ∧
        (p = 0 ∨ p = 1)) :=
  mem_stabs'

/-- `is_qubit` in closed form — the DERIVED qubit list consists exactly of the corners of the
    squares, in `[0, 8Lx) × [0, 8Ly)` -/
theorem isQubit_rule (Lx Ly : Nat) (hx : 1 ≤ Lx) (hy : 1 ≤ Ly) (x y : Int) :
    isQubit Lx Ly [x, y] = true ↔
      (0 ≤ x ∧ x < 8 * (Lx : Int) ∧ 0 ≤ y ∧ y < 8 * (Ly : Int) ∧
        (((x % 8 = 1 ∨ x % 8 = 7) ∧ (y % 8 = 1 ∨ y % 8 = 7)) ∨
         ((x % 8 = 3 ∨ x % 8 = 5) ∧ (y % 8 = 3 ∨ y % 8 = 5)))) :=
  isQubit_iff hx hy

/-- every stabilizer is the dict of the 4 (square, `(x + y) % 8 = 0`) or 8 (octagon) wrapped
    corners, in delta order and without collision, letter `X` for `p = 0` and `Z` for `p = 1` -/
theorem stabilizer_closed_form (Lx Ly : Nat) (hx : 1 ≤ Lx) (hy : 1 ≤ Ly) (x y p : Int)
    (h : [x, y, p] ∈ (lattice Lx Ly).stabs) :
    (lattice Lx Ly).getStab [x, y, p] =
      (if (x + y) % 8 = 0 then sqC Lx Ly x y else ocC Lx Ly x y).map
        (fun q => (q, if p = 0 then Pauli.X else Pauli.Z)) :=
  getStab_eq hx hy h

/-- the logical operators: single letters on the columns `x = 3`, `x = 7` (weight `2Ly`: every
    qubit of the column, `y < 8Ly`) and on the rows `y = 5`, `y = 1` (weight `2Lx`) of qubits -/
theorem logical_lines (Lx Ly : Nat) (hx : 1 ≤ Lx) (hy : 1 ≤ Ly) :
    (lattice Lx Ly).logX =
      [(k3 Lx Ly).map (fun q => (q, Pauli.X)), (k7 Lx Ly).map (fun q => (q, Pauli.X)),
       (r5 Lx Ly).map (fun q => (q, Pauli.X)), (r1 Lx Ly).map (fun q => (q, Pauli.X))] ∧
    (lattice Lx Ly).logZ =
      [(r5 Lx Ly).map (fun q => (q, Pauli.Z)), (r1 Lx Ly).map (fun q => (q, Pauli.Z)),
       (k3 Lx Ly).map (fun q => (q, Pauli.Z)), (k7 Lx Ly).map (fun q => (q, Pauli.Z))] ∧
    (k3 Lx Ly).length = 2 * Ly ∧ (k7 Lx Ly).length = 2 * Ly ∧
    (r5 Lx Ly).length = 2 * Lx ∧ (r1 Lx Ly).length = 2 * Lx :=
  ⟨logX_eq Lx Ly, logZ_eq Lx Ly, length_k3 hx hy, length_k7 hx hy, length_r5 hx hy, length_r1 hx hy⟩

/-- the lines are exactly the qubits with the given `x` (resp. `y`): nothing of the column is
    missing and nothing else is listed (this is what the repair restored for `Lx ≠ Ly`) -/
theorem logical_lines_mem (Lx Ly : Nat) (hx : 1 ≤ Lx) (hy : 1 ≤ Ly) (a b : Int) :
    ([a, b] ∈ k3 Lx Ly ↔ (a = 3 ∧ isQubit Lx Ly [a, b] = true)) ∧
    ([a, b] ∈ k7 Lx Ly ↔ (a = 7 ∧ isQubit Lx Ly [a, b] = true)) ∧
    ([a, b] ∈ r5 Lx Ly ↔ (b = 5 ∧ isQubit Lx Ly [a, b] = true)) ∧
    ([a, b] ∈ r1 Lx Ly ↔ (b = 1 ∧ isQubit Lx Ly [a, b] = true)) := by
  simp only [isQubit_iff hx hy]
  exact ⟨(isLine_k3 hx hy).mem' hx hy, (isLine_k7 hx hy).mem' hx hy, (isLine_r5 hx hy).mem' hx hy,
    (isLine_r1 hx hy).mem' hx hy⟩

/-- 'XXZZ': X↔Z exactly on the locations with `(x + y − 4) % 4 = 0`, identity elsewhere
    (keyword arguments are ignored) -/
theorem deformation_rule (x y : Int) :
    getDeformation "XXZZ" [x, y] =
      DeformResult.map (if (x + y - 4) % 4 = 0 then PauliMap.swapXZ else PauliMap.id) := by
  show (if "XXZZ" = "XXZZ" then
      (if (x + y - 4) % 4 = 0 then DeformResult.map PauliMap.swapXZ else DeformResult.map PauliMap.id)
    else DeformResult.valueError) = _
  rw [if_pos rfl]
  by_cases h : (x + y - 4) % 4 = 0
  · rw [if_pos h, if_pos h]
  · rw [if_neg h, if_neg h]

/-- any other name: ValueError -/
theorem deformation_rule_bad_name (name : String) (loc : Coord) (h : name ≠ "XXZZ") :
    getDeformation name loc = DeformResult.valueError := by
  unfold getDeformation
  split
  · rw [if_neg h]
  · rfl

/-- on the qubits of every lattice 'XXZZ' is the Hadamard on the two corners `(cx−1, cy−1)`,
    `(cx+1, cy+1)` of each square and the identity on the two others -/
theorem deformation_rule_on_qubits (Lx Ly : Nat) (hx : 1 ≤ Lx) (hy : 1 ≤ Ly) (q : Coord)
    (h : q ∈ (lattice Lx Ly).qubits) :
    ∃ x y, q = [x, y] ∧
      (((x % 8 = y % 8) ∧ getDeformation "XXZZ" q = DeformResult.map PauliMap.id) ∨
       ((x % 8 ≠ y % 8) ∧ getDeformation "XXZZ" q = DeformResult.map PauliMap.swapXZ)) := by
  obtain ⟨x, y, rfl, hq⟩ := (mem_qubits hx hy).mp h
  refine ⟨x, y, rfl, ?_⟩
  rw [deformation_rule]
  unfold IsQ at hq
  by_cases e : x % 8 = y % 8
  · left; refine ⟨e, ?_⟩
    rw [if_neg (by omega)]
  · right; refine ⟨e, ?_⟩
    rw [if_pos (by omega)]

/-- `qubit_axis` is `'x'` on every 2-tuple -/
theorem qubitAxis_rule (x y : Int) : qubitAxis [x, y] = some "x" := rfl

/-! ### regression: the logical operators listed before the repair (known finding D14, fixed)

`oldLattice` is the class as it was: the column `x = 7` ran over `range(1, 8*Lx+4, 2)` and the row
`y = 1` over `range(1, 8*Ly+4, 2)`.  Square sizes are unaffected; on the `2 × 3` lattice the listed
`X_1` stopped at `y = 17` (five of the six qubits of the column) and anticommuted with the Z
generator of the octagon `(4, 0)`, so the assembled matrices were not a valid code.  Kernel-checked. -/

/-- on square lattices the old and the repaired class list the same operators -/
theorem old_square_unchanged (L : Nat) : oldLattice L L = lattice L L := rfl

/-- `Color488Code(2, 3)` before the repair: the second listed logical X is the column `x = 7` cut
    at `y < 8·Lx + 4 = 20` (the qubit `(7, 23)` is missing; the repaired class lists all six), and it
    anticommutes with the generator `(4, 0, 1)` (Z on the octagon `(4, 0)`, which contains `(7, 1)`
    and `(7, 23)`) -/
theorem old_rectangular_anticommutes :
    (oldLattice 2 3).logX.getD 1 [] =
      [([7, 1], .X), ([7, 7], .X), ([7, 9], .X), ([7, 15], .X), ([7, 17], .X)] ∧
    (lattice 2 3).logX.getD 1 [] =
      [([7, 1], .X), ([7, 7], .X), ([7, 9], .X), ([7, 15], .X), ([7, 17], .X), ([7, 23], .X)] ∧
    [4, 0, 1] ∈ (oldLattice 2 3).stabs ∧
    opCommute ((oldLattice 2 3).logX.getD 1 []) ((oldLattice 2 3).getStab [4, 0, 1]) = false ∧
    opCommute ((lattice 2 3).logX.getD 1 []) ((lattice 2 3).getStab [4, 0, 1]) = true := by
  have hq := isQubit_eq (Lx := 2) (Ly := 3) (by decide) (by decide)
  have hs : [4, 0, 1] ∈ stabs 2 3 := mem_stabs'.mpr ⟨by decide, Or.inr rfl⟩
  have hg := getStab_eq (Lx := 2) (Ly := 3) (by decide) (by decide) hs
  have ho : (oldLattice 2 3).logX.getD 1 [] =
      [([7, 1], .X), ([7, 7], .X), ([7, 9], .X), ([7, 15], .X), ([7, 17], .X)] := by
    rw [(logX_one 2 3).1, hq]
    decide +kernel
  have hn : (lattice 2 3).logX.getD 1 [] =
      [([7, 1], .X), ([7, 7], .X), ([7, 9], .X), ([7, 15], .X), ([7, 17], .X), ([7, 23], .X)] := by
    rw [(logX_one 2 3).2, hq]
    decide +kernel
  refine ⟨ho, hn, hs, ?_, ?_⟩
  · show opCommute _ ((lattice 2 3).getStab [4, 0, 1]) = false
    rw [ho, hg]
    decide +kernel
  · rw [hn, hg]
    decide +kernel

/-- hence the old `2 × 3` lattice violates the commutation clause of C01 at the operator level -/
theorem old_rectangular_not_commPair : ¬ (oldLattice 2 3).CommPair := by
  intro h
  have := h.logX_comm _ (getD_mem' _ [] 1 (by decide)) _ old_rectangular_anticommutes.2.2.1
  rw [old_rectangular_anticommutes.2.2.2.1] at this
  exact absurd this (by decide)

/-- and the matrices assembled from it are not a valid `[[48, 4]]` code: row 1 of `logicals_x` has
    symplectic product 1 with row 15 of `stabilizer_matrix` (the generator `(4, 0, 1)` is the 16th
    listed location) -/
theorem old_rectangular_invalid :
    (oldLattice 2 3).stabs.getD 15 [] = [4, 0, 1] ∧
    symp ((oldLattice 2 3).rowsX.getD 1 []) ((oldLattice 2 3).rowsH.getD 15 []) = 1 ∧
    ¬ ValidCodeL 48 4 (oldLattice 2 3).rowsH (oldLattice 2 3).rowsX (oldLattice 2 3).rowsZ := by
  have e15 : (oldLattice 2 3).stabs[15]? = some [4, 0, 1] := by decide +kernel
  have h3 : symp ((oldLattice 2 3).rowsX.getD 1 []) ((oldLattice 2 3).rowsH.getD 15 []) = 1 := by
    rw [rowsH_getD _ e15, old_rowsX_one_symp]
    have := (opCommute_iff _ _).not.mp (by rw [old_rectangular_anticommutes.2.2.2.1]; decide)
    omega
  refine ⟨by rw [List.getD_eq_getElem?_getD, e15]; rfl, h3, ?_⟩
  intro h
  have := h.logX_comm _ (getD_mem' _ [] 1 (by decide)) _ (getD_mem' _ [] 15 (by
    unfold Lattice.rowsH; rw [List.length_map, List.length_map]
    show 15 < (stabs 2 3).length; rw [length_stabs]; decide))
  rw [h3] at this
  exact absurd this (by decide)

example : (lattice 1 1).WF := wf 1 1 (by decide) (by decide)
example : (lattice 5 5).CommPair := commPair 5 5 (by decide) (by decide)
example : (lattice 2 3).CommPair := commPair 2 3 (by decide) (by decide)
set_option maxRecDepth 100000 in
example : (lattice 1 1).qubits = [[7, 7], [1, 1], [7, 1], [1, 7], [3, 3], [3, 5], [5, 5], [5, 3]] := by
  decide
set_option maxRecDepth 100000 in
example : (lattice 1 1).getStab [0, 0, 0] = [([7, 7], .X), ([1, 1], .X), ([7, 1], .X), ([1, 7], .X)] := by
  decide
set_option maxRecDepth 100000 in
example : (lattice 1 1).getStab [4, 0, 1] = [([5, 5], .Z), ([7, 7], .Z), ([7, 1], .Z), ([5, 3], .Z),
    ([3, 3], .Z), ([1, 1], .Z), ([1, 7], .Z), ([3, 5], .Z)] := by decide
set_option maxRecDepth 100000 in
example : (lattice 1 1).logX = [[([3, 3], .X), ([3, 5], .X)], [([7, 1], .X), ([7, 7], .X)],
    [([3, 5], .X), ([5, 5], .X)], [([1, 1], .X), ([7, 1], .X)]] := by decide
example : (lattice 3 3).toCodeData.n = 72 := n_formula 3 3 (by decide) (by decide)
example : (lattice 2 5).toCodeData.n = 80 := n_formula 2 5 (by decide) (by decide)
example : (lattice 3 3).stabs.length = 98 := n_stabilizers 3 3
example : (lattice 2 3).stabs.length = 70 := n_stabilizers 2 3
example : IndepGenerators (lattice 2 2) (sel 2 2) := (rank_family 2 2 (by decide) (by decide)).2.2.1
example : (sel 2 2).length = 28 := by decide
example : (sel 1 2).length = 12 := by decide
example : ValidCodeL 8 4 (lattice 1 1).rowsH (lattice 1 1).rowsX (lattice 1 1).rowsZ :=
  (valid_code 1 1 (by decide) (by decide)).2.2.2
example : ValidCodeL 72 4 (lattice 3 3).rowsH (lattice 3 3).rowsX (lattice 3 3).rowsZ :=
  (valid_code 3 3 (by decide) (by decide)).2.2.2
/-- the size of the regression theorem, repaired: a valid `[[48, 4]]` code -/
example : ValidCodeL 48 4 (lattice 2 3).rowsH (lattice 2 3).rowsX (lattice 2 3).rowsZ :=
  (valid_code 2 3 (by decide) (by decide)).2.2.2
example : ValidCodeL 56 4 (lattice 7 1).rowsH (lattice 7 1).rowsX (lattice 7 1).rowsZ :=
  (valid_code 7 1 (by decide) (by decide)).2.2.2
example : getDeformation "XXZZ" [7, 1] = DeformResult.map PauliMap.swapXZ := by decide
example : getDeformation "XXZZ" [7, 7] = DeformResult.map PauliMap.id := by decide
example : getDeformation "XZZX" [7, 7] = DeformResult.valueError := by decide

end Panqec.C01Color488Code
