/-
C01 for `Color666PlanarCode`, ALL sizes of the supported family (`Lx ≥ 1`, no upper bound; `Ly` is
ignored by the class): the hand-written lattice model `Model/Lattices/Color666PlanarCode.lean`
(tied to `panqec/codes/color_2d/_color_666_planar_code.py` by the correspondence streams of
`harness/lattices/color666planarcode.py`) is a well-formed coordinate system — in particular the
qubit list, which the class DERIVES from the stabilizer supports, is duplicate-free and disjoint
from the stabilizer locations (the C02 clause, for every size) — whose stabilizers commute (any two
faces share an even number of qubits; every face keeps an even number of corners inside the
triangle), whose logicals commute with the stabilizers and anticommute with each other (odd
weight `2Lx + 1`); `n = 3Lx² + 3Lx + 1`, `k = 1`, `n_stabilizers = 3Lx(Lx+1) = n − k`; the class
has no deformation (`get_deformation` returns a `NotImplementedError` instance at every input).

Rank clause, for all sizes: the generators at ALL stabilizer locations are independent
(`generators_independent`, triangular single-qubit probes) and there are exactly `n − k` of them
(`generators_count`).  `valid_code` puts everything together through the generic bridges
`Proofs/OpComm.lean` and `Proofs/LatRankBridge.lean`: the matrices that `stabilizer_matrix`,
`logicals_x`, `logicals_z` of the generic code model (`Model/Code.lean`, C02) assemble from this
lattice model form a valid `[[3Lx²+3Lx+1, 1]]` stabilizer code (`ValidCodeL`: all four clauses of
C01, rank included) for EVERY size of the family.

The family of the rank clause is the whole list `(lattice Lx Ly).stabs`; the driver op `rankfamily` prints it
and the stream `lat-Color666PlanarCode-rank-family` evaluates it on the IMPLEMENTATION's parity-check matrix
on every run (members `n − k`, all distinct stabilizer locations, GF(2) rank `n − k`).
-/
import PanqecVerif.Proofs.LatRankBridge
import PanqecVerif.Proofs.LatColor666PlanarCodeRank

namespace Panqec.C01Color666PlanarCode
open Panqec.Color666PlanarCode Panqec.Lat2D Panqec.Color

/-- coordinates distinct and disjoint (the qubit list is derived from the stabilizers: first
    occurrences only); every stabilizer and logical is a dict (distinct keys) supported on qubits
    with letters ≠ I; stabilizers are non-empty — every `Lx ≥ 1`, any `Ly` -/
theorem wf (Lx Ly : Nat) (hx : 1 ≤ Lx) : (lattice Lx Ly).WF :=
  (css hx).wf

/-- all pairs of stabilizers commute (two faces share 0, 2, 4 or 6 qubits), the logicals commute
    with every stabilizer, `opAntiCount (X_0, Z_0)` is odd (both have weight `2Lx + 1`, on the same
    qubits) — every `Lx ≥ 1` -/
theorem commPair (Lx Ly : Nat) (hx : 1 ≤ Lx) : (lattice Lx Ly).CommPair :=
  (css hx).commPair

/-- `n = 3Lx² + 3Lx + 1` (every `Lx ≥ 1`): the derived qubit list has exactly the sites of the
    closed form `isQubit_rule`, counted column by column -/
theorem n_formula (Lx Ly : Nat) (hx : 1 ≤ Lx) :
    (lattice Lx Ly).toCodeData.n = 3 * Lx * Lx + 3 * Lx + 1 := by
  show (qubits Lx Ly).length = _
  rw [length_qubits hx, Nat.mul_add]; omega

/-- `k = 1` (every size) -/
theorem k_value (Lx Ly : Nat) : (lattice Lx Ly).toCodeData.k = 1 := rfl

/-- `n_stabilizers = 3Lx(Lx+1)` (every size): an X and a Z generator on each of the
    `3Lx(Lx+1)/2` faces -/
theorem n_stabilizers (Lx Ly : Nat) : (lattice Lx Ly).stabs.length = 3 * Lx * (Lx + 1) :=
  length_stabs Lx Ly

/-- `L_y` is ignored: every getter of the model depends on `Lx` only -/
theorem Ly_ignored (Lx Ly Ly' : Nat) :
    (lattice Lx Ly).qubits = (lattice Lx Ly').qubits ∧ (lattice Lx Ly).stabs = (lattice Lx Ly').stabs ∧
    (lattice Lx Ly).getStab = (lattice Lx Ly').getStab ∧ (lattice Lx Ly).logX = (lattice Lx Ly').logX ∧
    (lattice Lx Ly).logZ = (lattice Lx Ly').logZ :=
  ⟨rfl, rfl, rfl, rfl, rfl⟩

/-- rank clause, operator level: the generators at ALL stabilizer locations are independent —
    every non-empty duplicate-free sub-family `T` has a Pauli operator `d` on the qubits
    anticommuting with an odd number of members of `T` (so no non-trivial product of generators
    is trivial) — every `Lx ≥ 1` -/
theorem generators_independent (Lx Ly : Nat) (hx : 1 ≤ Lx) :
    IndepGenerators (lattice Lx Ly) (lattice Lx Ly).stabs :=
  indep_all hx

/-- there are exactly `n − k` generators (`Lx ≥ 1`) -/
theorem generators_count (Lx Ly : Nat) (hx : 1 ≤ Lx) :
    (lattice Lx Ly).stabs.length + (lattice Lx Ly).toCodeData.k = (lattice Lx Ly).toCodeData.n :=
  count_all hx

/-- THE C01 STATEMENT FOR ALL SIZES (`Lx ≥ 1`, any `Ly`): `stabilizer_matrix`, `logicals_x`,
    `logicals_z` of the generic code model, applied to this lattice model, return (no `KeyError`)
    matrices that form a valid `[[n, k]]` stabilizer code: generators pairwise commute, logicals
    commute with the generators, `ω(X_0, Z_0) = 1`, `ω(X_0, X_0) = ω(Z_0, Z_0) = 0`, and the
    generators have GF(2) rank `n − k` -/
theorem valid_code (Lx Ly : Nat) (hx : 1 ≤ Lx) :
    stabilizerMatrix (lattice Lx Ly).toCodeData = some (lattice Lx Ly).rowsH ∧
    logicalsX (lattice Lx Ly).toCodeData = some (lattice Lx Ly).rowsX ∧
    logicalsZ (lattice Lx Ly).toCodeData = some (lattice Lx Ly).rowsZ ∧
    ValidCodeL (3 * Lx * Lx + 3 * Lx + 1) 1
      (lattice Lx Ly).rowsH (lattice Lx Ly).rowsX (lattice Lx Ly).rowsZ := by
  have h := validCode_of_lattice (lattice Lx Ly) (wf Lx Ly hx) (commPair Lx Ly hx)
    (lattice Lx Ly).stabs (List.Sublist.refl _) (generators_independent Lx Ly hx)
    (generators_count Lx Ly hx)
  rw [n_formula Lx Ly hx, k_value] at h
  exact h

/-- `is_stabilizer` in closed form: `(x, y, p)` with `p ∈ {0, 1}` (X / Z generator) and `(x, y)` a
    face centre: `x ≡ 2 (mod 6), y ≡ 0 (mod 4)` or `x ≡ 5 (mod 6), y ≡ 2 (mod 4)`, inside
    `0 ≤ y < min(2x+1, 12Lx−2x+3)` -/
theorem isStabilizer_rule (Lx Ly : Nat) (x y p : Int) :
    [x, y, p] ∈ (lattice Lx Ly).stabs ↔
      ((2 ≤ x ∧ 0 ≤ y ∧ y < 2 * x + 1 ∧ y < 12 * (Lx : Int) - 2 * x + 3 ∧
        ((x % 6 = 2 ∧ y % 4 = 0) ∨ (x % 6 = 5 ∧ y % 4 = 2))) ∧ (p = 0 ∨ p = 1)) :=
  mem_stabs' (L' := Ly)

/-- `is_qubit` in closed form — the DERIVED qubit list consists exactly of the vertices of the
    hexagonal tiling inside the triangle `0 ≤ y ≤ min(2x+1, 12Lx−2x+3)`, `x ≥ 0` -/
theorem isQubit_rule (Lx Ly : Nat) (hx : 1 ≤ Lx) (x y : Int) :
    isQubit Lx Ly [x, y] = true ↔
      ((0 ≤ x ∧ 0 ≤ y ∧ y ≤ 2 * x + 1 ∧ y ≤ 12 * (Lx : Int) - 2 * x + 3) ∧
        (((x % 6 = 0 ∨ x % 6 = 4) ∧ y % 4 = 0) ∨ ((x % 6 = 1 ∨ x % 6 = 3) ∧ y % 4 = 2))) :=
  isQubit_iff hx

/-- every stabilizer is the dict of those of the six corners of its hexagon (delta order) that are
    inside the triangle, letter `X` for `p = 0` and `Z` for `p = 1`;
    the X and the Z generator of a face have the same support -/
theorem stabilizer_closed_form (Lx Ly : Nat) (x y p : Int) (h : [x, y, p] ∈ (lattice Lx Ly).stabs) :
    (lattice Lx Ly).getStab [x, y, p] =
      ([[x - 1, y - 2], [x + 1, y - 2], [x + 2, y], [x + 1, y + 2], [x - 1, y + 2],
        [x - 2, y]].filter (inTriangle Lx)).map (fun q => (q, if p = 0 then Pauli.X else Pauli.Z)) :=
  getStab_eq h

/-- the logical X (Z) is X (Z) on the `2Lx + 1` qubits of the row `y = 0` -/
theorem logical_weight (Lx Ly : Nat) (hx : 1 ≤ Lx) :
    (lattice Lx Ly).logX = [(kB Lx Ly).map (fun q => (q, Pauli.X))] ∧
    (lattice Lx Ly).logZ = [(kB Lx Ly).map (fun q => (q, Pauli.Z))] ∧
    (kB Lx Ly).length = 2 * Lx + 1 :=
  ⟨logX_eq Lx Ly, logZ_eq Lx Ly, length_kB hx⟩

/-- the class offers no deformation: whatever the name and the location, `get_deformation` is the
    base-class method, which RETURNS (does not raise) a `NotImplementedError` instance -/
theorem deformation_rule (name : String) (loc : Coord) :
    getDeformation name loc = DeformResult.returnsNotImplementedError := rfl

/-- `qubit_axis` is `'x'` on every 2-tuple -/
theorem qubitAxis_rule (x y : Int) : qubitAxis [x, y] = some "x" := rfl

example : (lattice 1 1).WF := wf 1 1 (by decide)
example : (lattice 5 4).CommPair := commPair 5 4 (by decide)
example : (lattice 1 1).qubits = [[4, 0], [3, 2], [1, 2], [0, 0], [4, 4], [3, 6], [6, 0]] := by decide
example : (lattice 1 1).stabs = [[2, 0, 0], [2, 0, 1], [2, 4, 0], [2, 4, 1], [5, 2, 0], [5, 2, 1]] := by
  decide
example : (lattice 1 1).getStab [2, 4, 1] = [([1, 2], .Z), ([3, 2], .Z), ([4, 4], .Z), ([3, 6], .Z)] := by
  decide
example : (lattice 2 2).getStab [5, 6, 0] =
    [([4, 4], .X), ([6, 4], .X), ([7, 6], .X), ([6, 8], .X), ([4, 8], .X), ([3, 6], .X)] := by decide
example : (lattice 1 1).logX = [[([0, 0], .X), ([4, 0], .X), ([6, 0], .X)]] := by decide
example : (lattice 2 2).toCodeData.n = 19 := n_formula 2 2 (by decide)
example : IndepGenerators (lattice 3 3) (lattice 3 3).stabs := generators_independent 3 3 (by decide)
example : (lattice 3 3).stabs.length = 36 := n_stabilizers 3 3
example : ValidCodeL 7 1 (lattice 1 1).rowsH (lattice 1 1).rowsX (lattice 1 1).rowsZ :=
  (valid_code 1 1 (by decide)).2.2.2
example : ValidCodeL 37 1 (lattice 3 9).rowsH (lattice 3 9).rowsX (lattice 3 9).rowsZ :=
  (valid_code 3 9 (by decide)).2.2.2

end Panqec.C01Color666PlanarCode
