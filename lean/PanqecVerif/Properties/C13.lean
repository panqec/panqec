/-
C13 — input specifications expand to exactly the requested simulations.

Property theorems only; helper lemmas are in `Proofs/Spec.lean` (Cartesian product, `mapE`),
`Proofs/SpecSims.lean` (structure of `get_simulations`), `Proofs/SpecSplit.lean` (its splitting
branch) and `Proofs/SpecInst.lean` (re-instantiation, registry).  The quantifiers are unbounded: any
number of values per axis, any parameter forms, any number of ranges dictionaries / runs.

`Built t s` says: simulation `s` was built from the requested blocks `t = (code, noise,
decoder, error_rate)` with exactly those parameters (`instCode`/`instNoise`/`instDecoder`
are the models of `_parse_*_dict` followed by the `id`/`params` properties).
`BuiltSplit er t s` is the same for `method: splitting`: `s` was built from the requested
`t = (code, noise, decoder)` and carries all requested rates `er`, sorted descending.
-/
import PanqecVerif.Proofs.SpecSims
import PanqecVerif.Proofs.SpecSplit
import PanqecVerif.Proofs.SpecInst

namespace Panqec.C13

open Panqec.Spec Panqec.Generated

/-- `CODES[name].__name__ == name` (and likewise `ERROR_MODELS`, `DECODERS`) for every line of
    the table regenerated from `panqec/config.py` on every run -/
theorem registry_resolves_names : ∀ e ∈ registry, e.key = e.cls := registry_names

/-- hence a successful look-up returns the class called like the key, for every key -/
theorem lookup_returns_named_class (table key cls : String)
    (h : lookupRegistry table key = some cls) : cls = key :=
  lookupRegistry_eq table key cls h

/-- the axes of a well-formed `ranges` dictionary are the listed parameter sets, in order
    (a single dict counts as one value; the decoder block may omit `parameters`) -/
theorem axes_are_the_listed_values (r : Ranges) (c n d : Block) (cp np rp : PV)
    (cps nps dps rates : List PV)
    (hc : r.code = some c) (hcp : c.params = some cp) (hcps : parseParametersRange cp = .ok cps)
    (hn : r.noise = some n) (hnp : n.params = some np) (hnps : parseParametersRange np = .ok nps)
    (hd : r.decoder = some d) (hdps : parseParametersRange (d.params.getD (.list [])) = .ok dps)
    (hr : r.errorRate = some rp) (hrates : parseParametersRange rp = .ok rates) :
    parseAllRanges r = .ok (cps.map c.withParams, nps.map n.withParams, dps.map d.withParams, rates) := by
  simp [parseAllRanges, hc, hcp, hcps, hn, hnp, hnps, hd, hdps, hr, hrates]

/-- a non-empty list is the list of values; a non-empty dict is one value -/
theorem parameter_forms (l : List PV) (d : List (String × PV)) (hl : l ≠ []) (hd : d ≠ []) :
    parseParametersRange (.list l) = .ok l ∧ parseParametersRange (.dict d) = .ok [.dict d] := by
  cases l with
  | nil => exact absurd rfl hl
  | cons a l =>
    cases d with
    | nil => exact absurd rfl hd
    | cons e d => exact ⟨rfl, rfl⟩

/-- MAIN: the simulations built from a `ranges` dictionary (direct method) are, position by
    position, the instantiations of the Cartesian product of the requested code, noise and
    decoder blocks and error rates, in `itertools.product` order: none dropped, none added,
    each carrying exactly its tuple -/
theorem ranges_expand_to_cartesian_product (r : Ranges) (hm : DirectMethod r) (sims : List SimT)
    (h : simsOfRanges r = .ok sims) :
    ∃ cr nr dr er, parseAllRanges r = .ok (cr, nr, dr, er) ∧
      List.Forall₂ Built (product4 cr nr dr er) sims :=
  simsOfRanges_spec r hm sims h

/-- the number of simulations is the product of the axis lengths -/
theorem ranges_count (r : Ranges) (hm : DirectMethod r) (sims : List SimT)
    (h : simsOfRanges r = .ok sims) (cr nr : List Block) (dr : List Block) (er : List PV)
    (hp : parseAllRanges r = .ok (cr, nr, dr, er)) :
    sims.length = cr.length * nr.length * dr.length * er.length := by
  obtain ⟨cr', nr', dr', er', hp', hf⟩ := simsOfRanges_spec r hm sims h
  rw [hp] at hp'; cases hp'
  rw [← hf.length_eq, product4_length]

/-- the simulation for `(code i, noise j, decoder k, rate l)` sits at index
    `((i·|noise| + j)·|decoder| + k)·|rates| + l` and is built from exactly that tuple -/
theorem ranges_index (r : Ranges) (hm : DirectMethod r) (sims : List SimT)
    (h : simsOfRanges r = .ok sims) (cr nr : List Block) (dr : List Block) (er : List PV)
    (hp : parseAllRanges r = .ok (cr, nr, dr, er))
    (i j k l : Nat) (hi : i < cr.length) (hj : j < nr.length) (hk : k < dr.length)
    (hl : l < er.length) :
    ∃ s, sims[((i * nr.length + j) * dr.length + k) * er.length + l]? = some s ∧
      Built (cr[i], nr[j], dr[k], er[l]) s := by
  obtain ⟨cr', nr', dr', er', hp', hf⟩ := simsOfRanges_spec r hm sims h
  rw [hp] at hp'; cases hp'
  exact forall₂_getElem? hf (product4_getElem? cr nr dr er i j k l hi hj hk hl)

/-- every requested combination occurs, and when no axis repeats a value no combination
    occurs twice -/
theorem requested_tuples_exactly_once {α β γ δ : Type} (as : List α) (bs : List β) (cs : List γ)
    (ds : List δ) :
    (∀ a b c d, (a, b, c, d) ∈ product4 as bs cs ds ↔ a ∈ as ∧ b ∈ bs ∧ c ∈ cs ∧ d ∈ ds) ∧
    (as.Nodup → bs.Nodup → cs.Nodup → ds.Nodup → (product4 as bs cs ds).Nodup) :=
  ⟨fun a b c d => mem_product4 as bs cs ds a b c d, product4_nodup as bs cs ds⟩

/-- `expand_input_ranges` (used to count runs) yields one run per element of the product -/
theorem expand_input_ranges_count (r : Ranges) (runs : List RunOut)
    (h : expandInputRanges r = .ok runs) (cr nr dr : List Block) (er : List PV)
    (hp : parseAllRanges r = .ok (cr, nr, dr, er)) :
    runs.length = cr.length * nr.length * dr.length * er.length := by
  unfold expandInputRanges at h
  rw [hp] at h
  simp only at h
  rw [mapE_length _ _ _ h, product4_length]
  ac_rfl

/-- `method = splitting` (as of the repository's `fix: input files with method 'splitting' can be
    read`): one simulation per element of code × noise × decoder, each carrying the whole list
    of error rates -/
theorem splitting_one_simulation_per_code_noise_decoder (r : Ranges) (p : PV) (sims : List SimT)
    (hm : methodOf r = .ok ("splitting", p)) (h : simsOfRanges r = .ok sims)
    (cr nr dr : List Block) (er : List PV) (hp : parseAllRanges r = .ok (cr, nr, dr, er)) :
    sims.length = cr.length * nr.length * dr.length := by
  rw [← (simsOfRanges_splitting_spec r p sims hm h cr nr dr er hp).length_eq, product3_length]

/-- **`method = splitting`, tuple by tuple**: the simulations are, position by position in
    `itertools.product(codes, error_models, decoder_range)` order, built from exactly the
    requested (code, noise, decoder) blocks — class and parameters as requested — and every one
    of them carries the whole list of requested error rates sorted descending
    (`BuiltSplit`; the recorded decoder is the instantiation shared by the one-decoder-per-rate
    list, whose members differ only in the implicit `error_rate` argument). -/
theorem splitting_expands_to_code_noise_decoder_product (r : Ranges) (p : PV) (sims : List SimT)
    (hm : methodOf r = .ok ("splitting", p)) (h : simsOfRanges r = .ok sims)
    (cr nr dr : List Block) (er : List PV) (hp : parseAllRanges r = .ok (cr, nr, dr, er)) :
    List.Forall₂ (BuiltSplit er) (product3 cr nr dr) sims :=
  simsOfRanges_splitting_spec r p sims hm h cr nr dr er hp

/-- … hence every requested (code, noise, decoder) combination gets a simulation, and a
    simulation exists only for requested combinations (with distinct values on every axis:
    exactly one each, by `splitting_one_simulation_per_code_noise_decoder`) -/
theorem splitting_requested_tuples (r : Ranges) (p : PV) (sims : List SimT)
    (hm : methodOf r = .ok ("splitting", p)) (h : simsOfRanges r = .ok sims)
    (cr nr dr : List Block) (er : List PV) (hp : parseAllRanges r = .ok (cr, nr, dr, er)) :
    (∀ c ∈ cr, ∀ n ∈ nr, ∀ d ∈ dr, ∃ s ∈ sims, BuiltSplit er (c, n, d) s) ∧
    (∀ s ∈ sims, ∃ c ∈ cr, ∃ n ∈ nr, ∃ d ∈ dr, BuiltSplit er (c, n, d) s) := by
  have hf := simsOfRanges_splitting_spec r p sims hm h cr nr dr er hp
  constructor
  · intro c hc n hn d hd
    obtain ⟨i, hi⟩ := List.getElem?_of_mem ((mem_product3 cr nr dr c n d).mpr ⟨hc, hn, hd⟩)
    obtain ⟨s, hs, hb⟩ := forall₂_getElem? hf hi
    exact ⟨s, List.mem_of_getElem? hs, hb⟩
  · intro s hs
    obtain ⟨i, hi⟩ := List.getElem?_of_mem hs
    obtain ⟨⟨c, n, d⟩, ht, hb⟩ := forall₂_getElem?_right hf hi
    obtain ⟨hc, hn, hd⟩ := (mem_product3 cr nr dr c n d).mp (List.mem_of_getElem? ht)
    exact ⟨c, hc, n, hn, d, hd, hb⟩

/-- the rates a splitting simulation carries: every requested rate (as an exact number), as
    often as it was requested, in non-increasing order (`np.sort(error_rates)[::-1]`) -/
theorem splitting_rates_sorted_descending (er : List PV) (v : PV)
    (h : ratesDescending er = .ok v) :
    ∃ qs sorted : List Rat, er.mapM PV.toRat? = some qs ∧ v = .list (sorted.map PV.num) ∧
      sorted.Perm qs ∧ sorted.Pairwise (fun a b => b ≤ a) :=
  ratesDescending_spec er v h

/-- a list of ranges dictionaries gives the concatenation, in order, of what each gives -/
theorem list_of_ranges_is_concatenation (rs : List Ranges) (runs : Option (List Run))
    (sims : List SimT) :
    getSimulations ⟨some (.many rs), runs⟩ = .ok sims ↔
      ∃ parts, List.Forall₂ (fun r p => simsOfRanges r = .ok p) rs parts ∧ sims = parts.flatten := by
  simp only [getSimulations]
  exact simsOfMany_spec rs sims

/-- a single ranges dictionary: `get_simulations` is `simsOfRanges` (explicit runs are ignored
    when `ranges` is present) -/
theorem single_ranges (r : Ranges) (runs : Option (List Run)) :
    getSimulations ⟨some (.single r), runs⟩ = simsOfRanges r := rfl

/-- explicit `runs`: exactly one simulation per entry, in order, each built from its entry -/
theorem runs_give_one_simulation_each (runs : List Run) (sims : List SimT)
    (h : getSimulations ⟨none, some runs⟩ = .ok sims) :
    sims.length = runs.length ∧ List.Forall₂ BuiltFromRun runs sims := by
  simp only [getSimulations] at h
  have := simsOfRuns_spec runs sims h
  exact ⟨this.length_eq.symm, this⟩

/-- a specification with neither `ranges` nor `runs` is rejected (`ValueError`) -/
theorem neither_is_rejected : getSimulations ⟨none, none⟩ = .error .value := rfl

/-- instantiating the recorded `{'name': id, 'parameters': params}` blocks of a simulation
    reproduces the same (class, parameters) triple -/
theorem recorded_inputs_reproduce_configuration (t : Block × Block × Block × PV) (s : SimT)
    (h : Built t s) :
    Built (s.recordedCode, s.recordedNoise, s.recordedDecoder, s.errorRate) s :=
  ⟨instCode_reinst t.1 s.code h.1, instNoise_reinst t.2.1 s.noise h.2.1,
   instDecoder_reinst t.2.2.1 s.decoder h.2.2.1, rfl⟩

/-- the class a recorded name resolves to is the class that produced the record -/
theorem recorded_name_resolves (b : Block) (i : Inst) (h : instCode b = .ok i) :
    lookupRegistry "CODES" i.cls = some i.cls := by
  have := instCode_reinst b i h
  unfold instCode at this
  simp only at this
  cases hl : lookupRegistry "CODES" i.cls with
  | none => rw [hl] at this; cases this
  | some c => rw [lookupRegistry_eq _ _ _ hl]

/-- when the records of a results file have pairwise different inputs, a simulation adopts
    exactly the record whose inputs equal its own; with no such record it adopts nothing -/
theorem find_current_adopts_matching_record {ι ρ : Type} [DecidableEq ι] (data : List (ι × ρ))
    (hnd : (data.map (·.1)).Nodup) :
    (∀ rec ∈ data, findCurrent data rec.1 = some rec) ∧
    (∀ i, i ∉ data.map (·.1) → findCurrent data i = none) ∧
    (∀ i rec, findCurrent data i = some rec → rec ∈ data ∧ rec.1 = i) :=
  ⟨fun rec h => findCurrent_of_mem data hnd rec h, fun i h => findCurrent_none data i h,
   fun i rec h => findCurrent_sound data i rec h⟩

/-! ### non-vacuity -/

private def exRanges : Ranges :=
  { label := some "t", method := none,
    code := some ⟨some "Toric2DCode", some (.list [.dict [("L_x", .int 2), ("L_y", .int 3)], .list [.int 4]])⟩,
    noise := some ⟨some "PauliErrorModel", some (.dict [("r_x", .int 1), ("r_y", .int 0), ("r_z", .int 0)])⟩,
    decoder := some ⟨some "MatchingDecoder", none⟩,
    errorRate := some (.list [.num (1/8), .num (1/4), .num (1/2)]),
    innerLabel := none }

example : DirectMethod exRanges := Or.inl rfl

example : (simsOfRanges exRanges).toOption.map List.length = some 6 := by decide +kernel

example : (simsOfRanges exRanges).toOption.map
    (fun l => l.map fun s => (s.code.cls, s.code.params.map (·.1))) =
    some (List.replicate 6 ("Toric2DCode", ["L_x", "L_y", "L_z"])) := by decide +kernel

/-- a splitting specification: 2 codes × 1 noise × 2 decoder settings, 3 rates given unsorted -/
private def exSplit : Ranges :=
  { exRanges with
    method := some ⟨some "splitting", some (.dict [("n_init_runs", .int 10)])⟩,
    decoder := some ⟨some "MatchingDecoder",
      some (.list [.dict [("error_type", .str "X")], .dict [("error_type", .str "Z")]])⟩,
    errorRate := some (.list [.num (1/8), .num (1/2), .num (1/4)]) }

example : (methodOf exSplit).toOption.map (·.1) = some "splitting" := by decide +kernel

/-- one simulation per (code, noise, decoder) = 4, in product order, with the requested
    parameters … -/
example : (simsOfRanges exSplit).toOption.map
    (fun l => l.map fun s => (s.code.params.filterMap fun e => match e.2 with | .int i => some i | _ => none,
      s.decoder.params.filterMap (fun e => match e.2 with | .str x => some x | _ => none))) =
    some [([2, 3], ["X"]), ([2, 3], ["Z"]), ([4, 4], ["X"]), ([4, 4], ["Z"])] := by
  decide +kernel

/-- … each a splitting simulation -/
example : (simsOfRanges exSplit).toOption.map (fun l => l.map (·.splitting)) =
    some [true, true, true, true] := by decide +kernel

/-- … and the rate list of the specification is accepted by `ratesDescending` (so
    `splitting_rates_sorted_descending` applies: the three rates, sorted descending) -/
example : ∃ v, ratesDescending [.num (1/8), .num (1/2), .num (1/4)] = .ok v := ⟨_, rfl⟩

/-- the defect repaired by commit b2bb5d4 would make the registry theorem false -/
example : ¬ ∀ e ∈ [(⟨"CODES", "Planar3DCode", "RotatedPlanar3DCode"⟩ : RegEntry)], e.key = e.cls := by
  decide

end Panqec.C13
