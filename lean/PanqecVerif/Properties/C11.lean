/-
C11 — Monte-Carlo trials are self-consistent, reproducible and calibrated.

Property theorems only; helper lemmas are in `Proofs/Sim.lean` (state machine),
`Proofs/SimDist.lean` (finite rational distributions) and `Proofs/SimGrid.lean` (the complete variate
grid).  All statements hold for every code (any matrices `H`, `Lx`, `Lz`), every decoder output, every
error rate, every variate stream and every history of `run(k)` calls.

Not a theorem (tested at run time by the harness, see DESIGN §7): bit-for-bit equality of
two runs of the *Python* program with the same seed — that additionally needs numpy's
generator and the third-party decoders to be deterministic.  What is proved here is that
the model's whole run is a function of the finite prefix of variates it reads.
-/
import PanqecVerif.Proofs.Sim
import PanqecVerif.Proofs.SimDist
import PanqecVerif.Proofs.SimGrid

namespace Panqec.C11

open Panqec Panqec.Sim

/-- `syndrome` is the syndrome of `error`: one GF(2) symplectic product per stabilizer row -/
theorem trial_syndrome (dt : DType) (c : CodeMats) (e : List Nat) (dec : List Nat → List Nat) :
    (classify dt c e dec).syndrome = c.H.map fun r => symp r e := by
  simp [classify, measureSyndrome_eq]

/-- the decoder saw exactly that syndrome, and the recorded error is the drawn error -/
theorem trial_correction (dt : DType) (c : CodeMats) (e : List Nat) (dec : List Nat → List Nat) :
    (classify dt c e dec).correction = dec (classify dt c e dec).syndrome ∧
    (classify dt c e dec).error = e := ⟨rfl, rfl⟩

/-- `effective_error` is the logical effect of `error + correction`: products with the
    logical Z operators first (logical X flips), then with the logical X operators -/
theorem trial_effective_error (dt : DType) (c : CodeMats) (e : List Nat)
    (dec : List Nat → List Nat) :
    let t := classify dt c e dec
    t.effectiveError = (c.Lz.map fun r => symp r (vxor t.correction e)) ++
                       (c.Lx.map fun r => symp r (vxor t.correction e)) := by
  simp [classify, logicalErrors_eq]

/-- `codespace` ⇔ the residual error `error + correction` has zero syndrome -/
theorem trial_codespace_iff (dt : DType) (c : CodeMats) (e : List Nat)
    (dec : List Nat → List Nat) :
    let t := classify dt c e dec
    t.codespace = true ↔ ∀ r ∈ c.H, symp r (vxor t.correction e) = 0 := by
  simp [classify, inCodespace, measureSyndrome_eq]

/-- the residual syndrome is syndrome(error) + syndrome(correction): `codespace` ⇔ the
    correction reproduces the recorded syndrome (for corrections of the right length) -/
theorem trial_codespace_iff_reproduces (dt : DType) (c : CodeMats) (e : List Nat)
    (dec : List Nat → List Nat)
    (hlen : (dec (measureSyndrome c.H e)).length = e.length) :
    let t := classify dt c e dec
    t.codespace = true ↔
      ∀ x ∈ vxor (measureSyndrome c.H t.correction) t.syndrome, x = 0 := by
  simp only [classify, inCodespace]
  rw [measureSyndrome_vxor c.H _ e hlen]
  simp

/-- `success` ⇔ `codespace` and zero effective error -/
theorem trial_success_iff (dt : DType) (c : CodeMats) (e : List Nat)
    (dec : List Nat → List Nat) :
    let t := classify dt c e dec
    t.success = true ↔ t.codespace = true ∧ ∀ x ∈ t.effectiveError, x = 0 := by
  simp only [classify, Bool.and_eq_true, List.all_eq_true, beq_iff_eq]
  exact And.comm

/-- `run_once` returns such a record exactly when `0 ≤ error_rate ≤ 1`, else raises -/
theorem run_once_guard (dt : DType) (c : CodeMats) (probs : List QubitProbs) (rate : Rat)
    (dec : List Nat → List Nat) (u : Nat → Rat) (pos : Nat) :
    (0 ≤ rate ∧ rate ≤ 1 →
      runOnce dt c probs rate dec u pos = .ok (classify dt c (generate probs u pos) dec)) ∧
    (¬ (0 ≤ rate ∧ rate ≤ 1) → runOnce dt c probs rate dec u pos = .error .rate) := by
  unfold runOnce rateOk
  constructor
  · intro h; simp [h.1, h.2]
  · intro h; rw [if_neg (by simpa using h)]

/-- after any history of `run(k)` calls on a fresh simulation, all three result lists have
    length `n_runs`, `n_runs` is the total number of trials requested, and the generator
    has been read exactly `n` times per trial -/
theorem lists_have_length_n_runs (cfg : Config) (u : Nat → Rat) (ks : List Nat) (s : State)
    (h : runs cfg u ks State.init = .ok s) :
    s.nRuns = ks.sum ∧ s.effectiveError.length = s.nRuns ∧ s.success.length = s.nRuns ∧
    s.codespace.length = s.nRuns ∧ s.pos = cfg.probs.length * s.nRuns := by
  have := run_wf cfg u ks.sum State.init s (init_wf _) (runs_eq_run cfg u ks _ ▸ h)
  refine ⟨by simpa [State.init] using this.2, this.1.eff, this.1.suc, this.1.cod, this.1.pos⟩

/-- the estimator: `n_runs` reported by `get_results` is the counter, failures and
    successes partition the trials, and `p_est = n_fail / n_runs` (`nan` iff no trial) -/
theorem estimator_is_fail_fraction (cfg : Config) (u : Nat → Rat) (ks : List Nat) (s : State)
    (h : runs cfg u ks State.init = .ok s) :
    let r := getResults s
    r.nRuns = s.nRuns ∧ r.nFail + r.nSuccess = r.nRuns ∧
    r.nFail = (s.success.filter (· == false)).length ∧
    (r.nRuns ≠ 0 → r.pEst = some ((r.nFail : Rat) / (r.nRuns : Rat))) ∧
    (r.nRuns = 0 → r.pEst = none) := by
  have hw := (run_wf cfg u ks.sum State.init s (init_wf _) (runs_eq_run cfg u ks _ ▸ h)).1
  -- the guard `len(success) > 0` is immaterial: an empty array has no failures either
  have hguard : ∀ l : List Bool,
      (if l.length > 0 then (l.map (!·)).count true else 0) = (l.map (!·)).count true :=
    fun l => by cases l <;> simp
  simp only [getResults, hguard]
  refine ⟨hw.suc, count_not_add_count s.success, ?_, fun hn => by simp [hn], fun hn => by simp [hn]⟩
  rw [List.count_eq_length_filter, List.filter_map, List.length_map]
  congr 1
  apply List.filter_congr
  intro b _; cases b <;> rfl

/-- interleaving does not matter: any history of `run(k)` calls that does not raise ends in
    the same state as a single `run` of the total -/
theorem interleaving_irrelevant (cfg : Config) (u : Nat → Rat) (ks : List Nat) (s : State)
    (h : runs cfg u ks State.init = .ok s) : run cfg u ks.sum State.init = .ok s :=
  runs_eq_run cfg u ks _ ▸ h

/-- `run` raises iff the error rate is outside [0,1] and at least one trial is requested;
    it raises before the state is touched -/
theorem run_raises_iff (cfg : Config) (u : Nat → Rat) (k : Nat) (s : State) :
    (rateOk cfg.rate = true → ∃ s', run cfg u k s = .ok s') ∧
    (rateOk cfg.rate = false → run cfg u (k + 1) s = .error .rate ∧ run cfg u 0 s = .ok s) :=
  ⟨fun h => run_ok_of_rateOk cfg u h k s,
   fun h => ⟨run_err_of_not_rateOk cfg u h k s, rfl⟩⟩

/-- two generators that agree on the first `n · N` variates (`N` = total number of trials)
    give identical runs: same records, same counters, same estimator -/
theorem run_is_function_of_variates (cfg : Config) (u u' : Nat → Rat) (ks : List Nat)
    (hu : ∀ i, i < ks.sum * cfg.probs.length → u i = u' i) :
    runs cfg u ks State.init = runs cfg u' ks State.init :=
  by
  rw [runs_eq_run, runs_eq_run]
  exact run_congr cfg u u' ks.sum State.init fun i _ h2 => hu i (by simpa [State.init] using h2)

/-- the single-call form: equal variates on the window that is read ⇒ equal result -/
theorem run_reproducible (cfg : Config) (u u' : Nat → Rat) (k : Nat) (s : State)
    (hu : ∀ i, s.pos ≤ i → i < s.pos + k * cfg.probs.length → u i = u' i) :
    run cfg u k s = run cfg u' k s := run_congr cfg u u' k s hu

/-- the drawn error only depends on the `n` variates at the read position -/
theorem generate_reads_n_variates (probs : List QubitProbs) (u u' : Nat → Rat) (pos : Nat)
    (hu : ∀ i, pos ≤ i → i < pos + probs.length → u i = u' i) :
    generate probs u pos = generate probs u' pos := generate_congr probs u u' pos hu

/-- a product of normalised single-qubit channels is a normalised distribution on errors -/
theorem channel_normalised (probs : List QubitProbs)
    (h : ∀ q ∈ probs, q.pI + q.pX + q.pY + q.pZ = 1) : (channel probs).total = 1 := by
  unfold channel
  rw [total_map]
  apply total_prodDist_of_normalised
  intro d hd
  simp only [List.mem_map] at hd
  obtain ⟨q, hq, rfl⟩ := hd
  have := h q hq
  simp only [Dist.total, QubitProbs.dist, List.map_cons, List.map_nil, List.sum_cons, List.sum_nil]
  linarith

/-- for `N ≥ 1` independent trials drawn from any normalised finite distribution `d`, the
    expected value of `n_fail / N` is the single-trial failure probability
    `Σ_e P(e) · fail(e)` -/
theorem fail_fraction_unbiased {α : Type} (d : Dist α) (fail : α → Bool) (hd : d.total = 1)
    (N : Nat) (hN : 0 < N) :
    (prodDist (List.replicate N d)).expect (fun xs => (countFail fail xs : Rat) / (N : Rat)) =
      d.expect fun x => if fail x then 1 else 0 := by
  have hN' : (N : Rat) ≠ 0 := by exact_mod_cast (Nat.pos_iff_ne_zero.mp hN)
  simp only [div_eq_inv_mul, expect_mul_left, expect_countFail_replicate d fail hd N]
  exact inv_mul_cancel_left₀ hN' _

/-- instance for the simulation: with the i.i.d. Pauli channel of C07/C18 and a decoder that
    is a function of the syndrome, the expectation of `n_fail / N` over `N` trials equals the
    exact failure probability obtained by summing the channel over all `4^n` errors -/
theorem direct_simulation_calibrated (dt : DType) (c : CodeMats) (probs : List QubitProbs)
    (dec : List Nat → List Nat) (h : ∀ q ∈ probs, q.pI + q.pX + q.pY + q.pZ = 1)
    (N : Nat) (hN : 0 < N) :
    (prodDist (List.replicate N (channel probs))).expect
        (fun es => (countFail (fun e => !(classify dt c e dec).success) es : Rat) / (N : Rat)) =
      exactFailProb dt c probs dec := by
  rw [fail_fraction_unbiased _ _ (channel_normalised probs h) N hN]
  unfold exactFailProb failInd
  congr 1
  funext e
  cases (classify dt c e dec).success <;> simp

/-- deterministic calibration: when every single-qubit probability is a multiple of `1/M`,
    drawing one error per point of the complete variate grid `{0, 1/M, …, (M-1)/M}^n` with
    `fast_choice` gives a failure fraction that EQUALS the exact failure probability (no
    statistical error): this is the equality the harness checks on `DirectSimulation` -/
theorem grid_run_failure_fraction_is_exact (dt : DType) (c : CodeMats) (probs : List QubitProbs)
    (dec : List Nat → List Nat) (M : Nat) (hM : 0 < M) (hgrid : ∀ q ∈ probs, OnGrid M q) :
    ((gridPaulis M probs).map fun ps => failInd dt c dec (pauliToBsf ps)).sum /
        ((gridPaulis M probs).length : Rat) = exactFailProb dt c probs dec := by
  rw [grid_realises_channel M hM _ probs hgrid, gridPaulis_length]
  unfold exactFailProb channel
  rw [expect_map]
  have hM' : ((M ^ probs.length : Nat) : Rat) ≠ 0 := by
    exact_mod_cast (Nat.pos_iff_ne_zero.mp (Nat.pow_pos hM))
  push_cast at hM' ⊢
  exact mul_div_cancel_left₀ _ hM'

/-- what the grid does on one qubit: `fast_choice` at `j/M` compares `j` with the cumulative
    counts, strictly (a `<=` in `fast_choice` would shift every boundary point) -/
theorem fast_choice_on_grid (a b c d j M : Nat) (hM : 0 < M) :
    samplePauli (gridProbs a b c d M) ((j : Rat) / M) =
      if j < a then Pauli.I else if j < a + b then Pauli.X else if j < a + b + c then Pauli.Y
      else Pauli.Z := samplePauli_grid a b c d j M hM

/-! ### non-vacuity: concrete instances -/

/-- [[2,0]]-like toy: H = {XX, ZZ}, one logical pair placeholder; the trivial decoder on a
    single X error fails to return to the codespace -/
example :
    let c : CodeMats := ⟨[[1,1,0,0],[0,0,1,1]], [[1,0,0,0]], [[0,0,1,0]]⟩
    (classify .u8 c [1,0,0,0] (fun _ => [0,0,0,0])).syndrome = [0,1] ∧
    (classify .u8 c [1,0,0,0] (fun _ => [0,0,0,0])).codespace = false ∧
    (classify .u8 c [1,0,0,0] (fun _ => [1,0,0,0])).success = true := by decide

/-- a concrete run: 2 qubits, p = 1/2 pure-X channel, three variates-per-trial histories -/
example :
    let cfg : Config := ⟨.u8, ⟨[[0,0,1,1]], [[1,1,0,0]], [[0,0,1,0]]⟩,
      [⟨1/2, 1/2, 0, 0⟩, ⟨1/2, 1/2, 0, 0⟩], 1/2, fun _ _ => [0,0,0,0]⟩
    let u : Nat → Rat := fun i => if i % 3 = 0 then 3/4 else 1/4
    (runs cfg u [1, 0, 2] State.init).toOption.map (fun s => (getResults s).pEst)
      = some (some (2/3)) := by decide +kernel

example : (channel [⟨1/2, 1/4, 1/8, 1/8⟩, ⟨3/4, 0, 0, 1/4⟩]).total = 1 := by decide +kernel

end Panqec.C11
