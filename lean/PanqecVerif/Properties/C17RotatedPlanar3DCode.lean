/-
C17 for `RotatedPlanar3DCode`, ALL sizes of the supported family (`Lx, Ly, Lz ≥ 1`, no upper
bound): the distance `code.d` reports is the true code distance, `min Lx (Ly·Lz)` — for the
undeformed code and for every deformed code the class offers.

The matrices are the ones the generic code model assembles from the hand-written lattice model
`Model/Lattices/RotatedPlanar3DCode.lean` (tied to
`panqec/codes/surface_3d/_rotated_planar_3d_code.py` by the correspondence streams of
`harness/lattices/rotatedplanar3dcode.py`); they form a valid `[[n, 1]]` code for every size
(`C01RotatedPlanar3DCode.valid_code`).

* `reported_distance` — `code.d` (`distance`, the minimum Pauli weight over the rows of
  `logicals_x` and `logicals_z`, as `StabilizerCode.d` computes it) is `min Lx (Ly·Lz)`: the listed
  logical X is a row of `Lx` horizontal qubits, the listed logical Z a plane of `Ly·Lz`
  horizontal qubits (`weights_listed`).  (Checked against the Python:
  `RotatedPlanar3DCode(4, 3, 2).d == 4`, `RotatedPlanar3DCode(2, 2, 1).d == 2`.)
* `lower_bound` — every non-trivial logical operator has weight `≥ min Lx (Ly·Lz)`.  Packing
  argument (`Proofs/DistLattice.lean`, `Proofs/DistCubic3D.lean` through `Proofs/DistLat3Db.lean`,
  `Proofs/DistRotatedPlanar3DCode.lean`): a non-trivial logical anticommutes with the listed X row
  or with the listed Z plane (C04).  The row has `Ly·Lz` lattice translates
  `(y, z) = (2j + 1, 2k + 1)` with pairwise disjoint supports: moving up one layer multiplies by the
  row of vertical face generators between the rows (consecutive faces share one vertical qubit),
  moving to the next row of the bottom layer by the horizontal face generators between the rows
  (which tile both rows like dominoes).  The plane has `Lx` translates `x = 2i + 1`; the vertex
  generators between two consecutive planes tile both planes like dominoes in every layer and
  share their vertical qubits in pairs.  So every operator commuting with all generators meets
  all `Ly·Lz` translates of the row or all `Lx` translates of the plane.
* `distance` — `IsDistance n H (min Lx (Ly·Lz))`; `distance_reported` for the reported `d`.
* `distance_deformed`, `distance_deformed_offered` — the same for EVERY DEFORMED code of the class
  (`deform('XZZX', deformation_axis=ax)`, `ax ∈ {x, y, z}`; every other name or axis raises),
  every size (`C17.distance_deformation_invariant`).
-/
import PanqecVerif.Properties.C01RotatedPlanar3DCode
import PanqecVerif.Proofs.DistRotatedPlanar3DCode
import PanqecVerif.Proofs.Dist
import PanqecVerif.Proofs.DistDeform

namespace Panqec.C17RotatedPlanar3DCode
open Panqec Panqec.RotatedPlanar3DCode

/-- the number of qubits: `Lx·Ly·Lz` horizontal ones and `Lz − 1` layers of vertical ones -/
abbrev nq (Lx Ly Lz : Nat) : Nat :=
  Lx * Ly * Lz + ((Lx / 2) * (Ly / 2 + 1) + ((Lx - 1) / 2) * ((Ly + 1) / 2)) * (Lz - 1)

/-- the row of `logicals_x` has Pauli weight `Lx` (a row of qubits), the row of `logicals_z`
    weight `Ly·Lz` (a plane) — every `Lx, Ly, Lz ≥ 1` -/
theorem weights_listed (Lx Ly Lz : Nat) (hx : 1 ≤ Lx) (hy : 1 ≤ Ly) (hz : 1 ≤ Lz) :
    (lattice Lx Ly Lz).rowsX.map pauliWeight = [Lx] ∧
    (lattice Lx Ly Lz).rowsZ.map pauliWeight = [Ly * Lz] :=
  RotatedPlanar3DCode.weights_listed (C01RotatedPlanar3DCode.wf Lx Ly Lz hx hy hz)

/-- what `code.d` returns — the minimum weight over the listed logical operators — is
    `min Lx (Ly·Lz)`, every `Lx, Ly, Lz ≥ 1` -/
theorem reported_distance (Lx Ly Lz : Nat) (hx : 1 ≤ Lx) (hy : 1 ≤ Ly) (hz : 1 ≤ Lz) :
    Panqec.distance (lattice Lx Ly Lz).rowsX (lattice Lx Ly Lz).rowsZ =
      some (min Lx (Ly * Lz)) :=
  RotatedPlanar3DCode.reported_distance (C01RotatedPlanar3DCode.wf Lx Ly Lz hx hy hz)

/-- no non-trivial logical operator (commutes with every generator, is not a product of
    generators) of the `Lx × Ly × Lz` rotated 3-D planar code is lighter than `min Lx (Ly·Lz)` —
    every `Lx, Ly, Lz ≥ 1` -/
theorem lower_bound (Lx Ly Lz : Nat) (hx : 1 ≤ Lx) (hy : 1 ≤ Ly) (hz : 1 ≤ Lz) :
    ∀ v, IsNontrivialLogical (nq Lx Ly Lz) (lattice Lx Ly Lz).rowsH v →
      min Lx (Ly * Lz) ≤ pauliWeight v :=
  RotatedPlanar3DCode.lower_bound hz (C01RotatedPlanar3DCode.wf Lx Ly Lz hx hy hz)
    (length_qubits Lx Ly Lz) (C01RotatedPlanar3DCode.valid_code Lx Ly Lz hx hy hz).2.2.2

/-- THE C17 STATEMENT FOR ALL SIZES (`Lx, Ly, Lz ≥ 1`): the code distance of the `Lx × Ly × Lz`
    rotated 3-D planar code — the minimum weight of a non-trivial logical operator of the
    assembled parity-check matrix — is `min Lx (Ly·Lz)` -/
theorem distance (Lx Ly Lz : Nat) (hx : 1 ≤ Lx) (hy : 1 ≤ Ly) (hz : 1 ≤ Lz) :
    IsDistance (nq Lx Ly Lz) (lattice Lx Ly Lz).rowsH (min Lx (Ly * Lz)) :=
  distance_criterion (C01RotatedPlanar3DCode.valid_code Lx Ly Lz hx hy hz).2.2.2
    (min Lx (Ly * Lz)) (exists_listed_of_distance _ _ _ (reported_distance Lx Ly Lz hx hy hz))
    (lower_bound Lx Ly Lz hx hy hz)

/-- the same, stated for whatever `code.d` reports: the reported distance exists and is the
    true distance -/
theorem distance_reported (Lx Ly Lz : Nat) (hx : 1 ≤ Lx) (hy : 1 ≤ Ly) (hz : 1 ≤ Lz) :
    ∃ d, Panqec.distance (lattice Lx Ly Lz).rowsX (lattice Lx Ly Lz).rowsZ = some d ∧
      IsDistance (nq Lx Ly Lz) (lattice Lx Ly Lz).rowsH d :=
  ⟨_, reported_distance Lx Ly Lz hx hy hz, distance Lx Ly Lz hx hy hz⟩

/-! ### deformed codes (`code.deform('XZZX', deformation_axis=ax)`) -/

/-- the class offers the deformation 'XZZX' along the axes 'x', 'y', 'z': for these
    `get_deformation` is defined on every qubit of every lattice (any other name or axis raises,
    `C01RotatedPlanar3DCode.deformation_rule`) -/
theorem deformation_defined (Lx Ly Lz : Nat) (axis : String)
    (ha : axis = "x" ∨ axis = "y" ∨ axis = "z") (q : Coord)
    (hq : q ∈ (lattice Lx Ly Lz).qubits) :
    ∃ m, getDeformation Lx Ly Lz "XZZX" (some axis) q = some m := by
  obtain ⟨x, y, z, rfl⟩ := mem_qubits_shape Lx Ly Lz q hq
  rw [C01RotatedPlanar3DCode.deformation_rule, C01RotatedPlanar3DCode.qubit_axis_rule Lx Ly Lz x y z hq]
  have h1 : ¬ (axis ≠ "x" ∧ axis ≠ "y" ∧ axis ≠ "z") := by
    rintro ⟨a, b, c⟩; rcases ha with h | h | h <;> contradiction
  rw [if_neg h1, if_neg (by decide)]
  exact ⟨_, rfl⟩

/-- THE C17 STATEMENT FOR EVERY DEFORMED CODE OF THE CLASS, ALL SIZES (`Lx, Ly, Lz ≥ 1`): for every
    deformation name and axis for which `get_deformation` is defined on the qubits (`D q` = the
    relabelling it returns on `q`), the matrices the deformed getters assemble are the relabelled
    rows, they form a valid `[[n, 1]]` code, `code.d` reports `min Lx (Ly·Lz)`, and that is the true
    distance of the deformed code -/
theorem distance_deformed (Lx Ly Lz : Nat) (hx : 1 ≤ Lx) (hy : 1 ≤ Ly) (hz : 1 ≤ Lz)
    (name : String) (axis : Option String) (D : Coord → PauliMap)
    (hD : ∀ q ∈ (lattice Lx Ly Lz).qubits, getDeformation Lx Ly Lz name axis q = some (D q)) :
    stabilizerMatrix ((lattice Lx Ly Lz).toCodeData.deform D) =
        some ((lattice Lx Ly Lz).rowsH.map (deformBsf ((lattice Lx Ly Lz).qubits.map D))) ∧
    logicalsX ((lattice Lx Ly Lz).toCodeData.deform D) =
        some ((lattice Lx Ly Lz).rowsX.map (deformBsf ((lattice Lx Ly Lz).qubits.map D))) ∧
    logicalsZ ((lattice Lx Ly Lz).toCodeData.deform D) =
        some ((lattice Lx Ly Lz).rowsZ.map (deformBsf ((lattice Lx Ly Lz).qubits.map D))) ∧
    ValidCodeL (nq Lx Ly Lz) 1
      ((lattice Lx Ly Lz).rowsH.map (deformBsf ((lattice Lx Ly Lz).qubits.map D)))
      ((lattice Lx Ly Lz).rowsX.map (deformBsf ((lattice Lx Ly Lz).qubits.map D)))
      ((lattice Lx Ly Lz).rowsZ.map (deformBsf ((lattice Lx Ly Lz).qubits.map D))) ∧
    Panqec.distance ((lattice Lx Ly Lz).rowsX.map (deformBsf ((lattice Lx Ly Lz).qubits.map D)))
      ((lattice Lx Ly Lz).rowsZ.map (deformBsf ((lattice Lx Ly Lz).qubits.map D))) =
        some (min Lx (Ly * Lz)) ∧
    IsDistance (nq Lx Ly Lz)
      ((lattice Lx Ly Lz).rowsH.map (deformBsf ((lattice Lx Ly Lz).qubits.map D)))
      (min Lx (Ly * Lz)) :=
  Lattice.deformed_distance (lattice Lx Ly Lz) (C01RotatedPlanar3DCode.wf Lx Ly Lz hx hy hz)
    (C01RotatedPlanar3DCode.n_formula Lx Ly Lz)
    (C01RotatedPlanar3DCode.valid_code Lx Ly Lz hx hy hz).2.2.2
    (reported_distance Lx Ly Lz hx hy hz) (distance Lx Ly Lz hx hy hz) D
    (fun q hq => C01RotatedPlanar3DCode.deformation_isPerm Lx Ly Lz name axis q _ (hD q hq))

/-- the relabelling `get_deformation(·, name, axis)` as a function of the location (identity
    where it raises — nowhere on the qubits for the offered name and axes) -/
def deformationOf (Lx Ly Lz : Nat) (name : String) (axis : Option String) (q : Coord) : PauliMap :=
  (getDeformation Lx Ly Lz name axis q).getD PauliMap.id

/-- the XZZX-deformed code along every axis has distance `min Lx (Ly·Lz)` — every size -/
theorem distance_deformed_offered (Lx Ly Lz : Nat) (hx : 1 ≤ Lx) (hy : 1 ≤ Ly) (hz : 1 ≤ Lz)
    (axis : String) (ha : axis = "x" ∨ axis = "y" ∨ axis = "z") :
    IsDistance (nq Lx Ly Lz)
      ((lattice Lx Ly Lz).rowsH.map (deformBsf ((lattice Lx Ly Lz).qubits.map
        (deformationOf Lx Ly Lz "XZZX" (some axis))))) (min Lx (Ly * Lz)) :=
  (distance_deformed Lx Ly Lz hx hy hz "XZZX" (some axis) (deformationOf Lx Ly Lz "XZZX" (some axis))
    (fun q hq => by
      obtain ⟨m, hm⟩ := deformation_defined Lx Ly Lz axis ha q hq
      unfold deformationOf
      rw [hm]; rfl)).2.2.2.2.2

/-! ### non-vacuity -/

example : IsDistance 30 (lattice 2 3 4).rowsH 2 :=
  distance 2 3 4 (by decide) (by decide) (by decide)
/-- the distance is not `min Lx (min Ly Lz)`: the `4 × 3 × 2` code has distance 4 -/
example : IsDistance 30 (lattice 4 3 2).rowsH 4 :=
  distance 4 3 2 (by decide) (by decide) (by decide)
/-- the smallest member of the family: one qubit, no generator, distance 1 -/
example : IsDistance 1 (lattice 1 1 1).rowsH 1 :=
  distance 1 1 1 (by decide) (by decide) (by decide)
/-- the hypothesis of `lower_bound` is satisfiable: the listed logical X is a non-trivial
    logical operator -/
example : IsNontrivialLogical 10 (lattice 2 2 2).rowsH ((lattice 2 2 2).rowsX.getD 0 []) :=
  listedX_nontrivial (C01RotatedPlanar3DCode.valid_code 2 2 2 (by decide) (by decide) (by decide)).2.2.2
    (by decide +kernel)
example : (lattice 2 3 4).rowsX.map pauliWeight = [2] ∧
    (lattice 2 3 4).rowsZ.map pauliWeight = [12] :=
  weights_listed 2 3 4 (by decide) (by decide) (by decide)
/-- the XZZX code on the `3 × 4 × 5` lattice along 'z' has distance 3 -/
example : IsDistance (nq 3 4 5) ((lattice 3 4 5).rowsH.map
    (deformBsf ((lattice 3 4 5).qubits.map (deformationOf 3 4 5 "XZZX" (some "z"))))) 3 :=
  distance_deformed_offered 3 4 5 (by decide) (by decide) (by decide) "z" (by decide)
example : deformationOf 2 2 2 "XZZX" (some "z") [2, 0, 2] = PauliMap.swapXZ := by decide +kernel
/-- `code.deform('XZZX')` without an axis is the deformation along 'z' -/
example : deformationOf 2 2 2 "XZZX" none = deformationOf 2 2 2 "XZZX" (some "z") := rfl

end Panqec.C17RotatedPlanar3DCode
