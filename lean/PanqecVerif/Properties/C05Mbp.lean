/-
C05 / C06 for `MemoryBeliefPropagationDecoder`: the integer / boolean glue
(`Model/MbpDecoder.lean`).  The floating-point message passing is a parameter (`msgs`: per
iteration and qubit, whether all three `gamma` are positive and which is the smallest), so every
statement holds whatever the messages are — NaN, overflow and non-convergence included.

Proved: with `max_bp_iter ≥ 1` `decode` returns a binary vector of length `2n` which is exactly the
vector whose syndrome the last executed iteration tested (the final `reverse=True` conversion and
the swap of the halves cancel); the loop stops after the first iteration whose hard decision has the
measured syndrome, so whenever some iteration within the budget reaches the syndrome the returned
correction reproduces it; otherwise the hard decision of the last iteration is returned unchecked
(MBP is not a complete decoder); `max_bp_iter = 0` raises (`UnboundLocalError`).  C06: `decode`
works on copies of the message arrays, so the model is a plain function of the immutable attributes
and the syndrome and there is no state to state a theorem about; that the real object leaks none is
tested by the C06 oracle (reused object vs fresh object).

Tie to the code: `harness/mbp_dec.py` replays the model's loop on the hard decisions read off the
vectors the implementation hands to `measure_syndrome`.
-/
import PanqecVerif.Proofs.MbpDecoder

namespace Panqec.C05Mbp

open Panqec Panqec.Mbp

/-- **Validity and identity of the returned vector.**  For every matrix, every number of qubits,
    every `max_bp_iter ≥ 1`, every syndrome and whatever the messages: `decode` returns a binary
    vector of length `2n`; it ran `1 ≤ k ≤ max_bp_iter` iterations and returns the vector tested in
    the last one; every earlier iteration failed the syndrome test. -/
theorem mbp_correction_valid (H : Mat) (n maxIter : Nat) (msgs : Nat → List (Bool × Fin 3)) (s : Vec)
    (hmax : 1 ≤ maxIter) :
    ∃ c k, decode H n maxIter msgs s = (.ok c, k) ∧ c.length = 2 * n ∧ (∀ x ∈ c, x < 2) ∧
      1 ≤ k ∧ k ≤ maxIter ∧ c = testedVector n msgs (k - 1) ∧
      ∀ j, j + 1 < k → measureSyndrome H (testedVector n msgs j) ≠ s := by
  obtain ⟨k, hk1, hk2, hd, hfail, _⟩ := decode_spec H n maxIter msgs s hmax
  refine ⟨_, k, hd, ?_, pauliToSymplectic_binary _ _, hk1, hk2, rfl, hfail⟩
  rw [testedVector, pauliToSymplectic_length, hardVec_length]

/-- **A converged run reproduces the syndrome.**  If some iteration within the budget produces a
    hard decision with the measured syndrome, the returned correction has the measured syndrome
    (and it is the hard decision of the first such iteration). -/
theorem mbp_converged_reproduces_syndrome (H : Mat) (n maxIter : Nat)
    (msgs : Nat → List (Bool × Fin 3)) (s : Vec)
    (j : Nat) (hj : j < maxIter) (hconv : measureSyndrome H (testedVector n msgs j) = s) :
    ∃ c k, decode H n maxIter msgs s = (.ok c, k) ∧ measureSyndrome H c = s ∧ k ≤ j + 1 := by
  obtain ⟨k, hk1, hk2, hd, hfail, hlast⟩ := decode_spec H n maxIter msgs s (by omega)
  have hkj : k ≤ j + 1 := Decidable.byContradiction fun hlt => hfail j (by omega) hconv
  refine ⟨_, k, hd, hlast.elim id fun hend => ?_, hkj⟩
  -- budget exhausted: then `j < maxIter = k` is the last iteration
  rw [show k - 1 = j by omega]
  exact hconv

/-- **Budget exhausted**: when no iteration reaches the syndrome the hard decision of the last
    iteration is returned, unchecked. -/
theorem mbp_not_converged_returns_last (H : Mat) (n maxIter : Nat)
    (msgs : Nat → List (Bool × Fin 3)) (s : Vec) (hmax : 1 ≤ maxIter)
    (hno : ∀ j, j < maxIter → measureSyndrome H (testedVector n msgs j) ≠ s) :
    decode H n maxIter msgs s = (.ok (testedVector n msgs (maxIter - 1)), maxIter) := by
  obtain ⟨k, hk1, hk2, hd, _, hlast⟩ := decode_spec H n maxIter msgs s hmax
  have hend : k = maxIter := hlast.elim (fun hs => absurd hs (hno (k - 1) (by omega))) id
  rw [hd, hend]

/-- `max_bp_iter = 0`: the loop body never runs and `decode` raises `UnboundLocalError` -/
theorem mbp_zero_iterations_raises (H : Mat) (n : Nat) (msgs : Nat → List (Bool × Fin 3)) (s : Vec) :
    decode H n 0 msgs s = (.error .unboundLocal, 0) := rfl

/-- the hard decisions are Pauli numbers `0 … 3` -/
theorem mbp_hard_decision_is_pauli (n : Nat) (msg : List (Bool × Fin 3)) :
    (hardVec n msg).length = n ∧ ∀ x ∈ hardVec n msg, x < 4 :=
  ⟨hardVec_length n msg, hardVec_lt n msg⟩

/-- the final `pauli_to_symplectic(correction, reverse=True)` followed by the swap of the halves
    is the plain conversion -/
theorem mbp_reverse_and_swap_cancel (n : Nat) (c : Vec) (h : c.length = n) :
    finalVector n c = pauliToSymplectic c false :=
  finalVector_eq n c h

/-! ### non-vacuity: the two-qubit code (XX, ZZ) -/

def H2 : Mat := [[1, 1, 0, 0], [0, 0, 1, 1]]

/-- messages that decide "X on qubit 0" in iteration 0 -/
def msgsX0 : Nat → List (Bool × Fin 3) := fun _ => [(false, 0), (true, 0)]

example : symplecticToPauli [[1, 0, 1, 1], [0, 1, 0, 0]] = [[2, 3], [0, 1]] := by decide
example : decode H2 2 3 msgsX0 (measureSyndrome H2 [1, 0, 0, 0]) = (.ok [1, 0, 0, 0], 1) := by rfl
/-- a run that does not converge returns the last hard decision after the whole budget -/
example : decode H2 2 3 msgsX0 [1, 0] = (.ok [1, 0, 0, 0], 3) := by rfl

end Panqec.C05Mbp
