/-
C17 for `RhombicToricCode`, ALL sizes of the supported family (all `L_i` even and `≥ 2`, no upper
bound): the distance `code.d` reports is the true code distance, `min Lx (min Ly Lz)` — for the
undeformed code and for the deformed code the class offers (`'Checkerboard XZZX'`).

The matrices are the ones the generic code model assembles from the hand-written lattice model
`Model/Lattices/RhombicToricCode.lean` (tied to `panqec/codes/surface_3d/_rhombic_toric_code.py` by
the correspondence streams of `harness/lattices/rhombictoriccode.py`); they form a valid
`[[3·Lx·Ly·Lz, 3]]` code for every size of the family (`C01RhombicToricCode.valid_code`).

* `weights_listed`, `reported_distance` — the listed logicals are three X sheets (all edges lying
  in a lattice plane through the origin) of weights `2·Ly·Lz, 2·Lx·Lz, 2·Lx·Ly` and three Z lines of
  parallel edges of weights `Lx, Ly, Lz`; `code.d` (`distance`, the minimum Pauli weight over the
  rows of `logicals_x` and `logicals_z`, as `StabilizerCode.d` computes it) is `min Lx (min Ly Lz)`.
* `lower_bound` — every non-trivial logical operator has weight `≥ min Lx (min Ly Lz)`.  Packing
  argument (`Proofs/DistLattice.lean`, `Proofs/DistCheckerboard.lean`,
  `Proofs/DistRhombicToricCode{Parity,LowerBound}.lean`): a non-trivial logical anticommutes with one of the six
  listed logicals (C04).  A Z line has `L` lattice translates across, consecutive translates
  differing by the row of planar stars between them (a planar star of a vertex is the product of
  two of its four triangles); an X sheet has `L` translates along its normal, consecutive translates
  differing by the coloured cubes of the slab between them — every in-plane edge lies on exactly one
  coloured cube of the slab, every edge across on exactly two, because the sizes are even.  So every
  operator commuting with all generators anticommutes with each translate exactly when it
  anticommutes with the listed logical: its support meets every translate.
* `distance` — `IsDistance (3·Lx·Ly·Lz) H (min Lx (min Ly Lz))`: some non-trivial logical operator
  has that weight and none is lighter; `distance_reported` states it for the reported `d`.
* `distance_deformed`, `distance_deformed_offered` — the same for the deformed code
  (`deform('Checkerboard XZZX')`; every other name raises), every size
  (`C17.distance_deformation_invariant`).
-/
import PanqecVerif.Properties.C01RhombicToricCode
import PanqecVerif.Proofs.DistRhombicToricCodeLowerBound
import PanqecVerif.Proofs.Dist
import PanqecVerif.Proofs.DistDeform

namespace Panqec.C17RhombicToricCode
open Panqec.RhombicToricCode

/-- the rows of `logicals_x` have Pauli weights `[2·Ly·Lz, 2·Lx·Lz, 2·Lx·Ly]` (sheets), those of
    `logicals_z` `[Lx, Ly, Lz]` (lines of parallel edges) — every `Lx, Ly, Lz ≥ 2` -/
theorem weights_listed (Lx Ly Lz : Nat) (hx : 2 ≤ Lx) (hy : 2 ≤ Ly) (hz : 2 ≤ Lz) :
    (lattice Lx Ly Lz).rowsX.map pauliWeight = [2 * (Ly * Lz), 2 * (Lx * Lz), 2 * (Lx * Ly)] ∧
    (lattice Lx Ly Lz).rowsZ.map pauliWeight = [Lx, Ly, Lz] :=
  RhombicToricCode.weights_listed (C01RhombicToricCode.wf Lx Ly Lz hx hy hz)

/-- what `code.d` returns — the minimum weight over the listed logical operators — is
    `min Lx (min Ly Lz)`, every `Lx, Ly, Lz ≥ 2` -/
theorem reported_distance (Lx Ly Lz : Nat) (hx : 2 ≤ Lx) (hy : 2 ≤ Ly) (hz : 2 ≤ Lz) :
    Panqec.distance (lattice Lx Ly Lz).rowsX (lattice Lx Ly Lz).rowsZ =
      some (min Lx (min Ly Lz)) :=
  RhombicToricCode.reported_distance (by omega) (by omega) (by omega)
    (C01RhombicToricCode.wf Lx Ly Lz hx hy hz)

/-- no non-trivial logical operator (commutes with every generator, is not a product of
    generators) of the `Lx × Ly × Lz` rhombic toric code is lighter than `min Lx (min Ly Lz)` —
    every even `Lx, Ly, Lz ≥ 2` -/
theorem lower_bound (Lx Ly Lz : Nat) (hx : 2 ≤ Lx) (hy : 2 ≤ Ly) (hz : 2 ≤ Lz)
    (hex : Lx % 2 = 0) (hey : Ly % 2 = 0) (hez : Lz % 2 = 0) :
    ∀ v, IsNontrivialLogical (3 * (Lx * Ly * Lz)) (lattice Lx Ly Lz).rowsH v →
      min Lx (min Ly Lz) ≤ pauliWeight v :=
  RhombicToricCode.lower_bound hx hy hz hex hey hez (C01RhombicToricCode.wf Lx Ly Lz hx hy hz)
    (C01RhombicToricCode.n_formula Lx Ly Lz)
    (C01RhombicToricCode.valid_code Lx Ly Lz hx hy hz hex hey hez).2.2.2

/-- THE C17 STATEMENT FOR ALL SIZES of the supported family (all `L_i` even and `≥ 2`): the code
    distance of the `Lx × Ly × Lz` rhombic toric code — the minimum weight of a non-trivial logical
    operator of the assembled parity-check matrix — is `min Lx (min Ly Lz)` -/
theorem distance (Lx Ly Lz : Nat) (hx : 2 ≤ Lx) (hy : 2 ≤ Ly) (hz : 2 ≤ Lz)
    (hex : Lx % 2 = 0) (hey : Ly % 2 = 0) (hez : Lz % 2 = 0) :
    IsDistance (3 * (Lx * Ly * Lz)) (lattice Lx Ly Lz).rowsH (min Lx (min Ly Lz)) :=
  distance_criterion (C01RhombicToricCode.valid_code Lx Ly Lz hx hy hz hex hey hez).2.2.2
    (min Lx (min Ly Lz)) (exists_listed_of_distance _ _ _ (reported_distance Lx Ly Lz hx hy hz))
    (lower_bound Lx Ly Lz hx hy hz hex hey hez)

/-- the same, stated for whatever `code.d` reports: the reported distance exists and is the
    true distance -/
theorem distance_reported (Lx Ly Lz : Nat) (hx : 2 ≤ Lx) (hy : 2 ≤ Ly) (hz : 2 ≤ Lz)
    (hex : Lx % 2 = 0) (hey : Ly % 2 = 0) (hez : Lz % 2 = 0) :
    ∃ d, Panqec.distance (lattice Lx Ly Lz).rowsX (lattice Lx Ly Lz).rowsZ = some d ∧
      IsDistance (3 * (Lx * Ly * Lz)) (lattice Lx Ly Lz).rowsH d :=
  ⟨_, reported_distance Lx Ly Lz hx hy hz, distance Lx Ly Lz hx hy hz hex hey hez⟩

/-- the class offers the deformation 'Checkerboard XZZX': `get_deformation` is defined on every
    qubit of every lattice (any other name raises, `C01RhombicToricCode.deformation_rule`) -/
theorem deformation_defined (Lx Ly Lz : Nat) (q : Coord) (hq : q ∈ (lattice Lx Ly Lz).qubits) :
    ∃ m, getDeformation "Checkerboard XZZX" q = some m := by
  obtain ⟨x, y, z, rfl⟩ := mem_qubits_shape Lx Ly Lz q hq
  exact ⟨_, C01RhombicToricCode.deformation_on_qubits Lx Ly Lz x y z hq⟩

/-- THE C17 STATEMENT FOR EVERY DEFORMED CODE OF THE CLASS, ALL SIZES (all `L_i` even and `≥ 2`): for
    every deformation name for which `get_deformation` is defined on the qubits (`D q` = the
    relabelling it returns on `q`), the matrices the deformed getters assemble are the relabelled
    rows, they form a valid `[[n, 3]]` code, `code.d` reports `min Lx (min Ly Lz)`, and that is the
    true distance of the deformed code -/
theorem distance_deformed (Lx Ly Lz : Nat) (hx : 2 ≤ Lx) (hy : 2 ≤ Ly) (hz : 2 ≤ Lz)
    (hex : Lx % 2 = 0) (hey : Ly % 2 = 0) (hez : Lz % 2 = 0)
    (name : String) (D : Coord → PauliMap)
    (hD : ∀ q ∈ (lattice Lx Ly Lz).qubits, getDeformation name q = some (D q)) :
    stabilizerMatrix ((lattice Lx Ly Lz).toCodeData.deform D) =
        some ((lattice Lx Ly Lz).rowsH.map (deformBsf ((lattice Lx Ly Lz).qubits.map D))) ∧
    logicalsX ((lattice Lx Ly Lz).toCodeData.deform D) =
        some ((lattice Lx Ly Lz).rowsX.map (deformBsf ((lattice Lx Ly Lz).qubits.map D))) ∧
    logicalsZ ((lattice Lx Ly Lz).toCodeData.deform D) =
        some ((lattice Lx Ly Lz).rowsZ.map (deformBsf ((lattice Lx Ly Lz).qubits.map D))) ∧
    ValidCodeL (3 * (Lx * Ly * Lz)) 3
      ((lattice Lx Ly Lz).rowsH.map (deformBsf ((lattice Lx Ly Lz).qubits.map D)))
      ((lattice Lx Ly Lz).rowsX.map (deformBsf ((lattice Lx Ly Lz).qubits.map D)))
      ((lattice Lx Ly Lz).rowsZ.map (deformBsf ((lattice Lx Ly Lz).qubits.map D))) ∧
    Panqec.distance ((lattice Lx Ly Lz).rowsX.map (deformBsf ((lattice Lx Ly Lz).qubits.map D)))
      ((lattice Lx Ly Lz).rowsZ.map (deformBsf ((lattice Lx Ly Lz).qubits.map D))) =
        some (min Lx (min Ly Lz)) ∧
    IsDistance (3 * (Lx * Ly * Lz))
      ((lattice Lx Ly Lz).rowsH.map (deformBsf ((lattice Lx Ly Lz).qubits.map D)))
      (min Lx (min Ly Lz)) :=
  Lattice.deformed_distance (lattice Lx Ly Lz) (C01RhombicToricCode.wf Lx Ly Lz hx hy hz)
    (C01RhombicToricCode.n_formula Lx Ly Lz)
    (C01RhombicToricCode.valid_code Lx Ly Lz hx hy hz hex hey hez).2.2.2
    (reported_distance Lx Ly Lz hx hy hz) (distance Lx Ly Lz hx hy hz hex hey hez) D
    (fun q hq => C01RhombicToricCode.deformation_isPerm name q _ (hD q hq))

/-- the relabelling `get_deformation(·, name)` as a function of the location (identity where it
    raises — nowhere on the qubits for the offered name) -/
def deformationOf (name : String) (q : Coord) : PauliMap :=
  (getDeformation name q).getD PauliMap.id

/-- the 'Checkerboard XZZX' code has distance `min Lx (min Ly Lz)` — every size of the family -/
theorem distance_deformed_offered (Lx Ly Lz : Nat) (hx : 2 ≤ Lx) (hy : 2 ≤ Ly) (hz : 2 ≤ Lz)
    (hex : Lx % 2 = 0) (hey : Ly % 2 = 0) (hez : Lz % 2 = 0) :
    IsDistance (3 * (Lx * Ly * Lz))
      ((lattice Lx Ly Lz).rowsH.map (deformBsf ((lattice Lx Ly Lz).qubits.map
        (deformationOf "Checkerboard XZZX")))) (min Lx (min Ly Lz)) :=
  (distance_deformed Lx Ly Lz hx hy hz hex hey hez "Checkerboard XZZX"
    (deformationOf "Checkerboard XZZX") (fun q hq => by
      obtain ⟨m, hm⟩ := deformation_defined Lx Ly Lz q hq
      unfold deformationOf
      rw [hm]; rfl)).2.2.2.2.2

/-! ### non-vacuity -/

example : IsDistance 144 (lattice 2 4 6).rowsH 2 :=
  distance 2 4 6 (by decide) (by decide) (by decide) (by decide) (by decide) (by decide)
example : IsDistance 1440 (lattice 10 8 6).rowsH 6 :=
  distance 10 8 6 (by decide) (by decide) (by decide) (by decide) (by decide) (by decide)
/-- the hypothesis of `lower_bound` is satisfiable: the first listed logical X is a non-trivial
    logical operator -/
example : IsNontrivialLogical 24 (lattice 2 2 2).rowsH ((lattice 2 2 2).rowsX.getD 0 []) :=
  listedX_nontrivial (C01RhombicToricCode.valid_code 2 2 2 (by decide) (by decide) (by decide)
    (by decide) (by decide) (by decide)).2.2.2 (by decide +kernel)
example : (lattice 2 4 6).rowsX.map pauliWeight = [48, 24, 16] ∧
    (lattice 2 4 6).rowsZ.map pauliWeight = [2, 4, 6] :=
  weights_listed 2 4 6 (by decide) (by decide) (by decide)
/-- the 'Checkerboard XZZX' code on the `4 × 4 × 6` lattice has distance 4 -/
example : IsDistance 288 ((lattice 4 4 6).rowsH.map
    (deformBsf ((lattice 4 4 6).qubits.map (deformationOf "Checkerboard XZZX")))) 4 :=
  distance_deformed_offered 4 4 6 (by decide) (by decide) (by decide) (by decide) (by decide)
    (by decide)
example : deformationOf "Checkerboard XZZX" [0, 0, 1] = PauliMap.swapXZ := by decide +kernel

end Panqec.C17RhombicToricCode
