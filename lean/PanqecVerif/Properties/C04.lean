/-
C04 — decoding success is declared iff the residual error is a stabilizer.

The main theorem and the rank bound are proved in `Proofs/CodeAlgebra.lean` (list level)
on top of `Proofs/Symplectic.lean` (bridge to `ZMod 2` linear algebra and the abstract
dimension argument).  All statements are for every `n`, `k`, every parity-check
matrix `H` and logical operators `Lx`, `Lz` satisfying the C01 clauses (`ValidCodeL`),
and every binary vector `e` of length `2n` — no size bound.

Model functions (`Model/Code.lean`): `inCodespace` = `StabilizerCode.in_codespace`,
`logicalErrors` = `StabilizerCode.logical_errors` = `get_effective_error`,
`isLogicalError` = `is_logical_error`, `isSuccess` = `is_success`.
-/
import PanqecVerif.Proofs.CodeAlgebra
import PanqecVerif.Proofs.Mask

namespace Panqec.C04

open Panqec

/-- **Main theorem.** For a valid `[[n,k]]` stabilizer code, `is_success(e)` is `true`
    exactly when the residual error `e` is a product of stabilizer generators
    (`InSpan (2n) H e`: some GF(2) combination of the rows of `H` equals `e`).
    Holds for both dtypes of the dense `bs_prod` path. -/
theorem success_iff_stabilizer {n k : Nat} {H Lx Lz : List (List Nat)}
    (hv : ValidCodeL n k H Lx Lz) (dt : DType) (e : List Nat)
    (he_len : e.length = 2 * n) (he_bin : ∀ x ∈ e, x < 2) :
    isSuccess dt H Lx Lz e = true ↔ InSpan (2 * n) H e :=
  isSuccess_iff_inSpan hv dt e he_len he_bin

/-- `in_codespace(e)` is `true` exactly when `e` commutes with every generator
    (every matrix `H`, every vector `e`; no validity needed). -/
theorem codespace_iff_commutes_with_generators (H : List (List Nat)) (e : List Nat) :
    inCodespace H e = true ↔ ∀ g ∈ H, symp g e = 0 :=
  inCodespace_iff H e

/-- Among the errors in the codespace, "no logical error" is reported exactly for the
    products of generators. -/
theorem no_logical_error_iff_stabilizer {n k : Nat} {H Lx Lz : List (List Nat)}
    (hv : ValidCodeL n k H Lx Lz) (dt : DType) (e : List Nat)
    (he_len : e.length = 2 * n) (he_bin : ∀ x ∈ e, x < 2)
    (hcs : inCodespace H e = true) :
    isLogicalError dt Lx Lz e = false ↔ InSpan (2 * n) H e := by
  rw [← isSuccess_iff_inSpan hv dt e he_len he_bin]
  unfold isSuccess
  rw [hcs]
  simp

/-- The 2k-bit logical effect is GF(2)-linear in the error. -/
theorem logical_effect_linear (dt : DType) (Lx Lz : List (List Nat)) (e f : List Nat)
    (h : e.length = f.length) :
    logicalErrors dt Lx Lz (vxor e f) =
      vxor (logicalErrors dt Lx Lz e) (logicalErrors dt Lx Lz f) := by
  simp only [logicalErrors_eq]
  rw [vxor_append _ _ _ _ (by simp), vxor_map_symp Lz e f h, vxor_map_symp Lx e f h]

/-- The logical effect is constant on cosets of the stabilizer group: multiplying the
    error by any product `s` of generators does not change it. -/
theorem logical_effect_constant_on_cosets {n k : Nat} {H Lx Lz : List (List Nat)}
    (hv : ValidCodeL n k H Lx Lz) (dt : DType) (e s : List Nat) (he_len : e.length = 2 * n)
    (hs : InSpan (2 * n) H s) :
    logicalErrors dt Lx Lz (vxor e s) = logicalErrors dt Lx Lz e := by
  have hc := hv.toCommPair
  have hslen : s.length = 2 * n := inSpan_length hc.lenH hs
  have key : ∀ L : List (List Nat), (∀ l ∈ L, ∀ g ∈ H, symp l g = 0) →
      L.map (fun l => symp l (vxor e s)) = L.map (fun l => symp l e) := by
    intro L hcomm
    apply List.map_congr_left
    intro l hl
    rw [symp_vxor_right l e s (by rw [he_len, hslen]),
      symp_zero_of_inSpan hc.lenH (hcomm l hl) hs]
    have := symp_lt_two l e
    omega
  rw [logicalErrors_eq, logicalErrors_eq, key Lz hv.logZ_comm, key Lx hv.logX_comm]

/-- Meaning of the bits: entry `i` (`i < k`) is the symplectic product of `e` with
    logical Z_i — set iff `e` acts X-type on logical qubit `i`; entry `k + i` is the
    product with logical X_i — set iff `e` acts Z-type on logical qubit `i`. -/
theorem logical_effect_bits_meaning (dt : DType) (Lx Lz : List (List Nat)) (e : List Nat) :
    (logicalErrors dt Lx Lz e).length = Lz.length + Lx.length ∧
    (∀ i (h : i < Lz.length), (logicalErrors dt Lx Lz e)[i]? = some (symp Lz[i] e)) ∧
    (∀ i (h : i < Lx.length),
      (logicalErrors dt Lx Lz e)[Lz.length + i]? = some (symp Lx[i] e)) :=
  ⟨by simp [logicalErrors_eq], logicalErrors_spec dt Lx Lz e⟩

/-- Consequence used by C01: the commutation and pairing clauses alone bound the number
    of independent generators by `n - k`. -/
theorem rank_bound_from_commutation_and_pairing {n k : Nat} {H Lx Lz : List (List Nat)}
    (hc : CommPairL n k H Lx Lz) (basis : List (List Nat)) (hsub : basis.Sublist H)
    (hind : Indep (2 * n) basis) : basis.length ≤ n - k :=
  rank_le_of_commute_pairing hc basis hsub hind

/-! ### non-vacuity: the `[[4,2,2]]` code as lists

`H = [XXXX, ZZZZ]`, `X̄₁ = XXII`, `X̄₂ = XIXI`, `Z̄₁ = IZIZ`, `Z̄₂ = IIZZ`. -/

def H422 : List (List Nat) := [[1,1,1,1, 0,0,0,0], [0,0,0,0, 1,1,1,1]]
def Lx422 : List (List Nat) := [[1,1,0,0, 0,0,0,0], [1,0,1,0, 0,0,0,0]]
def Lz422 : List (List Nat) := [[0,0,0,0, 0,1,0,1], [0,0,0,0, 0,0,1,1]]

theorem indep_H422 : Indep (2 * 4) H422 := by
  intro sel hl
  match sel, hl with
  | [a, b], _ => revert a b; decide

/-- the hypotheses of all theorems above are satisfiable by a non-trivial code (k = 2); here packed
    as masks (bit `j` = X, bit `4 + j` = Z on qubit `j`) for the checker of `Proofs/Mask.lean` -/
theorem valid422 : ValidCodeL 4 2 H422 Lx422 Lz422 :=
  checkValid_sound ⟨4, 2, [0x0F, 0xF0], [0x03, 0x05], [0xA0, 0xC0], 2⟩
    ⟨[0, 1], [0x10, 0x01], [1, 2]⟩ (by decide)

/-- the product of the two generators (`YYYY`) is accepted … -/
example : isSuccess .u8 H422 Lx422 Lz422 [1,1,1,1, 1,1,1,1] = true := by decide
/-- … and the main theorem turns that into membership of the stabilizer group -/
example : InSpan (2 * 4) H422 [1,1,1,1, 1,1,1,1] :=
  (success_iff_stabilizer valid422 .u8 _ (by decide) (by decide)).mp (by decide)
/-- a logical operator is in the codespace but rejected; `X̄₁ = XXII` anticommutes with
    `Z̄₁` only, i.e. it acts X-type on logical qubit 1: exactly bit 0 of the effect is set -/
example : inCodespace H422 [1,1,0,0, 0,0,0,0] = true ∧
    isSuccess .u8 H422 Lx422 Lz422 [1,1,0,0, 0,0,0,0] = false ∧
    logicalErrors .u8 Lx422 Lz422 [1,1,0,0, 0,0,0,0] = [1, 0, 0, 0] := by decide
/-- `Z̄₁ = IZIZ` anticommutes with `X̄₁` only: Z-type action on logical qubit 1, bit `k + 0` -/
example : logicalErrors .wide Lx422 Lz422 [0,0,0,0, 0,1,0,1] = [0, 0, 1, 0] := by decide
/-- hence (by the main theorem, not by enumeration) `XXII` is no product of generators -/
example : ¬ InSpan (2 * 4) H422 [1,1,0,0, 0,0,0,0] := fun h => by
  have := (success_iff_stabilizer valid422 .u8 _ (by decide) (by decide)).mpr h
  revert this; decide
/-- an error outside the codespace -/
example : inCodespace H422 [1,0,0,0, 0,0,0,0] = false := by decide
/-- coset invariance instantiated: `Z̄₂ · ZZZZ = ZZII` has the same effect as `Z̄₂` -/
example : logicalErrors .wide Lx422 Lz422 (vxor [0,0,0,0, 0,0,1,1] [0,0,0,0, 1,1,1,1]) =
    logicalErrors .wide Lx422 Lz422 [0,0,0,0, 0,0,1,1] :=
  logical_effect_constant_on_cosets valid422 .wide _ _ (by decide)
    ⟨[false, true], rfl, by decide⟩

/-- rank bound instantiated: with the same generators and logicals no `k > 2` can pass,
    because the two independent generators force `2 ≤ 4 - k`. -/
example (k : Nat) (hc : CommPairL 4 k H422 Lx422 Lz422) : k ≤ 2 := by
  have := rank_bound_from_commutation_and_pairing hc H422 (List.Sublist.refl _) indep_H422
  simp [H422] at this
  omega

/-- distance criteria instantiated: every listed logical of the `[[4,2,2]]` code has two
    representatives with disjoint supports (`l` and `l·XXXX` resp. `l·ZZZZ`), so every
    non-trivial logical has weight ≥ 2, and `XXII` has weight 2: the distance is 2. -/
example : IsDistance 4 H422 2 := by
  apply distance_criterion valid422 2 ⟨[1,1,0,0, 0,0,0,0], by decide, by decide⟩
  apply packing_lower_bound valid422 2
  -- two representatives `a`, `b` of `l` with disjoint supports
  have hrep : ∀ l a b : List Nat, a.length = 2 * 4 → b.length = 2 * 4 →
      InSpan (2 * 4) H422 (vxor l a) → InSpan (2 * 4) H422 (vxor l b) →
      suppDisjointB a b = true →
      ∃ reps : List (List Nat), reps.length = 2 ∧
        (∀ r ∈ reps, r.length = 2 * 4 ∧ InSpan (2 * 4) H422 (vxor l r)) ∧
        reps.Pairwise SuppDisjoint := fun l a b ha hb sa sb h =>
    ⟨[a, b], rfl, by simp [ha, hb, sa, sb], by simp [suppDisjoint_of_check ha hb h]⟩
  intro l hl
  simp only [Lx422, Lz422, List.cons_append, List.nil_append, List.mem_cons,
    List.not_mem_nil, or_false] at hl
  rcases hl with rfl | rfl | rfl | rfl
  · exact hrep _ [1,1,0,0, 0,0,0,0] [0,0,1,1, 0,0,0,0] rfl rfl
      ⟨[false, false], rfl, by decide⟩ ⟨[true, false], rfl, by decide⟩ (by decide)
  · exact hrep _ [1,0,1,0, 0,0,0,0] [0,1,0,1, 0,0,0,0] rfl rfl
      ⟨[false, false], rfl, by decide⟩ ⟨[true, false], rfl, by decide⟩ (by decide)
  · exact hrep _ [0,0,0,0, 0,1,0,1] [0,0,0,0, 1,0,1,0] rfl rfl
      ⟨[false, false], rfl, by decide⟩ ⟨[false, true], rfl, by decide⟩ (by decide)
  · exact hrep _ [0,0,0,0, 0,0,1,1] [0,0,0,0, 1,1,0,0] rfl rfl
      ⟨[false, false], rfl, by decide⟩ ⟨[false, true], rfl, by decide⟩ (by decide)

end Panqec.C04
