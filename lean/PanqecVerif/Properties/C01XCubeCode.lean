/-
C01 (lattice part) — `XCubeCode` is a well-formed stabilizer-code specification whose operators
satisfy every commutation clause of C01, for EVERY lattice size in the supported family
`L_x, L_y, L_z ≥ 2` (no bound on the size).

The model `Model/Lattices/XCubeCode.lean` is a hand-written transcription of
`panqec/codes/fractons/_xcube_code.py` as functions of the size (periodic wrap `%`, `is_qubit`
filter, dict overwrite included); it is tied to the implementation by the correspondence streams of
`harness/lattices/xcubecode.py`.  Property theorems only; the lemmas are in
`Proofs/LatXCubeCode*.lean`.

Rank clause, for all sizes (`4·Lx·Ly·Lz` generators with `Lx·Ly·Lz + 2(Lx+Ly+Lz) − 3` relations):
the cubes with at most one coordinate equal to 1, the axis-1 vertex operators with `x ≥ 2` or
`z ≥ 2` and the axis-0 vertex operators with `y ≥ 2`, or `x ≥ 2` and `z ≥ 2`, are independent
(`generators_independent`, via a triangular family of single-qubit probes,
`Proofs/LatXCubeCodeRank*.lean`) and there are exactly `n − k = 3·Lx·Ly·Lz − 2(Lx+Ly+Lz) + 3` of
them (`generators_count`).  `valid_code` puts everything together through the generic bridges
`Proofs/OpComm.lean` (`symp (to_bsf a) (to_bsf b) = opAntiCount a b mod 2` ⇒ `CommPairL` of the
assembled rows) and `Proofs/LatRankBridge.lean` (operator-level
independent family of `n − k` distinct generators ⇒ `HasRank (2n) rowsH (n − k)`): the matrices
that `stabilizer_matrix`, `logicals_x`, `logicals_z` of the generic code model (`Model/Code.lean`,
C02) assemble from this lattice model form a valid `[[n, k]]` stabilizer code (`ValidCodeL`: all
four clauses of C01, rank included) for EVERY size of the family.

The family (`selStabs`) is defined in the Mathlib-free model file, printed by the driver op `rankfamily` and
evaluated on the IMPLEMENTATION's parity-check matrix on every run (stream `lat-XCubeCode-rank-family`:
members `n − k`, all distinct stabilizer locations, GF(2) rank `n − k`).  `deformation_default_axis`: the
default `deformation_axis='z'` of the signature (stream cases with the keyword omitted).
-/
import PanqecVerif.Proofs.LatXCubeCodeCss
import PanqecVerif.Proofs.LatXCubeCodeRankIndep
import PanqecVerif.Proofs.LatRankBridge

namespace Panqec.C01XCubeCode

open Panqec Panqec.XCubeCode Panqec.Lat2D

/-- Coordinates are distinct, qubit and stabilizer coordinates are disjoint, every stabilizer and
    logical operator is a dict (distinct keys) supported on qubits with letters X/Y/Z, and no
    stabilizer is empty — for every size ≥ 2. -/
theorem wf (Lx Ly Lz : Nat) (hx : 2 ≤ Lx) (hy : 2 ≤ Ly) (hz : 2 ≤ Lz) : (lattice Lx Ly Lz).WF :=
  XCubeCode.wf Lx Ly Lz hx hy hz

/-- All pairs of stabilizer generators (cubes, and the three vertex operators per vertex) commute,
    every logical operator commutes with every generator, the pairing table
    `opAntiCount (X_i, Z_j)` is odd iff `i = j` for all `i`, `j`, and the logical X's
    (Z's) commute among themselves — for every size ≥ 2. -/
theorem commPair (Lx Ly Lz : Nat) (hx : 2 ≤ Lx) (hy : 2 ≤ Ly) (hz : 2 ≤ Lz) :
    (lattice Lx Ly Lz).CommPair :=
  XCubeCode.commPair Lx Ly Lz hx hy hz

/-- one qubit per edge of the periodic cubic lattice -/
theorem n_formula (Lx Ly Lz : Nat) : (lattice Lx Ly Lz).toCodeData.n = 3 * (Lx * Ly * Lz) :=
  length_qubits Lx Ly Lz

/-- `k = 2(Lx + Ly + Lz) - 3` logical qubits -/
theorem k_value (Lx Ly Lz : Nat) (hx : 1 ≤ Lx) (hy : 1 ≤ Ly) (hz : 1 ≤ Lz) :
    (lattice Lx Ly Lz).toCodeData.k = 2 * (Lx + Ly + Lz) - 3 :=
  length_logX Lx Ly Lz hx hy hz

/-- rank clause, operator level: the selected generators (cubes with at most one coordinate equal
    to 1; axis-1 vertex operators with `x ≥ 2` or `z ≥ 2`; axis-0 vertex operators with `y ≥ 2`, or
    `x ≥ 2` and `z ≥ 2`) are independent — every non-empty duplicate-free sub-family `T` has a
    Pauli operator `d` on the qubits anticommuting with an odd number of members of `T` (so no
    non-trivial product of them is trivial) — every `Lx, Ly, Lz ≥ 2` -/
theorem generators_independent (Lx Ly Lz : Nat) (hx : 2 ≤ Lx) (hy : 2 ≤ Ly) (hz : 2 ≤ Lz) :
    IndepGenerators (lattice Lx Ly Lz) (selStabs Lx Ly Lz) :=
  indep_sel Lx Ly Lz hx hy hz

/-- the independent family consists of `n − k` distinct stabilizer locations -/
theorem generators_count (Lx Ly Lz : Nat) (hx : 1 ≤ Lx) (hy : 1 ≤ Ly) (hz : 1 ≤ Lz) :
    (selStabs Lx Ly Lz).Nodup ∧ (∀ s ∈ selStabs Lx Ly Lz, s ∈ (lattice Lx Ly Lz).stabs) ∧
    (selStabs Lx Ly Lz).length + (lattice Lx Ly Lz).toCodeData.k =
      (lattice Lx Ly Lz).toCodeData.n :=
  ⟨nodup_selStabs Lx Ly Lz, fun _ hs => selStabs_sub hx hy hz hs, selStabs_count Lx Ly Lz hx hy hz⟩

/-- THE C01 STATEMENT FOR ALL SIZES (`Lx, Ly, Lz ≥ 2`): `stabilizer_matrix`, `logicals_x`,
    `logicals_z` of the generic code model, applied to this lattice model, return (no `KeyError`)
    matrices that form a valid `[[3·Lx·Ly·Lz, 2(Lx+Ly+Lz) − 3]]` stabilizer code: generators
    pairwise commute, logicals commute with the generators, `ω(X_i, Z_j) = δ_ij`,
    `ω(X_i, X_j) = ω(Z_i, Z_j) = 0`, and the generators have GF(2) rank `n − k` -/
theorem valid_code (Lx Ly Lz : Nat) (hx : 2 ≤ Lx) (hy : 2 ≤ Ly) (hz : 2 ≤ Lz) :
    stabilizerMatrix (lattice Lx Ly Lz).toCodeData = some (lattice Lx Ly Lz).rowsH ∧
    logicalsX (lattice Lx Ly Lz).toCodeData = some (lattice Lx Ly Lz).rowsX ∧
    logicalsZ (lattice Lx Ly Lz).toCodeData = some (lattice Lx Ly Lz).rowsZ ∧
    ValidCodeL (3 * (Lx * Ly * Lz)) (2 * (Lx + Ly + Lz) - 3)
      (lattice Lx Ly Lz).rowsH (lattice Lx Ly Lz).rowsX (lattice Lx Ly Lz).rowsZ := by
  obtain ⟨hnd, hsub, hcount⟩ := generators_count Lx Ly Lz (by omega) (by omega) (by omega)
  have h := validCode_of_lattice_subset (lattice Lx Ly Lz) (wf Lx Ly Lz hx hy hz)
    (commPair Lx Ly Lz hx hy hz) (selStabs Lx Ly Lz) hnd hsub
    (generators_independent Lx Ly Lz hx hy hz) hcount
  rw [n_formula, k_value Lx Ly Lz (by omega) (by omega) (by omega)] at h
  exact h

/-- `qubit_axis` of a qubit is the direction of its edge (the odd coordinate) -/
theorem qubit_axis_rule (Lx Ly Lz : Nat) (x y z : Int) (h : [x, y, z] ∈ (lattice Lx Ly Lz).qubits) :
    qubitAxis [x, y, z] = some (if x % 2 = 1 then "x" else if y % 2 = 1 then "y" else "z") :=
  qubitAxis_qubit Lx Ly Lz x y z h

/-- `get_deformation` for every location, name and axis (keyword passed): an axis outside x/y/z or a
    name other than `XZZX` is a `ValueError`; `XZZX` swaps X and Z exactly on the locations whose
    `qubit_axis` equals the deformation axis and is the identity where `qubit_axis` gives another axis
    (`ValueError` where `qubit_axis` raises). -/
theorem deformation_rule (name axis : String) (loc : Coord) :
    getDeformation name (some axis) loc =
      if axis ≠ "x" ∧ axis ≠ "y" ∧ axis ≠ "z" then none
      else if name ≠ "XZZX" then none
      else (qubitAxis loc).map fun a => if a = axis then PauliMap.swapXZ else PauliMap.id :=
  getDeformation_rule name (some axis) loc

/-- the default of the signature: `get_deformation(location, name)` without `deformation_axis` is
    `get_deformation(location, name, deformation_axis='z')` -/
theorem deformation_default_axis (name : String) (loc : Coord) :
    getDeformation name none loc = getDeformation name (some "z") loc := rfl

/-- consequently every deformation the class returns is a permutation of {X, Y, Z} -/
theorem deformation_isPerm (name : String) (axis : Option String) (loc : Coord) (m : PauliMap)
    (h : getDeformation name axis loc = some m) : m.isPerm = true := by
  rw [getDeformation_rule] at h
  split at h
  · cases h
  · split at h
    · cases h
    · cases hq : qubitAxis loc with
      | none => rw [hq] at h; cases h
      | some a =>
        rw [hq] at h
        simp only [Option.map_some, Option.some.injEq] at h
        subst h
        split <;> decide

/-! ### non-vacuity -/

example : (lattice 2 2 3).toCodeData.n = 36 := by decide
example : (lattice 2 2 3).toCodeData.k = 11 := by decide
example : getStab 2 2 2 [0, 0, 0, 0] =
    [([0, 1, 0], Pauli.X), ([0, 3, 0], Pauli.X), ([0, 0, 1], Pauli.X), ([0, 0, 3], Pauli.X)] := by decide
example : (getStab 2 3 2 [3, 5, 1]).length = 12 := by decide
example : (lattice 2 3 4).CommPair := commPair 2 3 4 (by decide) (by decide) (by decide)
example : IndepGenerators (lattice 2 2 3) (selStabs 2 2 3) :=
  generators_independent 2 2 3 (by decide) (by decide) (by decide)
example : (selStabs 2 2 3).length = 25 := by decide
example : ValidCodeL 36 11 (lattice 2 2 3).rowsH (lattice 2 2 3).rowsX (lattice 2 2 3).rowsZ :=
  (valid_code 2 2 3 (by decide) (by decide) (by decide)).2.2.2
/-- 48 generators, rank 25 -/
example : (lattice 2 2 3).stabs.length = 48 ∧ HasRank (2 * 36) (lattice 2 2 3).rowsH 25 :=
  ⟨by decide, (valid_code 2 2 3 (by decide) (by decide) (by decide)).2.2.2.rank⟩
example : getDeformation "XZZX" (some "y") [0, 1, 0] = some PauliMap.swapXZ := by decide
example : getDeformation "XZZX" (some "y") [1, 0, 0] = some PauliMap.id := by decide
example : getDeformation "XZZX" (some "w") [1, 0, 0] = none := by decide
/-- keyword omitted: the z edges are deformed, the others are not -/
example : getDeformation "XZZX" none [0, 0, 1] = some PauliMap.swapXZ := by decide
example : getDeformation "XZZX" none [0, 1, 0] = some PauliMap.id := by decide
example : getDeformation "XY" none [0, 0, 1] = none := by decide

end Panqec.C01XCubeCode
