/-
C07 — the Pauli noise model is the stated i.i.d. channel and is sampled faithfully.

Property theorems only (helper lemmas: `Proofs/Noise.lean`).
Quantifiers: every error rate `p ∈ [0,1]`, every direction `(r_x, r_y, r_z)` on the
simplex (faces and vertices included: only `0 ≤ r_σ` is assumed), every per-qubit
deformation dict that is a permutation of {X,Y,Z}, every variate `u ∈ [0,1)`, every
number of qubits.  Everything is over ℚ; `np.log` only enters through monotonicity:
a matching weight is `-log(odds)`, so `weight > 0 ↔ odds < 1`, `weight = 0 ↔ odds = 1`
and weights are ordered opposite to odds.
-/
import PanqecVerif.Proofs.Noise

namespace Panqec.C07

open Panqec

/-- entries `(1-p, r_x p, r_y p, r_z p)` are non-negative -/
theorem channel_nonneg (p rx ry rz : Rat) (hp0 : 0 ≤ p) (hp1 : p ≤ 1) (hx : 0 ≤ rx)
    (hy : 0 ≤ ry) (hz : 0 ≤ rz) (σ : Pauli) : 0 ≤ (baseDist p rx ry rz).get σ :=
  baseDist_nonneg p rx ry rz hp0 hp1 hx hy hz σ

/-- and sum to one whenever the direction does -/
theorem channel_sums_to_one (p rx ry rz : Rat) (h : rx + ry + rz = 1) :
    (baseDist p rx ry rz).total = 1 := baseDist_total p rx ry rz h

/-- without a deformation name `probability_distribution` is `n` copies of it -/
theorem undeformed_distribution (p rx ry rz : Rat) (n : Nat) :
    probabilityDistribution p rx ry rz n none = some (List.replicate n (baseDist p rx ry rz)) := rfl

/-- with a deformation, qubit `i` carries the base distribution permuted by its own dict:
    the probability of `σ` is the undeformed probability of `D_i σ` (the direction in which
    the code applies the dict), and `I` keeps `1 - p`. -/
theorem deformed_distribution (p rx ry rz : Rat) (n : Nat) (Ds : List PauliMap)
    (hperm : ∀ D ∈ Ds, D.isPerm = true) :
    ∃ ds, probabilityDistribution p rx ry rz n (some Ds) = some ds ∧ ds.length = Ds.length ∧
      ∀ (i : Nat) (D : PauliMap), Ds[i]? = some D →
        ∃ d, ds[i]? = some d ∧ ∀ σ, d.get σ = (baseDist p rx ry rz).get (D.apply σ) := by
  refine ⟨Ds.map fun D => permDist D (baseDist p rx ry rz), ?_, by simp, ?_⟩
  · exact mapM_deformDist_of_perm _ Ds hperm
  · intro i D hD
    refine ⟨permDist D (baseDist p rx ry rz), by simp [List.getElem?_map, hD], ?_⟩
    exact permDist_get D _

/-- every qubit of the deformed channel still has a probability distribution -/
theorem deformed_distribution_valid (p rx ry rz : Rat) (n : Nat) (Ds : List PauliMap)
    (hp0 : 0 ≤ p) (hp1 : p ≤ 1) (hx : 0 ≤ rx) (hy : 0 ≤ ry) (hz : 0 ≤ rz)
    (h : rx + ry + rz = 1) (hperm : ∀ D ∈ Ds, D.isPerm = true) :
    ∃ ds, probabilityDistribution p rx ry rz n (some Ds) = some ds ∧ ∀ d ∈ ds, d.Valid := by
  refine ⟨Ds.map fun D => permDist D (baseDist p rx ry rz), mapM_deformDist_of_perm _ Ds hperm, ?_⟩
  intro d hd
  obtain ⟨D, hD, rfl⟩ := List.mem_map.mp hd
  exact permDist_valid D _ (hperm D hD) (baseDist_valid p rx ry rz hp0 hp1 hx hy hz h)

/-- the only dicts the code cannot use are those with an image outside {X,Y,Z} (KeyError) -/
theorem deformation_keyError_iff (D : PauliMap) (d : Dist) :
    deformDist D d = none ↔ (D.x = .I ∨ D.y = .I ∨ D.z = .I) := by
  obtain ⟨a, b, c⟩ := D
  cases a <;> cases b <;> cases c <;> simp [deformDist, Dist.prev]

/-- `fast_choice` returns `σ` exactly when the variate lies in the half-open interval
    `[lo σ, hi σ)` … -/
theorem fast_choice_preimage (u : Rat) (d : Dist) (hv : d.Valid) (hu0 : 0 ≤ u) (hu1 : u < 1)
    (σ : Pauli) : fastChoice u d = σ ↔ d.lo σ ≤ u ∧ u < d.hi σ :=
  fastChoice_iff u d hv hu0 hu1 σ

/-- … whose length is exactly the probability of `σ`; the four intervals tile `[0, 1)` -/
theorem fast_choice_intervals (d : Dist) (hv : d.Valid) :
    (∀ σ, d.hi σ - d.lo σ = d.get σ) ∧ d.lo .I = 0 ∧ d.hi .I = d.lo .X ∧ d.hi .X = d.lo .Y ∧
      d.hi .Y = d.lo .Z ∧ d.hi .Z = 1 := by
  obtain ⟨_, _, _, _, h5⟩ := hv
  simp only [Dist.total] at h5
  refine ⟨fun σ => by simp [Dist.hi], rfl, ?_, ?_, ?_, ?_⟩ <;> simp [Dist.hi, Dist.lo, Dist.get, h5]

/-- `p = 0` (identity has probability 1, deformed or not): never an error -/
theorem no_error_at_p_zero (u : Rat) (d : Dist) (hi : d.i = 1) (hu1 : u < 1) :
    fastChoice u d = .I := by
  rw [fastChoice_eq, hi]; simp [hu1]

/-- `p = 1` (identity has probability 0): always an error -/
theorem always_error_at_p_one (u : Rat) (d : Dist) (hi : d.i = 0) (hu0 : 0 ≤ u) :
    fastChoice u d ≠ .I := by
  rw [fastChoice_eq, hi]
  have : ¬ u < 0 := not_lt.mpr hu0
  simp only [this, if_false]
  split_ifs <;> simp

/-- the identity entry is `1 - p` on every qubit, deformed or not -/
theorem identity_probability (p rx ry rz : Rat) (D : PauliMap) :
    (baseDist p rx ry rz).i = 1 - p ∧ (permDist D (baseDist p rx ry rz)).i = 1 - p := ⟨rfl, rfl⟩

/-- `generate` returns a vector of length `2n` … -/
theorem generate_length (ds : List Dist) (us : List Rat) (h : us.length = ds.length) :
    (generate ds us).length = 2 * ds.length := Panqec.generate_length ds us h

/-- … with entries 0/1 … -/
theorem generate_binary (ds : List Dist) (us : List Rat) : ∀ x ∈ generate ds us, x < 2 := by
  intro x hx
  simp only [generate, pauliToBsf, List.mem_append, List.mem_map] at hx
  rcases hx with ⟨σ, _, rfl⟩ | ⟨σ, _, rfl⟩ <;> cases σ <;> decide

/-- … which is the BSF image of independently chosen letters: the letter of qubit `q`
    depends only on the `q`-th variate and the `q`-th distribution; its X bit sits at
    position `q`, its Z bit at position `n + q`. -/
theorem generate_is_qubitwise (ds : List Dist) (us : List Rat) (h : us.length = ds.length)
    (q : Nat) (d : Dist) (u : Rat) (hd : ds[q]? = some d) (hu : us[q]? = some u) :
    (bsfToPauli (generate ds us))[q]? = some (fastChoice u d) ∧
    (generate ds us)[q]? = some (fastChoice u d).xBit ∧
    (generate ds us)[ds.length + q]? = some (fastChoice u d).zBit := by
  have hs := sampleLetters_get ds us q d u hd hu
  have hl : (sampleLetters ds us).length = ds.length := by rw [sampleLetters_length, h, Nat.min_self]
  have hq : q < (sampleLetters ds us).length := (List.getElem?_eq_some_iff.mp hs).1
  unfold generate
  refine ⟨by rw [bsfToPauli_pauliToBsf]; exact hs, ?_, ?_⟩ <;> unfold pauliToBsf
  · rw [List.getElem?_append_left (by simpa using hq), List.getElem?_map, hs]
    rfl
  · rw [← hl, List.getElem?_append_right (by simp)]
    simp [List.getElem?_map, hs]

/-- the sampled error is a given Pauli string iff every variate lies in the interval of
    its letter (so the events of different qubits are independent and the probability of a
    string is the product of interval lengths, see C18) -/
theorem generate_preimage (ds : List Dist) (s : List Pauli) (us : List Rat)
    (hv : ∀ d ∈ ds, d.Valid) (hu : ∀ u ∈ us, 0 ≤ u ∧ u < 1) (hl : ds.length = us.length) :
    bsfToPauli (generate ds us) = s ↔ inBox ds s us := by
  unfold generate
  rw [bsfToPauli_pauliToBsf]
  exact sampleLetters_iff_inBox ds s us hv hu hl

/-- `p = 0` on all qubits: every sampled letter is `I`, for every random stream -/
theorem generate_p_zero (ds : List Dist) (us : List Rat) (h0 : ∀ d ∈ ds, d.i = 1)
    (hu : ∀ u ∈ us, u < 1) : ∀ σ ∈ sampleLetters ds us, σ = .I :=
  sampleLetters_forall (· = .I) ds us fun d hd u hu' => no_error_at_p_zero u d (h0 d hd) (hu u hu')

/-- `p = 1` on all qubits: every qubit carries an error -/
theorem generate_p_one (ds : List Dist) (us : List Rat) (h0 : ∀ d ∈ ds, d.i = 0)
    (hu : ∀ u ∈ us, 0 ≤ u) : ∀ σ ∈ sampleLetters ds us, σ ≠ .I :=
  sampleLetters_forall (· ≠ .I) ds us fun d hd u hu' => always_error_at_p_one u d (h0 d hd) (hu u hu')

/-- the X bit is set exactly on an interval of length `p_X + p_Y` -/
theorem x_flip_marginal (u : Rat) (d : Dist) (hv : d.Valid) :
    (fastChoice u d).xBit = 1 ↔ d.i ≤ u ∧ u < d.i + d.xMarginal := by
  obtain ⟨h1, h2, h3, h4, h5⟩ := hv
  rw [fastChoice_eq]
  simp only [Dist.xMarginal]
  split_ifs <;> simp [Pauli.xBit] <;> (try intros) <;> (try constructor) <;> linarith

/-- the Z bit is set exactly on `[1 - (p_Z + p_Y), 1)` -/
theorem z_flip_marginal (u : Rat) (d : Dist) (hv : d.Valid) :
    (fastChoice u d).zBit = 1 ↔ 1 - d.zMarginal ≤ u := by
  obtain ⟨h1, h2, h3, h4, h5⟩ := hv
  simp only [Dist.total] at h5
  rw [fastChoice_eq]
  simp only [Dist.zMarginal]
  split_ifs <;> simp [Pauli.zBit] <;> linarith

/-- both bits are set exactly on the interval of `Y` (length `p_Y`) -/
theorem xz_flip_joint (u : Rat) (d : Dist) (hv : d.Valid) (hu0 : 0 ≤ u) (hu1 : u < 1) :
    ((fastChoice u d).xBit = 1 ∧ (fastChoice u d).zBit = 1) ↔
      d.lo .Y ≤ u ∧ u < d.lo .Y + d.y := by
  have h := fastChoice_iff u d hv hu0 hu1 .Y
  simp only [Dist.hi, Dist.get] at h
  rw [← h]
  cases fastChoice u d <;> simp [Pauli.xBit, Pauli.zBit]

/-- the marginals are sums of the joint distribution of the two bits -/
theorem marginals_from_joint (d : Dist) :
    d.xMarginal = d.joint 1 0 + d.joint 1 1 ∧ d.zMarginal = d.joint 0 1 + d.joint 1 1 := by
  obtain ⟨_, h2, h3, h4⟩ := joint_values d
  simp [Dist.xMarginal, Dist.zMarginal, h2, h3, h4]

/-- `MatchingDecoder` builds the X matcher on `Hz` with the odds of the X-flip marginals and
    the Z matcher on `Hx` with those of the Z-flip marginals; `error_type` selects which. -/
theorem matching_receives_marginals (ds : List Dist) :
    matchingCalls .both ds = [(Sector.Hz, ds.map fun d => odds d.xMarginal),
                              (Sector.Hx, ds.map fun d => odds d.zMarginal)] ∧
    matchingCalls .X ds = [(Sector.Hz, ds.map fun d => odds d.xMarginal)] ∧
    matchingCalls .Z ds = [(Sector.Hx, ds.map fun d => odds d.zMarginal)] := by
  refine ⟨rfl, rfl, rfl⟩

/-- a weight is `-log` of `P/(1-P)`: defined for `P < 1`, non-negative odds, below 1 (weight
    positive) iff `P < 1/2`, equal to 1 (weight zero) iff `P = 1/2`, strictly increasing in
    `P` (weights strictly decreasing); `P = 1` is the only undefined case. -/
theorem weight_is_log_likelihood_ratio (P : Rat) (h0 : 0 ≤ P) (h1 : P < 1) :
    odds P = some (P / (1 - P)) ∧ 0 ≤ P / (1 - P) ∧ (P / (1 - P) < 1 ↔ P < 1 / 2) ∧
      (P / (1 - P) = 1 ↔ P = 1 / 2) ∧ ∀ Q, P < Q → Q < 1 → P / (1 - P) < Q / (1 - Q) := by
  have hpos : (0 : Rat) < 1 - P := by linarith
  refine ⟨by simp [odds, ne_of_gt hpos], div_nonneg h0 hpos.le, ?_, ?_, fun Q hPQ hQ => ?_⟩
  · rw [div_lt_one hpos]
    constructor <;> intro h <;> linarith
  · rw [div_eq_one_iff_eq (ne_of_gt hpos)]
    constructor <;> intro h <;> linarith
  · rw [div_lt_div_iff₀ hpos (by linarith)]
    nlinarith

theorem weight_undefined_iff (P : Rat) : odds P = none ↔ P = 1 := by
  unfold odds
  split_ifs with h
  · simp; linarith
  · simp; intro h'; apply h; linarith

/-- the marginals of a valid distribution are probabilities -/
theorem marginals_in_unit_interval (d : Dist) (hv : d.Valid) :
    0 ≤ d.xMarginal ∧ d.xMarginal ≤ 1 ∧ 0 ≤ d.zMarginal ∧ d.zMarginal ≤ 1 := by
  obtain ⟨h1, h2, h3, h4, h5⟩ := hv
  simp only [Dist.total] at h5
  simp only [Dist.xMarginal, Dist.zMarginal]
  refine ⟨?_, ?_, ?_, ?_⟩ <;> linarith

/-- CSS path: the X decoder (built on `Hz`) first receives the X-flip marginals, the Z decoder
    (built on `Hx`) the Z-flip marginals; without channel update nothing else is sent, and
    the result is `[x_correction | z_correction]`. -/
theorem bp_priors_css (ds : List Dist) (zCorr xCorr : List Nat) :
    bposdCss false ds zCorr xCorr =
      some ([.update .x (ratVals (ds.map Dist.xMarginal)),
             .update .z (ratVals (ds.map Dist.zMarginal)), .decode .z, .decode .x],
            xCorr ++ zCorr) := rfl

/-- with channel update the X decoder receives, between the two decodings, the vector
    `update_probabilities(z_correction, …, "z->x")` -/
theorem bp_priors_css_update (ds : List Dist) (zCorr xCorr : List Nat) (v : List UpdVal)
    (h : updateProbabilities .zToX zCorr (ds.map (·.x)) (ds.map (·.y)) (ds.map (·.z)) = some v) :
    bposdCss true ds zCorr xCorr =
      some ([.update .x (ratVals (ds.map Dist.xMarginal)),
             .update .z (ratVals (ds.map Dist.zMarginal)), .decode .z, .update .x v, .decode .x],
            xCorr ++ zCorr) := by
  simp [bposdCss, h]

/-- `update_probabilities` works qubit by qubit -/
theorem update_probabilities_entries (dir : UpdDir) (cs : List Nat) (pxs pys pzs : List Rat)
    (h1 : cs.length ≤ pxs.length) (h2 : cs.length ≤ pys.length) (h3 : cs.length ≤ pzs.length) :
    ∃ v : List UpdVal, updateProbabilities dir cs pxs pys pzs = some v ∧ v.length = cs.length ∧
      ∀ (q c : Nat) (px py pz : Rat), cs[q]? = some c → pxs[q]? = some px → pys[q]? = some py →
        pzs[q]? = some pz → v[q]? = some (updateEntry dir c px py pz) :=
  updateProbabilities_get dir cs pxs pys pzs h1 h2 h3

/-- the updated X prior is the conditional probability `P(x-flip | z-flip = c)`:
    joint probability over marginal, for both values of the decoded Z bit … -/
theorem update_is_conditional_z_to_x (d : Dist) (ht : d.total = 1) :
    (d.zMarginal ≠ 0 →
      updateEntry .zToX 1 d.x d.y d.z = .val (d.joint 1 1 / (d.joint 0 1 + d.joint 1 1))) ∧
    (∀ c, c ≠ 1 → d.zMarginal ≠ 1 →
      updateEntry .zToX c d.x d.y d.z = .val (d.joint 1 0 / (d.joint 0 0 + d.joint 1 0))) := by
  obtain ⟨h1, h2, h3, h4⟩ := joint_values d
  simp only [Dist.zMarginal, Dist.total] at ht ⊢
  refine ⟨fun h => by simp [updateEntry, h3, h4, h], fun c hc h => ?_⟩
  have he : (1 : Rat) - d.z - d.y = d.i + d.x := by linarith
  have hne : d.i + d.x ≠ 0 := fun h' => h (by linarith)
  simp [updateEntry, hc, floatDiv, hne, h1, h2, he]

/-- … and symmetrically `P(z-flip | x-flip = c)` in the other direction -/
theorem update_is_conditional_x_to_z (d : Dist) (ht : d.total = 1) :
    (d.xMarginal ≠ 0 →
      updateEntry .xToZ 1 d.x d.y d.z = .val (d.joint 1 1 / (d.joint 1 0 + d.joint 1 1))) ∧
    (∀ c, c ≠ 1 → d.xMarginal ≠ 1 →
      updateEntry .xToZ c d.x d.y d.z = .val (d.joint 0 1 / (d.joint 0 0 + d.joint 0 1))) :=
  -- the two directions are one function with X and Z exchanged
  update_is_conditional_z_to_x ⟨d.i, d.z, d.y, d.x⟩ (by simp only [Dist.total] at ht ⊢; linarith)

/-- conditioning on a flip of probability zero keeps the entry at 0 (the guard in the code);
    conditioning on "no flip" of probability zero divides by zero (`nan`, since then the
    numerator is zero as well for a valid distribution) -/
theorem update_null_events (d : Dist) (hv : d.Valid) :
    (d.zMarginal = 0 → updateEntry .zToX 1 d.x d.y d.z = .val 0) ∧
    (d.xMarginal = 0 → updateEntry .xToZ 1 d.x d.y d.z = .val 0) ∧
    (d.zMarginal = 1 → updateEntry .zToX 0 d.x d.y d.z = .nan) ∧
    (d.xMarginal = 1 → updateEntry .xToZ 0 d.x d.y d.z = .nan) := by
  obtain ⟨h1, h2, h3, h4, h5⟩ := hv
  simp only [Dist.total] at h5
  simp only [Dist.zMarginal, Dist.xMarginal]
  refine ⟨?_, ?_, ?_, ?_⟩ <;> intro h
  · simp [updateEntry, h]
  · simp [updateEntry, h]
  · have e1 : (1 : Rat) - d.z - d.y = 0 := by linarith
    have e2 : d.x = 0 := by linarith
    simp [updateEntry, floatDiv, e1, e2]
  · have e1 : (1 : Rat) - d.x - d.y = 0 := by linarith
    have e2 : d.z = 0 := by linarith
    simp [updateEntry, floatDiv, e1, e2]

/-- non-CSS path: the single decoder works on the full stabilizer matrix, whose first `n`
    columns (the X parts of the stabilizers) detect Z flips: its priors are
    `[z-marginals | x-marginals]`, entry `i` the Z-flip marginal of qubit `i`, entry `n + i`
    its X-flip marginal, and its decoding `[z | x]` is returned as `[x | z]`. -/
theorem bp_priors_noncss (ds : List Dist) (corr : List Nat) :
    ∃ v : List UpdVal, bposdNonCss ds corr =
        ([.update .joint v, .decode .joint], corr.drop ds.length ++ corr.take ds.length) ∧
      v.length = 2 * ds.length ∧
      ∀ (i : Nat) (d : Dist), ds[i]? = some d →
        v[i]? = some (.val d.zMarginal) ∧ v[ds.length + i]? = some (.val d.xMarginal) := by
  refine ⟨ratVals (ds.map Dist.zMarginal ++ ds.map Dist.xMarginal), rfl, ?_, ?_⟩
  · simp [ratVals]; omega
  · intro i d hd
    have hi : i < ds.length := by
      by_contra hc
      rw [List.getElem?_eq_none (by omega)] at hd
      simp at hd
    constructor
    · have hd' : ds[i] = d := by
        rw [List.getElem?_eq_getElem hi] at hd
        exact Option.some.inj hd
      simp [ratVals, List.getElem?_append_left, hi, hd']
    · simp [ratVals, List.getElem?_append_right, List.getElem?_map, hd]

/-- the re-ordering undoes the `[z | x]` layout: a decoding `cz ++ cx` becomes `cx ++ cz` -/
theorem bp_noncss_reorder (ds : List Dist) (cz cx : List Nat) (h : cz.length = ds.length) :
    (bposdNonCss ds (cz ++ cx)).2 = cx ++ cz := by
  simp [bposdNonCss, ← h]

/-! ### non-vacuity -/

example : (baseDist (1/4) (1/2) (1/4) (1/4)).Valid := by
  refine baseDist_valid _ _ _ _ ?_ ?_ ?_ ?_ ?_ ?_ <;> norm_num
example : PauliMap.swapXZ.isPerm = true ∧ (⟨.Y, .Z, .X⟩ : PauliMap).isPerm = true := by decide
/-- a three-cycle shows the direction: new `p_X` is the old `p_Y` -/
example : (permDist ⟨.Y, .Z, .X⟩ (baseDist (1/2) (1/2) (1/4) (1/4))).x = 1/8 := by
  norm_num [permDist, baseDist, Dist.get]
example : fastChoice (3/4) (baseDist (1/4) (1/2) (1/4) (1/4)) = .X ∧
    fastChoice (7/8) (baseDist (1/4) (1/2) (1/4) (1/4)) = .Y := by
  constructor <;> rw [fastChoice_eq] <;> norm_num [baseDist]

end Panqec.C07
