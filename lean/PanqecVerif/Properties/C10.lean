/-
C10 — sweep decoders track the true residual syndrome.

Statement (properties.jsonl): at every step of a sweep decoder's cellular automaton the
excitation pattern it tracks equals the face syndrome of (original error + correction
accumulated so far): flipping an edge toggles exactly the face stabilizers that anticommute
with Z on that edge, and an edge flipped twice is removed from the correction.  Hence the
returned correction is Z-only, and whenever the automaton stops with no excitations left the
face syndrome of error + correction is zero.

Model: `Model/Sweep.lean` (both automata, `site`, `to_bsf`), `Model/SweepLattices.lean`
(the four 3-D lattices).  Helper lemmas: `Proofs/SweepGeneric.lean`, `Proofs/SweepLattice.lean`,
`Proofs/SweepTables.lean` (`NbrTables`: the two neighbour tables by residue class),
`Proofs/SweepCubic.lean` (what Toric3DCode and Planar3DCode share), `Proofs/SweepToric.lean`,
`Proofs/SweepPlanar.lean`,
`Proofs/SweepRotPlanarBase.lean`, `Proofs/SweepRotPlanar.lean`, `Proofs/SweepRotPlanarEdges.lean`
(RotatedPlanar3DCode, all sizes), `Proofs/SweepRotToric*.lean` (RotatedToric3DCode, all sizes),
`Proofs/SweepInstances.lean`.  `Properties/C10RotatedToric3DModel.lean` proves that the lattice
data of RotatedToric3DCode used here is the all-sizes lattice model of C01.

The rotated automaton is modelled as it is after the seam repair (`_wrap` applied to the faces of
`get_sweep_faces`, the edges of `get_sweep_edges` and the candidate faces of `flip_edge`; the
code-id test is the flag `rotSeam` of the lattice; `get_initial_state` blanks by type).  What it
was before is kept as `oldFlipFacesRot`, `oldSweepFacesRot`, `oldSweepEdgesRot` for the
regression theorems at the end.

Vocabulary
  `Tracks lat ez st`   : `st.signs = faceSyn lat (ez ⊕ Z-part of st.corr)`   (THE invariant,
                         `SweepDecoder3D`: face rows = rows not flagged in `z_indices`, the rows
                         `get_initial_state` does not blank; such a row has no Z letter, so only
                         the Z part of the error matters)
  `TracksRot lat ex ez st` : `st.signs = faceSynRot lat (ex ⊕ X-part of st.corr) (ez ⊕ Z-part of
                         st.corr)` (THE invariant, `RotatedSweepDecoder3D`: face rows = rows whose
                         `stabilizer_type` is `'face'`, the rows its `get_initial_state` does not
                         blank since the seam repair; on the defect lines of an odd-sized
                         RotatedToric3DCode such a row carries Z letters too, so the X part of the
                         error is kept)
  `ZOnly op`           : every letter of the dict is Z
  `flipTableOK lat F`  : on every edge of `lat`, the faces `F` toggles (odd multiplicity) are
                         exactly the stabilizer rows that are not flagged in `z_indices` and
                         carry X on that edge  (decidable; the geometry hypothesis)
  `flipTableOKRot lat F` : the same with "rows of type `'face'`" (decidable; the geometry
                         hypothesis of the rotated decoder)
  `sweepEdgesOK3D lat` : every edge `SweepDecoder3D.sweep_move` can propose is an edge of the
                         lattice (decidable; the rotated decoder checks this at run time)
  `sweepEdgesOKRot lat`: at every vertex, in each of the eight sweep directions, three existing
                         faces imply three existing edges (decidable; not a hypothesis)
All theorems quantify over every error (`ex`, `ez` arbitrary functions of the location), every
tie-break stream `ds`, every loop bound and every step.
-/
import PanqecVerif.Proofs.SweepToric
import PanqecVerif.Proofs.SweepPlanar
import PanqecVerif.Proofs.SweepInstances
import PanqecVerif.Proofs.SweepRotPlanar
import PanqecVerif.Proofs.SweepRotPlanarEdges
import PanqecVerif.Proofs.SweepRotToric
import PanqecVerif.Proofs.SweepRotToricEdges

namespace Panqec.C10

open Panqec Panqec.Sweep

/-- ONE FLIP.  For any lattice data and any flip table `faces`: if the table is consistent on
    `loc`, flipping `loc` (toggle the listed faces, `site(correction, 'Z', loc)`) keeps the
    tracked signs equal to the face syndrome of error + correction, and does not raise. -/
theorem flip_one_edge_tracks (lat : Lattice) (faces : Loc → Option (List Loc))
    (hnd : lat.stabs.Nodup) (ez : Loc → Bool) (st : State) (loc : Loc)
    (hT : Tracks lat ez st) (hZ : ZOnly st.corr) (hok : flipOK lat faces loc = true) :
    ∃ s', flipWith lat faces loc st.signs = some s' ∧
      Tracks lat ez ⟨s', site st.corr .Z loc⟩ ∧ ZOnly (site st.corr .Z loc) :=
  flip_stepK (fun s => !lat.zIndex s) lat faces hnd (fun _ => false) ez st loc hT hZ hok

/-- ANY SEQUENCE OF FLIPS (the second loop of either `sweep_move`, whatever rule chose the
    edges and in whatever order, repetitions included). -/
theorem flip_sequence_tracks (lat : Lattice) (faces : Loc → Option (List Loc))
    (hnd : lat.stabs.Nodup) (ez : Loc → Bool) (locs : List Loc) (st : State)
    (hT : Tracks lat ez st) (hZ : ZOnly st.corr)
    (hok : ∀ loc ∈ locs, flipOK lat faces loc = true) :
    ∃ st', applyFlips lat faces site locs st = some st' ∧ Tracks lat ez st' ∧ ZOnly st'.corr :=
  applyFlips_tracksK (fun s => !lat.zIndex s) lat faces hnd (fun _ => false) ez locs st hT hZ hok

/-- the toggle lemma behind it: on a Z-only operator `site(·,'Z',loc)` flips the Z part at
    `loc` and nowhere else — an edge flipped twice is removed from the correction -/
theorem site_toggles (op : Op) (loc q : Loc) (h : ZOnly op) :
    zPartOf (site op .Z loc) q = (zPartOf op q != (q == loc)) :=
  zPartOf_site op loc q h

/-- `get_initial_state(measure_syndrome(e))` is the face syndrome of `e` (any Pauli error:
    X part `ex`, Z part `ez`) -/
theorem initial_state_tracks (lat : Lattice) (ex ez : Loc → Bool) :
    Tracks lat ez ⟨initialState lat (syndromeOf lat ex ez), []⟩ :=
  (initial_good lat ex ez).1

/-- ONE `SweepDecoder3D.sweep_move` from any state that satisfies the invariant, any stream. -/
theorem sweep_move_3D_tracks (lat : Lattice) (hnd : lat.stabs.Nodup)
    (hft : flipTableOK lat (flipFaces3D lat) = true) (hse : sweepEdgesOK3D lat = true)
    (ez : Loc → Bool) (st : State) (ds : List Dir) (hT : Tracks lat ez st) (hZ : ZOnly st.corr) :
    ∃ st' ds', sweepMove3D lat st ds = some (st', ds') ∧ Tracks lat ez st' ∧ ZOnly st'.corr :=
  sweepMove3D_preserves lat hnd hft hse ez st ds ⟨hT, hZ⟩

/-- ONE FLIP, rotated decoder (face rows by type, any Pauli error `ex`, `ez`): if the table is
    consistent on `loc`, flipping `loc` keeps the tracked signs equal to the face syndrome of
    error + correction, and does not raise. -/
theorem rotated_flip_one_edge_tracks (lat : Lattice) (faces : Loc → Option (List Loc))
    (hnd : lat.stabs.Nodup) (ex ez : Loc → Bool) (st : State) (loc : Loc)
    (hT : TracksRot lat ex ez st) (hZ : ZOnly st.corr) (hok : flipOKRot lat faces loc = true) :
    ∃ s', flipWith lat faces loc st.signs = some s' ∧
      TracksRot lat ex ez ⟨s', site st.corr .Z loc⟩ ∧ ZOnly (site st.corr .Z loc) := by
  obtain ⟨s', h1, h2, h3⟩ := flip_stepK lat.isFace lat faces hnd ex ez st loc
    ((tracksRot_iff_K lat ex ez st hZ).mp hT) hZ hok
  exact ⟨s', h1, (tracksRot_iff_K lat ex ez ⟨s', site st.corr .Z loc⟩ h3).mpr h2, h3⟩

/-- ANY SEQUENCE OF FLIPS, rotated decoder. -/
theorem rotated_flip_sequence_tracks (lat : Lattice) (faces : Loc → Option (List Loc))
    (hnd : lat.stabs.Nodup) (ex ez : Loc → Bool) (locs : List Loc) (st : State)
    (hT : TracksRot lat ex ez st) (hZ : ZOnly st.corr)
    (hok : ∀ loc ∈ locs, flipOKRot lat faces loc = true) :
    ∃ st', applyFlips lat faces site locs st = some st' ∧ TracksRot lat ex ez st' ∧ ZOnly st'.corr :=
  applyFlips_tracksRot lat faces hnd ex ez locs st hT hZ hok

/-- `RotatedSweepDecoder3D.get_initial_state(measure_syndrome(e))` (vertex rows blanked by
    `stabilizer_type`) is the face syndrome of `e`, any Pauli error -/
theorem rotated_initial_state_tracks (lat : Lattice) (ex ez : Loc → Bool) :
    TracksRot lat ex ez ⟨initialStateRot lat (syndromeOf lat ex ez), []⟩ :=
  (initial_goodRot lat ex ez).1

/-- ONE `RotatedSweepDecoder3D.sweep_move`, any of the sweep directions (indeed any triple). -/
theorem sweep_move_rotated_tracks (lat : Lattice) (hnd : lat.stabs.Nodup)
    (hft : flipTableOKRot lat (flipFacesRot lat) = true) (ex ez : Loc → Bool) (sd : SweepDir)
    (st : State) (ds : List Dir) (hT : TracksRot lat ex ez st) (hZ : ZOnly st.corr) :
    ∃ st' ds', sweepMoveRot lat sd st ds = some (st', ds') ∧ TracksRot lat ex ez st' ∧
      ZOnly st'.corr :=
  sweepMoveRot_preserves lat hnd hft ex ez sd st ds ⟨hT, hZ⟩

/-- EVERY STEP OF EVERY RUN of `SweepDecoder3D.decode`: for every error, every tie-break
    stream and every `max_sweep_factor`, the run does not raise, and every state it visits
    (and the final one) tracks the face syndrome of error + correction with a Z-only
    correction. -/
theorem sweep3D_every_step_tracks (lat : Lattice) (hnd : lat.stabs.Nodup)
    (hft : flipTableOK lat (flipFaces3D lat) = true) (hse : sweepEdgesOK3D lat = true)
    (ex ez : Loc → Bool) (maxSweepFactor : Nat) (ds : List Dir) :
    ∃ tr stf dsf, run3D lat maxSweepFactor (syndromeOf lat ex ez) ds = some (tr, stf, dsf) ∧
      (∀ st ∈ tr, Tracks lat ez st ∧ ZOnly st.corr) ∧ Tracks lat ez stf ∧ ZOnly stf.corr := by
  obtain ⟨tr, stf, dsf, h1, h2, h3⟩ :=
    sweepLoop_preserves (Good lat ez) (sweepMove3D lat) (sweepMove3D_preserves lat hnd hft hse ez)
      (maxSweepFactor * lat.maxSize) _ ds (initial_good lat ex ez)
  exact ⟨tr, stf, dsf, h1, h2, h3.1, h3.2⟩

/-- EVERY STEP OF EVERY RUN of `RotatedSweepDecoder3D.decode` (all rounds, all eight sweep
    directions, every inner sweep). -/
theorem rotated_every_step_tracks (lat : Lattice) (hnd : lat.stabs.Nodup)
    (hft : flipTableOKRot lat (flipFacesRot lat) = true)
    (ex ez : Loc → Bool) (maxRounds : Nat) (ds : List Dir) :
    ∃ tr stf dsf, runRot lat maxRounds (syndromeOf lat ex ez) ds = some (tr, stf, dsf) ∧
      (∀ st ∈ tr, TracksRot lat ex ez st ∧ ZOnly st.corr) ∧ TracksRot lat ex ez stf ∧
      ZOnly stf.corr := by
  obtain ⟨tr, stf, dsf, h1, h2, h3⟩ :=
    roundsLoopRot_preserves (GoodRot lat ex ez) lat (4 * (2 * lat.maxSize + 2))
      (fun sd => sweepMoveRot_preserves lat hnd hft ex ez sd) maxRounds _ ds
      (initial_goodRot lat ex ez)
  exact ⟨tr, stf, dsf, h1, h2, h3.1, h3.2⟩

/-- the binary-symplectic image of a Z-only dict has an all-zero X block -/
theorem z_only_bsf_has_zero_x_block (lat : Lattice) (op : Op) (h : ZOnly op) (v : List Nat)
    (hv : toBsf lat op = some v) : v.take lat.qubits.length = List.replicate lat.qubits.length 0 := by
  unfold toBsf at hv
  split at hv
  · injection hv with hv
    rw [← hv, List.take_left' (by simp)]
    rw [List.eq_replicate_iff]
    refine ⟨by simp, ?_⟩
    intro b hb
    obtain ⟨q, _, rfl⟩ := List.mem_map.mp hb
    rw [List.length_eq_zero_iff, List.filter_eq_nil_iff]
    intro e he
    rw [h e he]
    simp [hasX]
  · cases hv

/-- what `SweepDecoder3D.decode` returns has an all-zero X block -/
theorem sweep3D_returns_z_only (lat : Lattice) (hnd : lat.stabs.Nodup)
    (hft : flipTableOK lat (flipFaces3D lat) = true) (hse : sweepEdgesOK3D lat = true)
    (ex ez : Loc → Bool) (maxSweepFactor : Nat) (ds : List Dir) (v : List Nat)
    (hv : decode3D lat maxSweepFactor (syndromeOf lat ex ez) ds = some v) :
    v.take lat.qubits.length = List.replicate lat.qubits.length 0 := by
  obtain ⟨tr, stf, dsf, h1, _, _, h4⟩ :=
    sweep3D_every_step_tracks lat hnd hft hse ex ez maxSweepFactor ds
  unfold decode3D at hv
  rw [h1] at hv
  exact z_only_bsf_has_zero_x_block lat stf.corr h4 v hv

/-- what `RotatedSweepDecoder3D.decode` returns has an all-zero X block -/
theorem rotated_returns_z_only (lat : Lattice) (hnd : lat.stabs.Nodup)
    (hft : flipTableOKRot lat (flipFacesRot lat) = true)
    (ex ez : Loc → Bool) (maxRounds : Nat) (ds : List Dir) (v : List Nat)
    (hv : decodeRot lat maxRounds (syndromeOf lat ex ez) ds = some v) :
    v.take lat.qubits.length = List.replicate lat.qubits.length 0 := by
  obtain ⟨tr, stf, dsf, h1, _, _, h4⟩ := rotated_every_step_tracks lat hnd hft ex ez maxRounds ds
  unfold decodeRot at hv
  rw [h1] at hv
  exact z_only_bsf_has_zero_x_block lat stf.corr h4 v hv

/-- a state that satisfies the invariant and has no excitation left: the face syndrome of
    error + correction is zero on every row -/
theorem no_excitations_zero_face_syndrome (lat : Lattice) (ez : Loc → Bool) (st : State)
    (hT : Tracks lat ez st) (h0 : st.signs.any id = false) :
    ∀ b ∈ faceSyn lat (residualZ ez st.corr), b = false :=
  (hT : st.signs = _) ▸ all_false_of_not_any h0

/-- a state of the rotated decoder that satisfies the invariant and has no excitation left: the
    face syndrome (rows by type, X part of the error included) of error + correction is zero on
    every row -/
theorem rotated_no_excitations_zero_face_syndrome (lat : Lattice) (ex ez : Loc → Bool) (st : State)
    (hT : TracksRot lat ex ez st) (h0 : st.signs.any id = false) :
    ∀ b ∈ faceSynRot lat (residualX ex st.corr) (residualZ ez st.corr), b = false :=
  (hT : st.signs = _) ▸ all_false_of_not_any h0

/-- `SweepDecoder3D.decode`: if the loop ends with no excitations, error + returned correction
    has zero face syndrome -/
theorem sweep3D_stop_clean (lat : Lattice) (hnd : lat.stabs.Nodup)
    (hft : flipTableOK lat (flipFaces3D lat) = true) (hse : sweepEdgesOK3D lat = true)
    (ex ez : Loc → Bool) (maxSweepFactor : Nat) (ds : List Dir) (tr : List State) (stf : State)
    (dsf : List Dir)
    (hrun : run3D lat maxSweepFactor (syndromeOf lat ex ez) ds = some (tr, stf, dsf))
    (h0 : stf.signs.any id = false) :
    ∀ b ∈ faceSyn lat (residualZ ez stf.corr), b = false := by
  obtain ⟨tr', stf', dsf', h1, _, h3, _⟩ :=
    sweep3D_every_step_tracks lat hnd hft hse ex ez maxSweepFactor ds
  rw [hrun] at h1
  cases h1
  exact no_excitations_zero_face_syndrome lat ez stf h3 h0

/-- the same for `RotatedSweepDecoder3D.decode` -/
theorem rotated_stop_clean (lat : Lattice) (hnd : lat.stabs.Nodup)
    (hft : flipTableOKRot lat (flipFacesRot lat) = true)
    (ex ez : Loc → Bool) (maxRounds : Nat) (ds : List Dir) (tr : List State) (stf : State)
    (dsf : List Dir)
    (hrun : runRot lat maxRounds (syndromeOf lat ex ez) ds = some (tr, stf, dsf))
    (h0 : stf.signs.any id = false) :
    ∀ b ∈ faceSynRot lat (residualX ex stf.corr) (residualZ ez stf.corr), b = false := by
  obtain ⟨tr', stf', dsf', h1, _, h3, _⟩ := rotated_every_step_tracks lat hnd hft ex ez maxRounds ds
  rw [hrun] at h1
  cases h1
  exact rotated_no_excitations_zero_face_syndrome lat ex ez stf h3 h0

/-- Toric3DCode, EVERY size `L_x, L_y, L_z ≥ 2`: on every edge `SweepDecoder3D.flip_edge`
    (neighbour table, `np.mod` by the limits, `is_stabilizer` filter) toggles exactly the face
    stabilizers that anticommute with Z on that edge. -/
theorem toric3D_flip_table_ok (Lx Ly Lz : Nat) (hx : 2 ≤ Lx) (hy : 2 ≤ Ly) (hz : 2 ≤ Lz) :
    flipTableOK (toric3D Lx Ly Lz) (flipFaces3D (toric3D Lx Ly Lz)) = true :=
  toric_flipTableOK Lx Ly Lz hx hy hz

/-- Toric3DCode, every size ≥ 2: the edges proposed by the sweep rule are edges of the lattice -/
theorem toric3D_sweep_edges_ok (Lx Ly Lz : Nat) (hx : 2 ≤ Lx) (hy : 2 ≤ Ly) (hz : 2 ≤ Lz) :
    sweepEdgesOK3D (toric3D Lx Ly Lz) = true :=
  toric_sweepEdgesOK Lx Ly Lz hx hy hz

/-- Toric3DCode, every size: stabilizer locations are pairwise distinct -/
theorem toric3D_stabilizers_distinct (Lx Ly Lz : Nat) : (toric3D Lx Ly Lz).stabs.Nodup :=
  toricStabs_nodup Lx Ly Lz

/-- C10 for `SweepDecoder3D` on `Toric3DCode`, unconditional: every size ≥ 2, every error,
    every stream, every bound, every step. -/
theorem toric3D_sweep_tracks (Lx Ly Lz : Nat) (hx : 2 ≤ Lx) (hy : 2 ≤ Ly) (hz : 2 ≤ Lz)
    (ex ez : Loc → Bool) (maxSweepFactor : Nat) (ds : List Dir) :
    ∃ tr stf dsf, run3D (toric3D Lx Ly Lz) maxSweepFactor
        (syndromeOf (toric3D Lx Ly Lz) ex ez) ds = some (tr, stf, dsf) ∧
      (∀ st ∈ tr, Tracks (toric3D Lx Ly Lz) ez st ∧ ZOnly st.corr) ∧
      Tracks (toric3D Lx Ly Lz) ez stf ∧ ZOnly stf.corr :=
  sweep3D_every_step_tracks (toric3D Lx Ly Lz) (toricStabs_nodup Lx Ly Lz)
    (toric_flipTableOK Lx Ly Lz hx hy hz) (toric_sweepEdgesOK Lx Ly Lz hx hy hz) ex ez
    maxSweepFactor ds

/-- Planar3DCode, EVERY size (`L_i ≥ 1` is not even needed): on every edge
    `SweepDecoder3D.flip_edge` toggles exactly the (boundary-truncated) face stabilizers that
    anticommute with Z on that edge — the `np.mod` wrap of the neighbour table never lands on
    an existing face. -/
theorem planar3D_flip_table_ok (Lx Ly Lz : Nat) :
    flipTableOK (planar3D Lx Ly Lz) (flipFaces3D (planar3D Lx Ly Lz)) = true :=
  planar_flipTableOK Lx Ly Lz

/-- Planar3DCode, every size: an edge proposed by the sweep rule is an edge of the lattice
    whenever the two faces that trigger the proposal exist (the rule itself has no
    `is_qubit` guard) -/
theorem planar3D_sweep_edges_ok (Lx Ly Lz : Nat) : sweepEdgesOK3D (planar3D Lx Ly Lz) = true :=
  planar_sweepEdgesOK Lx Ly Lz

/-- Planar3DCode, every size: stabilizer locations are pairwise distinct -/
theorem planar3D_stabilizers_distinct (Lx Ly Lz : Nat) : (planar3D Lx Ly Lz).stabs.Nodup :=
  planarStabs_nodup Lx Ly Lz

/-- C10 for `SweepDecoder3D` on `Planar3DCode`, unconditional: every size, every error, every
    stream, every bound, every step. -/
theorem planar3D_sweep_tracks (Lx Ly Lz : Nat)
    (ex ez : Loc → Bool) (maxSweepFactor : Nat) (ds : List Dir) :
    ∃ tr stf dsf, run3D (planar3D Lx Ly Lz) maxSweepFactor
        (syndromeOf (planar3D Lx Ly Lz) ex ez) ds = some (tr, stf, dsf) ∧
      (∀ st ∈ tr, Tracks (planar3D Lx Ly Lz) ez st ∧ ZOnly st.corr) ∧
      Tracks (planar3D Lx Ly Lz) ez stf ∧ ZOnly stf.corr :=
  sweep3D_every_step_tracks (planar3D Lx Ly Lz) (planarStabs_nodup Lx Ly Lz)
    (planar_flipTableOK Lx Ly Lz) (planar_sweepEdgesOK Lx Ly Lz) ex ez maxSweepFactor ds

/-- RotatedPlanar3DCode, EVERY size (the family the constructor accepts is `L_x, L_y, L_z ≥ 1`;
    no lower bound is needed for the statement): on every edge — horizontal of either axis,
    vertical — `RotatedSweepDecoder3D.flip_edge` (branch on `z % 2`, `x % 4`, `y % 4`, neighbour
    list, `_wrap` (the identity on this class), `is_stabilizer(·, 'face')` filter) toggles exactly
    the generators of type `'face'` (truncated at the boundaries by `is_qubit`) that anticommute
    with Z on that edge; in particular no branch is left without `edge_direction` (no
    `UnboundLocalError`). -/
theorem rotated_planar3D_flip_table_ok (Lx Ly Lz : Nat) :
    flipTableOKRot (rotPlanar3D Lx Ly Lz) (flipFacesRot (rotPlanar3D Lx Ly Lz)) = true :=
  rotPlanar_flipTableOK Lx Ly Lz

/-- RotatedPlanar3DCode, every size: at every vertex and for each of the eight sweep
    directions of `decode`, if the three faces `sweep_move` looks at are face stabilizers then
    the three edges it may propose are edges of the lattice (`all(faces_valid)` implies
    `all(edges_valid)`).  The rotated decoder checks both at run time, so this is not a
    hypothesis of the invariant; it says the second check never discards a vertex. -/
theorem rotated_planar3D_sweep_edges_ok (Lx Ly Lz : Nat) :
    sweepEdgesOKRot (rotPlanar3D Lx Ly Lz) = true :=
  rotPlanar_sweepEdgesOK Lx Ly Lz

/-- RotatedPlanar3DCode, every size: stabilizer locations are pairwise distinct -/
theorem rotated_planar3D_stabilizers_distinct (Lx Ly Lz : Nat) :
    (rotPlanar3D Lx Ly Lz).stabs.Nodup :=
  rotPlanarStabs_nodup Lx Ly Lz

/-- C10 for `RotatedSweepDecoder3D` on `RotatedPlanar3DCode`, unconditional: every size, every
    error, every tie-break stream, every `max_rounds`: the run does not raise, and every state
    it visits (all rounds, all eight sweep directions, every inner sweep) and the final one has
    signs = face syndrome of error + correction, with a Z-only correction. -/
theorem rotated_planar3D_sweep_tracks (Lx Ly Lz : Nat)
    (ex ez : Loc → Bool) (maxRounds : Nat) (ds : List Dir) :
    ∃ tr stf dsf, runRot (rotPlanar3D Lx Ly Lz) maxRounds
        (syndromeOf (rotPlanar3D Lx Ly Lz) ex ez) ds = some (tr, stf, dsf) ∧
      (∀ st ∈ tr, TracksRot (rotPlanar3D Lx Ly Lz) ex ez st ∧ ZOnly st.corr) ∧
      TracksRot (rotPlanar3D Lx Ly Lz) ex ez stf ∧ ZOnly stf.corr :=
  rotated_every_step_tracks (rotPlanar3D Lx Ly Lz) (rotPlanarStabs_nodup Lx Ly Lz)
    (rotPlanar_flipTableOK Lx Ly Lz) ex ez maxRounds ds

/-- `RotatedSweepDecoder3D.decode` on `RotatedPlanar3DCode`, every size: if the loops end with
    no excitations, error + accumulated correction has zero face syndrome -/
theorem rotated_planar3D_stop_clean (Lx Ly Lz : Nat)
    (ex ez : Loc → Bool) (maxRounds : Nat) (ds : List Dir) (tr : List State) (stf : State)
    (dsf : List Dir)
    (hrun : runRot (rotPlanar3D Lx Ly Lz) maxRounds (syndromeOf (rotPlanar3D Lx Ly Lz) ex ez) ds =
      some (tr, stf, dsf))
    (h0 : stf.signs.any id = false) :
    ∀ b ∈ faceSynRot (rotPlanar3D Lx Ly Lz) (residualX ex stf.corr) (residualZ ez stf.corr),
      b = false :=
  rotated_stop_clean (rotPlanar3D Lx Ly Lz) (rotPlanarStabs_nodup Lx Ly Lz)
    (rotPlanar_flipTableOK Lx Ly Lz) ex ez maxRounds ds tr stf dsf hrun h0

/-- the sizes 1×2×3, 2×1×1, 2×2×2, 3×3×2, 3×2×3, 3×3×3, 3×4×2, 4×3×3, 2×3×4, 4×4×2 stated as
    instances of the two hypotheses; they follow from the all-sizes theorems
    `rotated_planar3D_stabilizers_distinct`, `rotated_planar3D_flip_table_ok` -/
example : ∀ s ∈ rotPlanarSizes ++ rotPlanarSizesB, GeometryOKRot (rotPlanar3D s.1 s.2.1 s.2.2) = true :=
  rotPlanar_geometry_all

/-- RotatedToric3DCode, EVERY size `L_x, L_y ≥ 2`, any `L_z` (the family of the class is
    `L_x, L_y ≥ 2` not both odd, `L_z ≥ 1`; the statement also covers odd × odd, which the class
    does not support — nothing goes wrong with the flip table there): on every edge — horizontal
    of either axis, vertical, on or off the periodic seams and the defect lines of an odd
    direction — the repaired `RotatedSweepDecoder3D.flip_edge` (branch on `z % 2`, `x % 4`,
    `y % 4`, neighbour list, `_wrap`, `is_stabilizer(·, 'face')` filter) toggles exactly the
    generators of type `'face'` that anticommute with Z on that edge.  On a defect line a face
    generator carries Z on the two edges across the seam (letter rule `has_defect`) and does not
    see a Z error there; the decoder does not toggle it because the wrapped neighbour location
    is a vertex.  False for a side of length 1 (`rotated_toric3D_side_one_inconsistent`). -/
theorem rotated_toric3D_flip_table_ok (Lx Ly Lz : Nat) (hx : 2 ≤ Lx) (hy : 2 ≤ Ly) :
    flipTableOKRot (rotToric3D Lx Ly Lz) (flipFacesRot (rotToric3D Lx Ly Lz)) = true :=
  rotToric_flipTableOK Lx Ly Lz hx hy

/-- RotatedToric3DCode, every size `L_x, L_y ≥ 1`: at every vertex and for each of the eight sweep
    directions of `decode`, if the three faces of `get_sweep_faces` (after `_wrap`) are face
    stabilizers then the three edges of `get_sweep_edges` (after `_wrap`) are edges of the
    lattice: the two horizontal ones always are (the lattice is periodic), the vertical one lies
    in the layer of the first face. -/
theorem rotated_toric3D_sweep_edges_ok (Lx Ly Lz : Nat) (hx : 1 ≤ Lx) (hy : 1 ≤ Ly) :
    sweepEdgesOKRot (rotToric3D Lx Ly Lz) = true :=
  rotToric_sweepEdgesOK Lx Ly Lz hx hy

/-- RotatedToric3DCode, every size: stabilizer locations are pairwise distinct -/
theorem rotated_toric3D_stabilizers_distinct (Lx Ly Lz : Nat) :
    (rotToric3D Lx Ly Lz).stabs.Nodup :=
  rotToricStabs_nodup Lx Ly Lz

/-- C10 for the repaired `RotatedSweepDecoder3D` on `RotatedToric3DCode`, unconditional: every size
    `L_x, L_y ≥ 2`, every Pauli error (X part `ex`, Z part `ez`), every tie-break stream, every
    `max_rounds`: the run does not raise, and every state it visits (all rounds, all eight sweep
    directions, every inner sweep) and the final one has signs = rows of type `'face'` of the
    syndrome of error + correction, with a Z-only correction. -/
theorem rotated_toric3D_sweep_tracks (Lx Ly Lz : Nat) (hx : 2 ≤ Lx) (hy : 2 ≤ Ly)
    (ex ez : Loc → Bool) (maxRounds : Nat) (ds : List Dir) :
    ∃ tr stf dsf, runRot (rotToric3D Lx Ly Lz) maxRounds
        (syndromeOf (rotToric3D Lx Ly Lz) ex ez) ds = some (tr, stf, dsf) ∧
      (∀ st ∈ tr, TracksRot (rotToric3D Lx Ly Lz) ex ez st ∧ ZOnly st.corr) ∧
      TracksRot (rotToric3D Lx Ly Lz) ex ez stf ∧ ZOnly stf.corr :=
  rotated_every_step_tracks (rotToric3D Lx Ly Lz) (rotToricStabs_nodup Lx Ly Lz)
    (rotToric_flipTableOK Lx Ly Lz hx hy) ex ez maxRounds ds

/-- `RotatedSweepDecoder3D.decode` on `RotatedToric3DCode`, every size `L_x, L_y ≥ 2`: if the loops
    end with no excitations, error + accumulated correction has zero face syndrome -/
theorem rotated_toric3D_stop_clean (Lx Ly Lz : Nat) (hx : 2 ≤ Lx) (hy : 2 ≤ Ly)
    (ex ez : Loc → Bool) (maxRounds : Nat) (ds : List Dir) (tr : List State) (stf : State)
    (dsf : List Dir)
    (hrun : runRot (rotToric3D Lx Ly Lz) maxRounds (syndromeOf (rotToric3D Lx Ly Lz) ex ez) ds =
      some (tr, stf, dsf))
    (h0 : stf.signs.any id = false) :
    ∀ b ∈ faceSynRot (rotToric3D Lx Ly Lz) (residualX ex stf.corr) (residualZ ez stf.corr),
      b = false :=
  rotated_stop_clean (rotToric3D Lx Ly Lz) (rotToricStabs_nodup Lx Ly Lz)
    (rotToric_flipTableOK Lx Ly Lz hx hy) ex ez maxRounds ds tr stf dsf hrun h0

/-- what it returns on `RotatedToric3DCode` has an all-zero X block -/
theorem rotated_toric3D_returns_z_only (Lx Ly Lz : Nat) (hx : 2 ≤ Lx) (hy : 2 ≤ Ly)
    (ex ez : Loc → Bool) (maxRounds : Nat) (ds : List Dir) (v : List Nat)
    (hv : decodeRot (rotToric3D Lx Ly Lz) maxRounds (syndromeOf (rotToric3D Lx Ly Lz) ex ez) ds =
      some v) :
    v.take (rotToric3D Lx Ly Lz).qubits.length =
      List.replicate (rotToric3D Lx Ly Lz).qubits.length 0 :=
  rotated_returns_z_only (rotToric3D Lx Ly Lz) (rotToricStabs_nodup Lx Ly Lz)
    (rotToric_flipTableOK Lx Ly Lz hx hy) ex ez maxRounds ds v hv

/-- a side of length 1 is outside the family for a reason: on RotatedToric3DCode 1×2×2 and 2×1×2
    two candidates of a face land on the same edge and 4 of the 5 edges are inconsistent -/
theorem rotated_toric3D_side_one_inconsistent :
    flipTableBadRot (rotToric3D 1 2 2) (flipFacesRot (rotToric3D 1 2 2)) =
      [(1, 1, 1), (1, 1, 3), (1, 3, 1), (1, 3, 3)] ∧
    flipTableBadRot (rotToric3D 2 1 2) (flipFacesRot (rotToric3D 2 1 2)) =
      [(1, 1, 1), (1, 1, 3), (3, 1, 1), (3, 1, 3)] := by
  decide +kernel

/-- the sizes 2×2×2, 2×4×2, 2×3×2, 3×2×2, 3×4×2, 4×2×3 and the odd × odd 3×3×2 stated as
    instances of the two hypotheses; they follow from the all-sizes theorems
    `rotated_toric3D_stabilizers_distinct`, `rotated_toric3D_flip_table_ok` -/
example : ∀ s ∈ rotToricSizes, GeometryOKRot (rotToric3D s.1 s.2.1 s.2.2) = true :=
  rotToric_geometry_instances

/-! ## documented regressions (negative instances) -/

/-- D9 (fixed in /repo by 9208454).  With the OLD update `correction[location] = 'Z'`
    (assignment) the invariant is FALSE: Toric3DCode 2×2×2, Z errors on qubit indices 3 and 21
    (locations (1,2,2) and (2,0,3)), default `max_sweep_factor = 32`, no tie-break needed: some
    state visited by the run does not track the residual face syndrome. -/
theorem old_assignment_update_breaks_invariant :
    (oldRun3D (toric3D 2 2 2) 32 (syndromeOf (toric3D 2 2 2) (fun _ => false) witnessD9) []).map
      (fun r => r.1.all fun st => decide (Tracks (toric3D 2 2 2) witnessD9 st)) = some false := by
  decide +kernel

/-- the same input with the toggle `site`: every visited state
    tracks (instance of `toric3D_sweep_tracks`) -/
theorem toggle_update_on_the_same_witness :
    (run3D (toric3D 2 2 2) 32 (syndromeOf (toric3D 2 2 2) (fun _ => false) witnessD9) []).map
      (fun r => r.1.all fun st => decide (Tracks (toric3D 2 2 2) witnessD9 st)) = some true := by
  obtain ⟨tr, stf, dsf, h, htr, -⟩ := toric3D_sweep_tracks 2 2 2 (by decide) (by decide) (by decide)
    (fun _ => false) witnessD9 32 []
  rw [h, Option.map_some, Option.some.injEq, List.all_eq_true]
  exact fun st hst => decide_eq_true (htr st hst).1

/-- D10 (repaired by the `_wrap` patch).  BEFORE the repair `RotatedSweepDecoder3D.flip_edge`
    had no periodic seam: on RotatedToric3DCode 2×2×2 the old flip table (`oldFlipFacesRot`, no
    `_wrap`) is inconsistent with the generators of type `'face'` (8 of the 10 edges; the bad
    edges are listed by `old_rotated_toric_bad_edges`). -/
theorem old_rotated_toric_flip_table_inconsistent :
    flipTableOKRot (rotToric3D 2 2 2) (oldFlipFacesRot (rotToric3D 2 2 2)) = false := by
  decide +kernel

/-- the same against the rows not flagged in `z_indices` (the face rows of the old
    decoder, whose `get_initial_state` blanked `z_indices`) -/
theorem old_rotated_toric_flip_table_inconsistent_zidx :
    flipTableOK (rotToric3D 2 2 2) (oldFlipFacesRot (rotToric3D 2 2 2)) = false := by
  decide +kernel

theorem old_rotated_toric_bad_edges :
    flipTableBadRot (rotToric3D 2 2 2) (oldFlipFacesRot (rotToric3D 2 2 2)) =
      [(1, 1, 1), (1, 1, 3), (1, 3, 1), (1, 3, 3), (3, 1, 1), (3, 1, 3), (2, 4, 2), (4, 2, 2)] := by
  decide +kernel

/-- the repaired flip table on the same lattice: no bad edge (instance
    of `rotated_toric3D_flip_table_ok`) -/
theorem rotated_toric_flip_table_consistent_222 :
    flipTableBadRot (rotToric3D 2 2 2) (flipFacesRot (rotToric3D 2 2 2)) = [] := by
  have h := rotated_toric3D_flip_table_ok 2 2 2 (by decide) (by decide)
  rw [flipTableOKRot, List.all_eq_true] at h
  exact List.filter_eq_nil_iff.mpr fun q hq => by rw [h q hq]; exact Bool.false_ne_true

/-- the second half of the repair (`get_initial_state` blanks by `stabilizer_type` instead of
    `z_indices`).  RotatedToric3DCode 2×3×2 (`L_y` odd), Z on the edge `(1, 5, 1)`: row 8 is the
    generator `(2, 6, 1)` of type `'face'` on the defect line; it carries Z across the seam, so it
    is flagged in `z_indices`, and it anticommutes with the error.  The initial state of the OLD
    decoder blanks this excitation (the tracked signs are not the face syndrome); the repaired
    one keeps it. -/
theorem old_initial_state_blanks_defect_face :
    (rotToric3D 2 3 2).stabs[8]? = some (2, 6, 1) ∧ (rotToric3D 2 3 2).isFace (2, 6, 1) = true ∧
    (rotToric3D 2 3 2).zIndex (2, 6, 1) = true ∧
    (syndromeOf (rotToric3D 2 3 2) (fun _ => false) witnessDefectFace).getD 8 false = true ∧
    (initialState (rotToric3D 2 3 2)
      (syndromeOf (rotToric3D 2 3 2) (fun _ => false) witnessDefectFace)).getD 8 false = false ∧
    (initialStateRot (rotToric3D 2 3 2)
      (syndromeOf (rotToric3D 2 3 2) (fun _ => false) witnessDefectFace)).getD 8 false = true := by
  decide +kernel

/-! ## non-vacuity -/

/-- the hypotheses of the generic theorems hold on concrete lattices of both decoders -/
example : GeometryOK3D (toric3D 2 3 2) = true := by
  rw [GeometryOK3D, toric_flipTableOK 2 3 2 (by decide) (by decide) (by decide),
    toric_sweepEdgesOK 2 3 2 (by decide) (by decide) (by decide),
    decide_eq_true (toric3D_stabilizers_distinct 2 3 2)]
  rfl
example : GeometryOKRot (rotPlanar3D 2 2 2) = true :=
  rotPlanar_geometryOK 2 2 2

/-- the premise of `sweepEdgesOKRot` is met: on RotatedPlanar3DCode 2×2×2 there are 4 pairs
    (vertex, sweep direction) whose three faces all exist -/
example :
    (((sweepVerticesRot (rotPlanar3D 2 2 2)).map fun v => (sweepDirections.filter fun sd =>
      (rotPlanar3D 2 2 2).isStabFace (sweepFacesRot (rotPlanar3D 2 2 2) v sd).1 &&
      (rotPlanar3D 2 2 2).isStabFace (sweepFacesRot (rotPlanar3D 2 2 2) v sd).2.1 &&
      (rotPlanar3D 2 2 2).isStabFace (sweepFacesRot (rotPlanar3D 2 2 2) v sd).2.2).length).sum) = 4 := by
  decide +kernel

/-- the premise of `sweepEdgesOKRot` is met on the torus: on RotatedToric3DCode 2×2×2 there are 16
    pairs (vertex, sweep direction) whose three wrapped faces all exist, 12 on 2×3×2 -/
example :
    (((sweepVerticesRot (rotToric3D 2 2 2)).map fun v => (sweepDirections.filter fun sd =>
      (rotToric3D 2 2 2).isStabFace (sweepFacesRot (rotToric3D 2 2 2) v sd).1 &&
      (rotToric3D 2 2 2).isStabFace (sweepFacesRot (rotToric3D 2 2 2) v sd).2.1 &&
      (rotToric3D 2 2 2).isStabFace (sweepFacesRot (rotToric3D 2 2 2) v sd).2.2).length).sum) = 16 ∧
    (((sweepVerticesRot (rotToric3D 2 3 2)).map fun v => (sweepDirections.filter fun sd =>
      (rotToric3D 2 3 2).isStabFace (sweepFacesRot (rotToric3D 2 3 2) v sd).1 &&
      (rotToric3D 2 3 2).isStabFace (sweepFacesRot (rotToric3D 2 3 2) v sd).2.1 &&
      (rotToric3D 2 3 2).isStabFace (sweepFacesRot (rotToric3D 2 3 2) v sd).2.2).length).sum) = 12 := by
  decide +kernel

/-- a run of the repaired rotated decoder that really flips edges across the seam:
    RotatedToric3DCode 2×2×2, Z on the edge `(1, 1, 1)` (one of the 8 edges the old table got
    wrong): the run visits states, every one tracks, and it ends clean -/
example :
    (runRot (rotToric3D 2 2 2) 2 (syndromeOf (rotToric3D 2 2 2) (fun _ => false)
      (fun q => q == (1, 1, 1))) []).map (fun r =>
        (r.1.length, r.1.all fun st => decide (TracksRot (rotToric3D 2 2 2) (fun _ => false)
          (fun q => q == (1, 1, 1)) st), r.2.1.signs.any id)) = some (1, true, false) := by
  decide +kernel

example : (rotPlanar3D 3 3 3).qubits.length = 35 ∧ (rotPlanar3D 3 3 3).stabs.length = 42 := by
  decide +kernel

/-- a run that really flips edges: Toric3DCode 2×2×2, the D9 witness, the toggle `site`: two sweeps -/
example :
    (run3D (toric3D 2 2 2) 32 (syndromeOf (toric3D 2 2 2) (fun _ => false) witnessD9) []).map
      (fun r => r.1.length) = some 2 := by decide +kernel

end Panqec.C10
