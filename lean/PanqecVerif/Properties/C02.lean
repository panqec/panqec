/-
C02 — the parity-check matrix is the faithful image of the lattice definition.

The lemmas used are in `Proofs/CodeAssembly.lean` (assembly loops), `Proofs/CodeDictBsf.lean`
(dict ↔ BSF bijection) and `Proofs/CodeCss.lean` (CSS blocks).
Every statement is for an arbitrary code given as data (`CodeData`: any coordinate
lists, any operators — library code or user-defined), of any size.

Vocabulary of the hypotheses:
* `qs.Nodup`            — qubit coordinates are distinct (then `qubit_index` is the position);
* `KeysNodup op`        — the operator is a Python dict (no coordinate twice);
* `opSupported qs op`   — every key is a qubit coordinate (no `KeyError`);
* `NoIdentity op`       — dict values are 'X', 'Y', 'Z'.
-/
import PanqecVerif.Proofs.Code

namespace Panqec.C02

open Panqec

/-- `to_bsf` as the code writes it (a loop of `bsf[qubit_index[loc]] += 1`) equals the
    count-based specification, including the `KeyError` case (`none`). -/
theorem toBsfFold_eq_spec (qs : List Coord) (op : Op) (hnd : qs.Nodup) :
    toBsfFold qs op = toBsf qs op :=
  toBsfFold_eq_toBsf qs op hnd

/-- One row of `stabilizer_matrix` as the code builds it (accumulate into `sparse_dict`
    with `+= 1` / insert 1, copy into the dok matrix, `data %= 2`) equals the
    specification `to_bsf(op) % 2`, including the `KeyError` case. -/
theorem stabRowFold_eq_spec (qs : List Coord) (op : Op) (hnd : qs.Nodup) :
    stabRowFold qs op = stabRow qs op :=
  stabRowFold_eq_stabRow qs op hnd

/-- the whole matrix: loop version = specification -/
theorem stabilizerMatrixFold_eq_spec (c : CodeData) (hnd : c.qubits.Nodup) :
    stabilizerMatrixFold c = stabilizerMatrix c := by
  unfold stabilizerMatrixFold stabilizerMatrix
  have : stabRowFold c.qubits = stabRow c.qubits := by
    funext op; exact stabRowFold_eq_stabRow c.qubits op hnd
  rw [this]

/-- Row `i` of the parity-check matrix is the BSF image (mod 2) of the operator
    `get_stabilizer(stabilizer_coordinates[i])`. -/
theorem assembly_row_eq (c : CodeData) (H : List (List Nat)) (hnd : c.qubits.Nodup)
    (hH : stabilizerMatrixFold c = some H) (i : Nat) (hi : i < c.stabOps.length) :
    H[i]? = (toBsf c.qubits c.stabOps[i]).map (·.map (· % 2)) := by
  unfold stabilizerMatrixFold at hH
  rw [mapM_some_getElem? _ _ _ hH i hi, stabRowFold_eq_stabRow _ _ hnd]
  rfl

/-- the matrix has one row per stabilizer generator -/
theorem assembly_row_count (c : CodeData) (H : List (List Nat))
    (hH : stabilizerMatrixFold c = some H) : H.length = c.stabOps.length :=
  mapM_some_length _ _ _ hH

/-- The assembly raises `KeyError` exactly when some generator touches a coordinate that is
    not a qubit: the matrix exists iff every support lies inside the qubit set. -/
theorem assembly_succeeds_iff (c : CodeData) (hnd : c.qubits.Nodup) :
    (stabilizerMatrixFold c).isSome = true ↔
      ∀ op ∈ c.stabOps, opSupported c.qubits op = true := by
  unfold stabilizerMatrixFold
  rw [mapM_isSome_iff]
  refine forall₂_congr fun op _ => ?_
  rw [stabRowFold_eq_stabRow _ _ hnd]
  unfold stabRow toBsf
  cases opSupported c.qubits op <;> simp

/-- a dict operator has 0/1 entries before any reduction … -/
theorem toBsf_binary (qs : List Coord) (op : Op) (v : List Nat) (hk : KeysNodup op)
    (h : toBsf qs op = some v) : ∀ x ∈ v, x ≤ 1 :=
  toBsf_binary' qs op v hk h

/-- … so the `%= 2` of the assembly changes nothing: the row *is* `to_bsf(op)`. -/
theorem stabRow_eq_toBsf_of_dict (qs : List Coord) (op : Op) (hk : KeysNodup op) :
    stabRow qs op = toBsf qs op :=
  Deform.stabRow_eq_toBsf qs op hk

theorem toBsf_length (qs : List Coord) (op : Op) (v : List Nat)
    (h : toBsf qs op = some v) : v.length = 2 * qs.length := by
  rw [toBsf_eq_some] at h
  rw [h.2]; simp; omega

/-- Row `i` of the assembled matrix is exactly `to_bsf(get_stabilizer(loc_i))` when the
    getter returns a dict. -/
theorem assembly_row_eq_of_dict (c : CodeData) (H : List (List Nat)) (hnd : c.qubits.Nodup)
    (hH : stabilizerMatrixFold c = some H) (i : Nat) (hi : i < c.stabOps.length)
    (hk : KeysNodup c.stabOps[i]) :
    H[i]? = toBsf c.qubits c.stabOps[i] := by
  rw [assembly_row_eq c H hnd hH i hi]
  exact Deform.stabRow_eq_toBsf c.qubits _ hk

/-- A non-empty operator with letters in X/Y/Z gives a non-zero row.  (Needs neither
    distinct coordinates nor distinct keys.) -/
theorem row_nonempty (qs : List Coord) (op : Op) (v : List Nat) (hI : NoIdentity op)
    (hne : op ≠ []) (h : toBsf qs op = some v) : ∃ x ∈ v, x ≠ 0 := by
  rw [toBsf_eq_some] at h
  obtain ⟨hs, rfl⟩ := h
  cases op with
  | nil => exact (hne rfl).elim
  | cons e op =>
    obtain ⟨q, p⟩ := e
    have hm : (q, p) ∈ (q, p) :: op := by simp
    have hq : q ∈ qs := (opSupported_iff qs _).mp hs (q, p) hm
    rcases Pauli.bit_of_ne_I p (hI (q, p) hm) with hb | hb
    · exact ⟨_, List.mem_append_left _ (List.mem_map.mpr ⟨q, hq, rfl⟩),
        Nat.pos_iff_ne_zero.mp (opCount_pos _ q p _ hm hb)⟩
    · exact ⟨_, List.mem_append_right _ (List.mem_map.mpr ⟨q, hq, rfl⟩),
        Nat.pos_iff_ne_zero.mp (opCount_pos _ q p _ hm hb)⟩

/-- dict → BSF → dict returns a dict with the same entries (Y included). -/
theorem fromBsf_toBsf (qs : List Coord) (op : Op) (v : List Nat) (hk : KeysNodup op)
    (hI : NoIdentity op) (h : toBsf qs op = some v) :
    ∀ q p, (q, p) ∈ fromBsf qs v ↔ (q, p) ∈ op := by
  intro q p
  rw [toBsf_eq_some] at h
  obtain ⟨hs, rfl⟩ := h
  rw [mem_fromBsf, trip_maps]
  -- at a key of `op` the two counts are the bits of its letter, which they determine
  have key : ∀ p', (q, p') ∈ op →
      (((opCount op q Pauli.xBit ≠ 0 ∧
          p = if opCount op q Pauli.zBit ≠ 0 then Pauli.Y else Pauli.X) ∨
        (opCount op q Pauli.xBit = 0 ∧ opCount op q Pauli.zBit ≠ 0 ∧ p = Pauli.Z)) ↔ p = p') := by
    intro p' hp'
    have hne := hI (q, p') hp'
    rw [opCount_of_mem op hk q p' _ hp', opCount_of_mem op hk q p' _ hp']
    cases p' <;> simp [Pauli.xBit, Pauli.zBit] at hne ⊢
  constructor
  · rintro ⟨x, z, ht, hcase⟩
    obtain ⟨q', _, he⟩ := List.mem_map.mp ht
    simp only [Prod.mk.injEq] at he
    obtain ⟨rfl, rfl, rfl⟩ := he
    -- some count is non-zero, so `q'` is a key of `op`
    obtain ⟨p', hp'⟩ : ∃ p', (q', p') ∈ op := by
      rcases hcase with ⟨hx, _⟩ | ⟨_, hz, _⟩
      · exact (exists_of_opCount_ne_zero op _ _ hx).imp fun _ h => h.1
      · exact (exists_of_opCount_ne_zero op _ _ hz).imp fun _ h => h.1
    exact (key p' hp').mp hcase ▸ hp'
  · intro hm
    exact ⟨_, _, List.mem_map.mpr ⟨q, (opSupported_iff qs op).mp hs (q, p) hm, rfl⟩,
      (key p hm).mpr rfl⟩

/-- what `from_bsf` returns is a dict (no coordinate twice), supported on the qubits, with
    letters X/Y/Z — for every input vector. -/
theorem fromBsf_is_dict (qs : List Coord) (v : List Nat) (hnd : qs.Nodup) :
    KeysNodup (fromBsf qs v) ∧ opSupported qs (fromBsf qs v) = true ∧
      NoIdentity (fromBsf qs v) := by
  refine ⟨keysNodup_fromBsf qs v hnd, opSupported_fromBsf qs v, ?_⟩
  rintro ⟨q, p⟩ he
  rw [mem_fromBsf] at he
  obtain ⟨x, z, _, (⟨_, hp⟩ | ⟨_, _, hp⟩)⟩ := he
  · simp only [hp]; split <;> simp
  · simp [hp]

/-- BSF → dict → BSF is the identity on binary vectors of length 2n. -/
theorem toBsf_fromBsf (qs : List Coord) (v : List Nat) (hnd : qs.Nodup)
    (hlen : v.length = 2 * qs.length) (hbin : ∀ x ∈ v, x < 2) :
    toBsf qs (fromBsf qs v) = some v :=
  toBsf_fromBsf' qs v hnd hlen hbin

/-- `is_css` holds iff no row has both an X and a Z component. -/
theorem isCss_iff_rows (H : List (List Nat)) :
    isCss H = true ↔
      ∀ r ∈ H, ¬ ((xPart r).any (· ≠ 0) = true ∧ (zPart r).any (· ≠ 0) = true) :=
  isCss_iff H

/-- the X and Z row masks of a CSS matrix are disjoint -/
theorem css_masks_disjoint (H : List (List Nat)) (hcss : isCss H = true) (i : Nat) :
    ¬ ((xIndices H)[i]! = true ∧ (zIndices H)[i]! = true) := by
  rw [xIndices_eq, zIndices_eq, List.getElem!_eq_getElem?_getD, List.getElem!_eq_getElem?_getD,
    List.getElem?_map, List.getElem?_map]
  by_cases hi : i < H.length
  · rw [List.getElem?_eq_getElem hi]
    exact (isCss_iff H).mp hcss H[i] (List.getElem_mem hi)
  · rw [List.getElem?_eq_none (by omega)]
    simp

/-- if moreover no row is zero, every row is flagged by exactly one of the two masks:
    the masks partition the rows -/
theorem css_partition (H : List (List Nat)) (hcss : isCss H = true)
    (hnz : ∀ r ∈ H, ∃ x ∈ r, x ≠ 0) (i : Nat) (hi : i < H.length) :
    (xIndices H)[i]! = !(zIndices H)[i]! := by
  have hdis := css_masks_disjoint H hcss i
  have hcov : (xIndices H)[i]! = true ∨ (zIndices H)[i]! = true := by
    rw [xIndices_eq, zIndices_eq, List.getElem!_eq_getElem?_getD,
      List.getElem!_eq_getElem?_getD, List.getElem?_map, List.getElem?_map,
      List.getElem?_eq_getElem hi]
    exact flag_of_nonzero H[i] (hnz _ (List.getElem_mem hi))
  cases hx : (xIndices H)[i]! <;> cases hz : (zIndices H)[i]! <;> simp_all

/-- an X-flagged row of a CSS matrix has zero Z block: its symplectic product with an
    error is `x_row · e_Z (mod 2)` -/
theorem x_row_sees_only_z_part (H : List (List Nat)) (hcss : isCss H = true)
    (r : List Nat) (hr : r ∈ H) (hx : (xPart r).any (· ≠ 0) = true) (e : List Nat) :
    symp r e = dot (xPart r) (zPart e) % 2 :=
  symp_of_zFlag_false r e (zFlag_false_of_isCss hcss hr hx)

/-- `extract_x_syndrome(measure_syndrome(e)) = Hx · e_Z (mod 2)`: `Hx` is exactly the block
    that produces the X part of the syndrome -/
theorem x_syndrome_eq_Hx_mul (H : List (List Nat)) (e : List Nat) (hcss : isCss H = true) :
    extractXSyndrome H (measureSyndrome H e) = (Hx H).map (fun h => dot h (zPart e) % 2) := by
  unfold extractXSyndrome Hx
  rw [measureSyndrome_eq, xIndices_eq]
  exact maskSelect_map_congr _ _ _ _ H fun r hr hx =>
    symp_of_zFlag_false r e (zFlag_false_of_isCss hcss hr hx)

/-- `extract_z_syndrome(measure_syndrome(e)) = Hz · e_X (mod 2)` -/
theorem z_syndrome_eq_Hz_mul (H : List (List Nat)) (e : List Nat) (hcss : isCss H = true) :
    extractZSyndrome H (measureSyndrome H e) = (Hz H).map (fun h => dot h (xPart e) % 2) := by
  unfold extractZSyndrome Hz
  rw [measureSyndrome_eq, zIndices_eq]
  exact maskSelect_map_congr _ _ _ _ H fun r hr hz =>
    symp_of_xFlag_false r e (xFlag_false_of_isCss hcss hr hz)

/-- the X part of the syndrome depends only on the Z part of the error -/
theorem x_syndrome_depends_only_on_z_part (H : List (List Nat)) (e₁ e₂ : List Nat)
    (hcss : isCss H = true) (hz : zPart e₁ = zPart e₂) :
    extractXSyndrome H (measureSyndrome H e₁) = extractXSyndrome H (measureSyndrome H e₂) := by
  rw [x_syndrome_eq_Hx_mul H e₁ hcss, x_syndrome_eq_Hx_mul H e₂ hcss, hz]

/-- the Z part of the syndrome depends only on the X part of the error -/
theorem z_syndrome_depends_only_on_x_part (H : List (List Nat)) (e₁ e₂ : List Nat)
    (hcss : isCss H = true) (hx : xPart e₁ = xPart e₂) :
    extractZSyndrome H (measureSyndrome H e₁) = extractZSyndrome H (measureSyndrome H e₂) := by
  rw [z_syndrome_eq_Hz_mul H e₁ hcss, z_syndrome_eq_Hz_mul H e₂ hcss, hx]

/-! non-vacuity: the [[4,2,2]] code on a 2×2 patch, and a Y-carrying user code -/

/-- [[4,2,2]]: qubits at the corners of a square, one X-type and one Z-type generator -/
def c422 : CodeData where
  qubits := [[0, 0], [0, 1], [1, 0], [1, 1]]
  stabs := [[2, 0], [2, 1]]
  stabOps := [[([0, 0], .X), ([0, 1], .X), ([1, 0], .X), ([1, 1], .X)],
              [([1, 1], .Z), ([1, 0], .Z), ([0, 1], .Z), ([0, 0], .Z)]]
  logX := [[([0, 0], .X), ([0, 1], .X)], [([0, 0], .X), ([1, 0], .X)]]
  logZ := [[([0, 0], .Z), ([1, 0], .Z)], [([0, 0], .Z), ([0, 1], .Z)]]

def H422 : List (List Nat) := [[1, 1, 1, 1, 0, 0, 0, 0], [0, 0, 0, 0, 1, 1, 1, 1]]

example : c422.qubits.Nodup := by decide
example : ∀ op ∈ c422.stabOps, KeysNodup op ∧ NoIdentity op ∧ opSupported c422.qubits op = true := by
  unfold KeysNodup NoIdentity; decide
example : stabilizerMatrixFold c422 = some H422 := by decide
example : stabilizerMatrix c422 = some H422 := by decide
example : isCss H422 = true := by decide
example : ∀ r ∈ H422, ∃ x ∈ r, x ≠ 0 := by decide
example : xIndices H422 = [true, false] ∧ zIndices H422 = [false, true] := by decide
example : Hx H422 = [[1, 1, 1, 1]] ∧ Hz H422 = [[1, 1, 1, 1]] := by decide

/-- a user-defined code with 3-dimensional coordinates and mixed X/Y/Z generators -/
def cUser : CodeData where
  qubits := [[0, 0, 1], [-1, 2, 0], [3, 0, 0]]
  stabs := [[0, 0, 0], [1, 1, 1]]
  stabOps := [[([3, 0, 0], .Y), ([0, 0, 1], .X), ([-1, 2, 0], .Z)],
              [([-1, 2, 0], .Y), ([3, 0, 0], .Y)]]
  logX := []
  logZ := []

example : cUser.qubits.Nodup := by decide
example : stabilizerMatrixFold cUser = some [[1, 0, 1, 0, 1, 1], [0, 1, 1, 0, 1, 1]] := by decide
example : isCss [[1, 0, 1, 0, 1, 1], [0, 1, 1, 0, 1, 1]] = false := by decide
/-- `from_bsf` re-orders the dict (X block first, then Z-only positions) but keeps the entries -/
example : fromBsf cUser.qubits [1, 0, 1, 0, 1, 1] =
    [([0, 0, 1], .X), ([3, 0, 0], .Y), ([-1, 2, 0], .Z)] := by decide
example : toBsf cUser.qubits (fromBsf cUser.qubits [1, 0, 1, 0, 1, 1]) =
    some [1, 0, 1, 0, 1, 1] := by decide

/-- the `KeyError` case: an operator touching a coordinate that is not a qubit -/
example : stabRowFold cUser.qubits [([0, 0, 1], .X), ([9, 9, 9], .Z)] = none ∧
    stabRow cUser.qubits [([0, 0, 1], .X), ([9, 9, 9], .Z)] = none := by decide

/-- why `KeysNodup` matters (a list with a repeated key is not a dict): the raw increments
    give 2 and the row is reduced mod 2, which the loop and the specification agree on -/
example : toBsfFold cUser.qubits [([0, 0, 1], .X), ([0, 0, 1], .Y)] = some [2, 0, 0, 1, 0, 0] ∧
    stabRowFold cUser.qubits [([0, 0, 1], .X), ([0, 0, 1], .Y)] = some [0, 0, 0, 1, 0, 0] := by
  decide

/-- why `qs.Nodup` matters: with a repeated qubit coordinate the index lookup hits a single
    copy (the model's `qubitIndex?` takes the first one, Python's dict comprehension keeps the
    last), while the count-based specification fills both columns -/
example : toBsfFold [[0], [0]] [([0], .X)] = some [1, 0, 0, 0] ∧
    toBsf [[0], [0]] [([0], .X)] = some [1, 1, 0, 0] := by decide

end Panqec.C02
