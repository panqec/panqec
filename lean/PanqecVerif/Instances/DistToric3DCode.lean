import PanqecVerif.Generated.DistToric3DCode
import PanqecVerif.Instances.Toric3DCode
import PanqecVerif.Proofs.Dist
namespace Panqec.Instances
open Panqec

/-- kernel evaluation of the distance-certificate checker (`checkDistanceP`, equal to
    `checkDistance`) on every certified instance -/
theorem Toric3DCode_distcheck :
    (Generated.Toric3DCode.certified.all fun q => checkDistanceP q.1 q.2.2) = true := by
  decide +kernel

/-- for every certified Toric3DCode instance the reported `d` is the true distance -/
theorem Toric3DCode_distance : ∀ q ∈ Generated.Toric3DCode.certified,
    IsDistance q.1.n (q.1.stabs.map (unpackBits (2 * q.1.n))) q.1.d :=
  certified_soundP _ _ Toric3DCode_valid Toric3DCode_distcheck

end Panqec.Instances
