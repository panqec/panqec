import PanqecVerif.Generated.DistRhombicPlanarCode
import PanqecVerif.Instances.RhombicPlanarCode
import PanqecVerif.Proofs.Dist
namespace Panqec.Instances
open Panqec

/-- kernel evaluation of the distance-certificate checker (`checkDistanceP`, equal to
    `checkDistance`) on every certified instance -/
theorem RhombicPlanarCode_distcheck :
    (Generated.RhombicPlanarCode.certified.all fun q => checkDistanceP q.1 q.2.2) = true := by
  decide +kernel

/-- for every certified RhombicPlanarCode instance the reported `d` is the true distance -/
theorem RhombicPlanarCode_distance : ∀ q ∈ Generated.RhombicPlanarCode.certified,
    IsDistance q.1.n (q.1.stabs.map (unpackBits (2 * q.1.n))) q.1.d :=
  certified_soundP _ _ RhombicPlanarCode_valid RhombicPlanarCode_distcheck

end Panqec.Instances
