import PanqecVerif.Generated.InstHollowPlanar3DCode
import PanqecVerif.Proofs.MaskTagged
namespace Panqec.Instances
open Panqec

/-- kernel evaluation of the checker (`checkValidT`, equal to `checkValidFast`) on every
    generated instance -/
theorem HollowPlanar3DCode_check :
    (Generated.HollowPlanar3DCode.all.all fun p =>
      checkValidT p.1 p.2 && reportedDistanceFast p.1) = true := by
  decide +kernel

/-- every generated HollowPlanar3DCode instance is a valid `[[n, k]]` code with the reported distance -/
theorem HollowPlanar3DCode_valid : ∀ p ∈ Generated.HollowPlanar3DCode.all,
    ValidCodeL p.1.n p.1.k (p.1.stabs.map (unpackBits (2 * p.1.n)))
      (p.1.logX.map (unpackBits (2 * p.1.n))) (p.1.logZ.map (unpackBits (2 * p.1.n))) ∧
    distance (p.1.logX.map (unpackBits (2 * p.1.n))) (p.1.logZ.map (unpackBits (2 * p.1.n)))
      = some p.1.d :=
  instances_soundT _ HollowPlanar3DCode_check

end Panqec.Instances
