import PanqecVerif.Generated.DistHollowPlanar3DCode
import PanqecVerif.Instances.HollowPlanar3DCode
import PanqecVerif.Proofs.Dist
namespace Panqec.Instances
open Panqec

/-- kernel evaluation of the distance-certificate checker (`checkDistanceP`, equal to
    `checkDistance`) on every certified instance -/
theorem HollowPlanar3DCode_distcheck :
    (Generated.HollowPlanar3DCode.certified.all fun q => checkDistanceP q.1 q.2.2) = true := by
  decide +kernel

/-- for every certified HollowPlanar3DCode instance the reported `d` is the true distance -/
theorem HollowPlanar3DCode_distance : ∀ q ∈ Generated.HollowPlanar3DCode.certified,
    IsDistance q.1.n (q.1.stabs.map (unpackBits (2 * q.1.n))) q.1.d :=
  certified_soundP _ _ HollowPlanar3DCode_valid HollowPlanar3DCode_distcheck

end Panqec.Instances
