import PanqecVerif.Generated.DistPlanar2DCode
import PanqecVerif.Instances.Planar2DCode
import PanqecVerif.Proofs.Dist
namespace Panqec.Instances
open Panqec

/-- kernel evaluation of the distance-certificate checker (`checkDistanceP`, equal to
    `checkDistance`) on every certified instance -/
theorem Planar2DCode_distcheck :
    (Generated.Planar2DCode.certified.all fun q => checkDistanceP q.1 q.2.2) = true := by
  decide +kernel

/-- for every certified Planar2DCode instance the reported `d` is the true distance -/
theorem Planar2DCode_distance : ∀ q ∈ Generated.Planar2DCode.certified,
    IsDistance q.1.n (q.1.stabs.map (unpackBits (2 * q.1.n))) q.1.d :=
  certified_soundP _ _ Planar2DCode_valid Planar2DCode_distcheck

end Panqec.Instances
