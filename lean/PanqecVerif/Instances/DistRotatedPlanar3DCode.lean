import PanqecVerif.Generated.DistRotatedPlanar3DCode
import PanqecVerif.Instances.RotatedPlanar3DCode
import PanqecVerif.Proofs.Dist
namespace Panqec.Instances
open Panqec

/-- kernel evaluation of the distance-certificate checker (`checkDistanceP`, equal to
    `checkDistance`) on every certified instance -/
theorem RotatedPlanar3DCode_distcheck :
    (Generated.RotatedPlanar3DCode.certified.all fun q => checkDistanceP q.1 q.2.2) = true := by
  decide +kernel

/-- for every certified RotatedPlanar3DCode instance the reported `d` is the true distance -/
theorem RotatedPlanar3DCode_distance : ∀ q ∈ Generated.RotatedPlanar3DCode.certified,
    IsDistance q.1.n (q.1.stabs.map (unpackBits (2 * q.1.n))) q.1.d :=
  certified_soundP _ _ RotatedPlanar3DCode_valid RotatedPlanar3DCode_distcheck

end Panqec.Instances
