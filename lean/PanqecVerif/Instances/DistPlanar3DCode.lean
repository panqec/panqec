import PanqecVerif.Generated.DistPlanar3DCode
import PanqecVerif.Instances.Planar3DCode
import PanqecVerif.Proofs.Dist
namespace Panqec.Instances
open Panqec

/-- kernel evaluation of the distance-certificate checker (`checkDistanceP`, equal to
    `checkDistance`) on every certified instance -/
theorem Planar3DCode_distcheck :
    (Generated.Planar3DCode.certified.all fun q => checkDistanceP q.1 q.2.2) = true := by
  decide +kernel

/-- for every certified Planar3DCode instance the reported `d` is the true distance -/
theorem Planar3DCode_distance : ∀ q ∈ Generated.Planar3DCode.certified,
    IsDistance q.1.n (q.1.stabs.map (unpackBits (2 * q.1.n))) q.1.d :=
  certified_soundP _ _ Planar3DCode_valid Planar3DCode_distcheck

end Panqec.Instances
