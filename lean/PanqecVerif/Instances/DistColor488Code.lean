import PanqecVerif.Generated.DistColor488Code
import PanqecVerif.Instances.Color488Code
import PanqecVerif.Proofs.Dist
namespace Panqec.Instances
open Panqec

/-- kernel evaluation of the distance-certificate checker (`checkDistanceP`, equal to
    `checkDistance`) on every certified instance -/
theorem Color488Code_distcheck :
    (Generated.Color488Code.certified.all fun q => checkDistanceP q.1 q.2.2) = true := by
  decide +kernel

/-- for every certified Color488Code instance the reported `d` is the true distance -/
theorem Color488Code_distance : ∀ q ∈ Generated.Color488Code.certified,
    IsDistance q.1.n (q.1.stabs.map (unpackBits (2 * q.1.n))) q.1.d :=
  certified_soundP _ _ Color488Code_valid Color488Code_distcheck

end Panqec.Instances
