import PanqecVerif.Generated.DistRotatedPlanar2DCode
import PanqecVerif.Instances.RotatedPlanar2DCode
import PanqecVerif.Proofs.Dist
namespace Panqec.Instances
open Panqec

/-- kernel evaluation of the distance-certificate checker (`checkDistanceP`, equal to
    `checkDistance`) on every certified instance -/
theorem RotatedPlanar2DCode_distcheck :
    (Generated.RotatedPlanar2DCode.certified.all fun q => checkDistanceP q.1 q.2.2) = true := by
  decide +kernel

/-- for every certified RotatedPlanar2DCode instance the reported `d` is the true distance -/
theorem RotatedPlanar2DCode_distance : ∀ q ∈ Generated.RotatedPlanar2DCode.certified,
    IsDistance q.1.n (q.1.stabs.map (unpackBits (2 * q.1.n))) q.1.d :=
  certified_soundP _ _ RotatedPlanar2DCode_valid RotatedPlanar2DCode_distcheck

end Panqec.Instances
