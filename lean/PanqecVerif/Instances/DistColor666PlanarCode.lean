import PanqecVerif.Generated.DistColor666PlanarCode
import PanqecVerif.Instances.Color666PlanarCode
import PanqecVerif.Proofs.Dist
namespace Panqec.Instances
open Panqec

/-- kernel evaluation of the distance-certificate checker (`checkDistanceP`, equal to
    `checkDistance`) on every certified instance -/
theorem Color666PlanarCode_distcheck :
    (Generated.Color666PlanarCode.certified.all fun q => checkDistanceP q.1 q.2.2) = true := by
  decide +kernel

/-- for every certified Color666PlanarCode instance the reported `d` is the true distance -/
theorem Color666PlanarCode_distance : ∀ q ∈ Generated.Color666PlanarCode.certified,
    IsDistance q.1.n (q.1.stabs.map (unpackBits (2 * q.1.n))) q.1.d :=
  certified_soundP _ _ Color666PlanarCode_valid Color666PlanarCode_distcheck

end Panqec.Instances
