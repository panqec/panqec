import PanqecVerif.Generated.InstRotatedPlanar2DCode
import PanqecVerif.Proofs.MaskTagged
namespace Panqec.Instances
open Panqec

/-- kernel evaluation of the checker (`checkValidT`, equal to `checkValidFast`) on every
    generated instance -/
theorem RotatedPlanar2DCode_check :
    (Generated.RotatedPlanar2DCode.all.all fun p =>
      checkValidT p.1 p.2 && reportedDistanceFast p.1) = true := by
  decide +kernel

/-- every generated RotatedPlanar2DCode instance is a valid `[[n, k]]` code with the reported distance -/
theorem RotatedPlanar2DCode_valid : ∀ p ∈ Generated.RotatedPlanar2DCode.all,
    ValidCodeL p.1.n p.1.k (p.1.stabs.map (unpackBits (2 * p.1.n)))
      (p.1.logX.map (unpackBits (2 * p.1.n))) (p.1.logZ.map (unpackBits (2 * p.1.n))) ∧
    distance (p.1.logX.map (unpackBits (2 * p.1.n))) (p.1.logZ.map (unpackBits (2 * p.1.n)))
      = some p.1.d :=
  instances_soundT _ RotatedPlanar2DCode_check

end Panqec.Instances
