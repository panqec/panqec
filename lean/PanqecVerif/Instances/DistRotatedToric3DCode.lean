import PanqecVerif.Generated.DistRotatedToric3DCode
import PanqecVerif.Instances.RotatedToric3DCode
import PanqecVerif.Proofs.Dist
namespace Panqec.Instances
open Panqec

/-- kernel evaluation of the distance-certificate checker (`checkDistanceP`, equal to
    `checkDistance`) on every certified instance -/
theorem RotatedToric3DCode_distcheck :
    (Generated.RotatedToric3DCode.certified.all fun q => checkDistanceP q.1 q.2.2) = true := by
  decide +kernel

/-- for every certified RotatedToric3DCode instance the reported `d` is the true distance -/
theorem RotatedToric3DCode_distance : ∀ q ∈ Generated.RotatedToric3DCode.certified,
    IsDistance q.1.n (q.1.stabs.map (unpackBits (2 * q.1.n))) q.1.d :=
  certified_soundP _ _ RotatedToric3DCode_valid RotatedToric3DCode_distcheck

end Panqec.Instances
