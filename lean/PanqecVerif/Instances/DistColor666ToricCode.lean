import PanqecVerif.Generated.DistColor666ToricCode
import PanqecVerif.Instances.Color666ToricCode
import PanqecVerif.Proofs.Dist
namespace Panqec.Instances
open Panqec

/-- kernel evaluation of the distance-certificate checker (`checkDistanceP`, equal to
    `checkDistance`) on every certified instance -/
theorem Color666ToricCode_distcheck :
    (Generated.Color666ToricCode.certified.all fun q => checkDistanceP q.1 q.2.2) = true := by
  decide +kernel

/-- for every certified Color666ToricCode instance the reported `d` is the true distance -/
theorem Color666ToricCode_distance : ∀ q ∈ Generated.Color666ToricCode.certified,
    IsDistance q.1.n (q.1.stabs.map (unpackBits (2 * q.1.n))) q.1.d :=
  certified_soundP _ _ Color666ToricCode_valid Color666ToricCode_distcheck

end Panqec.Instances
