import PanqecVerif.Generated.DistToric2DCode
import PanqecVerif.Instances.Toric2DCode
import PanqecVerif.Proofs.Dist
namespace Panqec.Instances
open Panqec

/-- kernel evaluation of the distance-certificate checker (`checkDistanceP`, equal to
    `checkDistance`) on every certified instance -/
theorem Toric2DCode_distcheck :
    (Generated.Toric2DCode.certified.all fun q => checkDistanceP q.1 q.2.2) = true := by
  decide +kernel

/-- for every certified Toric2DCode instance the reported `d` is the true distance -/
theorem Toric2DCode_distance : ∀ q ∈ Generated.Toric2DCode.certified,
    IsDistance q.1.n (q.1.stabs.map (unpackBits (2 * q.1.n))) q.1.d :=
  certified_soundP _ _ Toric2DCode_valid Toric2DCode_distcheck

end Panqec.Instances
