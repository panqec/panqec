import PanqecVerif.Generated.DistColor3DCode
import PanqecVerif.Instances.Color3DCode
import PanqecVerif.Proofs.Dist
namespace Panqec.Instances
open Panqec

/-- kernel evaluation of the distance-certificate checker (`checkDistanceP`, equal to
    `checkDistance`) on every certified instance -/
theorem Color3DCode_distcheck :
    (Generated.Color3DCode.certified.all fun q => checkDistanceP q.1 q.2.2) = true := by
  decide +kernel

/-- for every certified Color3DCode instance the reported `d` is the true distance -/
theorem Color3DCode_distance : ∀ q ∈ Generated.Color3DCode.certified,
    IsDistance q.1.n (q.1.stabs.map (unpackBits (2 * q.1.n))) q.1.d :=
  certified_soundP _ _ Color3DCode_valid Color3DCode_distcheck

end Panqec.Instances
