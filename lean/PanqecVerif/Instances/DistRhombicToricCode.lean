import PanqecVerif.Generated.DistRhombicToricCode
import PanqecVerif.Instances.RhombicToricCode
import PanqecVerif.Proofs.Dist
namespace Panqec.Instances
open Panqec

/-- kernel evaluation of the distance-certificate checker (`checkDistanceP`, equal to
    `checkDistance`) on every certified instance -/
theorem RhombicToricCode_distcheck :
    (Generated.RhombicToricCode.certified.all fun q => checkDistanceP q.1 q.2.2) = true := by
  decide +kernel

/-- for every certified RhombicToricCode instance the reported `d` is the true distance -/
theorem RhombicToricCode_distance : ∀ q ∈ Generated.RhombicToricCode.certified,
    IsDistance q.1.n (q.1.stabs.map (unpackBits (2 * q.1.n))) q.1.d :=
  certified_soundP _ _ RhombicToricCode_valid RhombicToricCode_distcheck

end Panqec.Instances
