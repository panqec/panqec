import PanqecVerif.Generated.DistHollowRhombicCode
import PanqecVerif.Instances.HollowRhombicCode
import PanqecVerif.Proofs.Dist
namespace Panqec.Instances
open Panqec

/-- kernel evaluation of the distance-certificate checker (`checkDistanceP`, equal to
    `checkDistance`) on every certified instance -/
theorem HollowRhombicCode_distcheck :
    (Generated.HollowRhombicCode.certified.all fun q => checkDistanceP q.1 q.2.2) = true := by
  decide +kernel

/-- for every certified HollowRhombicCode instance the reported `d` is the true distance -/
theorem HollowRhombicCode_distance : ∀ q ∈ Generated.HollowRhombicCode.certified,
    IsDistance q.1.n (q.1.stabs.map (unpackBits (2 * q.1.n))) q.1.d :=
  certified_soundP _ _ HollowRhombicCode_valid HollowRhombicCode_distcheck

end Panqec.Instances
