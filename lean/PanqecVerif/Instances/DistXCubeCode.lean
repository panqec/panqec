import PanqecVerif.Generated.DistXCubeCode
import PanqecVerif.Instances.XCubeCode
import PanqecVerif.Proofs.Dist
namespace Panqec.Instances
open Panqec

/-- kernel evaluation of the distance-certificate checker (`checkDistanceP`, equal to
    `checkDistance`) on every certified instance -/
theorem XCubeCode_distcheck :
    (Generated.XCubeCode.certified.all fun q => checkDistanceP q.1 q.2.2) = true := by
  decide +kernel

/-- for every certified XCubeCode instance the reported `d` is the true distance -/
theorem XCubeCode_distance : ∀ q ∈ Generated.XCubeCode.certified,
    IsDistance q.1.n (q.1.stabs.map (unpackBits (2 * q.1.n))) q.1.d :=
  certified_soundP _ _ XCubeCode_valid XCubeCode_distcheck

end Panqec.Instances
