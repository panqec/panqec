/-
Counting lemmas for the hand-written lattice models: length of a `grid3` whose filter depends on
`(x, y)` only, and the number of points of the checkerboard filter `(x + y) % 4 == 2`.
-/
import PanqecVerif.Proofs.Lat3DbOps
open Panqec Panqec.Lat3Db
namespace Panqec.Lat3Db

/-- sum over `x` of the number of `y` with `f x y` -/
def cnt2 (xs ys : List Int) (f : Int → Int → Bool) : Nat := (xs.map fun x => ys.countP (f x)).sum

theorem length_grid3_xy (xs ys zs : List Int) (f : Int → Int → Bool) :
    (grid3 xs ys zs fun x y _ => f x y).length = cnt2 xs ys f * zs.length := by
  unfold grid3 cnt2
  induction xs with
  | nil => simp
  | cons x xs ih =>
    have h2 : ∀ ys : List Int, (ys.flatMap fun y => (zs.filter fun _ => f x y).map fun z => [x, y, z]).length
        = ys.countP (f x) * zs.length := by
      intro ys
      induction ys with
      | nil => simp
      | cons y ys ih2 =>
        simp only [List.flatMap_cons, List.length_append, ih2, List.countP_cons, List.length_map]
        by_cases h : f x y = true
        · simp [h, Nat.add_mul, Nat.add_comm]
        · simp [h]
    simp only [List.flatMap_cons, List.length_append, ih, h2, List.map_cons, List.sum_cons, Nat.add_mul]

theorem countP_odd_range (n : Nat) : (List.range n).countP (fun j => j % 2 == 1) = n / 2 := by
  induction n with
  | zero => rfl
  | succ n ih =>
    rw [List.range_succ, List.countP_append, ih]
    simp only [List.countP_cons, List.countP_nil, beq_iff_eq]
    split <;> omega

theorem countP_even_range (n : Nat) : (List.range n).countP (fun j => j % 2 == 0) = (n + 1) / 2 := by
  induction n with
  | zero => rfl
  | succ n ih =>
    rw [List.range_succ, List.countP_append, ih]
    simp only [List.countP_cons, List.countP_nil, beq_iff_eq]
    split <;> omega

theorem pyRange2_eq_map (a b : Nat) :
    pyRange2 a b = (List.range ((b + 1 - a) / 2)).map fun i => ((a + 2 * i : Nat) : Int) := by
  unfold pyRange2
  apply List.ext_getElem
  · simp
  · intro i h1 h2
    simp

/-- of `c, c + 2, c + 4, …` (`n` terms, `c ≡ r` mod 2) every other one is `≡ r` mod 4, the first
    of them iff `c % 4 = r` -/
theorem countP_range_mod4 (c r : Int) (n : Nat) (hpar : (c - r) % 2 = 0) (hr : 0 ≤ r ∧ r < 4) :
    (List.range n).countP (fun i : Nat => (c + 2 * (i : Int)) % 4 == r) =
      if c % 4 = r then (n + 1) / 2 else n / 2 := by
  split
  · rw [← countP_even_range]
    apply List.countP_congr
    intro j _; simp only [beq_iff_eq]; omega
  · rw [← countP_odd_range]
    apply List.countP_congr
    intro j _; simp only [beq_iff_eq]; omega

theorem countP_pyRange2_mod4 (a b : Nat) (x r : Int) (hpar : (x + a - r) % 2 = 0)
    (hr : 0 ≤ r ∧ r < 4) :
    (pyRange2 a b).countP (fun y => (x + y) % 4 == r) =
      if (x + a) % 4 = r then ((b + 1 - a) / 2 + 1) / 2 else (b + 1 - a) / 2 / 2 := by
  rw [pyRange2_eq_map, List.countP_map, ← countP_range_mod4 _ r _ hpar hr]
  apply List.countP_congr
  intro j _
  rw [Function.comp, Int.natCast_add, Int.natCast_mul, Int.add_assoc]
  exact Iff.rfl

/-- number of `y` in `range(0, 2*Ly+1, 2)` with `(x + y) % 4 = 2`, for even `x` -/
theorem countP_mod4 (Ly : Nat) (x : Int) (hx : x % 2 = 0) :
    (pyRange2 0 (2*Ly+1)).countP (fun y => (x + y) % 4 == 2) = if x % 4 = 2 then Ly / 2 + 1 else (Ly + 1) / 2 := by
  rw [countP_pyRange2_mod4 0 _ x 2 (by omega) (by omega), Int.natCast_zero, Int.add_zero,
    show (2 * Ly + 1 + 1 - 0) / 2 = Ly + 1 from by omega]
  split <;> omega

theorem sum_alternate (A B : Nat) : ∀ m,
    ((List.range m).map fun i => if i % 2 = 0 then A else B).sum = ((m + 1) / 2) * A + (m / 2) * B
  | 0 => by simp
  | 1 => by simp
  | m + 2 => by
    have e1 : (m + 2 + 1) / 2 = (m + 1) / 2 + 1 := by omega
    have e2 : (m + 2) / 2 = m / 2 + 1 := by omega
    rw [List.range_succ, List.range_succ, List.map_append, List.map_append, List.sum_append,
      List.sum_append, sum_alternate A B m, e1, e2, Nat.succ_mul, Nat.succ_mul, List.map_singleton,
      List.map_singleton, List.sum_singleton, List.sum_singleton]
    by_cases h : m % 2 = 0
    · rw [if_pos h, if_neg (by omega)]; omega
    · rw [if_neg h, if_pos (by omega)]; omega

theorem cnt2_checker (Lx Ly : Nat) :
    cnt2 (pyRange2 2 (2*Lx)) (pyRange2 0 (2*Ly+1)) (fun x y => (x + y) % 4 == 2) =
      (Lx / 2) * (Ly / 2 + 1) + ((Lx - 1) / 2) * ((Ly + 1) / 2) := by
  unfold cnt2
  rw [pyRange2_eq_map 2 (2*Lx), List.map_map, show (2 * Lx + 1 - 2) / 2 = Lx - 1 by omega,
    List.map_congr_left (g := fun i => if i % 2 = 0 then Ly / 2 + 1 else (Ly + 1) / 2),
    sum_alternate]
  · rcases Nat.eq_zero_or_pos Lx with rfl | h
    · rfl
    · rw [Nat.sub_add_cancel h]
  · intro i _
    rw [Function.comp, countP_mod4 Ly _ (by omega)]
    exact if_congr (by omega) rfl rfl

end Panqec.Lat3Db
