/-
Union-find internals (C05): the decidable well-formedness predicate `multigraphLike` on a
parity-check matrix (rectangular, 0/1 entries, every column of weight ≤ 2, two rows sharing
fewer than 256 columns; `graphLike`: at most one) implies the hypotheses `GraphOK`, `RectBin` of
the correctness proofs; and the final statements for `Support.decode()`.
-/
import PanqecVerif.Proofs.UnionFindGrowPost
import PanqecVerif.Proofs.UnionFindDecodeVector

namespace Panqec.UF

/-- two different indices at which `f` holds: remove one, the other is still counted -/
theorem cnt_ge_two (m : Nat) (f : Nat → Bool) (a b : Nat) (ha : a < m) (hb' : b < m) (hab : a ≠ b)
    (hfa : f a = true) (hfb : f b = true) : 2 ≤ cnt m f := by
  have h1 := cnt_lt m (fun i => f i && decide (i ≠ a)) f (fun i _ h => (Bool.and_eq_true_iff.mp h).1)
    a ha hfa (by simp)
  have h2 := cnt_pos m (fun i => f i && decide (i ≠ a)) b hb' (by simp [hfb, Ne.symm hab])
  omega

theorem multigraphLike_ok {H : Mat} (h : multigraphLike H = true) : GraphOK H ∧ RectBin H := by
  unfold multigraphLike at h
  simp only [Bool.and_eq_true, List.all_eq_true, decide_eq_true_eq, List.mem_range,
    Bool.or_eq_true] at h
  obtain ⟨⟨hrows, hcols⟩, hpairs⟩ := h
  have hR : RectBin H := ⟨fun r hr => (hrows r hr).1, fun r hr => (hrows r hr).2⟩
  have hrange : ∀ s q, hb H s q = true → s < H.length ∧ q < ncols H := by
    intro s q hsq
    refine ⟨hb_lt hsq, ?_⟩
    have hlen := hR.rect _ (getD_row_mem (hb_lt hsq))
    by_contra hq
    unfold hb at hsq
    rw [List.getD_eq_getElem?_getD (l := H.getD s []), List.getElem?_eq_none (by omega)] at hsq
    cases hsq
  refine ⟨⟨hrange, ?_, ?_⟩, hR⟩
  · -- three different rows in one column: remove one, two are still counted
    intro q s1 s2 s3 h1 h2 h3
    by_contra hne
    push Not at hne
    have := cnt_lt H.length (fun s => hb H s q && decide (s ≠ s1)) (fun s => hb H s q)
      (fun i _ h => (Bool.and_eq_true_iff.mp h).1) s1 (hrange s1 q h1).1 h1 (by simp)
    have := cnt_ge_two H.length (fun s => hb H s q && decide (s ≠ s1)) s2 s3 (hrange s2 q h2).1
      (hrange s3 q h3).1 hne.2.2 (by simp [h2, Ne.symm hne.1]) (by simp [h3, Ne.symm hne.2.1])
    have := hcols q (hrange s1 q h1).2
    omega
  · intro i j hij
    by_cases h : i < H.length ∧ j < H.length
    · exact (hpairs i h.1 j h.2).resolve_left hij
    · -- a row outside the matrix shares no column with any row
      rw [cnt_eq_zero _ _ fun q _ => Bool.eq_false_iff.mpr fun hq =>
        h ⟨hb_lt (Bool.and_eq_true_iff.mp hq).1, hb_lt (Bool.and_eq_true_iff.mp hq).2⟩]
      omega

/-- a simple graph is a multigraph -/
theorem graphLike_multi {H : Mat} (h : graphLike H = true) : multigraphLike H = true := by
  unfold graphLike at h
  unfold multigraphLike
  simp only [Bool.and_eq_true, List.all_eq_true, decide_eq_true_eq, List.mem_range,
    Bool.or_eq_true] at h ⊢
  refine ⟨h.1, ?_⟩
  intro i hi j hj
  rcases h.2 i hi j hj with h' | h'
  · exact Or.inl h'
  · exact Or.inr (by omega)

theorem closedGraph_multi {H : Mat} (h : closedGraph H = true) : closedMultigraph H = true := by
  unfold closedGraph at h
  unfold closedMultigraph
  rw [Bool.and_eq_true] at h ⊢
  exact ⟨graphLike_multi h.1, h.2⟩

theorem graphLike_ok {H : Mat} (h : graphLike H = true) : GraphOK H ∧ RectBin H :=
  multigraphLike_ok (graphLike_multi h)

/-- two different rows sharing two different columns: not a simple graph -/
theorem graphLike_simple {H : Mat} (h : graphLike H = true) (i j q q' : Nat) (hij : i ≠ j)
    (h1 : hb H i q = true) (h2 : hb H j q = true) (h3 : hb H i q' = true)
    (h4 : hb H j q' = true) : q = q' := by
  obtain ⟨G, _⟩ := graphLike_ok h
  unfold graphLike at h
  simp only [Bool.and_eq_true, List.all_eq_true, decide_eq_true_eq, List.mem_range,
    Bool.or_eq_true] at h
  by_contra hne
  have hi := (G.inRange i q h1).1
  have hj := (G.inRange j q h2).1
  have := cnt_ge_two (ncols H) (fun q => hb H i q && hb H j q) q q' (G.inRange i q h1).2
    (G.inRange i q' h3).2 hne (by simp [h1, h2]) (by simp [h3, h4])
  rcases h.2 i hi j hj with h' | h'
  · exact hij h'
  · omega

/-- a binary syndrome is its own list of defect flags -/
theorem defect_flags (m : Nat) (sy : Vec) (hlen : sy.length = m) (hbin : ∀ x, x ∈ sy → x < 2) :
    ((List.range m).map fun s => b2n (defect sy s)) = sy := by
  apply List.ext_getElem
  · simp [hlen]
  · intro i h1 h2
    simp only [List.getElem_map, List.getElem_range]
    have hx := hbin sy[i] (List.getElem_mem h2)
    unfold defect
    rw [List.getD_eq_getElem?_getD, List.getElem?_eq_getElem h2]
    simp only [Option.getD_some]
    rcases Nat.lt_succ_iff_lt_or_eq.mp hx with h | h
    · have : sy[i] = 0 := by omega
      simp [this]
    · simp [h]

theorem sectorSyndrome_binary (M : Mat) (v : Vec) : ∀ x, x ∈ sectorSyndrome M v → x < 2 := by
  intro x hx
  unfold sectorSyndrome at hx
  rw [List.mem_map] at hx
  obtain ⟨r, _, rfl⟩ := hx
  omega

/-- `Support.clustering()` never leaves the modelled fragment, whether or not the growth loop
    terminates: the invariant of the loop gives union-find arrays on which both `_update_parents`
    passes run without a bad `find_root` -/
theorem clustering_bad (H : Mat) (sy : Vec) (sched : List (List Int)) :
    (clustering H sy sched).bad = false := by
  obtain ⟨rep, d, I, _⟩ := clusterLoop_inv (growFuel H) _ _ _ (GInv_init H sy sched)
  unfold clustering
  simp only []
  generalize clusterLoop H (growFuel H) (initState H sy sched) = r at I ⊢
  obtain ⟨st, term⟩ := r
  simp only [] at I ⊢
  have hroots : ∀ x, x ∈ st.forest.map (·.root) ↔ st.sPar x = (x : Int) := fun x => by
    rw [← I.fi.roots_iff, List.mem_map]
  rw [I.nbad]
  obtain ⟨sp1, hrun1, U1, hf1, hr1, _, _⟩ := updateSParents_spec (List.range H.length) st.sPar
    I.uf hroots
  rw [hrun1]
  obtain ⟨qp2, sp2, hrun2, _⟩ := updateParents_spec
    (List.range (ncols H)) st.qPar sp1 List.nodup_range U1 (fun x => (hroots x).trans (hr1 x).symm)
    fun q => (I.qrng q).imp_right fun ⟨x, h1, h2⟩ => ⟨x, h1, fun h => h2 ((hf1 x).mp h)⟩
  simp only []
  rw [hrun2]

/-- **`Support(sy, H).decode()`, partial correctness** for every multigraph-like matrix
    (parallel and dangling edges allowed), every
    syndrome vector and EVERY schedule of set iteration orders: either the
    growth loop does not terminate within the fuel, or the peeling of every cluster succeeds
    (no divergence of `_build_tree` / `peel`, no shape error) and the returned vector is binary, of
    length `n`, with syndrome exactly the defect flags; the run never leaves the modelled fragment. -/
theorem decodeWith_partial {H : Mat} (hG : multigraphLike H = true) (sy : Vec) (sched : List (List Int)) :
    ((decodeWith H sy sched).outcome = .growthDiverges ∨
      ∃ c, (decodeWith H sy sched).outcome = .ok c ∧ c.length = ncols H ∧ (∀ x, x ∈ c → x < 2) ∧
        sectorSyndrome H c = (List.range H.length).map fun s => b2n (defect sy s)) ∧
    (decodeWith H sy sched).bad = false := by
  obtain ⟨G, R⟩ := multigraphLike_ok hG
  unfold decodeWith
  simp only []
  cases hterm : (clustering H sy sched).terminated
  · exact ⟨Or.inl rfl, clustering_bad H sy sched⟩
  · obtain ⟨ts, hts, hsyn⟩ := peeling_correct G R sy _ _ _ (clustering_post G sy sched hterm).1
    simp only [Bool.not_true, Bool.false_eq_true, if_false, hts]
    exact ⟨Or.inr ⟨_, rfl, indicator_length _ _, indicator_binary _ _, hsyn⟩, clustering_bad H sy sched⟩

end Panqec.UF
