/-
Lemmas about `Model/Spec.lean`: the Cartesian product in `itertools.product`
order and `mapE` (the structure of `simsOfRanges` / `simsOfMany` / `simsOfRuns` is in
`Proofs/SpecSims.lean` and `Proofs/SpecSplit.lean`).
-/
import PanqecVerif.Model.Spec
import Mathlib.Data.List.ProdSigma
import Mathlib.Data.List.Nodup
import Mathlib.Data.List.Forall2

namespace Panqec.Spec

theorem product4_eq_product {α β γ δ : Type} (as : List α) (bs : List β) (cs : List γ)
    (ds : List δ) : product4 as bs cs ds = as ×ˢ (bs ×ˢ (cs ×ˢ ds)) := by
  simp [product4, SProd.sprod, List.product, List.map_flatMap, List.map_map, Function.comp_def]

theorem product4_length {α β γ δ : Type} (as : List α) (bs : List β) (cs : List γ)
    (ds : List δ) :
    (product4 as bs cs ds).length = as.length * bs.length * cs.length * ds.length := by
  rw [product4_eq_product]; simp [List.length_product, Nat.mul_assoc]

theorem mem_product4 {α β γ δ : Type} (as : List α) (bs : List β) (cs : List γ)
    (ds : List δ) (a : α) (b : β) (c : γ) (d : δ) :
    (a, b, c, d) ∈ product4 as bs cs ds ↔ a ∈ as ∧ b ∈ bs ∧ c ∈ cs ∧ d ∈ ds := by
  rw [product4_eq_product]; simp [List.mem_product]

theorem product4_nodup {α β γ δ : Type} (as : List α) (bs : List β) (cs : List γ)
    (ds : List δ) (ha : as.Nodup) (hb : bs.Nodup) (hc : cs.Nodup) (hd : ds.Nodup) :
    (product4 as bs cs ds).Nodup := by
  rw [product4_eq_product]
  exact ha.product (hb.product (hc.product hd))

theorem getElem?_flatMap_uniform {α β : Type} (f : α → List β) (k : Nat) :
    ∀ (l : List α), (∀ x ∈ l, (f x).length = k) → ∀ (i j : Nat) (hi : i < l.length), j < k →
      (l.flatMap f)[i * k + j]? = (f l[i])[j]?
  | [], _, i, _, hi, _ => by simp at hi
  | a :: l, h, 0, j, _, hj => by
    have ha : (f a).length = k := h a (by simp)
    simp only [List.flatMap_cons, Nat.zero_mul, Nat.zero_add, List.getElem_cons_zero]
    rw [List.getElem?_append_left (by omega)]
  | a :: l, h, i + 1, j, hi, hj => by
    have ha : (f a).length = k := h a (by simp)
    have hidx : (i + 1) * k + j = (f a).length + (i * k + j) := by
      rw [ha, Nat.add_mul]; omega
    simp only [List.flatMap_cons, List.getElem_cons_succ]
    rw [hidx, List.getElem?_append_right (by omega)]
    have : (f a).length + (i * k + j) - (f a).length = i * k + j := by omega
    rw [this]
    exact getElem?_flatMap_uniform f k l (fun x hx => h x (by simp [hx])) i j
      (by simpa using hi) hj

theorem length_flatMap_uniform {α β : Type} (f : α → List β) (k : Nat) :
    ∀ (l : List α), (∀ x ∈ l, (f x).length = k) → (l.flatMap f).length = l.length * k
  | [], _ => by simp
  | a :: l, h => by
    simp only [List.flatMap_cons, List.length_append, List.length_cons]
    rw [h a (by simp), length_flatMap_uniform f k l (fun x hx => h x (by simp [hx])), Nat.add_mul]
    omega

theorem idx_lt (j r N M : Nat) (hj : j < N) (hr : r < M) : j * M + r < N * M := by
  have h1 : (j + 1) * M ≤ N * M := Nat.mul_le_mul_right M hj
  rw [Nat.add_mul] at h1
  omega

theorem product4_getElem? {α β γ δ : Type} (as : List α) (bs : List β) (cs : List γ)
    (ds : List δ) (i j k l : Nat) (hi : i < as.length) (hj : j < bs.length)
    (hk : k < cs.length) (hl : l < ds.length) :
    (product4 as bs cs ds)[((i * bs.length + j) * cs.length + k) * ds.length + l]? =
      some (as[i], bs[j], cs[k], ds[l]) := by
  have hH : ∀ (a : α) (b : β) (c : γ), (ds.map fun d => (a, b, c, d)).length = ds.length := by
    intros; simp
  have hG : ∀ (a : α) (b : β),
      (cs.flatMap fun c => ds.map fun d => (a, b, c, d)).length = cs.length * ds.length := by
    intro a b; exact length_flatMap_uniform _ _ cs (fun c _ => hH a b c)
  have hF : ∀ (a : α), (bs.flatMap fun b => cs.flatMap fun c => ds.map fun d => (a, b, c, d)).length
      = bs.length * (cs.length * ds.length) := by
    intro a; exact length_flatMap_uniform _ _ bs (fun b _ => hG a b)
  have e : ((i * bs.length + j) * cs.length + k) * ds.length + l =
      i * (bs.length * (cs.length * ds.length)) + (j * (cs.length * ds.length) + (k * ds.length + l)) := by
    simp only [Nat.add_mul, Nat.mul_assoc, Nat.add_assoc]
  have h3 : k * ds.length + l < cs.length * ds.length := idx_lt k l _ _ hk hl
  have h2 : j * (cs.length * ds.length) + (k * ds.length + l) < bs.length * (cs.length * ds.length) :=
    idx_lt j _ _ _ hj h3
  unfold product4
  rw [e, getElem?_flatMap_uniform _ _ as (fun a _ => hF a) i _ hi h2,
    getElem?_flatMap_uniform _ _ bs (fun b _ => hG as[i] b) j _ hj h3,
    getElem?_flatMap_uniform _ _ cs (fun c _ => hH as[i] bs[j] c) k l hk hl]
  simp [hl]

/-- instantiating two axes pointwise commutes with the product -/
theorem product4_forall₂ {α α' β β' γ δ : Type} (P : α → α' → Prop) (Q : β → β' → Prop)
    (cs : List γ) (ds : List δ) :
    ∀ (as : List α) (as' : List α'), List.Forall₂ P as as' →
    ∀ (bs : List β) (bs' : List β'), List.Forall₂ Q bs bs' →
    List.Forall₂ (fun t t' => P t.1 t'.1 ∧ Q t.2.1 t'.2.1 ∧ t.2.2 = t'.2.2)
      (product4 as bs cs ds) (product4 as' bs' cs ds) :=
  fun _ _ ha _ _ hb =>
    List.rel_flatMap ha fun _ _ hp => List.rel_flatMap hb fun _ _ hq =>
      List.rel_flatMap (List.forall₂_refl (Rₐ := Eq) cs) fun _ _ hc =>
        List.rel_map (fun _ _ hd => ⟨hp, hq, by rw [hc, hd]⟩) (List.forall₂_refl (Rₐ := Eq) ds)

theorem forall₂_getElem? {α β : Type} {R : α → β → Prop} :
    ∀ {l : List α} {l' : List β}, List.Forall₂ R l l' → ∀ {i : Nat} {a : α}, l[i]? = some a →
      ∃ b, l'[i]? = some b ∧ R a b
  | _, _, .cons h _, 0, _, e => ⟨_, rfl, by cases e; exact h⟩
  | _, _, .cons _ t, _ + 1, _, e => forall₂_getElem? t e

theorem forall₂_getElem?_right {α β : Type} {R : α → β → Prop} {l : List α} {l' : List β}
    (h : List.Forall₂ R l l') {i : Nat} {b : β} (e : l'[i]? = some b) :
    ∃ a, l[i]? = some a ∧ R a b :=
  forall₂_getElem? (R := flip R) (List.Forall₂.flip (R := flip R) h) e

theorem mapE_ok_iff {α β : Type} (f : α → Except Err β) :
    ∀ (l : List α) (r : List β), mapE f l = .ok r ↔ List.Forall₂ (fun a b => f a = .ok b) l r
  | [], r => by simp [mapE, eq_comm]
  | a :: l, r => by
    rw [List.forall₂_cons_left_iff]
    simp only [mapE, ← mapE_ok_iff f l]
    cases f a with
    | error e => simp
    | ok b =>
      cases mapE f l with
      | error e => simp
      | ok bs => simp [eq_comm]

theorem mapE_length {α β : Type} (f : α → Except Err β) (l : List α) (r : List β)
    (h : mapE f l = .ok r) : r.length = l.length :=
  ((mapE_ok_iff f l r).mp h).length_eq.symm

end Panqec.Spec
