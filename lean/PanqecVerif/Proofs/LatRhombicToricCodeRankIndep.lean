/-
RhombicToricCode lattice model, rank clause for every even size `≥ 2`: the probes and ranks of
`Proofs/LatRhombicToricCodeRankProbes.lean` form a triangular family (`Lat2D.TriangularProbes`) on the
selected generators, which are therefore independent.  The cube part of the off-diagonal clause is
here, the triangle part in `Proofs/LatRhombicToricCodeRankOrder.lean`.
-/
import PanqecVerif.Proofs.LatRhombicToricCodeRankOrder
open Panqec Panqec.Lat3Db Panqec.Rhombic
open Panqec.XCubeCode (up dn up_spec dn_spec)
namespace Panqec.RhombicToricCode

/-- the rank key of the row of a cube: the rows `y = 1` and `y = 3` count as one -/
def yk (y : Int) : Int := if y ≤ 3 then 0 else y

theorem yk_spec (y : Int) : (y ≤ 3 ∧ yk y = 0) ∨ (3 < y ∧ yk y = y) := by
  unfold yk; split <;> omega

theorem cube_mu_lex {Lx Ly Lz : Nat} {x y z u v w : Int} (hx : 0 ≤ x ∧ x < 2*(Lx:Int))
    (hy : 0 ≤ y ∧ y < 2*(Ly:Int)) (hz : 0 ≤ z) (hu : 0 ≤ u ∧ u < 2*(Lx:Int)) (hv : 0 ≤ v ∧ v < 2*(Ly:Int))
    (hw : 0 ≤ w) (hle : mu Lx Ly Lz [x, y, z] ≤ mu Lx Ly Lz [u, v, w]) :
    z < w ∨ (z = w ∧ (yk y < yk v ∨ (yk y = yk v ∧ x ≤ u))) := by
  have key : ∀ t : Int, (if t ≤ 3 then 0 else t.toNat) = (yk t).toNat := fun t => by
    unfold yk; split <;> rfl
  simp only [mu, key] at hle
  have ky := yk_spec y
  have kv := yk_spec v
  have := lex3 (A := 2*Ly+1) (B := 2*Lx+1) (by omega) (by omega) (by omega) (by omega) hle
  clear hle
  omega

/-! a cube that holds an edge agrees with it in the direction of the edge and is next to it in the two
others -/

theorem A_cases {P : Nat} {c v : Int} (h : A P c v) : c = v + 1 ∨ c = v - 1 ∨ (v = 0 ∧ c + 1 = P) := by
  have := up_spec P c
  unfold A at h
  omega

theorem xedge_cube {Lx Ly Lz : Nat} {p q r u v w : Int} (hp : p % 2 = 1) (hu : u % 2 = 1)
    (h : [p, q, r] ∈ cubeKeys Lx Ly Lz u v w) : p = u ∧ A (2*Ly) v q ∧ A (2*Lz) w r := by
  rcases (mem_cubeLocs ..).mp (List.mem_filter.mp h).1 with ⟨-, h, -⟩ | ⟨-, h, -⟩ | h
  · have := A_cases h; omega
  · have := A_cases h; omega
  · exact h

theorem zedge_cube {Lx Ly Lz : Nat} {p q r u v w : Int} (hr : r % 2 = 1) (hw : w % 2 = 1)
    (h : [p, q, r] ∈ cubeKeys Lx Ly Lz u v w) : r = w ∧ A (2*Lx) u p ∧ A (2*Ly) v q := by
  rcases (mem_cubeLocs ..).mp (List.mem_filter.mp h).1 with h | ⟨-, -, h⟩ | ⟨-, -, h⟩
  · exact h
  · have := A_cases h; omega
  · have := A_cases h; omega

/-- two odd coordinates next to the same even one that agree modulo 4 are equal (`4 ∣ P`: also
    across the boundary) -/
theorem A_inj_mod4 {P : Nat} (hP : P % 4 = 0) {c c' q : Int} (h : A P c q) (h' : A P c' q)
    (hc : 1 ≤ c) (hc' : 1 ≤ c') (hm : (c - c') % 4 = 0) : c = c' := by
  have := A_cases h
  have := A_cases h'
  omega

/-- the only other coloured cube on the probe edge lies diagonally below it (`z ≥ 3`), in a lower row
    (`y ≥ 5`), to the left in the double row `y ≤ 3`, or is the left-out cube `(3, 1, 1)` -/
theorem later_cube_cube {Lx Ly Lz : Nat} (hex : Lx % 2 = 0)
    (hey : Ly % 2 = 0) {x y z u v w : Int} (hs : CK Lx Ly Lz x y z) (ht : CK Lx Ly Lz u v w)
    (hne : ¬ (x = u ∧ y = v ∧ z = w)) (hle : mu Lx Ly Lz [x, y, z] ≤ mu Lx Ly Lz [u, v, w])
    (hmem : (probe Lx Ly Lz [x, y, z]).1 ∈ cubeKeys Lx Ly Lz u v w) : False := by
  obtain ⟨⟨hx, hy, hz, hp⟩, -⟩ := hs
  obtain ⟨⟨hu, hv, hw, hp'⟩, hu3⟩ := ht
  unfold R1 at hx hy hz hu hv hw
  have hlex := cube_mu_lex (by omega) (by omega) (by omega) (by omega) (by omega) (by omega) hle
  clear hle
  simp only [probe] at hmem
  by_cases h3 : 3 ≤ z
  · rw [if_pos h3] at hmem
    obtain ⟨rfl, hv', hw'⟩ := xedge_cube hx.1 hu.1 hmem
    have hzw : z = w := by
      have := A_cases hw'
      clear hmem hv' hw' hp hp' hne hu3 hx hy hu hv
      omega
    subst hzw
    have hyv := A_inj_mod4 (by omega) hv' (Or.inr rfl) hv.2.1 hy.2.1 (by clear hlex hmem hv' hw' hne hu3; omega)
    exact hne ⟨rfl, hyv.symm, rfl⟩
  · rw [if_neg h3] at hmem
    have hz1 : z = 1 := by clear hlex hmem hp hp' hne hu3; omega
    subst hz1
    by_cases h5 : 5 ≤ y
    · rw [if_pos h5] at hmem
      obtain ⟨rfl, hu', hv'⟩ := zedge_cube (by decide) hw.1 hmem
      have hyv : y = v := by
        have := A_cases hv'
        have := yk_spec y
        have := yk_spec v
        clear hmem hu' hv' hp hp' hne hu3 hx hu hz hw h3
        omega
      subst hyv
      have hxu := A_inj_mod4 (by omega) hu' (Or.inr rfl) hu.2.1 hx.2.1 (by clear hlex hmem hu' hv' hne hu3; omega)
      exact hne ⟨hxu.symm, rfl, rfl⟩
    · rw [if_neg h5] at hmem
      by_cases h31 : y = 3 ∧ x = 1
      · rw [if_pos h31] at hmem
        obtain ⟨rfl, hu', hv'⟩ := zedge_cube (by decide) hw.1 hmem
        have := A_cases hu'
        have := A_cases hv'
        clear hlex hmem hu' hv' hp hx hy hz h3 h5
        omega
      · rw [if_neg h31] at hmem
        obtain ⟨rfl, hu', hv'⟩ := zedge_cube (by decide) hw.1 hmem
        have hxu : x = u := by
          have := A_cases hu'
          have := A_cases hv'
          have := yk_spec y
          have := yk_spec v
          clear hmem hu' hv' hne hu3 hz hw h3 hp'
          omega
        subst hxu
        have := A_cases hv'
        clear hlex hmem hu' hv' hu3 hz hw h3 hu hx
        omega

theorem later_core {Lx Ly Lz : Nat} (hLx : 2 ≤ Lx) (hLz : 2 ≤ Lz) (hex : Lx % 2 = 0)
    (hey : Ly % 2 = 0) (hez : Lz % 2 = 0) {s t : Coord} (hs : Kind Lx Ly Lz s)
    (ht : Kind Lx Ly Lz t) (hne : s ≠ t) (hle : mu Lx Ly Lz s ≤ mu Lx Ly Lz t) :
    ¬ (Pauli.anti (probe Lx Ly Lz s).2 (letterOf t) = true ∧
      (probe Lx Ly Lz s).1 ∈ keysOf Lx Ly Lz t) := by
  rintro ⟨hanti, hmem⟩
  rcases hs with ⟨x, y, z, rfl, hs⟩ | ⟨a, x, y, z, rfl, hs⟩ <;>
  rcases ht with ⟨u, v, w, rfl, ht⟩ | ⟨b, u, v, w, rfl, ht⟩
  · have hne' : ¬ (x = u ∧ y = v ∧ z = w) := by
      rintro ⟨rfl, rfl, rfl⟩; exact hne rfl
    exact later_cube_cube hex hey hs ht hne' hle hmem
  · rw [probe_snd3] at hanti; simp [letterOf, Pauli.anti] at hanti
  · rw [probe_snd4] at hanti; simp [letterOf, Pauli.anti] at hanti
  · have hne' : ¬ (a = b ∧ x = u ∧ y = v ∧ z = w) := by
      rintro ⟨rfl, rfl, rfl, rfl⟩; exact hne rfl
    exact later_tri_tri hLx hLz hex hez hs ht hne' hle hmem

theorem triangular (Lx Ly Lz : Nat) (hLx : 2 ≤ Lx) (hLy : 2 ≤ Ly) (hLz : 2 ≤ Lz) (hex : Lx % 2 = 0)
    (hey : Ly % 2 = 0) (hez : Lz % 2 = 0) :
    Lat2D.TriangularProbes (lattice Lx Ly Lz) (selStabs Lx Ly Lz) (probe Lx Ly Lz) (mu Lx Ly Lz) :=
  .of_keys (keysOf Lx Ly Lz) letterOf
    (fun _ hs => getStab_eq hLx hLy hLz (mem_selStabs_cases hLx hLy hLz hs))
    (fun _ hs => keysOf_qubits (mem_selStabs_cases hLx hLy hLz hs))
    (fun _ hs => probe_diag hLx hLy hex (mem_selStabs_cases hLx hLy hLz hs))
    (fun _ hs _ ht => later_core hLx hLz hex hey hez (mem_selStabs_cases hLx hLy hLz hs)
      (mem_selStabs_cases hLx hLy hLz ht))

theorem indep_sel (Lx Ly Lz : Nat) (hLx : 2 ≤ Lx) (hLy : 2 ≤ Ly) (hLz : 2 ≤ Lz) (hex : Lx % 2 = 0)
    (hey : Ly % 2 = 0) (hez : Lz % 2 = 0) :
    Lat2D.IndepGenerators (lattice Lx Ly Lz) (selStabs Lx Ly Lz) :=
  Lat2D.indep_of_triangular (triangular Lx Ly Lz hLx hLy hLz hex hey hez)

end Panqec.RhombicToricCode
