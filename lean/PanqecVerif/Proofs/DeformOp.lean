/-
C08: relabelling an operator dict entry by entry (`deformOp`, what
the wrappers installed by `StabilizerCode.deform` do) is the relabelling `deformBsf` of its
BSF vector; hence the matrices of a deformed `CodeData`; and `apply_deformation` of
`bpauli.py` is the Hadamard relabelling on the flagged qubits.  Core Lean only.
-/
import PanqecVerif.Proofs.Deform
import PanqecVerif.Proofs.DictRow

namespace Panqec.Deform

open Panqec

theorem keys_deformOp (D : Coord → PauliMap) (op : Op) :
    (deformOp D op).map Prod.fst = op.map Prod.fst := by
  simp [deformOp, List.map_map, Function.comp_def]

theorem keysNodup_deformOp (D : Coord → PauliMap) (op : Op) (h : KeysNodup op) :
    KeysNodup (deformOp D op) := by
  unfold KeysNodup; rw [keys_deformOp]; exact h

theorem opSupported_deformOp (qs : List Coord) (D : Coord → PauliMap) (op : Op) :
    opSupported qs (deformOp D op) = opSupported qs op := by
  simp [opSupported, deformOp, List.all_map, Function.comp_def]

theorem letterAt_cons (e : Coord × Pauli) (op : Op) (q : Coord) :
    letterAt (e :: op) q = if e.1 = q then e.2 else letterAt op q := by
  by_cases h : e.1 = q <;> simp [letterAt, h]

theorem deformOp_cons (D : Coord → PauliMap) (e : Coord × Pauli) (op : Op) :
    deformOp D (e :: op) = (e.1, (D e.1).apply e.2) :: deformOp D op := rfl

theorem letterAt_deformOp (D : Coord → PauliMap) : ∀ (op : Op) (q : Coord),
    letterAt (deformOp D op) q = (D q).apply (letterAt op q)
  | [], q => by simp [letterAt, deformOp, PauliMap.apply]
  | e :: op, q => by
    have ih := letterAt_deformOp D op q
    rw [deformOp_cons, letterAt_cons, letterAt_cons]
    by_cases heq : e.1 = q
    · simp [heq]
    · simp [heq, ih]

theorem applyAll_map_map (D : Coord → PauliMap) (g : Coord → Pauli) : ∀ qs : List Coord,
    applyAll (qs.map D) (qs.map g) = qs.map fun q => (D q).apply (g q)
  | [] => by simp
  | q :: qs => by simp [applyAll_map_map D g qs]

/-- the strong form: distinct dict keys are all that is needed -/
theorem toBsf_deformOp_of_keysNodup (qs : List Coord) (op : Op) (D : Coord → PauliMap)
    (hk : KeysNodup op) :
    toBsf qs (deformOp D op) = (toBsf qs op).map (deformBsf (qs.map D)) := by
  rw [toBsf_eq_pauliToBsf qs _ (keysNodup_deformOp D op hk), toBsf_eq_pauliToBsf qs op hk,
    opSupported_deformOp]
  split
  · simp only [Option.map_some, deformBsf_eq, bsfToPauli_pauliToBsf, applyAll_map_map]
    congr 2
    exact List.map_congr_left fun q _ => letterAt_deformOp D op q
  · rfl

/-- relabelling the dict = relabelling the vector; of the hypotheses only `KeysNodup` is used -/
theorem toBsf_deformOp (qs : List Coord) (op : Op) (D : Coord → PauliMap)
    (_ : qs.Nodup) (hk : KeysNodup op) (_ : NoIdentity op) (_ : ∀ q, (D q).isPerm = true) :
    toBsf qs (deformOp D op) = (toBsf qs op).map (deformBsf (qs.map D)) :=
  toBsf_deformOp_of_keysNodup qs op D hk

theorem mapM_map_deform (g : Op → Option (List Nat)) (f : List Nat → List Nat)
    (D : Coord → PauliMap) : ∀ ops : List Op,
    (∀ op ∈ ops, g (deformOp D op) = (g op).map f) →
    (ops.map (deformOp D)).mapM g = (ops.mapM g).map (List.map f)
  | [], _ => by simp
  | op :: ops, h => by
    have ih := mapM_map_deform g f D ops (fun o ho => h o (by simp [ho]))
    simp only [List.map_cons, List.mapM_cons, ih, h op (by simp)]
    cases g op <;> cases List.mapM g ops <;> simp

/-- `stabilizer_matrix` of the deformed getters = rows of the undeformed matrix relabelled -/
theorem stabilizerMatrix_deform (c : CodeData) (D : Coord → PauliMap)
    (hk : ∀ op ∈ c.stabOps, KeysNodup op) :
    stabilizerMatrix (c.deform D) =
      (stabilizerMatrix c).map (List.map (deformBsf (c.qubits.map D))) := by
  unfold stabilizerMatrix
  refine mapM_map_deform _ _ D c.stabOps fun op ho => ?_
  rw [stabRow_eq_toBsf _ _ (keysNodup_deformOp D op (hk op ho)), stabRow_eq_toBsf _ op (hk op ho)]
  exact toBsf_deformOp_of_keysNodup c.qubits op D (hk op ho)

theorem logicalsX_deform (c : CodeData) (D : Coord → PauliMap)
    (hk : ∀ op ∈ c.logX, KeysNodup op) :
    logicalsX (c.deform D) = (logicalsX c).map (List.map (deformBsf (c.qubits.map D))) := by
  unfold logicalsX
  exact mapM_map_deform _ _ D c.logX fun op ho =>
    toBsf_deformOp_of_keysNodup c.qubits op D (hk op ho)

theorem logicalsZ_deform (c : CodeData) (D : Coord → PauliMap)
    (hk : ∀ op ∈ c.logZ, KeysNodup op) :
    logicalsZ (c.deform D) = (logicalsZ c).map (List.map (deformBsf (c.qubits.map D))) := by
  unfold logicalsZ
  exact mapM_map_deform _ _ D c.logZ fun op ho =>
    toBsf_deformOp_of_keysNodup c.qubits op D (hk op ho)

/-- the relabelling `apply_deformation(indices, ·)` performs on each qubit -/
def hadamardMaps (flags : List Bool) : List PauliMap :=
  flags.map fun f => if f then PauliMap.swapXZ else PauliMap.id

theorem hadamardMaps_isPerm (flags : List Bool) : ∀ D ∈ hadamardMaps flags, D.isPerm = true :=
  List.forall_mem_map.mpr fun f _ => by cases f <;> decide

theorem hadamard_bits (f : Bool) (x z : Nat) (hx : x < 2) (hz : z < 2) :
    ((if f then PauliMap.swapXZ else PauliMap.id).apply (Pauli.ofBits x z)).xBit
        = (if f then z else x) ∧
    ((if f then PauliMap.swapXZ else PauliMap.id).apply (Pauli.ofBits x z)).zBit
        = (if f then x else z) := by
  have hx' : x = 0 ∨ x = 1 := by omega
  have hz' : z = 0 ∨ z = 1 := by omega
  rcases hx' with rfl | rfl <;> rcases hz' with rfl | rfl <;> cases f <;> decide

theorem applyAll_hadamard_bits : ∀ (flags : List Bool) (xs zs : List Nat),
    xs.length = flags.length → zs.length = flags.length →
    (∀ x ∈ xs, x < 2) → (∀ z ∈ zs, z < 2) →
    (applyAll (hadamardMaps flags) (List.zipWith Pauli.ofBits xs zs)).map Pauli.xBit =
      List.zipWith (fun f (p : Nat × Nat) => if f then p.2 else p.1) flags (xs.zip zs) ∧
    (applyAll (hadamardMaps flags) (List.zipWith Pauli.ofBits xs zs)).map Pauli.zBit =
      List.zipWith (fun f (p : Nat × Nat) => if f then p.1 else p.2) flags (xs.zip zs)
  | [], xs, zs, _, _, _, _ => by simp [hadamardMaps]
  | f :: flags, [], _, h, _, _, _ => by simp at h
  | f :: flags, _ :: _, [], _, h, _, _ => by simp at h
  | f :: flags, x :: xs, z :: zs, h1, h2, hx, hz => by
    simp at h1 h2
    have ih := applyAll_hadamard_bits flags xs zs h1 h2
      (fun a ha => hx a (by simp [ha])) (fun a ha => hz a (by simp [ha]))
    have hb := hadamard_bits f x z (hx x (by simp)) (hz z (by simp))
    simp only [hadamardMaps] at ih ⊢
    simp only [List.map_cons, List.zipWith_cons_cons, List.zip_cons_cons, applyAll_cons,
      ih.1, ih.2, hb.1, hb.2, and_self]

/-- `apply_deformation` is the Hadamard relabelling on the index set -/
theorem applyDeformation_eq (flags : List Bool) (v : List Nat)
    (hv : v.length = 2 * flags.length) (hb : ∀ x ∈ v, x < 2) :
    applyDeformation flags v = some (deformBsf (hadamardMaps flags) v) := by
  have hx : xPart v = v.take flags.length := by unfold xPart; rw [hv]; congr 1; omega
  have hz : zPart v = v.drop flags.length := by unfold zPart; rw [hv]; congr 1; omega
  have h := applyAll_hadamard_bits flags (v.take flags.length) (v.drop flags.length)
    (by simp; omega) (by simp; omega)
    (fun a ha => hb a (List.mem_of_mem_take ha)) (fun a ha => hb a (List.mem_of_mem_drop ha))
  unfold applyDeformation
  simp only [hv, ne_eq, not_true_eq_false, if_false]
  rw [deformBsf_eq, pauliToBsf, bsfToPauli, hx, hz, h.1, h.2]

/-- the error case: `ValueError` exactly when the length is not `2 * len(indices)` -/
theorem applyDeformation_eq_none_iff (flags : List Bool) (v : List Nat) :
    applyDeformation flags v = none ↔ v.length ≠ 2 * flags.length := by
  unfold applyDeformation
  by_cases h : v.length = 2 * flags.length <;> simp [h]

end Panqec.Deform
