/-
HollowPlanar3DCode, all sizes, C17: the weights of the listed logicals and the reported
distance `min Lx wZ`; every cross-section of existing x edges is a non-trivial logical operator (the
one at `x = 3` of weight `wZ`); the true distance `min Lx wZ`; regression: the logical Z before the
repair of `get_logicals_z` (the full end plane `x = 1`, `oldLattice`) had weight `Ly·Lz`, so that
`code.d` was `min Lx (Ly·Lz)`.
-/
import PanqecVerif.Proofs.DistHollowPlanar3DCodeLowerBound
import PanqecVerif.Proofs.Dist
import PanqecVerif.Proofs.DistPlanar2DCodeShared

namespace Panqec.HollowPlanar3DCode
open Panqec.Cubic3D Panqec.Lat2D
open Panqec.Planar3DCode (inE inO inE2 inO1 lxK lzK lineX planeX lzK_nodup)

variable {Lx Ly Lz : Nat}

/-- the row of `logicals_x` has weight `Lx` (a line), the row of `logicals_z` weight `wZ` (the
    existing x edges of the cross-section `x = 3` when `Lx ≥ 3`, the full plane `x = 1` otherwise) -/
theorem weights_listed (hwf : (lattice Lx Ly Lz).WF) :
    (lattice Lx Ly Lz).rowsX.map pauliWeight = [Lx] ∧
    (lattice Lx Ly Lz).rowsZ.map pauliWeight = [wZ Lx Ly Lz] := by
  have h := weights_of_lines (lattice Lx Ly Lz) hwf (kX := lxK Lx)
    (kZ := crossX Lx Ly Lz (zIdx Lx)) (by rw [lattice_logX, logX_eq]; rfl)
    (by rw [lattice_logZ, logZ_eq]; rfl)
  rwa [length_crossX_zIdx, lxK, List.length_map, length_rangeO1] at h

/-- `code.d` (minimum weight of the listed logicals) is `min Lx wZ` -/
theorem reported_distance (hwf : (lattice Lx Ly Lz).WF) :
    distance (lattice Lx Ly Lz).rowsX (lattice Lx Ly Lz).rowsZ = some (min Lx (wZ Lx Ly Lz)) :=
  distance_of_weights (weights_listed hwf).1 (weights_listed hwf).2 rfl rfl

/-! ### regression: the logical Z before the repair (the full end plane `x = 1`) -/

/-- the generators are not affected by the repair of `get_logicals_z` -/
theorem oldLattice_rowsH (Lx Ly Lz : Nat) :
    (oldLattice Lx Ly Lz).rowsH = (lattice Lx Ly Lz).rowsH := rfl

theorem oldLattice_rowsX (Lx Ly Lz : Nat) :
    (oldLattice Lx Ly Lz).rowsX = (lattice Lx Ly Lz).rowsX := rfl

/-- before the repair the row of `logicals_z` had weight `Ly·Lz` (the full plane `x = 1`) -/
theorem old_weights_listed (hwf : (lattice Lx Ly Lz).WF) (hLx : 1 ≤ Lx) :
    (oldLattice Lx Ly Lz).rowsX.map pauliWeight = [Lx] ∧
    (oldLattice Lx Ly Lz).rowsZ.map pauliWeight = [Ly * Lz] := by
  refine ⟨by rw [oldLattice_rowsX]; exact (weights_listed hwf).1, ?_⟩
  unfold Lattice.rowsZ
  rw [oldLattice_logZ, oldLattice_qubits, oldLogZ_eq]
  simp only [List.map_cons, List.map_nil]
  rw [pauliWeight_opRow _ (qubits_nodup Lx Ly Lz) _ (keysNodup_uop Pauli.Z (lzK_nodup Ly Lz))
    (fun e he => by
      rw [mem_uop] at he
      exact ⟨lzK_sub hLx _ he.1, by rw [he.2]; decide⟩), uop_length]
  simp only [lzK, length_grid2, length_rangeE]

/-- before the repair `code.d` was `min Lx (Ly·Lz)` -/
theorem old_reported_distance (hwf : (lattice Lx Ly Lz).WF) (hLx : 1 ≤ Lx) :
    distance (oldLattice Lx Ly Lz).rowsX (oldLattice Lx Ly Lz).rowsZ =
      some (min Lx (Ly * Lz)) :=
  distance_of_weights (old_weights_listed hwf hLx).1 (old_weights_listed hwf hLx).2 rfl rfl

theorem commStabs_stab (hcp : (lattice Lx Ly Lz).CommPair)
    {s : Coord} (hs : s ∈ (lattice Lx Ly Lz).stabs) :
    CommStabs Lx Ly Lz ((lattice Lx Ly Lz).getStab s) := fun t ht =>
  (opCommute_iff _ _).mp (hcp.stab_comm t ht s hs)

theorem commStabs_logX (hwf : (lattice Lx Ly Lz).WF) (hcp : (lattice Lx Ly Lz).CommPair) :
    CommStabs Lx Ly Lz (uop (lxK Lx) Pauli.X) := by
  intro t ht
  have ha : uop (lxK Lx) Pauli.X ∈ (lattice Lx Ly Lz).logX := by
    rw [lattice_logX, logX_eq]; simp
  have h := (opCommute_iff _ _).mp (hcp.logX_comm _ ha t ht)
  rw [opAntiCount_comm_mod2 (hwf.stab_keys t ht)
    (hwf.log_keys _ (List.mem_append_left _ ha))]
  exact h

/-- the cross-section `x = 2i + 1` of the existing x edges, as a Z operator, is a non-trivial
    logical operator: it has the parities of `Z̄` against everything that commutes with the
    generators -/
theorem cross_nontrivial (hwf : (lattice Lx Ly Lz).WF) (hcp : (lattice Lx Ly Lz).CommPair)
    {n : Nat} (hn : (qubits Lx Ly Lz).length = n)
    (hv : ValidCodeL n 1 (lattice Lx Ly Lz).rowsH (lattice Lx Ly Lz).rowsX
      (lattice Lx Ly Lz).rowsZ) {i : Nat} (hi : i < Lx) :
    IsNontrivialLogical n (lattice Lx Ly Lz).rowsH
      (opRow (lattice Lx Ly Lz).qubits (uop (crossX Lx Ly Lz i) Pauli.Z)) := by
  have hk : KeysNodup (uop (crossX Lx Ly Lz i) Pauli.Z) := keysNodup_line Pauli.Z (crossX_nodup i)
  have hsup : opSupported (lattice Lx Ly Lz).qubits (uop (crossX Lx Ly Lz i) Pauli.Z) = true := by
    rw [lattice_qubits]; exact opSupported_line Pauli.Z (crossX_sub hi)
  have hz : uop (crossX Lx Ly Lz (zIdx Lx)) Pauli.Z ∈ (lattice Lx Ly Lz).logZ := by
    rw [lattice_logZ, logZ_eq]; simp
  have hx : uop (lxK Lx) Pauli.X ∈ (lattice Lx Ly Lz).logX := by
    rw [lattice_logX, logX_eq]; simp
  -- parities of the cross-section = parities of `Z̄`
  have key : ∀ b : Op, CommStabs Lx Ly Lz b →
      opAntiCount (uop (crossX Lx Ly Lz i) Pauli.Z) b % 2 =
        opAntiCount (uop (crossX Lx Ly Lz (zIdx Lx)) Pauli.Z) b % 2 := by
    intro b hb
    rw [opAntiCount_uop_hit, opAntiCount_uop_hit, parity_Z hb i hi,
      parity_Z hb (zIdx Lx) (zIdx_lt (by omega))]
  refine ⟨by rw [opRow_length, lattice_qubits, hn], opRow_binary _ _, ?_, ?_⟩
  · intro g hg
    unfold Lattice.rowsH at hg
    obtain ⟨a, ha, rfl⟩ := List.mem_map.mp hg
    obtain ⟨s, hs, rfl⟩ := List.mem_map.mp ha
    rw [symp_comm, symp_opRow _ hwf.qubits_nodup _ _ hk hsup, key _ (commStabs_stab hcp hs)]
    exact (opCommute_iff _ _).mp (hcp.logZ_comm _ hz s hs)
  · intro hspan
    have hlen : (opRow (lattice Lx Ly Lz).qubits (uop (crossX Lx Ly Lz i) Pauli.Z)).length = 2 * n := by
      rw [opRow_length, lattice_qubits, hn]
    have hs := (isSuccess_iff_inSpan hv .wide _ hlen (opRow_binary _ _)).mpr hspan
    unfold isSuccess at hs
    rw [Bool.and_eq_true, Bool.not_eq_true', isLogicalError_eq_false_iff] at hs
    have h0 := hs.2.2 (opRow (lattice Lx Ly Lz).qubits (uop (lxK Lx) Pauli.X))
      (by unfold Lattice.rowsX; exact List.mem_map.mpr ⟨_, hx, rfl⟩)
    rw [symp_comm, symp_opRow _ hwf.qubits_nodup _ _ hk hsup, key _ (commStabs_logX hwf hcp)] at h0
    have h1 := hcp.pairing 0 0 (by rw [lattice_logX, logX_eq]; simp)
      (by rw [lattice_logZ, logZ_eq]; simp)
    rw [lattice_logX, lattice_logZ, logX_eq, logZ_eq] at h1
    simp only [List.getD_cons_zero, if_true] at h1
    rw [opAntiCount_comm_mod2 (hwf.log_keys _ (List.mem_append_left _ hx))
      (hwf.log_keys _ (List.mem_append_right _ hz))] at h1
    omega

theorem cross_weight (hwf : (lattice Lx Ly Lz).WF) {i : Nat} (hi : i < Lx) :
    pauliWeight (opRow (lattice Lx Ly Lz).qubits (uop (crossX Lx Ly Lz i) Pauli.Z)) =
      (crossX Lx Ly Lz i).length := by
  have hk : KeysNodup (uop (crossX Lx Ly Lz i) Pauli.Z) := keysNodup_line Pauli.Z (crossX_nodup i)
  rw [pauliWeight_opRow _ hwf.qubits_nodup _ hk, uop_length]
  intro e he
  rw [mem_uop] at he
  rw [lattice_qubits]
  exact ⟨crossX_sub hi _ he.1, by rw [he.2]; decide⟩

/-- **the true distance**, every size: `min Lx wZ` -/
theorem true_distance (hwf : (lattice Lx Ly Lz).WF)
    {n : Nat} (hn : (qubits Lx Ly Lz).length = n)
    (hv : ValidCodeL n 1 (lattice Lx Ly Lz).rowsH (lattice Lx Ly Lz).rowsX
      (lattice Lx Ly Lz).rowsZ) :
    IsDistance n (lattice Lx Ly Lz).rowsH (min Lx (wZ Lx Ly Lz)) := by
  refine ⟨?_, lower_bound hwf hn hv⟩
  obtain ⟨w1, w2⟩ := weights_listed hwf
  by_cases hle : Lx ≤ wZ Lx Ly Lz
  · -- the listed X line
    rw [Nat.min_eq_left hle]
    have hx : opRow (lattice Lx Ly Lz).qubits (uop (lxK Lx) Pauli.X) ∈ (lattice Lx Ly Lz).rowsX := by
      unfold Lattice.rowsX; rw [lattice_logX, logX_eq]; simp
    refine ⟨_, listedX_nontrivial hv hx, ?_⟩
    unfold Lattice.rowsX at w1
    rw [lattice_logX, logX_eq] at w1
    simpa using w1
  · -- the listed Z membrane
    rw [Nat.min_eq_right (by omega)]
    have hz : opRow (lattice Lx Ly Lz).qubits (uop (crossX Lx Ly Lz (zIdx Lx)) Pauli.Z) ∈
        (lattice Lx Ly Lz).rowsZ := by
      unfold Lattice.rowsZ; rw [lattice_logZ, logZ_eq]; simp
    refine ⟨_, listedZ_nontrivial hv hz, ?_⟩
    unfold Lattice.rowsZ at w2
    rw [lattice_logZ, logZ_eq] at w2
    simpa using w2

end Panqec.HollowPlanar3DCode
