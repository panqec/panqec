/-
Straight lines of qubits on a 2-D lattice as key lists (`colKeys`, `rowKeys`): membership,
distinctness, length, disjointness of parallel lines.  The classes state the key lists of their
logical operators through them; the distance proofs (`DistLines`) count hits along them.
-/
import Mathlib.Data.List.Nodup
import PanqecVerif.Proofs.DistLadder

namespace Panqec.Lat2D

/-- the vertical line at `x = u`, positions `y = 2j + p` -/
def colKeys (u : Int) (p L : Nat) : List Coord :=
  (List.range L).map (fun j => [u, ((2 * j + p : Nat) : Int)])
/-- the horizontal line at `y = u`, positions `x = 2j + p` -/
def rowKeys (u : Int) (p L : Nat) : List Coord :=
  (List.range L).map (fun j => [((2 * j + p : Nat) : Int), u])

theorem mem_colKeys {u : Int} {p L : Nat} {q : Coord} :
    q ∈ colKeys u p L ↔ ∃ j, j < L ∧ q = [u, ((2 * j + p : Nat) : Int)] := by
  simp only [colKeys, List.mem_map, List.mem_range]
  exact exists_congr fun j => and_congr_right fun _ => eq_comm
theorem mem_rowKeys {u : Int} {p L : Nat} {q : Coord} :
    q ∈ rowKeys u p L ↔ ∃ j, j < L ∧ q = [((2 * j + p : Nat) : Int), u] := by
  simp only [rowKeys, List.mem_map, List.mem_range]
  exact exists_congr fun j => and_congr_right fun _ => eq_comm

theorem nodup_colKeys (u : Int) (p L : Nat) : (colKeys u p L).Nodup :=
  List.nodup_range.map fun j j' h => by
    simp only [List.cons.injEq, and_true, true_and] at h
    omega
theorem nodup_rowKeys (u : Int) (p L : Nat) : (rowKeys u p L).Nodup :=
  List.nodup_range.map fun j j' h => by
    simp only [List.cons.injEq, and_true] at h
    omega

theorem length_colKeys (u : Int) (p L : Nat) : (colKeys u p L).length = L := by
  simp [colKeys]
theorem length_rowKeys (u : Int) (p L : Nat) : (rowKeys u p L).length = L := by
  simp [rowKeys]

theorem colKeys_disjoint (p L : Nat) (c : Int) (i i' : Nat) (h : i < i') :
    ∀ q ∈ colKeys (2 * i + c) p L, q ∉ colKeys (2 * i' + c) p L := by
  intro q hq hq'
  obtain ⟨j, _, rfl⟩ := mem_colKeys.mp hq
  obtain ⟨j', _, e⟩ := mem_colKeys.mp hq'
  simp only [List.cons.injEq, and_true] at e
  omega

theorem rowKeys_disjoint (p L : Nat) (c : Int) (i i' : Nat) (h : i < i') :
    ∀ q ∈ rowKeys (2 * i + c) p L, q ∉ rowKeys (2 * i' + c) p L := by
  intro q hq hq'
  obtain ⟨j, _, rfl⟩ := mem_rowKeys.mp hq
  obtain ⟨j', _, e⟩ := mem_rowKeys.mp hq'
  simp only [List.cons.injEq, and_true] at e
  omega

end Panqec.Lat2D
