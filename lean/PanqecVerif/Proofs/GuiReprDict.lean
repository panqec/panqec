/-
Python dict assignment `d[k] = v` (`setKey`) against the look-ups `getKey` / `hasKey`.  No Mathlib.
-/
import PanqecVerif.Model.GuiRepr

namespace Panqec.GuiRepr

theorem hasKey_eq_isSome (d : Dict) (k : String) : hasKey d k = (getKey d k).isSome := by
  induction d with
  | nil => rfl
  | cons e d ih =>
    unfold hasKey getKey at ih ⊢
    rw [List.any_cons, List.find?_cons, ih]
    cases e.1 == k <;> rfl

theorem getKey_setKey_self (d : Dict) (k : String) (v : JV) : getKey (setKey d k v) k = some v := by
  induction d with
  | nil => simp [setKey, getKey]
  | cons e d ih =>
    obtain ⟨a, b⟩ := e
    unfold setKey
    by_cases h : (a == k) = true
    · simp [h, getKey]
    · simp only [h, Bool.false_eq_true, if_false]
      unfold getKey at ih ⊢
      simp only [List.find?_cons, h]
      exact ih

theorem getKey_setKey_ne (d : Dict) (k : String) (v : JV) (k' : String) (hne : k' ≠ k) :
    getKey (setKey d k v) k' = getKey d k' := by
  induction d with
  | nil =>
    have : (k == k') = false := by simpa using fun h => hne h.symm
    simp [setKey, getKey, this]
  | cons e d ih =>
    obtain ⟨a, b⟩ := e
    unfold setKey
    by_cases h : (a == k) = true
    · have h1 : a = k := by simpa using h
      have h2 : (k == k') = false := by simpa using fun h => hne h.symm
      simp only [h, if_true]
      unfold getKey
      simp only [List.find?_cons, h2, h1]
    · simp only [h, Bool.false_eq_true, if_false]
      unfold getKey at ih ⊢
      simp only [List.find?_cons]
      cases (a == k') <;> simp [ih]

theorem hasKey_of_getKey {d : Dict} {k : String} {v : JV} (h : getKey d k = some v) : hasKey d k = true := by
  rw [hasKey_eq_isSome, h]; rfl

theorem hasKey_setKey_self (d : Dict) (k : String) (v : JV) : hasKey (setKey d k v) k = true :=
  hasKey_of_getKey (getKey_setKey_self d k v)

theorem hasKey_setKey_of (d : Dict) (k : String) (v : JV) (k' : String) (h : hasKey d k' = true) :
    hasKey (setKey d k v) k' = true := by
  by_cases e : k' = k
  · exact e ▸ hasKey_setKey_self d k v
  · rw [hasKey_eq_isSome] at h ⊢
    rw [getKey_setKey_ne d k v k' e]; exact h

end Panqec.GuiRepr
