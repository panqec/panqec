/-
The nest of three `for` loops of the models: `for a in A: for b in B: for c in C: append(f a b c)`
is `A.flatMap fun a => B.flatMap fun b => C.map fun c => f a b c`, whatever the models call it
(`Cubic3D.grid`, `Color3DCode.grid3`, `Lat3Db.grid3` without a filter, the sweep's `prod3`) and in
whatever order `f` lists the coordinates.  No import, for the reason given in `Cyclic`.
-/

namespace Panqec
variable {α β : Type} (f : α → α → α → β)

theorem mem_loop3 {A B C : List α} {q : β} :
    q ∈ (A.flatMap fun a => B.flatMap fun b => C.map fun c => f a b c) ↔
      ∃ a ∈ A, ∃ b ∈ B, ∃ c ∈ C, q = f a b c := by
  simp only [List.mem_flatMap, List.mem_map, eq_comm]

theorem length_loop3 (A B C : List α) :
    (A.flatMap fun a => B.flatMap fun b => C.map fun c => f a b c).length =
      A.length * (B.length * C.length) := by
  simp only [List.length_flatMap, List.length_map, List.map_const', List.sum_replicate_nat]

theorem nodup_loop3 {A B C : List α}
    (hf : ∀ a b c a' b' c', f a b c = f a' b' c' → a = a' ∧ b = b' ∧ c = c')
    (hA : A.Nodup) (hB : B.Nodup) (hC : C.Nodup) :
    (A.flatMap fun a => B.flatMap fun b => C.map fun c => f a b c).Nodup := by
  -- core has no `nodup_flatMap`; `Nodup` is `Pairwise (· ≠ ·)`, and `pairwise_flatMap` is core
  show List.Pairwise _ _
  refine List.pairwise_flatMap.mpr ⟨fun a _ => List.pairwise_flatMap.mpr ⟨fun b _ => ?_, ?_⟩, ?_⟩
  · exact List.pairwise_map.mpr (hC.imp fun h e => h (hf _ _ _ _ _ _ e).2.2)
  · refine hB.imp fun {b b'} hne q hq r hr e => ?_
    obtain ⟨c, _, rfl⟩ := List.mem_map.mp hq
    obtain ⟨c', _, rfl⟩ := List.mem_map.mp hr
    exact hne (hf _ _ _ _ _ _ e).2.1
  · refine hA.imp fun {a a'} hne q hq r hr e => ?_
    obtain ⟨b, _, hq⟩ := List.mem_flatMap.mp hq
    obtain ⟨c, _, rfl⟩ := List.mem_map.mp hq
    obtain ⟨b', _, hr⟩ := List.mem_flatMap.mp hr
    obtain ⟨c', _, rfl⟩ := List.mem_map.mp hr
    exact hne (hf _ _ _ _ _ _ e).1

end Panqec
