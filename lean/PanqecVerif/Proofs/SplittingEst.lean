/-
Lemmas for the estimator of `SplittingSimulation` (`Model/Splitting.lean`):
`g(x) + g(1/x) = 1`, the balance point of `compute_optimal_c`, monotonicity in `c`, the grid
search, the telescoping product and the lengths of what `postprocess` stores, and the
acceptance-ratio identity that the method rests on (both densities evaluated on the same
error).
-/
import PanqecVerif.Model.Splitting
import PanqecVerif.Proofs.NoiseProb

namespace Panqec.Split

open Panqec

theorem lhsTerm_eq (c a b : Rat) (hb : b ≠ 0) :
    lhsTerm c a b = b / (b + c * a) := by
  unfold lhsTerm g
  have e : 1 + c * (a / b) = (b + c * a) / b := by field_simp
  rw [e, one_div_div]

theorem rhsTerm_eq (c a b : Rat) (ha : a ≠ 0) (hc : c ≠ 0) :
    rhsTerm c a b = c * a / (b + c * a) := by
  unfold rhsTerm g
  have e : 1 + 1 / c * (b / a) = (b + c * a) / (c * a) := by field_simp; ring
  rw [e, one_div_div]

/-- `g(x) + g(1/x) = 1`: every sample contributes 1 to `lhs + rhs` -/
theorem lhsTerm_add_rhsTerm (c a b : Rat) (ha : 0 < a) (hb : 0 < b) (hc : 0 < c) :
    lhsTerm c a b + rhsTerm c a b = 1 := by
  have h : b + c * a ≠ 0 := ne_of_gt (by positivity)
  rw [lhsTerm_eq c a b (ne_of_gt hb), rhsTerm_eq c a b (ne_of_gt ha) (ne_of_gt hc)]
  field_simp

theorem lhs_add_rhs (c : Rat) (hc : 0 < c) (ab : List (Rat × Rat))
    (h : ∀ p ∈ ab, 0 < p.1 ∧ 0 < p.2) : lhs c ab + rhs c ab = (ab.length : Rat) := by
  rw [lhs, rhs, ratSum_eq_sum, ratSum_eq_sum, ← List.sum_map_add,
    List.map_congr_left fun p hp => lhsTerm_add_rhsTerm c p.1 p.2 (h p hp).1 (h p hp).2 hc]
  simp

theorem lhsTerm_pos (c a b : Rat) (ha : 0 < a) (hb : 0 < b) (hc : 0 < c) : 0 < lhsTerm c a b := by
  rw [lhsTerm_eq c a b (ne_of_gt hb)]
  positivity

theorem rhsTerm_pos (c a b : Rat) (ha : 0 < a) (hb : 0 < b) (hc : 0 < c) : 0 < rhsTerm c a b := by
  rw [rhsTerm_eq c a b (ne_of_gt ha) (ne_of_gt hc)]
  positivity

theorem ratSum_map_pos {α : Type} (f : α → Rat) (w : List α) (h : ∀ p ∈ w, 0 < f p) (hne : w ≠ []) :
    0 < ratSum (w.map f) := by
  rw [ratSum_eq_sum]
  exact List.sum_pos _ (by simpa using h) (by simpa using hne)

theorem rhs_pos (c : Rat) (hc : 0 < c) : ∀ (ab : List (Rat × Rat)),
    (∀ p ∈ ab, 0 < p.1 ∧ 0 < p.2) → ab ≠ [] → 0 < rhs c ab :=
  fun ab h => ratSum_map_pos _ ab fun p hp => rhsTerm_pos c p.1 p.2 (h p hp).1 (h p hp).2 hc

theorem lhsTerm_anti (c c' a b : Rat) (ha : 0 < a) (hb : 0 < b) (hc : 0 < c) (hcc : c ≤ c') :
    lhsTerm c' a b ≤ lhsTerm c a b := by
  have hc' : 0 < c' := lt_of_lt_of_le hc hcc
  rw [lhsTerm_eq c a b (ne_of_gt hb), lhsTerm_eq c' a b (ne_of_gt hb)]
  apply div_le_div_of_nonneg_left (le_of_lt hb) (by positivity)
  nlinarith

theorem lhs_anti (c c' : Rat) (hc : 0 < c) (hcc : c ≤ c') (ab : List (Rat × Rat))
    (h : ∀ p ∈ ab, 0 < p.1 ∧ 0 < p.2) : lhs c' ab ≤ lhs c ab := by
  rw [lhs, lhs, ratSum_eq_sum, ratSum_eq_sum]
  exact List.sum_le_sum fun p hp => lhsTerm_anti c c' p.1 p.2 (h p hp).1 (h p hp).2 hc hcc

theorem gridC_pos (i : Nat) : 0 < gridC i := by
  unfold gridC
  positivity

theorem gridC_mono (i j : Nat) (h : i ≤ j) : gridC i ≤ gridC j := by
  unfold gridC
  have : (i : Rat) ≤ (j : Rat) := by exact_mod_cast h
  apply div_le_div_of_nonneg_right _ (by norm_num)
  linarith

theorem firstSignChange_some (f : Nat → Rat) : ∀ (m i k : Nat), firstSignChange f m i = some k →
    i ≤ k ∧ k < i + m ∧ sgn (f (k + 1)) ≠ sgn (f k) ∧ ∀ j, i ≤ j → j < k → sgn (f (j + 1)) = sgn (f j)
  | 0, i, k, h => by simp [firstSignChange] at h
  | m + 1, i, k, h => by
    simp only [firstSignChange] at h
    by_cases hd : sgn (f (i + 1)) - sgn (f i) ≠ 0
    · rw [if_pos hd] at h
      simp only [Option.some.injEq] at h
      subst h
      exact ⟨le_refl _, by omega, fun he => hd (by rw [he]; simp), fun j h1 h2 => by omega⟩
    · rw [if_neg hd] at h
      obtain ⟨h1, h2, h3, h4⟩ := firstSignChange_some f m (i + 1) k h
      refine ⟨by omega, by omega, h3, fun j hj1 hj2 => ?_⟩
      by_cases hji : j = i
      · subst hji
        have : sgn (f (j + 1)) - sgn (f j) = 0 := by simpa using hd
        omega
      · exact h4 j (by omega) hj2

theorem firstSignChange_none (f : Nat → Rat) : ∀ (m i : Nat), firstSignChange f m i = none →
    ∀ j, i ≤ j → j < i + m → sgn (f (j + 1)) = sgn (f j)
  | 0, i, _, j, h1, h2 => by omega
  | m + 1, i, h, j, h1, h2 => by
    simp only [firstSignChange] at h
    by_cases hd : sgn (f (i + 1)) - sgn (f i) ≠ 0
    · rw [if_pos hd] at h; cases h
    · rw [if_neg hd] at h
      by_cases hji : j = i
      · subst hji
        have : sgn (f (j + 1)) - sgn (f j) = 0 := by simpa using hd
        omega
      · exact firstSignChange_none f m (i + 1) h j (by omega) (by omega)

theorem telescope_cons_inv {start : Nat} {p : Rat} {pj pk : List Rat} {rest : List (List Rat)}
    {l : List Rat} (h : telescope start p (pj :: pk :: rest) = .ok l) :
    ∃ ab l', samplePairs start pj pk = .ok ab ∧
      telescope start (p * ratioOf (optimalC ab) ab) (pk :: rest) = .ok l' ∧
      l = p * ratioOf (optimalC ab) ab :: l' := by
  unfold telescope at h
  split at h
  · cases h
  dsimp only at h
  split at h
  · cases h
  · exact ⟨_, _, ‹_›, ‹_›, (Except.ok.inj h).symm⟩

/-- if `logical_p[0]` is the failure probability `Z 0` at the highest rate and every factor
    `ratio_j` equals `Z (j+1) / Z j`, the class returns `Z 1, Z 2, …` (stated division-free:
    `Z j · ratio_j = Z (j+1)`) -/
theorem telescope_exact (start : Nat) (Z : Nat → Rat) :
    ∀ (lp : List (List Rat)) (j : Nat) (l : List Rat), telescope start (Z j) lp = .ok l →
      (∀ i pj pk ab, lp[i]? = some pj → lp[i + 1]? = some pk → samplePairs start pj pk = .ok ab →
        Z (j + i) * ratioOf (optimalC ab) ab = Z (j + i + 1)) →
      l = (List.range (lp.length - 1)).map fun i => Z (j + i + 1)
  | [], j, l, h, _ => by cases h; rfl
  | [_], j, l, h, _ => by cases h; rfl
  | pj :: pk :: rest, j, l, h, hr => by
    obtain ⟨ab, l', hs, ht, rfl⟩ := telescope_cons_inv h
    have h0 : Z j * ratioOf (optimalC ab) ab = Z (j + 1) := hr 0 pj pk ab rfl rfl hs
    rw [h0] at ht ⊢
    rw [telescope_exact start Z (pk :: rest) (j + 1) l' ht fun i a b ab' ha hb hab => by
      simpa [Nat.add_assoc, Nat.add_comm 1] using hr (i + 1) a b ab' ha hb hab]
    simp only [List.length_cons, Nat.add_sub_cancel, List.range_succ_eq_map, List.map_cons,
      List.map_map, Nat.add_zero]
    congr 2
    funext i
    simp only [Function.comp, Nat.add_assoc, Nat.add_comm 1]

/-- the last entry is `logical_p[0]` times a product of as many factors as there are entries (which
    factors: `telescope_exact`) -/
theorem telescope_product (start : Nat) : ∀ (lp : List (List Rat)) (p : Rat) (l : List Rat),
    telescope start p lp = .ok l → ∃ rs : List Rat, rs.length = l.length ∧
      (l.getLast?.getD p) = p * ratProd rs
  | [], p, l, h => by cases h; exact ⟨[], rfl, by simp [ratProd]⟩
  | [_], p, l, h => by cases h; exact ⟨[], rfl, by simp [ratProd]⟩
  | pj :: pk :: rest, p, l, h => by
    obtain ⟨ab, l', _, ht, rfl⟩ := telescope_cons_inv h
    obtain ⟨rs, hlen, hprod⟩ := telescope_product start (pk :: rest) _ l' ht
    refine ⟨ratioOf (optimalC ab) ab :: rs, by simp [hlen], ?_⟩
    rw [ratProd, ← mul_assoc, ← hprod]
    cases l' <;> simp [List.getLast?_cons]

theorem telescope_length (start : Nat) : ∀ (lp : List (List Rat)) (p : Rat) (l : List Rat),
    telescope start p lp = .ok l → l.length = lp.length - 1
  | [], p, l, h => by cases h; rfl
  | [_], p, l, h => by cases h; rfl
  | pj :: pk :: rest, p, l, h => by
    obtain ⟨ab, l', _, ht, rfl⟩ := telescope_cons_inv h
    simpa using telescope_length start (pk :: rest) _ l' ht

theorem computeOptimalC_length (start : Nat) : ∀ (lp : List (List Rat)) (l : List Rat),
    computeOptimalC start lp = .ok l → l.length = lp.length - 1
  | [], l, h => by cases h; rfl
  | [_], l, h => by cases h; rfl
  | pj :: pk :: rest, l, h => by
    unfold computeOptimalC at h
    split at h
    · cases h
    split at h
    · cases h
    cases h
    simpa using computeOptimalC_length start (pk :: rest) _ ‹_›

theorem postprocess_inv {cfg : Cfg} {u : Nat → Rat} {s s' : State}
    (h : postprocess cfg u s = .ok s') :
    ∃ p0 l, initialLogicalP cfg u = .ok p0 ∧ telescope cfg.startRun p0 s.logP = .ok l ∧
      s' = { s with pEst := some (p0 :: l) } := by
  unfold postprocess computeLogicalProbabilities at h
  split at h
  · cases h
  rename_i lp hlp
  split at hlp
  · cases hlp
  split at hlp
  · cases hlp
  cases hlp
  cases h
  exact ⟨_, _, ‹_›, ‹_›, rfl⟩

theorem bennett_term (c a b : Rat) (ha : 0 < a) (hb : 0 < b) (hc : 0 < c) :
    c * (a * lhsTerm c a b) = b * rhsTerm c a b := by
  have h : b + c * a ≠ 0 := ne_of_gt (by positivity)
  rw [lhsTerm_eq c a b (ne_of_gt hb), rhsTerm_eq c a b (ne_of_gt ha) (ne_of_gt hc)]
  field_simp

/-- `Σ_e a_e` -/
def mass1 (w : List (Rat × Rat)) : Rat := ratSum (w.map (·.1))
/-- `Σ_e b_e` -/
def mass2 (w : List (Rat × Rat)) : Rat := ratSum (w.map (·.2))
/-- `Σ_e a_e · g(c a_e / b_e)`: the un-normalised expectation under the first density -/
def num1 (c : Rat) (w : List (Rat × Rat)) : Rat := ratSum (w.map fun p => p.1 * lhsTerm c p.1 p.2)
/-- `Σ_e b_e · g(b_e / (c a_e))`: the un-normalised expectation under the second density -/
def den2 (c : Rat) (w : List (Rat × Rat)) : Rat := ratSum (w.map fun p => p.2 * rhsTerm c p.1 p.2)

theorem bennett_sums (c : Rat) (hc : 0 < c) (w : List (Rat × Rat))
    (h : ∀ p ∈ w, 0 < p.1 ∧ 0 < p.2) : c * num1 c w = den2 c w := by
  rw [num1, den2, ratSum_eq_sum, ratSum_eq_sum, ← List.sum_map_mul_left]
  exact congrArg _ (List.map_congr_left fun p hp => bennett_term c p.1 p.2 (h p hp).1 (h p hp).2 hc)

/-! ### the estimator pairs two different errors: a population-level witness

Failure set `{e₁, e₂}`; densities at the higher rate `a = (1/4, 1/8)`, at the lower rate
`b = (1/8, 1/32)`, so the exact ratio of failure probabilities is
`(1/8 + 1/32) / (1/4 + 1/8) = 5/12`.  Chain `j` visits `e₁, e₂` with frequencies `2/3, 1/3`,
chain `j+1` with `4/5, 1/5`; the two chains are independent, so among 15 sweeps the pairs
`(e₁,e₁), (e₁,e₂), (e₂,e₁), (e₂,e₂)` occur `8, 2, 4, 1` times.  `witnessA` / `witnessB` are
the lists `log_p_errors[j]`, `log_p_errors[j+1]` of such a run (as probabilities). -/

def witnessA : List Rat :=
  List.replicate 8 (1/4) ++ List.replicate 2 (1/4) ++ List.replicate 4 (1/8) ++ List.replicate 1 (1/8)

def witnessB : List Rat :=
  List.replicate 8 (1/8) ++ List.replicate 2 (1/32) ++ List.replicate 4 (1/8) ++ List.replicate 1 (1/32)

/-- the two densities on the failure set -/
def witnessW : List (Rat × Rat) := [(1/4, 1/8), (1/8, 1/32)]

end Panqec.Split
