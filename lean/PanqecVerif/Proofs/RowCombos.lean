/-
GF(2) combinations of rows at the list level (`vxor`, `vzero`, `xorCombo`, `InSpan` of
`Proofs/ValidCode.lean`): lengths and 0/1 entries, bilinearity of `symp` over a combination (what
commutes with the rows commutes with their span), and linear independence of rows that admit a
dual family.  Also the tests of `Model/Code.lean` read as symplectic products: the syndrome row by
row, `in_codespace`, `logical_errors`, `is_success` (`measureSyndrome_eq`, `inCodespace_iff`,
`logicalErrors_eq`, `isSuccess_iff`).  Core Lean only.
-/
import PanqecVerif.Proofs.Bits
import PanqecVerif.Proofs.ValidCode

namespace Panqec

theorem measureSyndrome_eq (H : List (List Nat)) (e : List Nat) :
    measureSyndrome H e = H.map (fun r => symp r e) := by
  unfold measureSyndrome bsProdRows
  simp [bsProdSparse_eq_symp]

theorem vxor_length (a b : List Nat) (h : a.length = b.length) :
    (vxor a b).length = a.length := by
  simp [vxor, vadd_length a b h]

theorem xorCombo_length (m : Nat) : ∀ (sel : List Bool) (rows : List (List Nat)),
    (∀ r ∈ rows, r.length = m) → (xorCombo m sel rows).length = m
  | [], _, _ => by simp [xorCombo, vzero]
  | _ :: _, [], _ => by simp [xorCombo, vzero]
  | s :: sel, r :: rows, h => by
    have ih := xorCombo_length m sel rows (fun x hx => h x (by simp [hx]))
    have hr : r.length = m := h r (by simp)
    cases s
    · simpa [xorCombo] using ih
    · simp only [xorCombo, if_true]
      rw [vxor_length _ _ (by rw [ih, hr]), hr]

theorem vxor_binary (a b : List Nat) : ∀ x ∈ vxor a b, x < 2 := map_mod_binary _

theorem vxor_self : ∀ w : List Nat, vxor w w = vzero w.length
  | [] => by simp [vxor, vzero]
  | a :: as => by
    have ih := vxor_self as
    simp only [vxor, vzero] at ih ⊢
    simp only [vadd_cons, List.map_cons, List.length_cons, List.replicate_succ, ih]
    congr 1; omega

theorem vzero_length (m : Nat) : (vzero m).length = m := List.length_replicate

theorem vzero_binary (m : Nat) : ∀ x ∈ vzero m, x < 2 := fun x hx => by
  rw [(List.mem_replicate.mp hx).2]; decide

theorem xorCombo_binary (m : Nat) : ∀ (sel : List Bool) (rows : List (List Nat)),
    ∀ x ∈ xorCombo m sel rows, x < 2
  | [], _ => by simpa [xorCombo] using vzero_binary m
  | _ :: _, [] => by simpa [xorCombo] using vzero_binary m
  | s :: sel, r :: rows => by
    unfold xorCombo
    split
    · exact vxor_binary _ _
    · exact xorCombo_binary m sel rows

theorem inSpan_length {m : Nat} {rows : List (List Nat)} {s : List Nat}
    (hrows : ∀ r ∈ rows, r.length = m) (hs : InSpan m rows s) : s.length = m := by
  obtain ⟨sel, _, rfl⟩ := hs
  exact xorCombo_length _ _ _ hrows

theorem dot_replicate_zero_left (k : Nat) (b : List Nat) : dot (List.replicate k 0) b = 0 :=
  dot_zero_left _ _ fun _ h => (List.mem_replicate.mp h).2

theorem dot_replicate_zero_right (k : Nat) (a : List Nat) : dot a (List.replicate k 0) = 0 := by
  rw [dot_comm, dot_replicate_zero_left]

theorem symp_vzero_left (m : Nat) (d : List Nat) : symp (vzero m) d = 0 := by
  simp [symp, vzero, xPart, zPart, dot_replicate_zero_left]

/-- `Σ_i sel[i] · symp rows[i] d` -/
def sympCombo (d : List Nat) : List Bool → List (List Nat) → Nat
  | s :: sel, r :: rows => (if s then symp r d else 0) + sympCombo d sel rows
  | _, _ => 0

theorem symp_xorCombo (m : Nat) (d : List Nat) : ∀ (sel : List Bool) (rows : List (List Nat)),
    (∀ r ∈ rows, r.length = m) → symp (xorCombo m sel rows) d = sympCombo d sel rows % 2
  | [], _, _ => by simp [xorCombo, sympCombo, symp_vzero_left]
  | _ :: _, [], _ => by simp [xorCombo, sympCombo, symp_vzero_left]
  | s :: sel, r :: rows, h => by
    have hrows : ∀ x ∈ rows, x.length = m := fun x hx => h x (by simp [hx])
    have ih := symp_xorCombo m d sel rows hrows
    have hr : r.length = m := h r (by simp)
    cases s
    · simpa [xorCombo, sympCombo] using ih
    · simp only [xorCombo, sympCombo, if_true]
      rw [symp_vxor_left _ _ _ (by rw [xorCombo_length m sel rows hrows, hr]), ih]
      omega

theorem sympCombo_zero (d : List Nat) : ∀ (sel : List Bool) (rows : List (List Nat)),
    (∀ i, i < rows.length → symp (rows.getD i []) d = 0) → sympCombo d sel rows = 0
  | [], _, _ => by simp [sympCombo]
  | _ :: _, [], _ => by simp [sympCombo]
  | s :: sel, r :: rows, h => by
    have h0 : symp r d = 0 := by simpa using h 0 (by simp)
    have ih := sympCombo_zero d sel rows (fun i hi => by
      have := h (i + 1) (by simp; omega)
      simpa using this)
    simp [sympCombo, h0, ih]

theorem symp_zero_of_inSpan {m : Nat} {rows : List (List Nat)} {l s : List Nat}
    (hrows : ∀ r ∈ rows, r.length = m) (hcomm : ∀ g ∈ rows, symp l g = 0)
    (hs : InSpan m rows s) : symp l s = 0 := by
  obtain ⟨sel, _, rfl⟩ := hs
  rw [symp_comm, symp_xorCombo m l sel rows hrows, sympCombo_zero l sel rows fun i hi => by
    rw [symp_comm, List.getD_eq_getElem?_getD, List.getElem?_eq_getElem hi]
    exact hcomm _ (List.getElem_mem hi)]

/-- if `d` anticommutes with exactly row `j`, the pairing reads off `sel[j]` -/
theorem sympCombo_delta (d : List Nat) : ∀ (rows : List (List Nat)) (sel : List Bool) (j : Nat),
    sel.length = rows.length →
    (∀ i, i < rows.length → symp (rows.getD i []) d = if i = j then 1 else 0) →
    sympCombo d sel rows = if sel.getD j false then 1 else 0
  | [], [], j, _, _ => by simp [sympCombo]
  | [], _ :: _, _, hl, _ => by simp at hl
  | _ :: _, [], _, hl, _ => by simp at hl
  | r :: rows, s :: sel, j, hl, h => by
    have hl' : sel.length = rows.length := by simpa using hl
    cases j with
    | zero =>
      have h0 : symp r d = 1 := by simpa using h 0 (by simp)
      have hz := sympCombo_zero d sel rows (fun i hi => by
        have := h (i + 1) (by simp; omega)
        simpa using this)
      cases s <;> simp [sympCombo, h0, hz]
    | succ j =>
      have h0 : symp r d = 0 := by simpa using h 0 (by simp)
      have ih := sympCombo_delta d rows sel j hl' (fun i hi => by
        have := h (i + 1) (by simp; omega)
        simpa using this)
      simp [sympCombo, h0, ih]

/-- Rows that admit a dual family (`symp rows[i] dual[j] = δ_ij`) are linearly independent. -/
theorem indep_of_dual (n : Nat) (rows dual : List (List Nat)) (hwf : WFRows n rows)
    (hlen : rows.length = dual.length)
    (h : ∀ i j, i < rows.length → j < dual.length →
      symp (rows.getD i []) (dual.getD j []) = if i = j then 1 else 0) :
    Indep (2 * n) rows := by
  intro sel hsel hz s hs
  obtain ⟨j, hj, rfl⟩ := List.mem_iff_getElem.mp hs
  have hj' : j < dual.length := by omega
  have h1 := symp_xorCombo (2 * n) (dual.getD j []) sel rows (fun r hr => (hwf r hr).1)
  rw [hz, symp_vzero_left,
    sympCombo_delta _ rows sel j hsel (fun i hi => h i j hi hj')] at h1
  have hg : sel.getD j false = sel[j] := by simp [List.getD_eq_getElem?_getD, hj]
  rw [hg] at h1
  cases hsj : sel[j]
  · rfl
  · rw [hsj] at h1; simp at h1

theorem vxor_append : ∀ (a b c d : List Nat), a.length = c.length →
    vxor (a ++ b) (c ++ d) = vxor a c ++ vxor b d
  | [], _, [], _, _ => rfl
  | [], _, _ :: _, _, h => by simp at h
  | _ :: _, _, [], _, h => by simp at h
  | x :: a, b, y :: c, d, h => by
    have := vxor_append a b c d (by simpa using h)
    simp only [vxor, List.cons_append, vadd_cons, List.map_cons] at this ⊢
    rw [this]

theorem vxor_zeros : ∀ a : List Nat, (∀ x ∈ a, x < 2) →
    vxor a (List.replicate a.length 0) = a ∧ vxor (List.replicate a.length 0) a = a
  | [], _ => by simp [vxor]
  | x :: a, h => by
    have ih := vxor_zeros a (fun y hy => h y (by simp [hy]))
    have hx := h x (by simp)
    simp only [vxor, List.length_cons, List.replicate_succ, vadd, List.map_cons] at ih ⊢
    rw [ih.1, ih.2]
    constructor <;> congr 1 <;> omega

/-- `in_codespace(e)` is "e commutes with every generator" (any matrix, any vector). -/
theorem inCodespace_iff (H : List (List Nat)) (e : List Nat) :
    inCodespace H e = true ↔ ∀ g ∈ H, symp g e = 0 := by
  simp [inCodespace, measureSyndrome_eq]

theorem logicalErrors_eq (dt : DType) (Lx Lz : List (List Nat)) (e : List Nat) :
    logicalErrors dt Lx Lz e = Lz.map (fun l => symp l e) ++ Lx.map (fun l => symp l e) := by
  unfold logicalErrors bsProdRows
  simp [bsProdDense_eq_symp]

theorem isLogicalError_eq_false_iff (dt : DType) (Lx Lz : List (List Nat)) (e : List Nat) :
    isLogicalError dt Lx Lz e = false ↔ (∀ l ∈ Lz, symp l e = 0) ∧ (∀ l ∈ Lx, symp l e = 0) := by
  unfold isLogicalError
  rw [logicalErrors_eq]
  simp

theorem isSuccess_iff (dt : DType) (H Lx Lz : List (List Nat)) (e : List Nat) :
    isSuccess dt H Lx Lz e = true ↔
      (∀ g ∈ H, symp g e = 0) ∧ (∀ l ∈ Lz, symp l e = 0) ∧ ∀ l ∈ Lx, symp l e = 0 := by
  unfold isSuccess
  rw [Bool.and_eq_true, Bool.not_eq_true', inCodespace_iff, isLogicalError_eq_false_iff]

end Panqec
