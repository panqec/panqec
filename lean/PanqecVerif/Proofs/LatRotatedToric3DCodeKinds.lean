/-
`RotatedToric3DCode`, supported family: every stabilizer generator is a signed operator on one of
the four candidate lists; consequences: distinct keys, support on qubits, letters X / Z, non-empty,
and any two generators commute.
-/
import PanqecVerif.Proofs.OpCommCore
import PanqecVerif.Proofs.LatRotatedToric3DCodeComm
open Panqec Panqec.Lat3Db
namespace Panqec.RotatedToric3DCode


/-- the four kinds of stabilizer generator with their signed candidate lists; `KFX` and `KFY` unfold
    to `KF false` and `KF true`, the form in which the lemmas about vertical faces are stated -/
inductive Kind (Lx Ly Lz : Nat) : Coord → List (Coord × Bool) → Prop
  | vertex {x y z : Int} (h : SV Lx Ly Lz x y z) : Kind Lx Ly Lz [x, y, z] (KV Lx Ly x y z)
  | hface {x y z : Int} (h : SH Lx Ly Lz x y z) : Kind Lx Ly Lz [x, y, z] (KH Lx Ly x y z)
  | vfaceX {x y z : Int} (h : SF Lx Ly Lz x y z) (h4 : (x + y) % 4 = 0) :
      Kind Lx Ly Lz [x, y, z] (KFX Lx Ly x y z)
  | vfaceY {x y z : Int} (h : SF Lx Ly Lz x y z) (h4 : (x + y) % 4 = 2) :
      Kind Lx Ly Lz [x, y, z] (KFY Lx Ly x y z)

theorem kind_of_mem {Lx Ly Lz : Nat} {s : Coord} (hs : s ∈ stabs Lx Ly Lz) :
    ∃ K, Kind Lx Ly Lz s K := by
  obtain ⟨x, y, z, rfl⟩ := mem_stabs_shape _ _ _ _ hs
  rw [mem_stabs_iff] at hs
  rcases hs with h | h | h
  · exact ⟨_, Kind.vertex h⟩
  · exact ⟨_, Kind.hface h⟩
  · rcases SF_mod4 h with h4 | h4
    · exact ⟨_, Kind.vfaceX h h4⟩
    · exact ⟨_, Kind.vfaceY h h4⟩

theorem signed_of_kind {Lx Ly Lz : Nat} (hF : Fam Lx Ly) {s : Coord} {K : List (Coord × Bool)}
    (hk : Kind Lx Ly Lz s K) : Signed Lx Ly Lz (getStab Lx Ly Lz s) K := by
  cases hk with
  | vertex h => exact signed_vertex hF h
  | hface h => exact signed_hface hF h
  | vfaceX h h4 => exact signed_vface false hF h h4
  | vfaceY h h4 => exact signed_vface true hF h h4

/-- the first candidate of every kind is a qubit (so no generator is empty) -/
theorem first_candidate_qubit {Lx Ly Lz : Nat} (hF : Fam Lx Ly) {s : Coord}
    {K : List (Coord × Bool)} (hk : Kind Lx Ly Lz s K) :
    ∃ e ∈ K, isQubit Lx Ly Lz e.1 = true := by
  obtain ⟨hLx, hLy, hfam⟩ := hF
  cases hk with
  | @vertex x y z h =>
    obtain ⟨hx, hy, hz, _⟩ := h
    rw [R2_Ev] at hx hy
    exact ⟨([sw Lx x, y - 1, z], false), by simp [KV],
      isQ_h (sw_od (by omega) hx) (pred_od hy) hz⟩
  | @hface x y z h =>
    obtain ⟨hx, hy, hz, _⟩ := h
    rw [R2_Ev] at hx hy
    exact ⟨([x - 1, y - 1, z], true), by simp [KH], isQ_h (pred_od hx) (pred_od hy) hz⟩
  | @vfaceX x y z h h4 =>
    obtain ⟨hx, hy, hz, _⟩ := h
    rw [R1_Od] at hx hy
    refine ⟨([x, y, z - 1], false), by simp [KFX], isQ_h hx hy ?_⟩
    unfold R2 at hz; unfold R1; omega
  | @vfaceY x y z h h4 =>
    obtain ⟨hx, hy, hz, _⟩ := h
    rw [R1_Od] at hx hy
    refine ⟨([x, y, z - 1], true), by simp [KFY], isQ_h hx hy ?_⟩
    unfold R2 at hz; unfold R1; omega

section facts
variable {Lx Ly Lz : Nat} {op : Op} {K : List (Coord × Bool)}

theorem Signed.keysNodup (h : Signed Lx Ly Lz op K) : (op.map Prod.fst).Nodup := by
  obtain ⟨g, rfl, _⟩ := h.eq
  rw [gop_keys]; exact h.keys_nodup.filter _

theorem Signed.supported (h : Signed Lx Ly Lz op K) :
    ∀ e ∈ op, e.1 ∈ qubits Lx Ly Lz ∧ e.2 ≠ Pauli.I := by
  obtain ⟨g, rfl, hg⟩ := h.eq
  intro e he
  rw [mem_gop, List.mem_filter] at he
  obtain ⟨⟨hk, hq⟩, hl⟩ := he
  refine ⟨by unfold isQubit at hq; simpa using hq, ?_⟩
  obtain ⟨e', he', hk'⟩ := List.mem_map.mp hk
  rw [hl, ← hk', hg e' he']
  exact dl_ne_I _ _

theorem Signed.ne_nil (h : Signed Lx Ly Lz op K) (hq : ∃ e ∈ K, isQubit Lx Ly Lz e.1 = true) :
    op ≠ [] := by
  obtain ⟨g, rfl, _⟩ := h.eq
  obtain ⟨e, he, hq⟩ := hq
  intro h0
  have : e.1 ∈ (K.map Prod.fst).filter (isQubit Lx Ly Lz) :=
    List.mem_filter.mpr ⟨List.mem_map.mpr ⟨e, he, rfl⟩, hq⟩
  have h1 : (gop ((K.map Prod.fst).filter (isQubit Lx Ly Lz)) g).map Prod.fst = [] := by
    rw [h0]; rfl
  rw [gop_keys] at h1
  rw [h1] at this
  exact List.not_mem_nil this

end facts

theorem antiPairs_even {Lx Ly Lz : Nat} (hF : Fam Lx Ly) {s t : Coord}
    {K1 K2 : List (Coord × Bool)} (h1 : Kind Lx Ly Lz s K1) (h2 : Kind Lx Ly Lz t K2) :
    antiPairs Lx Ly Lz K1 K2 % 2 = 0 ∨ antiPairs Lx Ly Lz K2 K1 % 2 = 0 := by
  cases h1 with
  | vertex h =>
    cases h2 with
    | vertex h' => exact Or.inl (anti_VV hF h h')
    | hface h' => exact Or.inl (anti_VH hF h h')
    | vfaceX h' h4' => exact Or.inl (anti_VF false hF h h' h4')
    | vfaceY h' h4' => exact Or.inl (anti_VF true hF h h' h4')
  | hface h =>
    cases h2 with
    | vertex h' => exact Or.inr (anti_VH hF h' h)
    | hface h' => exact Or.inl (anti_HH hF h h')
    | vfaceX h' h4' => exact Or.inl (anti_HF_KF false h h' h4')
    | vfaceY h' h4' => exact Or.inl (anti_HF_KF true h h' h4')
  | vfaceX h h4 =>
    cases h2 with
    | vertex h' => exact Or.inr (anti_VF false hF h' h h4)
    | hface h' => exact Or.inr (anti_HF_KF false h' h h4)
    | vfaceX h' h4' => exact Or.inl (anti_FF_same false h h')
    | vfaceY h' h4' => exact Or.inl (anti_FF_diff false h h' h4 h4')
  | vfaceY h h4 =>
    cases h2 with
    | vertex h' => exact Or.inr (anti_VF true hF h' h h4)
    | hface h' => exact Or.inr (anti_HF_KF true h' h h4)
    | vfaceX h' h4' => exact Or.inl (anti_FF_diff true h h' h4 h4')
    | vfaceY h' h4' => exact Or.inl (anti_FF_same true h h')

theorem stab_comm {Lx Ly Lz : Nat} (hF : Fam Lx Ly) {s t : Coord} (hs : s ∈ stabs Lx Ly Lz)
    (ht : t ∈ stabs Lx Ly Lz) : opCommute (getStab Lx Ly Lz s) (getStab Lx Ly Lz t) = true := by
  obtain ⟨K1, k1⟩ := kind_of_mem hs
  obtain ⟨K2, k2⟩ := kind_of_mem ht
  have s1 := signed_of_kind hF k1
  have s2 := signed_of_kind hF k2
  rcases antiPairs_even hF k1 k2 with h | h
  · exact opCommute_signed s1 s2 h
  · rw [opCommute_comm (show KeysNodup _ from s1.keysNodup) (show KeysNodup _ from s2.keysNodup)]
    exact opCommute_signed s2 s1 h

end Panqec.RotatedToric3DCode
