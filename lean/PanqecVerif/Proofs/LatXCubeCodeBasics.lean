/-
XCubeCode lattice model: arithmetic characterisation of the coordinate lists, the periodic wrap as
if-then-else (`up` / `dn`), the wrapped neighbours of cubes and of the three kinds of vertex ("face")
operators, and the placements of three coordinates on the axes (`Placed`) over which the later
files state what holds for each axis alike.  Every size (the size hypotheses begin in
`LatXCubeCodeStab`).
-/
import PanqecVerif.Proofs.Lat3DbOps
import PanqecVerif.Proofs.LatCyclic
import PanqecVerif.Model.Lattices.XCubeCode
open Panqec Panqec.Lat3Db
namespace Panqec.XCubeCode

/-- qubit on an x-edge / y-edge / z-edge -/
def QX (Lx Ly Lz : Nat) (x y z : Int) : Prop := R1 (2 * Lx) x ∧ R0 (2 * Ly) y ∧ R0 (2 * Lz) z
def QY (Lx Ly Lz : Nat) (x y z : Int) : Prop := R0 (2 * Lx) x ∧ R1 (2 * Ly) y ∧ R0 (2 * Lz) z
def QZ (Lx Ly Lz : Nat) (x y z : Int) : Prop := R0 (2 * Lx) x ∧ R0 (2 * Ly) y ∧ R1 (2 * Lz) z
/-- cube -/
def SC (Lx Ly Lz : Nat) (x y z : Int) : Prop := R1 (2 * Lx) x ∧ R1 (2 * Ly) y ∧ R1 (2 * Lz) z
/-- vertex -/
def SVx (Lx Ly Lz : Nat) (x y z : Int) : Prop := R0 (2 * Lx) x ∧ R0 (2 * Ly) y ∧ R0 (2 * Lz) z

instance (Lx Ly Lz : Nat) (x y z : Int) : Decidable (QX Lx Ly Lz x y z) := by unfold QX; infer_instance
instance (Lx Ly Lz : Nat) (x y z : Int) : Decidable (QY Lx Ly Lz x y z) := by unfold QY; infer_instance
instance (Lx Ly Lz : Nat) (x y z : Int) : Decidable (QZ Lx Ly Lz x y z) := by unfold QZ; infer_instance

theorem mem_qubits_iff (Lx Ly Lz : Nat) (x y z : Int) :
    [x, y, z] ∈ qubits Lx Ly Lz ↔ QX Lx Ly Lz x y z ∨ QY Lx Ly Lz x y z ∨ QZ Lx Ly Lz x y z := by
  unfold qubits QX QY QZ
  simp only [List.mem_append, mem_grid3_cons, mem_pyRange2_0, mem_pyRange2_1, allTrue, and_true, or_assoc]

theorem isQubit_iff (Lx Ly Lz : Nat) (x y z : Int) :
    isQubit Lx Ly Lz [x, y, z] = true ↔ QX Lx Ly Lz x y z ∨ QY Lx Ly Lz x y z ∨ QZ Lx Ly Lz x y z := by
  unfold isQubit
  rw [List.contains_iff_mem, mem_qubits_iff]

theorem mem_qubits_shape (Lx Ly Lz : Nat) (s : Coord) (h : s ∈ qubits Lx Ly Lz) :
    ∃ x y z, s = [x, y, z] := by
  unfold qubits at h
  simp only [List.mem_append, mem_grid3] at h
  rcases h with (⟨x, y, z, rfl, _⟩ | ⟨x, y, z, rfl, _⟩) | ⟨x, y, z, rfl, _⟩ <;> exact ⟨x, y, z, rfl⟩

theorem even_of_E (L : Nat) (t : Int) (h : t ∈ pyRange2 0 (2*L)) : t % 2 = 0 := by
  rw [mem_pyRange2_0] at h; exact h.1
theorem even_of_E2 (L : Nat) (t : Int) (h : t ∈ pyRange2 2 (2*L)) : t % 2 = 0 := by
  rw [mem_pyRange2_2] at h; exact h.1
theorem odd_of_O (L : Nat) (t : Int) (h : t ∈ pyRange2 1 (2*L)) : t % 2 = 1 := by
  rw [mem_pyRange2_1] at h; exact h.1

theorem mem_qubits_of_isQubit (Lx Ly Lz : Nat) (q : Coord) (h : isQubit Lx Ly Lz q = true) : q ∈ qubits Lx Ly Lz :=
  List.contains_iff_mem.mp h

theorem nodup_qubits (Lx Ly Lz : Nat) : (qubits Lx Ly Lz).Nodup := by
  unfold qubits
  rw [List.nodup_append, List.nodup_append]
  refine ⟨⟨nodup_grid3 _ _ _ _ (nodup_pyRange2 _ _) (nodup_pyRange2 _ _) (nodup_pyRange2 _ _),
    nodup_grid3 _ _ _ _ (nodup_pyRange2 _ _) (nodup_pyRange2 _ _) (nodup_pyRange2 _ _), ?_⟩,
    nodup_grid3 _ _ _ _ (nodup_pyRange2 _ _) (nodup_pyRange2 _ _) (nodup_pyRange2 _ _), ?_⟩
  · intro a ha b hb hab
    subst hab
    rw [mem_grid3] at ha hb
    obtain ⟨x, y, z, rfl, hx, _⟩ := ha
    obtain ⟨x', y', z', h, hx', _⟩ := hb
    simp only [List.cons.injEq, and_true] at h
    obtain ⟨rfl, rfl, rfl⟩ := h
    have := odd_of_O _ _ hx; have := even_of_E _ _ hx'; omega
  · intro a ha b hb hab
    subst hab
    rw [List.mem_append, mem_grid3, mem_grid3] at ha
    rw [mem_grid3] at hb
    obtain ⟨x', y', z', rfl, _, _, hz', _⟩ := hb
    have := odd_of_O _ _ hz'
    rcases ha with ⟨x, y, z, h, _, _, hz, _⟩ | ⟨x, y, z, h, _, _, hz, _⟩ <;>
    · simp only [List.cons.injEq, and_true] at h
      obtain ⟨rfl, rfl, rfl⟩ := h
      have := even_of_E _ _ hz; omega

theorem length_pyRange2_two_mul (a L : Nat) : (pyRange2 a (2 * L)).length = L - a / 2 := by
  rw [length_pyRange2]; omega

theorem length_qubits (Lx Ly Lz : Nat) : (qubits Lx Ly Lz).length = 3 * (Lx * Ly * Lz) := by
  unfold qubits allTrue
  simp only [List.length_append, length_grid3_true, length_pyRange2_two_mul, Nat.reduceDiv, Nat.sub_zero]
  omega

theorem mem_stabs_cube (Lx Ly Lz : Nat) (x y z : Int) :
    [x, y, z] ∈ stabs Lx Ly Lz ↔ SC Lx Ly Lz x y z := by
  unfold stabs SC
  simp only [List.mem_append, mem_grid3_cons, mem_pyRange2_1, allTrue, and_true, List.mem_flatMap,
    List.mem_map, List.cons.injEq]
  constructor
  · rintro (h | ⟨ax, _, c, hc, h⟩)
    · exact h
    · rw [mem_grid3] at hc
      obtain ⟨a, b, d, rfl, _⟩ := hc
      simp at h
  · intro h; exact Or.inl h

theorem mem_stabs_face (Lx Ly Lz : Nat) (ax x y z : Int) :
    [ax, x, y, z] ∈ stabs Lx Ly Lz ↔ (ax = 0 ∨ ax = 1 ∨ ax = 2) ∧ SVx Lx Ly Lz x y z := by
  unfold stabs SVx
  simp only [List.mem_append, List.mem_flatMap, List.mem_map, List.cons.injEq, List.mem_cons,
    List.not_mem_nil, or_false]
  constructor
  · rintro (h | ⟨a, ha, c, hc, rfl, rfl⟩)
    · rw [mem_grid3] at h
      obtain ⟨a, b, d, h, _⟩ := h
      simp at h
    · rw [mem_grid3_cons] at hc
      simp only [mem_pyRange2_0, allTrue, and_true] at hc
      exact ⟨ha, hc⟩
  · rintro ⟨ha, hc⟩
    refine Or.inr ⟨ax, ha, [x, y, z], ?_, rfl, rfl⟩
    rw [mem_grid3_cons]
    simp only [mem_pyRange2_0, allTrue, and_true]
    exact hc

theorem mem_stabs_shape (Lx Ly Lz : Nat) (s : Coord) (h : s ∈ stabs Lx Ly Lz) :
    (∃ x y z, s = [x, y, z]) ∨ (∃ ax x y z, s = [ax, x, y, z]) := by
  unfold stabs at h
  simp only [List.mem_append, List.mem_flatMap, List.mem_map, mem_grid3] at h
  rcases h with ⟨x, y, z, rfl, _⟩ | ⟨ax, _, c, ⟨x, y, z, rfl, _⟩, rfl⟩
  · exact Or.inl ⟨x, y, z, rfl⟩
  · exact Or.inr ⟨ax, x, y, z, rfl⟩

/-- `(x + 1) % P` for `0 ≤ x < P` -/
def up (P : Nat) (x : Int) : Int := if x + 1 = P then 0 else x + 1
/-- `(x - 1) % P` for `0 ≤ x < P` -/
def dn (P : Nat) (x : Int) : Int := if x = 0 then P - 1 else x - 1

theorem up_spec (P : Nat) (x : Int) : (x + 1 = P ∧ up P x = 0) ∨ (x + 1 ≠ P ∧ up P x = x + 1) := by
  unfold up; split <;> simp_all
theorem dn_spec (P : Nat) (x : Int) : (x = 0 ∧ dn P x = P - 1) ∨ (x ≠ 0 ∧ dn P x = x - 1) := by
  unfold dn; split <;> simp_all

theorem dn_pos (P : Nat) {x : Int} (h : x ≠ 0) : dn P x = x - 1 := by
  unfold dn; rw [if_neg h]

theorem up_nowrap (P : Nat) {x : Int} (h : x + 1 ≠ P) : up P x = x + 1 := by
  unfold up; rw [if_neg h]

/-- `up`, `dn` are the cyclic successor and predecessor of `Proofs/LatCyclic.lean` on the window
    that starts at `0` -/
theorem up_eq (P : Nat) (x : Int) : up P x = Cyclic.cup 0 P x := (Cyclic.cup_zero P x).symm
theorem dn_eq (P : Nat) (x : Int) : dn P x = Cyclic.cdn 0 P x := (Cyclic.cdn_zero P x).symm

theorem pmod_up (P : Nat) (x : Int) (h0 : 0 ≤ x) (h1 : x < P) : pmod (x + 1) P = up P x := by
  rw [up_eq]; exact Cyclic.pmod_succ h0 h1

theorem pmod_dn (P : Nat) (x : Int) (h0 : 0 ≤ x) (h1 : x < P) : pmod (x + -1) P = dn P x := by
  rw [dn_eq]; exact Cyclic.pmod_pred h0 h1

theorem pmod_id (P : Nat) (x : Int) (h0 : 0 ≤ x) (h1 : x < P) : pmod (x + 0) P = x :=
  Cyclic.pmod_self h0 h1

theorem pmod_succ_nowrap (P : Nat) (x : Int) (h0 : 0 ≤ x) (h1 : x + 1 < P) : pmod (x + 1) P = x + 1 := by
  unfold pmod; exact Int.emod_eq_of_lt (by omega) h1

theorem pmod_pred_nowrap (P : Nat) (x : Int) (h0 : 1 ≤ x) (h1 : x ≤ P) : pmod (x + -1) P = x - 1 := by
  unfold pmod; rw [← Int.sub_eq_add_neg]; exact Int.emod_eq_of_lt (by omega) (by omega)

theorem up_R0 (P : Nat) (x : Int) (hP : P % 2 = 0) (h : R1 P x) : R0 P (up P x) := by
  unfold R1 at h; unfold R0; have := up_spec P x; omega
theorem pred_R0 (P : Nat) (x : Int) (h : R1 P x) : R0 P (x - 1) := by
  unfold R1 at h; unfold R0; omega
theorem dn_R1 (P : Nat) (x : Int) (hP : P % 2 = 0) (h : R0 P x) : R1 P (dn P x) := by
  unfold R0 at h; unfold R1; have := dn_spec P x; omega
theorem succ_R1 (P : Nat) (x : Int) (hP : P % 2 = 0) (h : R0 P x) : R1 P (x + 1) := by
  unfold R0 at h; unfold R1; omega

/-- qubits of the cube `(x, y, z)` (odd coordinates): the upper neighbour wraps -/
def cubeLocs (Lx Ly Lz : Nat) (x y z : Int) : List Coord :=
  [[up (2*Lx) x, up (2*Ly) y, z], [x - 1, y - 1, z], [up (2*Lx) x, y - 1, z], [x - 1, up (2*Ly) y, z],
   [x - 1, y, z - 1], [up (2*Lx) x, y, z - 1], [x, y - 1, z - 1], [x, up (2*Ly) y, z - 1],
   [x - 1, y, up (2*Lz) z], [up (2*Lx) x, y, up (2*Lz) z], [x, y - 1, up (2*Lz) z], [x, up (2*Ly) y, up (2*Lz) z]]

/-- qubits of the vertex operators at `(x, y, z)` (even coordinates): the lower neighbour wraps -/
def faceLocsX (_Lx Ly Lz : Nat) (x y z : Int) : List Coord :=
  [[x, y + 1, z], [x, dn (2*Ly) y, z], [x, y, z + 1], [x, y, dn (2*Lz) z]]
def faceLocsY (Lx _Ly Lz : Nat) (x y z : Int) : List Coord :=
  [[x + 1, y, z], [dn (2*Lx) x, y, z], [x, y, z + 1], [x, y, dn (2*Lz) z]]
def faceLocsZ (Lx Ly _Lz : Nat) (x y z : Int) : List Coord :=
  [[x + 1, y, z], [dn (2*Lx) x, y, z], [x, y + 1, z], [x, dn (2*Ly) y, z]]

/-- the four edges at the vertex `e o u w` in the plane of the axes of `o` and `w` (the keys of the
    vertex operator whose axis is that of `u`); `faceLocsX/Y/Z` are the stars of the placements
    `(y, x, z)`, `(x, y, z)`, `(x, z, y)` -/
def star (Lo Lw : Nat) (e : Int → Int → Int → Coord) (o u w : Int) : List Coord :=
  [e (o + 1) u w, e (dn (2*Lo) o) u w, e o u (w + 1), e o u (dn (2*Lw) w)]

theorem map_cubeDelta (Lx Ly Lz : Nat) (x y z : Int) (h : SC Lx Ly Lz x y z) :
    cubeDelta.map (wrapAdd Lx Ly Lz x y z) = cubeLocs Lx Ly Lz x y z := by
  unfold SC R1 at h
  have ex := pmod_up (2*Lx) x (by omega) (by omega)
  have ey := pmod_up (2*Ly) y (by omega) (by omega)
  have ez := pmod_up (2*Lz) z (by omega) (by omega)
  have dx := pmod_pred_nowrap (2*Lx) x (by omega) (by omega)
  have dy := pmod_pred_nowrap (2*Ly) y (by omega) (by omega)
  have dz := pmod_pred_nowrap (2*Lz) z (by omega) (by omega)
  have ix := pmod_id (2*Lx) x (by omega) (by omega)
  have iy := pmod_id (2*Ly) y (by omega) (by omega)
  have iz := pmod_id (2*Lz) z (by omega) (by omega)
  simp only [cubeDelta, wrapAdd, List.map_cons, List.map_nil, cubeLocs, ex, ey, ez, dx, dy, dz, ix, iy, iz]

theorem map_faceDeltaX (Lx Ly Lz : Nat) (x y z : Int) (h : SVx Lx Ly Lz x y z) :
    faceDeltaX.map (wrapAdd Lx Ly Lz x y z) = faceLocsX Lx Ly Lz x y z := by
  unfold SVx R0 at h
  have ey := pmod_succ_nowrap (2*Ly) y (by omega) (by omega)
  have ez := pmod_succ_nowrap (2*Lz) z (by omega) (by omega)
  have dy := pmod_dn (2*Ly) y (by omega) (by omega)
  have dz := pmod_dn (2*Lz) z (by omega) (by omega)
  have ix := pmod_id (2*Lx) x (by omega) (by omega)
  have iy := pmod_id (2*Ly) y (by omega) (by omega)
  have iz := pmod_id (2*Lz) z (by omega) (by omega)
  simp only [faceDeltaX, wrapAdd, List.map_cons, List.map_nil, faceLocsX, ey, ez, dy, dz, ix, iy, iz]

theorem map_faceDeltaY (Lx Ly Lz : Nat) (x y z : Int) (h : SVx Lx Ly Lz x y z) :
    faceDeltaY.map (wrapAdd Lx Ly Lz x y z) = faceLocsY Lx Ly Lz x y z := by
  unfold SVx R0 at h
  have ex := pmod_succ_nowrap (2*Lx) x (by omega) (by omega)
  have ez := pmod_succ_nowrap (2*Lz) z (by omega) (by omega)
  have dx := pmod_dn (2*Lx) x (by omega) (by omega)
  have dz := pmod_dn (2*Lz) z (by omega) (by omega)
  have ix := pmod_id (2*Lx) x (by omega) (by omega)
  have iy := pmod_id (2*Ly) y (by omega) (by omega)
  have iz := pmod_id (2*Lz) z (by omega) (by omega)
  simp only [faceDeltaY, wrapAdd, List.map_cons, List.map_nil, faceLocsY, ex, ez, dx, dz, ix, iy, iz]

theorem map_faceDeltaZ (Lx Ly Lz : Nat) (x y z : Int) (h : SVx Lx Ly Lz x y z) :
    faceDeltaZ.map (wrapAdd Lx Ly Lz x y z) = faceLocsZ Lx Ly Lz x y z := by
  unfold SVx R0 at h
  have ex := pmod_succ_nowrap (2*Lx) x (by omega) (by omega)
  have ey := pmod_succ_nowrap (2*Ly) y (by omega) (by omega)
  have dx := pmod_dn (2*Lx) x (by omega) (by omega)
  have dy := pmod_dn (2*Ly) y (by omega) (by omega)
  have ix := pmod_id (2*Lx) x (by omega) (by omega)
  have iy := pmod_id (2*Ly) y (by omega) (by omega)
  have iz := pmod_id (2*Lz) z (by omega) (by omega)
  simp only [faceDeltaZ, wrapAdd, List.map_cons, List.map_nil, faceLocsZ, ex, ey, dx, dy, ix, iy, iz]

/-- `e` places the coordinates `(o, u, w)` on three different axes, of the sizes `Lo, Lu, Lw`: the
    frame over which everything that the class has once per axis (or once per pair of axes) is
    stated once -/
inductive Placed (Lx Ly Lz : Nat) : (Int → Int → Int → Coord) → Nat → Nat → Nat → Prop
  | xyz : Placed Lx Ly Lz (fun o u w => [o, u, w]) Lx Ly Lz
  | xzy : Placed Lx Ly Lz (fun o u w => [o, w, u]) Lx Lz Ly
  | yxz : Placed Lx Ly Lz (fun o u w => [u, o, w]) Ly Lx Lz
  | yzx : Placed Lx Ly Lz (fun o u w => [w, o, u]) Ly Lz Lx
  | zxy : Placed Lx Ly Lz (fun o u w => [u, w, o]) Lz Lx Ly
  | zyx : Placed Lx Ly Lz (fun o u w => [w, u, o]) Lz Ly Lx

/-- the three placements that put the direction of an edge first and keep the other two axes in
    their order: what is stated once per direction of the edges rests on these -/
inductive Dir (Lx Ly Lz : Nat) : (Int → Int → Int → Coord) → Nat → Nat → Nat → Prop
  | x : Dir Lx Ly Lz (fun o u w => [o, u, w]) Lx Ly Lz
  | y : Dir Lx Ly Lz (fun o u w => [u, o, w]) Ly Lx Lz
  | z : Dir Lx Ly Lz (fun o u w => [u, w, o]) Lz Lx Ly

theorem Dir.placed {Lx Ly Lz : Nat} {e : Int → Int → Int → Coord} {Lo Lu Lw : Nat}
    (h : Dir Lx Ly Lz e Lo Lu Lw) : Placed Lx Ly Lz e Lo Lu Lw := by
  cases h <;> constructor

section placed
variable {Lx Ly Lz : Nat} {e : Int → Int → Int → Coord} {Lo Lu Lw : Nat}
  (hp : Placed Lx Ly Lz e Lo Lu Lw)
include hp

theorem Placed.swap : Placed Lx Ly Lz (fun o u w => e o w u) Lo Lw Lu := by
  cases hp <;> constructor

theorem Placed.flip : Placed Lx Ly Lz (fun o u w => e w u o) Lw Lu Lo := by
  cases hp <;> constructor

theorem Placed.inj {o u w o' u' w' : Int} (h : e o u w = e o' u' w') : o = o' ∧ u = u' ∧ w = w' := by
  cases hp <;> simp only [List.cons.injEq, and_true] at h <;> omega

theorem Placed.par (o u w : Int) : (e o u w).map (· % 2) = e (o % 2) (u % 2) (w % 2) := by
  cases hp <;> rfl

theorem Placed.qubit {o u w : Int} (ho : R1 (2 * Lo) o) (hu : R0 (2 * Lu) u) (hw : R0 (2 * Lw) w) :
    e o u w ∈ qubits Lx Ly Lz := by
  cases hp <;> rw [mem_qubits_iff]
  · exact .inl ⟨ho, hu, hw⟩
  · exact .inl ⟨ho, hw, hu⟩
  · exact .inr (.inl ⟨hu, ho, hw⟩)
  · exact .inr (.inl ⟨hw, ho, hu⟩)
  · exact .inr (.inr ⟨hu, hw, ho⟩)
  · exact .inr (.inr ⟨hw, hu, ho⟩)

end placed

end Panqec.XCubeCode
