/-
RhombicToricCode lattice model, rank clause: the selected family of `n − k` generators
(`Model/Lattices/RhombicToricCode.lean`, `selStabs`) and its membership in arithmetic form
(distinctness and size: `Proofs/LatRhombicToricCodeRankCount.lean`).  Sizes even `≥ 2`.
-/
import PanqecVerif.Proofs.LatRhombicToricCodeWF
open Panqec Panqec.Lat3Db Panqec.Rhombic
namespace Panqec.RhombicToricCode

/-- selected cube -/
def CK (Lx Ly Lz : Nat) (x y z : Int) : Prop := SC Lx Ly Lz x y z ∧ ¬ (x = 3 ∧ y = 1 ∧ z = 1)

/-- selected triangle -/
def TK (Lx Ly Lz : Nat) (a x y z : Int) : Prop :=
  R0 (2*Lx) x ∧ R0 (2*Ly) y ∧ R0 (2*Lz) z ∧
  ((0 < x ∧ x < 2*(Lx:Int)-2 ∧ (a = 2 ∨ a = 3 ∨ (a = 1 ∧ (x + y + z) % 4 = 2))) ∨
   (x = 2*(Lx:Int)-2 ∧ (a = 2 ∨ a = 3 ∨ (a = 1 ∧ ¬ (y = 0 ∧ z = 0)))) ∨
   (x = 0 ∧ ((a = 1 ∧ (x + y + z) % 4 = 0) ∨ (a = 2 ∧ (x + y + z) % 4 = 2) ∨
      (2 ≤ z ∧ ((a = 2 ∧ (x + y + z) % 4 = 0) ∨ (a = 1 ∧ (x + y + z) % 4 = 2))) ∨
      (z = 2*(Lz:Int)-2 ∧ y < 2*(Ly:Int)-2 ∧
        ((a = 3 ∧ (x + y + z) % 4 = 2) ∨ (a = 0 ∧ (x + y + z) % 4 = 0))))))

theorem mem_selCubes_iff (Lx Ly Lz : Nat) (x y z : Int) :
    [x, y, z] ∈ selCubes Lx Ly Lz ↔ CK Lx Ly Lz x y z := by
  unfold selCubes CK SC
  simp only [List.mem_filter, mem_grid3_cons, mem_pyRange2_1, cubeKeep, beq_iff_eq, bne_iff_ne, ne_eq,
    List.cons.injEq, and_true, and_assoc]

theorem mem_verts (xs : List Int) (Ly Lz : Nat) (p : Int → Int → Int → Bool) (x y z : Int) :
    [x, y, z] ∈ verts xs Ly Lz p ↔ x ∈ xs ∧ R0 (2*Ly) y ∧ R0 (2*Lz) z ∧ p x y z = true := by
  unfold verts; simp only [mem_grid3_cons, mem_pyRange2_0]

section mem
variable {Lx Ly Lz : Nat}

theorem TK.of_mid {a x y z : Int} (h : TK Lx Ly Lz a x y z) (h0 : 0 < x) (h1 : x < 2*(Lx:Int)-2) :
    a = 2 ∨ a = 3 ∨ (a = 1 ∧ (x + y + z) % 4 = 2) := by
  rcases h.2.2.2 with ⟨-, -, h⟩ | ⟨hx, -⟩ | ⟨hx, -⟩
  · exact h
  · omega
  · omega

theorem TK.of_last {a x y z : Int} (hLx : 2 ≤ Lx) (h : TK Lx Ly Lz a x y z)
    (h0 : x = 2*(Lx:Int)-2) : a = 2 ∨ a = 3 ∨ (a = 1 ∧ ¬ (y = 0 ∧ z = 0)) := by
  rcases h.2.2.2 with ⟨-, hx, -⟩ | ⟨-, h⟩ | ⟨hx, -⟩
  · omega
  · exact h
  · omega

theorem TK.of_first {a x y z : Int} (hLx : 2 ≤ Lx) (h : TK Lx Ly Lz a x y z) (h0 : x = 0) :
    a = 1 ∨ a = 2 ∨ (z = 2*(Lz:Int)-2 ∧ y < 2*(Ly:Int)-2 ∧
      ((a = 3 ∧ (x + y + z) % 4 = 2) ∨ (a = 0 ∧ (x + y + z) % 4 = 0))) := by
  rcases h.2.2.2 with ⟨hx, -⟩ | ⟨hx, -⟩ | ⟨-, h⟩
  · omega
  · omega
  · omega

/-- membership in a block of triangles: one axis over a box of vertices, filtered by a class -/
theorem mem_blk {a b x y z : Int} {xs ys zs : List Int} {p : Int → Int → Int → Bool} :
    [b, x, y, z] ∈ (grid3 xs ys zs p).map (fun c => a :: c) ↔
      b = a ∧ x ∈ xs ∧ y ∈ ys ∧ z ∈ zs ∧ p x y z = true := by
  rw [List.mem_map]
  constructor
  · rintro ⟨c, hc, e⟩
    obtain ⟨x', y', z', rfl⟩ := shape_grid3 hc
    simp only [List.cons.injEq, and_true] at e
    obtain ⟨rfl, rfl, rfl, rfl⟩ := e
    exact ⟨rfl, (mem_grid3_cons ..).mp hc⟩
  · rintro ⟨rfl, h⟩
    exact ⟨[x, y, z], (mem_grid3_cons ..).mpr h, rfl⟩

theorem mem_selTri {a x y z : Int} (hLx : 2 ≤ Lx) (hLy : 2 ≤ Ly) (hLz : 2 ≤ Lz)
    (h : [a, x, y, z] ∈ selBulk Lx Ly Lz ++ (selLast Lx Ly Lz ++ selFirst Lx Ly Lz)) :
    TK Lx Ly Lz a x y z := by
  unfold selBulk selLast selFirst verts at h
  simp only [List.mem_append, List.mem_filter, mem_blk, mem_pyRange2, par0, par2, allTrue, beq_iff_eq,
    and_true] at h
  rcases h with (⟨rfl, hx, hy, hz, hp⟩ | ⟨rfl, hx, hy, hz⟩ | ⟨rfl, hx, hy, hz⟩) |
    (⟨rfl, hx, hy, hz⟩ | ⟨rfl, hx, hy, hz⟩ | ⟨⟨rfl, hx, hy, hz⟩, hne⟩) |
    ⟨rfl, hx, hy, hz, hp⟩ | ⟨rfl, hx, hy, hz, hp⟩ | ⟨rfl, hx, hy, hz, hp⟩ | ⟨rfl, hx, hy, hz, hp⟩ |
    ⟨rfl, hx, hy, hz, hp⟩ | ⟨rfl, hx, hy, hz, hp⟩
  all_goals refine ⟨by unfold R0; omega, by unfold R0; omega, by unfold R0; omega, ?_⟩
  · exact Or.inl ⟨by omega, by omega, Or.inr (Or.inr ⟨rfl, hp⟩)⟩
  · exact Or.inl ⟨by omega, by omega, Or.inl rfl⟩
  · exact Or.inl ⟨by omega, by omega, Or.inr (Or.inl rfl)⟩
  · exact Or.inr (Or.inl ⟨by omega, Or.inl rfl⟩)
  · exact Or.inr (Or.inl ⟨by omega, Or.inr (Or.inl rfl)⟩)
  · have hx' : x = 2*(Lx:Int)-2 := by omega
    simp only [bne_iff_ne, ne_eq, List.cons.injEq, and_true, true_and] at hne
    exact Or.inr (Or.inl ⟨hx', Or.inr (Or.inr ⟨rfl, fun h0 => hne ⟨hx', h0.1, h0.2⟩⟩)⟩)
  · exact Or.inr (Or.inr ⟨by omega, Or.inl ⟨rfl, hp⟩⟩)
  · exact Or.inr (Or.inr ⟨by omega, Or.inr (Or.inl ⟨rfl, hp⟩)⟩)
  · exact Or.inr (Or.inr ⟨by omega, Or.inr (Or.inr (Or.inl ⟨by omega, Or.inl ⟨rfl, hp⟩⟩))⟩)
  · exact Or.inr (Or.inr ⟨by omega, Or.inr (Or.inr (Or.inl ⟨by omega, Or.inr ⟨rfl, hp⟩⟩))⟩)
  · exact Or.inr (Or.inr ⟨by omega, Or.inr (Or.inr (Or.inr ⟨by omega, by omega, Or.inl ⟨rfl, hp⟩⟩))⟩)
  · exact Or.inr (Or.inr ⟨by omega, Or.inr (Or.inr (Or.inr ⟨by omega, by omega, Or.inr ⟨rfl, hp⟩⟩))⟩)

end mem

theorem shape_selTri {Lx Ly Lz : Nat} {s : Coord}
    (h : s ∈ selBulk Lx Ly Lz ++ (selLast Lx Ly Lz ++ selFirst Lx Ly Lz)) :
    ∃ a x y z, s = [a, x, y, z] := by
  unfold selBulk selLast selFirst at h
  simp only [List.mem_append, List.mem_map, List.mem_filter] at h
  rcases h with (⟨c, hc, rfl⟩ | ⟨c, hc, rfl⟩ | ⟨c, hc, rfl⟩) |
    (⟨c, hc, rfl⟩ | ⟨c, hc, rfl⟩ | ⟨⟨c, hc, rfl⟩, -⟩) |
    ⟨c, hc, rfl⟩ | ⟨c, hc, rfl⟩ | ⟨c, hc, rfl⟩ | ⟨c, hc, rfl⟩ | ⟨c, hc, rfl⟩ | ⟨c, hc, rfl⟩ <;>
    (obtain ⟨p, q, r, rfl⟩ := shape_grid3 hc; exact ⟨_, p, q, r, rfl⟩)

theorem mem_selStabs_cases {Lx Ly Lz : Nat} (hx : 2 ≤ Lx) (hy : 2 ≤ Ly) (hz : 2 ≤ Lz) {s : Coord}
    (h : s ∈ selStabs Lx Ly Lz) :
    (∃ x y z, s = [x, y, z] ∧ CK Lx Ly Lz x y z) ∨
    (∃ a x y z, s = [a, x, y, z] ∧ TK Lx Ly Lz a x y z) := by
  rcases List.mem_append.mp h with h | h
  · have hs : s ∈ grid3 (pyRange2 1 (2*Lx)) (pyRange2 1 (2*Ly)) (pyRange2 1 (2*Lz)) cubeKeep := by
      unfold selCubes at h; exact (List.mem_filter.mp h).1
    obtain ⟨x, y, z, rfl⟩ := shape_grid3 hs
    exact Or.inl ⟨x, y, z, rfl, (mem_selCubes_iff _ _ _ _ _ _).mp h⟩
  · obtain ⟨a, x, y, z, rfl⟩ := shape_selTri h
    exact Or.inr ⟨a, x, y, z, rfl, mem_selTri hx hy hz h⟩

theorem TK.st {Lx Ly Lz : Nat} {a x y z : Int} (h : TK Lx Ly Lz a x y z) : ST Lx Ly Lz a x y z := by
  obtain ⟨h1, h2, h3, h4⟩ := h
  refine ⟨?_, h1, h2, h3⟩
  unfold IsAxis; omega

theorem selStabs_sub {Lx Ly Lz : Nat} (hx : 2 ≤ Lx) (hy : 2 ≤ Ly) (hz : 2 ≤ Lz) {s : Coord}
    (h : s ∈ selStabs Lx Ly Lz) : s ∈ stabs Lx Ly Lz := by
  rcases mem_selStabs_cases hx hy hz h with ⟨x, y, z, rfl, hk⟩ | ⟨a, x, y, z, rfl, hk⟩
  · exact (mem_stabs_cube _ _ _ _ _ _).mpr hk.1
  · exact (mem_stabs_tri _ _ _ _ _ _ _).mpr hk.st

end Panqec.RhombicToricCode
