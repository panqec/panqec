/-
RhombicPlanarCode, all sizes (`Lx, Ly ≥ 2`, `Lz ≥ 1`), C17: the representatives are sets of qubits with
pairwise disjoint supports, `Lz` horizontal sheets for `X̄` and `Lx·Ly + (Lx-1)(Ly-1)` vertical stacks
for `Z̄`; the listed logicals have the weights `Lx·Ly + (Lx-1)(Ly-1)` (sheet) and `Lz` (stack).
-/
import PanqecVerif.Proofs.DistRhombicPlanarCodeParity

namespace Panqec.RhombicPlanarCode
open Panqec.Lat3Db Panqec.Rhombic
open Panqec.Lat2D (plane2 mem_plane2 nodup_plane2 length_plane2)

variable {Lx Ly Lz : Nat}

theorem mem_tSheet {Lx Ly i : Nat} {q : Coord} :
    q ∈ tSheet Lx Ly i ↔
      (∃ j k : Nat, j < Lx ∧ k < Ly ∧ q = [2 * (j : Int) + 1, 2 * (k : Int), 2 * (i : Int)]) ∨
      (∃ j k : Nat, j < Lx - 1 ∧ k < Ly - 1 ∧
        q = [2 * (j : Int) + 2, 2 * (k : Int) + 1, 2 * (i : Int)]) := by
  simp only [tSheet, List.mem_append, mem_plane2]

theorem nodup_tSheet (Lx Ly i : Nat) : (tSheet Lx Ly i).Nodup := by
  unfold tSheet
  rw [List.nodup_append]
  refine ⟨nodup_plane2 _ _ _ (fun j k j' k' h => ?_), nodup_plane2 _ _ _ (fun j k j' k' h => ?_), ?_⟩
  · simp only [List.cons.injEq, and_true] at h; omega
  · simp only [List.cons.injEq, and_true] at h; omega
  · intro a ha c hc e
    subst e
    obtain ⟨j, k, _, _, rfl⟩ := mem_plane2.mp ha
    obtain ⟨j', k', _, _, e⟩ := mem_plane2.mp hc
    simp only [List.cons.injEq, and_true] at e; omega

theorem length_tSheet (Lx Ly i : Nat) :
    (tSheet Lx Ly i).length = Lx * Ly + (Lx - 1) * (Ly - 1) := by
  unfold tSheet; rw [List.length_append, length_plane2, length_plane2]

theorem tSheet_qubits {i : Nat} (hi : i < Lz) : ∀ q ∈ tSheet Lx Ly i, q ∈ qubits Lx Ly Lz := by
  intro q hq
  rcases mem_tSheet.mp hq with ⟨j, k, hj, hk, rfl⟩ | ⟨j, k, hj, hk, rfl⟩ <;> rw [mem_qubits_iff]
  · left; unfold QX R0 R1; omega
  · right; left; unfold QY R0 R1 R2; omega

theorem tSheet_disjoint {i i' : Nat} (h : i < i') : ∀ q ∈ tSheet Lx Ly i, q ∉ tSheet Lx Ly i' := by
  intro q hq hq'
  rcases mem_tSheet.mp hq with ⟨j, k, _, _, rfl⟩ | ⟨j, k, _, _, rfl⟩ <;>
  rcases mem_tSheet.mp hq' with ⟨j', k', _, _, e⟩ | ⟨j', k', _, _, e⟩ <;>
    simp only [List.cons.injEq, and_true] at e <;> omega

theorem sheetKeys_perm (hz : 1 ≤ Lz) : (sheetKeys Lx Ly Lz).Perm (tSheet Lx Ly 0) := by
  rw [List.perm_ext_iff_of_nodup (nodup_sheetKeys Lx Ly Lz) (nodup_tSheet Lx Ly 0)]
  intro c
  rw [mem_tSheet]
  constructor
  · intro hc
    obtain ⟨x, y, z, rfl⟩ := mem_qubits_shape Lx Ly Lz c
      (mem_qubits_of_isQubit _ _ _ _ (List.mem_filter.mp hc).2)
    obtain ⟨rfl, h | h | h⟩ := mem_sheetKeys.mp hc
    · left
      unfold QX R0 R1 at h
      refine ⟨(x / 2).toNat, (y / 2).toNat, by omega, by omega, ?_⟩
      simp only [List.cons.injEq, and_true]; omega
    · right
      unfold QY R0 R1 R2 at h
      refine ⟨((x - 2) / 2).toNat, ((y - 1) / 2).toNat, by omega, by omega, ?_⟩
      simp only [List.cons.injEq, and_true]; omega
    · unfold QZ R1 at h; omega
  · rintro (⟨j, k, hj, hk, rfl⟩ | ⟨j, k, hj, hk, rfl⟩)
    · exact mem_sheetKeys.mpr ⟨by omega, Or.inl (by unfold QX R0 R1; omega)⟩
    · exact mem_sheetKeys.mpr ⟨by omega, Or.inr (Or.inl (by unfold QY R0 R1 R2; omega))⟩

/-- the `Lx·Ly` stacks of x-edges, then the `(Lx-1)(Ly-1)` stacks of y-edges -/
def stackK (Lx Ly Lz : Nat) (t : Nat) : List Coord :=
  if t < Lx * Ly then stack Lz (2 * ((t / Ly : Nat) : Int) + 1) (2 * ((t % Ly : Nat) : Int))
  else stack Lz (2 * (((t - Lx * Ly) / (Ly - 1) : Nat) : Int) + 2)
    (2 * (((t - Lx * Ly) % (Ly - 1) : Nat) : Int) + 1)

theorem nodup_stack (Lz : Nat) (p q : Int) : (stack Lz p q).Nodup :=
  List.Nodup.map (fun a b h => by simpa using h) (nodup_pyRange2 _ _)

theorem mem_stack {Lz : Nat} {p q : Int} {c : Coord} :
    c ∈ stack Lz p q ↔ ∃ z, R0 (2 * Lz) z ∧ c = [p, q, z] := by
  simp only [stack, List.mem_map, mem_pyRange2_0]
  constructor
  · rintro ⟨x, hx, rfl⟩; exact ⟨x, hx, rfl⟩
  · rintro ⟨x, hx, rfl⟩; exact ⟨x, hx, rfl⟩

theorem divmod_X {t : Nat} (hy : 1 ≤ Ly) (ht : t < Lx * Ly) : t / Ly < Lx ∧ t % Ly < Ly :=
  ⟨Nat.div_lt_of_lt_mul (by rw [Nat.mul_comm]; exact ht), Nat.mod_lt _ (by omega)⟩

theorem divmod_Y {t : Nat} (hy : 2 ≤ Ly) (h1 : ¬ t < Lx * Ly)
    (ht : t < Lx * Ly + (Lx - 1) * (Ly - 1)) :
    (t - Lx * Ly) / (Ly - 1) + 1 < Lx ∧ (t - Lx * Ly) % (Ly - 1) + 1 < Ly := by
  have h2 : t - Lx * Ly < (Ly - 1) * (Lx - 1) := by rw [Nat.mul_comm (Ly - 1)]; omega
  have h3 := Nat.div_lt_of_lt_mul h2
  have h4 := Nat.mod_lt (t - Lx * Ly) (by omega : 0 < Ly - 1)
  generalize (t - Lx * Ly) / (Ly - 1) = j at *
  generalize (t - Lx * Ly) % (Ly - 1) = k at *
  omega

theorem divmod_inj {n t t' : Nat} (h1 : t / n = t' / n) (h2 : t % n = t' % n) : t = t' := by
  rw [← Nat.div_add_mod t n, ← Nat.div_add_mod t' n, h1, h2]

theorem nodup_stackK (t : Nat) : (stackK Lx Ly Lz t).Nodup := by
  unfold stackK; split <;> exact nodup_stack _ _ _

theorem stackK_qubits (hy : 2 ≤ Ly) {t : Nat} (ht : t < Lx * Ly + (Lx - 1) * (Ly - 1)) :
    ∀ c ∈ stackK Lx Ly Lz t, c ∈ qubits Lx Ly Lz := by
  intro c hc
  unfold stackK at hc
  split at hc
  · rename_i h1
    obtain ⟨hj, hk⟩ := divmod_X (Lx := Lx) (by omega) h1
    obtain ⟨z, hz, rfl⟩ := mem_stack.mp hc
    generalize t / Ly = j at *
    generalize t % Ly = k at *
    rw [mem_qubits_iff]; left; unfold QX R0 R1 at *; omega
  · rename_i h1
    obtain ⟨hj, hk⟩ := divmod_Y hy h1 ht
    obtain ⟨z, hz, rfl⟩ := mem_stack.mp hc
    generalize (t - Lx * Ly) / (Ly - 1) = j at *
    generalize (t - Lx * Ly) % (Ly - 1) = k at *
    rw [mem_qubits_iff]; right; left; unfold QY R0 R1 R2 at *; omega

/-- equal columns would have equal quotient and remainder; x- and y-stacks differ in parity -/
theorem stackK_disjoint {t t' : Nat} (htt : t < t') :
    ∀ c ∈ stackK Lx Ly Lz t, c ∉ stackK Lx Ly Lz t' := by
  intro c hc hc'
  unfold stackK at hc hc'
  split at hc <;> split at hc' <;> obtain ⟨z, _, rfl⟩ := mem_stack.mp hc <;>
    obtain ⟨z', _, e⟩ := mem_stack.mp hc' <;> simp only [List.cons.injEq, and_true] at e
  · exact absurd (divmod_inj (n := Ly) (t := t) (t' := t') (by omega) (by omega)) (by omega)
  · omega
  · omega
  · exact absurd (divmod_inj (n := Ly - 1) (t := t - Lx * Ly) (t' := t' - Lx * Ly) (by omega) (by omega))
      (by omega)

/-- every non-trivial logical operator of the `Lx × Ly × Lz` rhombic planar code has weight
    `≥ min (Lx·Ly + (Lx-1)(Ly-1)) Lz` -/
theorem lower_bound (hx : 2 ≤ Lx) (hy : 2 ≤ Ly) (hz : 1 ≤ Lz) (hwf : (lattice Lx Ly Lz).WF)
    {n k : Nat} (hn : (qubits Lx Ly Lz).length = n)
    (hv : ValidCodeL n k (lattice Lx Ly Lz).rowsH (lattice Lx Ly Lz).rowsX
      (lattice Lx Ly Lz).rowsZ) :
    ∀ v, IsNontrivialLogical n (lattice Lx Ly Lz).rowsH v →
      min (Lx * Ly + (Lx - 1) * (Ly - 1)) Lz ≤ pauliWeight v := by
  apply Lattice.lower_bound_of_reps (lattice Lx Ly Lz) hwf hn hv
  intro a ha
  rcases List.mem_append.mp ha with ha | ha
  · obtain rfl := mem_logX.mp ha
    refine .of_family Pauli.X (tSheet Lx Ly) (Nat.min_le_right _ _) (fun i hi =>
      ⟨nodup_tSheet Lx Ly i, tSheet_qubits hi, fun b hb => ?_⟩) fun i i' h _ => tSheet_disjoint h
    rw [opAntiCount_constOp_hit, (sheetKeys_perm hz).countP_eq]
    exact parity_X hb (by omega) (by omega) i hi
  · obtain rfl := mem_logZ.mp ha
    refine .of_family Pauli.Z (stackK Lx Ly Lz) (Nat.min_le_left _ _) (fun t ht =>
      ⟨nodup_stackK t, stackK_qubits hy ht, fun b hb => ?_⟩) fun t t' h _ => stackK_disjoint h
    rw [opAntiCount_constOp_hit]
    unfold stackK
    split
    · rename_i h1
      obtain ⟨hj, hk⟩ := divmod_X (Lx := Lx) (by omega) h1
      generalize t / Ly = j at *
      generalize t % Ly = k at *
      exact parity_stack b (by omega) (by omega) (fun m hm => Or.inl (by unfold QX R0 R1; omega))
        ((stacks_const hb hx hy).1 _ _ hj hk)
    · rename_i h1
      obtain ⟨hj, hk⟩ := divmod_Y hy h1 ht
      generalize (t - Lx * Ly) / (Ly - 1) = j at *
      generalize (t - Lx * Ly) % (Ly - 1) = k at *
      exact parity_stack b (by omega) (by omega)
        (fun m hm => Or.inr (Or.inl (by unfold QY R0 R1 R2; omega))) ((stacks_const hb hx hy).2 _ _ hj hk)

/-- the weight of the row of `logicals_x` is `Lx·Ly + (Lx-1)(Ly-1)` (the sheet `z = 0`), of the row of
    `logicals_z` `Lz` (a vertical stack of x-edges) -/
theorem weights_listed (hz : 1 ≤ Lz) (hwf : (lattice Lx Ly Lz).WF) :
    (lattice Lx Ly Lz).rowsX.map pauliWeight = [Lx * Ly + (Lx - 1) * (Ly - 1)] ∧
    (lattice Lx Ly Lz).rowsZ.map pauliWeight = [Lz] := by
  rw [hwf.weights.1, hwf.weights.2]
  change (logX Lx Ly Lz).map List.length = _ ∧ (logZ Lx Ly Lz).map List.length = _
  rw [logX_eq, logZ_eq]
  simp only [List.map_cons, List.map_nil, length_constOp, (sheetKeys_perm hz).length_eq, length_tSheet,
    lineKeys, List.length_map, length_pyRange2_even]
  exact ⟨trivial, trivial⟩

/-- `code.d` (minimum weight of the listed logicals) is `min (Lx·Ly + (Lx-1)(Ly-1)) Lz` -/
theorem reported_distance (hz : 1 ≤ Lz) (hwf : (lattice Lx Ly Lz).WF) :
    distance (lattice Lx Ly Lz).rowsX (lattice Lx Ly Lz).rowsZ =
      some (min (Lx * Ly + (Lx - 1) * (Ly - 1)) Lz) :=
  distance_of_weights (weights_listed hz hwf).1 (weights_listed hz hwf).2 rfl rfl

end Panqec.RhombicPlanarCode
