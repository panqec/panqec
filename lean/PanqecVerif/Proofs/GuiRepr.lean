/-
Generic lemmas about the visualizer model (`Model/GuiRepr.lean`): the base
`stabilizer_representation` / `qubit_representation` on a servable configuration entry, and overrides
made of simple assignments.
-/
import PanqecVerif.Proofs.GuiReprDict
import PanqecVerif.Proofs.ExceptList

namespace Panqec.GuiRepr
open Panqec.Gui

/-- the condition `entryOk` tests on the colour dict -/
def ColorsOk (cm : List (String × String)) (keys : List String) (cols : Dict) : Prop :=
  ∀ k ∈ keys, ∃ name hex, getKey cols k = some (.str name) ∧ resolve cm name = some hex

theorem resolveKeys_ok (cm : List (String × String)) :
    ∀ (keys : List String) (cols : Dict), keys.Nodup → ColorsOk cm keys cols →
      ∃ cs, resolveKeys cm keys cols = .ok cs := by
  intro keys
  induction keys with
  | nil => intro cols _ _; exact ⟨cols, rfl⟩
  | cons k ks ih =>
    intro cols hnd hok
    obtain ⟨name, hex, h1, h2⟩ := hok k (List.mem_cons_self ..)
    unfold resolveKeys
    simp only [h1, h2]
    apply ih _ (List.nodup_cons.mp hnd).2
    intro k' hk'
    obtain ⟨n', x', h1', h2'⟩ := hok k' (List.mem_cons_of_mem _ hk')
    refine ⟨n', x', ?_, h2'⟩
    rw [getKey_setKey_ne _ _ _ _ (fun h : k' = k => (List.nodup_cons.mp hnd).1 (h ▸ hk'))]
    exact h1'

theorem colorsOk_of_all {cm : List (String × String)} {keys : List String} {cols : Dict}
    (h : (keys.all fun k => match getKey cols k with
      | some (.str name) => (resolve cm name).isSome
      | _ => false) = true) : ColorsOk cm keys cols := by
  intro k hk
  have := List.all_eq_true.mp h k hk
  split at this
  · next name hg =>
    obtain ⟨hex, hh⟩ := Option.isSome_iff_exists.mp this
    exact ⟨name, hex, hg, hh⟩
  · cases this

theorem isObj_iff {o : Option JV} : isObj o = true ↔ ∃ p, o = some (.obj p) := by
  constructor
  · intro h
    cases o with
    | none => simp [isObj] at h
    | some v => cases v <;> first | exact ⟨_, rfl⟩ | simp [isObj] at h
  · rintro ⟨p, rfl⟩; rfl

/-- what a description must satisfy for the overrides to apply: complete, `params` a dict -/
structure Good (d : Desc) : Prop where
  complete : descComplete d = true
  params : isObj (getKey d "params") = true

theorem resolveColors_ok (cm : List (String × String)) (keys : List String) (d : Desc) (cols : Dict)
    (hnd : keys.Nodup) (hc : getKey d "color" = some (.obj cols)) (hok : ColorsOk cm keys cols) :
    ∃ d', resolveColors cm keys d = .ok d' ∧ (∀ k, hasKey d k = true → hasKey d' k = true) ∧
      (∀ k, k ≠ "color" → getKey d' k = getKey d k) := by
  obtain ⟨cs, hcs⟩ := resolveKeys_ok cm keys cols hnd hok
  refine ⟨setKey d "color" (.obj cs), ?_, fun k hk => hasKey_setKey_of _ _ _ _ hk,
    fun k hk => getKey_setKey_ne _ _ _ _ hk⟩
  unfold resolveColors
  simp only [hc, hcs]

theorem entryOk_unpack {cm : List (String × String)} {keys : List String} {e : REntry}
    (h : entryOk cm keys e = true) :
    hasKey e.body "object" = true ∧ hasKey e.body "opacity" = true ∧
    isObj (getKey e.body "params") = true ∧
    ∃ cols, getKey e.body "color" = some (.obj cols) ∧ ColorsOk cm keys cols := by
  unfold entryOk at h
  simp only [Bool.and_eq_true] at h
  obtain ⟨⟨⟨h1, h2⟩, h3⟩, h4⟩ := h
  refine ⟨h1, h2, h3, ?_⟩
  split at h4
  · next cols hg => exact ⟨cols, hg, colorsOk_of_all h4⟩
  · cases h4

theorem descComplete_iff (d : Desc) :
    descComplete d = true ↔ hasKey d "object" = true ∧ hasKey d "color" = true ∧
      hasKey d "opacity" = true ∧ hasKey d "params" = true ∧ hasKey d "location" = true := by
  unfold descComplete requiredFields
  simp [List.all_cons, Bool.and_eq_true]

theorem hasKey_of_isObj {d : Dict} {k : String} (h : isObj (getKey d k) = true) : hasKey d k = true := by
  obtain ⟨_, hp⟩ := isObj_iff.mp h
  exact hasKey_of_getKey hp

theorem baseStab_ok (T : Tables) (cls : String) (rot : Bool) (typ : String) (loc : Coord) (e : REntry)
    (hl : lookupFull T.cfg cls "stabilizers" (pictureName rot) typ = some e)
    (he : entryOk T.colormap stabColorKeys e = true) :
    ∃ d, baseStab T cls rot typ loc = .ok d ∧ Good d ∧ getKey d "location" = some (locJV loc) ∧
      getKey d "type" = some (.str typ) ∧ getKey d "params" = getKey e.body "params" := by
  obtain ⟨h1, h2, h3, cols, h4, h5⟩ := entryOk_unpack he
  have hc : getKey (setKey (setKey e.body "type" (.str typ)) "location" (locJV loc)) "color" = some (.obj cols) := by
    rw [getKey_setKey_ne _ _ _ _ (by decide), getKey_setKey_ne _ _ _ _ (by decide)]; exact h4
  obtain ⟨d, hd, hk, hg⟩ := resolveColors_ok T.colormap stabColorKeys _ cols (by decide) hc h5
  refine ⟨d, ?_, ⟨?_, ?_⟩, ?_, ?_, ?_⟩
  · unfold baseStab; simp only [hl]; exact hd
  · rw [descComplete_iff]
    refine ⟨hk _ (hasKey_setKey_of _ _ _ _ (hasKey_setKey_of _ _ _ _ h1)), hk _ (hasKey_of_getKey hc),
      hk _ (hasKey_setKey_of _ _ _ _ (hasKey_setKey_of _ _ _ _ h2)),
      hk _ (hasKey_setKey_of _ _ _ _ (hasKey_setKey_of _ _ _ _ (hasKey_of_isObj h3))),
      hk _ (hasKey_setKey_self _ _ _)⟩
  · rw [hg _ (by decide), getKey_setKey_ne _ _ _ _ (by decide), getKey_setKey_ne _ _ _ _ (by decide)]
    exact h3
  · rw [hg _ (by decide)]; exact getKey_setKey_self _ _ _
  · rw [hg _ (by decide), getKey_setKey_ne _ _ _ _ (by decide)]; exact getKey_setKey_self _ _ _
  · rw [hg _ (by decide), getKey_setKey_ne _ _ _ _ (by decide), getKey_setKey_ne _ _ _ _ (by decide)]

theorem baseQubit_ok (T : Tables) (cls : String) (rot : Bool) (axis : String) (loc : Coord) (e : REntry)
    (hl : lookupFull T.cfg cls "qubits" (pictureName rot) "" = some e)
    (he : entryOk T.colormap qubitColorKeys e = true) :
    ∃ d, baseQubit T cls rot (some axis) loc = .ok d ∧ Good d ∧ getKey d "location" = some (locJV loc) ∧
      ∃ p, getKey d "params" = some (.obj p) ∧ getKey p "axis" = some (.str axis) := by
  obtain ⟨h1, h2, h3, cols, h4, h5⟩ := entryOk_unpack he
  obtain ⟨p, hp⟩ := isObj_iff.mp h3
  have hc : getKey (setKey (setKey e.body "params" (.obj (setKey p "axis" (.str axis)))) "location"
      (locJV loc)) "color" = some (.obj cols) := by
    rw [getKey_setKey_ne _ _ _ _ (by decide), getKey_setKey_ne _ _ _ _ (by decide)]; exact h4
  obtain ⟨d, hd, hk, hg⟩ := resolveColors_ok T.colormap qubitColorKeys _ cols (by decide) hc h5
  have hpar : getKey d "params" = some (.obj (setKey p "axis" (.str axis))) := by
    rw [hg _ (by decide), getKey_setKey_ne _ _ _ _ (by decide)]; exact getKey_setKey_self _ _ _
  refine ⟨d, ?_, ⟨?_, ?_⟩, ?_, _, hpar, getKey_setKey_self _ _ _⟩
  · unfold baseQubit; simp only [hl, hp]; exact hd
  · rw [descComplete_iff]
    refine ⟨hk _ (hasKey_setKey_of _ _ _ _ (hasKey_setKey_of _ _ _ _ h1)), hk _ (hasKey_of_getKey hc),
      hk _ (hasKey_setKey_of _ _ _ _ (hasKey_setKey_of _ _ _ _ h2)),
      hasKey_of_getKey hpar, hk _ (hasKey_setKey_self _ _ _)⟩
  · rw [hpar]; rfl
  · rw [hg _ (by decide)]; exact getKey_setKey_self _ _ _

theorem descComplete_setKey {d : Desc} (h : descComplete d = true) (k : String) (v : JV) :
    descComplete (setKey d k v) = true := by
  have := (descComplete_iff d).mp h
  rw [descComplete_iff]
  exact ⟨hasKey_setKey_of _ _ _ _ this.1, hasKey_setKey_of _ _ _ _ this.2.1,
    hasKey_setKey_of _ _ _ _ this.2.2.1, hasKey_setKey_of _ _ _ _ this.2.2.2.1,
    hasKey_setKey_of _ _ _ _ this.2.2.2.2⟩

theorem Good.setKey {d : Desc} (h : Good d) (k : String) (v : JV) (hk : k ≠ "params") : Good (setKey d k v) :=
  ⟨descComplete_setKey h.complete k v, by rw [getKey_setKey_ne _ _ _ _ (Ne.symm hk)]; exact h.params⟩

theorem Good.setParams {d : Desc} (h : Good d) (p : Dict) : Good (GuiRepr.setKey d "params" (.obj p)) :=
  ⟨descComplete_setKey h.complete _ _, by rw [getKey_setKey_self]; rfl⟩

theorem edit_apply_ok {d : Desc} (h : Good d) (l : JV) (hl : getKey d "location" = some l) (e : Edit)
    (hs : e.simple = true) :
    ∃ d', e.apply d = .ok d' ∧ Good d' ∧ getKey d' "location" = some (finalLocation [e] l) ∧
      getKey d' "type" = getKey d "type" := by
  cases e with
  | set k v =>
    have hk : k ≠ "params" ∧ k ≠ "type" := by simpa [Edit.simple] using hs
    refine ⟨_, rfl, h.setKey k v hk.1, ?_, getKey_setKey_ne _ _ _ _ (Ne.symm hk.2)⟩
    unfold finalLocation finalLocation
    by_cases hkl : k = "location"
    · subst hkl; simp [getKey_setKey_self]
    · have : (k == "location") = false := by simpa using hkl
      simp only [this, Bool.false_eq_true, if_false]
      rw [getKey_setKey_ne _ _ _ _ (Ne.symm hkl), hl]
  | param k v =>
    obtain ⟨p, hp⟩ := isObj_iff.mp h.params
    refine ⟨setKey d "params" (.obj (setKey p k v)), by simp only [Edit.apply, hp], h.setParams _, ?_,
      getKey_setKey_ne _ _ _ _ (by decide)⟩
    rw [getKey_setKey_ne _ _ _ _ (by decide), hl]; rfl
  | newParams p =>
    refine ⟨_, rfl, h.setParams _, ?_, getKey_setKey_ne _ _ _ _ (by decide)⟩
    rw [getKey_setKey_ne _ _ _ _ (by decide), hl]; rfl
  | scaleVertices b => simp [Edit.simple] at hs

theorem hasLocation {d : Desc} (h : Good d) : ∃ l, getKey d "location" = some l := by
  have := ((descComplete_iff d).mp h.complete).2.2.2.2
  unfold hasKey at this
  unfold getKey
  obtain ⟨x, hx, hp⟩ := List.any_eq_true.mp this
  cases hf : d.find? (·.1 == "location") with
  | none => exact absurd hp (by simpa using List.find?_eq_none.mp hf x hx)
  | some y => exact ⟨y.2, rfl⟩

theorem finalLocation_append (es es' : List Edit) (l : JV) :
    finalLocation (es ++ es') l = finalLocation es' (finalLocation es l) := by
  induction es generalizing l with
  | nil => rfl
  | cons e es ih => cases e <;> exact ih _

theorem finalLocation_ite {c : Prop} [Decidable c] (a b : List Edit) (l : JV) :
    finalLocation (if c then a else b) l = if c then finalLocation a l else finalLocation b l :=
  apply_ite (finalLocation · l) c a b

/-- an override made of simple assignments never fails on a good description and keeps it good -/
theorem applyEdits_ok : ∀ (es : List Edit) (d : Desc) (l : JV), Good d → getKey d "location" = some l →
    es.all Edit.simple = true →
    ∃ d', applyEdits es d = .ok d' ∧ Good d' ∧ getKey d' "location" = some (finalLocation es l) ∧
      getKey d' "type" = getKey d "type" := by
  intro es
  induction es with
  | nil => intro d l h hl _; exact ⟨d, rfl, h, hl, rfl⟩
  | cons e es ih =>
    intro d l h hl hs
    simp only [List.all_cons, Bool.and_eq_true] at hs
    obtain ⟨d1, h1, hg1, hl1, ht1⟩ := edit_apply_ok h l hl e hs.1
    obtain ⟨d', h2, hg2, hl2, ht2⟩ := ih d1 _ hg1 hl1 hs.2
    refine ⟨d', ?_, hg2, ?_, ht2.trans ht1⟩
    · unfold applyEdits at h2 ⊢
      rw [List.foldlM_cons, h1]; exact h2
    · rw [hl2]; exact congrArg some (finalLocation_append [e] es l).symm

end Panqec.GuiRepr
