/-
`brank` (`panqec/bpauli.py`): the rows of a 0/1 matrix are packed big-endian into integers
and handed to `gf2_rank`.  Big-endian packing is the coordinate reversal `Fin.rev`, a linear
isomorphism of `Fin w → ZMod 2`, so the rank of the packed rows is the rank of the matrix.
-/
import Mathlib.Data.Fin.Rev
import PanqecVerif.Proofs.Gf2Rank

namespace Panqec

open Module Submodule

/-- a row of digits read as a vector: coordinate `j` is digit `j` (missing digits are 0) -/
def toVecBits (w : ℕ) (v : List ℕ) : Fin w → ZMod 2 := fun j => ((v.getD j 0 : ℕ) : ZMod 2)

def bitsSpan (w : ℕ) (m : List (List ℕ)) : Submodule (ZMod 2) (Fin w → ZMod 2) :=
  span (ZMod 2) (Set.range fun i : Fin m.length => toVecBits w m[i])

/-- the GF(2) rank of a matrix: dimension of its row space -/
noncomputable def bitsRank (w : ℕ) (m : List (List ℕ)) : ℕ := finrank (ZMod 2) (bitsSpan w m)

noncomputable def revEquiv (w : ℕ) : (Fin w → ZMod 2) ≃ₗ[ZMod 2] (Fin w → ZMod 2) :=
  LinearEquiv.funCongrLeft (ZMod 2) (ZMod 2) (Fin.revPerm (n := w))

theorem revEquiv_apply (w : ℕ) (x : Fin w → ZMod 2) (i : Fin w) :
    revEquiv w x i = x (Fin.rev i) := rfl

theorem toVecMask_bvectorToInt (w : ℕ) (v : List ℕ) (hlen : v.length = w)
    (hbin : ∀ x ∈ v, x < 2) :
    toVecMask w (bvectorToInt v) = revEquiv w (toVecBits w v) := by
  funext i
  have hj : ((Fin.rev i : Fin w) : ℕ) < v.length := by rw [hlen]; exact (Fin.rev i).2
  have e : v.reverse.getD i 0 = v.getD (Fin.rev i : Fin w) 0 := by
    rw [List.getD_eq_getElem?_getD, List.getD_eq_getElem?_getD,
      List.getElem?_reverse (by rw [hlen]; exact i.2), Fin.val_rev, hlen]
    congr 2
    omega
  have hx : v.getD (Fin.rev i : Fin w) 0 < 2 := by
    rw [← List.getElem_eq_getD (h := hj)]
    exact hbin _ (List.getElem_mem hj)
  simp only [revEquiv_apply, toVecMask, toVecBits, testBit_bvectorToInt v hbin, e]
  generalize v.getD (Fin.rev i : Fin w) 0 = x at hx
  have : x = 0 ∨ x = 1 := by omega
  rcases this with rfl | rfl <;> simp

theorem maskSpan_map_bvectorToInt (w : ℕ) (m : List (List ℕ))
    (hlen : ∀ r ∈ m, r.length = w) (hbin : ∀ r ∈ m, ∀ x ∈ r, x < 2) :
    maskSpan w (m.map bvectorToInt) = (bitsSpan w m).map (revEquiv w).toLinearMap := by
  rw [maskSpan_eq_image, bitsSpan, range_getElem_eq_image, Submodule.map_span]
  congr 1
  ext v
  constructor
  · rintro ⟨x, hx, rfl⟩
    obtain ⟨r, hr, rfl⟩ := List.mem_map.mp hx
    exact ⟨toVecBits w r, ⟨r, hr, rfl⟩,
      (toVecMask_bvectorToInt w r (hlen r hr) (hbin r hr)).symm⟩
  · rintro ⟨_, ⟨r, hr, rfl⟩, rfl⟩
    exact ⟨bvectorToInt r, List.mem_map.mpr ⟨r, hr, rfl⟩,
      toVecMask_bvectorToInt w r (hlen r hr) (hbin r hr)⟩

/-- `brank` computes the GF(2) rank of a 0/1 matrix whose rows all have length `w`. -/
theorem brank_eq_rank (w : ℕ) (m : List (List ℕ))
    (hlen : ∀ r ∈ m, r.length = w) (hbin : ∀ r ∈ m, ∀ x ∈ r, x < 2) :
    brank m = bitsRank w m := by
  have hlt : ∀ x ∈ m.map bvectorToInt, x < 2 ^ w := by
    intro x hx
    obtain ⟨r, hr, rfl⟩ := List.mem_map.mp hx
    have := bvectorToInt_lt r (hbin r hr)
    rwa [hlen r hr] at this
  rw [brank, gf2Rank_eq_finrank w _ hlt, maskRank, maskSpan_map_bvectorToInt w m hlen hbin,
    bitsRank]
  exact LinearEquiv.finrank_map_eq (revEquiv w) (bitsSpan w m)

end Panqec
