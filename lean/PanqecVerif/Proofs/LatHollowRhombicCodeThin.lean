/-
`HollowRhombicCode` whose hole is a single layer of edges (`x = 3` for `Lx = 3`, `y = 3` for `Ly = 4`,
`z = 3` for `Lz = 4`) and at least two unit cells wide in the two other directions is NOT a valid
`[[n, 1]]` code, for EVERY such size: a plaquette `X2keys` (weight 4, next to the hole) and an operator
`Z2keys` (weight 6) commute with every generator and with the declared logical pair and anticommute
with each other — an undeclared second logical qubit — so every independent family of generators
has at most `n − 2` members.  The two operators are fixed and lie in the box of coordinates `≤ 6`, from
where every size of a family looks like its smallest (`SecondPair.of_alike`); there the commutation is
a finite check evaluated by the kernel (`SecondPair.of_check`).
-/
import PanqecVerif.Proofs.LatHollowRhombicCodeSecondPair

namespace Panqec.HollowRhombicCode
open Panqec.Cubic3D

namespace ThinA

def X2keys : List Coord := [[2, 5, 4], [2, 5, 6], [2, 4, 5], [2, 6, 5]]
def Z2keys : List Coord := [[1, 2, 0], [1, 4, 2], [5, 2, 0], [5, 4, 2], [2, 5, 4], [4, 5, 4]]

theorem secondPair {Ly Lz : Nat} (hy : 6 ≤ Ly) (hz : 6 ≤ Lz) : SecondPair 3 Ly Lz X2keys Z2keys :=
  .of_alike ⟨.inl rfl, .inr ⟨hy, Nat.le_refl 6⟩, .inr ⟨hz, Nat.le_refl 6⟩⟩ (by decide) (by decide)
    (.of_check (Lx := 3) (Ly := 6) (Lz := 6) (by decide +kernel))

theorem rank_le {Ly Lz : Nat} (hy : 6 ≤ Ly) (hz : 6 ≤ Lz) (r : Nat)
    (h : HasRank (2 * (lattice 3 Ly Lz).qubits.length) (lattice 3 Ly Lz).rowsH r) :
    r + 2 ≤ (lattice 3 Ly Lz).qubits.length :=
  (secondPair hy hz).rank_le r h

end ThinA

namespace ThinB

def X2keys : List Coord := [[5, 2, 4], [5, 2, 6], [4, 2, 5], [6, 2, 5]]
def Z2keys : List Coord := [[5, 0, 0], [5, 0, 2], [5, 2, 0], [5, 4, 2], [5, 2, 4], [5, 4, 4]]

theorem secondPair {Lx Lz : Nat} (hx : 5 ≤ Lx) (hz : 6 ≤ Lz) : SecondPair Lx 4 Lz X2keys Z2keys :=
  .of_alike ⟨.inr ⟨hx, Nat.le_refl 5⟩, .inl rfl, .inr ⟨hz, Nat.le_refl 6⟩⟩ (by decide) (by decide)
    (.of_check (Lx := 5) (Ly := 4) (Lz := 6) (by decide +kernel))

theorem rank_le {Lx Lz : Nat} (hx : 5 ≤ Lx) (hz : 6 ≤ Lz) (r : Nat)
    (h : HasRank (2 * (lattice Lx 4 Lz).qubits.length) (lattice Lx 4 Lz).rowsH r) :
    r + 2 ≤ (lattice Lx 4 Lz).qubits.length :=
  (secondPair hx hz).rank_le r h

end ThinB

namespace ThinC

def X2keys : List Coord := [[5, 4, 2], [5, 6, 2], [4, 5, 2], [6, 5, 2]]
def Z2keys : List Coord := [[5, 0, 0], [5, 0, 2], [5, 2, 0], [5, 4, 2], [5, 2, 4], [5, 4, 4]]

theorem secondPair {Lx Ly : Nat} (hx : 5 ≤ Lx) (hy : 6 ≤ Ly) : SecondPair Lx Ly 4 X2keys Z2keys :=
  .of_alike ⟨.inr ⟨hx, Nat.le_refl 5⟩, .inr ⟨hy, Nat.le_refl 6⟩, .inl rfl⟩ (by decide) (by decide)
    (.of_check (Lx := 5) (Ly := 6) (Lz := 4) (by decide +kernel))

theorem rank_le {Lx Ly : Nat} (hx : 5 ≤ Lx) (hy : 6 ≤ Ly) (r : Nat)
    (h : HasRank (2 * (lattice Lx Ly 4).qubits.length) (lattice Lx Ly 4).rowsH r) :
    r + 2 ≤ (lattice Lx Ly 4).qubits.length :=
  (secondPair hx hy).rank_le r h

end ThinC

/-! `HollowRhombicCode(3, 6, 6)` by itself (it is also the smallest size of `ThinA`): here with an X
operator of weight 10 where `ThinA` has the plaquette of weight 4, so the kernel checks this size
twice, once for each.  `X2keys`, `Z2keys` and `lat2` below are those of this size; `Z2keys` is the list
`ThinA.Z2keys`.  With the rank bound from commutation and pairing
(`hasRank_le_of_commute_pairing`) the GF(2) rank of the generators is at most `n − 2 = 222`, so the
rank clause `rank = n − k = 223` of C01 fails for this size (recorded known finding).  The
commutation of the declared operators is `HollowRhombicCode.commPair` (`Proofs/LatHollowRhombicCodeCss.lean`); the
statements about `X2keys` and `Z2keys` are finite checks over the 288 vertex × axis pairs and the 105
cube positions of this size, evaluated by the kernel (`SecondPair.of_check`). -/

/-- the undeclared logical X of `HollowRhombicCode(3, 6, 6)` -/
def X2keys : List Coord := [[1, 2, 4], [1, 2, 6], [1, 4, 4], [1, 4, 6], [2, 3, 4], [2, 3, 6], [2, 5, 4], [2, 5, 6], [2, 2, 5], [2, 6, 5]]
/-- the undeclared logical Z of `HollowRhombicCode(3, 6, 6)` -/
def Z2keys : List Coord := [[1, 2, 0], [1, 4, 2], [5, 2, 0], [5, 4, 2], [2, 5, 4], [4, 5, 4]]

theorem secondPair_366 : SecondPair 3 6 6 X2keys Z2keys := .of_check (by decide +kernel)

/-- the lattice `(3, 6, 6)` with the second logical pair added -/
def lat2 : Lattice where
  qubits := (lattice 3 6 6).qubits
  stabs := (lattice 3 6 6).stabs
  getStab := (lattice 3 6 6).getStab
  logX := (lattice 3 6 6).logX ++ [uop X2keys Pauli.X]
  logZ := (lattice 3 6 6).logZ ++ [uop Z2keys Pauli.Z]

theorem lat2_logX : lat2.logX = [uop (sheetKeys 3 6 6) Pauli.X, uop X2keys Pauli.X] :=
  withPair_logX 3 6 6 X2keys Z2keys

theorem n_366 : (lattice 3 6 6).qubits.length = 224 := by
  have := qubits_length_add 3 6 6
  show (qubits 3 6 6).length = 224
  omega

theorem rank_le_366 (r : Nat) (h : HasRank (2 * 224) (lattice 3 6 6).rowsH r) : r ≤ 222 := by
  have := secondPair_366.rank_le r (n_366 ▸ h)
  rw [n_366] at this
  omega

end Panqec.HollowRhombicCode
