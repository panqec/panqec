/-
Union-find internals (C05), peeling: what the invariant `PInv` says about the parents
of the leaves and about the edge qubits, and what follows while a defect is left.
-/
import PanqecVerif.Proofs.UnionFindPeelParity

namespace Panqec.UF

section
variable {H : Mat} {stabs qubits : Nat → Bool} {root : Nat} {S0 : Nat → Nat → Bool}
  {syn0 : Nat → Bool} {al : Nat → Bool} {st : PeelSt}

theorem par_filter (hst : ∀ s, stabs s = true → s < H.length) (T : TreeOK H stabs qubits root S0)
    {p c : Nat} (h : S0 p c = true) : (List.range H.length).filter (fun p' => S0 p' c) = [p] :=
  filter_range_unique _ _ p (hst p (T.mem p c h).1) h (fun i _ hi => T.uniq i p c hi h)

theorem parOf_eq (hst : ∀ s, stabs s = true → s < H.length) (T : TreeOK H stabs qubits root S0)
    {p c : Nat} (h : S0 p c = true) : parOf H.length S0 c = p := by
  unfold parOf; rw [par_filter hst T h]; rfl

/-- the edge qubit of a tree edge (the first member qubit shared by parent and child) is shared
    by them, and its column is exactly `{p, c}` -/
theorem edge_spec (G : GraphOK H) (T : TreeOK H stabs qubits root S0) {p c : Nat}
    (h : S0 p c = true) :
    adjq H stabs qubits p c (eOf H stabs qubits p c) = true ∧
    ∀ s, hb H s (eOf H stabs qubits p c) = true ↔ (s = p ∨ s = c) := by
  obtain ⟨hp, hc, hne, q, hq⟩ := T.mem p c h
  have hmem : q ∈ (List.range (ncols H)).filter (fun q => adjq H stabs qubits p c q) :=
    (mem_filter_range _ _ q).mpr ⟨(G.inRange p q ((adjq_true H stabs qubits p c q).mp hq).1).2, hq⟩
  have he : adjq H stabs qubits p c (eOf H stabs qubits p c) = true := by
    unfold eOf
    cases hf : (List.range (ncols H)).filter (fun q => adjq H stabs qubits p c q) with
    | nil => rw [hf] at hmem; cases hmem
    | cons a l => exact (List.mem_filter.mp (hf ▸ List.mem_cons_self)).2
  have he' := (adjq_true H stabs qubits p c _).mp he
  refine ⟨he, fun s => ⟨fun hs => ?_, ?_⟩⟩
  · rcases G.col2 _ s p c hs he'.1 he'.2.1 with h1 | h1 | h1
    · exact Or.inl h1
    · exact Or.inr h1
    · exact absurd h1 hne
  · rintro (rfl | rfl)
    · exact he'.1
    · exact he'.2.1

/-- two tree edges with the same edge qubit have the same child -/
theorem edge_inj (G : GraphOK H) (T : TreeOK H stabs qubits root S0) {p c p' c' : Nat}
    (h : S0 p c = true) (h' : S0 p' c' = true)
    (he : eOf H stabs qubits p c = eOf H stabs qubits p' c') : c = c' := by
  have e1 := (edge_spec G T h).2
  have e2 := (edge_spec G T h').2
  rw [← he] at e2
  rcases (e1 c').mp ((e2 c').mpr (Or.inr rfl)) with hc' | hc'
  · -- `c' = p`: then `p' = c`, and the two edges would form a cycle
    rcases (e1 p').mp ((e2 p').mpr (Or.inl rfl)) with hp' | hp'
    · exact absurd (hp'.trans hc'.symm) (T.mem p' c' h').2.2.1
    · subst hp' hc'
      obtain ⟨lv, B, hlv⟩ := T.lv
      have := (hlv _ _ h).1
      have := (hlv _ _ h').1
      omega
  · exact hc'.symm

/-- every alive stabilizer other than the root has an alive parent -/
theorem alive_parent (T : TreeOK H stabs qubits root S0) (I : PInv H stabs qubits S0 syn0 al st)
    {c : Nat} (hc : al c = true) (hne : c ≠ root) : ∃ p, S0 p c = true ∧ al p = true := by
  obtain ⟨p, hp⟩ := T.span c (I.al_stabs c hc) hne
  exact ⟨p, hp, I.al_up p c hp hc⟩

theorem leaf_alive (I : PInv H stabs qubits S0 syn0 al st) {c : Nat} (hc : c ∈ st.leaves) :
    al c = true := ((I.leaves_iff c).mp hc).1

/-- a leaf has no alive child -/
theorem leaf_no_child (I : PInv H stabs qubits S0 syn0 al st) {v c : Nat} (hv : v ∈ st.leaves)
    (h : S0 v c = true) : al c = false := by
  have := ((I.leaves_iff v).mp hv).2 c
  rwa [I.S_eq, h, Bool.true_and] at this

/-- an alive stabilizer without alive children is a leaf -/
theorem leaf_of_no_child (I : PInv H stabs qubits S0 syn0 al st) {v : Nat} (hv : al v = true)
    (h : ∀ c, S0 v c = true → al c = false) : v ∈ st.leaves := by
  refine (I.leaves_iff v).mpr ⟨hv, fun c => ?_⟩
  rw [I.S_eq]
  cases hc : S0 v c
  · rfl
  · exact h c hc

/-- if the root is a leaf, it is the only stabilizer left and carries no defect -/
theorem root_leaf_done (hst : ∀ s, stabs s = true → s < H.length)
    (T : TreeOK H stabs qubits root S0) (I : PInv H stabs qubits S0 syn0 al st)
    (hr : root ∈ st.leaves) (s : Nat) : st.syn s = false := by
  obtain ⟨lv, B, hlv⟩ := T.lv
  have only : ∀ k v, lv v < k → al v = true → v = root := by
    intro k
    induction k with
    | zero => intro v hk; omega
    | succ k ih =>
      intro v hk hv
      by_contra hne
      obtain ⟨p, hp, hap⟩ := alive_parent T I hv hne
      have := (hlv p v hp).1
      rw [ih p (by omega) hap] at hp
      rw [leaf_no_child I hr hp] at hv
      cases hv
  have supp : ∀ i, st.syn i = true → i = root := fun i hi => only _ i (Nat.lt_succ_self _) (I.syn_al i hi)
  have hev := I.even
  rw [cnt_single H.length st.syn root (hst root T.rootMem) supp] at hev
  cases hs : st.syn s
  · rfl
  · rw [supp s hs] at hs
    rw [hs] at hev
    cases hev

/-- some alive stabilizer ⇒ some leaf (walk down to a deepest alive descendant) -/
theorem exists_leaf (T : TreeOK H stabs qubits root S0) (I : PInv H stabs qubits S0 syn0 al st)
    {v : Nat} (hv : al v = true) : ∃ w, w ∈ st.leaves := by
  obtain ⟨lv, B, hlv⟩ := T.lv
  have key : ∀ k v, B - lv v < k → al v = true → ∃ w, w ∈ st.leaves := by
    intro k
    induction k with
    | zero => intro v hk; omega
    | succ k ih =>
      intro v hk hv
      by_cases hch : ∃ c, S0 v c = true ∧ al c = true
      · obtain ⟨c, hc, hac⟩ := hch
        have := hlv v c hc
        exact ih c (by omega) hac
      · exact ⟨v, leaf_of_no_child I hv fun c hc =>
          Bool.eq_false_iff.mpr fun hac => hch ⟨c, hc, hac⟩⟩
  exact key _ v (Nat.lt_succ_self _) hv

/-- a leaf's parent edge -/
theorem leaf_edge (hst : ∀ s, stabs s = true → s < H.length)
    (T : TreeOK H stabs qubits root S0) (I : PInv H stabs qubits S0 syn0 al st)
    (hroot : root ∉ st.leaves) {c : Nat} (hc : c ∈ st.leaves) :
    S0 (parOf H.length S0 c) c = true := by
  obtain ⟨p, hp, _⟩ := alive_parent T I (leaf_alive I hc) fun h => hroot (h ▸ hc)
  rwa [parOf_eq hst T hp]

/-- `np.where(child_to_p[curr_leaves_ind].toarray())[1]` is the list of parents, aligned with
    the leaves -/
theorem parents_eq (hst : ∀ s, stabs s = true → s < H.length)
    (T : TreeOK H stabs qubits root S0) (I : PInv H stabs qubits S0 syn0 al st)
    (hroot : root ∉ st.leaves) :
    (st.leaves.flatMap fun c => (List.range H.length).filter fun p => st.S p c) =
      st.leaves.map (parOf H.length S0) := by
  rw [List.map_eq_flatMap]
  refine List.flatMap_congr fun c hc => ?_
  have : (fun p' => st.S p' c) = (fun p' => S0 p' c) := by
    funext p'; rw [I.S_eq, leaf_alive I hc, Bool.and_true]
  rw [this, par_filter hst T (leaf_edge hst T I hroot hc)]

/-- no leaf is the parent of a leaf -/
theorem leaf_not_parent (hst : ∀ s, stabs s = true → s < H.length)
    (T : TreeOK H stabs qubits root S0) (I : PInv H stabs qubits S0 syn0 al st)
    (hroot : root ∉ st.leaves) {s c : Nat} (hs : s ∈ st.leaves) (hc : c ∈ st.leaves) :
    parOf H.length S0 c ≠ s := by
  intro h
  have := leaf_no_child I hs (h ▸ leaf_edge hst T I hroot hc)
  rw [leaf_alive I hc] at this
  cases this

/-- while a defect is left, the root is not a leaf, some leaf exists, and — a leaf sharing a
    qubit with its parent — the matrix has a column -/
theorem defect_left (G : GraphOK H) (hst : ∀ s, stabs s = true → s < H.length)
    (T : TreeOK H stabs qubits root S0) (I : PInv H stabs qubits S0 syn0 al st) {s : Nat}
    (hs : st.syn s = true) : root ∉ st.leaves ∧ (∃ w, w ∈ st.leaves) ∧ ncols H ≠ 0 := by
  have hroot : root ∉ st.leaves := fun hr => by
    rw [root_leaf_done hst T I hr s] at hs
    cases hs
  obtain ⟨w, hw⟩ := exists_leaf T I (I.syn_al s hs)
  have he := (adjq_true H stabs qubits _ _ _).mp (edge_spec G T (leaf_edge hst T I hroot hw)).1
  have := (G.inRange _ _ he.1).2
  exact ⟨hroot, ⟨w, hw⟩, by omega⟩

end

end Panqec.UF
