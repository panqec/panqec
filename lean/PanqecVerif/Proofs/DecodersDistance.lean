/-
Hamming weight, linearity of sector syndromes, the "minimum weight decoder corrects up to t
errors" argument on GF(2) vectors, and the sweep-match glue (core Lean only).
-/
import PanqecVerif.Proofs.DecodersGlue
import PanqecVerif.Proofs.RowCombos

namespace Panqec

theorem hammingWt_nil : hammingWt [] = 0 := rfl

theorem hammingWt_cons (a : Nat) (v : Vec) :
    hammingWt (a :: v) = (if a ≠ 0 then 1 else 0) + hammingWt v := by
  unfold hammingWt
  by_cases h : a = 0 <;> simp [h] <;> omega

theorem vxor_cons (a b : Nat) (as bs : Vec) :
    vxor (a :: as) (b :: bs) = (a + b) % 2 :: vxor as bs := by simp [vxor]

theorem vxor_nil_left (b : Vec) : vxor [] b = [] := by simp [vxor]
theorem vxor_nil_right (a : Vec) : vxor a [] = [] := by simp [vxor]

theorem hammingWt_vxor_le : ∀ a b : Vec, hammingWt (vxor a b) ≤ hammingWt a + hammingWt b
  | [], b => by simp [vxor_nil_left, hammingWt_nil]
  | a :: as, [] => by simp [vxor_nil_right, hammingWt_nil]
  | a :: as, b :: bs => by
    rw [vxor_cons, hammingWt_cons, hammingWt_cons, hammingWt_cons]
    have ih := hammingWt_vxor_le as bs
    (repeat' split) <;> omega

theorem dot_vxor_right (r a b : Vec) (h : a.length = b.length) :
    dot r (vxor a b) % 2 = (dot r a % 2 + dot r b % 2) % 2 := by
  unfold vxor
  rw [dot_map_mod_right, dot_comm, dot_vadd_left a b r h, dot_comm a r, dot_comm b r]
  omega

theorem sectorSyndrome_vxor (M : Mat) (a b : Vec) (h : a.length = b.length) :
    sectorSyndrome M (vxor a b) = vxor (sectorSyndrome M a) (sectorSyndrome M b) := by
  unfold sectorSyndrome
  induction M with
  | nil => simp [vxor]
  | cons r M ih =>
    simp only [List.map_cons, vxor_cons]
    rw [ih, dot_vxor_right r a b h]

/-- one sector, abstract form: `M` is the sector check matrix, `IsStab` the trivial operators of
    that sector (row space of the dual sector matrix), `hdist` sector distance at least `2t+1` -/
theorem corrects_up_to_t_sector (M : Mat) (n t : Nat) (IsStab : Vec → Prop)
    (hdist : ∀ v : Vec, v.length = n → (∀ x ∈ v, x < 2) →
        (∀ x ∈ sectorSyndrome M v, x = 0) → ¬ IsStab v → 2 * t + 1 ≤ hammingWt v)
    (e c : Vec) (he : e.length = n) (heb : ∀ x ∈ e, x < 2) (hwt : hammingWt e ≤ t)
    (hc : Solves n M (sectorSyndrome M e) c)
    (hmin : ∀ c', Solves n M (sectorSyndrome M e) c' → hammingWt c ≤ hammingWt c') :
    (∀ x ∈ sectorSyndrome M (vxor e c), x = 0) ∧ hammingWt (vxor e c) ≤ 2 * t ∧
      IsStab (vxor e c) := by
  obtain ⟨hcl, hcb, hcs⟩ := hc
  have hlen : e.length = c.length := by omega
  have hsyn : ∀ x ∈ sectorSyndrome M (vxor e c), x = 0 := by
    rw [sectorSyndrome_vxor M e c hlen, hcs]
    exact vxor_self_zero _
  have hce : hammingWt c ≤ hammingWt e := hmin e ⟨he, heb, rfl⟩
  have hw : hammingWt (vxor e c) ≤ 2 * t := by
    have := hammingWt_vxor_le e c
    omega
  refine ⟨hsyn, hw, ?_⟩
  apply Classical.byContradiction
  intro hns
  have := hdist (vxor e c) (by rw [vxor_length e c hlen]; exact he) (vxor_binary e c) hsyn hns
  omega

theorem hammingWt_le_zipWith (f : Nat → Nat → Nat) (hf : ∀ x z, x ≠ 0 → f x z ≠ 0) :
    ∀ xs zs : Vec, xs.length ≤ zs.length → hammingWt xs ≤ hammingWt (List.zipWith f xs zs)
  | [], _, _ => by simp [hammingWt_nil]
  | x :: xs, [], h => by simp at h
  | x :: xs, z :: zs, h => by
    have ih := hammingWt_le_zipWith f hf xs zs (by simpa using h)
    have := hf x z
    rw [List.zipWith_cons_cons, hammingWt_cons, hammingWt_cons]
    (repeat' split) <;> omega

theorem sector_weights_le_pauli_weight (e : Vec) (n : Nat) (he : e.length = 2 * n) :
    hammingWt (xPart e) ≤ bsfWt e ∧ hammingWt (zPart e) ≤ bsfWt e := by
  have hx := xPart_len he
  have hz := zPart_len he
  refine ⟨hammingWt_le_zipWith _ (by omega) _ _ (by omega), ?_⟩
  unfold bsfWt
  rw [List.zipWith_comm]
  exact hammingWt_le_zipWith _ (by omega) _ _ (by omega)

/-- whatever the decoder: only that the halves are minimum-Hamming-weight answers of their sectors
    is used; `StabX`, `StabZ`, `hdX`, `hdZ` as in `corrects_up_to_t_sector` -/
theorem SectorAnswer.corrects_up_to_t {H : Mat} {n : Nat} {e cx cz : Vec}
    (h : SectorAnswer H n e cx cz) (t : Nat) (StabX StabZ : Vec → Prop)
    (hdX : ∀ v : Vec, v.length = n → (∀ x ∈ v, x < 2) →
        (∀ x ∈ sectorSyndrome (Hz H) v, x = 0) → ¬ StabX v → 2 * t + 1 ≤ hammingWt v)
    (hdZ : ∀ v : Vec, v.length = n → (∀ x ∈ v, x < 2) →
        (∀ x ∈ sectorSyndrome (Hx H) v, x = 0) → ¬ StabZ v → 2 * t + 1 ≤ hammingWt v)
    (he : e.length = 2 * n) (heb : ∀ x ∈ e, x < 2)
    (hwx : hammingWt (xPart e) ≤ t) (hwz : hammingWt (zPart e) ≤ t)
    (hminX : ∀ c', Solves n (Hz H) (extractZSyndrome H (measureSyndrome H e)) c' →
      hammingWt cx ≤ hammingWt c')
    (hminZ : ∀ c', Solves n (Hx H) (extractXSyndrome H (measureSyndrome H e)) c' →
      hammingWt cz ≤ hammingWt c') :
    StabX (xPart (vxor e (cx ++ cz))) ∧ StabZ (zPart (vxor e (cx ++ cz))) ∧
      inCodespace H (vxor e (cx ++ cz)) = true := by
  obtain ⟨hl, _, hs⟩ := h.valid
  have hlen : e.length = (cx ++ cz).length := he.trans hl.symm
  have hX := h.x
  have hZ := h.z
  rw [css_zrow_block H h.css e] at hX hminX
  rw [css_xrow_block H h.css e] at hZ hminZ
  refine ⟨?_, ?_, in_codespace_of_same_syndrome H e _ hlen hs⟩
  · rw [xPart_vxor e _ hlen, h.xPart_eq]
    exact (corrects_up_to_t_sector (Hz H) n t StabX hdX (xPart e) cx (xPart_len he)
      (fun x hx => heb x (List.mem_of_mem_take hx)) hwx hX hminX).2.2
  · rw [zPart_vxor e _ hlen, h.zPart_eq]
    exact (corrects_up_to_t_sector (Hx H) n t StabZ hdZ (zPart e) cz (zPart_len he)
      (fun x hx => heb x (List.mem_of_mem_drop hx)) hwz hZ hminZ).2.2

theorem symp_zeros (r : Vec) (k : Nat) : symp r (List.replicate k 0) = 0 :=
  (symp_comm _ _).trans (symp_vzero_left k r)

theorem measureSyndrome_zeros (H : Mat) (k : Nat) :
    measureSyndrome H (List.replicate k 0) = List.replicate H.length 0 := by
  simp only [measureSyndrome_eq, symp_zeros, List.map_const']

theorem sectorSyndrome_zeros (M : Mat) (k : Nat) :
    sectorSyndrome M (List.replicate k 0) = List.replicate M.length 0 := by
  simp only [sectorSyndrome, dot_replicate_zero_right, Nat.zero_mod, List.map_const']

theorem xPart_zeros (n : Nat) : xPart (List.replicate (2 * n) 0) = List.replicate n 0 := by
  unfold xPart; simp; omega

theorem zPart_zeros (n : Nat) : zPart (List.replicate (2 * n) 0) = List.replicate n 0 := by
  unfold zPart; simp; omega

/-- `(x_correction + z_correction) % 2` with an X-only and a Z-only part is `[cx | zz]` -/
theorem sweepmatch_assemble (n : Nat) (cx zz : Vec) (hcx : cx.length = n) (hzz : zz.length = n)
    (hbx : ∀ x ∈ cx, x < 2) (hbz : ∀ x ∈ zz, x < 2) :
    vxor (cx ++ List.replicate n 0) (List.replicate n 0 ++ zz) = cx ++ zz := by
  rw [vxor_append cx _ (List.replicate n 0) _ (by simp [hcx])]
  subst hcx
  rw [(vxor_zeros cx hbx).1, ← hzz, (vxor_zeros zz hbz).2]

theorem sweepmatch_valid {W R : Type} (sweep : R → Vec → R × Vec) (solve : WSolver W)
    (H : Mat) (n : Nat) (mw : List W × List W) (m : MatchingDec W)
    (hm : sweepMatchMatcher H n mw = .ok m)
    (hX : SolverValidOn n solve (Hz H))
    (hsweep : ∀ r s, ∃ zz, (sweep r s).2 = List.replicate n 0 ++ zz ∧ zz.length = n ∧ ∀ x ∈ zz, x < 2)
    (rng : R) (e : Vec) (he : e.length = 2 * n) :
    ∃ c ev, (sweepMatchDecode sweep solve m rng (measureSyndrome H e)).2 = .ok (c, ev) ∧
      c.length = 2 * n ∧ (∀ x ∈ c, x < 2) ∧
      xPart c = solve (Hz H) mw.1 (extractZSyndrome H (measureSyndrome H e)) ∧
      extractZSyndrome H (measureSyndrome H c) = extractZSyndrome H (measureSyndrome H e) := by
  unfold sweepMatchMatcher at hm
  obtain ⟨ev, hd, hsol⟩ := matching_valid_X solve H n none mw m hm hX e he
  obtain ⟨_, _, hcss, _⟩ := MatchingDec.new_ok H n (some "X") none mw m hm
  obtain ⟨zz, hz, hzl, hzb⟩ := hsweep rng (measureSyndrome H e)
  obtain ⟨hcl, hcb, hcs⟩ := hsol
  simp only [Option.getD_none] at hd hcl hcb hcs
  unfold sweepMatchDecode
  simp only [hd, hz]
  have hlen : (solve (Hz H) mw.1 (extractZSyndrome H (measureSyndrome H e)) ++
      List.replicate n 0).length = (List.replicate n 0 ++ zz).length := by simp [hcl, hzl]
  simp only [hlen, ne_eq, not_true_eq_false, if_false]
  rw [sweepmatch_assemble n _ zz hcl hzl hcb hzb]
  refine ⟨_, _, rfl, by simp [hcl, hzl]; omega, binary_append hcb hzb, ?_, ?_⟩
  · exact xPart_append _ _ (by omega)
  · rw [css_zrow_block H hcss, xPart_append _ _ (by omega), hcs]

end Panqec
