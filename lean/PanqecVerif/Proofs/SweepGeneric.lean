/-
C10, generic part: for any lattice data and any flip table that is consistent on the flipped
edges, one flip and any sequence of flips preserve the invariant `Tracks`.  Three facts carry
it: the face syndrome is linear in the error, `site` is a toggle on Z-only operators, and
`flip_edge` acts on the signs as a pointwise xor.  The loops of both decoders then keep the
invariant and a Z-only correction (`Good`, `GoodRot`), because the sweep rule only proposes edges
on which the table is consistent, and both initial states satisfy them.  Core Lean only.
-/
import PanqecVerif.Model.Sweep

namespace Panqec.Sweep

theorem all_false_of_not_any {l : List Bool} (h : l.any id = false) : ∀ b ∈ l, b = false :=
  fun b hb => by simpa using List.any_eq_false.mp h b hb

@[simp] theorem xorSum_nil {α : Type} (f : α → Bool) : xorSum ([] : List α) f = false := rfl
@[simp] theorem xorSum_cons {α : Type} (a : α) (l : List α) (f : α → Bool) :
    xorSum (a :: l) f = (f a != xorSum l f) := rfl

theorem xorSum_xor {α : Type} (l : List α) (f g : α → Bool) :
    xorSum l (fun a => f a != g a) = (xorSum l f != xorSum l g) := by
  induction l with
  | nil => rfl
  | cons a l ih =>
    simp only [xorSum_cons, ih]
    cases f a <;> cases g a <;> cases xorSum l f <;> cases xorSum l g <;> rfl

theorem xorSum_congr {α : Type} (l : List α) (f g : α → Bool) (h : ∀ a ∈ l, f a = g a) :
    xorSum l f = xorSum l g := by
  induction l with
  | nil => rfl
  | cons a l ih =>
    simp only [xorSum_cons]
    rw [h a (List.mem_cons_self), ih (fun b hb => h b (List.mem_cons_of_mem _ hb))]

theorem xorSum_false {α : Type} (l : List α) : xorSum l (fun _ => false) = false := by
  induction l with
  | nil => rfl
  | cons a l ih => simp [ih]

theorem xorSum_append {α : Type} (l₁ l₂ : List α) (f : α → Bool) :
    xorSum (l₁ ++ l₂) f = (xorSum l₁ f != xorSum l₂ f) := by
  induction l₁ with
  | nil => simp
  | cons a l ih =>
    simp only [List.cons_append, xorSum_cons, ih]
    cases f a <;> cases xorSum l f <;> cases xorSum l₂ f <;> rfl

/-- flipping the Z part at one location changes a row's syndrome by the row's X entry there -/
theorem rowSyn_toggleX (op : Op) (x z : Loc → Bool) (loc : Loc) :
    rowSyn op x (fun q => z q != (q == loc)) =
      (rowSyn op x z != xorSum op (fun e => hasX e.2 && e.1 == loc)) := by
  unfold rowSyn
  rw [← xorSum_xor]
  apply xorSum_congr
  intro e _
  dsimp only
  generalize (e.1 == loc) = b
  cases hasX e.2 <;> cases hasZ e.2 <;> cases z e.1 <;> cases x e.1 <;> cases b <;> rfl

theorem rowSyn_toggle (op : Op) (z : Loc → Bool) (loc : Loc) :
    rowSyn op (fun _ => false) (fun q => z q != (q == loc)) =
      (rowSyn op (fun _ => false) z != xorSum op (fun e => hasX e.2 && e.1 == loc)) :=
  rowSyn_toggleX op (fun _ => false) z loc

/-- rows without Z entries only see the Z part of the error -/
theorem rowSyn_of_not_zIndex (lat : Lattice) (s : Loc) (ex ez : Loc → Bool)
    (h : lat.zIndex s = false) :
    rowSyn (lat.stabOp s) ex ez = rowSyn (lat.stabOp s) (fun _ => false) ez := by
  unfold rowSyn
  apply xorSum_congr
  intro e he
  have hz : hasZ e.2 = false := by
    unfold Lattice.zIndex at h
    rw [List.any_eq_false] at h
    simpa using h e he
  simp [hz]

/-- `get_initial_state(measure_syndrome(e))` is the face syndrome of the Z part of `e` -/
theorem initialState_syndrome (lat : Lattice) (ex ez : Loc → Bool) :
    initialState lat (syndromeOf lat ex ez) = faceSyn lat ez := by
  unfold initialState syndromeOf faceSyn
  rw [List.zipWith_map_right]
  rw [List.zipWith_self]
  apply List.map_congr_left
  intro s _
  cases h : lat.zIndex s
  · simp [rowSyn_of_not_zIndex lat s ex ez h]
  · simp

namespace Lattice
variable {lat : Lattice} {l : Loc}

theorem isQubit_iff : lat.isQubit l = true ↔ l ∈ lat.qubits := List.contains_iff_mem

theorem isStab_iff : lat.isStab l = true ↔ l ∈ lat.stabs := List.contains_iff_mem

theorem isStabFace_iff : lat.isStabFace l = true ↔ l ∈ lat.stabs ∧ lat.isFace l = true := by
  rw [isStabFace, Bool.and_eq_true, List.contains_iff_mem]

end Lattice

def ZOnly (op : Op) : Prop := ∀ e ∈ op, e.2 = Pauli.Z

instance (op : Op) : Decidable (ZOnly op) := by unfold ZOnly; infer_instance

theorem lookup_mem {op : Op} {q : Loc} {p : Pauli} (h : op.lookup q = some p) : (q, p) ∈ op := by
  obtain ⟨l₁, l₂, rfl, _⟩ := List.lookup_eq_some_iff.mp h
  exact List.mem_append_right _ List.mem_cons_self

theorem lookup_filter_ne (op : Op) (loc q : Loc) (h : (q == loc) = false) :
    (op.filter fun e => !(e.1 == loc)).lookup q = op.lookup q := by
  induction op with
  | nil => rfl
  | cons e op ih =>
    obtain ⟨k, v⟩ := e
    by_cases hk : k == loc
    · have hk' : k = loc := by simpa using hk
      have hq : (q == k) = false := by rw [hk']; exact h
      simp [hk, List.lookup_cons, hq, ih]
    · simp only [List.filter_cons, hk, Bool.not_false, if_true, List.lookup_cons]
      rw [ih]

theorem lookup_filter_self (op : Op) (loc : Loc) :
    (op.filter fun e => !(e.1 == loc)).lookup loc = none := by
  rw [List.lookup_eq_none_iff]
  intro e he
  have h := (List.mem_filter.mp he).2
  simp only [Bool.not_eq_true', beq_eq_false_iff_ne] at h
  exact bne_iff_ne.mpr (Ne.symm h)

theorem zOnly_site (op : Op) (loc : Loc) (h : ZOnly op) : ZOnly (site op .Z loc) := by
  unfold site
  cases hl : op.lookup loc with
  | none =>
    intro e he
    rw [List.mem_append] at he
    cases he with
    | inl h1 => exact h e h1
    | inr h1 => simp at h1; rw [h1]
  | some p =>
    have hp : p = .Z := h _ (lookup_mem hl)
    subst hp
    simp only [beq_self_eq_true, if_true]
    intro e he
    exact h e (List.mem_filter.mp he).1

/-- THE TOGGLE LEMMA: on a Z-only operator, `site(·, 'Z', loc)` flips the Z part at `loc`
    and nowhere else (an edge flipped twice is removed) -/
theorem zPartOf_site (op : Op) (loc q : Loc) (h : ZOnly op) :
    zPartOf (site op .Z loc) q = (zPartOf op q != (q == loc)) := by
  unfold site
  cases hl : op.lookup loc with
  | none =>
    simp only
    unfold zPartOf
    rw [List.lookup_append, List.lookup_cons, List.lookup_nil]
    by_cases hq : q == loc
    · have : q = loc := by simpa using hq
      subst this
      simp [hl, hasZ]
    · cases hq2 : op.lookup q <;> simp [hq]
  | some p =>
    have hp : p = .Z := h _ (lookup_mem hl)
    subst hp
    simp only [beq_self_eq_true, if_true]
    unfold zPartOf
    by_cases hq : q == loc
    · have : q = loc := by simpa using hq
      subst this
      simp [lookup_filter_self, hl, hasZ]
    · have hq' : (q == loc) = false := by simpa using hq
      rw [lookup_filter_ne op loc q hq']
      cases hq2 : op.lookup q <;> simp [hq']

theorem residualZ_site (ez : Loc → Bool) (op : Op) (loc : Loc) (h : ZOnly op) :
    residualZ ez (site op .Z loc) = fun q => residualZ ez op q != (q == loc) := by
  funext q
  unfold residualZ
  rw [zPartOf_site op loc q h]
  cases ez q <;> cases zPartOf op q <;> cases (q == loc) <;> rfl

theorem xPartOf_zOnly (op : Op) (q : Loc) (h : ZOnly op) : xPartOf op q = false := by
  unfold xPartOf
  cases hl : op.lookup q with
  | none => rfl
  | some p =>
    have hp : p = .Z := h _ (lookup_mem hl)
    subst hp
    rfl

/-- toggling the entry at `stabilizer_index[f]` = xor with the indicator of `f`
    (locations distinct; a location that is no stabilizer changes nothing) -/
theorem toggleAt_idx (stabs : List Loc) (hnd : stabs.Nodup) (f : Loc) (signs : Signs)
    (hlen : signs.length = stabs.length) :
    toggleAt signs (stabs.idxOf f) = List.zipWith (fun b s => b != (f == s)) signs stabs := by
  unfold toggleAt
  refine List.ext_getElem (by simp [hlen]) fun j h1 h2 => ?_
  have hj : j < stabs.length := by simpa [hlen] using h1
  rw [List.getElem_modify, List.getElem_zipWith]
  by_cases h : stabs.idxOf f = j
  · subst h
    simp [List.getElem_idxOf hj]
  · have hne : (f == stabs[j]) = false := beq_eq_false_iff_ne.mpr fun hf =>
      h (hf ▸ hnd.idxOf_getElem j hj)
    simp [h, hne]

/-- effect of a whole `flip_edge`: every row is xored with the parity of its multiplicity
    in the list of toggled faces -/
theorem foldl_toggle (stabs : List Loc) (hnd : stabs.Nodup) (fl : List Loc) (signs : Signs)
    (hlen : signs.length = stabs.length) :
    fl.foldl (fun s f => toggleAt s (stabs.idxOf f)) signs =
      List.zipWith (fun b s => b != oddCount fl s) signs stabs := by
  induction fl generalizing signs with
  | nil => exact List.ext_getElem (by simp [hlen]) fun j _ _ => by simp [oddCount]
  | cons f fl ih =>
    rw [List.foldl_cons, toggleAt_idx stabs hnd f signs hlen, ih _ (by simp [hlen])]
    exact List.ext_getElem (by simp) fun j _ _ => by simp [oddCount, Bool.bne_assoc]

theorem faceSynK_length (keep : Loc → Bool) (lat : Lattice) (x z : Loc → Bool) :
    (faceSynK keep lat x z).length = lat.stabs.length := by
  simp [faceSynK]

theorem faceSyn_length (lat : Lattice) (z : Loc → Bool) : (faceSyn lat z).length = lat.stabs.length := by
  simp [faceSyn]

theorem flipOKK_spec {keep : Loc → Bool} {lat : Lattice} {faces : Loc → Option (List Loc)} {loc : Loc}
    (h : flipOKK keep lat faces loc = true) :
    ∃ fl, faces loc = some fl ∧ ∀ s ∈ lat.stabs, oddCount fl s = faceHasK keep lat s loc := by
  unfold flipOKK at h
  cases hf : faces loc with
  | none => simp [hf] at h
  | some fl =>
    refine ⟨fl, rfl, ?_⟩
    simp only [hf, List.all_eq_true, beq_iff_eq] at h
    exact h

/-- ONE-STEP LEMMA, for any choice `keep` of the face rows and any X part of the error:
    flipping an edge on which the flip table is consistent, together with the toggle update of
    the correction, preserves the invariant. -/
theorem flip_stepK (keep : Loc → Bool) (lat : Lattice) (faces : Loc → Option (List Loc))
    (hnd : lat.stabs.Nodup) (ex ez : Loc → Bool) (st : State) (loc : Loc)
    (hT : TracksK keep lat ex ez st) (hZ : ZOnly st.corr) (hok : flipOKK keep lat faces loc = true) :
    ∃ s', flipWith lat faces loc st.signs = some s' ∧
      TracksK keep lat ex ez ⟨s', site st.corr .Z loc⟩ ∧ ZOnly (site st.corr .Z loc) := by
  obtain ⟨fl, hfl, hcount⟩ := flipOKK_spec hok
  unfold TracksK at hT
  refine ⟨fl.foldl (fun s f => toggleAt s (lat.stabIdx f)) st.signs, by simp [flipWith, hfl], ?_,
    zOnly_site _ _ hZ⟩
  unfold TracksK
  simp only
  unfold Lattice.stabIdx
  rw [foldl_toggle lat.stabs hnd fl st.signs (by rw [hT, faceSynK_length])]
  rw [residualZ_site ez st.corr loc hZ, hT]
  unfold faceSynK
  rw [List.zipWith_map_left, List.zipWith_self]
  apply List.map_congr_left
  intro s hs
  rw [hcount s hs, rowSyn_toggleX]
  unfold faceHasK
  cases keep s <;> simp

/-- MANY EDGES: the second loop of `sweep_move` -/
theorem applyFlips_tracksK (keep : Loc → Bool) (lat : Lattice) (faces : Loc → Option (List Loc))
    (hnd : lat.stabs.Nodup) (ex ez : Loc → Bool) (locs : List Loc) (st : State)
    (hT : TracksK keep lat ex ez st) (hZ : ZOnly st.corr)
    (hok : ∀ loc ∈ locs, flipOKK keep lat faces loc = true) :
    ∃ st', applyFlips lat faces site locs st = some st' ∧ TracksK keep lat ex ez st' ∧
      ZOnly st'.corr := by
  induction locs generalizing st with
  | nil => exact ⟨st, rfl, hT, hZ⟩
  | cons loc rest ih =>
    obtain ⟨s', hs', hT', hZ'⟩ :=
      flip_stepK keep lat faces hnd ex ez st loc hT hZ (hok loc List.mem_cons_self)
    obtain ⟨st', hst', h1, h2⟩ :=
      ih ⟨s', site st.corr .Z loc⟩ hT' hZ' (fun l hl => hok l (List.mem_cons_of_mem _ hl))
    exact ⟨st', by simp [applyFlips, hs', hst'], h1, h2⟩

/-! #### `SweepDecoder3D`: face rows = rows not flagged in `z_indices` -/

theorem tracks_iff_K (lat : Lattice) (ez : Loc → Bool) (st : State) :
    Tracks lat ez st ↔ TracksK (fun s => !lat.zIndex s) lat (fun _ => false) ez st := Iff.rfl

theorem flipOK_eq_K (lat : Lattice) (faces : Loc → Option (List Loc)) (loc : Loc) :
    flipOK lat faces loc = flipOKK (fun s => !lat.zIndex s) lat faces loc := rfl

theorem flipOK_spec {lat : Lattice} {faces : Loc → Option (List Loc)} {loc : Loc}
    (h : flipOK lat faces loc = true) :
    ∃ fl, faces loc = some fl ∧ ∀ s ∈ lat.stabs, oddCount fl s = faceHas lat s loc :=
  flipOKK_spec (keep := fun s => !lat.zIndex s) h

/-! #### `RotatedSweepDecoder3D`: face rows = rows of type `'face'` -/

theorem residualX_zOnly (ex : Loc → Bool) (op : Op) (h : ZOnly op) : residualX ex op = ex := by
  funext q
  simp [residualX, xPartOf_zOnly op q h]

theorem tracksRot_iff_K (lat : Lattice) (ex ez : Loc → Bool) (st : State) (hZ : ZOnly st.corr) :
    TracksRot lat ex ez st ↔ TracksK lat.isFace lat ex ez st := by
  unfold TracksRot TracksK faceSynRot
  rw [residualX_zOnly ex st.corr hZ]

theorem flipOKRot_spec {lat : Lattice} {faces : Loc → Option (List Loc)} {loc : Loc}
    (h : flipOKRot lat faces loc = true) :
    ∃ fl, faces loc = some fl ∧ ∀ s ∈ lat.stabs, oddCount fl s = faceHasRot lat s loc :=
  flipOKK_spec (keep := lat.isFace) h

theorem applyFlips_tracksRot (lat : Lattice) (faces : Loc → Option (List Loc)) (hnd : lat.stabs.Nodup)
    (ex ez : Loc → Bool) (locs : List Loc) (st : State)
    (hT : TracksRot lat ex ez st) (hZ : ZOnly st.corr)
    (hok : ∀ loc ∈ locs, flipOKRot lat faces loc = true) :
    ∃ st', applyFlips lat faces site locs st = some st' ∧ TracksRot lat ex ez st' ∧
      ZOnly st'.corr := by
  obtain ⟨st', h1, h2, h3⟩ := applyFlips_tracksK lat.isFace lat faces hnd ex ez locs st
    ((tracksRot_iff_K lat ex ez st hZ).mp hT) hZ hok
  exact ⟨st', h1, (tracksRot_iff_K lat ex ez st' h3).mpr h2, h3⟩

/-- the state predicate carried through every loop -/
def Good (lat : Lattice) (ez : Loc → Bool) (st : State) : Prop := Tracks lat ez st ∧ ZOnly st.corr

def GoodRot (lat : Lattice) (ex ez : Loc → Bool) (st : State) : Prop :=
  TracksRot lat ex ez st ∧ ZOnly st.corr

def Preserves (P : State → Prop) (move : State → List Dir → Option (State × List Dir)) : Prop :=
  ∀ st ds, P st → ∃ st' ds', move st ds = some (st', ds') ∧ P st'

theorem sweepLoop_preserves (P : State → Prop)
    (move : State → List Dir → Option (State × List Dir)) (hm : Preserves P move)
    (n : Nat) (st : State) (ds : List Dir) (h : P st) :
    ∃ tr stf dsf, sweepLoop move n st ds = some (tr, stf, dsf) ∧ (∀ s ∈ tr, P s) ∧ P stf := by
  induction n generalizing st ds with
  | zero => exact ⟨[], st, ds, rfl, by simp, h⟩
  | succ n ih =>
    unfold sweepLoop
    by_cases ha : st.signs.any id = true
    · obtain ⟨st', ds', hmv, hP'⟩ := hm st ds h
      obtain ⟨tr, stf, dsf, hrun, htr, hf⟩ := ih st' ds' hP'
      exact ⟨st' :: tr, stf, dsf, by simp [ha, hmv, hrun], List.forall_mem_cons.mpr ⟨hP', htr⟩, hf⟩
    · exact ⟨[], st, ds, by simp [ha], by simp, h⟩

theorem dirsLoopRot_preserves (P : State → Prop) (lat : Lattice) (maxSweeps : Nat)
    (hm : ∀ sd, Preserves P (sweepMoveRot lat sd))
    (sds : List SweepDir) (st : State) (ds : List Dir) (h : P st) :
    ∃ tr stf dsf, dirsLoopRot lat maxSweeps sds st ds = some (tr, stf, dsf) ∧
      (∀ s ∈ tr, P s) ∧ P stf := by
  induction sds generalizing st ds with
  | nil => exact ⟨[], st, ds, rfl, by simp, h⟩
  | cons sd sds ih =>
    obtain ⟨tr1, st1, ds1, h1, ht1, hP1⟩ :=
      sweepLoop_preserves P (sweepMoveRot lat sd) (hm sd) maxSweeps st ds h
    obtain ⟨tr2, st2, ds2, h2, ht2, hP2⟩ := ih st1 ds1 hP1
    exact ⟨tr1 ++ tr2, st2, ds2, by simp [dirsLoopRot, h1, h2],
      fun s hs => (List.mem_append.mp hs).elim (ht1 s) (ht2 s), hP2⟩

theorem roundsLoopRot_preserves (P : State → Prop) (lat : Lattice) (maxSweeps : Nat)
    (hm : ∀ sd, Preserves P (sweepMoveRot lat sd))
    (n : Nat) (st : State) (ds : List Dir) (h : P st) :
    ∃ tr stf dsf, roundsLoopRot lat maxSweeps n st ds = some (tr, stf, dsf) ∧
      (∀ s ∈ tr, P s) ∧ P stf := by
  induction n generalizing st ds with
  | zero => exact ⟨[], st, ds, rfl, by simp, h⟩
  | succ n ih =>
    unfold roundsLoopRot
    by_cases ha : st.signs.any id = true
    · obtain ⟨tr1, st1, ds1, h1, ht1, hP1⟩ :=
        dirsLoopRot_preserves P lat maxSweeps hm sweepDirections st ds h
      obtain ⟨tr2, st2, ds2, h2, ht2, hP2⟩ := ih st1 ds1 hP1
      exact ⟨tr1 ++ tr2, st2, ds2, by simp [ha, h1, h2],
        fun s hs => (List.mem_append.mp hs).elim (ht1 s) (ht2 s), hP2⟩
    · exact ⟨[], st, ds, by simp [ha], by simp, h⟩

/-! ### the sweep rule only proposes edges on which the table is consistent -/

theorem sweepRule_mem {xf yf zf : Bool} {xe ye ze : Loc} {ds : List Dir} {loc : Loc}
    (h : loc ∈ (sweepRule xf yf zf xe ye ze ds).1) :
    (loc = xe ∧ yf = true ∧ zf = true) ∨ (loc = ye ∧ xf = true ∧ zf = true) ∨
    (loc = ze ∧ xf = true ∧ yf = true) := by
  unfold sweepRule at h
  cases xf <;> cases yf <;> cases zf <;> simp at h
  · exact Or.inl ⟨h, rfl, rfl⟩
  · exact Or.inr (Or.inl ⟨h, rfl, rfl⟩)
  · exact Or.inr (Or.inr ⟨h, rfl, rfl⟩)
  · unfold pick at h
    split at h
    · exact Or.inl ⟨h, rfl, rfl⟩
    · exact Or.inr (Or.inl ⟨h, rfl, rfl⟩)
    · exact Or.inr (Or.inr ⟨h, rfl, rfl⟩)

theorem signAt_isStab {lat : Lattice} {signs : Signs} {loc : Loc} (h : signAt lat signs loc = true) :
    lat.isStab loc = true := by
  unfold signAt at h
  simp only [Bool.and_eq_true] at h
  exact h.1

theorem flipLocations3D_ok (lat : Lattice) (hft : flipTableOK lat (flipFaces3D lat) = true)
    (hse : sweepEdgesOK3D lat = true) (signs : Signs) (vs : List Loc)
    (hvs : ∀ v ∈ vs, v ∈ sweepVertices3D lat) (ds : List Dir) :
    ∀ loc ∈ (flipLocations3D lat signs vs ds).1, flipOK lat (flipFaces3D lat) loc = true := by
  induction vs generalizing ds with
  | nil => intro loc h; simp [flipLocations3D] at h
  | cons v vs ih =>
    intro loc h
    unfold flipLocations3D at h
    simp only [List.mem_append] at h
    cases h with
    | inr h2 => exact ih (fun w hw => hvs w (List.mem_cons_of_mem _ hw)) _ loc h2
    | inl h1 =>
      have hv := hvs v List.mem_cons_self
      unfold sweepEdgesOK3D at hse
      rw [List.all_eq_true] at hse
      have hsv := hse v hv
      simp only [Bool.and_eq_true, Bool.or_eq_true, Bool.not_eq_true'] at hsv
      unfold flipTableOK at hft
      rw [List.all_eq_true] at hft
      have hq : lat.isQubit loc = true := by
        rcases sweepRule_mem h1 with ⟨rfl, hy, hz⟩ | ⟨rfl, hx, hz⟩ | ⟨rfl, hx, hy⟩
        · exact hsv.1.1.resolve_left (by simp [signAt_isStab hy, signAt_isStab hz])
        · exact hsv.1.2.resolve_left (by simp [signAt_isStab hx, signAt_isStab hz])
        · exact hsv.2.resolve_left (by simp [signAt_isStab hx, signAt_isStab hy])
      exact hft loc (Lattice.isQubit_iff.mp hq)

theorem flipLocationsRot_ok (lat : Lattice) (hft : flipTableOKRot lat (flipFacesRot lat) = true)
    (signs : Signs) (sd : SweepDir) (vs : List Loc) (ds : List Dir) :
    ∀ loc ∈ (flipLocationsRot lat signs sd vs ds).1, flipOKRot lat (flipFacesRot lat) loc = true := by
  induction vs generalizing ds with
  | nil => intro loc h; simp [flipLocationsRot] at h
  | cons v vs ih =>
    intro loc h
    unfold flipLocationsRot at h
    simp only [List.mem_append] at h
    cases h with
    | inr h2 => exact ih _ loc h2
    | inl h1 =>
      unfold flipTableOKRot at hft
      rw [List.all_eq_true] at hft
      split at h1
      · rename_i hvalid
        simp only [Bool.and_eq_true] at hvalid
        have hq : lat.isQubit loc = true := by
          rcases sweepRule_mem h1 with ⟨rfl, _, _⟩ | ⟨rfl, _, _⟩ | ⟨rfl, _, _⟩
          · exact hvalid.1.1.2
          · exact hvalid.1.2
          · exact hvalid.2
        exact hft loc (Lattice.isQubit_iff.mp hq)
      · simp at h1

/-- `SweepDecoder3D.sweep_move` keeps good states good (and never raises) -/
theorem sweepMove3D_preserves (lat : Lattice) (hnd : lat.stabs.Nodup)
    (hft : flipTableOK lat (flipFaces3D lat) = true) (hse : sweepEdgesOK3D lat = true)
    (ez : Loc → Bool) : Preserves (Good lat ez) (sweepMove3D lat) := by
  intro st ds ⟨hT, hZ⟩
  obtain ⟨st', h1, h2, h3⟩ := applyFlips_tracksK (fun s => !lat.zIndex s) lat (flipFaces3D lat) hnd
    (fun _ => false) ez (flipLocations3D lat st.signs (sweepVertices3D lat) ds).1 st hT hZ
    (flipLocations3D_ok lat hft hse st.signs _ (fun _ h => h) ds)
  exact ⟨st', (flipLocations3D lat st.signs (sweepVertices3D lat) ds).2,
    by simp [sweepMove3D, sweepMove3DWith, h1], h2, h3⟩

/-- `RotatedSweepDecoder3D.sweep_move` keeps good states good, for every sweep direction -/
theorem sweepMoveRot_preserves (lat : Lattice) (hnd : lat.stabs.Nodup)
    (hft : flipTableOKRot lat (flipFacesRot lat) = true) (ex ez : Loc → Bool) (sd : SweepDir) :
    Preserves (GoodRot lat ex ez) (sweepMoveRot lat sd) := by
  intro st ds ⟨hT, hZ⟩
  obtain ⟨st', h1, h2, h3⟩ := applyFlips_tracksRot lat (flipFacesRot lat) hnd ex ez
    (flipLocationsRot lat st.signs sd (sweepVerticesRot lat) ds).1 st hT hZ
    (flipLocationsRot_ok lat hft st.signs sd _ ds)
  exact ⟨st', (flipLocationsRot lat st.signs sd (sweepVerticesRot lat) ds).2,
    by simp [sweepMoveRot, h1], h2, h3⟩

theorem initial_good (lat : Lattice) (ex ez : Loc → Bool) :
    Good lat ez ⟨initialState lat (syndromeOf lat ex ez), []⟩ := by
  refine ⟨?_, by intro e he; simp at he⟩
  unfold Tracks
  simp only
  rw [initialState_syndrome]
  congr 1
  funext q
  simp [residualZ, zPartOf]

/-- `RotatedSweepDecoder3D.get_initial_state(measure_syndrome(e))` is the face part (rows of
    type `'face'`) of the syndrome of `e` -/
theorem initialStateRot_syndrome (lat : Lattice) (ex ez : Loc → Bool) :
    initialStateRot lat (syndromeOf lat ex ez) = faceSynRot lat ex ez := by
  unfold initialStateRot syndromeOf faceSynRot faceSynK
  rw [List.zipWith_map_right]
  rw [List.zipWith_self]
  apply List.map_congr_left
  intro s _
  cases h : lat.isFace s <;> simp

theorem initial_goodRot (lat : Lattice) (ex ez : Loc → Bool) :
    GoodRot lat ex ez ⟨initialStateRot lat (syndromeOf lat ex ez), []⟩ := by
  refine ⟨?_, by intro e he; simp at he⟩
  unfold TracksRot
  simp only
  rw [initialStateRot_syndrome]
  congr 1
  · funext q
    simp [residualX, xPartOf]
  · funext q
    simp [residualZ, zPartOf]

end Panqec.Sweep
