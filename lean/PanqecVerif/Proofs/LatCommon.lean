/-
Facts shared by all hand-written lattice models (core Lean only): arithmetic progressions of
naturals read as integers (`mem_map_ofNat_range'`; the general `range` lemmas are in
`Cyclic`/`LatCyclic`), and operators that carry one letter on a list of keys,
`ks.map fun q => (q, p)` (the `uop` of `LatCubic3D`, the `constOp` of `Lat3DbOps`): the
dict-building loop, `get?`, the anticommutation count as the size of the key overlap, and the
assembly of `Lattice.WF` for a lattice whose stabilizers and logicals all have this form.
-/
import PanqecVerif.Model.Lattices.Common

namespace Panqec

theorem mem_map_ofNat_range' {a n s : Nat} (hs : 0 < s) {x : Int} :
    x ∈ (List.range' a n s).map Int.ofNat ↔ (a : Int) ≤ x ∧ x < a + s * n ∧ (x - a) % s = 0 := by
  simp only [List.mem_map, List.mem_range', Int.ofNat_eq_natCast]
  constructor
  · rintro ⟨m, ⟨i, hi, rfl⟩, rfl⟩
    have h := Nat.mul_lt_mul_of_pos_left hi hs
    have e : ((a + s * i : Nat) : Int) - a = s * i := by omega
    rw [e, Int.mul_emod_right]
    omega
  · rintro ⟨h1, h2, h3⟩
    obtain ⟨q, hq⟩ := Int.dvd_of_emod_eq_zero h3
    have hs' : (0 : Int) < s := by omega
    have q0 : 0 ≤ q := Int.le_of_mul_le_mul_left (a := (s : Int)) (by omega) hs'
    have qn : q < n := Int.lt_of_mul_lt_mul_left (a := (s : Int)) (by omega) (by omega)
    refine ⟨a + s * q.toNat, ⟨q.toNat, by omega, rfl⟩, ?_⟩
    rw [Int.natCast_add, Int.natCast_mul, Int.toNat_of_nonneg q0]
    omega

theorem nodup_map_ofNat_range' (a n : Nat) {s : Nat} (hs : 0 < s) :
    ((List.range' a n s).map Int.ofNat).Nodup :=
  List.Pairwise.map _ (fun _ _ h e => h (Int.ofNat.inj e)) (List.nodup_range' (step := s) hs)

theorem emod_zero_neg {x m : Int} (h : x % m = 0) : (-x) % m = 0 :=
  Int.emod_eq_zero_of_dvd (Int.dvd_neg.mpr (Int.dvd_of_emod_eq_zero h))

theorem emod_bridge (a b d d' m : Int) :
    (a + d) % m = (b + d') % m ↔ (b - a) % m = (d - d') % m := by
  rw [Int.emod_eq_emod_iff_emod_sub_eq_zero, Int.emod_eq_emod_iff_emod_sub_eq_zero]
  have e : b - a - (d - d') = -(a + d - (b + d')) := by omega
  rw [e]
  constructor
  · exact emod_zero_neg
  · intro h; have := emod_zero_neg h; rwa [Int.neg_neg] at this

theorem emod_small {k m : Int} (h0 : 0 ≤ k) (h : k < m) : k % m = k := Int.emod_eq_of_lt h0 h

theorem emod_neg_small {k m : Int} (h0 : k < 0) (h : -m ≤ k) : k % m = k + m := by
  rw [← Int.add_emod_right k m]
  exact Int.emod_eq_of_lt (by omega) (by omega)

/-- the blocks of a loop over distinct `x` are disjoint when every member of block `x` remembers
    `x` (for coordinate lists: one of the coordinates) -/
theorem nodup_flatMap_of_key {α β : Type} (key : β → α) {xs : List α} {f : α → List β}
    (hx : xs.Nodup) (hf : ∀ x ∈ xs, (f x).Nodup) (hk : ∀ x ∈ xs, ∀ b ∈ f x, key b = x) :
    (xs.flatMap f).Nodup := by
  show List.Pairwise _ _
  rw [List.pairwise_flatMap]
  refine ⟨hf, hx.imp_of_mem ?_⟩
  intro a b ha hb hab q hq r hr e
  exact hab (by rw [← hk a ha q hq, e, hk b hb r hr])

theorem nodup_map_of_key {α β : Type} (key : β → α) {xs : List α} {g : α → β}
    (hx : xs.Nodup) (hk : ∀ x ∈ xs, key (g x) = x) : (xs.map g).Nodup :=
  List.pairwise_map.mpr (hx.imp_of_mem fun ha hb hab e => hab (by rw [← hk _ ha, e, hk _ hb]))

theorem length_flatMap_const {α β : Type} (xs : List α) (f : α → List β) (c : Nat)
    (h : ∀ x ∈ xs, (f x).length = c) : (xs.flatMap f).length = xs.length * c := by
  induction xs with
  | nil => simp
  | cons x xs ih =>
    rw [List.flatMap_cons, List.length_append, h x List.mem_cons_self,
      ih fun y hy => h y (List.mem_cons_of_mem _ hy), List.length_cons, Nat.succ_mul, Nat.add_comm]

theorem nodup_map_cons (a : Int) {l : List Coord} (h : l.Nodup) : (l.map fun c => a :: c).Nodup :=
  nodup_map_of_key List.tail h fun _ _ => rfl

theorem nodup_append_of {l1 l2 : List Coord} (h1 : l1.Nodup) (h2 : l2.Nodup)
    (hd : ∀ a, a ∈ l1 → a ∈ l2 → False) : (l1 ++ l2).Nodup :=
  List.nodup_append.mpr ⟨h1, h2, fun a ha _ hb e => hd a ha (e ▸ hb)⟩

theorem sum_indicator_eq_countP {α} (p : α → Bool) : ∀ T : List α,
    (T.map fun t => if p t = true then 1 else 0).sum = T.countP p
  | [] => rfl
  | a :: T => by
    have ih := sum_indicator_eq_countP p T
    by_cases h : p a = true <;> simp [h, ih]; omega

theorem length_filter_ne (l : List Coord) (c : Coord) (hl : l.Nodup) (hc : c ∈ l) :
    (l.filter (· != c)).length + 1 = l.length := by
  rw [← List.countP_eq_length_filter]
  have h1 := List.length_eq_countP_add_countP (fun s => s != c) (l := l)
  have h2 : l.countP (fun s => ¬ (s != c) = true) = l.count c := by
    rw [List.count]
    apply List.countP_congr
    intro s _
    by_cases e : s = c <;> simp [e]
  have h3 := hl.count (a := c)
  simp only [hc, if_true] at h3
  omega

theorem length_remove_two (l : List Coord) (a b : Coord) (hl : l.Nodup) (ha : a ∈ l) (hb : b ∈ l)
    (hab : a ≠ b) : (l.filter fun s => s != a && s != b).length + 2 = l.length := by
  have h1 := length_filter_ne l b hl hb
  have h2 := length_filter_ne (l.filter (· != b)) a (hl.filter _)
    (List.mem_filter.mpr ⟨ha, by simpa using hab⟩)
  rw [List.filter_filter] at h2
  omega

theorem ite_and_bool (p q : Bool) :
    (if (p && q) = true then 1 else 0) = if q = true then (if p = true then 1 else 0) else 0 := by
  cases p <;> cases q <;> rfl

theorem countP_eq_length_of_mem_iff {α} [DecidableEq α] (l s : List α) (p : α → Bool)
    (hl : l.Nodup) (hs : s.Nodup) (h : ∀ t, (t ∈ l ∧ p t = true) ↔ t ∈ s) :
    l.countP p = s.length := by
  rw [List.countP_eq_length_filter]
  exact ((List.perm_ext_iff_of_nodup (hl.filter _) hs).mpr fun t => by
    rw [List.mem_filter, h]).length_eq

theorem Op.insert_of_fresh (op : Op) (q : Coord) (p : Pauli) (h : q ∉ op.map Prod.fst) :
    op.insert q p = op ++ [(q, p)] := by
  unfold Op.insert
  have : op.any (fun e => e.1 == q) = false := by
    rw [List.any_eq_false]
    intro e he hq
    exact h (List.mem_map.mpr ⟨e, he, by simpa using hq⟩)
  simp [this]

/-- `for q in cands: if f(q): operator[q] = g(q)` over distinct candidates that are not keys yet
    never overwrites: it appends, in order, the candidates that pass `f` -/
theorem Op.foldl_insert_map (f : Coord → Bool) (g : Coord → Pauli) :
    ∀ (cands : List Coord) (acc : Op), cands.Nodup → (∀ q ∈ cands, q ∉ acc.map Prod.fst) →
      cands.foldl (fun op q => if f q then op.insert q (g q) else op) acc
        = acc ++ (cands.filter f).map (fun q => (q, g q))
  | [], acc, _, _ => by simp
  | q :: rest, acc, hnd, hfresh => by
    rw [List.nodup_cons] at hnd
    rw [List.foldl_cons]
    by_cases hq : f q = true
    · rw [if_pos hq, Op.insert_of_fresh acc q (g q) (hfresh q (List.mem_cons_self ..)),
        Op.foldl_insert_map f g rest _ hnd.2]
      · simp [hq]
      · intro r hr
        simp only [List.map_append, List.map_cons, List.map_nil, List.mem_append,
          List.mem_singleton, not_or]
        exact ⟨hfresh r (List.mem_cons_of_mem _ hr), fun h => hnd.1 (h ▸ hr)⟩
    · rw [if_neg hq, Op.foldl_insert_map f g rest _ hnd.2]
      · simp [hq]
      · intro r hr; exact hfresh r (List.mem_cons_of_mem _ hr)

theorem Op.get?_map (B : List Coord) (g : Coord → Pauli) (q : Coord) :
    Op.get? (B.map fun b => (b, g b)) q = if q ∈ B then some (g q) else none := by
  unfold Op.get?
  induction B with
  | nil => rfl
  | cons b B ih =>
    rw [List.map_cons, List.find?_cons]
    by_cases h : b = q
    · simp [h]
    · have h' : (b == q) = false := by simpa using h
      have h'' : ¬ q = b := fun e => h e.symm
      simp only [h', List.mem_cons, h'', false_or]
      exact ih

theorem opAntiCount_map (A B : List Coord) (g₁ g₂ : Coord → Pauli) :
    opAntiCount (A.map fun q => (q, g₁ q)) (B.map fun q => (q, g₂ q))
      = A.countP fun q => B.contains q && Pauli.anti (g₁ q) (g₂ q) := by
  unfold opAntiCount
  rw [List.filter_map, List.length_map, ← List.countP_eq_length_filter]
  apply List.countP_congr
  intro q _
  simp only [Function.comp, Op.get?_map]
  by_cases hq : q ∈ B <;> simp [hq]

theorem mem_map_letter {A : List Coord} {g : Coord → Pauli} {e : Coord × Pauli} :
    e ∈ A.map (fun q => (q, g q)) ↔ e.1 ∈ A ∧ e.2 = g e.1 := by
  rw [List.mem_map]
  constructor
  · rintro ⟨q, hq, rfl⟩; exact ⟨hq, rfl⟩
  · rintro ⟨h1, h2⟩; exact ⟨e.1, h1, by rw [← h2]⟩

theorem Op.foldl_insert_letter (f : Coord → Bool) (P : Pauli) (cands : List Coord) (acc : Op)
    (h : cands.Nodup) (hf : ∀ q ∈ cands, q ∉ acc.map Prod.fst) :
    cands.foldl (fun op q => if f q then op.insert q P else op) acc
      = acc ++ (cands.filter f).map (fun q => (q, P)) :=
  Op.foldl_insert_map f (fun _ => P) cands acc h hf

theorem Op.get?_letter (B : List Coord) (Q : Pauli) (q : Coord) :
    Op.get? (B.map fun b => (b, Q)) q = if q ∈ B then some Q else none :=
  Op.get?_map B (fun _ => Q) q

theorem opAntiCount_letter (A B : List Coord) (P Q : Pauli) :
    opAntiCount (A.map fun q => (q, P)) (B.map fun q => (q, Q))
      = if Pauli.anti P Q then A.countP (fun q => B.contains q) else 0 := by
  rw [opAntiCount_map A B (fun _ => P) fun _ => Q]
  cases Pauli.anti P Q
  · simp only [Bool.and_false, Bool.false_eq_true, if_false]
    exact List.countP_eq_zero.mpr fun _ _ => Bool.false_ne_true
  · simp only [Bool.and_true, if_true]

theorem opAntiCount_single_letter (q : Coord) (P Q : Pauli) (B : List Coord) :
    opAntiCount [(q, P)] (B.map fun b => (b, Q)) =
      if Pauli.anti P Q = true ∧ q ∈ B then 1 else 0 := by
  rw [show [(q, P)] = [q].map fun q => (q, P) from rfl, opAntiCount_letter]
  by_cases h1 : Pauli.anti P Q = true <;> by_cases h2 : q ∈ B <;> simp [h1, h2]

theorem opCommute_letter_of (A B : List Coord) (P Q : Pauli)
    (h : Pauli.anti P Q = true → A.countP (fun q => B.contains q) % 2 = 0) :
    opCommute (A.map fun q => (q, P)) (B.map fun q => (q, Q)) = true := by
  unfold opCommute
  rw [opAntiCount_letter]
  by_cases hPQ : Pauli.anti P Q = true
  · rw [if_pos hPQ, h hPQ]; rfl
  · rw [if_neg hPQ]; rfl

theorem anti_XZ : Pauli.anti Pauli.X Pauli.Z = true := rfl

theorem Pauli.anti_self (p : Pauli) : Pauli.anti p p = false := by cases p <;> rfl

theorem map_fst_letter (A : List Coord) (P : Pauli) :
    (A.map fun q => (q, P)).map Prod.fst = A := by
  rw [List.map_map]; exact List.map_id _

theorem mem_letter {A : List Coord} {P : Pauli} {e : Coord × Pauli} :
    e ∈ A.map (fun q => (q, P)) ↔ e.1 ∈ A ∧ e.2 = P :=
  mem_map_letter (g := fun _ => P)

theorem countP_contains_comm (A B : List Coord) (hA : A.Nodup) (hB : B.Nodup) :
    A.countP (fun q => B.contains q) = B.countP (fun q => A.contains q) := by
  rw [List.countP_eq_length_filter, List.countP_eq_length_filter]
  apply List.Perm.length_eq
  rw [List.perm_ext_iff_of_nodup (hA.filter _) (hB.filter _)]
  intro q
  simp only [List.mem_filter, List.contains_eq_mem, decide_eq_true_eq]
  exact And.comm

theorem Lattice.WF.of_letterOps {l : Lattice} (hq : l.qubits.Nodup) (hs : l.stabs.Nodup)
    (hd : ∀ q ∈ l.qubits, q ∉ l.stabs)
    (hstab : ∀ s ∈ l.stabs, ∃ (ks : List Coord) (p : Pauli),
      l.getStab s = ks.map (fun q => (q, p)) ∧ ks.Nodup ∧ ks ≠ [] ∧ (∀ q ∈ ks, q ∈ l.qubits) ∧
        p ≠ Pauli.I)
    (hlog : ∀ a ∈ l.logX ++ l.logZ, ∃ (ks : List Coord) (p : Pauli),
      a = ks.map (fun q => (q, p)) ∧ ks.Nodup ∧ (∀ q ∈ ks, q ∈ l.qubits) ∧ p ≠ Pauli.I) :
    l.WF where
  qubits_nodup := hq
  stabs_nodup := hs
  disjoint := hd
  stab_keys s h := by
    obtain ⟨ks, p, e, hn, _⟩ := hstab s h
    rw [e, map_fst_letter]; exact hn
  stab_supported s h e he := by
    obtain ⟨ks, p, eq, _, _, hk, hp⟩ := hstab s h
    rw [eq, mem_letter] at he
    exact ⟨hk _ he.1, he.2 ▸ hp⟩
  stab_nonempty s h := by
    obtain ⟨ks, p, e, _, hne, _⟩ := hstab s h
    rw [e]; exact fun h0 => hne (List.map_eq_nil_iff.mp h0)
  log_keys a h := by
    obtain ⟨ks, p, e, hn, _⟩ := hlog a h
    rw [e, map_fst_letter]; exact hn
  log_supported a h e he := by
    obtain ⟨ks, p, eq, _, hk, hp⟩ := hlog a h
    rw [eq, mem_letter] at he
    exact ⟨hk _ he.1, he.2 ▸ hp⟩

theorem length_eq_of_mem3 {l1 l2 : List Coord} (n1 : l1.Nodup) (n2 : l2.Nodup)
    (s1 : ∀ q ∈ l1, ∃ x y z, q = [x, y, z]) (s2 : ∀ q ∈ l2, ∃ x y z, q = [x, y, z])
    (h : ∀ x y z : Int, [x, y, z] ∈ l1 ↔ [x, y, z] ∈ l2) : l1.length = l2.length := by
  apply List.Perm.length_eq
  rw [List.perm_ext_iff_of_nodup n1 n2]
  intro q
  constructor
  · intro hq; obtain ⟨x, y, z, rfl⟩ := s1 q hq; exact (h x y z).mp hq
  · intro hq; obtain ⟨x, y, z, rfl⟩ := s2 q hq; exact (h x y z).mpr hq

end Panqec
