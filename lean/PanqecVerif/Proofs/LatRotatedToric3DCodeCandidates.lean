/-
`RotatedToric3DCode`, every size of the supported family (`2 ≤ Lx, Ly`, not both odd): closed form
of `get_stabilizer` for the four stabilizer kinds as signed candidate lists — the neighbours after
the seam rules (`sw`: successor of an even coordinate, `pw`: predecessor of an odd coordinate), and
the letter written on each of them.  With the defect rule of the class, a stabilizer in a layer
writes `dl true q` on its two neighbours `q` along the main diagonal and `dl false q` on the two
along the anti-diagonal, whether or not it sits on a defect line: the swapped letters on a defect
line are exactly what the colour of the qubits on the other side of the seam asks for.
-/
import PanqecVerif.Proofs.LatRotatedToric3DCodeSigned
open Panqec Panqec.Lat3Db
namespace Panqec.RotatedToric3DCode


/-- successor of an even coordinate across the seam (`2L + 1 → 1`) -/
def sw (L : Nat) (x : Int) : Int := if x = 2 * (L : Int) then 1 else x + 1
/-- predecessor of an odd coordinate across the seam (`0 → 2L`) -/
def pw (L : Nat) (f : Int) : Int := if f = 1 then 2 * (L : Int) else f - 1

/-- even coordinate of the period: member of `range(2, 2L+1, 2)` -/
def Ev (L : Nat) (x : Int) : Prop := x % 2 = 0 ∧ 2 ≤ x ∧ x ≤ 2 * (L : Int)
/-- odd coordinate of the period: member of `range(1, 2L, 2)` -/
def Od (L : Nat) (f : Int) : Prop := f % 2 = 1 ∧ 1 ≤ f ∧ f < 2 * (L : Int)

theorem R2_Ev {L : Nat} {x : Int} : R2 (2 * L + 1) x ↔ Ev L x := by
  unfold R2 Ev; omega
theorem R1_Od {L : Nat} {x : Int} : R1 (2 * L) x ↔ Od L x := by
  unfold R1 Od; omega

theorem sw_spec (L : Nat) (x : Int) :
    (x = 2 * (L : Int) ∧ sw L x = 1) ∨ (x ≠ 2 * (L : Int) ∧ sw L x = x + 1) := by
  unfold sw; split <;> simp_all
theorem pw_spec (L : Nat) (f : Int) :
    (f = 1 ∧ pw L f = 2 * (L : Int)) ∨ (f ≠ 1 ∧ pw L f = f - 1) := by
  unfold pw; split <;> simp_all

theorem wrap_succ_ev {L : Nat} {x : Int} (h : Ev L x) : wrap L (x + 1) = sw L x := by
  unfold wrap sw Ev at *
  simp only [beq_iff_eq, gt_iff_lt]
  repeat' split
  all_goals omega

theorem wrap_pred_ev {L : Nat} {x : Int} (h : Ev L x) : wrap L (x - 1) = x - 1 := by
  unfold wrap Ev at *
  simp only [beq_iff_eq, gt_iff_lt]
  repeat' split
  all_goals omega

theorem wrap_succ_od {L : Nat} {f : Int} (h : Od L f) : wrap L (f + 1) = f + 1 := by
  unfold wrap Od at *
  simp only [beq_iff_eq, gt_iff_lt]
  repeat' split
  all_goals omega

theorem wrap_pred_od {L : Nat} {f : Int} (h : Od L f) : wrap L (f - 1) = pw L f := by
  unfold wrap pw Od at *
  simp only [beq_iff_eq, gt_iff_lt]
  repeat' split
  all_goals omega

theorem wrap_id_ev {L : Nat} {x : Int} (h : Ev L x) : wrap L x = x := by
  unfold wrap Ev at *
  simp only [beq_iff_eq, gt_iff_lt]
  repeat' split
  all_goals omega

theorem wrap_id_od {L : Nat} {f : Int} (h : Od L f) : wrap L f = f := by
  unfold wrap Od at *
  simp only [beq_iff_eq, gt_iff_lt]
  repeat' split
  all_goals omega

theorem sw_od {L : Nat} {x : Int} (hL : 1 ≤ L) (h : Ev L x) : Od L (sw L x) := by
  unfold Ev Od at *; have := sw_spec L x; omega
theorem pred_od {L : Nat} {x : Int} (h : Ev L x) : Od L (x - 1) := by
  unfold Ev Od at *; omega
theorem pw_ev {L : Nat} {f : Int} (hL : 1 ≤ L) (h : Od L f) : Ev L (pw L f) := by
  unfold Ev Od at *; have := pw_spec L f; omega
theorem succ_ev {L : Nat} {f : Int} (h : Od L f) : Ev L (f + 1) := by
  unfold Ev Od at *; omega

/-- the successor of an even coordinate keeps its class mod 4 unless it crosses the seam of an odd
    period -/
theorem sw_mod4 {L : Nat} {x : Int} (hx : Ev L x) :
    (L % 2 = 1 ∧ sw L x = 1) ∨ sw L x % 4 = (x + 1) % 4 := by
  unfold Ev at hx
  have := sw_spec L x
  omega

/-- the predecessor of an odd coordinate keeps its class mod 4 exactly across the seam of an odd
    period -/
theorem pw_mod4 {L : Nat} {f : Int} (hf : Od L f) :
    pw L f % 4 = (if L % 2 = 1 ∧ f = 1 then f + 1 else f - 1) % 4 := by
  unfold Od at hf
  rcases pw_spec L f with ⟨h, e⟩ | ⟨h, e⟩ <;> rw [e] <;> split <;> omega

/-- vertex: `delta = [(1,-1,0), (-1,1,0), (1,1,0), (-1,-1,0), (0,0,1), (0,0,-1)]` -/
def KV (Lx Ly : Nat) (x y z : Int) : List (Coord × Bool) :=
  [([sw Lx x, y - 1, z], false), ([x - 1, sw Ly y, z], false), ([sw Lx x, sw Ly y, z], true),
   ([x - 1, y - 1, z], true), ([x, y, z + 1], true), ([x, y, z - 1], true)]
/-- horizontal face: `delta = [(-1,-1,0), (1,1,0), (-1,1,0), (1,-1,0)]` -/
def KH (Lx Ly : Nat) (a b c : Int) : List (Coord × Bool) :=
  [([a - 1, b - 1, c], true), ([sw Lx a, sw Ly b, c], true), ([a - 1, sw Ly b, c], false),
   ([sw Lx a, b - 1, c], false)]
/-- a vertex has the four horizontal candidates of a horizontal face, with the same signs -/
theorem KV_eq (Lx Ly : Nat) (x y z : Int) :
    KV Lx Ly x y z =
      (KH Lx Ly x y z).reverse ++ [([x, y, z + 1], true), ([x, y, z - 1], true)] := rfl

/-- vertical face with `(x + y) % 4 = 0`: `delta = [(-1,-1,0), (1,1,0), (0,0,-1), (0,0,1)]` -/
def KFX (Lx Ly : Nat) (f g h : Int) : List (Coord × Bool) :=
  [([pw Lx f, pw Ly g, h], false), ([f + 1, g + 1, h], false), ([f, g, h - 1], false),
   ([f, g, h + 1], false)]
/-- vertical face with `(x + y) % 4 = 2`: `delta = [(-1,1,0), (1,-1,0), (0,0,-1), (0,0,1)]` -/
def KFY (Lx Ly : Nat) (f g h : Int) : List (Coord × Bool) :=
  [([pw Lx f, g + 1, h], false), ([f + 1, pw Ly g, h], false), ([f, g, h - 1], true),
   ([f, g, h + 1], true)]

theorem buildStab_eq (Lx Ly Lz : Nat) (x y z : Int) (pauli : Pauli) (delta : List Coord)
    (h : (delta.map (neighbour Lx Ly x y z)).Nodup) :
    buildStab Lx Ly Lz x y z pauli delta =
      gop ((delta.map (neighbour Lx Ly x y z)).filter (isQubit Lx Ly Lz))
        (letterAt (onDefectBoundary Lx Ly x y) pauli) := by
  rw [← foldl_gop _ _ _ h, List.foldl_map]
  rfl

section vertex
variable {Lx Ly Lz : Nat} {x y z : Int}

theorem nb_vertex (hx : Ev Lx x) (hy : Ev Ly y) :
    vertexDelta.map (neighbour Lx Ly x y z) = (KV Lx Ly x y z).map Prod.fst := by
  simp only [vertexDelta, neighbour, KV, List.map_cons, List.map_nil, wrap_succ_ev hx,
    wrap_succ_ev hy, wrap_pred_ev hx, wrap_pred_ev hy, wrap_id_ev hx, wrap_id_ev hy,
    Int.add_zero, ← Int.sub_eq_add_neg]

theorem KV_nodup (hLx : 2 ≤ Lx) (hLy : 2 ≤ Ly) (hx : Ev Lx x) (hy : Ev Ly y) :
    ((KV Lx Ly x y z).map Prod.fst).Nodup := by
  unfold Ev at hx hy
  have := sw_spec Lx x; have := sw_spec Ly y
  simp only [KV, List.map_cons, List.map_nil, List.nodup_cons, List.mem_cons, List.cons.injEq,
    List.not_mem_nil, and_true, or_false, not_false_eq_true, List.nodup_nil]
  omega

end vertex

section hface
variable {Lx Ly Lz : Nat} {a b c : Int}

theorem nb_hface (ha : Ev Lx a) (hb : Ev Ly b) :
    faceDeltaZ.map (neighbour Lx Ly a b c) = (KH Lx Ly a b c).map Prod.fst := by
  simp only [faceDeltaZ, neighbour, KH, List.map_cons, List.map_nil, wrap_succ_ev ha,
    wrap_succ_ev hb, wrap_pred_ev ha, wrap_pred_ev hb, Int.add_zero, ← Int.sub_eq_add_neg]

theorem KH_nodup (hLx : 2 ≤ Lx) (hLy : 2 ≤ Ly) (ha : Ev Lx a) (hb : Ev Ly b) :
    ((KH Lx Ly a b c).map Prod.fst).Nodup := by
  unfold Ev at ha hb
  have := sw_spec Lx a; have := sw_spec Ly b
  simp only [KH, List.map_cons, List.map_nil, List.nodup_cons, List.mem_cons, List.cons.injEq,
    List.not_mem_nil, and_true, or_false, not_false_eq_true, List.nodup_nil]
  omega

end hface

section vface
variable {Lx Ly Lz : Nat} {f g h : Int}

/-- both kinds of vertical face at once: `d = false` the faces with `(x + y) % 4 = 0` (`KFX`),
    `d = true` those with `(x + y) % 4 = 2` (`KFY`) -/
def KF (Lx Ly : Nat) (d : Bool) (f g h : Int) : List (Coord × Bool) :=
  [([pw Lx f, if d then g + 1 else pw Ly g, h], false),
   ([f + 1, if d then pw Ly g else g + 1, h], false), ([f, g, h - 1], d), ([f, g, h + 1], d)]

theorem nb_vface (d : Bool) (hf : Od Lx f) (hg : Od Ly g) :
    (if d then faceDeltaY else faceDeltaX).map (neighbour Lx Ly f g h) =
      (KF Lx Ly d f g h).map Prod.fst := by
  cases d <;>
  simp only [faceDeltaX, faceDeltaY, neighbour, KF, List.map_cons, List.map_nil, wrap_succ_od hf,
    wrap_succ_od hg, wrap_pred_od hf, wrap_pred_od hg, wrap_id_od hf, wrap_id_od hg,
    Int.add_zero, ← Int.sub_eq_add_neg, Bool.false_eq_true, if_false, if_true]

theorem KF_nodup (d : Bool) (hLy : 2 ≤ Ly) (hg : Od Ly g) :
    ((KF Lx Ly d f g h).map Prod.fst).Nodup := by
  unfold Od at hg
  have := pw_spec Lx f; have := pw_spec Ly g
  cases d <;>
  simp only [KF, List.map_cons, List.map_nil, List.nodup_cons, List.mem_cons, List.cons.injEq,
    List.not_mem_nil, and_true, or_false, not_false_eq_true, List.nodup_nil, Bool.false_eq_true,
    if_false, if_true] <;>
  omega

end vface

end Panqec.RotatedToric3DCode
