/-
`Toric3DCode`, every size with `2 ≤ Lx, Ly, Lz`: the pairing table and the record `Lattice.Css`
(`Proofs/LatCss.lean`) filled from the overlap lemmas (`LatToric3DCodeComm`, `LatToric3DCodeLog`);
`qubit_axis` and `stabilizer_type` on the lattice.
-/
import PanqecVerif.Proofs.LatToric3DCodeLists
import PanqecVerif.Proofs.LatToric3DCodeLog


namespace Panqec.Toric3DCode
open Panqec.Cubic3D

def IsVertexKeys (Lx Ly Lz : Nat) (k : List Coord) : Prop :=
  ∃ x y z, isVertex Lx Ly Lz x y z ∧ k = vertexKeys Lx Ly Lz x y z

def IsFaceKeys (Lx Ly Lz : Nat) (k : List Coord) : Prop :=
  ∃ ax u v w, isFace Lx Ly Lz ax u v w ∧ k = faceKeys Lx Ly Lz ax u v w

/-- the pairing table (needs only `1 ≤ L`) -/
theorem pairing {Lx Ly Lz : Nat} (hx : 1 ≤ Lx) (hy : 1 ≤ Ly) (hz : 1 ≤ Lz) (i j : Nat)
    (hi : i < 3) (hj : j < 3) :
    opAntiCount ((logX Lx Ly Lz).getD i []) ((logZ Lx Ly Lz).getD j []) % 2 =
      if i = j then 1 else 0 := by
  rw [logX_eq, logZ_eq, lxK0_eq (Ly := Ly) (Lz := Lz), lxK1_eq (Lx := Lx) (Lz := Lz),
    lxK2_eq (Lx := Lx) (Ly := Ly), lzK0_eq (Lx := Lx), lzK1_eq (Ly := Ly), lzK2_eq (Lz := Lz)]
  have hanti : Pauli.anti Pauli.X Pauli.Z = true := rfl
  rcases i with _ | _ | _ | i <;> rcases j with _ | _ | _ | j <;>
    first
    | omega
    | simp [opAntiCount_uop, hanti, ov_line_plane hx hy hz]


/-- vertex operators carry Z, face operators X, the logical X are the three lines through the
    origin and the logical Z the three planes next to it; all overlaps are as `Lattice.Css` asks -/
theorem css {Lx Ly Lz : Nat} (hLx : 2 ≤ Lx) (hLy : 2 ≤ Ly) (hLz : 2 ≤ Lz) :
    (lattice Lx Ly Lz).Css (IsVertexKeys Lx Ly Lz) (IsFaceKeys Lx Ly Lz)
      (fun k => ∃ ax, k = line Lx Ly Lz ax 0) (fun k => ∃ ax, k = plane Lx Ly Lz ax 0) := by
  have h1 := le_sz (Lx := Lx) (Ly := Ly) (Lz := Lz) (n := 1) (by omega) (by omega) (by omega)
  have h2 := le_sz hLx hLy hLz
  -- the fields of `lattice` are unfolded first: matching `(lattice ..).getStab` against the
  -- class's functions by unification alone is slow to check
  constructor <;> try dsimp only [lattice]
  case qubits_nodup => exact qubits_nodup Lx Ly Lz
  case stabs_nodup => exact stabs_nodup Lx Ly Lz
  case disjoint => exact fun _ => qubits_not_stabs
  case stab =>
    intro s hs
    rcases stab_cases hs with ⟨x, y, z, rfl, h⟩ | ⟨ax, u, v, w, rfl, h⟩
    · exact .inl ⟨_, ⟨x, y, z, h, rfl⟩, getStab_vertex hLx hLy hLz h⟩
    · exact .inr ⟨_, ⟨ax, u, v, w, h, rfl⟩, getStab_face (h2 _) (h2 _) h⟩
  case keysZ =>
    rintro _ ⟨x, y, z, h, rfl⟩
    exact ⟨vertexKeys_nodup hLx hLy hLz h, by simp [vertexKeys], vertexKeys_sub h⟩
  case keysX =>
    rintro _ ⟨ax, u, v, w, h, rfl⟩
    exact ⟨faceKeys_nodup (h2 _) (h2 _) h, by simp [faceKeys_eq], faceKeys_sub h⟩
  case logX => exact fun a ha => (mem_logX.mp ha).elim fun ax e => ⟨_, ⟨ax, rfl⟩, e⟩
  case logZ => exact fun a ha => (mem_logZ.mp ha).elim fun ax e => ⟨_, ⟨ax, rfl⟩, e⟩
  case keysLX =>
    rintro _ ⟨ax, rfl⟩
    exact ⟨line_nodup .., line_sub (h1 _) (h1 _)⟩
  case keysLZ =>
    rintro _ ⟨ax, rfl⟩
    exact ⟨plane_nodup .., plane_sub (h1 _)⟩
  case zx =>
    rintro _ _ ⟨x, y, z, hv, rfl⟩ ⟨ax, u, v, w, h, rfl⟩
    rw [overlap_eq_ov]
    exact ov_vertex_face hLx hLy hLz hv h
  case zLX =>
    rintro _ _ ⟨x, y, z, hv, rfl⟩ ⟨ax, rfl⟩
    rw [overlap_eq_ov]
    exact ov_vertex_box mem_line0 (inLine_pair hv.1) (inLine_pair hv.2.1) (inLine_pair hv.2.2)
  case xLZ =>
    rintro _ _ ⟨ax, u, v, w, h, rfl⟩ ⟨ax', rfl⟩
    rw [overlap_eq_ov]
    exact ov_face_box mem_plane0 (inPlane_pair h.2.1) (inPlane_pair h.2.2)
  case same_k => rfl
  case pairing => exact pairing (by omega) (by omega) (by omega)

theorem qubitAxis_of_mem_qubits {Lx Ly Lz : Nat} {x y z : Int} (h : [x, y, z] ∈ qubits Lx Ly Lz) :
    qubitAxis [x, y, z] =
      some (if x % 2 = 1 then Axis.x else if y % 2 = 1 then Axis.y else Axis.z) := by
  rw [mem_qubits] at h
  rcases h with ⟨hx, hy, hz⟩ | ⟨hx, hy, hz⟩ | ⟨hx, hy, hz⟩
  exacts [Cubic3D.qubitAxis_of_parity (.inl ⟨hx.2.2, hy.2.2, hz.2.2⟩),
    Cubic3D.qubitAxis_of_parity (.inr (.inl ⟨hx.2.2, hy.2.2, hz.2.2⟩)),
    Cubic3D.qubitAxis_of_parity (.inr (.inr ⟨hx.2.2, hy.2.2, hz.2.2⟩))]

/-- `stabilizer_type` and the letter / weight of `get_stabilizer` for the four kinds -/
theorem stab_shape {Lx Ly Lz : Nat} (hLx : 2 ≤ Lx) (hLy : 2 ≤ Ly) (hLz : 2 ≤ Lz) {s : Coord}
    (hs : s ∈ stabs Lx Ly Lz) :
    (stabilizerType Lx Ly Lz s = some StabType.vertex ∧
      ∃ ks, getStab Lx Ly Lz s = uop ks Pauli.Z ∧ ks.length = 6) ∨
    (stabilizerType Lx Ly Lz s = some StabType.face ∧
      ∃ ks, getStab Lx Ly Lz s = uop ks Pauli.X ∧ ks.length = 4) := by
  rcases stab_cases hs with ⟨x, y, z, rfl, h⟩ | ⟨ax, u, v, w, rfl, h⟩
  · left
    refine ⟨?_, _, getStab_vertex hLx hLy hLz h, rfl⟩
    simp [stabilizerType, hs, typeOf, h.1.2.2, h.2.1.2.2]
  · right
    have h2 := le_sz hLx hLy hLz
    refine ⟨?_, _, getStab_face (h2 _) (h2 _) h, by simp [faceKeys_eq]⟩
    obtain ⟨hu, hv, hw⟩ := h
    cases ax <;> simp only [ins] at hs ⊢ <;>
      simp [stabilizerType, hs, typeOf, hu.2.2, hv.2.2, hw.2.2]

end Panqec.Toric3DCode
