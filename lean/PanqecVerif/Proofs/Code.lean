/-
Helper lemmas about `Model/Code.lean` (generic stabilizer-code model), collected:
* `CodeAssembly` — the assembly loops `toBsfFold` / `stabRowFold` equal `toBsf` / `stabRow`;
* `CodeDictBsf` — dict operators give binary rows; `to_bsf` / `from_bsf` bijection;
* `CodeCss` — CSS block structure (`isCss`, masks, `Hx`/`Hz`, syndrome parts).
-/
import PanqecVerif.Proofs.CodeAssembly
import PanqecVerif.Proofs.CodeDictBsf
import PanqecVerif.Proofs.CodeCss
