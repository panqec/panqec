/-
Geometry of C10 on RotatedPlanar3DCode, every size — the edges proposed by the rotated sweep
rule.  `RotatedSweepDecoder3D.sweep_move` only applies the rule at a vertex when the three
faces in the sweep direction are face stabilizers AND the three edges are qubits
(`all(faces_valid) and all(edges_valid)`), so nothing has to be assumed about the proposed
edges for the invariant.  What is proved here is that on RotatedPlanar3DCode the second guard
is implied by the first: at every vertex and in every sweep direction (the eight of `decode`
included), if the three faces exist then the three edges are edges of the lattice.
-/
import PanqecVerif.Proofs.SweepRotPlanarBase

namespace Panqec.Sweep

/-- a stabilizer location with odd x is a vertical face; in its column there is a horizontal
    edge in every odd layer, and its own layer is one of vertical edges -/
theorem rotPlanar_of_vface (Lx Ly Lz : Nat) (u v t c : Int) (h : (u, v, t) ∈ rotPlanarStabs Lx Ly Lz)
    (hu : u % 2 = 1) (hc : 1 ≤ c ∧ c < 2 * (Lz : Int) ∧ c % 2 = 1) :
    (u, v, c) ∈ rotPlanarQubits Lx Ly Lz ∧ 2 ≤ t ∧ t < 2 * (Lz : Int) ∧ t % 2 = 0 := by
  rw [mem_rotPlanarStabs] at h
  rw [mem_rotPlanarQubits]
  refine ⟨Or.inl ?_, ?_⟩ <;> omega

/-- at a vertex, if the x face and the y face of the sweep rule exist (in the layer `t` above or
    below), so do its three edges: the horizontal ones lie in the columns of the two faces, the
    vertical one in the column of the vertex and the layer of the faces -/
theorem rotPlanar_sweepEdges (Lx Ly Lz : Nat) (a b c e1 e2 t : Int) (he1 : e1 = 1 ∨ e1 = -1)
    (he2 : e2 = 1 ∨ e2 = -1)
    (hv : 2 ≤ a ∧ a < 2 * (Lx : Int) ∧ a % 2 = 0 ∧ 0 ≤ b ∧ b < 2 * (Ly : Int) + 1 ∧ b % 2 = 0 ∧
      1 ≤ c ∧ c < 2 * (Lz : Int) ∧ c % 2 = 1 ∧ (a + b) % 4 = 2)
    (h1 : (a + e1, b + e1, t) ∈ rotPlanarStabs Lx Ly Lz)
    (h2 : (a + e2, b - e2, t) ∈ rotPlanarStabs Lx Ly Lz) :
    (a + e2, b - e2, c) ∈ rotPlanarQubits Lx Ly Lz ∧ (a + e1, b + e1, c) ∈ rotPlanarQubits Lx Ly Lz ∧
      (a, b, t) ∈ rotPlanarQubits Lx Ly Lz := by
  obtain ⟨g1, k⟩ := rotPlanar_of_vface Lx Ly Lz _ _ _ c h1 (by omega) (by omega)
  obtain ⟨g2, -⟩ := rotPlanar_of_vface Lx Ly Lz _ _ _ c h2 (by omega) (by omega)
  refine ⟨g2, g1, ?_⟩
  rw [mem_rotPlanarQubits]
  right
  omega

/-- RotatedPlanar3DCode, every size: whenever the three faces the rotated sweep rule looks at
    exist, the three edges it may propose are edges of the lattice -/
theorem rotPlanar_sweepEdgesOK (Lx Ly Lz : Nat) : sweepEdgesOKRot (rotPlanar3D Lx Ly Lz) = true := by
  unfold sweepEdgesOKRot
  rw [List.all_eq_true]
  rintro ⟨a, b, c⟩ hv
  unfold sweepVerticesRot at hv
  rw [List.mem_filter] at hv
  obtain ⟨hs, hnf⟩ := hv
  rw [show (rotPlanar3D Lx Ly Lz).stabs = rotPlanarStabs Lx Ly Lz from rfl, mem_rotPlanarStabs] at hs
  have hvert : 2 ≤ a ∧ a < 2 * (Lx : Int) ∧ a % 2 = 0 ∧ 0 ≤ b ∧ b < 2 * (Ly : Int) + 1 ∧ b % 2 = 0 ∧
      1 ≤ c ∧ c < 2 * (Lz : Int) ∧ c % 2 = 1 ∧ (a + b) % 4 = 2 := by
    obtain ⟨p4, pc⟩ := rotVertex_of_not_face (a := a) (b := b) (c := c)
      (by rw [← Bool.not_eq_true']; exact hnf)
    rcases hs with h | h | h
    · exact h
    · obtain ⟨-, -, -, -, -, -, -, -, -, q4⟩ := h
      omega
    · obtain ⟨-, -, -, -, -, -, -, -, qc⟩ := h
      omega
  rw [List.all_eq_true]
  rintro ⟨sx, sy, sz⟩ -
  obtain ⟨e1, e2, he1, he2, hF, hE⟩ := oldSweepRot_spec a b c sx sy sz
  rw [sweepFacesRot_noSeam _ rfl, sweepEdgesRot_noSeam _ rfl, hF, hE]
  exact sweepGuard_of _ _ _ _ _ _ _ fun h1 h2 =>
    rotPlanar_sweepEdges Lx Ly Lz a b c e1 e2 (c + sz) he1 he2 hvert h1 h2

end Panqec.Sweep
