/-
Union-find internals (C05), assembly: `Peeling_Tree(r, …).peel()` for one cluster and
`Support.peeling(roots)` over all clusters, under the post-condition of the growth phase
(`ClusterPost`: every cluster is connected through its member qubits and carries an even number
of defects).
-/
import PanqecVerif.Proofs.UnionFindBfsTree
import PanqecVerif.Proofs.UnionFindPeelLoop

namespace Panqec.UF

/-- one cluster: spanning tree, then peeling -/
theorem peelTree_spec {H : Mat} (G : GraphOK H) (sy : Vec) (sPar qPar : Nat → Int) (r : Nat)
    (hroot : stabsOf H sPar r r = true)
    (hconn : ∀ v, stabsOf H sPar r v = true →
      Reach H (stabsOf H sPar r) (qubitsOf H qPar r) r v)
    (heven : cnt H.length (fun s => defect sy s && stabsOf H sPar r s) % 2 = 0) :
    ∃ t, peelTree H sy sPar qPar r = .ok t ∧ t.corr.Nodup ∧
      (∀ q, q ∈ t.corr → qubitsOf H qPar r q = true) ∧
      ∀ s, t.corr.countP (fun q => hb H s q) % 2 = b2n (defect sy s && stabsOf H sPar r s) := by
  have hst : ∀ s, stabsOf H sPar r s = true → s < H.length := fun s h => stabsOf_lt h
  obtain ⟨S0, leaves, hbuild, T, L⟩ := buildTree_spec G hst hroot hconn
  obtain ⟨st', hrun, hnd, hmem, hbd⟩ := peelLoop_spec (syn0 := fun s => defect sy s && stabsOf H sPar r s)
    G hst T leaves L (by intro s h; simp only [Bool.and_eq_true] at h; exact h.2) heven
  have hbuild' : buildTree H (fun s => decide (s < H.length) && decide (sPar s = (r : Int)))
      (fun q => decide (q < ncols H) && decide (qPar q = (r : Int))) r = some (S0, leaves) := hbuild
  have hrun' : peelLoop H (fun s => decide (s < H.length) && decide (sPar s = (r : Int)))
      (fun q => decide (q < ncols H) && decide (qPar q = (r : Int))) (H.length + 1)
      ⟨S0, fun s => sy.getD s 0 != 0 && (decide (s < H.length) && decide (sPar s = (r : Int))),
        leaves, [], []⟩ = .ok st' := hrun
  unfold peelTree
  simp only [tabGet_tabArr, tabGet2_tabArr2, hbuild', hrun']
  exact ⟨_, rfl, hnd, fun q hq => (hmem q hq).1, hbd⟩

theorem peelAll_spec {H : Mat} (G : GraphOK H) (sy : Vec) (sPar qPar : Nat → Int) :
    ∀ (rs : List Nat), rs.Nodup →
      (∀ r, r ∈ rs → stabsOf H sPar r r = true) →
      (∀ r, r ∈ rs → ∀ v, stabsOf H sPar r v = true →
        Reach H (stabsOf H sPar r) (qubitsOf H qPar r) r v) →
      (∀ r, r ∈ rs → cnt H.length (fun s => defect sy s && stabsOf H sPar r s) % 2 = 0) →
      ∃ ts, peelAll H sy sPar qPar rs = .ok ts ∧ (ts.flatMap (·.corr)).Nodup ∧
        (∀ q, q ∈ ts.flatMap (·.corr) → ∃ r, r ∈ rs ∧ qubitsOf H qPar r q = true) ∧
        ∀ s, (ts.flatMap (·.corr)).countP (fun q => hb H s q) % 2 =
          (rs.countP fun r => defect sy s && stabsOf H sPar r s) % 2 := by
  intro rs
  induction rs with
  | nil => intro _ _ _ _; exact ⟨[], rfl, by simp, by simp, by simp⟩
  | cons r rs ih =>
    intro hnd hroot hconn heven
    rw [List.nodup_cons] at hnd
    obtain ⟨t, ht, htnd, htmem, htbd⟩ := peelTree_spec G sy sPar qPar r (hroot r (by simp))
      (hconn r (by simp)) (heven r (by simp))
    obtain ⟨ts, hts, htsnd, htsmem, htsbd⟩ := ih hnd.2 (fun x hx => hroot x (by simp [hx]))
      (fun x hx => hconn x (by simp [hx])) (fun x hx => heven x (by simp [hx]))
    refine ⟨t :: ts, ?_, ?_, ?_, ?_⟩
    · unfold peelAll; simp only [ht, hts]
    · simp only [List.flatMap_cons]
      rw [List.nodup_append]
      refine ⟨htnd, htsnd, ?_⟩
      -- a qubit peeled in two trees would have `_q_parents` equal to both roots
      intro a ha b hb hab
      subst hab
      have h1 := htmem a ha
      obtain ⟨r', hr', h2⟩ := htsmem a hb
      unfold qubitsOf at h1 h2
      simp only [Bool.and_eq_true, decide_eq_true_eq] at h1 h2
      have : (r : Int) = (r' : Int) := h1.2.symm.trans h2.2
      have : r = r' := by omega
      subst this
      exact hnd.1 hr'
    · intro q hq
      simp only [List.flatMap_cons, List.mem_append] at hq
      rcases hq with hq | hq
      · exact ⟨r, by simp, htmem q hq⟩
      · obtain ⟨r', hr', h⟩ := htsmem q hq
        exact ⟨r', by simp [hr'], h⟩
    · intro s
      simp only [List.flatMap_cons, List.countP_append, List.countP_cons]
      have h1 := htbd s
      have h2 := htsbd s
      have h3 : (if (defect sy s && stabsOf H sPar r s) = true then 1 else 0) =
          b2n (defect sy s && stabsOf H sPar r s) := rfl
      rw [h3]
      omega

/-- each defect lies in exactly one cluster -/
theorem count_clusters {H : Mat} {sy : Vec} {roots : List Nat} {sPar qPar : Nat → Int}
    (P : ClusterPost H sy roots sPar qPar) (s : Nat) (hs : s < H.length) :
    (roots.countP fun r => defect sy s && stabsOf H sPar r s) = b2n (defect sy s) := by
  cases hd : defect sy s
  · simp
  · obtain ⟨r0, hr0, hpar⟩ := P.cover s hs hd
    have : (roots.countP fun r => true && stabsOf H sPar r s) =
        roots.countP (fun r => true && decide (r0 = r)) := by
      apply countP_congr'
      intro r _
      unfold stabsOf
      simp only [hs, decide_true, Bool.true_and, hpar]
      by_cases h : r0 = r
      · simp [h]
      · have : ¬ (r0 : Int) = (r : Int) := by omega
        simp [h, this]
    rw [this, countP_eq_nodup roots P.roots_nodup r0 (fun _ => true)]
    simp [hr0]

end Panqec.UF
