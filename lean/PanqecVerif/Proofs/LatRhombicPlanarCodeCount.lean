/-
RhombicPlanarCode lattice model: the number of stabilizer generators for every size (`Ly ≥ 1`):
the coloured cubes of the box `Lx × (Ly+1) × (Lz−1)` (half of it, rounded up: the corner
`(1, −1, 1)` is coloured) and `Ly − 1` of the `Ly` vertices of each line along y for each of the
four axes.
-/
import PanqecVerif.Proofs.LatRhombicPlanarCodeRankFamily
open Panqec Panqec.Lat3Db Panqec.Rhombic
namespace Panqec.RhombicPlanarCode

theorem grid3_congr (xs ys zs : List Int) (p q : Int → Int → Int → Bool)
    (h : ∀ x ∈ xs, ∀ y ∈ ys, ∀ z ∈ zs, p x y z = q x y z) : grid3 xs ys zs p = grid3 xs ys zs q := by
  unfold grid3
  rw [List.flatMap_def, List.flatMap_def]
  congr 1
  apply List.map_congr_left
  intro x hx
  rw [List.flatMap_def, List.flatMap_def]
  congr 1
  apply List.map_congr_left
  intro y hy
  congr 1
  apply List.filter_congr
  intro z hz
  exact h x hx y hy z hz

theorem cubes_eq_selCubes (Lx Ly Lz : Nat) :
    grid3 (pyRange2 1 (2*Lx)) (rangeM1 (2*Ly)) (pyRange2 1 (2*Lz-1)) (cubeKeep Ly Lz) = selCubes Lx Ly Lz := by
  unfold selCubes
  apply grid3_congr
  intro x _ y _ z hz
  rw [mem_pyRange2_1] at hz
  have := cubeKeep_iff Ly Lz x y z hz
  by_cases h : (x + y + z) % 4 = 1
  · have h1 : ((x + y + z) % 4 == 1) = true := by simpa using h
    rw [h1]; exact this.mpr h
  · have h1 : ((x + y + z) % 4 == 1) = false := by simpa using h
    rw [h1]
    cases hk : cubeKeep Ly Lz x y z
    · rfl
    · exact absurd (this.mp hk) h

/-- the filter of the triangle loop only looks at the axis and `y` -/
def notRough (Ly : Nat) (a : Int) : Int → Int → Bool := fun _ y => !roughTriangle Ly a y

theorem tri_eq (Lx Ly Lz : Nat) (a : Int) :
    grid3 (pyRange2 2 (2*Lx)) (pyRange2 0 (2*Ly)) (pyRange2 0 (2*Lz)) (triKeep Ly Lz a) =
    grid3 (pyRange2 2 (2*Lx)) (pyRange2 0 (2*Ly)) (pyRange2 0 (2*Lz)) (fun x y _ => notRough Ly a x y) := by
  apply grid3_congr
  intro x _ y _ z _
  have h1 := triKeep_iff Ly Lz a x y z
  have h2 : roughTriangle Ly a y = true ↔ Rough Ly a y := by simp [roughTriangle, Rough]
  unfold notRough
  cases hk : triKeep Ly Lz a x y z <;> cases hr : roughTriangle Ly a y <;> simp_all

theorem countP_ne (l : List Int) (c : Int) (hl : l.Nodup) (hc : c ∈ l) :
    l.countP (fun y => !(y == c)) = l.length - 1 := by
  have h1 := List.length_eq_countP_add_countP (fun y => y == c) (l := l)
  have h2 := countP_eq_point l c hl hc
  have h3 : l.countP (fun y => ¬ (y == c) = true) = l.countP (fun y => !(y == c)) := by
    apply List.countP_congr; intro y _; simp
  omega

theorem countP_notRough (Ly : Nat) (hy : 1 ≤ Ly) (a x : Int) (ha : IsAxis a) :
    (pyRange2 0 (2*Ly)).countP (notRough Ly a x) = Ly - 1 := by
  have hlen : (pyRange2 0 (2*Ly)).length = Ly := by rw [length_pyRange2]; omega
  have h0 : (0 : Int) ∈ pyRange2 0 (2*Ly) := by rw [mem_pyRange2_0]; unfold R0; omega
  have h1 : (2*(Ly:Int)-2) ∈ pyRange2 0 (2*Ly) := by rw [mem_pyRange2_0]; unfold R0; omega
  -- each axis drops one row: the first (axes 1, 2) or the last (axes 0, 3)
  obtain ⟨c, hc, e⟩ : ∃ c, c ∈ pyRange2 0 (2*Ly) ∧ ∀ y, notRough Ly a x y = !(y == c) := by
    unfold notRough roughTriangle
    rcases ha with rfl | rfl | rfl | rfl
    · exact ⟨_, h1, fun y => by simp⟩
    · exact ⟨_, h0, fun y => by simp⟩
    · exact ⟨_, h0, fun y => by simp⟩
    · exact ⟨_, h1, fun y => by simp⟩
  rw [List.countP_congr (q := fun y => !(y == c)) (fun y _ => by rw [e y]),
    countP_ne _ _ (nodup_pyRange2 _ _) hc, hlen]

theorem length_tri (Lx Ly Lz : Nat) (hy : 1 ≤ Ly) (a : Int) (ha : IsAxis a) :
    (grid3 (pyRange2 2 (2*Lx)) (pyRange2 0 (2*Ly)) (pyRange2 0 (2*Lz)) (triKeep Ly Lz a)).length =
      (Lx - 1) * (Ly - 1) * Lz := by
  rw [tri_eq, length_grid3_xy]
  unfold cnt2
  have : ((pyRange2 2 (2*Lx)).map fun x => (pyRange2 0 (2*Ly)).countP (notRough Ly a x)) =
      (pyRange2 2 (2*Lx)).map fun _ => Ly - 1 := by
    apply List.map_congr_left
    intro x _
    exact countP_notRough Ly hy a x ha
  rw [this, List.map_const', List.sum_replicate_nat, length_pyRange2, length_pyRange2]
  have e1 : (2 * Lx + 1 - 2) / 2 = Lx - 1 := by omega
  have e2 : (2 * Lz + 1 - 0) / 2 = Lz := by omega
  rw [e1, e2]

theorem length_stabs (Lx Ly Lz : Nat) (hy : 1 ≤ Ly) :
    (stabs Lx Ly Lz).length =
      (Lx * ((Ly + 1) * (Lz - 1)) + 1) / 2 + 4 * ((Lx - 1) * (Ly - 1) * Lz) := by
  unfold stabs
  rw [List.length_append, cubes_eq_selCubes, length_selCubes]
  simp only [List.flatMap_cons, List.flatMap_nil, List.length_append, List.length_map, List.length_nil,
    length_tri Lx Ly Lz hy 0 (Or.inl rfl), length_tri Lx Ly Lz hy 1 (Or.inr (Or.inl rfl)),
    length_tri Lx Ly Lz hy 2 (Or.inr (Or.inr (Or.inl rfl))),
    length_tri Lx Ly Lz hy 3 (Or.inr (Or.inr (Or.inr rfl)))]
  unfold half
  simp only [if_true]
  omega

end Panqec.RhombicPlanarCode
