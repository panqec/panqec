/-
Union-find internals (C05), growth phase: the parent-pointer forest `_s_parents`
(`find_root` with path compression, linking a root or a fresh stabilizer under a root).

Ghost data: `rep s` = the root of the tree of `s`, `d s` = an upper bound on the number of
parent links from `s` to its root.  `d s + #{fresh or root} ≤ m` bounds every path by `m`,
which is the fuel `find_root` gets in the model.
-/
import Mathlib.Data.List.Nodup
import PanqecVerif.Proofs.UnionFindBasic

namespace Panqec.UF

/-- `s` is fresh (`-1`) or a root (`parents[s] == s`) -/
def freeOrRoot (sPar : Nat → Int) (i : Nat) : Bool := decide (sPar i = -1) || decide (sPar i = (i : Int))

structure UFInv (m : Nat) (sPar : Nat → Int) (rep d : Nat → Nat) : Prop where
  rng : ∀ s, sPar s = -1 ∨ ∃ p, p < m ∧ sPar s = (p : Int)
  out : ∀ s, m ≤ s → sPar s = -1
  rep_root : ∀ s, sPar s ≠ -1 → sPar (rep s) = (rep s : Int)
  rep_par : ∀ (s p : Nat), sPar s = (p : Int) → rep p = rep s
  root_rep : ∀ s, sPar s = (s : Int) → rep s = s
  par_live : ∀ (s p : Nat), sPar s = (p : Int) → sPar p ≠ -1
  d_par : ∀ (s p : Nat), sPar s = (p : Int) → p ≠ s → d p < d s
  d_root : ∀ s, sPar s = (s : Int) → d s = 0
  d_fresh : ∀ s, sPar s = -1 → d s = 0
  d_bound : ∀ s, d s + cnt m (freeOrRoot sPar) ≤ m

theorem UFInv.lt {m : Nat} {sPar : Nat → Int} {rep d : Nat → Nat} (I : UFInv m sPar rep d)
    {s : Nat} (h : sPar s ≠ -1) : s < m := by
  by_contra hs
  exact h (I.out s (by omega))

theorem UFInv.rep_lt {m : Nat} {sPar : Nat → Int} {rep d : Nat → Nat} (I : UFInv m sPar rep d)
    {s : Nat} (h : sPar s ≠ -1) : rep s < m := by
  apply I.lt
  rw [I.rep_root s h]; omega

theorem UFInv.rep_rep {m : Nat} {sPar : Nat → Int} {rep d : Nat → Nat} (I : UFInv m sPar rep d)
    {s : Nat} (h : sPar s ≠ -1) : rep (rep s) = rep s := I.root_rep _ (I.rep_root s h)

/-- the `while v != p` loop climbs to the root -/
theorem findLoop_spec {m : Nat} {par : Nat → Int} {rep d : Nat → Nat} (I : UFInv m par rep d) :
    ∀ (fuel v : Nat) (seen : List Nat), par v ≠ -1 → d v < fuel →
      ∃ path, findLoop par fuel v (par v) seen = some (rep v, seen ++ path) ∧
        d (rep v) ≤ d v ∧
        ∀ x, x ∈ path → par x ≠ -1 ∧ rep x = rep v ∧ par x ≠ (x : Int) ∧ d (rep v) < d x := by
  intro fuel
  induction fuel with
  | zero => intro v seen _ h; omega
  | succ fuel ih =>
    intro v seen hv hd
    unfold findLoop
    by_cases hroot : (v : Int) = par v
    · simp only [hroot, if_true]
      have := I.root_rep v hroot.symm
      exact ⟨[], by simp [this], by rw [this]; exact Nat.le_refl _, by simp⟩
    · simp only [hroot, if_false]
      rcases I.rng v with h | ⟨p, hp, hpv⟩
      · exact absurd h hv
      · have hneg : ¬ par v < 0 := by omega
        simp only [hneg, if_false]
        have htn : (par v).toNat = p := by omega
        rw [htn]
        have hpv' : p ≠ v := fun h => hroot (by omega)
        have hlive := I.par_live v p hpv
        have hdp := I.d_par v p hpv hpv'
        obtain ⟨path, hrun, hdle, hpath⟩ := ih p (seen ++ [v]) hlive (by omega)
        have hrep := I.rep_par v p hpv
        refine ⟨v :: path, ?_, ?_, ?_⟩
        · rw [hrun, hrep]; simp
        · rw [← hrep]; omega
        · intro x hx
          rcases List.mem_cons.mp hx with rfl | hx
          · exact ⟨hv, rfl, fun h => hroot h.symm, by rw [← hrep]; omega⟩
          · have := hpath x hx
            rw [hrep] at this; exact this

theorem findRoot_fresh (m : Nat) (par : Nat → Int) (v : Nat) (h : par v = -1) :
    findRoot m par v = (-1, par, false) := by
  unfold findRoot; simp [h]

/-- path compression: pointing non-root members of one tree directly at its root -/
theorem compress_path {m : Nat} {par : Nat → Int} {rep d : Nat → Nat} (I : UFInv m par rep d)
    (r : Nat) (hr : par r = (r : Int)) (path : List Nat)
    (hpath : ∀ x, x ∈ path → par x ≠ -1 ∧ rep x = r ∧ par x ≠ (x : Int) ∧ d r < d x) :
    UFInv m (fun i => if i ∈ path then (r : Int) else par i) rep d ∧
      (∀ i, (if i ∈ path then (r : Int) else par i) = -1 ↔ par i = -1) ∧
      (∀ i, (if i ∈ path then (r : Int) else par i) = (i : Int) ↔ par i = (i : Int)) := by
  have hfresh : ∀ i, (if i ∈ path then (r : Int) else par i) = -1 ↔ par i = -1 := by
    intro i
    by_cases hi : i ∈ path
    · rw [if_pos hi]
      exact ⟨fun h => by omega, fun h => absurd h (hpath i hi).1⟩
    · rw [if_neg hi]
  have hroots : ∀ i, (if i ∈ path then (r : Int) else par i) = (i : Int) ↔ par i = (i : Int) := by
    intro i
    by_cases hi : i ∈ path
    · rw [if_pos hi]
      refine ⟨fun h => ?_, fun h => absurd h (hpath i hi).2.2.1⟩
      have : r = i := by omega
      exact absurd hr (hpath r (this ▸ hi)).2.2.1
    · rw [if_neg hi]
  -- a parent link of the new array is a new link to `r` or an old link
  have hedge : ∀ s (p : Nat), (if s ∈ path then (r : Int) else par s) = (p : Int) →
      (s ∈ path ∧ p = r) ∨ par s = (p : Int) := by
    intro s p h
    by_cases hs : s ∈ path
    · rw [if_pos hs] at h; exact Or.inl ⟨hs, by omega⟩
    · rw [if_neg hs] at h; exact Or.inr h
  refine ⟨⟨?_, ?_, ?_, ?_, ?_, ?_, ?_, ?_, ?_, ?_⟩, hfresh, hroots⟩
  · intro s
    by_cases hs : s ∈ path
    · exact Or.inr ⟨r, I.lt (by rw [hr]; omega), if_pos hs⟩
    · rw [if_neg hs]; exact I.rng s
  · intro s hs
    exact (hfresh s).mpr (I.out s hs)
  · intro s hs
    exact (hroots _).mpr (I.rep_root s fun h => hs ((hfresh s).mpr h))
  · intro s p hsp
    rcases hedge s p hsp with ⟨hs, hp⟩ | h
    · rw [hp, I.root_rep r hr, (hpath s hs).2.1]
    · exact I.rep_par s p h
  · intro s hs
    exact I.root_rep s ((hroots s).mp hs)
  · intro s p hsp
    rw [Ne, hfresh]
    rcases hedge s p hsp with ⟨_, hp⟩ | h
    · rw [hp, hr]; omega
    · exact I.par_live s p h
  · intro s p hsp hne
    rcases hedge s p hsp with ⟨hs, hp⟩ | h
    · rw [hp]; exact (hpath s hs).2.2.2
    · exact I.d_par s p h hne
  · intro s hs
    exact I.d_root s ((hroots s).mp hs)
  · intro s hs
    exact I.d_fresh s ((hfresh s).mp hs)
  · intro s
    have : cnt m (freeOrRoot fun i => if i ∈ path then (r : Int) else par i) =
        cnt m (freeOrRoot par) :=
      cnt_congr m _ _ fun i _ => by simp only [freeOrRoot, hfresh, hroots]
    rw [this]; exact I.d_bound s

/-- `find_root(v)`: returns the root; the compressed array has the same trees (same `rep`),
    the same fresh stabilizers and the same roots -/
theorem findRoot_spec {m : Nat} {par : Nat → Int} {rep d : Nat → Nat} (I : UFInv m par rep d)
    {v : Nat} (hv : par v ≠ -1) :
    ∃ par', findRoot m par v = ((rep v : Int), par', false) ∧ UFInv m par' rep d ∧
      (∀ i, par' i = -1 ↔ par i = -1) ∧ (∀ i, par' i = (i : Int) ↔ par i = (i : Int)) ∧
      (∀ i, par i = (rep i : Int) → par' i = (rep i : Int)) := by
  have hdv : d v < m + 1 := by have := I.d_bound v; omega
  obtain ⟨path, hrun, _, hpath⟩ := findLoop_spec I (m + 1) v [] hv hdv
  have hrr := I.rep_root v hv
  obtain ⟨U', hf, hr⟩ := compress_path I (rep v) hrr path hpath
  refine ⟨fun i => if i ∈ path then (rep v : Int) else par i, ?_, U', hf, hr, ?_⟩
  · unfold findRoot
    simp only [hv, if_false, hrun, List.nil_append]
  · intro i hi
    by_cases hip : i ∈ path
    · simp only [hip, if_true]; rw [(hpath i hip).2.1]
    · simp only [hip, if_false]; exact hi

/-- `_s_parents[x] = b` for every `x` of a set `X` of roots and fresh vertices other than the root
    `b`: their trees become part of the tree of `b`, one link deeper -/
theorem link_spec {m : Nat} {sPar : Nat → Int} {rep d : Nat → Nat} (I : UFInv m sPar rep d)
    {b : Nat} (hb : sPar b = (b : Int)) (X : List Nat)
    (hX : ∀ x, x ∈ X → x < m ∧ x ≠ b ∧ (sPar x = (x : Int) ∨ sPar x = -1)) :
    UFInv m (fun i => if i ∈ X then (b : Int) else sPar i)
      (fun i => if i ∈ X ∨ (sPar i ≠ -1 ∧ rep i ∈ X) then b else rep i)
      (fun i => if i ∈ X ∨ (sPar i ≠ -1 ∧ rep i ∈ X) then d i + 1 else d i) := by
  have hbX : b ∉ X := fun h => (hX b h).2.1 rfl
  -- a parent link of the new array is a new link to `b` or an old link
  have hedge : ∀ s (p : Nat), (if s ∈ X then (b : Int) else sPar s) = (p : Int) →
      (s ∈ X ∧ p = b) ∨ (s ∉ X ∧ sPar s = (p : Int)) := by
    intro s p h
    by_cases hs : s ∈ X
    · rw [if_pos hs] at h; exact Or.inl ⟨hs, by omega⟩
    · rw [if_neg hs] at h; exact Or.inr ⟨hs, h⟩
  -- membership in the linked classes is inherited along old parent links
  have hcls : ∀ (s p : Nat), s ∉ X → sPar s = (p : Int) →
      ((p ∈ X ∨ (sPar p ≠ -1 ∧ rep p ∈ X)) ↔ (s ∈ X ∨ (sPar s ≠ -1 ∧ rep s ∈ X))) := by
    intro s p hsx hsp
    have h1 := I.rep_par s p hsp
    have h2 := I.par_live s p hsp
    have h3 : sPar s ≠ -1 := by rw [hsp]; omega
    constructor
    · rintro (h | h)
      · rcases (hX p h).2.2 with hr | hf
        · exact Or.inr ⟨h3, by rw [← h1, I.root_rep p hr]; exact h⟩
        · exact absurd hf h2
      · exact Or.inr ⟨h3, by rw [← h1]; exact h.2⟩
    · rintro (h | h)
      · exact absurd h hsx
      · exact Or.inr ⟨h2, by rw [h1]; exact h.2⟩
  -- no other root and no other fresh vertex is in a linked class
  have hnot : ∀ s, s ∉ X → sPar s = (s : Int) ∨ sPar s = -1 →
      ¬ (s ∈ X ∨ (sPar s ≠ -1 ∧ rep s ∈ X)) := by
    rintro s hsx hs (h | ⟨hl, hr⟩)
    · exact hsx h
    · rcases hs with hs | hs
      · exact hsx (I.root_rep s hs ▸ hr)
      · exact hl hs
  have hbcls := hnot b hbX (Or.inl hb)
  have hfr : ∀ i, i ∈ X → freeOrRoot (fun i => if i ∈ X then (b : Int) else sPar i) i = false := by
    intro i hi
    have h3 : ¬ (b : Int) = -1 := by omega
    have h4 : ¬ (b : Int) = (i : Int) := fun h => (hX i hi).2.1 (by omega)
    simp only [freeOrRoot, if_pos hi, h3, h4, decide_false, Bool.or_false]
  have hfr' : ∀ i, i ∉ X → freeOrRoot (fun i => if i ∈ X then (b : Int) else sPar i) i =
      freeOrRoot sPar i := fun i hi => by simp only [freeOrRoot, if_neg hi]
  have hmono : ∀ i, i < m → freeOrRoot (fun i => if i ∈ X then (b : Int) else sPar i) i = true →
      freeOrRoot sPar i = true := by
    intro i _ h
    by_cases hi : i ∈ X
    · rw [hfr i hi] at h; exact absurd h (by simp)
    · rwa [hfr' i hi] at h
  refine ⟨?_, ?_, ?_, ?_, ?_, ?_, ?_, ?_, ?_, ?_⟩
  · intro s
    by_cases hs : s ∈ X
    · exact Or.inr ⟨b, I.lt (by rw [hb]; omega), if_pos hs⟩
    · rw [if_neg hs]; exact I.rng s
  · intro s hs
    rw [if_neg fun h => by have := (hX s h).1; omega]; exact I.out s hs
  · intro s hs
    by_cases hc : s ∈ X ∨ (sPar s ≠ -1 ∧ rep s ∈ X)
    · rw [if_pos hc, if_neg hbX]; exact hb
    · rw [if_neg hc]
      rw [if_neg fun h => hc (Or.inl h)] at hs
      rw [if_neg fun h => hc (Or.inr ⟨hs, h⟩)]; exact I.rep_root s hs
  · intro s p hsp
    rcases hedge s p hsp with ⟨hs, hp⟩ | ⟨hs, h⟩
    · rw [hp, if_neg hbcls, if_pos (Or.inl hs)]; exact I.root_rep b hb
    · have := hcls s p hs h
      by_cases hc : s ∈ X ∨ (sPar s ≠ -1 ∧ rep s ∈ X)
      · rw [if_pos hc, if_pos (this.mpr hc)]
      · rw [if_neg hc, if_neg (mt this.mp hc)]; exact I.rep_par s p h
  · intro s hs
    rcases hedge s s hs with ⟨h1, h2⟩ | ⟨hsx, h⟩
    · exact absurd (h2 ▸ h1) hbX
    · rw [if_neg (hnot s hsx (Or.inl h))]; exact I.root_rep s h
  · intro s p hsp
    rcases hedge s p hsp with ⟨_, hp⟩ | ⟨_, h⟩
    · rw [hp, if_neg hbX, hb]; omega
    · by_cases hp : p ∈ X
      · rw [if_pos hp]; omega
      · rw [if_neg hp]; exact I.par_live s p h
  · intro s p hsp hne
    rcases hedge s p hsp with ⟨hs, hp⟩ | ⟨hs, h⟩
    · rw [hp, if_neg hbcls, if_pos (Or.inl hs), I.d_root b hb]; omega
    · have := hcls s p hs h
      have hd := I.d_par s p h hne
      by_cases hc : s ∈ X ∨ (sPar s ≠ -1 ∧ rep s ∈ X)
      · rw [if_pos hc, if_pos (this.mpr hc)]; omega
      · rw [if_neg hc, if_neg (mt this.mp hc)]; exact hd
  · intro s hs
    rcases hedge s s hs with ⟨h1, h2⟩ | ⟨hsx, h⟩
    · exact absurd (h2 ▸ h1) hbX
    · rw [if_neg (hnot s hsx (Or.inl h))]; exact I.d_root s h
  · intro s hs
    by_cases hsx : s ∈ X
    · rw [if_pos hsx] at hs; omega
    · rw [if_neg hsx] at hs
      rw [if_neg (hnot s hsx (Or.inr hs))]; exact I.d_fresh s hs
  · intro s
    have := I.d_bound s
    by_cases hc : s ∈ X ∨ (sPar s ≠ -1 ∧ rep s ∈ X)
    · -- a linked vertex is no longer free or a root
      obtain ⟨x, hx⟩ : ∃ x, x ∈ X := hc.elim (fun h => ⟨s, h⟩) fun h => ⟨rep s, h.2⟩
      have hxr : freeOrRoot sPar x = true := by
        unfold freeOrRoot
        rcases (hX x hx).2.2 with h | h <;> simp [h]
      have := cnt_lt m _ _ hmono x (hX x hx).1 hxr (hfr x hx)
      rw [if_pos hc]; omega
    · have := cnt_mono m _ _ hmono
      rw [if_neg hc]; omega

end Panqec.UF
