/-
`Planar3DCode.getStab` of a vertex and of a face, for every size: the one-letter operator on those
of the six / four neighbouring locations that are qubits (the boundaries truncate the operators);
the faces over their normal axis `ax` (the face `ins ax u v w`, its edges `faceKeys ax u v w`).
-/
import PanqecVerif.Proofs.LatCubic3DGeom
import PanqecVerif.Proofs.LatPlanar3DCodeBasics


namespace Panqec.Planar3DCode
open Panqec.Cubic3D

def isVertex (Lx Ly Lz : Nat) (x y z : Int) : Prop := inE2 Lx x ∧ inE Ly y ∧ inE Lz z

/-- `is_qubit` -/
def isq (Lx Ly Lz : Nat) : Coord → Bool := (qubits Lx Ly Lz).contains

theorem isq_iff {Lx Ly Lz : Nat} {q : Coord} : isq Lx Ly Lz q = true ↔ q ∈ qubits Lx Ly Lz := by
  unfold isq; exact List.contains_iff_mem

/-- `get_stabilizer` at a stabilizer location, before the candidates are written out -/
theorem getStab_collect {Lx Ly Lz : Nat} {x y z : Int} (hs : [x, y, z] ∈ stabs Lx Ly Lz) :
    getStab Lx Ly Lz [x, y, z] =
      collect (qubits Lx Ly Lz) (if typeOf x y = .vertex then Pauli.Z else Pauli.X)
        (candidates x y z (if typeOf x y = .vertex then vertexDelta else faceDelta x y z)) := by
  unfold getStab getStab?
  rw [if_pos (List.contains_iff_mem.mpr hs)]
  rfl

theorem keys_sub {Lx Ly Lz : Nat} (cs : List Coord) :
    ∀ q ∈ cs.filter (isq Lx Ly Lz), q ∈ qubits Lx Ly Lz :=
  fun _ hq => isq_iff.mp (List.mem_filter.mp hq).2

def vertexCands (x y z : Int) : List Coord :=
  [[x + 1, y, z], [x - 1, y, z], [x, y + 1, z], [x, y - 1, z], [x, y, z + 1], [x, y, z - 1]]

/-- the qubits among the neighbouring locations, in the order of `delta` -/
def vertexKeys (Lx Ly Lz : Nat) (x y z : Int) : List Coord :=
  (vertexCands x y z).filter (isq Lx Ly Lz)

theorem vertexCands_nodup (x y z : Int) : (vertexCands x y z).Nodup := by
  simp only [vertexCands, List.nodup_cons, List.mem_cons, List.cons.injEq, List.not_mem_nil,
    and_true, or_false, not_false_eq_true, List.nodup_nil]
  omega

theorem vertexKeys_nodup (Lx Ly Lz : Nat) (x y z : Int) : (vertexKeys Lx Ly Lz x y z).Nodup :=
  (vertexCands_nodup x y z).filter _

theorem vertexKeys_sub (Lx Ly Lz : Nat) (x y z : Int) :
    ∀ q ∈ vertexKeys Lx Ly Lz x y z, q ∈ qubits Lx Ly Lz :=
  keys_sub _

theorem self_vertex {Lx Ly Lz : Nat} {x y z : Int} (h : isVertex Lx Ly Lz x y z) :
    [x - 1, y, z] ∈ vertexKeys Lx Ly Lz x y z := by
  obtain ⟨hx, hy, hz⟩ := h
  simp only [inE, inE2] at hx hy hz
  refine List.mem_filter.mpr ⟨by simp [vertexCands], isq_iff.mpr ?_⟩
  rw [mem_qubits_x (by omega) hy.2.2 hz.2.2]
  omega

theorem vertexKeys_ne_nil {Lx Ly Lz : Nat} {x y z : Int} (h : isVertex Lx Ly Lz x y z) :
    vertexKeys Lx Ly Lz x y z ≠ [] :=
  List.ne_nil_of_mem (self_vertex h)

theorem getStab_vertex {Lx Ly Lz : Nat} {x y z : Int} (h : isVertex Lx Ly Lz x y z) :
    getStab Lx Ly Lz [x, y, z] = uop (vertexKeys Lx Ly Lz x y z) Pauli.Z := by
  have hc : candidates x y z (if typeOf x y = .vertex then vertexDelta else faceDelta x y z) =
      vertexCands x y z := by
    simp [typeOf, vertexDelta, h.1.2.2, h.2.1.2.2, candidates, vertexCands, Int.sub_eq_add_neg]
  have hp : (if typeOf x y = .vertex then Pauli.Z else Pauli.X) = Pauli.Z := by
    simp [typeOf, h.1.2.2, h.2.1.2.2]
  rw [getStab_collect (mem_stabs.mpr (Or.inl h)), hc, hp, collect_eq _ _ _ (vertexCands_nodup x y z)]
  rfl

/-! ### faces over the normal axis

`ins ax u v w` is the face normal to `ax` with the even coordinate `u` along `ax`; its candidate
edges are the `Cubic3D.rim` over the neighbours of the two odd coordinates, its operator sits on
those of them that are qubits. -/

/-- neighbours of a coordinate, `+` first (the order of the vertex offsets) and `-` first (faces) -/
def nbP (e : Int) : List Int := [e + 1, e - 1]
def nbM (o : Int) : List Int := [o - 1, o + 1]

/-- the ranges of the even (vertex) and of the odd (edge) coordinates along each axis: rough
    boundaries across x, smooth ones across y and z -/
def rE (Lx Ly Lz : Nat) : Axis → Int → Prop
  | .x => inE2 Lx | .y => inE Ly | .z => inE Lz
def rO (Lx Ly Lz : Nat) : Axis → Int → Prop
  | .x => inO1 Lx | .y => inO Ly | .z => inO Lz

def isFace (Lx Ly Lz : Nat) (ax : Axis) (u v w : Int) : Prop :=
  rE Lx Ly Lz ax u ∧ rO Lx Ly Lz ax.fst v ∧ rO Lx Ly Lz ax.snd w

def faceCands (ax : Axis) (u v w : Int) : List Coord := rim ax u (nbM v) (nbM w) v w

def faceKeys (Lx Ly Lz : Nat) (ax : Axis) (u v w : Int) : List Coord :=
  (faceCands ax u v w).filter (isq Lx Ly Lz)

/-- the four candidate edges of a face, in the order of `delta` -/
theorem faceCands_eq (ax : Axis) (u v w : Int) : faceCands ax u v w =
    [ins ax u (v - 1) w, ins ax u (v + 1) w, ins ax u v (w - 1), ins ax u v (w + 1)] :=
  rim_pairs ..

theorem mem_faceKeys {Lx Ly Lz : Nat} {ax : Axis} {u v w : Int} {q : Coord} :
    q ∈ faceKeys Lx Ly Lz ax u v w ↔ q ∈ faceCands ax u v w ∧ isq Lx Ly Lz q = true :=
  List.mem_filter

section faces
variable {Lx Ly Lz : Nat} {ax : Axis} {x y z u v w o : Int}

theorem vertexCands_eq : vertexCands x y z = star .x (nbP x) (nbP y) (nbP z) x y z := rfl
theorem nbM_nodup (o : Int) : (nbM o).Nodup := by
  simp only [nbM, List.nodup_cons, List.mem_cons, List.not_mem_nil, or_false, not_false_eq_true,
    List.nodup_nil, and_true]
  omega

theorem faceCands_nodup (ax : Axis) (u v w : Int) : (faceCands ax u v w).Nodup :=
  rim_nodup (nbM_nodup v) (nbM_nodup w) (by simp only [nbM, List.mem_cons, List.not_mem_nil, or_false]; omega)

theorem faceKeys_nodup (Lx Ly Lz : Nat) (ax : Axis) (u v w : Int) :
    (faceKeys Lx Ly Lz ax u v w).Nodup :=
  (faceCands_nodup ax u v w).filter _

theorem faceKeys_sub (Lx Ly Lz : Nat) (ax : Axis) (u v w : Int) :
    ∀ q ∈ faceKeys Lx Ly Lz ax u v w, q ∈ qubits Lx Ly Lz :=
  keys_sub _

/-- a location with one coordinate in the odd range of its axis and the other two in the even
    ranges is a qubit; here the odd one is the first of the two axes other than `ax` -/
theorem ins_qubit_fst (hu : rE Lx Ly Lz ax u) (hv : rO Lx Ly Lz ax.fst v)
    (hw : rE Lx Ly Lz ax.snd w) : ins ax u v w ∈ qubits Lx Ly Lz := by
  cases ax
  exacts [mem_qubits.mpr (.inr (.inl ⟨hu, hv, hw⟩)), mem_qubits.mpr (.inl ⟨hv, hu, hw⟩),
    mem_qubits.mpr (.inl ⟨hv, hw, hu⟩)]

/-- the upper neighbour of an odd coordinate along `ax.snd` (never the x axis) is in the even range -/
theorem rE_succ (hw : rO Lx Ly Lz ax.snd w) : rE Lx Ly Lz ax.snd (w + 1) := by
  cases ax <;> simp only [rO, rE, Axis.snd, inO, inE] at hw ⊢ <;> omega

/-- a face keeps the edge on its upper side along `ax.snd` -/
theorem faceKeys_ne_nil (h : isFace Lx Ly Lz ax u v w) : faceKeys Lx Ly Lz ax u v w ≠ [] :=
  List.ne_nil_of_mem (a := ins ax u v (w + 1)) (List.mem_filter.mpr
    ⟨List.mem_append_right _ (List.mem_map.mpr ⟨w + 1, by simp [nbM], rfl⟩),
      isq_iff.mpr (ins_qubit_fst h.1 h.2.1 (rE_succ h.2.2))⟩)

/-- the face `ins ax u v w` in coordinates: a stabilizer location of type `face` whose candidate
    locations are `faceCands ax u v w`, in this order -/
theorem face_data (h : isFace Lx Ly Lz ax u v w) :
    ∃ x y z, ins ax u v w = [x, y, z] ∧ [x, y, z] ∈ stabs Lx Ly Lz ∧ typeOf x y = .face ∧
      candidates x y z (faceDelta x y z) = faceCands ax u v w := by
  obtain ⟨hu, hv, hw⟩ := h
  cases ax <;> simp only [rE, rO, Axis.fst, Axis.snd] at hu hv hw
  · exact ⟨u, v, w, rfl, mem_stabs.mpr (.inr (.inr (.inl ⟨hu, hv, hw⟩))),
      by simp [typeOf, hv.2.2], by
        simp [faceDelta, hu.2.2, hw.2.2, candidates, faceCands, rim, ins, nbM, Int.sub_eq_add_neg]⟩
  · exact ⟨v, u, w, rfl, mem_stabs.mpr (.inr (.inr (.inr ⟨hv, hu, hw⟩))),
      by simp [typeOf, hv.2.2], by
        simp [faceDelta, hu.2.2, hv.2.2, hw.2.2, candidates, faceCands, rim, ins, nbM,
          Int.sub_eq_add_neg]⟩
  · exact ⟨v, w, u, rfl, mem_stabs.mpr (.inr (.inl ⟨hv, hw, hu⟩)),
      by simp [typeOf, hv.2.2], by
        simp [faceDelta, hu.2.2, candidates, faceCands, rim, ins, nbM, Int.sub_eq_add_neg]⟩

theorem face_mem (h : isFace Lx Ly Lz ax u v w) : ins ax u v w ∈ stabs Lx Ly Lz := by
  obtain ⟨x, y, z, e, hs, -⟩ := face_data h
  exact e ▸ hs

theorem getStab_face (h : isFace Lx Ly Lz ax u v w) :
    getStab Lx Ly Lz (ins ax u v w) = uop (faceKeys Lx Ly Lz ax u v w) Pauli.X := by
  obtain ⟨x, y, z, e, hs, ht, hc⟩ := face_data h
  rw [e, getStab_collect hs, ht]
  simp only [reduceCtorEq, if_false, hc]
  rw [collect_eq _ _ _ (faceCands_nodup ax u v w)]
  rfl

/-! the edges the rank argument uses as witnesses -/

theorem self_faceXY (h : isFace Lx Ly Lz .z z x y) : [x, y - 1, z] ∈ faceKeys Lx Ly Lz .z z x y := by
  obtain ⟨hz, hx, hy⟩ := h
  simp only [rE, rO, Axis.fst, Axis.snd, inE, inO, inO1] at hx hy hz
  refine List.mem_filter.mpr ⟨by simp [faceCands_eq, ins], isq_iff.mpr ?_⟩
  rw [mem_qubits_x hx.2.2 (by omega) hz.2.2]
  omega

theorem self_faceYZ (h : isFace Lx Ly Lz .x x y z) : [x, y, z + 1] ∈ faceKeys Lx Ly Lz .x x y z := by
  obtain ⟨hx, hy, hz⟩ := h
  simp only [rE, rO, Axis.fst, Axis.snd, inO, inE2] at hx hy hz
  refine List.mem_filter.mpr ⟨by simp [faceCands_eq, ins], isq_iff.mpr ?_⟩
  rw [mem_qubits_y hx.2.2 hy.2.2 (by omega)]
  omega

theorem self_faceXZ (h : isFace Lx Ly Lz .y y x z) : [x, y, z + 1] ∈ faceKeys Lx Ly Lz .y y x z := by
  obtain ⟨hy, hx, hz⟩ := h
  simp only [rE, rO, Axis.fst, Axis.snd, inE, inO, inO1] at hx hy hz
  refine List.mem_filter.mpr ⟨by simp [faceCands_eq, ins], isq_iff.mpr ?_⟩
  rw [mem_qubits_x hx.2.2 hy.2.2 (by omega)]
  omega

theorem stab_cases {s : Coord} (h : s ∈ stabs Lx Ly Lz) :
    (∃ x y z, s = [x, y, z] ∧ isVertex Lx Ly Lz x y z) ∨
      ∃ ax u v w, s = ins ax u v w ∧ isFace Lx Ly Lz ax u v w := by
  obtain ⟨x, y, z, rfl⟩ := shape_of_mem_stabs h
  rcases mem_stabs.mp h with h | h | h | h
  exacts [.inl ⟨x, y, z, rfl, h⟩, .inr ⟨.z, z, x, y, rfl, h.2.2, h.1, h.2.1⟩,
    .inr ⟨.x, x, y, z, rfl, h⟩, .inr ⟨.y, y, x, z, rfl, h.2.1, h.1, h.2.2⟩]

end faces

end Panqec.Planar3DCode
