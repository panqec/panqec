/-
Soundness of the batched (lane-wise) primitives of `checkValidFast`:
`laneSymp` / `zeroRows` / `deltaRows` compute symplectic products, `comboAcc` computes all
`xorSelect`s, `pickSorted` returns a sublist.  Core Lean only.
-/
import PanqecVerif.Proofs.MaskLanes

namespace Panqec

/-- The symplectic product of row `i` with `d` is bit `i·L` of `laneSymp`
    (`L = 2^s ≥ 2n` is the lane width). -/
theorem testBit_laneSymp (s n L : Nat) (hLs : 2 ^ s = L) (hn : 2 * n ≤ L)
    (rows : List Nat) (d i : Nat) (hi : i < rows.length) :
    symp (unpackBits (2 * n) (rows.getD i 0)) (unpackBits (2 * n) d) =
      ((laneSymp s (repunit (2 ^ L) rows.length) (packLanes (2 ^ L) rows)
        (swapMask n (2 ^ n) d)).testBit (i * L)).toNat := by
  have hL : 0 < L := by rw [← hLs]; exact Nat.two_pow_pos s
  have hsd : swapMask n (2 ^ n) d < 2 ^ (2 * n) := swapMask_lt n d
  have hsdW : swapMask n (2 ^ n) d < 2 ^ L :=
    Nat.lt_of_lt_of_le hsd (Nat.pow_le_pow_right (by omega) hn)
  have hR : (repunit (2 ^ L) rows.length).testBit (i * L) = true := by
    rw [testBit_repunit L hL]
    simp [Nat.mul_mod_left, Nat.mul_div_cancel _ hL, hi]
  have hy : rows.getD i 0 % 2 ^ L &&& swapMask n (2 ^ n) d < 2 ^ (2 * n) :=
    Nat.and_lt_two_pow _ hsd
  have e1 : ((packLanes (2 ^ L) rows &&& repunit (2 ^ L) rows.length * swapMask n (2 ^ n) d)
      >>> (i * L)) % 2 ^ L = rows.getD i 0 % 2 ^ L &&& swapMask n (2 ^ n) d := by
    rw [Nat.shiftRight_and_distrib, Nat.and_mod_two_pow, lane_packLanes, repunit_mul L hL _ _ hsdW, lane_packLanes,
      getD_replicate_zero, if_pos hi, Nat.mod_eq_of_lt hsdW]
  have e2 : (rows.getD i 0 % 2 ^ L &&& swapMask n (2 ^ n) d) % 2 ^ (2 * n) =
      (rows.getD i 0 &&& swapMask n (2 ^ n) d) % 2 ^ (2 * n) := by
    rw [Nat.and_mod_two_pow, Nat.mod_mod_of_dvd _ (Nat.pow_dvd_pow 2 hn), ← Nat.and_mod_two_pow]
  have key : parityRec L ((packLanes (2 ^ L) rows &&&
      repunit (2 ^ L) rows.length * swapMask n (2 ^ n) d) >>> (i * L)) =
      symp (unpackBits (2 * n) (rows.getD i 0)) (unpackBits (2 * n) d) := by
    rw [← parityRec_mod L, e1, parityRec_mono (2 * n) L _ hy hn, ← parityRec_mod (2 * n), e2,
      parityRec_mod, parity_swap]
  unfold laneSymp
  rw [Nat.testBit_and, hR, Bool.and_true, testBit_foldAll, hLs, key]
  have := symp_lt_two (unpackBits (2 * n) (rows.getD i 0)) (unpackBits (2 * n) d)
  rcases (by omega : symp (unpackBits (2 * n) (rows.getD i 0)) (unpackBits (2 * n) d) = 0 ∨
    symp (unpackBits (2 * n) (rows.getD i 0)) (unpackBits (2 * n) d) = 1) with h | h <;> rw [h] <;> rfl

theorem zeroRows_sound (s n L : Nat) (hLs : 2 ^ s = L) (hn : 2 * n ≤ L) (rows : List Nat) :
    ∀ (ds : List Nat) (k : Nat),
      zeroRows s n (2 ^ n) (repunit (2 ^ L) rows.length) (packLanes (2 ^ L) rows) ds k = true →
      ∀ d ∈ ds, ∀ i, i < rows.length →
        symp (unpackBits (2 * n) (rows.getD i 0)) (unpackBits (2 * n) d) = 0
  | [], _, _, d, hd, _, _ => by simp at hd
  | d0 :: ds, k, h, d, hd, i, hi => by
    simp only [zeroRows, Bool.and_eq_true, beq_iff_eq, tagNat] at h
    rcases List.mem_cons.mp hd with rfl | hd
    · rw [testBit_laneSymp s n L hLs hn rows d i hi, h.1, Nat.zero_testBit]
      rfl
    · exact zeroRows_sound s n L hLs hn rows ds (k + 1) h.2 d hd i hi

theorem deltaRows_sound (s n L : Nat) (hLs : 2 ^ s = L) (hn : 2 * n ≤ L) (rows : List Nat) :
    ∀ (ds : List Nat) (jt J : Nat),
      deltaRows s n (2 ^ n) (2 ^ L) (repunit (2 ^ L) rows.length) (packLanes (2 ^ L) rows)
        ds jt (2 ^ (J * L)) = true →
      ∀ j, j < ds.length → ∀ i, i < rows.length →
        symp (unpackBits (2 * n) (rows.getD i 0)) (unpackBits (2 * n) (ds.getD j 0)) =
          if i = J + j then 1 else 0
  | [], _, _, _, j, hj, _, _ => by simp at hj
  | d0 :: ds, jt, J, h, j, hj, i, hi => by
    have hL : 0 < L := by rw [← hLs]; exact Nat.two_pow_pos s
    simp only [deltaRows, Bool.and_eq_true, beq_iff_eq, tagNat] at h
    have e : 2 ^ L * 2 ^ (J * L) = 2 ^ ((J + 1) * L) := by
      rw [← Nat.pow_add]; congr 1; rw [Nat.add_mul]; omega
    cases j with
    | zero =>
      rw [List.getD_cons_zero, testBit_laneSymp s n L hLs hn rows d0 i hi, h.1,
        Nat.testBit_two_pow, Nat.add_zero]
      by_cases hij : i = J
      · simp [hij]
      · have : ¬ J * L = i * L := fun h' => hij (Nat.eq_of_mul_eq_mul_right hL h').symm
        simp [hij, this]
    | succ j =>
      have h2 := h.2
      rw [e] at h2
      have ih := deltaRows_sound s n L hLs hn rows ds (jt + 1) (J + 1) h2 j
        (by simpa using hj) i hi
      rw [List.getD_cons_succ, ih]
      have : (i = J + 1 + j) ↔ (i = J + (j + 1)) := by omega
      simp only [this]

/-- `deltaRows` started at index 0 with target 1 -/
theorem deltaRows_sound0 (s n L : Nat) (hLs : 2 ^ s = L) (hn : 2 * n ≤ L) (rows ds : List Nat)
    (jt : Nat)
    (h : deltaRows s n (2 ^ n) (2 ^ L) (repunit (2 ^ L) rows.length) (packLanes (2 ^ L) rows)
      ds jt 1 = true) :
    ∀ i j, i < rows.length → j < ds.length →
      symp (unpackBits (2 * n) (rows.getD i 0)) (unpackBits (2 * n) (ds.getD j 0)) =
        if i = j then 1 else 0 := by
  intro i j hi hj
  have h1 : (1 : Nat) = 2 ^ (0 * L) := by simp
  rw [h1] at h
  have := deltaRows_sound s n L hLs hn rows ds jt 0 h j hj i hi
  simpa using this

/-- bit `t` of every combo, as 0/1 lanes -/
theorem shift_and_repunit (L : Nat) (hL : 0 < L) (t : Nat) (ht : t < L) (cs : List Nat) :
    (packLanes (2 ^ L) cs >>> t) &&& repunit (2 ^ L) cs.length =
      packLanes (2 ^ L) (cs.map fun c => (c >>> t) % 2) := by
  apply Nat.eq_of_testBit_eq
  intro p
  rw [Nat.testBit_and, Nat.testBit_shiftRight, testBit_repunit L hL, testBit_packLanes L hL,
    testBit_packLanes L hL, getD_map_zero]
  by_cases h0 : p % L = 0 ∧ p / L < cs.length
  · obtain ⟨h0, hlt⟩ := h0
    obtain ⟨q, rfl⟩ : ∃ q, p = L * q :=
      ⟨p / L, by have := Nat.div_add_mod p L; rw [h0] at this; omega⟩
    have hq : L * q / L = q := Nat.mul_div_cancel_left q hL
    have hd : (t + L * q) / L = q := by
      rw [Nat.add_mul_div_left _ _ hL, Nat.div_eq_of_lt ht, Nat.zero_add]
    have hm : (t + L * q) % L = t := by
      rw [Nat.add_mul_mod_self_left, Nat.mod_eq_of_lt ht]
    rw [hq] at hlt
    rw [hd, hm, hq, Nat.mul_mod_right, if_pos hlt, Nat.testBit_zero, Nat.mod_mod,
      Nat.testBit_eq_decide_div_mod_eq, Nat.shiftRight_eq_div_pow]
    simp [hlt]
  · have hf : decide (p % L = 0 ∧ p / L < cs.length) = false := by simpa using h0
    rw [hf, Bool.and_false]
    by_cases hlt : p / L < cs.length
    · have hne : p % L ≠ 0 := fun h => h0 ⟨h, hlt⟩
      rw [if_pos hlt]
      symm
      apply Nat.testBit_lt_two_pow
      have : 2 ^ 1 ≤ 2 ^ (p % L) := Nat.pow_le_pow_right (by omega) (by omega)
      have := Nat.mod_lt (cs.getD (p / L) 0 >>> t) (by omega : 0 < 2)
      omega
    · rw [if_neg hlt, Nat.zero_testBit]

theorem lane_xor_step (L X Y a b : Nat) :
    (2 ^ L * X + a % 2 ^ L) ^^^ (2 ^ L * Y + b % 2 ^ L) =
      2 ^ L * (X ^^^ Y) + (a ^^^ b) % 2 ^ L := by
  have hpos := Nat.two_pow_pos L
  apply Nat.eq_of_testBit_eq
  intro p
  rw [Nat.testBit_xor, Nat.testBit_two_pow_mul_add _ (Nat.mod_lt _ hpos),
    Nat.testBit_two_pow_mul_add _ (Nat.mod_lt _ hpos),
    Nat.testBit_two_pow_mul_add _ (Nat.mod_lt _ hpos)]
  by_cases hp : p < L
  · simp [hp, Nat.testBit_mod_two_pow, Nat.testBit_xor]
  · simp [hp, Nat.testBit_xor]

theorem packLanes_xor_map (L : Nat) (f g : Nat → Nat) : ∀ (cs : List Nat),
    packLanes (2 ^ L) (cs.map f) ^^^ packLanes (2 ^ L) (cs.map g) =
      packLanes (2 ^ L) (cs.map fun c => f c ^^^ g c)
  | [] => by simp [packLanes]
  | c :: cs => by
    simp only [List.map_cons, packLanes]
    rw [lane_xor_step, packLanes_xor_map L f g cs]

/-- lane `i` of `comboAcc` is `xorSelect basis combo[i]` -/
theorem comboAcc_eq (L : Nat) (hL : 0 < L) (cs : List Nat) : ∀ (bs : List Nat) (t : Nat),
    t + bs.length ≤ L → (∀ b ∈ bs, b < 2 ^ L) →
    comboAcc (repunit (2 ^ L) cs.length) bs (packLanes (2 ^ L) cs >>> t) =
      packLanes (2 ^ L) (cs.map fun c => xorSelect bs (c >>> t))
  | [], t, _, _ => by
    simp only [comboAcc, xorSelect]
    exact (packLanes_zero _ cs).symm
  | b :: bs, t, ht, hb => by
    have hW := Nat.one_lt_two_pow (Nat.ne_of_gt hL)
    have ht' : t < L := by simp at ht; omega
    have ih := comboAcc_eq L hL cs bs (t + 1) (by simp at ht; omega)
      (fun x hx => hb x (by simp [hx]))
    have hbin : ∀ e ∈ cs.map (fun c => (c >>> t) % 2), e < 2 := by
      intro e he
      obtain ⟨c, _, rfl⟩ := List.mem_map.mp he
      exact Nat.mod_lt _ (by omega)
    rw [comboAcc, ← Nat.shiftRight_add, ih, shift_and_repunit L hL t ht',
      packLanes_mul _ hW b (hb b (by simp)) _ hbin, List.map_map, packLanes_xor_map]
    congr 1
    apply List.map_congr_left
    intro c _
    simp only [Function.comp, xorSelect, Nat.shiftRight_succ]
    rcases Nat.mod_two_eq_zero_or_one (c >>> t) with h | h <;> simp [h]

theorem pickSorted_sublist : ∀ (rows idx : List Nat) (off : Nat),
    (pickSorted idx rows off).Sublist rows
  | [], idx, off => by cases idx <;> simp [pickSorted]
  | x :: xs, [], off => by simp [pickSorted]
  | x :: xs, i :: is, off => by
    rw [pickSorted]
    split
    · exact (pickSorted_sublist xs is (off + 1)).cons_cons x
    · exact (pickSorted_sublist xs (i :: is) (off + 1)).cons x

theorem unpackBits_mod_of_le (w L a : Nat) (h : w ≤ L) :
    unpackBits w (a % 2 ^ L) = unpackBits w a := by
  rw [← unpackBits_mod w (a % 2 ^ L), Nat.mod_mod_of_dvd _ (Nat.pow_dvd_pow 2 h), unpackBits_mod]

theorem unpackBits_congr_mod (w L a b : Nat) (h : w ≤ L) (hab : a % 2 ^ L = b % 2 ^ L) :
    unpackBits w a = unpackBits w b := by
  rw [← unpackBits_mod_of_le w L a h, hab, unpackBits_mod_of_le w L b h]

theorem weightsIdx_eq (n : Nat) : ∀ (l : List Nat) (i : Nat),
    weightsIdx n l i = l.map (weightMask n)
  | [], _ => rfl
  | a :: as, i => by simp [weightsIdx, tagNat, weightsIdx_eq n as (i + 1)]

theorem reportedDistanceFast_eq (c : MaskCode) : reportedDistanceFast c = reportedDistanceOK c := by
  unfold reportedDistanceFast reportedDistanceOK
  rw [weightsIdx_eq]

end Panqec
