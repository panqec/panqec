/-
Color666PlanarCode, all sizes `L ≥ 1`: counting.  The face list, the derived qubit list and the
bottom row are compared (same members, no duplicates ⇒ same length) with explicit column lists
whose lengths are sums over `i < L`:

  faces   = ⨆_{i<L} rising column `x = 3i+2` (⌊3i/2⌋+2 faces) ∪ falling column `x = 6L−1−3i`
            (⌊(3i+1)/2⌋+1 faces)                                  — 3(i+1) per step
  qubits  = {(0,0)} ∪ ⨆_{i<L} four columns                         — 6(i+1) per step
  bottom  = {(0,0)} ∪ ⨆_{i<L} {(6i+4, 0), (6i+6, 0)}

so `n = 3L² + 3L + 1 = 2·#faces + 1` and the logical operators have odd weight `2L + 1`.
-/
import PanqecVerif.Proofs.LatColor666PlanarCodeComm


namespace Panqec.Color666PlanarCode
open Panqec.Lat2D Panqec.Color

/-- `cnt` sites `(x, r), (x, r+4), …` of one column -/
def col (x r : Int) (cnt : Nat) : List Coord :=
  (List.range cnt).map fun (m : Nat) => [x, r + 4 * (m : Int)]

theorem mem_col {x r : Int} {cnt : Nat} {q : Coord} :
    q ∈ col x r cnt ↔ ∃ m : Nat, m < cnt ∧ q = [x, r + 4 * (m : Int)] := by
  unfold col
  simp only [List.mem_map, List.mem_range]
  constructor
  · rintro ⟨m, hm, rfl⟩; exact ⟨m, hm, rfl⟩
  · rintro ⟨m, hm, rfl⟩; exact ⟨m, hm, rfl⟩

theorem length_col (x r : Int) (cnt : Nat) : (col x r cnt).length = cnt := by simp [col]

theorem nodup_col (x r : Int) (cnt : Nat) : (col x r cnt).Nodup := by
  unfold col
  show List.Pairwise _ _
  rw [List.pairwise_map]
  refine List.Pairwise.imp ?_ List.nodup_range
  intro a b hab e
  simp only [List.cons.injEq, and_true, true_and] at e
  exact hab (by omega)

/-- the sites `(x, y)`, `y ≥ 0`, of the sublattice `2x + y ≡ 0 (mod 4)` in the column `x`, from
    below (the lowest has `y = 2x mod 4`) -/
def column (x : Int) (cnt : Nat) : List Coord := col x (2 * x % 4) cnt

/-- `cnt` is the number of those sites below `B` -/
theorem mem_column {x B : Int} {cnt : Nat}
    (h : B ≤ 2 * x % 4 + 4 * (cnt : Int) ∧ 2 * x % 4 + 4 * (cnt : Int) < B + 4) {a b : Int} :
    [a, b] ∈ column x cnt ↔ a = x ∧ 0 ≤ b ∧ b < B ∧ (2 * x + b) % 4 = 0 := by
  unfold column
  rw [mem_col]
  constructor
  · rintro ⟨m, hm, e⟩
    simp only [List.cons.injEq, and_true] at e
    omega
  · rintro ⟨rfl, h0, hB, h4⟩
    refine ⟨((b - 2 * a % 4) / 4).toNat, by omega, ?_⟩
    simp only [List.cons.injEq, and_true, true_and]
    omega

theorem column_shape {x : Int} {cnt : Nat} {q : Coord} (h : q ∈ column x cnt) :
    ∃ b, q = [x, b] := by
  obtain ⟨m, _, rfl⟩ := mem_col.mp h
  exact ⟨_, rfl⟩

/-! The `i`-th rising column `x = 3i + 2` and the `i`-th falling column `x = 6L − 1 − 3i` both hold
the sites below `6i + 5`. -/

def faceBlock (L i : Nat) : List Coord :=
  column (3 * (i : Int) + 2) (3 * i / 2 + 2) ++
  column (6 * (L : Int) - 1 - 3 * (i : Int)) ((3 * i + 1) / 2 + 1)

def niceFaces (L : Nat) : List Coord := (List.range L).flatMap (faceBlock L)

theorem mem_faceBlock {L i : Nat} (hi : i < L) {x y : Int} :
    [x, y] ∈ faceBlock L i ↔
      IsF L x y ∧ (x = 3 * (i : Int) + 2 ∨ x = 6 * (L : Int) - 1 - 3 * (i : Int)) := by
  unfold faceBlock
  rw [List.mem_append, mem_column (B := 6 * (i : Int) + 5) (by omega),
    mem_column (B := 6 * (i : Int) + 5) (by omega), isF_iff]
  constructor
  · rintro (⟨rfl, h⟩ | ⟨rfl, h⟩)
    · exact ⟨by omega, Or.inl rfl⟩
    · exact ⟨by omega, Or.inr rfl⟩
  · rintro ⟨h, rfl | rfl⟩
    · exact Or.inl (by omega)
    · exact Or.inr (by omega)

theorem faceBlock_shape {L i : Nat} {q : Coord} (h : q ∈ faceBlock L i) : ∃ x y, q = [x, y] := by
  rcases List.mem_append.mp h with h | h <;> exact ⟨_, column_shape h⟩

theorem mem_niceFaces {L : Nat} {q : Coord} : q ∈ niceFaces L ↔ q ∈ faces L := by
  unfold niceFaces
  rw [List.mem_flatMap, mem_faces]
  constructor
  · rintro ⟨i, hi, hq⟩
    obtain ⟨x, y, rfl⟩ := faceBlock_shape hq
    exact ⟨x, y, rfl, ((mem_faceBlock (List.mem_range.mp hi)).mp hq).1⟩
  · rintro ⟨x, y, rfl, h⟩
    have h' := isF_iff.mp h
    by_cases hr : x < 3 * (L : Int) + 2
    · have hi : ((x - 2) / 3).toNat < L := by omega
      exact ⟨_, List.mem_range.mpr hi, (mem_faceBlock hi).mpr ⟨h, Or.inl (by omega)⟩⟩
    · have hi : ((6 * (L : Int) - 1 - x) / 3).toNat < L := by omega
      exact ⟨_, List.mem_range.mpr hi, (mem_faceBlock hi).mpr ⟨h, Or.inr (by omega)⟩⟩

theorem nodup_faceBlock (L i : Nat) : (faceBlock L i).Nodup := by
  unfold faceBlock column
  rw [List.nodup_append]
  refine ⟨nodup_col .., nodup_col .., ?_⟩
  intro a ha b hb e
  subst e
  obtain ⟨m, _, rfl⟩ := mem_col.mp ha
  obtain ⟨m', _, e⟩ := mem_col.mp hb
  simp only [List.cons.injEq, and_true] at e
  omega

theorem nodup_niceFaces (L : Nat) : (niceFaces L).Nodup := by
  unfold niceFaces
  refine nodup_blocks _ _ (fun i _ => nodup_faceBlock L i) ?_
  · intro i j hi hj hij q hq hr
    obtain ⟨x, y, rfl⟩ := faceBlock_shape hq
    have h := ((mem_faceBlock hi).mp hq).2
    have h' := ((mem_faceBlock hj).mp hr).2
    omega

theorem length_faceBlock (L i : Nat) : (faceBlock L i).length = 3 * (i + 1) := by
  unfold faceBlock column
  rw [List.length_append, length_col, length_col]
  omega

theorem sum_mul_succ (c : Nat) :
    ∀ L, 2 * ((List.range L).map fun i => c * (i + 1)).sum = c * (L * (L + 1))
  | 0 => rfl
  | L + 1 => by
    rw [List.range_succ, List.map_append, List.sum_append, Nat.mul_add, sum_mul_succ c L]
    simp only [List.map_cons, List.map_nil, List.sum_cons, List.sum_nil, Nat.add_zero]
    rw [Nat.mul_left_comm c L, ← Nat.add_mul, Nat.mul_left_comm, Nat.mul_comm (L + 2)]

theorem length_faces (L : Nat) : 2 * (faces L).length = 3 * L * (L + 1) := by
  rw [← length_eq_of_mem_iff (nodup_niceFaces L) (nodup_faces L) (fun q => mem_niceFaces)]
  unfold niceFaces
  rw [length_flatMap_range _ _ (length_faceBlock L), sum_mul_succ, Nat.mul_assoc]

theorem length_stabs (L L' : Nat) : (stabs L L').length = 3 * L * (L + 1) := by
  unfold stabs
  rw [length_both, length_faces]

def rowBlock (i : Nat) : List Coord := [[6 * (i : Int) + 4, 0], [6 * (i : Int) + 6, 0]]
def niceRow (L : Nat) : List Coord := [[0, 0]] ++ (List.range L).flatMap rowBlock

theorem mem_niceRow {L L' : Nat} (hL : 1 ≤ L) {q : Coord} : q ∈ niceRow L ↔ q ∈ kB L L' := by
  unfold niceRow rowBlock
  simp only [List.mem_append, List.mem_flatMap, List.mem_range, List.mem_cons,
    List.not_mem_nil, or_false]
  constructor
  · rintro (rfl | ⟨i, hi, rfl | rfl⟩) <;> rw [mem_kB hL] <;> unfold IsQ InT <;> omega
  · intro h
    obtain ⟨a, rfl⟩ := kB_shape h
    rw [mem_kB hL] at h
    unfold IsQ InT at h
    by_cases h0 : a = 0
    · left; rw [h0]
    · right
      by_cases h4 : a % 6 = 4
      · exact ⟨((a - 4) / 6).toNat, by omega, Or.inl (by simp only [List.cons.injEq, and_true]; omega)⟩
      · exact ⟨((a - 6) / 6).toNat, by omega, Or.inr (by simp only [List.cons.injEq, and_true]; omega)⟩

theorem nodup_niceRow (L : Nat) : (niceRow L).Nodup := by
  unfold niceRow
  rw [List.nodup_append]
  refine ⟨by simp, ?_, ?_⟩
  · apply nodup_blocks
    · intro i _; unfold rowBlock
      simp only [List.nodup_cons, List.mem_cons, List.cons.injEq, and_true, List.not_mem_nil,
        or_false, not_false_eq_true, List.nodup_nil]
      omega
    · intro i j _ _ hij q hq hr
      unfold rowBlock at hq hr
      simp only [List.mem_cons, List.not_mem_nil, or_false] at hq hr
      rcases hq with rfl | rfl <;> rcases hr with e | e <;>
        simp only [List.cons.injEq, and_true] at e <;> omega
  · intro a ha b hb e
    subst e
    simp only [List.mem_singleton] at ha
    subst ha
    simp only [List.mem_flatMap, List.mem_range] at hb
    obtain ⟨i, _, hb⟩ := hb
    unfold rowBlock at hb
    simp only [List.mem_cons, List.not_mem_nil, or_false, List.cons.injEq, and_true] at hb
    omega

theorem length_kB {L L' : Nat} (hL : 1 ≤ L) : (kB L L').length = 2 * L + 1 := by
  rw [← length_eq_of_mem_iff (nodup_niceRow L) (nodup_kB L L') (fun q => mem_niceRow hL)]
  unfold niceRow
  rw [List.length_append, length_flatMap_range rowBlock (fun _ => 2) (fun i => rfl), sum_const]
  simp only [List.length_cons, List.length_nil]; omega

/-- the four qubit columns added by the `i`-th unit cell: `x = 3i+3` and `x = 3i+1` on the rising
    side, `x = 6L−3i` and `x = 6L−2−3i` on the falling side; the outer two hold the sites below
    `6i + 8`, the inner two those below `6i + 4` -/
def qBlock (L i : Nat) : List Coord :=
  column (3 * (i : Int) + 3) (3 * (i + 1) / 2 + 1) ++
  (column (6 * (L : Int) - 3 * (i : Int)) (3 * i / 2 + 1) ++
  (column (3 * (i : Int) + 1) ((3 * i + 1) / 2 + 1) ++
   column (6 * (L : Int) - 2 - 3 * (i : Int)) (3 * i / 2 + 2)))

def niceQubits (L : Nat) : List Coord := [[0, 0]] ++ (List.range L).flatMap (qBlock L)

theorem mem_qBlock {L i : Nat} (hi : i < L) {x y : Int} :
    [x, y] ∈ qBlock L i ↔
      IsQ L x y ∧ (x = 3 * (i : Int) + 3 ∨ x = 6 * (L : Int) - 3 * (i : Int) ∨
        x = 3 * (i : Int) + 1 ∨ x = 6 * (L : Int) - 2 - 3 * (i : Int)) := by
  unfold qBlock
  rw [List.mem_append, List.mem_append, List.mem_append,
    mem_column (B := 6 * (i : Int) + 8) (by omega), mem_column (B := 6 * (i : Int) + 4) (by omega),
    mem_column (B := 6 * (i : Int) + 4) (by omega), mem_column (B := 6 * (i : Int) + 8) (by omega),
    isQ_iff]
  unfold InT
  constructor
  · rintro (⟨rfl, h⟩ | ⟨rfl, h⟩ | ⟨rfl, h⟩ | ⟨rfl, h⟩)
    · exact ⟨by omega, Or.inl rfl⟩
    · exact ⟨by omega, Or.inr (Or.inl rfl)⟩
    · exact ⟨by omega, Or.inr (Or.inr (Or.inl rfl))⟩
    · exact ⟨by omega, Or.inr (Or.inr (Or.inr rfl))⟩
  · rintro ⟨h, rfl | rfl | rfl | rfl⟩
    · exact Or.inl (by omega)
    · exact Or.inr (Or.inl (by omega))
    · exact Or.inr (Or.inr (Or.inl (by omega)))
    · exact Or.inr (Or.inr (Or.inr (by omega)))

theorem qBlock_shape {L i : Nat} {q : Coord} (h : q ∈ qBlock L i) : ∃ x y, q = [x, y] := by
  rcases List.mem_append.mp h with h | h
  · exact ⟨_, column_shape h⟩
  rcases List.mem_append.mp h with h | h
  · exact ⟨_, column_shape h⟩
  rcases List.mem_append.mp h with h | h <;> exact ⟨_, column_shape h⟩

theorem mem_niceQubits {L L' : Nat} (hL : 1 ≤ L) {q : Coord} :
    q ∈ niceQubits L ↔ q ∈ qubits L L' := by
  unfold niceQubits
  rw [List.mem_append, List.mem_flatMap, mem_qubits hL]
  constructor
  · rintro (h | ⟨i, hi, hq⟩)
    · simp only [List.mem_singleton] at h
      subst h
      exact ⟨0, 0, rfl, by unfold IsQ InT; omega⟩
    · obtain ⟨x, y, rfl⟩ := qBlock_shape hq
      exact ⟨x, y, rfl, ((mem_qBlock (List.mem_range.mp hi)).mp hq).1⟩
  · rintro ⟨x, y, rfl, h⟩
    obtain ⟨ht, h3, h4⟩ := isQ_iff.mp h
    unfold InT at ht
    by_cases h0 : x = 0
    · left; obtain rfl : y = 0 := by omega
      rw [h0]; exact List.mem_singleton_self _
    right
    -- the column index from `x`, on the rising side (`x ≤ 3L`) or on the falling side
    by_cases c3 : x % 3 = 0
    · by_cases hr : x ≤ 3 * (L : Int)
      · have hi : (x / 3 - 1).toNat < L := by omega
        exact ⟨_, List.mem_range.mpr hi, (mem_qBlock hi).mpr ⟨h, Or.inl (by omega)⟩⟩
      · have hi : (2 * (L : Int) - x / 3).toNat < L := by omega
        exact ⟨_, List.mem_range.mpr hi, (mem_qBlock hi).mpr ⟨h, Or.inr (Or.inl (by omega))⟩⟩
    · by_cases hr : x ≤ 3 * (L : Int) - 2
      · have hi : ((x - 1) / 3).toNat < L := by omega
        exact ⟨_, List.mem_range.mpr hi,
          (mem_qBlock hi).mpr ⟨h, Or.inr (Or.inr (Or.inl (by omega)))⟩⟩
      · have hi : ((6 * (L : Int) - 2 - x) / 3).toNat < L := by omega
        exact ⟨_, List.mem_range.mpr hi,
          (mem_qBlock hi).mpr ⟨h, Or.inr (Or.inr (Or.inr (by omega)))⟩⟩

theorem col_disjoint {x x' r r' : Int} {c c' : Nat} (hx : x ≠ x') :
    ∀ a ∈ col x r c, ∀ b ∈ col x' r' c', a ≠ b := by
  intro a ha b hb e
  subst e
  obtain ⟨m, _, rfl⟩ := mem_col.mp ha
  obtain ⟨m', _, e⟩ := mem_col.mp hb
  simp only [List.cons.injEq, and_true] at e
  exact hx e.1

theorem nodup_qBlock (L i : Nat) : (qBlock L i).Nodup := by
  unfold qBlock column
  rw [List.nodup_append]
  refine ⟨nodup_col .., ?_, ?_⟩
  · rw [List.nodup_append]
    refine ⟨nodup_col .., ?_, ?_⟩
    · rw [List.nodup_append]
      exact ⟨nodup_col .., nodup_col .., col_disjoint (by omega)⟩
    · intro a ha b hb
      rcases List.mem_append.mp hb with hb | hb
      · exact col_disjoint (by omega) a ha b hb
      · exact col_disjoint (by omega) a ha b hb
  · intro a ha b hb
    rcases List.mem_append.mp hb with hb | hb
    · exact col_disjoint (by omega) a ha b hb
    · rcases List.mem_append.mp hb with hb | hb
      · exact col_disjoint (by omega) a ha b hb
      · exact col_disjoint (by omega) a ha b hb

theorem nodup_niceQubits (L : Nat) : (niceQubits L).Nodup := by
  unfold niceQubits
  rw [List.nodup_append]
  refine ⟨by simp, ?_, ?_⟩
  · refine nodup_blocks _ _ (fun i _ => nodup_qBlock L i) ?_
    intro i j hi hj hij q hq hr
    obtain ⟨x, y, rfl⟩ := qBlock_shape hq
    have h := ((mem_qBlock hi).mp hq).2
    have h' := ((mem_qBlock hj).mp hr).2
    omega
  · intro a ha b hb e
    subst e
    simp only [List.mem_singleton] at ha
    subst ha
    simp only [List.mem_flatMap, List.mem_range] at hb
    obtain ⟨i, hi, hb⟩ := hb
    have h := ((mem_qBlock hi).mp hb).2
    omega

theorem length_qBlock (L i : Nat) : (qBlock L i).length = 6 * (i + 1) := by
  unfold qBlock column
  simp only [List.length_append, length_col]
  have h : i % 2 = 0 ∨ i % 2 = 1 := by omega
  rcases h with h | h <;> omega

theorem length_qubits {L L' : Nat} (hL : 1 ≤ L) : (qubits L L').length = 3 * L * (L + 1) + 1 := by
  rw [← length_eq_of_mem_iff (nodup_niceQubits L) (nodup_qubits L L') (fun q => mem_niceQubits hL)]
  unfold niceQubits
  rw [List.length_append, length_flatMap_range _ _ (length_qBlock L), Nat.mul_assoc]
  have := sum_mul_succ 6 L
  simp only [List.length_cons, List.length_nil]
  omega

end Panqec.Color666PlanarCode
