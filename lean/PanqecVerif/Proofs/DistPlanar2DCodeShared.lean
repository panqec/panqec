/-
What the all-sizes distance proofs for `Planar2DCode` and `RotatedPlanar2DCode` share.  A
stabilizer is one letter on those of four candidate sites that pass `is_qubit`, so an operator
commutes with it iff an even number of those sites is hit; the sites that fail the test count `0`
(`indIf`), which is what lets the sums run over full rows and columns up to the boundary.
`weights_of_lines` (one listed X line, one listed Z line) also serves `RotatedPlanar3DCode` and
`HollowPlanar3DCode`.
-/
import PanqecVerif.Proofs.DistLines

namespace Panqec.Lat2D

/-- the indicator `ind` on the sites that pass `f`, `0` elsewhere -/
def indIf (f : Coord → Bool) (P : Pauli) (b : Op) (q : Coord) : Nat :=
  if f q = true then ind P b q else 0

theorem indIf_pos {f : Coord → Bool} {q : Coord} (P : Pauli) (b : Op) (h : f q = true) :
    indIf f P b q = ind P b q := if_pos h

theorem indIf_neg {f : Coord → Bool} {q : Coord} (P : Pauli) (b : Op) (h : ¬ f q = true) :
    indIf f P b q = 0 := if_neg h

theorem opAntiCount_filter4 (f : Coord → Bool) (P : Pauli) (b : Op) (c1 c2 c3 c4 : Coord) :
    opAntiCount (([c1, c2, c3, c4].filter f).map fun q => (q, P)) b =
      indIf f P b c1 + indIf f P b c2 + indIf f P b c3 + indIf f P b c4 := by
  rw [opAntiCount_line, List.countP_filter]
  simp only [List.countP_cons, List.countP_nil, ite_and_bool]
  unfold indIf ind
  omega

theorem countP_colKeys_if (f : Coord → Bool) (P : Pauli) (b : Op) (u : Int) (p L : Nat) (c : Int)
    (hc : (p : Int) = c) (h : ∀ j, j < L → f [u, 2 * (j : Int) + c] = true) :
    (colKeys u p L).countP (opHit P b) = rsum L fun j => indIf f P b [u, 2 * (j : Int) + c] := by
  rw [countP_colKeys]
  refine rsum_congr L fun j hj => ?_
  rw [indIf_pos _ _ (h j hj), show ((2 * j + p : Nat) : Int) = 2 * (j : Int) + c by omega]

theorem countP_rowKeys_if (f : Coord → Bool) (P : Pauli) (b : Op) (u : Int) (p L : Nat) (c : Int)
    (hc : (p : Int) = c) (h : ∀ j, j < L → f [2 * (j : Int) + c, u] = true) :
    (rowKeys u p L).countP (opHit P b) = rsum L fun j => indIf f P b [2 * (j : Int) + c, u] := by
  rw [countP_rowKeys]
  refine rsum_congr L fun j hj => ?_
  rw [indIf_pos _ _ (h j hj), show ((2 * j + p : Nat) : Int) = 2 * (j : Int) + c by omega]

/-- the weights of one listed X line and one listed Z line are their lengths -/
theorem weights_of_lines (l : Lattice) (hwf : l.WF) {kX kZ : List Coord}
    (hX : l.logX = [kX.map fun q => (q, Pauli.X)]) (hZ : l.logZ = [kZ.map fun q => (q, Pauli.Z)]) :
    l.rowsX.map pauliWeight = [kX.length] ∧ l.rowsZ.map pauliWeight = [kZ.length] := by
  rw [hwf.weights.1, hwf.weights.2, hX, hZ]
  simp

end Panqec.Lat2D
