/-
Union-find internals (C05), peeling: the `while` loop of `Peeling_Tree.peel`
terminates within `m + 1` rounds on a spanning tree with an even number of defects and returns
a duplicate-free list of member qubits whose boundary is exactly the defect set.
-/
import PanqecVerif.Proofs.UnionFindPeelRound

namespace Panqec.UF

section
variable {H : Mat} {stabs qubits : Nat → Bool} {root : Nat} {S0 : Nat → Nat → Bool}
  {syn0 : Nat → Bool}

/-- the invariant holds at the start, with every member stabilizer alive, when there is a defect:
    an even, nonzero number of defects means that the cluster has a stabilizer other than the
    root, so that `LeavesOK` describes the leaf list -/
theorem PInv_init (hst : ∀ s, stabs s = true → s < H.length) (T : TreeOK H stabs qubits root S0)
    {leaves0 : List Nat} (L : LeavesOK stabs root S0 leaves0)
    (hsyn : ∀ s, syn0 s = true → stabs s = true) (heven : cnt H.length syn0 % 2 = 0)
    {s : Nat} (hs : syn0 s = true) :
    PInv H stabs qubits S0 syn0 stabs ⟨S0, syn0, leaves0, [], []⟩ := by
  have hother : ∃ v, stabs v = true ∧ v ≠ root := by
    by_contra hno
    have hsup : ∀ i, syn0 i = true → i = root := fun i hi =>
      Classical.not_not.mp fun hne => hno ⟨i, hsyn i hi, hne⟩
    rw [cnt_single H.length syn0 root (hst root T.rootMem) hsup, ← hsup s hs, hs] at heven
    cases heven
  refine ⟨fun p c => ?_, fun _ h => h, fun p c h _ => (T.mem p c h).1, L.2 hother, L.1, hsyn,
    fun s => ?_, heven, List.nodup_nil, fun q hq => nomatch hq⟩
  · show S0 p c = (S0 p c && stabs c)
    cases h : S0 p c
    · rfl
    · rw [(T.mem p c h).2.1]; rfl
  · show (0 + b2n (syn0 s)) % 2 = b2n (syn0 s)
    have := b2n_le (syn0 s)
    omega

theorem peelLoop_inv (G : GraphOK H) (hst : ∀ s, stabs s = true → s < H.length)
    (T : TreeOK H stabs qubits root S0) :
    ∀ fuel (st : PeelSt) (al : Nat → Bool), PInv H stabs qubits S0 syn0 al st →
      cnt H.length al < fuel →
      ∃ st' al', peelLoop H stabs qubits fuel st = .ok st' ∧
        PInv H stabs qubits S0 syn0 al' st' ∧ (List.range H.length).any st'.syn = false := by
  intro fuel
  induction fuel with
  | zero => intro st al _ h; omega
  | succ fuel ih =>
    intro st al I hfuel
    unfold peelLoop
    cases hany : (List.range H.length).any st.syn
    · exact ⟨st, al, by simp, I, hany⟩
    · obtain ⟨s, _, hsyn⟩ := List.any_eq_true.mp hany
      obtain ⟨hroot, ⟨w, hw⟩, hn⟩ := defect_left G hst T I hsyn
      rw [if_pos rfl, peelRound_eq hst T I hroot hn]
      -- the leaf `w` is peeled off
      have hwa := leaf_alive I hw
      have hlt : cnt H.length (fun v => al v && !decide (v ∈ st.leaves)) < cnt H.length al :=
        cnt_lt _ _ _ (fun i _ hi => (Bool.and_eq_true_iff.mp hi).1) w (hst w (I.al_stabs w hwa)) hwa
          (by simp [hw])
      exact ih _ _ (PInv_next G hst T I hroot) (by omega)

/-- **peeling a spanning tree** (`Peeling_Tree.peel` after `_build_tree`): on a multigraph
    (parallel edges allowed), for a cluster whose member stabilizers are spanned by the tree `S0` and
    carry an even number of defects, the loop terminates within `m + 1` rounds without a shape
    error, and the list it returns is duplicate-free, consists of member qubits, and has
    boundary exactly the defect set: for EVERY row `s` of the full matrix, the number of listed
    qubits in row `s` is odd iff `s` is a defect of the cluster. -/
theorem peelLoop_spec (G : GraphOK H) (hst : ∀ s, stabs s = true → s < H.length)
    (T : TreeOK H stabs qubits root S0) (leaves0 : List Nat) (L : LeavesOK stabs root S0 leaves0)
    (hsyn : ∀ s, syn0 s = true → stabs s = true) (heven : cnt H.length syn0 % 2 = 0) :
    ∃ st', peelLoop H stabs qubits (H.length + 1) ⟨S0, syn0, leaves0, [], []⟩ = .ok st' ∧
      st'.corr.Nodup ∧ (∀ q, q ∈ st'.corr → qubits q = true ∧ q < ncols H) ∧
      ∀ s, (st'.corr.countP (fun q => hb H s q)) % 2 = b2n (syn0 s) := by
  by_cases hdef : ∃ s, syn0 s = true
  · obtain ⟨s, hs⟩ := hdef
    obtain ⟨st', al', hrun, I', hdone⟩ := peelLoop_inv G hst T (H.length + 1) _ stabs
      (PInv_init hst T L hsyn heven hs) (Nat.lt_succ_of_le (cnt_le H.length stabs))
    refine ⟨st', hrun, I'.corr_nodup, fun q hq => ?_, fun s => ?_⟩
    · obtain ⟨p, c, hpc, _, rfl⟩ := I'.corr_removed q hq
      have := (adjq_true H stabs qubits p c _).mp (edge_spec G T hpc).1
      exact ⟨this.2.2.1, (G.inRange p _ this.1).2⟩
    · have hzero : st'.syn s = false := Bool.eq_false_iff.mpr fun hss =>
        Bool.false_ne_true (hdone.symm.trans (List.any_eq_true.mpr
          ⟨s, List.mem_range.mpr (hst s (I'.al_stabs s (I'.syn_al s hss))), hss⟩))
      have := I'.bdry s
      rwa [hzero, b2n_false, Nat.add_zero] at this
  · -- no defect: the loop returns at once with the empty list
    have hall : ∀ s, syn0 s = false := fun s => Bool.eq_false_iff.mpr fun h => hdef ⟨s, h⟩
    have hany : (List.range H.length).any syn0 = false :=
      List.any_eq_false.mpr fun x _ => by simp [hall x]
    refine ⟨⟨S0, syn0, leaves0, [], []⟩, ?_, List.nodup_nil, fun q hq => absurd hq List.not_mem_nil,
      fun s => ?_⟩
    · unfold peelLoop; simp [hany]
    · simp [hall s]

end

end Panqec.UF
