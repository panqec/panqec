/-
Color488Code before the repair of `get_logicals_x` / `get_logicals_z` (`oldLattice`): the second
listed logical X in closed form, and its row in the assembled matrices; used by the regression
theorems `old_rectangular_*` of `Properties/C01Color488Code.lean`.
-/
import PanqecVerif.Proofs.LatRankBridge
import PanqecVerif.Proofs.LatColor488CodeCss
import PanqecVerif.Proofs.DistLattice

namespace Panqec.Color488Code
open Panqec.Lat2D Panqec.Color

/-- the second listed logical X, before and after the repair: the candidates of the column `x = 7`
    run over `Lx` resp. `Ly` unit cells -/
theorem logX_one (Lx Ly : Nat) :
    (oldLattice Lx Ly).logX.getD 1 [] =
      ((col7 Lx).filter (isQubit Lx Ly)).map (fun q => (q, Pauli.X)) ∧
    (lattice Lx Ly).logX.getD 1 [] =
      ((col7 Ly).filter (isQubit Lx Ly)).map (fun q => (q, Pauli.X)) :=
  ⟨(collect_eq _ _ _ (nodup_col7 Lx)).symm ▸ rfl, (collect_eq _ _ _ (nodup_col7 Ly)).symm ▸ rfl⟩

theorem rowsH_getD (l : Lattice) {i : Nat} {s : Coord} (h : l.stabs[i]? = some s) :
    l.rowsH.getD i [] = opRow l.qubits (l.getStab s) := by
  unfold Lattice.rowsH
  rw [List.getD_eq_getElem?_getD, List.getElem?_map, List.getElem?_map, h]
  rfl

/-- the symplectic product of the second assembled logical X of the old class with an assembled
    operator is the parity of the overlap (the operator is a dict on qubits, whatever the size) -/
theorem old_rowsX_one_symp (Lx Ly : Nat) (b : Op) :
    symp ((oldLattice Lx Ly).rowsX.getD 1 []) (opRow (oldLattice Lx Ly).qubits b) =
      opAntiCount ((oldLattice Lx Ly).logX.getD 1 []) b % 2 := by
  unfold Lattice.rowsX
  rw [getD_map_opRow _ (oldLattice Lx Ly).logX 1 (show 1 < 4 by decide), (logX_one Lx Ly).1]
  exact symp_opRow _ (nodup_qubits Lx Ly) _ _
    (keysNodup_line _ ((nodup_col7 Lx).sublist List.filter_sublist))
    (opSupported_line _ filter_qubits)

end Panqec.Color488Code
