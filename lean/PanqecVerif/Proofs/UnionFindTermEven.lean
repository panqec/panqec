/-
Union-find internals (C05), termination of the growth loop.  Sums over `List.range`
(`rsum`, exchange of two sums); on a CLOSED multigraph (every column of weight 0 or 2: no dangling
edges; parallel edges allowed) the syndrome of any error has an even number of defects in every
union of connected components (double counting); `Support.clustering` terminates and
`Support.decode()` is totally correct for every syndrome with `EvenComponents`, hence there.
-/
import PanqecVerif.Proofs.UnionFindTermProgress
import PanqecVerif.Proofs.UnionFindWF

namespace Panqec.UF

def rsum (k : Nat) (f : Nat → Nat) : Nat := ((List.range k).map f).sum

@[simp] theorem rsum_zero (f : Nat → Nat) : rsum 0 f = 0 := rfl

theorem rsum_succ (k : Nat) (f : Nat → Nat) : rsum (k + 1) f = rsum k f + f k := by
  unfold rsum; rw [List.range_succ]; simp

theorem rsum_succ' (k : Nat) (f : Nat → Nat) : rsum (k + 1) f = f 0 + rsum k (fun i => f (i + 1)) := by
  unfold rsum; rw [List.range_succ_eq_map]; simp [List.map_map, Function.comp_def]

theorem rsum_congr (k : Nat) (f g : Nat → Nat) (h : ∀ i, i < k → f i = g i) : rsum k f = rsum k g := by
  induction k with
  | zero => rfl
  | succ k ih => rw [rsum_succ, rsum_succ, ih (fun i hi => h i (by omega)), h k (by omega)]

theorem rsum_add (k : Nat) (f g : Nat → Nat) : rsum k (fun i => f i + g i) = rsum k f + rsum k g := by
  induction k with
  | zero => rfl
  | succ k ih => rw [rsum_succ, rsum_succ, rsum_succ, ih]; omega

theorem rsum_mul (k : Nat) (c : Nat) (f : Nat → Nat) : rsum k (fun i => c * f i) = c * rsum k f := by
  induction k with
  | zero => simp
  | succ k ih => rw [rsum_succ, rsum_succ, ih, Nat.mul_add]

theorem rsum_comm (m n : Nat) (f : Nat → Nat → Nat) :
    rsum m (fun s => rsum n (fun q => f s q)) = rsum n (fun q => rsum m (fun s => f s q)) := by
  induction m with
  | zero =>
    simp only [rsum_zero]
    induction n with
    | zero => rfl
    | succ n ih => rw [rsum_succ, ← ih]
  | succ m ih =>
    rw [rsum_succ, ih, ← rsum_add]
    apply rsum_congr
    intro q _
    rw [rsum_succ]

theorem rsum_even (k : Nat) (f : Nat → Nat) (h : ∀ i, i < k → f i % 2 = 0) : rsum k f % 2 = 0 := by
  induction k with
  | zero => rfl
  | succ k ih =>
    rw [rsum_succ]
    have := ih (fun i hi => h i (by omega))
    have := h k (by omega)
    omega

theorem cnt_eq_rsum (k : Nat) (f : Nat → Bool) : cnt k f = rsum k (fun i => b2n (f i)) := by
  induction k with
  | zero => rfl
  | succ k ih => rw [cnt_succ, rsum_succ, ih]

theorem dot_eq_rsum : ∀ (r v : List Nat), r.length = v.length →
    dot r v = rsum r.length (fun q => r.getD q 0 * v.getD q 0) := by
  intro r
  induction r with
  | nil => intro v _; simp [dot]
  | cons a as ih =>
    intro v hv
    cases v with
    | nil => simp at hv
    | cons b bs =>
      simp only [List.length_cons] at hv ⊢
      rw [rsum_succ']
      simp only [dot]
      rw [ih bs (by omega)]
      rfl

theorem multigraphLike_of_closed {H : Mat} (h : closedMultigraph H = true) : multigraphLike H = true := by
  unfold closedMultigraph at h
  exact (Bool.and_eq_true _ _ ▸ h).1

/-- on a closed MULTIgraph (`closedMultigraph`; `closedGraph` is the special case) a column has weight 0 or 2 -/
theorem closedGraph_cols {H : Mat} (h : closedMultigraph H = true) (q : Nat) (hq : q < ncols H) :
    cnt H.length (fun s => hb H s q) = 0 ∨ cnt H.length (fun s => hb H s q) = 2 := by
  unfold closedMultigraph multigraphLike at h
  simp only [Bool.and_eq_true, List.all_eq_true, decide_eq_true_eq, List.mem_range, bne_iff_ne] at h
  have h1 := h.1.1.2 q hq
  have h2 := h.2 q hq
  omega

/-- double counting: the defects of a closed set, counted by rows, are the columns inside the set, counted twice -/
theorem evenComponents_of_closed {H : Mat} (hC : closedMultigraph H = true) (v : Vec)
    (hv : v.length = ncols H) : EvenComponents H (sectorSyndrome H v) := by
  obtain ⟨G, R⟩ := multigraphLike_ok (multigraphLike_of_closed hC)
  intro P hP
  have hentry : ∀ s q, s < H.length → (H.getD s []).getD q 0 = b2n (hb H s q) := by
    intro s q hs
    unfold hb
    by_cases hq : q < (H.getD s []).length
    · have hx := R.bin _ (getD_row_mem hs) ((H.getD s [])[q]) (List.getElem_mem hq)
      rw [List.getD_eq_getElem?_getD, List.getElem?_eq_getElem hq]
      simp only [Option.getD_some]
      rcases Nat.le_one_iff_eq_zero_or_eq_one.mp hx with h | h <;> rw [h] <;> rfl
    · rw [List.getD_eq_getElem?_getD (l := H.getD s []), List.getElem?_eq_none (by omega)]
      rfl
  have hdefect : ∀ s, s < H.length →
      defect (sectorSyndrome H v) s = decide (dot (H.getD s []) v % 2 = 1) := by
    intro s hs
    unfold defect sectorSyndrome
    rw [List.getD_eq_getElem?_getD, List.getElem?_eq_getElem (by simpa using hs)]
    simp only [List.getElem_map, Option.getD_some]
    rw [← getD_row_eq hs]
    generalize dot (H.getD s []) v = x
    rcases Nat.mod_two_eq_zero_or_one x with h | h <;> simp [h]
  -- the total, counted by rows …
  have hrows : cnt H.length (fun s => defect (sectorSyndrome H v) s && P s) % 2 =
      rsum H.length (fun s => b2n (P s) * dot (H.getD s []) v) % 2 := by
    rw [cnt_eq_rsum]
    have : ∀ k, k ≤ H.length →
        rsum k (fun i => b2n (defect (sectorSyndrome H v) i && P i)) % 2 =
        rsum k (fun s => b2n (P s) * dot (H.getD s []) v) % 2 := by
      intro k
      induction k with
      | zero => intro _; rfl
      | succ k ih =>
        intro hk
        rw [rsum_succ, rsum_succ]
        have h1 := ih (by omega)
        have h2 : b2n (defect (sectorSyndrome H v) k && P k) % 2 =
            (b2n (P k) * dot (H.getD k []) v) % 2 := by
          rw [hdefect k (by omega)]
          generalize dot (H.getD k []) v = x
          cases P k
          · simp
          · rcases Nat.mod_two_eq_zero_or_one x with h | h <;> simp [h]
        omega
    exact this H.length (Nat.le_refl _)
  -- … and by columns
  have hcols : rsum H.length (fun s => b2n (P s) * dot (H.getD s []) v) =
      rsum (ncols H) (fun q => v.getD q 0 * cnt H.length (fun s => P s && hb H s q)) := by
    have h1 : rsum H.length (fun s => b2n (P s) * dot (H.getD s []) v) =
        rsum H.length (fun s => rsum (ncols H) (fun q => b2n (P s) * (b2n (hb H s q) * v.getD q 0))) := by
      apply rsum_congr
      intro s hs
      have hlen := R.rect _ (getD_row_mem hs)
      rw [dot_eq_rsum _ _ (by rw [hlen, hv]), hlen, ← rsum_mul]
      apply rsum_congr
      intro q _
      rw [hentry s q hs]
    rw [h1, rsum_comm]
    apply rsum_congr
    intro q _
    rw [cnt_eq_rsum, ← rsum_mul]
    apply rsum_congr
    intro s _
    cases P s <;> cases hb H s q <;> simp
  rw [hrows, hcols]
  apply rsum_even
  intro q hq
  -- a column lies inside or outside the closed set
  have hcnt : cnt H.length (fun s => P s && hb H s q) = 0 ∨
      cnt H.length (fun s => P s && hb H s q) = 2 := by
    by_cases hex : ∃ s, s < H.length ∧ P s = true ∧ hb H s q = true
    · obtain ⟨s, _, hPs, hsq⟩ := hex
      have : cnt H.length (fun s => P s && hb H s q) = cnt H.length (fun s => hb H s q) := by
        apply cnt_congr
        intro s' _
        cases hs' : hb H s' q
        · simp
        · simp [hP s s' q hsq hs' hPs]
      rw [this]; exact closedGraph_cols hC q hq
    · left
      apply cnt_eq_zero
      intro s hs
      cases hPs : P s
      · simp
      · cases hsq : hb H s q
        · simp
        · exact absurd ⟨s, hs, hPs, hsq⟩ hex
  rcases hcnt with h | h <;> rw [h] <;> simp

/-- the fuel `m·n + 1` of the model suffices: every turn on an odd cluster zeroes an entry of `_H_to_grow` -/
theorem clustering_terminates_of_even {H : Mat} (hrange : ∀ s q, hb H s q = true → q < ncols H)
    {sy : Vec} (E : EvenComponents H sy) (sched : List (List Int)) :
    (clustering H sy sched).terminated = true :=
  clusterLoop_terminates hrange E (growFuel H) (initState H sy sched) _ _ (GInv_init H _ sched)
    (BdInv_init H _ sched) (Nat.lt_succ_of_le (cnt_le _ _))

/-- dangling edges allowed: `EvenComponents` is all that termination needs -/
theorem decodeWith_ok_of_even {H : Mat} (hG : multigraphLike H = true) {sy : Vec}
    (E : EvenComponents H sy) (sched : List (List Int)) :
    ∃ c, (decodeWith H sy sched).outcome = .ok c ∧ c.length = ncols H ∧ (∀ x, x ∈ c → x < 2) ∧
      sectorSyndrome H c = ((List.range H.length).map fun s => b2n (defect sy s)) ∧
      (decodeWith H sy sched).bad = false := by
  obtain ⟨hpart, hbad⟩ := decodeWith_partial hG sy sched
  have hterm := clustering_terminates_of_even
    (fun s q h => ((multigraphLike_ok hG).1.inRange s q h).2) E sched
  rcases hpart with hdiv | ⟨c, hc, hlen, hbin, hsyn⟩
  · exfalso
    unfold decodeWith at hdiv
    simp only [hterm, Bool.not_true, Bool.false_eq_true, if_false] at hdiv
    split at hdiv <;> simp at hdiv
  · exact ⟨c, hc, hlen, hbin, hsyn, hbad⟩

theorem clustering_terminates {H : Mat} (hC : closedMultigraph H = true) (v : Vec)
    (hv : v.length = ncols H) (sched : List (List Int)) :
    (clustering H (sectorSyndrome H v) sched).terminated = true :=
  clustering_terminates_of_even
    (fun s q h => ((multigraphLike_ok (multigraphLike_of_closed hC)).1.inRange s q h).2)
    (evenComponents_of_closed hC v hv) sched

theorem defect_flags_syndrome (H : Mat) (v : Vec) :
    ((List.range H.length).map fun s => b2n (defect (sectorSyndrome H v) s)) = sectorSyndrome H v :=
  defect_flags _ _ (by unfold sectorSyndrome; simp) (sectorSyndrome_binary H v)

theorem decodeWith_total {H : Mat} (hC : closedMultigraph H = true) (v : Vec) (hv : v.length = ncols H)
    (sched : List (List Int)) :
    ∃ c, (decodeWith H (sectorSyndrome H v) sched).outcome = .ok c ∧ c.length = ncols H ∧
      (∀ x, x ∈ c → x < 2) ∧ sectorSyndrome H c = sectorSyndrome H v ∧
      (decodeWith H (sectorSyndrome H v) sched).bad = false := by
  obtain ⟨c, hc, hlen, hbin, hsyn, hbad⟩ := decodeWith_ok_of_even (multigraphLike_of_closed hC)
    (evenComponents_of_closed hC v hv) sched
  exact ⟨c, hc, hlen, hbin, hsyn.trans (defect_flags_syndrome H v), hbad⟩

end Panqec.UF
