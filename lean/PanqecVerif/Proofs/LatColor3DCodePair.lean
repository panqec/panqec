/-
Color3DCode, even sides `≥ 2`: the anticommutation count of a string of `get_logicals_x` (block
form) with a membrane of `get_logicals_z` (normal form) is, modulo 2, the literal evaluation of the
first block, provided the literal evaluation of a far block is even (`pair_gen`); through it the
pairing table of the nine strings and the nine membranes: one literal evaluation of the first block
and one of a later block for each of the 81 pairs.  Core Lean only.
-/
import PanqecVerif.Proofs.LatColor3DCodeNormalForms

namespace Panqec.Color3DCode
open Panqec.Lat2D Panqec.Color

/-- reduced coordinate of a point translated by a non-zero multiple of 8 from `[0, 8)` -/
def redFar : Kind → Int → Int
  | .thin _ _, _ => 9
  | .thick, a => a % 8

theorem red_shift {k : Kind} (hk : k.Good) {a j : Int} (ha : 0 ≤ a) (hj : 1 ≤ j) :
    redA k (a + 8 * j) = redFar k a := by
  cases k with
  | thin v τ =>
    obtain ⟨h0, -, -, h1⟩ := hk
    simp only [redA, redFar, clamp]
    rw [if_neg (by omega)]
  | thick => simp only [redA, redFar]; omega

def redSel (k : Kind) (isAx far : Bool) (a : Int) : Int :=
  if isAx && far then redFar k a else redA k a

/-- literal evaluation of a block: the first one (`far = false`) or any later one -/
def evalBlk (M : Int → Int → Int → Bool) (kx ky kz : Kind) (ax : Nat) (b0 : List D3) (far : Bool) : Nat :=
  b0.countP fun q => M (redSel kx (ax == 0) far q.1) (redSel ky (ax == 1) far q.2.1)
    (redSel kz (ax == 2) far q.2.2)

def SmallBlk (b0 : List D3) : Prop :=
  ∀ q ∈ b0, 0 ≤ q.1 ∧ q.1 < 8 ∧ 0 ≤ q.2.1 ∧ q.2.1 < 8 ∧ 0 ≤ q.2.2 ∧ q.2.2 < 8

instance (b0 : List D3) : Decidable (SmallBlk b0) := by unfold SmallBlk; infer_instance

/-- the axis `ax` has `2M` unit cells -/
def AxLen (ax : Nat) (Lx Ly Lz M : Nat) : Prop :=
  (ax = 0 ∧ Lx = 2 * M) ∨ (ax = 1 ∧ Ly = 2 * M) ∨ (ax = 2 ∧ Lz = 2 * M)

theorem axLen_getD {ax : Nat} (h : ax < 3) (Mx My Mz : Nat) :
    AxLen ax (2 * Mx) (2 * My) (2 * Mz) ([Mx, My, Mz].getD ax 0) := by
  have h' : ax = 0 ∨ ax = 1 ∨ ax = 2 := by omega
  rcases h' with rfl | rfl | rfl
  · exact Or.inl ⟨rfl, rfl⟩
  · exact Or.inr (Or.inl ⟨rfl, rfl⟩)
  · exact Or.inr (Or.inr ⟨rfl, rfl⟩)

theorem blk_count {Lx Ly Lz : Nat} (hx : 2 ≤ Lx) (hy : 2 ≤ Ly) (hz : 2 ≤ Lz) {K : List Coord}
    {M : Int → Int → Int → Bool} {kx ky kz : Kind} (hK : NF Lx Ly Lz K M kx ky kz)
    (sx : kx.Good) (sy : ky.Good) (sz : kz.Good) {ax M' : Nat} (hax : AxLen ax Lx Ly Lz M')
    {b0 : List D3} (hb : SmallBlk b0) {k : Nat} (hk : k < M') :
    (b0.map fun q => toC (shiftAx ax (8 * (k : Int)) q)).countP (fun q => decide (q ∈ K)) =
      evalBlk M kx ky kz ax b0 (decide (1 ≤ k)) := by
  unfold evalBlk
  rw [List.countP_map]
  apply List.countP_congr
  intro q hq
  have hs := hb q hq
  simp only [Function.comp]
  rcases hax with ⟨rfl, hL⟩ | ⟨rfl, hL⟩ | ⟨rfl, hL⟩
  · have hbox : InBox Lx Ly Lz (q.1 + 8 * (k : Int)) q.2.1 q.2.2 := by unfold InBox; omega
    have h := hK _ _ _ hbox
    simp only [shiftAx, toC, if_true]
    rw [decide_eq_true_iff, h]
    by_cases h1 : 1 ≤ k
    · simp only [redSel, h1, decide_true, beq_self_eq_true, Bool.and_self, if_true,
        Nat.reduceBEq, Bool.false_and, Bool.false_eq_true, if_false]
      rw [red_shift sx (by omega) (by omega)]
    · have : k = 0 := by omega
      subst this
      simp only [redSel, h1, decide_false, Bool.and_false, Bool.false_eq_true, if_false,
        Int.natCast_zero, Int.mul_zero, Int.add_zero]
  · have hbox : InBox Lx Ly Lz q.1 (q.2.1 + 8 * (k : Int)) q.2.2 := by unfold InBox; omega
    have h := hK _ _ _ hbox
    simp only [shiftAx, toC, Nat.one_ne_zero, if_false, if_true]
    rw [decide_eq_true_iff, h]
    by_cases h1 : 1 ≤ k
    · simp only [redSel, h1, decide_true, beq_self_eq_true, Bool.and_self, if_true,
        Nat.reduceBEq, Bool.false_and, Bool.false_eq_true, if_false]
      rw [red_shift sy (by omega) (by omega)]
    · have : k = 0 := by omega
      subst this
      simp only [redSel, h1, decide_false, Bool.and_false, Bool.false_eq_true, if_false,
        Int.natCast_zero, Int.mul_zero, Int.add_zero]
  · have hbox : InBox Lx Ly Lz q.1 q.2.1 (q.2.2 + 8 * (k : Int)) := by unfold InBox; omega
    have h := hK _ _ _ hbox
    simp only [shiftAx, toC, Nat.reduceEqDiff, if_false]
    rw [decide_eq_true_iff, h]
    by_cases h1 : 1 ≤ k
    · simp only [redSel, h1, decide_true, beq_self_eq_true, Bool.and_self, if_true,
        Nat.reduceBEq, Bool.false_and, Bool.false_eq_true, if_false]
      rw [red_shift sz (by omega) (by omega)]
    · have : k = 0 := by omega
      subst this
      simp only [redSel, h1, decide_false, Bool.and_false, Bool.false_eq_true, if_false,
        Int.natCast_zero, Int.mul_zero, Int.add_zero]

theorem sum_range_parity (f : Nat → Nat) (e0 : Nat) (h0 : f 0 = e0)
    (h1 : ∀ k, 1 ≤ k → f k % 2 = 0) : ∀ n, ((List.range (n + 1)).map f).sum % 2 = e0 % 2 := by
  intro n
  rw [List.range_succ_eq_map, List.map_cons, List.sum_cons, List.map_map, h0]
  have := sum_even (f ∘ Nat.succ) (List.range n) (fun k _ => h1 (k + 1) (by omega))
  omega

theorem pair_count {Lx Ly Lz : Nat} (hx : 2 ≤ Lx) (hy : 2 ≤ Ly) (hz : 2 ≤ Lz) {K : List Coord}
    {M : Int → Int → Int → Bool} {kx ky kz : Kind} (hK : NF Lx Ly Lz K M kx ky kz)
    (sx : kx.Good) (sy : ky.Good) (sz : kz.Good) {ax M' : Nat} (hax : AxLen ax Lx Ly Lz M')
    {b0 : List D3} (hb : SmallBlk b0) (e1 : evalBlk M kx ky kz ax b0 true % 2 = 0) :
    (blockKeys ax b0 M').countP (fun q => decide (q ∈ K)) % 2 = evalBlk M kx ky kz ax b0 false % 2 := by
  have hM : 1 ≤ M' := by
    rcases hax with ⟨_, h⟩ | ⟨_, h⟩ | ⟨_, h⟩ <;> omega
  unfold blockKeys
  rw [List.countP_flatMap]
  have hc : ∀ k ∈ List.range M',
      ((b0.map fun q => toC (shiftAx ax (8 * (k : Int)) q)).countP fun q => decide (q ∈ K)) =
        evalBlk M kx ky kz ax b0 (decide (1 ≤ k)) := by
    intro k hk
    exact blk_count hx hy hz hK sx sy sz hax hb (List.mem_range.mp hk)
  rw [List.map_congr_left (f := _ ∘ _) hc]
  obtain ⟨n, rfl⟩ : ∃ n, M' = n + 1 := ⟨M' - 1, by omega⟩
  apply sum_range_parity
  · simp
  · intro k hk
    simp only [hk, decide_true]
    exact e1

theorem toC_shift_inj {ax : Nat} {s : Int} {q q' : D3} (h : toC (shiftAx ax s q) = toC (shiftAx ax s q')) :
    q = q' := by
  obtain ⟨a, b, c⟩ := q
  obtain ⟨a', b', c'⟩ := q'
  unfold toC shiftAx at h
  by_cases h0 : ax = 0
  · simp only [h0, if_true, List.cons.injEq, and_true] at h
    simp only [Prod.mk.injEq]; omega
  · by_cases h1 : ax = 1
    · simp only [h1, Nat.one_ne_zero, if_false, if_true, List.cons.injEq, and_true] at h
      simp only [Prod.mk.injEq]; omega
    · simp only [h0, h1, if_false, List.cons.injEq, and_true] at h
      simp only [Prod.mk.injEq]; omega

theorem nodup_blockKeys {ax : Nat} {b0 : List D3} (hb : SmallBlk b0) (hn : b0.Nodup) (M : Nat) :
    (blockKeys ax b0 M).Nodup := by
  unfold blockKeys
  show List.Pairwise _ _
  rw [List.pairwise_flatMap]
  constructor
  · intro k _
    rw [List.pairwise_map]
    exact hn.imp (fun hne h => hne (toC_shift_inj h))
  · have hr : (List.range M).Nodup := List.nodup_range
    refine List.Pairwise.imp ?_ hr
    intro k k' hne q hq r hr e
    subst e
    apply hne
    simp only [List.mem_map] at hq hr
    obtain ⟨p, hp, rfl⟩ := hq
    obtain ⟨p', hp', e⟩ := hr
    have s1 := hb p hp
    have s2 := hb p' hp'
    obtain ⟨a, b, c⟩ := p
    obtain ⟨a', b', c'⟩ := p'
    unfold toC shiftAx at e
    by_cases h0 : ax = 0
    · simp only [h0, if_true, List.cons.injEq, and_true] at e
      simp only at s1 s2; omega
    · by_cases h1 : ax = 1
      · simp only [h1, Nat.one_ne_zero, if_false, if_true, List.cons.injEq, and_true] at e
        simp only at s1 s2; omega
      · simp only [h0, h1, if_false, List.cons.injEq, and_true] at e
        simp only at s1 s2; omega

theorem pair_gen {Lx Ly Lz : Nat} (hx : 2 ≤ Lx) (hy : 2 ≤ Ly) (hz : 2 ≤ Lz) {K : List Coord}
    {M : Int → Int → Int → Bool} {kx ky kz : Kind} (hK : NF Lx Ly Lz K M kx ky kz)
    (sx : kx.Good) (sy : ky.Good) (sz : kz.Good) {ax M' : Nat} (hax : AxLen ax Lx Ly Lz M')
    {b0 : List D3} (hb : SmallBlk b0) (hn : b0.Nodup) (e1 : evalBlk M kx ky kz ax b0 true % 2 = 0) :
    opAntiCount (lineOp (blockKeys ax b0 M') Pauli.X) (lineOp K Pauli.Z) % 2 =
      evalBlk M kx ky kz ax b0 false % 2 := by
  rw [lineOp_firstOcc, lineOp_firstOcc, opAntiCount_const,
    firstOcc_eq_self (nodup_blockKeys hb hn M')]
  simp only [Pauli.anti, show (Pauli.X != Pauli.I) = true by decide,
    show (Pauli.Z != Pauli.I) = true by decide, show (Pauli.X != Pauli.Z) = true by decide,
    Bool.and_self, if_true]
  rw [← pair_count hx hy hz hK sx sy sz hax hb e1]
  unfold interCount
  congr 1
  apply List.countP_congr
  intro q _
  simp only [List.contains_eq_mem, decide_eq_true_eq, mem_firstOcc]

/-- axis and base block of the `i`-th string -/
def xT (i : Nat) : Nat × List D3 := (i / 3, bX (i / 3) (i % 3))

theorem xT_ok : ∀ i, i < 9 → (xT i).1 < 3 ∧ SmallBlk (xT i).2 ∧ (xT i).2.Nodup := by decide

/-- the literal evaluations that `pair_gen` asks for: for every string and membrane the evaluation of
    a later block is even, that of the first block odd exactly for the membrane of the same index -/
theorem pair_table : ∀ i, i < 9 → ∀ j, j < 9 →
    evalBlk (zT j).1 (zT j).2.1 (zT j).2.2.1 (zT j).2.2.2 (xT i).1 (xT i).2 true % 2 = 0 ∧
    evalBlk (zT j).1 (zT j).2.1 (zT j).2.2.1 (zT j).2.2.2 (xT i).1 (xT i).2 false % 2 =
      if i = j then 1 else 0 := by
  decide +kernel

theorem logX_blocks (Mx My Mz : Nat) : ∀ i, i < 9 →
    (logX (2 * Mx) (2 * My) (2 * Mz)).getD i [] =
      lineOp (blockKeys (xT i).1 (xT i).2 ([Mx, My, Mz].getD (xT i).1 0)) Pauli.X := by
  intro i hi
  have hi' : i = 0 ∨ i = 1 ∨ i = 2 ∨ i = 3 ∨ i = 4 ∨ i = 5 ∨ i = 6 ∨ i = 7 ∨ i = 8 := by omega
  rcases hi' with rfl | rfl | rfl | rfl | rfl | rfl | rfl | rfl | rfl
  · exact congrArg (lineOp · Pauli.X) (kXS_blocks 2 (by decide) 6 0 Mx)
  · exact congrArg (lineOp · Pauli.X) (kXS_blocks 4 (by decide) 0 0 Mx)
  · exact congrArg (lineOp · Pauli.X) (kXC_blocks 0 Mx)
  · exact congrArg (lineOp · Pauli.X) (kXS_blocks 2 (by decide) 6 1 My)
  · exact congrArg (lineOp · Pauli.X) (kXS_blocks 4 (by decide) 0 1 My)
  · exact congrArg (lineOp · Pauli.X) (kXC_blocks 1 My)
  · exact congrArg (lineOp · Pauli.X) (kXS_blocks 2 (by decide) 6 2 Mz)
  · exact congrArg (lineOp · Pauli.X) (kXS_blocks 4 (by decide) 0 2 Mz)
  · exact congrArg (lineOp · Pauli.X) (kXC_blocks 2 Mz)

/-- `ω(X_i, Z_j) = δ_ij` -/
theorem pairing_all {Mx My Mz : Nat} (hx : 2 ≤ 2 * Mx) (hy : 2 ≤ 2 * My) (hz : 2 ≤ 2 * Mz) :
    ∀ i j, i < 9 → j < 9 →
      opAntiCount ((logX (2 * Mx) (2 * My) (2 * Mz)).getD i [])
        ((logZ (2 * Mx) (2 * My) (2 * Mz)).getD j []) % 2 = if i = j then 1 else 0 := by
  intro i j hi hj
  obtain ⟨K, eK, hK⟩ := logZ_NF hx hy hz (Nat.mul_mod_right 2 Mx) (Nat.mul_mod_right 2 My)
    (Nat.mul_mod_right 2 Mz) j hj
  obtain ⟨hax, hb, hn⟩ := xT_ok i hi
  obtain ⟨sx, sy, sz⟩ := zT_good j hj
  obtain ⟨t1, t0⟩ := pair_table i hi j hj
  rw [logX_blocks Mx My Mz i hi, eK, pair_gen hx hy hz hK sx sy sz (axLen_getD hax Mx My Mz) hb hn t1,
    t0]

end Panqec.Color3DCode
