/-
`RotatedToric3DCode`, supported family: `get_stabilizer` of a vertex / horizontal face / vertical
face is the signed operator on its candidate list (`KV`, `KH`, `KF d`).  The letter lemmas
check the defect rule of the class against the colours: per candidate one goal on the coordinates
mod 4, which `omega` closes for all cases at once (on / off each seam, parity of `Lx`, `Ly`).
-/
import PanqecVerif.Proofs.LatRotatedToric3DCodeCandidates
open Panqec Panqec.Lat3Db
namespace Panqec.RotatedToric3DCode


/-- the supported family -/
def Fam (Lx Ly : Nat) : Prop := 2 ≤ Lx ∧ 2 ≤ Ly ∧ ¬ (Lx % 2 = 1 ∧ Ly % 2 = 1)

theorem bne_true_iff (a b : Bool) : (a != b) = true ↔ ¬ (a = true ↔ b = true) := by
  cases a <;> cases b <;> simp

theorem not_bne_true_iff (a b : Bool) : (!(a != b)) = true ↔ (a = true ↔ b = true) := by
  cases a <;> cases b <;> simp

/-- letter of a Z-type stabilizer with defect flags on `[qx, qy, qz]` against a signed key -/
theorem letterZ_eq (db : Bool × Bool) (σ : Bool) (qx qy qz : Int)
    (h : ((db.1 && qx == 1) != (db.2 && qy == 1)) = (σ != col [qx, qy, qz])) :
    letterAt db Pauli.Z [qx, qy, qz] = dl σ [qx, qy, qz] := by
  unfold letterAt dl
  simp only [h]
  cases σ <;> cases col [qx, qy, qz] <;> rfl

/-- letter of an X-type stabilizer with defect flags on `[qx, qy, qz]` against a signed key -/
theorem letterX_eq (db : Bool × Bool) (σ : Bool) (qx qy qz : Int)
    (h : ((db.1 && qx == 1) != (db.2 && qy == 1)) = !(σ != col [qx, qy, qz])) :
    letterAt db Pauli.X [qx, qy, qz] = dl σ [qx, qy, qz] := by
  unfold letterAt dl
  simp only [h]
  cases σ <;> cases col [qx, qy, qz] <;> rfl

section vertex
variable {Lx Ly Lz : Nat} {x y z : Int}

theorem letters_vertex (hF : Fam Lx Ly) (h : SV Lx Ly Lz x y z) :
    ∀ e ∈ KV Lx Ly x y z,
      letterAt (onDefectBoundary Lx Ly x y) Pauli.Z e.1 = dl e.2 e.1 := by
  obtain ⟨hLx, hLy, hfam⟩ := hF
  obtain ⟨hx, hy, hz, h4⟩ := h
  rw [R2_Ev] at hx hy
  unfold Ev at hx hy
  unfold R1 at hz
  have hz1 : z % 2 = 1 := hz.1
  simp only [KV, List.mem_cons, List.not_mem_nil, or_false, forall_eq_or_imp, forall_eq]
  have := sw_spec Lx x; have := sw_spec Ly y
  refine ⟨?_, ?_, ?_, ?_, ?_, ?_⟩ <;> apply letterZ_eq <;> rw [Bool.eq_iff_iff] <;>
    simp only [onDefectBoundary, col, bne_true_iff, Bool.and_eq_true, Bool.or_eq_true, beq_iff_eq,
      Bool.false_eq_true, false_iff, true_iff, not_not,
      ] <;> omega

theorem getStab_vertex (hLx : 2 ≤ Lx) (hLy : 2 ≤ Ly) (h : SV Lx Ly Lz x y z) :
    getStab Lx Ly Lz [x, y, z] =
      gop (((KV Lx Ly x y z).map Prod.fst).filter (isQubit Lx Ly Lz))
        (letterAt (onDefectBoundary Lx Ly x y) Pauli.Z) := by
  have hs := isStab_of Lx Ly Lz x y z (Or.inl h)
  obtain ⟨hx, hy, hz, h4⟩ := h
  rw [R2_Ev] at hx hy
  have hv : isVertexXYZ x y z = true := by
    unfold R1 at hz; unfold isVertexXYZ; simp only [Bool.and_eq_true, beq_iff_eq]; omega
  unfold getStab getStab?
  simp only [hs, deltaOf, hv, Bool.not_true, Bool.false_eq_true, if_false, if_true,
    Option.getD_some]
  rw [buildStab_eq, nb_vertex hx hy]
  rw [nb_vertex hx hy]; exact KV_nodup hLx hLy hx hy

theorem signed_vertex (hF : Fam Lx Ly) (h : SV Lx Ly Lz x y z) :
    Signed Lx Ly Lz (getStab Lx Ly Lz [x, y, z]) (KV Lx Ly x y z) := by
  have hx := R2_Ev.mp h.1; have hy := R2_Ev.mp h.2.1
  exact ⟨KV_nodup hF.1 hF.2.1 hx hy, _, getStab_vertex hF.1 hF.2.1 h, letters_vertex hF h⟩

end vertex

section hface
variable {Lx Ly Lz : Nat} {a b c : Int}

theorem letters_hface (hF : Fam Lx Ly) (h : SH Lx Ly Lz a b c) :
    ∀ e ∈ KH Lx Ly a b c,
      letterAt (onDefectBoundary Lx Ly a b) Pauli.X e.1 = dl e.2 e.1 := by
  obtain ⟨hLx, hLy, hfam⟩ := hF
  obtain ⟨hx, hy, hz, h4⟩ := h
  rw [R2_Ev] at hx hy
  unfold Ev at hx hy
  unfold R1 at hz
  have hz1 : c % 2 = 1 := hz.1
  simp only [KH, List.mem_cons, List.not_mem_nil, or_false, forall_eq_or_imp, forall_eq]
  have := sw_spec Lx a; have := sw_spec Ly b
  refine ⟨?_, ?_, ?_, ?_⟩ <;> apply letterX_eq <;> rw [Bool.eq_iff_iff] <;>
    simp only [onDefectBoundary, col, not_bne_true_iff, bne_true_iff, Bool.and_eq_true,
      Bool.or_eq_true, beq_iff_eq,
      Bool.false_eq_true, false_iff, true_iff,
      ] <;> omega

theorem getStab_hface (hLx : 2 ≤ Lx) (hLy : 2 ≤ Ly) (h : SH Lx Ly Lz a b c) :
    getStab Lx Ly Lz [a, b, c] =
      gop (((KH Lx Ly a b c).map Prod.fst).filter (isQubit Lx Ly Lz))
        (letterAt (onDefectBoundary Lx Ly a b) Pauli.X) := by
  have hs := isStab_of Lx Ly Lz a b c (Or.inr (Or.inl h))
  obtain ⟨hx, hy, hz, h4⟩ := h
  rw [R2_Ev] at hx hy
  have hv : isVertexXYZ a b c = false := by
    unfold isVertexXYZ
    have : ¬ ((a + b) % 4 = 2) := by omega
    simp [this]
  have hz1 : (c % 2 == 1) = true := by unfold R1 at hz; simp only [beq_iff_eq]; omega
  unfold getStab getStab?
  simp only [hs, deltaOf, hv, hz1, Bool.not_true, Bool.false_eq_true, if_false, if_true,
    Option.getD_some]
  rw [buildStab_eq, nb_hface hx hy]
  rw [nb_hface hx hy]; exact KH_nodup hLx hLy hx hy

theorem signed_hface (hF : Fam Lx Ly) (h : SH Lx Ly Lz a b c) :
    Signed Lx Ly Lz (getStab Lx Ly Lz [a, b, c]) (KH Lx Ly a b c) := by
  have hx := R2_Ev.mp h.1; have hy := R2_Ev.mp h.2.1
  exact ⟨KH_nodup hF.1 hF.2.1 hx hy, _, getStab_hface hF.1 hF.2.1 h, letters_hface hF h⟩

end hface

section vface
variable {Lx Ly Lz : Nat} {f g h : Int}

/-- a vertical face is never on a defect line (its coordinates are odd) -/
theorem flags_vface (hf : Od Lx f) (hg : Od Ly g) :
    onDefectBoundary Lx Ly f g = (false, false) := by
  unfold Od at hf hg
  unfold onDefectBoundary
  have h1 : ¬ f = 2 * (Lx : Int) := by omega
  have h2 : ¬ g = 2 * (Ly : Int) := by omega
  simp [h1, h2]

theorem letters_vface (d : Bool) (hF : Fam Lx Ly) (hs : SF Lx Ly Lz f g h)
    (h4 : (f + g) % 4 = if d then 2 else 0) :
    ∀ e ∈ KF Lx Ly d f g h,
      letterAt (onDefectBoundary Lx Ly f g) Pauli.X e.1 = dl e.2 e.1 := by
  obtain ⟨hLx, hLy, hfam⟩ := hF
  obtain ⟨hx, hy, hz, hdrop⟩ := hs
  rw [R1_Od] at hx hy
  rw [flags_vface hx hy]
  unfold Od at hx hy
  unfold R2 at hz
  have hz0 : h % 2 = 0 := hz.1
  have hz1 : (h - 1) % 2 = 1 := by omega
  have hz2 : (h + 1) % 2 = 1 := by omega
  have := pw_spec Lx f; have := pw_spec Ly g
  unfold Dropped at hdrop
  cases d <;>
    simp only [Bool.false_eq_true, if_false, if_true] at h4 <;>
    simp only [KF, List.mem_cons, List.not_mem_nil, or_false, forall_eq_or_imp, forall_eq,
      Bool.false_eq_true, if_false, if_true] <;>
    refine ⟨?_, ?_, ?_, ?_⟩ <;> apply letterX_eq <;> rw [Bool.eq_iff_iff] <;>
    simp only [col, not_bne_true_iff, bne_true_iff, Bool.and_eq_true, Bool.or_eq_true, beq_iff_eq,
      Bool.false_eq_true, false_iff, true_iff, not_not, false_and,
      not_true_eq_false] <;> omega

theorem getStab_vface (d : Bool) (hLy : 2 ≤ Ly) (hs : SF Lx Ly Lz f g h)
    (h4 : (f + g) % 4 = if d then 2 else 0) :
    getStab Lx Ly Lz [f, g, h] =
      gop (((KF Lx Ly d f g h).map Prod.fst).filter (isQubit Lx Ly Lz))
        (letterAt (onDefectBoundary Lx Ly f g) Pauli.X) := by
  have hst := isStab_of Lx Ly Lz f g h (Or.inr (Or.inr hs))
  obtain ⟨hx, hy, hz, hdrop⟩ := hs
  rw [R1_Od] at hx hy
  have hz0 : ¬ (h % 2 = 1) := by unfold R2 at hz; omega
  have hv : isVertexXYZ f g h = false := by unfold isVertexXYZ; simp [hz0]
  have hzb : (h % 2 == 1) = false := by simpa using hz0
  have hd : deltaOf f g h = some (if d then faceDeltaY else faceDeltaX) := by
    cases d <;> simp only [Bool.false_eq_true, if_false, if_true] at h4 ⊢ <;>
      simp [deltaOf, hv, hzb, h4]
  unfold getStab getStab?
  simp only [hst, hd, hv, Bool.not_true, Bool.false_eq_true, if_false, Option.getD_some]
  rw [buildStab_eq, nb_vface d hx hy]
  rw [nb_vface d hx hy]; exact KF_nodup d hLy hy

theorem signed_vface (d : Bool) (hF : Fam Lx Ly) (hs : SF Lx Ly Lz f g h)
    (h4 : (f + g) % 4 = if d then 2 else 0) :
    Signed Lx Ly Lz (getStab Lx Ly Lz [f, g, h]) (KF Lx Ly d f g h) :=
  ⟨KF_nodup d hF.2.1 (R1_Od.mp hs.2.1), _, getStab_vface d hF.2.1 hs h4, letters_vface d hF hs h4⟩

theorem SF_mod4 (hs : SF Lx Ly Lz f g h) : (f + g) % 4 = 0 ∨ (f + g) % 4 = 2 := by
  unfold SF R1 at hs; omega

end vface

end Panqec.RotatedToric3DCode
