/-
Correctness of the decoder glue under the solver contracts (core Lean only).  For the syndrome of
an error the contracts deliver a `SectorAnswer`; validity of what each decoder assembles follows
from that alone.
-/
import PanqecVerif.Proofs.Decoders
import PanqecVerif.Proofs.DecodersState

namespace Panqec

def Solves (n : Nat) (M : Mat) (sy c : Vec) : Prop :=
  c.length = n ∧ (∀ x ∈ c, x < 2) ∧ sectorSyndrome M c = sy

/-- `sy` is in the image of `M` -/
def Feasible (n : Nat) (M : Mat) (sy : Vec) : Prop :=
  ∃ v : Vec, v.length = n ∧ sectorSyndrome M v = sy

/-- contract of `Matching(M, spacelike_weights=w).decode(sy)` as far as validity goes,
    for the one matrix `M` the object was built from -/
def SolverValidOn {W : Type} (n : Nat) (solve : WSolver W) (M : Mat) : Prop :=
  ∀ w sy, Feasible n M sy → Solves n M sy (solve M w sy)

/-- contract of `Support(sy, M).decode()` -/
def UfValidOn (n : Nat) (uf : USolver) (M : Mat) : Prop :=
  ∀ sy, Feasible n M sy → Solves n M sy (uf M sy)

/-- contract of ldpc `BpOsdDecoder(M, …).decode`, for every schedule and channel probabilities -/
def BpValidOn (cols : Nat) (S : BpSolver) (M : Mat) : Prop :=
  ∀ ser p sy, Feasible cols M sy → Solves cols M sy (S.decode M ser p sy)

theorem feasible_z (H : Mat) (hcss : isCss H = true) (e : Vec) (n : Nat) (h : e.length = 2 * n) :
    Feasible n (Hz H) (extractZSyndrome H (measureSyndrome H e)) :=
  ⟨xPart e, xPart_len h, (css_zrow_block H hcss e).symm⟩

theorem feasible_x (H : Mat) (hcss : isCss H = true) (e : Vec) (n : Nat) (h : e.length = 2 * n) :
    Feasible n (Hx H) (extractXSyndrome H (measureSyndrome H e)) :=
  ⟨zPart e, zPart_len h, (css_xrow_block H hcss e).symm⟩

theorem binary_append {a b : Vec} (ha : ∀ x ∈ a, x < 2) (hb : ∀ x ∈ b, x < 2) :
    ∀ x ∈ a ++ b, x < 2 := by
  intro x hx
  rcases List.mem_append.mp hx with h | h
  · exact ha x h
  · exact hb x h

/-- what the per-sector solver contracts deliver for the syndrome of an error `e`, and all that the
    validity and distance statements use of the `[cx | cz]` a CSS decoder of panqec assembles -/
structure SectorAnswer (H : Mat) (n : Nat) (e cx cz : Vec) : Prop where
  css : isCss H = true
  x : Solves n (Hz H) (extractZSyndrome H (measureSyndrome H e)) cx
  z : Solves n (Hx H) (extractXSyndrome H (measureSyndrome H e)) cz

namespace SectorAnswer
variable {H : Mat} {n : Nat} {e cx cz : Vec}

/-- `hX`, `hZ` are what `SolverValidOn`, `UfValidOn`, `BpValidOn` say once the weights, or the
    schedule and priors, are fixed -/
theorem of_solvers (hcss : isCss H = true) (he : e.length = 2 * n) {fX fZ : Vec → Vec}
    (hX : ∀ sy, Feasible n (Hz H) sy → Solves n (Hz H) sy (fX sy))
    (hZ : ∀ sy, Feasible n (Hx H) sy → Solves n (Hx H) sy (fZ sy)) :
    SectorAnswer H n e (fX (extractZSyndrome H (measureSyndrome H e)))
      (fZ (extractXSyndrome H (measureSyndrome H e))) :=
  ⟨hcss, hX _ (feasible_z H hcss e n he), hZ _ (feasible_x H hcss e n he)⟩

theorem xPart_eq (h : SectorAnswer H n e cx cz) : xPart (cx ++ cz) = cx :=
  xPart_append cx cz (h.x.1.trans h.z.1.symm)

theorem zPart_eq (h : SectorAnswer H n e cx cz) : zPart (cx ++ cz) = cz :=
  zPart_append cx cz (h.x.1.trans h.z.1.symm)

theorem valid (h : SectorAnswer H n e cx cz) :
    (cx ++ cz).length = 2 * n ∧ (∀ x ∈ cx ++ cz, x < 2) ∧
      measureSyndrome H (cx ++ cz) = measureSyndrome H e := by
  refine ⟨by rw [List.length_append, h.x.1, h.z.1, Nat.two_mul], binary_append h.x.2.1 h.z.2.1,
    measureSyndrome_ext H _ _ ?_ ?_⟩
  · rw [css_xrow_block H h.css, h.zPart_eq, h.z.2.2]
  · rw [css_zrow_block H h.css, h.xPart_eq, h.x.2.2]

end SectorAnswer

theorem vxor_self_zero (s : Vec) : ∀ x ∈ vxor s s, x = 0 := by
  rw [vxor_self]; exact fun x hx => (List.mem_replicate.mp hx).2

theorem in_codespace_of_same_syndrome (H : Mat) (e c : Vec) (hlen : e.length = c.length)
    (hs : measureSyndrome H c = measureSyndrome H e) : inCodespace H (vxor e c) = true := by
  unfold inCodespace
  rw [measureSyndrome_eq, vxor_map_symp H e c hlen, ← measureSyndrome_eq, ← measureSyndrome_eq, hs,
    List.all_eq_true]
  intro x hx
  simp [vxor_self_zero _ x hx]

theorem MatchingDec.new_ok {W : Type} (H : Mat) (n : Nat) (et : Option String)
    (weights : Option (List W × List W)) (mw : List W × List W) (d : MatchingDec W)
    (h : MatchingDec.new H n et weights mw = .ok d) :
    ∃ t, parseErrType et = .ok t ∧ isCss H = true ∧ d.H = H ∧ d.n = n ∧ d.errType = t ∧
      d.matcherX = (if t.doesX then some ⟨Hz H, (weights.getD mw).1⟩ else none) ∧
      d.matcherZ = (if t.doesZ then some ⟨Hx H, (weights.getD mw).2⟩ else none) := by
  unfold MatchingDec.new at h
  cases ht : parseErrType et with
  | error e => simp [ht] at h
  | ok t =>
    simp only [ht] at h
    cases hcss : isCss H
    · simp [hcss] at h
    · simp only [hcss, Bool.not_true, Bool.false_eq_true, if_false] at h
      injection h with h
      subst h
      refine ⟨t, rfl, rfl, rfl, rfl, rfl, ?_, ?_⟩ <;> cases weights <;> rfl

theorem MatchingDec.new_n {W : Type} {H : Mat} {n : Nat} {et : Option String}
    {weights : Option (List W × List W)} {mw : List W × List W} {d : MatchingDec W}
    (h : MatchingDec.new H n et weights mw = .ok d) : d.n = n := by
  obtain ⟨_, _, _, _, hn, _⟩ := MatchingDec.new_ok _ _ _ _ _ _ h
  exact hn

theorem matchHalf_length {W : Type} (solve : WSolver W) (H : Mat) (n : Nat) (active : Bool)
    (m : Option (Matcher W)) (extract : Mat → Vec → Vec) (s c : Vec) (ev : List (Event W))
    (h : matchHalf solve H n active m extract s = .ok (c, ev)) : c.length = n := by
  unfold matchHalf at h
  split at h
  · cases h; simp
  · split at h
    · cases h
    · split at h
      · cases h
      · simp only at h
        split at h
        · cases h
        · rename_i hl
          cases h
          simpa using hl

theorem MatchingDec.decode_length {W : Type} (solve : WSolver W) (m : MatchingDec W) (s c : Vec)
    (ev : List (Event W)) (h : m.decode solve s = .ok (c, ev)) : c.length = 2 * m.n := by
  unfold MatchingDec.decode at h
  split at h
  · cases h
  · rename_i cx t1 h1
    split at h
    · cases h
    · rename_i cz t2 h2
      cases h
      rw [List.length_append, matchHalf_length _ _ _ _ _ _ _ _ _ h1, matchHalf_length _ _ _ _ _ _ _ _ _ h2]
      omega

/-- `if active then some M else none` is how `MatchingDec.new` fills `matcherX`, `matcherZ` -/
theorem matchHalf_new {W : Type} (solve : WSolver W) (H : Mat) (n : Nat) (active : Bool)
    (M : Matcher W) (extract : Mat → Vec → Vec) (s : Vec) (hlen : s.length = H.length)
    (hc : active = true → (solve M.matrix M.weights (extract H s)).length = n) :
    ∃ ev, matchHalf solve H n active (if active then some M else none) extract s =
      .ok (if active then solve M.matrix M.weights (extract H s) else List.replicate n 0, ev) := by
  cases active
  · exact ⟨[], by simp [matchHalf]⟩
  · exact ⟨[Event.decode M.matrix M.weights (extract H s) (solve M.matrix M.weights (extract H s))],
      by simp [matchHalf, hlen, hc rfl]⟩

/-- every `error_type`; `matching_sectors` and `matching_valid_X` are the cases `None` and `'X'` -/
theorem MatchingDec.decode_new {W : Type} (solve : WSolver W) (H : Mat) (n : Nat)
    (et : Option String) (weights : Option (List W × List W)) (mw : List W × List W)
    (d : MatchingDec W) (hnew : MatchingDec.new H n et weights mw = .ok d) (t : ErrType_dec)
    (ht : parseErrType et = .ok t) (s : Vec) (hlen : s.length = H.length)
    (hx : t.doesX = true → (solve (Hz H) (weights.getD mw).1 (extractZSyndrome H s)).length = n)
    (hz : t.doesZ = true → (solve (Hx H) (weights.getD mw).2 (extractXSyndrome H s)).length = n) :
    ∃ ev, d.decode solve s = .ok
      ((if t.doesX then solve (Hz H) (weights.getD mw).1 (extractZSyndrome H s)
          else List.replicate n 0) ++
       (if t.doesZ then solve (Hx H) (weights.getD mw).2 (extractXSyndrome H s)
          else List.replicate n 0), ev) := by
  obtain ⟨t', ht', -, hH, hn, het, hmx, hmz⟩ := MatchingDec.new_ok H n et weights mw d hnew
  obtain rfl : t' = t := Except.ok.inj (ht'.symm.trans ht)
  obtain ⟨e1, h1⟩ := matchHalf_new solve H n t'.doesX ⟨Hz H, _⟩ extractZSyndrome s hlen hx
  obtain ⟨e2, h2⟩ := matchHalf_new solve H n t'.doesZ ⟨Hx H, _⟩ extractXSyndrome s hlen hz
  refine ⟨e1 ++ e2, ?_⟩
  unfold MatchingDec.decode
  rw [hH, hn, het, hmx, hmz, h1, h2]

theorem matching_sectors {W : Type} (solve : WSolver W) (H : Mat) (n : Nat)
    (weights : Option (List W × List W)) (mw : List W × List W) (d : MatchingDec W)
    (hnew : MatchingDec.new H n none weights mw = .ok d)
    (hsX : SolverValidOn n solve (Hz H)) (hsZ : SolverValidOn n solve (Hx H))
    (e : Vec) (he : e.length = 2 * n) :
    ∃ ev, d.decode solve (measureSyndrome H e) = .ok
        (solve (Hz H) (weights.getD mw).1 (extractZSyndrome H (measureSyndrome H e)) ++
         solve (Hx H) (weights.getD mw).2 (extractXSyndrome H (measureSyndrome H e)), ev) ∧
      SectorAnswer H n e
        (solve (Hz H) (weights.getD mw).1 (extractZSyndrome H (measureSyndrome H e)))
        (solve (Hx H) (weights.getD mw).2 (extractXSyndrome H (measureSyndrome H e))) := by
  obtain ⟨_, _, hcss, _⟩ := MatchingDec.new_ok H n none weights mw d hnew
  have hs := SectorAnswer.of_solvers hcss he (hsX (weights.getD mw).1) (hsZ (weights.getD mw).2)
  obtain ⟨ev, hd⟩ := MatchingDec.decode_new solve H n none weights mw d hnew .all rfl _
    (measureSyndrome_length H e) (fun _ => hs.x.1) (fun _ => hs.z.1)
  exact ⟨ev, hd, hs⟩

/-- `error_type='X'`: the matcher inside the sweep-match decoders -/
theorem matching_valid_X {W : Type} (solve : WSolver W) (H : Mat) (n : Nat)
    (weights : Option (List W × List W)) (mw : List W × List W) (d : MatchingDec W)
    (hnew : MatchingDec.new H n (some "X") weights mw = .ok d)
    (hsX : SolverValidOn n solve (Hz H)) (e : Vec) (he : e.length = 2 * n) :
    ∃ ev, d.decode solve (measureSyndrome H e) =
        .ok (solve (Hz H) (weights.getD mw).1 (extractZSyndrome H (measureSyndrome H e)) ++
             List.replicate n 0, ev) ∧
      Solves n (Hz H) (extractZSyndrome H (measureSyndrome H e))
        (solve (Hz H) (weights.getD mw).1 (extractZSyndrome H (measureSyndrome H e))) := by
  obtain ⟨_, _, hcss, _⟩ := MatchingDec.new_ok H n (some "X") weights mw d hnew
  have hX := hsX (weights.getD mw).1 _ (feasible_z H hcss e n he)
  obtain ⟨ev, hd⟩ := MatchingDec.decode_new solve H n (some "X") weights mw d hnew .X rfl _
    (measureSyndrome_length H e) (fun _ => hX.1) (fun h => nomatch h)
  exact ⟨ev, hd, hX⟩

theorem uf_valid (uf : USolver) (H : Mat) (n : Nat) (hcss : isCss H = true)
    (hufX : UfValidOn n uf (Hz H)) (hufZ : UfValidOn n uf (Hx H)) (e : Vec) (he : e.length = 2 * n) :
    ∃ c ev, ufDecode uf H n (measureSyndrome H e) = .ok (c, ev) ∧
      c = uf (Hz H) (extractZSyndrome H (measureSyndrome H e)) ++
          uf (Hx H) (extractXSyndrome H (measureSyndrome H e)) ∧
      c.length = 2 * n ∧ (∀ x ∈ c, x < 2) ∧ measureSyndrome H c = measureSyndrome H e := by
  have hs := SectorAnswer.of_solvers hcss he hufX hufZ
  unfold ufDecode
  simp only [measureSyndrome_length, hcss, hs.x.1, hs.z.1, ne_eq, not_true_eq_false, if_false,
    Bool.not_true, Bool.false_eq_true]
  exact ⟨_, _, rfl, rfl, hs.valid⟩

theorem bposd_css_valid (S : BpSolver) (d : BpDec_dec) (hcss : isCss d.H = true)
    (hSX : BpValidOn d.n S (Hz d.H)) (hSZ : BpValidOn d.n S (Hx d.H))
    (e : Vec) (he : e.length = 2 * d.n) :
    ∃ c, d.pureDecode S (measureSyndrome d.H e) = .ok c ∧
      c.length = 2 * d.n ∧ (∀ x ∈ c, x < 2) ∧ measureSyndrome d.H c = measureSyndrome d.H e :=
  ⟨_, by simp only [BpDec_dec.pureDecode, hcss, if_true, measureSyndrome_length]; rfl,
    (SectorAnswer.of_solvers hcss he (hSX _ _) (hSZ _ _)).valid⟩

/-! non-CSS: the full matrix acts on `[z | x]`, the answer's halves are swapped back -/

theorem dot_append : ∀ (a b a' b' : List Nat), a.length = b.length →
    dot (a ++ a') (b ++ b') = dot a b + dot a' b'
  | [], [], a', b', _ => by simp [dot]
  | [], _ :: _, _, _, h => by simp at h
  | _ :: _, [], _, _, h => by simp at h
  | x :: a, y :: b, a', b', h => by
    simp at h
    simp [dot_append a b a' b' h, Nat.add_assoc]

theorem symp_eq_dot_swap (r v : Vec) (n : Nat) (hr : r.length = 2 * n) (hv : v.length = 2 * n) :
    symp r v = dot r (zPart v ++ xPart v) % 2 := by
  unfold symp
  conv => rhs; rw [← xPart_append_zPart r]
  rw [dot_append (xPart r) (zPart v) (zPart r) (xPart v)
    (by rw [xPart_len hr, zPart_len hv])]

theorem measure_eq_sector_swap (H : Mat) (n : Nat) (hrows : ∀ r ∈ H, r.length = 2 * n) (v : Vec)
    (hv : v.length = 2 * n) : measureSyndrome H v = sectorSyndrome H (zPart v ++ xPart v) := by
  rw [measureSyndrome_eq]
  unfold sectorSyndrome
  apply List.map_congr_left
  intro r hr
  exact symp_eq_dot_swap r v n (hrows r hr) hv

theorem take_drop_parts (c : Vec) (n : Nat) (hc : c.length = 2 * n) :
    xPart (c.drop n ++ c.take n) = c.drop n ∧ zPart (c.drop n ++ c.take n) = c.take n := by
  have h1 : (c.drop n).length = (c.take n).length := by simp; omega
  exact ⟨xPart_append _ _ h1, zPart_append _ _ h1⟩

theorem bposd_noncss_valid (S : BpSolver) (d : BpDec_dec) (hcss : isCss d.H = false)
    (hrows : ∀ r ∈ d.H, r.length = 2 * d.n)
    (hS : BpValidOn (2 * d.n) S d.H) (e : Vec) (he : e.length = 2 * d.n) :
    ∃ c, d.pureDecode S (measureSyndrome d.H e) = .ok c ∧
      c.length = 2 * d.n ∧ (∀ x ∈ c, x < 2) ∧ measureSyndrome d.H c = measureSyndrome d.H e := by
  have hlen : (measureSyndrome d.H e).length = d.H.length := measureSyndrome_length d.H e
  unfold BpDec_dec.pureDecode
  simp only [hcss, Bool.false_eq_true, if_false, hlen, if_true]
  have hfeas : Feasible (2 * d.n) d.H (measureSyndrome d.H e) :=
    ⟨zPart e ++ xPart e, by simp [xPart_len he, zPart_len he]; omega,
     (measure_eq_sector_swap d.H d.n hrows e he).symm⟩
  obtain ⟨hcl, hcb, hcs⟩ := hS false (raddv d.pz d.py ++ raddv d.px d.py) _ hfeas
  generalize S.decode d.H false (raddv d.pz d.py ++ raddv d.px d.py) (measureSyndrome d.H e) = c
    at hcl hcb hcs
  refine ⟨_, rfl, by simp [hcl]; omega, ?_, ?_⟩
  · intro x hx
    rcases List.mem_append.mp hx with h | h
    · exact hcb x (List.mem_of_mem_drop h)
    · exact hcb x (List.mem_of_mem_take h)
  · have hl : (c.drop d.n ++ c.take d.n).length = 2 * d.n := by simp [hcl]; omega
    rw [measure_eq_sector_swap d.H d.n hrows _ hl]
    obtain ⟨h1, h2⟩ := take_drop_parts c d.n hcl
    rw [h1, h2, List.take_append_drop, hcs]

end Panqec
