/-
Lemmas for `Properties/C20Routes.lean`: the `Except` monad of the route models, the split of
the correction, the discarded `error_spec` comprehension, `selectCode` for a name the menu lists
(`selectCode_of_find`, `select_code_menu`), the table condition `menusWellKeyed`.
-/
import PanqecVerif.Model.GuiRoutesLib
import PanqecVerif.Proofs.GuiReprDict
import PanqecVerif.Proofs.ExceptList
import PanqecVerif.Proofs.GuiTables

namespace Panqec.GuiRoutes
open Panqec.Gui Panqec.GuiRepr

theorem ok_bind {ε α β} (a : α) (f : α → Except ε β) : (Except.ok a >>= f) = f a := rfl
theorem err_bind {ε α β} (e : ε) (f : α → Except ε β) : (Except.error e >>= f) = .error e := rfl

theorem bind_eq_error_of {ε α β} {x : Except ε α} {f : α → Except ε β} {e : ε}
    (h : x = .error e) : (x >>= f) = .error e := by rw [h]; rfl

theorem field_eq_ok {d : Req} {k : String} {v : JV} : field d k = .ok v ↔ getKey d k = some v := by
  unfold field
  cases getKey d k <;> simp

theorem field_of_getKey {d : Req} {k : String} {v : JV} (h : getKey d k = some v) :
    field d k = .ok v := field_eq_ok.mpr h

theorem take_append_drop_split (n : Nat) (c : List Int) : c.take n ++ c.drop n = c :=
  List.take_append_drop n c

theorem forEach_ok_iff {α} (l : List α) (f : α → Except String Unit) :
    forEach l f = .ok () ↔ ∀ a ∈ l, f a = .ok () := by
  induction l with
  | nil => simp [forEach]
  | cons a l ih =>
    rw [forEach, List.forall_mem_cons, ← ih]
    cases f a <;> simp

theorem errorSpecCheck_ok_iff (n : Nat) (errors : List Int) :
    errorSpecCheck n errors = .ok () ↔
      ∀ i < n, ∃ a b, errors[i]? = some a ∧ errors[i + n]? = some b ∧
        (a = 0 ∨ a = 1) ∧ (b = 0 ∨ b = 1) := by
  unfold errorSpecCheck
  simp only [forEach_ok_iff, List.mem_range]
  refine forall₂_congr fun i _ => ?_
  cases errors[i]? <;> cases errors[i + n]? <;> simp [Decidable.or_iff_not_imp_left]

theorem errorSpecCheck_binary (n : Nat) (v : List Nat) (hlen : v.length = 2 * n)
    (hbin : ∀ x ∈ v, x < 2) : errorSpecCheck n (v.map Int.ofNat) = .ok () := by
  rw [errorSpecCheck_ok_iff]
  intro i hi
  have h1 : i < v.length := by omega
  have h2 : i + n < v.length := by omega
  refine ⟨(v[i] : Nat), (v[i + n] : Nat), by simp [h1], by simp [h2], ?_, ?_⟩
  · have := hbin v[i] (List.getElem_mem h1); omega
  · have := hbin v[i + n] (List.getElem_mem h2); omega

/-- `selectCode` once its five fields are read, for a name that the menu lists as the entry `c`:
    what remains are the two membership tests and the look-up of `Lz` -/
theorem selectCode_of_find {codes : List CodeMenu} {data : Req} {c : CodeMenu} {lx ly dn : JV}
    (hfind : codes.find? (·.menuName == c.menuName) = some c)
    (hx : getKey data "Lx" = some lx) (hy : getKey data "Ly" = some ly)
    (hn : getKey data "code_name" = some (.str c.menuName))
    (hd : getKey data "code_deformation_name" = some dn) :
    selectCode codes data =
      if (codeNames codes 2).contains c.menuName then
        .ok ⟨c.cls, [lx, ly], if isStr dn "None" then none else some dn⟩
      else if (codeNames codes 3).contains c.menuName then
        match getKey data "Lz" with
        | some z => .ok ⟨c.cls, [lx, ly, z], if isStr dn "None" then none else some dn⟩
        | none => .error "UnboundLocalError"
      else .error "ValueError" := by
  unfold selectCode
  simp only [field_of_getKey hx, field_of_getKey hy, field_of_getKey hn, field_of_getKey hd, ok_bind,
    classOf, hfind]
  rfl

end Panqec.GuiRoutes

namespace Panqec.C20Routes
open Panqec.Gui Panqec.GuiRepr Panqec.GuiRoutes

/-- the positional sizes of a menu class -/
def sizeArgs (c : CodeMenu) (lx ly lz : JV) : List JV :=
  if c.dimension = 2 then [lx, ly] else [lx, ly, lz]

theorem select_code_menu (codes : List CodeMenu) (data : Req) (c : CodeMenu) (lx ly lz dn : JV)
    (hc : codes.find? (·.menuName == c.menuName) = some c) (hdim : c.dimension = 2 ∨ c.dimension = 3)
    (huniq : ∀ c' ∈ codes, c'.menuName = c.menuName → c'.dimension = c.dimension)
    (hx : getKey data "Lx" = some lx) (hy : getKey data "Ly" = some ly)
    (hz : getKey data "Lz" = some lz) (hn : getKey data "code_name" = some (.str c.menuName))
    (hd : getKey data "code_deformation_name" = some dn) :
    selectCode codes data =
      .ok ⟨c.cls, sizeArgs c lx ly lz, if isStr dn "None" then none else some dn⟩ := by
  rw [selectCode_of_find hc hx hy hn hd, sizeArgs]
  rcases hdim with h | h
  · rw [if_pos (codeNames_contains hc h), if_pos (c := c.dimension = 2) h]
  · have h2 := codeNames_not_contains 2 fun c' hc' hn' => by rw [huniq c' hc' hn', h]; decide
    rw [h2, if_neg Bool.false_ne_true, if_pos (codeNames_contains hc h), hz,
      if_neg (c := c.dimension = 2) (by rw [h]; decide)]

/-- the table facts `C20Routes.select_decode_front_end` needs: menu names are distinct keys, dimensions
    are 2 or 3 -/
def menusWellKeyed (codes : List CodeMenu) (decs : List DecoderMenu) (dirs : List (String × Dir)) :
    Bool :=
  (codes.all fun c => decide (codes.find? (·.menuName == c.menuName) = some c) &&
      (c.dimension == 2 || c.dimension == 3) &&
      codes.all fun c' => c'.menuName != c.menuName || c'.dimension == c.dimension) &&
  (decs.all fun d => decide (decs.find? (·.menuName == d.menuName) = some d)) &&
  (dirs.all fun e => decide (dirs.find? (·.1 == e.1) = some e))

theorem menusWellKeyed_unpack {codes : List CodeMenu} {decs : List DecoderMenu}
    {dirs : List (String × Dir)} (h : menusWellKeyed codes decs dirs = true) :
    (∀ c ∈ codes, codes.find? (·.menuName == c.menuName) = some c ∧
      (c.dimension = 2 ∨ c.dimension = 3) ∧
      ∀ c' ∈ codes, c'.menuName = c.menuName → c'.dimension = c.dimension) ∧
    (∀ d ∈ decs, decs.find? (·.menuName == d.menuName) = some d) ∧
    (∀ e ∈ dirs, dirs.find? (·.1 == e.1) = some e) := by
  unfold menusWellKeyed at h
  simp only [Bool.and_eq_true, List.all_eq_true, decide_eq_true_eq, Bool.or_eq_true, beq_iff_eq,
    bne_iff_ne, ne_eq] at h
  refine ⟨fun c hc => ?_, h.1.2, h.2⟩
  obtain ⟨⟨hfind, hdim⟩, huniq⟩ := h.1.1 c hc
  exact ⟨hfind, hdim, fun c' hc' hn => (huniq c' hc').resolve_left (not_not_intro hn)⟩

end Panqec.C20Routes
