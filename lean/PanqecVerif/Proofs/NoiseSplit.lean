/-
Lemmas for C18: enumeration of all Pauli strings has no repetitions; the proposal of
the splitting method multiplies one qubit by the drawn letter.
-/
import PanqecVerif.Proofs.NoiseProb
import PanqecVerif.Proofs.CodeAssembly
import Mathlib.Data.List.Nodup

namespace Panqec

theorem allPaulis_nodup : ∀ n, (allPaulis n).Nodup
  | 0 => by simp [allPaulis]
  | n + 1 => by
    have ih := allPaulis_nodup n
    have hm : ∀ σ : Pauli, ((allPaulis n).map (σ :: ·)).Nodup := fun σ =>
      List.Nodup.map (fun a b h => by simpa using h) ih
    simp only [allPaulis, List.flatMap_cons, List.flatMap_nil, List.append_nil]
    simp only [List.nodup_append, hm, true_and, List.mem_append, List.mem_map, ne_eq]
    refine ⟨⟨?_, ?_⟩, ?_⟩ <;>
      (intro a ha b hb heq; subst heq; obtain ⟨a', _, rfl⟩ := ha; simp at hb)

theorem zipWith_range_snd : ∀ (v : List Nat) (k : Nat),
    List.zipWith (fun (_ : Nat) a => a) (List.range' k v.length) v = v
  | [], _ => by simp
  | a :: v, k => by simp [List.range'_succ, zipWith_range_snd v (k + 1)]

theorem setAdd_eq_modify (v : List Nat) (k : Nat) : setAdd v k = v.modify k (· + 1) := by
  apply List.ext_getElem?
  intro j
  simp only [setAdd, List.getElem?_zipWith, List.getElem?_modify]
  by_cases hj : j < v.length
  · simp [hj, eq_comm]
  · simp [List.getElem?_eq_none (not_lt.mp hj)]

/-- adding `b` at position `k` of a bit vector read off a Pauli string, then reducing modulo 2,
    is reading the bits off the string with letter `k` replaced -/
theorem map_modify_mod (g : Pauli → Nat) (hg : ∀ σ, g σ < 2) (b : Nat) (ρ τ : Pauli)
    (hρ : g ρ = (g τ + b) % 2) (s : List Pauli) (k : Nat) (h : s[k]? = some τ) :
    ((s.map g).modify k (· + b)).map (· % 2) = (s.set k ρ).map g := by
  apply List.ext_getElem?
  intro j
  simp only [List.getElem?_map, List.getElem?_modify, List.getElem?_set]
  by_cases hkj : k = j
  · obtain ⟨hk, rfl⟩ := List.getElem?_eq_some_iff.mp h
    subst hkj
    simp [hk, hρ]
  · cases s[j]? <;> simp [hkj, Nat.mod_eq_of_lt (hg _)]

theorem mul_xBit (σ τ : Pauli) : (σ.mul τ).xBit = (τ.xBit + σ.xBit) % 2 := by
  cases σ <;> cases τ <;> rfl

theorem mul_zBit (σ τ : Pauli) : (σ.mul τ).zBit = (τ.zBit + σ.zBit) % 2 := by
  cases σ <;> cases τ <;> rfl

theorem proposeError_pauliToBsf (s : List Pauli) (idx : Nat) (σ τ : Pauli) (h : s[idx]? = some τ) :
    proposeError s.length (pauliToBsf s) idx σ = pauliToBsf (s.set idx (σ.mul τ)) := by
  have hidx : idx < s.length := (List.getElem?_eq_some_iff.mp h).1
  -- the two conditional `+= 1` are `+= x-bit` and `+= z-bit` of the drawn letter
  have hadd : ∀ (c : Prop) [Decidable c] (b : Nat) (v : List Nat) (k : Nat), (c ↔ b = 1) → b < 2 →
      (if c then setAdd v k else v) = v.modify k (· + b) := by
    intro c _ b v k hc hb
    by_cases hb1 : b = 1
    · rw [if_pos (hc.mpr hb1), setAdd_eq_modify, hb1]
    · have : b = 0 := by omega
      subst this
      rw [if_neg (mt hc.mp hb1)]
      exact (List.modify_id k v).symm
  simp only [proposeError]
  rw [hadd (σ = .X ∨ σ = .Y) σ.xBit _ _ (by cases σ <;> simp [Pauli.xBit]) (by cases σ <;> decide),
    hadd (σ = .Z ∨ σ = .Y) σ.zBit _ _ (by cases σ <;> simp [Pauli.zBit]) (by cases σ <;> decide)]
  unfold pauliToBsf
  rw [modify_append_left _ _ _ _ (by simpa using hidx),
    modify_append_right _ _ _ _ _ (by simp), List.map_append,
    map_modify_mod Pauli.xBit (by intro ρ; cases ρ <;> decide) _ _ τ (mul_xBit σ τ) s idx h,
    map_modify_mod Pauli.zBit (by intro ρ; cases ρ <;> decide) _ _ τ (mul_zBit σ τ) s idx h]
end Panqec
