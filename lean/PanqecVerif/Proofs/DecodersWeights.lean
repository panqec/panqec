/-
Weights: PyMatching's objective `Σ w_i c_i` over an ordered field.  With uniform weights it is the
Hamming weight; with log-odds weights minimising it is maximising the likelihood (real logarithm).
The optimality part of PyMatching's contract, and what it gives under uniform and under positive
weights.
-/
import PanqecVerif.Proofs.DecodersDistance
import Mathlib.Analysis.SpecialFunctions.Log.Basic
import Mathlib.Algebra.Order.Field.Basic
import Mathlib.Tactic.Linarith
import Mathlib.Tactic.Positivity

namespace Panqec

/-- total weight `Σ_i w_i c_i` of a 0/1 vector (PyMatching's objective) -/
def wdot {K : Type} [Semiring K] : List K → Vec → K
  | w :: ws, c :: cs => w * (c : K) + wdot ws cs
  | _, _ => 0

section ordered
variable {K : Type} [Field K] [LinearOrder K] [IsStrictOrderedRing K]

theorem wdot_nonneg : ∀ (w : List K) (c : Vec), (∀ x ∈ w, 0 < x) → 0 ≤ wdot w c
  | [], c, _ => by cases c <;> simp [wdot]
  | w :: ws, [], _ => by simp [wdot]
  | w :: ws, c :: cs, h => by
    have hw : 0 < w := h w (by simp)
    have ih := wdot_nonneg ws cs (fun x hx => h x (by simp [hx]))
    have hc : (0 : K) ≤ (c : K) := Nat.cast_nonneg c
    simp only [wdot]
    positivity

theorem wdot_zeros (w : List K) (n : Nat) : wdot w (List.replicate n 0) = 0 := by
  induction n generalizing w with
  | zero => cases w <;> simp [wdot]
  | succ n ih =>
    cases w with
    | nil => simp [wdot]
    | cons a w => simp [List.replicate_succ, wdot, ih]

theorem eq_zeros_of_wdot_eq_zero : ∀ (w : List K) (c : Vec), (∀ x ∈ w, 0 < x) →
    c.length ≤ w.length → wdot w c = 0 → c = List.replicate c.length 0
  | _, [], _, _, _ => by simp
  | [], c :: cs, _, hl, _ => by simp at hl
  | w :: ws, c :: cs, h, hl, h0 => by
    have hw : 0 < w := h w (by simp)
    have hws : ∀ x ∈ ws, 0 < x := fun x hx => h x (by simp [hx])
    have hnn := wdot_nonneg ws cs hws
    have hc : (0 : K) ≤ (c : K) := Nat.cast_nonneg c
    simp only [wdot] at h0
    have hwc : 0 ≤ w * (c : K) := by positivity
    have h1 : w * (c : K) = 0 := by linarith
    have h2 : wdot ws cs = 0 := by linarith
    have hc0 : c = 0 := by
      rcases mul_eq_zero.mp h1 with h | h
      · exact absurd h (ne_of_gt hw)
      · exact_mod_cast h
    have ih := eq_zeros_of_wdot_eq_zero ws cs hws (by simpa using hl) h2
    simp only [List.length_cons, List.replicate_succ]
    rw [hc0, ← ih]

theorem wdot_uniform (w0 : K) : ∀ (n : Nat) (c : Vec), c.length ≤ n → (∀ x ∈ c, x < 2) →
    wdot (List.replicate n w0) c = w0 * (hammingWt c : K)
  | _, [], _, _ => by cases ‹Nat› <;> simp [wdot, hammingWt_nil, List.replicate_succ]
  | 0, c :: cs, h, _ => by simp at h
  | n + 1, c :: cs, h, hb => by
    have ih := wdot_uniform w0 n cs (by simpa using h) (fun x hx => hb x (by simp [hx]))
    have hc : c < 2 := hb c (by simp)
    rw [List.replicate_succ, hammingWt_cons]
    simp only [wdot, ih]
    rcases Nat.lt_succ_iff_lt_or_eq.mp hc with h1 | h1
    · have : c = 0 := by omega
      subst this; simp
    · subst h1; simp [mul_add]

end ordered

/-- likelihood of the flip pattern `c` when flipping qubit `i` has (unnormalised)
    probability `a i` and not flipping it `b i` -/
noncomputable def lik : List ℝ → List ℝ → Vec → ℝ
  | a :: as, b :: bs, c :: cs => (if c = 0 then b else a) * lik as bs cs
  | _, _, _ => 1

/-- the weights panqec hands to PyMatching: `w i = -log (a i / b i)` -/
noncomputable def logOddsWeights : List ℝ → List ℝ → List ℝ
  | a :: as, b :: bs => (-Real.log (a / b)) :: logOddsWeights as bs
  | _, _ => []

noncomputable def sumLog : List ℝ → ℝ
  | [] => 0
  | b :: bs => Real.log b + sumLog bs

theorem lik_pos : ∀ (a b : List ℝ) (c : Vec), (∀ x ∈ a, 0 < x) → (∀ x ∈ b, 0 < x) → 0 < lik a b c
  | [], _, _, _, _ => by simp [lik]
  | _ :: _, [], _, _, _ => by simp [lik]
  | _ :: _, _ :: _, [], _, _ => by simp [lik]
  | a :: as, b :: bs, c :: cs, ha, hb => by
    have ih := lik_pos as bs cs (fun x hx => ha x (by simp [hx])) (fun x hx => hb x (by simp [hx]))
    have h1 : 0 < a := ha a (by simp)
    have h2 : 0 < b := hb b (by simp)
    simp only [lik]
    split <;> positivity

theorem log_lik : ∀ (a b : List ℝ) (c : Vec), (∀ x ∈ a, 0 < x) → (∀ x ∈ b, 0 < x) →
    a.length = c.length → b.length = c.length → (∀ x ∈ c, x < 2) →
    Real.log (lik a b c) = sumLog b - wdot (logOddsWeights a b) c
  | [], [], [], _, _, _, _, _ => by simp [lik, sumLog, logOddsWeights, wdot]
  | [], _, _ :: _, _, _, h, _, _ => by simp at h
  | _ :: _, _, [], _, _, h, _, _ => by simp at h
  | _, [], _ :: _, _, _, _, h, _ => by simp at h
  | _, _ :: _, [], _, _, _, h, _ => by simp at h
  | a :: as, b :: bs, c :: cs, ha, hb, hla, hlb, hc => by
    have h1 : 0 < a := ha a (by simp)
    have h2 : 0 < b := hb b (by simp)
    have hpa : ∀ x ∈ as, 0 < x := fun x hx => ha x (by simp [hx])
    have hpb : ∀ x ∈ bs, 0 < x := fun x hx => hb x (by simp [hx])
    have ih := log_lik as bs cs hpa hpb (by simpa using hla) (by simpa using hlb)
      (fun x hx => hc x (by simp [hx]))
    have hl := lik_pos as bs cs hpa hpb
    have hcc : c < 2 := hc c (by simp)
    simp only [lik, sumLog, logOddsWeights, wdot]
    rcases Nat.lt_succ_iff_lt_or_eq.mp hcc with h0 | h0
    · have : c = 0 := by omega
      subst this
      rw [if_pos rfl, Real.log_mul (ne_of_gt h2) (ne_of_gt hl), ih]
      simp
      ring
    · subst h0
      rw [if_neg (by decide), Real.log_mul (ne_of_gt h1) (ne_of_gt hl), ih,
        Real.log_div (ne_of_gt h1) (ne_of_gt h2)]
      push_cast
      ring

theorem weight_le_iff_lik_ge (a b : List ℝ) (c c' : Vec) (ha : ∀ x ∈ a, 0 < x)
    (hb : ∀ x ∈ b, 0 < x) (hab : a.length = b.length)
    (hc : c.length = a.length ∧ ∀ x ∈ c, x < 2) (hc' : c'.length = a.length ∧ ∀ x ∈ c', x < 2) :
    wdot (logOddsWeights a b) c ≤ wdot (logOddsWeights a b) c' ↔ lik a b c' ≤ lik a b c := by
  have h1 := log_lik a b c ha hb hc.1.symm (by omega) hc.2
  have h2 := log_lik a b c' ha hb hc'.1.symm (by omega) hc'.2
  rw [← Real.log_le_log_iff (lik_pos a b c' ha hb) (lik_pos a b c ha hb), h1, h2]
  constructor <;> intro h <;> linarith

theorem logOdds_pos (p : ℝ) (h0 : 0 < p) (h1 : p < 1 / 2) : 0 < -Real.log (p / (1 - p)) := by
  have hq : 0 < 1 - p := by linarith
  have hlt : p / (1 - p) < 1 := by rw [div_lt_one hq]; linarith
  have := Real.log_neg (div_pos h0 hq) hlt
  linarith

/-- optimality part of PyMatching's contract for the matrix `M`: among all binary
    solutions of `M c = sy`, the answer has minimum total weight -/
def SolverOptimalOn {K : Type} [Semiring K] [LE K] (n : Nat) (solve : WSolver K) (M : Mat) : Prop :=
  ∀ w sy c', Solves n M sy c' → wdot w (solve M w sy) ≤ wdot w c'

theorem SolverOptimalOn.minHamming {K : Type} [Field K] [LinearOrder K] [IsStrictOrderedRing K]
    {n : Nat} {solve : WSolver K} {M : Mat} (ho : SolverOptimalOn n solve M) {w0 : K} (hw0 : 0 < w0)
    {s : Vec} (hs : Solves n M s (solve M (List.replicate n w0) s)) (c' : Vec)
    (hc' : Solves n M s c') : hammingWt (solve M (List.replicate n w0) s) ≤ hammingWt c' := by
  have h := ho (List.replicate n w0) s c' hc'
  rw [wdot_uniform w0 n _ (by rw [hs.1]) hs.2.1, wdot_uniform w0 n c' (by rw [hc'.1]) hc'.2.1] at h
  exact_mod_cast le_of_mul_le_mul_left h hw0

theorem solver_zero_of_zero_syndrome {K : Type} [Field K] [LinearOrder K] [IsStrictOrderedRing K]
    (n : Nat) (solve : WSolver K) (M : Mat) (w : List K) (hw : ∀ x ∈ w, 0 < x) (hwl : w.length = n)
    (hv : SolverValidOn n solve M) (ho : SolverOptimalOn n solve M) :
    solve M w (List.replicate M.length 0) = List.replicate n 0 := by
  have hz : Solves n M (List.replicate M.length 0) (List.replicate n 0) :=
    ⟨by simp, by intro x hx; rw [List.mem_replicate] at hx; omega, sectorSyndrome_zeros M n⟩
  have hs := hv w _ ⟨_, hz.1, hz.2.2⟩
  have hle := ho w _ _ hz
  rw [wdot_zeros] at hle
  have hge := wdot_nonneg w (solve M w (List.replicate M.length 0)) hw
  have h0 : wdot w (solve M w (List.replicate M.length 0)) = 0 := le_antisymm hle hge
  have := eq_zeros_of_wdot_eq_zero w _ hw (by rw [hs.1, hwl]) h0
  rw [hs.1] at this
  exact this

end Panqec
