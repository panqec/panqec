/-
Color666ToricCode, all square sizes `L ≥ 1`, C17: assembly.

Every listed logical (one of the strings `kA … kD` with the letter X or Z) has `4L` representatives
with pairwise disjoint supports: the `3L` zig-zags of its family (equivalent to it through the
zig-zag ladder, `DistColor666ToricCodeLadder`) and the `L` closed straight lines of the family (equivalent to it through
C04, `Lattice.same_class`: a line commutes with every generator and has the parities of the listed
string with all eight listed logicals — the pairing table of the strings and `line_zig_parity`
agree: odd exactly for the other frame and the other colour offset).  `lower_bound` is
`Lattice.packing_bound` applied to these representatives.
-/
import PanqecVerif.Proofs.DistColor666ToricCodeLineParity
import PanqecVerif.Proofs.LatColor666ToricCodeCss
import PanqecVerif.Proofs.DistSameClass


namespace Panqec.Color666ToricCode
open Panqec.Lat2D Panqec.Color

/-- a listed string with its frame, colour offset and index in the zig-zag family -/
structure Str (L : Nat) where
  K : List Coord
  f : Bool
  c : Int
  t0 : Nat

def strA (L : Nat) : Str L := ⟨kA L, true, 1, 0⟩
def strB (L : Nat) : Str L := ⟨kB L, true, 0, 1⟩
def strC (L : Nat) : Str L := ⟨kC L, false, 0, 0⟩
def strD (L : Nat) : Str L := ⟨kD L, false, 1, 0⟩

def Listed {L : Nat} (e : Str L) : Prop := e = strA L ∨ e = strB L ∨ e = strC L ∨ e = strD L

theorem Listed.perm {L : Nat} (hL : 1 ≤ L) {e : Str L} (h : Listed e) :
    e.K.Perm (zigK L e.f e.c (e.t0 : Int)) := by
  rcases h with rfl | rfl | rfl | rfl
  · exact kA_perm hL
  · exact kB_perm hL
  · exact kC_perm hL
  · exact kD_perm hL

theorem Listed.nodup {L : Nat} (hL : 1 ≤ L) {e : Str L} (h : Listed e) : e.K.Nodup := by
  rcases h with rfl | rfl | rfl | rfl
  · exact nodup_kA hL
  · exact nodup_kB hL
  · exact nodup_kC hL
  · exact nodup_kD hL

theorem Listed.hc {L : Nat} {e : Str L} (h : Listed e) : e.c = 0 ∨ e.c = 1 := by
  rcases h with rfl | rfl | rfl | rfl
  · exact Or.inr rfl
  · exact Or.inl rfl
  · exact Or.inl rfl
  · exact Or.inr rfl

theorem Listed.isString {L : Nat} {e : Str L} (h : Listed e) :
    e.K = kA L ∨ e.K = kB L ∨ e.K = kC L ∨ e.K = kD L := by
  rcases h with rfl | rfl | rfl | rfl
  · exact Or.inl rfl
  · exact Or.inr (Or.inl rfl)
  · exact Or.inr (Or.inr (Or.inl rfl))
  · exact Or.inr (Or.inr (Or.inr rfl))

/-- the pairing table of the strings: two of them share an odd number of qubits exactly when they
    lie in different frames and have different colour offsets -/
theorem Listed.pairing {L : Nat} (hL : 1 ≤ L) {e e' : Str L} (h : Listed e) (h' : Listed e') :
    interCount e'.K e.K % 2 = if e.f ≠ e'.f ∧ e.c ≠ e'.c then 1 else 0 := by
  have cA := nodup_kA hL; have cB := nodup_kB hL; have cC := nodup_kC hL; have cD := nodup_kD hL
  rcases h with rfl | rfl | rfl | rfl <;> rcases h' with rfl | rfl | rfl | rfl <;>
    simp only [strA, strB, strC, strD]
  · rw [interCount_self, even_of_len (length_kA L)]; simp
  · rw [interCount_comm _ _ cB cA, kA_kB hL]; simp
  · rw [interCount_comm _ _ cC cA, kA_kC hL]; simp
  · rw [interCount_comm _ _ cD cA, kA_kD hL]; simp
  · rw [kA_kB hL]; simp
  · rw [interCount_self, even_of_len (length_kB L)]; simp
  · rw [interCount_comm _ _ cC cB, kB_kC hL]; simp
  · rw [interCount_comm _ _ cD cB, kB_kD hL]; simp
  · rw [kA_kC hL]; simp
  · rw [kB_kC hL]; simp
  · rw [interCount_self, even_of_len (length_kC L)]; simp
  · rw [interCount_comm _ _ cD cC, kC_kD_even hL]; simp
  · rw [kA_kD hL]; simp
  · rw [kB_kD hL]; simp
  · rw [kC_kD_even hL]; simp
  · rw [interCount_self, even_of_len (length_kD L)]; simp

theorem interCount_perm {A A' : List Coord} (B : List Coord) (h : A.Perm A') :
    interCount A B = interCount A' B := by
  unfold interCount; exact h.countP_eq _

/-- a line of the family of `e` against the listed string `e'` -/
theorem Listed.line_parity {L : Nat} (hL : 1 ≤ L) {e e' : Str L} (h : Listed e) (h' : Listed e')
    (m : Int) : interCount e'.K (lineK L e.f e.c m) % 2 = interCount e'.K e.K % 2 := by
  rw [interCount_perm _ (h'.perm hL), line_zig_parity hL e.f e'.f h.hc h'.hc, h.pairing hL h']

theorem log_listed {L : Nat} (hL : 1 ≤ L) {a : Op} (ha : a ∈ logX L L ++ logZ L L) :
    ∃ (e : Str L) (P : Pauli), Listed e ∧ a = e.K.map (fun q => (q, P)) ∧
      (P = Pauli.X ∨ P = Pauli.Z) := by
  rw [logX_eq hL, logZ_eq hL] at ha
  simp only [List.cons_append, List.nil_append, List.mem_cons, List.not_mem_nil, or_false] at ha
  rcases ha with rfl | rfl | rfl | rfl | rfl | rfl | rfl | rfl
  · exact ⟨strA L, Pauli.X, Or.inl rfl, rfl, Or.inl rfl⟩
  · exact ⟨strB L, Pauli.X, Or.inr (Or.inl rfl), rfl, Or.inl rfl⟩
  · exact ⟨strC L, Pauli.X, Or.inr (Or.inr (Or.inl rfl)), rfl, Or.inl rfl⟩
  · exact ⟨strD L, Pauli.X, Or.inr (Or.inr (Or.inr rfl)), rfl, Or.inl rfl⟩
  · exact ⟨strC L, Pauli.Z, Or.inr (Or.inr (Or.inl rfl)), rfl, Or.inr rfl⟩
  · exact ⟨strD L, Pauli.Z, Or.inr (Or.inr (Or.inr rfl)), rfl, Or.inr rfl⟩
  · exact ⟨strA L, Pauli.Z, Or.inl rfl, rfl, Or.inr rfl⟩
  · exact ⟨strB L, Pauli.Z, Or.inr (Or.inl rfl), rfl, Or.inr rfl⟩

theorem commStabs_of_faces {L : Nat} (hL : 1 ≤ L) (K : List Coord) (P : Pauli)
    (h : ∀ x y, IsF L x y → interCount (supp L x y) K % 2 = 0) :
    CommStabs L (K.map (fun q => (q, P))) := by
  intro s hs
  obtain ⟨x, y, p, rfl, hf, _⟩ := mem_stabs.mp hs
  show opAntiCount ((lattice L L).getStab [x, y, p]) _ % 2 = 0
  rw [getStab_eq hL hs, opAntiCount_const]
  by_cases ha : Pauli.anti (letter p) P = true
  · rw [if_pos ha]; exact h x y hf
  · rw [if_neg ha]

/-- a listed logical: the `3L` zig-zags of its family (equivalent to it through the ladder) and the
    `L` closed straight lines of the family (equivalent through C04) are disjoint representatives -/
theorem packed_of {L : Nat} (hL : 1 ≤ L) (hwf : (lattice L L).WF) {n k : Nat}
    (hn : (qubits L L).length = n)
    (hv : ValidCodeL n k (lattice L L).rowsH (lattice L L).rowsX (lattice L L).rowsZ)
    {e : Str L} (he : Listed e) {p : Int} (hp : p = 0 ∨ p = 1) :
    (lattice L L).Packed (4 * L) (e.K.map fun q => (q, letter p)) := by
  refine .of_list (letter p)
    (((List.range (3 * L)).map fun (t : Nat) => zigK L e.f e.c (t : Int)) ++
      (List.range L).map fun (m : Nat) => lineK L e.f e.c (m : Int)) ?_ ?_ ?_
  · simp only [List.length_append, List.length_map, List.length_range]; omega
  · intro K hK
    rcases List.mem_append.mp hK with h | h
    · -- a zig-zag of the family: the ladder
      obtain ⟨t, ht, rfl⟩ := List.mem_map.mp h
      refine ⟨nodup_zigK hL e.f e.c t, zigK_qubits hL e.f e.c t, fun b hb => ?_⟩
      rw [opAntiCount_line, (he.perm hL).countP_eq, countP_zigK, countP_zigK,
        zig_parity hL e.f hb hp e.c (t + 1) t (by omega),
        zig_parity hL e.f hb hp e.c (e.t0 + 1) e.t0 (by omega)]
    · -- a closed straight line of the family: C04
      obtain ⟨m, hm, rfl⟩ := List.mem_map.mp h
      refine .of_class hwf hn hv
        ⟨keysNodup_line _ (he.nodup hL), opSupported_line _ (string_qubits hL he.isString)⟩
        (commStabs_of_faces hL _ _ (fun x y hf => face_string_even hL hf he.isString))
        (nodup_lineK hL e.f e.c m) (lineK_qubits hL e.f e.c m)
        (commStabs_of_faces hL _ _ (fun x y hf => line_face_even hL e.f e.c m hf)) ?_
      intro m' hm'
      obtain ⟨e', P', he', rfl, _⟩ := log_listed hL hm'
      rw [opAntiCount_const, opAntiCount_const]
      by_cases ha : Pauli.anti P' (letter p) = true
      · rw [if_pos ha, if_pos ha]; exact he.line_parity hL he' m
      · rw [if_neg ha, if_neg ha]
  · rw [List.pairwise_append]
    refine ⟨?_, ?_, ?_⟩
    · rw [List.pairwise_map]
      exact List.pairwise_lt_range.imp_of_mem fun ht ht' hne =>
        zigK_disjoint hL e.f e.c (List.mem_range.mp ht) (List.mem_range.mp ht') (by omega)
    · rw [List.pairwise_map]
      exact List.pairwise_lt_range.imp_of_mem fun hm hm' hne =>
        lineK_disjoint hL e.f e.c (List.mem_range.mp hm) (List.mem_range.mp hm') (by omega)
    · intro K hK K' hK'
      obtain ⟨t, _, rfl⟩ := List.mem_map.mp hK
      obtain ⟨m, _, rfl⟩ := List.mem_map.mp hK'
      exact zigK_lineK_disjoint hL e.f e.c t m

theorem reps_of {L : Nat} (hL : 1 ≤ L) (hwf : (lattice L L).WF) {n k : Nat}
    (hn : (qubits L L).length = n)
    (hv : ValidCodeL n k (lattice L L).rowsH (lattice L L).rowsX (lattice L L).rowsZ)
    {e : Str L} (he : Listed e) {p : Int} (hp : p = 0 ∨ p = 1) :
    ∃ reps : List Op, 4 * L ≤ reps.length ∧
      (∀ r ∈ reps, KeysNodup r ∧ opSupported (qubits L L) r = true) ∧
      reps.Pairwise KeysDisjoint ∧
      ∀ b : Op, KeysNodup b → opSupported (qubits L L) b = true → CommStabs L b →
        ∀ r ∈ reps, opAntiCount r b % 2 =
          opAntiCount (e.K.map (fun q => (q, letter p))) b % 2 :=
  (packed_of hL hwf hn hv he hp).reps

/-- every non-trivial logical operator of the `L × L` 6.6.6 toric colour code has weight `≥ 4L` -/
theorem lower_bound {L : Nat} (hL : 1 ≤ L) (hwf : (lattice L L).WF) {n k : Nat}
    (hn : (qubits L L).length = n)
    (hv : ValidCodeL n k (lattice L L).rowsH (lattice L L).rowsX (lattice L L).rowsZ) :
    ∀ v, IsNontrivialLogical n (lattice L L).rowsH v → 4 * L ≤ pauliWeight v := by
  apply Lattice.lower_bound_of_reps (lattice L L) hwf hn hv
  intro a ha
  change a ∈ logX L L ++ logZ L L at ha
  obtain ⟨e, P, he, rfl, hPX⟩ := log_listed hL ha
  rcases hPX with rfl | rfl
  · exact packed_of hL hwf hn hv he (p := 0) (Or.inl rfl)
  · exact packed_of hL hwf hn hv he (p := 1) (Or.inr rfl)

/-- every row of `logicals_x` and of `logicals_z` has weight `4L` -/
theorem weights_listed {L : Nat} (hL : 1 ≤ L) (hwf : (lattice L L).WF) :
    (lattice L L).rowsX.map pauliWeight = [4 * L, 4 * L, 4 * L, 4 * L] ∧
    (lattice L L).rowsZ.map pauliWeight = [4 * L, 4 * L, 4 * L, 4 * L] := by
  rw [hwf.weights.1, hwf.weights.2]
  change (logX L L).map List.length = _ ∧ (logZ L L).map List.length = _
  rw [logX_eq hL, logZ_eq hL]
  simp only [List.map_cons, List.map_nil, List.length_map, length_kA, length_kB, length_kC,
    length_kD]
  exact ⟨trivial, trivial⟩

/-- `code.d` (minimum weight of the listed logicals) is `4L` -/
theorem reported_distance {L : Nat} (hL : 1 ≤ L) (hwf : (lattice L L).WF) :
    distance (lattice L L).rowsX (lattice L L).rowsZ = some (4 * L) := by
  obtain ⟨h1, h2⟩ := weights_listed hL hwf
  rw [distance_of_weights h1 h2 rfl rfl]
  simp only [List.foldl_cons, List.foldl_nil]
  congr 1
  omega

end Panqec.Color666ToricCode
