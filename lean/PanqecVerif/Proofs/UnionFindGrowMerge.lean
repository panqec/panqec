/-
Union-find internals (C05), growth phase: specification of `Support.merge_clusters`.
-/
import PanqecVerif.Proofs.UnionFindGrowAbsorb

namespace Panqec.UF

/-- what `merge_clusters(ss, cluster_forest)` does to a well-formed state -/
structure MergeSpec (m : Nat) (sy : Vec) (sPar : Nat → Int) (rep : Nat → Nat) (forest : List Cluster)
    (ss : List Nat) (rt : Int) (sPar' : Nat → Int) (forest' : List Cluster) (rep' d' : Nat → Nat) : Prop where
  uf : UFInv m sPar' rep' d'
  fi : FInv m sy sPar' rep' forest'
  live_mono : ∀ i, sPar i ≠ -1 → sPar' i ≠ -1
  coarse : ∀ i j, sPar i ≠ -1 → sPar j ≠ -1 → rep i = rep j → rep' i = rep' j
  merged : (∃ s, s ∈ ss ∧ sPar s ≠ -1) → ∃ b : Nat, rt = (b : Int) ∧ sPar' b = (b : Int) ∧
    (∀ s, s ∈ ss → sPar' s ≠ -1 ∧ rep' s = b) ∧ ∃ sb, sb ∈ ss ∧ sPar sb ≠ -1 ∧ rep sb = b
  none : (∀ s, s ∈ ss → sPar s = -1) → rt = -1 ∧ ∀ i, sPar' i = -1 ↔ sPar i = -1
  frame : ∀ i, sPar i ≠ -1 → rep' i = rep i ∨ ∃ s, s ∈ ss ∧ sPar s ≠ -1 ∧ rep s = rep i
  newlive : ∀ i, sPar i = -1 → sPar' i ≠ -1 → i ∈ ss
  /-- boundary lists are kept (in the record of the new root of their tree) -/
  bnd_keep : ∀ c, c ∈ forest → ∀ x, x ∈ c.bnd →
    ∃ c', c' ∈ forest' ∧ c'.root = rep' c.root ∧ x ∈ c'.bnd
  /-- a fresh stabilizer that joins a tree brings itself into the boundary list -/
  bnd_fresh : ∀ s, s ∈ ss → sPar s = -1 → sPar' s ≠ -1 →
    ∃ c', c' ∈ forest' ∧ c'.root = rep' s ∧ hashS s ∈ c'.bnd
  /-- and nothing else enters a boundary list -/
  bnd_src : ∀ c', c' ∈ forest' → ∀ x, x ∈ c'.bnd →
    (∃ c, c ∈ forest ∧ x ∈ c.bnd ∧ rep' c.root = c'.root) ∨
    (∃ s, s ∈ ss ∧ sPar s = -1 ∧ sPar' s ≠ -1 ∧ x = hashS s ∧ rep' s = c'.root)

theorem mergeClusters_spec {m : Nat} {sy : Vec} {sPar : Nat → Int} {rep d : Nat → Nat}
    {forest : List Cluster} (U : UFInv m sPar rep d) (F : FInv m sy sPar rep forest)
    (ss : List Nat) (hss : ∀ s, s ∈ ss → s < m) (hnd : ss.Nodup) :
    ∃ rep' d', MergeSpec m sy sPar rep forest ss (mergeClusters m sPar forest ss).1
        (mergeClusters m sPar forest ss).2.1 (mergeClusters m sPar forest ss).2.2.1 rep' d' ∧
      (mergeClusters m sPar forest ss).2.2.2 = false := by
  have I := MInv_fold U F ss [] _ (MInv_init (sy := sy) (forest0 := forest) U) (by simpa using hnd)
  simp only [List.nil_append] at I
  unfold mergeClusters
  generalize ss.foldl (mergeStep m) ⟨sPar, forest, [], none, 0, false⟩ = acc at I
  have hcc : ∀ x, clsCnt m sy acc.sPar rep x = clsCnt m sy sPar rep x :=
    fun x => clsCnt_congr x x fun i _ _ => and_congr_left' (not_congr (I.fresh_iff i))
  cases hbig : acc.biggest with
  | none =>
    obtain ⟨_, hall⟩ := I.big_none hbig
    have hallfresh : ∀ s, s ∈ ss → sPar s = -1 := by
      intro s hs
      by_contra h
      obtain ⟨k, hk, hkf, _⟩ := I.cl_real s hs h
      have := forest_root F hkf
      rw [hall k hk] at this; omega
    simp only [hbig]
    have hkeepmem : ∀ c, c ∈ forest → c ∈ acc.forest := by
      intro c hc
      refine (I.f_mem c).mpr ⟨hc, ?_⟩
      rintro ⟨k, hk, hkr⟩
      have := forest_root F hc
      rw [← hkr, hall k hk] at this; omega
    refine ⟨rep, d, ⟨I.uf, ⟨?_, ?_, ?_, ?_, ?_⟩, ?_, fun _ _ _ _ h => h, ?_, ?_, fun i _ => Or.inl rfl, ?_,
      ?_, ?_, ?_⟩, I.bad⟩
    · intro x
      rw [I.root_iff, ← F.roots_iff]
      constructor
      · rintro ⟨c, hc, hcr⟩; exact ⟨c, ((I.f_mem c).mp hc).1, hcr⟩
      · rintro ⟨c, hc, hcr⟩
        refine ⟨c, (I.f_mem c).mpr ⟨hc, ?_⟩, hcr⟩
        rintro ⟨k, hk, hkr⟩
        have := forest_root F hc
        rw [← hkr, hall k hk] at this; omega
    · exact (I.f_sub.map _).nodup F.roots_nodup
    · intro c hc; exact F.size_pos c ((I.f_mem c).mp hc).1
    · intro c hc; rw [hcc]; exact F.odd_ok c ((I.f_mem c).mp hc).1
    · intro i hi hd h; exact F.defect_live i hi hd ((I.fresh_iff i).mp h)
    · intro i hi h; exact hi ((I.fresh_iff i).mp h)
    · rintro ⟨s, hs, hlive⟩; exact absurd (hallfresh s hs) hlive
    · intro _; exact ⟨rfl, I.fresh_iff⟩
    · intro i hi hl; exact absurd ((I.fresh_iff i).mpr hi) hl
    · intro c hc x hx
      exact ⟨c, hkeepmem c hc, (U.root_rep _ (forest_root F hc)).symm, hx⟩
    · intro s _ hs hl; exact absurd ((I.fresh_iff s).mpr hs) hl
    · intro c' hc' x hx
      have hc0 := ((I.f_mem c').mp hc').1
      exact Or.inl ⟨c', hc0, hx, U.root_rep _ (forest_root F hc0)⟩
  | some b =>
    obtain ⟨hbcl, hbf⟩ := I.big_some b hbig
    have hbroot0 := forest_root F hbf
    have hbroot : acc.sPar b.root = (b.root : Int) := (I.root_iff _).mpr hbroot0
    have hmemo : ∀ k, k ∈ acc.clusters.eraseP (fun c => decide (c.root = b.root)) ↔
        (k ∈ acc.clusters ∧ k.root ≠ b.root) := mem_eraseP_root acc.clusters b.root I.cl_nodup
    have hond : ((acc.clusters.eraseP (fun c => decide (c.root = b.root))).map (·.root)).Nodup :=
      ((List.eraseP_sublist).map _).nodup I.cl_nodup
    simp only [hbig]
    generalize acc.clusters.eraseP (fun c => decide (c.root = b.root)) = others at hmemo hond ⊢
    -- the class of `b` was reached through some `s ∈ ss`
    have hsb : ∃ sb, sb ∈ ss ∧ sPar sb ≠ -1 ∧ rep sb = b.root := by
      rcases I.cl_src b hbcl with ⟨_, s, hs, h1, h2⟩ | ⟨s, hs, h1, h2⟩
      · exact ⟨s, hs, h1, h2⟩
      · rw [h2] at hbroot0; simp [dummy] at hbroot0; rw [h1] at hbroot0; omega
    -- `X`: the roots of the absorbed records
    generalize hXdef : others.map (·.root) = X at hond
    have hX : ∀ x, x ∈ X ↔ ∃ k, k ∈ others ∧ k.root = x := fun _ => hXdef ▸ List.mem_map
    -- an absorbed record is a record of the dict (its root a root) or the dummy of a fresh `s ∈ ss`
    have hkind : ∀ k, k ∈ others → k.root ≠ b.root ∧
        ((k ∈ forest ∧ ∃ s, s ∈ ss ∧ sPar s ≠ -1 ∧ rep s = k.root) ∨
         (∃ s, s ∈ ss ∧ sPar s = -1 ∧ k = dummy s)) := fun k hk =>
      ⟨((hmemo k).mp hk).2, I.cl_src k ((hmemo k).mp hk).1⟩
    have hdummy : ∀ s, s ∈ ss → sPar s = -1 → s ∈ X := by
      intro s hs hsf
      refine (hX s).mpr ⟨dummy s, (hmemo _).mpr ⟨I.cl_dummy s hs hsf, fun h => ?_⟩, rfl⟩
      simp [dummy] at h; rw [← h, hsf] at hbroot0; omega
    have hXok : ∀ x, x ∈ X →
        x < m ∧ x ≠ b.root ∧ (acc.sPar x = (x : Int) ∨ acc.sPar x = -1) := by
      intro x hx
      obtain ⟨k, hk, rfl⟩ := (hX x).mp hx
      obtain ⟨hne, ⟨hkf, _⟩ | ⟨s, hs, hsf, rfl⟩⟩ := hkind k hk
      · have hr := (I.root_iff _).mpr (forest_root F hkf)
        exact ⟨I.uf.lt (by rw [hr]; omega), hne, Or.inl hr⟩
      · exact ⟨hss s hs, hne, Or.inr ((I.fresh_iff s).mpr hsf)⟩
    have hbX : b.root ∉ X := fun h => (hXok _ h).2.1 rfl
    have U' := link_spec I.uf hbroot _ hXok
    rw [show others.foldl (fun p c => fun i => if i = c.root then (b.root : Int) else p i) acc.sPar =
      fun i => if i ∈ X then (b.root : Int) else acc.sPar i from
      hXdef ▸ funext (foldl_link_apply _ others acc.sPar)]
    -- the merged record
    have hmodd := absorbFold_odd (m := m) (sy := sy) (sp := acc.sPar) (rp := rep) others b [b.root]
      (hXdef ▸ hond)
      (fun k hk h => (hkind k hk).1 (List.mem_singleton.mp h))
      (by
        intro k hk
        rcases (hkind k hk).2 with ⟨hkf, _⟩ | ⟨s, _, hsf, rfl⟩
        · rw [hcc]; exact F.odd_ok k hkf
        · -- no tree has a fresh vertex as its root
          have : clsCnt m sy acc.sPar rep s = 0 := by
            rw [clsCnt_assoc]
            apply cnt_eq_zero
            intro i _
            by_cases h1 : acc.sPar i = -1
            · simp [h1]
            · have := I.uf.rep_root i h1
              by_cases h2 : rep i = s
              · rw [h2, (I.fresh_iff s).mpr hsf] at this; omega
              · simp [h2]
          show b2n false = clsCnt m sy acc.sPar rep s % 2
          rw [this]; rfl)
      (by simp only [List.mem_singleton]; rw [← clsCnt_assoc, hcc]; exact F.odd_ok b hbf)
    rw [hXdef] at hmodd
    obtain ⟨hmroot, hmsize, hmbnd⟩ := absorbFold_spec others b
    generalize others.foldl absorb b = merged at hmodd hmroot hmsize hmbnd ⊢
    -- the trees after the links, for vertices that were in a tree before
    have hlm : ∀ i, sPar i ≠ -1 →
        (if i ∈ X then (b.root : Int) else acc.sPar i) ≠ -1 := by
      intro i hi
      by_cases hx : i ∈ X
      · rw [if_pos hx]; omega
      · rw [if_neg hx]; exact fun h => hi ((I.fresh_iff i).mp h)
    have hrep' : ∀ i, sPar i ≠ -1 →
        (if i ∈ X ∨ (acc.sPar i ≠ -1 ∧ rep i ∈ X)
          then b.root else rep i) = if rep i ∈ X then b.root else rep i := by
      intro i hi
      refine if_congr ⟨?_, fun h => Or.inr ⟨fun h' => hi ((I.fresh_iff i).mp h'), h⟩⟩ rfl rfl
      rintro (h | h)
      · rcases (hXok i h).2.2 with hr | hf
        · rw [I.uf.root_rep i hr]; exact h
        · exact absurd ((I.fresh_iff i).mp hf) hi
      · exact h.2
    have hroots : ∀ x, (∃ c, c ∈ acc.forest ++ [merged] ∧ c.root = x) ↔
        (if x ∈ X then (b.root : Int) else acc.sPar x) = (x : Int) := by
      intro x
      constructor
      · rintro ⟨c, hc, rfl⟩
        rcases List.mem_append.mp hc with hc | hc
        · obtain ⟨hc0, hno⟩ := (I.f_mem c).mp hc
          rw [if_neg fun h => ?_]
          · exact (I.root_iff _).mpr (forest_root F hc0)
          · obtain ⟨k, hk, hkr⟩ := (hX _).mp h
            exact hno ⟨k, ((hmemo k).mp hk).1, hkr⟩
        · rw [List.mem_singleton.mp hc, hmroot, if_neg hbX]; exact hbroot
      · intro hx
        by_cases hxX : x ∈ X
        · rw [if_pos hxX] at hx
          exact absurd (by omega) (hXok x hxX).2.1
        · rw [if_neg hxX] at hx
          obtain ⟨c, hc, hcr⟩ := (F.roots_iff x).mpr ((I.root_iff x).mp hx)
          by_cases hk : ∃ k, k ∈ acc.clusters ∧ k.root = c.root
          · obtain ⟨k, hk, hkr⟩ := hk
            refine ⟨merged, by simp, ?_⟩
            by_contra hne
            rw [hmroot] at hne
            exact hxX ((hX x).mpr ⟨k, (hmemo k).mpr ⟨hk, fun h => hne (h ▸ hkr.trans hcr)⟩,
              hkr.trans hcr⟩)
          · exact ⟨c, List.mem_append_left _ ((I.f_mem c).mpr ⟨hc, hk⟩), hcr⟩
    have hfix : ∀ c, c ∈ acc.forest ++ [merged] →
        (if c.root ∈ X ∨ (acc.sPar c.root ≠ -1 ∧ rep c.root ∈ X)
          then b.root else rep c.root) = c.root :=
      fun c hc => U'.root_rep _ ((hroots _).mp ⟨c, hc, rfl⟩)
    have hdone : ∀ k, k ∈ others →
        (if k.root ∈ X ∨ (acc.sPar k.root ≠ -1 ∧ rep k.root ∈ X)
          then b.root else rep k.root) = b.root :=
      fun k hk => if_pos (Or.inl ((hX _).mpr ⟨k, hk, rfl⟩))
    have hmm : merged ∈ acc.forest ++ [merged] := by simp
    have hbfix := hfix merged hmm
    rw [hmroot] at hbfix
    refine ⟨_, _, ⟨U', ⟨hroots, ?_, ?_, ?_, fun i hi hd => hlm i (F.defect_live i hi hd)⟩, hlm, ?_,
      ?_, ?_, ?_, ?_, ?_, ?_, ?_⟩, I.bad⟩
    · rw [List.map_append, List.nodup_append]
      refine ⟨(I.f_sub.map _).nodup F.roots_nodup, by simp, ?_⟩
      intro a ha x hx hax
      simp at hx
      obtain ⟨c, hc, rfl⟩ := List.mem_map.mp ha
      exact ((I.f_mem c).mp hc).2 ⟨b, hbcl, (hax.trans (hx.trans hmroot)).symm⟩
    · intro c hc
      rcases List.mem_append.mp hc with hc | hc
      · exact F.size_pos c ((I.f_mem c).mp hc).1
      · rw [List.mem_singleton.mp hc]; exact Nat.lt_of_lt_of_le (F.size_pos b hbf) hmsize
    · -- odd_ok
      intro c hc
      rcases List.mem_append.mp hc with hc | hc
      · obtain ⟨hc0, hno⟩ := (I.f_mem c).mp hc
        rw [clsCnt_congr c.root c.root (sp := acc.sPar) (rp := rep), hcc]
        · exact F.odd_ok c hc0
        · intro i hi hd
          have hl := F.defect_live i hi hd
          have hne : ¬ b.root = c.root := fun h => hno ⟨b, hbcl, h⟩
          have hcX : c.root ∉ X := fun h => by
            obtain ⟨k, hk, hkr⟩ := (hX _).mp h
            exact hno ⟨k, ((hmemo k).mp hk).1, hkr⟩
          rw [hrep' i hl]
          refine and_congr ⟨fun _ h => hl ((I.fresh_iff i).mp h), fun _ => hlm i hl⟩ ?_
          by_cases hx : rep i ∈ X
          · rw [if_pos hx]; exact ⟨fun h => absurd h hne, fun h => absurd (h ▸ hx) hcX⟩
          · rw [if_neg hx]
      · rw [List.mem_singleton.mp hc, hmroot, hmodd]
        congr 1
        apply clsCnt_eq_cnt
        intro i hi hd
        have hl := F.defect_live i hi hd
        rw [hrep' i hl, Bool.and_eq_true, decide_eq_true_iff, decide_eq_true_iff,
          List.singleton_append, List.mem_cons]
        refine and_congr ⟨fun _ => hlm i hl, fun _ h => hl ((I.fresh_iff i).mp h)⟩ ?_
        by_cases hx : rep i ∈ X
        · rw [if_pos hx]; exact ⟨fun _ => rfl, fun _ => Or.inr hx⟩
        · rw [if_neg hx]; exact ⟨fun h => h.resolve_right hx, Or.inl⟩
    · -- coarse
      intro i j hi hj hij
      show (if _ then _ else _) = (if _ then _ else _)
      rw [hrep' i hi, hrep' j hj, hij]
    · -- merged
      intro _
      refine ⟨b.root, rfl, (if_neg hbX).trans hbroot, ?_, hsb⟩
      intro s hs
      by_cases hlive : sPar s = -1
      · have hsX := hdummy s hs hlive
        exact ⟨by rw [if_pos hsX]; omega, if_pos (Or.inl hsX)⟩
      · refine ⟨hlm s hlive, (hrep' s hlive).trans ?_⟩
        obtain ⟨k, hk, _, hkr⟩ := I.cl_real s hs hlive
        by_cases hkb : k.root = b.root
        · rw [← hkr, hkb, if_neg hbX]
        · rw [if_pos ((hX _).mpr ⟨k, (hmemo k).mpr ⟨hk, hkb⟩, hkr⟩)]
    · -- none
      intro hall
      obtain ⟨sb, hsb1, hsb2, _⟩ := hsb
      exact absurd (hall sb hsb1) hsb2
    · -- frame
      intro i hi
      show (if _ then _ else _) = _ ∨ _
      rw [hrep' i hi]
      by_cases hx : rep i ∈ X
      · obtain ⟨k, hk, hkr⟩ := (hX _).mp hx
        rcases (hkind k hk).2 with ⟨_, s, hs, h1, h2⟩ | ⟨s, _, hsf, rfl⟩
        · exact Or.inr ⟨s, hs, h1, h2.trans hkr⟩
        · have := U.rep_root i hi
          rw [← hkr] at this; simp [dummy] at this; rw [hsf] at this; omega
      · exact Or.inl (if_neg hx)
    · -- newlive
      intro i hi hl
      by_cases hx : i ∈ X
      · obtain ⟨k, hk, hkr⟩ := (hX _).mp hx
        rcases (hkind k hk).2 with ⟨hkf, _⟩ | ⟨s, hs, _, rfl⟩
        · have := forest_root F hkf
          rw [hkr, hi] at this; omega
        · simp [dummy] at hkr; rw [← hkr]; exact hs
      · rw [if_neg hx] at hl
        exact absurd ((I.fresh_iff i).mpr hi) hl
    · -- bnd_keep
      intro c hc x hx
      by_cases hk : ∃ k, k ∈ acc.clusters ∧ k.root = c.root
      · obtain ⟨k, hk, hkr⟩ := hk
        have hkc : k = c := by
          rcases I.cl_src k hk with ⟨hkf, _⟩ | ⟨s, _, hsf, rfl⟩
          · exact eq_of_root_eq forest F.roots_nodup k c hkf hc hkr
          · exfalso
            have := forest_root F hc
            rw [← hkr] at this; simp [dummy] at this; rw [hsf] at this; omega
        subst hkc
        refine ⟨merged, hmm, ?_, ?_⟩
        · rw [hmroot]
          by_cases hkb : k.root = b.root
          · rw [hkb]; exact hbfix.symm
          · exact (hdone k ((hmemo k).mpr ⟨hk, hkb⟩)).symm
        · rw [hmbnd]
          by_cases hkb : k.root = b.root
          · rw [← eq_of_root_eq forest F.roots_nodup k b hc hbf hkb]; exact Or.inl hx
          · exact Or.inr ⟨k, (hmemo k).mpr ⟨hk, hkb⟩, hx⟩
      · have hcf : c ∈ acc.forest := (I.f_mem c).mpr ⟨hc, hk⟩
        exact ⟨c, List.mem_append_left _ hcf, (hfix c (List.mem_append_left _ hcf)).symm, hx⟩
    · -- bnd_fresh
      intro s hs hsf _
      obtain ⟨k, hk, hkr⟩ := (hX _).mp (hdummy s hs hsf)
      have hkd : k = dummy s := by
        rcases (hkind k hk).2 with ⟨hkf, _⟩ | ⟨s', _, _, rfl⟩
        · have := forest_root F hkf
          rw [hkr, hsf] at this; omega
        · simp [dummy] at hkr; rw [hkr]
      refine ⟨merged, hmm, ?_, (hmbnd _).mpr (Or.inr ⟨k, hk, by simp [hkd, dummy]⟩)⟩
      rw [hmroot, ← hkr]; exact (hdone k hk).symm
    · -- bnd_src
      intro c' hc' x hx
      rcases List.mem_append.mp hc' with hc | hc
      · exact Or.inl ⟨c', ((I.f_mem c').mp hc).1, hx, hfix c' hc'⟩
      · rw [List.mem_singleton.mp hc] at hx ⊢
        rw [hmroot]
        rcases (hmbnd x).mp hx with h | ⟨k, hk, hkx⟩
        · exact Or.inl ⟨b, hbf, h, hbfix⟩
        · rcases (hkind k hk).2 with ⟨hkf, _⟩ | ⟨s, hs, hsf, rfl⟩
          · exact Or.inl ⟨k, hkf, hkx, hdone k hk⟩
          · have hsX := hdummy s hs hsf
            simp [dummy] at hkx
            exact Or.inr ⟨s, hs, hsf, by rw [if_pos hsX]; omega, hkx, if_pos (Or.inl hsX)⟩

end Panqec.UF
