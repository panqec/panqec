/-
`HollowRhombicCode`, rank clause: the number of selected triangles of a size with a hole (`Lx ≥ 3`,
`Ly, Lz ≥ 4`), given the boxes `LB` of the triangles of axis 0: the selected triangles together with the
boxes next to the hole where a triangle of axis 3, 2 or an upper triangle of axis 0 is not listed are
as many as the boxes of `Proofs/LatHollowRhombicCodeRankBoxes.lean`, `…RankAxisZero.lean`.  The vertices of one
colour on the face `z = 2Lz−4` of the hole are counted for the axes 3, 2 and 1 and those of the other
colour for axis 0, so the parity of `Lz` drops out of the count.  At the end the number of cubes.
-/
import PanqecVerif.Proofs.LatHollowRhombicCodeRankAxisZero

namespace Panqec.HollowRhombicCode
open Panqec.Lat3Db Panqec.Rhombic
open Panqec.Planar3DCode (inE inO inE2 inO1)

/-- the kept lower triangles along the hole edge `x = y = 3`, as a list -/
def qlist (Lx Ly Lz : Nat) : List Coord :=
  (List.range (qn Lx Ly Lz)).map fun (i : Nat) => [0, 2, 2, 8 + 4 * (i : Int)]

theorem spec_qlist (Lx Ly Lz : Nat) :
    Spec (qlist Lx Ly Lz) (fun a x y z => a = 0 ∧ QR Lx Ly Lz x y z) where
  nodup := by
    unfold qlist
    refine List.Nodup.map ?_ List.nodup_range
    intro i j h
    simp only [List.cons.injEq, and_true, true_and] at h
    omega
  mem := by
    intro s
    unfold qlist QR
    simp only [List.mem_map, List.mem_range]
    constructor
    · rintro ⟨i, hi, rfl⟩
      exact ⟨0, 2, 2, 8 + 4 * (i : Int), rfl, rfl, rfl, rfl, by omega, by omega, by omega⟩
    · rintro ⟨a, x, y, z, rfl, rfl, rfl, rfl, h1, h2, h3⟩
      exact ⟨((z - 8) / 4).toNat, by omega, by
        have : (8 : Int) + 4 * (((z - 8) / 4).toNat : Int) = z := by omega
        rw [this]⟩

theorem length_qlist (Lx Ly Lz : Nat) : (qlist Lx Ly Lz).length = qn Lx Ly Lz := by simp [qlist]

theorem spec_selTriangles (Lx Ly Lz : Nat) :
    Spec ((triangles Lx Ly Lz).filter (selTri Lx Ly Lz)) (TS Lx Ly Lz) where
  nodup := (nodup_triangles Lx Ly Lz).filter _
  mem := by
    intro s
    rw [List.mem_filter, mem_triangles']
    constructor
    · rintro ⟨⟨a, x, y, z, rfl, ha, hv, hp⟩, hs⟩
      exact ⟨a, x, y, z, rfl, ha, hv, hp, (selTri_iff ha).mp hs⟩
    · rintro ⟨a, x, y, z, rfl, ha, hv, hp, hs⟩
      exact ⟨⟨a, x, y, z, rfl, ha, hv, hp⟩, (selTri_iff ha).mpr hs⟩

section
variable (Lx Ly Lz : Nat)

/-- the five boxes `Near` of the axis `a`, as a list -/
def nearList (a xf yf c c' : Int) : List Coord :=
  bx a 4 (Lx - 3) 4 (Ly - 4) 4 (Lz - 4) tt ++ (bx a xf 1 4 (Ly - 4) 4 (Lz - 4) tt ++
  (bx a 4 (Lx - 3) yf 1 4 (Lz - 4) tt ++ (bx a 4 (Lx - 3) 4 (Ly - 4) 2 1 (chk c) ++
  bx a 4 (Lx - 3) 4 (Ly - 4) (2 * Lz - 4) 1 (chk c'))))

/-- the boxes next to the hole where the triangle of axis 3, 2 is not listed -/
def L3 : List Coord := nearList Lx Ly Lz 3 (2 * Lx - 2) 2 2 0
def L2 : List Coord := nearList Lx Ly Lz 2 2 (2 * Ly - 4) 2 0

/-- the boxes of the selected triangles of axis 1 -/
def L1 : List Coord :=
  bx 1 2 (Lx - 1) (2 * Ly - 2) 1 0 Lz tt ++ (bx 1 4 (Lx - 3) 2 1 4 (Lz - 4) tt ++
  (bx 1 2 1 4 (Ly - 4) 4 (Lz - 4) tt ++ (bx 1 4 (Lx - 3) 4 (Ly - 4) 2 1 (chk 2) ++
  bx 1 4 (Lx - 3) 4 (Ly - 4) (2 * Lz - 4) 1 (chk 0))))

/-- the boxes next to the hole where the upper triangle of axis 0 is not listed -/
def L0 : List Coord :=
  bx 0 4 (Lx - 3) 4 (Ly - 4) 4 (Lz - 4) (chk 2) ++ (bx 0 2 1 4 (Ly - 4) 4 (Lz - 4) (chk 2) ++
  (bx 0 4 (Lx - 3) 2 1 4 (Lz - 4) (chk 2) ++ bx 0 4 (Lx - 3) 4 (Ly - 4) (2 * Lz - 4) 1 (chk 2)))

/-- the boxes of the triangles of axis 0 -/
def LB0 : List Coord :=
  bx 0 (2 * Lx - 2) 1 0 (Ly - 1) 0 Lz tt ++ (bx 0 2 (Lx - 2) 0 (Ly - 1) 2 (Lz - 1) (chk 2) ++
  (bx 0 2 1 4 (ny Lx Ly Lz) 2 1 (chk 0) ++ (bx 0 4 (nx Lx Ly Lz) 2 1 2 1 (chk 0) ++ qlist Lx Ly Lz)))

end

section
variable {Lx Ly Lz : Nat}

theorem spec_near (hx : 3 ≤ Lx) (hy : 4 ≤ Ly) (hz : 4 ≤ Lz) {xf yf : Int} (a c c' : Int)
    (hxf : xf = 2 ∨ xf = 2 * (Lx : Int) - 2) (hyf : yf = 2 ∨ yf = 2 * (Ly : Int) - 4) :
    Spec (nearList Lx Ly Lz a xf yf c c')
      fun a' x y z => a' = a ∧ Near Lx Ly Lz xf yf c c' x y z :=
  (spec_bx_tt a 4 (Lx - 3) 4 (Ly - 4) 4 (Lz - 4)).append_ax
    ((spec_bx_tt a xf 1 4 (Ly - 4) 4 (Lz - 4)).append_ax
    ((spec_bx_tt a 4 (Lx - 3) yf 1 4 (Lz - 4)).append_ax
    ((spec_bx_chk a 4 (Lx - 3) 4 (Ly - 4) 2 1 c).append_ax
    (spec_bx_chk a 4 (Lx - 3) 4 (Ly - 4) (2 * Lz - 4) 1 c')
    (by intro x y z h1 h2; unfold InAp at h1 h2; omega))
    (by intro x y z h1 h2; unfold InAp at h1 h2; omega))
    (by intro x y z h1 h2; unfold InAp at h1 h2; omega))
    (by intro x y z h1 h2; unfold InAp at h1 h2; omega)

theorem spec_L1 (hx : 3 ≤ Lx) (hy : 4 ≤ Ly) (hz : 4 ≤ Lz) :
    Spec (L1 Lx Ly Lz) (fun a x y z => a = 1 ∧ P1 Lx Ly Lz x y z) :=
  (spec_bx_tt 1 2 (Lx - 1) (2 * Ly - 2) 1 0 Lz).append_ax
    ((spec_bx_tt 1 4 (Lx - 3) 2 1 4 (Lz - 4)).append_ax
    ((spec_bx_tt 1 2 1 4 (Ly - 4) 4 (Lz - 4)).append_ax
    ((spec_bx_chk 1 4 (Lx - 3) 4 (Ly - 4) 2 1 2).append_ax
    (spec_bx_chk 1 4 (Lx - 3) 4 (Ly - 4) (2 * Lz - 4) 1 0)
    (by intro x y z h1 h2; unfold InAp at h1 h2; omega))
    (by intro x y z h1 h2; unfold InAp at h1 h2; omega))
    (by intro x y z h1 h2; unfold InAp at h1 h2; omega))
    (by intro x y z h1 h2; unfold InAp at h1 h2; omega)

theorem spec_L0 (hx : 3 ≤ Lx) (hy : 4 ≤ Ly) :
    Spec (L0 Lx Ly Lz) (fun a x y z => a = 0 ∧ P0 Lx Ly Lz x y z) :=
  (spec_bx_chk 0 4 (Lx - 3) 4 (Ly - 4) 4 (Lz - 4) 2).append_ax
    ((spec_bx_chk 0 2 1 4 (Ly - 4) 4 (Lz - 4) 2).append_ax
    ((spec_bx_chk 0 4 (Lx - 3) 2 1 4 (Lz - 4) 2).append_ax
    (spec_bx_chk 0 4 (Lx - 3) 4 (Ly - 4) (2 * Lz - 4) 1 2)
    (by intro x y z h1 h2; unfold InAp at h1 h2; omega))
    (by intro x y z h1 h2; unfold InAp at h1 h2; omega))
    (by intro x y z h1 h2; unfold InAp at h1 h2; omega)

theorem spec_LB0 (hx : 3 ≤ Lx) :
    Spec (LB0 Lx Ly Lz) (fun a x y z => a = 0 ∧ B0 Lx Ly Lz x y z) :=
  (spec_bx_tt 0 (2 * Lx - 2) 1 0 (Ly - 1) 0 Lz).append_ax
    ((spec_bx_chk 0 2 (Lx - 2) 0 (Ly - 1) 2 (Lz - 1) 2).append_ax
    ((spec_bx_chk 0 2 1 4 (ny Lx Ly Lz) 2 1 0).append_ax
    ((spec_bx_chk 0 4 (nx Lx Ly Lz) 2 1 2 1 0).append_ax (spec_qlist Lx Ly Lz)
    (by intro x y z h1 h2; unfold InAp at h1; unfold QR at h2; omega))
    (by intro x y z h1 h2; unfold InAp at h1 h2; unfold QR at h2; omega))
    (by intro x y z h1 h2; unfold InAp at h1 h2; unfold QR at h2; omega))
    (by intro x y z h1 h2; have := nx_spec Lx Ly Lz; unfold InAp at h1 h2; unfold QR at h2; omega)

theorem selTriangles_partition (hx : 3 ≤ Lx) (hy : 4 ≤ Ly) (hz : 4 ≤ Lz) {LB : List Coord}
    {B : Int → Int → Int → Prop} (hLB : Spec LB (fun a x y z => a = 0 ∧ B x y z))
    (hB : ∀ x y z, (TS Lx Ly Lz 0 x y z ∨ P0 Lx Ly Lz x y z) ↔ B x y z) :
    ((triangles Lx Ly Lz).filter (selTri Lx Ly Lz)).length +
      ((L3 Lx Ly Lz).length + ((L2 Lx Ly Lz).length + (L0 Lx Ly Lz).length)) =
    (bx 3 2 (Lx - 1) 0 (Ly - 1) 0 Lz tt).length + ((bx 2 2 (Lx - 1) 2 (Ly - 1) 0 Lz tt).length +
      ((L1 Lx Ly Lz).length + LB.length)) := by
  have hA := (spec_selTriangles Lx Ly Lz).append
    ((spec_near hx hy hz 3 2 0 (Or.inr rfl) (Or.inl rfl)).append
      ((spec_near hx hy hz 2 2 0 (Or.inl rfl) (Or.inr rfl)).append (spec_L0 hx hy)
      (by intro a x y z h1 h2; omega))
      (by intro a x y z h1 h2; omega))
    (by
      intro a x y z h1 h2
      rcases h2 with ⟨rfl, h2⟩ | ⟨rfl, h2⟩ | ⟨rfl, h2⟩
      · exact pt3_near hx hy hz h1.2.2.1 h2
      · exact pt2_near hx hy hz h1.2.2.1 h2
      · exact ax0_disj hx hy hz x y z h1 h2)
  have hBx := (spec_bx_tt 3 2 (Lx - 1) 0 (Ly - 1) 0 Lz).append
    ((spec_bx_tt 2 2 (Lx - 1) 2 (Ly - 1) 0 Lz).append
      ((spec_L1 hx hy hz).append hLB (by intro a x y z h1 h2; omega))
      (by intro a x y z h1 h2; omega))
    (by intro a x y z h1 h2; omega)
  have h := hA.length_eq hBx
    (axes_iff (fun a _ _ _ h => by have := h.elim (·.1) (by omega); omega) (fun a _ _ _ h => by omega)
      fun x y z => by
      simp only [Int.reduceEq, true_and, false_and, or_false, false_or]
      exact ⟨ax3 hx hy hz x y z, ax2 hx hy hz x y z, ax1 hx hy hz x y z, hB x y z⟩)
  simpa only [List.length_append, L3, L2] using h

/-- the number of selected triangles of a size with a hole of `A × B × C` vertices, given the boxes of
    axis 0 -/
theorem selTriangles_count (hx : 3 ≤ Lx) (hy : 4 ≤ Ly) (hz : 4 ≤ Lz) {LB : List Coord}
    {B0' : Int → Int → Int → Prop} (hLB : Spec LB (fun a x y z => a = 0 ∧ B0' x y z))
    (hB : ∀ x y z, (TS Lx Ly Lz 0 x y z ∨ P0 Lx Ly Lz x y z) ↔ B0' x y z) {A B C : Nat}
    (hA : A = Lx - 3) (hB' : B = Ly - 4) (hC : C = Lz - 4) :
    ((triangles Lx Ly Lz).filter (selTri Lx Ly Lz)).length +
      (2 * (A * (B * C)) + B * C + A * C + A * B + half (A * B) true + half (A * (B * C)) false +
        half (B * C) true + half (A * C) true) =
    2 * ((Lx - 1) * ((Ly - 1) * Lz)) + (Lx - 1) * Lz + LB.length := by
  subst hA hB' hC
  have h := selTriangles_partition hx hy hz hLB hB
  have hp := length_bx3_chk_pair 4 (Lx - 3) 4 (Ly - 4) (2 * Lz - 4) 1 (by omega)
  simp only [L3, L2, L1, L0, nearList, List.length_append, length_bx] at h
  rw [length_bx3_chk _ _ _ _ _ _ _ (by decide) (by decide),
    length_bx3_chk 4 _ 4 _ 4 _ _ (by decide) (by decide),
    length_bx3_chk 2 _ 4 _ 4 _ _ (by decide) (by decide),
    length_bx3_chk 4 _ 2 _ 4 _ _ (by decide) (by decide)] at h
  simp only [length_bx3_tt, Nat.mul_one, Nat.one_mul, Nat.mul_assoc, Int.reduceAdd, Int.reduceMod,
    Int.reduceBEq] at h hp
  omega

end

theorem spec_cubes (Lx Ly Lz : Nat) : Spec3 (cubes Lx Ly Lz) (CubeLoc Lx Ly Lz) where
  nodup := nodup_cubes Lx Ly Lz
  mem := fun _ => mem_cubes

/-- the number of cubes (every size): the cubes of the checkerboard in the box `Lx × (Ly+1) × (Lz−1)`
    minus those with all eight corners in the hole (the box `(Lx−4) × (Ly−5) × (Lz−5)` of cube
    positions, whose first corner `(5, 5, 5)` is off the checkerboard) -/
theorem cubes_count (Lx Ly Lz : Nat) :
    (cubes Lx Ly Lz).length + half ((Lx - 4) * ((Ly - 5) * (Lz - 5))) false =
      half (Lx * ((Ly + 1) * (Lz - 1))) true := by
  have hA := (spec_cubes Lx Ly Lz).append (spec_bx3 5 (Lx - 4) 5 (Ly - 5) 5 (Lz - 5) (chk 1)) (by
    intro x y z h1 h2
    unfold InAp at h2
    exact h1.2.2.2.2 ⟨by unfold Hole; omega, by unfold Hole; omega⟩)
  have hB := spec_bx3 1 Lx (-1) (Ly + 1) 1 (Lz - 1) (chk 1)
  have h := hA.length_eq hB (by
    intro x y z
    simp only [chk_iff]
    constructor
    · rintro (⟨hx, hy, hz, hc, _⟩ | h)
      · unfold InAp; omega
      · unfold InAp at h ⊢; omega
    · intro h
      unfold InAp at h
      by_cases hh : Hole Lx Ly Lz (x - 1) (y - 1) (z - 1) ∧ Hole Lx Ly Lz (x + 1) (y + 1) (z + 1)
      · right; unfold Hole at hh; unfold InAp; omega
      · exact Or.inl ⟨by omega, by omega, by omega, h.2.2.2, hh⟩)
  rw [List.length_append, length_bx3_chk _ _ _ _ _ _ _ (by decide) (by decide),
    length_bx3_chk _ _ _ _ _ _ _ (by decide) (by decide)] at h
  exact h

end Panqec.HollowRhombicCode
