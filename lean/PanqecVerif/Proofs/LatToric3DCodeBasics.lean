/-
`Toric3DCode` for every size: arithmetic characterisation of the coordinate lists, the offsets of
`get_stabilizer` modulo the period at even and at odd coordinates (`pmod_even`, `pmod_odd`), and the
parity facts about cyclic neighbours that the overlap lemmas use.
-/
import PanqecVerif.Proofs.LatCubic3D
import PanqecVerif.Proofs.LatToricStep
import PanqecVerif.Model.Lattices.Toric3DCode

namespace Panqec.Toric3DCode
open Panqec.Cubic3D
open Panqec.Cyclic (emod_of_near)

export Panqec.Toric2DCode (predW succW predW_spec succW_spec)

def isE (L : Nat) (x : Int) : Prop := 0 ≤ x ∧ x < 2 * (L : Int) ∧ x % 2 = 0
def isO (L : Nat) (x : Int) : Prop := 0 ≤ x ∧ x < 2 * (L : Int) ∧ x % 2 = 1

theorem cast_period (L : Nat) : ((2 * L : Nat) : Int) = 2 * (L : Int) := by
  push_cast; rfl

/-- the three offsets of `get_stabilizer` at an even coordinate: `+1` stays inside the period -/
theorem pmod_even {L : Nat} {x : Int} (h : isE L x) :
    pmod (x + 0) (2 * L) = x ∧ pmod (x + -1) (2 * L) = predW x (2 * (L : Int)) ∧
      pmod (x + 1) (2 * L) = x + 1 := by
  unfold pmod
  unfold isE at h
  rw [cast_period]
  have := predW_spec x (2 * (L : Int))
  exact ⟨emod_of_near (by omega) (by omega) (by omega),
    emod_of_near (by omega) (by omega) (by omega), emod_of_near (by omega) (by omega) (by omega)⟩

/-- the three offsets at an odd coordinate: `-1` stays inside the period -/
theorem pmod_odd {L : Nat} {x : Int} (h : isO L x) :
    pmod (x + 0) (2 * L) = x ∧ pmod (x + -1) (2 * L) = x - 1 ∧
      pmod (x + 1) (2 * L) = succW x (2 * (L : Int)) := by
  unfold pmod
  unfold isO at h
  rw [cast_period]
  have := succW_spec x (2 * (L : Int))
  exact ⟨emod_of_near (by omega) (by omega) (by omega),
    emod_of_near (by omega) (by omega) (by omega), emod_of_near (by omega) (by omega) (by omega)⟩

theorem mem_rangeE {L : Nat} {x : Int} : x ∈ range2 0 (2 * (L : Int)) ↔ isE L x := by
  rw [mem_range2]; unfold isE; omega
theorem mem_rangeO {L : Nat} {x : Int} : x ∈ range2 1 (2 * (L : Int)) ↔ isO L x := by
  rw [mem_range2]; unfold isO; omega

theorem mem_qubits {Lx Ly Lz : Nat} {x y z : Int} :
    [x, y, z] ∈ qubits Lx Ly Lz ↔
      (isO Lx x ∧ isE Ly y ∧ isE Lz z) ∨ (isE Lx x ∧ isO Ly y ∧ isE Lz z) ∨
      (isE Lx x ∧ isE Ly y ∧ isO Lz z) := by
  simp only [qubits, List.mem_append, mem_grid3, mem_rangeE, mem_rangeO, or_assoc]

theorem mem_stabs {Lx Ly Lz : Nat} {x y z : Int} :
    [x, y, z] ∈ stabs Lx Ly Lz ↔
      (isE Lx x ∧ isE Ly y ∧ isE Lz z) ∨ (isO Lx x ∧ isO Ly y ∧ isE Lz z) ∨
      (isE Lx x ∧ isO Ly y ∧ isO Lz z) ∨ (isO Lx x ∧ isE Ly y ∧ isO Lz z) := by
  simp only [stabs, List.mem_append, mem_grid3, mem_rangeE, mem_rangeO, or_assoc]

theorem shape_of_mem_qubits {Lx Ly Lz : Nat} {q : Coord} (h : q ∈ qubits Lx Ly Lz) :
    ∃ x y z, q = [x, y, z] := by
  simp only [qubits, List.mem_append, mem_grid] at h
  rcases h with (⟨x, _, y, _, z, _, rfl⟩ | ⟨x, _, y, _, z, _, rfl⟩) | ⟨x, _, y, _, z, _, rfl⟩ <;>
    exact ⟨x, y, z, rfl⟩

theorem shape_of_mem_stabs {Lx Ly Lz : Nat} {q : Coord} (h : q ∈ stabs Lx Ly Lz) :
    ∃ x y z, q = [x, y, z] := by
  simp only [stabs, List.mem_append, mem_grid] at h
  rcases h with ((⟨x, _, y, _, z, _, rfl⟩ | ⟨x, _, y, _, z, _, rfl⟩) | ⟨x, _, y, _, z, _, rfl⟩) |
    ⟨x, _, y, _, z, _, rfl⟩ <;> exact ⟨x, y, z, rfl⟩

section parity
variable {Lx Ly Lz : Nat} {x y z : Int}

theorem typeOf_vertex (hx : isE Lx x) (hy : isE Ly y) : typeOf x y = .vertex := by
  simp [typeOf, hx.2.2, hy.2.2]
theorem typeOf_face_x (hx : isO Lx x) : typeOf x y = .face := by
  simp [typeOf, hx.2.2]
theorem typeOf_face_y (hy : isO Ly y) : typeOf x y = .face := by
  simp [typeOf, hy.2.2]

theorem faceDelta_xy (hz : isE Lz z) :
    faceDelta x y z = [(-1, 0, 0), (1, 0, 0), (0, -1, 0), (0, 1, 0)] := by
  simp [faceDelta, hz.2.2]
theorem faceDelta_yz (hx : isE Lx x) (hz : isO Lz z) :
    faceDelta x y z = [(0, -1, 0), (0, 1, 0), (0, 0, -1), (0, 0, 1)] := by
  simp [faceDelta, hx.2.2, hz.2.2]
theorem faceDelta_xz (hx : isO Lx x) (hy : isE Ly y) (hz : isO Lz z) :
    faceDelta x y z = [(-1, 0, 0), (1, 0, 0), (0, 0, -1), (0, 0, 1)] := by
  simp [faceDelta, hx.2.2, hy.2.2, hz.2.2]
end parity

section axis
variable {L : Nat} {e o c : Int}

/-! the two neighbours of an even coordinate `e` are odd and not `0` (the logical X strings) -/
theorem vO_p (he : isE L e) : isO L (predW e (2 * (L : Int))) := by
  simp only [isE, isO] at *; have := predW_spec e (2 * (L : Int)); omega
theorem vO_s (he : isE L e) : isO L (e + 1) := by
  simp only [isE, isO] at *; omega
theorem pairE_zero (he : isE L e) : predW e (2 * (L : Int)) = 0 ↔ e + 1 = 0 := by
  simp only [isE] at he; have := predW_spec e (2 * (L : Int)); omega

/-! the two neighbours of an odd coordinate `o` are even and not `1` (the logical Z planes) -/
theorem fE_m (ho : isO L o) : isE L (o - 1) := by
  simp only [isE, isO] at *; omega
theorem fE_s (ho : isO L o) : isE L (succW o (2 * (L : Int))) := by
  simp only [isE, isO] at *; have := succW_spec o (2 * (L : Int)); omega
theorem pairO_one (ho : isO L o) : o - 1 = 1 ↔ succW o (2 * (L : Int)) = 1 := by
  simp only [isO] at ho; have := succW_spec o (2 * (L : Int)); omega

theorem isE_zero (hL : 1 ≤ L) : isE L 0 := by simp only [isE]; omega
theorem isO_one (hL : 1 ≤ L) : isO L 1 := by simp only [isO]; omega
end axis

def sz (Lx Ly Lz : Nat) : Axis → Nat
  | .x => Lx | .y => Ly | .z => Lz

theorem le_sz {Lx Ly Lz n : Nat} (hLx : n ≤ Lx) (hLy : n ≤ Ly) (hLz : n ≤ Lz) (ax : Axis) :
    n ≤ sz Lx Ly Lz ax := by
  cases ax <;> assumption

end Panqec.Toric3DCode
