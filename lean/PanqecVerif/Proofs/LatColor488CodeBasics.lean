/-
Color488Code, all sizes `Lx, Ly ≥ 1` (`x` modulo `8Lx`, `y` modulo `8Ly`): the face list,
`get_stabilizer` (wrapped square / octagon corners, no duplicate keys) and the DERIVED qubit list
(closed form `IsQ`) in arithmetic terms.  Wrap-around is handled algebraically:
`(a + d) % m = (b + d') % m` iff `(b − a) % m = (d − d') % m`, and `k % m` is known for the small
constants `k`.  Core Lean only.
-/
import PanqecVerif.Proofs.ColorBase
import PanqecVerif.Model.Lattices.Color488Code


namespace Panqec.Color488Code
open Panqec.Lat2D Panqec.Color

/-- `k % (8L)` for the differences of two deltas -/
structure Consts (m : Int) : Prop where
  c0 : (0 : Int) % m = 0
  c2 : (2 : Int) % m = 2
  c4 : (4 : Int) % m = 4
  c6 : (6 : Int) % m = 6
  n2 : (-2 : Int) % m = m - 2
  n4 : (-4 : Int) % m = m - 4
  n6 : (-6 : Int) % m = m - 6

theorem consts {L : Nat} (hL : 1 ≤ L) : Consts (8 * (L : Int)) where
  c0 := by simp
  c2 := emod_small (by omega) (by omega)
  c4 := emod_small (by omega) (by omega)
  c6 := emod_small (by omega) (by omega)
  n2 := by rw [emod_neg_small (by omega) (by omega)]; omega
  n4 := by rw [emod_neg_small (by omega) (by omega)]; omega
  n6 := by rw [emod_neg_small (by omega) (by omega)]; omega

/-- `(x, y)` is the centre of a face (the seam rows `x = 8Lx`, `y = 8Ly` included) -/
def IsF (Lx Ly : Nat) (x y : Int) : Prop :=
  x % 4 = 0 ∧ y % 4 = 0 ∧ 0 ≤ x ∧ x ≤ 8 * (Lx : Int) ∧ 0 ≤ y ∧ y ≤ 8 * (Ly : Int)

/-- `(a, b)` is a qubit coordinate (closed form of the derived list): a corner of a square -/
def IsQ (Lx Ly : Nat) (a b : Int) : Prop :=
  0 ≤ a ∧ a < 8 * (Lx : Int) ∧ 0 ≤ b ∧ b < 8 * (Ly : Int) ∧
    (((a % 8 = 1 ∨ a % 8 = 7) ∧ (b % 8 = 1 ∨ b % 8 = 7)) ∨
     ((a % 8 = 3 ∨ a % 8 = 5) ∧ (b % 8 = 3 ∨ b % 8 = 5)))

instance (Lx Ly : Nat) (x y : Int) : Decidable (IsF Lx Ly x y) := by unfold IsF; infer_instance
instance (Lx Ly : Nat) (x y : Int) : Decidable (IsQ Lx Ly x y) := by unfold IsQ; infer_instance

theorem mem_faces {Lx Ly : Nat} {q : Coord} :
    q ∈ faces Lx Ly ↔ ∃ x y, q = [x, y] ∧ IsF Lx Ly x y := by
  unfold faces IsF
  simp only [mem_grid, (mem_pyRangeStep (s := 4) (by decide))]
  constructor
  · rintro ⟨x, y, hx, hy, rfl⟩; refine ⟨x, y, rfl, ?_⟩; omega
  · rintro ⟨x, y, rfl, h⟩; exact ⟨x, y, by omega, by omega, rfl⟩

theorem nodup_faces (Lx Ly : Nat) : (faces Lx Ly).Nodup :=
  nodup_grid (nodup_pyRangeStep _ _ _ (by decide)) (nodup_pyRangeStep _ _ _ (by decide))

theorem mem_stabs {Lx Ly : Nat} {s : Coord} :
    s ∈ stabs Lx Ly ↔ ∃ x y p, s = [x, y, p] ∧ IsF Lx Ly x y ∧ (p = 0 ∨ p = 1) :=
  mem_both_iff mem_faces

theorem mem_stabs' {Lx Ly : Nat} {x y p : Int} :
    [x, y, p] ∈ stabs Lx Ly ↔ IsF Lx Ly x y ∧ (p = 0 ∨ p = 1) :=
  mem_both_iff' mem_faces

theorem nodup_stabs (Lx Ly : Nat) : (stabs Lx Ly).Nodup := nodup_both (nodup_faces Lx Ly)

/-- the wrapped corners of the square at `(x, y)`, in delta order -/
def sqC (Lx Ly : Nat) (x y : Int) : List Coord :=
  [[(x + -1) % (8 * (Lx : Int)), (y + -1) % (8 * (Ly : Int))],
   [(x + 1) % (8 * (Lx : Int)), (y + 1) % (8 * (Ly : Int))],
   [(x + -1) % (8 * (Lx : Int)), (y + 1) % (8 * (Ly : Int))],
   [(x + 1) % (8 * (Lx : Int)), (y + -1) % (8 * (Ly : Int))]]

/-- the wrapped corners of the octagon at `(x, y)`, in delta order -/
def ocC (Lx Ly : Nat) (x y : Int) : List Coord :=
  [[(x + 1) % (8 * (Lx : Int)), (y + -3) % (8 * (Ly : Int))],
   [(x + 3) % (8 * (Lx : Int)), (y + -1) % (8 * (Ly : Int))],
   [(x + 3) % (8 * (Lx : Int)), (y + 1) % (8 * (Ly : Int))],
   [(x + 1) % (8 * (Lx : Int)), (y + 3) % (8 * (Ly : Int))],
   [(x + -1) % (8 * (Lx : Int)), (y + 3) % (8 * (Ly : Int))],
   [(x + -3) % (8 * (Lx : Int)), (y + 1) % (8 * (Ly : Int))],
   [(x + -3) % (8 * (Lx : Int)), (y + -1) % (8 * (Ly : Int))],
   [(x + -1) % (8 * (Lx : Int)), (y + -3) % (8 * (Ly : Int))]]

def supp (Lx Ly : Nat) (x y : Int) : List Coord :=
  if (x + y) % 8 = 0 then sqC Lx Ly x y else ocC Lx Ly x y

theorem mem_sqC {Lx Ly : Nat} {x y u v : Int} : [u, v] ∈ sqC Lx Ly x y ↔
    (u = (x + 1) % (8 * (Lx : Int)) ∨ u = (x + -1) % (8 * (Lx : Int))) ∧
    (v = (y + 1) % (8 * (Ly : Int)) ∨ v = (y + -1) % (8 * (Ly : Int))) := by
  simp only [sqC, List.mem_cons, List.cons.injEq, and_true, List.not_mem_nil, or_false]
  grind

theorem mem_ocC {Lx Ly : Nat} {x y u v : Int} : [u, v] ∈ ocC Lx Ly x y ↔
    ((u = (x + 1) % (8 * (Lx : Int)) ∨ u = (x + -1) % (8 * (Lx : Int))) ∧
      (v = (y + 3) % (8 * (Ly : Int)) ∨ v = (y + -3) % (8 * (Ly : Int)))) ∨
    ((u = (x + 3) % (8 * (Lx : Int)) ∨ u = (x + -3) % (8 * (Lx : Int))) ∧
      (v = (y + 1) % (8 * (Ly : Int)) ∨ v = (y + -1) % (8 * (Ly : Int)))) := by
  simp only [ocC, List.mem_cons, List.cons.injEq, and_true, List.not_mem_nil, or_false]
  grind

theorem candidates_eq (Lx Ly : Nat) (x y : Int) : candidates Lx Ly x y = supp Lx Ly x y := by
  unfold candidates isSquare supp
  by_cases h : (x + y) % 8 = 0
  · simp only [h, decide_true, if_true, deltaSquare, List.map_cons, List.map_nil]; rfl
  · simp only [h, decide_false, if_false, Bool.false_eq_true, deltaOctagon, List.map_cons,
      List.map_nil]; rfl

theorem nodup_sqC {Lx Ly : Nat} (hx : 1 ≤ Lx) (hy : 1 ≤ Ly) (x y : Int) : (sqC Lx Ly x y).Nodup := by
  obtain ⟨c0, c2, c4, c6, n2, n4, n6⟩ := consts hx
  obtain ⟨d0, d2, d4, d6, m2, m4, m6⟩ := consts hy
  unfold sqC
  simp only [List.nodup_cons, List.mem_cons, List.cons.injEq, and_true, List.not_mem_nil,
    or_false, not_false_eq_true, List.nodup_nil, emod_bridge, Int.sub_self,
    Int.reduceSub, Int.reduceNeg]
  omega

theorem nodup_ocC {Lx Ly : Nat} (hx : 1 ≤ Lx) (hy : 1 ≤ Ly) (x y : Int) : (ocC Lx Ly x y).Nodup := by
  obtain ⟨c0, c2, c4, c6, n2, n4, n6⟩ := consts hx
  obtain ⟨d0, d2, d4, d6, m2, m4, m6⟩ := consts hy
  unfold ocC
  simp only [List.nodup_cons, List.mem_cons, List.cons.injEq, and_true, List.not_mem_nil,
    or_false, not_false_eq_true, List.nodup_nil, emod_bridge, Int.sub_self,
    Int.reduceSub, Int.reduceNeg]
  omega

theorem nodup_supp {Lx Ly : Nat} (hx : 1 ≤ Lx) (hy : 1 ≤ Ly) (x y : Int) : (supp Lx Ly x y).Nodup := by
  unfold supp
  by_cases h : (x + y) % 8 = 0
  · rw [if_pos h]; exact nodup_sqC hx hy x y
  · rw [if_neg h]; exact nodup_ocC hx hy x y

theorem supp_shape {Lx Ly : Nat} {x y : Int} {q : Coord} (h : q ∈ supp Lx Ly x y) : ∃ a b, q = [a, b] := by
  unfold supp sqC ocC at h
  split at h <;> simp only [List.mem_cons, List.not_mem_nil, or_false] at h
  · rcases h with rfl | rfl | rfl | rfl <;> exact ⟨_, _, rfl⟩
  · rcases h with rfl | rfl | rfl | rfl | rfl | rfl | rfl | rfl <;> exact ⟨_, _, rfl⟩

def letter (p : Int) : Pauli := if p = 0 then Pauli.X else Pauli.Z

theorem getStabIn_eq {Lx Ly : Nat} (hx : 1 ≤ Lx) (hy : 1 ≤ Ly) {x y p : Int} (h : [x, y, p] ∈ stabs Lx Ly) :
    getStabilizerIn (stabs Lx Ly) Lx Ly [x, y, p] = some ((supp Lx Ly x y).map (fun q => (q, letter p))) := by
  have hs : isIn (stabs Lx Ly) [x, y, p] = true := isIn_iff.mpr h
  unfold getStabilizerIn
  simp only [hs, Bool.not_true, Bool.false_eq_true, if_false]
  rw [candidates_eq, lineOp_eq _ _ (nodup_supp hx hy x y)]
  rfl

theorem getStab_eq {Lx Ly : Nat} (hx : 1 ≤ Lx) (hy : 1 ≤ Ly) {x y p : Int} (h : [x, y, p] ∈ stabs Lx Ly) :
    (lattice Lx Ly).getStab [x, y, p] = (supp Lx Ly x y).map (fun q => (q, letter p)) := by
  show (getStabilizer? Lx Ly [x, y, p]).getD [] = _
  unfold getStabilizer?
  rw [getStabIn_eq hx hy h]; rfl

theorem nodup_qubits (Lx Ly : Nat) : (qubits Lx Ly).Nodup := nodup_derivedQubits _ _

theorem mem_qubits_faces {Lx Ly : Nat} (hx : 1 ≤ Lx) (hy : 1 ≤ Ly) {q : Coord} :
    q ∈ qubits Lx Ly ↔ ∃ x y, IsF Lx Ly x y ∧ q ∈ supp Lx Ly x y :=
  mem_derived_faces mem_faces fun x y p h => by
    rw [getStabIn_eq hx hy h, Option.getD_some, map_fst_letter]

theorem isQ_wrapped {Lx Ly : Nat} (hx : 1 ≤ Lx) (hy : 1 ≤ Ly) (u v : Int)
    (h : ((u % 8 = 1 ∨ u % 8 = 7) ∧ (v % 8 = 1 ∨ v % 8 = 7)) ∨
         ((u % 8 = 3 ∨ u % 8 = 5) ∧ (v % 8 = 3 ∨ v % 8 = 5))) :
    IsQ Lx Ly (u % (8 * (Lx : Int))) (v % (8 * (Ly : Int))) := by
  obtain ⟨a1, a2, a3⟩ := Cyclic.emod_window (m := 8 * (Lx : Int)) (by omega) u ⟨(Lx : Int), rfl⟩
  obtain ⟨b1, b2, b3⟩ := Cyclic.emod_window (m := 8 * (Ly : Int)) (by omega) v ⟨(Ly : Int), rfl⟩
  unfold IsQ
  rw [a3, b3]
  exact ⟨a1, a2, b1, b2, h⟩

theorem add_res {x r d : Int} (h : x % 8 = r) : (x + d) % 8 = (r + d) % 8 := by
  rw [← h, Int.emod_add_emod]

theorem isQ_of_corner {Lx Ly : Nat} (hx : 1 ≤ Lx) (hy : 1 ≤ Ly) {x y a b : Int} (hf : IsF Lx Ly x y)
    (h : [a, b] ∈ supp Lx Ly x y) : IsQ Lx Ly a b := by
  obtain ⟨x4, y4, -⟩ := hf
  unfold supp at h
  by_cases h8 : (x + y) % 8 = 0
  · rw [if_pos h8, mem_sqC] at h
    have h8' : x % 8 = 0 ∧ y % 8 = 0 ∨ x % 8 = 4 ∧ y % 8 = 4 := by omega
    rcases h8' with ⟨hx8, hy8⟩ | ⟨hx8, hy8⟩ <;> rcases h with ⟨rfl | rfl, rfl | rfl⟩ <;>
      apply isQ_wrapped hx hy <;> rw [add_res hx8, add_res hy8] <;> decide
  · rw [if_neg h8, mem_ocC] at h
    have h8' : x % 8 = 0 ∧ y % 8 = 4 ∨ x % 8 = 4 ∧ y % 8 = 0 := by omega
    rcases h8' with ⟨hx8, hy8⟩ | ⟨hx8, hy8⟩ <;>
      rcases h with ⟨rfl | rfl, rfl | rfl⟩ | ⟨rfl | rfl, rfl | rfl⟩ <;>
      apply isQ_wrapped hx hy <;> rw [add_res hx8, add_res hy8] <;> decide

theorem near4 {L : Nat} {a : Int} (h0 : 0 ≤ a) (h1 : a < 8 * (L : Int)) (ho : a % 2 = 1) :
    ∃ x, x % 4 = 0 ∧ 0 ≤ x ∧ x ≤ 8 * (L : Int) ∧ (x = a + 1 ∨ x = a - 1) ∧
      (a = (x + 1) % (8 * (L : Int)) ∨ a = (x + -1) % (8 * (L : Int))) := by
  have ea : a % (8 * (L : Int)) = a := emod_small h0 h1
  by_cases ha : a % 4 = 1
  · refine ⟨a - 1, by omega, by omega, by omega, .inr rfl, .inl ?_⟩
    rw [show a - 1 + 1 = a by omega, ea]
  · refine ⟨a + 1, by omega, by omega, by omega, .inl rfl, .inr ?_⟩
    rw [show a + 1 + -1 = a by omega, ea]

/-- every site of the closed form is a corner of the square centred at the nearest multiples of 4 -/
theorem corner_of_isQ {Lx Ly : Nat} {a b : Int} (h : IsQ Lx Ly a b) :
    ∃ x y, IsF Lx Ly x y ∧ (x + y) % 8 = 0 ∧ [a, b] ∈ sqC Lx Ly x y := by
  obtain ⟨a0, a1, b0, b1, hr⟩ := h
  obtain ⟨x, x4, x0, x1, xa, hxa⟩ := near4 (L := Lx) a0 a1 (by omega)
  obtain ⟨y, y4, y0, y1, yb, hyb⟩ := near4 (L := Ly) b0 b1 (by omega)
  refine ⟨x, y, ⟨x4, y4, x0, x1, y0, y1⟩, ?_, mem_sqC.mpr ⟨hxa, hyb⟩⟩
  clear hxa hyb a0 a1 b0 b1 x0 x1 y0 y1
  omega

theorem mem_qubits {Lx Ly : Nat} (hx : 1 ≤ Lx) (hy : 1 ≤ Ly) {q : Coord} :
    q ∈ qubits Lx Ly ↔ ∃ a b, q = [a, b] ∧ IsQ Lx Ly a b := by
  rw [mem_qubits_faces hx hy]
  constructor
  · rintro ⟨x, y, hf, hq⟩
    obtain ⟨a, b, rfl⟩ := supp_shape hq
    exact ⟨a, b, rfl, isQ_of_corner hx hy hf hq⟩
  · rintro ⟨a, b, rfl, h⟩
    obtain ⟨x, y, hf, h8, hm⟩ := corner_of_isQ h
    refine ⟨x, y, hf, ?_⟩
    unfold supp; rw [if_pos h8]; exact hm

theorem mem_qubits' {Lx Ly : Nat} (hx : 1 ≤ Lx) (hy : 1 ≤ Ly) {a b : Int} : [a, b] ∈ qubits Lx Ly ↔ IsQ Lx Ly a b :=
  mem_pair_iff (mem_qubits hx hy)

theorem isQubit_iff {Lx Ly : Nat} (hx : 1 ≤ Lx) (hy : 1 ≤ Ly) {a b : Int} :
    isQubit Lx Ly [a, b] = true ↔ IsQ Lx Ly a b := by
  unfold isQubit; rw [isIn_iff, mem_qubits' hx hy]

theorem isQubit_eq {Lx Ly : Nat} (hx : 1 ≤ Lx) (hy : 1 ≤ Ly) :
    isQubit Lx Ly = fun q => match q with
      | [a, b] => decide (IsQ Lx Ly a b)
      | _ => false := by
  funext q
  rw [Bool.eq_iff_iff]
  unfold isQubit
  rw [isIn_iff]
  split
  · rw [mem_qubits' hx hy, decide_eq_true_iff]
  · rename_i h
    rw [mem_qubits hx hy]
    simp only [Bool.false_eq_true, iff_false]
    rintro ⟨a, b, rfl, _⟩
    exact h a b rfl

theorem qubits_stabs_disjoint {Lx Ly : Nat} (hx : 1 ≤ Lx) (hy : 1 ≤ Ly) : ∀ q ∈ qubits Lx Ly, q ∉ stabs Lx Ly := by
  intro q hq hs
  obtain ⟨a, b, rfl, _⟩ := (mem_qubits hx hy).mp hq
  obtain ⟨x', y', p, h, _⟩ := mem_stabs.mp hs
  simp at h

theorem supp_nonempty (Lx Ly : Nat) (x y : Int) : supp Lx Ly x y ≠ [] := by
  unfold supp sqC ocC
  by_cases h : (x + y) % 8 = 0 <;> simp [h]

end Panqec.Color488Code
