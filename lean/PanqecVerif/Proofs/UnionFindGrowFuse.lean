/-
Union-find internals (C05), growth phase: the invariant of `Support.clustering`
(parent-pointer forest, cluster records, connectivity of every cluster through the qubits
assigned to it) and its preservation by the body of `for q in fusion_set`.
-/
import PanqecVerif.Proofs.UnionFindGrowMerge

namespace Panqec.UF

/-- the entry `(u, q)` of `_H_to_grow` has been zeroed -/
def grown (H : Mat) (rowDead colDead : Nat → Bool) (u q : Nat) : Bool :=
  hb H u q && !live H rowDead colDead u q

theorem hb_lt {H : Mat} {s q : Nat} (h : hb H s q = true) : s < H.length := by
  by_contra hs
  unfold hb at h
  have hn : H[s]? = none := List.getElem?_eq_none (by omega)
  have hrow : H.getD s [] = [] := by rw [List.getD_eq_getElem?_getD, hn]; rfl
  rw [hrow] at h
  simp at h

theorem grown_iff (H : Mat) (rd cd : Nat → Bool) (s q : Nat) :
    grown H rd cd s q = true ↔ (hb H s q = true ∧ (rd s = true ∨ cd q = true)) := by
  unfold grown live
  cases hb H s q <;> cases rd s <;> cases cd q <;> simp

/-- `q` joins `u` and `v` inside one cluster: both half-edges are grown, both ends are in the same
    tree and `_q_parents[q]` points into that tree -/
structure EdgeOK (H : Mat) (rowDead colDead : Nat → Bool) (sPar qPar : Nat → Int) (rep : Nat → Nat)
    (u q v : Nat) : Prop where
  gu : grown H rowDead colDead u q = true
  gv : grown H rowDead colDead v q = true
  lu : sPar u ≠ -1
  lv : sPar v ≠ -1
  same : rep u = rep v
  qp : ∃ x : Nat, qPar q = (x : Int) ∧ sPar x ≠ -1 ∧ rep x = rep u

inductive Conn (H : Mat) (rowDead colDead : Nat → Bool) (sPar qPar : Nat → Int) (rep : Nat → Nat) :
    Nat → Nat → Prop
  | refl (u : Nat) : Conn H rowDead colDead sPar qPar rep u u
  | step {u v q w : Nat} : Conn H rowDead colDead sPar qPar rep u v →
      EdgeOK H rowDead colDead sPar qPar rep v q w → Conn H rowDead colDead sPar qPar rep u w

section
variable {H : Mat} {rowDead colDead : Nat → Bool} {sPar qPar : Nat → Int} {rep : Nat → Nat}

theorem EdgeOK.symm {u q v : Nat} (e : EdgeOK H rowDead colDead sPar qPar rep u q v) :
    EdgeOK H rowDead colDead sPar qPar rep v q u := by
  obtain ⟨x, h1, h2, h3⟩ := e.qp
  exact ⟨e.gv, e.gu, e.lv, e.lu, e.same.symm, x, h1, h2, h3.trans e.same⟩

theorem Conn.trans {a b c : Nat} (h1 : Conn H rowDead colDead sPar qPar rep a b)
    (h2 : Conn H rowDead colDead sPar qPar rep b c) : Conn H rowDead colDead sPar qPar rep a c := by
  induction h2 with
  | refl => exact h1
  | step _ e ih => exact Conn.step ih e

theorem Conn.symm {a b : Nat} (h : Conn H rowDead colDead sPar qPar rep a b) :
    Conn H rowDead colDead sPar qPar rep b a := by
  induction h with
  | refl => exact Conn.refl _
  | step _ e ih => exact Conn.trans (Conn.step (Conn.refl _) e.symm) ih

theorem Conn.same {a b : Nat} (h : Conn H rowDead colDead sPar qPar rep a b) : rep a = rep b := by
  induction h with
  | refl => rfl
  | step _ e ih => exact ih.trans e.same

theorem Conn.live {a b : Nat} (h : Conn H rowDead colDead sPar qPar rep a b) (ha : sPar a ≠ -1) :
    sPar b ≠ -1 := by
  induction h with
  | refl => exact ha
  | step _ e _ => exact e.lv

theorem Conn.lift {rowDead' colDead' : Nat → Bool} {sPar' qPar' : Nat → Int} {rep' : Nat → Nat}
    (hl : ∀ u q v, EdgeOK H rowDead colDead sPar qPar rep u q v →
      EdgeOK H rowDead' colDead' sPar' qPar' rep' u q v)
    {a b : Nat} (h : Conn H rowDead colDead sPar qPar rep a b) :
    Conn H rowDead' colDead' sPar' qPar' rep' a b := by
  induction h with
  | refl => exact Conn.refl _
  | step _ e ih => exact Conn.step ih (hl _ _ _ e)

end

/-- invariant of the `while smallest_cluster` loop and of the loop over the fusion set -/
structure GInv (H : Mat) (sy : Vec) (st : GState) (rep d : Nat → Nat) : Prop where
  uf : UFInv H.length st.sPar rep d
  fi : FInv H.length sy st.sPar rep st.forest
  nbad : st.bad = false
  conn : ∀ i, st.sPar i ≠ -1 → Conn H st.rowDead st.colDead st.sPar st.qPar rep (rep i) i
  qrng : ∀ q, st.qPar q = -1 ∨ ∃ x : Nat, st.qPar q = (x : Int) ∧ st.sPar x ≠ -1

theorem GInv_sched {H : Mat} {sy : Vec} {st : GState} {rep d : Nat → Nat}
    (I : GInv H sy st rep d) (sc : Sched) : GInv H sy { st with sched := sc } rep d :=
  ⟨I.uf, I.fi, I.nbad, I.conn, I.qrng⟩

/-- the rows of column `q` whose entry in `_H_to_grow` has been zeroed
    (`(H[:, q] - _H_to_grow[:, q]).nonzero()[0]`) -/
def grownRows (H : Mat) (st : GState) (q : Nat) : List Nat :=
  (List.range H.length).filter fun s => hb H s q && !live H st.rowDead st.colDead s q

theorem mem_grownRows {H : Mat} {st : GState} {q s : Nat} :
    s ∈ grownRows H st q ↔ grown H st.rowDead st.colDead s q = true := by
  unfold grownRows
  rw [mem_filter_range]
  exact ⟨fun h => h.2, fun h => ⟨hb_lt ((grown_iff ..).mp h).1, h⟩⟩

theorem fuseStep_eq (H : Mat) (st : GState) (qi : Int) : fuseStep H st qi =
    { st with sPar := (mergeClusters H.length st.sPar st.forest (grownRows H st qi.toNat)).2.1,
              forest := (mergeClusters H.length st.sPar st.forest (grownRows H st qi.toNat)).2.2.1,
              bad := st.bad || (mergeClusters H.length st.sPar st.forest (grownRows H st qi.toNat)).2.2.2,
              qPar := fun i => if i = qi.toNat
                then (mergeClusters H.length st.sPar st.forest (grownRows H st qi.toNat)).1
                else st.qPar i } := rfl

/-- **`_q_parents[q] = merge_clusters(grown rows of q)` preserves the invariant**; the
    specification of the merge is exported for the termination argument -/
theorem fuse_spec {H : Mat} {sy : Vec} {st : GState} {rep d : Nat → Nat} (I : GInv H sy st rep d)
    (qi : Int) : ∃ rep' d', GInv H sy (fuseStep H st qi) rep' d' ∧
      MergeSpec H.length sy st.sPar rep st.forest (grownRows H st qi.toNat)
        ((fuseStep H st qi).qPar qi.toNat) (fuseStep H st qi).sPar (fuseStep H st qi).forest rep' d' ∧
      (fuseStep H st qi).rowDead = st.rowDead ∧ (fuseStep H st qi).colDead = st.colDead := by
  obtain ⟨rep', d', M, hbad⟩ := mergeClusters_spec I.uf I.fi (grownRows H st qi.toNat)
    (fun s hs => hb_lt ((grown_iff ..).mp (mem_grownRows.mp hs)).1) ((List.nodup_range).filter _)
  rw [fuseStep_eq]
  generalize mergeClusters H.length st.sPar st.forest (grownRows H st qi.toNat) = r at M hbad
  obtain ⟨rt, sp', forest', bad'⟩ := r
  simp only [] at M hbad ⊢
  subst hbad
  -- old edges stay edges; an old edge over the fused column has its ends in the tree of `rt`
  have hlift : ∀ u q v, EdgeOK H st.rowDead st.colDead st.sPar st.qPar rep u q v →
      EdgeOK H st.rowDead st.colDead sp'
        (fun i => if i = qi.toNat then rt else st.qPar i) rep' u q v := by
    intro u q v e
    refine ⟨e.gu, e.gv, M.live_mono u e.lu, M.live_mono v e.lv, M.coarse u v e.lu e.lv e.same, ?_⟩
    by_cases hq : q = qi.toNat
    · have hu : u ∈ grownRows H st qi.toNat := mem_grownRows.mpr (hq ▸ e.gu)
      obtain ⟨b, hrt, hbroot, hall, _⟩ := M.merged ⟨u, hu, e.lu⟩
      exact ⟨b, (if_pos hq).trans hrt, by rw [hbroot]; omega,
        (M.uf.root_rep b hbroot).trans (hall u hu).2.symm⟩
    · obtain ⟨x, h1, h2, h3⟩ := e.qp
      exact ⟨x, (if_neg hq).trans h1, M.live_mono x h2, M.coarse x u h2 e.lu h3⟩
  have hrt : rt = -1 ∨ ∃ x : Nat, rt = (x : Int) ∧ sp' x ≠ -1 := by
    by_cases hlive : ∃ s, s ∈ grownRows H st qi.toNat ∧ st.sPar s ≠ -1
    · obtain ⟨b, hrt, hbroot, _⟩ := M.merged hlive
      exact Or.inr ⟨b, hrt, by rw [hbroot]; omega⟩
    · exact Or.inl (M.none fun s hs => by by_contra h; exact hlive ⟨s, hs, h⟩).1
  refine ⟨rep', d', ⟨M.uf, M.fi, by simp [I.nbad], ?_, ?_⟩, by simpa using M, trivial, trivial⟩
  · intro i hi
    show Conn H st.rowDead st.colDead sp' (fun i => if i = qi.toNat then rt else st.qPar i) rep'
      (rep' i) i
    by_cases hlive : ∃ s, s ∈ grownRows H st qi.toNat ∧ st.sPar s ≠ -1
    · -- some grown row already belongs to a tree: everything adjacent to `q` is merged into `b`
      obtain ⟨b, hrt, hbroot, hall, sb, hsb, hsbl, hsbr⟩ := M.merged hlive
      -- `b` reaches every grown row: through the old tree of `sb`, then along the column
      have hb_s : ∀ s, s ∈ grownRows H st qi.toNat → Conn H st.rowDead st.colDead sp'
          (fun i => if i = qi.toNat then rt else st.qPar i) rep' b s := by
        intro s hs
        have h1 := (I.conn sb hsbl).lift hlift
        rw [hsbr] at h1
        have h2 := hall s hs
        have h3 := hall sb hsb
        exact Conn.step h1 ⟨mem_grownRows.mp hsb, mem_grownRows.mp hs, h3.1, h2.1,
          h3.2.trans h2.2.symm, b, (if_pos rfl).trans hrt, by rw [hbroot]; omega,
          (M.uf.root_rep b hbroot).trans h3.2.symm⟩
      by_cases hold : st.sPar i = -1
      · have his := M.newlive i hold hi
        rw [(hall i his).2]; exact hb_s i his
      · have hc := (I.conn i hold).lift hlift
        rcases M.frame i hold with h | ⟨s, hs, hsl, hsr⟩
        · rw [h]; exact hc
        · -- the tree of `i` was merged: go through `s`
          rw [M.coarse i s hold hsl hsr.symm, (hall s hs).2]
          have h2 := (I.conn s hsl).lift hlift
          rw [hsr] at h2
          exact (hb_s s hs).trans (h2.symm.trans hc)
    · -- nothing to merge: no tree changes
      have hall : ∀ s, s ∈ grownRows H st qi.toNat → st.sPar s = -1 := fun s hs => by
        by_contra h; exact hlive ⟨s, hs, h⟩
      have hold : st.sPar i ≠ -1 := fun h => hi (((M.none hall).2 i).mpr h)
      rcases M.frame i hold with h | ⟨s, hs, hsl, _⟩
      · rw [h]; exact (I.conn i hold).lift hlift
      · exact absurd (hall s hs) hsl
  · intro q
    by_cases hq : q = qi.toNat
    · simpa only [if_pos hq] using hrt
    · simp only [if_neg hq]
      rcases I.qrng q with h | ⟨x, h1, h2⟩
      · exact Or.inl h
      · exact Or.inr ⟨x, h1, M.live_mono x h2⟩

end Panqec.UF
