/-
Lemmas about `Model/Sim.lean`: the `DirectSimulation` state machine
(accounting invariants, composition of `run` calls, dependence on the variate stream).
Core Lean only.
-/
import PanqecVerif.Model.Sim
import PanqecVerif.Proofs.RowCombos

namespace Panqec.Sim

open Panqec

theorem measureSyndrome_vxor (H : List (List Nat)) (e f : List Nat) (h : e.length = f.length) :
    measureSyndrome H (vxor e f) = vxor (measureSyndrome H e) (measureSyndrome H f) := by
  rw [measureSyndrome_eq, measureSyndrome_eq, measureSyndrome_eq]
  induction H with
  | nil => simp [vxor]
  | cons r H ih =>
    simp only [List.map_cons]
    simp only [vxor, vadd_cons, List.map_cons] at ih ⊢
    rw [ih]
    have hs : symp r (List.map (fun x => x % 2) (vadd e f)) = (symp r e + symp r f) % 2 :=
      symp_vxor_right r e f h
    rw [hs]

theorem step_ok (cfg : Config) (u : Nat → Rat) (s : State) (h : rateOk cfg.rate = true) :
    step cfg u s = .ok
      { nRuns := s.nRuns + 1
        effectiveError := s.effectiveError ++
          [(classify cfg.dt cfg.code (generate cfg.probs u s.pos) (cfg.decode s.nRuns)).effectiveError]
        success := s.success ++
          [(classify cfg.dt cfg.code (generate cfg.probs u s.pos) (cfg.decode s.nRuns)).success]
        codespace := s.codespace ++
          [(classify cfg.dt cfg.code (generate cfg.probs u s.pos) (cfg.decode s.nRuns)).codespace]
        pos := s.pos + cfg.probs.length } := by
  simp [step, runOnce, h]

theorem step_err (cfg : Config) (u : Nat → Rat) (s : State) (h : rateOk cfg.rate = false) :
    step cfg u s = .error .rate := by
  simp [step, runOnce, h]

theorem step_rateOk {cfg : Config} {u : Nat → Rat} {s s' : State} (h : step cfg u s = .ok s') :
    rateOk cfg.rate = true := by
  cases hr : rateOk cfg.rate
  · rw [step_err cfg u s hr] at h; cases h
  · rfl

theorem run_succ_inv {cfg : Config} {u : Nat → Rat} {k : Nat} {s s' : State}
    (h : run cfg u (k + 1) s = .ok s') : ∃ s1, step cfg u s = .ok s1 ∧ run cfg u k s1 = .ok s' := by
  unfold run at h
  split at h
  · cases h
  · exact ⟨_, ‹_›, h⟩

theorem run_ok_of_rateOk (cfg : Config) (u : Nat → Rat) (h : rateOk cfg.rate = true) :
    ∀ (k : Nat) (s : State), ∃ s', run cfg u k s = .ok s'
  | 0, s => ⟨s, rfl⟩
  | k + 1, s => by
    simp only [run, step_ok cfg u s h]
    exact run_ok_of_rateOk cfg u h k _

/-- `k + 1`: `run(0)` is a no-op and does not look at the rate -/
theorem run_err_of_not_rateOk (cfg : Config) (u : Nat → Rat) (h : rateOk cfg.rate = false)
    (k : Nat) (s : State) : run cfg u (k + 1) s = .error .rate := by
  simp [run, step_err cfg u s h]

theorem run_zero (cfg : Config) (u : Nat → Rat) (s : State) : run cfg u 0 s = .ok s := rfl

theorem run_add (cfg : Config) (u : Nat → Rat) : ∀ (a b : Nat) (s : State),
    run cfg u (a + b) s = (match run cfg u a s with
      | .error e => .error e
      | .ok s' => run cfg u b s')
  | 0, b, s => by simp [run]
  | a + 1, b, s => by
    have : a + 1 + b = (a + b) + 1 := by omega
    rw [this]
    simp only [run]
    cases step cfg u s with
    | error e => rfl
    | ok s' => exact run_add cfg u a b s'

theorem runs_eq_run (cfg : Config) (u : Nat → Rat) : ∀ (ks : List Nat) (s : State),
    runs cfg u ks s = run cfg u ks.sum s
  | [], _ => rfl
  | k :: ks, s => by
    rw [List.sum_cons, run_add, runs]
    cases run cfg u k s with
    | error e => rfl
    | ok s' => exact runs_eq_run cfg u ks s'

/-- the accounting invariant: the three lists have length `n_runs`, and the generator has
    been read `n` times per trial -/
structure State.Wf (n : Nat) (s : State) : Prop where
  eff : s.effectiveError.length = s.nRuns
  suc : s.success.length = s.nRuns
  cod : s.codespace.length = s.nRuns
  pos : s.pos = n * s.nRuns

theorem init_wf (n : Nat) : State.init.Wf n := ⟨rfl, rfl, rfl, by simp [State.init]⟩

theorem step_wf (cfg : Config) (u : Nat → Rat) (s s' : State) (hs : s.Wf cfg.probs.length)
    (h : step cfg u s = .ok s') : s'.Wf cfg.probs.length ∧ s'.nRuns = s.nRuns + 1 := by
  rw [step_ok cfg u s (step_rateOk h)] at h
  cases h
  exact ⟨⟨by simp [hs.eff], by simp [hs.suc], by simp [hs.cod], by simp [hs.pos, Nat.mul_add]⟩, rfl⟩

theorem run_wf (cfg : Config) (u : Nat → Rat) : ∀ (k : Nat) (s s' : State),
    s.Wf cfg.probs.length → run cfg u k s = .ok s' →
    s'.Wf cfg.probs.length ∧ s'.nRuns = s.nRuns + k
  | 0, s, s', hs, h => by cases h; exact ⟨hs, rfl⟩
  | k + 1, s, s', hs, h => by
    obtain ⟨s1, hst, h⟩ := run_succ_inv h
    have h1 := step_wf cfg u s s1 hs hst
    have h2 := run_wf cfg u k s1 s' h1.1 h
    exact ⟨h2.1, by omega⟩

theorem count_not_add_count (l : List Bool) :
    (l.map (!·)).count true + l.count true = l.length := by
  induction l with
  | nil => rfl
  | cons b l ih => cases b <;> simp <;> omega

theorem genPaulis_congr : ∀ (probs : List QubitProbs) (u u' : Nat → Rat) (pos : Nat),
    (∀ i, pos ≤ i → i < pos + probs.length → u i = u' i) →
    genPaulis probs u pos = genPaulis probs u' pos
  | [], _, _, _, _ => rfl
  | q :: qs, u, u', pos, h => by
    simp only [genPaulis]
    rw [h pos (Nat.le_refl _) (by simp), genPaulis_congr qs u u' (pos + 1)]
    intro i h1 h2
    exact h i (by omega) (by simp only [List.length_cons]; omega)

theorem generate_congr (probs : List QubitProbs) (u u' : Nat → Rat) (pos : Nat)
    (h : ∀ i, pos ≤ i → i < pos + probs.length → u i = u' i) :
    generate probs u pos = generate probs u' pos := by
  unfold generate; rw [genPaulis_congr probs u u' pos h]

theorem step_congr (cfg : Config) (u u' : Nat → Rat) (s : State)
    (h : ∀ i, s.pos ≤ i → i < s.pos + cfg.probs.length → u i = u' i) :
    step cfg u s = step cfg u' s := by
  unfold step runOnce
  rw [generate_congr cfg.probs u u' s.pos h]

theorem step_pos (cfg : Config) (u : Nat → Rat) (s s' : State) (h : step cfg u s = .ok s') :
    s'.pos = s.pos + cfg.probs.length := by
  rw [step_ok cfg u s (step_rateOk h)] at h
  cases h
  rfl

theorem run_congr (cfg : Config) (u u' : Nat → Rat) : ∀ (k : Nat) (s : State),
    (∀ i, s.pos ≤ i → i < s.pos + k * cfg.probs.length → u i = u' i) →
    run cfg u k s = run cfg u' k s
  | 0, _, _ => rfl
  | k + 1, s, h => by
    simp only [run]
    have hst : step cfg u s = step cfg u' s :=
      step_congr cfg u u' s fun i h1 h2 => h i h1 (by rw [Nat.add_mul]; omega)
    rw [← hst]
    cases hs : step cfg u s with
    | error e => rfl
    | ok s1 =>
      have hp := step_pos cfg u s s1 hs
      apply run_congr cfg u u' k s1
      intro i h1 h2
      apply h i (by omega)
      rw [Nat.add_mul]; omega

end Panqec.Sim
