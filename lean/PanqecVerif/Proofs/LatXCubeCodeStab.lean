/-
XCubeCode lattice model: for sizes ≥ 2 the twelve (four) wrapped neighbours of a cube (vertex) are
distinct qubits, hence `get_stabilizer` is the constant-letter operator on them.
-/
import PanqecVerif.Proofs.LatXCubeCodeBasics
open Panqec Panqec.Lat3Db
namespace Panqec.XCubeCode

theorem nodup_cubeLocs (Lx Ly Lz : Nat) (x y z : Int) (hx : 2 ≤ Lx) (hy : 2 ≤ Ly) (hz : 2 ≤ Lz)
    (h : SC Lx Ly Lz x y z) : (cubeLocs Lx Ly Lz x y z).Nodup := by
  unfold SC R1 at h
  have ux := up_spec (2*Lx) x
  have uy := up_spec (2*Ly) y
  have uz := up_spec (2*Lz) z
  unfold cubeLocs
  generalize up (2*Lx) x = xu at ux ⊢
  generalize up (2*Ly) y = yu at uy ⊢
  generalize up (2*Lz) z = zu at uz ⊢
  have hxu : xu ≠ x - 1 ∧ xu ≠ x := by omega
  have hyu : yu ≠ y - 1 ∧ yu ≠ y := by omega
  have hzu : zu ≠ z - 1 ∧ zu ≠ z := by omega
  clear ux uy uz h
  simp
  omega

theorem Placed.nodup_star {Lx Ly Lz Lo Lu Lw : Nat} {e : Int → Int → Int → Coord}
    (hp : Placed Lx Ly Lz e Lo Lu Lw) (h2o : 2 ≤ Lo) (h2w : 2 ≤ Lw) {o u w : Int}
    (ho : R0 (2*Lo) o) (hw : R0 (2*Lw) w) : (star Lo Lw e o u w).Nodup := by
  unfold R0 at ho hw
  have d1 := dn_spec (2*Lo) o
  have d2 := dn_spec (2*Lw) w
  unfold star
  simp only [List.nodup_cons, List.mem_cons, List.not_mem_nil, or_false, not_or, not_false_eq_true,
    List.nodup_nil, and_true]
  refine ⟨⟨fun h => ?_, fun h => ?_, fun h => ?_⟩, ⟨fun h => ?_, fun h => ?_⟩, fun h => ?_⟩ <;>
    have := hp.inj h <;> omega

theorem nodup_faceLocsX (Lx Ly Lz : Nat) (x y z : Int) (hy : 2 ≤ Ly) (hz : 2 ≤ Lz)
    (h : SVx Lx Ly Lz x y z) : (faceLocsX Lx Ly Lz x y z).Nodup :=
  (Placed.yxz (Lx := Lx)).nodup_star hy hz h.2.1 h.2.2

theorem nodup_faceLocsY (Lx Ly Lz : Nat) (x y z : Int) (hx : 2 ≤ Lx) (hz : 2 ≤ Lz)
    (h : SVx Lx Ly Lz x y z) : (faceLocsY Lx Ly Lz x y z).Nodup :=
  (Placed.xyz (Ly := Ly)).nodup_star hx hz h.1 h.2.2

theorem nodup_faceLocsZ (Lx Ly Lz : Nat) (x y z : Int) (hx : 2 ≤ Lx) (hy : 2 ≤ Ly)
    (h : SVx Lx Ly Lz x y z) : (faceLocsZ Lx Ly Lz x y z).Nodup :=
  (Placed.xzy (Lz := Lz)).nodup_star hx hy h.1 h.2.1

theorem cubeLocs_qubits (Lx Ly Lz : Nat) (x y z : Int) (h : SC Lx Ly Lz x y z) :
    ∀ q ∈ cubeLocs Lx Ly Lz x y z, isQubit Lx Ly Lz q = true := by
  obtain ⟨hx, hy, hz⟩ := h
  have ux := up_R0 (2*Lx) x (by omega) hx
  have uy := up_R0 (2*Ly) y (by omega) hy
  have uz := up_R0 (2*Lz) z (by omega) hz
  have px := pred_R0 (2*Lx) x hx
  have py := pred_R0 (2*Ly) y hy
  have pz := pred_R0 (2*Lz) z hz
  intro q hq
  simp only [cubeLocs, List.mem_cons, List.not_mem_nil, or_false] at hq
  rcases hq with rfl | rfl | rfl | rfl | rfl | rfl | rfl | rfl | rfl | rfl | rfl | rfl <;>
    (rw [isQubit_iff]; unfold QX QY QZ; simp only [*, and_self, true_or, or_true])

theorem Placed.star_qubits {Lx Ly Lz Lo Lu Lw : Nat} {e : Int → Int → Int → Coord}
    (hp : Placed Lx Ly Lz e Lo Lu Lw) {o u w : Int} (ho : R0 (2*Lo) o) (hu : R0 (2*Lu) u)
    (hw : R0 (2*Lw) w) : ∀ q ∈ star Lo Lw e o u w, isQubit Lx Ly Lz q = true := by
  intro q hq
  simp only [star, List.mem_cons, List.not_mem_nil, or_false] at hq
  rw [isQubit, List.contains_iff_mem]
  rcases hq with rfl | rfl | rfl | rfl
  · exact hp.qubit (succ_R1 _ o (by omega) ho) hu hw
  · exact hp.qubit (dn_R1 _ o (by omega) ho) hu hw
  · exact hp.flip.qubit (succ_R1 _ w (by omega) hw) hu ho
  · exact hp.flip.qubit (dn_R1 _ w (by omega) hw) hu ho

theorem faceLocsX_qubits (Lx Ly Lz : Nat) (x y z : Int) (h : SVx Lx Ly Lz x y z) :
    ∀ q ∈ faceLocsX Lx Ly Lz x y z, isQubit Lx Ly Lz q = true :=
  Placed.yxz.star_qubits h.2.1 h.1 h.2.2

theorem faceLocsY_qubits (Lx Ly Lz : Nat) (x y z : Int) (h : SVx Lx Ly Lz x y z) :
    ∀ q ∈ faceLocsY Lx Ly Lz x y z, isQubit Lx Ly Lz q = true :=
  Placed.xyz.star_qubits h.1 h.2.1 h.2.2

theorem faceLocsZ_qubits (Lx Ly Lz : Nat) (x y z : Int) (h : SVx Lx Ly Lz x y z) :
    ∀ q ∈ faceLocsZ Lx Ly Lz x y z, isQubit Lx Ly Lz q = true :=
  Placed.xzy.star_qubits h.1 h.2.2 h.2.1

theorem isStab_cube (Lx Ly Lz : Nat) (x y z : Int) (h : SC Lx Ly Lz x y z) : isStab Lx Ly Lz [x, y, z] = true := by
  unfold isStab; rw [List.contains_iff_mem, mem_stabs_cube]; exact h

theorem isStab_face (Lx Ly Lz : Nat) (ax x y z : Int) (ha : ax = 0 ∨ ax = 1 ∨ ax = 2) (h : SVx Lx Ly Lz x y z) :
    isStab Lx Ly Lz [ax, x, y, z] = true := by
  unfold isStab; rw [List.contains_iff_mem, mem_stabs_face]; exact ⟨ha, h⟩

theorem getStab_cube (Lx Ly Lz : Nat) (x y z : Int) (hx : 2 ≤ Lx) (hy : 2 ≤ Ly) (hz : 2 ≤ Lz)
    (h : SC Lx Ly Lz x y z) :
    getStab Lx Ly Lz [x, y, z] = constOp (cubeLocs Lx Ly Lz x y z) Pauli.Z := by
  unfold getStab getStab?
  simp only [isStab_cube Lx Ly Lz x y z h, Bool.not_true, Bool.false_eq_true, if_false, Option.getD_some,
    map_cubeDelta Lx Ly Lz x y z h]
  rw [buildOp_eq _ _ _ (nodup_cubeLocs Lx Ly Lz x y z hx hy hz h), List.filter_eq_self.mpr (cubeLocs_qubits Lx Ly Lz x y z h)]

theorem getStab_faceX (Lx Ly Lz : Nat) (x y z : Int) (hy : 2 ≤ Ly) (hz : 2 ≤ Lz) (h : SVx Lx Ly Lz x y z) :
    getStab Lx Ly Lz [0, x, y, z] = constOp (faceLocsX Lx Ly Lz x y z) Pauli.X := by
  unfold getStab getStab?
  simp only [isStab_face Lx Ly Lz 0 x y z (Or.inl rfl) h, Bool.not_true, Bool.false_eq_true, if_false,
    Option.getD_some, beq_self_eq_true, if_true, map_faceDeltaX Lx Ly Lz x y z h]
  rw [buildOp_eq _ _ _ (nodup_faceLocsX Lx Ly Lz x y z hy hz h), List.filter_eq_self.mpr (faceLocsX_qubits Lx Ly Lz x y z h)]

theorem getStab_faceY (Lx Ly Lz : Nat) (x y z : Int) (hx : 2 ≤ Lx) (hz : 2 ≤ Lz) (h : SVx Lx Ly Lz x y z) :
    getStab Lx Ly Lz [1, x, y, z] = constOp (faceLocsY Lx Ly Lz x y z) Pauli.X := by
  unfold getStab getStab?
  have e : ((1 : Int) == 0) = false := by decide
  simp only [isStab_face Lx Ly Lz 1 x y z (Or.inr (Or.inl rfl)) h, Bool.not_true, Bool.false_eq_true, if_false,
    Option.getD_some, beq_self_eq_true, if_true, e, map_faceDeltaY Lx Ly Lz x y z h]
  rw [buildOp_eq _ _ _ (nodup_faceLocsY Lx Ly Lz x y z hx hz h), List.filter_eq_self.mpr (faceLocsY_qubits Lx Ly Lz x y z h)]

theorem getStab_faceZ (Lx Ly Lz : Nat) (x y z : Int) (hx : 2 ≤ Lx) (hy : 2 ≤ Ly) (h : SVx Lx Ly Lz x y z) :
    getStab Lx Ly Lz [2, x, y, z] = constOp (faceLocsZ Lx Ly Lz x y z) Pauli.X := by
  unfold getStab getStab?
  have e : ((2 : Int) == 0) = false := by decide
  have e' : ((2 : Int) == 1) = false := by decide
  simp only [isStab_face Lx Ly Lz 2 x y z (Or.inr (Or.inr rfl)) h, Bool.not_true, Bool.false_eq_true, if_false,
    Option.getD_some, e, e', map_faceDeltaZ Lx Ly Lz x y z h]
  rw [buildOp_eq _ _ _ (nodup_faceLocsZ Lx Ly Lz x y z hx hy h), List.filter_eq_self.mpr (faceLocsZ_qubits Lx Ly Lz x y z h)]

end Panqec.XCubeCode
