/-
Color666ToricCode, square sizes `L ≥ 1`: frames and zig-zags of qubits in face coordinates.

A FRAME `f` relabels the faces of the `3L × 3L` torus (`f = false`: the face coordinates `(a, j)`;
`f = true`: the picture rotated by 240° — face `(a, j)` of the frame is the face `(j, −a−j)`) so
that the six corners of the face `(a, j)` of the frame are, in both frames,
`fR a j, fL a j, fL (a+1) j, fL (a+1) (j−1), fR (a−1) (j+1), fR (a−1) j` (`cornersF`).  One argument
then covers the strings `kC`, `kD` (vertical zig-zags, `f = false`) and `kA`, `kB` (zig-zags along
the anti-diagonal, `f = true`).

The zig-zag `zigK c t` of a frame consists of the blocks `fR t J, fL (t+1) J, fL (t+1) (J+1),
fR t (J+2)` with `J = t + c + 3i`, `i < L` (`4L` distinct qubits).
-/
import PanqecVerif.Proofs.LatColor666ToricCodeQubits

namespace Panqec.Color666ToricCode
open Panqec.Lat2D Panqec.Color

/-- the right corner of the face `(a, j)` of the frame `f` -/
def fR (L : Nat) (f : Bool) (a j : Int) : Coord := if f then qR L (j - 1) (-a - j) else qR L a j
/-- the left corner of the face `(a, j)` of the frame `f` -/
def fL (L : Nat) (f : Bool) (a j : Int) : Coord := if f then qL L (j + 1) (-a - j) else qL L a j

/-- the relabelling `(a, j) ↦ (j + k, −a − j)` of the frame `true` respects congruence modulo `3L` -/
theorem cg_frame {L : Nat} {a j a' j' u u' v v' : Int} (hu : u' - u = j' - j)
    (hv : v' - v = -(a' - a) - (j' - j)) :
    (Cg L (u' - u) ∧ Cg L (v' - v)) ↔ (Cg L (a' - a) ∧ Cg L (j' - j)) := by
  rw [hu, hv]
  constructor
  · rintro ⟨h1, h2⟩
    exact ⟨((h1.add h2).neg).congr (by ring), h1⟩
  · rintro ⟨h1, h2⟩
    exact ⟨h2, (h1.neg.sub h2).congr (by ring)⟩

theorem fR_eq_iff {L : Nat} (hL : 1 ≤ L) (f : Bool) (a j a' j' : Int) :
    fR L f a j = fR L f a' j' ↔ (Cg L (a' - a) ∧ Cg L (j' - j)) := by
  cases f
  · exact qR_eq_iff hL a j a' j'
  · exact (qR_eq_iff hL _ _ _ _).trans (cg_frame (by ring) (by ring))

theorem fL_eq_iff {L : Nat} (hL : 1 ≤ L) (f : Bool) (a j a' j' : Int) :
    fL L f a j = fL L f a' j' ↔ (Cg L (a' - a) ∧ Cg L (j' - j)) := by
  cases f
  · exact qL_eq_iff hL a j a' j'
  · exact (qL_eq_iff hL _ _ _ _).trans (cg_frame (by ring) (by ring))

theorem fR_ne_fL {L : Nat} (hL : 1 ≤ L) (f : Bool) (a j a' j' : Int) :
    fR L f a j ≠ fL L f a' j' := by
  cases f <;> exact qR_ne_qL hL _ _ _ _

theorem fR_qubit {L : Nat} (hL : 1 ≤ L) (f : Bool) (a j : Int) : fR L f a j ∈ qubits L L := by
  cases f <;> exact qR_qubit hL _ _

theorem fL_qubit {L : Nat} (hL : 1 ≤ L) (f : Bool) (a j : Int) : fL L f a j ∈ qubits L L := by
  cases f <;> exact qL_qubit hL _ _

theorem fR_congr {L : Nat} (hL : 1 ≤ L) (f : Bool) {a j a' j' : Int} (h1 : Cg L (a' - a))
    (h2 : Cg L (j' - j)) : fR L f a j = fR L f a' j' := (fR_eq_iff hL f a j a' j').mpr ⟨h1, h2⟩
theorem fL_congr {L : Nat} (hL : 1 ≤ L) (f : Bool) {a j a' j' : Int} (h1 : Cg L (a' - a))
    (h2 : Cg L (j' - j)) : fL L f a j = fL L f a' j' := (fL_eq_iff hL f a j a' j').mpr ⟨h1, h2⟩

theorem fR_true (L : Nat) (a j : Int) : fR L true a j = fR L false (j - 1) (-a - j) := by
  simp [fR]
theorem fL_true (L : Nat) (a j : Int) : fL L true a j = fL L false (j + 1) (-a - j) := by
  simp [fL]
theorem fR_false (L : Nat) (a j : Int) : fR L false a j = fR L true (-a - j - 1) (a + 1) := by
  simp only [fR, Bool.false_eq_true, if_false, if_true]
  rw [show a + 1 - 1 = a by ring, show -(-a - j - 1) - (a + 1) = j by ring]
theorem fL_false (L : Nat) (a j : Int) : fL L false a j = fL L true (-a - j + 1) (a - 1) := by
  simp only [fL, Bool.false_eq_true, if_false, if_true]
  rw [show a - 1 + 1 = a by ring, show -(-a - j + 1) - (a - 1) = j by ring]

def cornersF (L : Nat) (f : Bool) (a j : Int) : List Coord :=
  [fR L f a j, fL L f a j, fL L f (a + 1) j, fL L f (a + 1) (j - 1), fR L f (a - 1) (j + 1),
   fR L f (a - 1) j]

theorem corners_frame (L : Nat) (f : Bool) (a j : Int) (p : Coord → Bool) :
    (corners L (if f then j else a) (if f then -a - j else j)).countP p =
      (cornersF L f a j).countP p := by
  cases f
  · simp only [Bool.false_eq_true, if_false, corners, cornersF, fR, fL, List.countP_cons,
      List.countP_nil]
    omega
  · simp only [if_true, corners, cornersF, fR, fL, List.countP_cons, List.countP_nil]
    rw [show -(a + 1) - j = -a - j - 1 by ring, show -(a + 1) - (j - 1) = -a - j by ring,
      show j - 1 + 1 = j by ring, show -(a - 1) - (j + 1) = -a - j by ring,
      show j + 1 - 1 = j by ring, show -(a - 1) - j = -a - j + 1 by ring]
    omega

theorem isF_of_faceF {L : Nat} (hL : 1 ≤ L) (f : Bool) (a j : Int) :
    ∃ x y, IsF L x y ∧ ∀ p, (supp L x y).countP p = (cornersF L f a j).countP p := by
  obtain ⟨x, y, hf, hs⟩ := isF_of_face hL (if f then j else a) (if f then -a - j else j)
  exact ⟨x, y, hf, fun p => by rw [hs, corners_frame]⟩

theorem faceF_of_isF {L : Nat} (hL : 1 ≤ L) (f : Bool) {x y : Int} (hf : IsF L x y) :
    ∃ a j, ∀ p, (supp L x y).countP p = (cornersF L f a j).countP p := by
  obtain ⟨a0, j0, hs⟩ := face_of_isF hL hf
  cases f
  · exact ⟨a0, j0, fun p => by rw [hs, ← corners_frame L false a0 j0]; rfl⟩
  · refine ⟨-a0 - j0, a0, fun p => ?_⟩
    rw [hs, ← corners_frame L true (-a0 - j0) a0]
    simp only [if_true]
    rw [show -(-a0 - j0) - a0 = j0 by ring]


def zigK (L : Nat) (f : Bool) (c t : Int) : List Coord :=
  (List.range L).flatMap fun (i : Nat) =>
    [fR L f t (t + c + 3 * (i : Int)), fL L f (t + 1) (t + c + 3 * (i : Int)),
     fL L f (t + 1) (t + c + 3 * (i : Int) + 1), fR L f t (t + c + 3 * (i : Int) + 2)]


theorem length_zigK (L : Nat) (f : Bool) (c t : Int) : (zigK L f c t).length = 4 * L := by
  unfold zigK
  rw [length_flatMap_const _ _ 4 (fun _ _ => rfl), List.length_range, Nat.mul_comm]


theorem mem_zigK {L : Nat} {f : Bool} {c t : Int} {q : Coord} :
    q ∈ zigK L f c t ↔ ∃ (i : Nat) (d : Int), i < L ∧
      ((q = fR L f t (t + c + 3 * (i : Int) + d) ∧ (d = 0 ∨ d = 2)) ∨
       (q = fL L f (t + 1) (t + c + 3 * (i : Int) + d) ∧ (d = 0 ∨ d = 1))) := by
  unfold zigK
  simp only [List.mem_flatMap, List.mem_range, List.mem_cons, List.not_mem_nil, or_false]
  constructor
  · rintro ⟨i, hi, rfl | rfl | rfl | rfl⟩
    · exact ⟨i, 0, hi, Or.inl ⟨by rw [Int.add_zero], Or.inl rfl⟩⟩
    · exact ⟨i, 0, hi, Or.inr ⟨by rw [Int.add_zero], Or.inl rfl⟩⟩
    · exact ⟨i, 1, hi, Or.inr ⟨rfl, Or.inr rfl⟩⟩
    · exact ⟨i, 2, hi, Or.inl ⟨rfl, Or.inr rfl⟩⟩
  · rintro ⟨i, d, hi, ⟨rfl, rfl | rfl⟩ | ⟨rfl, rfl | rfl⟩⟩
    · exact ⟨i, hi, Or.inl (by rw [Int.add_zero])⟩
    · exact ⟨i, hi, Or.inr (Or.inr (Or.inr rfl))⟩
    · exact ⟨i, hi, Or.inr (Or.inl (by rw [Int.add_zero]))⟩
    · exact ⟨i, hi, Or.inr (Or.inr (Or.inl rfl))⟩


theorem zigK_qubits {L : Nat} (hL : 1 ≤ L) (f : Bool) (c t : Int) :
    ∀ q ∈ zigK L f c t, q ∈ qubits L L := by
  intro q hq
  obtain ⟨i, d, _, ⟨rfl, _⟩ | ⟨rfl, _⟩⟩ := mem_zigK.mp hq
  · exact fR_qubit hL f _ _
  · exact fL_qubit hL f _ _


theorem cg_block {L : Nat} {i i' : Nat} (hi : i < L) (hi' : i' < L) {d d' : Int}
    (hd : 0 ≤ d ∧ d < 3) (hd' : 0 ≤ d' ∧ d' < 3)
    (h : Cg L (3 * (i' : Int) + d' - (3 * (i : Int) + d))) : i = i' ∧ d = d' := by
  have h3 := h.mod3
  have e : d = d' := by omega
  subst e
  have := h.eq_zero (by omega) (by omega)
  exact ⟨by omega, rfl⟩

theorem nodup_zigK {L : Nat} (hL : 1 ≤ L) (f : Bool) (c t : Int) : (zigK L f c t).Nodup := by
  unfold zigK
  apply nodup_blocks
  · intro i _
    simp only [List.nodup_cons, List.mem_cons, List.not_mem_nil, or_false, not_or,
      not_false_eq_true, List.nodup_nil, and_true]
    refine ⟨⟨fR_ne_fL hL f _ _ _ _, fR_ne_fL hL f _ _ _ _, ?_⟩,
      ⟨?_, fun e => fR_ne_fL hL f _ _ _ _ e.symm⟩, fun e => fR_ne_fL hL f _ _ _ _ e.symm⟩
    · intro e
      have := ((fR_eq_iff hL f _ _ _ _).mp e).2.mod3
      omega
    · intro e
      have := ((fL_eq_iff hL f _ _ _ _).mp e).2.mod3
      omega
  · intro i i' hi hi' hne q hq hq'
    simp only [List.mem_cons, List.not_mem_nil, or_false] at hq hq'
    have kR : ∀ d d' : Int, (0 ≤ d ∧ d < 3) → (0 ≤ d' ∧ d' < 3) →
        fR L f t (t + c + 3 * (i : Int) + d) = fR L f t (t + c + 3 * (i' : Int) + d') → False := by
      intro d d' hd hd' e
      exact hne (cg_block hi hi' hd hd'
        (((fR_eq_iff hL f _ _ _ _).mp e).2.congr (by ring))).1
    have kL : ∀ d d' : Int, (0 ≤ d ∧ d < 3) → (0 ≤ d' ∧ d' < 3) →
        fL L f (t + 1) (t + c + 3 * (i : Int) + d) = fL L f (t + 1) (t + c + 3 * (i' : Int) + d') →
          False := by
      intro d d' hd hd' e
      exact hne (cg_block hi hi' hd hd'
        (((fL_eq_iff hL f _ _ _ _).mp e).2.congr (by ring))).1
    have z : ∀ x : Int, x = x + 0 := fun x => by omega
    rcases hq with rfl | rfl | rfl | rfl <;> rcases hq' with e | e | e | e
    · rw [z (t + c + 3 * (i : Int)), z (t + c + 3 * (i' : Int))] at e
      exact kR 0 0 (by omega) (by omega) e
    · exact fR_ne_fL hL f _ _ _ _ e
    · exact fR_ne_fL hL f _ _ _ _ e
    · rw [z (t + c + 3 * (i : Int))] at e
      exact kR 0 2 (by omega) (by omega) e
    · exact fR_ne_fL hL f _ _ _ _ e.symm
    · rw [z (t + c + 3 * (i : Int)), z (t + c + 3 * (i' : Int))] at e
      exact kL 0 0 (by omega) (by omega) e
    · rw [z (t + c + 3 * (i : Int))] at e
      exact kL 0 1 (by omega) (by omega) e
    · exact fR_ne_fL hL f _ _ _ _ e.symm
    · exact fR_ne_fL hL f _ _ _ _ e.symm
    · rw [z (t + c + 3 * (i' : Int))] at e
      exact kL 1 0 (by omega) (by omega) e
    · exact kL 1 1 (by omega) (by omega) e
    · exact fR_ne_fL hL f _ _ _ _ e.symm
    · rw [z (t + c + 3 * (i' : Int))] at e
      exact kR 2 0 (by omega) (by omega) e
    · exact fR_ne_fL hL f _ _ _ _ e
    · exact fR_ne_fL hL f _ _ _ _ e
    · exact kR 2 2 (by omega) (by omega) e

/-- the blocks of a zig-zag reach every third height -/
theorem exists_block {L : Nat} (hL : 1 ≤ L) (u : Int) :
    (∃ i : Nat, i < L ∧ Cg L (u - 3 * (i : Int))) ↔ u % 3 = 0 := by
  constructor
  · rintro ⟨i, -, h⟩
    have := h.mod3; omega
  · intro h
    have hpos : (0 : Int) < L := by omega
    have hdiv := Int.mul_ediv_add_emod (u / 3) (L : Int)
    have h0 := Int.emod_nonneg (u / 3) (show (L : Int) ≠ 0 by omega)
    have h1 := Int.emod_lt_of_pos (u / 3) hpos
    refine ⟨(u / 3 % (L : Int)).toNat, by omega, ⟨u / 3 / (L : Int), ?_⟩⟩
    rw [Int.toNat_of_nonneg h0]
    have hu : u = 3 * (u / 3) := by omega
    linear_combination hu - 3 * hdiv

theorem fR_mem_zigK {L : Nat} (hL : 1 ≤ L) (f : Bool) (c t a j : Int) :
    fR L f a j ∈ zigK L f c t ↔
      Cg L (t - a) ∧ ((j - t - c) % 3 = 0 ∨ (j - t - c) % 3 = 2) := by
  rw [mem_zigK]
  constructor
  · rintro ⟨i, d, -, ⟨e, hd⟩ | ⟨e, -⟩⟩
    · obtain ⟨h1, h2⟩ := (fR_eq_iff hL f _ _ _ _).mp e
      have := h2.mod3
      exact ⟨h1, by omega⟩
    · exact absurd e (fR_ne_fL hL f _ _ _ _)
  · rintro ⟨h1, h | h⟩
    · obtain ⟨i, hi, hc⟩ := (exists_block hL (j - t - c)).mpr h
      exact ⟨i, 0, hi, Or.inl ⟨(fR_eq_iff hL f _ _ _ _).mpr ⟨h1, hc.neg.congr (by omega)⟩, Or.inl rfl⟩⟩
    · obtain ⟨i, hi, hc⟩ := (exists_block hL (j - t - c - 2)).mpr (by omega)
      exact ⟨i, 2, hi, Or.inl ⟨(fR_eq_iff hL f _ _ _ _).mpr ⟨h1, hc.neg.congr (by omega)⟩, Or.inr rfl⟩⟩

theorem fL_mem_zigK {L : Nat} (hL : 1 ≤ L) (f : Bool) (c t a j : Int) :
    fL L f a j ∈ zigK L f c t ↔
      Cg L (t + 1 - a) ∧ ((j - t - c) % 3 = 0 ∨ (j - t - c) % 3 = 1) := by
  rw [mem_zigK]
  constructor
  · rintro ⟨i, d, -, ⟨e, -⟩ | ⟨e, hd⟩⟩
    · exact absurd e.symm (fR_ne_fL hL f _ _ _ _)
    · obtain ⟨h1, h2⟩ := (fL_eq_iff hL f _ _ _ _).mp e
      have := h2.mod3
      exact ⟨h1, by omega⟩
  · rintro ⟨h1, h | h⟩
    · obtain ⟨i, hi, hc⟩ := (exists_block hL (j - t - c)).mpr h
      exact ⟨i, 0, hi, Or.inr ⟨(fL_eq_iff hL f _ _ _ _).mpr ⟨h1, hc.neg.congr (by omega)⟩, Or.inl rfl⟩⟩
    · obtain ⟨i, hi, hc⟩ := (exists_block hL (j - t - c - 1)).mpr (by omega)
      exact ⟨i, 1, hi, Or.inr ⟨(fL_eq_iff hL f _ _ _ _).mpr ⟨h1, hc.neg.congr (by omega)⟩, Or.inr rfl⟩⟩

theorem zigK_disjoint_cols {L : Nat} (hL : 1 ≤ L) (f : Bool) (c c' t t' : Int) (h : ¬ Cg L (t' - t)) :
    ∀ q ∈ zigK L f c t, q ∈ zigK L f c' t' → False := by
  intro q hq hq'
  obtain ⟨i, d, -, ⟨rfl, -⟩ | ⟨rfl, -⟩⟩ := mem_zigK.mp hq
  · exact h ((fR_mem_zigK hL f c' t' _ _).mp hq').1
  · exact h (((fL_mem_zigK hL f c' t' _ _).mp hq').1.congr (by omega))

theorem zig_face_even {L : Nat} (hL : 1 ≤ L) (f : Bool) (c t a j : Int) :
    interCount (cornersF L f a j) (zigK L f c t) % 2 = 0 := by
  have m1 := fR_mem_zigK hL f c t a j
  have m2 := fL_mem_zigK hL f c t a j
  have m3 := fL_mem_zigK hL f c t (a + 1) j
  have m4 := fL_mem_zigK hL f c t (a + 1) (j - 1)
  have m5 := fR_mem_zigK hL f c t (a - 1) (j + 1)
  have m6 := fR_mem_zigK hL f c t (a - 1) j
  rw [show t + 1 - (a + 1) = t - a by omega] at m3 m4
  rw [show t - (a - 1) = t + 1 - a by omega] at m5 m6
  have hex : ¬ (Cg L (t - a) ∧ Cg L (t + 1 - a)) := fun h => by
    have := (h.2.sub h.1).congr (show (1 : Int) = t + 1 - a - (t - a) by omega)
    have := this.eq_zero (by omega) (by omega); omega
  have hr : (j - t - c) % 3 = 0 ∨ (j - t - c) % 3 = 1 ∨ (j - t - c) % 3 = 2 := by omega
  rw [show (j - 1 - t - c) % 3 = (j - t - c - 1) % 3 by congr 1; omega] at m4
  rw [show (j + 1 - t - c) % 3 = (j - t - c + 1) % 3 by congr 1; omega] at m5
  generalize (j - t - c) = r at *
  unfold interCount cornersF
  simp only [List.countP_cons, List.countP_nil, List.contains_eq_mem, decide_eq_true_eq, m1, m2, m3,
    m4, m5, m6]
  -- on either side of the face the zig-zag leaves out one of three corners, by the height modulo 3
  have q0 : (r % 3 = 0 ∨ r % 3 = 1) ↔ r % 3 ≠ 2 := by omega
  have q1 : (r % 3 = 0 ∨ r % 3 = 2) ↔ r % 3 ≠ 1 := by omega
  have q2 : ((r - 1) % 3 = 0 ∨ (r - 1) % 3 = 1) ↔ r % 3 ≠ 0 := by omega
  have q3 : ((r + 1) % 3 = 0 ∨ (r + 1) % 3 = 2) ↔ r % 3 ≠ 0 := by omega
  simp only [q0, q1, q2, q3]
  by_cases p0 : Cg L (t - a)
  · have p1 : ¬ Cg L (t + 1 - a) := fun h => hex ⟨p0, h⟩
    simp only [p0, p1, true_and, false_and, if_false]
    rcases hr with h | h | h <;> rw [h] <;> rfl
  · by_cases p1 : Cg L (t + 1 - a)
    · simp only [p0, p1, true_and, false_and, if_false]
      rcases hr with h | h | h <;> rw [h] <;> rfl
    · simp only [p0, p1, false_and, if_false]

end Panqec.Color666ToricCode
