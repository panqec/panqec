/-
Soundness of the kernel-efficient checker: `checkValidFast c rc = true → ValidCodeL …`
(the same conclusion as `checkValid_sound`), and what a table of accepted instances gives
(`instances_sound`).  Core Lean only.
-/
import PanqecVerif.Proofs.Mask
import PanqecVerif.Proofs.MaskBatched

namespace Panqec

theorem mem_map_unpack (w : Nat) (xs : List Nat) (a : List Nat)
    (h : a ∈ xs.map (unpackBits w)) : ∃ i, i < xs.length ∧ a = unpackBits w (xs.getD i 0) := by
  obtain ⟨x, hx, rfl⟩ := List.mem_map.mp h
  obtain ⟨i, hi, rfl⟩ := List.mem_iff_getElem.mp hx
  exact ⟨i, hi, by simp [List.getD_eq_getElem?_getD, hi]⟩

theorem zeroRows_comm (s n : Nat) (hn : 2 * n ≤ 2 ^ s) (rows ds : List Nat) (k : Nat)
    (h : zeroRows s n (2 ^ n) (repunit (2 ^ 2 ^ s) rows.length) (packLanes (2 ^ 2 ^ s) rows)
      ds k = true) :
    ∀ l ∈ ds.map (unpackBits (2 * n)), ∀ g ∈ rows.map (unpackBits (2 * n)), symp l g = 0 := by
  intro l hl g hg
  obtain ⟨d, hd, rfl⟩ := List.mem_map.mp hl
  obtain ⟨i, hi, rfl⟩ := mem_map_unpack _ _ _ hg
  rw [symp_comm]
  exact zeroRows_sound s n (2 ^ s) rfl hn rows ds k h d hd i hi

theorem rankFast_sound (n k s : Nat) (hn : 2 * n ≤ 2 ^ s) (stabs basis dual combo : List Nat)
    (hfit : ∀ r ∈ stabs, r < 2 ^ (2 * n))
    (hsub : basis.Sublist stabs)
    (hlen : basis.length + k = n)
    (hdl : dual.length = basis.length)
    (hdual : deltaRows s n (2 ^ n) (2 ^ 2 ^ s) (repunit (2 ^ 2 ^ s) basis.length)
      (packLanes (2 ^ 2 ^ s) basis) dual 0 1 = true)
    (hcl : combo.length = stabs.length)
    (hcombo : comboAcc (repunit (2 ^ 2 ^ s) stabs.length) basis (packLanes (2 ^ 2 ^ s) combo) =
      packLanes (2 ^ 2 ^ s) stabs) :
    HasRank (2 * n) (stabs.map (unpackBits (2 * n))) (n - k) := by
  have hL : 0 < 2 ^ s := Nat.two_pow_pos s
  refine ⟨basis.map (unpackBits (2 * n)), hsub.map _, by simp; omega, ?_, ?_⟩
  · -- independence from the dual certificate
    apply indep_of_dual n _ (dual.map (unpackBits (2 * n))) (wfRows_map_unpack n basis)
    · simp [hdl]
    · intro i j hi hj
      have hi' : i < basis.length := by simpa using hi
      have hj' : j < dual.length := by simpa using hj
      rw [getD_map_unpack _ _ _ hi', getD_map_unpack _ _ _ hj']
      exact deltaRows_sound0 s n (2 ^ s) rfl hn basis dual 0 hdual i j hi' hj'
  · -- every generator is a combination of the picked ones
    have hbfit : ∀ b ∈ basis, b < 2 ^ 2 ^ s := fun b hb =>
      Nat.lt_of_lt_of_le (hfit b (hsub.subset hb)) (Nat.pow_le_pow_right (by omega) hn)
    have hacc := comboAcc_eq (2 ^ s) hL combo basis 0 (by omega) hbfit
    rw [Nat.shiftRight_zero, hcl, hcombo] at hacc
    have hinj := packLanes_inj (2 ^ 2 ^ s) (Nat.two_pow_pos _) _ _ (by simp [hcl]) hacc
    intro v hv
    obtain ⟨i, hi, rfl⟩ := mem_map_unpack _ _ _ hv
    have h1 := hinj i
    rw [getD_map_zero, if_pos (by omega), Nat.shiftRight_zero] at h1
    rw [unpackBits_congr_mod (2 * n) (2 ^ s) _ _ hn h1]
    exact inSpan_unpack_xorSelect _ _ _

theorem checkValidFast_sound (c : MaskCode) (rc : RankCert) (h : checkValidFast c rc = true) :
    ValidCodeL c.n c.k (c.stabs.map (unpackBits (2 * c.n)))
      (c.logX.map (unpackBits (2 * c.n))) (c.logZ.map (unpackBits (2 * c.n))) := by
  have hn : 2 * c.n ≤ 2 ^ foldsFor (2 * c.n) := le_two_pow_foldsFor (2 * c.n)
  simp only [checkValidFast, Bool.and_eq_true, beq_iff_eq] at h
  obtain ⟨⟨⟨⟨⟨⟨⟨⟨⟨⟨⟨⟨⟨hfS, hkX⟩, hkZ⟩, hlen⟩, hSS⟩, hXS⟩, hZS⟩, hP⟩, hXX⟩, hZZ⟩, hdl⟩, hdual⟩,
    hcl⟩, hcombo⟩ := h
  have hrank := rankFast_sound c.n c.k _ hn c.stabs _ rc.dual rc.combo (rowsFit_sound _ _ hfS)
    (pickSorted_sublist c.stabs rc.basisIdx 0) hlen hdl hdual hcl hcombo
  exact {
    wfH := wfRows_map_unpack _ _
    wfX := wfRows_map_unpack _ _
    wfZ := wfRows_map_unpack _ _
    kX := by simpa using hkX
    kZ := by simpa using hkZ
    stab_comm := zeroRows_comm _ _ hn _ _ _ hSS
    logX_comm := zeroRows_comm _ _ hn _ _ _ hXS
    logZ_comm := zeroRows_comm _ _ hn _ _ _ hZS
    pairing := fun i j hi hj => by
      have hi' : i < c.logX.length := by omega
      have hj' : j < c.logZ.length := by omega
      rw [getD_map_unpack _ _ _ hi', getD_map_unpack _ _ _ hj', symp_comm,
        deltaRows_sound0 _ c.n _ rfl hn c.logZ c.logX 0 hP j i hj' hi']
      simp only [eq_comm]
    logXX := zeroRows_comm _ _ hn _ _ _ hXX
    logZZ := zeroRows_comm _ _ hn _ _ _ hZZ
    rank := hrank
    k_le := by omega }

theorem reportedDistanceFast_sound (c : MaskCode) (rc : RankCert)
    (hv : checkValidFast c rc = true) (h : reportedDistanceFast c = true) :
    distance (c.logX.map (unpackBits (2 * c.n))) (c.logZ.map (unpackBits (2 * c.n)))
      = some c.d := by
  rw [reportedDistanceFast_eq] at h
  have hV := checkValidFast_sound c rc hv
  have hX := hV.kX
  have hZ := hV.kZ
  simp only [List.length_map] at hX hZ
  exact reportedDistanceOK_sound c (by omega) h

/-- what an instance theorem `all.all (fun p => checkValidFast p.1 p.2 &&
    reportedDistanceFast p.1) = true` gives for each listed instance -/
theorem instances_sound (all : List (MaskCode × RankCert))
    (h : (all.all fun p => checkValidFast p.1 p.2 && reportedDistanceFast p.1) = true) :
    ∀ p ∈ all,
      ValidCodeL p.1.n p.1.k (p.1.stabs.map (unpackBits (2 * p.1.n)))
        (p.1.logX.map (unpackBits (2 * p.1.n))) (p.1.logZ.map (unpackBits (2 * p.1.n))) ∧
      distance (p.1.logX.map (unpackBits (2 * p.1.n))) (p.1.logZ.map (unpackBits (2 * p.1.n)))
        = some p.1.d := by
  intro p hp
  have := List.all_eq_true.mp h p hp
  simp only [Bool.and_eq_true] at this
  exact ⟨checkValidFast_sound _ _ this.1, reportedDistanceFast_sound _ _ this.1 this.2⟩

/-! ### non-vacuity -/

example : checkValidFast code422 cert422 = true := by decide
example : reportedDistanceFast code422 = true := by decide
example : checkValidFast { code422 with stabs := [0x0F, 0xF0, 0xFF] }
    { basisIdx := [0, 1], dual := [0x10, 0x01], combo := [1, 2, 3] } = true := by decide
/-- swapped logical Z's -/
example : checkValidFast { code422 with logZ := [0x30, 0x50] } cert422 = false := by decide
/-- anticommuting generators -/
example : checkValidFast { code422 with stabs := [0x0F, 0x10] } cert422 = false := by decide
/-- wrong dual certificate -/
example : checkValidFast code422 { cert422 with dual := [0x01, 0x10] } = false := by decide
/-- unsorted basis indices pick fewer rows: the count fails -/
example : checkValidFast code422 { basisIdx := [1, 0], dual := [0x01, 0x10], combo := [2, 1] }
    = false := by decide
/-- wrong combo (generator 1 claimed to be generator 0) -/
example : checkValidFast code422 { cert422 with combo := [1, 1] } = false := by decide
/-- a logical that anticommutes with a generator -/
example : checkValidFast { code422 with logX := [0x01, 0x05] } cert422 = false := by decide
example : reportedDistanceFast { code422 with d := 3 } = false := by decide

end Panqec
