/-
The geometry hypotheses of the generic C10 theorems as one decidable predicate per decoder.  The
rotated lattices satisfy it for every size; the sizes listed in `Properties/C10.lean` are stated
as instances of the hypotheses and follow from the all-sizes theorems.  The inputs of the
regression D9 (assignment update) and of the defect-face regression.
-/
import PanqecVerif.Proofs.SweepRotPlanar
import PanqecVerif.Proofs.SweepRotToric

namespace Panqec.Sweep

/-- the three decidable hypotheses of the `SweepDecoder3D` theorems -/
def GeometryOK3D (lat : Lattice) : Bool :=
  decide lat.stabs.Nodup && flipTableOK lat (flipFaces3D lat) && sweepEdgesOK3D lat

/-- the two decidable hypotheses of the `RotatedSweepDecoder3D` theorems -/
def GeometryOKRot (lat : Lattice) : Bool :=
  decide lat.stabs.Nodup && flipTableOKRot lat (flipFacesRot lat)

theorem geometryOK3D_spec (lat : Lattice) (h : GeometryOK3D lat = true) :
    lat.stabs.Nodup ∧ flipTableOK lat (flipFaces3D lat) = true ∧ sweepEdgesOK3D lat = true := by
  unfold GeometryOK3D at h
  simp only [Bool.and_eq_true, decide_eq_true_eq] at h
  exact ⟨h.1.1, h.1.2, h.2⟩

theorem geometryOKRot_spec (lat : Lattice) (h : GeometryOKRot lat = true) :
    lat.stabs.Nodup ∧ flipTableOKRot lat (flipFacesRot lat) = true := by
  unfold GeometryOKRot at h
  simp only [Bool.and_eq_true, decide_eq_true_eq] at h
  exact h

theorem geometryOKRot_of (lat : Lattice) (hnd : lat.stabs.Nodup)
    (hft : flipTableOKRot lat (flipFacesRot lat) = true) : GeometryOKRot lat = true := by
  rw [GeometryOKRot, hft, decide_eq_true hnd]
  rfl

theorem rotPlanar_geometryOK (Lx Ly Lz : Nat) : GeometryOKRot (rotPlanar3D Lx Ly Lz) = true :=
  geometryOKRot_of _ (rotPlanarStabs_nodup Lx Ly Lz) (rotPlanar_flipTableOK Lx Ly Lz)

/-- RotatedPlanar3DCode sizes named in `Properties/C10.lean` -/
def rotPlanarSizes : List (Nat × Nat × Nat) :=
  [(1, 2, 3), (2, 1, 1), (2, 2, 2), (3, 3, 2), (3, 2, 3), (3, 3, 3), (3, 4, 2)]

def rotPlanarSizesB : List (Nat × Nat × Nat) := [(4, 3, 3), (2, 3, 4), (4, 4, 2)]

-- holds for every size: the membership is not used
set_option linter.unusedVariables false in
theorem rotPlanar_geometry_all (s : Nat × Nat × Nat) (hs : s ∈ rotPlanarSizes ++ rotPlanarSizesB) :
    GeometryOKRot (rotPlanar3D s.1 s.2.1 s.2.2) = true :=
  rotPlanar_geometryOK s.1 s.2.1 s.2.2

/-- RotatedToric3DCode sizes named in `Properties/C10.lean`: even × even, odd × even, even × odd,
    and one odd × odd size (outside the family the class supports) -/
def rotToricSizes : List (Nat × Nat × Nat) :=
  [(2, 2, 2), (2, 4, 2), (2, 3, 2), (3, 2, 2), (3, 4, 2), (4, 2, 3), (3, 3, 2)]

theorem rotToric_geometry_instances :
    ∀ s ∈ rotToricSizes, GeometryOKRot (rotToric3D s.1 s.2.1 s.2.2) = true := by
  intro s hs
  have h : ∀ s ∈ rotToricSizes, 2 ≤ s.1 ∧ 2 ≤ s.2.1 := by decide
  exact geometryOKRot_of _ (rotToricStabs_nodup ..) (rotToric_flipTableOK _ _ _ (h s hs).1 (h s hs).2)

/-- Z errors on qubit indices 3 and 21 of Toric3DCode 2×2×2 -/
def witnessD9 : Loc → Bool := fun q => q == (1, 2, 2) || q == (2, 0, 3)

example : (toric3D 2 2 2).qubits[3]? = some (1, 2, 2) ∧ (toric3D 2 2 2).qubits[21]? = some (2, 0, 3) := by
  decide +kernel

/-- Z on the edge `(1, 5, 1)` of RotatedToric3DCode 2×3×2 (`L_y` odd) -/
def witnessDefectFace : Loc → Bool := fun q => q == (1, 5, 1)

end Panqec.Sweep
