/-
The length / support invariant of the `possible_correction` vectors through every loop of
`XCubeMatchingDecoder.decode` (any decoder object, no hypothesis).  Core Lean only.
-/
import PanqecVerif.Proofs.XCubeDecHoare

namespace Panqec.XCube

open Panqec

variable {W α β σ : Type}

def PcOk (n m : Nat) (v : Vec) : Prop := v.length = m ∧ ∀ i, n ≤ i → v.getD i 0 = 0

theorem pcOk_zeros (n m : Nat) : PcOk n m (List.replicate m 0) := by
  refine ⟨by simp, fun i _ => ?_⟩
  simp [List.getD, List.getElem?_replicate]
  split <;> rfl

theorem pcOk_bump {n m : Nat} {v : Vec} {i : Nat} (h : PcOk n m v) (hi : i < n) : PcOk n m (bump v i) := by
  refine ⟨by simp [bump, h.1], fun j hj => ?_⟩
  have hne : i ≠ j := by omega
  have := h.2 j hj
  simp only [List.getD, bump] at this ⊢
  rw [List.getElem?_modify]
  simp [hne, this]

theorem pcOk_set {n m : Nat} {v : Vec} {i : Nat} (h : PcOk n m v) (hi : i < n) : PcOk n m (v.set i 1) := by
  refine ⟨by simp [h.1], fun j hj => ?_⟩
  have hne : i ≠ j := by omega
  have := h.2 j hj
  simp only [List.getD] at this ⊢
  rw [List.getElem?_set_ne hne]
  exact this

theorem qubitIndex?_lt {qs : List Coord} {q : Coord} {i : Nat} (h : qubitIndex? qs q = some i) :
    i < qs.length := by
  unfold qubitIndex? at h
  simp only at h
  split at h
  · cases h; assumption
  · cases h

theorem qubitIndex?_eq_none_iff (qs : List Coord) (q : Coord) : qubitIndex? qs q = none ↔ q ∉ qs := by
  unfold qubitIndex?
  simp only [← List.idxOf_lt_length_iff]
  split <;> simp [*]

theorem spec_qubitIndex {qs : List Coord} {q : Coord} {E : XErr → Prop} (hE : q ∉ qs → E (.keyError q)) :
    Spec (orKeyError q (qubitIndex? qs q) : Out W Nat) E (· < qs.length) :=
  spec_orKeyError (fun h => hE ((qubitIndex?_eq_none_iff _ _).mp h)) fun _ hi => qubitIndex?_lt hi

variable (d : XCubeDec W) (proj : Axis) (m : Nat)

theorem post_bumpRange (oc : Coord) (planes : List Int) (pc : Vec) (h : PcOk d.n m pc) :
    Post (bumpRange d proj oc planes pc) (PcOk d.n m) := by
  unfold bumpRange
  exact spec_forM' (PcOk d.n m) (fun st a _ hst =>
    spec_bind (spec_qubitIndex fun _ => trivial) fun idx hidx => spec_pure (pcOk_bump hst hidx)) pc h

/-- the four branches of `projectLoc`, split once for the shape pass and the key pass -/
theorem projectLoc_cases (comp : List Int) (pp : Int) (pc : Vec) (loc : Coord) :
    projectLoc d proj comp pp pc loc = Out.pure pc ∨
    ∃ a b, (a = pp + 1 ∨ a = loc.getD proj.toNat 0 + 1) ∧
      projectLoc d proj comp pp pc loc = bumpRange d proj (tupleRemove loc proj.toNat) (rangeI2 a b) pc := by
  unfold projectLoc
  dsimp only
  by_cases h1 : comp.contains (loc.getD proj.toNat 0) = true
  · rw [if_pos h1]
    split
    · exact Or.inr ⟨_, _, Or.inl rfl, rfl⟩
    · split
      · exact Or.inr ⟨_, _, Or.inr rfl, rfl⟩
      · exact Or.inl rfl
  · rw [if_neg h1]; exact Or.inl rfl

theorem post_projectLoc (comp : List Int) (pp : Int) (pc : Vec) (loc : Coord) (h : PcOk d.n m pc) :
    Post (projectLoc d proj comp pp pc loc) (PcOk d.n m) := by
  rcases projectLoc_cases d proj comp pp pc loc with e | ⟨a, b, _, e⟩ <;> rw [e]
  · exact spec_pure h
  · exact post_bumpRange d proj m _ _ pc h

theorem post_projectAll (comps : List (List Int)) (mp : List Coord) (pc : Vec) (h : PcOk d.n m pc) :
    Post (projectAll d proj comps mp pc) (PcOk d.n m) := by
  unfold projectAll
  exact spec_forM' (PcOk d.n m) (fun st comp _ hst =>
    spec_forM' (PcOk d.n m) (fun st' loc _ hst' => post_projectLoc d proj m comp _ st' loc hst') st hst) pc h

theorem post_loopScatter (pp : Int) (coords : List Coord) (pc : Vec) (h : PcOk d.n m pc) :
    Post (loopScatter d proj pp coords pc) (PcOk d.n m) := by
  unfold loopScatter
  exact spec_forM' (PcOk d.n m) (fun st a _ hst =>
    spec_bind (spec_qubitIndex fun _ => trivial) fun idx hidx => spec_pure (pcOk_set hst hidx)) pc h

theorem post_loopsAll (comps : List (List Int)) (ortho : List Coord) (pc : Vec) (h : PcOk d.n m pc) :
    Post (loopsAll d proj comps ortho pc) (PcOk d.n m) := by
  unfold loopsAll
  exact spec_forM' (PcOk d.n m) (fun st comp _ hst =>
    spec_bind (post_true _) fun _ _ => spec_bind (post_true _) fun coords _ =>
      spec_bind (post_true _) fun _ _ => post_loopScatter d proj m _ coords st hst) pc h

theorem Per.get_set {α : Type} (p : Per α) (a b : Axis) (v : α) :
    (p.set a v).get b = if b = a then v else p.get b := by
  cases a <;> cases b <;> simp [Per.set, Per.get]

def PerOk (n m : Nat) (p : Per Vec) : Prop := ∀ a, PcOk n m (p.get a)

theorem perOk_set {n m : Nat} {p : Per Vec} (h : PerOk n m p) (a : Axis) {v : Vec} (hv : PcOk n m v) :
    PerOk n m (p.set a v) := by
  intro b
  rw [Per.get_set]
  split
  · exact hv
  · exact h b

theorem post_projIter (solve : WSolver W) (order : List Int → List Int) (s5 : Vec)
    (st : Per (PlaneDict Vec) × Per Vec) (h : PerOk d.n m st.2) :
    Post (projIter solve order d s5 st proj) (fun r => PerOk d.n m r.2) := by
  unfold projIter
  exact spec_bind (post_true _) fun ps _ => spec_bind (post_true _) fun r _ =>
    spec_bind (post_true _) fun comps _ => spec_bind (post_true _) fun _ _ =>
      spec_bind (post_projectAll d proj m comps _ _ (h proj)) fun pc1 hpc1 =>
        spec_bind (post_loopsAll d proj m comps _ pc1 hpc1) fun pc2 hpc2 =>
          spec_pure (perOk_set h proj hpc2)

theorem argminIdx_lt (w : List Nat) (h : w ≠ []) : argminIdx w < w.length := by
  unfold argminIdx
  apply List.idxOf_lt_length_of_mem
  cases w with
  | nil => exact absurd rfl h
  | cons a rest =>
    rw [List.headD_cons, List.foldl_cons, Nat.min_self]
    exact List.min?_mem (List.min?_cons' (x := a) (xs := rest))

/-- the returned `possible_correction` has length `2n` and is zero on the Z half -/
theorem post_matchingPart (solve : WSolver W) (order : List Int → List Int) (s : Vec) :
    Post (matchingPart solve order d s) (PcOk d.n (2 * d.n)) := by
  unfold matchingPart
  simp only
  split
  · exact spec_raise True.intro
  · refine spec_bind (Q := fun (st : Per (PlaneDict Vec) × Per Vec) => PerOk d.n (2 * d.n) st.2) ?_ ?_
    · refine spec_forM' (fun (st : Per (PlaneDict Vec) × Per Vec) => PerOk d.n (2 * d.n) st.2) ?_ _ ?_
      · intro st a _ hst
        exact post_projIter d a _ solve order _ st hst
      · intro a; cases a <;> exact pcOk_zeros _ _
    · intro st hst
      refine spec_bind (post_true _) ?_; intro _ _
      refine spec_pure ?_
      have key : ∀ i, i < 3 → PcOk d.n (2 * d.n) (st.2.toList.getD i []) := by
        intro i hi
        match i, hi with
        | 0, _ => exact hst .x
        | 1, _ => exact hst .y
        | 2, _ => exact hst .z
        | k + 3, hk => omega
      exact key _ (by simpa [Per.toList] using argminIdx_lt (st.2.toList.map List.sum) (by simp [Per.toList]))

end Panqec.XCube
