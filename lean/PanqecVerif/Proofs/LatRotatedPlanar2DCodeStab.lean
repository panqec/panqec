/-
RotatedPlanar2DCode, all sizes: arithmetic description of the coordinate lists and
`get_stabilizer` as the filtered diagonal 4-neighbourhood.
-/
import PanqecVerif.Proofs.LatPlanar2DCodeShared
import PanqecVerif.Model.Lattices.RotatedPlanar2DCode

namespace Panqec.RotatedPlanar2DCode
open Panqec.Lat2D

def IsQ (Lx Ly : Nat) (x y : Int) : Prop :=
  x % 2 = 1 ∧ y % 2 = 1 ∧ 1 ≤ x ∧ x < 2 * (Lx : Int) + 1 ∧ 1 ≤ y ∧ y < 2 * (Ly : Int) + 1
def IsV (Lx Ly : Nat) (x y : Int) : Prop :=
  x % 2 = 0 ∧ y % 2 = 0 ∧ 2 ≤ x ∧ x < 2 * (Lx : Int) ∧ 0 ≤ y ∧ y < 2 * (Ly : Int) + 1 ∧
    (x + y) % 4 = 2
def IsF (Lx Ly : Nat) (x y : Int) : Prop :=
  x % 2 = 0 ∧ y % 2 = 0 ∧ 0 ≤ x ∧ x < 2 * (Lx : Int) + 1 ∧ 2 ≤ y ∧ y < 2 * (Ly : Int) ∧
    (x + y) % 4 = 0

theorem IsV.mod4 {Lx Ly : Nat} {x y : Int} (h : IsV Lx Ly x y) : (x + y) % 4 = 2 := h.2.2.2.2.2.2
theorem IsF.mod4 {Lx Ly : Nat} {x y : Int} (h : IsF Lx Ly x y) : (x + y) % 4 = 0 := h.2.2.2.2.2.2
theorem IsF.ne2 {Lx Ly : Nat} {x y : Int} (h : IsF Lx Ly x y) : (x + y) % 4 ≠ 2 := by
  rw [h.mod4]; decide

instance (Lx Ly : Nat) (x y : Int) : Decidable (IsQ Lx Ly x y) := by unfold IsQ; infer_instance

theorem mem_qubits {Lx Ly : Nat} {q : Coord} :
    q ∈ qubits Lx Ly ↔ ∃ x y, q = [x, y] ∧ IsQ Lx Ly x y := by
  unfold qubits IsQ
  simp only [mem_grid, mem_pyRange2]
  constructor
  · rintro ⟨x, y, hx, hy, rfl⟩; exact ⟨x, y, rfl, by omega⟩
  · rintro ⟨x, y, rfl, h⟩; exact ⟨x, y, by omega, by omega, rfl⟩

theorem mem_qubits' {Lx Ly : Nat} {x y : Int} : [x, y] ∈ qubits Lx Ly ↔ IsQ Lx Ly x y :=
  mem_pair_iff mem_qubits

theorem isQubit_iff {Lx Ly : Nat} {x y : Int} : isQubit Lx Ly [x, y] = true ↔ IsQ Lx Ly x y := by
  unfold isQubit; rw [isIn_iff, mem_qubits']

theorem mem_stabs {Lx Ly : Nat} {q : Coord} :
    q ∈ stabs Lx Ly ↔ ∃ x y, q = [x, y] ∧ (IsV Lx Ly x y ∨ IsF Lx Ly x y) := by
  unfold stabs IsV IsF
  simp only [List.mem_append, mem_gridIf, mem_pyRange2, decide_eq_true_eq]
  constructor
  · rintro (⟨x, y, hx, hy, hp, rfl⟩ | ⟨x, y, hx, hy, hp, rfl⟩)
    · exact ⟨x, y, rfl, Or.inl (by omega)⟩
    · exact ⟨x, y, rfl, Or.inr (by omega)⟩
  · rintro ⟨x, y, rfl, h | h⟩
    · exact Or.inl ⟨x, y, by omega, by omega, h.2.2.2.2.2.2, rfl⟩
    · exact Or.inr ⟨x, y, by omega, by omega, h.2.2.2.2.2.2, rfl⟩

theorem mem_stabs' {Lx Ly : Nat} {x y : Int} :
    [x, y] ∈ stabs Lx Ly ↔ (IsV Lx Ly x y ∨ IsF Lx Ly x y) :=
  mem_pair_iff mem_stabs

theorem nodup_qubits (Lx Ly : Nat) : (qubits Lx Ly).Nodup :=
  nodup_grid (nodup_pyRange2 ..) (nodup_pyRange2 ..)

theorem nodup_stabs (Lx Ly : Nat) : (stabs Lx Ly).Nodup := by
  refine nodup_append_of (nodup_gridIf _ (nodup_pyRange2 ..) (nodup_pyRange2 ..))
    (nodup_gridIf _ (nodup_pyRange2 ..) (nodup_pyRange2 ..)) fun q h1 h2 => ?_
  simp only [mem_gridIf, decide_eq_true_eq] at h1 h2
  obtain ⟨x, y, -, -, hp, rfl⟩ := h1
  obtain ⟨x', y', -, -, hp', e⟩ := h2
  simp only [List.cons.injEq, and_true] at e
  omega

theorem qubits_stabs_disjoint (Lx Ly : Nat) : ∀ q ∈ qubits Lx Ly, q ∉ stabs Lx Ly := by
  intro q hq hs
  obtain ⟨x, y, rfl, h⟩ := mem_qubits.mp hq
  rw [mem_stabs'] at hs
  unfold IsQ at h; unfold IsV IsF at hs
  omega

/-- the four diagonal neighbours, in delta order -/
def nbrs (x y : Int) : List Coord := [[x - 1, y - 1], [x - 1, y + 1], [x + 1, y - 1], [x + 1, y + 1]]

theorem candidates_eq (x y : Int) : candidates x y = nbrs x y := by
  unfold candidates delta nbrs
  simp only [List.map_cons, List.map_nil]
  rfl

theorem nodup_nbrs (x y : Int) : (nbrs x y).Nodup := by
  unfold nbrs
  simp only [List.nodup_cons, List.mem_cons, List.cons.injEq, and_true, List.not_mem_nil,
    or_false, not_false_eq_true, List.nodup_nil]
  omega

theorem mem_nbrs {x y a b : Int} :
    [a, b] ∈ nbrs x y ↔ (a = x - 1 ∨ a = x + 1) ∧ (b = y - 1 ∨ b = y + 1) := by
  unfold nbrs
  simp only [List.mem_cons, List.cons.injEq, and_true, List.not_mem_nil, or_false]
  omega

theorem eq_pair_of_mem_nbrs {x y : Int} {q : Coord} (h : q ∈ nbrs x y) : ∃ a b, q = [a, b] := by
  unfold nbrs at h
  simp only [List.mem_cons, List.not_mem_nil, or_false] at h
  rcases h with rfl | rfl | rfl | rfl <;> exact ⟨_, _, rfl⟩

def letter (x y : Int) : Pauli := if (x + y) % 4 = 2 then Pauli.Z else Pauli.X

theorem letter_cases (x y : Int) :
    ((x + y) % 4 = 2 ∧ letter x y = Pauli.Z) ∨ ((x + y) % 4 ≠ 2 ∧ letter x y = Pauli.X) := by
  unfold letter
  by_cases h : (x + y) % 4 = 2
  · left; simp [h]
  · right; exact ⟨h, by simp [h]⟩

theorem letter_V {x y : Int} (h : (x + y) % 4 = 2) : letter x y = Pauli.Z := if_pos h
theorem letter_F {x y : Int} (h : (x + y) % 4 ≠ 2) : letter x y = Pauli.X := if_neg h

def supp (Lx Ly : Nat) (x y : Int) : List Coord := (nbrs x y).filter (isQubit Lx Ly)

theorem nodup_supp (Lx Ly : Nat) (x y : Int) : (supp Lx Ly x y).Nodup :=
  (nodup_nbrs x y).sublist List.filter_sublist

theorem supp_subset (Lx Ly : Nat) (x y : Int) : ∀ q ∈ supp Lx Ly x y, q ∈ qubits Lx Ly :=
  fun _ hq => isIn_iff.mp (List.mem_filter.mp hq).2

theorem mem_supp {Lx Ly : Nat} {x y a b : Int} :
    [a, b] ∈ supp Lx Ly x y ↔
      ((a = x - 1 ∨ a = x + 1) ∧ (b = y - 1 ∨ b = y + 1)) ∧ IsQ Lx Ly a b := by
  unfold supp
  rw [List.mem_filter, mem_nbrs, isQubit_iff]

theorem getStab_eq {Lx Ly : Nat} {x y : Int} (h : [x, y] ∈ stabs Lx Ly) :
    (lattice Lx Ly).getStab [x, y] = (supp Lx Ly x y).map (fun q => (q, letter x y)) := by
  have hs : isStabilizer Lx Ly [x, y] = true := by unfold isStabilizer; rw [isIn_iff]; exact h
  show (getStabilizer? Lx Ly [x, y]).getD [] = _
  unfold getStabilizer? stabilizerType
  simp only [hs, Bool.not_true, Bool.false_eq_true, if_false, Option.getD_some]
  rw [candidates_eq, collect_eq _ _ _ (nodup_nbrs x y)]
  unfold letter supp
  by_cases hp : (x + y) % 4 = 2 <;> simp [hp]

theorem exists_odd_nbr {L : Nat} (hL : 1 ≤ L) {y : Int} (h0 : y % 2 = 0) (h1 : 0 ≤ y)
    (h2 : y < 2 * (L : Int) + 1) :
    ∃ b, (b = y - 1 ∨ b = y + 1) ∧ b % 2 = 1 ∧ 1 ≤ b ∧ b < 2 * (L : Int) + 1 := by
  by_cases h : y = 0
  · exact ⟨y + 1, Or.inr rfl, by omega⟩
  · exact ⟨y - 1, Or.inl rfl, by omega⟩

/-- a vertex keeps a corner on its left, a face a corner below it -/
theorem supp_nonempty {Lx Ly : Nat} {x y : Int} (hx : 1 ≤ Lx) (hy : 1 ≤ Ly)
    (h : IsV Lx Ly x y ∨ IsF Lx Ly x y) : supp Lx Ly x y ≠ [] := by
  rcases h with ⟨hx0, hy0, hx1, hx2, hy1, hy2, -⟩ | ⟨hx0, hy0, hx1, hx2, hy1, hy2, -⟩
  · obtain ⟨b, hb, h1, h2, h3⟩ := exists_odd_nbr hy hy0 hy1 hy2
    exact List.ne_nil_of_mem
      (mem_supp.mpr ⟨⟨Or.inl rfl, hb⟩, by omega, h1, by omega, by omega, h2, h3⟩)
  · obtain ⟨a, ha, h1, h2, h3⟩ := exists_odd_nbr hx hx0 hx1 hx2
    exact List.ne_nil_of_mem
      (mem_supp.mpr ⟨⟨ha, Or.inl rfl⟩, h1, by omega, h2, h3, by omega, by omega⟩)

end Panqec.RotatedPlanar2DCode
