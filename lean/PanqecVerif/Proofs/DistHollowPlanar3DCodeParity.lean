/-
HollowPlanar3DCode, all sizes, C17: parity statements.  An operator `b` that commutes with
every stabilizer generator meets every cross-section `x = 2i + 1` of the EXISTING x edges (Z
component) with the same parity as the plane `x = 1` (slab of vertex generators; a vertex location
in the hole has no generator, but then none of its six neighbours is a qubit), and every x line
`(y, z)` outside the hole (X component) with the same parity as the line `(0, 0)`: a line with
`y` outside the y-range of the hole is moved in `z` through xz faces (none of them in the hole) and
then in `y` in the layer `z = 0`; a line with `z` outside the z-range of the hole is moved in `y`
first, then in `z` at `y = 0`.  Indicators are restricted to the qubits of THIS lattice (`0` on a
location in the hole).
-/
import PanqecVerif.Proofs.DistPlanar3DCode
import PanqecVerif.Proofs.LatHollowPlanar3DCodeOldCss

namespace Panqec.HollowPlanar3DCode
open Panqec.Cubic3D Panqec.Lat2D
open Panqec.Planar3DCode (inE inO inE2 inO1 isVertex isFace rE rO faceCands nbM isq isq_iff
  lxK lzK lineX planeX mem_lineX mem_planeX)

/-- indicator restricted to the qubits of the hollow lattice: `0` outside the lattice and in
    the hole -/
def indQ (Lx Ly Lz : Nat) (P : Pauli) (b : Op) (q : Coord) : Nat :=
  if isq Lx Ly Lz q = true then (if notHoleC Lx Ly Lz q = true then ind P b q else 0) else 0

theorem indQ_of {Lx Ly Lz : Nat} {q : Coord} (P : Pauli) (b : Op) (h : q ∈ qubits Lx Ly Lz) :
    indQ Lx Ly Lz P b q = ind P b q := by
  rw [qubits_eq, List.mem_filter] at h
  unfold indQ; rw [if_pos (isq_iff.mpr h.1), if_pos h.2]

theorem indQ_of_not {Lx Ly Lz : Nat} {q : Coord} (P : Pauli) (b : Op)
    (h : q ∉ qubits Lx Ly Lz) : indQ Lx Ly Lz P b q = 0 := by
  unfold indQ
  by_cases h1 : isq Lx Ly Lz q = true
  · rw [if_pos h1]
    by_cases h2 : notHoleC Lx Ly Lz q = true
    · exact absurd (by rw [qubits_eq, List.mem_filter]; exact ⟨isq_iff.mp h1, h2⟩) h
    · rw [if_neg h2]
  · rw [if_neg h1]

def CommStabs (Lx Ly Lz : Nat) (b : Op) : Prop :=
  ∀ s ∈ (lattice Lx Ly Lz).stabs, opAntiCount ((lattice Lx Ly Lz).getStab s) b % 2 = 0

variable {Lx Ly Lz : Nat}

theorem notq_hole {x y z : Int} (h : Hole Lx Ly Lz x y z) : [x, y, z] ∉ qubits Lx Ly Lz :=
  fun hq => (mem_qubits.mp hq).2 h

/-- the six neighbours of a vertex location; in the hole there is no generator, but then none of
    the six is a qubit -/
theorem vertex_even {b : Op} (hb : CommStabs Lx Ly Lz b) {x y z : Int}
    (hv : isVertex Lx Ly Lz x y z) {xm xp ym yp zm zp : Int} (e1 : x - 1 = xm) (e2 : x + 1 = xp)
    (e3 : y - 1 = ym) (e4 : y + 1 = yp) (e5 : z - 1 = zm) (e6 : z + 1 = zp) :
    (indQ Lx Ly Lz Pauli.Z b [xm, y, z] + indQ Lx Ly Lz Pauli.Z b [xp, y, z]
      + indQ Lx Ly Lz Pauli.Z b [x, ym, z] + indQ Lx Ly Lz Pauli.Z b [x, yp, z]
      + indQ Lx Ly Lz Pauli.Z b [x, y, zm] + indQ Lx Ly Lz Pauli.Z b [x, y, zp]) % 2 = 0 := by
  subst e1 e2 e3 e4 e5 e6
  by_cases hn : Hole Lx Ly Lz x y z
  · have H : Hole Lx Ly Lz (x - 1) y z ∧ Hole Lx Ly Lz (x + 1) y z ∧ Hole Lx Ly Lz x (y - 1) z ∧
        Hole Lx Ly Lz x (y + 1) z ∧ Hole Lx Ly Lz x y (z - 1) ∧ Hole Lx Ly Lz x y (z + 1) := by
      have hx := hv.1.2.2
      have hy := hv.2.1.2.2
      have hz := hv.2.2.2.2
      unfold Hole at hn ⊢
      omega
    rw [indQ_of_not _ _ (notq_hole H.1), indQ_of_not _ _ (notq_hole H.2.1),
      indQ_of_not _ _ (notq_hole H.2.2.1), indQ_of_not _ _ (notq_hole H.2.2.2.1),
      indQ_of_not _ _ (notq_hole H.2.2.2.2.1), indQ_of_not _ _ (notq_hole H.2.2.2.2.2)]
  · have h := hb [x, y, z] (by
      rw [lattice_stabs, mem_stabs]; exact ⟨Planar3DCode.mem_stabs.mpr (Or.inl hv), hn⟩)
    rw [lattice_getStab, getStab_vertex hv hn, opAntiCount_uop_hit] at h
    unfold vertexKeys Planar3DCode.vertexKeys Planar3DCode.vertexCands at h
    rw [List.countP_filter, List.countP_filter] at h
    simp only [List.countP_cons, List.countP_nil, ite_and_bool] at h
    unfold indQ ind
    omega

theorem face_even {b : Op} (hb : CommStabs Lx Ly Lz b) (ax : Axis) {u v w : Int}
    (hv : isFace Lx Ly Lz ax u v w) (hn : notHoleC Lx Ly Lz (ins ax u v w) = true)
    {vm vp wm wp : Int} (e1 : v - 1 = vm) (e2 : v + 1 = vp) (e3 : w - 1 = wm) (e4 : w + 1 = wp) :
    (indQ Lx Ly Lz Pauli.X b (ins ax u v wm) + indQ Lx Ly Lz Pauli.X b (ins ax u v wp)
      + indQ Lx Ly Lz Pauli.X b (ins ax u vm w) + indQ Lx Ly Lz Pauli.X b (ins ax u vp w)) % 2
      = 0 := by
  have h := hb _ (by
    rw [lattice_stabs, stabs_eq, List.mem_filter]; exact ⟨Planar3DCode.face_mem hv, hn⟩)
  rw [lattice_getStab, getStab_face hv hn, opAntiCount_uop_hit] at h
  subst e1 e2 e3 e4
  rw [← List.filter_eq_self.mpr (face_edges hv hn)] at h
  unfold Planar3DCode.faceKeys faceCands rim nbM at h
  rw [List.countP_filter, List.countP_filter] at h
  simp only [List.map_cons, List.map_nil, List.cons_append, List.nil_append, List.countP_cons,
    List.countP_nil, ite_and_bool] at h
  unfold indQ ind
  omega

/-- the existing x edges of the cross-section `x = 2i + 1` (the plane of `Planar3DCode` minus the
    hole) -/
def crossX (Lx Ly Lz : Nat) (i : Nat) : List Coord :=
  (planeX Ly Lz i).filter (notHoleC Lx Ly Lz)

theorem qubits_box {x y z : Int} (h : [x, y, z] ∈ qubits Lx Ly Lz) :
    (1 ≤ x ∧ x < 2 * (Lx : Int)) ∧ (0 ≤ y ∧ y < 2 * (Ly : Int) - 1) ∧
      (0 ≤ z ∧ z < 2 * (Lz : Int) - 1) :=
  Planar3DCode.qubits_box (qubits_sub h)

theorem mem_qubits_x {x y z : Int} (hx : inO1 Lx x) (hy : inE Ly y) (hz : inE Lz z)
    (hn : ¬ Hole Lx Ly Lz x y z) : [x, y, z] ∈ qubits Lx Ly Lz :=
  mem_qubits.mpr ⟨Planar3DCode.mem_qubits.mpr (Or.inl ⟨hx, hy, hz⟩), hn⟩

theorem countP_crossX (P : Pauli) (b : Op) {i : Nat} (hi : i < Lx) :
    (crossX Lx Ly Lz i).countP (opHit P b) =
      rsum2 Ly Lz (fun j k => indQ Lx Ly Lz P b [2 * (i : Int) + 1, 2 * (j : Int), 2 * (k : Int)]) := by
  unfold crossX planeX
  rw [List.countP_filter, countP_planeE]
  apply rsum2_congr
  intro j k hj hk
  have hq : isq Lx Ly Lz [2 * (i : Int) + 1, 2 * (j : Int), 2 * (k : Int)] = true :=
    isq_iff.mpr (Planar3DCode.mem_qubits.mpr (Or.inl
      ⟨by unfold inO1; omega, by unfold inE; omega, by unfold inE; omega⟩))
  unfold indQ ind
  rw [if_pos hq, ite_and_bool]

/-- `Z̄`: cross-sections `x = 2i + 1`, through the slab of vertices at `x = 2i + 2` -/
theorem parity_Z {b : Op} (hb : CommStabs Lx Ly Lz b) (i : Nat) (hi : i < Lx) :
    (crossX Lx Ly Lz i).countP (opHit Pauli.Z b) % 2 =
      (crossX Lx Ly Lz 0).countP (opHit Pauli.Z b) % 2 := by
  rw [countP_crossX _ _ hi, countP_crossX _ _ (show 0 < Lx by omega)]
  have h := slab_open Lx Ly Lz (fun u v w => indQ Lx Ly Lz Pauli.Z b [u, v, w]) ?_ ?_ ?_ ?_ ?_ i hi
  · simpa using h
  · intro i k; exact indQ_of_not _ _ (fun h => by have := qubits_box h; omega)
  · intro i k; exact indQ_of_not _ _ (fun h => by have := qubits_box h; omega)
  · intro i j; exact indQ_of_not _ _ (fun h => by have := qubits_box h; omega)
  · intro i j; exact indQ_of_not _ _ (fun h => by have := qubits_box h; omega)
  · intro i j k hi hj hk
    exact vertex_even hb (by simp only [isVertex, inE, inE2]; omega) (by omega) (by omega)
      rfl rfl rfl rfl

theorem lineX_sub {j k : Nat} (hj : j < Ly) (hk : k < Lz)
    (hfree : ∀ x, ¬ Hole Lx Ly Lz x (2 * (j : Int)) (2 * (k : Int))) :
    ∀ q ∈ lineX Lx j k, q ∈ qubits Lx Ly Lz := by
  intro q hq
  obtain ⟨x, hx, rfl⟩ := mem_lineX.mp hq
  exact mem_qubits_x hx (by unfold inE; omega) (by unfold inE; omega) (hfree x)

theorem countP_lineX (P : Pauli) (b : Op) {j k : Nat} (hj : j < Ly) (hk : k < Lz)
    (hfree : ∀ x, ¬ Hole Lx Ly Lz x (2 * (j : Int)) (2 * (k : Int))) :
    (lineX Lx j k).countP (opHit P b) =
      rsum Lx (fun a => indQ Lx Ly Lz P b [2 * (a : Int) + 1, 2 * (j : Int), 2 * (k : Int)]) := by
  unfold lineX
  rw [countP_lineO1]
  exact rsum_congr Lx fun a ha => (indQ_of P b (mem_qubits_x (by unfold inO1; omega)
    (by unfold inE; omega) (by unfold inE; omega) (hfree _))).symm

/-- `X̄`, moving `z` along a column `y = 2j` that misses the hole: lines `(y, z) = (2j, 2i)`,
    through the xz faces at `z = 2i + 1` -/
theorem parity_Xz {b : Op} (hb : CommStabs Lx Ly Lz b) (j : Nat) (hj : j < Ly)
    (hfree : ∀ x z, ¬ Hole Lx Ly Lz x (2 * (j : Int)) z) (i : Nat) (hi : i < Lz) :
    (lineX Lx j i).countP (opHit Pauli.X b) % 2 = (lineX Lx j 0).countP (opHit Pauli.X b) % 2 := by
  rw [countP_lineX _ _ hj hi fun x => hfree x _,
    countP_lineX _ _ hj (Nat.zero_lt_of_lt hi) fun x => hfree x _]
  have h := ladder_open 0 1 Lz Lx (fun u w => indQ Lx Ly Lz Pauli.X b [w, 2 * (j : Int), u])
    ?_ ?_ ?_ i hi
  · simpa only [Int.add_zero, Nat.cast_zero, Int.mul_zero] using h
  · intro i; exact indQ_of_not _ _ (fun h => by have := qubits_box h; omega)
  · intro i; exact indQ_of_not _ _ (fun h => by have := qubits_box h; omega)
  · intro i a hi ha
    exact face_even hb .y (u := 2 * (j : Int)) (v := 2 * (a : Int) + 1)
      (w := 2 * (i : Int) + 0 + 1)
      (by simp only [isFace, rE, rO, Axis.fst, Axis.snd, inO1, inE, inO]; omega)
      (notHoleC3.mpr (hfree _ _)) (by omega) (by omega) (by omega) (by omega)

/-- `X̄`, moving `y` in a layer `z = 2k` that misses the hole: lines `(y, z) = (2i, 2k)`, through
    the xy faces at `y = 2i + 1` -/
theorem parity_Xy {b : Op} (hb : CommStabs Lx Ly Lz b) (k : Nat) (hk : k < Lz)
    (hfree : ∀ x y, ¬ Hole Lx Ly Lz x y (2 * (k : Int))) (i : Nat) (hi : i < Ly) :
    (lineX Lx i k).countP (opHit Pauli.X b) % 2 = (lineX Lx 0 k).countP (opHit Pauli.X b) % 2 := by
  rw [countP_lineX _ _ hi hk fun x => hfree x _,
    countP_lineX _ _ (Nat.zero_lt_of_lt hi) hk fun x => hfree x _]
  have h := ladder_open 0 1 Ly Lx (fun u w => indQ Lx Ly Lz Pauli.X b [w, u, 2 * (k : Int)])
    ?_ ?_ ?_ i hi
  · simpa only [Int.add_zero, Nat.cast_zero, Int.mul_zero] using h
  · intro i; exact indQ_of_not _ _ (fun h => by have := qubits_box h; omega)
  · intro i; exact indQ_of_not _ _ (fun h => by have := qubits_box h; omega)
  · intro i a hi ha
    exact face_even hb .z (u := 2 * (k : Int)) (v := 2 * (a : Int) + 1)
      (w := 2 * (i : Int) + 0 + 1)
      (by simp only [isFace, rE, rO, Axis.fst, Axis.snd, inO1, inE, inO]; omega)
      (notHoleC3.mpr (hfree _ _)) (by omega) (by omega) (by omega) (by omega)

/-- every x line that misses the hole is met with the parity of the line `(0, 0)` -/
theorem parity_X {b : Op} (hb : CommStabs Lx Ly Lz b) {j k : Nat} (hj : j < Ly) (hk : k < Lz)
    (hfree : ¬ Hole Lx Ly Lz 3 (2 * (j : Int)) (2 * (k : Int))) :
    (lineX Lx j k).countP (opHit Pauli.X b) % 2 = (lineX Lx 0 0).countP (opHit Pauli.X b) % 2 := by
  have h0y : ∀ x z, ¬ Hole Lx Ly Lz x (2 * ((0 : Nat) : Int)) z := by
    intro x z h; unfold Hole at h; omega
  have h0z : ∀ x y, ¬ Hole Lx Ly Lz x y (2 * ((0 : Nat) : Int)) := by
    intro x y h; unfold Hole at h; omega
  by_cases hA : ∀ x z, ¬ Hole Lx Ly Lz x (2 * (j : Int)) z
  · rw [parity_Xz hb j hj hA k hk, parity_Xy hb 0 (by omega) h0z j hj]
  · have hB : ∀ x y, ¬ Hole Lx Ly Lz x y (2 * (k : Int)) := by
      intro x y h
      apply hA
      intro x' z' h'
      apply hfree
      unfold Hole at h h' ⊢
      omega
    rw [parity_Xy hb k hk hB j hj, parity_Xz hb 0 (by omega) h0y k hk]

end Panqec.HollowPlanar3DCode
