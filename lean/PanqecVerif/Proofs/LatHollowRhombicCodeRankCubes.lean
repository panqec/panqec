/-
`HollowRhombicCode`, rank clause: the cubes.  The probe of a cube is one of its x or y
edges in the layer `z − 1` below it, and a qubit; only a cube of the top layer `z = 2Lz−3` (rank 0)
or one whose four lower edges all lie in the hole (then `z = 2Lz−5`: the cube sticks out of the top
of the hole) uses an edge of the layer `z + 1`.  Such an edge belongs to two cubes of the
checkerboard, in the layers `z` and `z ∓ 2`, so a cube other than `s` whose rank is not smaller
than that of `s` does not contain the probe of `s`.
-/
import PanqecVerif.Proofs.LatHollowRhombicCodeRankProbes

namespace Panqec.HollowRhombicCode
open Panqec.Cubic3D

section
variable {Lx Ly Lz : Nat} {x y z u v w : Int}

theorem isq_x {p q r : Int} (hp : p % 2 = 1) (hq : q % 2 = 0) (hr : r % 2 = 0) :
    isq Lx Ly Lz [p, q, r] = true ↔ Qx Lx Ly Lz p q r := by
  rw [isq_iff, mem_qubits_x hp hq hr]
theorem isq_y {p q r : Int} (hp : p % 2 = 0) (hq : q % 2 = 1) (hr : r % 2 = 0) :
    isq Lx Ly Lz [p, q, r] = true ↔ Qy Lx Ly Lz p q r := by
  rw [isq_iff, mem_qubits_y hp hq hr]

theorem xedge_pair {r : Int} (hy : 1 ≤ Ly) (hx : 1 ≤ x ∧ x < 2 * (Lx : Int))
    (hyy : -1 ≤ y ∧ y < 2 * (Ly : Int)) (hr : 0 ≤ r ∧ r < 2 * (Lz : Int))
    (hh : r < 3 ∨ 2 * (Lz : Int) - 4 ≤ r) (h : ¬ Qx Lx Ly Lz x (y - 1) r) :
    Qx Lx Ly Lz x (y + 1) r := by
  unfold Qx Hole at h ⊢
  omega

/-- a cube location whose four lower edges are not qubits lies in the layer `z = 2Lz−5`: all four
    edges are in the hole, and the upper corners of the cube are not -/
theorem lower_edges_missing (hy : 1 ≤ Ly) (hc : CubeLoc Lx Ly Lz x y z)
    (h1 : ¬ Qx Lx Ly Lz x (y - 1) (z - 1)) (h2 : ¬ Qx Lx Ly Lz x (y + 1) (z - 1))
    (h3 : ¬ Qy Lx Ly Lz (x - 1) y (z - 1)) (h4 : ¬ Qy Lx Ly Lz (x + 1) y (z - 1)) :
    z = 2 * (Lz : Int) - 5 := by
  obtain ⟨hx, hyy, hz, _, hcorner⟩ := hc
  have A : Hole Lx Ly Lz x (y - 1) (z - 1) ∧ Hole Lx Ly Lz x (y + 1) (z - 1) := by
    unfold Qx at h1 h2
    unfold Hole at h1 h2 ⊢
    omega
  have B : 2 < x - 1 ∧ x + 1 < 2 * (Lx : Int) - 2 := by
    unfold Qy Hole at h3 h4
    unfold Hole at A
    omega
  unfold Hole at A hcorner
  omega

/-- the probe of a cube: an x or y edge of the cube in the layer below (above for the top layer and
    for the layer `2Lz−5`) that is a qubit -/
theorem cubeProbe_spec (hy : 1 ≤ Ly) (hc : CubeLoc Lx Ly Lz x y z) :
    ∃ p q r, cubeProbe Lx Ly Lz x y z = [p, q, r] ∧ isq Lx Ly Lz [p, q, r] = true ∧
      ((p = x ∧ (q = y + 1 ∨ q = y - 1)) ∨ (q = y ∧ (p = x + 1 ∨ p = x - 1))) ∧
      ((r = z - 1 ∧ z ≠ 2 * (Lz : Int) - 3) ∨
        (r = z + 1 ∧ (z = 2 * (Lz : Int) - 3 ∨ z = 2 * (Lz : Int) - 5))) := by
  obtain ⟨hx, hyy, hz, _, _⟩ := id hc
  have up : ¬ isq Lx Ly Lz [x, y - 1, z + 1] = true → (z + 1 < 3 ∨ 2 * (Lz : Int) - 4 ≤ z + 1) →
      isq Lx Ly Lz [x, y + 1, z + 1] = true := fun h hh => by
    rw [isq_x (by omega) (by omega) (by omega)] at h ⊢
    exact xedge_pair hy ⟨hx.1, hx.2.1⟩ ⟨hyy.1, hyy.2.1⟩ (by omega) hh h
  unfold cubeProbe
  by_cases htop : z = 2 * (Lz : Int) - 3
  · rw [if_pos htop]
    by_cases h1 : isq Lx Ly Lz [x, y - 1, z + 1] = true
    · rw [if_pos h1]
      exact ⟨_, _, _, rfl, h1, Or.inl ⟨rfl, Or.inr rfl⟩, Or.inr ⟨rfl, Or.inl htop⟩⟩
    · rw [if_neg h1]
      exact ⟨_, _, _, rfl, up h1 (by omega), Or.inl ⟨rfl, Or.inl rfl⟩, Or.inr ⟨rfl, Or.inl htop⟩⟩
  rw [if_neg htop]
  by_cases h1 : isq Lx Ly Lz [x, y - 1, z - 1] = true
  · rw [if_pos h1]
    exact ⟨_, _, _, rfl, h1, Or.inl ⟨rfl, Or.inr rfl⟩, Or.inl ⟨rfl, htop⟩⟩
  rw [if_neg h1]
  by_cases h2 : isq Lx Ly Lz [x, y + 1, z - 1] = true
  · rw [if_pos h2]
    exact ⟨_, _, _, rfl, h2, Or.inl ⟨rfl, Or.inl rfl⟩, Or.inl ⟨rfl, htop⟩⟩
  rw [if_neg h2]
  by_cases h3 : isq Lx Ly Lz [x - 1, y, z - 1] = true
  · rw [if_pos h3]
    exact ⟨_, _, _, rfl, h3, Or.inr ⟨rfl, Or.inr rfl⟩, Or.inl ⟨rfl, htop⟩⟩
  rw [if_neg h3]
  by_cases h4 : isq Lx Ly Lz [x + 1, y, z - 1] = true
  · rw [if_pos h4]
    exact ⟨_, _, _, rfl, h4, Or.inr ⟨rfl, Or.inl rfl⟩, Or.inl ⟨rfl, htop⟩⟩
  rw [if_neg h4]
  rw [isq_x (by omega) (by omega) (by omega)] at h1 h2
  rw [isq_y (by omega) (by omega) (by omega)] at h3 h4
  have hz5 := lower_edges_missing hy hc h1 h2 h3 h4
  by_cases h5 : isq Lx Ly Lz [x, y - 1, z + 1] = true
  · rw [if_pos h5]
    exact ⟨_, _, _, rfl, h5, Or.inl ⟨rfl, Or.inr rfl⟩, Or.inr ⟨rfl, Or.inr hz5⟩⟩
  · rw [if_neg h5]
    exact ⟨_, _, _, rfl, up h5 (by omega), Or.inl ⟨rfl, Or.inl rfl⟩, Or.inr ⟨rfl, Or.inr hz5⟩⟩

theorem cubeProbe_mem (hy : 1 ≤ Ly) (hc : CubeLoc Lx Ly Lz x y z) :
    cubeProbe Lx Ly Lz x y z ∈ cubeKeys Lx Ly Lz x y z := by
  obtain ⟨p, q, r, e, hq, hxy, hr⟩ := cubeProbe_spec hy hc
  rw [e]
  have hr' : r = z + 1 ∨ r = z - 1 := hr.elim (fun h => Or.inr h.1) (fun h => Or.inl h.1)
  refine List.mem_filter.mpr ⟨mem_cubeCands.mpr ?_, hq⟩
  rcases hxy with ⟨h1, h2⟩ | ⟨h1, h2⟩
  · exact Or.inl ⟨h1, h2, hr'⟩
  · exact Or.inr (Or.inl ⟨h1, h2, hr'⟩)

theorem mu_cube (Ly Lz : Nat) (x y z : Int) :
    mu Ly Lz [x, y, z] = if z = 2 * (Lz : Int) - 3 then 0 else z.toNat := rfl

/-- the order of two cubes: the top layer first, then from the bottom upwards -/
theorem mu_cube_le (hz : 1 ≤ z) (hw : 1 ≤ w) (h : mu Ly Lz [x, y, z] ≤ mu Ly Lz [u, v, w]) :
    z = 2 * (Lz : Int) - 3 ∨ (w ≠ 2 * (Lz : Int) - 3 ∧ z ≤ w) := by
  rw [mu_cube, mu_cube] at h
  split at h <;> split at h <;> omega

/-- the other coloured cube on the probe edge is the mirror image of `s` in the edge
    (`Rhombic.coloured_on_xedge`, `coloured_on_yedge`): two layers below `s`, or above it in or beyond
    the top layer -/
theorem later_cube (hy : 1 ≤ Ly) (hs : CubeLoc Lx Ly Lz x y z) (ht : CubeLoc Lx Ly Lz u v w)
    (hne : ¬ (x = u ∧ y = v ∧ z = w)) (hle : mu Ly Lz [x, y, z] ≤ mu Ly Lz [u, v, w])
    (hmem : cubeProbe Lx Ly Lz x y z ∈ cubeKeys Lx Ly Lz u v w) : False := by
  have hown := cubeProbe_mem hy hs
  obtain ⟨p, q, r, e, _, hxy, hr⟩ := cubeProbe_spec hy hs
  rw [e] at hmem hown
  have h1 := cubeCands_eq x y z ▸ (List.mem_filter.mp hown).1
  have h2 := cubeCands_eq u v w ▸ (List.mem_filter.mp hmem).1
  obtain ⟨hx, hyy, hz, hcol, _⟩ := hs
  obtain ⟨hu, hv, hw, hcol', _⟩ := ht
  have hord := mu_cube_le hz.1 hw.1 hle
  have key : (x = u ∧ y = v ∧ z = w) ∨ w = 2 * r - z := by
    rcases hxy with ⟨rfl, hq⟩ | ⟨rfl, hp⟩
    · obtain ⟨rfl, h | h⟩ := Rhombic.coloured_on_xedge hcol hcol' hyy.2.2 hz.2.2 hv.2.2 hw.2.2
        (by omega) (by omega) h1 h2
      · exact Or.inl ⟨rfl, h.1.symm, h.2.symm⟩
      · exact Or.inr h.2
    · obtain ⟨rfl, h | h⟩ := Rhombic.coloured_on_yedge hcol hcol' hx.2.2 hz.2.2 hu.2.2 hw.2.2
        (by omega) (by omega) h1 h2
      · exact Or.inl ⟨h.1.symm, rfl, h.2.symm⟩
      · exact Or.inr h.2
  rcases key with h | h
  · exact hne h
  · have := hw.2.1
    clear hmem hown h1 h2 hcol hcol' hxy hx hyy hu hv hle hne hz hw
    omega

end

end Panqec.HollowRhombicCode
