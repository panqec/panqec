/-
Lemmas about the window branches of `calculate_thresholds` (default, manual, automatic), the start of the
first fit, the override bookkeeping and the override states `calculate_thresholds` cannot see (C16).
-/
import PanqecVerif.Proofs.AnalysisWindowNearest
import PanqecVerif.Proofs.AnalysisWindowSd

namespace Panqec.An

theorem meanOf_isSome {l : List Rat} (h : l ≠ []) : ∃ m, meanOf l = some m := by
  cases l with
  | nil => exact absurd rfl h
  | cons v vs => exact ⟨_, rfl⟩

theorem meanOf_eq_none {l : List Rat} : meanOf l = none ↔ l = [] := by cases l <;> simp [meanOf]

theorem meanOf_bounds {l : List Rat} {m a b : Rat} (h : meanOf l = some m) (ha : ∀ x ∈ l, a ≤ x) (hb : ∀ x ∈ l, x ≤ b) :
    a ≤ m ∧ m ≤ b := by
  cases l with
  | nil => cases h
  | cons v vs =>
    simp only [meanOf, Option.some.injEq] at h
    subst h
    have hpos : (0 : Rat) < (((v :: vs).length : Nat) : Rat) := by
      simp only [List.length_cons, Nat.cast_add, Nat.cast_one]; positivity
    constructor
    · rw [le_div_iff₀ hpos, mul_comm, ← nsmul_eq_mul]
      exact List.card_nsmul_le_sum _ a ha
    · rw [div_le_iff₀ hpos, mul_comm, ← nsmul_eq_mul]
      exact List.sum_le_card_nsmul _ b hb

theorem meanOf_perm {a b : List Rat} (h : a.Perm b) : meanOf a = meanOf b := by
  cases a with
  | nil => rw [List.nil_perm.mp h]
  | cons x xs =>
    cases b with
    | nil => exact absurd (List.perm_nil.mp h) (by simp)
    | cons y ys =>
      simp only [meanOf]
      rw [h.sum_eq, h.length_eq]

theorem truncRows_perm {a b : List TRow} (h : a.Perm b) (pl pr : Rat) : (truncRows a pl pr).Perm (truncRows b pl pr) :=
  (h.filter _).filter _

theorem mem_truncRows {rows : List TRow} {pl pr : Rat} {r : TRow} :
    r ∈ truncRows rows pl pr ↔ r ∈ rows ∧ pl ≤ r.rate ∧ r.rate ≤ pr ∧ r.pest.isSome = true := by
  unfold truncRows
  simp only [List.mem_filter, Bool.and_eq_true, decide_eq_true_eq]
  tauto

theorem firstFitStart_perm {a b : List TRow} (h : a.Perm b) (pl pr pn : Rat) :
    firstFitStart a pl pr pn = firstFitStart b pl pr pn := by
  unfold firstFitStart
  have ht := truncRows_perm h pl pr
  simp only
  rw [minList_perm (ht.map _), maxList_perm (ht.map _), ht.length_eq, meanOf_perm (ht.filterMap _),
    meanOf_perm ((ht.filter _).filterMap _)]

theorem firstFitStart_error_iff (rows : List TRow) (pl pr pn : Rat) :
    (∃ e, firstFitStart rows pl pr pn = .error e) ↔ truncRows rows pl pr = [] := by
  unfold firstFitStart
  simp only
  constructor
  · rintro ⟨e, h⟩
    split at h
    · cases h
    · rename_i hnot
      by_contra hne
      obtain ⟨lo, hlo⟩ := minList_isSome (xs := (truncRows rows pl pr).map (·.rate)) (by simpa using hne)
      obtain ⟨hi, hhi⟩ := maxList_isSome (xs := (truncRows rows pl pr).map (·.rate)) (by simpa using hne)
      exact hnot lo hi hlo hhi
  · intro h
    rw [h]
    exact ⟨.emptyWindow, rfl⟩

/-- what the first `curve_fit` gets: the rows inside the window and start values inside their ranges -/
theorem firstFitStart_spec {rows : List TRow} {pl pr pn : Rat} {n : Nat} {p0 f0 : Rat}
    (h : firstFitStart rows pl pr pn = .ok (n, p0, f0)) :
    n = (truncRows rows pl pr).length ∧ 0 < n ∧
    ∃ lo hi, minList ((truncRows rows pl pr).map (·.rate)) = some lo ∧
      maxList ((truncRows rows pl pr).map (·.rate)) = some hi ∧
      pl ≤ lo ∧ hi ≤ pr ∧ lo ≤ p0 ∧ p0 ≤ hi ∧ ((lo ≤ pn ∧ pn ≤ hi) → p0 = pn) ∧
      ∀ a b : Rat, (∀ r ∈ truncRows rows pl pr, ∀ v, r.pest = some v → a ≤ v ∧ v ≤ b) → a ≤ f0 ∧ f0 ≤ b := by
  unfold firstFitStart at h
  simp only at h
  split at h
  · rename_i lo hi hlo hhi
    injection h with h
    simp only [Prod.mk.injEq] at h
    obtain ⟨hn, hp0, hf0⟩ := h
    obtain ⟨hlo1, hlo2⟩ := minList_iff.mp hlo
    obtain ⟨hhi1, -⟩ := maxList_iff.mp hhi
    obtain ⟨rlo, hrlo, hrlo'⟩ := List.mem_map.mp hlo1
    obtain ⟨rhi, hrhi, hrhi'⟩ := List.mem_map.mp hhi1
    obtain ⟨v, hv, hv1, hv2, hv3⟩ := hintFor_some pn (b := (lo, hi)) (hlo2 hi hhi1)
    rw [hv, Option.getD_some] at hp0
    subst hp0
    refine ⟨hn.symm, ?_, lo, hi, hlo, hhi, ?_, ?_, hv1, hv2, hv3, ?_⟩
    · rw [← hn]; exact List.length_pos_of_mem hrlo
    · rw [← hrlo']; exact (mem_truncRows.mp hrlo).2.1
    · rw [← hrhi']; exact (mem_truncRows.mp hrhi).2.2.1
    · intro a b hab
      -- both means are taken over logical rates of rows inside the window
      have hval : ∀ tr' : List TRow, (∀ r ∈ tr', r ∈ truncRows rows pl pr) →
          ∀ v ∈ tr'.filterMap (·.pest), a ≤ v ∧ v ≤ b := by
        intro tr' hsub v hv
        obtain ⟨r, hr, hrv⟩ := List.mem_filterMap.mp hv
        exact hab r (hsub r hr) v hrv
      rw [← hf0]
      cases hat : meanOf (((truncRows rows pl pr).filter fun r => r.rate == pn).filterMap (·.pest)) with
      | none =>
        obtain ⟨v, hv⟩ := Option.isSome_iff_exists.mp (mem_truncRows.mp hrlo).2.2.2
        obtain ⟨mAll, hmAll⟩ := meanOf_isSome (List.ne_nil_of_mem (List.mem_filterMap.mpr ⟨rlo, hrlo, hv⟩))
        simp only [Option.orElse_none, hmAll, Option.getD_some]
        exact meanOf_bounds hmAll (fun v hv => (hval _ (fun _ h => h) v hv).1) fun v hv => (hval _ (fun _ h => h) v hv).2
      | some m =>
        simp only [Option.orElse_some, Option.getD_some]
        have hsub := hval ((truncRows rows pl pr).filter fun r => r.rate == pn) fun r hr => (List.mem_filter.mp hr).1
        exact meanOf_bounds hat (fun v hv => (hsub v hv).1) fun v hv => (hsub v hv).2
  · cases h

theorem windowDefault_spec {rows : List TRow} {pn : Rat} {w : Window} (h : windowDefault rows pn = some w) :
    minList (rows.map (·.rate)) = some w.pLeft ∧ maxList (rows.map (·.rate)) = some w.pRight ∧
    w.rows = rows ∧ w.pNearest = pn ∧ w.pSd = pn := by
  unfold windowDefault at h
  split at h
  · rename_i lo hi hlo hhi
    injection h with h
    subst h
    exact ⟨hlo, hhi, rfl, rfl, rfl⟩
  · cases h

theorem windowDefault_isSome {rows : List TRow} (pn : Rat) (h : rows ≠ []) : ∃ w, windowDefault rows pn = some w := by
  obtain ⟨lo, hlo⟩ := minList_isSome (xs := rows.map (·.rate)) (by simpa using h)
  obtain ⟨hi, hhi⟩ := maxList_isSome (xs := rows.map (·.rate)) (by simpa using h)
  exact ⟨_, by unfold windowDefault; rw [hlo, hhi]⟩

theorem truncRows_default {rows : List TRow} {lo hi : Rat} (hlo : minList (rows.map (·.rate)) = some lo)
    (hhi : maxList (rows.map (·.rate)) = some hi) : truncRows rows lo hi = rows.filter (·.pest.isSome) := by
  unfold truncRows
  congr 1
  rw [List.filter_eq_self]
  intro r hr
  have h1 := (minList_iff.mp hlo).2 r.rate (List.mem_map_of_mem hr)
  have h2 := (maxList_iff.mp hhi).2 r.rate (List.mem_map_of_mem hr)
  simp [h1, h2]

theorem mapM_except_forall2 {α β ε : Type} (f : α → Except ε β) :
    ∀ (l : List α) (r : List β), l.mapM f = .ok r → List.Forall₂ (fun a b => f a = .ok b) l r
  | [], r, h => by
    obtain rfl : [] = r := Except.ok.inj h
    exact .nil
  | a :: l, r, h => by
    rw [List.mapM_cons] at h
    cases hfa : f a with
    | error e => rw [hfa] at h; cases h
    | ok b =>
      cases hl : l.mapM f with
      | error e => rw [hfa, hl] at h; cases h
      | ok bs =>
        rw [hfa, hl] at h
        obtain rfl : b :: bs = r := Except.ok.inj h
        exact .cons hfa (mapM_except_forall2 f l bs hl)

/-- the body of the loop of `calculate_thresholds` once the window is known -/
def finishEntry (st : OvState) (key : Triple) (w : Window) : Except WErr ThreshEntry :=
  match st.replaces.lookup key with
  | some rp =>
    match rp.pth with
    | some pth => .ok (.replaced key w (replaceThreshold pth rp.se))
    | none => .ok (.unfitted key w)
  | none =>
    match firstFitStart w.rows w.pLeft w.pRight w.pNearest with
    | .ok (n, p0, f0) => .ok (.fitted key w n p0 f0)
    | .error e => .error e

theorem thresholdEntry_ok {st : OvState} {sector : Nat} {mode : WindowMode} {rs : List ResRow} {key : Triple}
    {e : ThreshEntry} (h : thresholdEntry st sector mode rs key = .ok e) : ∃ w, finishEntry st key w = .ok e := by
  unfold thresholdEntry at h
  simp only at h
  split at h
  · cases h
  · split at h
    · cases h
    · rename_i w _
      exact ⟨w, h⟩

theorem thresholdEntry_key {st : OvState} {sector : Nat} {mode : WindowMode} {rs : List ResRow} {key : Triple}
    {e : ThreshEntry} (h : thresholdEntry st sector mode rs key = .ok e) : e.key = key := by
  obtain ⟨w, h⟩ := thresholdEntry_ok h
  unfold finishEntry at h
  split at h
  · split at h <;> cases h <;> rfl
  · split at h
    · cases h; rfl
    · cases h

/-- a parameter set in `self.replaces` with a 'p_th_fss' is not fitted: the given values are reported -/
theorem thresholdEntry_replaced {st : OvState} {sector : Nat} {mode : WindowMode} {rs : List ResRow} {key : Triple}
    {e : ThreshEntry} {rp : Replace} {v : Rat} (h : thresholdEntry st sector mode rs key = .ok e)
    (hrp : st.replaces.lookup key = some rp) (hv : rp.pth = some v) :
    ∃ w, e = .replaced key w (v, v - rp.se.getD 0, v + rp.se.getD 0, rp.se.getD 0) := by
  obtain ⟨w, h⟩ := thresholdEntry_ok h
  simp only [finishEntry, hrp, hv] at h
  injection h with h
  exact ⟨w, h.symm⟩

theorem thresholdEntry_fitted {st : OvState} {sector : Nat} {mode : WindowMode} {rs : List ResRow} {key : Triple}
    {e : ThreshEntry} (h : thresholdEntry st sector mode rs key = .ok e) (hrp : st.replaces.lookup key = none) :
    ∃ w n p0 f0, e = .fitted key w n p0 f0 ∧ firstFitStart w.rows w.pLeft w.pRight w.pNearest = .ok (n, p0, f0) := by
  obtain ⟨w, h⟩ := thresholdEntry_ok h
  simp only [finishEntry, hrp] at h
  split at h
  · rename_i n p0 f0 hfit
    injection h with h
    exact ⟨w, n, p0, f0, h.symm, hfit⟩
  · cases h

/-- the entry depends on the override state only through the two look-ups of its own key -/
theorem thresholdEntry_congr {st st' : OvState} (sector : Nat) (mode : WindowMode) (rs : List ResRow) (key : Triple)
    (h1 : st.overrides.lookup (sector, key) = st'.overrides.lookup (sector, key))
    (h2 : st.replaces.lookup key = st'.replaces.lookup key) :
    thresholdEntry st sector mode rs key = thresholdEntry st' sector mode rs key := by
  unfold thresholdEntry
  simp only [h1, h2]

theorem sortTriples_eq (l : List Triple) : sortTriples l = l.insertionSort fun a b => tripleLe a b = true :=
  eq_insertionSort insertTriple sortTriples (fun _ => rfl) (fun _ _ _ => rfl) rfl (fun _ _ => rfl) l

theorem sortTriples_perm (l : List Triple) : (sortTriples l).Perm l :=
  sortTriples_eq l ▸ List.perm_insertionSort _ l

theorem mem_paramSets {rs : List ResRow} {key : Triple} : key ∈ paramSets rs ↔ ∃ r ∈ rs, r.labelKey = key := by
  unfold paramSets
  rw [(sortTriples_perm _).mem_iff, List.mem_eraseDups, List.mem_map]

theorem paramSets_nodup (rs : List ResRow) : (paramSets rs).Nodup :=
  (sortTriples_perm _).nodup_iff.mpr (eraseDups_nodup _)

theorem forall2_keys {st : OvState} {sector : Nat} {mode : WindowMode} {rs : List ResRow} :
    ∀ {l : List Triple} {es : List ThreshEntry},
      List.Forall₂ (fun a b => thresholdEntry st sector mode rs a = .ok b) l es → es.map ThreshEntry.key = l
  | _, _, .nil => rfl
  | _, _, .cons hab t => by rw [List.map_cons, thresholdEntry_key hab, forall2_keys t]

theorem calcThresholds_ok {st : OvState} {sector : Nat} {mode : WindowMode} {rs : List ResRow} {es : List ThreshEntry}
    (h : calcThresholds st sector mode rs = .ok es) :
    ((paramSets rs).filter fun t => !st.skips.contains t).mapM (thresholdEntry st sector mode rs) = .ok es := by
  unfold calcThresholds at h
  split at h
  · cases h
  · rename_i es' hes
    split at h
    · cases h
    · split at h
      · cases h
      · injection h with h
        rw [hes, h]

theorem calcThresholds_keys {st : OvState} {sector : Nat} {mode : WindowMode} {rs : List ResRow} {es : List ThreshEntry}
    (h : calcThresholds st sector mode rs = .ok es) :
    es.map ThreshEntry.key = (paramSets rs).filter fun t => !st.skips.contains t :=
  forall2_keys (mapM_except_forall2 _ _ _ (calcThresholds_ok h))

theorem calcThresholds_entries {st : OvState} {sector : Nat} {mode : WindowMode} {rs : List ResRow} {es : List ThreshEntry}
    (h : calcThresholds st sector mode rs = .ok es) :
    ∀ e ∈ es, thresholdEntry st sector mode rs e.key = .ok e := by
  intro e he
  obtain ⟨k, _, hk⟩ := (mapM_except_ok _ _ _ (calcThresholds_ok h)).1 e he
  rw [thresholdEntry_key hk]; exact hk

/-- every key written into the override state belongs to `S` -/
def OvState.KeysIn (S : List Triple) (st : OvState) : Prop :=
  (∀ t ∈ st.skips, t ∈ S) ∧ (∀ e ∈ st.replaces, e.1 ∈ S) ∧ (∀ e ∈ st.overrides, e.1.2 ∈ S)

theorem OvState.KeysIn.override {S : List Triple} {st : OvState} (h : st.KeysIn S) {t : Triple} (ht : t ∈ S)
    (s : Nat) (tr : TruncSpec) : OvState.KeysIn S { st with overrides := ((s, t), tr) :: st.overrides } :=
  ⟨h.1, h.2.1, List.forall_mem_cons.mpr ⟨ht, h.2.2⟩⟩

theorem OvState.KeysIn.replace {S : List Triple} {st : OvState} (h : st.KeysIn S) {t : Triple} (ht : t ∈ S)
    (rp : Replace) : OvState.KeysIn S { st with replaces := (t, rp) :: st.replaces } :=
  ⟨h.1, List.forall_mem_cons.mpr ⟨ht, h.2.1⟩, h.2.2⟩

theorem OvState.KeysIn.skip {S : List Triple} {st : OvState} (h : st.KeysIn S) {t : Triple} (ht : t ∈ S) :
    OvState.KeysIn S { st with skips := st.skips ++ [t] } :=
  ⟨fun u hu => (List.mem_append.mp hu).elim (h.1 u) fun hu => List.mem_singleton.mp hu ▸ ht, h.2.1, h.2.2⟩

theorem applyOne_keysIn (rs : List ResRow) {st : OvState} (o : Override)
    (h : st.KeysIn (rs.map ResRow.nameKey)) : (applyOne rs st o).KeysIn (rs.map ResRow.nameKey) := by
  unfold applyOne
  split
  · exact h
  · simp only
    generalize hfd : List.foldl _ st _ = st'
    have hres : st'.KeysIn (rs.map ResRow.nameKey) := by
      rw [← hfd]
      refine foldl_invariant _ _ h fun st0 h0 t ht => ?_
      rw [List.mem_eraseDups] at ht
      obtain ⟨r, hr, rfl⟩ := List.mem_map.mp ht
      have ht := List.mem_map_of_mem (f := ResRow.nameKey) (List.mem_filter.mp hr).1
      cases o.truncate <;> cases o.replace <;> cases o.skip
      · exact h0
      · exact h0.skip ht
      · exact h0.replace ht _
      · exact (h0.replace ht _).skip ht
      · exact h0.override ht _ _
      · exact (h0.override ht _ _).skip ht
      · exact (h0.override ht _ _).replace ht _
      · exact ((h0.override ht _ _).replace ht _).skip ht
    split
    · exact hres
    · exact hres

theorem propagateTotal_keysIn (S : List Triple) {st : OvState} (h : st.KeysIn S) : (propagateTotal st).KeysIn S := by
  unfold propagateTotal
  refine foldl_invariant _ _ h fun st0 h0 t _ => ?_
  -- a copied total-sector truncation keeps its key `t`, which the state holds already
  have step : ∀ (st1 : OvState) (s : Nat), st1.KeysIn S →
      (match st1.overrides.lookup (s, t), st1.overrides.lookup (0, t) with
        | none, some tr => { st1 with overrides := st1.overrides ++ [((s, t), tr)] }
        | _, _ => st1).KeysIn S := by
    intro st1 s h1
    split
    · rename_i tr _ hl
      refine ⟨h1.1, h1.2.1, fun e he => ?_⟩
      rcases List.mem_append.mp he with he | he
      · exact h1.2.2 e he
      · obtain ⟨l₁, l₂, hov, -⟩ := List.lookup_eq_some_iff.mp hl
        rw [List.mem_singleton.mp he]
        exact h1.2.2 ((0, t), tr) (hov ▸ List.mem_append_right _ List.mem_cons_self)
    · exact h1
  exact step _ 2 (step _ 1 h0)

theorem applyOverrides_keysIn (rs : List ResRow) (spec : List Override) :
    (applyOverrides rs spec).KeysIn (rs.map ResRow.nameKey) :=
  propagateTotal_keysIn _ (foldl_invariant spec {} ⟨nofun, nofun, nofun⟩ fun _ h o _ => applyOne_keysIn rs o h)

theorem OvState.KeysIn.miss {S : List Triple} {st : OvState} (h : st.KeysIn S) {key : Triple} (hk : key ∉ S) (sector : Nat) :
    st.skips.contains key = false ∧ st.replaces.lookup key = none ∧ st.overrides.lookup (sector, key) = none := by
  refine ⟨?_, ?_, ?_⟩
  · rw [Bool.eq_false_iff]
    intro hc
    exact hk (h.1 key (by simpa using hc))
  · exact List.lookup_eq_none_iff.mpr fun e he => bne_iff_ne.mpr fun e1 => hk (e1 ▸ h.2.1 e he)
  · exact List.lookup_eq_none_iff.mpr fun e he => bne_iff_ne.mpr fun e1 => hk (e1 ▸ h.2.2 e he : (sector, key).2 ∈ S)

theorem windowOverride_spec {spec : TruncSpec} {rows : List TRow} {pn : Rat} {w : Window}
    (h : windowOverride spec rows pn = some w) :
    ∃ lo hi, minList (rows.map (·.rate)) = some lo ∧ maxList (rows.map (·.rate)) = some hi ∧
      w.pLeft = (if spec.hasRate then (spec.rmin.map (· - tol9)).getD lo else lo) ∧
      w.pRight = (if spec.hasRate then (spec.rmax.map (· + tol9)).getD hi else hi) ∧
      w.pNearest = pn ∧
      w.pSd = (if w.pLeft < pn ∧ pn < w.pRight then pn else (w.pLeft + w.pRight) / 2) ∧
      (∀ r, r ∈ w.rows ↔ r ∈ rows ∧ (spec.hasD = true → (∀ m, spec.dmin = some m → m ≤ r.d) ∧
        (∀ m, spec.dmax = some m → r.d ≤ m))) := by
  unfold windowOverride at h
  split at h
  · rename_i lo hi hlo hhi
    injection h with h
    subst h
    refine ⟨lo, hi, hlo, hhi, rfl, rfl, rfl, rfl, ?_⟩
    intro r
    simp only
    cases hD : spec.hasD <;> cases hmin : spec.dmin <;> cases hmax : spec.dmax <;>
      simp [List.mem_filter]
    · tauto
  · cases h

theorem windowOverride_pSd_inside {spec : TruncSpec} {rows : List TRow} {pn : Rat} {w : Window}
    (h : windowOverride spec rows pn = some w) (hlr : w.pLeft ≤ w.pRight) : w.pLeft ≤ w.pSd ∧ w.pSd ≤ w.pRight := by
  obtain ⟨lo, hi, _, _, _, _, _, hsd, _⟩ := windowOverride_spec h
  rw [hsd]
  split
  · rename_i hin; exact ⟨le_of_lt hin.1, le_of_lt hin.2⟩
  · constructor <;> linarith

/-! ### states `calculate_thresholds` cannot see -/

theorem calcThresholds_blind {st : OvState} {rs : List ResRow} (sector : Nat) (mode : WindowMode)
    (hk : st.KeysIn (rs.map ResRow.nameKey)) (hdisj : ∀ r ∈ rs, ∀ r' ∈ rs, r.labelKey ≠ r'.nameKey)
    (hextra : st.extra = []) : calcThresholds st sector mode rs = calcThresholds {} sector mode rs := by
  have hmiss : ∀ key ∈ paramSets rs, key ∉ rs.map ResRow.nameKey := by
    intro key hkey hmem
    obtain ⟨r, hr, rfl⟩ := mem_paramSets.mp hkey
    obtain ⟨r', hr', he⟩ := List.mem_map.mp hmem
    exact hdisj r hr r' hr' he.symm
  unfold calcThresholds
  have hf : ((paramSets rs).filter fun t => !st.skips.contains t) =
      ((paramSets rs).filter fun t => !({} : OvState).skips.contains t) := by
    apply List.filter_congr
    intro t ht
    rw [(hk.miss (hmiss t ht) sector).1]; rfl
  rw [hf]
  have hm : ((paramSets rs).filter fun t => !({} : OvState).skips.contains t).mapM (thresholdEntry st sector mode rs) =
      ((paramSets rs).filter fun t => !({} : OvState).skips.contains t).mapM (thresholdEntry {} sector mode rs) := by
    apply mapM_except_congr
    intro t ht
    have ht' := (List.mem_filter.mp ht).1
    obtain ⟨_, h2, h3⟩ := hk.miss (hmiss t ht') sector
    apply thresholdEntry_congr
    · rw [h3]; rfl
    · rw [h2]; rfl
  rw [hm, hextra]

/-- skipping every parameter set (or replacing every one) leaves nothing to concatenate: the call fails -/
theorem calcThresholds_nothing_left {st : OvState} {rs : List ResRow} (sector : Nat) (mode : WindowMode)
    (h : ∀ t ∈ paramSets rs, st.skips.contains t = true) : calcThresholds st sector mode rs = .error .nothingFitted := by
  unfold calcThresholds
  have : ((paramSets rs).filter fun t => !st.skips.contains t) = [] := by
    rw [List.filter_eq_nil_iff]
    intro t ht
    simpa using h t ht
  rw [this]
  rfl

end Panqec.An
