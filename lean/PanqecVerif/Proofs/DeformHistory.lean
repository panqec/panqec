/-
C08 helper lemmas: the object-history state machine of `Model/Deform.lean`.
Invariant over every sequence of `deform` / property-access operations:

  (captured = none      ∧ current = orig)             -- no deform so far
∨ (captured = some orig ∧ current = orig.deform D)    -- D = the last deform

and every filled cache holds the matrix of `current`.  Core Lean only.
-/
import PanqecVerif.Model.Deform
import PanqecVerif.Proofs.Bits

namespace Panqec.Deform

open Panqec

/-- the invariant; `last` is the deformation of the last `deform` so far -/
structure Inv (orig : CodeData) (last : Option (Coord → PauliMap)) (s : Obj) : Prop where
  orig_eq : s.orig = orig
  getters : match last with
    | none => s.captured = none ∧ s.current = orig
    | some D => s.captured = some orig ∧ s.current = orig.deform D
  cH : s.cachedH = none ∨ s.cachedH = some (stabilizerMatrix s.current)
  cLx : s.cachedLx = none ∨ s.cachedLx = some (logicalsX s.current)
  cLz : s.cachedLz = none ∨ s.cachedLz = some (logicalsZ s.current)

theorem inv_init (orig : CodeData) : Inv orig none (Obj.init orig) :=
  ⟨rfl, ⟨rfl, rfl⟩, .inl rfl, .inl rfl, .inl rfl⟩

theorem inv_deform {orig : CodeData} {last : Option (Coord → PauliMap)} {s : Obj}
    (h : Inv orig last s) (D : Coord → PauliMap) : Inv orig (some D) (s.deform D) := by
  refine ⟨h.orig_eq, ?_, .inl rfl, .inl rfl, .inl rfl⟩
  cases last with
  | none =>
    have hg : s.captured = none ∧ s.current = orig := h.getters
    simp [Obj.deform, hg.1, hg.2]
  | some D' =>
    have hg : s.captured = some orig ∧ s.current = orig.deform D' := h.getters
    simp [Obj.deform, hg.1]

theorem inv_readH {orig : CodeData} {last : Option (Coord → PauliMap)} {s : Obj}
    (h : Inv orig last s) : Inv orig last s.readH.1 := by
  unfold Obj.readH
  cases hc : s.cachedH with
  | some m => exact h
  | none => exact ⟨h.orig_eq, h.getters, .inr rfl, h.cLx, h.cLz⟩

theorem inv_readLx {orig : CodeData} {last : Option (Coord → PauliMap)} {s : Obj}
    (h : Inv orig last s) : Inv orig last s.readLx.1 := by
  unfold Obj.readLx
  cases hc : s.cachedLx with
  | some m => exact h
  | none => exact ⟨h.orig_eq, h.getters, h.cH, .inr rfl, h.cLz⟩

theorem inv_readLz {orig : CodeData} {last : Option (Coord → PauliMap)} {s : Obj}
    (h : Inv orig last s) : Inv orig last s.readLz.1 := by
  unfold Obj.readLz
  cases hc : s.cachedLz with
  | some m => exact h
  | none => exact ⟨h.orig_eq, h.getters, h.cH, h.cLx, .inr rfl⟩

/-- the last deformation after one more operation -/
def lastAfter (last : Option (Coord → PauliMap)) : Step → Option (Coord → PauliMap)
  | .deform D => some D
  | _ => last

theorem inv_step {orig : CodeData} {last : Option (Coord → PauliMap)} {s : Obj}
    (h : Inv orig last s) (op : Step) : Inv orig (lastAfter last op) (s.step false op) := by
  cases op with
  | deform D => exact inv_deform h D
  | accessH => exact inv_readH h
  | accessLx => exact inv_readLx h
  | accessLz => exact inv_readLz h

theorem lastDeform_append : ∀ (pre post : List Step),
    lastDeform (pre ++ post) =
      match lastDeform post with
      | some D => some D
      | none => lastDeform pre
  | [], post => by
    simp only [List.nil_append]
    cases lastDeform post <;> rfl
  | o :: pre, post => by
    have ih := lastDeform_append pre post
    cases o <;> simp only [List.cons_append, lastDeform, ih] <;>
      cases lastDeform post <;> rfl

theorem lastDeform_append_singleton (ops : List Step) (op : Step) :
    lastDeform (ops ++ [op]) = lastAfter (lastDeform ops) op := by
  rw [lastDeform_append]
  cases op <;> rfl

/-- a history without `deform` -/
def noDeform (ops : List Step) : Prop := ∀ op ∈ ops, ∀ D, op ≠ .deform D

theorem lastDeform_of_noDeform : ∀ (ops : List Step), noDeform ops → lastDeform ops = none
  | [], _ => rfl
  | o :: ops, h => by
    have ih := lastDeform_of_noDeform ops (fun op hop => h op (by simp [hop]))
    cases o with
    | deform D => exact absurd rfl (h (.deform D) (by simp) D)
    | accessH => simpa [lastDeform] using ih
    | accessLx => simpa [lastDeform] using ih
    | accessLz => simpa [lastDeform] using ih

theorem run_append_singleton (b : Bool) (s : Obj) (ops : List Step) (op : Step) :
    Obj.run b s (ops ++ [op]) = (Obj.run b s ops).step b op := by
  simp [Obj.run, List.foldl_append]

theorem inv_run (orig : CodeData) : ∀ ops : List Step,
    Inv orig (lastDeform ops) (Obj.run false (Obj.init orig) ops) := by
  intro ops
  induction ops using list_rev_induction with
  | hnil => exact inv_init orig
  | hsnoc ops op ih =>
    rw [run_append_singleton, lastDeform_append_singleton]
    exact inv_step ih op

/-- under the invariant a read returns the matrices of the installed getters, whichever
    caches are filled -/
theorem observe_of_inv {orig : CodeData} {last : Option (Coord → PauliMap)} {s : Obj}
    (h : Inv orig last s) : s.observe = matricesOf s.current := by
  have hH : s.readH.2 = stabilizerMatrix s.current := by
    unfold Obj.readH
    rcases h.cH with hc | hc <;> simp [hc]
  have hX : s.readLx.2 = logicalsX s.current := by
    unfold Obj.readLx
    rcases h.cLx with hc | hc <;> simp [hc]
  have hZ : s.readLz.2 = logicalsZ s.current := by
    unfold Obj.readLz
    rcases h.cLz with hc | hc <;> simp [hc]
  simp [Obj.observe, matricesOf, hH, hX, hZ]

/-- the observable matrices are those of the last deformation applied to the UNDEFORMED code -/
theorem history_independent (orig : CodeData) (ops : List Step) :
    (Obj.run false (Obj.init orig) ops).observe = expected orig ops := by
  have h := inv_run orig ops
  rw [observe_of_inv h]
  unfold expected
  generalize lastDeform ops = last at h ⊢
  cases last <;> exact congrArg matricesOf (h.getters : _ ∧ _).2

/-- the form "any prefix, then `deform D`, then any accesses" -/
theorem history_independent_last (orig : CodeData) (pre post : List Step)
    (D : Coord → PauliMap) (hpost : noDeform post) :
    (Obj.run false (Obj.init orig) (pre ++ .deform D :: post)).observe =
      matricesOf (orig.deform D) := by
  rw [history_independent, expected, lastDeform_append]
  simp [lastDeform, lastDeform_of_noDeform post hpost]

theorem history_independent_none (orig : CodeData) (ops : List Step) (h : noDeform ops) :
    (Obj.run false (Obj.init orig) ops).observe = matricesOf orig := by
  rw [history_independent, expected, lastDeform_of_noDeform ops h]

theorem qubits_deform (c : CodeData) (D : Coord → PauliMap) : (c.deform D).qubits = c.qubits := rfl
theorem stabs_deform (c : CodeData) (D : Coord → PauliMap) : (c.deform D).stabs = c.stabs := rfl
theorem n_deform (c : CodeData) (D : Coord → PauliMap) : (c.deform D).n = c.n := rfl
theorem k_deform (c : CodeData) (D : Coord → PauliMap) : (c.deform D).k = c.k := by
  simp [CodeData.k, CodeData.deform]

end Panqec.Deform
