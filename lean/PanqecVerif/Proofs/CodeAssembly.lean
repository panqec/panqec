/-
Helper lemmas about `Model/Code.lean`: the two assembly loops
(`toBsfFold`, `stabRowFold`) equal the count-based specification `toBsf` / `stabRow`; `mapM` over
`Option` (length, entries, success) as the matrix assembly uses it.
Core Lean only.
-/
import PanqecVerif.Model.Code
import PanqecVerif.Proofs.Bits

namespace Panqec

theorem modify_append_left {α} (f : α → α) : ∀ (a b : List α) (i : Nat), i < a.length →
    (a ++ b).modify i f = a.modify i f ++ b
  | [], _, _, h => by simp at h
  | x :: a, b, 0, _ => by simp
  | x :: a, b, i + 1, h => by
    simp at h
    simp [List.modify_succ_cons, modify_append_left f a b i h]

theorem modify_append_right {α} (f : α → α) : ∀ (a b : List α) (n i : Nat), a.length = n →
    (a ++ b).modify (n + i) f = a ++ b.modify i f
  | [], b, _, i, rfl => by simp
  | x :: a, b, _, i, rfl => by
    have h : (x :: a).length + i = (a.length + i) + 1 := by simp; omega
    rw [h]
    simp [List.modify_succ_cons, modify_append_right f a b _ i rfl]

/-- with distinct coordinates, adding `d` at `qubit_index[q]` adds `d` exactly at `q` -/
theorem modify_map_idxOf (f : Coord → Nat) (q : Coord) (d : Nat) : ∀ qs : List Coord, qs.Nodup →
    (qs.map f).modify (qs.idxOf q) (· + d) =
      qs.map (fun q' => f q' + (if q == q' then d else 0))
  | [], _ => by simp
  | a :: t, hnd => by
    rw [List.nodup_cons] at hnd
    rw [List.idxOf_cons]
    by_cases h : a = q
    · subst h
      have hrest : t.map (fun q' => f q' + (if a == q' then d else 0)) = t.map f :=
        List.map_congr_left fun q' hq' => by
          have : a ≠ q' := fun e => hnd.1 (e ▸ hq')
          simp [this]
      simp only [List.map_cons, beq_self_eq_true, cond_true, List.modify_zero_cons, hrest, if_true]
    · have hb : (a == q) = false := by simp [h]
      have hb' : (q == a) = false := by simp [Ne.symm h]
      simp only [List.map_cons, hb, hb', cond_false, List.modify_succ_cons,
        modify_map_idxOf f q d t hnd.2, Bool.false_eq_true, if_false, Nat.add_zero]

theorem ite_bump (c : Bool) (v : List Nat) (i : Nat) :
    (if c then bump v i else v) = v.modify i (· + (if c then 1 else 0)) := by
  cases c
  · exact (List.modify_id i v).symm
  · rfl

theorem opCount_nil (q : Coord) (f : Pauli → Nat) : opCount [] q f = 0 := by simp [opCount]

theorem opCount_cons (e : Coord × Pauli) (op : Op) (q : Coord) (f : Pauli → Nat) :
    opCount (e :: op) q f = (if e.1 == q && f e.2 == 1 then 1 else 0) + opCount op q f := by
  unfold opCount
  rw [List.filter_cons]
  split <;> simp [Nat.add_comm]

theorem opSupported_iff (qs : List Coord) (op : Op) :
    opSupported qs op = true ↔ ∀ e ∈ op, e.1 ∈ qs := by
  simp [opSupported]

theorem opSupported_cons (qs : List Coord) (e : Coord × Pauli) (op : Op) :
    opSupported qs (e :: op) = (qs.contains e.1 && opSupported qs op) := by
  simp [opSupported]

theorem qubitIndex?_eq (qs : List Coord) (q : Coord) :
    qubitIndex? qs q = if qs.contains q then some (qs.idxOf q) else none := by
  simp [qubitIndex?, List.idxOf_lt_length_iff]

/-- loop body of `to_bsf` -/
def toBsfStep (qs : List Coord) (v : List Nat) (e : Coord × Pauli) : Option (List Nat) :=
  match qubitIndex? qs e.1 with
  | none => none
  | some i =>
    let v := if e.2.xBit == 1 then bump v i else v
    let v := if e.2.zBit == 1 then bump v (qs.length + i) else v
    some v

theorem toBsfFold_def (qs : List Coord) (op : Op) :
    toBsfFold qs op = op.foldlM (toBsfStep qs) (List.replicate (2 * qs.length) 0) := rfl

/-- one iteration of the `to_bsf` loop, on a state written as two count blocks -/
theorem toBsfStep_map (qs : List Coord) (hnd : qs.Nodup) (f g : Coord → Nat)
    (e : Coord × Pauli) :
    toBsfStep qs (qs.map f ++ qs.map g) e =
      if qs.contains e.1 then
        some (qs.map (fun q => f q + (if e.1 == q && e.2.xBit == 1 then 1 else 0)) ++
              qs.map (fun q => g q + (if e.1 == q && e.2.zBit == 1 then 1 else 0)))
      else none := by
  unfold toBsfStep
  rw [qubitIndex?_eq]
  by_cases hc : qs.contains e.1 = true
  · have hi : qs.idxOf e.1 < (qs.map f).length := by
      rw [List.length_map, List.idxOf_lt_length_iff]; exact List.contains_iff_mem.mp hc
    simp only [hc, if_true, ite_bump]
    rw [modify_append_left _ _ _ _ hi, modify_map_idxOf f e.1 _ qs hnd]
    rw [modify_append_right _ _ _ _ _ (List.length_map _), modify_map_idxOf g e.1 _ qs hnd]
    congr 2 <;> exact List.map_congr_left fun q _ => by cases e.1 == q <;> simp
  · rw [if_neg hc, if_neg hc]

/-- the `to_bsf` loop started from any pair of count blocks -/
theorem foldlM_toBsfStep (qs : List Coord) (hnd : qs.Nodup) : ∀ (op : Op) (f g : Coord → Nat),
    op.foldlM (toBsfStep qs) (qs.map f ++ qs.map g) =
      if opSupported qs op then
        some (qs.map (fun q => f q + opCount op q Pauli.xBit) ++
              qs.map (fun q => g q + opCount op q Pauli.zBit))
      else none
  | [], f, g => by simp [opSupported, opCount_nil]
  | e :: op, f, g => by
    rw [List.foldlM_cons, toBsfStep_map qs hnd, opSupported_cons]
    by_cases hc : qs.contains e.1 = true
    · simp only [hc, if_true, Bool.true_and]
      show List.foldlM (toBsfStep qs) _ op = _
      rw [foldlM_toBsfStep qs hnd op]
      simp only [opCount_cons, Nat.add_assoc]
    · simp only [hc]
      rfl

theorem toBsfFold_eq_toBsf (qs : List Coord) (op : Op) (hnd : qs.Nodup) :
    toBsfFold qs op = toBsf qs op := by
  rw [toBsfFold_def]
  have h0 : List.replicate (2 * qs.length) 0 =
      qs.map (fun _ => 0) ++ qs.map (fun _ => 0) := by
    rw [List.map_const', List.replicate_append_replicate]
    congr 1; omega
  rw [h0, foldlM_toBsfStep qs hnd]
  unfold toBsf
  simp

/-- value stored in the sparse dict at a column (0 when the key is absent) -/
def dval (d : List (Nat × Nat)) (col : Nat) : Nat :=
  match d.find? (·.1 == col) with
  | some (_, c) => c
  | none => 0

theorem dval_nil (col : Nat) : dval [] col = 0 := rfl

theorem dval_cons (k c : Nat) (t : List (Nat × Nat)) (col : Nat) :
    dval ((k, c) :: t) col = if k = col then c else dval t col := by
  unfold dval
  rw [List.find?_cons]
  by_cases h : k = col
  · simp [h]
  · have hb : (k == col) = false := by simp [h]
    simp only [hb, if_neg h]

theorem dval_map_incr (key col : Nat) : ∀ d : List (Nat × Nat),
    dval (d.map fun (k, c) => if k == key then (k, c + 1) else (k, c)) col =
      dval d col + (if col = key ∧ d.any (·.1 == key) then 1 else 0)
  | [] => by simp [dval_nil]
  | (k, c) :: t => by
    have ih := dval_map_incr key col t
    rw [List.map_cons]
    by_cases hk : k = key
    · subst hk
      simp only [beq_self_eq_true, if_true, dval_cons, ih, List.any_cons, Bool.true_or]
      by_cases hc : k = col
      · subst hc; simp
      · have : ¬ col = k := fun e => hc e.symm
        simp [hc, this]
    · have hb : (k == key) = false := by simp [hk]
      simp only [hb, Bool.false_eq_true, if_false, dval_cons, ih, List.any_cons, Bool.false_or]
      by_cases hc : k = col
      · subst hc; simp [hk]
      · simp [hc]

theorem dval_append_new (d : List (Nat × Nat)) (key col : Nat)
    (hnew : d.any (·.1 == key) = false) :
    dval (d ++ [(key, 1)]) col = dval d col + (if col = key then 1 else 0) := by
  induction d with
  | nil => by_cases h : key = col <;> simp [dval_cons, dval_nil, h, eq_comm]
  | cons a t ih =>
    obtain ⟨k, c⟩ := a
    rw [List.any_cons, Bool.or_eq_false_iff] at hnew
    have hk : ¬ k = key := by simpa using hnew.1
    by_cases hc : k = col <;> simp_all [dval_cons]

/-- the `if key in sparse_dict: += 1 else: = 1` update adds one at that key -/
theorem dval_sparseBump (d : List (Nat × Nat)) (key col : Nat) :
    dval (sparseBump d key) col = dval d col + (if col = key then 1 else 0) := by
  unfold sparseBump
  cases hany : d.any (·.1 == key)
  · simp only [Bool.false_eq_true, if_false]
    exact dval_append_new d key col hany
  · simp only [if_true]
    rw [dval_map_incr, hany]
    simp

/-- dense view of the sparse dict (`dok_matrix` row → array) -/
def toDense (m : Nat) (d : List (Nat × Nat)) : List Nat := (List.range m).map (dval d)

theorem bump_range_map (m : Nat) (h : Nat → Nat) (i : Nat) :
    bump ((List.range m).map h) i =
      (List.range m).map (fun c => h c + (if c = i then 1 else 0)) := by
  apply List.ext_getElem?
  intro j
  by_cases hj : j < m <;> by_cases hij : i = j <;> simp [bump, hj, hij, eq_comm]

theorem bump_toDense (m : Nat) (d : List (Nat × Nat)) (i : Nat) :
    bump (toDense m d) i = toDense m (sparseBump d i) := by
  unfold toDense
  rw [bump_range_map]
  apply List.map_congr_left
  intro c _
  rw [dval_sparseBump]

theorem toDense_nil (m : Nat) : toDense m [] = List.replicate m 0 := by
  unfold toDense
  have : dval [] = fun _ => 0 := by funext c; rfl
  rw [this, List.map_const', List.length_range]

/-- loop body of the `stabilizer_matrix` assembly (one dict entry of one stabilizer) -/
def sparseStep (qs : List Coord) (d : List (Nat × Nat)) (e : Coord × Pauli) :
    Option (List (Nat × Nat)) :=
  match qubitIndex? qs e.1 with
  | none => none
  | some i =>
    let d := if e.2.xBit == 1 then sparseBump d i else d
    let d := if e.2.zBit == 1 then sparseBump d (qs.length + i) else d
    some d

theorem stabRowFold_def (qs : List Coord) (op : Op) :
    stabRowFold qs op = (op.foldlM (sparseStep qs) []).map fun d =>
      (List.range (2 * qs.length)).map fun col =>
        match d.find? (·.1 == col) with
        | some (_, c) => c % 2
        | none => 0 := rfl

/-- the dense loop body simulates the sparse one -/
theorem toBsfStep_toDense (qs : List Coord) (m : Nat) (d : List (Nat × Nat))
    (e : Coord × Pauli) :
    toBsfStep qs (toDense m d) e = (sparseStep qs d e).map (toDense m) := by
  unfold toBsfStep sparseStep
  cases qubitIndex? qs e.1 with
  | none => rfl
  | some i =>
    cases (e.2.xBit == 1) <;> cases (e.2.zBit == 1) <;> simp [bump_toDense]

theorem foldlM_toDense (qs : List Coord) (m : Nat) : ∀ (op : Op) (d : List (Nat × Nat)),
    op.foldlM (toBsfStep qs) (toDense m d) = (op.foldlM (sparseStep qs) d).map (toDense m)
  | [], d => by simp
  | e :: op, d => by
    rw [List.foldlM_cons, List.foldlM_cons, toBsfStep_toDense]
    cases h : sparseStep qs d e with
    | none => rfl
    | some d' => exact foldlM_toDense qs m op d'

/-- the sparse-dict accumulation followed by `%= 2` is the dense `+= 1` loop mod 2 -/
theorem stabRowFold_eq_toBsfFold (qs : List Coord) (op : Op) :
    stabRowFold qs op = (toBsfFold qs op).map fun v => v.map (· % 2) := by
  rw [stabRowFold_def, toBsfFold_def, ← toDense_nil, foldlM_toDense, Option.map_map]
  congr 1
  funext d
  simp only [Function.comp, toDense, List.map_map]
  apply List.map_congr_left
  intro col _
  simp only [Function.comp, dval]
  split <;> simp_all

theorem stabRowFold_eq_stabRow (qs : List Coord) (op : Op) (hnd : qs.Nodup) :
    stabRowFold qs op = stabRow qs op := by
  rw [stabRowFold_eq_toBsfFold, toBsfFold_eq_toBsf qs op hnd]
  rfl

theorem mapM_cons_eq_some {α β} (f : α → Option β) (a : α) (l : List α) (H : List β) :
    (a :: l).mapM f = some H ↔ ∃ b bs, f a = some b ∧ l.mapM f = some bs ∧ H = b :: bs := by
  rw [List.mapM_cons]
  cases f a <;> cases l.mapM f <;> simp [eq_comm]

theorem mapM_some_getElem? {α β} (f : α → Option β) : ∀ (l : List α) (H : List β),
    l.mapM f = some H → ∀ i (hi : i < l.length), H[i]? = f l[i]
  | [], _, _, i, hi => by simp at hi
  | a :: l, H, h, i, hi => by
    obtain ⟨b, bs, hb, hbs, rfl⟩ := (mapM_cons_eq_some f a l H).mp h
    cases i with
    | zero => simp [hb]
    | succ i => simpa using mapM_some_getElem? f l bs hbs i (by simpa using hi)

theorem mapM_some_length {α β} (f : α → Option β) : ∀ (l : List α) (H : List β),
    l.mapM f = some H → H.length = l.length
  | [], H, h => by simp at h; subst h; rfl
  | a :: l, H, h => by
    obtain ⟨b, bs, _, hbs, rfl⟩ := (mapM_cons_eq_some f a l H).mp h
    simp [mapM_some_length f l bs hbs]

theorem mapM_isSome_iff {α β} (f : α → Option β) : ∀ (l : List α),
    (l.mapM f).isSome = true ↔ ∀ a ∈ l, (f a).isSome = true
  | [] => by simp
  | a :: l => by
    rw [List.forall_mem_cons, ← mapM_isSome_iff f l, List.mapM_cons]
    cases f a <;> cases l.mapM f <;> simp

theorem mapM_eq_some_map_of_forall {α β} (f : α → Option β) (g : α → β) : ∀ l : List α,
    (∀ x ∈ l, f x = some (g x)) → l.mapM f = some (l.map g)
  | [], _ => rfl
  | a :: l, h => (mapM_cons_eq_some f a l _).mpr ⟨_, _, h a (by simp),
      mapM_eq_some_map_of_forall f g l fun x hx => h x (by simp [hx]), rfl⟩

end Panqec
