/-
`HollowRhombicCode`, rank clause: `rankFamily` has `n − 1` members for every size with a thick hole
(`Lx ≥ 4`, `Ly, Lz ≥ 5`): the arithmetic of `cubes_count` and `selTriangles_count`
(`Proofs/LatHollowRhombicCodeRankCount.lean`).
-/
import Mathlib.Tactic.Ring
import PanqecVerif.Proofs.LatHollowRhombicCodeRankCount

namespace Panqec.HollowRhombicCode
open Panqec.Lat3Db Panqec.Rhombic

theorem two_half_true (m : Nat) : 2 * half m true = m + m % 2 := by unfold half; simp; omega
theorem two_half_false (m : Nat) : 2 * half m false + m % 2 = m := by unfold half; simp; omega

theorem even_or_odd' (n : Nat) : (∃ k, n = 2 * k) ∨ (∃ k, n = 2 * k + 1) := by
  rcases Nat.mod_two_eq_zero_or_one n with h | h
  · exact Or.inl ⟨n / 2, by omega⟩
  · exact Or.inr ⟨n / 2, by omega⟩

theorem half_even (k : Nat) (e : Bool) : half (2 * k) e = k := by
  unfold half
  cases e
  · simp
  · simp; omega
theorem half_odd_true (k : Nat) : half (2 * k + 1) true = k + 1 := by
  unfold half; simp; omega
theorem half_odd_false (k : Nat) : half (2 * k + 1) false = k := by
  unfold half; simp; omega

/-- the cells of even colour of a `p × q` board -/
theorem half_mul_true (p q : Nat) :
    half (p * q) true = half p true * half q true + half p false * half q false := by
  rcases even_or_odd' p with ⟨i, rfl⟩ | ⟨i, rfl⟩ <;> rcases even_or_odd' q with ⟨j, rfl⟩ | ⟨j, rfl⟩
  · rw [show 2 * i * (2 * j) = 2 * (2 * i * j) by ring, half_even, half_even, half_even, half_even,
      half_even]; ring
  · rw [show 2 * i * (2 * j + 1) = 2 * (i * (2 * j + 1)) by ring, half_even, half_even, half_even,
      half_odd_true, half_odd_false]; ring
  · rw [show (2 * i + 1) * (2 * j) = 2 * ((2 * i + 1) * j) by ring, half_even, half_even, half_even,
      half_odd_true, half_odd_false]; ring
  · rw [show (2 * i + 1) * (2 * j + 1) = 2 * (2 * i * j + i + j) + 1 by ring, half_odd_true,
      half_odd_true, half_odd_true, half_odd_false, half_odd_false]; ring

/-- the cells of odd colour of a `p × q` board -/
theorem half_mul_false (p q : Nat) :
    half (p * q) false = half p true * half q false + half p false * half q true := by
  rcases even_or_odd' p with ⟨i, rfl⟩ | ⟨i, rfl⟩ <;> rcases even_or_odd' q with ⟨j, rfl⟩ | ⟨j, rfl⟩
  · rw [show 2 * i * (2 * j) = 2 * (2 * i * j) by ring, half_even, half_even, half_even, half_even,
      half_even]; ring
  · rw [show 2 * i * (2 * j + 1) = 2 * (i * (2 * j + 1)) by ring, half_even, half_even, half_even,
      half_odd_true, half_odd_false]; ring
  · rw [show (2 * i + 1) * (2 * j) = 2 * ((2 * i + 1) * j) by ring, half_even, half_even, half_even,
      half_odd_true, half_odd_false]; ring
  · rw [show (2 * i + 1) * (2 * j + 1) = 2 * (2 * i * j + i + j) + 1 by ring, half_odd_false,
      half_odd_true, half_odd_true, half_odd_false, half_odd_false]; ring

theorem e2 (k : Nat) : 2 * k + 2 = 2 * (k + 1) := by omega
theorem e7 (k : Nat) : 2 * k + 7 = 2 * (k + 3) + 1 := by omega
theorem half_one_true : half 1 true = 1 := by decide
theorem half_one_false : half 1 false = 0 := by decide

theorem half_zero (e : Bool) : half 0 e = 0 := by cases e <;> rfl

/-- the three counting equations of a size `(A+3, B+4, C+4)`, whose hole has `A × B × C` vertices:
    cubes `Cc`, selected triangles `T` (with `lb` triangles of axis 0 in boxes), qubits `N` -/
def CountEqs (A B C lb Cc T N : Nat) : Prop :=
  Cc + half ((A - 1) * ((B - 1) * (C - 1))) false = half ((A + 3) * ((B + 5) * (C + 3))) true ∧
  T + (2 * (A * (B * C)) + B * C + A * C + A * B + half (A * B) true + half (A * (B * C)) false +
    half (B * C) true + half (A * C) true) =
    2 * ((A + 2) * ((B + 3) * (C + 4))) + (A + 2) * (C + 4) + lb ∧
  N + ((A + 1) * B * C + A * (B + 1) * C + A * B * (C + 1)) =
    (A + 3) * (B + 4) * (C + 4) + (A + 2) * (B + 3) * (C + 4) + (A + 2) * (B + 4) * (C + 3)

theorem hole_eqs {A B C : Nat} {LB : List Coord} {B0' : Int → Int → Int → Prop}
    (hLB : Spec LB (fun a x y z => a = 0 ∧ B0' x y z))
    (hB : ∀ x y z, (TS (A + 3) (B + 4) (C + 4) 0 x y z ∨ P0 (A + 3) (B + 4) (C + 4) x y z) ↔
      B0' x y z) :
    ∃ Cc T N, (rankFamily (A + 3) (B + 4) (C + 4)).length = Cc + T ∧
      (qubits (A + 3) (B + 4) (C + 4)).length = N ∧ CountEqs A B C LB.length Cc T N := by
  have h1 := cubes_count (A + 3) (B + 4) (C + 4)
  have h2 := selTriangles_count (by omega) (by omega) (by omega) hLB hB (A := A) (B := B) (C := C)
    rfl rfl rfl
  have h3 := qubits_length_add (A + 3) (B + 4) (C + 4)
  simp only [Nat.reduceSubDiff, Nat.add_assoc, Nat.reduceAdd] at h1
  simp only [Nat.reduceSubDiff, Nat.add_sub_cancel] at h2 h3
  refine ⟨_, _, _, ?_, rfl, h1, h2, h3⟩
  unfold rankFamily
  rw [List.length_append]

theorem length_LB0 (A B C : Nat) : (LB0 (A + 3) (B + 4) (C + 4)).length =
    (B + 3) * (C + 4) + (half ((A + 1) * ((B + 3) * (C + 3))) false +
      (half (ny (A + 3) (B + 4) (C + 4)) true + (half (nx (A + 3) (B + 4) (C + 4)) true +
        qn (A + 3) (B + 4) (C + 4)))) := by
  unfold LB0
  simp only [List.length_append, length_bx_tt, length_qlist]
  rw [length_bx_chk _ _ _ _ _ _ _ _ (by decide) (by decide),
    length_bx_chk _ _ _ _ _ _ _ _ (by decide) (by decide),
    length_bx_chk _ _ _ _ _ _ _ _ (by decide) (by decide)]
  simp only [Nat.reduceSubDiff, Nat.one_mul, Nat.mul_one]
  rfl

/-- the checkerboard counts of a hole of `(a+1) × (b+1) × (c+1)` vertices: the parities of the sides
    cancel -/
theorem hole_parity (a b c : Nat) :
    2 * (half (a + 1) true + half (b + 1) true + c / 2) + a * (b * c) +
      (a + 1) * ((b + 1) * (c + 1)) + (a + 1) * (b + 1) + (b + 1) * (c + 1) + (a + 1) * (c + 1) =
    2 * (half (a * (b * c)) false + half ((a + 1) * ((b + 1) * (c + 1))) false +
      half ((a + 1) * (b + 1)) true + half ((b + 1) * (c + 1)) true + half ((a + 1) * (c + 1)) true) +
      a + b + c + 2 := by
  simp only [half_mul_true, half_mul_false]
  rcases even_or_odd' a with ⟨i, rfl⟩ | ⟨i, rfl⟩ <;>
  rcases even_or_odd' b with ⟨j, rfl⟩ | ⟨j, rfl⟩ <;>
  rcases even_or_odd' c with ⟨k, rfl⟩ | ⟨k, rfl⟩ <;>
  (simp only [Nat.add_assoc, Nat.reduceAdd, e2, half_even, half_odd_true, half_odd_false]
   have : (2 * k) / 2 = k := by omega
   have : (2 * k + 1) / 2 = k := by omega
   simp only [*]
   ring_nf)

theorem arith_thick (a b c Cc T N : Nat)
    (h : CountEqs (a + 1) (b + 1) (c + 1) ((b + 4) * (c + 5) +
      (half ((a + 2) * ((b + 4) * (c + 4))) false + (half (b + 1) true + (half (a + 1) true + c / 2))))
      Cc T N) : Cc + T + 1 = N := by
  obtain ⟨h1, h2, h3⟩ := h
  simp only [Nat.add_sub_cancel, Nat.add_assoc, Nat.reduceAdd] at h1 h2
  -- all cubes and the upper triangles of axis 0: the two colours of boxes of equal parity
  have hK : (a + 4) * ((b + 6) * (c + 4)) + (a + 2) * ((b + 4) * (c + 4)) =
      2 * ((c + 4) * (a * b + 5 * a + 3 * b + 16)) := by ring
  have hp := half_add hK
  have hq := hole_parity a b c
  clear hK
  ring_nf at h1 h2 h3 hp hq ⊢
  omega

theorem thick_count {Lx Ly Lz : Nat} (hx : 4 ≤ Lx) (hy : 5 ≤ Ly) (hz : 5 ≤ Lz) :
    (rankFamily Lx Ly Lz).length + 1 = (qubits Lx Ly Lz).length := by
  obtain ⟨a, rfl⟩ : ∃ a, Lx = a + 1 + 3 := ⟨Lx - 4, by omega⟩
  obtain ⟨b, rfl⟩ : ∃ b, Ly = b + 1 + 4 := ⟨Ly - 5, by omega⟩
  obtain ⟨c, rfl⟩ : ∃ c, Lz = c + 1 + 4 := ⟨Lz - 5, by omega⟩
  obtain ⟨Cc, T, N, e1, e2, h⟩ := hole_eqs (spec_LB0 (by omega))
    (ax0 (Lx := a + 1 + 3) (Ly := b + 1 + 4) (Lz := c + 1 + 4) (by omega) (by omega) (Or.inl (by omega)))
  rw [e1, e2]
  have hq : qn (a + 1 + 3) (b + 1 + 4) (c + 1 + 4) = c / 2 := by
    unfold qn; rw [if_pos (Or.inl ⟨by omega, by omega⟩)]; omega
  have hny : ny (a + 1 + 3) (b + 1 + 4) (c + 1 + 4) = b + 1 := by have := ny_spec (a + 1 + 3) (b + 1 + 4) (c + 1 + 4); omega
  have hnx : nx (a + 1 + 3) (b + 1 + 4) (c + 1 + 4) = a + 1 := by have := nx_spec (a + 1 + 3) (b + 1 + 4) (c + 1 + 4); omega
  rw [length_LB0, hq, hny, hnx] at h
  simp only [Nat.add_assoc, Nat.reduceAdd] at h
  exact arith_thick a b c Cc T N h

end Panqec.HollowRhombicCode
