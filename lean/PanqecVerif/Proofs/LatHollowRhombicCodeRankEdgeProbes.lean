/-
`HollowRhombicCode`, rank clause: the three-qubit probe `X(3,2,z) X(4,2,z−1) X(3,2,z−2)` of
a kept lower triangle `(0, 2, 2, z)` along the hole edge `x = y = 3` (`QC`): among the selected
triangles that come after it only `(1, 4, 2, z)` and `(1, 4, 2, z−2)` contain one of the three
qubits, and each of them contains two (the triangles of axis 0 and 3 at these vertices have their
y leg in the hole).  The same with x and y exchanged for the sizes with `Lx = 3`.
-/
import PanqecVerif.Proofs.LatHollowRhombicCodeRankProbes

namespace Panqec.HollowRhombicCode
open Panqec.Cubic3D
open Panqec.Planar3DCode (inE inO inE2 inO1)

theorem countP3_even {m : Coord → Prop} [DecidablePred m] {e1 e2 e3 : Coord}
    (h1 : m e1 → m e2 ∧ ¬ m e3) (h3 : m e3 → m e2 ∧ ¬ m e1) (h2 : m e2 → m e1 ∨ m e3) :
    ([e1, e2, e3].countP fun q => decide (m q)) % 2 = 0 := by
  by_cases m1 : m e1
  · simp [m1, (h1 m1).1, (h1 m1).2]
  · by_cases m3 : m e3
    · simp [m1, m3, (h3 m3).1]
    · have m2 : ¬ m e2 := fun h => (h2 h).elim m1 m3
      simp [m1, m2, m3]

theorem countP3_one {m : Coord → Prop} [DecidablePred m] {e1 e2 e3 : Coord}
    (h1 : m e1) (h2 : ¬ m e2) (h3 : ¬ m e3) :
    ([e1, e2, e3].countP fun q => decide (m q)) = 1 := by
  simp [h1, h2, h3]

section
variable {Lx Ly Lz : Nat} {z b u v w : Int}

theorem q_qubits (hq : QC Lx Ly Lz 2 2 z) (hg : 4 ≤ Lx ∧ 4 ≤ Ly) :
    [3, 2, z] ∈ qubits Lx Ly Lz ∧ [4, 2, z - 1] ∈ qubits Lx Ly Lz ∧ [3, 2, z - 2] ∈ qubits Lx Ly Lz := by
  unfold QC at hq
  refine ⟨?_, ?_, ?_⟩
  · rw [mem_qubits_x (by decide) (by decide) (by omega)]; unfold Qx Hole; omega
  · rw [mem_qubits_z (by decide) (by decide) (by omega)]; unfold Qz Hole; omega
  · rw [mem_qubits_x (by decide) (by decide) (by omega)]; unfold Qx Hole; omega

/-- `(1, 4, 2, z)` contains the first two probe qubits, `(1, 4, 2, z−2)` the last two -/
theorem q_keys (hq : QC Lx Ly Lz 2 2 z) (hg : 4 ≤ Lx ∧ 4 ≤ Ly) :
    ([3, 2, z] ∈ triKeys Lx Ly Lz 1 4 2 z ∧ [4, 2, z - 1] ∈ triKeys Lx Ly Lz 1 4 2 z) ∧
    [4, 2, z - 1] ∈ triKeys Lx Ly Lz 1 4 2 (z - 2) ∧ [3, 2, z - 2] ∈ triKeys Lx Ly Lz 1 4 2 (z - 2) := by
  obtain ⟨q1, q2, q3⟩ := q_qubits hq hg
  unfold QC at hq
  have hz : sgnZ 1 4 2 z = -1 := by rw [sgnZ_01 (Or.inr rfl), if_neg (by omega)]
  have hz' : sgnZ 1 4 2 (z - 2) = 1 := by rw [sgnZ_01 (Or.inr rfl), if_pos (by omega)]
  exact ⟨⟨mem_triKeys_of (Or.inl ⟨by rw [sgnX_1]; rfl, rfl, rfl⟩) q1,
      mem_triKeys_of (Or.inr (Or.inr ⟨rfl, rfl, by rw [hz]; omega⟩)) q2⟩,
    mem_triKeys_of (Or.inr (Or.inr ⟨rfl, rfl, by rw [hz']; omega⟩)) q2,
    mem_triKeys_of (Or.inl ⟨by rw [sgnX_1]; rfl, rfl, rfl⟩) q3⟩

/-- the later selected triangle that contains an outer probe qubit -/
theorem q_loc13 {r : Int} (hq : QC Lx Ly Lz 2 2 z) (hg : 4 ≤ Lx ∧ 4 ≤ Ly) (hr : r = z ∨ r = z - 2)
    (ht : TS Lx Ly Lz b u v w) (hlt : Before 0 2 2 z b u v w)
    (hmem : [3, 2, r] ∈ triKeys Lx Ly Lz b u v w) : b = 1 ∧ u = 4 ∧ v = 2 ∧ w = r := by
  obtain ⟨hb, htv, htp, _⟩ := ht
  have ho := Rhombic.xleg_owner (isAxis_of hb) htv.1.2.2 (by decide) (triKeys_sub_legs hb hmem)
  have hy := sgnY_eq hb
  have hp := htp.2.2.1
  unfold Hole at hp
  unfold QC at hq
  unfold Before at hlt
  omega

/-- the selected triangles that contain the middle probe qubit -/
theorem q_loc2 (hq : QC Lx Ly Lz 2 2 z) (hg : 4 ≤ Lx ∧ 4 ≤ Ly) (ht : TS Lx Ly Lz b u v w)
    (hmem : [4, 2, z - 1] ∈ triKeys Lx Ly Lz b u v w) :
    b = 1 ∧ u = 4 ∧ v = 2 ∧ (w = z ∨ w = z - 2) := by
  obtain ⟨hb, htv, htp, _⟩ := ht
  unfold QC at hq
  have ho := Rhombic.zleg_owner (isAxis_of hb) htv.1.2.2 htv.2.1.2.2 htv.2.2.2.2 (by omega)
    (triKeys_sub_legs hb hmem)
  have hy := sgnY_eq hb
  have hp := htp.2.2.1
  unfold Hole at hp
  omega

theorem later_q (hq : QC Lx Ly Lz 2 2 z) (hg : 4 ≤ Lx ∧ 4 ≤ Ly) (ht : TS Lx Ly Lz b u v w)
    (hlt : Before 0 2 2 z b u v w) :
    ([[3, 2, z], [4, 2, z - 1], [3, 2, z - 2]].countP
      fun q => decide (q ∈ triKeys Lx Ly Lz b u v w)) % 2 = 0 := by
  have hk := q_keys hq hg
  refine countP3_even (fun m1 => ?_) (fun m3 => ?_) (fun m2 => ?_)
  · obtain ⟨rfl, rfl, rfl, rfl⟩ := q_loc13 hq hg (Or.inl rfl) ht hlt m1
    exact ⟨hk.1.2, fun m3 => by have := q_loc13 hq hg (Or.inr rfl) ht hlt m3; omega⟩
  · obtain ⟨rfl, rfl, rfl, rfl⟩ := q_loc13 hq hg (Or.inr rfl) ht hlt m3
    exact ⟨hk.2.1, fun m1 => by have := q_loc13 hq hg (Or.inl rfl) ht hlt m1; omega⟩
  · obtain ⟨rfl, rfl, rfl, rfl | rfl⟩ := q_loc2 hq hg ht m2
    · exact Or.inl hk.1.1
    · exact Or.inr hk.2.2

theorem diag_q (hq : QC Lx Ly Lz 2 2 z) (hg : 4 ≤ Lx ∧ 4 ≤ Ly) :
    ([[3, 2, z], [4, 2, z - 1], [3, 2, z - 2]].countP
      fun q => decide (q ∈ triKeys Lx Ly Lz 0 2 2 z)) = 1 := by
  refine countP3_one (mem_triKeys_of (Or.inl ⟨by decide, rfl, rfl⟩) (q_qubits hq hg).1)
    (fun h => ?_) (fun h => ?_)
  · have := mem_triKeys h; omega
  · have := mem_triKeys h; rw [sgnX_0] at this; omega

theorem r_qubits (hq : QC Lx Ly Lz 2 2 z) (hg : Lx = 3 ∧ 5 ≤ Ly) :
    [2, 3, z] ∈ qubits Lx Ly Lz ∧ [2, 4, z - 1] ∈ qubits Lx Ly Lz ∧ [2, 3, z - 2] ∈ qubits Lx Ly Lz := by
  unfold QC at hq
  refine ⟨?_, ?_, ?_⟩
  · rw [mem_qubits_y (by decide) (by decide) (by omega)]; unfold Qy Hole; omega
  · rw [mem_qubits_z (by decide) (by decide) (by omega)]; unfold Qz Hole; omega
  · rw [mem_qubits_y (by decide) (by decide) (by omega)]; unfold Qy Hole; omega

theorem r_keys (hq : QC Lx Ly Lz 2 2 z) (hg : Lx = 3 ∧ 5 ≤ Ly) :
    ([2, 3, z] ∈ triKeys Lx Ly Lz 1 2 4 z ∧ [2, 4, z - 1] ∈ triKeys Lx Ly Lz 1 2 4 z) ∧
    [2, 4, z - 1] ∈ triKeys Lx Ly Lz 1 2 4 (z - 2) ∧ [2, 3, z - 2] ∈ triKeys Lx Ly Lz 1 2 4 (z - 2) := by
  obtain ⟨q1, q2, q3⟩ := r_qubits hq hg
  unfold QC at hq
  have hz : sgnZ 1 2 4 z = -1 := by rw [sgnZ_01 (Or.inr rfl), if_neg (by omega)]
  have hz' : sgnZ 1 2 4 (z - 2) = 1 := by rw [sgnZ_01 (Or.inr rfl), if_pos (by omega)]
  exact ⟨⟨mem_triKeys_of (Or.inr (Or.inl ⟨rfl, by rw [sgnY_1]; rfl, rfl⟩)) q1,
      mem_triKeys_of (Or.inr (Or.inr ⟨rfl, rfl, by rw [hz]; omega⟩)) q2⟩,
    mem_triKeys_of (Or.inr (Or.inr ⟨rfl, rfl, by rw [hz']; omega⟩)) q2,
    mem_triKeys_of (Or.inr (Or.inl ⟨rfl, by rw [sgnY_1]; rfl, rfl⟩)) q3⟩

/-- here the triangles of axis 0 and 2 at `(2, 4, ·)` have their x leg in the hole -/
theorem r_loc13 {r : Int} (hq : QC Lx Ly Lz 2 2 z) (hg : Lx = 3 ∧ 5 ≤ Ly) (hr : r = z ∨ r = z - 2)
    (ht : TS Lx Ly Lz b u v w) (hlt : Before 0 2 2 z b u v w)
    (hmem : [2, 3, r] ∈ triKeys Lx Ly Lz b u v w) : b = 1 ∧ u = 2 ∧ v = 4 ∧ w = r := by
  obtain ⟨hb, htv, htp, _⟩ := ht
  have ho := Rhombic.yleg_owner (isAxis_of hb) htv.2.1.2.2 (by decide) (triKeys_sub_legs hb hmem)
  have hx := sgnX_eq hb
  have hp := htp.2.1
  unfold Hole at hp
  unfold QC at hq
  unfold Before at hlt
  omega

theorem r_loc2 (hq : QC Lx Ly Lz 2 2 z) (hg : Lx = 3 ∧ 5 ≤ Ly) (ht : TS Lx Ly Lz b u v w)
    (hmem : [2, 4, z - 1] ∈ triKeys Lx Ly Lz b u v w) :
    b = 1 ∧ u = 2 ∧ v = 4 ∧ (w = z ∨ w = z - 2) := by
  obtain ⟨hb, htv, htp, _⟩ := ht
  unfold QC at hq
  have ho := Rhombic.zleg_owner (isAxis_of hb) htv.1.2.2 htv.2.1.2.2 htv.2.2.2.2 (by omega)
    (triKeys_sub_legs hb hmem)
  have hx := sgnX_eq hb
  have hp := htp.2.1
  unfold Hole at hp
  omega

theorem later_r (hq : QC Lx Ly Lz 2 2 z) (hg : Lx = 3 ∧ 5 ≤ Ly) (ht : TS Lx Ly Lz b u v w)
    (hlt : Before 0 2 2 z b u v w) :
    ([[2, 3, z], [2, 4, z - 1], [2, 3, z - 2]].countP
      fun q => decide (q ∈ triKeys Lx Ly Lz b u v w)) % 2 = 0 := by
  have hk := r_keys hq hg
  refine countP3_even (fun m1 => ?_) (fun m3 => ?_) (fun m2 => ?_)
  · obtain ⟨rfl, rfl, rfl, rfl⟩ := r_loc13 hq hg (Or.inl rfl) ht hlt m1
    exact ⟨hk.1.2, fun m3 => by have := r_loc13 hq hg (Or.inr rfl) ht hlt m3; omega⟩
  · obtain ⟨rfl, rfl, rfl, rfl⟩ := r_loc13 hq hg (Or.inr rfl) ht hlt m3
    exact ⟨hk.2.1, fun m1 => by have := r_loc13 hq hg (Or.inl rfl) ht hlt m1; omega⟩
  · obtain ⟨rfl, rfl, rfl, rfl | rfl⟩ := r_loc2 hq hg ht m2
    · exact Or.inl hk.1.1
    · exact Or.inr hk.2.2

theorem diag_r (hq : QC Lx Ly Lz 2 2 z) (hg : Lx = 3 ∧ 5 ≤ Ly) :
    ([[2, 3, z], [2, 4, z - 1], [2, 3, z - 2]].countP
      fun q => decide (q ∈ triKeys Lx Ly Lz 0 2 2 z)) = 1 := by
  refine countP3_one (mem_triKeys_of (Or.inr (Or.inl ⟨rfl, by decide, rfl⟩)) (r_qubits hq hg).1)
    (fun h => ?_) (fun h => ?_)
  · have := mem_triKeys h; omega
  · have := mem_triKeys h; rw [sgnY_0] at this; omega

end

end Panqec.HollowRhombicCode
