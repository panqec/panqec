/-
Helper lemmas (C16): least-squares cost of the finite-size-scaling ansatz, truncation, the model's
insertion sorts, quantiles of the bootstrap column, `get_fit_status`.
-/
import PanqecVerif.Proofs.AnalysisRates
import Mathlib.Data.List.Sort
import Mathlib.Data.List.GetD
import Mathlib.Algebra.BigOperators.Group.List.Basic
import Mathlib.Algebra.Order.BigOperators.Group.List
import Mathlib.Algebra.BigOperators.Ring.List

namespace Panqec.An

theorem cost_nil (θ : Params) : cost θ [] = 0 := rfl

theorem cost_cons (θ : Params) (r : Row) (rows : List Row) :
    cost θ (r :: rows) = (residual θ r) ^ 2 + cost θ rows := by
  simp [cost]

theorem cost_nonneg (θ : Params) (rows : List Row) : 0 ≤ cost θ rows :=
  List.sum_nonneg fun _ hx => by obtain ⟨r, _, rfl⟩ := List.mem_map.mp hx; positivity

theorem cost_eq_zero_iff (θ : Params) : ∀ rows : List Row,
    cost θ rows = 0 ↔ ∀ r ∈ rows, residual θ r = 0
  | [] => by simp [cost]
  | r :: rows => by
    rw [cost_cons, List.forall_mem_cons, ← cost_eq_zero_iff θ rows, ← sq_eq_zero_iff (a := residual θ r)]
    exact add_eq_zero_iff_of_nonneg (sq_nonneg _) (cost_nonneg θ rows)

theorem cost_perm (θ : Params) {a b : List Row} (h : a.Perm b) : cost θ a = cost θ b :=
  (h.map _).sum_eq

theorem cost_append (θ : Params) (a b : List Row) : cost θ (a ++ b) = cost θ a + cost θ b := by
  simp [cost]

theorem minRate_eq_min? (rows : List Row) : minRate rows = (rows.map (·.p)).min? := by
  cases rows with
  | nil => rfl
  | cons r rs => simp only [minRate, List.map_cons, List.min?, List.foldl_map]

theorem maxRate_eq_max? (rows : List Row) : maxRate rows = (rows.map (·.p)).max? := by
  cases rows with
  | nil => rfl
  | cons r rs => simp only [maxRate, List.map_cons, List.max?, List.foldl_map]

theorem minRate_le {rows : List Row} {m : Rat} (h : minRate rows = some m) : ∀ r ∈ rows, m ≤ r.p :=
  fun _ hr => (List.min?_eq_some_iff.mp (minRate_eq_min? rows ▸ h)).2 _ (List.mem_map_of_mem hr)

theorem le_maxRate {rows : List Row} {m : Rat} (h : maxRate rows = some m) : ∀ r ∈ rows, r.p ≤ m :=
  fun _ hr => (List.max?_eq_some_iff.mp (maxRate_eq_max? rows ▸ h)).2 _ (List.mem_map_of_mem hr)

theorem truncate_eq_self {pl pr : Rat} {rows : List Row} (h : ∀ r ∈ rows, pl ≤ r.p ∧ r.p ≤ pr) :
    truncate pl pr rows = rows := by
  unfold truncate
  rw [List.filter_eq_self]
  intro r hr
  simp [h r hr]

theorem truncate_perm (pl pr : Rat) {a b : List Row} (h : a.Perm b) :
    (truncate pl pr a).Perm (truncate pl pr b) := h.filter _

/-! ### insertion sorts

The model sorts by hand-written insertion sorts (rates, code tuples by `n`, points by abscissa, parameter
triples); each is `List.insertionSort` for its relation, and what is needed of them follows from that. -/

section sorting
variable {α : Type} {r : α → α → Prop} [DecidableRel r]

theorem eq_insertionSort (ins : α → List α → List α) (srt : List α → List α)
    (ins_nil : ∀ x, ins x [] = [x])
    (ins_cons : ∀ x y ys, ins x (y :: ys) = if r x y then x :: y :: ys else y :: ins x ys)
    (srt_nil : srt [] = []) (srt_cons : ∀ x xs, srt (x :: xs) = ins x (srt xs)) (l : List α) :
    srt l = l.insertionSort r := by
  have hins : ∀ x l, ins x l = l.orderedInsert r x := by
    intro x l
    induction l with
    | nil => exact ins_nil x
    | cons y ys ih => rw [ins_cons, ih, List.orderedInsert_cons]
  induction l with
  | nil => exact srt_nil
  | cons x xs ih => rw [srt_cons, ih, hins, List.insertionSort_cons]

theorem insertionSort_pairwise (total : ∀ a b, r a b ∨ r b a) (trans : ∀ a b c, r a b → r b c → r a c)
    (l : List α) : (l.insertionSort r).Pairwise r :=
  haveI : Std.Total r := ⟨total⟩
  haveI : IsTrans α r := ⟨trans⟩
  List.pairwise_insertionSort r l

/-- permuted inputs sort to the same list when `r` tells their elements apart -/
theorem insertionSort_eq_of_perm (total : ∀ a b, r a b ∨ r b a) (trans : ∀ a b c, r a b → r b c → r a c)
    {a b : List α} (h : a.Perm b) (anti : ∀ x ∈ a, ∀ y ∈ a, r x y → r y x → x = y) :
    a.insertionSort r = b.insertionSort r := by
  apply List.Perm.eq_of_pairwise (le := r) _ (insertionSort_pairwise total trans a)
    (insertionSort_pairwise total trans b)
  · exact (List.perm_insertionSort r a).trans (h.trans (List.perm_insertionSort r b).symm)
  · intro x y hx hy
    exact anti x ((List.perm_insertionSort r a).mem_iff.mp hx) y
      (h.mem_iff.mpr ((List.perm_insertionSort r b).mem_iff.mp hy))

end sorting

theorem getD_of_length_le (l : List Rat) (i : Nat) (d : Rat) (h : l.length ≤ i) : l.getD i d = d := by
  rw [List.getD_eq_getElem?_getD, List.getElem?_eq_none h]
  rfl

theorem sorted_getD_le {l : List Rat} (hs : l.Pairwise (· ≤ ·)) {i j : Nat} (hij : i ≤ j)
    (hj : j < l.length) (d d' : Rat) : l.getD i d ≤ l.getD j d' := by
  rw [List.getD_eq_getElem _ _ (by omega : i < l.length), List.getD_eq_getElem _ _ hj]
  rcases Nat.eq_or_lt_of_le hij with rfl | hlt
  · exact le_refl _
  · exact (List.pairwise_iff_getElem.mp hs) i j _ hj hlt

theorem sortRat_eq (l : List Rat) : sortRat l = l.insertionSort (· ≤ ·) :=
  eq_insertionSort insertSorted sortRat (fun _ => rfl) (fun _ _ _ => rfl) rfl (fun _ _ => rfl) l

theorem sortRat_perm (l : List Rat) : (sortRat l).Perm l :=
  sortRat_eq l ▸ List.perm_insertionSort _ l

theorem sortRat_pairwise (l : List Rat) : (sortRat l).Pairwise (· ≤ ·) :=
  sortRat_eq l ▸ insertionSort_pairwise le_total (fun _ _ _ => le_trans) l

theorem sortRat_eq_of_perm {a b : List Rat} (h : a.Perm b) : sortRat a = sortRat b := by
  rw [sortRat_eq, sortRat_eq]
  exact insertionSort_eq_of_perm le_total (fun _ _ _ => le_trans) h fun _ _ _ _ => le_antisymm

theorem sortRat_eq_nil {l : List Rat} : sortRat l = [] ↔ l = [] := by
  rw [← List.length_eq_zero_iff, (sortRat_perm l).length_eq, List.length_eq_zero_iff]

theorem quantile_perm {a b : List Rat} (h : a.Perm b) (q : Rat) : quantile a q = quantile b q := by
  unfold quantile
  rw [sortRat_eq_of_perm h]

theorem quantile_none_iff (a : List Rat) (q : Rat) : quantile a q = none ↔ a = [] := by
  unfold quantile
  rw [← sortRat_eq_nil]
  cases sortRat a <;> simp

theorem bootstrapLoop_spec (raw : Option Rat) (bounds : List (Rat × Rat)) :
    bootstrapLoop raw bounds = (raw, bounds.map (hintFor raw)) := by
  unfold bootstrapLoop
  suffices h : ∀ (acc : List (Option Rat)),
      bounds.foldl (fun st b => (st.1, st.2 ++ [hintFor st.1 b])) (raw, acc)
        = (raw, acc ++ bounds.map (hintFor raw)) by
    simpa using h []
  induction bounds with
  | nil => intro acc; simp
  | cons b bs ih => intro acc; simp [ih]

theorem hintFor_some (c : Rat) {b : Rat × Rat} (hb : b.1 ≤ b.2) :
    ∃ v, hintFor (some c) b = some v ∧ b.1 ≤ v ∧ v ≤ b.2 ∧ (b.1 ≤ c ∧ c ≤ b.2 → v = c) := by
  unfold hintFor
  by_cases h : b.1 ≤ c ∧ c ≤ b.2
  · exact ⟨c, if_pos h, h.1, h.2, fun _ => rfl⟩
  · exact ⟨(b.1 + b.2) / 2, if_neg h, by linarith, by linarith, fun h' => absurd h' h⟩

/-! ### behaviour before commit 182c096 (kept for the regression example of C16):
    `get_fit_params` replaced `params_0[0]` in place and `params_0` was the caller's `params_opt`,
    so the value carried through the loop, and finally reported, was the last start value -/

def oldReportedPth (raw : Option Rat) (bounds : List (Rat × Rat)) : Option Rat :=
  bounds.foldl hintFor raw

/-! ### the tests of `fitStatus` -/

theorem isClose_iff (a b : Rat) : isClose a b = true ↔ |a - b| ≤ 1 / 100000000 + 1 / 100000 * |b| := by
  unfold isClose
  rw [absR_eq_abs, absR_eq_abs]
  exact decide_eq_true_iff

theorem isClose_zero_iff (a : Rat) : isClose a 0 = true ↔ |a| ≤ 1 / 100000000 := by
  rw [isClose_iff]; simp

theorem outside01_iff (x : Rat) : outside01 x = false ↔ 0 ≤ x ∧ x ≤ 1 := by
  unfold outside01
  simp only [Bool.or_eq_false_iff, decide_eq_false_iff_not, not_lt]

end Panqec.An

namespace Panqec.C16
open Panqec.An

/-- an entry all of whose numbers are finite -/
def finiteEntry (f0 nu A B C pth l r se pl pr : Rat) : FitEntry :=
  { fss0 := some f0, nu := some nu, A := some A, B := some B, C := some C, pth := some pth,
    left := some l, right := some r, se := some se, pLeft := pl, pRight := pr }

theorem status_finite_ne (f0 nu A B C pth l r se pl pr : Rat) :
    fitStatus (finiteEntry f0 nu A B C pth l r se pl pr) ≠ .curveFitFailed ∧
    fitStatus (finiteEntry f0 nu A B C pth l r se pl pr) ≠ .nanThreshold := by
  dsimp only [fitStatus, finiteEntry]
  simp only [ne_eq, ite_eq_iff, reduceCtorEq, and_false, or_false, not_false_eq_true, and_self]

/-- `get_fit_status` looks for a NaN first among the fitted parameters, then among the four
    reported numbers; an entry with neither is a `finiteEntry` -/
theorem fitStatus_cases (e : FitEntry) :
    (e.fss0 = none ∨ e.nu = none ∨ e.A = none ∨ e.B = none ∨ e.C = none) ∧ fitStatus e = .curveFitFailed ∨
    (e.fss0 ≠ none ∧ e.nu ≠ none ∧ e.A ≠ none ∧ e.B ≠ none ∧ e.C ≠ none) ∧
      ((e.pth = none ∨ e.left = none ∨ e.right = none ∨ e.se = none) ∧ fitStatus e = .nanThreshold ∨
        ∃ f0 nu A B C pth l r se pl pr, e = finiteEntry f0 nu A B C pth l r se pl pr) := by
  obtain ⟨f0, nu, A, B, C, pth, l, r, se, pl, pr⟩ := e
  -- the two matches inspect the fields in this order, and the first `none` decides by `rfl`
  rcases f0 with _ | f0
  · exact .inl ⟨.inl rfl, rfl⟩
  rcases nu with _ | nu
  · exact .inl ⟨.inr (.inl rfl), rfl⟩
  rcases A with _ | A
  · exact .inl ⟨.inr (.inr (.inl rfl)), rfl⟩
  rcases B with _ | B
  · exact .inl ⟨.inr (.inr (.inr (.inl rfl))), rfl⟩
  rcases C with _ | C
  · exact .inl ⟨.inr (.inr (.inr (.inr rfl))), rfl⟩
  refine .inr ⟨⟨nofun, nofun, nofun, nofun, nofun⟩, ?_⟩
  rcases pth with _ | pth
  · exact .inl ⟨.inl rfl, rfl⟩
  rcases l with _ | l
  · exact .inl ⟨.inr (.inl rfl), rfl⟩
  rcases r with _ | r
  · exact .inl ⟨.inr (.inr (.inl rfl)), rfl⟩
  rcases se with _ | se
  · exact .inl ⟨.inr (.inr (.inr rfl)), rfl⟩
  exact .inr ⟨f0, nu, A, B, C, pth, l, r, se, pl, pr, rfl⟩

end Panqec.C16
