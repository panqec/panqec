/-
`decode_plane` raises nothing when the loop coordinates are non-negative and the grid has a cell:
the two `state[(x - 2, y)]` look-ups always find their key, and `np.argmin` is not handed an empty
sequence; and whatever the loops, every coordinate it returns is a cell of the grid it was given.
-/
import PanqecVerif.Proofs.XCubeDecKeys

namespace Panqec.XCube

open Panqec Panqec.Lat3Db

variable {W α σ : Type}

theorem pyRange2_zero_split (b : Nat) (pre post : List Int) (x : Int)
    (h : pyRange2 0 b = pre ++ x :: post) : x = 0 ∨ (2 ≤ x ∧ x - 2 ∈ pre) := by
  have hget : ∀ i (hi : i < (pyRange2 0 b).length), (pyRange2 0 b)[i] = 2 * (i : Int) := by
    intro i hi
    simp only [pyRange2, List.getElem_map, List.getElem_range', Int.ofNat_eq_natCast]
    omega
  have hlen : pre.length < (pyRange2 0 b).length := by rw [h]; simp
  have hx : x = 2 * (pre.length : Int) := by
    have := hget pre.length hlen
    simp only [h] at this
    rw [List.getElem_append_right (Nat.le_refl _)] at this
    simpa using this
  rcases Nat.eq_zero_or_pos pre.length with h0 | h0
  · left; rw [hx, h0]; rfl
  · right
    refine ⟨by omega, ?_⟩
    have hlt : pre.length - 1 < (pyRange2 0 b).length := by omega
    have := hget (pre.length - 1) hlt
    simp only [h] at this
    rw [List.getElem_append_left (by omega)] at this
    have hm : pre[pre.length - 1] ∈ pre := List.getElem_mem _
    rw [this] at hm
    have : x - 2 = 2 * ((pre.length - 1 : Nat) : Int) := by omega
    rw [this]; exact hm

def NonNegC (c : Coord) : Prop := ∀ v ∈ c, 0 ≤ v

def HasKey (state : List (Coord × Nat)) (key : Coord) : Prop := ∃ e ∈ state, e.1 = key

theorem spec_stateGet {state : List (Coord × Nat)} {key : Coord} (h : HasKey state key)
    (E : XErr → Prop) : Spec (stateGet state key : Out W Nat) E (fun _ => True) := by
  unfold stateGet
  refine spec_orKeyError (fun hn => ?_) fun _ _ => trivial
  obtain ⟨e, he, hk⟩ := h
  have := List.find?_eq_none.mp (Option.map_eq_none_iff.mp hn) e he
  simp [hk] at this

theorem hasKey_append_left {state : List (Coord × Nat)} {key : Coord} (extra : List (Coord × Nat))
    (h : HasKey state key) : HasKey (state ++ extra) key := by
  obtain ⟨e, he, hk⟩ := h
  exact ⟨e, List.mem_append_left _ he, hk⟩

theorem errs_cellState (loops : List Coord) (hl : ∀ c ∈ loops, NonNegC c)
    (state : List (Coord × Nat)) (x y : Int) (cur : Nat)
    (hx : x = 0 ∨ (2 ≤ x ∧ HasKey state [x - 2, 0])) (E : XErr → Prop) :
    Errs (cellState loops state x y cur : Out W Nat) E := by
  unfold cellState
  refine errs_bind ?_ (fun _ => spec_pure trivial)
  by_cases hy : y = 0
  · have hy' : (y == 0) = true := by simp [hy]
    rw [if_pos hy']
    subst hy
    rcases hx with h0 | ⟨h2, hk⟩
    · subst h0
      have hnot : loops.contains [(0 : Int) - 1, 0] = false := by
        rw [Bool.eq_false_iff]
        intro hc
        have := hl _ (List.contains_iff_mem.mp hc) (-1) (by simp)
        omega
      simp only [hnot, Bool.false_eq_true, if_false]
      have : ¬ ((0 : Int) ≥ 2) := by omega
      simp only [this, if_false]
      exact spec_pure trivial
    · split
      · exact errs_bind (spec_stateGet hk _) (fun _ => spec_pure trivial)
      · exact spec_stateGet hk _
  · have : (y == 0) = false := by simpa using hy
    simp only [this, Bool.false_eq_true, if_false]
    exact spec_pure trivial

/-- the only look-ups are `state[(x - 2, 0)]`, so the invariant follows the keys `(x', 0)` -/
theorem spec_planeState (loops : List Coord) (hl : ∀ c ∈ loops, NonNegC c) (Lx Ly : Nat) (hLy : 1 ≤ Ly)
    (E : XErr → Prop) :
    Spec (planeState loops Lx Ly : Out W _) E (fun state => ∀ x' ∈ pyRange2 0 (2 * Lx), HasKey state [x', 0]) := by
  unfold planeState
  refine spec_forM'_prefix (l := pyRange2 0 (2 * Lx))
    (fun (pre : List Int) (state : List (Coord × Nat)) => ∀ x' ∈ pre, HasKey state [x', 0])
    ?_ [] _ [] (by simp) (by simp)
  intro pre x post state hsplit hI
  have hx := pyRange2_zero_split _ _ _ _ hsplit
  -- inner loop: the keys of the earlier rows stay, the cell (x, 0) is added
  refine spec_bind (Q := fun st => (∀ x' ∈ pre, HasKey st.1 [x', 0]) ∧ HasKey st.1 [x, 0]) ?_
    fun st hst => spec_pure ?_
  · refine Spec.mono (spec_forM'_prefix (l := pyRange2 0 (2 * Ly))
      (fun (prey : List Int) (st : List (Coord × Nat) × Nat) =>
        (∀ x' ∈ pre, HasKey st.1 [x', 0]) ∧ ∀ y' ∈ prey, HasKey st.1 [x, y'])
      ?_ [] _ (state, 0) (by simp) ⟨hI, by simp⟩) fun st hst => ⟨hst.1, hst.2 0 ?_⟩
    · intro prey y posty st _ hJ
      refine spec_bind (errs_cellState loops hl _ x y _ (hx.imp_right fun h => ⟨h.1, hJ.1 _ h.2⟩) E)
        fun c _ => spec_pure ⟨?_, ?_⟩
      · intro x' hx'; exact hasKey_append_left _ (hJ.1 x' hx')
      · intro y' hy'
        rcases List.mem_append.mp hy' with h | h
        · exact hasKey_append_left _ (hJ.2 y' h)
        · rw [List.mem_singleton.mp h]
          exact ⟨([x, y], c), by simp, rfl⟩
    · rw [mem_pyRange2_0]; unfold R0; omega
  · intro x' hx'
    rcases List.mem_append.mp hx' with h | h
    · exact hst.1 x' h
    · rw [List.mem_singleton.mp h]; exact hst.2

theorem errs_decodePlane (loops : List Coord) (hl : ∀ c ∈ loops, NonNegC c) (Lx Ly : Nat) (hLx : 1 ≤ Lx)
    (hLy : 1 ≤ Ly) (E : XErr → Prop) : Errs (decodePlane loops Lx Ly : Out W _) E := by
  unfold decodePlane
  refine spec_bind (spec_planeState loops hl Lx Ly hLy E) fun state hstate => ?_
  refine errs_bind ?_ (fun _ => spec_pure trivial)
  obtain ⟨e, he, _⟩ := hstate 0 (by rw [mem_pyRange2_0]; unfold R0; omega)
  unfold minorityState
  simp only
  split
  · rename_i hemp
    rw [List.isEmpty_iff, List.map_eq_nil_iff] at hemp
    rw [hemp] at he; cases he
  · split <;> exact spec_pure trivial

theorem post_planeState (loops : List Coord) (Lx Ly : Nat) :
    Post (planeState loops Lx Ly : Out W _) (fun state => ∀ e ∈ state, Cell Lx Ly e.1) := by
  unfold planeState
  refine spec_forM' (fun (state : List (Coord × Nat)) => ∀ e ∈ state, Cell Lx Ly e.1) ?_ [] (by simp)
  intro state x hx hstate
  rw [mem_pyRange2_0] at hx
  refine spec_bind (Q := fun (st : List (Coord × Nat) × Nat) => ∀ e ∈ st.1, Cell Lx Ly e.1) ?_ ?_
  · refine spec_forM' (fun (st : List (Coord × Nat) × Nat) => ∀ e ∈ st.1, Cell Lx Ly e.1) ?_ _ hstate
    intro st y hy hst
    rw [mem_pyRange2_0] at hy
    refine spec_bind (post_true _) ?_
    intro c _
    refine spec_pure ?_
    intro e he
    rcases List.mem_append.mp he with h | h
    · exact hst e h
    · simp only [List.mem_singleton] at h
      subst h
      exact ⟨x, y, rfl, hx, hy⟩
  · intro st hst
    exact spec_pure hst

theorem post_decodePlane (loops : List Coord) (Lx Ly : Nat) :
    Post (decodePlane loops Lx Ly : Out W _) (fun cs => ∀ c ∈ cs, Cell Lx Ly c) := by
  unfold decodePlane
  refine spec_bind (post_planeState loops Lx Ly) ?_
  intro state hstate
  refine spec_bind (post_true _) ?_
  intro m _
  refine spec_pure ?_
  intro c hc
  cases m with
  | none => simp at hc
  | some v =>
    simp only [List.mem_map, List.mem_filter] at hc
    obtain ⟨e, ⟨he, _⟩, rfl⟩ := hc
    exact hstate e he

end Panqec.XCube
