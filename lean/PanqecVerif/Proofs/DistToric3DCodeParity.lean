/-
Toric3DCode, all sizes, C17: the lattice translates of the six listed logical operators
and the parity argument.

A dict operator `b` that commutes with every stabilizer generator anticommutes (mod 2) with every
translate of a listed logical on as many qubits as with the logical itself:
* X lines (`logicals_x`): two consecutive translates of a line differ by the product of the row of
  face generators between them (the qubits across are counted twice, cyclically shifted);
* Z planes (`logicals_z`): two consecutive translates of a plane along its normal differ by the
  product of the slab of vertex generators between them (the in-slab qubits are counted twice).
-/
import PanqecVerif.Proofs.DistCubic3D
import PanqecVerif.Proofs.LatToric3DCodeLists
import PanqecVerif.Proofs.LatToric3DCodeLog

namespace Panqec.Toric3DCode
open Panqec.Cubic3D Panqec.Lat2D

def CommStabs (Lx Ly Lz : Nat) (b : Op) : Prop :=
  ∀ s ∈ (lattice Lx Ly Lz).stabs, opAntiCount ((lattice Lx Ly Lz).getStab s) b % 2 = 0

variable {Lx Ly Lz : Nat} {b : Op}

theorem stab_even (hb : CommStabs Lx Ly Lz b) {s : Coord} {ks : List Coord} {P : Pauli}
    (hs : s ∈ stabs Lx Ly Lz) (e : getStab Lx Ly Lz s = uop ks P) :
    ks.countP (opHit P b) % 2 = 0 := by
  rw [← lattice_getStab] at e
  exact (lattice Lx Ly Lz).stab_even hb hs e

section axis
variable (hLx : 2 ≤ Lx) (hLy : 2 ≤ Ly) (hLz : 2 ≤ Lz) (hb : CommStabs Lx Ly Lz b) (ax : Axis)
  {u v w : Int}
include hLx hLy hLz hb

/-- a vertex generator placed along `ax`: the six neighbours (given by name) carry an even number
    of hits -/
theorem vertex_even (hu : isE (sz Lx Ly Lz ax) u) (hv : isE (sz Lx Ly Lz (nx ax)) v)
    (hw : isE (sz Lx Ly Lz (nx (nx ax))) w) {um up vm vp wm wp : Int}
    (e1 : predW u (2 * (sz Lx Ly Lz ax : Int)) = um) (e2 : u + 1 = up)
    (e3 : predW v (2 * (sz Lx Ly Lz (nx ax) : Int)) = vm) (e4 : v + 1 = vp)
    (e5 : predW w (2 * (sz Lx Ly Lz (nx (nx ax)) : Int)) = wm) (e6 : w + 1 = wp) :
    (ind Pauli.Z b (put ax um v w) + ind Pauli.Z b (put ax up v w) + ind Pauli.Z b (put ax u vm w)
      + ind Pauli.Z b (put ax u vp w) + ind Pauli.Z b (put ax u v wm)
      + ind Pauli.Z b (put ax u v wp)) % 2 = 0 := by
  subst e1 e2 e3 e4 e5 e6
  have key : ∀ {x y z : Int} (h : isVertex Lx Ly Lz x y z),
      (vertexKeys Lx Ly Lz x y z).countP (opHit Pauli.Z b) % 2 = 0 := fun h =>
    stab_even hb (mem_stabs.mpr (.inl h)) (getStab_vertex hLx hLy hLz h)
  cases ax <;> [have h := key ⟨hu, hv, hw⟩; have h := key ⟨hw, hu, hv⟩;
      have h := key ⟨hv, hw, hu⟩] <;>
  · simp only [vertexKeys, List.countP_cons, List.countP_nil] at h
    simp only [put, sz, nx]
    unfold ind
    omega

/-- a face generator in the plane of `ax` and the axis after it -/
theorem face_even (hu : isO (sz Lx Ly Lz ax) u) (hv : isO (sz Lx Ly Lz (nx ax)) v)
    (hw : isE (sz Lx Ly Lz (nx (nx ax))) w) {um up vm vp : Int}
    (e1 : u - 1 = um) (e2 : succW u (2 * (sz Lx Ly Lz ax : Int)) = up)
    (e3 : v - 1 = vm) (e4 : succW v (2 * (sz Lx Ly Lz (nx ax) : Int)) = vp) :
    (ind Pauli.X b (put ax um v w) + ind Pauli.X b (put ax up v w) + ind Pauli.X b (put ax u vm w)
      + ind Pauli.X b (put ax u vp w)) % 2 = 0 := by
  subst e1 e2 e3 e4
  have key : ∀ {n : Axis} {a p q : Int} (h : isFace Lx Ly Lz n a p q),
      (faceKeys Lx Ly Lz n a p q).countP (opHit Pauli.X b) % 2 = 0 := fun {n} _ _ _ h =>
    stab_even hb (face_mem h)
      (getStab_face (by cases n <;> assumption) (by cases n <;> assumption) h)
  cases ax <;> [have h := key (n := .z) ⟨hw, hu, hv⟩; have h := key (n := .x) ⟨hw, hu, hv⟩;
      have h := key (n := .y) ⟨hw, hv, hu⟩] <;>
  · simp only [faceKeys_eq, ins, sz, Axis.fst, Axis.snd, List.countP_cons, List.countP_nil] at h
    simp only [put, sz, nx]
    unfold ind
    omega

/-- a listed X line and its translates `put ax · (2i) 0`: two consecutive ones differ by the row
    of faces between them -/
theorem parity_line (i : Nat) (hi : i < sz Lx Ly Lz (nx ax)) :
    (line Lx Ly Lz ax i).countP (opHit Pauli.X b) % 2 =
      (line Lx Ly Lz ax 0).countP (opHit Pauli.X b) % 2 := by
  unfold line
  rw [countP_lineO, countP_lineO]
  refine ladderS _ _ (fun i j => ind Pauli.X b (put ax (2 * (j : Int) + 1) (2 * (i : Int)) 0))
    (fun i j => ind Pauli.X b (put ax (2 * (j : Int)) (2 * (i : Int) + 1) 0)) ?_ i hi
  intro i hi j hj
  have h := face_even hLx hLy hLz hb ax (u := 2 * (j : Int) + 1) (v := 2 * (i : Int) + 1) (w := 0)
    (by simp only [isO]; omega) (by simp only [isO]; omega)
    (isE_zero (by have := le_sz hLx hLy hLz (nx (nx ax)); omega)) (um := 2 * (j : Int))
    (up := 2 * ((wrapS (sz Lx Ly Lz ax) j : Nat) : Int)) (vm := 2 * (i : Int))
    (vp := 2 * ((i + 1 : Nat) : Int)) (by omega) ((Toric2DCode.succW_eq ..).trans (cup_odd_nat ..)) (by omega)
    (by unfold succW; rw [if_neg (by omega)]; omega)
  omega

/-- a listed Z plane and its translates `put ax (2i + 1) · ·`: two consecutive ones differ by the
    slab of vertices between them -/
theorem parity_plane (i : Nat) (hi : i < sz Lx Ly Lz ax) :
    (plane Lx Ly Lz ax i).countP (opHit Pauli.Z b) % 2 =
      (plane Lx Ly Lz ax 0).countP (opHit Pauli.Z b) % 2 := by
  unfold plane
  rw [countP_planeE, countP_planeE]
  refine slab _ _ _
    (fun i j k => ind Pauli.Z b (put ax (2 * (i : Int) + 1) (2 * (j : Int)) (2 * (k : Int))))
    (fun i j k => ind Pauli.Z b (put ax (2 * (i : Int) + 2) (2 * (j : Int) + 1) (2 * (k : Int))))
    (fun i j k => ind Pauli.Z b (put ax (2 * (i : Int) + 2) (2 * (j : Int)) (2 * (k : Int) + 1)))
    ?_ i hi
  intro i hi j k hj hk
  have h := vertex_even hLx hLy hLz hb ax (u := 2 * (i : Int) + 2) (v := 2 * (j : Int))
    (w := 2 * (k : Int)) (by simp only [isE]; omega) (by simp only [isE]; omega)
    (by simp only [isE]; omega) (um := 2 * (i : Int) + 1) (up := 2 * ((i + 1 : Nat) : Int) + 1)
    (vm := 2 * ((wrapP (sz Lx Ly Lz (nx ax)) j : Nat) : Int) + 1) (vp := 2 * (j : Int) + 1)
    (wm := 2 * ((wrapP (sz Lx Ly Lz (nx (nx ax))) k : Nat) : Int) + 1) (wp := 2 * (k : Int) + 1)
    (by unfold predW; rw [if_neg (by omega)]; omega) (by omega) ((Toric2DCode.predW_eq ..).trans (cdn_even_nat hj)) rfl
    ((Toric2DCode.predW_eq ..).trans (cdn_even_nat hk)) rfl
  omega

end axis

end Panqec.Toric3DCode
