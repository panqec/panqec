/-
Helper lemmas about `Model/Code.lean`: CSS block structure
(`xIndices`, `zIndices`, `isCss`, `Hx`, `Hz`, `extractXSyndrome`, `extractZSyndrome`).
Core Lean only.
-/
import PanqecVerif.Proofs.CodeDictBsf
import PanqecVerif.Proofs.RowCombos

namespace Panqec

/-- the row has an X component (`x_indices` flag) -/
def xFlag (r : List Nat) : Bool := (xPart r).any (· ≠ 0)
/-- the row has a Z component (`z_indices` flag) -/
def zFlag (r : List Nat) : Bool := (zPart r).any (· ≠ 0)

theorem xIndices_eq (H : List (List Nat)) : xIndices H = H.map xFlag := rfl
theorem zIndices_eq (H : List (List Nat)) : zIndices H = H.map zFlag := rfl

theorem isCss_iff (H : List (List Nat)) :
    isCss H = true ↔ ∀ r ∈ H, ¬ (xFlag r = true ∧ zFlag r = true) := by
  simp only [isCss, xIndices_eq, zIndices_eq, List.zipWith_map, List.zipWith_self, List.all_map,
    List.all_eq_true, Function.comp]
  exact forall₂_congr fun r _ => by cases xFlag r <;> simp

theorem zFlag_false_of_isCss {H : List (List Nat)} (hcss : isCss H = true) {r : List Nat}
    (hr : r ∈ H) (hx : xFlag r = true) : zFlag r = false :=
  Bool.eq_false_iff.mpr fun hz => (isCss_iff H).mp hcss r hr ⟨hx, hz⟩

theorem xFlag_false_of_isCss {H : List (List Nat)} (hcss : isCss H = true) {r : List Nat}
    (hr : r ∈ H) (hz : zFlag r = true) : xFlag r = false :=
  Bool.eq_false_iff.mpr fun hx => (isCss_iff H).mp hcss r hr ⟨hx, hz⟩

theorem flag_false_iff (a : List Nat) : a.any (· ≠ 0) = false ↔ ∀ x ∈ a, x = 0 := by
  rw [List.any_eq_false]
  constructor
  · intro h x hx; simpa using h x hx
  · intro h x hx; simpa using h x hx

theorem flag_of_nonzero (r : List Nat) (h : ∃ x ∈ r, x ≠ 0) : xFlag r = true ∨ zFlag r = true := by
  obtain ⟨x, hx, hne⟩ := h
  rw [← xPart_append_zPart r, List.mem_append] at hx
  rcases hx with hx | hx
  · left; unfold xFlag; rw [List.any_eq_true]; exact ⟨x, hx, by simpa using hne⟩
  · right; unfold zFlag; rw [List.any_eq_true]; exact ⟨x, hx, by simpa using hne⟩

theorem symp_of_zFlag_false (r e : List Nat) (h : zFlag r = false) :
    symp r e = dot (xPart r) (zPart e) % 2 := by
  unfold symp
  rw [dot_zero_left (zPart r) (xPart e) ((flag_false_iff _).mp h), Nat.add_zero]

theorem symp_of_xFlag_false (r e : List Nat) (h : xFlag r = false) :
    symp r e = dot (zPart r) (xPart e) % 2 := by
  unfold symp
  rw [dot_zero_left (xPart r) (zPart e) ((flag_false_iff _).mp h), Nat.zero_add]

theorem maskSelect_map_map {α β} (m : α → Bool) (g : α → β) : ∀ H : List α,
    maskSelect (H.map m) (H.map g) = H.filterMap (fun r => if m r then some (g r) else none)
  | [] => rfl
  | r :: H => by
    have ih := maskSelect_map_map m g H
    unfold maskSelect at ih ⊢
    simp only [List.map_cons, List.zip_cons_cons, List.filterMap_cons, ih]

theorem maskSelect_map_congr {α β γ} (m : α → Bool) (s : α → γ) (g : α → β) (t : β → γ)
    (H : List α) (h : ∀ r ∈ H, m r = true → s r = t (g r)) :
    maskSelect (H.map m) (H.map s) = (maskSelect (H.map m) (H.map g)).map t := by
  rw [maskSelect_map_map, maskSelect_map_map, List.map_filterMap]
  apply filterMap_congr'
  intro r hr
  cases hm : m r
  · rfl
  · simp [h r hr hm]

end Panqec
