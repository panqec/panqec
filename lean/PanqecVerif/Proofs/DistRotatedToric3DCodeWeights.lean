/-
RotatedToric3DCode, supported family, C17: weights of the listed logical operators and the reported
distance, for the three parities of the family.
-/
import PanqecVerif.Proofs.DistRotatedToric3DCodeLowerBound

namespace Panqec.RotatedToric3DCode
open Panqec.Lat3Db

variable {Lx Ly Lz : Nat}

theorem weights_EE (hF : Fam Lx Ly) (hx : Lx % 2 = 0) (hy : Ly % 2 = 0) (hLz : 1 ≤ Lz) :
    (lattice Lx Ly Lz).rowsX.map pauliWeight = [Lx, Ly] ∧
    (lattice Lx Ly Lz).rowsZ.map pauliWeight = [Ly * Lz, Lx * Lz] := by
  have h1x : 1 ≤ Lx := by have := hF.1; omega
  have h1y : 1 ≤ Ly := by have := hF.2.1; omega
  rw [(wf hF).weights.1, (wf hF).weights.2, lattice_logX, lattice_logZ, logX_EE hx hy,
    logZ_EE hx hy]
  simp only [List.map_cons, List.map_nil, length_constOp, (LK_fXy_perm (Lx := Lx) h1y hLz).length_eq,
    (LK_fXx_perm (Ly := Ly) h1x hLz).length_eq,
    (LK_wallX_perm (Ly := Ly) (Lz := Lz) (f := fZx) h1x fun _ _ _ => rfl).length_eq,
    (LK_wallY_perm (Lx := Lx) (Lz := Lz) (f := fZy) h1y fun _ _ _ => rfl).length_eq, wallXK_eq,
    length_lineK, length_wallK]
  exact ⟨trivial, trivial⟩

theorem weights_OE (hF : Fam Lx Ly) (hx : Lx % 2 = 1) (hy : Ly % 2 = 0) (hLz : 1 ≤ Lz) :
    (lattice Lx Ly Lz).rowsX.map pauliWeight = [Ly] ∧
    (lattice Lx Ly Lz).rowsZ.map pauliWeight = [Lx * Lz] := by
  have h1x : 1 ≤ Lx := by have := hF.1; omega
  have h1y : 1 ≤ Ly := by have := hF.2.1; omega
  rw [(wf hF).weights.1, (wf hF).weights.2, lattice_logX, lattice_logZ, logX_OE hx hy,
    logZ_odd (by omega) hF.2.2]
  simp only [List.map_cons, List.map_nil, length_constOp, (LK_fXx_perm (Ly := Ly) h1x hLz).length_eq,
    (LK_wallY_perm (Lz := Lz) (f := fY Lx Ly) h1y fun _ _ _ => by simp [fY, hx, hy]).length_eq,
    length_lineK, length_wallK]
  exact ⟨trivial, trivial⟩

theorem weights_EO (hF : Fam Lx Ly) (hx : Lx % 2 = 0) (hy : Ly % 2 = 1) (hLz : 1 ≤ Lz) :
    (lattice Lx Ly Lz).rowsX.map pauliWeight = [Lx] ∧
    (lattice Lx Ly Lz).rowsZ.map pauliWeight = [Ly * Lz] := by
  have h1x : 1 ≤ Lx := by have := hF.1; omega
  have h1y : 1 ≤ Ly := by have := hF.2.1; omega
  rw [(wf hF).weights.1, (wf hF).weights.2, lattice_logX, lattice_logZ, logX_EO hx hy,
    logZ_odd (by omega) hF.2.2]
  simp only [List.map_cons, List.map_nil, length_constOp, (LK_fXy_perm (Lx := Lx) h1y hLz).length_eq,
    (LK_wallX_perm (Lz := Lz) (f := fY Lx Ly) h1x fun _ _ _ => by simp [fY, hx, hy]).length_eq,
    wallXK_eq, length_lineK, length_wallK]
  exact ⟨trivial, trivial⟩

theorem reported_EE (hF : Fam Lx Ly) (hx : Lx % 2 = 0) (hy : Ly % 2 = 0) (hLz : 1 ≤ Lz) :
    distance (lattice Lx Ly Lz).rowsX (lattice Lx Ly Lz).rowsZ = some (min Lx Ly) := by
  obtain ⟨h1, h2⟩ := weights_EE hF hx hy hLz
  rw [distance_of_weights h1 h2 (a := min Lx Ly) (b := min (Ly * Lz) (Lx * Lz)) rfl rfl]
  have e1 : Lx ≤ Lx * Lz := Nat.le_mul_of_pos_right _ (by omega)
  have e2 : Ly ≤ Ly * Lz := Nat.le_mul_of_pos_right _ (by omega)
  congr 1
  omega

theorem reported_OE (hF : Fam Lx Ly) (hx : Lx % 2 = 1) (hy : Ly % 2 = 0) (hLz : 1 ≤ Lz) :
    distance (lattice Lx Ly Lz).rowsX (lattice Lx Ly Lz).rowsZ = some (min Ly (Lx * Lz)) := by
  obtain ⟨h1, h2⟩ := weights_OE hF hx hy hLz
  exact distance_of_weights h1 h2 rfl rfl

theorem reported_EO (hF : Fam Lx Ly) (hx : Lx % 2 = 0) (hy : Ly % 2 = 1) (hLz : 1 ≤ Lz) :
    distance (lattice Lx Ly Lz).rowsX (lattice Lx Ly Lz).rowsZ = some (min Lx (Ly * Lz)) := by
  obtain ⟨h1, h2⟩ := weights_EO hF hx hy hLz
  exact distance_of_weights h1 h2 rfl rfl

end Panqec.RotatedToric3DCode
