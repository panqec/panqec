/-
Color666ToricCode, all square sizes `L ≥ 1`, C17: the zig-zag ladder (frames and zig-zags:
`LatColor666ToricCodeZig`).

`Z c t` and `Z c (t+1)` differ by the faces `(t+1, J)`, `(t+1, J+1)` of the column between them (two
of their corners are counted twice, two are shifted cyclically by one block): a dict operator that
commutes with every generator anticommutes (mod 2) with every `Z c t` on as many qubits as with
`Z c 0`.
-/
import PanqecVerif.Proofs.LatColor666ToricCodeZig
import PanqecVerif.Proofs.DistLines


namespace Panqec.Color666ToricCode
open Panqec.Lat2D Panqec.Color

def CommStabs (L : Nat) (b : Op) : Prop :=
  ∀ s ∈ (lattice L L).stabs, opAntiCount ((lattice L L).getStab s) b % 2 = 0

/-- the six corners of a face of a frame, named: an even number of them is hit by `b` -/
theorem face_even {L : Nat} (hL : 1 ≤ L) (f : Bool) {b : Op} (hb : CommStabs L b) {p : Int}
    (hp : p = 0 ∨ p = 1) (a j : Int) {am ap jm jp : Int} (e1 : am = a - 1) (e2 : ap = a + 1)
    (e3 : jm = j - 1) (e4 : jp = j + 1) :
    (ind (letter p) b (fR L f a j) + ind (letter p) b (fL L f a j)
      + ind (letter p) b (fL L f ap j) + ind (letter p) b (fL L f ap jm)
      + ind (letter p) b (fR L f am jp) + ind (letter p) b (fR L f am j)) % 2 = 0 := by
  subst e1 e2 e3 e4
  obtain ⟨x, y, hf, hs⟩ := isF_of_faceF hL f a j
  have hm : [x, y, p] ∈ stabs L L := mem_stabs'.mpr ⟨hf, hp⟩
  have h := hb [x, y, p] hm
  rw [getStab_eq hL hm, opAntiCount_line, hs] at h
  unfold cornersF at h
  simp only [List.countP_cons, List.countP_nil] at h
  unfold ind
  omega

theorem rsum_shift1 (g : Nat → Nat) (L : Nat) (h : g L = g 0) :
    rsum L (fun i => g (i + 1)) = rsum L g := by
  have h1 := rsum_succ' g L
  have h2 : rsum (L + 1) g = rsum L g + g L := rfl
  omega

/-- the hits of `b` on the block of the zig-zag at the face column `a`, height `J` -/
def blk (L : Nat) (f : Bool) (P : Pauli) (b : Op) (a J : Int) : Nat :=
  ind P b (fR L f a J) + ind P b (fL L f (a + 1) J) + ind P b (fL L f (a + 1) (J + 1))
    + ind P b (fR L f a (J + 2))

/-- the number of hits of `b` on the zig-zag `Z c t` -/
def zigS (L : Nat) (f : Bool) (P : Pauli) (b : Op) (c t : Int) : Nat :=
  rsum L (fun i => blk L f P b t (t + c + 3 * (i : Int)))

theorem zig_link {L : Nat} (hL : 1 ≤ L) (f : Bool) {b : Op} (hb : CommStabs L b) {p : Int}
    (hp : p = 0 ∨ p = 1) (c t : Int) :
    (zigS L f (letter p) b c t + zigS L f (letter p) b c (t + 1)) % 2 = 0 := by
  let G : Nat → Nat := fun i => ind (letter p) b (fL L f (t + 2) (t + c + 3 * (i : Int) - 1))
  let H : Nat → Nat := fun i => ind (letter p) b (fR L f (t + 1) (t + c + 3 * (i : Int)))
  let A : Nat → Nat := fun i =>
    ind (letter p) b (fR L f (t + 1) (t + c + 3 * (i : Int) + 1))
      + ind (letter p) b (fL L f (t + 2) (t + c + 3 * (i : Int) + 1))
  have hG : G L = G 0 := by
    simp only [G]
    rw [fL_congr hL f (a := t + 2) (j := t + c + 3 * (L : Int) - 1) (a' := t + 2)
      (j' := t + c + 3 * ((0 : Nat) : Int) - 1) ((cg_zero L).congr (by ring))
      ((cg_period L).neg.congr (by push_cast; ring))]
  have hH : H L = H 0 := by
    simp only [H]
    rw [fR_congr hL f (a := t + 1) (j := t + c + 3 * (L : Int)) (a' := t + 1)
      (j' := t + c + 3 * ((0 : Nat) : Int)) ((cg_zero L).congr (by ring))
      ((cg_period L).neg.congr (by push_cast; ring))]
  have e2 : zigS L f (letter p) b c (t + 1) =
      rsum L A + rsum L (fun i => G (i + 1)) + rsum L (fun i => H (i + 1)) := by
    unfold zigS
    rw [← rsum_add, ← rsum_add]
    apply rsum_congr
    intro i _
    simp only [A, G, H, blk]
    rw [show t + 1 + c + 3 * (i : Int) = t + c + 3 * (i : Int) + 1 by ring,
      show t + 1 + 1 = t + 2 by ring,
      show t + c + 3 * (i : Int) + 1 + 1 = t + c + 3 * ((i + 1 : Nat) : Int) - 1 by push_cast; ring,
      show t + c + 3 * (i : Int) + 1 + 2 = t + c + 3 * ((i + 1 : Nat) : Int) by push_cast; ring]
  have he := rsum_even L (g := fun i => blk L f (letter p) b t (t + c + 3 * (i : Int))
      + (A i + G i + H i)) (fun i _ => by
    have h1 := face_even hL f hb hp (t + 1) (t + c + 3 * (i : Int)) (am := t) (ap := t + 2)
      (jm := t + c + 3 * (i : Int) - 1) (jp := t + c + 3 * (i : Int) + 1)
      (by ring) (by ring) (by ring) (by ring)
    have h2 := face_even hL f hb hp (t + 1) (t + c + 3 * (i : Int) + 1) (am := t) (ap := t + 2)
      (jm := t + c + 3 * (i : Int)) (jp := t + c + 3 * (i : Int) + 2)
      (by ring) (by ring) (by ring) (by ring)
    simp only [A, G, H, blk]
    omega)
  rw [rsum_add, rsum_add, rsum_add] at he
  rw [e2, rsum_shift1 G L hG, rsum_shift1 H L hH]
  unfold zigS
  omega

theorem zig_parity {L : Nat} (hL : 1 ≤ L) (f : Bool) {b : Op} (hb : CommStabs L b) {p : Int}
    (hp : p = 0 ∨ p = 1) (c : Int) (M : Nat) (t : Nat) (ht : t < M) :
    zigS L f (letter p) b c (t : Int) % 2 = zigS L f (letter p) b c 0 % 2 := by
  have := chain M (fun t => zigS L f (letter p) b c (t : Int)) (fun i _ => by
    have := zig_link hL f hb hp c (i : Int)
    rw [show ((i + 1 : Nat) : Int) = (i : Int) + 1 by push_cast; ring]
    exact this) t ht
  simpa using this

end Panqec.Color666ToricCode
