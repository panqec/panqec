/-
Color3DCode: the coordinate permutations `plc ax` (identity, exchange of x and y, and
`(u, v, w) ↦ (v, w, u)`), `place ax` and `sides ax`, and their action on the supports of the generators
AS SETS.  The order of the deltas in `deltaHex` / `deltaSquare` is not symmetric, their membership is
(on locations whose three coordinates have one parity: every generator location); the periodic
identification is coordinatewise.  So the keys of the generator at `plc ax (u, v, w)` of the lattice
with the sides `Lx, Ly, Lz` are the points `place ax a b c` for the keys `(a, b, c)` of the generator
at `(u, v, w)` of the lattice with the sides in the order `sides ax`.  Core Lean only.
-/
import PanqecVerif.Proofs.LatColor3DCodeStab

namespace Panqec.Color3DCode
open Panqec.Lat2D Panqec.Color

def toC (q : D3) : Coord := [q.1, q.2.1, q.2.2]

/-- `(u, v, w)` with `u` put on the axis `ax` (0, 1, 2 for x, y, z) and `v`, `w` on the two other
    axes in their order: `(u, v, w)`, `(v, u, w)`, `(v, w, u)` -/
def plc : Nat → Int → Int → Int → D3
  | 0, u, v, w => (u, v, w)
  | 1, u, v, w => (v, u, w)
  | _, u, v, w => (v, w, u)

def place (ax : Nat) (u v w : Int) : Coord := toC (plc ax u v w)

/-- the sides in the order in which `place ax` reads the coordinates -/
def sides : Nat → Nat → Nat → Nat → Nat × Nat × Nat
  | 0, Lx, Ly, Lz => (Lx, Ly, Lz)
  | 1, Lx, Ly, Lz => (Ly, Lx, Lz)
  | _, Lx, Ly, Lz => (Lz, Lx, Ly)

theorem place_inj {ax : Nat} {u v w u' v' w' : Int} (h : place ax u v w = place ax u' v' w') :
    u = u' ∧ v = v' ∧ w = w' := by
  rcases ax with _ | _ | n <;> simp only [place, plc, toC, List.cons.injEq, and_true] at h
  · exact h
  · exact ⟨h.2.1, h.1, h.2.2⟩
  · exact ⟨h.2.2, h.1, h.2.1⟩

/-- `plc ax` on a triple -/
def pd (ax : Nat) (d : D3) : D3 := plc ax d.1 d.2.1 d.2.2

/-- the delta table of the permuted residues is the permuted delta table, as a set (a table check
    over the residues modulo 4 of one parity) -/
theorem shape_pd_tbl : ∀ ax ∈ [1, 2], ∀ ru ∈ res4, ∀ rv ∈ res4, ∀ rw ∈ res4,
    ru % 2 = rv % 2 → rv % 2 = rw % 2 →
    (∀ d ∈ shape ru rv rw, pd ax d ∈ shape (plc ax ru rv rw).1 (plc ax ru rv rw).2.1
      (plc ax ru rv rw).2.2) ∧
    ∀ e ∈ shape (plc ax ru rv rw).1 (plc ax ru rv rw).2.1 (plc ax ru rv rw).2.2,
      ∃ d ∈ shape ru rv rw, pd ax d = e := by
  decide +kernel

theorem mem_shape_pd (ax : Nat) {u v w : Int} (hp : u % 2 = v % 2 ∧ v % 2 = w % 2) {e : D3} :
    e ∈ shape (plc ax u v w).1 (plc ax u v w).2.1 (plc ax u v w).2.2 ↔
      ∃ d ∈ shape u v w, pd ax d = e := by
  have key : ∀ a ∈ [1, 2], (e ∈ shape (plc a u v w).1 (plc a u v w).2.1 (plc a u v w).2.2 ↔
      ∃ d ∈ shape u v w, pd a d = e) := by
    intro a ha
    have h := shape_pd_tbl a ha _ (mem_res4 u) _ (mem_res4 v) _ (mem_res4 w) (by omega) (by omega)
    have e1 : shape (plc a u v w).1 (plc a u v w).2.1 (plc a u v w).2.2 =
        shape (plc a (u % 4) (v % 4) (w % 4)).1 (plc a (u % 4) (v % 4) (w % 4)).2.1
          (plc a (u % 4) (v % 4) (w % 4)).2.2 := by
      simp only [List.mem_cons, List.not_mem_nil, or_false] at ha
      rcases ha with rfl | rfl <;> exact shape_res ..
    rw [e1, shape_res u v w]
    exact ⟨h.2 e, fun ⟨d, hd, e'⟩ => e' ▸ h.1 d hd⟩
  rcases ax with _ | _ | n
  · exact ⟨fun h => ⟨e, h, rfl⟩, fun ⟨d, hd, e'⟩ => e' ▸ hd⟩
  · exact key 1 (by decide)
  · exact key 2 (by decide)

theorem pd_inj {ax : Nat} {d e : D3} (h : pd ax d = pd ax e) : d = e := by
  obtain ⟨d1, d2, d3⟩ := d
  obtain ⟨e1, e2, e3⟩ := e
  rcases ax with _ | _ | n <;> simp only [pd, plc, Prod.mk.injEq] at h ⊢
  · exact h
  · exact ⟨h.2.1, h.1, h.2.2⟩
  · exact ⟨h.2.2, h.1, h.2.1⟩

theorem countP_shape_pd (ax : Nat) {u v w : Int}
    (hp : u % 2 = v % 2 ∧ v % 2 = w % 2) (f : D3 → Bool) :
    (shape (plc ax u v w).1 (plc ax u v w).2.1 (plc ax u v w).2.2).countP f =
      (shape u v w).countP (f ∘ pd ax) := by
  rw [← List.countP_map]
  refine List.Perm.countP_eq _ ((List.perm_ext_iff_of_nodup (shape_nodup ..)
    (List.Pairwise.map _ (fun _ _ hne h => hne (pd_inj h)) (shape_nodup u v w))).mpr fun e => ?_)
  rw [mem_shape_pd ax hp, List.mem_map]

theorem mem_keys_place {ax Lx Ly Lz L1 L2 L3 : Nat}
    (hs : sides ax Lx Ly Lz = (L1, L2, L3)) {u v w a b c : Int}
    (hp : u % 2 = v % 2 ∧ v % 2 = w % 2) :
    place ax a b c ∈ keys Lx Ly Lz (plc ax u v w).1 (plc ax u v w).2.1 (plc ax u v w).2.2 ↔
      [a, b, c] ∈ keys L1 L2 L3 u v w := by
  unfold keys
  simp only [List.mem_map, mem_shape_pd ax hp]
  rcases ax with _ | _ | n <;> simp only [sides, Prod.mk.injEq] at hs <;>
    obtain ⟨rfl, rfl, rfl⟩ := hs <;>
    simp only [place, plc, pd, toC, wrapAt, List.cons.injEq, and_true]
  · constructor
    · rintro ⟨_, ⟨d, hd, rfl⟩, h⟩; exact ⟨d, hd, h⟩
    · rintro ⟨d, hd, h⟩; exact ⟨_, ⟨d, hd, rfl⟩, h⟩
  · constructor
    · rintro ⟨_, ⟨d, hd, rfl⟩, h1, h2, h3⟩; exact ⟨d, hd, h2, h1, h3⟩
    · rintro ⟨d, hd, h1, h2, h3⟩; exact ⟨_, ⟨d, hd, rfl⟩, h2, h1, h3⟩
  · constructor
    · rintro ⟨_, ⟨d, hd, rfl⟩, h1, h2, h3⟩; exact ⟨d, hd, h3, h1, h2⟩
    · rintro ⟨d, hd, h1, h2, h3⟩; exact ⟨_, ⟨d, hd, rfl⟩, h2, h3, h1⟩

/-- the same with the key as a variable -/
theorem mem_keys_place' {ax Lx Ly Lz L1 L2 L3 : Nat}
    (hs : sides ax Lx Ly Lz = (L1, L2, L3)) {u v w : Int} (hp : u % 2 = v % 2 ∧ v % 2 = w % 2)
    {q : Coord} :
    q ∈ keys Lx Ly Lz (plc ax u v w).1 (plc ax u v w).2.1 (plc ax u v w).2.2 ↔
      ∃ a b c, q = place ax a b c ∧ [a, b, c] ∈ keys L1 L2 L3 u v w := by
  constructor
  · intro h
    obtain ⟨e, -, rfl⟩ := List.mem_map.mp h
    rcases ax with _ | _ | n <;> exact ⟨_, _, _, rfl, (mem_keys_place hs hp).mp h⟩
  · rintro ⟨a, b, c, rfl, h⟩
    exact (mem_keys_place hs hp).mpr h

end Panqec.Color3DCode
