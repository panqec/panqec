/-
What the per-class `Servable` proofs share: the stabilizer types under which the configuration file
lists each family, and the fact that every override of `Model/GuiReprClasses.lean` but that of
`Color666ToricCode` (`Proofs/GuiReprColor666Toric.lean`) is made of simple assignments (`Edit.simple`: no
`scaleVertices`, no assignment to `params` or `type` as a whole).
-/
import PanqecVerif.Proofs.GuiReprPayload
import PanqecVerif.Model.GuiReprClasses
import PanqecVerif.Generated.GuiFull

namespace Panqec.GuiRepr
open Panqec.Gui

def surfaceTypes : List String := ["vertex", "face"]
def fractonTypes : List String := ["cube", "face"]
def rhombicTypes : List String := ["cube", "triangle"]
def color3DTypes : List String :=
  ["cell-blue", "cell-green", "cell-red", "cell-yellow", "face-hex", "face-square"]
/-- the 2-D colour codes list every kind of face twice, as the X and as the Z stabilizer on it -/
def xzTypes (kinds : List String) : List String := kinds.flatMap fun k => [k ++ "-x", k ++ "-z"]
def color488Types : List String := xzTypes ["octahedron-blue", "octahedron-green", "square-red"]
def color666Types : List String := xzTypes ["face-blue", "face-green", "face-red"]

theorem xzType_mem {kinds : List String} {k : String} (hk : k ∈ kinds) (p : Int) :
    k ++ (if p = 0 then "-x" else "-z") ∈ xzTypes kinds := by
  refine List.mem_flatMap.mpr ⟨k, hk, ?_⟩
  split
  · exact List.mem_cons_self
  · exact List.mem_cons_of_mem _ List.mem_cons_self

/-- `stabilizer_type` raises off the stabilizer index (`b`) and otherwise answers with the type `o` -/
theorem guarded_type {b : Bool} {o : Option String} {types : List String} (hb : b = true)
    (ho : ∃ t ∈ types, o = some t) : ∃ t ∈ types, (if !b then none else o) = some t := by
  subst hb; exact ho

theorem all_ite {c : Prop} [Decidable c] {a b : List Edit} (ha : a.all Edit.simple = true)
    (hb : b.all Edit.simple = true) : (if c then a else b).all Edit.simple = true := by
  split <;> assumption

theorem all_app {a b : List Edit} (ha : a.all Edit.simple = true) (hb : b.all Edit.simple = true) :
    (a ++ b).all Edit.simple = true := by
  rw [List.all_append, ha, hb]; rfl

theorem all_ite_eq {c : Prop} [Decidable c] (a b : List Edit) :
    (if c then a else b).all Edit.simple = if c then a.all Edit.simple else b.all Edit.simple :=
  apply_ite (List.all · Edit.simple) c a b

/-- Closes `es.all Edit.simple = true` for `es` built from literal lists by `if` and `++`: the test is
    pushed to the literals, where it evaluates, and `if c then true else true` is `true`.  No case
    split: `split` on the larger overrides costs far more than all the rest. -/
macro "edits_simple" : tactic =>
  `(tactic| simp only [all_ite_eq, List.all_append, List.all_cons, List.all_nil, Edit.simple,
    String.reduceBNe, Bool.and_self, Bool.and_true, ite_self])

theorem noEdits_simple (rot : Bool) (s : Coord) (t : String) : (noEdits rot s t).all Edit.simple = true := rfl

theorem cubicStabEdits_simple (rot : Bool) (s : Coord) (t : String) :
    (cubicStabEdits rot s t).all Edit.simple = true := by
  unfold cubicStabEdits
  split
  · edits_simple
  · rfl

theorem xcubeStabEdits_simple (rot : Bool) (s : Coord) (t : String) :
    (xcubeStabEdits rot s t).all Edit.simple = true := by
  unfold xcubeStabEdits
  refine all_ite ?_ rfl
  split
  · edits_simple
  · rfl

theorem rotated3DStabEdits_simple (rot : Bool) (s : Coord) (t : String) :
    (rotated3DStabEdits rot s t).all Edit.simple = true := by
  unfold rotated3DStabEdits stretchedLocation
  split
  · edits_simple
  · rfl

theorem rotated3DQubitEdits_simple (rot : Bool) (s : Coord) (a : String) :
    (rotated3DQubitEdits rot s a).all Edit.simple = true := by
  unfold rotated3DQubitEdits stretchedLocation
  refine all_app (all_ite rfl rfl) ?_
  split
  · edits_simple
  · rfl

theorem rhombicToricStabEdits_simple (rot : Bool) (s : Coord) (t : String) :
    (rhombicToricStabEdits rot s t).all Edit.simple = true := by
  unfold rhombicToricStabEdits
  refine all_ite ?_ rfl
  split
  · edits_simple
  · rfl

theorem rhombicPlanarStabEdits_simple (Ly Lz : Nat) (rot : Bool) (s : Coord) (t : String) :
    (rhombicPlanarStabEdits Ly Lz rot s t).all Edit.simple = true := by
  unfold rhombicPlanarStabEdits
  refine all_ite ?_ (all_ite ?_ rfl)
  · split
    · edits_simple
    · rfl
  · split
    · edits_simple
    · rfl

theorem hollowRhombicStabEdits_simple (Lx Ly Lz : Nat) (w : Coord → Nat) (rot : Bool) (s : Coord) (t : String) :
    (hollowRhombicStabEdits Lx Ly Lz w rot s t).all Edit.simple = true := by
  unfold hollowRhombicStabEdits
  refine all_ite ?_ (all_ite ?_ rfl)
  · split
    · edits_simple
    · rfl
  · split
    · edits_simple
    · rfl

theorem color3DStabEdits_simple (rot : Bool) (s : Coord) (t : String) :
    (color3DStabEdits rot s t).all Edit.simple = true := by
  unfold color3DStabEdits
  split
  · edits_simple
  · rfl

theorem color666PlanarStabEdits_simple (Lx : Nat) (rot : Bool) (s : Coord) (t : String) :
    (color666PlanarStabEdits Lx rot s t).all Edit.simple = true := by
  unfold color666PlanarStabEdits
  split
  · edits_simple
  · rfl

theorem color488StabEdits_simple (Lx Ly : Nat) (rot : Bool) (s : Coord) (t : String) :
    (color488StabEdits Lx Ly rot s t).all Edit.simple = true := by
  unfold color488StabEdits
  split
  · edits_simple
  · rfl

end Panqec.GuiRepr
