/-
`HollowRhombicCode` for every size: a listed cube and a listed triangle share an even number of
qubits.  A triangle `(a, v)` points into one octant of the vertex `v`; the cube of that octant is off
the checkerboard, the three cubes obtained by flipping one sign are on it and contain two of the
three potential qubits of the triangle.  The selection rule of the triangle loop guarantees that
these two are both qubits or both missing (`keep_xy`, `keep_yz`): a two-key triangle survives only
on the two faces `z = 0`, `z = 2Lz − 2`, where its missing key points out of the lattice and the
cubes on that side do not exist.
-/
import PanqecVerif.Proofs.LatHollowRhombicCodeStab

-- `keep_xy` (a fixed statement) has the hypothesis `hsz`, which its proof does not use
set_option linter.unusedVariables false

namespace Panqec.HollowRhombicCode
open Panqec.Cubic3D
open Panqec.Planar3DCode (inE inO inE2 inO1)

/-- the vertex of a listed triangle -/
def VertexLoc (Lx Ly Lz : Nat) (x y z : Int) : Prop := inE2 Lx x ∧ inE Ly y ∧ inE Lz z

section
variable {Lx Ly Lz : Nat} {x y z sx sy sz : Int}

/-- a missing x key lies in the hole: the vertex is on a magnetic boundary band, away from the
    faces `z = 0`, `z = 2Lz − 2` -/
theorem missing_x (hv : VertexLoc Lx Ly Lz x y z) (hsx : sx = 1 ∨ sx = -1)
    (h4 : ¬ Hole Lx Ly Lz x y z) (hn : ¬ Qx Lx Ly Lz (x + sx) y z) :
    MB Lx Ly Lz x y z ∧ ¬ EB Lz z := by
  unfold VertexLoc inE2 inE at hv
  have hh : Hole Lx Ly Lz (x + sx) y z := by
    unfold Qx at hn
    by_contra hc
    exact hn ⟨by omega, by omega, by omega, by omega, by omega, by omega, hc⟩
  clear hn
  unfold Hole at hh h4
  unfold MB EB
  omega

/-- a missing y key points out of the lattice or lies in the hole: the vertex is on a magnetic
    boundary band; if it is on one of the faces `z = 0`, `z = 2Lz − 2` too, it is on an edge of the box -/
theorem missing_y (hv : VertexLoc Lx Ly Lz x y z) (hsy : sy = 1 ∨ sy = -1)
    (h4 : ¬ Hole Lx Ly Lz x y z) (hn : ¬ Qy Lx Ly Lz x (y + sy) z) :
    MB Lx Ly Lz x y z ∧
      (EB Lz z → ((y = 0 ∨ y = 2 * (Ly : Int) - 2) ∧ (z = 0 ∨ z = 2 * (Lz : Int) - 2))) := by
  unfold VertexLoc inE2 inE at hv
  have hh : y + sy < 1 ∨ y + sy ≥ 2 * (Ly : Int) - 1 ∨ Hole Lx Ly Lz x (y + sy) z := by
    unfold Qy at hn
    by_cases h1 : y + sy < 1
    · exact Or.inl h1
    · by_cases h2 : y + sy ≥ 2 * (Ly : Int) - 1
      · exact Or.inr (Or.inl h2)
      · by_cases h3 : Hole Lx Ly Lz x (y + sy) z
        · exact Or.inr (Or.inr h3)
        · exact absurd ⟨by omega, by omega, by omega, by omega, by omega, by omega, h3⟩ hn
  clear hn
  unfold Hole at hh h4
  unfold MB EB
  omega

/-- a missing z key at a height where cubes exist lies in the hole -/
theorem missing_z (hv : VertexLoc Lx Ly Lz x y z) (hsz : sz = 1 ∨ sz = -1)
    (hcz : 1 ≤ z + sz ∧ z + sz < 2 * (Lz : Int) - 1)
    (h4 : ¬ Hole Lx Ly Lz x y z) (hn : ¬ Qz Lx Ly Lz x y (z + sz)) :
    MB Lx Ly Lz x y z ∧ ¬ EB Lz z := by
  unfold VertexLoc inE2 inE at hv
  have hh : Hole Lx Ly Lz x y (z + sz) := by
    unfold Qz at hn
    by_contra hc
    exact hn ⟨by omega, by omega, by omega, by omega, by omega, by omega, hc⟩
  clear hn
  unfold Hole at hh h4
  unfold MB EB
  omega

/-- a kept triangle has its x key iff it has its y key -/
theorem keep_xy (hv : VertexLoc Lx Ly Lz x y z) (hsx : sx = 1 ∨ sx = -1) (hsy : sy = 1 ∨ sy = -1)
    (hsz : sz = 1 ∨ sz = -1)
    (hk : TriKeep Lx Ly Lz (Qx Lx Ly Lz (x + sx) y z) (Qy Lx Ly Lz x (y + sy) z)
      (Qz Lx Ly Lz x y (z + sz)) x y z) :
    Qx Lx Ly Lz (x + sx) y z ↔ Qy Lx Ly Lz x (y + sy) z := by
  unfold TriKeep at hk
  obtain ⟨h2, h3, h4⟩ := hk
  by_cases tx : Qx Lx Ly Lz (x + sx) y z <;> by_cases ty : Qy Lx Ly Lz x (y + sy) z
  · exact ⟨fun _ => ty, fun _ => tx⟩
  · exfalso
    have tz : Qz Lx Ly Lz x y (z + sz) := by
      rcases h2 with h | h | h
      · exact absurd h.2 ty
      · exact h.2
      · exact absurd h.1 ty
    obtain ⟨m1, m2⟩ := missing_y hv hsy h4 ty
    apply h3
    refine ⟨m1, fun h => ty h.2.1, ?_⟩
    by_cases he : EB Lz z
    · right; exact ⟨m2 he, tz, Or.inl tx⟩
    · left; exact he
  · exfalso
    obtain ⟨m1, m2⟩ := missing_x hv hsx h4 tx
    apply h3
    exact ⟨m1, fun h => tx h.1, Or.inl m2⟩
  · exact ⟨fun h => absurd h tx, fun h => absurd h ty⟩

/-- a kept triangle whose z key points to a height where cubes exist has its y key iff it has its
    z key -/
theorem keep_yz (hv : VertexLoc Lx Ly Lz x y z) (hsx : sx = 1 ∨ sx = -1) (hsy : sy = 1 ∨ sy = -1)
    (hsz : sz = 1 ∨ sz = -1) (hcz : 1 ≤ z + sz ∧ z + sz < 2 * (Lz : Int) - 1)
    (hk : TriKeep Lx Ly Lz (Qx Lx Ly Lz (x + sx) y z) (Qy Lx Ly Lz x (y + sy) z)
      (Qz Lx Ly Lz x y (z + sz)) x y z) :
    Qy Lx Ly Lz x (y + sy) z ↔ Qz Lx Ly Lz x y (z + sz) := by
  have hxy := keep_xy hv hsx hsy hsz hk
  unfold TriKeep at hk
  obtain ⟨h2, h3, h4⟩ := hk
  by_cases ty : Qy Lx Ly Lz x (y + sy) z <;> by_cases tz : Qz Lx Ly Lz x y (z + sz)
  · exact ⟨fun _ => tz, fun _ => ty⟩
  · exfalso
    obtain ⟨m1, m2⟩ := missing_z hv hsz hcz h4 tz
    apply h3
    exact ⟨m1, fun h => tz h.2.2, Or.inl m2⟩
  · exfalso
    have tx : Qx Lx Ly Lz (x + sx) y z := by
      rcases h2 with h | h | h
      · exact h.1
      · exact h.1
      · exact absurd h.1 ty
    exact ty (hxy.mp tx)
  · exact ⟨fun h => absurd h ty, fun h => absurd h tz⟩

end

theorem mem_cubeCands {cx cy cz a b c : Int} :
    [a, b, c] ∈ cubeCands cx cy cz ↔
      (a = cx ∧ (b = cy + 1 ∨ b = cy - 1) ∧ (c = cz + 1 ∨ c = cz - 1)) ∨
      (b = cy ∧ (a = cx + 1 ∨ a = cx - 1) ∧ (c = cz + 1 ∨ c = cz - 1)) ∨
      (c = cz ∧ (a = cx + 1 ∨ a = cx - 1) ∧ (b = cy + 1 ∨ b = cy - 1)) := by
  rw [cubeCands_eq, Rhombic.mem_cubeLocs]
  simp only [Rhombic.U_sub]
  exact ⟨fun h => h.elim (fun h => Or.inr (Or.inr h)) fun h => h.elim (fun h => Or.inr (Or.inl h)) Or.inl,
    fun h => h.elim (fun h => Or.inr (Or.inr h)) fun h => h.elim (fun h => Or.inr (Or.inl h)) Or.inl⟩

/-- A listed triangle and a listed cube share an even number of keys: `Rhombic.tri_cube_even` with
    the selection rule of the triangle loop (`keep_xy`, `keep_yz`) for the legs that are missing. -/
theorem cube_tri_even {Lx Ly Lz : Nat} {cx cy cz a x y z : Int} (hc : CubeLoc Lx Ly Lz cx cy cz)
    (ha : 0 ≤ a ∧ a < 4) (hv : VertexLoc Lx Ly Lz x y z)
    (hk : TriKeep Lx Ly Lz (TX Lx Ly Lz a x y z) (TY Lx Ly Lz a x y z) (TZ Lx Ly Lz a x y z) x y z) :
    ov (triKeys Lx Ly Lz a x y z) (cubeKeys Lx Ly Lz cx cy cz) % 2 = 0 := by
  have hv' := hv
  unfold VertexLoc inE2 inE at hv'
  obtain ⟨⟨_, _, ex⟩, ⟨_, _, ey⟩, _, _, ez⟩ := hv'
  obtain ⟨c1, c2, c3, c4, _⟩ := hc
  have hsx := sgnX_cases a
  have hsy := sgnY_cases a
  have hsz := sgnZ_cases a x y z
  have hpar := Rhombic.sgn_parity a x y z (isAxis_of ha) ex ey ez
  rw [← sgnZ_eq_rhombic ha] at hpar
  rw [ov_eq_countP_contains]
  unfold triKeys cubeKeys
  rw [cubeCands_eq]
  refine Rhombic.tri_cube_even (isq Lx Ly Lz) ex ey ez c1.2.2 c2.2.2 c3.2.2 hsx hsy hsz c4 hpar ?_ ?_
  · rw [isq_tx ex ey ez, isq_ty ex ey ez]
    exact keep_xy hv hsx hsy hsz hk
  · intro e
    rw [isq_ty ex ey ez, isq_tz ex ey ez]
    exact keep_yz hv hsx hsy hsz (by omega) hk

end Panqec.HollowRhombicCode
