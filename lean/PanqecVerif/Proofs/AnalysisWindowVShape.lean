/-
`get_p_th_sd_interp` on a V-shaped spread (C16): when the SD falls strictly up to grid index `j` and rises
strictly after it, the function returns `(grid[j], grid[0], grid[N-1])`.
-/
import PanqecVerif.Proofs.AnalysisWindowSd

namespace Panqec.An

/-- V shape: strictly falling up to index `j`, strictly rising after it -/
structure VShape (sd : List Rat) (j : Nat) : Prop where
  lt : j < sd.length
  fall : ∀ i, i < j → sd.getD (i + 1) 0 < sd.getD i 0
  rise : ∀ i, j ≤ i → i + 1 < sd.length → sd.getD i 0 < sd.getD (i + 1) 0

/-- away from `j` one of the two neighbours is strictly smaller: no local minimum there, strict or not -/
theorem VShape.eq_of_mem_relExt {sd : List Rat} {j : Nat} (h : VShape sd j) {cmp : Rat → Rat → Bool}
    (hcmp : ∀ a b, cmp a b = true → a ≤ b) {i : Nat} (hi : i ∈ relExt cmp sd) : i = j := by
  obtain ⟨hlt, h1, h2⟩ := mem_relExt.mp hi
  have hj := h.lt
  by_contra hne
  rcases Nat.lt_or_gt_of_ne hne with hij | hij
  · rw [Nat.min_eq_left (by omega)] at h1
    exact absurd (hcmp _ _ h1) (not_le.mpr (h.fall i hij))
  · have := h.rise (i - 1) (by omega) (by omega)
    rw [Nat.sub_add_cancel (by omega)] at this
    exact absurd (hcmp _ _ h2) (not_le.mpr this)

theorem VShape.mem_relExt_le {sd : List Rat} {j : Nat} (h : VShape sd j) :
    j ∈ relExt (fun a b => decide (a ≤ b)) sd := by
  have hj := h.lt
  refine mem_relExt.mpr ⟨hj, decide_eq_true ?_, decide_eq_true ?_⟩
  · by_cases hend : j + 1 < sd.length
    · rw [Nat.min_eq_left (by omega)]
      exact (h.rise j le_rfl hend).le
    · rw [Nat.min_eq_right (by omega), show sd.length - 1 = j by omega]
  · rcases Nat.eq_zero_or_pos j with rfl | hpos
    · exact le_rfl
    · have := h.fall (j - 1) (by omega)
      rw [Nat.sub_add_cancel hpos] at this
      exact this.le

/-- `j` is the only local minimum: the strict comparison finds it unless it is an end point of the grid (clipped
    neighbour), and then the non-strict one does -/
theorem VShape.minima {sd : List Rat} {j : Nat} (h : VShape sd j) : sdMinima sd = [j] := by
  have nodup : ∀ cmp, (relExt cmp sd).Nodup := fun _ => List.nodup_range.filter _
  have hle : relExt (fun a b => decide (a ≤ b)) sd = [j] :=
    (eq_nil_or_singleton (nodup _) fun _ => h.eq_of_mem_relExt fun _ _ => of_decide_eq_true).resolve_left
      (List.ne_nil_of_mem h.mem_relExt_le)
  unfold sdMinima
  rcases eq_nil_or_singleton (nodup fun a b => decide (a < b))
      fun _ => h.eq_of_mem_relExt fun _ _ hab => (of_decide_eq_true hab).le with hs | hs
  · simp only [hs, List.isEmpty_nil, if_true, hle]
  · simp only [hs, List.isEmpty_cons, Bool.false_eq_true, if_false]

theorem VShape.maxima {sd : List Rat} {j : Nat} (h : VShape sd j) {m : Nat} (hm : m ∈ sdMaxima sd) :
    m = 0 ∨ m = sd.length - 1 ∨ m = j := by
  have hlt := h.lt
  rcases mem_sdMaxima_cases hm with h0 | h1 | ⟨hml, hr, hl⟩
  · exact Or.inl h0
  · exact Or.inr (Or.inl h1)
  · by_contra hne
    simp only [not_or] at hne
    obtain ⟨n0, n1, n2⟩ := hne
    rcases Nat.lt_or_gt_of_ne n2 with hmj | hmj
    · have := h.fall (m - 1) (by omega)
      have e : m - 1 + 1 = m := by omega
      rw [e] at this
      exact absurd this (not_lt.mpr hl)
    · have := h.rise m (le_of_lt hmj) (by omega)
      have e : min (m + 1) (sd.length - 1) = m + 1 := by omega
      rw [e] at hr
      exact absurd this (not_lt.mpr hr)

theorem zero_mem_sdMaxima (sd : List Rat) : 0 ∈ sdMaxima sd := by
  unfold sdMaxima; simp

theorem last_mem_sdMaxima (sd : List Rat) : sd.length - 1 ∈ sdMaxima sd := by
  unfold sdMaxima; simp

theorem sdSelect_vshape {sd : List Rat} {j : Nat} (h : VShape sd j) : sdSelect sd = .ok (j, 0, sd.length - 1) := by
  have hlt := h.lt
  unfold sdSelect
  simp only
  rw [h.minima]
  have hL : (lastBelow (sdMaxima sd) j).getD 0 = 0 := by
    cases hl : lastBelow (sdMaxima sd) j with
    | none => rfl
    | some m =>
      obtain ⟨h1, h2, _⟩ := lastBelow_spec hl
      rcases h.maxima h1 with e | e | e
      · simp [e]
      · omega
      · omega
  have hR : (firstAbove (sdMaxima sd) j).getD (sd.length - 1) = sd.length - 1 := by
    cases hl : firstAbove (sdMaxima sd) j with
    | none => rfl
    | some m =>
      obtain ⟨h1, h2, _⟩ := firstAbove_spec hl
      rcases h.maxima h1 with e | e | e
      · omega
      · simp [e]
      · omega
  simp only [List.map_cons, List.map_nil, argmaxRat, argmaxRatAux, List.getD_cons_zero, hL, hR]

end Panqec.An
