/-
XCubeCode, all sizes, C17: the families of pairwise disjoint representatives and the
packing bound.

* an X logical (a ladder of `L` parallel edges) has the `L'` translates along its edges
  (`Proofs/DistXCubeCodeParity.lean`), pairwise disjoint;
* a single-line Z logical (the line at transverse position `(j0, 0)`) is equivalent to the
  product of the three lines at `(s, 0)`, `(j0, i)`, `(s, i)` for any `s ≠ j0`, `i ≠ 0` (rectangle
  relation): with `s = skip j0 i` these triples are pairwise disjoint for `1 ≤ i < min A B`, which
  together with the line itself gives `min A B` representatives;
* a double-line Z logical (the lines at `(0, 0)` and `(0, k0)`) is equivalent to the lines at
  `(i, 0)` and `(i, k0)`: `A` representatives.
-/
import PanqecVerif.Proofs.DistXCubeCodeParity

namespace Panqec.XCubeCode
open Panqec.Lat3Db

/-- `1, 2, 3, …` mapped injectively into the positions other than `j0` -/
def skip (j0 i : Nat) : Nat := if i ≤ j0 then i - 1 else i

theorem skip_spec (j0 i : Nat) : (i ≤ j0 ∧ skip j0 i = i - 1) ∨ (j0 < i ∧ skip j0 i = i) := by
  unfold skip; split <;> omega

/-- transverse positions of the `i`-th representative of the line at `(j0, 0)` -/
def pairs1 (j0 i : Nat) : List (Nat × Nat) :=
  if i = 0 then [(j0, 0)] else [(skip j0 i, 0), (j0, i), (skip j0 i, i)]
/-- transverse positions of the `i`-th representative of the two lines at `(0, 0)`, `(0, k0)` -/
def pairs2 (k0 i : Nat) : List (Nat × Nat) := [(i, 0), (i, k0)]

/-- the union of the lines at the given transverse positions -/
def fam (line : Nat → Nat → List Coord) (ps : List (Nat × Nat)) : List Coord :=
  ps.flatMap fun p => line p.1 p.2

/-- a system of parallel lines: each without repetition, different lines disjoint, the lines at
    positions `< (A, B)` made of qubits -/
structure LineSys (qs : List Coord) (line : Nat → Nat → List Coord) (A B : Nat) : Prop where
  nodup : ∀ j k, (line j k).Nodup
  inj : ∀ j k j' k' q, q ∈ line j k → q ∈ line j' k' → j = j' ∧ k = k'
  sub : ∀ j k, j < A → k < B → ∀ q ∈ line j k, q ∈ qs

theorem mem_fam {line : Nat → Nat → List Coord} {ps : List (Nat × Nat)} {q : Coord} :
    q ∈ fam line ps ↔ ∃ p ∈ ps, q ∈ line p.1 p.2 := by
  unfold fam; simp only [List.mem_flatMap]

theorem fam_nodup {qs : List Coord} {line : Nat → Nat → List Coord} {A B : Nat}
    (h : LineSys qs line A B) {ps : List (Nat × Nat)} (hps : ps.Nodup) : (fam line ps).Nodup := by
  unfold fam
  rw [List.nodup_flatMap]
  refine ⟨fun p _ => h.nodup _ _, ?_⟩
  refine List.Pairwise.imp ?_ hps
  intro p p' hne
  simp only [Function.onFun, List.disjoint_left]
  intro q hq hq'
  obtain ⟨e1, e2⟩ := h.inj _ _ _ _ q hq hq'
  exact hne (Prod.ext e1 e2)

theorem fam_sub {qs : List Coord} {line : Nat → Nat → List Coord} {A B : Nat}
    (h : LineSys qs line A B) {ps : List (Nat × Nat)} (hps : ∀ p ∈ ps, p.1 < A ∧ p.2 < B) :
    ∀ q ∈ fam line ps, q ∈ qs := by
  intro q hq
  obtain ⟨p, hp, hq⟩ := mem_fam.mp hq
  exact h.sub _ _ (hps p hp).1 (hps p hp).2 q hq

theorem fam_disj {qs : List Coord} {line : Nat → Nat → List Coord} {A B : Nat}
    (h : LineSys qs line A B) {ps ps' : List (Nat × Nat)} (hd : ∀ p ∈ ps, p ∉ ps') :
    ∀ q ∈ fam line ps, q ∉ fam line ps' := by
  intro q hq hq'
  obtain ⟨p, hp, hq⟩ := mem_fam.mp hq
  obtain ⟨p', hp', hq'⟩ := mem_fam.mp hq'
  obtain ⟨e1, e2⟩ := h.inj _ _ _ _ q hq hq'
  have : p = p' := Prod.ext e1 e2
  subst this
  exact hd p hp hp'

theorem pairs1_bound {A B j0 i : Nat} (hj0 : j0 < A) (hi : i < min A B) :
    ∀ p ∈ pairs1 j0 i, p.1 < A ∧ p.2 < B := by
  have hs := skip_spec j0 i
  intro p hp
  unfold pairs1 at hp
  by_cases h0 : i = 0
  · rw [if_pos h0] at hp
    simp only [List.mem_cons, List.not_mem_nil, or_false] at hp
    subst hp
    exact ⟨hj0, by omega⟩
  · rw [if_neg h0] at hp
    simp only [List.mem_cons, List.not_mem_nil, or_false] at hp
    rcases hp with rfl | rfl | rfl <;> exact ⟨by omega, by omega⟩

theorem pairs1_nodup (j0 i : Nat) : (pairs1 j0 i).Nodup := by
  have hs := skip_spec j0 i
  unfold pairs1
  by_cases h0 : i = 0
  · rw [if_pos h0]; simp
  · rw [if_neg h0]
    simp only [List.nodup_cons, List.mem_cons, List.not_mem_nil, or_false, Prod.mk.injEq,
      not_false_eq_true, List.nodup_nil, and_true]
    omega

theorem pairs1_disj (j0 : Nat) {i i' : Nat} (h : i < i') :
    ∀ p ∈ pairs1 j0 i, p ∉ pairs1 j0 i' := by
  have hs := skip_spec j0 i
  have hs' := skip_spec j0 i'
  intro p hp hp'
  unfold pairs1 at hp hp'
  rw [if_neg (by omega)] at hp'
  simp only [List.mem_cons, List.not_mem_nil, or_false] at hp'
  by_cases h0 : i = 0
  · rw [if_pos h0] at hp
    simp only [List.mem_cons, List.not_mem_nil, or_false] at hp
    subst hp
    simp only [Prod.mk.injEq] at hp'
    omega
  · rw [if_neg h0] at hp
    simp only [List.mem_cons, List.not_mem_nil, or_false] at hp
    rcases hp with rfl | rfl | rfl <;> simp only [Prod.mk.injEq] at hp' <;> omega

theorem pairs2_bound {A B k0 i : Nat} (hk0 : k0 < B) (hi : i < A) :
    ∀ p ∈ pairs2 k0 i, p.1 < A ∧ p.2 < B := by
  intro p hp
  unfold pairs2 at hp
  simp only [List.mem_cons, List.not_mem_nil, or_false] at hp
  rcases hp with rfl | rfl <;> exact ⟨by omega, by omega⟩

theorem pairs2_nodup {k0 : Nat} (hk0 : k0 ≠ 0) (i : Nat) : (pairs2 k0 i).Nodup := by
  unfold pairs2
  simp only [List.nodup_cons, List.mem_cons, List.not_mem_nil, or_false, Prod.mk.injEq,
    not_false_eq_true, List.nodup_nil, and_true]
  omega

theorem pairs2_disj (k0 : Nat) {i i' : Nat} (h : i < i') :
    ∀ p ∈ pairs2 k0 i, p ∉ pairs2 k0 i' := by
  intro p hp hp'
  unfold pairs2 at hp hp'
  simp only [List.mem_cons, List.not_mem_nil, or_false] at hp hp'
  rcases hp with rfl | rfl <;> simp only [Prod.mk.injEq] at hp' <;> omega

/-- the rectangle relation makes every representative of a single line count like the line -/
theorem parity1 {line : Nat → Nat → List Coord} {A B : Nat} (hit : Coord → Bool)
    (hrect : ∀ j k, j < A → k < B → ((line j k).countP hit + (line j 0).countP hit
      + (line 0 k).countP hit + (line 0 0).countP hit) % 2 = 0)
    {j0 : Nat} (hj0 : j0 < A) {i : Nat} (hi : i < min A B) :
    (fam line (pairs1 j0 i)).countP hit % 2 = (line j0 0).countP hit % 2 := by
  have hs := skip_spec j0 i
  unfold pairs1 fam
  by_cases h0 : i = 0
  · rw [if_pos h0]
    simp
  · rw [if_neg h0]
    simp only [List.flatMap_cons, List.flatMap_nil, List.append_nil, List.countP_append]
    have h1 := hrect j0 i hj0 (by omega)
    have h2 := hrect (skip j0 i) i (by omega) (by omega)
    omega

/-- … and every representative of a pair of lines like the pair -/
theorem parity2 {line : Nat → Nat → List Coord} {A B : Nat} (hit : Coord → Bool)
    (hrect : ∀ j k, j < A → k < B → ((line j k).countP hit + (line j 0).countP hit
      + (line 0 k).countP hit + (line 0 0).countP hit) % 2 = 0)
    {k0 : Nat} (hk0 : k0 < B) {i : Nat} (hi : i < A) :
    (fam line (pairs2 k0 i)).countP hit % 2 = (line 0 0 ++ line 0 k0).countP hit % 2 := by
  unfold pairs2 fam
  simp only [List.flatMap_cons, List.flatMap_nil, List.append_nil, List.countP_append]
  have h1 := hrect i k0 hi hk0
  omega

section
variable {l : Lattice} {line : Nat → Nat → List Coord} {A B m : Nat} (h : LineSys l.qubits line A B)
  (P : Pauli) (hrect : ∀ b, l.Comm b → ∀ j k, j < A → k < B →
    ((line j k).countP (opHit P b) + (line j 0).countP (opHit P b)
      + (line 0 k).countP (opHit P b) + (line 0 0).countP (opHit P b)) % 2 = 0)
include h hrect

theorem LineSys.packed1 {j0 : Nat} (hj0 : j0 < A) (hm : m ≤ min A B) :
    l.Packed m (constOp (line j0 0) P) :=
  .of_family P (fun i => fam line (pairs1 j0 i)) hm (fun i hi =>
    ⟨fam_nodup h (pairs1_nodup j0 i), fam_sub h (pairs1_bound hj0 hi), fun b hb => by
      rw [opAntiCount_constOp_hit]; exact parity1 _ (hrect b hb) hj0 hi⟩)
    fun _ _ hii _ => fam_disj h (pairs1_disj j0 hii)

theorem LineSys.packed2 {k0 : Nat} (hk0 : k0 < B) (hk0' : k0 ≠ 0) (hm : m ≤ A) :
    l.Packed m (constOp (line 0 0 ++ line 0 k0) P) :=
  .of_family P (fun i => fam line (pairs2 k0 i)) hm (fun i hi =>
    ⟨fam_nodup h (pairs2_nodup hk0' i), fam_sub h (pairs2_bound hk0 hi), fun b hb => by
      rw [opAntiCount_constOp_hit]; exact parity2 _ (hrect b hb) hk0 hi⟩)
    fun _ _ hii _ => fam_disj h (pairs2_disj k0 hii)

end

variable {Lx Ly Lz : Nat}

theorem Placed.sys {e : Int → Int → Int → Coord} {Lo Lu Lw : Nat}
    (hp : Placed Lx Ly Lz e Lo Lu Lw) : LineSys (qubits Lx Ly Lz) (zl Lo e) Lu Lw where
  nodup _ _ := nodup_zline hp _ _
  inj j k j' k' q hq1 hq2 := by
    obtain ⟨t, _, rfl⟩ := List.mem_map.mp hq1
    obtain ⟨t', _, h⟩ := List.mem_map.mp hq2
    have := hp.inj h
    omega
  sub j k hj hk q hq' := by
    obtain ⟨t, ht, rfl⟩ := List.mem_map.mp hq'
    exact hp.qubit ((mem_pyRange2_1 _ _).mp ht) (by unfold R0; omega) (by unfold R0; omega)

theorem even_nat_of_mem {L : Nat} {t : Int} (h : t ∈ pyRange2 0 (2 * L)) :
    ∃ j : Nat, j < L ∧ t = 2 * (j : Int) := by
  rw [pyRange2_even] at h
  obtain ⟨j, hj, rfl⟩ := List.mem_map.mp h
  exact ⟨j, List.mem_range.mp hj, rfl⟩

theorem even_nat_of_mem2 {L : Nat} {t : Int} (h : t ∈ pyRange2 2 (2 * L)) :
    ∃ k : Nat, k < L ∧ k ≠ 0 ∧ t = 2 * (k : Int) := by
  rw [mem_pyRange2_2] at h
  unfold R2 at h
  refine ⟨(t / 2).toNat, ?_, ?_, ?_⟩ <;> omega

/-- the family at `k0 = 0` is the single line (stated for its own sake) -/
theorem fam_pairs1_zero (line : Nat → Nat → List Coord) (j0 : Nat) :
    fam line (pairs1 j0 0) = line j0 0 := by
  unfold fam pairs1
  simp

section placed
variable {e : Int → Int → Int → Coord} {Lo Lu Lw : Nat} (hp : Placed Lx Ly Lz e Lo Lu Lw)
include hp

theorem Placed.packed_ladder (h2o : 2 ≤ Lo) (h2w : 2 ≤ Lw) {u : Int} (hu : R0 (2 * Lu) u) :
    (lattice Lx Ly Lz).Packed (min Lx (min Ly Lz)) (constOp (tX Lw e u 0) Pauli.X) :=
  hp.packed_tX rfl Pauli.X (by cases hp <;> omega) hu fun _ hb => hp.parity_tX h2o h2w hb hu

theorem Placed.packed_bX (h2o : 2 ≤ Lo) (h2u : 2 ≤ Lu) (h2w : 2 ≤ Lw) {a : Op} (ha : a ∈ bX e Lu Lw) :
    (lattice Lx Ly Lz).Packed (min Lx (min Ly Lz)) a := by
  simp only [bX, List.mem_append, List.mem_map] at ha
  rcases ha with ⟨t, ht, rfl⟩ | ⟨t, ht, rfl⟩
  · exact tX_zero Lw e t ▸ hp.packed_ladder h2o h2w (R0_of_E _ _ ht)
  · show (lattice Lx Ly Lz).Packed _ (constOp (gX1 Lu (fun o u w => e o w u) t) Pauli.X)
    exact tX_zero .. ▸ hp.swap.packed_ladder h2o h2u (R0_of_E2 _ _ ht)

end placed

/-- the Z lines along `o`: a single line at `(u, 0)`, or the two lines at `(0, 0)` and `(0, w)` -/
theorem Dir.packed_bZ {e : Int → Int → Int → Coord} {Lo Lu Lw : Nat} (hd : Dir Lx Ly Lz e Lo Lu Lw)
    (h2o : 2 ≤ Lo) (h2u : 2 ≤ Lu) (h2w : 2 ≤ Lw) {a : Op} (ha : a ∈ bZ e Lo Lu Lw) :
    (lattice Lx Ly Lz).Packed (min Lx (min Ly Lz)) a := by
  have hrect := fun b (hb : CommStabs Lx Ly Lz b) =>
    Lat2D.rect _ _ _ (hd.plaquette h2o h2u h2w hb)
  simp only [bZ, List.mem_append, List.mem_map] at ha
  rcases ha with ⟨t, ht, rfl⟩ | ⟨t, ht, rfl⟩
  · obtain ⟨j0, hj0, rfl⟩ := even_nat_of_mem ht
    exact hd.placed.sys.packed1 Pauli.Z hrect hj0 (by cases hd <;> omega)
  · obtain ⟨k0, hk0, hk0', rfl⟩ := even_nat_of_mem2 ht
    exact hd.placed.sys.packed2 Pauli.Z hrect hk0 hk0' (by cases hd <;> omega)

/-- every non-trivial logical operator of the `Lx × Ly × Lz` X-cube code has weight
    `≥ min Lx (min Ly Lz)` -/
theorem lower_bound (hx : 2 ≤ Lx) (hy : 2 ≤ Ly) (hz : 2 ≤ Lz) (hwf : (lattice Lx Ly Lz).WF)
    {n k : Nat} (hn : (qubits Lx Ly Lz).length = n)
    (hv : ValidCodeL n k (lattice Lx Ly Lz).rowsH (lattice Lx Ly Lz).rowsX
      (lattice Lx Ly Lz).rowsZ) :
    ∀ v, IsNontrivialLogical n (lattice Lx Ly Lz).rowsH v →
      min Lx (min Ly Lz) ≤ pauliWeight v := by
  apply Lattice.lower_bound_of_reps (lattice Lx Ly Lz) hwf hn hv
  intro a ha
  change a ∈ logX Lx Ly Lz ++ logZ Lx Ly Lz at ha
  rw [logX_blocks, logZ_blocks] at ha
  simp only [List.mem_append] at ha
  rcases ha with (h | h | h) | (h | h | h)
  · exact Placed.xyz.packed_bX hx hy hz h
  · exact Placed.yxz.packed_bX hy hx hz h
  · exact Placed.zxy.packed_bX hz hx hy h
  · exact Dir.x.packed_bZ hx hy hz h
  · exact Dir.y.packed_bZ hy hx hz h
  · exact Dir.z.packed_bZ hz hx hy h

end Panqec.XCubeCode
