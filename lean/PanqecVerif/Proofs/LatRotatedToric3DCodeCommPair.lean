/-
`RotatedToric3DCode`, supported family (`2 ≤ Lx, Ly`, not both odd; `1 ≤ Lz` for the pairing):
the clauses of `Lattice.WF` and `Lattice.CommPair` assembled from the signed closed forms, the
pairwise sign-clash parities, the logical closed forms and the stabilizer / logical parities; the
pairing table (lines crossing in the single qubit `(1, 1, 1)`; a line inside a plane has `Lx` resp.
`Ly` qubits, an even number when two logical qubits exist). Rows and columns are one family of lines
`lineK` over the transposition `Tr`; the key list of a listed X operator is such a line
(`LK_fXy_perm`, `LK_fXx_perm`).
-/
import PanqecVerif.Proofs.LatRotatedToric3DCodeLogComm
open Panqec Panqec.Lat3Db
namespace Panqec.RotatedToric3DCode


theorem constOp_keysNodup (Lx Ly Lz : Nat) (f : Int → Int → Int → Bool) (p : Pauli) :
    ((constOp (LK Lx Ly Lz f) p).map Prod.fst).Nodup := by
  rw [keys_constOp]; exact LK_nodup Lx Ly Lz f

theorem log_stab_comm {Lx Ly Lz : Nat} (hF : Fam Lx Ly) {s : Coord} {K : List (Coord × Bool)}
    (hk : Kind Lx Ly Lz s K) (f : Int → Int → Int → Bool) (p : Pauli)
    (h : K.countP (hits Lx Ly Lz f p) % 2 = 0) :
    opCommute (constOp (LK Lx Ly Lz f) p) (getStab Lx Ly Lz s) = true := by
  have sg := signed_of_kind hF hk
  rw [opCommute_comm (show KeysNodup _ from constOp_keysNodup Lx Ly Lz f p)
    (show KeysNodup _ from sg.keysNodup)]
  unfold opCommute
  rw [opAntiCount_signed_const sg]
  exact beq_iff_eq.mpr h

section counts
variable {Lx Ly Lz : Nat} {s : Coord} {K : List (Coord × Bool)}

theorem count_Xy (hF : Fam Lx Ly) (hpx : Lx % 2 = 0) (hk : Kind Lx Ly Lz s K) :
    K.countP (hits Lx Ly Lz fXy Pauli.X) % 2 = 0 :=
  count_line (row := true) (g := (· == 1)) hF (fun _ _ _ => rfl) (Or.inr hpx) (Or.inl rfl) hk

theorem count_Xx (hF : Fam Lx Ly) (hpy : Ly % 2 = 0) (hk : Kind Lx Ly Lz s K) :
    K.countP (hits Lx Ly Lz fXx Pauli.X) % 2 = 0 :=
  count_line (row := false) (g := (· == 1)) hF (fun _ _ _ => rfl) (Or.inr hpy) (Or.inl rfl) hk

theorem count_Zx (hF : Fam Lx Ly) (hpy : Ly % 2 = 0) (hk : Kind Lx Ly Lz s K) :
    K.countP (hits Lx Ly Lz fZx Pauli.Z) % 2 = 0 :=
  count_line (row := false) (g := fun _ => true) hF (fun _ _ _ => (Bool.and_true _).symm)
    (Or.inr hpy) (Or.inr fun _ _ => rfl) hk

theorem count_Zy (hF : Fam Lx Ly) (hpx : Lx % 2 = 0) (hk : Kind Lx Ly Lz s K) :
    K.countP (hits Lx Ly Lz fZy Pauli.Z) % 2 = 0 :=
  count_line (row := true) (g := fun _ => true) hF (fun _ _ _ => (Bool.and_true _).symm)
    (Or.inr hpx) (Or.inr fun _ _ => rfl) hk

/-- with one odd period the Y operator lies on the row `y = 1` (`Lx` odd) or on the column `x = 1` -/
theorem count_Y (hF : Fam Lx Ly) (h : ¬ (Lx % 2 = 0 ∧ Ly % 2 = 0)) (hk : Kind Lx Ly Lz s K) :
    K.countP (hits Lx Ly Lz (fY Lx Ly) Pauli.Y) % 2 = 0 := by
  have hodd := hF.2.2
  by_cases hx : Lx % 2 = 1
  · have hy : ¬ Ly % 2 = 1 := fun hy => hodd ⟨hx, hy⟩
    exact count_line (row := true) (g := fun _ => true) hF (fun _ _ _ => by simp [fY, hx, hy])
      (Or.inl rfl) (Or.inr fun _ _ => rfl) hk
  · have hy : Ly % 2 = 1 := by omega
    exact count_line (row := false) (g := fun _ => true) hF (fun _ _ _ => by simp [fY, hx, hy])
      (Or.inl rfl) (Or.inr fun _ _ => rfl) hk

end counts

theorem fam_cases {Lx Ly : Nat} (hF : Fam Lx Ly) :
    (Lx % 2 = 0 ∧ Ly % 2 = 0) ∨ (Lx % 2 = 1 ∧ Ly % 2 = 0) ∨ (Lx % 2 = 0 ∧ Ly % 2 = 1) := by
  obtain ⟨_, _, h⟩ := hF; omega

theorem logX_comm {Lx Ly Lz : Nat} (hF : Fam Lx Ly) {a : Op} (ha : a ∈ logX Lx Ly Lz) {s : Coord}
    (hs : s ∈ stabs Lx Ly Lz) : opCommute a (getStab Lx Ly Lz s) = true := by
  obtain ⟨K, hk⟩ := kind_of_mem hs
  have h1x : 1 ≤ Lx := by have := hF.1; omega
  have h1y : 1 ≤ Ly := by have := hF.2.1; omega
  rcases fam_cases hF with ⟨hx, hy⟩ | ⟨hx, hy⟩ | ⟨hx, hy⟩
  · rw [logX_EE hx hy] at ha
    simp only [List.mem_cons, List.not_mem_nil, or_false] at ha
    rcases ha with rfl | rfl
    · exact log_stab_comm hF hk _ _ (count_Xy hF hx hk)
    · exact log_stab_comm hF hk _ _ (count_Xx hF hy hk)
  · rw [logX_OE hx hy] at ha
    simp only [List.mem_cons, List.not_mem_nil, or_false] at ha
    subst ha
    exact log_stab_comm hF hk _ _ (count_Xx hF hy hk)
  · rw [logX_EO hx hy] at ha
    simp only [List.mem_cons, List.not_mem_nil, or_false] at ha
    subst ha
    exact log_stab_comm hF hk _ _ (count_Xy hF hx hk)

theorem logZ_comm {Lx Ly Lz : Nat} (hF : Fam Lx Ly) {a : Op} (ha : a ∈ logZ Lx Ly Lz) {s : Coord}
    (hs : s ∈ stabs Lx Ly Lz) : opCommute a (getStab Lx Ly Lz s) = true := by
  obtain ⟨K, hk⟩ := kind_of_mem hs
  rcases fam_cases hF with ⟨hx, hy⟩ | ⟨hx, hy⟩ | ⟨hx, hy⟩
  · rw [logZ_EE hx hy] at ha
    simp only [List.mem_cons, List.not_mem_nil, or_false] at ha
    rcases ha with rfl | rfl
    · exact log_stab_comm hF hk _ _ (count_Zx hF hy hk)
    · exact log_stab_comm hF hk _ _ (count_Zy hF hx hk)
  · rw [logZ_odd (by omega) hF.2.2] at ha
    simp only [List.mem_cons, List.not_mem_nil, or_false] at ha
    subst ha
    exact log_stab_comm hF hk _ _ (count_Y hF (by omega) hk)
  · rw [logZ_odd (by omega) hF.2.2] at ha
    simp only [List.mem_cons, List.not_mem_nil, or_false] at ha
    subst ha
    exact log_stab_comm hF hk _ _ (count_Y hF (by omega) hk)

theorem LK_shape {Lx Ly Lz : Nat} {f : Int → Int → Int → Bool} {q : Coord}
    (h : q ∈ LK Lx Ly Lz f) : ∃ x y z, q = [x, y, z] := mem_qubits_shape _ _ _ _ (LK_sub h)

theorem q111 {Lx Ly Lz : Nat} (hLx : 1 ≤ Lx) (hLy : 1 ≤ Ly) (hLz : 1 ≤ Lz) :
    [(1 : Int), 1, 1] ∈ qubits Lx Ly Lz := by
  rw [mem_qubits_iff]; left; unfold QH R1; omega

theorem ovl_cross {Lx Ly Lz : Nat} (hLx : 1 ≤ Lx) (hLy : 1 ≤ Ly) (hLz : 1 ≤ Lz)
    (f1 f2 : Int → Int → Int → Bool) (h1 : f1 1 1 1 = true) (h2 : f2 1 1 1 = true)
    (h : ∀ x y z : Int, [x, y, z] ∈ qubits Lx Ly Lz → f1 x y z = true → f2 x y z = true →
      x = 1 ∧ y = 1 ∧ z = 1) :
    ovl (LK Lx Ly Lz f1) (LK Lx Ly Lz f2) = 1 := by
  refine ovl_eq_one (LK_nodup _ _ _ _) [1, 1, 1] (mem_LK.mpr ⟨q111 hLx hLy hLz, h1⟩) ?_
  intro e he
  obtain ⟨x, y, z, rfl⟩ := LK_shape he
  rw [mem_LK] at he ⊢
  constructor
  · rintro ⟨hq, hf2⟩
    obtain ⟨rfl, rfl, rfl⟩ := h x y z hq he.2 hf2
    rfl
  · intro e1
    simp only [List.cons.injEq, and_true] at e1
    obtain ⟨rfl, rfl, rfl⟩ := e1
    exact ⟨he.1, h2⟩

/-- `e u v z` is the location with coordinate `u` along the lines (period `La`) and `v` across them
    (period `Lc`): rows as they stand, columns transposed -/
inductive Tr (Lx Ly : Nat) : (Int → Int → Int → Coord) → Nat → Nat → Prop
  | row : Tr Lx Ly (fun u v z => [u, v, z]) Lx Ly
  | col : Tr Lx Ly (fun u v z => [v, u, z]) Ly Lx

/-- the line `v = g` of the layer `z = c` -/
def lineK (La : Nat) (e : Int → Int → Int → Coord) (g c : Int) : List Coord :=
  (pyRange2 1 (2 * La)).map fun u => e u g c

theorem length_lineK (La : Nat) (e : Int → Int → Int → Coord) (g c : Int) :
    (lineK La e g c).length = La := by
  rw [lineK, List.length_map, length_pyRange2]; omega

theorem r1_one {L : Nat} (h : 1 ≤ L) : R1 (2 * L) 1 := by unfold R1; omega
theorem r1_idx {L i : Nat} (hi : i < L) : R1 (2 * L) (2 * (i : Int) + 1) := by unfold R1; omega

theorem Tr.inj {Lx Ly : Nat} {e : Int → Int → Int → Coord} {La Lc : Nat} (hp : Tr Lx Ly e La Lc)
    {u v z u' v' z' : Int} (h : e u v z = e u' v' z') : u = u' ∧ v = v' ∧ z = z' := by
  cases hp <;> simp only [List.cons.injEq, and_true] at h <;> omega

theorem Tr.lineK_nodup {Lx Ly : Nat} {e : Int → Int → Int → Coord} {La Lc : Nat}
    (hp : Tr Lx Ly e La Lc) (g c : Int) : (lineK La e g c).Nodup :=
  (nodup_pyRange2 _ _).map fun _ _ h => (hp.inj h).1

section
variable {Lx Ly Lz : Nat}

/-- the key list of an operator on the row `y = 1` or the column `x = 1`: the horizontal qubits that
    its filter selects -/
theorem LK_perm {f : Int → Int → Int → Bool} {K : List Coord} (nd : K.Nodup)
    (hf : ∀ x y z, f x y z = true → x = 1 ∨ y = 1)
    (hsub : ∀ q ∈ K, ∃ x y z, q = [x, y, z] ∧ QH Lx Ly Lz x y z ∧ f x y z = true)
    (hall : ∀ x y z, QH Lx Ly Lz x y z → f x y z = true → [x, y, z] ∈ K) :
    (LK Lx Ly Lz f).Perm K := by
  refine (List.perm_ext_iff_of_nodup (LK_nodup _ _ _ _) nd).mpr fun q => ⟨fun h => ?_, fun h => ?_⟩
  · obtain ⟨x, y, z, rfl⟩ := mem_qubits_shape _ _ _ _ (LK_sub h)
    rw [mem_LK, mem_qubits_iff] at h
    rcases h.1 with hq | hq
    · exact hall x y z hq h.2
    · have := hf x y z h.2
      unfold QV R2 at hq; omega
  · obtain ⟨x, y, z, rfl, hq, hfq⟩ := hsub q h
    exact mem_LK.mpr ⟨(mem_qubits_iff _ _ _ _ _ _).mpr (Or.inl hq), hfq⟩

theorem LK_fXy_perm (hLy : 1 ≤ Ly) (hLz : 1 ≤ Lz) :
    (LK Lx Ly Lz fXy).Perm (lineK Lx (fun u v z => [u, v, z]) 1 1) := by
  refine LK_perm ((Tr.row (Ly := Ly)).lineK_nodup _ _) (fun x y z h => ?_) (fun q hq => ?_)
    (fun x y z hq h => ?_)
  · simp only [fXy, Bool.and_eq_true, beq_iff_eq] at h; exact Or.inr h.1
  · obtain ⟨x, hx, rfl⟩ := List.mem_map.mp hq
    exact ⟨_, _, _, rfl, ⟨(mem_pyRange2_1 _ _).mp hx, r1_one hLy, r1_one hLz⟩, rfl⟩
  · simp only [fXy, Bool.and_eq_true, beq_iff_eq] at h
    obtain ⟨rfl, rfl⟩ := h
    exact List.mem_map.mpr ⟨x, (mem_pyRange2_1 _ _).mpr hq.1, rfl⟩

theorem LK_fXx_perm (hLx : 1 ≤ Lx) (hLz : 1 ≤ Lz) :
    (LK Lx Ly Lz fXx).Perm (lineK Ly (fun u v z => [v, u, z]) 1 1) := by
  refine LK_perm ((Tr.col (Lx := Lx)).lineK_nodup _ _) (fun x y z h => ?_) (fun q hq => ?_)
    (fun x y z hq h => ?_)
  · simp only [fXx, Bool.and_eq_true, beq_iff_eq] at h; exact Or.inl h.1
  · obtain ⟨y, hy, rfl⟩ := List.mem_map.mp hq
    exact ⟨_, _, _, rfl, ⟨r1_one hLx, (mem_pyRange2_1 _ _).mp hy, r1_one hLz⟩, rfl⟩
  · simp only [fXx, Bool.and_eq_true, beq_iff_eq] at h
    obtain ⟨rfl, rfl⟩ := h
    exact List.mem_map.mpr ⟨y, (mem_pyRange2_1 _ _).mpr hq.2.1, rfl⟩

end

theorem length_LK_Xy {Lx Ly Lz : Nat} (hLy : 1 ≤ Ly) (hLz : 1 ≤ Lz) :
    (LK Lx Ly Lz fXy).length = Lx :=
  (LK_fXy_perm hLy hLz).length_eq.trans (length_lineK ..)

theorem length_LK_Xx {Lx Ly Lz : Nat} (hLx : 1 ≤ Lx) (hLz : 1 ≤ Lz) :
    (LK Lx Ly Lz fXx).length = Ly :=
  (LK_fXx_perm hLx hLz).length_eq.trans (length_lineK ..)

theorem anti_XZ : Pauli.anti Pauli.X Pauli.Z = true := rfl
theorem anti_XY : Pauli.anti Pauli.X Pauli.Y = true := rfl

theorem pairing {Lx Ly Lz : Nat} (hF : Fam Lx Ly) (hLz : 1 ≤ Lz) (i j : Nat)
    (hi : i < (logX Lx Ly Lz).length) (hj : j < (logZ Lx Ly Lz).length) :
    opAntiCount ((logX Lx Ly Lz).getD i []) ((logZ Lx Ly Lz).getD j []) % 2 =
      if i = j then 1 else 0 := by
  have h1x : 1 ≤ Lx := by have := hF.1; omega
  have h1y : 1 ≤ Ly := by have := hF.2.1; omega
  have cXyZx : ovl (LK Lx Ly Lz fXy) (LK Lx Ly Lz fZx) = 1 :=
    ovl_cross h1x h1y hLz _ _ rfl rfl (by
      intro x y z _ h1 h2
      simp only [fXy, fZx, Bool.and_eq_true, beq_iff_eq] at h1 h2
      exact ⟨h2, h1.1, h1.2⟩)
  have cXxZy : ovl (LK Lx Ly Lz fXx) (LK Lx Ly Lz fZy) = 1 :=
    ovl_cross h1x h1y hLz _ _ rfl rfl (by
      intro x y z _ h1 h2
      simp only [fXx, fZy, Bool.and_eq_true, beq_iff_eq] at h1 h2
      exact ⟨h1.1, h2, h1.2⟩)
  rcases fam_cases hF with ⟨hx, hy⟩ | ⟨hx, hy⟩ | ⟨hx, hy⟩
  · rw [logX_EE hx hy] at hi ⊢
    rw [logZ_EE hx hy] at hj ⊢
    have cXyZy : ovl (LK Lx Ly Lz fXy) (LK Lx Ly Lz fZy) = Lx := by
      rw [ovl_of_subset, length_LK_Xy h1y hLz]
      intro e he
      obtain ⟨x, y, z, rfl⟩ := LK_shape he
      rw [mem_LK] at he ⊢
      simp only [fXy, fZy, Bool.and_eq_true, beq_iff_eq] at he ⊢
      exact ⟨he.1, he.2.1⟩
    have cXxZx : ovl (LK Lx Ly Lz fXx) (LK Lx Ly Lz fZx) = Ly := by
      rw [ovl_of_subset, length_LK_Xx h1x hLz]
      intro e he
      obtain ⟨x, y, z, rfl⟩ := LK_shape he
      rw [mem_LK] at he ⊢
      simp only [fXx, fZx, Bool.and_eq_true, beq_iff_eq] at he ⊢
      exact ⟨he.1, he.2.1⟩
    simp only [List.length_cons, List.length_nil] at hi hj
    have hi' : i = 0 ∨ i = 1 := by omega
    have hj' : j = 0 ∨ j = 1 := by omega
    rcases hi' with rfl | rfl <;> rcases hj' with rfl | rfl <;>
      simp [opAntiCount_constOp, anti_XZ, cXyZx, cXxZy, cXyZy, cXxZx, hx, hy]
  · rw [logX_OE hx hy] at hi ⊢
    rw [logZ_odd (by omega) hF.2.2] at hj ⊢
    have c : ovl (LK Lx Ly Lz fXx) (LK Lx Ly Lz (fY Lx Ly)) = 1 :=
      ovl_cross h1x h1y hLz _ _ rfl (by simp [fY, hx]) (by
        intro x y z _ h1 h2
        simp only [fXx, fY, Bool.and_eq_true, Bool.or_eq_true, beq_iff_eq] at h1 h2
        have : y = 1 := by
          rcases h2 with h2 | h2
          · exact h2.2
          · omega
        exact ⟨h1.1, this, h1.2⟩)
    simp only [List.length_cons, List.length_nil] at hi hj
    obtain rfl : i = 0 := by omega
    obtain rfl : j = 0 := by omega
    simp [opAntiCount_constOp, anti_XY, c]
  · rw [logX_EO hx hy] at hi ⊢
    rw [logZ_odd (by omega) hF.2.2] at hj ⊢
    have c : ovl (LK Lx Ly Lz fXy) (LK Lx Ly Lz (fY Lx Ly)) = 1 :=
      ovl_cross h1x h1y hLz _ _ rfl (by simp [fY, hy]) (by
        intro x y z _ h1 h2
        simp only [fXy, fY, Bool.and_eq_true, Bool.or_eq_true, beq_iff_eq] at h1 h2
        have : x = 1 := by
          rcases h2 with h2 | h2
          · omega
          · exact h2.2
        exact ⟨this, h1.1, h1.2⟩)
    simp only [List.length_cons, List.length_nil] at hi hj
    obtain rfl : i = 0 := by omega
    obtain rfl : j = 0 := by omega
    simp [opAntiCount_constOp, anti_XY, c]

theorem logXX {Lx Ly Lz : Nat} {a b : Op} (ha : a ∈ logX Lx Ly Lz) (hb : b ∈ logX Lx Ly Lz) :
    opCommute a b = true := by
  obtain ⟨f, rfl⟩ := logX_form ha
  obtain ⟨g, rfl⟩ := logX_form hb
  exact opCommute_constOp_same _ _ _

theorem logZZ {Lx Ly Lz : Nat} {a b : Op} (ha : a ∈ logZ Lx Ly Lz) (hb : b ∈ logZ Lx Ly Lz) :
    opCommute a b = true := by
  obtain ⟨p, _, h⟩ := logZ_form (Lx := Lx) (Ly := Ly) (Lz := Lz)
  obtain ⟨f, rfl⟩ := h a ha
  obtain ⟨g, rfl⟩ := h b hb
  exact opCommute_constOp_same _ _ _

theorem wf {Lx Ly Lz : Nat} (hF : Fam Lx Ly) : (lattice Lx Ly Lz).WF := by
  constructor <;>
    simp only [lattice_qubits, lattice_stabs, lattice_getStab, lattice_logX, lattice_logZ]
  · exact qubits_nodup Lx Ly Lz
  · exact stabs_nodup Lx Ly Lz
  · exact fun _ hq => qubits_not_stabs hq
  · intro s hs
    obtain ⟨K, hk⟩ := kind_of_mem hs
    exact (signed_of_kind hF hk).keysNodup
  · intro s hs
    obtain ⟨K, hk⟩ := kind_of_mem hs
    exact (signed_of_kind hF hk).supported
  · intro s hs
    obtain ⟨K, hk⟩ := kind_of_mem hs
    exact (signed_of_kind hF hk).ne_nil (first_candidate_qubit hF hk)
  · intro a ha
    obtain ⟨f, p, rfl, _⟩ := logical_form ha
    exact constOp_keysNodup Lx Ly Lz f p
  · intro a ha e he
    obtain ⟨f, p, rfl, hp⟩ := logical_form ha
    rw [mem_constOp] at he
    exact ⟨LK_sub he.1, by rw [he.2]; exact hp⟩

theorem commPair {Lx Ly Lz : Nat} (hF : Fam Lx Ly) (hLz : 1 ≤ Lz) :
    (lattice Lx Ly Lz).CommPair := by
  constructor <;>
    simp only [lattice_stabs, lattice_getStab, lattice_logX, lattice_logZ]
  · exact fun _ hs _ ht => stab_comm hF hs ht
  · exact fun _ ha _ hs => logX_comm hF ha hs
  · exact fun _ ha _ hs => logZ_comm hF ha hs
  · rw [logX_length, logZ_length]
  · exact fun i j hi hj => pairing hF hLz i j hi hj
  · exact fun _ ha _ hb => logXX ha hb
  · exact fun _ ha _ hb => logZZ ha hb

end Panqec.RotatedToric3DCode
