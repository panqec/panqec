/-
Soundness of the packing certificate check `checkPacking` (Model/Dist.lean): an accepted
certificate gives, for every listed logical, `d` representatives modulo the stabilizer group
with pairwise disjoint Pauli supports — the hypothesis of `packing_lower_bound`
(Proofs/CodeAlgebra.lean).
-/
import PanqecVerif.Proofs.DistPlain
import PanqecVerif.Proofs.MaskFast
import PanqecVerif.Proofs.CodeAlgebra

namespace Panqec

theorem unlanes_packLanes (W : Nat) (hW : 0 < W) : ∀ xs : List Nat,
    unlanes W xs.length (packLanes W xs) = xs.map (· % W)
  | [] => rfl
  | x :: xs => by
    have h1 : (W * packLanes W xs + x % W) % W = x % W := by
      rw [Nat.mul_add_mod_self_left, Nat.mod_mod]
    have h2 : (W * packLanes W xs + x % W) / W = packLanes W xs := by
      rw [Nat.mul_add_div hW, Nat.div_eq_of_lt (Nat.mod_lt _ hW), Nat.add_zero]
    simp only [List.length_cons, unlanes, packLanes, h1, h2, List.map_cons,
      unlanes_packLanes W hW xs]

theorem lanes_xorSelect (L : Nat) (stabs cs : List Nat) (hlen : stabs.length ≤ L) (hL : 0 < L)
    (hfit : ∀ b ∈ stabs, b < 2 ^ L) :
    unlanes (2 ^ L) cs.length
        (comboAcc (repunit (2 ^ L) cs.length) stabs (packLanes (2 ^ L) cs)) =
      cs.map (xorSelect stabs) := by
  have h := comboAcc_eq L hL cs stabs 0 (by omega) hfit
  rw [Nat.shiftRight_zero] at h
  rw [h]
  have hl : cs.length = (cs.map fun c => xorSelect stabs (c >>> 0)).length := by simp
  rw [hl, unlanes_packLanes _ (Nat.two_pow_pos L), List.map_map]
  apply List.map_congr_left
  intro c _
  simp only [Function.comp, Nat.shiftRight_zero]
  exact Nat.mod_eq_of_lt (xorSelect_lt L stabs c hfit)

theorem getD_unpackBits_ne_zero : ∀ (w m q : Nat),
    (unpackBits w m).getD q 0 ≠ 0 ↔ q < w ∧ m.testBit q = true
  | 0, m, q => by simp [unpackBits]
  | w + 1, m, 0 => by
    simp only [unpackBits, List.getD_cons_zero, Nat.testBit_zero]
    have := Nat.mod_two_eq_zero_or_one m
    constructor
    · intro h; exact ⟨by omega, by simp; omega⟩
    · intro h; have := h.2; simp at this; omega
  | w + 1, m, q + 1 => by
    simp only [unpackBits, List.getD_cons_succ]
    rw [getD_unpackBits_ne_zero w (m / 2) q, Nat.testBit_succ]
    constructor
    · intro h; exact ⟨by omega, h.2⟩
    · intro h; exact ⟨by omega, h.2⟩

theorem hasSupp_unpack_iff (n a q : Nat) :
    hasSupp (unpackBits (2 * n) a) q ↔ (suppNat n a).testBit q = true := by
  unfold hasSupp suppNat
  rw [xPart_unpackBits', zPart_unpackBits', getD_unpackBits_ne_zero, getD_unpackBits_ne_zero]
  simp only [Nat.testBit_mod_two_pow, Nat.testBit_or]
  by_cases hq : q < n <;> simp [hq]

theorem suppDisjoint_of_masks (n a b : Nat) (h : suppNat n a &&& suppNat n b = 0) :
    SuppDisjoint (unpackBits (2 * n) a) (unpackBits (2 * n) b) := by
  intro q ⟨ha, hb⟩
  rw [hasSupp_unpack_iff] at ha hb
  have : (suppNat n a &&& suppNat n b).testBit q = true := by
    rw [Nat.testBit_and, ha, hb]; rfl
  rw [h, Nat.zero_testBit] at this
  exact Bool.noConfusion this

theorem pairwiseDisjoint_sound : ∀ ss : List Nat, pairwiseDisjoint ss = true →
    ss.Pairwise (fun s t => s &&& t = 0)
  | [], _ => List.Pairwise.nil
  | s :: ss, h => by
    simp only [pairwiseDisjoint, Bool.and_eq_true, List.all_eq_true, beq_iff_eq] at h
    exact List.Pairwise.cons h.1 (pairwiseDisjoint_sound ss h.2)

theorem checkGroupsP_sound (n d : Nat) : ∀ (logs xs : List Nat), checkGroupsP n d logs xs = true →
    ∀ l ∈ logs, ∃ ys : List Nat, ys.length = d ∧ (∀ y ∈ ys, y ∈ xs) ∧
      (ys.map fun x => suppNat n (l ^^^ x)).Pairwise (fun s t => s &&& t = 0)
  | [], _, _, l, hl => by simp at hl
  | l0 :: ls, xs, h, l, hl => by
    simp only [checkGroupsP, Bool.and_eq_true, beq_iff_eq] at h
    obtain ⟨⟨hlen, hdis⟩, hrest⟩ := h
    rcases List.mem_cons.mp hl with rfl | hl
    · exact ⟨xs.take d, hlen, fun y hy => List.mem_of_mem_take hy, pairwiseDisjoint_sound _ hdis⟩
    · obtain ⟨ys, h1, h2, h3⟩ := checkGroupsP_sound n d ls (xs.drop d) hrest l hl
      exact ⟨ys, h1, fun y hy => List.mem_of_mem_drop (h2 y hy), h3⟩

theorem checkPacking_reps (c : MaskCode) (cs : List Nat) (h : checkPacking c cs = true) :
    ∀ l ∈ c.logX.map (unpackBits (2 * c.n)) ++ c.logZ.map (unpackBits (2 * c.n)),
      ∃ reps : List (List Nat), reps.length = c.d ∧
        (∀ r ∈ reps, r.length = 2 * c.n ∧
          InSpan (2 * c.n) (c.stabs.map (unpackBits (2 * c.n))) (vxor l r)) ∧
        reps.Pairwise SuppDisjoint := by
  rw [checkPacking_eq] at h
  simp only [checkPackingP, Bool.and_eq_true, List.all_eq_true, Nat.blt_eq] at h
  obtain ⟨hfit, hg⟩ := h
  by_cases hL : 2 * c.n + c.stabs.length = 0
  · -- no qubits and no generators: only possible with `d` representatives of the empty vector
    have hn : c.n = 0 := by omega
    have hs : c.stabs = [] := List.eq_nil_of_length_eq_zero (by omega)
    intro l hl
    rw [← List.map_append] at hl
    obtain ⟨lm, hlm, rfl⟩ := List.mem_map.mp hl
    obtain ⟨ys, h1, _, _⟩ := checkGroupsP_sound c.n c.d _ _ hg lm hlm
    refine ⟨List.replicate c.d [], by simp, ?_, ?_⟩
    · intro r hr
      rw [List.eq_of_mem_replicate hr, hn, hs]
      exact ⟨rfl, [], rfl, by simp [xorCombo, vzero, unpackBits, vxor]⟩
    · rw [List.pairwise_replicate]
      right
      intro q ⟨hq, _⟩
      simp [hasSupp, xPart, zPart] at hq
  have hlanes := lanes_xorSelect (2 * c.n + c.stabs.length) c.stabs cs (by omega) (by omega) hfit
  rw [hlanes] at hg
  intro l hl
  rw [← List.map_append] at hl
  obtain ⟨lm, hlm, rfl⟩ := List.mem_map.mp hl
  obtain ⟨ys, h1, h2, h3⟩ := checkGroupsP_sound c.n c.d _ _ hg lm hlm
  refine ⟨ys.map fun y => unpackBits (2 * c.n) (lm ^^^ y), by simpa using h1, ?_, ?_⟩
  · intro r hr
    obtain ⟨y, hy, rfl⟩ := List.mem_map.mp hr
    obtain ⟨s, _, rfl⟩ := List.mem_map.mp (h2 y hy)
    refine ⟨unpackBits_length _ _, ?_⟩
    rw [← unpackBits_xor, ← Nat.xor_assoc, Nat.xor_self, Nat.zero_xor]
    exact inSpan_unpack_xorSelect _ _ _
  · rw [List.pairwise_map] at h3 ⊢
    exact h3.imp fun {a b} hab => suppDisjoint_of_masks c.n _ _ hab

end Panqec
