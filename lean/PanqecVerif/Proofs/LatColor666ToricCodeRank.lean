/-
Color666ToricCode, square sizes `L ≥ 1`: an independent family of `n − k = 18L² − 4` generators.
Selected: the X and the Z generator of every face except the faces `(2, 2)` and `(5, 4)` (adjacent,
of two different colours).  The faces form a triangular lattice on the torus (face coordinates
`(a, j)` of `LatColor666ToricCodeFaces`: `x = 3a+2`, `y = 2+2a+4j`), the qubits are its triangles: each
corner lies on three faces (`qL_mem_corners`, `qR_mem_corners`).  Triangular single-qubit probes:

* the faces of the columns `x = 2` and `x = 5` form a zig-zag `z_0, z_1, z_2, …` (`z_{2m} = (2, ·)`,
  `z_{2m+1} = (5, ·)`) in which three consecutive faces share a qubit: `z_0, z_1` are removed and
  `z_k` is probed on the qubit of `{z_{k−2}, z_{k−1}, z_k}`, rank `k`;
* every column `x ≥ 8` after all columns to its left, probed on its left corner `(x−2, y)`, whose two
  other faces are in the column `x − 3`; wrap-around in `y` is harmless.
-/
import PanqecVerif.Proofs.Lat2DRank
import PanqecVerif.Proofs.LatColor666ToricCodeCss
import PanqecVerif.Proofs.ColorFaces


namespace Panqec.Color666ToricCode
open Panqec.Lat2D Panqec.Color

/-! `selFaces`, `sel` (the selected stabilizer locations): defined in
    `Model/Lattices/Color666ToricCode.lean` (linked into the driver, op `rankfamily`) -/

theorem mem_selFaces_q {L : Nat} {q : Coord} : q ∈ selFaces L ↔
    ∃ x y, q = [x, y] ∧ (IsF L x y ∧ ¬ (x = 2 ∧ y = 2) ∧ ¬ (x = 5 ∧ y = 4)) := by
  unfold selFaces
  simp only [List.mem_filter, Bool.and_eq_true, bne_iff_ne, ne_eq, mem_faces]
  constructor
  · rintro ⟨⟨x, y, rfl, hf⟩, h1, h2⟩
    exact ⟨x, y, rfl, hf, by simpa using h1, by simpa using h2⟩
  · rintro ⟨x, y, rfl, hf, h1, h2⟩
    exact ⟨⟨x, y, rfl, hf⟩, by simpa using h1, by simpa using h2⟩

theorem mem_selFaces {L : Nat} {x y : Int} : [x, y] ∈ selFaces L ↔
    IsF L x y ∧ ¬ (x = 2 ∧ y = 2) ∧ ¬ (x = 5 ∧ y = 4) := mem_pair_iff mem_selFaces_q

theorem mem_sel {L : Nat} {s : Coord} :
    s ∈ sel L ↔ ∃ x y p, s = [x, y, p] ∧ IsF L x y ∧ ¬ (x = 2 ∧ y = 2) ∧ ¬ (x = 5 ∧ y = 4) ∧
      (p = 0 ∨ p = 1) := by
  unfold sel
  simp only [mem_both_iff mem_selFaces_q, and_assoc]

theorem nodup_sel (L : Nat) : (sel L).Nodup :=
  nodup_both ((nodup_faces L).sublist List.filter_sublist)

theorem sel_subset {L : Nat} : ∀ s ∈ sel L, s ∈ stabs L L := by
  intro s hs
  obtain ⟨x, y, p, rfl, hc, _, _, hp⟩ := mem_sel.mp hs
  exact mem_stabs'.mpr ⟨hc, hp⟩

theorem length_sel {L : Nat} (hL : 1 ≤ L) : (sel L).length + 4 = 18 * (L * L) := by
  unfold sel
  rw [length_both]
  have h := length_remove_two (faces L L) [2, 2] [5, 4] (nodup_faces L)
    (mem_faces'.mpr (by unfold IsF skew; omega)) (mem_faces'.mpr (by unfold IsF skew; omega))
    (by decide)
  have h2 : 2 * (faces L L).length = 18 * (L * L) := by
    have := length_stabs L
    unfold stabs at this
    rw [length_both] at this
    exact this
  unfold selFaces
  have h3 : 1 ≤ L * L := Nat.mul_pos hL hL
  omega

def probeQ (L : Nat) (x y : Int) : Coord :=
  if x = 2 then wrapP L (x + 1) (y + -2)
  else if x = 5 then wrapP L (x + -1) (y + -2)
  else wrapP L (x + -2) (y + 0)

def probe (L : Nat) (s : Coord) : Coord × Pauli :=
  match s with
  | [x, y, p] => (probeQ L x y, if p = 0 then Pauli.Z else Pauli.X)
  | _ => ([], Pauli.I)

def rankI (L : Nat) (x y : Int) : Int :=
  if x ≤ 5 then (3 * y - 2 * x - 2) / 6 + (x - 2) / 3 else 6 * (L : Int) + 2 + (x - 2) / 3

def rankOf (L : Nat) (s : Coord) : Nat :=
  match s with
  | [x, y, _] => (rankI L x y).toNat
  | _ => 0

theorem rankI_spec (L : Nat) (x y : Int) :
    (x ≤ 5 ∧ rankI L x y = (3 * y - 2 * x - 2) / 6 + (x - 2) / 3) ∨
    (5 < x ∧ rankI L x y = 6 * (L : Int) + 2 + (x - 2) / 3) := by
  unfold rankI
  by_cases h : x ≤ 5
  · left; exact ⟨h, by rw [if_pos h]⟩
  · right; exact ⟨by omega, by rw [if_neg h]⟩

theorem probe_mem_own (L : Nat) (x y : Int) : probeQ L x y ∈ supp L x y := by
  unfold probeQ supp
  by_cases h2 : x = 2
  · rw [if_pos h2]; simp
  · by_cases h5 : x = 5
    · rw [if_neg h2, if_pos h5]; simp
    · rw [if_neg h2, if_neg h5]; simp

/-- a multiple of the period `3L` between two face coordinates shifted by at most one -/
theorem Cg.near {L : Nat} {u : Int} (h : Cg L u) (h1 : -(2 * (3 * (L : Int))) < u)
    (h2 : u < 2 * (3 * (L : Int))) : u = 0 ∨ u = 3 * (L : Int) ∨ u = -(3 * (L : Int)) :=
  emod_zero_cases (Int.emod_eq_zero_of_dvd h) h1 h2

/-- the three faces around a left corner -/
theorem qL_mem_corners {L : Nat} (hL : 1 ≤ L) (a j a' j' : Int) : qL L a j ∈ corners L a' j' ↔
    (Cg L (a' + 1 - a) ∧ Cg L (j' - 1 - j)) ∨ (Cg L (a' + 1 - a) ∧ Cg L (j' - j)) ∨
      (Cg L (a' - a) ∧ Cg L (j' - j)) := by
  simp only [corners, List.mem_cons, List.not_mem_nil, or_false, qL_eq_iff hL,
    (qR_ne_qL hL _ _ _ _).symm, false_or]

/-- the three faces around a right corner -/
theorem qR_mem_corners {L : Nat} (hL : 1 ≤ L) (a j a' j' : Int) : qR L a j ∈ corners L a' j' ↔
    (Cg L (a' - 1 - a) ∧ Cg L (j' - j)) ∨ (Cg L (a' - a) ∧ Cg L (j' - j)) ∨
      (Cg L (a' - 1 - a) ∧ Cg L (j' + 1 - j)) := by
  simp only [corners, List.mem_cons, List.not_mem_nil, or_false, qR_eq_iff hL,
    qR_ne_qL hL, false_or, or_false]

/-- the probe corner in face coordinates: the lower right corner in the column `a = 0`, the lower
    left one in the column `a = 1`, the left one elsewhere -/
theorem probeQ_face {L : Nat} (hL : 1 ≤ L) {a j : Int} (hf : IsF L (3 * a + 2) (2 + 2 * a + 4 * j)) :
    probeQ L (3 * a + 2) (2 + 2 * a + 4 * j) =
      if a = 0 then qL L (a + 1) (j - 1) else if a = 1 then qR L (a - 1) j else qL L a j := by
  have e := supp_face hL hf
  unfold supp corners at e
  simp only [List.cons.injEq, and_true] at e
  unfold probeQ
  by_cases h0 : a = 0
  · rw [if_pos h0, if_pos (by omega)]; exact e.2.1
  · rw [if_neg h0, if_neg (by omega)]
    by_cases h1 : a = 1
    · rw [if_pos h1, if_pos (by omega)]; exact e.1
    · rw [if_neg h1, if_neg (by omega)]; exact e.2.2.2.2.2

/-- the rank in face coordinates: along the zig-zag of the columns `a = 0, 1`, then by columns -/
theorem rankI_face (L : Nat) (a j : Int) :
    (a ≤ 1 ∧ rankI L (3 * a + 2) (2 + 2 * a + 4 * j) = 2 * j + a) ∨
    (1 < a ∧ rankI L (3 * a + 2) (2 + 2 * a + 4 * j) = 6 * (L : Int) + 2 + a) := by
  rcases rankI_spec L (3 * a + 2) (2 + 2 * a + 4 * j) with ⟨h, e⟩ | ⟨h, e⟩
  · exact Or.inl ⟨by omega, by omega⟩
  · exact Or.inr ⟨by omega, by omega⟩

theorem probe_not_mem {L : Nat} (hL : 1 ≤ L) {x y x' y' : Int} (hs : IsF L x y)
    (h1 : ¬ (x = 2 ∧ y = 2)) (h2 : ¬ (x = 5 ∧ y = 4)) (ht : IsF L x' y')
    (h1' : ¬ (x' = 2 ∧ y' = 2)) (h2' : ¬ (x' = 5 ∧ y' = 4)) (hne : ¬ (x = x' ∧ y = y'))
    (hle : rankI L x y ≤ rankI L x' y') : probeQ L x y ∉ supp L x' y' := by
  intro hmem
  obtain ⟨a, j, rfl, rfl, a0, a1, j0, j1⟩ := isF_coords hs
  obtain ⟨a', j', rfl, rfl, a0', a1', j0', j1'⟩ := isF_coords ht
  rw [supp_face hL ht, probeQ_face hL hs] at hmem
  have rs := rankI_face L a j
  have rt := rankI_face L a' j'
  generalize rankI L (3 * a + 2) (2 + 2 * a + 4 * j) = r at rs hle
  generalize rankI L (3 * a' + 2) (2 + 2 * a' + 4 * j') = r' at rt hle
  have k1 : ¬ (a = 0 ∧ j = 0) := fun e => h1 (by omega)
  have k2 : ¬ (a = 1 ∧ j = 0) := fun e => h2 (by omega)
  have k1' : ¬ (a' = 0 ∧ j' = 0) := fun e => h1' (by omega)
  have k2' : ¬ (a' = 1 ∧ j' = 0) := fun e => h2' (by omega)
  have kne : ¬ (a = a' ∧ j = j') := fun e => hne (by omega)
  clear hs ht h1 h2 h1' h2' hne
  -- each owner of the probe corner is the face itself, a removed face, or of smaller rank
  have fin : ∀ {ua uj : Int}, Cg L ua → Cg L uj → -(2 * (3 * (L : Int))) < ua →
      ua < 2 * (3 * (L : Int)) → -(2 * (3 * (L : Int))) < uj → uj < 2 * (3 * (L : Int)) →
      (ua = 0 ∨ ua = 3 * (L : Int) ∨ ua = -(3 * (L : Int))) ∧
        (uj = 0 ∨ uj = 3 * (L : Int) ∨ uj = -(3 * (L : Int))) :=
    fun ca cj b1 b2 b3 b4 => ⟨ca.near b1 b2, cj.near b3 b4⟩
  by_cases c0 : a = 0
  · rw [if_pos c0, qL_mem_corners hL] at hmem
    rcases hmem with ⟨ca, cj⟩ | ⟨ca, cj⟩ | ⟨ca, cj⟩ <;>
      obtain ⟨ea, ej⟩ := fin ca cj (by omega) (by omega) (by omega) (by omega) <;>
      clear ca cj <;> omega
  · by_cases c1 : a = 1
    · rw [if_neg c0, if_pos c1, qR_mem_corners hL] at hmem
      rcases hmem with ⟨ca, cj⟩ | ⟨ca, cj⟩ | ⟨ca, cj⟩ <;>
        obtain ⟨ea, ej⟩ := fin ca cj (by omega) (by omega) (by omega) (by omega) <;>
        clear ca cj <;> omega
    · rw [if_neg c0, if_neg c1, qL_mem_corners hL] at hmem
      rcases hmem with ⟨ca, cj⟩ | ⟨ca, cj⟩ | ⟨ca, cj⟩ <;>
        obtain ⟨ea, ej⟩ := fin ca cj (by omega) (by omega) (by omega) (by omega) <;>
        clear ca cj <;> omega

theorem rankI_nonneg {L : Nat} {x y : Int} (hc : IsF L x y) : 0 ≤ rankI L x y := by
  have := rankI_spec L x y
  unfold IsF skew at hc
  omega

theorem triangular {L : Nat} (hL : 1 ≤ L) :
    TriangularProbes (lattice L L) (sel L) (probe L) (rankOf L) := by
  refine triangular_of_faces (supp L) (probeQ L) (rankI L) (fun c hc => ?_)
    (fun x y p h hp => ?_) (fun _ _ _ => rfl) (fun x y p h => ?_) (fun x y h => ?_)
    (fun x y h q hq => ?_) (fun x y x' y' h h' hne hle => ?_)
  · obtain ⟨x, y, rfl, -⟩ := mem_faces.mp (List.mem_filter.mp hc).1
    exact ⟨x, y, rfl⟩
  · exact getStab_eq hL (mem_stabs'.mpr ⟨(mem_selFaces.mp h).1, hp⟩)
  · exact Int.toNat_of_nonneg (rankI_nonneg (mem_selFaces.mp h).1)
  · exact probe_mem_own L x y
  · exact (mem_qubits_faces hL).mpr ⟨x, y, (mem_selFaces.mp h).1, hq⟩
  · obtain ⟨hc, h1, h2⟩ := mem_selFaces.mp h
    obtain ⟨hc', h1', h2'⟩ := mem_selFaces.mp h'
    exact probe_not_mem hL hc h1 h2 hc' h1' h2' hne hle

theorem indep_sel {L : Nat} (hL : 1 ≤ L) : IndepGenerators (lattice L L) (sel L) :=
  indep_of_triangular (triangular hL)

end Panqec.Color666ToricCode
