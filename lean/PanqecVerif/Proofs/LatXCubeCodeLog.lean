/-
XCubeCode lattice model: the key lists of the families of logical operators over a placement of
the axes (`Placed`): the ladders of parallel edges (logical X) and the lines of edges (logical Z),
their membership in arithmetic form, and the closed form of `get_logicals_x` / `get_logicals_z`.
-/
import PanqecVerif.Proofs.LatXCubeCodeBasics
open Panqec Panqec.Lat3Db
namespace Panqec.XCubeCode

/-- the placements of the edges along x, y, z: the odd coordinate `o` (the direction of the edge)
    first, then the two even ones.  `Placed.xyz`, `.yxz`, `.zxy` and `Dir.x`, `.y`, `.z` carry them as
    lambdas so that `cases` leaves a term that reduces -/
def pX (o u w : Int) : Coord := [o, u, w]
def pY (o u w : Int) : Coord := [u, o, w]
def pZ (o u w : Int) : Coord := [u, w, o]

/-- the line of the edges along `o` at the transverse position `(u, w)` -/
def zline (L : Nat) (e : Int → Int → Int → Coord) (u w : Int) : List Coord :=
  (pyRange2 1 (2*L)).map fun o => e o u w

/-- key lists on the edges placed by `e`: the two families of logical X (ladders of the edges
    `(1, u, w)`, `w` resp. `u` running; `gX2 L e w` is `gX1 L (fun o u w => e o w u) w`) and of
    logical Z (the line at `(u, 0)`, the two lines at `(0, 0)` and `(0, w)`) -/
def gX1 (L : Nat) (e : Int → Int → Int → Coord) (u : Int) : List Coord :=
  (pyRange2 0 (2*L)).map fun w => e 1 u w
def gX2 (L : Nat) (e : Int → Int → Int → Coord) (w : Int) : List Coord :=
  (pyRange2 0 (2*L)).map fun u => e 1 u w
def gZ1 (L : Nat) (e : Int → Int → Int → Coord) (u : Int) : List Coord := zline L e u 0
def gZ2 (L : Nat) (e : Int → Int → Int → Coord) (w : Int) : List Coord := zline L e 0 0 ++ zline L e 0 w

/-- the logical operators on the edges placed by `e` -/
def bX (e : Int → Int → Int → Coord) (Lu Lw : Nat) : List Op :=
  ((pyRange2 0 (2*Lu)).map fun u => constOp (gX1 Lw e u) Pauli.X) ++
  ((pyRange2 2 (2*Lw)).map fun w => constOp (gX2 Lu e w) Pauli.X)
def bZ (e : Int → Int → Int → Coord) (Lo Lu Lw : Nat) : List Op :=
  ((pyRange2 0 (2*Lu)).map fun u => constOp (gZ1 Lo e u) Pauli.Z) ++
  ((pyRange2 2 (2*Lw)).map fun w => constOp (gZ2 Lo e w) Pauli.Z)

/-! ### the six families of logical Z as `logicals_z` lists them: `gZ·` with `pX` (A), `pY` (B), `pZ` (C) -/
def kZA1 (Lx : Nat) (y : Int) : List Coord := (pyRange2 1 (2*Lx)).map fun x => [x, y, 0]
def kZA2 (Lx : Nat) (z : Int) : List Coord :=
  ((pyRange2 1 (2*Lx)).map fun x => [x, 0, 0]) ++ ((pyRange2 1 (2*Lx)).map fun x => [x, 0, z])
def kZB1 (Ly : Nat) (x : Int) : List Coord := (pyRange2 1 (2*Ly)).map fun y => [x, y, 0]
def kZB2 (Ly : Nat) (z : Int) : List Coord :=
  ((pyRange2 1 (2*Ly)).map fun y => [0, y, 0]) ++ ((pyRange2 1 (2*Ly)).map fun y => [0, y, z])
def kZC1 (Lz : Nat) (x : Int) : List Coord := (pyRange2 1 (2*Lz)).map fun z => [x, 0, z]
def kZC2 (Lz : Nat) (y : Int) : List Coord :=
  ((pyRange2 1 (2*Lz)).map fun z => [0, 0, z]) ++ ((pyRange2 1 (2*Lz)).map fun z => [0, y, z])

section
variable {Lx Ly Lz : Nat} {e : Int → Int → Int → Coord} {Lo Lu Lw : Nat}
  (hp : Placed Lx Ly Lz e Lo Lu Lw) {L : Nat}
include hp

theorem mem_gX1 {o u w u' : Int} : e o u w ∈ gX1 L e u' ↔ o = 1 ∧ u = u' ∧ R0 (2*L) w := by
  simp only [gX1, List.mem_map, mem_pyRange2_0]
  constructor
  · rintro ⟨t, ht, h⟩
    obtain ⟨rfl, rfl, rfl⟩ := hp.inj h
    exact ⟨rfl, rfl, ht⟩
  · rintro ⟨rfl, rfl, ht⟩
    exact ⟨w, ht, rfl⟩

theorem mem_zline {o u w u' w' : Int} :
    e o u w ∈ zline L e u' w' ↔ R1 (2*L) o ∧ u = u' ∧ w = w' := by
  simp only [zline, List.mem_map, mem_pyRange2_1]
  constructor
  · rintro ⟨t, ht, h⟩
    obtain ⟨rfl, rfl, rfl⟩ := hp.inj h
    exact ⟨ht, rfl, rfl⟩
  · rintro ⟨ht, rfl, rfl⟩
    exact ⟨o, ht, rfl⟩

theorem mem_gZ1 {o u w u' : Int} : e o u w ∈ gZ1 L e u' ↔ R1 (2*L) o ∧ u = u' ∧ w = 0 :=
  mem_zline hp

theorem mem_gZ2 {o u w w' : Int} :
    e o u w ∈ gZ2 L e w' ↔ R1 (2*L) o ∧ u = 0 ∧ (w = 0 ∨ w = w') := by
  rw [gZ2, List.mem_append, mem_zline hp, mem_zline hp, ← and_or_left, ← and_or_left]

theorem nodup_zline (u w : Int) : (zline L e u w).Nodup :=
  (nodup_pyRange2 _ _).map fun _ _ h => (hp.inj h).1

theorem nodup_gZ1 (u : Int) : (gZ1 L e u).Nodup := nodup_zline hp u 0

/-- two parallel lines at distinct transverse positions -/
theorem nodup_gZ2 {w : Int} (hw : w ≠ 0) : (gZ2 L e w).Nodup := by
  rw [gZ2, List.nodup_append]
  refine ⟨nodup_zline hp 0 0, nodup_zline hp 0 w, ?_⟩
  intro x hx y hy hxy
  obtain ⟨t, _, rfl⟩ := List.mem_map.mp hx
  obtain ⟨t', _, rfl⟩ := List.mem_map.mp hy
  exact hw (hp.inj hxy).2.2.symm

end

theorem ne_zero_of_R2 (b : Nat) (z : Int) (h : z ∈ pyRange2 2 b) : z ≠ 0 := by
  rw [mem_pyRange2_2] at h; unfold R2 at h; omega

theorem logX_blocks (Lx Ly Lz : Nat) :
    logX Lx Ly Lz = bX pX Ly Lz ++ (bX pY Lx Lz ++ bX pZ Lx Ly) := by
  unfold logX bX
  simp only [List.append_assoc]
  -- block by block the two sides map over the same range; a dict assigned over distinct keys is
  -- the operator with one letter on them (`dictOf_eq`)
  congr 1; rotate_left; congr 1; rotate_left; congr 1; rotate_left; congr 1; rotate_left
  congr 1; rotate_left
  all_goals
    apply List.map_congr_left; intro t _
    exact dictOf_eq _ _ ((nodup_pyRange2 _ _).map fun _ _ h => by simpa using h)

theorem logZ_eq (Lx Ly Lz : Nat) : logZ Lx Ly Lz =
    ((pyRange2 0 (2*Ly)).map fun y => constOp (kZA1 Lx y) Pauli.Z) ++
    ((pyRange2 2 (2*Lz)).map fun z => constOp (kZA2 Lx z) Pauli.Z) ++
    ((pyRange2 0 (2*Lx)).map fun x => constOp (kZB1 Ly x) Pauli.Z) ++
    ((pyRange2 2 (2*Lz)).map fun z => constOp (kZB2 Ly z) Pauli.Z) ++
    ((pyRange2 0 (2*Lx)).map fun x => constOp (kZC1 Lz x) Pauli.Z) ++
    ((pyRange2 2 (2*Ly)).map fun y => constOp (kZC2 Lz y) Pauli.Z) := by
  unfold logZ
  congr 1; congr 1; congr 1; congr 1; congr 1
  all_goals (apply List.map_congr_left; intro t ht)
  · exact dictOf_eq _ _ (nodup_gZ1 (@Placed.xyz Lx Ly Lz) t)
  · exact dictOf_eq _ _ (nodup_gZ2 (@Placed.xyz Lx Ly Lz) (ne_zero_of_R2 _ _ ht))
  · exact dictOf_eq _ _ (nodup_gZ1 (@Placed.yxz Lx Ly Lz) t)
  · exact dictOf_eq _ _ (nodup_gZ2 (@Placed.yxz Lx Ly Lz) (ne_zero_of_R2 _ _ ht))
  · exact dictOf_eq _ _ (nodup_gZ1 (@Placed.zxy Lx Ly Lz) t)
  · exact dictOf_eq _ _ (nodup_gZ2 (@Placed.zxy Lx Ly Lz) (ne_zero_of_R2 _ _ ht))

theorem logZ_blocks (Lx Ly Lz : Nat) :
    logZ Lx Ly Lz = bZ pX Lx Ly Lz ++ (bZ pY Ly Lx Lz ++ bZ pZ Lz Lx Ly) := by
  rw [logZ_eq]; simp only [bZ, List.append_assoc]; rfl

end Panqec.XCubeCode
