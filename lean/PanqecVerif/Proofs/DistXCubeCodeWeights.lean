/-
XCubeCode, all sizes, C17: the weights of the listed logical operators (`Lw, Lu` for the
two families of ladders of a placement in `logicals_x`; `Lo, 2·Lo` for the lines and pairs of
lines in `logicals_z`) and the reported distance `min Lx (min Ly Lz)`.
-/
import PanqecVerif.Proofs.DistXCubeCodeLowerBound
import PanqecVerif.Proofs.Dist

namespace Panqec.XCubeCode
open Panqec.Lat3Db

variable {Lx Ly Lz : Nat}

theorem mem_bX_length {e : Int → Int → Int → Coord} {Lu Lw : Nat} {a : Op}
    (ha : a ∈ bX e Lu Lw) : a.length = Lw ∨ a.length = Lu := by
  simp only [bX, List.mem_append, List.mem_map] at ha
  rcases ha with ⟨t, _, rfl⟩ | ⟨t, _, rfl⟩
  · exact .inl (by simp [length_constOp, gX1, length_pyRange2_even])
  · exact .inr (by simp [length_constOp, gX2, length_pyRange2_even])

theorem mem_bZ_length {e : Int → Int → Int → Coord} {Lo Lu Lw : Nat} {a : Op}
    (ha : a ∈ bZ e Lo Lu Lw) : a.length = Lo ∨ a.length = 2 * Lo := by
  simp only [bZ, List.mem_append, List.mem_map] at ha
  rcases ha with ⟨t, _, rfl⟩ | ⟨t, _, rfl⟩
  · exact .inl (by simp [length_constOp, gZ1, zline, length_pyRange2_odd])
  · exact .inr (by simp [length_constOp, gZ2, zline, length_pyRange2_odd]; omega)

theorem listed_length_ge {a : Op} (ha : a ∈ logX Lx Ly Lz ++ logZ Lx Ly Lz) :
    min Lx (min Ly Lz) ≤ a.length := by
  rw [logX_blocks, logZ_blocks] at ha
  simp only [List.mem_append] at ha
  rcases ha with (h | h | h) | (h | h | h)
  · have := mem_bX_length h; omega
  · have := mem_bX_length h; omega
  · have := mem_bX_length h; omega
  · have := mem_bZ_length h; omega
  · have := mem_bZ_length h; omega
  · have := mem_bZ_length h; omega

theorem two_mem_E2 {L : Nat} (h : 2 ≤ L) : (2 : Int) ∈ pyRange2 2 (2 * L) := by
  rw [mem_pyRange2_2]; unfold R2; omega

theorem listedX_attained (hy : 2 ≤ Ly) (hz : 2 ≤ Lz) :
    (∃ a ∈ logX Lx Ly Lz, a.length = Lx) ∧ (∃ a ∈ logX Lx Ly Lz, a.length = Ly) ∧
    (∃ a ∈ logX Lx Ly Lz, a.length = Lz) := by
  rw [logX_blocks]
  simp only [bX, List.mem_append, List.mem_map]
  refine ⟨⟨constOp (gX2 Lx pY 2) Pauli.X, .inr (.inl (.inr ⟨2, two_mem_E2 hz, rfl⟩)), ?_⟩,
    ⟨constOp (gX2 Ly pX 2) Pauli.X, .inl (.inr ⟨2, two_mem_E2 hz, rfl⟩), ?_⟩,
    ⟨constOp (gX1 Lz pX 0) Pauli.X, .inl (.inl ⟨0, zero_mem_E Ly (by omega), rfl⟩), ?_⟩⟩ <;>
  simp [length_constOp, gX1, gX2, length_pyRange2_even]

theorem listedZ_attained (hx : 2 ≤ Lx) (hy : 2 ≤ Ly) :
    (∃ a ∈ logZ Lx Ly Lz, a.length = Lx) ∧ (∃ a ∈ logZ Lx Ly Lz, a.length = Ly) ∧
    (∃ a ∈ logZ Lx Ly Lz, a.length = Lz) := by
  rw [logZ_blocks]
  simp only [bZ, List.mem_append, List.mem_map]
  refine ⟨⟨constOp (gZ1 Lx pX 0) Pauli.Z, .inl (.inl ⟨0, zero_mem_E Ly (by omega), rfl⟩), ?_⟩,
    ⟨constOp (gZ1 Ly pY 0) Pauli.Z, .inr (.inl (.inl ⟨0, zero_mem_E Lx (by omega), rfl⟩)), ?_⟩,
    ⟨constOp (gZ1 Lz pZ 0) Pauli.Z, .inr (.inr (.inl ⟨0, zero_mem_E Lx (by omega), rfl⟩)), ?_⟩⟩ <;>
  simp [length_constOp, gZ1, zline, length_pyRange2_odd]

theorem weight_listed (hwf : (lattice Lx Ly Lz).WF) {a : Op}
    (ha : a ∈ logX Lx Ly Lz ++ logZ Lx Ly Lz) :
    pauliWeight (opRow (qubits Lx Ly Lz) a) = a.length :=
  pauliWeight_opRow _ hwf.qubits_nodup a (hwf.log_keys a ha) (hwf.log_supported a ha)

/-- the least length of a list of operators all at least `m` long, three of which have the lengths
    `a`, `b`, `c` with `m = min a (min b c)` -/
theorem listMin_lengths {ops : List Op} {a b c : Nat}
    (hge : ∀ o ∈ ops, min a (min b c) ≤ o.length)
    (hatt : (∃ o ∈ ops, o.length = a) ∧ (∃ o ∈ ops, o.length = b) ∧ ∃ o ∈ ops, o.length = c) :
    listMin (ops.map List.length) = some (min a (min b c)) := by
  refine listMin_eq_some ?_ fun x hx => ?_
  · obtain ⟨⟨o1, h1, e1⟩, ⟨o2, h2, e2⟩, ⟨o3, h3, e3⟩⟩ := hatt
    rcases (by omega : min a (min b c) = a ∨ min a (min b c) = b ∨ min a (min b c) = c)
      with h | h | h <;> rw [h]
    · exact List.mem_map.mpr ⟨o1, h1, e1⟩
    · exact List.mem_map.mpr ⟨o2, h2, e2⟩
    · exact List.mem_map.mpr ⟨o3, h3, e3⟩
  · obtain ⟨o, ho, rfl⟩ := List.mem_map.mp hx
    exact hge o ho

/-- `code.d` (minimum weight of the listed logicals) is `min Lx (min Ly Lz)` -/
theorem reported_distance (hx : 2 ≤ Lx) (hy : 2 ≤ Ly) (hz : 2 ≤ Lz)
    (hwf : (lattice Lx Ly Lz).WF) :
    distance (lattice Lx Ly Lz).rowsX (lattice Lx Ly Lz).rowsZ =
      some (min Lx (min Ly Lz)) := by
  rw [distance_of_weights hwf.weights.1 hwf.weights.2
    (listMin_lengths (fun o ho => listed_length_ge (List.mem_append_left _ ho))
      (listedX_attained hy hz))
    (listMin_lengths (fun o ho => listed_length_ge (List.mem_append_right _ ho))
      (listedZ_attained hx hy)), Nat.min_self]

end Panqec.XCubeCode
