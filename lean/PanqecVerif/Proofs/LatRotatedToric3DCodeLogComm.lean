/-
`RotatedToric3DCode`, supported family: every stabilizer generator overlaps each logical line /
plane operator on an even number of anticommuting locations.  A signed candidate `(q, σ)` counts
against the logical operator with letter `p` on the filtered qubit list `LK f` when `q` is a qubit,
`f q` holds and `dl σ q` anticommutes with `p` (`hits`).  Every logical operator lives on the row
`y = 1` or on the column `x = 1` (the X lines in the layer `z = 1` only).  The two candidates of a
layer generator in one row (column) have opposite signs and, when the period across is even,
opposite colours: they carry the same letter, so both count or neither does.  A vertical face writes
X on the qubit above and on the qubit below it.
-/
import PanqecVerif.Proofs.LatRotatedToric3DCodeLog
open Panqec Panqec.Lat3Db
namespace Panqec.RotatedToric3DCode

/-- the signed candidate `e` of a generator counts against the operator with letter `p` on `LK f` -/
def hits (Lx Ly Lz : Nat) (f : Int → Int → Int → Bool) (p : Pauli) (e : Coord × Bool) : Bool :=
  isQubit Lx Ly Lz e.1 && (decide (e.1 ∈ LK Lx Ly Lz f) && Pauli.anti (dl e.2 e.1) p)

theorem col_h {a b c : Int} (hc : c % 2 = 1) : col [a, b, c] = ((a + b) % 4 == 0) := by
  have : (c % 2 == 0) = false := by rw [hc]; rfl
  simp only [col, this, Bool.false_or]

theorem col_comm (a b c : Int) : col [a, b, c] = col [b, a, c] := by
  simp only [col, Int.add_comm]

/-- stepping over an even coordinate flips the colour of a horizontal qubit, also across the seam
    when the period is even -/
theorem col_flip {L : Nat} {x b c : Int} (hx : Ev L x) (hb : b % 2 = 1) (hc : c % 2 = 1)
    (hL : L % 2 = 0) : col [sw L x, b, c] = !col [x - 1, b, c] := by
  unfold Ev at hx
  rw [col_h hc, col_h hc, Bool.eq_iff_iff]
  simp only [beq_iff_eq, Bool.not_eq_true', beq_eq_false_iff_ne, ne_eq]
  rcases sw_spec L x with ⟨_, h⟩ | ⟨_, h⟩ <;> rw [h] <;> omega

section
variable {Lx Ly Lz : Nat} {f : Int → Int → Int → Bool} {p : Pauli}

theorem hits_eq (q : Coord) (σ : Bool) :
    hits Lx Ly Lz f p (q, σ) = (isQubit Lx Ly Lz q && (flt f q && Pauli.anti (dl σ q) p)) := by
  unfold hits LK isQubit
  by_cases hq : q ∈ qubits Lx Ly Lz <;> simp [List.mem_filter, hq]

theorem hits_off {a b c : Int} (σ : Bool) (h : f a b c = false) :
    hits Lx Ly Lz f p ([a, b, c], σ) = false := by
  rw [hits_eq, show flt f [a, b, c] = false from h, Bool.false_and, Bool.and_false]

/-- two candidates with opposite signs on qubits of opposite colours carry the same letter -/
theorem hits_flip {q q' : Coord} (σ : Bool) (hq : isQubit Lx Ly Lz q = true)
    (hq' : isQubit Lx Ly Lz q' = true) (hf : flt f q = flt f q')
    (hc : p = Pauli.Y ∨ col q = !col q') :
    hits Lx Ly Lz f p (q, σ) = hits Lx Ly Lz f p (q', !σ) := by
  rw [hits_eq, hits_eq, hq, hq', hf]
  rcases hc with rfl | hc
  · rw [anti_dl_Y, anti_dl_Y]
  · have : dl σ q = dl (!σ) q' := by unfold dl; rw [hc]; cases σ <;> cases col q' <;> rfl
    rw [this]

variable {row : Bool} {g : Int → Bool}

/-- an operator on the row `y = 1` (`row = true`) or on the column `x = 1` keeps off the locations
    with both coordinates even -/
theorem line_off (hf : ∀ a b c, f a b c = ((if row then b else a) == 1 && g c)) {a b : Int}
    (ha : a ≠ 1) (hb : b ≠ 1) (c : Int) : f a b c = false := by
  rw [hf]
  cases row <;> simp [ha, hb]

/-- a layer generator: its four horizontal candidates pair up along the rows (columns) -/
theorem count_layer (hF : Fam Lx Ly) {x y z : Int} (hx : Ev Lx x) (hy : Ev Ly y)
    (hz : R1 (2 * Lz) z) (hf : ∀ a b c, f a b c = ((if row then b else a) == 1 && g c))
    (hp : p = Pauli.Y ∨ (if row then Lx else Ly) % 2 = 0) :
    (KH Lx Ly x y z).countP (hits Lx Ly Lz f p) % 2 = 0 := by
  have hLx : 1 ≤ Lx := by have := hF.1; omega
  have hLy : 1 ≤ Ly := by have := hF.2.1; omega
  have q1 := isQ_h (Lz := Lz) (pred_od hx) (pred_od hy) hz
  have q2 := isQ_h (Lz := Lz) (sw_od hLx hx) (sw_od hLy hy) hz
  have q3 := isQ_h (Lz := Lz) (pred_od hx) (sw_od hLy hy) hz
  have q4 := isQ_h (Lz := Lz) (sw_od hLx hx) (pred_od hy) hz
  have ox := (pred_od hx).1; have oy := (pred_od hy).1; have oy' := (sw_od hLy hy).1
  have ox' := (sw_od hLx hx).1
  cases row
  · -- columns `x - 1` and `sw x`
    have e3 := hits_flip (f := f) (p := p) false q3 q1 (by simp only [flt, hf, Bool.false_eq_true, if_false])
      (hp.imp_right fun h => by rw [col_comm, col_flip hy ox hz.1 h, col_comm])
    have e2 := hits_flip (f := f) (p := p) true q2 q4 (by simp only [flt, hf, Bool.false_eq_true, if_false])
      (hp.imp_right fun h => by rw [col_comm, col_flip hy ox' hz.1 h, col_comm])
    simp only [KH, List.countP_cons, List.countP_nil, e3, e2, Bool.not_false, Bool.not_true]
    generalize hits Lx Ly Lz f p ([x - 1, y - 1, z], true) = u
    generalize hits Lx Ly Lz f p ([sw Lx x, y - 1, z], false) = v
    cases u <;> cases v <;> rfl
  · -- rows `y - 1` and `sw y`
    have e4 := hits_flip (f := f) (p := p) false q4 q1 (by simp only [flt, hf, if_true])
      (hp.imp_right fun h => col_flip hx oy hz.1 h)
    have e2 := hits_flip (f := f) (p := p) true q2 q3 (by simp only [flt, hf, if_true])
      (hp.imp_right fun h => col_flip hx oy' hz.1 h)
    simp only [KH, List.countP_cons, List.countP_nil, e4, e2, Bool.not_false, Bool.not_true]
    generalize hits Lx Ly Lz f p ([x - 1, y - 1, z], true) = u
    generalize hits Lx Ly Lz f p ([x - 1, sw Ly y, z], false) = v
    cases u <;> cases v <;> rfl

/-- a vertical face: the two candidates of its own layer are off the line; above and below it writes
    X on qubits that are both on the operator or both off it, unless the operator is an X line -/
theorem count_vface (hf : ∀ a b c, f a b c = ((if row then b else a) == 1 && g c))
    (hg : p = Pauli.X ∨ ∀ c c', g c = g c') {x y z : Int} (hs : SF Lx Ly Lz x y z) {σ : Bool}
    (hσ : (x + y) % 4 = if σ then 2 else 0) {a₁ b₁ a₂ b₂ : Int} (σ₁ σ₂ : Bool)
    (h₁ : a₁ ≠ 1 ∧ b₁ ≠ 1) (h₂ : a₂ ≠ 1 ∧ b₂ ≠ 1) :
    List.countP (hits Lx Ly Lz f p)
      [([a₁, b₁, z], σ₁), ([a₂, b₂, z], σ₂), ([x, y, z - 1], σ), ([x, y, z + 1], σ)] % 2 = 0 := by
  obtain ⟨hx, hy, hz, _⟩ := hs
  rw [R1_Od] at hx hy
  unfold R2 at hz
  have hX : ∀ c : Int, c % 2 = 1 → dl σ [x, y, c] = Pauli.X := by
    intro c hc
    unfold dl
    rw [col_h hc]
    cases σ
    · rw [show ((x + y) % 4 == 0) = true from beq_iff_eq.mpr hσ]; rfl
    · rw [show ((x + y) % 4 == 0) = false from beq_eq_false_iff_ne.mpr (by simp only [if_true] at hσ; omega)]
      rfl
  have e : hits Lx Ly Lz f p ([x, y, z - 1], σ) = hits Lx Ly Lz f p ([x, y, z + 1], σ) := by
    rw [hits_eq, hits_eq, hX _ (by omega), hX _ (by omega), isQ_h hx hy (by unfold R1; omega),
      isQ_h hx hy (by unfold R1; omega)]
    rcases hg with rfl | hg
    · simp only [show Pauli.anti .X .X = false from rfl, Bool.and_false]
    · simp only [flt, hf, hg (z - 1) (z + 1)]
  simp only [List.countP_cons, List.countP_nil, hits_off _ (line_off hf h₁.1 h₁.2 z),
    hits_off _ (line_off hf h₂.1 h₂.2 z), e]
  generalize hits Lx Ly Lz f p ([x, y, z + 1], σ) = u
  cases u <;> rfl

/-- every generator meets the operator with letter `p` on `LK f` an even number of times, when `f`
    selects the row `y = 1` (`row = true`) or the column `x = 1`, within layers given by `g`: the
    period across is even or `p = Y`, and the operator is an X line or does not depend on the layer -/
theorem count_line (hF : Fam Lx Ly)
    (hf : ∀ a b c, f a b c = ((if row then b else a) == 1 && g c))
    (hp : p = Pauli.Y ∨ (if row then Lx else Ly) % 2 = 0)
    (hg : p = Pauli.X ∨ ∀ c c', g c = g c') {s : Coord} {K : List (Coord × Bool)}
    (hk : Kind Lx Ly Lz s K) : K.countP (hits Lx Ly Lz f p) % 2 = 0 := by
  cases hk with
  | @vertex x y z h =>
    obtain ⟨hx, hy, hz, _⟩ := h
    rw [R2_Ev] at hx hy
    have off : ∀ c, f x y c = false :=
      line_off hf (by unfold Ev at hx; omega) (by unfold Ev at hy; omega)
    rw [KV_eq, List.countP_append, List.countP_reverse]
    simp only [List.countP_cons, List.countP_nil, hits_off _ (off _), Bool.false_eq_true, if_false,
      Nat.add_zero]
    exact count_layer hF hx hy hz hf hp
  | hface h => exact count_layer hF (R2_Ev.mp h.1) (R2_Ev.mp h.2.1) h.2.2.1 hf hp
  | @vfaceX x y z h h4 =>
    have hx := R1_Od.mp h.1; have hy := R1_Od.mp h.2.1
    have := pw_spec Lx x; have := pw_spec Ly y
    unfold Od at hx hy
    exact count_vface hf hg h (σ := false) h4 false false ⟨by omega, by omega⟩ ⟨by omega, by omega⟩
  | @vfaceY x y z h h4 =>
    have hx := R1_Od.mp h.1; have hy := R1_Od.mp h.2.1
    have := pw_spec Lx x; have := pw_spec Ly y
    unfold Od at hx hy
    exact count_vface hf hg h (σ := true) h4 false false ⟨by omega, by omega⟩ ⟨by omega, by omega⟩

end

end Panqec.RotatedToric3DCode
