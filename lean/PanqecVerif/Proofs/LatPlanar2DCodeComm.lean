/-
Planar2DCode, all sizes: overlaps (vertex/face, logical/stabilizer, logical/logical).
-/
import PanqecVerif.Proofs.LatPlanar2DCodeStab
import PanqecVerif.Proofs.Lat2DLines

namespace Panqec.Planar2DCode
open Panqec.Lat2D

/-- The neighbourhoods of two sites that differ by an odd amount in both coordinates share an
    even number of sites: none unless the sites are diagonal neighbours, and then the other two
    corners of the unit square, one next to the first site horizontally and one vertically. -/
theorem nbrs_overlap_even {ax ay bx by' : Int} (h : (bx - ax) % 2 = 1) (h' : (by' - ay) % 2 = 1) :
    interCount (nbrs ax ay) (nbrs bx by') % 2 = 0 := by
  show interCount [_, _, _, _] _ % 2 = 0
  rw [interCount_4]
  simp only [mem_nbrs]
  by_cases hx : bx = ax - 1 ∨ bx = ax + 1
  · by_cases hy : by' = ay - 1 ∨ by' = ay + 1
    · rcases hx with rfl | rfl <;> rcases hy with rfl | rfl
      · rw [if_pos (by omega), if_neg (by omega), if_pos (by omega), if_neg (by omega)]
      · rw [if_pos (by omega), if_neg (by omega), if_neg (by omega), if_pos (by omega)]
      · rw [if_neg (by omega), if_pos (by omega), if_pos (by omega), if_neg (by omega)]
      · rw [if_neg (by omega), if_pos (by omega), if_neg (by omega), if_pos (by omega)]
    · rw [if_neg (by omega), if_neg (by omega), if_neg (by omega), if_neg (by omega)]
  · rw [if_neg (by omega), if_neg (by omega), if_neg (by omega), if_neg (by omega)]

/-- a site next to both a vertex and a face is `(x, y)` with one coordinate from each, hence
    inside the range of the qubits of its orientation -/
theorem isQubit_of_common_nbr {Lx Ly : Nat} {ax ay bx by' : Int} (ha : IsV Lx Ly ax ay)
    (hb : IsF Lx Ly bx by') : ∀ q ∈ nbrs ax ay, q ∈ nbrs bx by' → isQubit Lx Ly q = true := by
  intro q hq hq'
  obtain ⟨a, b, rfl⟩ := eq_pair_of_mem_nbrs hq
  rw [isQubit_iff]
  unfold IsV at ha; unfold IsF at hb
  rcases mem_nbrs.mp hq with ⟨rfl, h1⟩ | ⟨rfl, h1⟩ <;>
    rcases mem_nbrs.mp hq' with ⟨e, h2⟩ | ⟨e, h2⟩
  · omega
  · exact Or.inl (by omega)
  · exact Or.inr (by omega)
  · omega

/-- a vertex and a face share 0 or 2 qubits (both shared candidates are qubits whenever the
    vertex and the face are stabilizer locations) -/
theorem vertex_face_even {Lx Ly : Nat} {ax ay bx by' : Int}
    (ha : IsV Lx Ly ax ay) (hb : IsF Lx Ly bx by') :
    interCount (supp Lx Ly ax ay) (supp Lx Ly bx by') % 2 = 0 := by
  unfold supp
  rw [interCount_filter_filter (isQubit_of_common_nbr ha hb)]
  unfold IsV at ha; unfold IsF at hb
  exact nbrs_overlap_even (by omega) (by omega)

def kX (Lx : Nat) : List Coord := (pyRange2 1 (2 * Lx)).map fun x => [x, 0]
def kZ (Ly : Nat) : List Coord := (pyRange2 0 (2 * Ly)).map fun y => [1, y]

theorem kX_eq (Lx : Nat) : kX Lx = rowKeys 0 1 Lx := by
  unfold kX rowKeys; rw [pyRange2_eq 1 Lx (by omega), List.map_map]; rfl
theorem kZ_eq (Ly : Nat) : kZ Ly = colKeys 1 0 Ly := by
  unfold kZ colKeys; rw [pyRange2_eq 0 Ly (by omega), List.map_map]; rfl

theorem nodup_kX (L : Nat) : (kX L).Nodup := kX_eq L ▸ nodup_rowKeys ..
theorem nodup_kZ (L : Nat) : (kZ L).Nodup := kZ_eq L ▸ nodup_colKeys ..

theorem mem_kX {L : Nat} {a b : Int} :
    [a, b] ∈ kX L ↔ (1 ≤ a ∧ a < 2 * (L : Int) ∧ a % 2 = 1 ∧ b = 0) := by
  unfold kX
  simp only [List.mem_map, mem_pyRange2, List.cons.injEq, and_true]
  constructor
  · rintro ⟨x, hx, rfl, rfl⟩; omega
  · rintro ⟨h1, h2, h3, rfl⟩; exact ⟨a, by omega, rfl, rfl⟩
theorem mem_kZ {L : Nat} {a b : Int} :
    [a, b] ∈ kZ L ↔ (0 ≤ b ∧ b < 2 * (L : Int) ∧ b % 2 = 0 ∧ a = 1) := by
  unfold kZ
  simp only [List.mem_map, mem_pyRange2, List.cons.injEq, and_true]
  constructor
  · rintro ⟨x, hx, rfl, rfl⟩; omega
  · rintro ⟨h1, h2, h3, rfl⟩; exact ⟨b, by omega, rfl, rfl⟩

theorem logX_eq (Lx Ly : Nat) : logX Lx Ly = [(kX Lx).map (fun q => (q, Pauli.X))] := by
  show [lineOp (kX Lx) Pauli.X] = _
  rw [lineOp_eq _ _ (nodup_kX Lx)]
theorem logZ_eq (Lx Ly : Nat) : logZ Lx Ly = [(kZ Ly).map (fun q => (q, Pauli.Z))] := by
  show [lineOp (kZ Ly) Pauli.Z] = _
  rw [lineOp_eq _ _ (nodup_kZ Ly)]

theorem colKeys_qubits {Lx Ly : Nat} (i : Nat) (hi : i < Lx) :
    ∀ q ∈ colKeys (2 * i + 1) 0 Ly, q ∈ qubits Lx Ly := by
  intro q hq
  obtain ⟨j, hj, rfl⟩ := mem_colKeys.mp hq
  exact mem_qubits'.mpr (Or.inl (by omega))

theorem rowKeys_qubits {Lx Ly : Nat} (i : Nat) (hi : i < Ly) :
    ∀ q ∈ rowKeys (2 * i) 1 Lx, q ∈ qubits Lx Ly := by
  intro q hq
  obtain ⟨j, hj, rfl⟩ := mem_rowKeys.mp hq
  exact mem_qubits'.mpr (Or.inl (by omega))

theorem kX_subset {Lx Ly : Nat} (hy : 1 ≤ Ly) : ∀ q ∈ kX Lx, q ∈ qubits Lx Ly := by
  have h := rowKeys_qubits (Lx := Lx) (Ly := Ly) 0 hy
  rwa [kX_eq]
theorem kZ_subset {Lx Ly : Nat} (hx : 1 ≤ Lx) : ∀ q ∈ kZ Ly, q ∈ qubits Lx Ly := by
  have h := colKeys_qubits (Lx := Lx) (Ly := Ly) 0 hx
  rwa [kZ_eq]

/-- the left and the right neighbour of a vertex lie on the columns of `X̄` and meet its row
    together; the lower and the upper neighbour lie on no such column -/
theorem supp_kX {Lx Ly : Nat} {x y : Int} (h : IsV Lx Ly x y) :
    interCount (supp Lx Ly x y) (kX Lx) % 2 = 0 := by
  unfold supp
  unfold IsV at h
  rw [interCount_filter_left (f := isQubit Lx Ly) fun q _ hq =>
    isIn_iff.mpr (kX_subset (by omega) q hq)]
  show interCount [_, _, _, _] _ % 2 = 0
  rw [interCount_4]
  have hm : 1 ≤ x - 1 ∧ x - 1 < 2 * (Lx : Int) ∧ (x - 1) % 2 = 1 := by omega
  have hp : 1 ≤ x + 1 ∧ x + 1 < 2 * (Lx : Int) ∧ (x + 1) % 2 = 1 := by omega
  have h0 : ¬ x % 2 = 1 := by omega
  simp only [mem_kX, hm, hp, h0, true_and, false_and, and_false, if_false]
  omega

theorem supp_kZ {Lx Ly : Nat} {x y : Int} (h : IsF Lx Ly x y) :
    interCount (supp Lx Ly x y) (kZ Ly) % 2 = 0 := by
  unfold supp
  unfold IsF at h
  rw [interCount_filter_left (f := isQubit Lx Ly) fun q _ hq =>
    isIn_iff.mpr (kZ_subset (by omega) q hq)]
  show interCount [_, _, _, _] _ % 2 = 0
  rw [interCount_4]
  have hm : 0 ≤ y - 1 ∧ y - 1 < 2 * (Ly : Int) ∧ (y - 1) % 2 = 0 := by omega
  have hp : 0 ≤ y + 1 ∧ y + 1 < 2 * (Ly : Int) ∧ (y + 1) % 2 = 0 := by omega
  have h0 : ¬ y % 2 = 0 := by omega
  simp only [mem_kZ, hm, hp, h0, true_and, false_and, and_false, if_false]
  omega

theorem kX_kZ {Lx Ly : Nat} (hx : 1 ≤ Lx) (hy : 1 ≤ Ly) : interCount (kX Lx) (kZ Ly) = 1 :=
  row_col_cross (nodup_pyRange2 ..) (mem_pyRange2.mpr (by omega)) (mem_pyRange2.mpr (by omega))

end Panqec.Planar2DCode
