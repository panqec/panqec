/-
`HollowRhombicCode` for every size: the stabilizer list in closed form (cubes of the checkerboard
`(x+y+z) % 4 = 1` not entirely inside the hole; triangles selected by the number of their keys and
the boundary predicates), `get_stabilizer` as a filtered candidate list.
-/
import PanqecVerif.Proofs.LatHollowRhombicCodeBasics
import PanqecVerif.Proofs.LatRhombic

namespace Panqec.HollowRhombicCode
open Panqec.Cubic3D
open Panqec.Planar3DCode (inE inO inE2 inO1)

/-- `is_qubit` -/
def isq (Lx Ly Lz : Nat) (q : Coord) : Bool := (qubits Lx Ly Lz).contains q

theorem isq_iff {Lx Ly Lz : Nat} {q : Coord} : isq Lx Ly Lz q = true ↔ q ∈ qubits Lx Ly Lz := by
  unfold isq; simp

/-- the location is listed by the cube loop -/
def CubeLoc (Lx Ly Lz : Nat) (x y z : Int) : Prop :=
  (1 ≤ x ∧ x < 2 * (Lx : Int) ∧ x % 2 = 1) ∧ (-1 ≤ y ∧ y < 2 * (Ly : Int) ∧ y % 2 = 1) ∧
  (1 ≤ z ∧ z < 2 * (Lz : Int) - 1 ∧ z % 2 = 1) ∧ (x + y + z) % 4 = 1 ∧
  ¬ (Hole Lx Ly Lz (x - 1) (y - 1) (z - 1) ∧ Hole Lx Ly Lz (x + 1) (y + 1) (z + 1))

theorem allCorners_iff {Lx Ly Lz : Nat} {x y z : Int} :
    allCornersInHole Lx Ly Lz x y z = true ↔
      (Hole Lx Ly Lz (x - 1) (y - 1) (z - 1) ∧ Hole Lx Ly Lz (x + 1) (y + 1) (z + 1)) := by
  unfold allCornersInHole
  simp only [List.all_cons, List.all_nil, Bool.and_true, Bool.and_eq_true, inHole_iff]
  unfold Hole
  constructor
  · intro h
    have h1 := h.1.1.1
    have h2 := h.2.2.2
    rw [show x + -1 = x - 1 by omega, show y + -1 = y - 1 by omega, show z + -1 = z - 1 by omega] at h1
    exact ⟨h1, h2⟩
  · rintro ⟨h1, h2⟩
    refine ⟨⟨⟨?_, ?_⟩, ⟨?_, ?_⟩⟩, ⟨⟨?_, ?_⟩, ⟨?_, ?_⟩⟩⟩ <;> omega

theorem keepCube_iff {Lx Ly Lz : Nat} {x y z : Int} (hz : 1 ≤ z ∧ z < 2 * (Lz : Int) - 1) :
    keepCube Lx Ly Lz x y z = true ↔ ((x + y + z) % 4 = 1 ∧
      ¬ (Hole Lx Ly Lz (x - 1) (y - 1) (z - 1) ∧ Hole Lx Ly Lz (x + 1) (y + 1) (z + 1))) := by
  unfold keepCube
  simp only [Bool.and_eq_true, decide_eq_true_eq, Bool.not_eq_true', Bool.or_eq_false_iff,
    Bool.and_eq_false_iff, beq_eq_false_iff_ne, ne_eq]
  rw [← Bool.not_eq_true, allCorners_iff]
  constructor
  · rintro ⟨⟨h1, _⟩, h2⟩; exact ⟨h1, h2⟩
  · rintro ⟨h1, h2⟩
    refine ⟨⟨h1, ⟨⟨?_, ?_⟩, ?_⟩, ?_⟩, h2⟩ <;> right <;> omega

theorem mem_cubes {Lx Ly Lz : Nat} {q : Coord} :
    q ∈ cubes Lx Ly Lz ↔ ∃ x y z, q = [x, y, z] ∧ CubeLoc Lx Ly Lz x y z := by
  unfold cubes CubeLoc
  simp only [List.mem_flatMap, List.mem_map, List.mem_filter, mem_range2]
  constructor
  · rintro ⟨x, hx, y, hy, z, ⟨hz, hk⟩, rfl⟩
    refine ⟨x, y, z, rfl, by omega, by omega, by omega, ?_⟩
    exact (keepCube_iff (by omega)).mp hk
  · rintro ⟨x, y, z, rfl, hx, hy, hz, hk⟩
    exact ⟨x, by omega, y, by omega, z, ⟨by omega, (keepCube_iff (by omega)).mpr hk⟩, rfl⟩

theorem mem_cubes' {Lx Ly Lz : Nat} {x y z : Int} :
    [x, y, z] ∈ cubes Lx Ly Lz ↔ CubeLoc Lx Ly Lz x y z := by
  rw [mem_cubes]
  constructor
  · rintro ⟨x', y', z', h, hq⟩
    simp only [List.cons.injEq, and_true] at h
    rw [h.1, h.2.1, h.2.2]; exact hq
  · intro h; exact ⟨x, y, z, rfl, h⟩

theorem sublist_flatMap {α β} {l : List α} {f g : α → List β} (h : ∀ a, (f a).Sublist (g a)) :
    (l.flatMap f).Sublist (l.flatMap g) := by
  induction l with
  | nil => exact List.Sublist.refl _
  | cons a l ih => rw [List.flatMap_cons, List.flatMap_cons]; exact (h a).append ih

theorem nodup_cubes (Lx Ly Lz : Nat) : (cubes Lx Ly Lz).Nodup := by
  unfold cubes
  have h := nodup_grid (nodup_range2 1 (2 * (Lx : Int))) (nodup_range2 (-1) (2 * (Ly : Int)))
    ((nodup_range2 1 (2 * (Lz : Int) - 1)))
  -- a sub-list of the full grid
  refine List.Nodup.sublist ?_ h
  unfold grid
  apply sublist_flatMap
  intro x
  apply sublist_flatMap
  intro y
  exact (List.filter_sublist).map _

/-- the signs of the three deltas of the triangle `(axis, x, y, z)` -/
def sgnX (a : Int) : Int := if a = 0 ∨ a = 2 then 1 else -1
def sgnY (a : Int) : Int := if a = 0 ∨ a = 3 then 1 else -1
def sgnZ (a x y z : Int) : Int := if ((a = 0 ∨ a = 1) ↔ (x + y + z) % 4 = 0) then 1 else -1

theorem triDelta_eq {a x y z : Int} (ha : 0 ≤ a ∧ a < 4) :
    triDelta a x y z = some [(sgnX a, 0, 0), (0, sgnY a, 0), (0, 0, sgnZ a x y z)] := by
  have h : a = 0 ∨ a = 1 ∨ a = 2 ∨ a = 3 := by omega
  unfold triDelta triTable sgnX sgnY sgnZ
  by_cases hp : (x + y + z) % 4 = 0
  · rcases h with rfl | rfl | rfl | rfl <;> simp [hp]
  · rcases h with rfl | rfl | rfl | rfl <;> simp [hp]

/-- the candidate keys of a triangle, in delta order -/
def triCands (a x y z : Int) : List Coord :=
  [[x + sgnX a, y, z], [x, y + sgnY a, z], [x, y, z + sgnZ a x y z]]

theorem sgnX_cases (a : Int) : sgnX a = 1 ∨ sgnX a = -1 := by
  unfold sgnX; by_cases h : a = 0 ∨ a = 2 <;> simp [h]
theorem sgnY_cases (a : Int) : sgnY a = 1 ∨ sgnY a = -1 := by
  unfold sgnY; by_cases h : a = 0 ∨ a = 3 <;> simp [h]
theorem sgnZ_cases (a x y z : Int) : sgnZ a x y z = 1 ∨ sgnZ a x y z = -1 := by
  unfold sgnZ; by_cases h : ((a = 0 ∨ a = 1) ↔ (x + y + z) % 4 = 0) <;> simp [h]

theorem triCands_nodup (a x y z : Int) : (triCands a x y z).Nodup :=
  Rhombic.nodup_triLocs _ _ (sgnZ a x y z) x y z (sgnX_cases a) (sgnY_cases a)

theorem isAxis_of {a : Int} (ha : 0 ≤ a ∧ a < 4) : Rhombic.IsAxis a := by
  unfold Rhombic.IsAxis; omega

/-- on the four axes the z sign is that of the other rhombic classes -/
theorem sgnZ_eq_rhombic {a : Int} (ha : 0 ≤ a ∧ a < 4) (x y z : Int) :
    sgnZ a x y z = Rhombic.sgnZ a x y z := by
  unfold sgnZ Rhombic.sgnZ
  by_cases hp : (x + y + z) % 4 = 0
  · simp only [hp, iff_true, if_true]
  · simp only [hp, iff_false, if_false]
    by_cases h : a = 0 ∨ a = 1
    · rw [if_neg (not_not.mpr h), if_neg (by omega)]
    · rw [if_pos h, if_pos (by omega)]

theorem triCands_eq {a : Int} (ha : 0 ≤ a ∧ a < 4) (x y z : Int) :
    triCands a x y z = Rhombic.legs a x y z := by
  unfold triCands Rhombic.legs Rhombic.triLocs
  rw [sgnZ_eq_rhombic ha]; rfl

/-- the twelve candidate keys of a cube, in delta order -/
def cubeCands (x y z : Int) : List Coord :=
  cubeDelta.map fun d => [x + d.1, y + d.2.1, z + d.2.2]

theorem cubeCands_eq (x y z : Int) : cubeCands x y z = Rhombic.cubeLocs x y z := by
  simp [cubeCands, cubeDelta, Rhombic.cubeLocs, Rhombic.cube6, Int.sub_eq_add_neg]

theorem cubeCands_nodup (x y z : Int) : (cubeCands x y z).Nodup :=
  cubeCands_eq x y z ▸ Rhombic.nodup_cubeLocs x y z

theorem getStab_cube (Lx Ly Lz : Nat) (x y z : Int) :
    getStabilizer Lx Ly Lz [x, y, z] =
      .op (uop ((cubeCands x y z).filter (isq Lx Ly Lz)) Pauli.X) := by
  show StabResult.op (collect (qubits Lx Ly Lz) Pauli.X (cubeCands x y z)) = _
  rw [collect_eq _ _ _ (cubeCands_nodup x y z)]
  rfl

theorem getStab_tri (Lx Ly Lz : Nat) {a x y z : Int} (ha : 0 ≤ a ∧ a < 4) :
    getStabilizer Lx Ly Lz [a, x, y, z] =
      .op (uop ((triCands a x y z).filter (isq Lx Ly Lz)) Pauli.Z) := by
  have h : getStabilizer Lx Ly Lz [a, x, y, z] =
      (match triDelta a x y z with
       | some delta => StabResult.op (collectAt (qubits Lx Ly Lz) Pauli.Z x y z delta)
       | none => StabResult.indexError) := rfl
  rw [h, triDelta_eq ha]
  show StabResult.op (collect (qubits Lx Ly Lz) Pauli.Z
    [[x + sgnX a, y + 0, z + 0], [x + 0, y + sgnY a, z + 0], [x + 0, y + 0, z + sgnZ a x y z]]) = _
  simp only [Int.add_zero]
  have := collect_eq (qubits Lx Ly Lz) Pauli.Z _ (triCands_nodup a x y z)
  unfold triCands at this
  rw [this]
  rfl

def triKeys (Lx Ly Lz : Nat) (a x y z : Int) : List Coord := (triCands a x y z).filter (isq Lx Ly Lz)
def cubeKeys (Lx Ly Lz : Nat) (x y z : Int) : List Coord := (cubeCands x y z).filter (isq Lx Ly Lz)

/-- the three potential qubits of the triangle `(a, x, y, z)` are qubits -/
def TX (Lx Ly Lz : Nat) (a x y z : Int) : Prop := Qx Lx Ly Lz (x + sgnX a) y z
def TY (Lx Ly Lz : Nat) (a x y z : Int) : Prop := Qy Lx Ly Lz x (y + sgnY a) z
def TZ (Lx Ly Lz : Nat) (a x y z : Int) : Prop := Qz Lx Ly Lz x y (z + sgnZ a x y z)

instance (Lx Ly Lz : Nat) (a x y z : Int) : Decidable (TX Lx Ly Lz a x y z) := by unfold TX; infer_instance
instance (Lx Ly Lz : Nat) (a x y z : Int) : Decidable (TY Lx Ly Lz a x y z) := by unfold TY; infer_instance
instance (Lx Ly Lz : Nat) (a x y z : Int) : Decidable (TZ Lx Ly Lz a x y z) := by unfold TZ; infer_instance

section
variable {Lx Ly Lz : Nat} {a x y z : Int} (hx : x % 2 = 0) (hy : y % 2 = 0) (hz : z % 2 = 0)
include hx hy hz

theorem isq_tx : isq Lx Ly Lz [x + sgnX a, y, z] = true ↔ TX Lx Ly Lz a x y z := by
  rw [isq_iff, mem_qubits_x (by rcases sgnX_cases a with h | h <;> omega) hy hz]; rfl
theorem isq_ty : isq Lx Ly Lz [x, y + sgnY a, z] = true ↔ TY Lx Ly Lz a x y z := by
  rw [isq_iff, mem_qubits_y hx (by rcases sgnY_cases a with h | h <;> omega) hz]; rfl
theorem isq_tz : isq Lx Ly Lz [x, y, z + sgnZ a x y z] = true ↔ TZ Lx Ly Lz a x y z := by
  rw [isq_iff, mem_qubits_z hx hy (by rcases sgnZ_cases a x y z with h | h <;> omega)]; rfl

theorem triKeys_eq : triKeys Lx Ly Lz a x y z =
    (if TX Lx Ly Lz a x y z then [[x + sgnX a, y, z]] else []) ++
    (if TY Lx Ly Lz a x y z then [[x, y + sgnY a, z]] else []) ++
    (if TZ Lx Ly Lz a x y z then [[x, y, z + sgnZ a x y z]] else []) := by
  unfold triKeys triCands
  simp only [List.filter_cons, List.filter_nil, isq_tx hx hy hz, isq_ty hx hy hz, isq_tz hx hy hz]
  split <;> split <;> split <;> rfl

end

/-- `_is_m_boundary` -/
def MB (Lx Ly Lz : Nat) (x y z : Int) : Prop :=
  y ≥ 2 * (Ly : Int) - 2 ∨ y ≤ 0 ∨ (2 * (Ly : Int) - 5 ≤ y ∧ y ≤ 2 * (Ly : Int) - 4) ∨ (2 ≤ y ∧ y ≤ 3) ∨
  (2 * (Lz : Int) - 5 ≤ z ∧ z ≤ 2 * (Lz : Int) - 4) ∨ (2 ≤ z ∧ z ≤ 3) ∨ (2 ≤ x ∧ x ≤ 3) ∨
  (2 * (Lx : Int) - 3 ≤ x ∧ x ≤ 2 * (Lx : Int) - 2)

instance (Lx Ly Lz : Nat) (x y z : Int) : Decidable (MB Lx Ly Lz x y z) := by unfold MB; infer_instance

theorem isMBoundary_iff {Lx Ly Lz : Nat} {x y z : Int} :
    isMBoundary Lx Ly Lz x y z = true ↔ MB Lx Ly Lz x y z := by
  unfold isMBoundary MB
  simp only [Bool.or_eq_true, Bool.and_eq_true, decide_eq_true_eq, ge_iff_le, or_assoc]

/-- `_is_e_boundary` -/
def EB (Lz : Nat) (z : Int) : Prop := z ≥ 2 * (Lz : Int) - 2 ∨ z ≤ 0

instance (Lz : Nat) (z : Int) : Decidable (EB Lz z) := by unfold EB; infer_instance

theorem isEBoundary_iff {Lz : Nat} {z : Int} : isEBoundary Lz z = true ↔ EB Lz z := by
  unfold isEBoundary EB
  simp only [Bool.or_eq_true, decide_eq_true_eq, ge_iff_le]

/-- the condition under which the triangle loop appends `(a, x, y, z)`, in terms of which of the
    three potential qubits exist -/
def TriKeep (Lx Ly Lz : Nat) (tx ty tz : Prop) (x y z : Int) : Prop :=
  -- at least two keys
  ((tx ∧ ty) ∨ (tx ∧ tz) ∨ (ty ∧ tz)) ∧
  -- not excluded as a two-key triangle of a magnetic boundary
  ¬ (MB Lx Ly Lz x y z ∧ ¬ (tx ∧ ty ∧ tz) ∧
      (¬ EB Lz z ∨ (((y = 0 ∨ y = 2 * (Ly : Int) - 2) ∧ (z = 0 ∨ z = 2 * (Lz : Int) - 2)) ∧
        (tz ∧ (tx ∨ ty))))) ∧
  ¬ Hole Lx Ly Lz x y z

theorem keepTriangle_iff {Lx Ly Lz : Nat} {a x y z : Int} (hx : x % 2 = 0) (hy : y % 2 = 0)
    (hz : z % 2 = 0) :
    keepTriangle Lx Ly Lz (triKeys Lx Ly Lz a x y z) x y z = true ↔
      TriKeep Lx Ly Lz (TX Lx Ly Lz a x y z) (TY Lx Ly Lz a x y z) (TZ Lx Ly Lz a x y z) x y z := by
  rw [triKeys_eq hx hy hz]
  unfold keepTriangle TriKeep
  have hs : z + sgnZ a x y z ≠ z := by rcases sgnZ_cases a x y z with h | h <;> omega
  have hmb : isMBoundary Lx Ly Lz x y z = decide (MB Lx Ly Lz x y z) := by
    rw [Bool.eq_iff_iff, isMBoundary_iff]; simp
  have heb : isEBoundary Lz z = decide (EB Lz z) := by
    rw [Bool.eq_iff_iff, isEBoundary_iff]; simp
  have hh : inHole Lx Ly Lz x y z = decide (Hole Lx Ly Lz x y z) := by
    rw [Bool.eq_iff_iff, inHole_iff]; simp
  rw [hmb, heb, hh]
  -- the number of keys and `constant_z` depend only on which of the three qubits exist; the
  -- boundary predicates stay atoms, and what is left is propositional
  by_cases h1 : TX Lx Ly Lz a x y z <;> by_cases h2 : TY Lx Ly Lz a x y z <;>
    by_cases h3 : TZ Lx Ly Lz a x y z <;> simp [h1, h2, h3, hs]
  all_goals simp only [Decidable.imp_iff_not_or, not_or, or_true]

/-- the key list the triangle loop passes to the selection rule -/
theorem getStab_tri_keys {Lx Ly Lz : Nat} {a x y z : Int} (ha : 0 ≤ a ∧ a < 4) :
    (getStabilizerIn (qubits Lx Ly Lz) [a, x, y, z]).getD.map Prod.fst = triKeys Lx Ly Lz a x y z := by
  have := getStab_tri Lx Ly Lz (x := x) (y := y) (z := z) ha
  unfold getStabilizer at this
  rw [this]; simp only [StabResult.getD, uop_keys]; rfl

theorem mem_triangles {Lx Ly Lz : Nat} {q : Coord} :
    q ∈ triangles Lx Ly Lz ↔ ∃ a x y z, q = [a, x, y, z] ∧ (0 ≤ a ∧ a < 4) ∧ inE2 Lx x ∧ inE Ly y ∧
      inE Lz z ∧
      TriKeep Lx Ly Lz (TX Lx Ly Lz a x y z) (TY Lx Ly Lz a x y z) (TZ Lx Ly Lz a x y z) x y z := by
  unfold triangles range1
  simp only [List.mem_flatMap, List.mem_map, List.mem_filter, Planar3DCode.mem_rangeE,
    Planar3DCode.mem_rangeE2]
  have hr : ∀ a : Int, a ∈ Color.pyRangeI 0 4 1 ↔ 0 ≤ a ∧ a < 4 := by
    intro a
    unfold Color.pyRangeI
    simp only [List.mem_map, List.mem_range]
    constructor
    · rintro ⟨i, hi, rfl⟩; omega
    · intro h; exact ⟨a.toNat, by omega, by omega⟩
  constructor
  · rintro ⟨a, ha, x, hx, y, hy, z, ⟨hz, hk⟩, rfl⟩
    have ha' := (hr a).mp ha
    refine ⟨a, x, y, z, rfl, ha', hx, hy, hz, ?_⟩
    unfold inE2 at hx; unfold inE at hy hz
    rw [getStab_tri_keys ha'] at hk
    exact (keepTriangle_iff hx.2.2 hy.2.2 hz.2.2).mp hk
  · rintro ⟨a, x, y, z, rfl, ha, hx, hy, hz, hk⟩
    refine ⟨a, (hr a).mpr ha, x, hx, y, hy, z, ⟨hz, ?_⟩, rfl⟩
    rw [getStab_tri_keys ha]
    unfold inE2 at hx; unfold inE at hy hz
    exact (keepTriangle_iff hx.2.2 hy.2.2 hz.2.2).mpr hk

end Panqec.HollowRhombicCode
