/-
RotatedPlanar3DCode lattice model: arithmetic characterisation of the coordinate lists and the
closed form of `get_stabilizer` for each of the four stabilizer kinds.
-/
import PanqecVerif.Proofs.Lat3DbOps
import PanqecVerif.Model.Lattices.RotatedPlanar3DCode
open Panqec Panqec.Lat3Db
namespace Panqec.RotatedPlanar3DCode

/-- horizontal qubit -/
def QH (Lx Ly Lz : Nat) (x y z : Int) : Prop := R1 (2 * Lx) x ∧ R1 (2 * Ly) y ∧ R1 (2 * Lz) z
/-- vertical qubit -/
def QV (Lx Ly Lz : Nat) (x y z : Int) : Prop :=
  R2 (2 * Lx) x ∧ R0 (2 * Ly + 1) y ∧ R2 (2 * Lz) z ∧ (x + y) % 4 = 2
/-- vertex -/
def SV (Lx Ly Lz : Nat) (x y z : Int) : Prop :=
  R2 (2 * Lx) x ∧ R0 (2 * Ly + 1) y ∧ R1 (2 * Lz) z ∧ (x + y) % 4 = 2
/-- horizontal (z-normal) face -/
def SH (Lx Ly Lz : Nat) (x y z : Int) : Prop :=
  R0 (2 * Lx + 1) x ∧ R2 (2 * Ly) y ∧ R1 (2 * Lz) z ∧ (x + y) % 4 = 0
/-- vertical face -/
def SF (Lx Ly Lz : Nat) (x y z : Int) : Prop := R1 (2 * Lx + 1) x ∧ R1 (2 * Ly) y ∧ R2 (2 * Lz) z

theorem mem_qubits_iff (Lx Ly Lz : Nat) (x y z : Int) :
    [x, y, z] ∈ qubits Lx Ly Lz ↔ QH Lx Ly Lz x y z ∨ QV Lx Ly Lz x y z := by
  unfold qubits QH QV
  simp only [List.mem_append, mem_grid3_cons, mem_pyRange2_0, mem_pyRange2_1, mem_pyRange2_2,
    beq_iff_eq, and_true]

theorem mem_stabs_iff (Lx Ly Lz : Nat) (x y z : Int) :
    [x, y, z] ∈ stabs Lx Ly Lz ↔ SV Lx Ly Lz x y z ∨ SH Lx Ly Lz x y z ∨ SF Lx Ly Lz x y z := by
  unfold stabs SV SH SF
  simp only [List.mem_append, mem_grid3_cons, mem_pyRange2_0, mem_pyRange2_1, mem_pyRange2_2,
    beq_iff_eq, and_true, or_assoc]

theorem mem_stabs_shape (Lx Ly Lz : Nat) (s : Coord) (h : s ∈ stabs Lx Ly Lz) :
    ∃ x y z, s = [x, y, z] :=
  (List.mem_append.mp h).elim (fun h => (List.mem_append.mp h).elim shape_grid3 shape_grid3)
    shape_grid3

theorem mem_qubits_shape (Lx Ly Lz : Nat) (s : Coord) (h : s ∈ qubits Lx Ly Lz) :
    ∃ x y z, s = [x, y, z] :=
  (List.mem_append.mp h).elim shape_grid3 shape_grid3

theorem isQubit_iff (Lx Ly Lz : Nat) (x y z : Int) :
    isQubit Lx Ly Lz [x, y, z] = true ↔ QH Lx Ly Lz x y z ∨ QV Lx Ly Lz x y z := by
  unfold isQubit
  rw [List.contains_iff_mem, mem_qubits_iff]

def vertexLocs (x y z : Int) : List Coord :=
  [[x - 1, y - 1, z], [x - 1, y + 1, z], [x + 1, y - 1, z], [x + 1, y + 1, z], [x, y, z - 1], [x, y, z + 1]]
def faceZLocs (x y z : Int) : List Coord :=
  [[x - 1, y - 1, z], [x + 1, y + 1, z], [x - 1, y + 1, z], [x + 1, y - 1, z]]
def faceXLocs (x y z : Int) : List Coord :=
  [[x - 1, y - 1, z], [x + 1, y + 1, z], [x, y, z - 1], [x, y, z + 1]]
def faceYLocs (x y z : Int) : List Coord :=
  [[x - 1, y + 1, z], [x + 1, y - 1, z], [x, y, z - 1], [x, y, z + 1]]

theorem mem_vertexLocs (a b c p q r : Int) :
    [p, q, r] ∈ vertexLocs a b c ↔
      (r = c ∧ (p = a - 1 ∨ p = a + 1) ∧ (q = b - 1 ∨ q = b + 1)) ∨
      (p = a ∧ q = b ∧ (r = c - 1 ∨ r = c + 1)) := by
  simp only [vertexLocs, List.mem_cons, List.cons.injEq, and_true, List.not_mem_nil, or_false]
  constructor
  · rintro (⟨rfl, rfl, rfl⟩ | ⟨rfl, rfl, rfl⟩ | ⟨rfl, rfl, rfl⟩ | ⟨rfl, rfl, rfl⟩ | ⟨rfl, rfl, rfl⟩ |
      ⟨rfl, rfl, rfl⟩) <;> simp
  · rintro (⟨rfl, rfl | rfl, rfl | rfl⟩ | ⟨rfl, rfl, rfl | rfl⟩) <;> simp

theorem map_vertexDelta (x y z : Int) : vertexDelta.map (addC [x, y, z]) = vertexLocs x y z := by
  simp [vertexDelta, addC, vertexLocs, Int.sub_eq_add_neg]
theorem map_faceDeltaZ (x y z : Int) : faceDeltaZ.map (addC [x, y, z]) = faceZLocs x y z := by
  simp [faceDeltaZ, addC, faceZLocs, Int.sub_eq_add_neg]
theorem map_faceDeltaX (x y z : Int) : faceDeltaX.map (addC [x, y, z]) = faceXLocs x y z := by
  simp [faceDeltaX, addC, faceXLocs, Int.sub_eq_add_neg]
theorem map_faceDeltaY (x y z : Int) : faceDeltaY.map (addC [x, y, z]) = faceYLocs x y z := by
  simp [faceDeltaY, addC, faceYLocs, Int.sub_eq_add_neg]

theorem nodup_vertexLocs (x y z : Int) : (vertexLocs x y z).Nodup := by
  simp [vertexLocs]
  omega
theorem nodup_faceZLocs (x y z : Int) : (faceZLocs x y z).Nodup := by
  simp [faceZLocs]
  omega
theorem nodup_faceXLocs (x y z : Int) : (faceXLocs x y z).Nodup := by
  simp [faceXLocs]
  omega
theorem nodup_faceYLocs (x y z : Int) : (faceYLocs x y z).Nodup := by
  simp [faceYLocs]
  omega

def vertexKeys (Lx Ly Lz : Nat) (x y z : Int) : List Coord := (vertexLocs x y z).filter (isQubit Lx Ly Lz)
def faceZKeys (Lx Ly Lz : Nat) (x y z : Int) : List Coord := (faceZLocs x y z).filter (isQubit Lx Ly Lz)
def faceXKeys (Lx Ly Lz : Nat) (x y z : Int) : List Coord := (faceXLocs x y z).filter (isQubit Lx Ly Lz)
def faceYKeys (Lx Ly Lz : Nat) (x y z : Int) : List Coord := (faceYLocs x y z).filter (isQubit Lx Ly Lz)

theorem isStab_of (Lx Ly Lz : Nat) (x y z : Int)
    (h : SV Lx Ly Lz x y z ∨ SH Lx Ly Lz x y z ∨ SF Lx Ly Lz x y z) : isStab Lx Ly Lz [x, y, z] = true := by
  unfold isStab; rw [List.contains_iff_mem, mem_stabs_iff]; exact h

theorem getStab_vertex (Lx Ly Lz : Nat) (x y z : Int) (h : SV Lx Ly Lz x y z) :
    getStab Lx Ly Lz [x, y, z] = constOp (vertexKeys Lx Ly Lz x y z) Pauli.Z := by
  have hv : isVertexXYZ x y z = true := by
    unfold SV R1 at h; unfold isVertexXYZ; simp only [Bool.and_eq_true, beq_iff_eq]; omega
  unfold getStab getStab?
  simp only [isStab_of Lx Ly Lz x y z (Or.inl h), deltaOf, hv, Bool.not_true, Bool.false_eq_true, if_false,
    if_true, Option.getD_some, map_vertexDelta]
  exact buildOp_eq _ _ _ (nodup_vertexLocs x y z)

theorem getStab_faceZ (Lx Ly Lz : Nat) (x y z : Int) (h : SH Lx Ly Lz x y z) :
    getStab Lx Ly Lz [x, y, z] = constOp (faceZKeys Lx Ly Lz x y z) Pauli.X := by
  have hv : isVertexXYZ x y z = false := by
    unfold SH R1 at h; unfold isVertexXYZ
    have : ¬ ((x + y) % 4 = 2) := by omega
    simp [this]
  have hz : (z % 2 == 1) = true := by unfold SH R1 at h; simp only [beq_iff_eq]; omega
  unfold getStab getStab?
  simp only [isStab_of Lx Ly Lz x y z (Or.inr (Or.inl h)), deltaOf, hv, hz, Bool.not_true, Bool.false_eq_true,
    if_false, if_true, Option.getD_some, map_faceDeltaZ]
  exact buildOp_eq _ _ _ (nodup_faceZLocs x y z)

theorem getStab_faceX (Lx Ly Lz : Nat) (x y z : Int) (h : SF Lx Ly Lz x y z) (h4 : (x + y) % 4 = 0) :
    getStab Lx Ly Lz [x, y, z] = constOp (faceXKeys Lx Ly Lz x y z) Pauli.X := by
  have hz0 : ¬ (z % 2 = 1) := by unfold SF R2 at h; omega
  have hv : isVertexXYZ x y z = false := by unfold isVertexXYZ; simp [hz0]
  have hz : (z % 2 == 1) = false := by simpa using hz0
  have h4' : ((x + y) % 4 == 0) = true := by simpa using h4
  unfold getStab getStab?
  simp only [isStab_of Lx Ly Lz x y z (Or.inr (Or.inr h)), deltaOf, hv, hz, h4', Bool.not_true, Bool.false_eq_true,
    if_false, if_true, Option.getD_some, map_faceDeltaX]
  exact buildOp_eq _ _ _ (nodup_faceXLocs x y z)

theorem getStab_faceY (Lx Ly Lz : Nat) (x y z : Int) (h : SF Lx Ly Lz x y z) (h4 : (x + y) % 4 = 2) :
    getStab Lx Ly Lz [x, y, z] = constOp (faceYKeys Lx Ly Lz x y z) Pauli.X := by
  have hz0 : ¬ (z % 2 = 1) := by unfold SF R2 at h; omega
  have hv : isVertexXYZ x y z = false := by unfold isVertexXYZ; simp [hz0]
  have hz : (z % 2 == 1) = false := by simpa using hz0
  have h40 : ((x + y) % 4 == 0) = false := by
    have : ¬ ((x + y) % 4 = 0) := by omega
    simpa using this
  have h4' : ((x + y) % 4 == 2) = true := by simpa using h4
  unfold getStab getStab?
  simp only [isStab_of Lx Ly Lz x y z (Or.inr (Or.inr h)), deltaOf, hv, hz, h40, h4', Bool.not_true,
    Bool.false_eq_true, if_false, if_true, Option.getD_some, map_faceDeltaY]
  exact buildOp_eq _ _ _ (nodup_faceYLocs x y z)

theorem SF_mod4 (Lx Ly Lz : Nat) (x y z : Int) (h : SF Lx Ly Lz x y z) : (x + y) % 4 = 0 ∨ (x + y) % 4 = 2 := by
  unfold SF R1 at h; omega

end Panqec.RotatedPlanar3DCode
