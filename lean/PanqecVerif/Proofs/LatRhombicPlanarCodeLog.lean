/-
RhombicPlanarCode lattice model: the logical operators in closed form (the sheet `z = 0` of X, the
line of Z along z), their commutation with the stabilizers, the pairing, and the assembly of
`Lattice.CommPair`.  Sizes `Lx, Ly, Lz ≥ 1`.
-/
import PanqecVerif.Proofs.LatRhombicPlanarCodeStab
open Panqec Panqec.Lat3Db Panqec.Rhombic
namespace Panqec.RhombicPlanarCode

/-- the candidate locations of `get_logicals_x` -/
def sheetLocs (Lx Ly : Nat) : List Coord :=
  (pyRange (2*Lx)).flatMap fun x => (pyRange (2*Ly)).map fun y => [x, y, 0]

def sheetKeys (Lx Ly Lz : Nat) : List Coord := (sheetLocs Lx Ly).filter (isQubit Lx Ly Lz)

def lineKeys (Lx Ly Lz : Nat) : List Coord :=
  (pyRange2 0 (2*Lz)).map fun z => [2*(Lx:Int)-1, 2*(Ly:Int)-2, z]

theorem mem_sheetLocs (Lx Ly : Nat) (p q r : Int) :
    [p, q, r] ∈ sheetLocs Lx Ly ↔ (0 ≤ p ∧ p < 2*Lx) ∧ (0 ≤ q ∧ q < 2*Ly) ∧ r = 0 := by
  unfold sheetLocs
  simp only [List.mem_flatMap, List.mem_map, mem_pyRange, List.cons.injEq, and_true]
  constructor
  · rintro ⟨x, hx, y, hy, rfl, rfl, rfl⟩; exact ⟨by omega, by omega, rfl⟩
  · rintro ⟨hp, hq, rfl⟩; exact ⟨p, by omega, q, by omega, rfl, rfl, rfl⟩

theorem nodup_sheetLocs (Lx Ly : Nat) : (sheetLocs Lx Ly).Nodup := by
  unfold sheetLocs
  rw [List.nodup_flatMap]
  refine ⟨fun x _ => (nodup_pyRange _).map (fun a b h => by simpa using h), ?_⟩
  refine List.Pairwise.imp_of_mem ?_ (nodup_pyRange (2*Lx))
  intro a b _ _ hab
  simp only [Function.onFun, List.Disjoint, List.mem_map]
  rintro c ⟨y, _, rfl⟩ ⟨y', _, h⟩
  simp only [List.cons.injEq, and_true] at h
  exact hab h.1.symm

theorem nodup_sheetKeys (Lx Ly Lz : Nat) : (sheetKeys Lx Ly Lz).Nodup := (nodup_sheetLocs Lx Ly).filter _

theorem mem_sheetKeys {Lx Ly Lz : Nat} {p q r : Int} :
    [p, q, r] ∈ sheetKeys Lx Ly Lz ↔
      r = 0 ∧ (QX Lx Ly Lz p q r ∨ QY Lx Ly Lz p q r ∨ QZ Lx Ly Lz p q r) := by
  unfold sheetKeys
  rw [List.mem_filter, mem_sheetLocs, isQubit_iff]
  constructor
  · exact fun h => ⟨h.1.2.2, h.2⟩
  · intro h
    refine ⟨⟨?_, ?_, h.1⟩, h.2⟩
    · have := h.2; unfold QX QY QZ R0 R1 R2 at this; omega
    · have := h.2; unfold QX QY QZ R0 R1 R2 at this; omega

theorem nodup_lineKeys (Lx Ly Lz : Nat) : (lineKeys Lx Ly Lz).Nodup :=
  (nodup_pyRange2 _ _).map (fun a b h => by simpa using h)

theorem lineKeys_qubits (Lx Ly Lz : Nat) (hx : 1 ≤ Lx) (hy : 1 ≤ Ly) :
    ∀ q ∈ lineKeys Lx Ly Lz, isQubit Lx Ly Lz q = true := by
  intro q hq
  unfold lineKeys at hq
  rw [List.mem_map] at hq
  obtain ⟨z, hz, rfl⟩ := hq
  rw [mem_pyRange2_0] at hz
  rw [isQubit_iff]
  left
  unfold QX R1 R0
  unfold R0 at hz
  omega

theorem logX_eq (Lx Ly Lz : Nat) : logX Lx Ly Lz = [constOp (sheetKeys Lx Ly Lz) Pauli.X] := by
  simp only [logX, sheetKeys]
  congr 1
  exact buildOp_eq _ _ _ (nodup_sheetLocs Lx Ly)

theorem logZ_eq (Lx Ly Lz : Nat) : logZ Lx Ly Lz = [constOp (lineKeys Lx Ly Lz) Pauli.Z] := by
  simp only [logZ]
  congr 1
  exact dictOf_eq _ _ (nodup_lineKeys Lx Ly Lz)

theorem mem_logX {Lx Ly Lz : Nat} {a : Op} :
    a ∈ (lattice Lx Ly Lz).logX ↔ a = constOp (sheetKeys Lx Ly Lz) Pauli.X := by
  change a ∈ logX Lx Ly Lz ↔ _
  rw [logX_eq, List.mem_singleton]

theorem mem_logZ {Lx Ly Lz : Nat} {a : Op} :
    a ∈ (lattice Lx Ly Lz).logZ ↔ a = constOp (lineKeys Lx Ly Lz) Pauli.Z := by
  change a ∈ logZ Lx Ly Lz ↔ _
  rw [logZ_eq, List.mem_singleton]

theorem tri_sheet_even (Lx Ly Lz : Nat) (a vx vy vz : Int) (hv : ST Lx Ly Lz a vx vy vz) :
    ovl (triKeys Lx Ly Lz a vx vy vz) (sheetKeys Lx Ly Lz) % 2 = 0 := by
  obtain ⟨ha, hvx, hvy, hvz, hr⟩ := hv
  rw [rough_iff Ly a vy ha] at hr
  have hX := (isQubit_iff Lx Ly Lz _ _ _).mpr (Or.inl (legX_qubit hvx hvy hvz (sgnX_pm a)))
  have hY := (isQubit_iff Lx Ly Lz _ _ _).mpr (Or.inr (Or.inl (legY_qubit hvx hvy hvz (sgnY_pm a) hr)))
  exact Rhombic.tri_sheet_even (isQubit Lx Ly Lz) (sheetKeys Lx Ly Lz) 0
    (fun q hq => (List.mem_filter.mp hq).2)
    (fun p q r hq => by
      rw [mem_sheetKeys]; exact ⟨fun h => h.1, fun h => ⟨h, (isQubit_iff Lx Ly Lz p q r).mp hq⟩⟩)
    (by decide) hvz.1 (sgnZ_pm a vx vy vz) (iff_of_true hX hY)

/-- the logical Z is the line of x edges in the corner `x = 2Lx-1`, `y = 2Ly-2` -/
theorem cube_line_even (Lx Ly Lz : Nat) (hx : 1 ≤ Lx) (hy : 1 ≤ Ly) (cx cy cz : Int)
    (hc : SC Lx Ly Lz cx cy cz) :
    ovl (cubeKeys Lx Ly Lz cx cy cz) (lineKeys Lx Ly Lz) % 2 = 0 := by
  obtain ⟨hcx, hcy, hcz, _⟩ := hc
  unfold cubeKeys
  rw [ovl_filter_left _ _ _ (lineKeys_qubits Lx Ly Lz hx hy), cubeLocs_eq,
    ovl_comm _ _ (nodup_cubeLocs cx cy cz) (nodup_lineKeys Lx Ly Lz)]
  refine Rhombic.stack_cube_even _ (fun z hz => ((mem_pyRange2_0 _ _).mp hz).1) (nodup_pyRange2 _ _)
    ?_ hcx.1 hcy.1 hcz.1 (Or.inl ⟨by omega, by omega⟩)
  unfold R1 at hcz
  exact ⟨(mem_pyRange2_0 _ _).mpr (by unfold R0; omega), (mem_pyRange2_0 _ _).mpr (by unfold R0; omega)⟩

theorem line_sheet_one (Lx Ly Lz : Nat) (hx : 1 ≤ Lx) (hy : 1 ≤ Ly) (hz : 1 ≤ Lz) :
    ovl (lineKeys Lx Ly Lz) (sheetKeys Lx Ly Lz) = 1 := by
  unfold ovl lineKeys
  rw [List.countP_map]
  apply countP_iff_point _ 0 _ (nodup_pyRange2 _ _)
  · rw [mem_pyRange2_0]; unfold R0; omega
  · intro t ht
    rw [mem_pyRange2_0] at ht
    simp only [Function.comp, List.contains_iff_mem]
    rw [mem_sheetKeys]
    refine ⟨fun h => h.1, fun h => ⟨h, Or.inl ⟨?_, ?_, ht⟩⟩⟩
    · unfold R1; omega
    · unfold R0; omega

theorem pairing (Lx Ly Lz : Nat) (hx : 1 ≤ Lx) (hy : 1 ≤ Ly) (hz : 1 ≤ Lz) (i j : Nat)
    (hi : i < (logX Lx Ly Lz).length) (hj : j < (logZ Lx Ly Lz).length) :
    opAntiCount ((logX Lx Ly Lz).getD i []) ((logZ Lx Ly Lz).getD j []) % 2 = if i = j then 1 else 0 := by
  rw [logX_eq] at hi ⊢
  rw [logZ_eq] at hj ⊢
  simp only [List.length_cons, List.length_nil] at hi hj
  have hi0 : i = 0 := by omega
  have hj0 : j = 0 := by omega
  subst hi0; subst hj0
  simp only [List.getD_cons_zero, if_true]
  rw [opAntiCount_constOp]
  have : Pauli.anti Pauli.X Pauli.Z = true := by decide
  rw [if_pos this, ovl_comm _ _ (nodup_sheetKeys Lx Ly Lz) (nodup_lineKeys Lx Ly Lz),
    line_sheet_one Lx Ly Lz hx hy hz]

theorem commPair (Lx Ly Lz : Nat) (hx : 1 ≤ Lx) (hy : 1 ≤ Ly) (hz : 1 ≤ Lz) :
    (lattice Lx Ly Lz).CommPair := by
  refine ⟨?_, ?_, ?_, ?_, ?_, ?_, ?_⟩
  · intro s hs t ht; exact stab_comm Lx Ly Lz s t hs ht
  · intro a ha s hs
    obtain rfl := mem_logX.mp ha
    change opCommute _ (getStab Lx Ly Lz s) = true
    rcases getStab_cases Lx Ly Lz s hs with ⟨k, hk, e⟩ | ⟨k, hk, e⟩ <;> rw [e]
    · exact opCommute_constOp_same _ _ _
    · obtain ⟨a, x, y, z, hv, rfl⟩ := hk
      exact opCommute_of_ovl_even' _ _ _ _ (nodup_sheetKeys Lx Ly Lz) (nodup_triKeys Lx Ly Lz a x y z)
        (tri_sheet_even Lx Ly Lz a x y z hv)
  · intro a ha s hs
    obtain rfl := mem_logZ.mp ha
    change opCommute _ (getStab Lx Ly Lz s) = true
    rcases getStab_cases Lx Ly Lz s hs with ⟨k, hk, e⟩ | ⟨k, hk, e⟩ <;> rw [e]
    · obtain ⟨x, y, z, hc, rfl⟩ := hk
      exact opCommute_of_ovl_even' _ _ _ _ (nodup_lineKeys Lx Ly Lz) (nodup_cubeKeys Lx Ly Lz x y z)
        (cube_line_even Lx Ly Lz hx hy x y z hc)
    · exact opCommute_constOp_same _ _ _
  · change (logX Lx Ly Lz).length = (logZ Lx Ly Lz).length
    rw [logX_eq, logZ_eq]; rfl
  · intro i j hi hj; exact pairing Lx Ly Lz hx hy hz i j hi hj
  · intro a ha b hb
    obtain rfl := mem_logX.mp ha
    obtain rfl := mem_logX.mp hb
    exact opCommute_constOp_same _ _ _
  · intro a ha b hb
    obtain rfl := mem_logZ.mp ha
    obtain rfl := mem_logZ.mp hb
    exact opCommute_constOp_same _ _ _

end Panqec.RhombicPlanarCode
