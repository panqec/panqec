/-
Lemmas about the model of `get_p_th_sd_interp` (C16): the three indices are ordered and inside the grid,
the function is total on two or more curves, and it does not depend on the order of the rows.
-/
import PanqecVerif.Proofs.AnalysisWindowBasic

namespace Panqec.An

theorem maxNat_iff {xs : List Nat} {m : Nat} : maxNat xs = some m ↔ m ∈ xs ∧ ∀ x ∈ xs, x ≤ m := by
  rw [show maxNat xs = xs.max? by cases xs <;> rfl, List.max?_eq_some_iff]

theorem minNat_iff {xs : List Nat} {m : Nat} : minNat xs = some m ↔ m ∈ xs ∧ ∀ x ∈ xs, m ≤ x := by
  rw [show minNat xs = xs.min? by cases xs <;> rfl, List.min?_eq_some_iff]

theorem maxNat_eq_none {xs : List Nat} : maxNat xs = none ↔ xs = [] := by cases xs <;> simp [maxNat]
theorem minNat_eq_none {xs : List Nat} : minNat xs = none ↔ xs = [] := by cases xs <;> simp [minNat]

theorem lastBelow_spec {ms : List Nat} {i m : Nat} (h : lastBelow ms i = some m) :
    m ∈ ms ∧ m < i ∧ ∀ x ∈ ms, x < i → x ≤ m := by
  obtain ⟨h1, h2⟩ := maxNat_iff.mp h
  have := List.mem_filter.mp h1
  exact ⟨this.1, by simpa using this.2, fun x hx hxi => h2 x (List.mem_filter.mpr ⟨hx, by simpa using hxi⟩)⟩

theorem firstAbove_spec {ms : List Nat} {i m : Nat} (h : firstAbove ms i = some m) :
    m ∈ ms ∧ i < m ∧ ∀ x ∈ ms, i < x → m ≤ x := by
  obtain ⟨h1, h2⟩ := minNat_iff.mp h
  have := List.mem_filter.mp h1
  exact ⟨this.1, by simpa using this.2, fun x hx hxi => h2 x (List.mem_filter.mpr ⟨hx, by simpa using hxi⟩)⟩

theorem argmaxRatAux_lt : ∀ (vs : List Rat) (i bi : Nat) (bv : Rat), bi < i →
    argmaxRatAux vs i bi bv < i + vs.length
  | [], i, bi, _, h => by simpa [argmaxRatAux] using h
  | v :: vs, i, bi, bv, h => by
    unfold argmaxRatAux
    split
    · have := argmaxRatAux_lt vs (i + 1) i v (Nat.lt_succ_self i)
      simp only [List.length_cons]; omega
    · have := argmaxRatAux_lt vs (i + 1) bi bv (Nat.lt_succ_of_lt h)
      simp only [List.length_cons]; omega

theorem argmaxRat_lt {l : List Rat} {j : Nat} (h : argmaxRat l = some j) : j < l.length := by
  cases l with
  | nil => cases h
  | cons v vs =>
    simp only [argmaxRat, Option.some.injEq] at h
    subst h
    have := argmaxRatAux_lt vs 1 0 v Nat.zero_lt_one
    simp only [List.length_cons]; omega

theorem argmaxRat_isSome {l : List Rat} (h : l ≠ []) : ∃ j, argmaxRat l = some j := by
  cases l with
  | nil => exact absurd rfl h
  | cons v vs => exact ⟨_, rfl⟩

theorem mem_relExt {cmp : Rat → Rat → Bool} {sd : List Rat} {i : Nat} :
    i ∈ relExt cmp sd ↔ i < sd.length ∧
      cmp (sd.getD i 0) (sd.getD (min (i + 1) (sd.length - 1)) 0) = true ∧ cmp (sd.getD i 0) (sd.getD (i - 1) 0) = true := by
  unfold relExt
  rw [List.mem_filter, List.mem_range, Bool.and_eq_true]

theorem mem_sdMinima_lt {sd : List Rat} {i : Nat} (h : i ∈ sdMinima sd) : i < sd.length := by
  unfold sdMinima at h
  simp only at h
  split at h
  · exact (mem_relExt.mp h).1
  · exact (mem_relExt.mp h).1

theorem mem_sdMaxima_cases {sd : List Rat} {m : Nat} (h : m ∈ sdMaxima sd) :
    m = 0 ∨ m = sd.length - 1 ∨
      (m < sd.length ∧ sd.getD (min (m + 1) (sd.length - 1)) 0 ≤ sd.getD m 0 ∧ sd.getD (m - 1) 0 ≤ sd.getD m 0) := by
  unfold sdMaxima at h
  simp only [List.cons_append, List.mem_cons, List.mem_append, List.not_mem_nil, or_false] at h
  rcases h with rfl | h | rfl
  · exact Or.inl rfl
  · right; right
    split at h
    · obtain ⟨h0, h1, h2⟩ := mem_relExt.mp h
      exact ⟨h0, of_decide_eq_true h1, of_decide_eq_true h2⟩
    · obtain ⟨h0, h1, h2⟩ := mem_relExt.mp h
      exact ⟨h0, le_of_lt (of_decide_eq_true h1), le_of_lt (of_decide_eq_true h2)⟩
  · exact Or.inr (Or.inl rfl)

theorem mem_sdMaxima_le {sd : List Rat} {i : Nat} (h : i ∈ sdMaxima sd) : i ≤ sd.length - 1 := by
  rcases mem_sdMaxima_cases h with rfl | rfl | ⟨h, -⟩ <;> omega

theorem exists_min_index (sd : List Rat) (h : sd ≠ []) :
    ∃ i, i < sd.length ∧ ∀ j, j < sd.length → sd.getD i 0 ≤ sd.getD j 0 := by
  cases hm : sd.min? with
  | none => exact absurd (List.min?_eq_none_iff.mp hm) h
  | some m =>
    obtain ⟨hmem, hle⟩ := List.min?_eq_some_iff.mp hm
    obtain ⟨i, hi, rfl⟩ := List.getElem_of_mem hmem
    refine ⟨i, hi, fun j hj => ?_⟩
    rw [List.getD_eq_getElem _ _ hi, List.getD_eq_getElem _ _ hj]
    exact hle _ (List.getElem_mem hj)

theorem sdMinima_ne_nil {sd : List Rat} (h : sd ≠ []) : sdMinima sd ≠ [] := by
  unfold sdMinima
  simp only
  split
  · obtain ⟨i, hi, hmin⟩ := exists_min_index sd h
    have : i ∈ relExt (fun a b => decide (a ≤ b)) sd := by
      rw [mem_relExt]
      refine ⟨hi, ?_, ?_⟩
      · exact decide_eq_true (hmin _ (by omega))
      · exact decide_eq_true (hmin _ (by omega))
    exact List.ne_nil_of_mem this
  · rename_i hne
    intro e
    rw [e] at hne
    exact hne rfl

theorem sdSelect_spec {sd : List Rat} {ic il ir : Nat} (h : sdSelect sd = .ok (ic, il, ir)) :
    il ≤ ic ∧ ic ≤ ir ∧ ic < sd.length ∧ ir ≤ sd.length - 1 := by
  unfold sdSelect at h
  simp only at h
  split at h
  · cases h
  · rename_i j hj
    injection h with h
    simp only [Prod.mk.injEq] at h
    obtain ⟨h1, h2, h3⟩ := h
    have hjlt : j < (sdMinima sd).length := by simpa using argmaxRat_lt hj
    have hic : ic ∈ sdMinima sd := by
      rw [← h1, List.getD_eq_getElem _ _ hjlt]
      exact List.getElem_mem hjlt
    have hlt := mem_sdMinima_lt hic
    refine ⟨?_, ?_, hlt, ?_⟩
    · rw [← h2, h1]
      cases hl : lastBelow (sdMaxima sd) ic with
      | none => simp
      | some m => simpa using le_of_lt (lastBelow_spec hl).2.1
    · rw [← h3, h1]
      cases hl : firstAbove (sdMaxima sd) ic with
      | none => simp only [Option.getD_none]; omega
      | some m => simpa using le_of_lt (firstAbove_spec hl).2.1
    · rw [← h3, h1]
      cases hl : firstAbove (sdMaxima sd) ic with
      | none => simp
      | some m => simpa using mem_sdMaxima_le (firstAbove_spec hl).1

theorem sdSelect_total {sd : List Rat} (h : sd ≠ []) : ∃ r, sdSelect sd = .ok r := by
  unfold sdSelect
  simp only
  obtain ⟨j, hj⟩ := argmaxRat_isSome (l := (sdMinima sd).map (peakHeight sd (sdMaxima sd)))
    (by simpa using sdMinima_ne_nil h)
  rw [hj]
  exact ⟨_, rfl⟩

theorem sortPts_eq (l : List (Rat × Rat)) : sortPts l = l.insertionSort fun a b => a.1 ≤ b.1 :=
  eq_insertionSort insertPt sortPts (fun _ => rfl) (fun _ _ _ => rfl) rfl (fun _ _ => rfl) l

theorem sortPts_perm (l : List (Rat × Rat)) : (sortPts l).Perm l :=
  sortPts_eq l ▸ List.perm_insertionSort _ l

theorem sortPts_eq_of_perm {a b : List (Rat × Rat)} (h : a.Perm b)
    (hinj : ∀ p ∈ a, ∀ q ∈ a, p.1 = q.1 → p = q) : sortPts a = sortPts b := by
  rw [sortPts_eq, sortPts_eq]
  exact insertionSort_eq_of_perm (r := fun p q : Rat × Rat => p.1 ≤ q.1) (fun _ _ => le_total _ _)
    (fun _ _ _ => le_trans) h fun p hp q hq hpq hqp => hinj p hp q hq (le_antisymm hpq hqp)

/-- no two rows with the same (code_label, error_rate) -/
def KeysNodup (rows : List TRow) : Prop := (rows.map fun r => (r.label, r.rate)).Nodup

theorem sdDomain_iff (rows : List TRow) :
    sdDomain rows = true ↔ (∀ r ∈ rows, r.pest.isSome = true) ∧ KeysNodup rows := by
  unfold sdDomain KeysNodup
  simp only [Bool.and_eq_true, List.all_eq_true, beq_iff_eq]
  rw [eraseDups_length_eq_iff]

theorem sdDomain_perm {a b : List TRow} (h : a.Perm b) : sdDomain a = sdDomain b := by
  rw [Bool.eq_iff_iff, sdDomain_iff, sdDomain_iff]
  unfold KeysNodup
  rw [(h.map _).nodup_iff]
  constructor
  · rintro ⟨h1, h2⟩; exact ⟨fun r hr => h1 r (h.mem_iff.mpr hr), h2⟩
  · rintro ⟨h1, h2⟩; exact ⟨fun r hr => h1 r (h.mem_iff.mp hr), h2⟩

theorem labelsOf_perm {a b : List TRow} (h : a.Perm b) : (labelsOf a).Perm (labelsOf b) :=
  eraseDups_perm (h.map _)

theorem pointsOf_perm {a b : List TRow} (h : a.Perm b) (hk : KeysNodup a) (lab : Nat) :
    pointsOf a lab = pointsOf b lab := by
  unfold pointsOf
  apply sortPts_eq_of_perm ((h.filter _).map _)
  intro p hp q hq hpq
  obtain ⟨r, hr, rfl⟩ := List.mem_map.mp hp
  obtain ⟨r', hr', rfl⟩ := List.mem_map.mp hq
  have hr1 := List.mem_filter.mp hr
  have hr2 := List.mem_filter.mp hr'
  have hl : r.label = r'.label := by
    have e1 : r.label = lab := by simpa using hr1.2
    have e2 : r'.label = lab := by simpa using hr2.2
    rw [e1, e2]
  have : r = r' := by
    unfold KeysNodup at hk
    exact List.inj_on_of_nodup_map hk hr1.1 hr2.1 (by simp only [Prod.mk.injEq]; exact ⟨hl, hpq⟩)
  rw [this]

theorem sampleVariance_perm {a b : List Rat} (h : a.Perm b) : sampleVariance a = sampleVariance b := by
  unfold sampleVariance
  simp only
  rw [h.sum_eq, h.length_eq, (h.map _).sum_eq]

theorem popVariance_perm {a b : List Rat} (h : a.Perm b) : popVariance a = popVariance b := by
  unfold popVariance
  simp only
  rw [h.sum_eq, h.length_eq, (h.map _).sum_eq]

theorem sdValues_perm (sq : Rat → Rat) {a b : List TRow} (h : a.Perm b) (hk : KeysNodup a) (grid : List Rat) :
    sdValues sq a grid = sdValues sq b grid := by
  unfold sdValues curveValues
  simp only [List.map_map]
  apply List.map_congr_left
  intro x _
  simp only [Function.comp]
  congr 1
  apply sampleVariance_perm
  have : (labelsOf a).map ((fun pts => interpAt pts x) ∘ pointsOf a) =
      (labelsOf a).map ((fun pts => interpAt pts x) ∘ pointsOf b) :=
    List.map_congr_left fun lab _ => by simp only [Function.comp, pointsOf_perm h hk lab]
  rw [this]
  exact (labelsOf_perm h).map _

theorem sdInterpIdx_perm (sq : Rat → Rat) (grid : List Rat) {a b : List TRow} (h : a.Perm b) :
    sdInterpIdx sq grid a = sdInterpIdx sq grid b := by
  unfold sdInterpIdx
  have he : a.isEmpty = b.isEmpty := by
    cases a with
    | nil => rw [List.nil_perm.mp h]
    | cons x xs =>
      cases b with
      | nil => exact absurd (List.perm_nil.mp h) (by simp)
      | cons y ys => rfl
  rw [he, sdDomain_perm h, (labelsOf_perm h).length_eq]
  by_cases hd : sdDomain b = true
  · have hk : KeysNodup a := ((sdDomain_iff a).mp (by rw [sdDomain_perm h]; exact hd)).2
    rw [sdValues_perm sq h hk]
  · simp [hd]

theorem sdInterp_perm (sq : Rat → Rat) (grid : List Rat) {a b : List TRow} (h : a.Perm b) :
    sdInterp sq grid a = sdInterp sq grid b := by
  unfold sdInterp
  rw [sdInterpIdx_perm sq grid h]

theorem sdInterpIdx_spec {sq : Rat → Rat} {grid : List Rat} {rows : List TRow} {ic il ir : Nat}
    (h : sdInterpIdx sq grid rows = .ok (ic, il, ir)) :
    il ≤ ic ∧ ic ≤ ir ∧ ic < grid.length ∧ ir ≤ grid.length - 1 := by
  unfold sdInterpIdx at h
  split at h
  · cases h
  · split at h
    · cases h
    · split at h
      · cases h
      · have := sdSelect_spec h
        simpa [sdValues, curveValues] using this

theorem sdInterp_spec {sq : Rat → Rat} {grid : List Rat} {rows : List TRow} {pc pl pr : Rat}
    (h : sdInterp sq grid rows = .ok (pc, pl, pr)) :
    ∃ ic il ir, sdInterpIdx sq grid rows = .ok (ic, il, ir) ∧ il ≤ ic ∧ ic ≤ ir ∧ ir < grid.length ∧
      pc = grid.getD ic 0 ∧ pl = grid.getD il 0 ∧ pr = grid.getD ir 0 := by
  unfold sdInterp at h
  split at h
  · rename_i ic il ir hidx
    injection h with h
    simp only [Prod.mk.injEq] at h
    obtain ⟨h1, h2, h3, h4⟩ := sdInterpIdx_spec hidx
    exact ⟨ic, il, ir, hidx, h1, h2, by omega, h.1.symm, h.2.1.symm, h.2.2.symm⟩
  · cases h

theorem sdInterpIdx_eq_select (sq : Rat → Rat) (grid : List Rat) {rows : List TRow}
    (hd : sdDomain rows = true) (hl : 2 ≤ (labelsOf rows).length) :
    sdInterpIdx sq grid rows = sdSelect (sdValues sq rows grid) := by
  have he : rows.isEmpty = false := List.isEmpty_eq_false_iff.mpr (by rintro rfl; simp [labelsOf] at hl)
  rw [sdInterpIdx, he, hd, if_neg Bool.false_ne_true, if_neg (by simp), if_neg (by omega)]

theorem sdInterpIdx_total (sq : Rat → Rat) {grid : List Rat} {rows : List TRow} (hg : grid ≠ [])
    (hd : sdDomain rows = true) (hl : 2 ≤ (labelsOf rows).length) : ∃ r, sdInterpIdx sq grid rows = .ok r := by
  rw [sdInterpIdx_eq_select sq grid hd hl]
  exact sdSelect_total (by simpa [sdValues, curveValues] using hg)

theorem sdInterpIdx_one_curve (sq : Rat → Rat) (grid : List Rat) {rows : List TRow} (hne : rows ≠ [])
    (hd : sdDomain rows = true) (hl : (labelsOf rows).length < 2) : sdInterpIdx sq grid rows = .error .noMinimum := by
  unfold sdInterpIdx
  have he : rows.isEmpty = false := List.isEmpty_eq_false_iff.mpr hne
  rw [he, hd]
  simp [hl]

end Panqec.An
