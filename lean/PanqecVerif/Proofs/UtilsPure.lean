/-
Lemmas for `Properties/C03Utils.lean` (pure helpers of `panqec/utils.py`).  Core Lean only.
-/
import PanqecVerif.Model.UtilsPure

namespace Panqec.UtilsPure

/-- decidable equality of results, so that concrete instances can be closed by `decide` -/
instance instDecEqExcept {ε α} [DecidableEq ε] [DecidableEq α] : DecidableEq (Except ε α)
  | .ok a, .ok b => if h : a = b then isTrue (by rw [h]) else isFalse (fun h' => h (by injection h'))
  | .error a, .error b => if h : a = b then isTrue (by rw [h]) else isFalse (fun h' => h (by injection h'))
  | .ok _, .error _ => isFalse (fun h => by injection h)
  | .error _, .ok _ => isFalse (fun h => by injection h)

theorem idxNonzero_eq (k : Nat) (v : List Int) :
    idxNonzero k v = ((v.zipIdx k).filter fun p => decide (p.1 ≠ 0)).map (·.2) := by
  induction v generalizing k with
  | nil => rfl
  | cons a as ih =>
    rw [idxNonzero, ih, List.zipIdx_cons, List.filter_cons]
    split <;> simp [*]

theorem mem_idxNonzero (k i : Nat) (v : List Int) :
    i ∈ idxNonzero k v ↔ k ≤ i ∧ i - k < v.length ∧ v.getD (i - k) 0 ≠ 0 := by
  simp only [idxNonzero_eq, List.mem_map, List.mem_filter, List.mem_zipIdx_iff_le_and_getElem?_sub,
    decide_eq_true_eq]
  constructor
  · rintro ⟨⟨a, _⟩, ⟨⟨hk, ha⟩, hne⟩, rfl⟩
    have hlt := (List.getElem?_eq_some_iff.mp ha).1
    exact ⟨hk, hlt, by simpa [List.getD_eq_getElem?_getD, ha] using hne⟩
  · rintro ⟨hk, hlt, hne⟩
    refine ⟨(v[i - k], i), ⟨⟨hk, List.getElem?_eq_getElem hlt⟩, ?_⟩, rfl⟩
    simpa [List.getD_eq_getElem?_getD, List.getElem?_eq_getElem hlt] using hne

theorem idxNonzero_sorted (k : Nat) (v : List Int) : (idxNonzero k v).Pairwise (· < ·) := by
  induction v generalizing k with
  | nil => simp [idxNonzero]
  | cons a as ih =>
    unfold idxNonzero
    by_cases ha : a ≠ 0
    · rw [if_pos ha, List.pairwise_cons]
      refine ⟨?_, ih (k + 1)⟩
      intro j hj
      have := (mem_idxNonzero (k + 1) j as).mp hj
      omega
    · rw [if_neg ha]; exact ih (k + 1)

theorem nearestAux_spec (x best : Int) (as : List Int) :
    nearestAux x best as ∈ best :: as ∧
    ∀ a ∈ best :: as, (nearestAux x best as - x).natAbs ≤ (a - x).natAbs := by
  induction as generalizing best with
  | nil => simp [nearestAux]
  | cons a as ih =>
    unfold nearestAux
    by_cases h : (a - x).natAbs < (best - x).natAbs
    · rw [if_pos h]
      obtain ⟨h1, h2⟩ := ih a
      refine ⟨List.mem_cons_of_mem _ h1, ?_⟩
      intro b hb
      rcases List.mem_cons.mp hb with rfl | hb
      · have := h2 a (by simp); omega
      · exact h2 b hb
    · rw [if_neg h]
      obtain ⟨h1, h2⟩ := ih best
      refine ⟨?_, ?_⟩
      · rcases List.mem_cons.mp h1 with h1 | h1
        · rw [h1]; simp
        · exact List.mem_cons_of_mem _ (List.mem_cons_of_mem _ h1)
      · intro b hb
        rcases List.mem_cons.mp hb with rfl | hb
        · exact h2 _ (by simp)
        · rcases List.mem_cons.mp hb with rfl | hb
          · have := h2 best (by simp); omega
          · exact h2 b (List.mem_cons_of_mem _ hb)

theorem npMod_spec (n a : Int) (ha : 0 < a) :
    0 ≤ npMod n (2 * a) ∧ npMod n (2 * a) < 2 * a ∧ npMod n (2 * a) % 2 = n % 2 ∧
      (2 * a) ∣ (n - npMod n (2 * a)) := by
  have hpos : 0 < 2 * a := by omega
  have hne : 2 * a ≠ 0 := by omega
  unfold npMod
  rw [if_neg hne, Int.fmod_eq_emod_of_nonneg n (Int.le_of_lt hpos)]
  refine ⟨Int.emod_nonneg n hne, Int.emod_lt_of_pos n hpos, ?_, ?_⟩
  · exact Int.emod_emod_of_dvd n (Int.dvd_mul_right 2 a)
  · refine ⟨n / (2 * a), ?_⟩
    have := Int.mul_ediv_add_emod n (2 * a)
    generalize 2 * a * (n / (2 * a)) = q at this ⊢
    omega

/-- the output coordinates of `face_coords` / `edge_coords` have, between them, as many odd ones as
    the offsets -/
theorem coordOne_parity (diff : Nat → List Int) (d0 d1 d2 : Int) (i x y z a b c : Int) (k : Nat)
    (hk : pyIndex3 i = some k) (hd : diff k = [d0, d1, d2]) (ha : 0 < a) (hb : 0 < b) (hc : 0 < c) :
    ∃ p q r, coordOne diff [a, b, c] [i, x, y, z] = .ok [p, q, r] ∧
      p % 2 + q % 2 + r % 2 = d0 % 2 + d1 % 2 + d2 % 2 := by
  refine ⟨npMod (2 * x + d0) (2 * a), npMod (2 * y + d1) (2 * b), npMod (2 * z + d2) (2 * c),
    by simp [coordOne, hk, limOf, hd], ?_⟩
  have hp := (npMod_spec (2 * x + d0) a ha).2.2.1
  have hq := (npMod_spec (2 * y + d1) b hb).2.2.1
  have hr := (npMod_spec (2 * z + d2) c hc).2.2.1
  omega

mutual
theorem NL.map_id : ∀ x : NL, NL.map (fun v => v) x = x
  | .leaf v => by rw [NL.map]
  | .node xs => by rw [NL.map, NL.mapList_id xs]
theorem NL.mapList_id : ∀ xs : List NL, NL.mapList (fun v => v) xs = xs
  | [] => by rw [NL.mapList]
  | x :: xs => by rw [NL.mapList, NL.map_id x, NL.mapList_id xs]
end

mutual
theorem NL.map_comp (f g : Int → Int) : ∀ x : NL, NL.map f (NL.map g x) = NL.map (fun v => f (g v)) x
  | .leaf v => by rw [NL.map, NL.map, NL.map]
  | .node xs => by rw [NL.map, NL.map, NL.map, NL.mapList_comp f g xs]
theorem NL.mapList_comp (f g : Int → Int) :
    ∀ xs : List NL, NL.mapList f (NL.mapList g xs) = NL.mapList (fun v => f (g v)) xs
  | [] => by rw [NL.mapList, NL.mapList, NL.mapList]
  | x :: xs => by rw [NL.mapList, NL.mapList, NL.mapList, NL.map_comp f g x, NL.mapList_comp f g xs]
end

theorem NL.mapList_eq_map (f : Int → Int) : ∀ xs : List NL, NL.mapList f xs = xs.map (NL.map f)
  | [] => by rw [NL.mapList]; rfl
  | x :: xs => by rw [NL.mapList, NL.mapList_eq_map f xs]; rfl

end Panqec.UtilsPure
