/-
What `XCubeMatchingDecoder.__init__` builds (`XCubeDec.new`): the attributes the theorems need.
-/
import PanqecVerif.Model.XCubeDecoder
import PanqecVerif.Proofs.DecodersGlue

namespace Panqec.XCube

open Panqec

variable {W : Type}

structure NewOk (Lx Ly Lz : Nat) (ax : Option String) (px py pz : List Rat) (d : XCubeDec W) : Prop where
  hLx : d.Lx = Lx
  hLy : d.Ly = Ly
  hLz : d.Lz = Lz
  qubits : d.qubits = XCubeCode.qubits Lx Ly Lz
  stabs : d.stabs = XCubeCode.stabs Lx Ly Lz
  H : d.H = (stabilizerMatrix (codeData Lx Ly Lz ax)).getD []
  zH : d.zdec.H = d.H
  zn : d.zdec.n = d.n
  hpx : d.zdec.px = px
  hpy : d.zdec.py = py
  hpz : d.zdec.pz = pz
  toric : d.toric = ⟨toricView Ly Lz, toricView Lx Lz, toricView Lx Ly⟩
  planeSizes : d.planeSizes = planeSizesOf Lx Ly Lz
  matching_n : ∀ a, (d.matching.get a).n = (d.toric.get a).n

theorem new_ok_fields (logOdds : Rat → W) (Lx Ly Lz : Nat) (ax : Option String) (px py pz : List Rat)
    (cfg : BpCfg) (d : XCubeDec W) (h : XCubeDec.new logOdds Lx Ly Lz ax px py pz cfg = .ok d) :
    NewOk Lx Ly Lz ax px py pz d := by
  unfold XCubeDec.new at h
  simp only at h
  repeat' split at h
  all_goals first | cases h | skip
  rename_i hx _ _ hy _ _ hz
  refine ⟨rfl, rfl, rfl, ?_, ?_, rfl, rfl, rfl, rfl, rfl, rfl, rfl, rfl, fun a => ?_⟩
  · cases ax <;> rfl
  · cases ax <;> rfl
  · cases a
    · exact MatchingDec.new_n hx
    · exact MatchingDec.new_n hy
    · exact MatchingDec.new_n hz

end Panqec.XCube
