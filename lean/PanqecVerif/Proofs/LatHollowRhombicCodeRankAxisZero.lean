/-
`HollowRhombicCode`, rank clause: the selected triangles of axis 0 of a size with a hole that
is counted (`Counted`: `Lz ≥ 5`, or one of the two families with `Lz = 4` that are not deficient) as
boxes, after those of the axes 3, 2, 1 in `Proofs/LatHollowRhombicCodeRankBoxes.lean`.  One family of boxes
serves all of them: the two boxes of kept lower triangles under the hole edges carry their size
(`ny`, `nx`), which is 0 where the selection rule keeps none.
-/
import PanqecVerif.Proofs.LatHollowRhombicCodeRankBoxes

namespace Panqec.HollowRhombicCode
open Panqec.Lat3Db Panqec.Rhombic
open Panqec.Planar3DCode (inE inO inE2 inO1)

section
variable {Lx Ly Lz : Nat}

/-- the upper triangles of axis 0 next to the hole that are not listed -/
def P0 (Lx Ly Lz : Nat) (x y z : Int) : Prop :=
  (InAp 4 (Lx - 3) x ∧ InAp 4 (Ly - 4) y ∧ InAp 4 (Lz - 4) z ∧ (x + y + z) % 4 = 2) ∨
  (InAp 2 1 x ∧ InAp 4 (Ly - 4) y ∧ InAp 4 (Lz - 4) z ∧ (x + y + z) % 4 = 2) ∨
  (InAp 4 (Lx - 3) x ∧ InAp 2 1 y ∧ InAp 4 (Lz - 4) z ∧ (x + y + z) % 4 = 2) ∨
  (InAp 4 (Lx - 3) x ∧ InAp 4 (Ly - 4) y ∧ InAp (2 * Lz - 4) 1 z ∧ (x + y + z) % 4 = 2)

/-- the number of kept lower triangles of axis 0 along the hole edge `x = y = 3` -/
def qn (Lx Ly Lz : Nat) : Nat :=
  if (4 ≤ Lx ∧ 4 ≤ Ly) ∨ (Lx = 3 ∧ 5 ≤ Ly) then (Lz - 5) / 2 else 0

/-- the kept lower triangles of axis 0 along the hole edge `x = y = 3` -/
def QR (Lx Ly Lz : Nat) (x y z : Int) : Prop :=
  x = 2 ∧ y = 2 ∧ 8 ≤ z ∧ z < 8 + 4 * ((qn Lx Ly Lz : Nat) : Int) ∧ (z - 8) % 4 = 0

/-- the number of kept lower triangles of axis 0 under the hole edge `(3, ·, 3)`, `(·, 3, 3)`: all of
    them when the hole is higher than one layer, for `Lz = 4` those of `QY`, `QX` -/
def ny (Lx Ly Lz : Nat) : Nat := if 5 ≤ Lz ∨ (Lx = 4 ∧ 5 ≤ Ly) then Ly - 4 else 0
def nx (Lx Ly Lz : Nat) : Nat := if 5 ≤ Lz ∨ (Ly = 5 ∧ 5 ≤ Lx) then Lx - 3 else 0

theorem ny_spec (Lx Ly Lz : Nat) : ((5 ≤ Lz ∨ (Lx = 4 ∧ 5 ≤ Ly)) ∧ ny Lx Ly Lz = Ly - 4) ∨
    (¬ (5 ≤ Lz ∨ (Lx = 4 ∧ 5 ≤ Ly)) ∧ ny Lx Ly Lz = 0) := by
  unfold ny; split <;> simp [*]

theorem nx_spec (Lx Ly Lz : Nat) : ((5 ≤ Lz ∨ (Ly = 5 ∧ 5 ≤ Lx)) ∧ nx Lx Ly Lz = Lx - 3) ∨
    (¬ (5 ≤ Lz ∨ (Ly = 5 ∧ 5 ≤ Lx)) ∧ nx Lx Ly Lz = 0) := by
  unfold nx; split <;> simp [*]

/-- the boxes of the triangles of axis 0 -/
def B0 (Lx Ly Lz : Nat) (x y z : Int) : Prop :=
  (InAp (2 * Lx - 2) 1 x ∧ InAp 0 (Ly - 1) y ∧ InAp 0 Lz z) ∨
  (InAp 2 (Lx - 2) x ∧ InAp 0 (Ly - 1) y ∧ InAp 2 (Lz - 1) z ∧ (x + y + z) % 4 = 2) ∨
  (InAp 2 1 x ∧ InAp 4 (ny Lx Ly Lz) y ∧ InAp 2 1 z ∧ (x + y + z) % 4 = 0) ∨
  (InAp 4 (nx Lx Ly Lz) x ∧ InAp 2 1 y ∧ InAp 2 1 z ∧ (x + y + z) % 4 = 0) ∨
  QR Lx Ly Lz x y z

/-- the sizes with a hole for which the triangles of axis 0 are counted: a hole higher than one
    layer, or the two families with `Lz = 4` that are not deficient -/
def Counted (Lx Ly Lz : Nat) : Prop := 5 ≤ Lz ∨ (Lz = 4 ∧ ((Lx = 4 ∧ 5 ≤ Ly) ∨ (Ly = 5 ∧ 5 ≤ Lx)))

theorem ax0_mp (hx : 3 ≤ Lx) (hy : 4 ≤ Ly) (x y z : Int)
    (h : TS Lx Ly Lz 0 x y z) : B0 Lx Ly Lz x y z := by
  unfold B0 QR
  obtain ⟨_, hv, hp, hc⟩ := h
  have hv' := hv
  unfold VertexLoc inE2 inE at hv'
  unfold PT at hp
  rw [sgnX_0, sgnY_0, sgnZ_01 (Or.inl rfl)] at hp
  obtain ⟨p1, p2, p3, p4, p5, p6⟩ := hp
  unfold SelC at hc
  rcases hc with hc | hc | ⟨hc, _⟩ | ⟨_, hc | ⟨h2, hz2⟩ | ⟨h0, hzt, hn⟩ | hq | hqy | hqx⟩
  · omega
  · omega
  · omega
  · left; unfold InAp; omega
  · by_cases hl : x = 2 * (Lx : Int) - 2
    · left; unfold InAp; omega
    · right; left; unfold InAp; omega
  · -- a lower triangle whose upper partner is not listed: the partner has a leg in the hole
    by_cases hl : x = 2 * (Lx : Int) - 2
    · left; unfold InAp; omega
    · rw [if_pos h0] at p4
      have hcol : ¬ (x + y + (z + 2)) % 4 = 0 := by omega
      by_cases q1 : Hole Lx Ly Lz x y (z + 2)
      · exfalso; unfold Hole at q1 p4; omega
      by_cases q2 : Hole Lx Ly Lz (x + 1) y (z + 2)
      · obtain ⟨a2, b2, c2⟩ := q2
        have nz : ¬ (3 ≤ z ∧ z < 2 * (Lz : Int) - 4) := fun h => p2 ⟨a2, b2, h⟩
        have nx' : ¬ ((2 < x ∧ x < 2 * (Lx : Int) - 2) ∧ (3 ≤ z + 1 ∧ z + 1 < 2 * (Lz : Int) - 4)) :=
          fun h => p4 ⟨h.1, b2, h.2⟩
        have e : ny Lx Ly Lz = Ly - 4 := if_pos (Or.inl (by omega))
        right; right; left; rw [e]; unfold InAp; omega
      by_cases q3 : Hole Lx Ly Lz x (y + 1) (z + 2)
      · obtain ⟨a3, b3, c3⟩ := q3
        have nz : ¬ (3 ≤ z ∧ z < 2 * (Lz : Int) - 4) := fun h => p3 ⟨a3, b3, h⟩
        have ny' : ¬ ((3 ≤ y ∧ y < 2 * (Ly : Int) - 4) ∧ (3 ≤ z + 1 ∧ z + 1 < 2 * (Lz : Int) - 4)) :=
          fun h => p4 ⟨a3, h.1, h.2⟩
        have e : nx Lx Ly Lz = Lx - 3 := if_pos (Or.inl (by omega))
        right; right; right; left; rw [e]; unfold InAp; omega
      exfalso; apply hn
      unfold PT; rw [sgnX_0, sgnY_0, sgnZ_01 (Or.inl rfl), if_neg hcol]
      have e : z + 2 + -1 = z + 1 := by omega
      rw [e]
      exact ⟨q1, q2, q3, p4, p5, p6⟩
  · right; right; right; right; unfold QC at hq; unfold qn; rw [if_pos hq.2.2.2.2.2]; omega
  · have e : ny Lx Ly Lz = Ly - 4 := if_pos (Or.inr hqy.2.2.2.2.2.2)
    right; right; left; rw [e]; unfold QY at hqy; unfold InAp; omega
  · have e : nx Lx Ly Lz = Lx - 3 := if_pos (Or.inr hqx.2.2.2.2.2.2)
    right; right; right; left; rw [e]; unfold QX at hqx; unfold InAp; omega

theorem p0_box (hx : 3 ≤ Lx) (hy : 4 ≤ Ly) (hz : 4 ≤ Lz) {x y z : Int} (h : P0 Lx Ly Lz x y z) :
    InAp 2 (Lx - 2) x ∧ InAp 0 (Ly - 1) y ∧ InAp 2 (Lz - 1) z ∧ (x + y + z) % 4 = 2 := by
  unfold P0 at h
  rcases h with h | h | h | h <;> unfold InAp at h ⊢ <;> omega

theorem ax0_last (hx : 3 ≤ Lx) (hy : 4 ≤ Ly) {x y z : Int}
    (h : InAp (2 * Lx - 2) 1 x ∧ InAp 0 (Ly - 1) y ∧ InAp 0 Lz z) : TS Lx Ly Lz 0 x y z := by
  unfold InAp at h
  refine ⟨by decide, ?_, ?_, ?_⟩
  · unfold VertexLoc inE2 inE; omega
  · unfold PT; rw [sgnX_0, sgnY_0]
    refine ⟨?_, ?_, ?_, ?_, by omega, by omega⟩ <;> (intro hh; unfold Hole at hh; omega)
  · unfold SelC; right; right; right; exact ⟨rfl, Or.inl (by omega)⟩

theorem ax0_upper (hx : 3 ≤ Lx) (hy : 4 ≤ Ly) (hz : 4 ≤ Lz) {x y z : Int}
    (h : InAp 2 (Lx - 2) x ∧ InAp 0 (Ly - 1) y ∧ InAp 2 (Lz - 1) z ∧ (x + y + z) % 4 = 2) :
    TS Lx Ly Lz 0 x y z ∨ P0 Lx Ly Lz x y z := by
  obtain ⟨hX, hY, hZ, hc2⟩ := h
  have hb : B3 Lx Ly Lz x y z := by
    unfold B3; unfold InAp at hX hY hZ ⊢; omega
  rcases (lt0 hx hy hz x y z).mpr hb with hl | hn
  · left
    refine ⟨hl.1, hl.2.1, hl.2.2, ?_⟩
    unfold InAp at hZ
    unfold SelC; right; right; right; exact ⟨rfl, Or.inr (Or.inl ⟨hc2, by omega⟩)⟩
  · right
    unfold P0
    rcases hn with h | h | h | h | h
    · exact Or.inl ⟨h.1, h.2.1, h.2.2, hc2⟩
    · exact Or.inr (Or.inl ⟨h.1, h.2.1, h.2.2, hc2⟩)
    · exact Or.inr (Or.inr (Or.inl ⟨h.1, h.2.1, h.2.2, hc2⟩))
    · omega
    · exact Or.inr (Or.inr (Or.inr ⟨h.1, h.2.1, h.2.2.1, hc2⟩))

/-- a kept lower triangle under a hole edge (the third or the fourth box): it is selected because its
    upper partner has a leg in the hole (`Lz ≥ 5`), or by `QY`, `QX` (`Lz = 4`) -/
theorem ax0_lower (hx : 3 ≤ Lx) (hy : 4 ≤ Ly) (hg : Counted Lx Ly Lz) {x y z : Int}
    (h : ((InAp 2 1 x ∧ InAp 4 (ny Lx Ly Lz) y) ∨ (InAp 4 (nx Lx Ly Lz) x ∧ InAp 2 1 y)) ∧ InAp 2 1 z ∧
      (x + y + z) % 4 = 0) : TS Lx Ly Lz 0 x y z := by
  obtain ⟨hxy, hZ, hc0⟩ := h
  unfold Counted at hg
  -- the box is not empty, so its guard holds
  have hr : (x = 2 ∧ 4 ≤ y ∧ y ≤ 2 * (Ly : Int) - 6 ∧ y % 2 = 0 ∧ (5 ≤ Lz ∨ (Lx = 4 ∧ 5 ≤ Ly))) ∨
      (4 ≤ x ∧ x ≤ 2 * (Lx : Int) - 4 ∧ x % 2 = 0 ∧ y = 2 ∧ (5 ≤ Lz ∨ (Ly = 5 ∧ 5 ≤ Lx))) := by
    unfold ny nx InAp at hxy
    rcases hxy with ⟨h1, h2⟩ | ⟨h1, h2⟩
    · split at h2
      · left; omega
      · omega
    · split at h1
      · right; omega
      · omega
  unfold InAp at hZ
  clear hxy
  refine ⟨by decide, ?_, ?_, ?_⟩
  · unfold VertexLoc inE2 inE; omega
  · unfold PT; rw [sgnX_0, sgnY_0, sgnZ_01 (Or.inl rfl), if_pos hc0]
    refine ⟨?_, ?_, ?_, ?_, by omega, by omega⟩ <;> (intro hh; unfold Hole at hh; omega)
  · unfold SelC; right; right; right
    refine ⟨rfl, Or.inr (Or.inr ?_)⟩
    by_cases hz5 : 5 ≤ Lz
    · refine Or.inl ⟨hc0, by omega, fun hp => ?_⟩
      rcases hr with hr | hr
      · apply hp.2.1; rw [sgnX_0]; unfold Hole; omega
      · apply hp.2.2.1; rw [sgnY_0]; unfold Hole; omega
    · rcases hr with hr | hr
      · exact Or.inr (Or.inr (Or.inl (by unfold QY; omega)))
      · exact Or.inr (Or.inr (Or.inr (by unfold QX; omega)))

theorem ax0_mpr (hx : 3 ≤ Lx) (hy : 4 ≤ Ly) (hg : Counted Lx Ly Lz) (x y z : Int)
    (h : B0 Lx Ly Lz x y z) : TS Lx Ly Lz 0 x y z ∨ P0 Lx Ly Lz x y z := by
  have hz : 4 ≤ Lz := by unfold Counted at hg; omega
  unfold B0 QR at h
  rcases h with h | h | h | h | h
  · exact Or.inl (ax0_last hx hy h)
  · exact ax0_upper hx hy hz h
  · exact Or.inl (ax0_lower hx hy hg ⟨Or.inl ⟨h.1, h.2.1⟩, h.2.2⟩)
  · exact Or.inl (ax0_lower hx hy hg ⟨Or.inr ⟨h.1, h.2.1⟩, h.2.2⟩)
  · -- the kept lower triangles along the hole edge (3, 3, ·)
    obtain ⟨rfl, rfl, hz1, hz2, hz3⟩ := h
    have hg' : (4 ≤ Lx ∧ 4 ≤ Ly) ∨ (Lx = 3 ∧ 5 ≤ Ly) := by
      unfold qn at hz2
      by_contra hn
      rw [if_neg hn] at hz2
      omega
    unfold qn at hz2
    rw [if_pos hg'] at hz2
    have hc0 : (2 + 2 + z) % 4 = 0 := by omega
    left
    refine ⟨by decide, ?_, ?_, ?_⟩
    · unfold VertexLoc inE2 inE; omega
    · unfold PT; rw [sgnX_0, sgnY_0, sgnZ_01 (Or.inl rfl), if_pos hc0]
      refine ⟨?_, ?_, ?_, ?_, by omega, by omega⟩ <;> (intro hh; unfold Hole at hh; omega)
    · unfold SelC QC; right; right; right
      exact ⟨rfl, Or.inr (Or.inr (Or.inr (Or.inl ⟨rfl, rfl, by omega, by omega, by omega, hg'⟩)))⟩

theorem ax0 (hx : 3 ≤ Lx) (hy : 4 ≤ Ly) (hg : Counted Lx Ly Lz) (x y z : Int) :
    (TS Lx Ly Lz 0 x y z ∨ P0 Lx Ly Lz x y z) ↔ B0 Lx Ly Lz x y z :=
  ⟨fun h => h.elim (ax0_mp hx hy x y z)
    fun h => Or.inr (Or.inl (p0_box hx hy (by unfold Counted at hg; omega) h)), ax0_mpr hx hy hg x y z⟩

theorem ax0_disj (hx : 3 ≤ Lx) (hy : 4 ≤ Ly) (hz : 4 ≤ Lz) (x y z : Int)
    (ht : TS Lx Ly Lz 0 x y z) (hp : P0 Lx Ly Lz x y z) : False := by
  refine lt0_disj hx hy hz x y z ⟨ht.1, ht.2.1, ht.2.2.1⟩ ?_
  unfold P0 at hp
  unfold PA0 Near
  rcases hp with h | h | h | h
  · exact Or.inl ⟨h.1, h.2.1, h.2.2.1⟩
  · exact Or.inr (Or.inl ⟨h.1, h.2.1, h.2.2.1⟩)
  · exact Or.inr (Or.inr (Or.inl ⟨h.1, h.2.1, h.2.2.1⟩))
  · exact Or.inr (Or.inr (Or.inr (Or.inr h)))

end

end Panqec.HollowRhombicCode
