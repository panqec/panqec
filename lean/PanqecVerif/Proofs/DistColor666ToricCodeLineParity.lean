/-
Color666ToricCode, all square sizes `L ≥ 1`, C17: the closed straight lines.

* `line_face_even` — a line meets every face in an even number of qubits (0 or 2): a single-letter
  operator on a line commutes with every generator.
* `line_zig_parity` — the number of qubits a line `lineK f c m` shares with a zig-zag
  `zigK f' c' t'` is odd exactly when the frames differ and the colour offsets differ:
  - same frame, same offset: disjoint (`DistColor666ToricCodeReps`);
  - same frame, other offset: block `i` contributes `[L ∣ 2i + K] + [L ∣ 2i + 1 + K]`, and
    `Σ_{k < 2L} [L ∣ k + K]` is twice `Σ_{k < L}` (the line winds twice around the torus in the
    direction of the zig-zag);
  - other frame, same offset: the line runs along an edge of the zig-zag: each block contributes
    0 or 2;
  - other frame, other offset: block `i` contributes `[L ∣ i + K]`: exactly one crossing.
-/
import PanqecVerif.Proofs.DistColor666ToricCodeReps


namespace Panqec.Color666ToricCode
open Panqec.Lat2D Panqec.Color

/-- indicator of `x ≡ 0 (mod L)` -/
def dv (L : Nat) (x : Int) : Nat := if x % (L : Int) = 0 then 1 else 0

theorem dv_add_period (L : Nat) (x : Int) : dv L (x + (L : Int)) = dv L x := by
  unfold dv; rw [Int.add_emod_right]

theorem dv_neg (L : Nat) (x : Int) : dv L (-x) = dv L x := by
  unfold dv
  have : (-x) % (L : Int) = 0 ↔ x % (L : Int) = 0 := by
    rw [← Int.dvd_iff_emod_eq_zero, ← Int.dvd_iff_emod_eq_zero, Int.dvd_neg]
  by_cases h : x % (L : Int) = 0
  · rw [if_pos h, if_pos (this.mpr h)]
  · rw [if_neg h, if_neg (fun h' => h (this.mp h'))]

theorem rsum_split (f : Nat → Nat) (A : Nat) : ∀ B : Nat,
    rsum (A + B) f = rsum A f + rsum B (fun k => f (A + k))
  | 0 => rfl
  | B + 1 => by
    show rsum (A + B) f + f (A + B) = rsum A f + (rsum B (fun k => f (A + k)) + f (A + B))
    rw [rsum_split f A B]; omega

theorem rsum_double (f : Nat → Nat) : ∀ L : Nat,
    rsum L (fun i => f (2 * i) + f (2 * i + 1)) = rsum (2 * L) f
  | 0 => rfl
  | L + 1 => by
    show rsum L (fun i => f (2 * i) + f (2 * i + 1)) + (f (2 * L) + f (2 * L + 1)) =
      rsum (2 * L) f + f (2 * L) + f (2 * L + 1)
    rw [rsum_double f L]; omega

/-- a line that winds twice: the two residues of a block run over `2L` consecutive integers -/
theorem rsum_pair_even (L : Nat) (K : Int) :
    rsum L (fun i => dv L (2 * (i : Int) + K) + dv L (2 * (i : Int) + 1 + K)) % 2 = 0 := by
  have h1 := rsum_double (fun k => dv L ((k : Int) + K)) L
  have e : rsum L (fun i => dv L (2 * (i : Int) + K) + dv L (2 * (i : Int) + 1 + K)) =
      rsum L (fun i => dv L (((2 * i : Nat) : Int) + K) + dv L (((2 * i + 1 : Nat) : Int) + K)) := by
    apply rsum_congr; intro i _; push_cast; rfl
  rw [e, h1, show 2 * L = L + L by omega, rsum_split]
  have e2 : rsum L (fun k => dv L (((L + k : Nat) : Int) + K)) =
      rsum L (fun k => dv L ((k : Int) + K)) := by
    apply rsum_congr; intro k _
    rw [show ((L + k : Nat) : Int) + K = (k : Int) + K + (L : Int) by push_cast; ring,
      dv_add_period]
  rw [e2]; omega

theorem rsum_single (i0 : Nat) : ∀ L : Nat, i0 < L →
    rsum L (fun i => if i = i0 then 1 else 0) = 1
  | 0, h => by omega
  | L + 1, h => by
    show rsum L (fun i => if i = i0 then 1 else 0) + (if L = i0 then 1 else 0) = 1
    by_cases e : L = i0
    · rw [if_pos e]
      have : rsum L (fun i => if i = i0 then 1 else 0) = rsum L (fun _ => 0) :=
        rsum_congr L (fun j hj => by rw [if_neg (by omega)])
      rw [this]
      have : rsum L (fun _ => 0) % 2 = 0 := rsum_even L (fun _ _ => rfl)
      have h0 : ∀ n : Nat, rsum n (fun _ => 0) = 0 := by
        intro n; induction n with
        | zero => rfl
        | succ n ih => show rsum n (fun _ => 0) + 0 = 0; rw [ih]
      rw [h0]
    · rw [if_neg e, rsum_single i0 L (by omega)]

/-- exactly one `i < L` has `i + K ≡ 0 (mod L)` -/
theorem rsum_dv_one {L : Nat} (hL : 1 ≤ L) (K : Int) :
    rsum L (fun i => dv L ((i : Int) + K)) = 1 := by
  have h0 := Int.emod_nonneg (-K) (show (L : Int) ≠ 0 by omega)
  have h1 := Int.emod_lt_of_pos (-K) (show (0 : Int) < (L : Int) by omega)
  have hz : (((-K) % (L : Int)) + K) % (L : Int) = 0 := by
    rw [Int.add_emod, Int.emod_emod, ← Int.add_emod]
    simp
  generalize (-K) % (L : Int) = r at h0 h1 hz
  rw [← rsum_single r.toNat L (by omega)]
  apply rsum_congr
  intro i hi
  unfold dv
  by_cases e : i = r.toNat
  · rw [if_pos e, e, Int.toNat_of_nonneg h0, if_pos hz]
  · rw [if_neg e, if_neg]
    intro h
    have hd : ((i : Int) - r) % (L : Int) = 0 := by
      have : (i : Int) - r = ((i : Int) + K) - (r + K) := by ring
      rw [this, Int.sub_emod, h, hz]; simp
    have := Cyclic.eq_zero_of_emod_of_abs_lt hd (by omega) (by omega)
    omega

theorem onLine_congr {L : Nat} {c m a j a' j' : Int} (e : a + 2 * j = a' + 2 * j') :
    OnLine L c m a j ↔ OnLine L c m a' j' := by
  unfold OnLine
  rw [show a + 2 * j - 3 * m - 2 * c - 2 = a' + 2 * j' - 3 * m - 2 * c - 2 by omega]

theorem line_face_even {L : Nat} (hL : 1 ≤ L) (f : Bool) (c m : Int) {x y : Int}
    (hf : IsF L x y) : interCount (supp L x y) (lineK L f c m) % 2 = 0 := by
  obtain ⟨a, j, hs⟩ := faceF_of_isF hL f hf
  unfold interCount
  rw [hs]
  unfold cornersF
  simp only [List.countP_cons, List.countP_nil, List.contains_eq_mem, decide_eq_true_eq,
    fR_mem_lineK hL, fL_mem_lineK hL]
  simp only [onLine_congr (L := L) (c := c) (m := m)
      (show a + 1 + 2 * (j - 1) = a - 1 + 2 * j by ring),
    onLine_congr (L := L) (c := c) (m := m) (show a - 1 + 2 * (j + 1) = a + 1 + 2 * j by ring)]
  by_cases h1 : OnLine L c m a j <;> by_cases h2 : OnLine L c m (a + 1) j <;>
    by_cases h3 : OnLine L c m (a - 1) j <;> simp [h1, h2, h3]

/-- `a + 2j − 3m − 2c − 2 = 3w`: on the line iff `L ∣ w` -/
theorem onLine_dv {L : Nat} {c m a j w : Int}
    (e : a + 2 * j - 3 * m - 2 * c - 2 = 3 * w) :
    (if OnLine L c m a j then 1 else 0) = dv L w := by
  have key : OnLine L c m a j ↔ w % (L : Int) = 0 := by
    unfold OnLine; rw [e, cg_three_mul, Int.dvd_iff_emod_eq_zero]
  unfold dv
  by_cases h : OnLine L c m a j
  · rw [if_pos h, if_pos (key.mp h)]
  · rw [if_neg h, if_neg (fun h' => h (key.mpr h'))]

/-- `a + 2j − 3m − 2c − 2 ≢ 0 (mod 3)`: not on the line -/
theorem onLine_no {L : Nat} {c m a j w r : Int}
    (e : a + 2 * j - 3 * m - 2 * c - 2 = 3 * w + r) (hr : r = 1 ∨ r = 2) :
    (if OnLine L c m a j then 1 else 0) = 0 := by
  rw [if_neg]
  intro h
  have := Cg.mod3 h
  omega

theorem inter_zig_line (L : Nat) (f' f : Bool) (c' t' c m : Int) :
    interCount (zigK L f' c' t') (lineK L f c m) =
      rsum L (fun i =>
        (if fR L f' t' (t' + c' + 3 * (i : Int)) ∈ lineK L f c m then 1 else 0)
        + (if fL L f' (t' + 1) (t' + c' + 3 * (i : Int)) ∈ lineK L f c m then 1 else 0)
        + (if fL L f' (t' + 1) (t' + c' + 3 * (i : Int) + 1) ∈ lineK L f c m then 1 else 0)
        + (if fR L f' t' (t' + c' + 3 * (i : Int) + 2) ∈ lineK L f c m then 1 else 0)) := by
  unfold interCount zigK
  rw [countP_flatMap_range]
  apply rsum_congr
  intro i _
  simp only [List.countP_cons, List.countP_nil, List.contains_eq_mem, decide_eq_true_eq]
  omega

/-! the other frame in the coordinates of this one -/

theorem four_terms {x1 x2 x3 x4 n1 n2 n3 n4 : Nat} (h1 : x1 = n1) (h2 : x2 = n2) (h3 : x3 = n3)
    (h4 : x4 = n4) : x1 + x2 + x3 + x4 = n1 + n2 + n3 + n4 := by rw [h1, h2, h3, h4]

theorem line_zig_same {L : Nat} (hL : 1 ≤ L) (f : Bool) {c c' : Int}
    (h : (c = 0 ∧ c' = 1) ∨ (c = 1 ∧ c' = 0)) (t' m : Int) :
    interCount (zigK L f c' t') (lineK L f c m) % 2 = 0 := by
  rw [inter_zig_line]
  simp only [fR_mem_lineK hL, fL_mem_lineK hL]
  have step : ∀ (K : Int) (g : Nat → Nat),
      (∀ i : Nat, g i = dv L (2 * (i : Int) + K) + dv L (2 * (i : Int) + 1 + K)) →
      rsum L g % 2 = 0 :=
    fun K g hg => by rw [rsum_congr L (fun i _ => hg i)]; exact rsum_pair_even L K
  rcases h with ⟨rfl, rfl⟩ | ⟨rfl, rfl⟩
  · refine step (t' - m) _ (fun i => ?_)
    refine (four_terms (onLine_dv (w := 2 * (i : Int) + (t' - m)) ?_)
      (onLine_no (w := t' + 2 * (i : Int) - m) (r := 1) ?_ (Or.inl rfl))
      (onLine_dv (w := 2 * (i : Int) + 1 + (t' - m)) ?_)
      (onLine_no (w := t' + 2 * (i : Int) - m + 1) (r := 1) ?_ (Or.inl rfl))).trans ?_
    · ring
    · ring
    · ring
    · ring
    · omega
  · refine step (t' - m - 1) _ (fun i => ?_)
    refine (four_terms (onLine_no (w := t' + 2 * (i : Int) - m - 2) (r := 2) ?_ (Or.inr rfl))
      (onLine_dv (w := 2 * (i : Int) + (t' - m - 1)) ?_)
      (onLine_no (w := t' + 2 * (i : Int) - m - 1) (r := 2) ?_ (Or.inr rfl))
      (onLine_dv (w := 2 * (i : Int) + 1 + (t' - m - 1)) ?_)).trans ?_
    · ring
    · ring
    · ring
    · ring
    · omega

theorem step_one {L : Nat} (hL : 1 ≤ L) (K : Int) (g : Nat → Nat)
    (hg : ∀ i : Nat, g i = dv L ((i : Int) + K)) : rsum L g % 2 = 1 := by
  rw [rsum_congr L (fun i _ => hg i), rsum_dv_one hL]

/-- the line in the frame `false`, the zig-zag in the frame `true` -/
theorem line_zig_cross0 {L : Nat} (hL : 1 ≤ L) {c c' : Int} (hc : c = 0 ∨ c = 1)
    (hc' : c' = 0 ∨ c' = 1) (t' m : Int) :
    interCount (zigK L true c' t') (lineK L false c m) % 2 = if c = c' then 0 else 1 := by
  rw [inter_zig_line]
  simp only [fR_true, fL_true, fR_mem_lineK hL, fL_mem_lineK hL]
  by_cases hcc : c = c'
  · subst hcc
    rw [if_pos rfl]
    apply rsum_even
    intro i _
    refine (congrArg (fun x => x % 2) (four_terms
      (onLine_dv (w := -(t' + (i : Int) + m + c + 1)) ?_)
      (onLine_dv (w := -(t' + (i : Int) + m + c + 1)) ?_)
      (onLine_no (w := -(t' + (i : Int) + m + c + 2)) (r := 2) ?_ (Or.inr rfl))
      (onLine_no (w := -(t' + (i : Int) + m + c + 2)) (r := 1) ?_ (Or.inl rfl)))).trans ?_
    · ring
    · ring
    · ring
    · ring
    · show (_ + _ + 0 + 0) % 2 = 0
      omega
  · rw [if_neg hcc]
    have hcase : (c = 1 ∧ c' = 0) ∨ (c = 0 ∧ c' = 1) := by omega
    rcases hcase with ⟨rfl, rfl⟩ | ⟨rfl, rfl⟩
    · refine step_one hL (t' + m + 2) _ (fun i => ?_)
      refine (four_terms
        (onLine_no (w := -(t' + (i : Int) + m + 2)) (r := 1) ?_ (Or.inl rfl))
        (onLine_no (w := -(t' + (i : Int) + m + 2)) (r := 1) ?_ (Or.inl rfl))
        (onLine_dv (w := -((i : Int) + (t' + m + 2))) ?_)
        (onLine_no (w := -(t' + (i : Int) + m + 3)) (r := 2) ?_ (Or.inr rfl))).trans ?_
      · ring
      · ring
      · ring
      · ring
      · rw [dv_neg]; omega
    · refine step_one hL (t' + m + 2) _ (fun i => ?_)
      refine (four_terms
        (onLine_no (w := -(t' + (i : Int) + m + 2)) (r := 2) ?_ (Or.inr rfl))
        (onLine_no (w := -(t' + (i : Int) + m + 2)) (r := 2) ?_ (Or.inr rfl))
        (onLine_no (w := -(t' + (i : Int) + m + 2)) (r := 1) ?_ (Or.inl rfl))
        (onLine_dv (w := -((i : Int) + (t' + m + 2))) ?_)).trans ?_
      · ring
      · ring
      · ring
      · ring
      · rw [dv_neg]; omega

/-- the line in the frame `true`, the zig-zag in the frame `false` -/
theorem line_zig_cross1 {L : Nat} (hL : 1 ≤ L) {c c' : Int} (hc : c = 0 ∨ c = 1)
    (hc' : c' = 0 ∨ c' = 1) (t' m : Int) :
    interCount (zigK L false c' t') (lineK L true c m) % 2 = if c = c' then 0 else 1 := by
  rw [inter_zig_line]
  simp only [fR_false, fL_false, fR_mem_lineK hL, fL_mem_lineK hL]
  by_cases hcc : c = c'
  · subst hcc
    rw [if_pos rfl]
    apply rsum_even
    intro i _
    refine (congrArg (fun x => x % 2) (four_terms
      (onLine_no (w := -((i : Int) + m + c + 1)) (r := 2) ?_ (Or.inr rfl))
      (onLine_no (w := -((i : Int) + m + c + 1)) (r := 1) ?_ (Or.inl rfl))
      (onLine_dv (w := -((i : Int) + m + c + 1)) ?_)
      (onLine_dv (w := -((i : Int) + m + c + 1)) ?_))).trans ?_
    · ring
    · ring
    · ring
    · ring
    · show (0 + 0 + _ + _) % 2 = 0
      omega
  · rw [if_neg hcc]
    have hcase : (c = 1 ∧ c' = 0) ∨ (c = 0 ∧ c' = 1) := by omega
    rcases hcase with ⟨rfl, rfl⟩ | ⟨rfl, rfl⟩
    · refine step_one hL (m + 1) _ (fun i => ?_)
      refine (four_terms
        (onLine_dv (w := -((i : Int) + (m + 1))) ?_)
        (onLine_no (w := -((i : Int) + m + 2)) (r := 2) ?_ (Or.inr rfl))
        (onLine_no (w := -((i : Int) + m + 2)) (r := 1) ?_ (Or.inl rfl))
        (onLine_no (w := -((i : Int) + m + 2)) (r := 1) ?_ (Or.inl rfl))).trans ?_
      · ring
      · ring
      · ring
      · ring
      · rw [dv_neg]; omega
    · refine step_one hL (m + 1) _ (fun i => ?_)
      refine (four_terms
        (onLine_no (w := -((i : Int) + m + 1)) (r := 1) ?_ (Or.inl rfl))
        (onLine_dv (w := -((i : Int) + (m + 1))) ?_)
        (onLine_no (w := -((i : Int) + m + 2)) (r := 2) ?_ (Or.inr rfl))
        (onLine_no (w := -((i : Int) + m + 2)) (r := 2) ?_ (Or.inr rfl))).trans ?_
      · ring
      · ring
      · ring
      · ring
      · rw [dv_neg]; omega

/-- odd exactly against the zig-zags of the other frame and the other colour offset -/
theorem line_zig_parity {L : Nat} (hL : 1 ≤ L) (f f' : Bool) {c c' : Int} (hc : c = 0 ∨ c = 1)
    (hc' : c' = 0 ∨ c' = 1) (t' m : Int) :
    interCount (zigK L f' c' t') (lineK L f c m) % 2 = if f ≠ f' ∧ c ≠ c' then 1 else 0 := by
  by_cases hf : f = f'
  · subst hf
    rw [if_neg (fun h => h.1 rfl)]
    by_cases hcc : c = c'
    · subst hcc
      rw [cross_zero _ _ (fun q hq hq' => zigK_lineK_disjoint hL f c t' m q hq hq')]
    · exact line_zig_same hL f (by omega) t' m
  · cases f <;> cases f'
    · exact absurd rfl hf
    · rw [line_zig_cross0 hL hc hc']
      by_cases hcc : c = c' <;> simp [hcc]
    · rw [line_zig_cross1 hL hc hc']
      by_cases hcc : c = c' <;> simp [hcc]
    · exact absurd rfl hf

end Panqec.Color666ToricCode
