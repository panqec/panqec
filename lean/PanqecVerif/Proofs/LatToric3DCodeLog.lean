/-
`Toric3DCode`, every size: the logical operators as one-letter operators on explicit key lists
(strings of X through the origin, planes of Z), their overlap with the stabilizers (even) and with
each other (the pairing table).
-/
import PanqecVerif.Proofs.LatToric3DCodeComm


namespace Panqec.Toric3DCode
open Panqec.Cubic3D

def lxK0 (Lx : Nat) : List Coord := (range2 1 (2 * (Lx : Int))).map fun x => [x, 0, 0]
def lxK1 (Ly : Nat) : List Coord := (range2 1 (2 * (Ly : Int))).map fun y => [0, y, 0]
def lxK2 (Lz : Nat) : List Coord := (range2 1 (2 * (Lz : Int))).map fun z => [0, 0, z]
def lzK0 (Ly Lz : Nat) : List Coord :=
  grid2 (range2 0 (2 * (Ly : Int))) (range2 0 (2 * (Lz : Int))) fun y z => [1, y, z]
def lzK1 (Lz Lx : Nat) : List Coord :=
  grid2 (range2 0 (2 * (Lz : Int))) (range2 0 (2 * (Lx : Int))) fun z x => [x, 1, z]
def lzK2 (Lx Ly : Nat) : List Coord :=
  grid2 (range2 0 (2 * (Lx : Int))) (range2 0 (2 * (Ly : Int))) fun x y => [x, y, 1]

theorem logX_eq (Lx Ly Lz : Nat) :
    logX Lx Ly Lz = [uop (lxK0 Lx) Pauli.X, uop (lxK1 Ly) Pauli.X, uop (lxK2 Lz) Pauli.X] := by
  simp only [logX, lxK0, lxK1, lxK2, uop_map]

theorem logZ_eq (Lx Ly Lz : Nat) :
    logZ Lx Ly Lz = [uop (lzK0 Ly Lz) Pauli.Z, uop (lzK1 Lz Lx) Pauli.Z, uop (lzK2 Lx Ly) Pauli.Z] := by
  simp only [logZ, lzK0, lzK1, lzK2, uop_grid2]

theorem mem_lxK0 {Lx : Nat} {a b c : Int} : [a, b, c] ∈ lxK0 Lx ↔ isO Lx a ∧ b = 0 ∧ c = 0 := by
  simp only [lxK0, List.mem_map, mem_rangeO, List.cons.injEq, and_true]
  constructor
  · rintro ⟨o, ho, rfl, rfl, rfl⟩; exact ⟨ho, rfl, rfl⟩
  · rintro ⟨ho, rfl, rfl⟩; exact ⟨a, ho, rfl, rfl, rfl⟩
theorem mem_lxK1 {Ly : Nat} {a b c : Int} : [a, b, c] ∈ lxK1 Ly ↔ a = 0 ∧ isO Ly b ∧ c = 0 := by
  simp only [lxK1, List.mem_map, mem_rangeO, List.cons.injEq, and_true]
  constructor
  · rintro ⟨o, ho, rfl, rfl, rfl⟩; exact ⟨rfl, ho, rfl⟩
  · rintro ⟨rfl, ho, rfl⟩; exact ⟨b, ho, rfl, rfl, rfl⟩
theorem mem_lxK2 {Lz : Nat} {a b c : Int} : [a, b, c] ∈ lxK2 Lz ↔ a = 0 ∧ b = 0 ∧ isO Lz c := by
  simp only [lxK2, List.mem_map, mem_rangeO, List.cons.injEq, and_true]
  constructor
  · rintro ⟨o, ho, rfl, rfl, rfl⟩; exact ⟨rfl, rfl, ho⟩
  · rintro ⟨rfl, rfl, ho⟩; exact ⟨c, ho, rfl, rfl, rfl⟩

theorem mem_lzK0 {Ly Lz : Nat} {a b c : Int} :
    [a, b, c] ∈ lzK0 Ly Lz ↔ a = 1 ∧ isE Ly b ∧ isE Lz c := by
  simp only [lzK0, mem_grid2, mem_rangeE, List.cons.injEq, and_true]
  constructor
  · rintro ⟨y, hy, z, hz, rfl, rfl, rfl⟩; exact ⟨rfl, hy, hz⟩
  · rintro ⟨rfl, hy, hz⟩; exact ⟨b, hy, c, hz, rfl, rfl, rfl⟩
theorem mem_lzK1 {Lz Lx : Nat} {a b c : Int} :
    [a, b, c] ∈ lzK1 Lz Lx ↔ isE Lx a ∧ b = 1 ∧ isE Lz c := by
  simp only [lzK1, mem_grid2, mem_rangeE, List.cons.injEq, and_true]
  constructor
  · rintro ⟨z, hz, x, hx, rfl, rfl, rfl⟩; exact ⟨hx, rfl, hz⟩
  · rintro ⟨hx, rfl, hz⟩; exact ⟨c, hz, a, hx, rfl, rfl, rfl⟩
theorem mem_lzK2 {Lx Ly : Nat} {a b c : Int} :
    [a, b, c] ∈ lzK2 Lx Ly ↔ isE Lx a ∧ isE Ly b ∧ c = 1 := by
  simp only [lzK2, mem_grid2, mem_rangeE, List.cons.injEq, and_true]
  constructor
  · rintro ⟨x, hx, y, hy, rfl, rfl, rfl⟩; exact ⟨hx, hy, rfl⟩
  · rintro ⟨hx, hy, rfl⟩; exact ⟨a, hx, b, hy, rfl, rfl, rfl⟩

/-! ### lines and planes along any axis

The three X strings and the three Z planes, and their lattice translates, are one line and one
plane placed along an axis: `put ax u v w` has `u` on the axis `ax` and `v`, `w` on the two axes
that follow it cyclically (the order of the loop nests of `get_logicals_z`). -/

def put : Axis → Int → Int → Int → Coord
  | .x, u, v, w => [u, v, w]
  | .y, u, v, w => [w, u, v]
  | .z, u, v, w => [v, w, u]

def nx : Axis → Axis
  | .x => .y | .y => .z | .z => .x

/-- the line along `ax` through `put ax · (2i) 0` -/
def line (Lx Ly Lz : Nat) (ax : Axis) (i : Nat) : List Coord :=
  (range2 1 (2 * (sz Lx Ly Lz ax : Int))).map fun o => put ax o (2 * (i : Int)) 0

/-- the plane normal to `ax` at `2i + 1` -/
def plane (Lx Ly Lz : Nat) (ax : Axis) (i : Nat) : List Coord :=
  grid2 (range2 0 (2 * (sz Lx Ly Lz (nx ax) : Int))) (range2 0 (2 * (sz Lx Ly Lz (nx (nx ax)) : Int)))
    fun v w => put ax (2 * (i : Int) + 1) v w

section axis
variable {Lx Ly Lz : Nat} {ax : Axis} {i : Nat} {u v w u' v' w' : Int}

theorem lxK0_eq : lxK0 Lx = line Lx Ly Lz .x 0 := rfl
theorem lxK1_eq : lxK1 Ly = line Lx Ly Lz .y 0 := rfl
theorem lxK2_eq : lxK2 Lz = line Lx Ly Lz .z 0 := rfl
theorem lzK0_eq : lzK0 Ly Lz = plane Lx Ly Lz .x 0 := rfl
theorem lzK1_eq : lzK1 Lz Lx = plane Lx Ly Lz .y 0 := rfl
theorem lzK2_eq : lzK2 Lx Ly = plane Lx Ly Lz .z 0 := rfl

theorem mem_logX {a : Op} :
    a ∈ logX Lx Ly Lz ↔ ∃ ax, a = uop (line Lx Ly Lz ax 0) Pauli.X := by
  rw [logX_eq, lxK0_eq (Ly := Ly) (Lz := Lz), lxK1_eq (Lx := Lx) (Lz := Lz),
    lxK2_eq (Lx := Lx) (Ly := Ly)]
  simp only [List.mem_cons, List.not_mem_nil, or_false]
  constructor
  · rintro (rfl | rfl | rfl)
    exacts [⟨.x, rfl⟩, ⟨.y, rfl⟩, ⟨.z, rfl⟩]
  · rintro ⟨ax, rfl⟩
    cases ax
    exacts [.inl rfl, .inr (.inl rfl), .inr (.inr rfl)]

theorem mem_logZ {a : Op} :
    a ∈ logZ Lx Ly Lz ↔ ∃ ax, a = uop (plane Lx Ly Lz ax 0) Pauli.Z := by
  rw [logZ_eq, lzK0_eq (Lx := Lx), lzK1_eq (Ly := Ly), lzK2_eq (Lz := Lz)]
  simp only [List.mem_cons, List.not_mem_nil, or_false]
  constructor
  · rintro (rfl | rfl | rfl)
    exacts [⟨.x, rfl⟩, ⟨.y, rfl⟩, ⟨.z, rfl⟩]
  · rintro ⟨ax, rfl⟩
    cases ax
    exacts [.inl rfl, .inr (.inl rfl), .inr (.inr rfl)]

theorem put_inj : put ax u v w = put ax u' v' w' ↔ u = u' ∧ v = v' ∧ w = w' := by
  cases ax <;> simp only [put, List.cons.injEq, and_true] <;> omega

theorem put_mem_qubits (hu : isO (sz Lx Ly Lz ax) u) (hv : isE (sz Lx Ly Lz (nx ax)) v)
    (hw : isE (sz Lx Ly Lz (nx (nx ax))) w) : put ax u v w ∈ qubits Lx Ly Lz := by
  cases ax
  exacts [mem_qubits.mpr (.inl ⟨hu, hv, hw⟩), mem_qubits.mpr (.inr (.inl ⟨hw, hu, hv⟩)),
    mem_qubits.mpr (.inr (.inr ⟨hv, hw, hu⟩))]

theorem mem_line {q : Coord} : q ∈ line Lx Ly Lz ax i ↔
    ∃ o, isO (sz Lx Ly Lz ax) o ∧ q = put ax o (2 * (i : Int)) 0 := by
  simp only [line, List.mem_map, mem_rangeO]
  exact ⟨fun ⟨o, ho, h⟩ => ⟨o, ho, h.symm⟩, fun ⟨o, ho, h⟩ => ⟨o, ho, h.symm⟩⟩

theorem mem_plane {q : Coord} : q ∈ plane Lx Ly Lz ax i ↔
    ∃ v w, isE (sz Lx Ly Lz (nx ax)) v ∧ isE (sz Lx Ly Lz (nx (nx ax))) w ∧
      q = put ax (2 * (i : Int) + 1) v w := by
  simp only [plane, mem_grid2, mem_rangeE]
  exact ⟨fun ⟨v, hv, w, hw, h⟩ => ⟨v, w, hv, hw, h⟩, fun ⟨v, w, hv, hw, h⟩ => ⟨v, hv, w, hw, h⟩⟩

theorem line_nodup (Lx Ly Lz : Nat) (ax : Axis) (i : Nat) : (line Lx Ly Lz ax i).Nodup :=
  List.Nodup.map (fun _ _ h => (put_inj.mp h).1) (nodup_range2 _ _)

theorem plane_nodup (Lx Ly Lz : Nat) (ax : Axis) (i : Nat) : (plane Lx Ly Lz ax i).Nodup :=
  nodup_grid2 (nodup_range2 _ _) (nodup_range2 _ _) (fun _ _ _ _ h => (put_inj.mp h).2)

theorem line_sub (hi : i < sz Lx Ly Lz (nx ax)) (h0 : 1 ≤ sz Lx Ly Lz (nx (nx ax))) :
    ∀ q ∈ line Lx Ly Lz ax i, q ∈ qubits Lx Ly Lz := by
  intro q hq
  obtain ⟨o, ho, rfl⟩ := mem_line.mp hq
  exact put_mem_qubits ho (by simp only [isE]; omega) (isE_zero h0)

theorem plane_sub (hi : i < sz Lx Ly Lz ax) : ∀ q ∈ plane Lx Ly Lz ax i, q ∈ qubits Lx Ly Lz := by
  intro q hq
  obtain ⟨v, w, hv, hw, rfl⟩ := mem_plane.mp hq
  exact put_mem_qubits (by simp only [isO]; omega) hv hw

end axis

/-! ### overlap with the stabilizers

The lines and planes are boxes (`[a, b, c] ∈ K ↔ P .x a ∧ P .y b ∧ P .z c`), and the two neighbours
of a stabilizer location along one axis are either both in such a box or both outside: the
neighbour lists meet it in an even number of keys. -/

section box
variable {Lx Ly Lz : Nat} {ax a : Axis} {x y z u v w e o : Int} {K : List Coord}
  {P : Axis → Int → Prop}
  (hK : ∀ {a b c : Int}, [a, b, c] ∈ K ↔ P .x a ∧ P .y b ∧ P .z c)
include hK

theorem ov_vertex_box (hx : P .x (predW x (2 * (Lx : Int))) ↔ P .x (x + 1))
    (hy : P .y (predW y (2 * (Ly : Int))) ↔ P .y (y + 1))
    (hz : P .z (predW z (2 * (Lz : Int))) ↔ P .z (z + 1)) :
    ov (vertexKeys Lx Ly Lz x y z) K % 2 = 0 := by
  unfold vertexKeys
  rw [ov_cons_pair (by rw [hK, hK, hx]), ov_cons_pair (by rw [hK, hK, hy]),
    ov_cons_pair (by rw [hK, hK, hz])]
  rfl

theorem ov_face_box
    (hv : P ax.fst (v - 1) ↔ P ax.fst (succW v (2 * (sz Lx Ly Lz ax.fst : Int))))
    (hw : P ax.snd (w - 1) ↔ P ax.snd (succW w (2 * (sz Lx Ly Lz ax.snd : Int)))) :
    ov (faceKeys Lx Ly Lz ax u v w) K % 2 = 0 :=
  ov_rim_box hK hv hw

end box

/-- the line through the origin along `ax` and the plane next to it normal to `ax`, one coordinate
    at a time -/
def inLine (Lx Ly Lz : Nat) (ax a : Axis) (t : Int) : Prop :=
  if a = ax then isO (sz Lx Ly Lz a) t else t = 0
def inPlane (Lx Ly Lz : Nat) (ax a : Axis) (t : Int) : Prop :=
  if a = ax then t = 1 else isE (sz Lx Ly Lz a) t

section
variable {Lx Ly Lz : Nat} {ax a : Axis} {x y z e o : Int}

theorem mem_line0 : [x, y, z] ∈ line Lx Ly Lz ax 0 ↔
    inLine Lx Ly Lz ax .x x ∧ inLine Lx Ly Lz ax .y y ∧ inLine Lx Ly Lz ax .z z := by
  cases ax
  exacts [mem_lxK0, mem_lxK1, mem_lxK2]

theorem mem_plane0 : [x, y, z] ∈ plane Lx Ly Lz ax 0 ↔
    inPlane Lx Ly Lz ax .x x ∧ inPlane Lx Ly Lz ax .y y ∧ inPlane Lx Ly Lz ax .z z := by
  cases ax
  exacts [mem_lzK0, mem_lzK1, mem_lzK2]

theorem inLine_pair (he : isE (sz Lx Ly Lz a) e) :
    inLine Lx Ly Lz ax a (predW e (2 * (sz Lx Ly Lz a : Int))) ↔ inLine Lx Ly Lz ax a (e + 1) := by
  unfold inLine
  split
  exacts [iff_of_true (vO_p he) (vO_s he), pairE_zero he]

theorem inPlane_pair (ho : isO (sz Lx Ly Lz a) o) :
    inPlane Lx Ly Lz ax a (o - 1) ↔ inPlane Lx Ly Lz ax a (succW o (2 * (sz Lx Ly Lz a : Int))) := by
  unfold inPlane
  split
  exacts [pairO_one ho, iff_of_true (fE_m ho) (fE_s ho)]

end

theorem ov_line_plane {Lx Ly Lz : Nat} (hLx : 1 ≤ Lx) (hLy : 1 ≤ Ly) (hLz : 1 ≤ Lz)
    (ax ax' : Axis) :
    ov (line Lx Ly Lz ax 0) (plane Lx Ly Lz ax' 0) = if ax = ax' then 1 else 0 := by
  have h1 := le_sz hLx hLy hLz
  split
  next h =>
    subst h
    refine ov_eq_one (line_nodup _ _ _ _ _) (put ax 1 0 0)
      (mem_line.mpr ⟨1, isO_one (h1 _), rfl⟩) fun q hq => ?_
    obtain ⟨o, ho, rfl⟩ := mem_line.mp hq
    constructor
    · intro h
      obtain ⟨v, w, -, -, e⟩ := mem_plane.mp h
      exact put_inj.mpr ⟨by have := (put_inj.mp e).1; omega, by omega, rfl⟩
    · intro e
      exact mem_plane.mpr ⟨0, 0, isE_zero (h1 _), isE_zero (h1 _),
        put_inj.mpr ⟨by have := (put_inj.mp e).1; omega, by omega, rfl⟩⟩
  next h =>
    refine ov_eq_zero fun q hq hq' => ?_
    obtain ⟨o, -, rfl⟩ := mem_line.mp hq
    obtain ⟨v, w, -, -, e⟩ := mem_plane.mp hq'
    cases ax <;> cases ax' <;> simp [put] at e h

end Panqec.Toric3DCode
