/-
RhombicPlanarCode lattice model: arithmetic characterisation of the coordinate lists (the
`on_edge` and `edge_triangle` tests of `get_stabilizer_coordinates` are redundant), and the closed
form of `get_stabilizer` for cubes and triangles: the constant-letter operator on the candidate
locations that are qubits.  A cube operator and a triangle operator share an even number of qubits
(also at the boundaries, where both are truncated by the `is_qubit` filter); hence all pairs of
stabilizer generators commute.  Every size.
-/
import PanqecVerif.Proofs.LatRhombic
import PanqecVerif.Model.Lattices.RhombicPlanarCode
open Panqec Panqec.Lat3Db Panqec.Rhombic
namespace Panqec.RhombicPlanarCode

/-- qubit on an x-edge / y-edge / z-edge -/
def QX (Lx Ly Lz : Nat) (x y z : Int) : Prop := R1 (2*Lx+1) x ∧ R0 (2*Ly) y ∧ R0 (2*Lz) z
def QY (Lx Ly Lz : Nat) (x y z : Int) : Prop := R2 (2*Lx) x ∧ R1 (2*Ly-1) y ∧ R0 (2*Lz) z
def QZ (Lx Ly Lz : Nat) (x y z : Int) : Prop := R2 (2*Lx) x ∧ R0 (2*Ly) y ∧ R1 (2*Lz-1) z

/-- member of `range(-1, b, 2)` -/
def RM (b : Nat) (y : Int) : Prop := y % 2 = 1 ∧ -1 ≤ y ∧ y < b

/-- coloured cube -/
def SC (Lx Ly Lz : Nat) (x y z : Int) : Prop :=
  R1 (2*Lx) x ∧ RM (2*Ly) y ∧ R1 (2*Lz-1) z ∧ (x + y + z) % 4 = 1

/-- `rough_triangle` as a proposition -/
def Rough (Ly : Nat) (a y : Int) : Prop :=
  (y = 0 ∧ (a = 1 ∨ a = 2)) ∨ (y = 2*(Ly:Int)-2 ∧ (a = 0 ∨ a = 3))

/-- triangle location -/
def ST (Lx Ly Lz : Nat) (a x y z : Int) : Prop :=
  IsAxis a ∧ R2 (2*Lx) x ∧ R0 (2*Ly) y ∧ R0 (2*Lz) z ∧ ¬ Rough Ly a y

instance (Lx Ly Lz : Nat) (x y z : Int) : Decidable (QX Lx Ly Lz x y z) := by unfold QX; infer_instance
instance (Lx Ly Lz : Nat) (x y z : Int) : Decidable (QY Lx Ly Lz x y z) := by unfold QY; infer_instance
instance (Lx Ly Lz : Nat) (x y z : Int) : Decidable (QZ Lx Ly Lz x y z) := by unfold QZ; infer_instance

theorem mem_rangeM1 (b : Nat) (y : Int) : y ∈ rangeM1 b ↔ RM b y := by
  unfold rangeM1 RM
  rw [List.mem_cons, mem_pyRange2_1]; unfold R1; omega

theorem nodup_rangeM1 (b : Nat) : (rangeM1 b).Nodup := by
  unfold rangeM1
  rw [List.nodup_cons]
  refine ⟨?_, nodup_pyRange2 1 b⟩
  rw [mem_pyRange2_1]; unfold R1; omega

theorem nodup_box (a1 b1 a2 b2 a3 b3 : Nat) (p : Int → Int → Int → Bool) :
    (grid3 (pyRange2 a1 b1) (pyRange2 a2 b2) (pyRange2 a3 b3) p).Nodup :=
  nodup_grid3 _ _ _ _ (nodup_pyRange2 _ _) (nodup_pyRange2 _ _) (nodup_pyRange2 _ _)

theorem mem_qubits_iff (Lx Ly Lz : Nat) (x y z : Int) :
    [x, y, z] ∈ qubits Lx Ly Lz ↔ QX Lx Ly Lz x y z ∨ QY Lx Ly Lz x y z ∨ QZ Lx Ly Lz x y z := by
  unfold qubits QX QY QZ
  simp only [List.mem_append, mem_grid3_cons, mem_pyRange2_0, mem_pyRange2_1, mem_pyRange2_2, allTrue,
    and_true, or_assoc]

theorem isQubit_iff (Lx Ly Lz : Nat) (x y z : Int) :
    isQubit Lx Ly Lz [x, y, z] = true ↔ QX Lx Ly Lz x y z ∨ QY Lx Ly Lz x y z ∨ QZ Lx Ly Lz x y z := by
  unfold isQubit
  rw [List.contains_iff_mem, mem_qubits_iff]

theorem mem_qubits_shape (Lx Ly Lz : Nat) (s : Coord) (h : s ∈ qubits Lx Ly Lz) :
    ∃ x y z, s = [x, y, z] := by
  unfold qubits at h
  simp only [List.mem_append, mem_grid3] at h
  rcases h with (⟨x, y, z, rfl, _⟩ | ⟨x, y, z, rfl, _⟩) | ⟨x, y, z, rfl, _⟩ <;> exact ⟨x, y, z, rfl⟩

/-- `on_edge` is never true inside the cube loop -/
theorem cubeKeep_iff (Ly Lz : Nat) (x y z : Int) (hz : R1 (2*Lz-1) z) :
    cubeKeep Ly Lz x y z = true ↔ (x + y + z) % 4 = 1 := by
  unfold R1 at hz
  have h1 : (z == -1) = false := by simp; omega
  have h2 : (z == 2*(Lz:Int)-1) = false := by simp; omega
  simp [cubeKeep, onEdge, h1, h2]

/-- `edge_triangle` implies `rough_triangle`: the filter of the triangle loop is `not rough_triangle` -/
theorem triKeep_iff (Ly Lz : Nat) (a x y z : Int) :
    triKeep Ly Lz a x y z = true ↔ ¬ Rough Ly a y := by
  unfold triKeep Rough
  have hr : roughTriangle Ly a y = true ↔
      (y = 0 ∧ (a = 1 ∨ a = 2)) ∨ (y = 2*(Ly:Int)-2 ∧ (a = 0 ∨ a = 3)) := by
    simp [roughTriangle]
  have he : edgeTriangle Ly Lz a x y z = true → roughTriangle Ly a y = true := by
    rw [hr]
    simp only [edgeTriangle, Bool.or_eq_true, Bool.and_eq_true, beq_iff_eq, bne_iff_ne]
    rintro (((⟨⟨_, h⟩, (⟨_, rfl⟩ | ⟨_, rfl⟩)⟩ | ⟨⟨_, h⟩, (⟨_, rfl⟩ | ⟨_, rfl⟩)⟩) |
      ⟨⟨_, h⟩, (⟨_, rfl⟩ | ⟨_, rfl⟩)⟩) | ⟨⟨_, h⟩, (⟨_, rfl⟩ | ⟨_, rfl⟩)⟩) <;> simp [h]
  rw [← hr]
  cases h1 : edgeTriangle Ly Lz a x y z <;> cases h2 : roughTriangle Ly a y <;> simp_all

theorem mem_stabs_cube (Lx Ly Lz : Nat) (x y z : Int) :
    [x, y, z] ∈ stabs Lx Ly Lz ↔ SC Lx Ly Lz x y z := by
  unfold stabs SC
  simp only [List.mem_append, mem_grid3_cons, mem_pyRange2_1, mem_rangeM1, List.mem_flatMap,
    List.mem_map]
  constructor
  · rintro (⟨h1, h2, h3, h4⟩ | ⟨ax, _, c, hc, h⟩)
    · exact ⟨h1, h2, h3, (cubeKeep_iff Ly Lz x y z h3).mp h4⟩
    · rw [mem_grid3] at hc
      obtain ⟨a, b, d, rfl, _⟩ := hc
      simp at h
  · rintro ⟨h1, h2, h3, h4⟩
    exact Or.inl ⟨h1, h2, h3, (cubeKeep_iff Ly Lz x y z h3).mpr h4⟩

theorem mem_stabs_tri (Lx Ly Lz : Nat) (a x y z : Int) :
    [a, x, y, z] ∈ stabs Lx Ly Lz ↔ ST Lx Ly Lz a x y z := by
  unfold stabs ST IsAxis
  simp only [List.mem_append, List.mem_flatMap, List.mem_map, List.cons.injEq, List.mem_cons,
    List.not_mem_nil, or_false]
  constructor
  · rintro (h | ⟨a', ha, c, hc, rfl, rfl⟩)
    · rw [mem_grid3] at h
      obtain ⟨a', b, d, h, _⟩ := h
      simp at h
    · rw [mem_grid3_cons] at hc
      simp only [mem_pyRange2_0, mem_pyRange2_2, triKeep_iff] at hc
      exact ⟨ha, hc⟩
  · rintro ⟨ha, hc⟩
    refine Or.inr ⟨a, ha, [x, y, z], ?_, rfl, rfl⟩
    rw [mem_grid3_cons]
    simp only [mem_pyRange2_0, mem_pyRange2_2, triKeep_iff]
    exact hc

theorem mem_stabs_shape (Lx Ly Lz : Nat) (s : Coord) (h : s ∈ stabs Lx Ly Lz) :
    (∃ x y z, s = [x, y, z]) ∨ (∃ a x y z, s = [a, x, y, z]) := by
  unfold stabs at h
  simp only [List.mem_append, List.mem_flatMap, List.mem_map, mem_grid3] at h
  rcases h with ⟨x, y, z, rfl, _⟩ | ⟨a, _, c, ⟨x, y, z, rfl, _⟩, rfl⟩
  · exact Or.inl ⟨x, y, z, rfl⟩
  · exact Or.inr ⟨a, x, y, z, rfl⟩

/-- the twelve edges of the cube `(x, y, z)` in the order of `delta` -/
def cubeLocs (x y z : Int) : List Coord :=
  [[x + 1, y + 1, z], [x - 1, y - 1, z], [x + 1, y - 1, z], [x - 1, y + 1, z],
   [x + 1, y, z + 1], [x - 1, y, z - 1], [x + 1, y, z - 1], [x - 1, y, z + 1],
   [x, y + 1, z + 1], [x, y - 1, z - 1], [x, y - 1, z + 1], [x, y + 1, z - 1]]

/-- the three legs of a triangle at the vertex `(x, y, z)` with sign vector `(sx, sy, sz)` -/
def triLocs (sx sy sz x y z : Int) : List Coord :=
  [[x + sx, y, z], [x, y + sy, z], [x, y, z + sz]]

theorem cubeLocs_eq (x y z : Int) : cubeLocs x y z = Rhombic.cubeLocs x y z := rfl

theorem map_cubeDelta (x y z : Int) : cubeDelta.map (addC [x, y, z]) = cubeLocs x y z := by
  simp [cubeDelta, addC, cubeLocs, Int.sub_eq_add_neg]

theorem map_triDelta (a x y z : Int) (ha : IsAxis a) :
    (triDelta a x y z).map (addC [x, y, z]) = triLocs (sgnX a) (sgnY a) (sgnZ a x y z) x y z := by
  rw [triDelta_eq a x y z ha]
  simp [addC, triLocs]

theorem isStab_cube (Lx Ly Lz : Nat) (x y z : Int) (h : SC Lx Ly Lz x y z) :
    isStab Lx Ly Lz [x, y, z] = true := by
  unfold isStab; rw [List.contains_iff_mem, mem_stabs_cube]; exact h

theorem isStab_tri (Lx Ly Lz : Nat) (a x y z : Int) (h : ST Lx Ly Lz a x y z) :
    isStab Lx Ly Lz [a, x, y, z] = true := by
  unfold isStab; rw [List.contains_iff_mem, mem_stabs_tri]; exact h

def cubeKeys (Lx Ly Lz : Nat) (x y z : Int) : List Coord := (cubeLocs x y z).filter (isQubit Lx Ly Lz)

def triKeys (Lx Ly Lz : Nat) (a x y z : Int) : List Coord :=
  (triLocs (sgnX a) (sgnY a) (sgnZ a x y z) x y z).filter (isQubit Lx Ly Lz)

theorem mem_cubeKeys {Lx Ly Lz : Nat} {x y z p q r : Int} :
    [p, q, r] ∈ cubeKeys Lx Ly Lz x y z ↔
      [p, q, r] ∈ Rhombic.cubeLocs x y z ∧ (QX Lx Ly Lz p q r ∨ QY Lx Ly Lz p q r ∨ QZ Lx Ly Lz p q r) := by
  unfold cubeKeys
  rw [List.mem_filter, isQubit_iff, cubeLocs_eq]

theorem mem_triKeys {Lx Ly Lz : Nat} {a x y z p q r : Int} :
    [p, q, r] ∈ triKeys Lx Ly Lz a x y z ↔
      ((p = x + sgnX a ∧ q = y ∧ r = z) ∨ (p = x ∧ q = y + sgnY a ∧ r = z) ∨
        (p = x ∧ q = y ∧ r = z + sgnZ a x y z)) ∧
      (QX Lx Ly Lz p q r ∨ QY Lx Ly Lz p q r ∨ QZ Lx Ly Lz p q r) := by
  unfold triKeys triLocs
  rw [List.mem_filter, isQubit_iff]
  simp only [List.mem_cons, List.cons.injEq, and_true, List.not_mem_nil, or_false]

theorem triKeys_sub_legs {Lx Ly Lz : Nat} {b u v w : Int} {e : Coord} (h : e ∈ triKeys Lx Ly Lz b u v w) :
    e ∈ Rhombic.legs b u v w := (List.mem_filter.mp h).1

theorem getStab_cube (Lx Ly Lz : Nat) (x y z : Int) (h : SC Lx Ly Lz x y z) :
    getStab Lx Ly Lz [x, y, z] = constOp (cubeKeys Lx Ly Lz x y z) Pauli.X := by
  unfold getStab getStab? cubeKeys
  simp only [isStab_cube Lx Ly Lz x y z h, Bool.not_true, Bool.false_eq_true, if_false,
    Option.getD_some, map_cubeDelta]
  exact buildOp_eq _ _ _ (nodup_cubeLocs x y z)

theorem getStab_tri (Lx Ly Lz : Nat) (a x y z : Int) (h : ST Lx Ly Lz a x y z) :
    getStab Lx Ly Lz [a, x, y, z] = constOp (triKeys Lx Ly Lz a x y z) Pauli.Z := by
  unfold getStab getStab? triKeys
  simp only [isStab_tri Lx Ly Lz a x y z h, Bool.not_true, Bool.false_eq_true, if_false,
    Option.getD_some, map_triDelta a x y z h.1]
  exact buildOp_eq _ _ _ (nodup_triLocs _ _ _ x y z (sgnX_pm a) (sgnY_pm a))

theorem nodup_cubeKeys (Lx Ly Lz : Nat) (x y z : Int) : (cubeKeys Lx Ly Lz x y z).Nodup :=
  (nodup_cubeLocs x y z).filter _

theorem nodup_triKeys (Lx Ly Lz : Nat) (a x y z : Int) : (triKeys Lx Ly Lz a x y z).Nodup :=
  (nodup_triLocs _ _ _ x y z (sgnX_pm a) (sgnY_pm a)).filter _

/-- `rough_triangle` in terms of the y sign of the triangle -/
theorem rough_iff (Ly : Nat) (a y : Int) (ha : IsAxis a) :
    Rough Ly a y ↔ (y = 0 ∧ sgnY a = -1) ∨ (y = 2*(Ly:Int)-2 ∧ sgnY a = 1) := by
  unfold Rough sgnY
  rcases ha with rfl | rfl | rfl | rfl <;> simp

section legs
variable {Lx Ly Lz : Nat} {vx vy vz sx sy : Int}

theorem legX_qubit (hvx : R2 (2*Lx) vx) (hvy : R0 (2*Ly) vy) (hvz : R0 (2*Lz) vz) (hsx : U sx) :
    QX Lx Ly Lz (vx + sx) vy vz := by
  refine ⟨?_, hvy, hvz⟩
  unfold R2 at hvx
  unfold U at hsx
  unfold R1
  omega

theorem legY_qubit (hvx : R2 (2*Lx) vx) (hvy : R0 (2*Ly) vy) (hvz : R0 (2*Lz) vz) (hsy : U sy)
    (hr : ¬ ((vy = 0 ∧ sy = -1) ∨ (vy = 2*(Ly:Int)-2 ∧ sy = 1))) :
    QY Lx Ly Lz vx (vy + sy) vz := by
  refine ⟨hvx, ?_, hvz⟩
  unfold R0 at hvy
  unfold U at hsy
  unfold R1
  omega

end legs

theorem tri_cube_even (Lx Ly Lz : Nat) (a vx vy vz cx cy cz : Int) (hv : ST Lx Ly Lz a vx vy vz)
    (hc : SC Lx Ly Lz cx cy cz) :
    ovl (triKeys Lx Ly Lz a vx vy vz) (cubeKeys Lx Ly Lz cx cy cz) % 2 = 0 := by
  obtain ⟨ha, hvx, hvy, hvz, hr⟩ := hv
  obtain ⟨hcx, hcy, hcz, hp⟩ := hc
  rw [rough_iff Ly a vy ha] at hr
  have hX := (isQubit_iff Lx Ly Lz _ _ _).mpr (Or.inl (legX_qubit hvx hvy hvz (sgnX_pm a)))
  have hY := (isQubit_iff Lx Ly Lz _ _ _).mpr (Or.inr (Or.inl (legY_qubit hvx hvy hvz (sgnY_pm a) hr)))
  -- the z leg may be missing (bottom and top layers), but not at the height of a cube
  refine Rhombic.tri_cube_even (isQubit Lx Ly Lz) hvx.1 hvy.1 hvz.1 hcx.1 hcy.1 hcz.1 (sgnX_pm a)
    (sgnY_pm a) (sgnZ_pm a vx vy vz) hp (sgn_parity a vx vy vz ha hvx.1 hvy.1 hvz.1)
    (iff_of_true hX hY) fun e => iff_of_true hY ?_
  rw [isQubit_iff, ← e]
  exact Or.inr (Or.inr ⟨hvx, hvy, hcz⟩)

def IsCubeKeys (Lx Ly Lz : Nat) (k : List Coord) : Prop :=
  ∃ x y z, SC Lx Ly Lz x y z ∧ k = cubeKeys Lx Ly Lz x y z

def IsTriKeys (Lx Ly Lz : Nat) (k : List Coord) : Prop :=
  ∃ a x y z, ST Lx Ly Lz a x y z ∧ k = triKeys Lx Ly Lz a x y z

theorem IsCubeKeys.nodup {Lx Ly Lz : Nat} {k : List Coord} (h : IsCubeKeys Lx Ly Lz k) : k.Nodup := by
  obtain ⟨x, y, z, _, rfl⟩ := h; exact nodup_cubeKeys Lx Ly Lz x y z

theorem IsTriKeys.nodup {Lx Ly Lz : Nat} {k : List Coord} (h : IsTriKeys Lx Ly Lz k) : k.Nodup := by
  obtain ⟨a, x, y, z, _, rfl⟩ := h; exact nodup_triKeys Lx Ly Lz a x y z

theorem getStab_cases (Lx Ly Lz : Nat) (s : Coord) (hs : s ∈ stabs Lx Ly Lz) :
    (∃ k, IsCubeKeys Lx Ly Lz k ∧ getStab Lx Ly Lz s = constOp k Pauli.X) ∨
    (∃ k, IsTriKeys Lx Ly Lz k ∧ getStab Lx Ly Lz s = constOp k Pauli.Z) := by
  rcases mem_stabs_shape Lx Ly Lz s hs with ⟨x, y, z, rfl⟩ | ⟨a, x, y, z, rfl⟩
  · have h := (mem_stabs_cube Lx Ly Lz x y z).mp hs
    exact Or.inl ⟨_, ⟨x, y, z, h, rfl⟩, getStab_cube Lx Ly Lz x y z h⟩
  · have h := (mem_stabs_tri Lx Ly Lz a x y z).mp hs
    exact Or.inr ⟨_, ⟨a, x, y, z, h, rfl⟩, getStab_tri Lx Ly Lz a x y z h⟩

theorem tri_cube_keys_even {Lx Ly Lz : Nat} {kt kc : List Coord} (ht : IsTriKeys Lx Ly Lz kt)
    (hc : IsCubeKeys Lx Ly Lz kc) : ovl kt kc % 2 = 0 := by
  obtain ⟨cx, cy, cz, hc, rfl⟩ := hc
  obtain ⟨a, x, y, z, hv, rfl⟩ := ht
  exact tri_cube_even Lx Ly Lz a x y z cx cy cz hv hc

theorem stab_comm (Lx Ly Lz : Nat) (s t : Coord) (hs : s ∈ stabs Lx Ly Lz) (ht : t ∈ stabs Lx Ly Lz) :
    opCommute (getStab Lx Ly Lz s) (getStab Lx Ly Lz t) = true := by
  rcases getStab_cases Lx Ly Lz s hs with ⟨k, hk, e⟩ | ⟨k, hk, e⟩ <;>
  rcases getStab_cases Lx Ly Lz t ht with ⟨k', hk', e'⟩ | ⟨k', hk', e'⟩ <;> rw [e, e']
  · exact opCommute_constOp_same _ _ _
  · exact opCommute_of_ovl_even' _ _ _ _ hk.nodup hk'.nodup (tri_cube_keys_even hk' hk)
  · exact opCommute_of_ovl_even _ _ _ _ (tri_cube_keys_even hk hk')
  · exact opCommute_constOp_same _ _ _

end Panqec.RhombicPlanarCode
