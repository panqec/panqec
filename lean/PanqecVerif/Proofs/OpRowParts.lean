/-
The X and Z halves of the assembled row `opRow Q op` of a dict operator: letter by letter in
general, and as the scaled indicator of the keys for a one-letter operator.
-/
import PanqecVerif.Proofs.OpCommCore
import PanqecVerif.Proofs.Lat2DBase
import PanqecVerif.Proofs.CodeCss

namespace Panqec

theorem letter_const (K : List Coord) (P : Pauli) (q : Coord) :
    Op.letter (K.map (fun k => (k, P))) q = if K.contains q then P else Pauli.I := by
  unfold Op.letter
  rw [Lat2D.get?_const]
  split <;> rfl

theorem xPart_opRow (Q : List Coord) (op : Op) :
    xPart (opRow Q op) = Q.map (fun q => (Op.letter op q).xBit) := by
  unfold opRow opString
  rw [xPart_pauliToBsf, List.map_map]; rfl

theorem zPart_opRow (Q : List Coord) (op : Op) :
    zPart (opRow Q op) = Q.map (fun q => (Op.letter op q).zBit) := by
  unfold opRow opString
  rw [zPart_pauliToBsf, List.map_map]; rfl

theorem xPart_row (Q K : List Coord) (P : Pauli) :
    xPart (opRow Q (K.map (fun k => (k, P)))) =
      Q.map (fun q => if K.contains q then P.xBit else 0) := by
  rw [xPart_opRow]
  apply List.map_congr_left
  intro q _
  rw [letter_const]
  split <;> rfl

theorem zPart_row (Q K : List Coord) (P : Pauli) :
    zPart (opRow Q (K.map (fun k => (k, P)))) =
      Q.map (fun q => if K.contains q then P.zBit else 0) := by
  rw [zPart_opRow]
  apply List.map_congr_left
  intro q _
  rw [letter_const]
  split <;> rfl

theorem any_zero (Q : List Coord) (c : Coord → Bool) :
    (Q.map (fun q => if c q then 0 else 0)).any (· ≠ 0) = false := by
  rw [List.any_eq_false]
  intro x hx
  rw [List.mem_map] at hx
  obtain ⟨q, _, rfl⟩ := hx
  split <;> simp

theorem any_ind (Q K : List Coord) (q : Coord) (hq : q ∈ Q) (hk : q ∈ K) :
    (Q.map (fun q => if K.contains q then 1 else 0)).any (· ≠ 0) = true := by
  rw [List.any_eq_true]
  refine ⟨1, ?_, by simp⟩
  rw [List.mem_map]
  exact ⟨q, hq, by simp [hk]⟩

theorem xFlag_opRow_const (Q K : List Coord) (P : Pauli) (hP : P.xBit = 1) (q : Coord) (hq : q ∈ Q)
    (hk : q ∈ K) : xFlag (opRow Q (K.map (fun k => (k, P)))) = true := by
  unfold xFlag
  rw [xPart_row, hP]
  exact any_ind Q K q hq hk

end Panqec
