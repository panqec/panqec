/-
Soundness of the packed-bitmask checker: `xorSelect` versus `xorCombo`, picked
generators form a sublist, minimum of a concatenation.  Core Lean only.
-/
import PanqecVerif.Proofs.MaskPrimitives
import PanqecVerif.Proofs.RowCombos

namespace Panqec

/-- the low `w` bits of `sel` as a selection list -/
def selBits : Nat → Nat → List Bool
  | 0, _ => []
  | w + 1, s => decide (s % 2 = 1) :: selBits w (s / 2)

theorem selBits_length : ∀ (w s : Nat), (selBits w s).length = w
  | 0, _ => rfl
  | w + 1, s => by simp [selBits, selBits_length w]

theorem unpackBits_xorSelect (m : Nat) : ∀ (rows : List Nat) (sel : Nat),
    unpackBits m (xorSelect rows sel) =
      xorCombo m (selBits rows.length sel) (rows.map (unpackBits m))
  | [], _ => by simp [xorSelect, selBits, xorCombo, unpackBits_zero]
  | r :: rs, sel => by
    have ih := unpackBits_xorSelect m rs (sel / 2)
    by_cases hs : sel % 2 = 1
    · simp [xorSelect, selBits, xorCombo, hs, unpackBits_xor, ih]
    · simp [xorSelect, selBits, xorCombo, hs, ih]

theorem inSpan_unpack_xorSelect (m : Nat) (rows : List Nat) (sel : Nat) :
    InSpan m (rows.map (unpackBits m)) (unpackBits m (xorSelect rows sel)) :=
  ⟨selBits rows.length sel, by simp [selBits_length], (unpackBits_xorSelect m rows sel).symm⟩

/-- at width `2n`; the size hypothesis is not needed -/
theorem unpackBits_xorSelect_fit (n : Nat) (rows : List Nat) (sel : Nat)
    (_h : ∀ r ∈ rows, r < 2 ^ (2 * n)) :
    unpackBits (2 * n) (xorSelect rows sel) =
      xorCombo (2 * n) (selBits rows.length sel) (rows.map (unpackBits (2 * n))) :=
  unpackBits_xorSelect (2 * n) rows sel

theorem basisIdxSorted_cons : ∀ (a : Nat) (rest : List Nat),
    basisIdxSorted (a :: rest) = true → (∀ i ∈ rest, a < i) ∧ basisIdxSorted rest = true
  | _, [], _ => by simp [basisIdxSorted]
  | a, b :: rest, h => by
    simp only [basisIdxSorted, Bool.and_eq_true, decide_eq_true_eq] at h
    have ih := basisIdxSorted_cons b rest h.2
    refine ⟨?_, h.2⟩
    intro i hi
    rcases List.mem_cons.mp hi with rfl | hi
    · exact h.1
    · exact Nat.lt_trans h.1 (ih.1 i hi)

theorem pairwise_of_basisIdxSorted : ∀ idx : List Nat, basisIdxSorted idx = true →
    idx.Pairwise (· < ·)
  | [], _ => .nil
  | a :: rest, h =>
    .cons (basisIdxSorted_cons a rest h).1
      (pairwise_of_basisIdxSorted rest (basisIdxSorted_cons a rest h).2)

theorem map_getD_sublist {α : Type} (d : α) (l : List α) (idx : List Nat)
    (hs : basisIdxSorted idx = true) (hb : ∀ i ∈ idx, i < l.length) :
    (idx.map fun i => l.getD i d).Sublist l := by
  have h := List.map_getElem_sublist (l := l) (is := idx.pmap Fin.mk hb)
    ((List.pairwise_pmap hb).mpr ((pairwise_of_basisIdxSorted idx hs).imp fun h _ _ => h))
  have e : (idx.pmap Fin.mk hb).map (l[·]) = idx.map fun i => l.getD i d := by
    rw [List.map_pmap, ← List.pmap_eq_map hb]
    exact List.pmap_congr_left idx fun i _ _ _ => List.getElem_eq_getD d
  rwa [e] at h

theorem foldl_min_assoc : ∀ (l : List Nat) (a b : Nat),
    List.foldl min (min a b) l = min a (List.foldl min b l)
  | [], _, _ => rfl
  | x :: l, a, b => by
    simp only [List.foldl_cons]
    rw [Nat.min_assoc, foldl_min_assoc l]

theorem listMin_append_cons (a : Nat) (as : List Nat) (b : Nat) (bs : List Nat) :
    listMin ((a :: as) ++ (b :: bs)) = some (min (as.foldl min a) (bs.foldl min b)) := by
  simp only [List.cons_append, listMin, List.foldl_append, List.foldl_cons]
  rw [foldl_min_assoc]

end Panqec
