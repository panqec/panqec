/-
`find_connected_components` on the `connected_planes` dict: when every element of every
neighbour set is a key of the dict, no look-up fails, and every component is a non-empty list of
keys (whatever order `list(set)` produces).
-/
import PanqecVerif.Proofs.XCubeDecPlane

namespace Panqec.XCube

open Panqec

variable {W α : Type}

def keysOf (pd : PlaneDict α) : List Int := pd.map (·.1)

theorem get?_eq_some_mem {pd : PlaneDict α} {k : Int} {v : α} (h : pd.get? k = some v) : (k, v) ∈ pd := by
  unfold PlaneDict.get? at h
  cases hf : pd.find? (·.1 == k) with
  | none => rw [hf] at h; cases h
  | some e =>
    rw [hf] at h
    simp only [Option.map_some, Option.some.injEq] at h
    have hm := List.mem_of_find?_eq_some hf
    have hk := List.find?_some hf
    simp only [beq_iff_eq] at hk
    rw [← hk, ← h]; exact hm

theorem get?_isSome_of_mem {pd : PlaneDict α} {k : Int} (h : k ∈ keysOf pd) : ∃ v, pd.get? k = some v := by
  unfold keysOf at h
  obtain ⟨e, he, rfl⟩ := List.mem_map.mp h
  unfold PlaneDict.get?
  cases hf : pd.find? (·.1 == e.1) with
  | none =>
    have := List.find?_eq_none.mp hf e he
    simp at this
  | some e' => exact ⟨e'.2, rfl⟩

theorem keysOf_put (pd : PlaneDict α) (k : Int) (v : α) : keysOf (pd.put k v) = keysOf pd := by
  unfold keysOf PlaneDict.put
  rw [List.map_map]
  apply List.map_congr_left
  intro e _
  simp only [Function.comp]
  split
  · rename_i h; simp only [beq_iff_eq] at h; exact h.symm
  · rfl

theorem mem_put {pd : PlaneDict α} {k : Int} {v : α} {e : Int × α} (h : e ∈ pd.put k v) :
    e ∈ pd ∨ e = (k, v) := by
  unfold PlaneDict.put at h
  obtain ⟨e', he', rfl⟩ := List.mem_map.mp h
  split
  · right; rfl
  · left; exact he'

theorem spec_get_key {pd : PlaneDict α} {k : Int} (h : k ∈ keysOf pd) (E : XErr → Prop) :
    Spec (orKeyError [k] (pd.get? k) : Out W α) E (fun v => pd.get? k = some v) := by
  obtain ⟨v, hv⟩ := get?_isSome_of_mem h
  exact spec_orKeyError (fun hn => by rw [hv] at hn; cases hn) fun _ h => h

theorem mem_setAdd {l : List Int} {v x : Int} : x ∈ setAdd l v ↔ x ∈ l ∨ x = v := by
  unfold setAdd
  split
  · rename_i h
    constructor
    · exact Or.inl
    · rintro (h1 | rfl)
      · exact h1
      · exact List.contains_iff_mem.mp h
  · simp

theorem mem_foldl_setAdd {new : List Int} : ∀ {rest : List Int} {x : Int},
    x ∈ new.foldl setAdd rest → x ∈ rest ∨ x ∈ new := by
  induction new with
  | nil => intro rest x h; exact Or.inl h
  | cons a new ih =>
    intro rest x h
    simp only [List.foldl_cons] at h
    rcases ih h with h1 | h1
    · rcases mem_setAdd.mp h1 with h2 | rfl
      · exact Or.inl h2
      · exact Or.inr (List.mem_cons_self ..)
    · exact Or.inr (List.mem_cons_of_mem _ h1)

def CpOk (nb : PlaneDict (List Int)) : Prop := ∀ e ∈ nb, ∀ v ∈ e.2, v ∈ keysOf nb

theorem spec_component (nb : PlaneDict (List Int)) (hnb : CpOk nb) :
    ∀ (fuel : Nat) (nodes seen inComp : List Int),
      (∀ x ∈ nodes, x ∈ keysOf nb) → (∀ x ∈ inComp, x ∈ keysOf nb) →
      Spec (component nb fuel nodes seen inComp : Out W _) DecOrHang
        (fun r => (∀ x ∈ r.1, x ∈ keysOf nb) ∧ ∀ x ∈ inComp, x ∈ r.1)
  | _, [], _, inComp, _, hc => by unfold component; exact spec_pure ⟨hc, fun x hx => hx⟩
  | 0, _ :: _, _, _, _, _ => by unfold component; exact spec_raise (Or.inl rfl)
  | fuel + 1, node :: rest, seen, inComp, hn, hc => by
    unfold component
    have hnode : node ∈ keysOf nb := hn node (List.mem_cons_self ..)
    refine spec_bind (spec_get_key hnode _) fun ns hns => ?_
    have hmem := get?_eq_some_mem hns
    refine Spec.mono (spec_component nb hnb fuel _ _ _ (fun x hx => ?_) (fun x hx => ?_)) fun r hr =>
      ⟨hr.1, fun x hx => hr.2 x (mem_setAdd.mpr (Or.inl hx))⟩
    · rcases mem_foldl_setAdd hx with h | h
      · exact hn x (List.mem_cons_of_mem _ h)
      · exact hnb _ hmem x (List.mem_filter.mp h).1
    · rcases mem_setAdd.mp hx with h | rfl
      · exact hc x h
      · exact hnode

theorem spec_connectedComponents (order : List Int → List Int)
    (horder : ∀ l x, x ∈ order l ↔ x ∈ l) (nb : PlaneDict (List Int)) (hnb : CpOk nb) :
    Spec (connectedComponents order nb : Out W _) DecOrHang
      (fun comps => ∀ comp ∈ comps, comp ≠ [] ∧ ∀ x ∈ comp, x ∈ keysOf nb) := by
  unfold connectedComponents
  refine spec_bind (spec_forM' (fun st => ∀ comp ∈ st.1, comp ≠ [] ∧ ∀ x ∈ comp, x ∈ keysOf nb)
    (fun st node hnode hI => ?_) _ (by intro comp h; cases h)) fun st hst => spec_pure hst
  have hk : ∀ x ∈ [node], x ∈ keysOf nb := by
    intro x hx; rw [List.mem_singleton.mp hx]; exact hnode
  split
  · exact spec_pure hI
  · refine spec_bind (spec_component nb hnb _ [node] st.2 [node] hk hk) fun r hr => spec_pure ?_
    intro comp hcomp
    rcases List.mem_append.mp hcomp with h | h
    · exact hI comp h
    · rw [List.mem_singleton.mp h]
      have hnode_in : node ∈ order r.1 := (horder _ _).mpr (hr.2 node (List.mem_singleton.mpr rfl))
      exact ⟨List.ne_nil_of_mem hnode_in, fun x hx => hr.1 x ((horder _ _).mp hx)⟩

end Panqec.XCube
