/-
`Servable` for `Color3DCode`, `Color488Code`, `Color666PlanarCode`, all sizes of their families (the
2-D colour codes with a square size parameter where the class only builds a code for square sizes).
-/
import PanqecVerif.Proofs.GuiReprEdits
import PanqecVerif.Proofs.LatColor3DCodeWF
import PanqecVerif.Proofs.LatColor488CodeCss
import PanqecVerif.Proofs.LatColor666PlanarCodeCss

namespace Panqec.GuiRepr
open Panqec.Gui

theorem color3D_tables :
    classTablesOk Generated.GuiFull.tables "Color3DCode" color3DTypes = true := by decide +kernel

theorem color3DType_mem (x y z : Int) : (Color3DCode.typeOf x y z).toString ∈ color3DTypes := by
  have := Color3DCode.typeOf_ne_keyError x y z
  cases h : Color3DCode.typeOf x y z <;> first | decide | exact absurd h this

/-- `Color3DCode` offers no deformation -/
theorem color3D_servable (Lx Ly Lz : Nat) (h : C01Color3DCode.Family Lx Ly Lz) :
    Servable (color3D Lx Ly Lz) Generated.GuiFull.tables color3DTypes "None" where
  wf := Color3DCode.wf_all h.1.1 h.2.1.1 h.2.2.1 h.1.2 h.2.1.2 h.2.2.2
  tables := color3D_tables
  stab_types := by
    intro s hs
    have hb : Lat2D.isIn (Color3DCode.stabs Lx Ly Lz) s = true := List.contains_iff_mem.mpr hs
    obtain ⟨x, y, z, rfl, _⟩ := Color3DCode.mem_stabs.mp hs
    dsimp only [color3D, Color3DCode.stabilizerType, Color3DCode.stabilizerTypeIn]
    rw [hb]
    exact ⟨_, color3DType_mem x y z, rfl⟩
  qubit_axes := by
    intro q hq
    dsimp only [color3D, Color3DCode.lattice] at hq
    obtain ⟨a, b, c, rfl, _⟩ := (Color3DCode.mem_qubits h.1.1 h.2.1.1 h.2.2.1).mp hq
    exact ⟨"x", rfl⟩
  stab_edits := color3DStabEdits_simple
  qubit_edits := noEdits_simple
  deformation := Or.inl rfl

theorem color488_tables :
    classTablesOk Generated.GuiFull.tables "Color488Code" color488Types = true := by decide +kernel

theorem color488_servable (L : Nat) (hL : 1 ≤ L) (name : String) (hn : name = "None" ∨ name = "XXZZ") :
    Servable (color488 L L) Generated.GuiFull.tables color488Types name where
  wf := (Color488Code.css hL hL).wf
  tables := color488_tables
  stab_types := by
    intro s hs
    have hb : Lat2D.isIn (Color488Code.stabs L L) s = true := List.contains_iff_mem.mpr hs
    obtain ⟨x, y, p, rfl, _⟩ := Color488Code.mem_stabs.mp hs
    dsimp only [color488, Color488Code.stabilizerType, Color488Code.stabilizerTypeIn]
    refine guarded_type hb ⟨_, xzType_mem ?_ p, rfl⟩
    (repeat' split) <;> decide
  qubit_axes := by
    intro q hq
    obtain ⟨a, b, rfl, _⟩ := (Color488Code.mem_qubits hL hL).mp hq
    exact ⟨"x", rfl⟩
  stab_edits := color488StabEdits_simple L L
  qubit_edits := noEdits_simple
  deformation := by
    refine hn.imp_right fun h q hq => ?_
    show (ofDeformResult (Color488Code.getDeformation name q)).isSome = true
    obtain ⟨x, y, rfl, _⟩ := (Color488Code.mem_qubits hL hL).mp hq
    rw [h]
    unfold Color488Code.getDeformation
    simp only [if_true]
    split <;> rfl

theorem color666Planar_tables :
    classTablesOk Generated.GuiFull.tables "Color666PlanarCode" color666Types = true := by decide +kernel

/-- `Color666PlanarCode` offers no deformation (and ignores `Ly`) -/
theorem color666Planar_servable (Lx Ly : Nat) (hx : 1 ≤ Lx) :
    Servable (color666Planar Lx Ly) Generated.GuiFull.tables color666Types "None" where
  wf := (Color666PlanarCode.css hx).wf
  tables := color666Planar_tables
  stab_types := by
    intro s hs
    have hb : Color666PlanarCode.isStabilizer Lx Ly s = true := List.contains_iff_mem.mpr hs
    obtain ⟨x, y, p, rfl, _⟩ := Color666PlanarCode.mem_stabs (L' := Ly) |>.mp hs
    dsimp only [color666Planar, Color666PlanarCode.stabilizerType]
    refine guarded_type hb ⟨_, xzType_mem ?_ p, rfl⟩
    (repeat' split) <;> decide
  qubit_axes := by
    intro q hq
    obtain ⟨a, b, rfl, _⟩ := (Color666PlanarCode.mem_qubits hx).mp hq
    exact ⟨"x", rfl⟩
  stab_edits := color666PlanarStabEdits_simple Lx
  qubit_edits := noEdits_simple
  deformation := Or.inl rfl

end Panqec.GuiRepr
