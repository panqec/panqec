/-
RhombicToricCode lattice model: arithmetic characterisation of the coordinate lists (the list of
qubits is that of `XCubeCode`, `qubits_eq`, and what is known about it is taken from
`Proofs/LatXCubeCodeBasics.lean`), the periodic wrap as if-then-else (`XCubeCode.up` / `dn`, and `step`
here), and the closed form of `get_stabilizer` for cubes and triangles: the constant-letter operator
on the candidate locations that are qubits.  The twelve wrapped candidates of a cube are distinct
for sizes ≥ 2.
-/
import PanqecVerif.Proofs.LatRhombic
import PanqecVerif.Proofs.LatXCubeCodeBasics
import PanqecVerif.Model.Lattices.RhombicToricCode
open Panqec Panqec.Lat3Db Panqec.Rhombic
open Panqec.XCubeCode (up dn up_spec dn_spec pmod_up pmod_dn pmod_id pmod_succ_nowrap pmod_pred_nowrap)
namespace Panqec.RhombicToricCode

/-- qubit on an x-edge / y-edge / z-edge -/
def QX (Lx Ly Lz : Nat) (x y z : Int) : Prop := R1 (2*Lx) x ∧ R0 (2*Ly) y ∧ R0 (2*Lz) z
def QY (Lx Ly Lz : Nat) (x y z : Int) : Prop := R0 (2*Lx) x ∧ R1 (2*Ly) y ∧ R0 (2*Lz) z
def QZ (Lx Ly Lz : Nat) (x y z : Int) : Prop := R0 (2*Lx) x ∧ R0 (2*Ly) y ∧ R1 (2*Lz) z

/-- coloured cube -/
def SC (Lx Ly Lz : Nat) (x y z : Int) : Prop :=
  R1 (2*Lx) x ∧ R1 (2*Ly) y ∧ R1 (2*Lz) z ∧ (x + y + z) % 4 = 1

/-- triangle -/
def ST (Lx Ly Lz : Nat) (a x y z : Int) : Prop :=
  IsAxis a ∧ R0 (2*Lx) x ∧ R0 (2*Ly) y ∧ R0 (2*Lz) z

instance (Lx Ly Lz : Nat) (x y z : Int) : Decidable (QX Lx Ly Lz x y z) := by unfold QX; infer_instance
instance (Lx Ly Lz : Nat) (x y z : Int) : Decidable (QY Lx Ly Lz x y z) := by unfold QY; infer_instance
instance (Lx Ly Lz : Nat) (x y z : Int) : Decidable (QZ Lx Ly Lz x y z) := by unfold QZ; infer_instance

/-- the list of edges is that of `XCubeCode` (the two Python classes build the same list) and what is
    known about it is XCubeCode's; the three lemmas below keep a name of the class because proofs
    rewrite with them -/
theorem qubits_eq (Lx Ly Lz : Nat) : qubits Lx Ly Lz = XCubeCode.qubits Lx Ly Lz := rfl
theorem isQubit_eq (Lx Ly Lz : Nat) : isQubit Lx Ly Lz = XCubeCode.isQubit Lx Ly Lz := rfl

theorem mem_qubits_iff (Lx Ly Lz : Nat) (x y z : Int) :
    [x, y, z] ∈ qubits Lx Ly Lz ↔ QX Lx Ly Lz x y z ∨ QY Lx Ly Lz x y z ∨ QZ Lx Ly Lz x y z :=
  XCubeCode.mem_qubits_iff Lx Ly Lz x y z

theorem isQubit_iff (Lx Ly Lz : Nat) (x y z : Int) :
    isQubit Lx Ly Lz [x, y, z] = true ↔ QX Lx Ly Lz x y z ∨ QY Lx Ly Lz x y z ∨ QZ Lx Ly Lz x y z :=
  XCubeCode.isQubit_iff Lx Ly Lz x y z

theorem mem_qubits_shape (Lx Ly Lz : Nat) (s : Coord) (h : s ∈ qubits Lx Ly Lz) :
    ∃ x y z, s = [x, y, z] := XCubeCode.mem_qubits_shape Lx Ly Lz s h

theorem mem_stabs_cube (Lx Ly Lz : Nat) (x y z : Int) :
    [x, y, z] ∈ stabs Lx Ly Lz ↔ SC Lx Ly Lz x y z := by
  unfold stabs SC
  simp only [List.mem_append, mem_grid3_cons, mem_pyRange2_1, List.mem_flatMap, List.mem_map, cubeKeep,
    beq_iff_eq]
  constructor
  · rintro (h | ⟨ax, _, c, hc, h⟩)
    · exact h
    · rw [mem_grid3] at hc
      obtain ⟨a, b, d, rfl, _⟩ := hc
      simp at h
  · intro h; exact Or.inl h

theorem mem_stabs_tri (Lx Ly Lz : Nat) (a x y z : Int) :
    [a, x, y, z] ∈ stabs Lx Ly Lz ↔ ST Lx Ly Lz a x y z := by
  unfold stabs ST IsAxis
  simp only [List.mem_append, List.mem_flatMap, List.mem_map, List.cons.injEq, List.mem_cons,
    List.not_mem_nil, or_false]
  constructor
  · rintro (h | ⟨a', ha, c, hc, rfl, rfl⟩)
    · rw [mem_grid3] at h
      obtain ⟨a', b, d, h, _⟩ := h
      simp at h
    · rw [mem_grid3_cons] at hc
      simp only [mem_pyRange2_0, allTrue, and_true] at hc
      exact ⟨ha, hc⟩
  · rintro ⟨ha, hc⟩
    refine Or.inr ⟨a, ha, [x, y, z], ?_, rfl, rfl⟩
    rw [mem_grid3_cons]
    simp only [mem_pyRange2_0, allTrue, and_true]
    exact hc

theorem mem_stabs_shape (Lx Ly Lz : Nat) (s : Coord) (h : s ∈ stabs Lx Ly Lz) :
    (∃ x y z, s = [x, y, z]) ∨ (∃ a x y z, s = [a, x, y, z]) := by
  unfold stabs at h
  simp only [List.mem_append, List.mem_flatMap, List.mem_map, mem_grid3] at h
  rcases h with ⟨x, y, z, rfl, _⟩ | ⟨a, _, c, ⟨x, y, z, rfl, _⟩, rfl⟩
  · exact Or.inl ⟨x, y, z, rfl⟩
  · exact Or.inr ⟨a, x, y, z, rfl⟩

/-- `(v + s) % P` for an even `0 ≤ v < P` and `s = ±1`: the lower neighbour wraps -/
def step (P : Nat) (v s : Int) : Int := if s = 1 then v + 1 else dn P v

theorem step_pos (P : Nat) (v : Int) : step P v 1 = v + 1 := if_pos rfl
theorem step_neg (P : Nat) (v : Int) : step P v (-1) = dn P v := if_neg (by decide)

/-- the twelve edges of the cube `(x, y, z)` (odd coordinates) in the order of `delta`: the upper
    neighbour wraps -/
def cubeLocs (Lx Ly Lz : Nat) (x y z : Int) : List Coord :=
  [[up (2*Lx) x, up (2*Ly) y, z], [x - 1, y - 1, z], [up (2*Lx) x, y - 1, z], [x - 1, up (2*Ly) y, z],
   [up (2*Lx) x, y, up (2*Lz) z], [x - 1, y, z - 1], [up (2*Lx) x, y, z - 1], [x - 1, y, up (2*Lz) z],
   [x, up (2*Ly) y, up (2*Lz) z], [x, y - 1, z - 1], [x, y - 1, up (2*Lz) z], [x, up (2*Ly) y, z - 1]]

/-- the three legs of a triangle at the vertex `(x, y, z)` with sign vector `(sx, sy, sz)` -/
def triLocs (Lx Ly Lz : Nat) (sx sy sz x y z : Int) : List Coord :=
  [[step (2*Lx) x sx, y, z], [x, step (2*Ly) y sy, z], [x, y, step (2*Lz) z sz]]

theorem map_cubeDelta (Lx Ly Lz : Nat) (x y z : Int) (hx : R1 (2*Lx) x) (hy : R1 (2*Ly) y)
    (hz : R1 (2*Lz) z) : cubeDelta.map (wrapAdd Lx Ly Lz x y z) = cubeLocs Lx Ly Lz x y z := by
  unfold R1 at hx hy hz
  have ex := pmod_up (2*Lx) x (by omega) (by omega)
  have ey := pmod_up (2*Ly) y (by omega) (by omega)
  have ez := pmod_up (2*Lz) z (by omega) (by omega)
  have dx := pmod_pred_nowrap (2*Lx) x (by omega) (by omega)
  have dy := pmod_pred_nowrap (2*Ly) y (by omega) (by omega)
  have dz := pmod_pred_nowrap (2*Lz) z (by omega) (by omega)
  have ix := pmod_id (2*Lx) x (by omega) (by omega)
  have iy := pmod_id (2*Ly) y (by omega) (by omega)
  have iz := pmod_id (2*Lz) z (by omega) (by omega)
  simp only [cubeDelta, wrapAdd, List.map_cons, List.map_nil, cubeLocs, ex, ey, ez, dx, dy, dz, ix, iy, iz]

theorem pmod_step (P : Nat) (v s : Int) (hP : P % 2 = 0) (hv : R0 P v) (hs : U s) : pmod (v + s) P = step P v s := by
  unfold R0 at hv
  rcases hs with rfl | rfl
  · rw [step_pos]; exact pmod_succ_nowrap P v (by omega) (by omega)
  · rw [step_neg]; exact pmod_dn P v (by omega) (by omega)

theorem map_triDelta (Lx Ly Lz : Nat) (a x y z : Int) (ha : IsAxis a) (hx : R0 (2*Lx) x)
    (hy : R0 (2*Ly) y) (hz : R0 (2*Lz) z) :
    (triDelta a x y z).map (wrapAdd Lx Ly Lz x y z) =
      triLocs Lx Ly Lz (sgnX a) (sgnY a) (sgnZ a x y z) x y z := by
  rw [triDelta_eq a x y z ha]
  have ix := pmod_id (2*Lx) x hx.2.1 hx.2.2
  have iy := pmod_id (2*Ly) y hy.2.1 hy.2.2
  have iz := pmod_id (2*Lz) z hz.2.1 hz.2.2
  simp only [wrapAdd, List.map_cons, List.map_nil, triLocs, ix, iy, iz,
    pmod_step (2*Lx) _ _ (by omega) hx (sgnX_pm a), pmod_step (2*Ly) _ _ (by omega) hy (sgnY_pm a),
    pmod_step (2*Lz) _ _ (by omega) hz (sgnZ_pm a x y z)]

theorem step_spec (P : Nat) (v s : Int) (hP : P % 2 = 0) (hv : R0 P v) (hs : U s) : R1 P (step P v s) := by
  unfold R0 at hv; unfold R1
  have := dn_spec P v
  rcases hs with rfl | rfl
  · rw [step_pos]; omega
  · rw [step_neg]; omega

theorem up_R0 (L : Nat) {x : Int} (h : R1 (2*L) x) : R0 (2*L) (up (2*L) x) := by
  have := up_spec (2*L) x
  unfold R1 at h; unfold R0; omega
theorem pred_R0 (L : Nat) {x : Int} (h : R1 (2*L) x) : R0 (2*L) (x - 1) := by
  unfold R1 at h; unfold R0; omega

theorem nodup_cubeLocs (Lx Ly Lz : Nat) (x y z : Int) (hx : 2 ≤ Lx) (hy : 2 ≤ Ly) (hz : 2 ≤ Lz)
    (h : SC Lx Ly Lz x y z) : (cubeLocs Lx Ly Lz x y z).Nodup := by
  obtain ⟨h1, h2, h3, _⟩ := h
  unfold R1 at h1 h2 h3
  have ux := up_spec (2*Lx) x
  have uy := up_spec (2*Ly) y
  have uz := up_spec (2*Lz) z
  exact nodup_cube6 (by omega) (by omega) (by omega)

theorem nodup_triLocs (Lx Ly Lz : Nat) (sx sy sz x y z : Int) (hsx : U sx) (hsy : U sy)
    (hx : R0 (2*Lx) x) (hy : R0 (2*Ly) y) : (triLocs Lx Ly Lz sx sy sz x y z).Nodup := by
  have h1 := step_spec (2*Lx) x sx (by omega) hx hsx
  have h2 := step_spec (2*Ly) y sy (by omega) hy hsy
  exact nodup_legs3 (by have := h1.1; have := hx.1; omega) (by have := h2.1; have := hy.1; omega)

theorem isStab_cube (Lx Ly Lz : Nat) (x y z : Int) (h : SC Lx Ly Lz x y z) :
    isStab Lx Ly Lz [x, y, z] = true := by
  unfold isStab; rw [List.contains_iff_mem, mem_stabs_cube]; exact h

theorem isStab_tri (Lx Ly Lz : Nat) (a x y z : Int) (h : ST Lx Ly Lz a x y z) :
    isStab Lx Ly Lz [a, x, y, z] = true := by
  unfold isStab; rw [List.contains_iff_mem, mem_stabs_tri]; exact h

def cubeKeys (Lx Ly Lz : Nat) (x y z : Int) : List Coord :=
  (cubeLocs Lx Ly Lz x y z).filter (isQubit Lx Ly Lz)

def triKeys (Lx Ly Lz : Nat) (a x y z : Int) : List Coord :=
  (triLocs Lx Ly Lz (sgnX a) (sgnY a) (sgnZ a x y z) x y z).filter (isQubit Lx Ly Lz)

theorem getStab_cube (Lx Ly Lz : Nat) (x y z : Int) (hx : 2 ≤ Lx) (hy : 2 ≤ Ly) (hz : 2 ≤ Lz)
    (h : SC Lx Ly Lz x y z) :
    getStab Lx Ly Lz [x, y, z] = constOp (cubeKeys Lx Ly Lz x y z) Pauli.X := by
  unfold getStab getStab? cubeKeys
  simp only [isStab_cube Lx Ly Lz x y z h, Bool.not_true, Bool.false_eq_true, if_false,
    Option.getD_some, map_cubeDelta Lx Ly Lz x y z h.1 h.2.1 h.2.2.1]
  rw [buildOp_eq _ _ _ (nodup_cubeLocs Lx Ly Lz x y z hx hy hz h)]

theorem getStab_tri (Lx Ly Lz : Nat) (a x y z : Int) (h : ST Lx Ly Lz a x y z) :
    getStab Lx Ly Lz [a, x, y, z] = constOp (triKeys Lx Ly Lz a x y z) Pauli.Z := by
  unfold getStab getStab? triKeys
  simp only [isStab_tri Lx Ly Lz a x y z h, Bool.not_true, Bool.false_eq_true, if_false,
    Option.getD_some, map_triDelta Lx Ly Lz a x y z h.1 h.2.1 h.2.2.1 h.2.2.2]
  rw [buildOp_eq _ _ _ (nodup_triLocs Lx Ly Lz _ _ _ x y z (sgnX_pm a) (sgnY_pm a) h.2.1 h.2.2.1)]

theorem nodup_cubeKeys (Lx Ly Lz : Nat) (x y z : Int) (hx : 2 ≤ Lx) (hy : 2 ≤ Ly) (hz : 2 ≤ Lz)
    (h : SC Lx Ly Lz x y z) : (cubeKeys Lx Ly Lz x y z).Nodup :=
  (nodup_cubeLocs Lx Ly Lz x y z hx hy hz h).filter _

theorem nodup_triKeys (Lx Ly Lz : Nat) (a x y z : Int) (h : ST Lx Ly Lz a x y z) :
    (triKeys Lx Ly Lz a x y z).Nodup :=
  (nodup_triLocs Lx Ly Lz _ _ _ x y z (sgnX_pm a) (sgnY_pm a) h.2.1 h.2.2.1).filter _

/-- every leg of a triangle is a qubit -/
theorem triKeys_eq {Lx Ly Lz : Nat} {a x y z : Int} (h : ST Lx Ly Lz a x y z) :
    triKeys Lx Ly Lz a x y z = triLocs Lx Ly Lz (sgnX a) (sgnY a) (sgnZ a x y z) x y z := by
  obtain ⟨_, hx, hy, hz⟩ := h
  unfold triKeys
  apply List.filter_eq_self.mpr
  intro q hq
  have h1 := step_spec (2*Lx) x (sgnX a) (by omega) hx (sgnX_pm a)
  have h2 := step_spec (2*Ly) y (sgnY a) (by omega) hy (sgnY_pm a)
  have h3 := step_spec (2*Lz) z (sgnZ a x y z) (by omega) hz (sgnZ_pm a x y z)
  simp only [triLocs, List.mem_cons, List.not_mem_nil, or_false] at hq
  rcases hq with rfl | rfl | rfl <;> rw [isQubit_iff]
  · exact Or.inl ⟨h1, hy, hz⟩
  · exact Or.inr (Or.inl ⟨hx, h2, hz⟩)
  · exact Or.inr (Or.inr ⟨hx, hy, h3⟩)

theorem mem_triKeys_iff {Lx Ly Lz : Nat} {b u v w p q r : Int} (h : ST Lx Ly Lz b u v w) :
    [p, q, r] ∈ triKeys Lx Ly Lz b u v w ↔
      (p = step (2*Lx) u (sgnX b) ∧ q = v ∧ r = w) ∨ (p = u ∧ q = step (2*Ly) v (sgnY b) ∧ r = w) ∨
      (p = u ∧ q = v ∧ r = step (2*Lz) w (sgnZ b u v w)) := by
  rw [triKeys_eq h]
  simp [triLocs]

end Panqec.RhombicToricCode
