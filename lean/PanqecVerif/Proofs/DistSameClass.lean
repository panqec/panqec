/-
C17, generic: representatives that are equivalent to a listed logical only THROUGH C04.

`packing_lower_bound_symp` / `Lattice.packing_bound` need, for every representative `r` of a listed
logical `a`, that every operator commuting with all generators has the same symplectic product
with `r` as with `a`.  When `r ⊕ a` is not the product of a handful of neighbouring generators
(e.g. a closed straight line of the 6.6.6 toric colour code, which is homologous to the listed
zig-zag only modulo 2: the generators whose product relates them fill half of the torus), the C04
theorem gives it from finitely many symplectic products: `r` and `a` commute with all generators
and have the same products with the `2k` listed logicals, hence `r ⊕ a` is a product of generators
(`isSuccess_iff_inSpan`), hence commutes with everything that commutes with the generators.
-/
import PanqecVerif.Proofs.DistLattice

namespace Panqec

theorem same_class_symp {n k : Nat} {H Lx Lz : List (List Nat)} (hv : ValidCodeL n k H Lx Lz)
    {r l : List Nat} (hr : r.length = 2 * n) (hl : l.length = 2 * n)
    (hrc : ∀ g ∈ H, symp g r = 0) (hlc : ∀ g ∈ H, symp g l = 0)
    (hlog : ∀ m ∈ Lx ++ Lz, symp m r = symp m l) :
    ∀ v : List Nat, v.length = 2 * n → (∀ g ∈ H, symp g v = 0) → symp r v = symp l v := by
  intro v hvlen hvc
  have hc := hv.toCommPair
  have helen : (vxor l r).length = 2 * n := by rw [vxor_length l r (by rw [hl, hr]), hl]
  have hebin : ∀ x ∈ vxor l r, x < 2 := by
    intro x hx
    simp only [vxor, List.mem_map] at hx
    obtain ⟨y, _, rfl⟩ := hx
    omega
  have hsum : ∀ m : List Nat, symp m r = symp m l → symp m (vxor l r) = 0 := by
    intro m hm
    rw [symp_vxor_right m l r (by rw [hl, hr]), hm]
    omega
  have hs : isSuccess .wide H Lx Lz (vxor l r) = true := by
    unfold isSuccess
    rw [Bool.and_eq_true, Bool.not_eq_true', inCodespace_iff, isLogicalError_eq_false_iff]
    refine ⟨fun g hg => hsum g (by rw [hrc g hg, hlc g hg]), fun m hm => hsum m ?_,
      fun m hm => hsum m ?_⟩
    · exact hlog m (List.mem_append.mpr (Or.inr hm))
    · exact hlog m (List.mem_append.mpr (Or.inl hm))
  have hspan := (isSuccess_iff_inSpan hv .wide _ helen hebin).mp hs
  have h0 : symp v (vxor l r) = 0 :=
    symp_zero_of_inSpan hc.lenH (fun g hg => by rw [symp_comm]; exact hvc g hg) hspan
  rw [symp_vxor_right v l r (by rw [hl, hr]), symp_comm v l, symp_comm v r] at h0
  have := symp_lt_two r v
  have := symp_lt_two l v
  omega

theorem Lattice.same_class (l : Lattice) (hwf : l.WF) {n k : Nat} (hn : l.qubits.length = n)
    (hv : ValidCodeL n k l.rowsH l.rowsX l.rowsZ) {r a : Op}
    (hr : KeysNodup r ∧ opSupported l.qubits r = true)
    (ha : KeysNodup a ∧ opSupported l.qubits a = true)
    (hrc : ∀ s ∈ l.stabs, opAntiCount (l.getStab s) r % 2 = 0)
    (hac : ∀ s ∈ l.stabs, opAntiCount (l.getStab s) a % 2 = 0)
    (hlog : ∀ m ∈ l.logX ++ l.logZ, opAntiCount m r % 2 = opAntiCount m a % 2) :
    ∀ b : Op, (∀ s ∈ l.stabs, opAntiCount (l.getStab s) b % 2 = 0) →
      opAntiCount r b % 2 = opAntiCount a b % 2 := by
  subst hn
  intro b hb
  have hnd := hwf.qubits_nodup
  have hstab := fun o => (hwf.comm_rows_iff o).mpr
  have h := same_class_symp hv (opRow_length l.qubits r) (opRow_length l.qubits a)
    (hstab r hrc) (hstab a hac) (by
      intro m hm
      have hm' : m ∈ (l.logX ++ l.logZ).map (opRow l.qubits) := by
        rw [List.map_append]; exact hm
      obtain ⟨o, ho, rfl⟩ := List.mem_map.mp hm'
      have hd : KeysNodup o ∧ opSupported l.qubits o = true :=
        ⟨hwf.log_keys o ho, Lattice.WF.opSupported_of (hwf.log_supported o ho)⟩
      rw [symp_opRow l.qubits hnd _ _ hd.1 hd.2, symp_opRow l.qubits hnd _ _ hd.1 hd.2]
      exact hlog o ho)
    (opRow l.qubits b) (opRow_length l.qubits b) (hstab b hb)
  rw [symp_opRow l.qubits hnd _ _ hr.1 hr.2, symp_opRow l.qubits hnd _ _ ha.1 ha.2] at h
  exact h

/-- a one-letter representative through C04: the `P`s on `K` commute with every generator and
    anticommute with each listed logical as often (mod 2) as `a` does -/
theorem Lattice.Rep.of_class {l : Lattice} (hwf : l.WF) {n k : Nat} (hn : l.qubits.length = n)
    (hv : ValidCodeL n k l.rowsH l.rowsX l.rowsZ) {a : Op}
    (ha : KeysNodup a ∧ opSupported l.qubits a = true) (hac : l.Comm a)
    {P : Pauli} {K : List Coord} (hnd : K.Nodup) (hq : ∀ q ∈ K, q ∈ l.qubits)
    (hc : l.Comm (K.map fun q => (q, P)))
    (hlog : ∀ m ∈ l.logX ++ l.logZ,
      opAntiCount m (K.map fun q => (q, P)) % 2 = opAntiCount m a % 2) : l.Rep a P K :=
  ⟨hnd, hq, fun b hb => by
    rw [← opAntiCount_line]
    exact l.same_class hwf hn hv ⟨keysNodup_line P hnd, opSupported_line P hq⟩ ha hc hac hlog b hb⟩

end Panqec
