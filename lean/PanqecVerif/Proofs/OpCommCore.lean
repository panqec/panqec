/-
Bridge between OPERATOR-level commutation of dict operators (`opAntiCount` of
`Model/Lattices/Common.lean`: number of qubits on which two dicts carry anticommuting
letters) and the binary symplectic form on the BSF rows the generic code assembles
(`toBsf`, `stabRow`, `symp`).

Core Lean only.  The list-level consequences for a `Lattice` (`CommPairL`, `ValidCodeL`)
are in `Proofs/OpComm.lean`.

The route: `to_bsf` of a dict is `pauli_to_bsf` of the letters it carries along the qubit list
(`Op.letter`, `I` where there is no key); a count along the qubit list of a predicate of the letter
is the count along the dict entries; hence `symp` of two assembled rows is the parity of
`opAntiCount`, which is symmetric on dicts.
-/
import PanqecVerif.Model.Lattices.Common
import PanqecVerif.Proofs.CodeDictBsf
import PanqecVerif.Proofs.Deform

namespace Panqec

open Deform

theorem Pauli.anti_I_right (p : Pauli) : Pauli.anti p Pauli.I = false := by cases p <;> rfl
theorem Pauli.anti_I_left (p : Pauli) : Pauli.anti Pauli.I p = false := by cases p <;> rfl
theorem Pauli.anti_comm (p q : Pauli) : Pauli.anti p q = Pauli.anti q p := by
  cases p <;> cases q <;> rfl

theorem acomm_eq_anti (p q : Pauli) : acomm p q = if Pauli.anti p q = true then 1 else 0 := by
  cases p <;> cases q <;> rfl

/-- the letter of `op` on `q`: value of the first entry with key `q`, `I` if there is none -/
def Op.letter (op : Op) (q : Coord) : Pauli := (Op.get? op q).getD Pauli.I

theorem Op.letter_nil (q : Coord) : Op.letter [] q = Pauli.I := rfl

theorem Op.letter_cons (k : Coord) (p : Pauli) (op : Op) (q : Coord) :
    Op.letter ((k, p) :: op) q = if k = q then p else Op.letter op q := by
  unfold Op.letter Op.get?
  rw [List.find?_cons]
  by_cases h : k = q
  · simp [h]
  · have hb : (k == q) = false := by simp [h]
    simp only [hb, if_neg h]

theorem Op.letter_of_not_key : ∀ (op : Op) (q : Coord), (∀ e ∈ op, e.1 ≠ q) →
    Op.letter op q = Pauli.I
  | [], _, _ => rfl
  | (k, p) :: op, q, h => by
    rw [Op.letter_cons, if_neg (h (k, p) (by simp))]
    exact Op.letter_of_not_key op q (fun e he => h e (by simp [he]))

theorem Op.key_cases (op : Op) (q : Coord) : (∃ p, (q, p) ∈ op) ∨ (∀ e ∈ op, e.1 ≠ q) := by
  by_cases h : ∃ p, (q, p) ∈ op
  · exact Or.inl h
  · exact Or.inr fun e he heq => h ⟨e.2, heq ▸ he⟩

theorem Op.letter_eq_letterAt (op : Op) (q : Coord) : Op.letter op q = letterAt op q := by
  unfold Op.letter letterAt Op.get?
  cases op.find? (fun e => e.1 == q) <;> rfl

theorem opCount_eq_letter (op : Op) (hk : KeysNodup op) (q : Coord) (f : Pauli → Nat)
    (hf : ∀ p, f p < 2) (hI : f Pauli.I = 0) : opCount op q f = f (Op.letter op q) := by
  rw [Op.letter_eq_letterAt]
  exact opCount_eq_letterAt f hI hf op q hk

def opString (qs : List Coord) (op : Op) : List Pauli := qs.map (Op.letter op)

def opRow (qs : List Coord) (op : Op) : List Nat := pauliToBsf (opString qs op)

theorem opRow_length (qs : List Coord) (op : Op) : (opRow qs op).length = 2 * qs.length := by
  unfold opRow opString
  rw [pauliToBsf_length, List.length_map]

theorem opRow_binary (qs : List Coord) (op : Op) : ∀ x ∈ opRow qs op, x < 2 :=
  pauliToBsf_binary _

theorem toBsf_eq_opRow (qs : List Coord) (op : Op) (hk : KeysNodup op)
    (hs : opSupported qs op = true) : toBsf qs op = some (opRow qs op) := by
  rw [Deform.toBsf_eq_pauliToBsf qs op hk, if_pos hs]
  simp only [opRow, opString, funext (Op.letter_eq_letterAt op)]

theorem toBsf_eq_pauliToBsf (qs : List Coord) (op : Op) (_hnd : qs.Nodup) (hk : KeysNodup op)
    (hs : opSupported qs op = true) :
    toBsf qs op = some (pauliToBsf (qs.map fun q => (Op.get? op q).getD Pauli.I)) :=
  toBsf_eq_opRow qs op hk hs

theorem stabRow_eq_opRow (qs : List Coord) (op : Op) (hk : KeysNodup op)
    (hs : opSupported qs op = true) : stabRow qs op = some (opRow qs op) := by
  rw [stabRow_eq_toBsf qs op hk, toBsf_eq_opRow qs op hk hs]

theorem opAntiCount_eq_countP (a b : Op) :
    opAntiCount a b = a.countP (fun e => Pauli.anti e.2 (Op.letter b e.1)) := by
  unfold opAntiCount
  rw [List.countP_eq_length_filter]
  congr 1
  apply List.filter_congr
  intro e _
  unfold Op.letter
  cases Op.get? b e.1 with
  | none => simp [Pauli.anti_I_right]
  | some p => rfl

theorem acommCount_map (f g : Coord → Pauli) : ∀ qs : List Coord,
    acommCount (qs.map f) (qs.map g) = qs.countP (fun q => Pauli.anti (f q) (g q))
  | [] => rfl
  | q :: qs => by
    simp only [List.map_cons, acommCount, List.countP_cons, acomm_eq_anti,
      acommCount_map f g qs]
    omega

theorem countP_split (k : Coord) (P Q : Coord → Bool) : ∀ qs : List Coord, qs.Nodup → k ∈ qs →
    (∀ q ∈ qs, q ≠ k → P q = Q q) →
    qs.countP P + (if Q k = true then 1 else 0) = qs.countP Q + (if P k = true then 1 else 0)
  | [], _, hm, _ => by simp at hm
  | q :: qs, hnd, hm, hPQ => by
    rw [List.nodup_cons] at hnd
    rw [List.countP_cons, List.countP_cons]
    by_cases hq : q = k
    · subst hq
      have hc : qs.countP P = qs.countP Q := by
        apply List.countP_congr
        intro x hx
        have hne : x ≠ q := fun h => hnd.1 (h ▸ hx)
        rw [hPQ x (by simp [hx]) hne]
      omega
    · have hk : k ∈ qs := by
        rcases List.mem_cons.mp hm with h | h
        · exact absurd h.symm hq
        · exact h
      have ih := countP_split k P Q qs hnd.2 hk (fun x hx => hPQ x (by simp [hx]))
      have := hPQ q (by simp) hq
      rw [this]
      omega

theorem countP_letter (g : Coord → Pauli → Bool) (hg : ∀ q, g q Pauli.I = false)
    (qs : List Coord) (hnd : qs.Nodup) : ∀ a : Op, KeysNodup a → (∀ e ∈ a, e.1 ∈ qs) →
    qs.countP (fun q => g q (Op.letter a q)) = a.countP (fun e => g e.1 e.2)
  | [], _, _ => by
    simp [Op.letter_nil, hg]
  | (k, p) :: a, hk, hs => by
    rw [keysNodup_cons] at hk
    have ih := countP_letter g hg qs hnd a hk.2 (fun e he => hs e (by simp [he]))
    have hI : Op.letter a k = Pauli.I := Op.letter_of_not_key a k (fun e he => hk.1 e he)
    have hsplit := countP_split k (fun q => g q (Op.letter ((k, p) :: a) q))
      (fun q => g q (Op.letter a q)) qs hnd (hs (k, p) (by simp)) (by
        intro q _ hne
        simp only [Op.letter_cons]
        rw [if_neg (fun h => hne h.symm)])
    have hk' : Op.letter ((k, p) :: a) k = p := by rw [Op.letter_cons, if_pos rfl]
    simp only [hI, hg, hk', Bool.false_eq_true, if_false, Nat.add_zero] at hsplit
    rw [List.countP_cons, ← ih]
    exact hsplit

theorem countP_anti_eq_opAntiCount (qs : List Coord) (hnd : qs.Nodup) (a b : Op)
    (ha : KeysNodup a) (hsa : opSupported qs a = true) :
    qs.countP (fun q => Pauli.anti (Op.letter a q) (Op.letter b q)) = opAntiCount a b := by
  rw [opAntiCount_eq_countP]
  exact countP_letter (fun q p => Pauli.anti p (Op.letter b q)) (fun _ => Pauli.anti_I_left _)
    qs hnd a ha ((opSupported_iff qs a).mp hsa)

theorem symp_opRow (qs : List Coord) (hnd : qs.Nodup) (a b : Op) (ha : KeysNodup a)
    (hsa : opSupported qs a = true) :
    symp (opRow qs a) (opRow qs b) = opAntiCount a b % 2 := by
  unfold opRow opString
  rw [symp_pauliToBsf, acommCount_map, countP_anti_eq_opAntiCount qs hnd a b ha hsa]

/-- The symplectic product of the assembled BSF vectors of two dict
    operators is the parity of the number of qubits on which they carry anticommuting
    letters. -/
theorem symp_toBsf_eq_opAntiCount (qs : List Coord) (a b : Op) (va vb : List Nat)
    (hnd : qs.Nodup) (ha : KeysNodup a) (hb : KeysNodup b)
    (hsa : opSupported qs a = true) (hsb : opSupported qs b = true)
    (hva : toBsf qs a = some va) (hvb : toBsf qs b = some vb) :
    symp va vb = opAntiCount a b % 2 := by
  rw [toBsf_eq_opRow qs a ha hsa] at hva
  rw [toBsf_eq_opRow qs b hb hsb] at hvb
  cases hva
  cases hvb
  exact symp_opRow qs hnd a b ha hsa

/-- a duplicate-free list containing the keys of both dicts -/
def unionKeys (a b : Op) : List Coord :=
  a.map Prod.fst ++ (b.map Prod.fst).filter (fun q => !(a.map Prod.fst).contains q)

theorem unionKeys_nodup (a b : Op) (ha : KeysNodup a) (hb : KeysNodup b) :
    (unionKeys a b).Nodup := by
  unfold unionKeys
  rw [List.nodup_append]
  refine ⟨ha, List.Nodup.sublist List.filter_sublist hb, ?_⟩
  intro x hx y hy hxy
  subst hxy
  rw [List.mem_filter] at hy
  have := hy.2
  simp only [Bool.not_eq_true', List.contains_eq_mem, decide_eq_false_iff_not] at this
  exact this hx

theorem unionKeys_left (a b : Op) : opSupported (unionKeys a b) a = true :=
  (opSupported_iff _ a).mpr fun e he => List.mem_append_left _ (List.mem_map.mpr ⟨e, he, rfl⟩)

theorem unionKeys_right (a b : Op) : opSupported (unionKeys a b) b = true := by
  refine (opSupported_iff _ b).mpr fun e he => ?_
  by_cases h : e.1 ∈ a.map Prod.fst
  · exact List.mem_append_left _ h
  · exact List.mem_append_right _
      (List.mem_filter.mpr ⟨List.mem_map.mpr ⟨e, he, rfl⟩, by simpa using h⟩)

/-- `opAntiCount` is symmetric on dicts: both sides count the qubits carrying
    anticommuting letters -/
theorem opAntiCount_comm (a b : Op) (ha : KeysNodup a) (hb : KeysNodup b) :
    opAntiCount a b = opAntiCount b a := by
  have hnd := unionKeys_nodup a b ha hb
  rw [← countP_anti_eq_opAntiCount (unionKeys a b) hnd a b ha (unionKeys_left a b),
    ← countP_anti_eq_opAntiCount (unionKeys a b) hnd b a hb (unionKeys_right a b)]
  apply List.countP_congr
  intro q _
  rw [Pauli.anti_comm]

theorem opAntiCount_comm_mod2 {a b : Op} (ha : KeysNodup a) (hb : KeysNodup b) :
    opAntiCount a b % 2 = opAntiCount b a % 2 := by
  rw [opAntiCount_comm a b ha hb]

theorem opCommute_comm {a b : Op} (ha : KeysNodup a) (hb : KeysNodup b) :
    opCommute a b = opCommute b a := by
  unfold opCommute
  rw [opAntiCount_comm a b ha hb]

theorem opCommute_iff (a b : Op) : opCommute a b = true ↔ opAntiCount a b % 2 = 0 := by
  unfold opCommute
  simp

end Panqec
