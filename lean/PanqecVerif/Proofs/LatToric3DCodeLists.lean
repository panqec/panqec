/-
`Toric3DCode`, every size: the list clauses of `Lattice.WF` (distinctness / disjointness of the
coordinate lists), their lengths, and the fields of `lattice` as rewrite rules.
-/
import PanqecVerif.Proofs.LatToric3DCodeBasics

namespace Panqec.Toric3DCode
open Panqec.Cubic3D

theorem qubits_nodup (Lx Ly Lz : Nat) : (qubits Lx Ly Lz).Nodup := by
  unfold qubits
  have r := nodup_range2
  rw [List.nodup_append, List.nodup_append]
  refine ⟨⟨nodup_grid (r _ _) (r _ _) (r _ _), nodup_grid (r _ _) (r _ _) (r _ _), ?_⟩,
    nodup_grid (r _ _) (r _ _) (r _ _), ?_⟩
  · intro a ha b hb hab
    subst hab
    obtain ⟨x, _, y, _, z, _, rfl⟩ := mem_grid.mp ha
    simp only [mem_grid3, mem_rangeE, mem_rangeO, isE, isO] at ha hb; omega
  · intro a ha b hb hab
    subst hab
    obtain ⟨x, _, y, _, z, _, rfl⟩ := mem_grid.mp hb
    simp only [List.mem_append, mem_grid3, mem_rangeE, mem_rangeO, isE, isO] at ha hb; omega

theorem stabs_nodup (Lx Ly Lz : Nat) : (stabs Lx Ly Lz).Nodup := by
  unfold stabs
  have r := nodup_range2
  rw [List.nodup_append, List.nodup_append, List.nodup_append]
  refine ⟨⟨⟨nodup_grid (r _ _) (r _ _) (r _ _), nodup_grid (r _ _) (r _ _) (r _ _), ?_⟩,
    nodup_grid (r _ _) (r _ _) (r _ _), ?_⟩, nodup_grid (r _ _) (r _ _) (r _ _), ?_⟩
  · intro a ha b hb hab
    subst hab
    obtain ⟨x, _, y, _, z, _, rfl⟩ := mem_grid.mp ha
    simp only [mem_grid3, mem_rangeE, mem_rangeO, isE, isO] at ha hb; omega
  · intro a ha b hb hab
    subst hab
    obtain ⟨x, _, y, _, z, _, rfl⟩ := mem_grid.mp hb
    simp only [List.mem_append, mem_grid3, mem_rangeE, mem_rangeO, isE, isO] at ha hb; omega
  · intro a ha b hb hab
    subst hab
    obtain ⟨x, _, y, _, z, _, rfl⟩ := mem_grid.mp hb
    simp only [List.mem_append, mem_grid3, mem_rangeE, mem_rangeO, isE, isO] at ha hb; omega

theorem qubits_not_stabs {Lx Ly Lz : Nat} {q : Coord} (h : q ∈ qubits Lx Ly Lz) :
    q ∉ stabs Lx Ly Lz := by
  obtain ⟨x, y, z, rfl⟩ := shape_of_mem_qubits h
  rw [mem_qubits] at h
  rw [mem_stabs]
  simp only [isE, isO] at h ⊢; omega

theorem qubits_length (Lx Ly Lz : Nat) : (qubits Lx Ly Lz).length = 3 * (Lx * Ly * Lz) := by
  simp only [qubits, List.length_append, length_grid, length_rangeE, length_rangeO0]
  omega

theorem stabs_length (Lx Ly Lz : Nat) : (stabs Lx Ly Lz).length = 4 * (Lx * Ly * Lz) := by
  simp only [stabs, List.length_append, length_grid, length_rangeE, length_rangeO0]
  omega

/-! ### the fields of `lattice` (stated as rewrite rules: the elaborator is slow at seeing through
the structure projection by unification alone) -/

theorem lattice_qubits (Lx Ly Lz : Nat) : (lattice Lx Ly Lz).qubits = qubits Lx Ly Lz := by
  simp only [lattice]
theorem lattice_stabs (Lx Ly Lz : Nat) : (lattice Lx Ly Lz).stabs = stabs Lx Ly Lz := by
  simp only [lattice]
theorem lattice_getStab (Lx Ly Lz : Nat) : (lattice Lx Ly Lz).getStab = getStab Lx Ly Lz := by
  simp only [lattice]
theorem lattice_logX (Lx Ly Lz : Nat) : (lattice Lx Ly Lz).logX = logX Lx Ly Lz := by
  simp only [lattice]
theorem lattice_logZ (Lx Ly Lz : Nat) : (lattice Lx Ly Lz).logZ = logZ Lx Ly Lz := by
  simp only [lattice]

end Panqec.Toric3DCode
