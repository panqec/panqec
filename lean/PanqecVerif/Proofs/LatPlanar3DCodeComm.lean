/-
`Planar3DCode`, every size: a vertex operator and a face operator overlap on an even number of
qubits.  The untruncated neighbourhoods are a `Cubic3D.star` and a `Cubic3D.rim` and share two
locations or none (`Cubic3D.ov_rim_star`); a location in both neighbourhoods of a valid vertex and a
valid face is always a qubit, so the boundary truncation removes none of them.
-/
import PanqecVerif.Proofs.LatPlanar3DCodeStab


namespace Panqec.Planar3DCode
open Panqec.Cubic3D

/-! ### locations next to a vertex and next to a face

A neighbour of a vertex is odd in one coordinate and keeps the vertex's (even, in range) coordinates
in the other two; a neighbour of a face keeps the face's coordinate wherever it is odd.  So a common
neighbour has all three coordinates in the range of its kind of qubit. -/

section shared
variable {Lx Ly Lz : Nat} {x y z a b c p r s : Int}

theorem vertexCands_qubit (hv : isVertex Lx Ly Lz x y z) (h : [p, r, s] ∈ vertexCands x y z)
    (ho : (p % 2 = 1 → inO1 Lx p) ∧ (r % 2 = 1 → inO Ly r) ∧ (s % 2 = 1 → inO Lz s)) :
    [p, r, s] ∈ qubits Lx Ly Lz := by
  obtain ⟨hx, hy, hz⟩ := hv
  obtain ⟨ox, oy, oz⟩ := ho
  have ex := hx.2.2; have ey := hy.2.2; have ez := hz.2.2
  simp only [vertexCands, List.mem_cons, List.cons.injEq, and_true, List.not_mem_nil,
    or_false] at h
  rw [mem_qubits]
  rcases h with ⟨rfl, rfl, rfl⟩ | ⟨rfl, rfl, rfl⟩ | ⟨rfl, rfl, rfl⟩ | ⟨rfl, rfl, rfl⟩ |
    ⟨rfl, rfl, rfl⟩ | ⟨rfl, rfl, rfl⟩
  · exact Or.inl ⟨ox (by omega), hy, hz⟩
  · exact Or.inl ⟨ox (by omega), hy, hz⟩
  · exact Or.inr (Or.inl ⟨hx, oy (by omega), hz⟩)
  · exact Or.inr (Or.inl ⟨hx, oy (by omega), hz⟩)
  · exact Or.inr (Or.inr ⟨hx, hy, oz (by omega)⟩)
  · exact Or.inr (Or.inr ⟨hx, hy, oz (by omega)⟩)

theorem faceCands_odd {ax : Axis} (hf : isFace Lx Ly Lz ax a b c)
    (h : [p, r, s] ∈ faceCands ax a b c) :
    (p % 2 = 1 → inO1 Lx p) ∧ (r % 2 = 1 → inO Ly r) ∧ (s % 2 = 1 → inO Lz s) := by
  obtain ⟨ha, hb, hc⟩ := hf
  cases ax <;>
    simp only [rE, rO, Axis.fst, Axis.snd, inE, inE2, inO, inO1] at ha hb hc ⊢ <;>
    simp only [faceCands_eq, ins, List.mem_cons, List.cons.injEq, and_true, List.not_mem_nil,
      or_false] at h <;>
    rcases h with ⟨rfl, rfl, rfl⟩ | ⟨rfl, rfl, rfl⟩ | ⟨rfl, rfl, rfl⟩ | ⟨rfl, rfl, rfl⟩ <;> omega

theorem vertexCands_shape {q : Coord} (h : q ∈ vertexCands x y z) : ∃ p r s, q = [p, r, s] := by
  simp only [vertexCands, List.mem_cons, List.not_mem_nil, or_false] at h
  rcases h with rfl | rfl | rfl | rfl | rfl | rfl <;> exact ⟨_, _, _, rfl⟩

/-- the boundary removes no common neighbour of a vertex and a face -/
theorem shared_isq {cF : List Coord} (hv : isVertex Lx Ly Lz x y z)
    (hf : ∀ p r s, [p, r, s] ∈ cF →
      (p % 2 = 1 → inO1 Lx p) ∧ (r % 2 = 1 → inO Ly r) ∧ (s % 2 = 1 → inO Lz s)) :
    ∀ q ∈ vertexCands x y z, q ∈ cF → isq Lx Ly Lz q = true := by
  intro q hq hq'
  obtain ⟨p, r, s, rfl⟩ := vertexCands_shape hq
  exact isq_iff.mpr (vertexCands_qubit hv hq (hf p r s hq'))

end shared

theorem adj_iff {e o : Int} : e ∈ nbM o ↔ o ∈ nbP e := by
  simp only [nbP, nbM, List.mem_cons, List.not_mem_nil, or_false]; omega

theorem rO_ne_rE {Lx Ly Lz : Nat} {a : Axis} {o e : Int} (ho : rO Lx Ly Lz a o)
    (he : e % 2 = 0) : o ≠ e := by
  have : o % 2 = 1 := by cases a <;> exact ho.2.2
  omega

theorem ov_vertex_face {Lx Ly Lz : Nat} {ax : Axis} {x y z u v w : Int}
    (hv : isVertex Lx Ly Lz x y z) (hf : isFace Lx Ly Lz ax u v w) :
    ov (vertexKeys Lx Ly Lz x y z) (faceKeys Lx Ly Lz ax u v w) % 2 = 0 := by
  unfold vertexKeys faceKeys
  rw [ov_filter_both _ (shared_isq hv fun _ _ _ => faceCands_odd hf),
    ov_comm (vertexCands_nodup ..) (faceCands_nodup ..), vertexCands_eq]
  have ex := hv.1.2.2
  have ey := hv.2.1.2.2
  have ez := hv.2.2.2.2
  cases ax
  · exact ov_rim_star (nbM_nodup v) (nbM_nodup w) (rO_ne_rE hf.2.1 ey)
      (rO_ne_rE hf.2.2 ez) adj_iff adj_iff
  · rw [ov_congr_right fun _ => star_y]
    exact ov_rim_star (nbM_nodup v) (nbM_nodup w) (rO_ne_rE hf.2.1 ex)
      (rO_ne_rE hf.2.2 ez) adj_iff adj_iff
  · rw [ov_congr_right fun _ => star_z]
    exact ov_rim_star (nbM_nodup v) (nbM_nodup w) (rO_ne_rE hf.2.1 ex)
      (rO_ne_rE hf.2.2 ey) adj_iff adj_iff

end Panqec.Planar3DCode
