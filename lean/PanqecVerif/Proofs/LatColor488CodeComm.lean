/-
Color488Code, all sizes `Lx, Ly ≥ 1`: two faces (equal or not, seam copies included) share an even
number of qubits (the support is the delta table read through `keyAt`; `keyed_even` with the table
fact `tbl_even`); every row / column of qubits meets every face in an even number of qubits
(the corners of a face come in pairs with the same `x`, and in pairs with the same `y`).
Core Lean only.
-/
import PanqecVerif.Proofs.LatColor488CodeBasics
import PanqecVerif.Proofs.KeyedOverlap

namespace Panqec.Color488Code
open Panqec.Lat2D Panqec.Color

def tbl (x y : Int) : List (Int × Int) := if isSquare x y then deltaSquare else deltaOctagon

/-- the key written for the delta `d` at the face `(x, y)` -/
def keyAt (Lx Ly : Nat) (x y : Int) (d : Int × Int) : Coord :=
  [(x + d.1) % (8 * (Lx : Int)), (y + d.2) % (8 * (Ly : Int))]

theorem supp_keyed (Lx Ly : Nat) (x y : Int) : supp Lx Ly x y = (tbl x y).map (keyAt Lx Ly x y) := by
  rw [← candidates_eq]; rfl

/-- face centres are multiples of 4 -/
def admF (p : (Int × Int) × (Int × Int)) : Bool := (dif p).1 % 4 == 0 && (dif p).2 % 4 == 0

/-- squares and octagons: every difference of two corners that the centres of two faces can have
    is taken by an even number of pairs of corners -/
theorem tbl_even (ax ay bx by' : Int) :
    EvenClasses dif ((pairsOf (tbl ax ay) (tbl bx by')).filter admF) := by
  have h : ∀ A ∈ [deltaSquare, deltaOctagon], ∀ B ∈ [deltaSquare, deltaOctagon],
      EvenClasses dif ((pairsOf A B).filter admF) := by decide
  unfold tbl
  cases isSquare ax ay <;> cases isSquare bx by' <;> exact h _ (by simp) _ (by simp)

theorem keyAt_eq_iff (Lx Ly : Nat) (ax ay bx by' : Int) (p : (Int × Int) × (Int × Int)) :
    keyAt Lx Ly bx by' p.2 = keyAt Lx Ly ax ay p.1 ↔
      (ax - bx) % (8 * (Lx : Int)) = (-(dif p).1) % (8 * (Lx : Int)) ∧
      (ay - by') % (8 * (Ly : Int)) = (-(dif p).2) % (8 * (Ly : Int)) := by
  unfold keyAt dif
  simp only [List.cons.injEq, and_true, emod_bridge]
  rw [show p.2.1 - p.1.1 = -(p.1.1 - p.2.1) by omega, show p.2.2 - p.1.2 = -(p.1.2 - p.2.2) by omega]

theorem emod4_of_emod8L {L : Nat} {u v : Int} (h : u % (8 * (L : Int)) = v % (8 * (L : Int))) :
    u % 4 = v % 4 := by
  rw [← Int.emod_emod_of_dvd u (⟨2 * (L : Int), by omega⟩ : (4 : Int) ∣ 8 * (L : Int)), h,
    Int.emod_emod_of_dvd _ ⟨2 * (L : Int), by omega⟩]

theorem face_face_even {Lx Ly : Nat} (hx : 1 ≤ Lx) (hy : 1 ≤ Ly) {ax ay bx by' : Int} (ha : IsF Lx Ly ax ay)
    (hb : IsF Lx Ly bx by') : interCount (supp Lx Ly ax ay) (supp Lx Ly bx by') % 2 = 0 := by
  have hn := nodup_supp hx hy bx by'
  rw [supp_keyed] at hn ⊢
  rw [supp_keyed]
  refine keyed_even _ _ dif admF hn (fun p _ h => ?_) (fun p _ q _ _ _ h => ?_)
    (tbl_even ax ay bx by')
  · obtain ⟨h1, h2⟩ := (keyAt_eq_iff ..).mp h
    have := emod4_of_emod8L h1
    have := emod4_of_emod8L h2
    have := ha.1; have := ha.2.1; have := hb.1; have := hb.2.1
    simp only [admF, Bool.and_eq_true, beq_iff_eq]
    omega
  · rw [keyAt_eq_iff, keyAt_eq_iff, h]

theorem sq_pairs (π : Coord → Bool) (a a' b b' : Int)
    (h : (∀ a b b', π [a, b] = π [a, b']) ∨ (∀ a a' b, π [a, b] = π [a', b])) :
    List.countP π [[a, b], [a', b'], [a, b'], [a', b]] % 2 = 0 := by
  simp only [List.countP_cons, List.countP_nil]
  rcases h with h | h
  · rw [h a b b', h a' b' b]; omega
  · rw [h a a' b, h a a' b']; omega

theorem oc_pairs (π : Coord → Bool) (a1 a3 n1 n3 b1 b3 m1 m3 : Int)
    (h : (∀ a b b', π [a, b] = π [a, b']) ∨ (∀ a a' b, π [a, b] = π [a', b])) :
    List.countP π [[a1, m3], [a3, m1], [a3, b1], [a1, b3], [n1, b3], [n3, b1], [n3, m1], [n1, m3]]
      % 2 = 0 := by
  simp only [List.countP_cons, List.countP_nil]
  rcases h with h | h
  · rw [h a1 m3 b3, h a3 m1 b1, h n1 m3 b3, h n3 m1 b1]; omega
  · rw [h a1 n1 m3, h a3 n3 m1, h a3 n3 b1, h a1 n1 b3]; omega

/-- the corners of a face come in pairs with the same `x` and in pairs with the same `y` -/
theorem countP_supp_even (Lx Ly : Nat) (x y : Int) (π : Coord → Bool)
    (h : (∀ a b b', π [a, b] = π [a, b']) ∨ (∀ a a' b, π [a, b] = π [a', b])) :
    (supp Lx Ly x y).countP π % 2 = 0 := by
  unfold supp
  by_cases h8 : (x + y) % 8 = 0
  · rw [if_pos h8]; exact sq_pairs π _ _ _ _ h
  · rw [if_neg h8]; exact oc_pairs π _ _ _ _ _ _ _ _ h

end Panqec.Color488Code
