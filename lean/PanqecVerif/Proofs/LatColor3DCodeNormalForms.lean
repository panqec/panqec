/-
Color3DCode, even sides `≥ 2`: the number of keys of a generator that lie on a logical operator, as a
finite function.  The membership in the key list of a logical operator is given in normal form: a
Boolean table `M` of the three REDUCED coordinates — a thin coordinate (kind `thin v τ`) is reduced
to its offset from the constant `v`, clamped to `[−τ, τ] ∪ {9}`; a thick coordinate is reduced to its
residue modulo 8.  For the wrapped key `(s + d) % m` the reduced coordinate is a function of the
delta `d` and of one parameter of the location `s`: its centred difference from `v`, or its residue
modulo 8.  Core Lean only.

Tables are written for the operators along x; an operator along another axis has the table of its
kind read along that axis (`placeM`), and passes the finite check when the table does, so the kernel
sweeps cover the axis x only.
-/
import PanqecVerif.Proofs.LatColor3DCodeMembranes
import PanqecVerif.Proofs.LatColor3DCodeStrings

namespace Panqec.Color3DCode
open Panqec.Lat2D Panqec.Color

/-- the residues modulo 8 of the two free coordinates of a hexagon of a red-green membrane -/
def pairs8 : List (Int × Int) := [(1, 7), (3, 5), (5, 3), (7, 1)]

theorem mem_pairs8 {u v : Int} (hu : u % 2 = 1) (hs : (u + v) % 8 = 0) : (u % 8, v % 8) ∈ pairs8 := by
  unfold pairs8
  simp only [List.mem_cons, Prod.mk.injEq, List.not_mem_nil, or_false]
  omega

theorem pairs8_spec {p : Int × Int} (h : p ∈ pairs8) :
    p.1 % 2 = 1 ∧ 0 ≤ p.1 ∧ p.1 < 8 ∧ 0 ≤ p.2 ∧ p.2 < 8 ∧ p.1 + p.2 = 8 := by
  unfold pairs8 at h
  simp only [List.mem_cons, List.not_mem_nil, or_false] at h
  rcases h with rfl | rfl | rfl | rfl <;> decide

/-- table of a square membrane: offset 0 from the plane, in-plane pattern of the vertices -/
def TP (ρ t r1 r2 : Int) : Bool :=
  t == 0 && ((r1 % 2 == 1 && r2 % 4 == ρ) || (r1 % 4 == ρ && r2 % 2 == 1))

/-- table of the hexagon membrane orthogonal to x (thin coordinate first) -/
def TH1 (t rb rc : Int) : Bool :=
  pairs8.any fun p => (shape 3 p.1 p.2).any fun d =>
    t == d.1 && rb == (p.1 + d.2.1) % 8 && rc == (p.2 + d.2.2) % 8

theorem planePat_iff (ρ : Int) (mu mv : Nat) (p r : Int)
    (hp : 0 ≤ p ∧ p < 4 * (mu : Int)) (hr : 0 ≤ r ∧ r < 4 * (mv : Int)) :
    PlanePat ρ mu mv p r ↔
      ((p % 8 % 2 == 1 && r % 8 % 4 == ρ) || (p % 8 % 4 == ρ && r % 8 % 2 == 1)) = true := by
  unfold PlanePat
  simp only [Bool.or_eq_true, Bool.and_eq_true, beq_iff_eq]
  have e1 : p % 8 % 2 = p % 2 := by omega
  have e2 : r % 8 % 2 = r % 2 := by omega
  have e3 : p % 8 % 4 = p % 4 := by omega
  have e4 : r % 8 % 4 = r % 4 := by omega
  rw [e1, e2, e3, e4]
  constructor
  · rintro ⟨_, _, _, _, h⟩; exact h
  · intro h; exact ⟨hp.1, hp.2, hr.1, hr.2, h⟩

theorem inBox_wrap {Lx Ly Lz : Nat} (hx : 1 ≤ Lx) (hy : 1 ≤ Ly) (hz : 1 ≤ Lz) (x y z : Int) (d : D3) :
    InBox Lx Ly Lz ((x + d.1) % (4 * (Lx : Int))) ((y + d.2.1) % (4 * (Ly : Int)))
      ((z + d.2.2) % (4 * (Lz : Int))) := by
  have := wrap_range hx (x + d.1)
  have := wrap_range hy (y + d.2.1)
  have := wrap_range hz (z + d.2.2)
  unfold InBox; omega

theorem nfPlane {ρ k : Int} {L1 L2 L3 : Nat} (u v w : Int)
    (hb : InBox L1 L2 L3 u v w) :
    (u = k ∧ PlanePat ρ L2 L3 v w) ↔
      TP ρ (clamp 0 (u - k)) (v % 8) (w % 8) = true := by
  unfold TP
  rw [Bool.and_eq_true, beq_iff_eq, clamp0_iff,
    ← planePat_iff ρ L2 L3 v w ⟨hb.2.2.1, hb.2.2.2.1⟩ hb.2.2.2.2]
  exact ⟨fun ⟨h, hp⟩ => ⟨by omega, hp⟩, fun ⟨h, hp⟩ => ⟨by omega, hp⟩⟩

theorem hex_not_cell (y z : Int) : ¬ IsCellLoc 3 y z := by
  unfold IsCellLoc; omega

/-- recover a loop variable from a wrapped key coordinate: `y = (b − d) % m` is odd, has the residue
    `p` modulo 8 and is sent to `b` by the delta `d` -/
theorem unwrap {L : Nat} (hL : 2 ≤ L) (eL : L % 2 = 0) {b d p : Int} (hb : 0 ≤ b ∧ b < 4 * (L : Int))
    (hp : p % 2 = 1 ∧ 0 ≤ p ∧ p < 8) (h : b % 8 = (p + d) % 8) :
    InH L ((b - d) % (4 * (L : Int))) ∧ ((b - d) % (4 * (L : Int))) % 8 = p ∧
      ((b - d) % (4 * (L : Int)) + d) % (4 * (L : Int)) = b := by
  have r := wrap_range (L := L) (by omega) (b - d)
  have e8 := emod_emod_8 eL (b - d)
  have e2 := emod_emod_2 (L := L) (b - d)
  have e : ((b - d) % (4 * (L : Int)) + d) % (4 * (L : Int)) = b := by
    rw [Int.emod_add_emod, show b - d + d = b by omega, emod_small hb.1 hb.2]
  refine ⟨?_, by omega, e⟩
  unfold InH; omega

section
variable {Lx Ly Lz : Nat} (hx : 2 ≤ Lx) (hy : 2 ≤ Ly) (hz : 2 ≤ Lz) (ex : Lx % 2 = 0)
  (ey : Ly % 2 = 0) (ez : Lz % 2 = 0)
include hx hy hz ex ey ez

theorem nfZ3 {a b c : Int} (hb : InBox Lx Ly Lz a b c) :
    [a, b, c] ∈ kZ3 Lx Ly Lz ↔ TH1 (clamp 1 (a - 3)) (b % 8) (c % 8) = true := by
  rw [mem_kZ3 hx hy hz ex ey ez]
  unfold TH1 InBox at *
  simp only [List.any_eq_true, Bool.and_eq_true, beq_iff_eq]
  constructor
  · rintro ⟨y, z, h1, h2, hs, hq⟩
    obtain ⟨d, hd, hw⟩ := mem_keys.mp hq
    have bd := shape_face_bd (hex_not_cell _ _) d hd
    unfold Bd at bd
    simp only [List.cons.injEq, and_true] at hw
    obtain ⟨rfl, rfl, rfl⟩ := hw
    unfold InH at h1 h2
    refine ⟨(y % 8, z % 8), mem_pairs8 (by omega) hs, d, ?_, ⟨?_, ?_⟩, ?_⟩
    · rw [← shape_congr (x := 3) (y := y) (z := z) rfl (by omega) (by omega)]; exact hd
    · rw [emod_small (by omega) (by omega), show 3 + d.1 - 3 = d.1 by omega,
        (clamp1_iff (by omega)).mpr rfl]
    · exact thick_wrap (dvd8 ey)
    · exact thick_wrap (dvd8 ez)
  · rintro ⟨p, hp, d, hd, ⟨h1, h2⟩, h3⟩
    have ps := pairs8_spec hp
    have bd := shape_face_bd (hex_not_cell _ _) d hd
    unfold Bd at bd
    have ha := (clamp1_iff (by omega)).mp h1
    obtain ⟨y1, y2, y3⟩ := unwrap hy ey (b := b) (d := d.2.1) (p := p.1) (by omega) (by omega) h2
    obtain ⟨z1, z2, z3⟩ := unwrap hz ez (b := c) (d := d.2.2) (p := p.2) (by omega) (by omega) h3
    refine ⟨_, _, y1, z1, by omega, ?_⟩
    refine mem_keys.mpr ⟨d, ?_, ?_⟩
    · rw [shape_congr (x' := 3) (y' := p.1) (z' := p.2) rfl (by omega) (by omega)]; exact hd
    · rw [y3, z3, emod_small (by omega) (by omega), show 3 + d.1 = a by omega]

end

inductive Kind
  | thin (v τ : Int)
  | thick
  deriving DecidableEq

def rng7 : List Int := [-3, -2, -1, 0, 1, 2, 3]

theorem mem_rng7 {c : Int} (h1 : -3 ≤ c) (h2 : c ≤ 3) : c ∈ rng7 := by
  unfold rng7
  simp only [List.mem_cons, List.not_mem_nil, or_false]
  omega

/-- the reduced coordinate of a point -/
def redA : Kind → Int → Int
  | .thin v τ, a => clamp τ (a - v)
  | .thick, a => a % 8

/-- the parameter of a location -/
def param : Kind → Int → Int → Int
  | .thin v _, m, s => cd m s v
  | .thick, _, s => s % 8

/-- the reduced coordinate of the key written for the delta `d` at a location with parameter `p` -/
def redK : Kind → Int → Int → Int
  | .thin _ τ, p, d => clamp τ (d - p)
  | .thick, p, d => (p + d) % 8

/-- a thin kind keeps its offsets inside every period `≥ 8` -/
def Kind.Good : Kind → Prop
  | .thin v τ => 0 ≤ τ ∧ τ ≤ 1 ∧ τ ≤ v ∧ v + τ < 8
  | .thick => True

instance (k : Kind) : Decidable k.Good := by cases k <;> unfold Kind.Good <;> infer_instance

theorem red_wrap {k : Kind} {m s d : Int} (hm : 8 ≤ m) (h8 : 8 ∣ m) (hk : k.Good)
    (hd : -2 ≤ d ∧ d ≤ 2) : redA k ((s + d) % m) = redK k (param k m s) d := by
  cases k with
  | thin v τ =>
    obtain ⟨h0, h1, h2, h3⟩ := hk
    exact clamp_wrap hm h0 h1 h2 (by omega) hd
  | thick => exact thick_wrap h8

/-- the residue modulo 4 of the location, from its parameter (unless it is far from the plane) -/
theorem param_res4 {k : Kind} {m s : Int} (h4 : 4 ∣ m) :
    (match k with
     | .thin v _ => param k m s = 100 ∨ s % 4 = (v - param k m s) % 4
     | .thick => s % 4 = param k m s % 4) := by
  cases k with
  | thin v τ =>
    simp only [param]
    by_cases h : cd m s v = 100
    · exact Or.inl h
    · right
      have := cd_emod h4 h
      omega
  | thick => simp only [param]; omega

/-- number of deltas whose key lies on the logical operator -/
def cnt (M : Int → Int → Int → Bool) (kx ky kz : Kind) (Δ : List D3) (px py pz : Int) : Nat :=
  Δ.countP fun d => M (redK kx px d.1) (redK ky py d.2.1) (redK kz pz d.2.2)

/-- the key list `K` has the normal form `M` -/
def NF (Lx Ly Lz : Nat) (K : List Coord) (M : Int → Int → Int → Bool) (kx ky kz : Kind) : Prop :=
  ∀ a b c, InBox Lx Ly Lz a b c → ([a, b, c] ∈ K ↔ M (redA kx a) (redA ky b) (redA kz c) = true)

/-- a table of reduced coordinates read along the axis `ax` -/
def placeM (ax : Nat) (M : Int → Int → Int → Bool) (ra rb rc : Int) : Bool :=
  match ax with
  | 0 => M ra rb rc
  | 1 => M rb ra rc
  | _ => M rc ra rb

def placeK : Nat → Kind → Kind → Kind → Kind × Kind × Kind
  | 0, k1, k2, k3 => (k1, k2, k3)
  | 1, k1, k2, k3 => (k2, k1, k3)
  | _, k1, k2, k3 => (k2, k3, k1)

/-- a key list given as the points `place ax u v w` with `Q u v w`: a normal form of `Q` is a normal
    form of the list, read along `ax` -/
theorem NF_place {Lx Ly Lz ax L1 L2 L3 : Nat} (hs : sides ax Lx Ly Lz = (L1, L2, L3))
    {K : List Coord} {Q : Int → Int → Int → Prop} {M : Int → Int → Int → Bool} {k1 k2 k3 : Kind}
    (hK : ∀ q, q ∈ K ↔ ∃ u v w, q = place ax u v w ∧ Q u v w)
    (hQ : ∀ u v w, InBox L1 L2 L3 u v w →
      (Q u v w ↔ M (redA k1 u) (redA k2 v) (redA k3 w) = true)) :
    NF Lx Ly Lz K (placeM ax M) (placeK ax k1 k2 k3).1 (placeK ax k1 k2 k3).2.1
      (placeK ax k1 k2 k3).2.2 := by
  have hm : ∀ u v w, place ax u v w ∈ K ↔ Q u v w := fun u v w => (hK _).trans
    ⟨fun ⟨u', v', w', e, h⟩ => by obtain ⟨rfl, rfl, rfl⟩ := place_inj e; exact h,
      fun h => ⟨u, v, w, rfl, h⟩⟩
  rcases ax with _ | _ | n <;> simp only [sides, Prod.mk.injEq] at hs <;>
    obtain ⟨rfl, rfl, rfl⟩ := hs <;> intro a b c ⟨a0, a1, b0, b1, c0, c1⟩
  · exact (hm a b c).trans (hQ a b c ⟨a0, a1, b0, b1, c0, c1⟩)
  · exact (hm b a c).trans (hQ b a c ⟨b0, b1, a0, a1, c0, c1⟩)
  · exact (hm c a b).trans (hQ c a b ⟨c0, c1, a0, a1, b0, b1⟩)

theorem count_keys {Lx Ly Lz : Nat} (hx : 2 ≤ Lx) (hy : 2 ≤ Ly) (hz : 2 ≤ Lz) (ex : Lx % 2 = 0)
    (ey : Ly % 2 = 0) (ez : Lz % 2 = 0) {K : List Coord} {M : Int → Int → Int → Bool}
    {kx ky kz : Kind} (hK : NF Lx Ly Lz K M kx ky kz) (okx : kx.Good) (oky : ky.Good)
    (okz : kz.Good) (x y z : Int) :
    (keys Lx Ly Lz x y z).countP (fun q => decide (q ∈ K)) =
      cnt M kx ky kz (shape x y z) (param kx (4 * (Lx : Int)) x) (param ky (4 * (Ly : Int)) y)
        (param kz (4 * (Lz : Int)) z) := by
  unfold keys cnt
  rw [List.countP_map]
  apply List.countP_congr
  intro d hd
  have bd := shape_bd x y z d hd
  unfold Bd at bd
  simp only [Function.comp]
  have hb := inBox_wrap (Lx := Lx) (Ly := Ly) (Lz := Lz) (by omega) (by omega) (by omega) x y z d
  have h := hK _ _ _ hb
  rw [red_wrap (by omega) (dvd8 ex) okx (by omega), red_wrap (by omega) (dvd8 ey) oky (by omega),
    red_wrap (by omega) (dvd8 ez) okz (by omega)] at h
  unfold wrapAt
  constructor
  · intro h'; exact h.mp (by simpa using h')
  · intro h'; simpa using h.mpr h'

def res8 : List Int := [0, 1, 2, 3, 4, 5, 6, 7]

theorem mem_res8 (v : Int) : v % 8 ∈ res8 := by
  unfold res8
  simp only [List.mem_cons, List.not_mem_nil, or_false]
  omega

/-- the parameter of a location on one axis together with its residue modulo 4 -/
def dom : Kind → List (Int × Int)
  | .thin v _ => rng7.map (fun c => (c, (v - c) % 4)) ++ res4.map (fun r => (100, r))
  | .thick => res8.map (fun r => (r, r % 4))

theorem mem_dom (k : Kind) (m s : Int) (hm : 8 ≤ m) (h4 : 4 ∣ m) : (param k m s, s % 4) ∈ dom k := by
  cases k with
  | thin v τ =>
    simp only [param, dom, List.mem_append, List.mem_map]
    rcases cd_range m s v hm with h | h
    · left
      refine ⟨cd m s v, mem_rng7 h.1 h.2, ?_⟩
      have := cd_emod h4 (by omega : cd m s v ≠ 100)
      simp only [Prod.mk.injEq, true_and]
      omega
    · right
      exact ⟨s % 4, mem_res4 s, by rw [h]⟩
  | thick =>
    simp only [param, dom, List.mem_map]
    exact ⟨s % 8, mem_res8 s, by simp only [Prod.mk.injEq, true_and]; omega⟩

/-- every location with coordinates of one parity that is a cell (`c = true`), or a face
    (`c = false`), has an even number of keys on the operator: a sweep over the parameters -/
def chk (c : Bool) (M : Int → Int → Int → Bool) (kx ky kz : Kind) : Bool :=
  (dom kx).all fun px => (dom ky).all fun py => (dom kz).all fun pz =>
    decide (px.2 % 2 = py.2 % 2 ∧ py.2 % 2 = pz.2 % 2 → (IsCellLoc px.2 py.2 pz.2 ↔ c = true) →
      cnt M kx ky kz (shape px.2 py.2 pz.2) px.1 py.1 pz.1 % 2 = 0)

theorem keys_even {Lx Ly Lz : Nat} (hx : 2 ≤ Lx) (hy : 2 ≤ Ly) (hz : 2 ≤ Lz) (ex : Lx % 2 = 0)
    (ey : Ly % 2 = 0) (ez : Lz % 2 = 0) {K : List Coord} {M : Int → Int → Int → Bool}
    {kx ky kz : Kind} (hK : NF Lx Ly Lz K M kx ky kz) (okx : kx.Good) (oky : ky.Good)
    (okz : kz.Good) {c : Bool}
    (hc : chk c M kx ky kz = true) {x y z : Int} (hp : x % 2 = y % 2 ∧ y % 2 = z % 2)
    (hf : IsCellLoc x y z ↔ c = true) :
    (keys Lx Ly Lz x y z).countP (fun q => decide (q ∈ K)) % 2 = 0 := by
  rw [count_keys hx hy hz ex ey ez hK okx oky okz, shape_res]
  unfold chk at hc
  simp only [List.all_eq_true, decide_eq_true_eq] at hc
  exact hc _ (mem_dom kx (4 * (Lx : Int)) x (by omega) ⟨_, rfl⟩)
    _ (mem_dom ky (4 * (Ly : Int)) y (by omega) ⟨_, rfl⟩)
    _ (mem_dom kz (4 * (Lz : Int)) z (by omega) ⟨_, rfl⟩) (by omega)
    (by rw [← hf]; unfold IsCellLoc; omega)

/-- a table read along the axis `ax` passes the finite check when the table does -/
theorem chk_place (ax : Nat) {c : Bool} {M : Int → Int → Int → Bool}
    {k1 k2 k3 : Kind} (h : chk c M k1 k2 k3 = true) :
    chk c (placeM ax M) (placeK ax k1 k2 k3).1 (placeK ax k1 k2 k3).2.1
      (placeK ax k1 k2 k3).2.2 = true := by
  unfold chk at h ⊢
  simp only [List.all_eq_true, decide_eq_true_eq] at h ⊢
  rcases ax with _ | _ | n <;> intro px hpx py hpy pz hpz hp hc
  · exact h px hpx py hpy pz hpz hp hc
  · exact (congrArg (· % 2) (countP_shape_pd 1 ⟨hp.1.symm, hp.1.trans hp.2⟩ _)).trans
      (h py hpy px hpx pz hpz (by omega) (by rw [← hc]; unfold IsCellLoc; omega))
  · exact (congrArg (· % 2) (countP_shape_pd 2 ⟨(hp.1.trans hp.2).symm, hp.1⟩ _)).trans
      (h pz hpz px hpx py hpy (by omega) (by rw [← hc]; unfold IsCellLoc; omega))

/-- table and kinds of the normal form of the membranes orthogonal to x: the squares of the planes
    `0` and `2`, and the hexagons -/
def zT0 : Nat → (Int → Int → Int → Bool) × Kind × Kind × Kind
  | 0 => (TP 2, .thin 0 0, .thick, .thick)
  | 1 => (TP 0, .thin 2 0, .thick, .thick)
  | _ => (TH1, .thin 3 1, .thick, .thick)

/-- table and kinds of the `j`-th membrane: entry `j % 3` of `zT0`, read along the axis `j / 3` -/
def zT (j : Nat) : (Int → Int → Int → Bool) × Kind × Kind × Kind :=
  (placeM (j / 3) (zT0 (j % 3)).1,
    placeK (j / 3) (zT0 (j % 3)).2.1 (zT0 (j % 3)).2.2.1 (zT0 (j % 3)).2.2.2)

theorem zT_good : ∀ j, j < 9 → (zT j).2.1.Good ∧ (zT j).2.2.1.Good ∧ (zT j).2.2.2.Good := by decide

/-- every face has an even number of keys on each membrane orthogonal to x (a sweep over the
    parameters of a face location) -/
theorem chkZ_x : ∀ j, j < 3 →
    chk false (zT0 j).1 (zT0 j).2.1 (zT0 j).2.2.1 (zT0 j).2.2.2 = true := by
  decide +kernel

/-- the nine membranes: those orthogonal to y and z have the tables of `chkZ_x` along another axis -/
theorem chkZ_all (j : Nat) :
    chk false (zT j).1 (zT j).2.1 (zT j).2.2.1 (zT j).2.2.2 = true :=
  chk_place _ (chkZ_x (j % 3) (Nat.mod_lt _ (by decide)))

theorem logZ_NF {Lx Ly Lz : Nat} (hx : 2 ≤ Lx) (hy : 2 ≤ Ly) (hz : 2 ≤ Lz) (ex : Lx % 2 = 0)
    (ey : Ly % 2 = 0) (ez : Lz % 2 = 0) : ∀ j, j < 9 →
    ∃ K, (logZ Lx Ly Lz).getD j [] = lineOp K Pauli.Z ∧
      NF Lx Ly Lz K (zT j).1 (zT j).2.1 (zT j).2.2.1 (zT j).2.2.2 := by
  intro j hj
  have hj' : j = 0 ∨ j = 1 ∨ j = 2 ∨ j = 3 ∨ j = 4 ∨ j = 5 ∨ j = 6 ∨ j = 7 ∨ j = 8 := by omega
  rcases hj' with rfl | rfl | rfl | rfl | rfl | rfl | rfl | rfl | rfl
  · exact ⟨kZA 0 Ly Lz, rfl, NF_place rfl (kZA_closed (by omega) (by omega)) nfPlane⟩
  · exact ⟨kZC 0 Ly Lz, rfl, NF_place rfl (kZC_closed (by omega) (by omega)) nfPlane⟩
  · exact ⟨_, rfl, fun a b c hb => nfZ3 hx hy hz ex ey ez hb⟩
  · exact ⟨kZA 1 Lx Lz, rfl, NF_place rfl (kZA_closed (by omega) (by omega)) nfPlane⟩
  · exact ⟨kZC 1 Lx Lz, rfl, NF_place rfl (kZC_closed (by omega) (by omega)) nfPlane⟩
  · exact ⟨_, rfl, NF_place rfl (kZ6_place hx hy hz ex ey ez) fun u v w hb =>
      nfZ3 hy hx hz ey ex ez hb⟩
  · exact ⟨kZA 2 Lx Ly, rfl, NF_place rfl (kZA_closed (by omega) (by omega)) nfPlane⟩
  · exact ⟨kZC 2 Lx Ly, rfl, NF_place rfl (kZC_closed (by omega) (by omega)) nfPlane⟩
  · exact ⟨_, rfl, NF_place rfl (kZ9_place hx hy hz ex ey ez) fun u v w hb =>
      nfZ3 hz hx hy ez ex ey hb⟩

/-- reduced pattern of a zigzag string: residue modulo 8 along the string, transverse offset
    from 1 -/
def SSr (a : Nat) (r t : Int) : Bool :=
  (r == a - 2 && t == 0) || (r == a - 1 && t == a - 3) || (r == a + 1 && t == a - 3) ||
    (r == a + 2 && t == 0)

theorem patS_iff {a L : Nat} (ha : 2 ≤ a ∧ a ≤ 4) {p w : Int} (hp : 0 ≤ p ∧ p < 4 * (L : Int)) :
    PatS a L p w ↔ SSr a (p % 8) (clamp 1 (w - 1)) = true := by
  unfold PatS SSr
  have e1 : w - 1 = 0 ↔ w = 1 := by omega
  have e2 : w - 1 = (a : Int) - 3 ↔ w = a - 2 := by omega
  simp only [Bool.or_eq_true, Bool.and_eq_true, beq_iff_eq,
    clamp1_iff (show (-1 : Int) ≤ 0 ∧ (0 : Int) ≤ 1 by omega),
    clamp1_iff (show (-1 : Int) ≤ a - 3 ∧ (a : Int) - 3 ≤ 1 by omega), e1, e2, hp.1, hp.2, true_and,
    or_assoc]

theorem patC_iff {L : Nat} {p : Int} (hp : 0 ≤ p ∧ p < 4 * (L : Int)) :
    PatC L p ↔ (p % 8 % 2 == 1) = true := by
  unfold PatC
  simp only [beq_iff_eq]
  omega

/-- tables of the strings along `x`: residue along the string, offset from the fixed coordinate,
    transverse offset -/
def MXS (a : Nat) (r t s : Int) : Bool := t == 0 && SSr a r s
def MXC (r t s : Int) : Bool := t == 0 && s == 0 && r % 2 == 1

theorem nfXS {a : Nat} (ha : 2 ≤ a ∧ a ≤ 4) {c : Int} {L1 L2 L3 : Nat} (u v w : Int)
    (hb : InBox L1 L2 L3 u v w) :
    (v = c ∧ PatS a L1 u w) ↔
      MXS a (redA .thick u) (redA (.thin c 0) v) (redA (.thin 1 1) w) = true := by
  unfold MXS redA
  rw [Bool.and_eq_true, beq_iff_eq, clamp0_iff, ← patS_iff ha ⟨hb.1, hb.2.1⟩]
  exact ⟨fun ⟨h, hp⟩ => ⟨by omega, hp⟩, fun ⟨h, hp⟩ => ⟨by omega, hp⟩⟩

theorem nfXC {L1 L2 L3 : Nat} (u v w : Int) (hb : InBox L1 L2 L3 u v w) :
    ((v = 2 ∧ w = 0) ∧ PatC L1 u) ↔
      MXC (redA .thick u) (redA (.thin 2 0) v) (redA (.thin 0 0) w) = true := by
  unfold MXC redA
  rw [Bool.and_eq_true, Bool.and_eq_true, beq_iff_eq, beq_iff_eq, clamp0_iff, clamp0_iff,
    ← patC_iff ⟨hb.1, hb.2.1⟩]
  exact ⟨fun ⟨⟨h, h'⟩, hp⟩ => ⟨⟨by omega, by omega⟩, hp⟩, fun ⟨⟨h, h'⟩, hp⟩ => ⟨⟨by omega, by omega⟩, hp⟩⟩

/-- table and kinds of the normal form of the three strings along x -/
def xN0 : Nat → (Int → Int → Int → Bool) × Kind × Kind × Kind
  | 0 => (MXS 2, .thick, .thin 6 0, .thin 1 1)
  | 1 => (MXS 4, .thick, .thin 0 0, .thin 1 1)
  | _ => (MXC, .thick, .thin 2 0, .thin 0 0)

/-- table and kinds of the `i`-th string: entry `i % 3` of `xN0`, read along the axis `i / 3` -/
def xN (i : Nat) : (Int → Int → Int → Bool) × Kind × Kind × Kind :=
  (placeM (i / 3) (xN0 (i % 3)).1,
    placeK (i / 3) (xN0 (i % 3)).2.1 (xN0 (i % 3)).2.2.1 (xN0 (i % 3)).2.2.2)

theorem xN_good : ∀ i, i < 9 → (xN i).2.1.Good ∧ (xN i).2.2.1.Good ∧ (xN i).2.2.2.Good := by decide

/-- every cell has an even number of keys on each string along x (a sweep over the parameters of a
    cell location) -/
theorem chkX_x : ∀ i, i < 3 →
    chk true (xN0 i).1 (xN0 i).2.1 (xN0 i).2.2.1 (xN0 i).2.2.2 = true := by
  decide +kernel

/-- the nine strings: those along y and z have the tables of `chkX_x` along another axis -/
theorem chkX_all (i : Nat) :
    chk true (xN i).1 (xN i).2.1 (xN i).2.2.1 (xN i).2.2.2 = true :=
  chk_place _ (chkX_x (i % 3) (Nat.mod_lt _ (by decide)))

theorem logX_NF {Lx Ly Lz : Nat} (ex : Lx % 2 = 0) (ey : Ly % 2 = 0) (ez : Lz % 2 = 0) : ∀ i, i < 9 →
    ∃ K, (logX Lx Ly Lz).getD i [] = lineOp K Pauli.X ∧
      NF Lx Ly Lz K (xN i).1 (xN i).2.1 (xN i).2.2.1 (xN i).2.2.2 := by
  intro i hi
  have hi' : i = 0 ∨ i = 1 ∨ i = 2 ∨ i = 3 ∨ i = 4 ∨ i = 5 ∨ i = 6 ∨ i = 7 ∨ i = 8 := by omega
  rcases hi' with rfl | rfl | rfl | rfl | rfl | rfl | rfl | rfl | rfl
  · exact ⟨kXS 2 6 0 Lx, rfl, NF_place rfl (kXS_closed (by decide) ex) (nfXS (by decide))⟩
  · exact ⟨kXS 4 0 0 Lx, rfl, NF_place rfl (kXS_closed (by decide) ex) (nfXS (by decide))⟩
  · exact ⟨kXC 0 Lx, rfl, NF_place rfl kXC_closed nfXC⟩
  · exact ⟨kXS 2 6 1 Ly, rfl, NF_place rfl (kXS_closed (by decide) ey) (nfXS (by decide))⟩
  · exact ⟨kXS 4 0 1 Ly, rfl, NF_place rfl (kXS_closed (by decide) ey) (nfXS (by decide))⟩
  · exact ⟨kXC 1 Ly, rfl, NF_place rfl kXC_closed nfXC⟩
  · exact ⟨kXS 2 6 2 Lz, rfl, NF_place rfl (kXS_closed (by decide) ez) (nfXS (by decide))⟩
  · exact ⟨kXS 4 0 2 Lz, rfl, NF_place rfl (kXS_closed (by decide) ez) (nfXS (by decide))⟩
  · exact ⟨kXC 2 Lz, rfl, NF_place rfl kXC_closed nfXC⟩

end Panqec.Color3DCode
