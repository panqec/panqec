/-
Lemmas about the model of `get_p_th_nearest` (C16): the value is one of the supplied error rates, it is
the smallest one when all rows carry the same 'code' (as in the pipeline), and it does not depend on the
order of the rows.
-/
import PanqecVerif.Proofs.AnalysisWindowBasic

namespace Panqec.An

theorem sortByN_eq (l : List CodeTuple) : sortByN l = l.insertionSort fun a b => a.2.1 ≤ b.2.1 :=
  eq_insertionSort insertByN sortByN (fun _ => rfl) (fun _ _ _ => rfl) rfl (fun _ _ => rfl) l

theorem sortByN_perm (l : List CodeTuple) : (sortByN l).Perm l :=
  sortByN_eq l ▸ List.perm_insertionSort _ l

theorem sortByN_eq_of_perm {a b : List CodeTuple} (h : a.Perm b)
    (hn : ∀ t ∈ a, ∀ u ∈ a, t.2.1 = u.2.1 → t = u) : sortByN a = sortByN b := by
  rw [sortByN_eq, sortByN_eq]
  exact insertionSort_eq_of_perm (r := fun t u : CodeTuple => t.2.1 ≤ u.2.1) (fun _ _ => le_total _ _)
    (fun _ _ _ => le_trans) h fun t ht u hu htu hut => hn t ht u hu (le_antisymm htu hut)

/-- one value per (code, error rate): what `aggregate`'s group-by guarantees -/
def Keyed (rows : List TRow) : Prop :=
  ∀ r ∈ rows, ∀ r' ∈ rows, r.code = r'.code → r.rate = r'.rate → r.pest = r'.pest

/-- distinct (code, n, k, d) tuples have distinct `n` (codes of one family: `n` grows with the size) -/
def DistinctN (rows : List TRow) : Prop :=
  ∀ t ∈ codeTuples rows, ∀ u ∈ codeTuples rows, t.2.1 = u.2.1 → t = u

theorem codeTuples_perm {a b : List TRow} (h : a.Perm b) : (codeTuples a).Perm (codeTuples b) :=
  eraseDups_perm (h.map _)

theorem codeColumns_perm {a b : List TRow} (h : a.Perm b) (hn : DistinctN a) : codeColumns a = codeColumns b := by
  unfold codeColumns
  rw [sortByN_eq_of_perm (codeTuples_perm h) hn]

theorem rateIndex_perm {a b : List TRow} (h : a.Perm b) : rateIndex a = rateIndex b :=
  sortRat_eq_of_perm (eraseDups_perm (h.map _))

theorem getLast?_bind_const {α β : Type} (f : α → Option β) (v : Option β) :
    ∀ (l : List α), l ≠ [] → (∀ x ∈ l, f x = v) → l.getLast?.bind f = v := by
  intro l hne hall
  obtain ⟨x, hx⟩ : ∃ x, l.getLast? = some x := by
    cases h : l.getLast? with
    | none => exact absurd (List.getLast?_eq_none_iff.mp h) hne
    | some x => exact ⟨x, rfl⟩
  rw [hx]
  exact hall x (List.mem_of_getLast? hx)

theorem cellOf_perm {a b : List TRow} (h : a.Perm b) (hk : Keyed a) (c : Nat) (p : Rat) :
    cellOf a c p = cellOf b c p := by
  unfold cellOf
  have hp : (a.filter fun r => r.code == c && r.rate == p).Perm (b.filter fun r => r.code == c && r.rate == p) :=
    h.filter _
  by_cases hne : (a.filter fun r => r.code == c && r.rate == p) = []
  · rw [hne] at hp
    rw [hne, List.nil_perm.mp hp]
  · obtain ⟨x, hx⟩ := List.exists_mem_of_ne_nil _ hne
    have hx' := List.mem_filter.mp hx
    have key : ∀ y ∈ a, (y.code == c && y.rate == p) = true → y.pest = x.pest := by
      intro y hy hyc
      simp only [Bool.and_eq_true, beq_iff_eq] at hyc
      have hxc := hx'.2
      simp only [Bool.and_eq_true, beq_iff_eq] at hxc
      exact hk y hy x hx'.1 (hyc.1.trans hxc.1.symm) (hyc.2.trans hxc.2.symm)
    rw [getLast?_bind_const TRow.pest x.pest _ hne (fun y hy => key y (List.mem_filter.mp hy).1 (List.mem_filter.mp hy).2)]
    have hne' : (b.filter fun r => r.code == c && r.rate == p) ≠ [] := by
      intro e; rw [e] at hp; exact hne (List.perm_nil.mp hp)
    rw [getLast?_bind_const TRow.pest x.pest _ hne' (fun y hy => by
      have hy' := List.mem_filter.mp hy
      exact key y (h.mem_iff.mpr hy'.1) hy'.2)]

theorem orderStats_perm {a b : List TRow} (h : a.Perm b) (hk : Keyed a) (hn : DistinctN a) :
    orderStats a = orderStats b := by
  unfold orderStats
  rw [rateIndex_perm h, codeColumns_perm h hn]
  apply List.map_congr_left
  intro p _
  congr 1
  apply List.map_congr_left
  intro c _
  exact cellOf_perm h hk c p

theorem pThNearest_perm {a b : List TRow} (h : a.Perm b) (hk : Keyed a) (hn : DistinctN a) :
    pThNearest a = pThNearest b := by
  unfold pThNearest
  rw [rateIndex_perm h, orderStats_perm h hk hn]

theorem getD_mem_cons {α : Type} (x : α) (xs : List α) (i : Nat) : (x :: xs).getD i x ∈ x :: xs := by
  rw [List.getD_eq_getElem?_getD]
  cases h : (x :: xs)[i]? with
  | none => simp
  | some y => simpa using List.mem_of_getElem? h

theorem mem_rateIndex {rows : List TRow} {p : Rat} : p ∈ rateIndex rows ↔ ∃ r ∈ rows, r.rate = p := by
  unfold rateIndex
  rw [mem_sortRat, List.mem_eraseDups, List.mem_map]

theorem rateIndex_eq_nil {rows : List TRow} : rateIndex rows = [] ↔ rows = [] := by
  unfold rateIndex
  rw [sortRat_eq_nil, eraseDups_eq_nil, List.map_eq_nil_iff]

theorem pThNearest_mem {rows : List TRow} {p : Rat} (h : pThNearest rows = .ok p) : ∃ r ∈ rows, r.rate = p := by
  unfold pThNearest at h
  split at h
  · cases h
  · rename_i p0 ps hidx
    injection h with h
    rw [← mem_rateIndex, hidx, ← h]
    exact getD_mem_cons p0 ps _

theorem pThNearest_error_iff (rows : List TRow) : (∃ e, pThNearest rows = .error e) ↔ rows = [] := by
  unfold pThNearest
  constructor
  · rintro ⟨e, h⟩
    split at h
    · rename_i hidx; exact rateIndex_eq_nil.mp hidx
    · cases h
  · rintro rfl
    exact ⟨.empty, rfl⟩

theorem argmaxAux_of_le : ∀ (vs : List Int) (i bi : Nat) (bv : Int), (∀ v ∈ vs, v ≤ bv) →
    argmaxAux vs i bi bv = bi
  | [], _, _, _, _ => rfl
  | v :: vs, i, bi, bv, h => by
    unfold argmaxAux
    have hv : ¬ bv < v := not_lt.mpr (h v List.mem_cons_self)
    rw [if_neg hv]
    exact argmaxAux_of_le vs _ _ _ fun w hw => h w (List.mem_cons_of_mem _ hw)

theorem argmaxFirst_const {l : List Int} {a : Int} (h : ∀ x ∈ l, x = a) : argmaxFirst l = 0 := by
  cases l with
  | nil => rfl
  | cons v vs =>
    unfold argmaxFirst
    apply argmaxAux_of_le
    intro w hw
    rw [h w (List.mem_cons_of_mem _ hw), h v List.mem_cons_self]

theorem diffs_const {a : Int} : ∀ {l : List Int}, (∀ x ∈ l, x = a) → ∀ y ∈ diffs l, y = 0
  | [], _, y, hy => by simp [diffs] at hy
  | [_], _, y, hy => by simp [diffs] at hy
  | x :: x' :: t, h, y, hy => by
    simp only [diffs, List.mem_cons] at hy
    rcases hy with rfl | hy
    · rw [h x (by simp), h x' (by simp)]; simp
    · exact diffs_const (fun z hz => h z (List.mem_cons_of_mem _ hz)) y hy

theorem eraseDups_all_eq {c : Nat} {l : List Nat} (hne : l ≠ []) (h : ∀ x ∈ l, x = c) : l.eraseDups = [c] :=
  (eq_nil_or_singleton (eraseDups_nodup l) fun x hx => h x (List.mem_eraseDups.mp hx)).resolve_left
    (mt eraseDups_eq_nil.mp hne)

theorem codeColumns_single {rows : List TRow} {c : Nat} (hne : rows ≠ []) (h : ∀ r ∈ rows, r.code = c) :
    codeColumns rows = [c] := by
  unfold codeColumns
  apply eraseDups_all_eq
  · intro e
    have h1 := List.map_eq_nil_iff.mp e
    have h2 : codeTuples rows = [] := by
      have := (sortByN_perm (codeTuples rows)).length_eq
      rw [h1] at this
      exact List.length_eq_zero_iff.mp this.symm
    unfold codeTuples at h2
    rw [eraseDups_eq_nil, List.map_eq_nil_iff] at h2
    exact hne h2
  · intro x hx
    obtain ⟨t, ht, rfl⟩ := List.mem_map.mp hx
    have ht' := (sortByN_perm _).mem_iff.mp ht
    unfold codeTuples at ht'
    rw [List.mem_eraseDups] at ht'
    obtain ⟨r, hr, rfl⟩ := List.mem_map.mp ht'
    exact h r hr

theorem orderStat_singleton (v : Option Rat) : orderStat [v] = 0 := by
  simp [orderStat, argLast, argFirst, argLastAux, argFirstAux]

/-- In the pipeline all rows of a parameter set carry the same 'code' (the class name): the table of
    `get_p_th_nearest` has one column and the function returns the smallest error rate. -/
theorem pThNearest_single_code {rows : List TRow} {c : Nat} {m : Rat} (h : ∀ r ∈ rows, r.code = c)
    (hm : minList (rows.map (·.rate)) = some m) : pThNearest rows = .ok m := by
  have hne : rows ≠ [] := by
    rintro rfl; cases hm
  unfold pThNearest
  split
  · rename_i hidx; exact absurd (rateIndex_eq_nil.mp hidx) hne
  · rename_i p0 ps hidx
    have hstats : ∀ x ∈ orderStats rows, x = 0 := by
      intro x hx
      unfold orderStats at hx
      rw [codeColumns_single hne h] at hx
      obtain ⟨p, _, rfl⟩ := List.mem_map.mp hx
      exact orderStat_singleton _
    rw [argmaxFirst_const (a := 0) (diffs_const hstats)]
    simp only [List.getD_cons_zero]
    unfold rateIndex at hidx
    obtain ⟨h1, h2⟩ := sortRat_head_le hidx
    obtain ⟨h3, h4⟩ := minList_iff.mp hm
    congr 1
    apply le_antisymm
    · exact h2 m (List.mem_eraseDups.mpr h3)
    · exact h4 p0 (List.mem_eraseDups.mp h1)

end Panqec.An
