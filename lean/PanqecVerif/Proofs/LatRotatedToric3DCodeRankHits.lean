/-
`RotatedToric3DCode`, supported family, rank clause: which generators act on a given qubit
with a given component.  Every generator is a signed operator (`Signed`, `Kind`): on a candidate
`(q, σ)` that is a qubit it writes Z when `σ = col q` and X otherwise.  Hence a generator has the
component `σ != col q` (X if true) on `q` iff `(q, σ)` is one of its signed candidates
(`hit_signed`), and the candidates containing a given horizontal / vertical qubit are listed by
`hitters_h` / `hitters_v`: the two layer generators on the main (σ = true) or anti (σ = false)
diagonal through the qubit and, for the sign `(f + g) % 4 = 2`, the vertical faces above and below
it; the vertices above and below a vertical qubit for σ = true.
-/
import PanqecVerif.Proofs.LatRotatedToric3DCodeCommPair
import PanqecVerif.Proofs.LatCubic3DRank
open Panqec Panqec.Lat3Db
namespace Panqec.RotatedToric3DCode

set_option linter.unusedVariables false
set_option linter.unusedSimpArgs false

theorem dl_eq_X (σ : Bool) (q : Coord) : dl σ q = Pauli.X ↔ (σ != col q) = true := by
  unfold dl; cases σ <;> cases col q <;> simp
theorem dl_eq_Z (σ : Bool) (q : Coord) : dl σ q = Pauli.Z ↔ (σ != col q) = false := by
  unfold dl; cases σ <;> cases col q <;> simp
theorem dl_ne_Y (σ : Bool) (q : Coord) : dl σ q ≠ Pauli.Y := by
  unfold dl; split <;> decide

theorem hit_gop (b : Bool) (ks : List Coord) (g : Coord → Pauli) (q : Coord) :
    Cubic3D.hit b (gop ks g) q = true ↔
      q ∈ ks ∧ (if b then g q = Pauli.X ∨ g q = Pauli.Y else g q = Pauli.Z ∨ g q = Pauli.Y) := by
  unfold Cubic3D.hit Cubic3D.hitX Cubic3D.hitZ
  rw [gop_get?]
  by_cases hq : q ∈ ks
  · simp only [hq, if_true, true_and]
    cases b <;> cases g q <;> simp
  · simp only [hq, if_false, false_and]
    cases b <;> simp

/-- a signed generator has the component `σ != col q` on `q` iff `(q, σ)` is one of its
    candidates and `q` is a qubit -/
theorem hit_signed {Lx Ly Lz : Nat} {op : Op} {K : List (Coord × Bool)} (h : Signed Lx Ly Lz op K)
    (q : Coord) (σ : Bool) :
    Cubic3D.hit (σ != col q) op q = true ↔ isQubit Lx Ly Lz q = true ∧ (q, σ) ∈ K := by
  obtain ⟨g, rfl, hg⟩ := h.eq
  rw [hit_gop]
  simp only [List.mem_filter, List.mem_map]
  constructor
  · rintro ⟨⟨⟨e, he, rfl⟩, hq⟩, hl⟩
    refine ⟨hq, ?_⟩
    have hge := hg e he
    have : e.2 = σ := by
      rw [hge] at hl
      by_cases hb : (σ != col e.1) = true
      · rw [if_pos hb] at hl
        rcases hl with hl | hl
        · have := (dl_eq_X _ _).mp hl
          revert this hb; cases e.2 <;> cases σ <;> cases col e.1 <;> simp
        · exact absurd hl (dl_ne_Y _ _)
      · rw [if_neg hb] at hl
        rcases hl with hl | hl
        · have := (dl_eq_Z _ _).mp hl
          revert this hb; cases e.2 <;> cases σ <;> cases col e.1 <;> simp
        · exact absurd hl (dl_ne_Y _ _)
    rw [← this]; exact he
  · rintro ⟨hq, hm⟩
    refine ⟨⟨⟨(q, σ), hm, rfl⟩, hq⟩, ?_⟩
    have hge : g q = dl σ q := hg (q, σ) hm
    rw [hge]
    by_cases hb : (σ != col q) = true
    · rw [if_pos hb]; exact Or.inl ((dl_eq_X _ _).mpr hb)
    · rw [if_neg hb]; exact Or.inl ((dl_eq_Z _ _).mpr (by simpa using hb))

theorem sw_eq_iff {L : Nat} {x f : Int} (hx : Ev L x) (hf : Od L f) : sw L x = f ↔ x = pw L f := by
  unfold Ev at hx; unfold Od at hf
  have := sw_spec L x; have := pw_spec L f
  omega

/-- the layer generators with the signed candidate `([f, g, c], σ)`: the two on the diagonal of
    sign `σ` through it -/
theorem mem_KH {Lx Ly : Nat} {x y z f g c : Int} {σ : Bool} (hx : Ev Lx x) (hy : Ev Ly y)
    (hf : Od Lx f) (hg : Od Ly g) (hm : ([f, g, c], σ) ∈ KH Lx Ly x y z) :
    z = c ∧
      ((σ = true ∧ ((x = f + 1 ∧ y = g + 1) ∨ (x = pw Lx f ∧ y = pw Ly g))) ∨
       (σ = false ∧ ((x = f + 1 ∧ y = pw Ly g) ∨ (x = pw Lx f ∧ y = g + 1)))) := by
  have ex := sw_eq_iff hx hf; have ey := sw_eq_iff hy hg
  simp only [KH, List.mem_cons, Prod.mk.injEq, List.cons.injEq, and_true, List.not_mem_nil,
    or_false, eq_comm (a := f), eq_comm (a := g), eq_comm (a := c), ex, ey] at hm
  rcases hm with ⟨⟨h1, h2, h3⟩, h5⟩ | ⟨⟨h1, h2, h3⟩, h5⟩ | ⟨⟨h1, h2, h3⟩, h5⟩ | ⟨⟨h1, h2, h3⟩, h5⟩
  · exact ⟨h3, Or.inl ⟨h5, Or.inl ⟨by omega, by omega⟩⟩⟩
  · exact ⟨h3, Or.inl ⟨h5, Or.inr ⟨h1, h2⟩⟩⟩
  · exact ⟨h3, Or.inr ⟨h5, Or.inl ⟨by omega, h2⟩⟩⟩
  · exact ⟨h3, Or.inr ⟨h5, Or.inr ⟨h1, by omega⟩⟩⟩

/-- the generators with the signed candidate `([f, g, c], σ)`, a horizontal qubit: the two layer
    generators on the diagonal of sign `σ` through it, or the vertical faces above and below it
    when `σ` is the sign `(f + g) % 4 = 2` -/
theorem hitters_h {Lx Ly Lz : Nat} (hF : Fam Lx Ly) {t : Coord} {K : List (Coord × Bool)}
    (hk : Kind Lx Ly Lz t K) {f g c : Int} (hf : Od Lx f) (hg : Od Ly g) (hc : c % 2 = 1)
    {σ : Bool} (hm : ([f, g, c], σ) ∈ K) :
    ∃ x y z, t = [x, y, z] ∧
      ((z = c ∧ Ev Lx x ∧ Ev Ly y ∧
          ((σ = true ∧ ((x = f + 1 ∧ y = g + 1) ∨ (x = pw Lx f ∧ y = pw Ly g))) ∨
           (σ = false ∧ ((x = f + 1 ∧ y = pw Ly g) ∨ (x = pw Lx f ∧ y = g + 1))))) ∨
       (x = f ∧ y = g ∧ (z = c - 1 ∨ z = c + 1) ∧ z % 2 = 0 ∧ (σ = true ↔ (f + g) % 4 = 2))) := by
  -- a vertical face `[x, y, z]` holds `[f, g, c]` only above or below itself
  have vface : ∀ {x y z a₁ b₁ a₂ b₂ : Int} {σ₁ σ₂ τ : Bool}, SF Lx Ly Lz x y z → a₁ % 2 = 0 →
      a₂ % 2 = 0 → ([f, g, c], σ) ∈ [([a₁, b₁, z], σ₁), ([a₂, b₂, z], σ₂), ([x, y, z - 1], τ),
        ([x, y, z + 1], τ)] → x = f ∧ y = g ∧ (z = c - 1 ∨ z = c + 1) ∧ z % 2 = 0 ∧ σ = τ := by
    intro x y z a₁ b₁ a₂ b₂ σ₁ σ₂ τ hs h₁ h₂ hm
    have hz := hs.2.2.1.1
    have hf := hf.1
    simp only [List.mem_cons, Prod.mk.injEq, List.cons.injEq, and_true, List.not_mem_nil,
      or_false] at hm
    rcases hm with ⟨⟨h1, _⟩, _⟩ | ⟨⟨h1, _⟩, _⟩ | ⟨⟨h1, h2, h3⟩, h5⟩ | ⟨⟨h1, h2, h3⟩, h5⟩
    · omega
    · omega
    · exact ⟨h1.symm, h2.symm, by omega, hz, h5⟩
    · exact ⟨h1.symm, h2.symm, by omega, hz, h5⟩
  have hLx : 1 ≤ Lx := by have := hF.1; omega
  cases hk with
  | @vertex x y z h =>
    have hx := R2_Ev.mp h.1; have hy := R2_Ev.mp h.2.1
    rw [KV_eq, List.mem_append, List.mem_reverse] at hm
    rcases hm with hm | hm
    · exact ⟨x, y, z, rfl, Or.inl ⟨(mem_KH hx hy hf hg hm).1, hx, hy, (mem_KH hx hy hf hg hm).2⟩⟩
    · have := hx.1; have := hf.1
      simp only [List.mem_cons, Prod.mk.injEq, List.cons.injEq, List.not_mem_nil, or_false] at hm
      omega
  | @hface x y z h =>
    have hx := R2_Ev.mp h.1; have hy := R2_Ev.mp h.2.1
    exact ⟨x, y, z, rfl, Or.inl ⟨(mem_KH hx hy hf hg hm).1, hx, hy, (mem_KH hx hy hf hg hm).2⟩⟩
  | @vfaceX x y z h h4 =>
    obtain ⟨rfl, rfl, hz, hz2, rfl⟩ :=
      vface h (pw_ev hLx (R1_Od.mp h.1)).1 (succ_ev (R1_Od.mp h.1)).1 hm
    exact ⟨_, _, z, rfl, Or.inr ⟨rfl, rfl, hz, hz2, by simp only [Bool.false_eq_true, false_iff]; omega⟩⟩
  | @vfaceY x y z h h4 =>
    obtain ⟨rfl, rfl, hz, hz2, rfl⟩ :=
      vface h (pw_ev hLx (R1_Od.mp h.1)).1 (succ_ev (R1_Od.mp h.1)).1 hm
    exact ⟨_, _, z, rfl, Or.inr ⟨rfl, rfl, hz, hz2, by simp only [true_iff]; exact h4⟩⟩

/-- the generators with the signed candidate `([x, y, h], true)`, a vertical qubit: the vertices
    above and below it -/
theorem hitters_v {Lx Ly Lz : Nat} (hF : Fam Lx Ly) {t : Coord} {K : List (Coord × Bool)}
    (hk : Kind Lx Ly Lz t K) {x y h : Int} (hx : Ev Lx x) (hy : Ev Ly y) (hh : h % 2 = 0)
    (hm : ([x, y, h], true) ∈ K) :
    (t = [x, y, h - 1] ∨ t = [x, y, h + 1]) ∧ (x + y) % 4 = 2 := by
  obtain ⟨hLx, hLy, _⟩ := hF
  unfold Ev at hx hy
  cases hk with
  | @vertex a b c h' =>
    obtain ⟨ha, hb, hc, h4⟩ := h'
    rw [R2_Ev] at ha hb
    have sx := sw_spec Lx a; have sy := sw_spec Ly b
    unfold Ev at ha hb; unfold R1 at hc
    simp only [KV, List.mem_cons, Prod.mk.injEq, List.cons.injEq, and_true, List.not_mem_nil,
      or_false, Bool.true_eq_false, and_false, false_or] at hm
    simp only [List.cons.injEq, and_true]
    rcases hm with ⟨h1, h2, h3⟩ | ⟨h1, h2, h3⟩ | ⟨h1, h2, h3⟩ | ⟨h1, h2, h3⟩
    · omega
    · omega
    · refine ⟨Or.inl ⟨h1.symm, h2.symm, by omega⟩, by omega⟩
    · refine ⟨Or.inr ⟨h1.symm, h2.symm, by omega⟩, by omega⟩
  | @hface a b c h' =>
    obtain ⟨ha, hb, hc, h4⟩ := h'
    unfold R1 at hc
    simp only [KH, List.mem_cons, Prod.mk.injEq, List.cons.injEq, and_true, List.not_mem_nil,
      or_false, Bool.true_eq_false, and_false, false_or, or_false] at hm
    omega
  | @vfaceX a b c h' h4 =>
    simp only [KFX, List.mem_cons, Prod.mk.injEq, List.cons.injEq, and_true, List.not_mem_nil,
      or_false, Bool.true_eq_false, and_false, false_or, or_false] at hm
  | @vfaceY a b c h' h4 =>
    obtain ⟨ha, hb, hc, _⟩ := h'
    rw [R1_Od] at ha hb
    unfold Od at ha hb
    simp only [KFY, List.mem_cons, Prod.mk.injEq, List.cons.injEq, and_true, List.not_mem_nil,
      or_false, Bool.true_eq_false, and_false, false_or, or_false] at hm
    omega

end Panqec.RotatedToric3DCode
