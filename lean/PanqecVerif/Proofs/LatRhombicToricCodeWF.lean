/-
RhombicToricCode lattice model: assembly of `Lattice.CommPair` and `Lattice.WF`, the number of
logical operators and stabilizer generators, and `qubit_axis` on the qubits.  Sizes even
`≥ 2`.
-/
import PanqecVerif.Proofs.LatRhombicToricCodeLog
import PanqecVerif.Proofs.LatRhombicCount
open Panqec Panqec.Lat3Db Panqec.Rhombic
namespace Panqec.RhombicToricCode

theorem logX_cases (Lx Ly Lz : Nat) (a : Op) (ha : a ∈ logX Lx Ly Lz) :
    ∃ K, IsSheet Lx Ly Lz K ∧ a = constOp K Pauli.X := by
  rw [logX_eq] at ha
  simp only [List.mem_cons, List.not_mem_nil, or_false] at ha
  rcases ha with rfl | rfl | rfl
  · exact ⟨_, Or.inl rfl, rfl⟩
  · exact ⟨_, Or.inr (Or.inl rfl), rfl⟩
  · exact ⟨_, Or.inr (Or.inr rfl), rfl⟩

theorem logZ_cases (Lx Ly Lz : Nat) (a : Op) (ha : a ∈ logZ Lx Ly Lz) :
    ∃ K, IsLine Lx Ly Lz K ∧ a = constOp K Pauli.Z := by
  rw [logZ_eq] at ha
  simp only [List.mem_cons, List.not_mem_nil, or_false] at ha
  rcases ha with rfl | rfl | rfl
  · exact ⟨_, Or.inl rfl, rfl⟩
  · exact ⟨_, Or.inr (Or.inl rfl), rfl⟩
  · exact ⟨_, Or.inr (Or.inr rfl), rfl⟩

theorem commPair (Lx Ly Lz : Nat) (hLx : 2 ≤ Lx) (hLy : 2 ≤ Ly) (hLz : 2 ≤ Lz)
    (hex : Lx % 2 = 0) (hey : Ly % 2 = 0) (hez : Lz % 2 = 0) : (lattice Lx Ly Lz).CommPair := by
  refine ⟨?_, ?_, ?_, ?_, ?_, ?_, ?_⟩
  · intro s hs t ht; exact stab_comm Lx Ly Lz hLx hLy hLz hex hey hez s t hs ht
  · intro a ha s hs
    obtain ⟨K, hK, rfl⟩ := logX_cases Lx Ly Lz a ha
    change opCommute _ (getStab Lx Ly Lz s) = true
    rcases getStab_cases hLx hLy hLz s hs with ⟨k, hk, e⟩ | ⟨k, hk, e⟩ <;> rw [e]
    · exact opCommute_constOp_same _ _ _
    · obtain ⟨a, x, y, z, hv, rfl⟩ := hk
      exact opCommute_of_ovl_even' _ _ _ _ hK.nodup (nodup_triKeys Lx Ly Lz a x y z hv)
        (tri_sheet_even Lx Ly Lz (by omega) (by omega) (by omega) a x y z hv K hK)
  · intro a ha s hs
    obtain ⟨K, hK, rfl⟩ := logZ_cases Lx Ly Lz a ha
    change opCommute _ (getStab Lx Ly Lz s) = true
    rcases getStab_cases hLx hLy hLz s hs with ⟨k, hk, e⟩ | ⟨k, hk, e⟩ <;> rw [e]
    · obtain ⟨x, y, z, hc, rfl⟩ := hk
      exact opCommute_of_ovl_even' _ _ _ _ hK.nodup (nodup_cubeKeys Lx Ly Lz x y z hLx hLy hLz hc)
        (cube_line_even Lx Ly Lz (by omega) (by omega) (by omega) x y z hc K hK)
    · exact opCommute_constOp_same _ _ _
  · change (logX Lx Ly Lz).length = (logZ Lx Ly Lz).length
    rw [logX_eq, logZ_eq]; rfl
  · intro i j hi hj
    exact pairing Lx Ly Lz (by omega) (by omega) (by omega) hex hey hez i j hi hj
  · intro a ha b hb
    obtain ⟨K, _, rfl⟩ := logX_cases Lx Ly Lz a ha
    obtain ⟨K', _, rfl⟩ := logX_cases Lx Ly Lz b hb
    exact opCommute_constOp_same _ _ _
  · intro a ha b hb
    obtain ⟨K, _, rfl⟩ := logZ_cases Lx Ly Lz a ha
    obtain ⟨K', _, rfl⟩ := logZ_cases Lx Ly Lz b hb
    exact opCommute_constOp_same _ _ _

theorem nodup_stabs (Lx Ly Lz : Nat) : (stabs Lx Ly Lz).Nodup := by
  unfold stabs
  rw [List.nodup_append]
  refine ⟨nodup_grid3 _ _ _ _ (nodup_pyRange2 _ _) (nodup_pyRange2 _ _) (nodup_pyRange2 _ _), ?_, ?_⟩
  · rw [List.nodup_flatMap]
    refine ⟨fun ax _ => (nodup_grid3 _ _ _ _ (nodup_pyRange2 _ _) (nodup_pyRange2 _ _)
      (nodup_pyRange2 _ _)).map (fun a b h => by simpa using h), ?_⟩
    have : ([0, 1, 2, 3] : List Int).Nodup := by decide
    refine List.Pairwise.imp_of_mem ?_ this
    intro a b _ _ hab
    simp only [Function.onFun, List.Disjoint, List.mem_map]
    rintro c ⟨d, _, rfl⟩ ⟨d', _, h⟩
    simp only [List.cons.injEq] at h
    exact hab h.1.symm
  · intro a ha b hb hab
    subst hab
    rw [mem_grid3] at ha
    obtain ⟨x, y, z, rfl, _⟩ := ha
    simp only [List.mem_flatMap, List.mem_map] at hb
    obtain ⟨ax, _, c, hc, h⟩ := hb
    rw [mem_grid3] at hc
    obtain ⟨x', y', z', rfl, _⟩ := hc
    simp at h

theorem qubits_not_stabs (Lx Ly Lz : Nat) (q : Coord) (hq : q ∈ qubits Lx Ly Lz) : q ∉ stabs Lx Ly Lz := by
  obtain ⟨x, y, z, rfl⟩ := mem_qubits_shape Lx Ly Lz q hq
  rw [mem_qubits_iff] at hq
  rw [mem_stabs_cube]
  unfold QX QY QZ R0 R1 at hq
  unfold SC R1
  omega

theorem IsCubeKeys.qubits {Lx Ly Lz : Nat} {k : List Coord} (h : IsCubeKeys Lx Ly Lz k) :
    ∀ q ∈ k, q ∈ qubits Lx Ly Lz := by
  obtain ⟨x, y, z, _, rfl⟩ := h
  exact fun q hq => XCubeCode.mem_qubits_of_isQubit _ _ _ _ (List.mem_filter.mp hq).2

theorem IsTriKeys.qubits {Lx Ly Lz : Nat} {k : List Coord} (h : IsTriKeys Lx Ly Lz k) :
    ∀ q ∈ k, q ∈ qubits Lx Ly Lz := by
  obtain ⟨a, x, y, z, _, rfl⟩ := h
  exact fun q hq => XCubeCode.mem_qubits_of_isQubit _ _ _ _ (List.mem_filter.mp hq).2

/-- the edge `(x−1, y−1, z)` of a cube is a qubit, so its key list is not empty -/
theorem IsCubeKeys.ne_nil {Lx Ly Lz : Nat} {k : List Coord} (h : IsCubeKeys Lx Ly Lz k) : k ≠ [] := by
  obtain ⟨x, y, z, ⟨hx, hy, hz, _⟩, rfl⟩ := h
  have : [x - 1, y - 1, z] ∈ cubeKeys Lx Ly Lz x y z := by
    unfold cubeKeys
    rw [List.mem_filter, isQubit_iff]
    refine ⟨by simp [cubeLocs], Or.inr (Or.inr ?_)⟩
    unfold QZ R0; unfold R1 at hx hy
    exact ⟨by omega, by omega, hz⟩
  exact List.ne_nil_of_mem this

/-- the x leg of a triangle is a qubit, so its key list is not empty -/
theorem IsTriKeys.ne_nil {Lx Ly Lz : Nat} {k : List Coord} (h : IsTriKeys Lx Ly Lz k) : k ≠ [] := by
  obtain ⟨a, x, y, z, ⟨_, hx, hy, hz⟩, rfl⟩ := h
  have hs := step_spec (2*Lx) x (sgnX a) (by omega) hx (sgnX_pm a)
  have : [step (2*Lx) x (sgnX a), y, z] ∈ triKeys Lx Ly Lz a x y z := by
    unfold triKeys
    rw [List.mem_filter, isQubit_iff]
    exact ⟨by simp [triLocs], Or.inl ⟨hs, hy, hz⟩⟩
  exact List.ne_nil_of_mem this

theorem wf (Lx Ly Lz : Nat) (hLx : 2 ≤ Lx) (hLy : 2 ≤ Ly) (hLz : 2 ≤ Lz) : (lattice Lx Ly Lz).WF := by
  refine wf_of_constOp (XCubeCode.nodup_qubits Lx Ly Lz) (nodup_stabs Lx Ly Lz) (qubits_not_stabs Lx Ly Lz) ?_ ?_
  · intro s hs
    rcases getStab_cases hLx hLy hLz s hs with ⟨k, hk, e⟩ | ⟨k, hk, e⟩
    · exact ⟨k, _, e, hk.nodup hLx hLy hLz, hk.ne_nil, hk.qubits, by decide⟩
    · exact ⟨k, _, e, hk.nodup, hk.ne_nil, hk.qubits, by decide⟩
  · intro a ha
    rcases List.mem_append.mp ha with h | h
    · obtain ⟨K, hK, rfl⟩ := logX_cases Lx Ly Lz a h
      exact ⟨K, _, rfl, hK.nodup, fun q hq => XCubeCode.mem_qubits_of_isQubit _ _ _ _
        (hK.qubits (by omega) (by omega) (by omega) q hq), by decide⟩
    · obtain ⟨K, hK, rfl⟩ := logZ_cases Lx Ly Lz a h
      exact ⟨K, _, rfl, hK.nodup, fun q hq => XCubeCode.mem_qubits_of_isQubit _ _ _ _
        (hK.qubits (by omega) (by omega) (by omega) q hq), by decide⟩

theorem length_logX (Lx Ly Lz : Nat) : (logX Lx Ly Lz).length = 3 := rfl

/-- half of the cubes are coloured (the corner `(1, 1, 1)` is not) -/
theorem length_cubes (Lx Ly Lz : Nat) :
    (grid3 (pyRange2 1 (2*Lx)) (pyRange2 1 (2*Ly)) (pyRange2 1 (2*Lz)) cubeKeep).length =
      Lx * (Ly * Lz) / 2 := by
  rw [pyRange2_eq_ap, pyRange2_eq_ap, pyRange2_eq_ap]
  have e : ∀ L : Nat, (2 * L + 1 - 1) / 2 = L := fun L => by omega
  rw [e, e, e]
  have := length_grid3_checker ((1 : Nat) : Int) ((1 : Nat) : Int) ((1 : Nat) : Int) 1 Lx Ly Lz
    (by decide) (by decide)
  unfold cubeKeep
  rw [this]
  rfl

/-- the coloured cubes and four triangles per vertex -/
theorem length_stabs (Lx Ly Lz : Nat) :
    (stabs Lx Ly Lz).length = Lx * (Ly * Lz) / 2 + 4 * (Lx * Ly * Lz) := by
  unfold stabs
  rw [List.length_append, length_cubes]
  unfold allTrue
  simp only [List.flatMap_cons, List.flatMap_nil, List.length_append, List.length_map, List.length_nil,
    length_grid3_true, length_pyRange2]
  have e0 : ∀ L : Nat, (2 * L + 1 - 0) / 2 = L := fun L => by omega
  simp only [e0]
  omega

theorem qubitAxis_qubit (Lx Ly Lz : Nat) (x y z : Int) (h : [x, y, z] ∈ qubits Lx Ly Lz) :
    qubitAxis [x, y, z] = some (if x % 2 = 1 then "x" else if y % 2 = 1 then "y" else "z") := by
  rw [mem_qubits_iff] at h
  unfold QX QY QZ R0 R1 at h
  apply Rhombic.qubitAxis_eq
  omega

end Panqec.RhombicToricCode
