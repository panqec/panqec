/-
Planar2DCode, all sizes: arithmetic description of the coordinate lists and `get_stabilizer`
as the filtered 4-neighbourhood.
-/
import PanqecVerif.Proofs.LatPlanar2DCodeShared
import PanqecVerif.Model.Lattices.Planar2DCode

namespace Panqec.Planar2DCode
open Panqec.Lat2D

def IsQ (Lx Ly : Nat) (x y : Int) : Prop :=
  (x % 2 = 1 ∧ y % 2 = 0 ∧ 1 ≤ x ∧ x < 2 * (Lx : Int) ∧ 0 ≤ y ∧ y < 2 * (Ly : Int)) ∨
  (x % 2 = 0 ∧ y % 2 = 1 ∧ 2 ≤ x ∧ x < 2 * (Lx : Int) ∧ 1 ≤ y ∧ y < 2 * (Ly : Int) - 1)
def IsV (Lx Ly : Nat) (x y : Int) : Prop :=
  x % 2 = 0 ∧ y % 2 = 0 ∧ 2 ≤ x ∧ x < 2 * (Lx : Int) ∧ 0 ≤ y ∧ y < 2 * (Ly : Int)
def IsF (Lx Ly : Nat) (x y : Int) : Prop :=
  x % 2 = 1 ∧ y % 2 = 1 ∧ 1 ≤ x ∧ x < 2 * (Lx : Int) ∧ 1 ≤ y ∧ y < 2 * (Ly : Int) - 1

instance (Lx Ly : Nat) (x y : Int) : Decidable (IsQ Lx Ly x y) := by unfold IsQ; infer_instance

theorem mem_qubits {Lx Ly : Nat} {q : Coord} :
    q ∈ qubits Lx Ly ↔ ∃ x y, q = [x, y] ∧ IsQ Lx Ly x y := by
  unfold qubits IsQ
  simp only [List.mem_append, mem_grid, mem_pyRange2]
  constructor
  · rintro (⟨x, y, hx, hy, rfl⟩ | ⟨x, y, hx, hy, rfl⟩)
    · exact ⟨x, y, rfl, Or.inl (by omega)⟩
    · exact ⟨x, y, rfl, Or.inr (by omega)⟩
  · rintro ⟨x, y, rfl, h | h⟩
    · exact Or.inl ⟨x, y, by omega, by omega, rfl⟩
    · exact Or.inr ⟨x, y, by omega, by omega, rfl⟩

theorem mem_qubits' {Lx Ly : Nat} {x y : Int} : [x, y] ∈ qubits Lx Ly ↔ IsQ Lx Ly x y :=
  mem_pair_iff mem_qubits

theorem isQubit_iff {Lx Ly : Nat} {x y : Int} : isQubit Lx Ly [x, y] = true ↔ IsQ Lx Ly x y := by
  unfold isQubit; rw [isIn_iff, mem_qubits']

theorem mem_stabs {Lx Ly : Nat} {q : Coord} :
    q ∈ stabs Lx Ly ↔ ∃ x y, q = [x, y] ∧ (IsV Lx Ly x y ∨ IsF Lx Ly x y) := by
  unfold stabs IsV IsF
  simp only [List.mem_append, mem_grid, mem_pyRange2]
  constructor
  · rintro (⟨x, y, hx, hy, rfl⟩ | ⟨x, y, hx, hy, rfl⟩)
    · exact ⟨x, y, rfl, Or.inl (by omega)⟩
    · exact ⟨x, y, rfl, Or.inr (by omega)⟩
  · rintro ⟨x, y, rfl, h | h⟩
    · exact Or.inl ⟨x, y, by omega, by omega, rfl⟩
    · exact Or.inr ⟨x, y, by omega, by omega, rfl⟩

theorem mem_stabs' {Lx Ly : Nat} {x y : Int} :
    [x, y] ∈ stabs Lx Ly ↔ (IsV Lx Ly x y ∨ IsF Lx Ly x y) :=
  mem_pair_iff mem_stabs

theorem nodup_grid_append {a b c d a' b' c' d' : Nat} (h : a % 2 ≠ a' % 2) :
    (grid (pyRange2 a b) (pyRange2 c d) ++ grid (pyRange2 a' b') (pyRange2 c' d')).Nodup := by
  refine nodup_append_of (nodup_grid (nodup_pyRange2 ..) (nodup_pyRange2 ..))
    (nodup_grid (nodup_pyRange2 ..) (nodup_pyRange2 ..)) fun q h1 h2 => ?_
  simp only [mem_grid, mem_pyRange2] at h1 h2
  obtain ⟨x, y, hx, -, rfl⟩ := h1
  obtain ⟨x', y', hx', -, e⟩ := h2
  simp only [List.cons.injEq, and_true] at e
  omega

theorem nodup_qubits (Lx Ly : Nat) : (qubits Lx Ly).Nodup := nodup_grid_append (by decide)

theorem nodup_stabs (Lx Ly : Nat) : (stabs Lx Ly).Nodup := nodup_grid_append (by decide)

theorem qubits_stabs_disjoint (Lx Ly : Nat) : ∀ q ∈ qubits Lx Ly, q ∉ stabs Lx Ly := by
  intro q hq hs
  obtain ⟨x, y, rfl, h⟩ := mem_qubits.mp hq
  rw [mem_stabs'] at hs
  unfold IsQ at h; unfold IsV IsF at hs
  omega

/-- the four neighbours, in delta order -/
def nbrs (x y : Int) : List Coord := [[x - 1, y], [x + 1, y], [x, y - 1], [x, y + 1]]

theorem candidates_eq (x y : Int) : candidates x y = nbrs x y := by
  unfold candidates delta nbrs
  simp only [List.map_cons, List.map_nil, Int.add_zero]
  rfl

theorem nodup_nbrs (x y : Int) : (nbrs x y).Nodup := by
  unfold nbrs
  simp only [List.nodup_cons, List.mem_cons, List.cons.injEq, and_true, List.not_mem_nil,
    or_false, not_false_eq_true, List.nodup_nil]
  omega

theorem mem_nbrs {x y a b : Int} :
    [a, b] ∈ nbrs x y ↔ (b = y ∧ (a = x - 1 ∨ a = x + 1)) ∨ (a = x ∧ (b = y - 1 ∨ b = y + 1)) := by
  unfold nbrs
  simp only [List.mem_cons, List.cons.injEq, and_true, List.not_mem_nil, or_false]
  omega

theorem eq_pair_of_mem_nbrs {x y : Int} {q : Coord} (h : q ∈ nbrs x y) : ∃ a b, q = [a, b] := by
  unfold nbrs at h
  simp only [List.mem_cons, List.not_mem_nil, or_false] at h
  rcases h with rfl | rfl | rfl | rfl <;> exact ⟨_, _, rfl⟩

def letter (x : Int) : Pauli := if x % 2 = 0 then Pauli.Z else Pauli.X

theorem letter_cases (x : Int) :
    (x % 2 = 0 ∧ letter x = Pauli.Z) ∨ (x % 2 = 1 ∧ letter x = Pauli.X) := by
  unfold letter
  by_cases h : x % 2 = 0
  · left; simp [h]
  · right; exact ⟨by omega, by simp [h]⟩

theorem letter_V {x : Int} (h : x % 2 = 0) : letter x = Pauli.Z := if_pos h
theorem letter_F {x : Int} (h : x % 2 = 1) : letter x = Pauli.X := if_neg (by omega)

def supp (Lx Ly : Nat) (x y : Int) : List Coord := (nbrs x y).filter (isQubit Lx Ly)

theorem nodup_supp (Lx Ly : Nat) (x y : Int) : (supp Lx Ly x y).Nodup :=
  (nodup_nbrs x y).sublist List.filter_sublist

theorem supp_subset (Lx Ly : Nat) (x y : Int) : ∀ q ∈ supp Lx Ly x y, q ∈ qubits Lx Ly :=
  fun _ hq => isIn_iff.mp (List.mem_filter.mp hq).2

theorem mem_supp {Lx Ly : Nat} {x y a b : Int} :
    [a, b] ∈ supp Lx Ly x y ↔
      ((b = y ∧ (a = x - 1 ∨ a = x + 1)) ∨ (a = x ∧ (b = y - 1 ∨ b = y + 1))) ∧
        IsQ Lx Ly a b := by
  unfold supp
  rw [List.mem_filter, mem_nbrs, isQubit_iff]

theorem getStab_eq {Lx Ly : Nat} {x y : Int} (h : [x, y] ∈ stabs Lx Ly) :
    (lattice Lx Ly).getStab [x, y] = (supp Lx Ly x y).map (fun q => (q, letter x)) := by
  have hs : isStabilizer Lx Ly [x, y] = true := by unfold isStabilizer; rw [isIn_iff]; exact h
  show (getStabilizer? Lx Ly [x, y]).getD [] = _
  unfold getStabilizer? stabilizerType
  simp only [hs, Bool.not_true, Bool.false_eq_true, if_false, Option.getD_some]
  rw [candidates_eq, collect_eq _ _ _ (nodup_nbrs x y)]
  unfold letter supp
  by_cases hp : x % 2 = 0 <;> simp [hp]

/-- the qubit left of a vertex and the qubit below a face always exist -/
theorem supp_nonempty {Lx Ly : Nat} {x y : Int} (h : IsV Lx Ly x y ∨ IsF Lx Ly x y) :
    supp Lx Ly x y ≠ [] := by
  rcases h with h | h
  · unfold IsV at h
    exact List.ne_nil_of_mem (mem_supp.mpr ⟨Or.inl ⟨rfl, Or.inl rfl⟩, Or.inl (by omega)⟩)
  · unfold IsF at h
    exact List.ne_nil_of_mem (mem_supp.mpr ⟨Or.inr ⟨rfl, Or.inl rfl⟩, Or.inl (by omega)⟩)

end Panqec.Planar2DCode
