/-
`HollowRhombicCode` for every size: the qubit list is the edge list of `Planar3DCode` filtered by
`not _is_in_hole` (same order), the hole and the qubit test as arithmetic predicates, `n` in closed
form.
-/
import PanqecVerif.Proofs.LatHollowPlanar3DCodeBasics
import PanqecVerif.Model.Lattices.HollowRhombicCode

namespace Panqec.HollowRhombicCode
open Panqec.Cubic3D
open Panqec.Planar3DCode (inE inO inE2 inO1)

/-- `_is_in_hole` as an arithmetic statement -/
def Hole (Lx Ly Lz : Nat) (x y z : Int) : Prop :=
  (2 < x ∧ x < 2 * (Lx : Int) - 2) ∧ (3 ≤ y ∧ y < 2 * (Ly : Int) - 4) ∧
    (3 ≤ z ∧ z < 2 * (Lz : Int) - 4)

instance (Lx Ly Lz : Nat) (x y z : Int) : Decidable (Hole Lx Ly Lz x y z) := by
  unfold Hole; infer_instance

/-- the x factor / the y and z factor of `_is_in_hole`: the hole is a product of three intervals -/
def HX (L : Nat) (x : Int) : Prop := 2 < x ∧ x < 2 * (L : Int) - 2
def HY (L : Nat) (y : Int) : Prop := 3 ≤ y ∧ y < 2 * (L : Int) - 4

theorem hole_iff {Lx Ly Lz : Nat} {x y z : Int} :
    Hole Lx Ly Lz x y z ↔ HX Lx x ∧ HY Ly y ∧ HY Lz z := Iff.rfl

theorem inHole_iff {Lx Ly Lz : Nat} {x y z : Int} :
    inHole Lx Ly Lz x y z = true ↔ Hole Lx Ly Lz x y z := by
  unfold inHole Hole
  simp only [Bool.and_eq_true, decide_eq_true_eq, gt_iff_lt, ge_iff_le, and_assoc]

theorem inHole_false_iff {Lx Ly Lz : Nat} {x y z : Int} :
    inHole Lx Ly Lz x y z = false ↔ ¬ Hole Lx Ly Lz x y z := by
  rw [← inHole_iff]; simp

/-- the guard of the innermost loop body as a predicate on locations -/
def notHoleC (Lx Ly Lz : Nat) : Coord → Bool
  | [x, y, z] => !inHole Lx Ly Lz x y z
  | _ => true

theorem notHoleC3 {Lx Ly Lz : Nat} {x y z : Int} :
    notHoleC Lx Ly Lz [x, y, z] = true ↔ ¬ Hole Lx Ly Lz x y z := by
  simp only [notHoleC, Bool.not_eq_true', inHole_false_iff]

theorem gridH_eq (Lx Ly Lz : Nat) (xs ys zs : List Int) :
    gridH Lx Ly Lz xs ys zs = (grid xs ys zs).filter (notHoleC Lx Ly Lz) := by
  unfold gridH grid
  rw [List.filter_flatMap]
  congr 1; funext x
  rw [List.filter_flatMap]
  congr 1; funext y
  rw [List.filter_map]
  rfl

/-- `get_qubit_coordinates` is the edge list of `Planar3DCode` with the locations in the hole
    removed -/
theorem qubits_eq (Lx Ly Lz : Nat) :
    qubits Lx Ly Lz = (Planar3DCode.qubits Lx Ly Lz).filter (notHoleC Lx Ly Lz) := by
  unfold qubits Planar3DCode.qubits
  simp only [gridH_eq, List.filter_append]

theorem mem_qubits {Lx Ly Lz : Nat} {x y z : Int} :
    [x, y, z] ∈ qubits Lx Ly Lz ↔
      [x, y, z] ∈ Planar3DCode.qubits Lx Ly Lz ∧ ¬ Hole Lx Ly Lz x y z := by
  rw [qubits_eq, List.mem_filter, notHoleC3]

theorem qubits_sub {Lx Ly Lz : Nat} {q : Coord} (h : q ∈ qubits Lx Ly Lz) :
    q ∈ Planar3DCode.qubits Lx Ly Lz := by
  rw [qubits_eq] at h; exact (List.mem_filter.mp h).1

theorem shape_of_mem_qubits {Lx Ly Lz : Nat} {q : Coord} (h : q ∈ qubits Lx Ly Lz) :
    ∃ x y z, q = [x, y, z] := Planar3DCode.shape_of_mem_qubits (qubits_sub h)

theorem qubits_nodup (Lx Ly Lz : Nat) : (qubits Lx Ly Lz).Nodup := by
  rw [qubits_eq]; exact (Planar3DCode.qubits_nodup Lx Ly Lz).filter _

/-- an x edge is a qubit -/
def Qx (Lx Ly Lz : Nat) (x y z : Int) : Prop :=
  1 ≤ x ∧ x < 2 * (Lx : Int) + 1 ∧ 0 ≤ y ∧ y < 2 * (Ly : Int) ∧ 0 ≤ z ∧ z < 2 * (Lz : Int) ∧
    ¬ Hole Lx Ly Lz x y z
/-- a y edge is a qubit -/
def Qy (Lx Ly Lz : Nat) (x y z : Int) : Prop :=
  2 ≤ x ∧ x < 2 * (Lx : Int) ∧ 1 ≤ y ∧ y < 2 * (Ly : Int) - 1 ∧ 0 ≤ z ∧ z < 2 * (Lz : Int) ∧
    ¬ Hole Lx Ly Lz x y z
/-- a z edge is a qubit -/
def Qz (Lx Ly Lz : Nat) (x y z : Int) : Prop :=
  2 ≤ x ∧ x < 2 * (Lx : Int) ∧ 0 ≤ y ∧ y < 2 * (Ly : Int) ∧ 1 ≤ z ∧ z < 2 * (Lz : Int) - 1 ∧
    ¬ Hole Lx Ly Lz x y z

instance (Lx Ly Lz : Nat) (x y z : Int) : Decidable (Qx Lx Ly Lz x y z) := by unfold Qx; infer_instance
instance (Lx Ly Lz : Nat) (x y z : Int) : Decidable (Qy Lx Ly Lz x y z) := by unfold Qy; infer_instance
instance (Lx Ly Lz : Nat) (x y z : Int) : Decidable (Qz Lx Ly Lz x y z) := by unfold Qz; infer_instance

theorem mem_qubits_x {Lx Ly Lz : Nat} {x y z : Int} (hx : x % 2 = 1) (hy : y % 2 = 0)
    (hz : z % 2 = 0) : [x, y, z] ∈ qubits Lx Ly Lz ↔ Qx Lx Ly Lz x y z := by
  rw [mem_qubits, Planar3DCode.mem_qubits_x hx hy hz]; unfold Qx
  simp only [and_assoc]
theorem mem_qubits_y {Lx Ly Lz : Nat} {x y z : Int} (hx : x % 2 = 0) (hy : y % 2 = 1)
    (hz : z % 2 = 0) : [x, y, z] ∈ qubits Lx Ly Lz ↔ Qy Lx Ly Lz x y z := by
  rw [mem_qubits, Planar3DCode.mem_qubits_y hx hy hz]; unfold Qy
  simp only [and_assoc]
theorem mem_qubits_z {Lx Ly Lz : Nat} {x y z : Int} (hx : x % 2 = 0) (hy : y % 2 = 0)
    (hz : z % 2 = 1) : [x, y, z] ∈ qubits Lx Ly Lz ↔ Qz Lx Ly Lz x y z := by
  rw [mem_qubits, Planar3DCode.mem_qubits_z hx hy hz]; unfold Qz
  simp only [and_assoc]

theorem qubit_parity {Lx Ly Lz : Nat} {x y z : Int} (h : [x, y, z] ∈ qubits Lx Ly Lz) :
    (x % 2 = 1 ∧ y % 2 = 0 ∧ z % 2 = 0) ∨ (x % 2 = 0 ∧ y % 2 = 1 ∧ z % 2 = 0) ∨
    (x % 2 = 0 ∧ y % 2 = 0 ∧ z % 2 = 1) := by
  have := Planar3DCode.mem_qubits.mp (qubits_sub h)
  unfold inE inO inE2 inO1 at this
  omega

def holeX (Lx : Nat) (x : Int) : Bool := decide (x > 2) && decide (x < 2 * (Lx : Int) - 2)
def holeY (L : Nat) (y : Int) : Bool := decide (y ≥ 3) && decide (y < 2 * (L : Int) - 4)

theorem length_gridH (Lx Ly Lz : Nat) (xs ys zs : List Int) :
    (gridH Lx Ly Lz xs ys zs).length +
      (xs.filter (holeX Lx)).length * (ys.filter (holeY Ly)).length *
        (zs.filter (holeY Lz)).length = xs.length * ys.length * zs.length := by
  rw [gridH_eq, ← length_grid, ← length_grid,
    ← HollowPlanar3DCode.filter_grid_box xs ys zs (holeX Lx) (holeY Ly) (holeY Lz)
      (fun q => !notHoleC Lx Ly Lz q) (by intro x y z; simp [notHoleC, inHole, holeX, holeY])]
  have := List.length_eq_length_filter_add (l := grid xs ys zs) (notHoleC Lx Ly Lz)
  omega

open HollowPlanar3DCode (length_filter_range2)

theorem len_holeX_E2 (L : Nat) : ((range2 2 (2 * (L : Int))).filter (holeX L)).length = L - 3 :=
  HollowPlanar3DCode.len_holeX_E2 L

theorem len_holeX_O1 (L : Nat) :
    ((range2 1 (2 * (L : Int) + 1)).filter (holeX L)).length = L - 2 :=
  HollowPlanar3DCode.len_holeX_O1 L

theorem len_holeY_E (L : Nat) : ((range2 0 (2 * (L : Int))).filter (holeY L)).length = L - 4 := by
  rw [length_filter_range2 (a' := 4) (b' := 2 * (L : Int) - 4), length_range2]
  · omega
  · intro x; simp only [mem_range2, holeY, Bool.and_eq_true, decide_eq_true_eq]; omega

theorem len_holeY_O (L : Nat) :
    ((range2 1 (2 * (L : Int) - 1)).filter (holeY L)).length = L - 3 := by
  rw [length_filter_range2 (a' := 3) (b' := 2 * (L : Int) - 4), length_range2]
  · omega
  · intro x; simp only [mem_range2, holeY, Bool.and_eq_true, decide_eq_true_eq]; omega

/-- `n` plus the number of removed edges is the `n` of `Planar3DCode` (x, y, z edges) -/
theorem qubits_length_add (Lx Ly Lz : Nat) : (qubits Lx Ly Lz).length +
    ((Lx - 2) * (Ly - 4) * (Lz - 4) + (Lx - 3) * (Ly - 3) * (Lz - 4) +
      (Lx - 3) * (Ly - 4) * (Lz - 3)) =
    Lx * Ly * Lz + (Lx - 1) * (Ly - 1) * Lz + (Lx - 1) * Ly * (Lz - 1) := by
  have h1 := length_gridH Lx Ly Lz (range2 1 (2 * (Lx : Int) + 1)) (range2 0 (2 * (Ly : Int)))
    (range2 0 (2 * (Lz : Int)))
  have h2 := length_gridH Lx Ly Lz (range2 2 (2 * (Lx : Int))) (range2 1 (2 * (Ly : Int) - 1))
    (range2 0 (2 * (Lz : Int)))
  have h3 := length_gridH Lx Ly Lz (range2 2 (2 * (Lx : Int))) (range2 0 (2 * (Ly : Int)))
    (range2 1 (2 * (Lz : Int) - 1))
  simp only [len_holeX_E2, len_holeX_O1, len_holeY_E, len_holeY_O, length_rangeE, length_rangeO,
    length_rangeE2, length_rangeO1] at h1 h2 h3
  simp only [qubits, List.length_append]
  omega

end Panqec.HollowRhombicCode
