/-
Union-find internals (C05), regression: the code BEFORE the repair of `Peeling_Tree.peel`
(`oldPeelRound … oldDecodeWith` of `Model/UnionFind.lean`: every member qubit shared by a
syndrome-carrying leaf and its parent is added) agrees with the repaired code (the first shared
qubit) on every SIMPLE graph: a leaf and its parent share exactly one member qubit there.
-/
import PanqecVerif.Proofs.UnionFindWF

namespace Panqec.UF

/-- no parallel edges -/
def Simple (H : Mat) : Prop :=
  ∀ i j q q', i ≠ j → hb H i q = true → hb H j q = true → hb H i q' = true → hb H j q' = true → q = q'

section
variable {H : Mat} {stabs qubits : Nat → Bool} {root : Nat} {S0 : Nat → Nat → Bool}
  {syn0 : Nat → Bool} {al : Nat → Bool} {st : PeelSt}

/-- without parallel edges the list of shared member qubits of a tree edge is `[eOf]` -/
theorem edge_filter (G : GraphOK H) (hS : Simple H) (T : TreeOK H stabs qubits root S0) {p c : Nat}
    (h : S0 p c = true) :
    (List.range (ncols H)).filter (fun q => subH H stabs qubits p q && subH H stabs qubits c q) =
      [eOf H stabs qubits p c] := by
  have he := (edge_spec G T h).1
  have he' := (adjq_true H stabs qubits p c _).mp he
  refine filter_range_unique _ _ _ (G.inRange p _ he'.1).2 he fun i _ hi => ?_
  have hi' := (adjq_true H stabs qubits p c i).mp hi
  exact hS p c i _ (T.mem p c h).2.2.1 hi'.1 hi'.2.1 he'.1 he'.2.1

theorem oldPeelRound_eq (G : GraphOK H) (hS : Simple H) (hst : ∀ s, stabs s = true → s < H.length)
    (T : TreeOK H stabs qubits root S0) (I : PInv H stabs qubits S0 syn0 al st)
    (hroot : root ∉ st.leaves) :
    oldPeelRound H stabs qubits st = .ok (nextSt H stabs qubits S0 st) := by
  unfold oldPeelRound
  simp only []
  rw [parents_eq hst T I hroot, if_neg (by simp),
    zip_flatMap_if _ _ _ fun p c => (List.range (ncols H)).filter fun q =>
      subH H stabs qubits p q && subH H stabs qubits c q,
    List.flatMap_congr fun c hc =>
      edge_filter G hS T (leaf_edge hst T I hroot (List.mem_filter.mp hc).1),
    ← List.map_eq_flatMap]
  simp only [tabGet_tabArr]
  rfl

/-- the two loops agree along the invariant -/
theorem oldPeelLoop_eq (G : GraphOK H) (hS : Simple H) (hst : ∀ s, stabs s = true → s < H.length)
    (T : TreeOK H stabs qubits root S0) :
    ∀ fuel (st : PeelSt) (al : Nat → Bool), PInv H stabs qubits S0 syn0 al st →
      oldPeelLoop H stabs qubits fuel st = peelLoop H stabs qubits fuel st := by
  intro fuel
  induction fuel with
  | zero => intro st al _; rfl
  | succ fuel ih =>
    intro st al I
    unfold oldPeelLoop peelLoop
    cases hany : (List.range H.length).any st.syn
    · rfl
    · obtain ⟨s, _, hsyn⟩ := List.any_eq_true.mp hany
      obtain ⟨hroot, _, hn⟩ := defect_left G hst T I hsyn
      rw [if_pos rfl, if_pos rfl, oldPeelRound_eq G hS hst T I hroot, peelRound_eq hst T I hroot hn]
      exact ih _ _ (PInv_next G hst T I hroot)

end

/-- one cluster -/
theorem oldPeelTree_eq {H : Mat} (G : GraphOK H) (hS : Simple H) (sy : Vec) (sPar qPar : Nat → Int)
    (r : Nat) (hroot : stabsOf H sPar r r = true)
    (hconn : ∀ v, stabsOf H sPar r v = true →
      Reach H (stabsOf H sPar r) (qubitsOf H qPar r) r v)
    (heven : cnt H.length (fun s => defect sy s && stabsOf H sPar r s) % 2 = 0) :
    oldPeelTree H sy sPar qPar r = peelTree H sy sPar qPar r := by
  have hst : ∀ s, stabsOf H sPar r s = true → s < H.length := fun s h => stabsOf_lt h
  obtain ⟨S0, leaves, hbuild, T, L⟩ := buildTree_spec G hst hroot hconn
  -- the initial state satisfies the invariant, or there is no defect and neither loop runs
  have hloop : oldPeelLoop H (stabsOf H sPar r) (qubitsOf H qPar r) (H.length + 1)
        ⟨S0, fun s => defect sy s && stabsOf H sPar r s, leaves, [], []⟩ =
      peelLoop H (stabsOf H sPar r) (qubitsOf H qPar r) (H.length + 1)
        ⟨S0, fun s => defect sy s && stabsOf H sPar r s, leaves, [], []⟩ := by
    by_cases hdef : ∃ s, (defect sy s && stabsOf H sPar r s) = true
    · obtain ⟨s, hs⟩ := hdef
      exact oldPeelLoop_eq G hS hst T _ _ _
        (PInv_init hst T L (fun s h => (Bool.and_eq_true_iff.mp h).2) heven hs)
    · have hany : (List.range H.length).any (fun s => defect sy s && stabsOf H sPar r s) = false :=
        List.any_eq_false.mpr fun x _ hx => hdef ⟨x, hx⟩
      unfold oldPeelLoop peelLoop
      simp [hany]
  unfold stabsOf qubitsOf at hbuild hloop
  unfold defect at hloop
  unfold oldPeelTree peelTree
  simp only [tabGet_tabArr, tabGet2_tabArr2, hbuild, hloop]

/-- all clusters -/
theorem oldPeelAll_eq {H : Mat} (G : GraphOK H) (hS : Simple H) (sy : Vec) (sPar qPar : Nat → Int) :
    ∀ (rs : List Nat),
      (∀ r, r ∈ rs → stabsOf H sPar r r = true) →
      (∀ r, r ∈ rs → ∀ v, stabsOf H sPar r v = true →
        Reach H (stabsOf H sPar r) (qubitsOf H qPar r) r v) →
      (∀ r, r ∈ rs → cnt H.length (fun s => defect sy s && stabsOf H sPar r s) % 2 = 0) →
      oldPeelAll H sy sPar qPar rs = peelAll H sy sPar qPar rs := by
  intro rs
  induction rs with
  | nil => intro _ _ _; rfl
  | cons r rs ih =>
    intro hroot hconn heven
    unfold oldPeelAll peelAll
    rw [oldPeelTree_eq G hS sy sPar qPar r (hroot r (by simp)) (hconn r (by simp)) (heven r (by simp)),
      ih (fun x hx => hroot x (by simp [hx])) (fun x hx => hconn x (by simp [hx]))
        (fun x hx => heven x (by simp [hx]))]

/-- **`Support.decode()` before and after the repair agree on every simple graph**, for every
    syndrome vector and every schedule -/
theorem oldDecodeWith_eq {H : Mat} (hG : graphLike H = true) (sy : Vec) (sched : List (List Int)) :
    oldDecodeWith H sy sched = decodeWith H sy sched := by
  obtain ⟨G, _⟩ := graphLike_ok hG
  unfold oldDecodeWith decodeWith
  simp only []
  cases hterm : (clustering H sy sched).terminated
  · rfl
  · obtain ⟨P, _⟩ := clustering_post G sy sched hterm
    rw [oldPeelAll_eq G (graphLike_simple hG) sy _ _ _ P.root_self P.conn P.even]

end Panqec.UF
