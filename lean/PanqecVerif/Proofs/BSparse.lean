/-
Helper lemmas for `Properties/C03BSparse.lean` (model of `panqec/bsparse.py`).  Core Lean only.
-/
import PanqecVerif.Model.BSparse
import PanqecVerif.Model.Bits

namespace Panqec.BSp

/-- decidable equality of results, so that concrete instances can be closed by `decide` -/
instance instDecEqExcept {ε α} [DecidableEq ε] [DecidableEq α] : DecidableEq (Except ε α)
  | .ok a, .ok b => if h : a = b then isTrue (by rw [h]) else isFalse (fun h' => h (by injection h'))
  | .error a, .error b => if h : a = b then isTrue (by rw [h]) else isFalse (fun h' => h (by injection h'))
  | .ok _, .error _ => isFalse (fun h => by injection h)
  | .error _, .ok _ => isFalse (fun h => by injection h)

theorem mem_insSorted (c x : Nat) (l : List Nat) : x ∈ insSorted c l ↔ x = c ∨ x ∈ l := by
  induction l with
  | nil => simp [insSorted]
  | cons y ys ih =>
    unfold insSorted
    by_cases h1 : c < y
    · simp [h1]
    · by_cases h2 : c = y
      · subst h2; simp
      · simp only [h1, h2, if_false, List.mem_cons, ih]
        constructor
        · rintro (h | h | h) <;> simp [h]
        · rintro (h | h | h) <;> simp [h]

theorem mem_sortUniq (x : Nat) (l : List Nat) : x ∈ sortUniq l ↔ x ∈ l := by
  induction l with
  | nil => simp [sortUniq]
  | cons y ys ih =>
    have : sortUniq (y :: ys) = insSorted y (sortUniq ys) := rfl
    rw [this, mem_insSorted, ih]; simp

theorem insSorted_pairwise (c : Nat) (l : List Nat) (h : l.Pairwise (· < ·)) :
    (insSorted c l).Pairwise (· < ·) := by
  induction l with
  | nil => simp [insSorted]
  | cons y ys ih =>
    unfold insSorted
    rw [List.pairwise_cons] at h
    by_cases h1 : c < y
    · simp only [h1, if_true, List.pairwise_cons]
      refine ⟨?_, h.1, h.2⟩
      intro a ha
      rcases List.mem_cons.mp ha with rfl | ha
      · exact h1
      · exact Nat.lt_trans h1 (h.1 a ha)
    · by_cases h2 : c = y
      · subst h2
        simp only [Nat.lt_irrefl, if_false, if_true]
        exact List.pairwise_cons.mpr h
      · simp only [h1, h2, if_false, List.pairwise_cons]
        refine ⟨?_, ih h.2⟩
        intro a ha
        rcases (mem_insSorted c a ys).mp ha with rfl | ha
        · omega
        · exact h.1 a ha

theorem sortUniq_pairwise (l : List Nat) : (sortUniq l).Pairwise (· < ·) := by
  induction l with
  | nil => simp [sortUniq]
  | cons y ys ih => exact insSorted_pairwise y _ ih

theorem sortUniq_nodup (l : List Nat) : (sortUniq l).Nodup := by
  have := sortUniq_pairwise l
  exact this.imp (fun h => Nat.ne_of_lt h)

/-- an ascending duplicate-free list is a fixed point of `sortUniq` -/
theorem insSorted_of_lt_all (c : Nat) (l : List Nat) (h : ∀ x ∈ l, c < x) :
    insSorted c l = c :: l := by
  cases l with
  | nil => rfl
  | cons y ys => simp [insSorted, h y (by simp)]

theorem sortUniq_of_pairwise (l : List Nat) (h : l.Pairwise (· < ·)) : sortUniq l = l := by
  induction l with
  | nil => rfl
  | cons y ys ih =>
    rw [List.pairwise_cons] at h
    have : sortUniq (y :: ys) = insSorted y (sortUniq ys) := rfl
    rw [this, ih h.2, insSorted_of_lt_all y ys h.1]

theorem colSum_nil (c : Nat) : colSum c [] = 0 := rfl

theorem colSum_cons (c : Nat) (e : Entry) (r : List Entry) :
    colSum c (e :: r) = (if e.1 = c then e.2 else 0) + colSum c r := by
  unfold colSum
  by_cases h : e.1 = c
  · simp [h]
  · simp [h]

theorem colSum_append (c : Nat) (r s : List Entry) : colSum c (r ++ s) = colSum c r + colSum c s := by
  induction r with
  | nil => simp [colSum_nil]
  | cons e r ih => rw [List.cons_append, colSum_cons, colSum_cons, ih]; omega

theorem colSum_eq_zero_of_not_mem (c : Nat) (r : List Entry) (h : c ∉ r.map (·.1)) : colSum c r = 0 := by
  induction r with
  | nil => rfl
  | cons e r ih =>
    rw [colSum_cons]
    simp only [List.map_cons, List.mem_cons, not_or] at h
    rw [ih h.2]
    have : ¬ e.1 = c := fun h' => h.1 h'.symm
    simp [this]

/-- a row built from a duplicate-free column list -/
theorem colSum_map_nodup (c : Nat) (g : Nat → Nat) (L : List Nat) (h : L.Nodup) :
    colSum c (L.map fun c' => (c', g c')) = if c ∈ L then g c else 0 := by
  induction L with
  | nil => rfl
  | cons y ys ih =>
    rw [List.nodup_cons] at h
    rw [List.map_cons, colSum_cons, ih h.2]
    by_cases h1 : y = c
    · subst h1; simp [h.1]
    · have : ¬ c = y := fun h' => h1 h'.symm
      simp [h1, this]

theorem colSum_castRow_u8 (c : Nat) (r : List Entry) :
    colSum c (castRow .u8 r) % 256 = colSum c r % 256 := by
  induction r with
  | nil => rfl
  | cons e r ih =>
    unfold castRow at ih ⊢
    rw [List.map_cons, colSum_cons, colSum_cons]
    show ((if e.1 = c then e.2 % 256 else 0) +
      colSum c (List.map (fun e => (e.fst, castVal DT.u8 e.snd)) r)) % 256 = _
    generalize colSum c (List.map (fun e => (e.fst, castVal DT.u8 e.snd)) r) = X at ih ⊢
    generalize colSum c r = Y at ih ⊢
    by_cases h : e.1 = c
    · rw [if_pos h, if_pos h]; omega
    · rw [if_neg h, if_neg h]; omega

/-- `sum_duplicates()` does not change the dense `uint8` value of any column -/
theorem colSum_canonRow (c : Nat) (r : List Entry) : colSum c (canonRow r) % 256 = colSum c r % 256 := by
  unfold canonRow
  rw [colSum_map_nodup c (fun c' => colSum c' r % 256) _ (sortUniq_nodup _)]
  by_cases h : c ∈ r.map (·.1)
  · simp [mem_sortUniq, h]
  · rw [if_neg (by rw [mem_sortUniq]; exact h), colSum_eq_zero_of_not_mem c r h]

theorem castRow_u8_idem (r : List Entry) : castRow .u8 (castRow .u8 r) = castRow .u8 r := by
  unfold castRow
  simp [castVal]

theorem canonRow_cols (r : List Entry) : (canonRow r).map (·.1) = sortUniq (r.map (·.1)) := by
  unfold canonRow
  rw [List.map_map]
  exact List.map_id' _

theorem castRow_canonRow (r : List Entry) : castRow .u8 (canonRow r) = canonRow r := by
  unfold castRow canonRow
  simp [castVal]

theorem denseVal_u8 (r : List Entry) (c : Nat) : denseVal .u8 r c = colSum c r % 256 := by
  unfold denseVal
  simp only [reduceIn]
  exact colSum_castRow_u8 c r

theorem denseRow_canonRow (n : Nat) (r : List Entry) :
    denseRow .u8 n (canonRow r) = denseRow .u8 n r := by
  unfold denseRow
  apply List.map_congr_left
  intro c _
  rw [denseVal_u8, denseVal_u8, colSum_canonRow]


/-- the column list after `insert_mod2(index, ·)` -/
def insCols (i : Nat) (cols : List Nat) : List Nat :=
  if i ∈ cols then sortUniq (cols.filter (· ≠ i)) else cols ++ [i]

theorem mem_insCols (i j : Nat) (cols : List Nat) :
    j ∈ insCols i cols ↔ if j = i then i ∉ cols else j ∈ cols := by
  unfold insCols
  by_cases hi : i ∈ cols <;> by_cases hj : j = i <;> simp [hi, hj, mem_sortUniq]

theorem decide_mem_insCols_self (i : Nat) (cols : List Nat) :
    decide (i ∈ insCols i cols) = !decide (i ∈ cols) := by
  simp [mem_insCols]

theorem decide_mem_insCols_other (i j : Nat) (cols : List Nat) (hj : j ≠ i) :
    decide (j ∈ insCols i cols) = decide (j ∈ cols) := by
  simp [mem_insCols, hj]

theorem insCols_nodup (i : Nat) (cols : List Nat) (h : cols.Nodup) : (insCols i cols).Nodup := by
  unfold insCols
  split
  · exact sortUniq_nodup _
  · rename_i hi
    exact List.nodup_append.mpr ⟨h, by simp, fun a ha b hb => by
      rw [List.mem_singleton.mp hb]; exact fun hab => hi (hab ▸ ha)⟩

theorem indices_single (nc : Nat) (dt : DT) (r : List Entry) :
    (Csr.mk nc dt [r]).indices = r.map (·.1) := by
  simp [Csr.indices]

theorem insertMod2_row (i nc : Nat) (dt : DT) (r : List Entry) :
    insertMod2 i (.csr ⟨nc, dt, [r]⟩) =
      .ok ⟨nc, .u8, [(insCols i (r.map (·.1))).map fun c => (c, 1)]⟩ := by
  unfold insertMod2
  simp only [List.length_cons, List.length_nil, indices_single]
  rfl

theorem isOne_row (j nc : Nat) (dt : DT) (r : List Entry) :
    isOne j (.csr ⟨nc, dt, [r]⟩) = .ok (decide (j ∈ r.map (·.1))) := by
  show Except.ok (decide (j ∈ (Csr.mk nc dt [r]).indices)) = _
  rw [indices_single]

theorem map_pair_fst (L : List Nat) : (L.map fun c => ((c, 1) : Entry)).map (·.1) = L := by
  rw [List.map_map]; exact List.map_id' _

/-- dense `uint8` value of a row that stores ones at a duplicate-free column list -/
theorem denseVal_ones (L : List Nat) (h : L.Nodup) (c : Nat) :
    denseVal .u8 (L.map fun c' => ((c', 1) : Entry)) c = if c ∈ L then 1 else 0 := by
  rw [denseVal_u8, colSum_map_nodup c (fun _ => 1) L h]
  by_cases hc : c ∈ L <;> simp [hc]

/-- a list whose first part has keys below `n` and whose second part has keys from `n` on is
    taken apart again by filtering on the key -/
theorem filter_key_append {α : Type} (key : α → Nat) (n : Nat) {a b : List α}
    (ha : ∀ x ∈ a, key x < n) (hb : ∀ x ∈ b, n ≤ key x) :
    (a ++ b).filter (fun x => decide (key x < n)) = a ∧
    (a ++ b).filter (fun x => decide (n ≤ key x)) = b := by
  rw [List.filter_append, List.filter_append,
    List.filter_eq_self.mpr fun x hx => decide_eq_true (ha x hx),
    List.filter_eq_self.mpr fun x hx => decide_eq_true (hb x hx),
    List.filter_eq_nil_iff.mpr fun x hx => by have := hb x hx; simp; omega,
    List.filter_eq_nil_iff.mpr fun x hx => by have := ha x hx; simp; omega,
    List.append_nil, List.nil_append]
  exact ⟨rfl, rfl⟩

theorem le_of_mem_shiftRow (n : Nat) (r : List Entry) : ∀ e ∈ shiftRow n r, n ≤ e.1 := by
  intro e he
  obtain ⟨e', _, rfl⟩ := List.mem_map.mp he
  exact Nat.le_add_left n e'.1

theorem filter_lt_hcat (n : Nat) (ra rb : List Entry) (ha : ∀ e ∈ ra, e.1 < n) :
    (ra ++ shiftRow n rb).filter (fun e => decide (e.1 < n)) = ra :=
  (filter_key_append (fun e : Entry => e.1) n ha (le_of_mem_shiftRow n rb)).1

theorem filter_ge_hcat (n : Nat) (ra rb : List Entry) (ha : ∀ e ∈ ra, e.1 < n) :
    ((ra ++ shiftRow n rb).filter (fun e => decide (n ≤ e.1))).map (fun e => (e.1 - n, e.2)) = rb := by
  rw [(filter_key_append (fun e : Entry => e.1) n ha (le_of_mem_shiftRow n rb)).2]
  unfold shiftRow
  rw [List.map_map]
  have : ((fun e : Entry => (e.1 - n, e.2)) ∘ fun e : Entry => (e.1 + n, e.2)) = id := by
    funext e; simp
  rw [this, List.map_id]

theorem map_filter_lt_hcat2 (n : Nat) (A B : List (List Entry)) (hl : A.length = B.length)
    (hA : ∀ r ∈ A, ∀ e ∈ r, e.1 < n) :
    (hcat2 n A B).map (fun r => r.filter fun e => decide (e.1 < n)) = A := by
  induction A generalizing B with
  | nil => simp [hcat2]
  | cons ra A ih =>
    cases B with
    | nil => simp at hl
    | cons rb B =>
      unfold hcat2
      rw [List.zipWith_cons_cons, List.map_cons, filter_lt_hcat n ra rb (hA ra (by simp))]
      congr 1
      exact ih B (by simpa using hl) (fun r hr => hA r (by simp [hr]))

theorem map_filter_ge_hcat2 (n : Nat) (A B : List (List Entry)) (hl : A.length = B.length)
    (hA : ∀ r ∈ A, ∀ e ∈ r, e.1 < n) :
    (hcat2 n A B).map (fun r => (r.filter fun e => decide (n ≤ e.1)).map fun e => (e.1 - n, e.2)) = B := by
  induction A generalizing B with
  | nil => cases B with
    | nil => simp [hcat2]
    | cons _ _ => simp at hl
  | cons ra A ih =>
    cases B with
    | nil => simp at hl
    | cons rb B =>
      unfold hcat2
      rw [List.zipWith_cons_cons, List.map_cons, filter_ge_hcat n ra rb (hA ra (by simp))]
      congr 1
      exact ih B (by simpa using hl) (fun r hr => hA r (by simp [hr]))

theorem hcat2_length (n : Nat) (A B : List (List Entry)) (hl : A.length = B.length) :
    (hcat2 n A B).length = A.length := by
  unfold hcat2; simp [hl]

/-- `hstack` of two `uint8` csr matrices of equal height: rows side by side, nothing re-ordered -/
theorem hstack_two_u8 (na nb : Nat) (A B : List (List Entry)) (hl : A.length = B.length) :
    hstack [.csr ⟨na, .u8, A⟩, .csr ⟨nb, .u8, B⟩] = .ok ⟨na + nb, .u8, hcat2 na A B⟩ := by
  simp [hstack, Arg.isCsr, blockRaw, finishStack, DT.promote, hl]


theorem bitsDot_map_map (l : List Nat) (f g : Nat → Nat) :
    Panqec.dot (l.map f) (l.map g) = (l.map fun c => f c * g c).sum := by
  induction l with
  | nil => rfl
  | cons x xs ih => simp [Panqec.dot, ih]

theorem sum_indicator (l : List Nat) (p : Nat → Bool) :
    (l.map fun c => if p c then 1 else 0).sum = (l.filter p).length := by
  induction l with
  | nil => rfl
  | cons x xs ih =>
    rw [List.map_cons, List.sum_cons, ih, List.filter_cons]
    by_cases h : p x <;> simp [h]; omega

/-- `len(np.intersect1d(A, B))` counts the columns below `n` that occur in both index lists -/
theorem nCommon_eq_count (n : Nat) (A B : List Nat) (hA : ∀ c ∈ A, c < n) :
    nCommon A B = ((List.range n).filter fun c => decide (c ∈ A) && decide (c ∈ B)).length := by
  unfold nCommon
  apply List.Perm.length_eq
  rw [List.perm_ext_iff_of_nodup ((sortUniq_nodup A).filter _) (List.nodup_range.filter _)]
  intro c
  simp only [List.mem_filter, mem_sortUniq, List.mem_range, decide_eq_true_eq, Bool.and_eq_true]
  constructor
  · rintro ⟨h1, h2⟩; exact ⟨hA c h1, h1, h2⟩
  · rintro ⟨_, h1, h2⟩; exact ⟨h1, h2⟩

/-- for rows that store ones at duplicate-free in-range columns, the intersection count is the
    integer inner product of the dense rows (the `dot` of `Model/Bits.lean`) -/
theorem nCommon_eq_bitsDot (n : Nat) (A B : List Nat) (hA : ∀ c ∈ A, c < n)
    (hnA : A.Nodup) (hnB : B.Nodup) :
    nCommon A B = Panqec.dot (denseRow .u8 n (A.map fun c => ((c, 1) : Entry)))
                             (denseRow .u8 n (B.map fun c => ((c, 1) : Entry))) := by
  unfold denseRow
  rw [bitsDot_map_map, nCommon_eq_count n A B hA, ← sum_indicator]
  congr 1
  apply List.map_congr_left
  intro c _
  rw [denseVal_ones A hnA, denseVal_ones B hnB]
  by_cases h1 : c ∈ A <;> by_cases h2 : c ∈ B <;> simp [h1, h2]

theorem colSum_fromDenseRowAux_lt : ∀ (vs : List Nat) (k c : Nat), c < k →
    colSum c (fromDenseRowAux k vs) = 0
  | [], _, _, _ => rfl
  | v :: vs, k, c, h => by
    have ih := colSum_fromDenseRowAux_lt vs (k + 1) c (by omega)
    unfold fromDenseRowAux
    split
    · exact ih
    · rw [colSum_cons, ih, if_neg (show ¬ k = c by omega)]

/-- column `k + j` of the row read from position `k` on holds the `j`-th value -/
theorem colSum_fromDenseRowAux : ∀ (vs : List Nat) (k j : Nat),
    colSum (k + j) (fromDenseRowAux k vs) = vs.getD j 0 % 256
  | [], _, _ => by simp [fromDenseRowAux, colSum_nil]
  | v :: vs, k, 0 => by
    have h0 := colSum_fromDenseRowAux_lt vs (k + 1) k (by omega)
    unfold fromDenseRowAux
    split
    · rename_i hv; rw [Nat.add_zero, h0, hv]; rfl
    · rw [Nat.add_zero, colSum_cons, h0, if_pos rfl]; rfl
  | v :: vs, k, j + 1 => by
    have ih := colSum_fromDenseRowAux vs (k + 1) j
    rw [show k + 1 + j = k + (j + 1) by omega] at ih
    unfold fromDenseRowAux
    split
    · rw [ih]; rfl
    · rw [colSum_cons, ih, if_neg (show ¬ k = k + (j + 1) by omega), Nat.zero_add]; rfl

theorem denseRow_fromDenseRow (vs : List Nat) (h : ∀ v ∈ vs, v < 256) :
    denseRow .u8 vs.length (fromDenseRow vs) = vs := by
  unfold denseRow fromDenseRow
  apply List.ext_getElem
  · simp
  · intro i h1 h2
    have hc := colSum_fromDenseRowAux vs 0 i
    rw [Nat.zero_add] at hc
    have hi : i < vs.length := by simpa using h2
    simp only [List.getElem_map, List.getElem_range, denseVal_u8, hc, Nat.mod_mod]
    rw [List.getD_eq_getElem?_getD, List.getElem?_eq_getElem hi, Option.getD_some]
    exact Nat.mod_eq_of_lt (h _ (List.getElem_mem hi))

theorem colSum_shiftRow_add (n c : Nat) (r : List Entry) : colSum (c + n) (shiftRow n r) = colSum c r := by
  induction r with
  | nil => rfl
  | cons e r ih =>
    unfold shiftRow at ih ⊢
    rw [List.map_cons, colSum_cons, colSum_cons, ih]
    have : (e.1 + n = c + n) ↔ (e.1 = c) := by omega
    simp only [this]

theorem colSum_shiftRow_lt (n c : Nat) (r : List Entry) (h : c < n) : colSum c (shiftRow n r) = 0 := by
  apply colSum_eq_zero_of_not_mem
  unfold shiftRow
  intro hc
  simp only [List.map_map, List.mem_map, Function.comp] at hc
  rcases hc with ⟨e, _, he⟩
  omega

theorem denseRow_hcat (na nb : Nat) (ra rb : List Entry) (ha : ∀ e ∈ ra, e.1 < na) :
    denseRow .u8 (na + nb) (ra ++ shiftRow na rb) = denseRow .u8 na ra ++ denseRow .u8 nb rb := by
  unfold denseRow
  rw [List.range_add, List.map_append, List.map_map]
  congr 1
  · apply List.map_congr_left
    intro c hc
    rw [List.mem_range] at hc
    rw [denseVal_u8, denseVal_u8, colSum_append, colSum_shiftRow_lt na c rb hc, Nat.add_zero]
  · apply List.map_congr_left
    intro c _
    simp only [Function.comp]
    rw [denseVal_u8, denseVal_u8, colSum_append, Nat.add_comm na c, colSum_shiftRow_add]
    have : colSum (c + na) ra = 0 := by
      apply colSum_eq_zero_of_not_mem
      intro hc
      rcases List.mem_map.mp hc with ⟨e, he, hec⟩
      have := ha e he
      omega
    rw [this, Nat.zero_add]

theorem map_denseRow_hcat2 (na nb : Nat) (A B : List (List Entry)) (hl : A.length = B.length)
    (hA : ∀ r ∈ A, ∀ e ∈ r, e.1 < na) :
    (hcat2 na A B).map (denseRow .u8 (na + nb)) =
      List.zipWith (· ++ ·) (A.map (denseRow .u8 na)) (B.map (denseRow .u8 nb)) := by
  induction A generalizing B with
  | nil => simp [hcat2]
  | cons ra A ih =>
    cases B with
    | nil => simp at hl
    | cons rb B =>
      unfold hcat2
      rw [List.zipWith_cons_cons, List.map_cons, denseRow_hcat na nb ra rb (hA ra (by simp))]
      simp only [List.map_cons, List.zipWith_cons_cons]
      congr 1
      exact ih B (by simpa using hl) (fun r hr => hA r (by simp [hr]))


theorem all_isCsr_map (ms : List Csr) : (ms.map Arg.csr).all Arg.isCsr = true := by
  induction ms with
  | nil => rfl
  | cons m ms ih => simp [Arg.isCsr]

theorem filterMap_blockRaw_map (ms : List Csr) :
    (ms.map Arg.csr).filterMap blockRaw = ms.map fun m => (m.ncols, m.dt, m.rows) := by
  induction ms with
  | nil => rfl
  | cons m ms ih => rw [List.map_cons, List.filterMap_cons, List.map_cons, ih]; rfl

/-- the dtype of the concatenated data of a list of csr blocks -/
def promoteAll (dt0 : DT) (ms : List Csr) : DT := ms.foldl (fun t m => DT.promote t m.dt) dt0

theorem vstack_csr (m0 : Csr) (ms : List Csr) :
    vstack ((m0 :: ms).map Arg.csr) =
      if ms.any (fun m => m.ncols ≠ m0.ncols) then .error .valueError
      else .ok (finishStack m0.ncols (promoteAll m0.dt ms) (m0.rows ++ ms.flatMap (·.rows))) := by
  have hall : ((m0 :: ms).map Arg.csr).all Arg.isCsr = true := all_isCsr_map _
  rw [List.map_cons] at hall ⊢
  unfold vstack
  simp only [hall, if_true, blockRaw, filterMap_blockRaw_map]
  simp only [List.any_map, List.foldl_map, List.flatMap_map, Function.comp_def, promoteAll]

theorem finishStack_ncols (nc : Nat) (dt : DT) (rows : List (List Entry)) :
    (finishStack nc dt rows).ncols = nc := by
  unfold finishStack; split <;> rfl

theorem finishStack_dt (nc : Nat) (dt : DT) (rows : List (List Entry)) :
    (finishStack nc dt rows).dt = .u8 := by
  unfold finishStack; split <;> rfl

theorem denseRow_castRow_u8 (n : Nat) (r : List Entry) :
    denseRow .u8 n (castRow .u8 r) = denseRow .u8 n r := by
  unfold denseRow
  apply List.map_congr_left
  intro c _
  rw [denseVal_u8, denseVal_u8, colSum_castRow_u8]

/-- whatever the dtypes, the stacking fast path keeps the dense `uint8` value of every row -/
theorem finishStack_dense (nc : Nat) (dt : DT) (rows : List (List Entry)) :
    (finishStack nc dt rows).rows.map (denseRow .u8 nc) = rows.map (denseRow .u8 nc) := by
  unfold finishStack
  split
  · rfl
  · simp only [List.map_map]
    apply List.map_congr_left
    intro r _
    simp only [Function.comp, denseRow_canonRow, denseRow_castRow_u8]

end Panqec.BSp
