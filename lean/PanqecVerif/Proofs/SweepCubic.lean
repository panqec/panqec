/-
Geometry of C10 shared by the two cubic lattices (Toric3DCode, Planar3DCode).  A location is an
edge, a face, a vertex or a cube according to the parities of its coordinates, and both tables of
the Python code depend on the parities only (`cubicTables`, the instance of `NbrTables`), so a
face is toggled by an edge iff it carries X there (`toggled_iff_hasX`), whatever the lattice does
to `q + d` afterwards (wrap it, or drop it at a boundary).
-/
import PanqecVerif.Proofs.SweepTables

namespace Panqec.Sweep

/-- the parities of the coordinates (`flip_edge`: `location % 2`) -/
def par (l : Loc) : Loc := (l.1 % 2, l.2.1 % 2, l.2.2 % 2)

def edgePars : List Loc := [(1, 0, 0), (0, 1, 0), (0, 0, 1)]

def stabPars : List Loc := [(0, 0, 0), (1, 1, 0), (0, 1, 1), (1, 0, 1)]

def units : List Loc := [(1, 0, 0), (-1, 0, 0), (0, 1, 0), (0, -1, 0), (0, 0, 1), (0, 0, -1)]

/-- the neighbour table of `SweepDecoder3D.flip_edge` as offsets from the edge -/
def edgeDeltas (p : Loc) : List Loc :=
  if p == (1, 0, 0) then [(0, 1, 0), (0, -1, 0), (0, 0, 1), (0, 0, -1)]
  else if p == (0, 1, 0) then [(0, 0, 1), (0, 0, -1), (1, 0, 0), (-1, 0, 0)]
  else if p == (0, 0, 1) then [(1, 0, 0), (-1, 0, 0), (0, 1, 0), (0, -1, 0)]
  else []

/-- the offsets on which `get_stabilizer` puts an X -/
def xDeltas (p : Loc) : List Loc := if cubicIsFace p then (cubicFaceDeltas p).getD [] else []

theorem par_addLoc (l d : Loc) : par (addLoc l d) = par (addLoc (par l) d) := by
  simp only [par, addLoc, Int.emod_add_emod]

def facePars : List Loc := [(1, 1, 0), (0, 1, 1), (1, 0, 1)]

theorem cubicTables : NbrTables par units edgePars facePars edgeDeltas xDeltas where
  cls_add := par_addLoc
  neg := by decide
  edge := by decide
  face := by decide

theorem stabPars_cases : ∀ p ∈ stabPars, (xDeltas p).Nodup ∧
    (cubicIsFace p = true → p ∈ facePars) ∧ (cubicIsFace p = false → p = (0, 0, 0)) := by decide

theorem vertex_table : ∀ d ∈ units, par (addLoc (0, 0, 0) d) ∈ edgePars := by decide

theorem edgeDeltas_nodup : ∀ p ∈ edgePars, (edgeDeltas p).Nodup := by decide

theorem units_small : ∀ d ∈ units, (-1 ≤ d.1 ∧ d.1 ≤ 1) ∧ (-1 ≤ d.2.1 ∧ d.2.1 ≤ 1) ∧
    (-1 ≤ d.2.2 ∧ d.2.2 ≤ 1) := by decide

theorem par_wrap3 (Lx Ly Lz : Nat) (l : Loc) : par (wrap3 Lx Ly Lz l) = par l := by
  simp only [par, wrap3, Int.emod_emod_of_dvd _ (Int.dvd_mul_right 2 _)]

theorem cubicIsFace_par (l : Loc) : cubicIsFace (par l) = cubicIsFace l := by
  simp only [cubicIsFace, par, Int.emod_emod_of_dvd _ (Int.dvd_refl 2)]

theorem cubicFaceDeltas_par (l : Loc) : cubicFaceDeltas (par l) = cubicFaceDeltas l := by
  simp only [cubicFaceDeltas, par, Int.emod_emod_of_dvd _ (Int.dvd_refl 2)]

/-- three coordinates, each in a range and of a parity: a box and a parity vector -/
theorem and3_and3 {A B C a b c : Prop} : (A ∧ a) ∧ (B ∧ b) ∧ (C ∧ c) ↔ (A ∧ B ∧ C) ∧ a ∧ b ∧ c :=
  ⟨fun ⟨⟨hA, ha⟩, ⟨hB, hb⟩, hC, hc⟩ => ⟨⟨hA, hB, hC⟩, ha, hb, hc⟩,
   fun ⟨⟨hA, hB, hC⟩, ha, hb, hc⟩ => ⟨⟨hA, ha⟩, ⟨hB, hb⟩, hC, hc⟩⟩

theorem rawFaces3D_eq (q : Loc) (hq : par q ∈ edgePars) :
    rawFaces3D q = some ((edgeDeltas (par q)).map (addLoc q)) := by
  obtain ⟨x, y, z⟩ := q
  simp only [edgePars, List.mem_cons, List.not_mem_nil, or_false] at hq
  rcases hq with h | h | h <;>
    simp (decide := true) only [rawFaces3D, show (x % 2, y % 2, z % 2) = _ from h, h, edgeDeltas,
      addLoc, Int.sub_eq_add_neg, Int.add_zero, List.map_cons, List.map_nil, if_true, if_false]

theorem flipFaces3D_eq (lat : Lattice) (q : Loc) (hq : par q ∈ edgePars) :
    flipFaces3D lat q =
      some (((edgeDeltas (par q)).map fun d => wrapLimits lat (addLoc q d)).filter lat.isStab) := by
  rw [flipFaces3D, rawFaces3D_eq q hq, Option.map_some, List.map_map]
  rfl

theorem edges3D_eq (lat : Lattice) (v : Loc) :
    xEdge3D lat v = wrapLimits lat (addLoc v (1, 0, 0)) ∧
    yEdge3D lat v = wrapLimits lat (addLoc v (0, 1, 0)) ∧
    zEdge3D lat v = wrapLimits lat (addLoc v (0, 0, 1)) := by
  simp only [xEdge3D, yEdge3D, zEdge3D, addLoc, Int.add_zero, and_self]

/-- `NbrTables.toggled_iff` for any stabilizer location: a vertex is never listed and has no X -/
theorem toggled_iff_hasX (W V : Loc → Loc) (hW : ∀ l, par (W l) = par l)
    (hV : ∀ l, par (V l) = par l) {q s : Loc} (hq : par q ∈ edgePars) (hs : par s ∈ stabPars)
    (hstep : ∀ d ∈ units, W (addLoc q d) = s ↔ V (addLoc s (negLoc d)) = q) :
    (∃ d ∈ edgeDeltas (par q), W (addLoc q d) = s) ↔ ∃ d ∈ xDeltas (par s), V (addLoc s d) = q := by
  cases hf : cubicIsFace (par s)
  · have h0 := (stabPars_cases _ hs).2.2 hf
    refine iff_of_false ?_ ?_
    · rintro ⟨d, hd, h⟩
      have := cubicTables.toggled_face W hW hq hd h
      rw [h0] at this
      exact absurd this (by decide)
    · rw [h0]
      rintro ⟨d, hd, -⟩
      cases hd
  · exact cubicTables.toggled_iff W V hW hV hq ((stabPars_cases _ hs).2.1 hf) hstep

theorem nodup_filter_map {α β : Type} (g : α → β) (p : β → Bool) (l : List α) (hl : l.Nodup)
    (hinj : ∀ a ∈ l, ∀ b ∈ l, p (g a) = true → g a = g b → a = b) :
    ((l.map g).filter p).Nodup := by
  rw [List.filter_map]
  refine List.Nodup.map_on ?_ (hl.filter _)
  intro a ha b hb hab
  rw [List.mem_filter] at ha hb
  exact hinj a ha.1 b hb.1 ha.2 hab

theorem flipOK3D_of (lat : Lattice) (q : Loc) (hq : par q ∈ edgePars)
    (hinj : ∀ d ∈ edgeDeltas (par q), ∀ d' ∈ edgeDeltas (par q),
      lat.isStab (wrapLimits lat (addLoc q d)) = true →
      wrapLimits lat (addLoc q d) = wrapLimits lat (addLoc q d') → d = d')
    (h : ∀ s ∈ lat.stabs,
      (∃ d ∈ edgeDeltas (par q), wrapLimits lat (addLoc q d) = s) ↔ faceHas lat s q = true) :
    flipOK lat (flipFaces3D lat) q = true := by
  apply flipOKK_of _ lat _ q _ (flipFaces3D_eq lat q hq)
    (nodup_filter_map _ _ _ (edgeDeltas_nodup _ hq) hinj)
  intro s hs
  rw [List.mem_filter, List.mem_map, Lattice.isStab_iff]
  exact (and_iff_left hs).trans (h s hs)

end Panqec.Sweep
