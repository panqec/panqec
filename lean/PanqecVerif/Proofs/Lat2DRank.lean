/-
Operator-level independence of stabilizer generators through a triangular family of probes (the
rank clause of C01 for the hand-written lattice models).

`IndepGenerators l sel`: every non-empty duplicate-free sub-family `T` of the generators at the
locations `sel` has a Pauli operator `d` (a dict with distinct keys) supported on the qubits that
anticommutes with an odd number of members of `T`.  Anticommutation parity with a product is the
sum of the parities with the factors, so `d` anticommutes with the product of `T`, which therefore
is not the identity: no non-trivial product of the selected generators is trivial, i.e. their
binary symplectic rows are linearly independent over GF(2).

`TriangularOpProbes`: for each selected generator `s` a probe operator that anticommutes with `s`
and commutes with every other selected generator of rank at least that of `s`; the selected
generators are then independent (`exists_odd_row` of `Proofs/RankCore.lean` with the pairing
`opAntiCount (probe s) (getStab t)`).  `TriangularProbes` is the case of single-qubit probes.
Core Lean only.
-/
import PanqecVerif.Proofs.Lat2DBase
import PanqecVerif.Proofs.RankCore

namespace Panqec.Lat2D

def IndepGenerators (l : Lattice) (sel : List Coord) : Prop :=
  ∀ T : List Coord, T.Nodup → (∀ t ∈ T, t ∈ sel) → T ≠ [] →
    ∃ d : Op, (d.map Prod.fst).Nodup ∧ (∀ e ∈ d, e.1 ∈ l.qubits ∧ e.2 ≠ Pauli.I) ∧
      (T.map fun t => opAntiCount d (l.getStab t)).sum % 2 = 1

structure TriangularProbes (l : Lattice) (sel : List Coord) (probe : Coord → Coord × Pauli)
    (μ : Coord → Nat) : Prop where
  on_qubits : ∀ s ∈ sel, (probe s).1 ∈ l.qubits ∧ (probe s).2 ≠ Pauli.I
  diag : ∀ s ∈ sel, opAntiCount [probe s] (l.getStab s) % 2 = 1
  later : ∀ s ∈ sel, ∀ t ∈ sel, s ≠ t → μ s ≤ μ t → opAntiCount [probe s] (l.getStab t) % 2 = 0

structure TriangularOpProbes (l : Lattice) (sel : List Coord) (probe : Coord → Op)
    (μ : Coord → Nat) : Prop where
  keys_nodup : ∀ s ∈ sel, ((probe s).map Prod.fst).Nodup
  on_qubits : ∀ s ∈ sel, ∀ e ∈ probe s, e.1 ∈ l.qubits ∧ e.2 ≠ Pauli.I
  diag : ∀ s ∈ sel, opAntiCount (probe s) (l.getStab s) % 2 = 1
  later : ∀ s ∈ sel, ∀ t ∈ sel, s ≠ t → μ s ≤ μ t → opAntiCount (probe s) (l.getStab t) % 2 = 0

-- `μ` has values in `Nat` in both structures (they stand under the `triangular` end results of the
-- classes); `exists_odd_row` takes integer ranks
theorem indep_of_probes {l : Lattice} {sel : List Coord} {probe : Coord → Op} {μ : Coord → Nat}
    (h : TriangularOpProbes l sel probe μ) : IndepGenerators l sel := by
  intro T hnd hsub hne
  obtain ⟨s, hs, hodd⟩ := exists_odd_row (fun s => (μ s : Int))
    (fun s t => opAntiCount (probe s) (l.getStab t)) h.diag
    (fun s hs t ht hne hle => h.later s hs t ht hne (Int.ofNat_le.mp hle)) hnd hsub hne
  exact ⟨probe s, h.keys_nodup s (hsub s hs), h.on_qubits s (hsub s hs), hodd⟩

theorem indep_of_triangular {l : Lattice} {sel : List Coord} {probe : Coord → Coord × Pauli}
    {μ : Coord → Nat} (h : TriangularProbes l sel probe μ) : IndepGenerators l sel :=
  indep_of_probes (probe := fun s => [probe s]) ⟨fun _ _ => List.pairwise_singleton _ _,
    fun s hs e he => by rw [List.mem_singleton.mp he]; exact h.on_qubits s hs, h.diag, h.later⟩

/-- the form in which the classes establish it: generators that carry one letter `L s` on a key list
    `K s`, so that anticommutation with a probe is membership of its qubit in `K s` -/
theorem TriangularProbes.of_keys {l : Lattice} {sel : List Coord} {probe : Coord → Coord × Pauli}
    {μ : Coord → Nat} (K : Coord → List Coord) (L : Coord → Pauli)
    (hS : ∀ s ∈ sel, l.getStab s = (K s).map fun q => (q, L s))
    (hq : ∀ s ∈ sel, ∀ q ∈ K s, q ∈ l.qubits)
    (hd : ∀ s ∈ sel, Pauli.anti (probe s).2 (L s) = true ∧ (probe s).1 ∈ K s)
    (hl : ∀ s ∈ sel, ∀ t ∈ sel, s ≠ t → μ s ≤ μ t →
      ¬ (Pauli.anti (probe s).2 (L t) = true ∧ (probe s).1 ∈ K t)) :
    TriangularProbes l sel probe μ where
  on_qubits s hs := ⟨hq s hs _ (hd s hs).2, fun h => by
    have := (hd s hs).1; rw [h] at this; exact Bool.false_ne_true this⟩
  diag s hs := by
    rw [hS s hs, show [probe s] = [((probe s).1, (probe s).2)] from rfl,
      opAntiCount_single_letter, if_pos (hd s hs)]
  later s hs t ht hne hle := by
    rw [hS t ht, show [probe s] = [((probe s).1, (probe s).2)] from rfl,
      opAntiCount_single_letter, if_neg (hl s hs t ht hne hle)]

/-- the same for one-letter probe operators `(PK s).map (·, PL s)`: anticommutation is the parity of
    the number of probe qubits among the keys -/
theorem TriangularOpProbes.of_keys {l : Lattice} {sel : List Coord} {probe : Coord → Op}
    {μ : Coord → Nat} (K PK : Coord → List Coord) (L PL : Coord → Pauli)
    (hP : ∀ s ∈ sel, probe s = (PK s).map fun q => (q, PL s))
    (hS : ∀ s ∈ sel, l.getStab s = (K s).map fun q => (q, L s))
    (hnd : ∀ s ∈ sel, (PK s).Nodup) (hq : ∀ s ∈ sel, ∀ q ∈ PK s, q ∈ l.qubits)
    (hd : ∀ s ∈ sel, Pauli.anti (PL s) (L s) = true ∧
      (PK s).countP (fun q => decide (q ∈ K s)) % 2 = 1)
    (hl : ∀ s ∈ sel, ∀ t ∈ sel, s ≠ t → μ s ≤ μ t → Pauli.anti (PL s) (L t) = true →
      (PK s).countP (fun q => decide (q ∈ K t)) % 2 = 0) :
    TriangularOpProbes l sel probe μ where
  keys_nodup s hs := by rw [hP s hs, map_fst_letter]; exact hnd s hs
  on_qubits s hs e he := by
    rw [hP s hs, mem_letter] at he
    refine ⟨hq s hs _ he.1, fun h => ?_⟩
    have := (hd s hs).1
    rw [← he.2, h] at this
    exact Bool.false_ne_true this
  diag s hs := by
    rw [hP s hs, hS s hs, opAntiCount_letter, if_pos (hd s hs).1]
    simp only [List.contains_eq_mem]; exact (hd s hs).2
  later s hs t ht hne hle := by
    rw [hP s hs, hS t ht, opAntiCount_letter]
    split
    · simp only [List.contains_eq_mem]; exact hl s hs t ht hne hle ‹_›
    · rfl

end Panqec.Lat2D
