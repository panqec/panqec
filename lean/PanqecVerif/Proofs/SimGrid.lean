/-
The variate grid `{0, 1/M, …, (M-1)/M}` realises a channel whose probabilities are multiples
of `1/M` exactly: summing any function of the sampled error over the complete grid gives
`M^n` times its expectation under the product channel.  (This is what makes the harness'
deterministic calibration tolerance-free.)
-/
import PanqecVerif.Proofs.SimDist
import Mathlib.Algebra.Order.Field.Basic
import Mathlib.Tactic.FieldSimp
import Mathlib.Algebra.BigOperators.Group.List.Basic

namespace Panqec.Sim
open Panqec

theorem div_lt_div_nat (j a M : Nat) (hM : 0 < M) :
    ((j : Rat) / (M : Rat) < (a : Rat) / (M : Rat)) ↔ j < a := by
  have hM' : (0 : Rat) < (M : Rat) := by exact_mod_cast hM
  rw [div_lt_div_iff_of_pos_right hM']
  exact_mod_cast Iff.rfl

/-- a channel with probabilities `a/M, b/M, c/M, d/M` -/
def gridProbs (a b c d M : Nat) : QubitProbs :=
  ⟨(a : Rat) / M, (b : Rat) / M, (c : Rat) / M, (d : Rat) / M⟩

/-- on the grid point `j/M` such a channel is sampled by comparing `j` with the cumulative
    counts (this is where `<` versus `<=` in `fast_choice` matters) -/
theorem samplePauli_grid (a b c d j M : Nat) (hM : 0 < M) :
    samplePauli (gridProbs a b c d M) ((j : Rat) / M) =
      if j < a then Pauli.I else if j < a + b then Pauli.X else if j < a + b + c then Pauli.Y
      else Pauli.Z := by
  have e2 : (a : Rat) / M + (b : Rat) / M = ((a + b : Nat) : Rat) / M := by
    push_cast; ring
  have e3 : ((a + b : Nat) : Rat) / M + (c : Rat) / M = ((a + b + c : Nat) : Rat) / M := by
    push_cast; ring
  have e4 : ((a + b + c : Nat) : Rat) / M + (d : Rat) / M = ((a + b + c + d : Nat) : Rat) / M := by
    push_cast; ring
  simp only [samplePauli, fastChoice, gridProbs, zero_add, e2, e3, e4, div_lt_div_nat _ _ _ hM]
  by_cases h1 : j < a
  · simp [h1]
  · by_cases h2 : j < a + b
    · simp [h1, h2]
    · by_cases h3 : j < a + b + c
      · simp [h1, h2, h3]
      · simp [h1, h2, h3]

theorem sum_map_const_on {α : Type} (l : List α) (f : α → Rat) (v : Rat) (h : ∀ x ∈ l, f x = v) :
    (l.map f).sum = (l.length : Rat) * v := by
  rw [List.sum_eq_card_nsmul _ v (by simpa using h), List.length_map, nsmul_eq_mul]

/-- one qubit: the grid sum is `a·g(I) + b·g(X) + c·g(Y) + d·g(Z) = M · E[g]` -/
theorem grid_single (a b c d M : Nat) (g : Pauli → Rat) (hM : 0 < M) (hsum : a + b + c + d = M) :
    ((List.range M).map fun j : Nat => g (samplePauli (gridProbs a b c d M) ((j : Rat) / (M : Rat)))).sum =
      (M : Rat) * (gridProbs a b c d M).dist.expect g := by
  have hM' : (M : Rat) ≠ 0 := by exact_mod_cast (Nat.pos_iff_ne_zero.mp hM)
  have hrhs : (M : Rat) * (gridProbs a b c d M).dist.expect g =
      (a : Rat) * g Pauli.I + (b : Rat) * g Pauli.X + (c : Rat) * g Pauli.Y + (d : Rat) * g Pauli.Z := by
    simp only [Dist.expect, QubitProbs.dist, gridProbs, List.map_cons, List.map_nil, List.sum_cons,
      List.sum_nil]
    field_simp
    ring
  -- the letter drawn at grid point `j`: constant on each of four consecutive blocks
  let σ : Nat → Pauli := fun j =>
    if j < a then .I else if j < a + b then .X else if j < a + b + c then .Y else .Z
  have hσ : ∀ j : Nat, samplePauli (gridProbs a b c d M) ((j : Rat) / (M : Rat)) = σ j :=
    fun j => samplePauli_grid a b c d j M hM
  have s1 := sum_map_const_on (List.range a) (fun j => g (σ j)) (g .I) fun j hj => by
    simp only [σ, if_pos (List.mem_range.mp hj)]
  have s2 := sum_map_const_on (List.range b) (fun j => g (σ (a + j))) (g .X) fun j hj => by
    have := List.mem_range.mp hj
    simp only [σ, if_neg (show ¬ a + j < a by omega), if_pos (show a + j < a + b by omega)]
  have s3 := sum_map_const_on (List.range c) (fun j => g (σ (a + b + j))) (g .Y) fun j hj => by
    have := List.mem_range.mp hj
    simp only [σ, if_neg (show ¬ a + b + j < a by omega), if_neg (show ¬ a + b + j < a + b by omega),
      if_pos (show a + b + j < a + b + c by omega)]
  have s4 := sum_map_const_on (List.range d) (fun j => g (σ (a + b + c + j))) (g .Z) fun j hj => by
    simp only [σ, if_neg (show ¬ a + b + c + j < a by omega),
      if_neg (show ¬ a + b + c + j < a + b by omega), if_neg (show ¬ a + b + c + j < a + b + c by omega)]
  simp only [List.length_range] at s1 s2 s3 s4
  subst hsum
  simp only [hrhs, hσ, List.range_add, List.map_append, List.sum_append, List.map_map, Function.comp_def,
    s1, s2, s3, s4]

/-- a single-qubit channel whose four probabilities are multiples of `1/M` summing to one -/
def OnGrid (M : Nat) (q : QubitProbs) : Prop :=
  ∃ a b c d : Nat, q = gridProbs a b c d M ∧ a + b + c + d = M

/-- the Pauli strings `generate` draws over the complete grid `{j/M}^n`, one per grid point
    (first qubit = slowest digit, as the harness' generator stub enumerates them) -/
def gridPaulis (M : Nat) : List QubitProbs → List (List Pauli)
  | [] => [[]]
  | q :: qs => (List.range M).flatMap fun j : Nat =>
      (gridPaulis M qs).map fun r => samplePauli q ((j : Rat) / (M : Rat)) :: r

theorem gridPaulis_length (M : Nat) : ∀ probs : List QubitProbs,
    (gridPaulis M probs).length = M ^ probs.length
  | [] => by simp [gridPaulis]
  | q :: qs => by
    simp only [gridPaulis, List.length_flatMap, List.length_map, gridPaulis_length M qs,
      List.length_cons]
    simp [Nat.pow_succ, Nat.mul_comm]

theorem grid_realises_channel (M : Nat) (hM : 0 < M) (f : List Pauli → Rat) :
    ∀ (probs : List QubitProbs), (∀ q ∈ probs, OnGrid M q) →
      ((gridPaulis M probs).map f).sum =
        (M : Rat) ^ probs.length * (prodDist (probs.map QubitProbs.dist)).expect f
  | [], _ => by simp [gridPaulis, prodDist, Dist.expect]
  | q :: qs, h => by
    obtain ⟨a, b, c, d, rfl, hsum⟩ := h q (by simp)
    have ih : ∀ g : List Pauli → Rat, ((gridPaulis M qs).map g).sum =
        (M : Rat) ^ qs.length * (prodDist (qs.map QubitProbs.dist)).expect g :=
      fun g => grid_realises_channel M hM g qs (fun q' hq' => h q' (by simp [hq']))
    simp only [gridPaulis]
    rw [sum_map_flatMap]
    simp only [List.map_map, Function.comp_def, ih]
    rw [grid_single a b c d M (fun σ => (M : Rat) ^ qs.length *
      (prodDist (qs.map QubitProbs.dist)).expect fun y => f (σ :: y)) hM hsum, expect_mul_left,
      List.map_cons, expect_prodDist_cons, List.length_cons, pow_succ]
    ring

end Panqec.Sim
