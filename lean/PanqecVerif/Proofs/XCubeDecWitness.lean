/-
Kernel-evaluated runs of the model of `XCubeMatchingDecoder.decode` on concrete lattices
(`decide +kernel`, no `native_decide`).  For the code before 869642d (`XCubeDec.old`): the `KeyError`
witness of finding D16 on 3×2×2 and the wrong-cube-syndrome counterexample on 2×2×3.  For the
repaired code: the same two inputs are decoded to the error itself, and a run on 2×2×2.  Kept in
their own file so that the evaluation is not repeated when the property file changes.
-/
import PanqecVerif.Model.XCubeDecoder

namespace Panqec.XCube

open Panqec

/-- PyMatching's answers in the two kernel-checked witnesses below (each is a solution of the
    sliced syndrome it was asked for, which the witnesses check) -/
def witnessSolve : WSolver Unit := fun M _ sy =>
  if sy == [1, 1, 1, 1] then [0, 0, 0, 0, 1, 1, 0, 0]
  else if sy == [1, 1, 0, 0, 0, 0] then [1, 0, 0, 0, 0, 0, 0, 0, 0, 0, 0, 0]
  else if sy == [0, 1, 1, 0, 1, 1] then [0, 0, 0, 0, 0, 0, 0, 1, 1, 0, 0, 0]
  else if sy == [0, 1, 1, 0, 0, 0] then [0, 0, 1, 0, 0, 0, 0, 0, 0, 0, 0, 0]
  else if sy == [1, 1, 0, 0] then [1, 0, 0, 0, 0, 0, 0, 0]
  else List.replicate (M.headD []).length 0

/-- ldpc on a zero syndrome: the zero vector -/
def witnessBp : BpSolver :=
  { decode := fun M _ _ _ => List.replicate (M.headD []).length 0, converged := fun _ _ _ _ => true }

def witnessCfg : BpCfg := ⟨1/8, 1000, 10, "minimum_sum", false⟩

/-- the decoder for `XCubeCode(Lx, Ly, Lz)` with uniform priors -/
def witnessDec (Lx Ly Lz : Nat) : Except XErr (XCubeDec Unit) :=
  let p := List.replicate (3 * Lx * Ly * Lz) (1/16 : Rat)
  XCubeDec.new (fun _ => ()) Lx Ly Lz none p p p witnessCfg

/-- the BP-OSD decoder's events without their priors -/
def dropPriors : Event Rat → Event Unit
  | .ctor m s er mi oo bm => .ctor m s er mi oo bm
  | .update m p => .update m p
  | .decode m w s a => .decode m (w.map fun _ => ()) s a
  | .sub s a => .sub s a

/-- X error on qubit `q` of `n` qubits -/
def xError (n q : Nat) : Vec := (List.replicate (2 * n) 0).set q 1

/-- every recorded PyMatching answer solves the sliced syndrome it was asked for -/
def answersSolve (ev : List (Event Unit)) : Bool :=
  ev.all fun e => match e with
    | .decode M _ sy a => sectorSyndrome M a == sy
    | _ => true

/-- one call on a fresh decoder object -/
def witnessCall (d : XCubeDec Unit) (s : Vec) : Out Unit Vec :=
  (d.decode witnessSolve witnessBp dropPriors ascending BpSt.init s).2

/-- on the cubic lattice 2×2×2 the same kind of X error is decoded to itself (an `.ok` call, to
    which the theorems of `Properties/C05XCube.lean` apply) -/
def okCheck222 : Bool :=
  match witnessDec 2 2 2 with
  | .error _ => false
  | .ok d =>
    match (witnessCall d (measureSyndrome d.H (xError 24 0))).val with
    | .ok c => c == xError 24 0
    | _ => false

theorem okCheck222_true : okCheck222 = true := by decide +kernel

/-- `__init__` on `XCubeCode(Lx, Ly, Lz)` returns, and `f` holds of the decoder object.  The old
    and the repaired code are run on one lattice inside one such test, so that the kernel builds
    the lattice and its parity-check matrix once for both. -/
def onWitnessDec (Lx Ly Lz : Nat) (f : XCubeDec Unit → Bool) : Bool :=
  match witnessDec Lx Ly Lz with
  | .error _ => false
  | .ok d => f d

theorem exists_of_onWitnessDec {Lx Ly Lz : Nat} {f : XCubeDec Unit → Bool}
    (h : onWitnessDec Lx Ly Lz f = true) : ∃ d, witnessDec Lx Ly Lz = .ok d ∧ f d = true := by
  unfold onWitnessDec at h
  split at h
  · cases h
  · exact ⟨_, ‹_›, h⟩

deriving instance DecidableEq for Except

/-- `XCubeCode(3, 2, 2)`, X error on qubit 0: the old `decode` raises `KeyError (1, 4, 0)` after
    PyMatching answers that solve their sliced syndromes; the repaired `decode` returns the error -/
def check322 (d : XCubeDec Unit) : Bool :=
  let s := measureSyndrome d.H (xError 36 0)
  let r := witnessCall d.old s
  decide (r.val = .error (.keyError [1, 4, 0])) && answersSolve r.events &&
    decide ((witnessCall d s).val = .ok (xError 36 0))

theorem check322_true : onWitnessDec 3 2 2 check322 = true := by decide +kernel

/-- `XCubeCode(2, 2, 3)`, X error on qubit 2: the old `decode` returns the zero vector, whose
    syndrome is not the measured one, after PyMatching answers that solve their sliced syndromes;
    the repaired `decode` returns the error -/
def check223 (d : XCubeDec Unit) : Bool :=
  let s := measureSyndrome d.H (xError 36 2)
  let r := witnessCall d.old s
  decide (r.val = .ok (List.replicate 72 0)) && answersSolve r.events &&
    decide (measureSyndrome d.H (List.replicate 72 0) ≠ s) &&
    decide ((witnessCall d s).val = .ok (xError 36 2))

theorem check223_true : onWitnessDec 2 2 3 check223 = true := by decide +kernel

end Panqec.XCube
