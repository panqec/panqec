/-
Union-find internals (C05), peeling: the peeling invariant `PInv`, the parent and the
edge qubit as the code finds them, and the list/parity facts about one peeling round.
-/
import PanqecVerif.Proofs.UnionFindGraph

namespace Panqec.UF

/-- the parent of `c` as the code finds it: the nonzero column index of row `c` of `child_to_p` -/
def parOf (m : Nat) (S0 : Nat → Nat → Bool) (c : Nat) : Nat :=
  ((List.range m).filter fun p => S0 p c).headD 0

/-- the member qubit shared by `p` and `c` as the code finds it: the first one
    (`shared.argmax(axis=1)`, `firstShared` of the model) -/
def eOf (H : Mat) (stabs qubits : Nat → Bool) (p c : Nat) : Nat :=
  ((List.range (ncols H)).filter fun q => adjq H stabs qubits p c q).headD 0

/-- invariant of the `while` loop of `peel`; `al` = stabilizers not yet peeled off -/
structure PInv (H : Mat) (stabs qubits : Nat → Bool) (S0 : Nat → Nat → Bool) (syn0 : Nat → Bool)
    (al : Nat → Bool) (st : PeelSt) : Prop where
  S_eq : ∀ p c, st.S p c = (S0 p c && al c)
  al_stabs : ∀ v, al v = true → stabs v = true
  al_up : ∀ p c, S0 p c = true → al c = true → al p = true
  leaves_iff : ∀ v, v ∈ st.leaves ↔ (al v = true ∧ ∀ c, st.S v c = false)
  leaves_nodup : st.leaves.Nodup
  syn_al : ∀ s, st.syn s = true → al s = true
  bdry : ∀ s, (st.corr.countP (fun q => hb H s q) + b2n (st.syn s)) % 2 = b2n (syn0 s)
  even : cnt H.length st.syn % 2 = 0
  corr_nodup : st.corr.Nodup
  corr_removed : ∀ q, q ∈ st.corr → ∃ p c, S0 p c = true ∧ al c = false ∧
    q = eOf H stabs qubits p c

theorem firstShared_eq_eOf (H : Mat) (stabs qubits : Nat → Bool) (p c : Nat) :
    firstShared H stabs qubits p c = eOf H stabs qubits p c := rfl

/-- what a round does with the (parent, leaf) pairs whose leaf carries a defect -/
theorem zip_flatMap_if {β : Type} (l : List Nat) (par : Nat → Nat) (syn : Nat → Bool)
    (F : Nat → Nat → List β) :
    (((l.map par).zip l).flatMap fun pc => if syn pc.2 = true then F pc.1 pc.2 else []) =
      (l.filter syn).flatMap fun c => F (par c) c := by
  induction l with
  | nil => rfl
  | cons a l ih =>
    rw [List.map_cons, List.zip_cons_cons, List.flatMap_cons, ih, List.filter_cons]
    split <;> simp

theorem cnt_toggle (m : Nat) (f : Nat → Bool) (p : Nat) (hp : p < m) (b : Bool) :
    cnt m (fun i => if i = p then (f i != b) else f i) + b2n (f p) = cnt m f + b2n (f p != b) := by
  rw [← cnt_update m f p hp (f p != b)]
  congr 2
  funext i
  split
  next e => rw [e]
  next => rfl

/-- toggling by a list of (index, bit) pairs -/
theorem toggle_fold (L : List (Nat × Bool)) (f : Nat → Bool) (s : Nat) :
    (L.foldl (fun (f : Nat → Bool) (pl : Nat × Bool) => fun i => if i = pl.1 then (f i != pl.2) else f i) f) s =
      (f s != decide (L.countP (fun pl => decide (pl.1 = s) && pl.2) % 2 = 1)) := by
  induction L generalizing f with
  | nil => simp
  | cons a L ih =>
    rw [List.foldl_cons, ih, List.countP_cons]
    generalize L.countP (fun pl => decide (pl.1 = s) && pl.2) = k
    by_cases h : s = a.1
    · subst h
      cases a.2
      · simp
      · have : decide ((k + 1) % 2 = 1) = !decide (k % 2 = 1) := by
          by_cases h : k % 2 = 1 <;> simp [h] <;> omega
        cases hf : f a.1 <;> cases hk : decide (k % 2 = 1) <;> simp [this, hk]
    · simp [h, Ne.symm h]

theorem toggle_fold_cnt (m : Nat) (L : List (Nat × Bool)) (f : Nat → Bool)
    (hL : ∀ pl, pl ∈ L → pl.1 < m) :
    cnt m (L.foldl (fun (f : Nat → Bool) (pl : Nat × Bool) => fun i => if i = pl.1 then (f i != pl.2) else f i) f) % 2 =
      (cnt m f + L.countP (fun pl => pl.2)) % 2 := by
  induction L generalizing f with
  | nil => simp
  | cons a L ih =>
    rw [List.foldl_cons, List.countP_cons, ih _ fun pl hpl => hL pl (by simp [hpl])]
    have h1 := cnt_toggle m f a.1 (hL a (by simp)) a.2
    generalize cnt m (fun i => if i = a.1 then (f i != a.2) else f i) = e at h1 ⊢
    cases h2 : a.2 <;> cases h3 : f a.1 <;> simp [h2, h3] at h1 ⊢ <;> omega

/-- clearing the (distinct) indices of a list -/
theorem clear_cnt (m : Nat) (l : List Nat) (hl : l.Nodup) (hlt : ∀ c, c ∈ l → c < m) (f : Nat → Bool) :
    cnt m (fun i => if i ∈ l then false else f i) + l.countP f = cnt m f := by
  induction l with
  | nil => simp
  | cons a l ih =>
    rw [List.nodup_cons] at hl
    have h1 := ih hl.2 fun c hc => hlt c (by simp [hc])
    have h2 := cnt_update m (fun i => if i ∈ l then false else f i) a (hlt a (by simp)) false
    rw [show (fun j => if j = a then false else (if j ∈ l then false else f j)) =
        (fun i => if i ∈ a :: l then false else f i) by
      funext j
      by_cases hja : j = a <;> simp [hja]] at h2
    simp only [hl.1, if_false, b2n_false] at h2
    rw [List.countP_cons, show (if f a = true then 1 else 0) = b2n (f a) from rfl]
    omega

/-- `_update_syndrome` when the parent list is `par` applied to the leaves -/
theorem updateSyndrome_eq (syn : Nat → Bool) (par : Nat → Nat) (l : List Nat) (s : Nat) :
    updateSyndrome syn (l.map par) l s =
      if s ∈ l then false
      else (syn s != decide (l.countP (fun c => decide (par c = s) && syn c) % 2 = 1)) := by
  unfold updateSyndrome clearLeaves
  rw [List.zip_map', toggle_fold, List.countP_map]
  rfl

/-- when no leaf is the parent of a leaf, a round keeps the parity of the number of defects:
    every defect leaf toggles its parent and is cleared itself -/
theorem updateSyndrome_cnt (m : Nat) (syn : Nat → Bool) (par : Nat → Nat) (l : List Nat)
    (hl : l.Nodup) (hlt : ∀ c, c ∈ l → c < m ∧ par c < m)
    (hnp : ∀ s c, s ∈ l → c ∈ l → par c ≠ s) :
    cnt m (updateSyndrome syn (l.map par) l) % 2 = cnt m syn % 2 := by
  unfold updateSyndrome clearLeaves
  rw [List.zip_map']
  have h1 := clear_cnt m l hl (fun c hc => (hlt c hc).1)
    ((l.map fun c => (par c, syn c)).foldl
      (fun (f : Nat → Bool) (pl : Nat × Bool) => fun i => if i = pl.1 then (f i != pl.2) else f i) syn)
  have h2 := toggle_fold_cnt m (l.map fun c => (par c, syn c)) syn fun pl hpl => by
    obtain ⟨c, hc, rfl⟩ := List.mem_map.mp hpl
    exact (hlt c hc).2
  rw [List.countP_map] at h2
  rw [countP_congr' l _ syn fun s hs => by
    rw [toggle_fold, List.countP_map, List.countP_eq_zero.mpr fun c hc => by simp [hnp s c hs hc]]
    simp] at h1
  have : l.countP ((fun pl : Nat × Bool => pl.2) ∘ fun c => (par c, syn c)) = l.countP syn := rfl
  omega

end Panqec.UF
