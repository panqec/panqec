/-
`HollowRhombicCode`, rank clause: counting tools (nothing of the class in them).  Lists of
locations described by a region predicate (`Spec`, `Spec3`; there are two because the cubes have
three coordinates and the triangles four): boxes of arithmetic progressions of step 2, optionally
with a checkerboard colour; a concatenation of lists with pairwise disjoint regions; two lists with
the same region have the same length; two regions of triangle locations agree as soon as they agree
axis by axis (`axes_iff`).
-/
import PanqecVerif.Proofs.LatRhombicCount

namespace Panqec.HollowRhombicCode
open Panqec.Lat3Db Panqec.Rhombic

/-- membership in `ap x0 n` -/
def InAp (x0 : Int) (n : Nat) (x : Int) : Prop := x0 ≤ x ∧ x < x0 + 2 * (n : Int) ∧ (x - x0) % 2 = 0

/-- a list of locations with four coordinates described by a region -/
structure Spec (l : List Coord) (R : Int → Int → Int → Int → Prop) : Prop where
  nodup : l.Nodup
  mem : ∀ s, s ∈ l ↔ ∃ a x y z, s = [a, x, y, z] ∧ R a x y z

/-- a list of locations with three coordinates described by a region -/
structure Spec3 (l : List Coord) (R : Int → Int → Int → Prop) : Prop where
  nodup : l.Nodup
  mem : ∀ s, s ∈ l ↔ ∃ x y z, s = [x, y, z] ∧ R x y z

theorem Spec.append {l1 l2 : List Coord} {R1 R2 : Int → Int → Int → Int → Prop} (h1 : Spec l1 R1)
    (h2 : Spec l2 R2) (hd : ∀ a x y z, R1 a x y z → R2 a x y z → False) :
    Spec (l1 ++ l2) (fun a x y z => R1 a x y z ∨ R2 a x y z) where
  nodup := by
    rw [List.nodup_append]
    refine ⟨h1.nodup, h2.nodup, ?_⟩
    intro s hs t ht e
    subst e
    obtain ⟨a, x, y, z, rfl, r1⟩ := (h1.mem _).mp hs
    obtain ⟨a', x', y', z', e, r2⟩ := (h2.mem _).mp ht
    simp only [List.cons.injEq, and_true] at e
    obtain ⟨rfl, rfl, rfl, rfl⟩ := e
    exact hd _ _ _ _ r1 r2
  mem := by
    intro s
    rw [List.mem_append, h1.mem, h2.mem]
    constructor
    · rintro (⟨a, x, y, z, e, r⟩ | ⟨a, x, y, z, e, r⟩)
      · exact ⟨a, x, y, z, e, Or.inl r⟩
      · exact ⟨a, x, y, z, e, Or.inr r⟩
    · rintro ⟨a, x, y, z, e, r | r⟩
      · exact Or.inl ⟨a, x, y, z, e, r⟩
      · exact Or.inr ⟨a, x, y, z, e, r⟩

theorem Spec.length_eq {l1 l2 : List Coord} {R1 R2 : Int → Int → Int → Int → Prop} (h1 : Spec l1 R1)
    (h2 : Spec l2 R2) (h : ∀ a x y z, R1 a x y z ↔ R2 a x y z) : l1.length = l2.length := by
  apply List.Perm.length_eq
  apply (List.perm_ext_iff_of_nodup h1.nodup h2.nodup).mpr
  intro s
  rw [h1.mem, h2.mem]
  constructor
  · rintro ⟨a, x, y, z, e, r⟩; exact ⟨a, x, y, z, e, (h a x y z).mp r⟩
  · rintro ⟨a, x, y, z, e, r⟩; exact ⟨a, x, y, z, e, (h a x y z).mpr r⟩

theorem Spec.congr {l : List Coord} {R1 R2 : Int → Int → Int → Int → Prop} (h1 : Spec l R1)
    (h : ∀ a x y z, R1 a x y z ↔ R2 a x y z) : Spec l R2 where
  nodup := h1.nodup
  mem := by
    intro s
    rw [h1.mem]
    constructor
    · rintro ⟨a, x, y, z, e, r⟩; exact ⟨a, x, y, z, e, (h a x y z).mp r⟩
    · rintro ⟨a, x, y, z, e, r⟩; exact ⟨a, x, y, z, e, (h a x y z).mpr r⟩

theorem axes_iff {R1 R2 : Int → Int → Int → Int → Prop}
    (h1 : ∀ a x y z, R1 a x y z → 0 ≤ a ∧ a < 4) (h2 : ∀ a x y z, R2 a x y z → 0 ≤ a ∧ a < 4)
    (h : ∀ x y z, (R1 3 x y z ↔ R2 3 x y z) ∧ (R1 2 x y z ↔ R2 2 x y z) ∧ (R1 1 x y z ↔ R2 1 x y z) ∧
      (R1 0 x y z ↔ R2 0 x y z)) (a x y z : Int) : R1 a x y z ↔ R2 a x y z := by
  by_cases ha : 0 ≤ a ∧ a < 4
  · have h4 : a = 3 ∨ a = 2 ∨ a = 1 ∨ a = 0 := by omega
    rcases h4 with rfl | rfl | rfl | rfl
    exacts [(h x y z).1, (h x y z).2.1, (h x y z).2.2.1, (h x y z).2.2.2]
  · exact ⟨fun r => absurd (h1 _ _ _ _ r) ha, fun r => absurd (h2 _ _ _ _ r) ha⟩

/-- lists of triangles of one axis: the axis is pulled out of the union -/
theorem Spec.append_ax {l1 l2 : List Coord} {a : Int} {R1 R2 : Int → Int → Int → Prop}
    (h1 : Spec l1 fun a' x y z => a' = a ∧ R1 x y z) (h2 : Spec l2 fun a' x y z => a' = a ∧ R2 x y z)
    (hd : ∀ x y z, R1 x y z → R2 x y z → False) :
    Spec (l1 ++ l2) fun a' x y z => a' = a ∧ (R1 x y z ∨ R2 x y z) :=
  (h1.append h2 fun _ x y z r1 r2 => hd x y z r1.2 r2.2).congr fun _ _ _ _ => and_or_left.symm

theorem Spec3.append {l1 l2 : List Coord} {R1 R2 : Int → Int → Int → Prop} (h1 : Spec3 l1 R1)
    (h2 : Spec3 l2 R2) (hd : ∀ x y z, R1 x y z → R2 x y z → False) :
    Spec3 (l1 ++ l2) (fun x y z => R1 x y z ∨ R2 x y z) where
  nodup := by
    rw [List.nodup_append]
    refine ⟨h1.nodup, h2.nodup, ?_⟩
    intro s hs t ht e
    subst e
    obtain ⟨x, y, z, rfl, r1⟩ := (h1.mem _).mp hs
    obtain ⟨x', y', z', e, r2⟩ := (h2.mem _).mp ht
    simp only [List.cons.injEq, and_true] at e
    obtain ⟨rfl, rfl, rfl⟩ := e
    exact hd _ _ _ r1 r2
  mem := by
    intro s
    rw [List.mem_append, h1.mem, h2.mem]
    constructor
    · rintro (⟨x, y, z, e, r⟩ | ⟨x, y, z, e, r⟩)
      · exact ⟨x, y, z, e, Or.inl r⟩
      · exact ⟨x, y, z, e, Or.inr r⟩
    · rintro ⟨x, y, z, e, r | r⟩
      · exact Or.inl ⟨x, y, z, e, r⟩
      · exact Or.inr ⟨x, y, z, e, r⟩

theorem Spec3.length_eq {l1 l2 : List Coord} {R1 R2 : Int → Int → Int → Prop} (h1 : Spec3 l1 R1)
    (h2 : Spec3 l2 R2) (h : ∀ x y z, R1 x y z ↔ R2 x y z) : l1.length = l2.length := by
  apply List.Perm.length_eq
  apply (List.perm_ext_iff_of_nodup h1.nodup h2.nodup).mpr
  intro s
  rw [h1.mem, h2.mem]
  constructor
  · rintro ⟨x, y, z, e, r⟩; exact ⟨x, y, z, e, (h x y z).mp r⟩
  · rintro ⟨x, y, z, e, r⟩; exact ⟨x, y, z, e, (h x y z).mpr r⟩

/-- the checkerboard colour `r` -/
def chk (r : Int) : Int → Int → Int → Bool := fun x y z => (x + y + z) % 4 == r
/-- no colour condition -/
def tt : Int → Int → Int → Bool := fun _ _ _ => true

/-- a box of three-coordinate locations -/
def bx3 (x0 : Int) (nx : Nat) (y0 : Int) (ny : Nat) (z0 : Int) (nz : Nat)
    (p : Int → Int → Int → Bool) : List Coord :=
  grid3 (ap x0 nx) (ap y0 ny) (ap z0 nz) p

/-- a box of triangle locations of axis `a` -/
def bx (a : Int) (x0 : Int) (nx : Nat) (y0 : Int) (ny : Nat) (z0 : Int) (nz : Nat)
    (p : Int → Int → Int → Bool) : List Coord :=
  (bx3 x0 nx y0 ny z0 nz p).map fun c => a :: c

theorem spec_bx3 (x0 : Int) (nx : Nat) (y0 : Int) (ny : Nat) (z0 : Int) (nz : Nat)
    (p : Int → Int → Int → Bool) :
    Spec3 (bx3 x0 nx y0 ny z0 nz p)
      (fun x y z => InAp x0 nx x ∧ InAp y0 ny y ∧ InAp z0 nz z ∧ p x y z = true) where
  nodup := nodup_grid3 _ _ _ _ (nodup_ap _ _) (nodup_ap _ _) (nodup_ap _ _)
  mem := by
    intro s
    unfold bx3
    rw [mem_grid3]
    simp only [mem_ap, InAp]

theorem spec_bx (a : Int) (x0 : Int) (nx : Nat) (y0 : Int) (ny : Nat) (z0 : Int) (nz : Nat)
    (p : Int → Int → Int → Bool) :
    Spec (bx a x0 nx y0 ny z0 nz p)
      (fun a' x y z => a' = a ∧ InAp x0 nx x ∧ InAp y0 ny y ∧ InAp z0 nz z ∧ p x y z = true) where
  nodup := by
    unfold bx
    refine List.Nodup.map ?_ (spec_bx3 x0 nx y0 ny z0 nz p).nodup
    intro c d h; simpa using h
  mem := by
    intro s
    unfold bx
    rw [List.mem_map]
    constructor
    · rintro ⟨c, hc, rfl⟩
      obtain ⟨x, y, z, rfl, r⟩ := ((spec_bx3 x0 nx y0 ny z0 nz p).mem c).mp hc
      exact ⟨a, x, y, z, rfl, rfl, r⟩
    · rintro ⟨a', x, y, z, rfl, rfl, r⟩
      exact ⟨[x, y, z], ((spec_bx3 x0 nx y0 ny z0 nz p).mem _).mpr ⟨x, y, z, rfl, r⟩, rfl⟩

theorem length_bx3_tt (x0 : Int) (nx : Nat) (y0 : Int) (ny : Nat) (z0 : Int) (nz : Nat) :
    (bx3 x0 nx y0 ny z0 nz tt).length = nx * ny * nz := by
  unfold bx3 tt
  rw [length_grid3_true, length_ap, length_ap, length_ap]

theorem length_bx3_chk (x0 : Int) (nx : Nat) (y0 : Int) (ny : Nat) (z0 : Int) (nz : Nat) (r : Int)
    (hpar : (x0 + y0 + z0 - r) % 2 = 0) (hr : 0 ≤ r ∧ r < 4) :
    (bx3 x0 nx y0 ny z0 nz (chk r)).length = half (nx * (ny * nz)) ((x0 + y0 + z0) % 4 == r) := by
  unfold bx3 chk
  exact length_grid3_checker x0 y0 z0 r nx ny nz hpar hr

theorem length_bx_tt (a : Int) (x0 : Int) (nx : Nat) (y0 : Int) (ny : Nat) (z0 : Int) (nz : Nat) :
    (bx a x0 nx y0 ny z0 nz tt).length = nx * ny * nz := by
  unfold bx; rw [List.length_map, length_bx3_tt]

theorem length_bx_chk (a : Int) (x0 : Int) (nx : Nat) (y0 : Int) (ny : Nat) (z0 : Int) (nz : Nat)
    (r : Int) (hpar : (x0 + y0 + z0 - r) % 2 = 0) (hr : 0 ≤ r ∧ r < 4) :
    (bx a x0 nx y0 ny z0 nz (chk r)).length =
      half (nx * (ny * nz)) ((x0 + y0 + z0) % 4 == r) := by
  unfold bx; rw [List.length_map, length_bx3_chk _ _ _ _ _ _ _ hpar hr]

theorem chk_iff {r x y z : Int} : chk r x y z = true ↔ (x + y + z) % 4 = r := by
  unfold chk; simp

theorem spec_bx_tt (a : Int) (x0 : Int) (nx : Nat) (y0 : Int) (ny : Nat) (z0 : Int) (nz : Nat) :
    Spec (bx a x0 nx y0 ny z0 nz tt)
      fun a' x y z => a' = a ∧ (InAp x0 nx x ∧ InAp y0 ny y ∧ InAp z0 nz z) :=
  (spec_bx a x0 nx y0 ny z0 nz tt).congr fun _ _ _ _ => by simp [tt]

theorem spec_bx_chk (a : Int) (x0 : Int) (nx : Nat) (y0 : Int) (ny : Nat) (z0 : Int) (nz : Nat)
    (r : Int) : Spec (bx a x0 nx y0 ny z0 nz (chk r))
      fun a' x y z => a' = a ∧ (InAp x0 nx x ∧ InAp y0 ny y ∧ InAp z0 nz z ∧ (x + y + z) % 4 = r) :=
  (spec_bx a x0 nx y0 ny z0 nz (chk r)).congr fun _ _ _ _ => by simp only [chk_iff]

theorem length_bx (a : Int) (x0 : Int) (nx : Nat) (y0 : Int) (ny : Nat) (z0 : Int) (nz : Nat)
    (p : Int → Int → Int → Bool) :
    (bx a x0 nx y0 ny z0 nz p).length = (bx3 x0 nx y0 ny z0 nz p).length := List.length_map _

theorem length_bx3_chk_pair (x0 : Int) (nx : Nat) (y0 : Int) (ny : Nat) (z0 : Int) (nz : Nat)
    (hpar : (x0 + y0 + z0) % 2 = 0) :
    (bx3 x0 nx y0 ny z0 nz (chk 0)).length + (bx3 x0 nx y0 ny z0 nz (chk 2)).length =
      nx * (ny * nz) := by
  unfold bx3 chk
  exact length_grid3_checker_pair x0 y0 z0 nx ny nz hpar

end Panqec.HollowRhombicCode
