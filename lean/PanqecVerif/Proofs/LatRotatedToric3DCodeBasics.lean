/-
`RotatedToric3DCode` lattice model, every size: arithmetic characterisation of the coordinate lists,
their distinctness / disjointness and lengths, `qubit_axis`, `get_deformation`, and the number of
logical operators.
-/
import PanqecVerif.Proofs.Lat3DbCount
import PanqecVerif.Model.Lattices.RotatedToric3DCode
open Panqec Panqec.Lat3Db
namespace Panqec.RotatedToric3DCode


/-- horizontal qubit -/
def QH (Lx Ly Lz : Nat) (x y z : Int) : Prop := R1 (2 * Lx) x ∧ R1 (2 * Ly) y ∧ R1 (2 * Lz) z
/-- vertical qubit -/
def QV (Lx Ly Lz : Nat) (x y z : Int) : Prop :=
  R2 (2 * Lx + 1) x ∧ R2 (2 * Ly + 1) y ∧ R2 (2 * Lz) z ∧ (x + y) % 4 = 2
/-- vertex -/
def SV (Lx Ly Lz : Nat) (x y z : Int) : Prop :=
  R2 (2 * Lx + 1) x ∧ R2 (2 * Ly + 1) y ∧ R1 (2 * Lz) z ∧ (x + y) % 4 = 2
/-- horizontal (z-normal) face -/
def SH (Lx Ly Lz : Nat) (x y z : Int) : Prop :=
  R2 (2 * Lx + 1) x ∧ R2 (2 * Ly + 1) y ∧ R1 (2 * Lz) z ∧ (x + y) % 4 = 0
/-- the columns of vertical faces that are dropped -/
def Dropped (Lx Ly : Nat) (x y : Int) : Prop := (Ly % 2 = 1 ∧ y = 1) ∨ (Lx % 2 = 1 ∧ x = 1)
/-- vertical face -/
def SF (Lx Ly Lz : Nat) (x y z : Int) : Prop :=
  R1 (2 * Lx) x ∧ R1 (2 * Ly) y ∧ R2 (2 * Lz) z ∧ ¬ Dropped Lx Ly x y

theorem keepVFace_iff (Lx Ly : Nat) (x y : Int) :
    keepVFace Lx Ly x y = true ↔ ¬ Dropped Lx Ly x y := by
  unfold keepVFace Dropped
  simp only [Bool.not_eq_true', Bool.or_eq_false_iff, Bool.and_eq_false_iff, beq_eq_false_iff_ne,
    ne_eq]
  constructor
  · rintro ⟨h1, h2⟩ (h | h)
    · rcases h1 with h1 | h1
      · exact h1 h.1
      · exact h1 h.2
    · rcases h2 with h2 | h2
      · exact h2 h.1
      · exact h2 h.2
  · intro h
    constructor
    · by_cases h1 : Ly % 2 = 1
      · right; intro hy; exact h (Or.inl ⟨h1, hy⟩)
      · left; exact h1
    · by_cases h1 : Lx % 2 = 1
      · right; intro hx; exact h (Or.inr ⟨h1, hx⟩)
      · left; exact h1

theorem mem_qubits_iff (Lx Ly Lz : Nat) (x y z : Int) :
    [x, y, z] ∈ qubits Lx Ly Lz ↔ QH Lx Ly Lz x y z ∨ QV Lx Ly Lz x y z := by
  unfold qubits QH QV
  simp only [List.mem_append, mem_grid3_cons, mem_pyRange2_1, mem_pyRange2_2, beq_iff_eq, and_true]

theorem mem_stabs_iff (Lx Ly Lz : Nat) (x y z : Int) :
    [x, y, z] ∈ stabs Lx Ly Lz ↔ SV Lx Ly Lz x y z ∨ SH Lx Ly Lz x y z ∨ SF Lx Ly Lz x y z := by
  unfold stabs SV SH SF
  simp only [List.mem_append, mem_grid3_cons, mem_pyRange2_1, mem_pyRange2_2, beq_iff_eq,
    or_assoc, keepVFace_iff]

theorem mem_stabs_shape (Lx Ly Lz : Nat) (s : Coord) (h : s ∈ stabs Lx Ly Lz) :
    ∃ x y z, s = [x, y, z] :=
  (List.mem_append.mp h).elim (fun h => (List.mem_append.mp h).elim shape_grid3 shape_grid3)
    shape_grid3

theorem mem_qubits_shape (Lx Ly Lz : Nat) (s : Coord) (h : s ∈ qubits Lx Ly Lz) :
    ∃ x y z, s = [x, y, z] :=
  (List.mem_append.mp h).elim shape_grid3 shape_grid3

theorem isQubit_iff (Lx Ly Lz : Nat) (x y z : Int) :
    isQubit Lx Ly Lz [x, y, z] = true ↔ QH Lx Ly Lz x y z ∨ QV Lx Ly Lz x y z := by
  unfold isQubit
  rw [List.contains_iff_mem, mem_qubits_iff]

theorem isStab_of (Lx Ly Lz : Nat) (x y z : Int)
    (h : SV Lx Ly Lz x y z ∨ SH Lx Ly Lz x y z ∨ SF Lx Ly Lz x y z) :
    isStab Lx Ly Lz [x, y, z] = true := by
  unfold isStab; rw [List.contains_iff_mem, mem_stabs_iff]; exact h

theorem qubits_nodup (Lx Ly Lz : Nat) : (qubits Lx Ly Lz).Nodup := by
  unfold qubits
  rw [List.nodup_append]
  refine ⟨nodup_grid3 _ _ _ _ (nodup_pyRange2 _ _) (nodup_pyRange2 _ _) (nodup_pyRange2 _ _),
    nodup_grid3 _ _ _ _ (nodup_pyRange2 _ _) (nodup_pyRange2 _ _) (nodup_pyRange2 _ _), ?_⟩
  intro a ha b hb hab
  subst hab
  obtain ⟨x, y, z, rfl, _⟩ := (mem_grid3 _ _ _ _ _).mp ha
  rw [mem_grid3_cons] at ha hb
  simp only [mem_pyRange2_1, mem_pyRange2_2, R1, R2] at ha hb
  omega

theorem stabs_nodup (Lx Ly Lz : Nat) : (stabs Lx Ly Lz).Nodup := by
  unfold stabs
  rw [List.nodup_append, List.nodup_append]
  refine ⟨⟨nodup_grid3 _ _ _ _ (nodup_pyRange2 _ _) (nodup_pyRange2 _ _) (nodup_pyRange2 _ _),
    nodup_grid3 _ _ _ _ (nodup_pyRange2 _ _) (nodup_pyRange2 _ _) (nodup_pyRange2 _ _), ?_⟩,
    nodup_grid3 _ _ _ _ (nodup_pyRange2 _ _) (nodup_pyRange2 _ _) (nodup_pyRange2 _ _), ?_⟩
  · intro a ha b hb hab
    subst hab
    obtain ⟨x, y, z, rfl, _⟩ := (mem_grid3 _ _ _ _ _).mp ha
    rw [mem_grid3_cons] at ha hb
    simp only [beq_iff_eq] at ha hb
    omega
  · intro a ha b hb hab
    subst hab
    obtain ⟨x, y, z, rfl, _⟩ := (mem_grid3 _ _ _ _ _).mp hb
    rw [mem_grid3_cons] at hb
    simp only [List.mem_append, mem_grid3_cons, mem_pyRange2_1, mem_pyRange2_2, R1, R2] at ha hb
    omega

theorem qubits_not_stabs {Lx Ly Lz : Nat} {q : Coord} (h : q ∈ qubits Lx Ly Lz) :
    q ∉ stabs Lx Ly Lz := by
  obtain ⟨x, y, z, rfl⟩ := mem_qubits_shape _ _ _ _ h
  rw [mem_qubits_iff] at h
  rw [mem_stabs_iff]
  unfold QH QV R1 R2 at h
  unfold SV SH SF R1 R2
  omega

/-- the number of points of the checkerboard `{(i, j) : 1 ≤ i ≤ Lx, 1 ≤ j ≤ Ly, i + j odd}`: for
    even `x` the column `range(2, 2*Ly+1, 2)` holds `Ly / 2` of them if `x % 4 = 2` and
    `(Ly + 1) / 2` otherwise -/
theorem cnt2_checker_periodic (Lx Ly : Nat) :
    cnt2 (pyRange2 2 (2*Lx+1)) (pyRange2 2 (2*Ly+1)) (fun x y => (x + y) % 4 == 2) =
      ((Lx + 1) / 2) * (Ly / 2) + (Lx / 2) * ((Ly + 1) / 2) := by
  unfold cnt2
  rw [pyRange2_eq_map 2 (2*Lx+1), List.map_map, show (2 * Lx + 1 + 1 - 2) / 2 = Lx by omega,
    List.map_congr_left (g := fun i => if i % 2 = 0 then Ly / 2 else (Ly + 1) / 2),
    sum_alternate]
  intro i _
  rw [Function.comp, countP_pyRange2_mod4 2 (2*Ly+1) _ 2 (by omega) (by omega)]
  by_cases h : i % 2 = 0
  · rw [if_neg (by omega), if_pos h]
    omega
  · rw [if_pos (by omega), if_neg h]
    omega

theorem length_qubits (Lx Ly Lz : Nat) :
    (qubits Lx Ly Lz).length =
      Lx * Ly * Lz + (((Lx + 1) / 2) * (Ly / 2) + (Lx / 2) * ((Ly + 1) / 2)) * (Lz - 1) := by
  unfold qubits
  rw [List.length_append, length_grid3_true, length_grid3_xy, cnt2_checker_periodic]
  simp only [length_pyRange2]
  have e1 : (2 * Lx + 1 - 1) / 2 = Lx := by omega
  have e2 : (2 * Ly + 1 - 1) / 2 = Ly := by omega
  have e3 : (2 * Lz + 1 - 1) / 2 = Lz := by omega
  have e4 : (2 * Lz + 1 - 2) / 2 = Lz - 1 := by omega
  rw [e1, e2, e3, e4]

/-- in the supported family (`Lx·Ly` even) the checkerboard has `Lx·Ly/2` points -/
theorem checker_even (Lx Ly : Nat) (h : ¬ (Lx % 2 = 1 ∧ Ly % 2 = 1)) :
    2 * (((Lx + 1) / 2) * (Ly / 2) + (Lx / 2) * ((Ly + 1) / 2)) = Lx * Ly := by
  by_cases hx : Lx % 2 = 0
  · obtain ⟨a, rfl⟩ : ∃ a, Lx = 2 * a := ⟨Lx / 2, by omega⟩
    have e1 : (2 * a + 1) / 2 = a := by omega
    have e2 : (2 * a) / 2 = a := by omega
    rw [e1, e2, ← Nat.mul_add, Nat.mul_assoc]
    congr 1
    rcases Nat.mod_two_eq_zero_or_one Ly with hy | hy
    · have : Ly / 2 + (Ly + 1) / 2 = Ly := by omega
      rw [this]
    · have : Ly / 2 + (Ly + 1) / 2 = Ly := by omega
      rw [this]
  · have hy : Ly % 2 = 0 := by omega
    obtain ⟨b, rfl⟩ : ∃ b, Ly = 2 * b := ⟨Ly / 2, by omega⟩
    have e1 : (2 * b + 1) / 2 = b := by omega
    have e2 : (2 * b) / 2 = b := by omega
    rw [e1, e2, ← Nat.add_mul]
    have : (Lx + 1) / 2 + Lx / 2 = Lx := by omega
    rw [this, Nat.mul_comm 2 b, ← Nat.mul_assoc, Nat.mul_comm 2, Nat.mul_assoc, Nat.mul_comm 2 b]

theorem qubitAxis_qubit (Lx Ly Lz : Nat) (x y z : Int) (h : [x, y, z] ∈ qubits Lx Ly Lz) :
    qubitAxis Lx Ly Lz [x, y, z] =
      some (if z % 2 = 0 then "z" else if (x + y) % 4 = 2 then "x" else "y") := by
  have hq : isQubit Lx Ly Lz [x, y, z] = true := by unfold isQubit; simpa using h
  rw [mem_qubits_iff] at h
  unfold qubitAxis
  simp only [hq, Bool.not_true, Bool.false_eq_true, if_false, beq_iff_eq]
  by_cases hz : z % 2 = 0
  · simp [hz]
  · simp only [hz, if_false]
    by_cases h2 : (x + y) % 4 = 2
    · simp [h2]
    · simp only [h2, if_false]
      have h0 : (x + y) % 4 = 0 := by
        unfold QH QV R1 R2 at h; omega
      simp [h0]

theorem qubitAxis_nonqubit (Lx Ly Lz : Nat) (loc : Coord) (h : loc ∉ qubits Lx Ly Lz) :
    qubitAxis Lx Ly Lz loc = none := by
  have hq : isQubit Lx Ly Lz loc = false := by unfold isQubit; simpa using h
  unfold qubitAxis
  split
  · simp [hq]
  · rfl

theorem getDeformation_rule (Lx Ly Lz : Nat) (name : String) (axis : Option String) (loc : Coord) :
    getDeformation Lx Ly Lz name axis loc =
      if axis.getD "y" ≠ "x" ∧ axis.getD "y" ≠ "y" ∧ axis.getD "y" ≠ "z" then none
      else if name ≠ "XZZX" then none
      else (qubitAxis Lx Ly Lz loc).map fun a =>
        if a = axis.getD "y" then PauliMap.swapXZ else PauliMap.id := by
  unfold getDeformation
  exact deformation_rule _ name _

theorem logX_length (Lx Ly Lz : Nat) :
    (logX Lx Ly Lz).length = if Lx % 2 = 0 ∧ Ly % 2 = 0 then 2 else 1 := by
  unfold logX
  by_cases h1 : Lx % 2 = 0 <;> by_cases h2 : Ly % 2 = 0 <;>
    simp [h1, h2, show ∀ n : Nat, ¬ n % 2 = 0 → n % 2 = 1 from fun n h => by omega]

theorem logZ_length (Lx Ly Lz : Nat) :
    (logZ Lx Ly Lz).length = if Lx % 2 = 0 ∧ Ly % 2 = 0 then 2 else 1 := by
  unfold logZ
  by_cases h1 : Lx % 2 = 0 <;> by_cases h2 : Ly % 2 = 0 <;>
    simp [h1, h2, show ∀ n : Nat, ¬ n % 2 = 0 → n % 2 = 1 from fun n h => by omega]

theorem lattice_qubits (Lx Ly Lz : Nat) : (lattice Lx Ly Lz).qubits = qubits Lx Ly Lz := rfl
theorem lattice_stabs (Lx Ly Lz : Nat) : (lattice Lx Ly Lz).stabs = stabs Lx Ly Lz := rfl
theorem lattice_getStab (Lx Ly Lz : Nat) : (lattice Lx Ly Lz).getStab = getStab Lx Ly Lz := rfl
theorem lattice_logX (Lx Ly Lz : Nat) : (lattice Lx Ly Lz).logX = logX Lx Ly Lz := rfl
theorem lattice_logZ (Lx Ly Lz : Nat) : (lattice Lx Ly Lz).logZ = logZ Lx Ly Lz := rfl

end Panqec.RotatedToric3DCode
