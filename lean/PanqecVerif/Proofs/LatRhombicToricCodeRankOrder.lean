/-
RhombicToricCode lattice model, rank clause: the off-diagonal part of the triangular criterion for
the triangles: a selected triangle of rank `≥` does not contain the probe of another (sizes even
`≥ 2`).  A leg determines the vertex and the two possible axes of its triangle; so the triangles on
the probe edge of `s` are two at the vertex of `s` and two at the vertex across, and each of them is
`s`, or not selected, or earlier: in a column before, in a lower tier, at a vertex before, or before
`s` in the local order of its vertex (the table `Bad`).
-/
import PanqecVerif.Proofs.LatRhombicToricCodeRankProbes
open Panqec Panqec.Lat3Db Panqec.Rhombic
open Panqec.XCubeCode (up dn up_spec dn_spec)
namespace Panqec.RhombicToricCode

theorem lex_mu {A A' Y Y' Z Z' My Mz r r' : Nat} (hY : Y < My) (hY' : Y' < My) (hZ : Z < Mz)
    (hZ' : Z' < Mz) (hr : r < 4) (hr' : r' < 4)
    (h : ((A * My + Y) * Mz + Z) * 4 + r ≤ ((A' * My + Y') * Mz + Z') * 4 + r') :
    A < A' ∨ (A = A' ∧ (Y < Y' ∨ (Y = Y' ∧ (Z < Z' ∨ (Z = Z' ∧ r ≤ r'))))) :=
  lex4 hY hY' hZ hZ' hr hr' h

/-- the pairs of axes `(a, b)` at a vertex with `rkT b < rkT a` that the proofs meet (a table, not
    all such pairs) -/
def Bad (Lx : Nat) (a b x y z : Int) : Prop :=
  (x = 2*(Lx:Int)-2 ∧ 2 ≤ y ∧ ((a = 1 ∧ b = 2) ∨ (a = 3 ∧ (b = 2 ∨ b = 1)))) ∨
  (x = 2*(Lx:Int)-2 ∧ y < 2 ∧ (x + y + z) % 4 = 0 ∧ ((a = 3 ∧ b = 2) ∨ (a = 1 ∧ (b = 2 ∨ b = 3)))) ∨
  (x = 2*(Lx:Int)-2 ∧ y < 2 ∧ (x + y + z) % 4 ≠ 0 ∧ ((a = 2 ∧ b = 1) ∨ (a = 3 ∧ (b = 1 ∨ b = 2)))) ∨
  (x = 0 ∧ x ≠ 2*(Lx:Int)-2 ∧ (x + y + z) % 4 = 0 ∧
    ((a = 1 ∧ b = 2) ∨ (a = 0 ∧ (b = 1 ∨ b = 2)) ∨ (a = 3 ∧ (b = 1 ∨ b = 2)))) ∨
  (x = 0 ∧ x ≠ 2*(Lx:Int)-2 ∧ (x + y + z) % 4 ≠ 0 ∧
    ((a = 2 ∧ b = 1) ∨ (a = 0 ∧ (b = 1 ∨ b = 2)) ∨ (a = 3 ∧ (b = 1 ∨ b = 2)))) ∨
  (x ≠ 0 ∧ x ≠ 2*(Lx:Int)-2 ∧ ((a = 3 ∧ b = 1) ∨ (a = 2 ∧ (b = 1 ∨ b = 3))))

theorem Bad.l2 {Lx : Nat} {a b x y z : Int} (h1 : x = 2*(Lx:Int)-2) (h2 : 2 ≤ y)
    (h : (a = 1 ∧ b = 2) ∨ (a = 3 ∧ (b = 2 ∨ b = 1))) : Bad Lx a b x y z := Or.inl ⟨h1, h2, h⟩
theorem Bad.l0 {Lx : Nat} {a b x y z : Int} (h1 : x = 2*(Lx:Int)-2) (h2 : y < 2) (h3 : (x + y + z) % 4 = 0)
    (h : (a = 3 ∧ b = 2) ∨ (a = 1 ∧ (b = 2 ∨ b = 3))) : Bad Lx a b x y z := Or.inr (Or.inl ⟨h1, h2, h3, h⟩)
theorem Bad.l1 {Lx : Nat} {a b x y z : Int} (h1 : x = 2*(Lx:Int)-2) (h2 : y < 2) (h3 : (x + y + z) % 4 ≠ 0)
    (h : (a = 2 ∧ b = 1) ∨ (a = 3 ∧ (b = 1 ∨ b = 2))) : Bad Lx a b x y z :=
  Or.inr (Or.inr (Or.inl ⟨h1, h2, h3, h⟩))
theorem Bad.f0 {Lx : Nat} {a b x y z : Int} (h1 : x = 0) (h1' : x ≠ 2*(Lx:Int)-2) (h3 : (x + y + z) % 4 = 0)
    (h : (a = 1 ∧ b = 2) ∨ (a = 0 ∧ (b = 1 ∨ b = 2)) ∨ (a = 3 ∧ (b = 1 ∨ b = 2))) : Bad Lx a b x y z :=
  Or.inr (Or.inr (Or.inr (Or.inl ⟨h1, h1', h3, h⟩)))
theorem Bad.f2 {Lx : Nat} {a b x y z : Int} (h1 : x = 0) (h1' : x ≠ 2*(Lx:Int)-2) (h3 : (x + y + z) % 4 ≠ 0)
    (h : (a = 2 ∧ b = 1) ∨ (a = 0 ∧ (b = 1 ∨ b = 2)) ∨ (a = 3 ∧ (b = 1 ∨ b = 2))) : Bad Lx a b x y z :=
  Or.inr (Or.inr (Or.inr (Or.inr (Or.inl ⟨h1, h1', h3, h⟩))))
theorem Bad.m {Lx : Nat} {a b x y z : Int} (h1 : x ≠ 0) (h1' : x ≠ 2*(Lx:Int)-2)
    (h : (a = 3 ∧ b = 1) ∨ (a = 2 ∧ (b = 1 ∨ b = 3))) : Bad Lx a b x y z :=
  Or.inr (Or.inr (Or.inr (Or.inr (Or.inr ⟨h1, h1', h⟩))))

theorem rk_conflict {Lx : Nat} {a b x y z : Int} (h : rkT Lx a x y z ≤ rkT Lx b x y z) :
    ¬ Bad Lx a b x y z := by
  intro hb
  unfold rkT at h
  unfold Bad at hb
  rcases hb with ⟨h1, h2, hb⟩ | ⟨h1, h2, h3, hb⟩ | ⟨h1, h2, h3, hb⟩ | ⟨h1, h1', h3, hb⟩ | ⟨h1, h1', h3, hb⟩ |
    ⟨h1, h1', hb⟩
  · have n2 : (2 : Int) ≤ y := h2
    simp only [h1, if_true, n2] at h
    rcases hb with ⟨rfl, rfl⟩ | ⟨rfl, rfl | rfl⟩ <;> simp at h
  · have n2 : ¬ (2 : Int) ≤ y := by omega
    simp only [if_pos h1, if_neg n2, if_pos h3] at h
    rcases hb with ⟨rfl, rfl⟩ | ⟨rfl, rfl | rfl⟩ <;> simp at h
  · have n2 : ¬ (2 : Int) ≤ y := by omega
    simp only [if_pos h1, if_neg n2, if_neg h3] at h
    rcases hb with ⟨rfl, rfl⟩ | ⟨rfl, rfl | rfl⟩ <;> simp at h
  · simp only [if_neg h1', if_pos h1, if_pos h3] at h
    rcases hb with ⟨rfl, rfl⟩ | ⟨rfl, rfl | rfl⟩ | ⟨rfl, rfl | rfl⟩ <;> simp at h
  · simp only [if_neg h1', if_pos h1, if_neg h3] at h
    rcases hb with ⟨rfl, rfl⟩ | ⟨rfl, rfl | rfl⟩ | ⟨rfl, rfl | rfl⟩ <;> simp at h
  · simp only [if_neg h1', if_neg h1] at h
    rcases hb with ⟨rfl, rfl⟩ | ⟨rfl, rfl | rfl⟩ <;> simp at h

theorem tier_spec (Lx : Nat) (a x : Int) :
    (0 < x ∧ x < 2*(Lx:Int)-2 ∧ a = 2 ∧ tier Lx a x = 1) ∨
    (¬ (0 < x ∧ x < 2*(Lx:Int)-2 ∧ a = 2) ∧ tier Lx a x = 0) := by
  unfold tier; split <;> simp_all

theorem xleg_alt {Lx Ly Lz : Nat} {b u v w p q r : Int} (hst : ST Lx Ly Lz b u v w)
    (h : [p, q, r] ∈ triKeys Lx Ly Lz b u v w) (hp : p % 2 = 1) :
    q = v ∧ r = w ∧ (((b = 0 ∨ b = 2) ∧ u = p - 1) ∨
      ((b = 1 ∨ b = 3) ∧ ((u ≠ 0 ∧ u = p + 1) ∨ (u = 0 ∧ p = 2*(Lx:Int)-1)))) := by
  have hu := hst.2.1.1
  rcases (mem_triKeys_iff hst).mp h with ⟨rfl, hq, hr⟩ | ⟨rfl, -, -⟩ | ⟨rfl, -, -⟩
  · have gx := sgnX_table hst.1
    have fx := step_facts (2*Lx) u (sgnX b) (sgnX_pm b)
    refine ⟨hq, hr, ?_⟩
    clear hp hu h hst
    rcases fx with ⟨hs, e⟩ | ⟨hs, e⟩
    · exact Or.inl ⟨by omega, by omega⟩
    · exact Or.inr ⟨by omega, by omega⟩
  · omega
  · omega

theorem yleg_alt {Lx Ly Lz : Nat} {b u v w p q r : Int} (hst : ST Lx Ly Lz b u v w)
    (h : [p, q, r] ∈ triKeys Lx Ly Lz b u v w) (hq : q % 2 = 1) :
    p = u ∧ r = w ∧ (((b = 0 ∨ b = 3) ∧ v = q - 1) ∨
      ((b = 1 ∨ b = 2) ∧ ((v ≠ 0 ∧ v = q + 1) ∨ (v = 0 ∧ q = 2*(Ly:Int)-1)))) := by
  have hv := hst.2.2.1.1
  rcases (mem_triKeys_iff hst).mp h with ⟨-, rfl, -⟩ | ⟨hp, rfl, hr⟩ | ⟨-, rfl, -⟩
  · omega
  · have gy := sgnY_table hst.1
    have fy := step_facts (2*Ly) v (sgnY b) (sgnY_pm b)
    refine ⟨hp, hr, ?_⟩
    clear hq hv h hst
    rcases fy with ⟨hs, e⟩ | ⟨hs, e⟩
    · exact Or.inl ⟨by omega, by omega⟩
    · exact Or.inr ⟨by omega, by omega⟩
  · omega

theorem zleg_alt {Lx Ly Lz : Nat} {b u v w p q r : Int} (hst : ST Lx Ly Lz b u v w)
    (h : [p, q, r] ∈ triKeys Lx Ly Lz b u v w) (hr : r % 2 = 1) :
    p = u ∧ q = v ∧
      (((((u + v + w) % 4 = 0 ∧ (b = 0 ∨ b = 1)) ∨ ((u + v + w) % 4 = 2 ∧ (b = 2 ∨ b = 3))) ∧ w = r - 1) ∨
       ((((u + v + w) % 4 = 0 ∧ (b = 2 ∨ b = 3)) ∨ ((u + v + w) % 4 = 2 ∧ (b = 0 ∨ b = 1))) ∧
         ((w ≠ 0 ∧ w = r + 1) ∨ (w = 0 ∧ r = 2*(Lz:Int)-1)))) := by
  have hw := hst.2.2.2.1
  rcases (mem_triKeys_iff hst).mp h with ⟨-, -, rfl⟩ | ⟨-, -, rfl⟩ | ⟨hp, hq, rfl⟩
  · omega
  · omega
  · have gz := sgnZ_table (u := u) (v := v) (w := w) hst.1 (by
      have := hst.2.1.1; have := hst.2.2.1.1; omega)
    have fz := step_facts (2*Lz) w (sgnZ b u v w) (sgnZ_pm b u v w)
    have hb := hst.1
    unfold IsAxis at hb
    refine ⟨hp, hq, ?_⟩
    clear hr hw h hst
    generalize (u + v + w) % 4 = m at gz ⊢
    rcases fz with ⟨hs, e⟩ | ⟨hs, e⟩
    · exact Or.inl ⟨by omega, by omega⟩
    · exact Or.inr ⟨by omega, by omega⟩

/-! A selected triangle `t` of rank `≥` that of `s` on an edge through the vertex of `s`: where its vertex
is, and what is left of the comparison of the ranks. -/

section later
variable {Lx Ly Lz : Nat} {a x y z b u v w : Int}

theorem mu_lex (hs : TK Lx Ly Lz a x y z) (ht : TK Lx Ly Lz b u v w)
    (hle : mu Lx Ly Lz [a, x, y, z] ≤ mu Lx Ly Lz [b, u, v, w]) :
    2 * x + tier Lx a x < 2 * u + tier Lx b u ∨ (2 * x + tier Lx a x = 2 * u + tier Lx b u ∧
      (y < v ∨ (y = v ∧ (z < w ∨ (z = w ∧ rkT Lx a x y z ≤ rkT Lx b u v w))))) := by
  obtain ⟨⟨-, hx⟩, ⟨-, hy⟩, ⟨-, hz⟩, -⟩ := hs
  obtain ⟨⟨-, hu⟩, ⟨-, hv⟩, ⟨-, hw⟩, -⟩ := ht
  simp only [mu] at hle
  have hlex := lex_mu (My := 2*Ly+1) (Mz := 2*Lz+1) (by omega) (by omega) (by omega) (by omega)
    (rkT_lt Lx a x y z) (rkT_lt Lx b u v w) hle
  generalize rkT Lx a x y z = ra at *
  generalize rkT Lx b u v w = rb at *
  generalize tier Lx a x = tra at *
  generalize tier Lx b u = trb at *
  clear hle
  omega

theorem later_x (hs : TK Lx Ly Lz a x y z) (ht : TK Lx Ly Lz b u y z)
    (hle : mu Lx Ly Lz [a, x, y, z] ≤ mu Lx Ly Lz [b, u, y, z]) :
    x ≤ u ∧ (x = u → tier Lx a x ≤ tier Lx b u ∧
      (tier Lx a x = tier Lx b u → rkT Lx a x y z ≤ rkT Lx b u y z)) := by
  have := mu_lex hs ht hle
  have := tier_le Lx a x
  have := tier_le Lx b u
  have := hs.1.1
  have := ht.1.1
  exact ⟨by omega, by omega⟩

theorem later_y (hs : TK Lx Ly Lz a x y z) (ht : TK Lx Ly Lz b x v z)
    (hle : mu Lx Ly Lz [a, x, y, z] ≤ mu Lx Ly Lz [b, x, v, z]) :
    tier Lx a x ≤ tier Lx b x ∧ (tier Lx a x = tier Lx b x →
      y ≤ v ∧ (y = v → rkT Lx a x y z ≤ rkT Lx b x v z)) := by
  have := mu_lex hs ht hle
  exact ⟨by omega, by omega⟩

theorem later_z (hs : TK Lx Ly Lz a x y z) (ht : TK Lx Ly Lz b x y w)
    (hle : mu Lx Ly Lz [a, x, y, z] ≤ mu Lx Ly Lz [b, x, y, w]) :
    tier Lx a x ≤ tier Lx b x ∧ (tier Lx a x = tier Lx b x →
      z ≤ w ∧ (z = w → rkT Lx a x y z ≤ rkT Lx b x y w)) := by
  have := mu_lex hs ht hle
  exact ⟨by omega, by omega⟩

theorem later_mid (hez : Lz % 2 = 0) (hs : TK Lx Ly Lz a x y z) (ht : TK Lx Ly Lz b u v w)
    (hne : ¬ (a = b ∧ x = u ∧ y = v ∧ z = w))
    (hle : mu Lx Ly Lz [a, x, y, z] ≤ mu Lx Ly Lz [b, u, v, w]) (h0 : 0 < x) (h1 : x < 2*(Lx:Int)-2)
    (hc : a = 2 ∨ a = 3 ∨ (a = 1 ∧ (x + y + z) % 4 = 2))
    (hmem : (probe Lx Ly Lz [a, x, y, z]).1 ∈ triKeys Lx Ly Lz b u v w) : False := by
  obtain ⟨⟨hx2, hx⟩, ⟨hy2, hy⟩, ⟨hz2, hz⟩, -⟩ := id hs
  obtain ⟨⟨-, hu⟩, ⟨-, hv⟩, ⟨-, hw⟩, -⟩ := id ht
  simp only [probe] at hmem
  rw [if_neg (by omega), if_neg (by omega)] at hmem
  rcases hc with rfl | rfl | ⟨rfl, hp⟩
  · -- axis 2, y leg below: the three others on it have tier 0
    rw [if_neg (by decide), if_pos rfl] at hmem
    have dy := dn_spec (2*Ly) y
    obtain ⟨rfl, rfl, halt⟩ := yleg_alt ht.st hmem (by omega)
    have hlex := later_y hs ht hle
    have ta : tier Lx 2 x = 1 := if_pos ⟨h0, h1, rfl⟩
    have tb := tier_spec Lx b x
    omega
  · -- axis 3, x leg below: axis 1 of the vertex comes first, the column before is earlier
    rw [if_neg (by decide), if_neg (by decide)] at hmem
    obtain ⟨rfl, rfl, halt⟩ := xleg_alt ht.st hmem (by omega)
    obtain ⟨hxu, hlex⟩ := later_x hs ht hle
    rcases halt with hu | ⟨hb, ⟨-, hu⟩ | hu⟩
    · omega
    · obtain rfl : x = u := by omega
      rcases hb with rfl | rfl
      · have ta : tier Lx 3 x = 0 := if_neg (by omega)
        have tb : tier Lx 1 x = 0 := if_neg (by omega)
        exact rk_conflict ((hlex rfl).2 (ta.trans tb.symm))
          (Bad.m (by omega) (by omega) (Or.inl ⟨rfl, rfl⟩))
      · exact hne ⟨rfl, rfl, rfl, rfl⟩
    · omega
  · -- axis 1 at a vertex of class 2, z leg below: axis 0 is not selected, axis 1 below has class 0
    rw [if_pos rfl] at hmem
    have dz := dn_spec (2*Lz) z
    obtain ⟨rfl, rfl, halt⟩ := zleg_alt ht.st hmem (by omega)
    have := ht.of_mid h0 h1
    clear hle hmem
    omega

theorem later_last (hLx : 2 ≤ Lx) (hex : Lx % 2 = 0) (hs : TK Lx Ly Lz a x y z)
    (ht : TK Lx Ly Lz b u v w) (hne : ¬ (a = b ∧ x = u ∧ y = v ∧ z = w))
    (hle : mu Lx Ly Lz [a, x, y, z] ≤ mu Lx Ly Lz [b, u, v, w]) (h0 : x = 2*(Lx:Int)-2)
    (hc : a = 2 ∨ a = 3 ∨ (a = 1 ∧ ¬ (y = 0 ∧ z = 0)))
    (hmem : (probe Lx Ly Lz [a, x, y, z]).1 ∈ triKeys Lx Ly Lz b u v w) : False := by
  obtain ⟨⟨hx2, hx⟩, ⟨hy2, hy⟩, ⟨hz2, hz⟩, -⟩ := id hs
  obtain ⟨⟨-, hu⟩, ⟨-, hv⟩, ⟨-, hw⟩, -⟩ := id ht
  have t0 : ∀ c, tier Lx c x = 0 := fun c => if_neg (by omega)
  simp only [probe] at hmem
  rw [if_pos h0] at hmem
  rcases hc with rfl | rfl | ⟨rfl, hyz⟩
  · -- axis 2, x leg across the seam: axis 0 is not selected here, column 0 is earlier
    rw [if_pos rfl] at hmem
    obtain ⟨rfl, rfl, halt⟩ := xleg_alt ht.st hmem (by omega)
    obtain ⟨hxu, -⟩ := later_x hs ht hle
    rcases halt with ⟨hb, hu⟩ | hu
    · obtain rfl : x = u := by omega
      have := ht.of_last hLx h0
      omega
    · omega
  · rw [if_neg (by decide), if_pos rfl] at hmem
    split at hmem
    · -- axis 3 on the row `y = 0` at class 0, z leg below: axis 2 of the vertex comes first
      rename_i hc
      obtain ⟨rfl, rfl, halt⟩ := zleg_alt ht.st hmem (by omega)
      obtain ⟨-, hlex⟩ := later_z hs ht hle
      have hlex := hlex ((t0 3).trans (t0 b).symm)
      rcases halt with hw | ⟨hb, ⟨-, hw⟩ | hw⟩
      · omega
      · obtain rfl : z = w := by omega
        obtain rfl | rfl : b = 2 ∨ b = 3 := by omega
        · exact rk_conflict (hlex.2 rfl) (Bad.l0 h0 (by omega) hc.2 (Or.inl ⟨rfl, rfl⟩))
        · exact hne ⟨rfl, rfl, rfl, rfl⟩
      · omega
    · -- axis 3 elsewhere, x leg below: axis 1 of the vertex comes first
      rename_i hc
      obtain ⟨rfl, rfl, halt⟩ := xleg_alt ht.st hmem (by omega)
      obtain ⟨hxu, hlex⟩ := later_x hs ht hle
      rcases halt with hu | ⟨hb, ⟨-, hu⟩ | hu⟩
      · omega
      · obtain rfl : x = u := by omega
        rcases hb with rfl | rfl
        · refine rk_conflict ((hlex rfl).2 ((t0 3).trans (t0 1).symm)) ?_
          by_cases hy2 : 2 ≤ y
          · exact Bad.l2 h0 hy2 (Or.inr ⟨rfl, Or.inr rfl⟩)
          · exact Bad.l1 h0 (by omega) (by omega) (Or.inr ⟨rfl, Or.inl rfl⟩)
        · exact hne ⟨rfl, rfl, rfl, rfl⟩
      · omega
  · rw [if_neg (by decide), if_neg (by decide)] at hmem
    split at hmem
    · -- axis 1 with `y ≥ 2`, y leg below: axis 2 of the vertex comes first
      rename_i hy2
      obtain ⟨rfl, rfl, halt⟩ := yleg_alt ht.st hmem (by omega)
      obtain ⟨-, hlex⟩ := later_y hs ht hle
      have hlex := hlex ((t0 1).trans (t0 b).symm)
      rcases halt with hv | ⟨hb, ⟨-, hv⟩ | hv⟩
      · omega
      · obtain rfl : y = v := by omega
        rcases hb with rfl | rfl
        · exact hne ⟨rfl, rfl, rfl, rfl⟩
        · exact rk_conflict (hlex.2 rfl) (Bad.l2 h0 hy2 (Or.inl ⟨rfl, rfl⟩))
      · omega
    · split at hmem
      · -- axis 1 on the row `y = 0` at class 0, x leg below: axis 3 of the vertex comes first
        rename_i hy2 hc
        obtain ⟨rfl, rfl, halt⟩ := xleg_alt ht.st hmem (by omega)
        obtain ⟨hxu, hlex⟩ := later_x hs ht hle
        rcases halt with hu | ⟨hb, ⟨-, hu⟩ | hu⟩
        · omega
        · obtain rfl : x = u := by omega
          rcases hb with rfl | rfl
          · exact hne ⟨rfl, rfl, rfl, rfl⟩
          · exact rk_conflict ((hlex rfl).2 ((t0 1).trans (t0 3).symm))
              (Bad.l0 h0 (by omega) hc (Or.inr ⟨rfl, Or.inr rfl⟩))
        · omega
      · -- axis 1 on the row `y = 0` at class 2, z leg below: axis 0 is not selected
        rename_i hy2 hc
        obtain ⟨rfl, rfl, halt⟩ := zleg_alt ht.st hmem (by omega)
        obtain ⟨-, hlex⟩ := later_z hs ht hle
        have hlex := (hlex ((t0 1).trans (t0 b).symm)).1
        have := ht.of_last hLx h0
        omega

/-- a corner of the column `x = 0` with the y leg below: the other axis of the vertex comes first;
    axes 0 and 3 of the vertex across are selected only in the top layer, short of the wrap -/
theorem later_first_y (hLx : 2 ≤ Lx) (hs : TK Lx Ly Lz a x y z)
    (ht : TK Lx Ly Lz b u v w) (hne : ¬ (a = b ∧ x = u ∧ y = v ∧ z = w))
    (hle : mu Lx Ly Lz [a, x, y, z] ≤ mu Lx Ly Lz [b, u, v, w]) (h0 : x = 0)
    (hc : (a = 1 ∧ (x + y + z) % 4 = 0) ∨ (a = 2 ∧ (x + y + z) % 4 = 2))
    (hmem : [x, dn (2*Ly) y, z] ∈ triKeys Lx Ly Lz b u v w) : False := by
  obtain ⟨-, ⟨hy2, hy⟩, -, -⟩ := id hs
  obtain ⟨-, ⟨-, hv⟩, -, -⟩ := id ht
  have dy := dn_spec (2*Ly) y
  obtain ⟨rfl, rfl, halt⟩ := yleg_alt ht.st hmem (by omega)
  obtain ⟨-, hlex⟩ := later_y hs ht hle
  have t0 : ∀ c, tier Lx c x = 0 := fun c => if_neg (by omega)
  have hlex := hlex ((t0 a).trans (t0 b).symm)
  rcases halt with ⟨hb, hv'⟩ | ⟨hb, hv'⟩
  · have := ht.of_first hLx h0
    clear hc hne
    omega
  · obtain rfl : y = v := by omega
    by_cases hab : a = b
    · exact hne ⟨hab, rfl, rfl, rfl⟩
    · refine rk_conflict (hlex.2 rfl) ?_
      rcases hc with ⟨rfl, hp⟩ | ⟨rfl, hp⟩
      · exact Bad.f0 h0 (by omega) hp (Or.inl ⟨rfl, by omega⟩)
      · exact Bad.f2 h0 (by omega) (by omega) (Or.inl ⟨rfl, by omega⟩)

theorem later_first (hLx : 2 ≤ Lx) (hLz : 2 ≤ Lz) (hs : TK Lx Ly Lz a x y z)
    (ht : TK Lx Ly Lz b u v w) (hne : ¬ (a = b ∧ x = u ∧ y = v ∧ z = w))
    (hle : mu Lx Ly Lz [a, x, y, z] ≤ mu Lx Ly Lz [b, u, v, w]) (h0 : x = 0)
    (hc : (a = 1 ∧ (x + y + z) % 4 = 0) ∨ (a = 2 ∧ (x + y + z) % 4 = 2) ∨
      (2 ≤ z ∧ ((a = 2 ∧ (x + y + z) % 4 = 0) ∨ (a = 1 ∧ (x + y + z) % 4 = 2))) ∨
      (z = 2*(Lz:Int)-2 ∧ y < 2*(Ly:Int)-2 ∧
        ((a = 3 ∧ (x + y + z) % 4 = 2) ∨ (a = 0 ∧ (x + y + z) % 4 = 0))))
    (hmem : (probe Lx Ly Lz [a, x, y, z]).1 ∈ triKeys Lx Ly Lz b u v w) : False := by
  obtain ⟨-, -, ⟨hz2, hz⟩, -⟩ := id hs
  obtain ⟨-, -, ⟨-, hw⟩, -⟩ := id ht
  have t0 : ∀ c, tier Lx c x = 0 := fun c => if_neg (by omega)
  simp only [probe] at hmem
  rw [if_neg (by omega), if_pos h0] at hmem
  rcases hc with hc | hc | ⟨hz2', hc⟩ | ⟨hzt, hyt, hc⟩
  · rw [if_pos (Or.inl hc)] at hmem
    exact later_first_y hLx hs ht hne hle h0 (Or.inl hc) hmem
  · rw [if_pos (Or.inr hc)] at hmem
    exact later_first_y hLx hs ht hne hle h0 (Or.inr hc) hmem
  · -- z leg below: the other axis on it at the vertex is not selected
    rw [if_neg (by omega), if_neg (by omega)] at hmem
    obtain ⟨rfl, rfl, halt⟩ := zleg_alt ht.st hmem (by omega)
    obtain ⟨-, hlex⟩ := later_z hs ht hle
    have hlex := (hlex ((t0 a).trans (t0 b).symm)).1
    have := ht.of_first hLx h0
    omega
  · -- top layer, z leg above: the other axis on it at the vertex comes first
    rw [if_neg (by omega), if_pos (by omega)] at hmem
    obtain ⟨rfl, rfl, halt⟩ := zleg_alt ht.st hmem (by omega)
    obtain ⟨-, hlex⟩ := later_z hs ht hle
    have hlex := hlex ((t0 a).trans (t0 b).symm)
    rcases halt with ⟨hb, hw'⟩ | ⟨hb, hw'⟩
    · obtain rfl : z = w := by omega
      by_cases hab : a = b
      · exact hne ⟨hab, rfl, rfl, rfl⟩
      · refine rk_conflict (hlex.2 rfl) ?_
        rcases hc with ⟨rfl, hp⟩ | ⟨rfl, hp⟩
        · exact Bad.f2 h0 (by omega) (by omega) (Or.inr (Or.inr ⟨rfl, by omega⟩))
        · exact Bad.f0 h0 (by omega) hp (Or.inr (Or.inl ⟨rfl, by omega⟩))
    · omega

theorem later_tri_tri (hLx : 2 ≤ Lx) (hLz : 2 ≤ Lz) (hex : Lx % 2 = 0) (hez : Lz % 2 = 0)
    (hs : TK Lx Ly Lz a x y z) (ht : TK Lx Ly Lz b u v w)
    (hne : ¬ (a = b ∧ x = u ∧ y = v ∧ z = w))
    (hle : mu Lx Ly Lz [a, x, y, z] ≤ mu Lx Ly Lz [b, u, v, w])
    (hmem : (probe Lx Ly Lz [a, x, y, z]).1 ∈ triKeys Lx Ly Lz b u v w) : False := by
  rcases hs.2.2.2 with ⟨h0, h1, hc⟩ | ⟨h0, hc⟩ | ⟨h0, hc⟩
  · exact later_mid hez hs ht hne hle h0 h1 hc hmem
  · exact later_last hLx hex hs ht hne hle h0 hc hmem
  · exact later_first hLx hLz hs ht hne hle h0 hc hmem

end later

end Panqec.RhombicToricCode
