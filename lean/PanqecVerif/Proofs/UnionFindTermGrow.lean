/-
Union-find internals (C05), termination of the growth loop: what one call of
`Clustering_Tree.grow` does to `_H_to_grow`, to the new boundary list and to the fusion set, for
any iteration order of the old boundary list.
-/
import PanqecVerif.Proofs.UnionFindGrowPost

namespace Panqec.UF

theorem hashS_neg (s : Nat) : hashS s < 0 := by unfold hashS; omega

theorem hashS_inj {a b : Nat} (h : hashS a = hashS b) : a = b := by unfold hashS at h; omega

theorem unhashS_hashS (s : Nat) : unhashS (hashS s) = s := by unfold unhashS hashS; omega

theorem hashS_unhashS {b : Int} (h : b < 0) : hashS (unhashS b) = b := by
  unfold unhashS hashS; omega

/-- invariant of `for b in self._boundary_list` after the prefix `P` -/
structure GFInv (H : Mat) (st : GState) (P : List Int) (acc : GrowAcc) : Prop where
  row : ∀ s, acc.rowDead s = true ↔ (st.rowDead s = true ∨ hashS s ∈ P)
  col : ∀ q : Nat, acc.colDead q = true ↔ (st.colDead q = true ∨ (q : Int) ∈ P)
  nb_row : ∀ s, hashS s ∈ P → ∀ q, hb H s q = true →
    st.rowDead s = true ∨ acc.colDead q = true ∨ (q : Int) ∈ acc.newB
  fus_row : ∀ s, hashS s ∈ P → ∀ q, hb H s q = true →
    st.rowDead s = true ∨ st.colDead q = true ∨ (q : Int) ∈ acc.fus
  fus_col : ∀ x, x ∈ P → 0 ≤ x → x ∈ acc.fus
  nb_src : ∀ x, x ∈ acc.newB →
    (0 ≤ x → ∃ s, hashS s ∈ P ∧ hb H s x.toNat = true) ∧
    (x < 0 → ∃ q : Nat, (q : Int) ∈ P ∧ hb H (unhashS x) q = true)

theorem GFInv_init (H : Mat) (st : GState) : GFInv H st [] ⟨st.rowDead, st.colDead, [], []⟩ :=
  ⟨by simp, by simp, by simp, by simp, by simp, by simp⟩

theorem GFInv.src_mono {H : Mat} {st : GState} {P : List Int} {acc : GrowAcc} (I : GFInv H st P acc)
    (b : Int) {x : Int} (hx : x ∈ acc.newB) :
    (0 ≤ x → ∃ s, hashS s ∈ P ++ [b] ∧ hb H s x.toNat = true) ∧
    (x < 0 → ∃ q : Nat, (q : Int) ∈ P ++ [b] ∧ hb H (unhashS x) q = true) := by
  obtain ⟨h1, h2⟩ := I.nb_src x hx
  exact ⟨fun h0 => (h1 h0).imp fun s h => ⟨List.mem_append_left _ h.1, h.2⟩,
    fun h0 => (h2 h0).imp fun q h => ⟨List.mem_append_left _ h.1, h.2⟩⟩

theorem GFInv_step {H : Mat} (hrange : ∀ s q, hb H s q = true → q < ncols H) {st : GState}
    {P : List Int} {acc : GrowAcc} (I : GFInv H st P acc) (b : Int) :
    GFInv H st (P ++ [b]) (growStep H acc b) := by
  unfold growStep
  by_cases hb0 : b < 0
  · -- a stabilizer of the boundary list: `grow_stabilizer`
    simp only [hb0, if_true]
    have hs0 := hashS_unhashS hb0
    have hmemP : ∀ s, hashS s ∈ P ++ [b] ↔ (hashS s ∈ P ∨ s = unhashS b) := by
      intro s
      rw [List.mem_append, List.mem_singleton]
      constructor
      · rintro (h | h)
        · exact Or.inl h
        · exact Or.inr (hashS_inj (h.trans hs0.symm))
      · rintro (h | h)
        · exact Or.inl h
        · exact Or.inr (by rw [h, hs0])
    have hmemQ : ∀ q : Nat, (q : Int) ∈ P ++ [b] ↔ (q : Int) ∈ P := by
      intro q
      rw [List.mem_append, List.mem_singleton]
      constructor
      · rintro (h | h)
        · exact h
        · omega
      · exact fun h => Or.inl h
    have hqs : ∀ q, hb H (unhashS b) q = true → acc.rowDead (unhashS b) = false →
        acc.colDead q = false →
        (q : Int) ∈ ((List.range (ncols H)).filter fun q =>
          live H acc.rowDead acc.colDead (unhashS b) q).map Int.ofNat := by
      intro q h1 h2 h3
      rw [List.mem_map]
      refine ⟨q, ?_, rfl⟩
      rw [mem_filter_range]
      exact ⟨hrange _ q h1, by unfold live; simp [h1, h2, h3]⟩
    refine ⟨?_, ?_, ?_, ?_, ?_, ?_⟩
    · intro s
      simp only []
      rw [hmemP s]
      by_cases hs : s = unhashS b
      · rw [if_pos hs]; exact ⟨fun _ => Or.inr (Or.inr hs), fun _ => rfl⟩
      · rw [if_neg hs, I.row s]
        exact ⟨fun h => h.imp_right Or.inl, fun h => h.imp_right fun h => h.resolve_right hs⟩
    · intro q
      rw [hmemQ q]; exact I.col q
    · intro s hs q hq
      simp only []
      rw [mem_sunion]
      rcases (hmemP s).mp hs with h | h
      · exact (I.nb_row s h q hq).imp_right (Or.imp_right Or.inl)
      · -- the row of `b` itself: zeroed before, or its live columns are the new boundary
        subst h
        by_cases hrd : acc.rowDead (unhashS b) = true
        · rcases (I.row _).mp hrd with h | hP
          · exact Or.inl h
          · exact (I.nb_row _ hP q hq).imp_right (Or.imp_right Or.inl)
        · cases hc : acc.colDead q
          · exact Or.inr (Or.inr (Or.inr (hqs q hq (Bool.eq_false_iff.mpr hrd) hc)))
          · exact Or.inr (Or.inl rfl)
    · intro s hs q hq
      simp only []
      rw [mem_sunion]
      rcases (hmemP s).mp hs with h | h
      · exact (I.fus_row s h q hq).imp_right (Or.imp_right Or.inl)
      · subst h
        by_cases hrd : acc.rowDead (unhashS b) = true
        · rcases (I.row _).mp hrd with h | hP
          · exact Or.inl h
          · exact (I.fus_row _ hP q hq).imp_right (Or.imp_right Or.inl)
        · cases hc : acc.colDead q
          · exact Or.inr (Or.inr (Or.inr (hqs q hq (Bool.eq_false_iff.mpr hrd) hc)))
          · rcases (I.col q).mp hc with hc | hc
            · exact Or.inr (Or.inl hc)
            · exact Or.inr (Or.inr (Or.inl (I.fus_col _ hc (by omega))))
    · intro x hx hx0
      simp only []
      rw [mem_sunion]
      rcases List.mem_append.mp hx with h | h
      · exact Or.inl (I.fus_col x h hx0)
      · simp at h; omega
    · intro x hx
      simp only [] at hx
      rw [mem_sunion] at hx
      rcases hx with hx | hx
      · exact I.src_mono b hx
      · rw [List.mem_map] at hx
        obtain ⟨q, hq, rfl⟩ := hx
        rw [mem_filter_range] at hq
        have hlive := hq.2
        unfold live at hlive
        simp only [Bool.and_eq_true] at hlive
        constructor
        · intro _
          refine ⟨unhashS b, (hmemP _).mpr (Or.inr rfl), ?_⟩
          simpa using hlive.1.1
        · intro h0; simp at h0; omega
  · -- a qubit of the boundary list: `grow_qubit`
    simp only [hb0, if_false]
    have hbq : ((b.toNat : Nat) : Int) = b := by omega
    have hmemP : ∀ s, hashS s ∈ P ++ [b] ↔ hashS s ∈ P := by
      intro s
      rw [List.mem_append, List.mem_singleton]
      have := hashS_neg s
      constructor
      · rintro (h | h)
        · exact h
        · omega
      · exact fun h => Or.inl h
    have hmemQ : ∀ q : Nat, (q : Int) ∈ P ++ [b] ↔ ((q : Int) ∈ P ∨ q = b.toNat) := by
      intro q
      rw [List.mem_append, List.mem_singleton]
      constructor
      · rintro (h | h)
        · exact Or.inl h
        · exact Or.inr (by omega)
      · rintro (h | h)
        · exact Or.inl h
        · exact Or.inr (by omega)
    refine ⟨?_, ?_, ?_, ?_, ?_, ?_⟩
    · intro s
      rw [hmemP s]; exact I.row s
    · intro q
      simp only []
      rw [hmemQ q]
      by_cases hq : q = b.toNat
      · rw [if_pos hq]; exact ⟨fun _ => Or.inr (Or.inr hq), fun _ => rfl⟩
      · rw [if_neg hq, I.col q]
        exact ⟨fun h => h.imp_right Or.inl, fun h => h.imp_right fun h => h.resolve_right hq⟩
    · intro s hs q hq
      simp only []
      rw [mem_sunion]
      rcases I.nb_row s ((hmemP s).mp hs) q hq with h1 | h1 | h1
      · exact Or.inl h1
      · refine Or.inr (Or.inl ?_)
        by_cases h : q = b.toNat <;> simp [h, h1]
      · exact Or.inr (Or.inr (Or.inl h1))
    · intro s hs q hq
      simp only []
      rw [mem_sunion]
      exact (I.fus_row s ((hmemP s).mp hs) q hq).imp_right (Or.imp_right Or.inl)
    · intro x hx hx0
      simp only []
      rw [mem_sunion]
      rcases List.mem_append.mp hx with h | h
      · exact Or.inl (I.fus_col x h hx0)
      · simp at h; subst h; exact Or.inr (by simp)
    · intro x hx
      simp only [] at hx
      rw [mem_sunion] at hx
      rcases hx with hx | hx
      · exact I.src_mono b hx
      · rw [List.mem_map] at hx
        obtain ⟨s, hs, rfl⟩ := hx
        rw [mem_filter_range] at hs
        have hlive := hs.2
        unfold live at hlive
        simp only [Bool.and_eq_true] at hlive
        constructor
        · intro h0; have := hashS_neg s; omega
        · intro _
          refine ⟨b.toNat, (hmemQ _).mpr (Or.inr rfl), ?_⟩
          rw [unhashS_hashS]; simpa using hlive.1.1

theorem GFInv_fold {H : Mat} (hrange : ∀ s q, hb H s q = true → q < ncols H) {st : GState} :
    ∀ (l P : List Int) (acc : GrowAcc), GFInv H st P acc →
      GFInv H st (P ++ l) (l.foldl (growStep H) acc) := by
  intro l
  induction l with
  | nil => intro P acc I; simpa using I
  | cons b l ih =>
    intro P acc I
    have := ih (P ++ [b]) _ (GFInv_step hrange I b)
    simpa using this

end Panqec.UF
