/-
C17 for hand-written lattice models, generic in the `Lattice`.  Rows of dict operators (every binary
vector is the row of a dict, disjoint keys give disjoint supports, the weight of a row is the number
of entries), the packing bound on dicts (`Lattice.packing_bound`), and the form in which every class
uses it: a listed logical has `m` pairwise disjoint sets of qubits, each hit by every operator that
commutes with the generators as often (mod 2) as the logical is (`Lattice.Rep`, `Lattice.Packed`,
`Lattice.lower_bound_of_reps`).  Then the weights of the listed logicals and `code.d`.  The counting
modules write the hits of `b` as sums of `Lat2D.ind P b q`, which is 1 when the letter of `b` on `q`
anticommutes with `P` (`opHit`).
-/
import PanqecVerif.Proofs.OpComm
import PanqecVerif.Proofs.LatCommon

namespace Panqec

def opHit (P : Pauli) (b : Op) (q : Coord) : Bool := Pauli.anti P (Op.letter b q)

def Lat2D.ind (P : Pauli) (b : Op) (q : Coord) : Nat := if opHit P b q = true then 1 else 0

theorem opAntiCount_line (K : List Coord) (P : Pauli) (b : Op) :
    opAntiCount (K.map (fun q => (q, P))) b = K.countP (opHit P b) := by
  rw [opAntiCount_eq_countP, List.countP_map]
  rfl

/-- `b` commutes with every stabilizer generator.  The `CommStabs` of a class (fixed text) is this
at the lattice of the class, by unfolding, and is passed for it. -/
def Lattice.Comm (l : Lattice) (b : Op) : Prop :=
  ∀ s ∈ l.stabs, opAntiCount (l.getStab s) b % 2 = 0

theorem Lattice.stab_even (l : Lattice) {b : Op} (hb : l.Comm b) {s : Coord} (hs : s ∈ l.stabs)
    {ks : List Coord} {P : Pauli} (e : l.getStab s = ks.map fun q => (q, P)) :
    ks.countP (opHit P b) % 2 = 0 := by
  rw [← opAntiCount_line, ← e]
  exact hb s hs

theorem opRow_fromBsf (qs : List Coord) (v : List Nat) (hnd : qs.Nodup)
    (hlen : v.length = 2 * qs.length) (hbin : ∀ x ∈ v, x < 2) :
    opRow qs (fromBsf qs v) = v := by
  have h1 := toBsf_fromBsf' qs v hnd hlen hbin
  have h2 := toBsf_eq_opRow qs _ (keysNodup_fromBsf qs v hnd) (opSupported_fromBsf qs v)
  rw [h1] at h2
  exact (Option.some.inj h2).symm

theorem hasSupp_opRow {qs : List Coord} {a : Op} {i : Nat} (h : hasSupp (opRow qs a) i) :
    ∃ q, qs[i]? = some q ∧ Op.letter a q ≠ Pauli.I := by
  unfold hasSupp opRow opString at h
  rw [xPart_pauliToBsf, zPart_pauliToBsf] at h
  simp only [List.getD_eq_getElem?_getD, List.getElem?_map] at h
  cases hq : qs[i]? with
  | none => simp [hq] at h
  | some q =>
    refine ⟨q, rfl, ?_⟩
    intro hI
    simp [hq, hI, Pauli.xBit, Pauli.zBit] at h

theorem mem_keys_of_letter_ne_I {a : Op} {q : Coord} (h : Op.letter a q ≠ Pauli.I) :
    q ∈ a.map Prod.fst := by
  rcases Op.key_cases a q with ⟨p, hm⟩ | hno
  · exact List.mem_map.mpr ⟨(q, p), hm, rfl⟩
  · exact absurd (Op.letter_of_not_key a q hno) h

def KeysDisjoint (a b : Op) : Prop := ∀ q, q ∈ a.map Prod.fst → q ∉ b.map Prod.fst

theorem suppDisjoint_opRow (qs : List Coord) {a b : Op} (h : KeysDisjoint a b) :
    SuppDisjoint (opRow qs a) (opRow qs b) := by
  intro i ⟨ha, hb⟩
  obtain ⟨q, hq, hqa⟩ := hasSupp_opRow ha
  obtain ⟨q', hq', hqb⟩ := hasSupp_opRow hb
  rw [hq] at hq'
  cases hq'
  exact h q (mem_keys_of_letter_ne_I hqa) (mem_keys_of_letter_ne_I hqb)

theorem countP_zipWith_supp : ∀ ps : List Pauli,
    (List.zipWith (fun x z => x != 0 || z != 0) (ps.map Pauli.xBit)
      (ps.map Pauli.zBit)).countP id = ps.countP (fun p => p != Pauli.I)
  | [] => rfl
  | p :: ps => by
    have ih := countP_zipWith_supp ps
    simp only [List.map_cons, List.zipWith_cons_cons, List.countP_cons, ih]
    cases p <;> simp [Pauli.xBit, Pauli.zBit]

theorem pauliWeight_opRow (qs : List Coord) (hnd : qs.Nodup) (a : Op) (hk : KeysNodup a)
    (hs : ∀ e ∈ a, e.1 ∈ qs ∧ e.2 ≠ Pauli.I) : pauliWeight (opRow qs a) = a.length := by
  unfold pauliWeight rowWeight opRow
  rw [xPart_pauliToBsf, zPart_pauliToBsf, countP_zipWith_supp]
  unfold opString
  rw [List.countP_map]
  have h := countP_letter (fun _ p => p != Pauli.I) (fun _ => by decide) qs hnd a hk
    (fun e he => (hs e he).1)
  have h' : qs.countP ((fun p => p != Pauli.I) ∘ Op.letter a) =
      qs.countP (fun q => (fun _ p => p != Pauli.I) q (Op.letter a q)) := rfl
  rw [h', h, List.countP_eq_length]
  intro e he
  simpa using (hs e he).2

theorem Lattice.WF.comm_rows_iff {l : Lattice} (hwf : l.WF) (o : Op) :
    (∀ g ∈ l.rowsH, symp g (opRow l.qubits o) = 0) ↔ l.Comm o := by
  simp only [Lattice.rowsH, List.forall_mem_map]
  refine forall₂_congr fun s hs => ?_
  have hd := hwf.stabs_dicts _ (List.mem_map.mpr ⟨s, hs, rfl⟩)
  rw [symp_opRow l.qubits hwf.qubits_nodup _ _ hd.1 hd.2]

/-- Packing bound for a lattice model: if every listed logical dict `a` has at least `m` dict
    operators `r` on the qubits with pairwise disjoint keys such that every dict operator `b`
    commuting with all stabilizer generators anticommutes with `r` on as many qubits (mod 2) as
    with `a`, every non-trivial logical operator of the assembled code has weight `≥ m`. -/
theorem Lattice.packing_bound (l : Lattice) (hwf : l.WF) {n k : Nat} (hn : l.qubits.length = n)
    (hv : ValidCodeL n k l.rowsH l.rowsX l.rowsZ) (m : Nat)
    (hreps : ∀ a ∈ l.logX ++ l.logZ, ∃ reps : List Op, m ≤ reps.length ∧
      (∀ r ∈ reps, KeysNodup r ∧ opSupported l.qubits r = true) ∧
      reps.Pairwise KeysDisjoint ∧
      ∀ b : Op, KeysNodup b → opSupported l.qubits b = true →
        (∀ s ∈ l.stabs, opAntiCount (l.getStab s) b % 2 = 0) →
        ∀ r ∈ reps, opAntiCount r b % 2 = opAntiCount a b % 2) :
    ∀ v, IsNontrivialLogical n l.rowsH v → m ≤ pauliWeight v := by
  subst hn
  apply packing_lower_bound_symp hv m
  intro row hrow
  have hrow' : row ∈ (l.logX ++ l.logZ).map (opRow l.qubits) := by
    rw [List.map_append]; exact hrow
  obtain ⟨a, ha, rfl⟩ := List.mem_map.mp hrow'
  obtain ⟨reps, hm, hdict, hdis, hsame⟩ := hreps a ha
  refine ⟨reps.map (opRow l.qubits), by rw [List.length_map]; exact hm, ?_, ?_⟩
  · intro r' hr' v hlen hbin hcomm
    obtain ⟨r, hr, rfl⟩ := List.mem_map.mp hr'
    have hvb := opRow_fromBsf l.qubits v hwf.qubits_nodup hlen hbin
    have hbk := keysNodup_fromBsf l.qubits v hwf.qubits_nodup
    have hbs := opSupported_fromBsf l.qubits v
    have hstab := (hwf.comm_rows_iff _).mp (by rw [hvb]; exact hcomm)
    have hda : KeysNodup a ∧ opSupported l.qubits a = true :=
      ⟨hwf.log_keys a ha, Lattice.WF.opSupported_of (hwf.log_supported a ha)⟩
    have h := hsame _ hbk hbs hstab r hr
    rw [← symp_opRow l.qubits hwf.qubits_nodup _ _ (hdict r hr).1 (hdict r hr).2,
      ← symp_opRow l.qubits hwf.qubits_nodup _ _ hda.1 hda.2, hvb] at h
    exact h
  · rw [List.pairwise_map]
    exact hdis.imp (fun h => suppDisjoint_opRow l.qubits h)

theorem distance_two (x0 x1 z0 z1 : List Nat) :
    distance [x0, x1] [z0, z1] =
      some (min (min (rowWeight x0) (rowWeight x1)) (min (rowWeight z0) (rowWeight z1))) := rfl

theorem keysNodup_line {K : List Coord} (P : Pauli) (h : K.Nodup) :
    KeysNodup (K.map (fun q => (q, P))) := by
  unfold KeysNodup
  rw [map_fst_letter]
  exact h

theorem opSupported_line {qs K : List Coord} (P : Pauli) (h : ∀ q ∈ K, q ∈ qs) :
    opSupported qs (K.map (fun q => (q, P))) = true := by
  unfold opSupported
  rw [List.all_eq_true]
  intro e he
  obtain ⟨q, hq, rfl⟩ := List.mem_map.mp he
  rw [List.contains_iff_mem]
  exact h q hq

/-- `K` is a set of qubits that every operator commuting with the generators hits, with the letter
    `P`, as often (mod 2) as it anticommutes with `a`: the `P`s on `K` represent the class of `a` -/
structure Lattice.Rep (l : Lattice) (a : Op) (P : Pauli) (K : List Coord) : Prop where
  nodup : K.Nodup
  sub : ∀ q ∈ K, q ∈ l.qubits
  parity : ∀ b, l.Comm b → K.countP (opHit P b) % 2 = opAntiCount a b % 2

/-- the usual way to a representative: same parity as another key list of the same letter -/
theorem Lattice.Rep.of_parity {l : Lattice} {P : Pauli} {K K0 : List Coord} (hnd : K.Nodup)
    (hq : ∀ q ∈ K, q ∈ l.qubits)
    (h : ∀ b, l.Comm b → K.countP (opHit P b) % 2 = K0.countP (opHit P b) % 2) :
    l.Rep (K0.map fun q => (q, P)) P K :=
  ⟨hnd, hq, fun b hb => by rw [opAntiCount_line]; exact h b hb⟩

/-- `a` has `m` pairwise disjoint one-letter representatives -/
def Lattice.Packed (l : Lattice) (m : Nat) (a : Op) : Prop :=
  ∃ (P : Pauli) (K : Nat → List Coord) (M : Nat), m ≤ M ∧ (∀ i, i < M → l.Rep a P (K i)) ∧
    ∀ i i', i < i' → i' < M → ∀ q ∈ K i, q ∉ K i'

theorem Lattice.Packed.of_family {l : Lattice} {m M : Nat} {a : Op} (P : Pauli)
    (K : Nat → List Coord) (hm : m ≤ M) (hrep : ∀ i, i < M → l.Rep a P (K i))
    (hdis : ∀ i i', i < i' → i' < M → ∀ q ∈ K i, q ∉ K i') : l.Packed m a :=
  ⟨P, K, M, hm, hrep, hdis⟩

/-- representatives given as a list (a family indexed by something other than `Nat`, or several
    families one after the other) -/
theorem Lattice.Packed.of_list {l : Lattice} {m : Nat} {a : Op} (P : Pauli)
    (Ks : List (List Coord)) (hm : m ≤ Ks.length) (hrep : ∀ K ∈ Ks, l.Rep a P K)
    (hdis : Ks.Pairwise fun K K' => ∀ q ∈ K, q ∉ K') : l.Packed m a :=
  have e : ∀ i (hi : i < Ks.length), Ks.getD i [] = Ks[i] := fun i hi => by
    simp [List.getD_eq_getElem?_getD, hi]
  .of_family P (fun i => Ks.getD i []) hm
    (fun i hi => by rw [e i hi]; exact hrep _ (List.getElem_mem hi))
    fun i i' h hi' => by
      rw [e i (by omega), e i' hi']
      exact List.pairwise_iff_getElem.mp hdis i i' (by omega) hi' h

/-- a family indexed by the pairs `(j, k)`, `j < A`, `k < B` (read as `t = j·B + k`) -/
theorem Lattice.Packed.of_family2 {l : Lattice} {m A B : Nat} {a : Op} (P : Pauli)
    (K : Nat → Nat → List Coord) (hm : m ≤ A * B)
    (hrep : ∀ j k, j < A → k < B → l.Rep a P (K j k))
    (hdis : ∀ j k j' k', j ≠ j' ∨ k ≠ k' → ∀ q ∈ K j k, q ∉ K j' k') : l.Packed m a := by
  refine .of_family P (fun t => K (t / B) (t % B)) hm (fun t ht => ?_) fun t t' h _ => ?_
  · have hB : 0 < B := Nat.pos_of_ne_zero fun h => by rw [h, Nat.mul_zero] at ht; omega
    exact hrep _ _ (Nat.div_lt_of_lt_mul (by rw [Nat.mul_comm]; exact ht)) (Nat.mod_lt _ hB)
  · apply hdis
    have h1 := Nat.div_add_mod t B
    have h2 := Nat.div_add_mod t' B
    by_cases e1 : t / B = t' / B
    · right; intro e2
      rw [e1, e2] at h1
      omega
    · exact .inl e1

/-- the hypothesis of `Lattice.packing_bound` for `a` -/
theorem Lattice.Packed.reps {l : Lattice} {m : Nat} {a : Op} (h : l.Packed m a) :
    ∃ reps : List Op, m ≤ reps.length ∧
      (∀ r ∈ reps, KeysNodup r ∧ opSupported l.qubits r = true) ∧ reps.Pairwise KeysDisjoint ∧
      ∀ b : Op, KeysNodup b → opSupported l.qubits b = true → l.Comm b →
        ∀ r ∈ reps, opAntiCount r b % 2 = opAntiCount a b % 2 := by
  obtain ⟨P, K, M, hm, hrep, hdis⟩ := h
  refine ⟨(List.range M).map fun i => (K i).map fun q => (q, P), by simpa using hm, ?_, ?_, ?_⟩
  · intro r hr
    obtain ⟨i, hi, rfl⟩ := List.mem_map.mp hr
    have := hrep i (List.mem_range.mp hi)
    exact ⟨keysNodup_line P this.nodup, opSupported_line P this.sub⟩
  · rw [List.pairwise_map]
    refine List.Pairwise.imp_of_mem ?_ List.pairwise_lt_range
    intro i i' _ hi' hii q h1 h2
    rw [map_fst_letter] at h1 h2
    exact hdis i i' hii (List.mem_range.mp hi') q h1 h2
  · intro b _ _ hb r hr
    obtain ⟨i, hi, rfl⟩ := List.mem_map.mp hr
    rw [opAntiCount_line]
    exact (hrep i (List.mem_range.mp hi)).parity b hb

/-- the packing bound as the lattice classes use it -/
theorem Lattice.lower_bound_of_reps (l : Lattice) (hwf : l.WF) {n k : Nat}
    (hn : l.qubits.length = n) (hv : ValidCodeL n k l.rowsH l.rowsX l.rowsZ) (m : Nat)
    (h : ∀ a ∈ l.logX ++ l.logZ, l.Packed m a) :
    ∀ v, IsNontrivialLogical n l.rowsH v → m ≤ pauliWeight v :=
  l.packing_bound hwf hn hv m fun a ha => (h a ha).reps

/-- one logical qubit: the listed logical X and the listed logical Z packed -/
theorem Lattice.lower_bound_of_packed1 (l : Lattice) (hwf : l.WF) {n : Nat}
    (hn : l.qubits.length = n) (hv : ValidCodeL n 1 l.rowsH l.rowsX l.rowsZ) {m : Nat} {x z : Op}
    (hX : l.logX = [x]) (hZ : l.logZ = [z]) (px : l.Packed m x) (pz : l.Packed m z) :
    ∀ v, IsNontrivialLogical n l.rowsH v → m ≤ pauliWeight v := by
  apply l.lower_bound_of_reps hwf hn hv
  intro a ha
  rw [hX, hZ] at ha
  simp only [List.cons_append, List.nil_append, List.mem_cons, List.not_mem_nil, or_false] at ha
  rcases ha with rfl | rfl
  exacts [px, pz]

theorem Lattice.WF.weights {l : Lattice} (hwf : l.WF) :
    l.rowsX.map pauliWeight = l.logX.map List.length ∧
    l.rowsZ.map pauliWeight = l.logZ.map List.length := by
  have hw : ∀ a ∈ l.logX ++ l.logZ, pauliWeight (opRow l.qubits a) = a.length := fun a ha =>
    pauliWeight_opRow _ hwf.qubits_nodup a (hwf.log_keys a ha) (hwf.log_supported a ha)
  unfold Lattice.rowsX Lattice.rowsZ
  rw [List.map_map, List.map_map]
  exact ⟨List.map_congr_left fun a ha => hw a (List.mem_append_left _ ha),
    List.map_congr_left fun a ha => hw a (List.mem_append_right _ ha)⟩

/-- `code.d` from the lists of weights -/
theorem distance_of_weights {X Z : List (List Nat)} {wx wz : List Nat} {a b : Nat}
    (h1 : X.map pauliWeight = wx) (h2 : Z.map pauliWeight = wz) (ha : listMin wx = some a)
    (hb : listMin wz = some b) : distance X Z = some (min a b) := by
  show (match listMin (X.map pauliWeight), listMin (Z.map pauliWeight) with
    | some a, some b => some (min a b)
    | _, _ => none) = _
  rw [h1, h2, ha, hb]

end Panqec
