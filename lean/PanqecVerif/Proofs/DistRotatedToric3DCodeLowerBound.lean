/-
RotatedToric3DCode, supported family, C17: the packing bounds for the three parities of the
family.

* even × even (`k = 2`): X rows / columns of the bottom layer (`Ly` / `Lx` translates), Z walls
  `x = f` / `y = g` (`Lx` / `Ly` translates): every non-trivial logical has weight `≥ min Lx Ly`.
* odd × even (`k = 1`): the X column has the `Lx·Lz` translates "column `f` of layer `c`", the Y wall
  `y = 1` the `Ly` translates `y = g`: weight `≥ min Ly (Lx·Lz)`.
* even × odd: mirror image, weight `≥ min Lx (Ly·Lz)`.
-/
import PanqecVerif.Proofs.DistRotatedToric3DCodeRowColumn

namespace Panqec.RotatedToric3DCode
open Panqec.Lat3Db
open Panqec.Lat2D (rsum rsum2)

variable {Lx Ly Lz : Nat}

/-- a key list with the parity of the key list `K0` of a listed logical (`K0` a rearrangement of
    the filter `LK f` of the qubit list) represents it -/
theorem rep_of {f : Int → Int → Int → Bool} {K K0 : List Coord} {P : Pauli}
    (hp : (LK Lx Ly Lz f).Perm K0) (hnd : K.Nodup) (hq : ∀ q ∈ K, q ∈ qubits Lx Ly Lz)
    (h : ∀ b, CommStabs Lx Ly Lz b → K.countP (opHit P b) % 2 = K0.countP (opHit P b) % 2) :
    (lattice Lx Ly Lz).Rep (constOp (LK Lx Ly Lz f) P) P K :=
  ⟨hnd, hq, fun b hb => by rw [opAntiCount_perm hp, opAntiCount_constOp_hit]; exact h b hb⟩

section tr
variable {e : Int → Int → Int → Coord} {La Lc : Nat} (hp : Tr Lx Ly e La Lc) (hF : Fam Lx Ly)
  {f : Int → Int → Int → Bool} {m : Nat}
include hp hF

/-- even `La`: an X logical on the line `v = 1` of the bottom layer has the `Lc` lines of that
    layer as representatives -/
theorem Tr.packed_lines (hLz : 1 ≤ Lz) (hpa : La % 2 = 0) (h1c : 1 ≤ Lc) (hm : m ≤ Lc)
    (hf : (LK Lx Ly Lz f).Perm (lineK La e 1 1)) :
    (lattice Lx Ly Lz).Packed m (constOp (LK Lx Ly Lz f) Pauli.X) := by
  refine .of_family Pauli.X (fun i => lineK La e (2 * (i : Int) + 1) 1) hm (fun i hi =>
    rep_of hf (hp.lineK_nodup ..) (hp.lineK_sub (r1_idx hi) (r1_one hLz)) fun b hb => ?_)
    fun i i' h _ => hp.lineK_disj (.inl (by omega))
  rw [hp.count_lineK b (r1_idx hi) (r1_one hLz), hp.count_lineK b (r1_one h1c) (r1_one hLz)]
  simpa using line_all (hp.signSums hF hb) hpa (k := 0) (by omega) i hi

/-- even `La`, odd `Lc`: it has the `Lc·Lz` lines of all layers -/
theorem Tr.packed_lineFam (hLz : 1 ≤ Lz) (hpa : La % 2 = 0) (hpc : Lc % 2 = 1) (h2c : 2 ≤ Lc)
    (hm : m ≤ Lc * Lz)
    (hf : (LK Lx Ly Lz f).Perm (lineK La e 1 1)) :
    (lattice Lx Ly Lz).Packed m (constOp (LK Lx Ly Lz f) Pauli.X) := by
  refine .of_family2 Pauli.X (fun i k => lineK La e (2 * (i : Int) + 1) (2 * (k : Int) + 1)) hm
    (fun i k hi hk => rep_of hf (hp.lineK_nodup ..) (hp.lineK_sub (r1_idx hi) (r1_idx hk))
      fun b hb => ?_) fun _ _ _ _ h => hp.lineK_disj (by omega)
  rw [hp.count_lineK b (r1_idx hi) (r1_idx hk), hp.count_lineK b (r1_one (by omega)) (r1_one hLz)]
  exact line_any (hp.signSums hF hb) hpa hpc h2c hi hk

/-- even `La`: a Z logical on the wall `v = 1` has the `Lc` walls as representatives -/
theorem Tr.packed_wallsZ (hpa : La % 2 = 0) (h1c : 1 ≤ Lc) (hm : m ≤ Lc)
    (hf : (LK Lx Ly Lz f).Perm (wallK La Lz e 1)) :
    (lattice Lx Ly Lz).Packed m (constOp (LK Lx Ly Lz f) Pauli.Z) :=
  .of_family Pauli.Z (fun i => wallK La Lz e (2 * (i : Int) + 1)) hm (fun i hi =>
    rep_of hf (hp.wallK_nodup _) (hp.wallK_sub (r1_idx hi)) fun b hb =>
      hp.zWall_all hF hpa h1c hb i hi) fun i i' h _ => hp.wallK_disj (by omega)

/-- a Y logical on the wall `v = 1` has the `Lc` walls as representatives -/
theorem Tr.packed_wallsY (h1c : 1 ≤ Lc) (hm : m ≤ Lc)
    (hf : (LK Lx Ly Lz f).Perm (wallK La Lz e 1)) :
    (lattice Lx Ly Lz).Packed m (constOp (LK Lx Ly Lz f) Pauli.Y) := by
  refine .of_family Pauli.Y (fun i => wallK La Lz e (2 * (i : Int) + 1)) hm (fun i hi =>
    rep_of hf (hp.wallK_nodup _) (hp.wallK_sub (r1_idx hi)) fun b hb => ?_)
    fun i i' h _ => hp.wallK_disj (by omega)
  rw [hp.count_wallK_Y b (r1_idx hi), hp.count_wallK_Y b (r1_one h1c)]
  exact wall_all (hp.signSums hF hb) i hi

end tr

section
variable (hF : Fam Lx Ly) (hLz : 1 ≤ Lz)
include hF hLz

theorem lower_bound_EE (hx : Lx % 2 = 0) (hy : Ly % 2 = 0)
    {n : Nat} (hn : (qubits Lx Ly Lz).length = n)
    (hv : ValidCodeL n 2 (lattice Lx Ly Lz).rowsH (lattice Lx Ly Lz).rowsX
      (lattice Lx Ly Lz).rowsZ) :
    ∀ v, IsNontrivialLogical n (lattice Lx Ly Lz).rowsH v → min Lx Ly ≤ pauliWeight v := by
  have h1x : 1 ≤ Lx := by have := hF.1; omega
  have h1y : 1 ≤ Ly := by have := hF.2.1; omega
  apply Lattice.lower_bound_of_reps (lattice Lx Ly Lz) (wf hF) (by rw [lattice_qubits]; exact hn) hv
  intro a ha
  rw [lattice_logX, lattice_logZ, logX_EE hx hy, logZ_EE hx hy] at ha
  simp only [List.cons_append, List.nil_append, List.mem_cons, List.not_mem_nil, or_false] at ha
  rcases ha with rfl | rfl | rfl | rfl
  · exact Tr.row.packed_lines hF hLz hx h1y (Nat.min_le_right ..) (LK_fXy_perm h1y hLz)
  · exact Tr.col.packed_lines hF hLz hy h1x (Nat.min_le_left ..) (LK_fXx_perm h1x hLz)
  · exact Tr.col.packed_wallsZ hF hy h1x (Nat.min_le_left ..)
      (LK_wallX_perm h1x fun _ _ _ => rfl)
  · exact Tr.row.packed_wallsZ hF hx h1y (Nat.min_le_right ..)
      (LK_wallY_perm h1y fun _ _ _ => rfl)

theorem lower_bound_OE (hx : Lx % 2 = 1) (hy : Ly % 2 = 0)
    {n : Nat} (hn : (qubits Lx Ly Lz).length = n)
    (hv : ValidCodeL n 1 (lattice Lx Ly Lz).rowsH (lattice Lx Ly Lz).rowsX
      (lattice Lx Ly Lz).rowsZ) :
    ∀ v, IsNontrivialLogical n (lattice Lx Ly Lz).rowsH v →
      min Ly (Lx * Lz) ≤ pauliWeight v := by
  have h1x : 1 ≤ Lx := by have := hF.1; omega
  have h1y : 1 ≤ Ly := by have := hF.2.1; omega
  exact Lattice.lower_bound_of_packed1 (lattice Lx Ly Lz) (wf hF)
    (by rw [lattice_qubits]; exact hn) hv ((lattice_logX ..).trans (logX_OE hx hy))
    ((lattice_logZ ..).trans (logZ_odd (by omega) hF.2.2))
    (Tr.col.packed_lineFam hF hLz hy hx hF.1 (Nat.min_le_right ..) (LK_fXx_perm h1x hLz))
    (Tr.row.packed_wallsY hF h1y (Nat.min_le_left ..)
      (LK_wallY_perm h1y fun _ _ _ => by simp [fY, hx, hy]))

theorem lower_bound_EO (hx : Lx % 2 = 0) (hy : Ly % 2 = 1)
    {n : Nat} (hn : (qubits Lx Ly Lz).length = n)
    (hv : ValidCodeL n 1 (lattice Lx Ly Lz).rowsH (lattice Lx Ly Lz).rowsX
      (lattice Lx Ly Lz).rowsZ) :
    ∀ v, IsNontrivialLogical n (lattice Lx Ly Lz).rowsH v →
      min Lx (Ly * Lz) ≤ pauliWeight v := by
  have h1x : 1 ≤ Lx := by have := hF.1; omega
  have h1y : 1 ≤ Ly := by have := hF.2.1; omega
  exact Lattice.lower_bound_of_packed1 (lattice Lx Ly Lz) (wf hF)
    (by rw [lattice_qubits]; exact hn) hv ((lattice_logX ..).trans (logX_EO hx hy))
    ((lattice_logZ ..).trans (logZ_odd (by omega) hF.2.2))
    (Tr.row.packed_lineFam hF hLz hx hy hF.2.1 (Nat.min_le_right ..) (LK_fXy_perm h1y hLz))
    (Tr.col.packed_wallsY hF h1x (Nat.min_le_left ..)
      (LK_wallX_perm h1x fun _ _ _ => by simp [fY, hx, hy]))

end

end Panqec.RotatedToric3DCode
