/-
The triangular criterion behind every all-sizes rank argument of the lattice models, free of
operators: a pairing `f s t` (parity of the anticommutation of the probe of `s` with the member `t`)
that is odd on the diagonal and even above it.  Core Lean only.
-/

namespace Panqec

theorem sum_even {α : Type} (f : α → Nat) : ∀ (T : List α), (∀ t ∈ T, f t % 2 = 0) →
    (T.map f).sum % 2 = 0
  | [], _ => rfl
  | a :: T, h => by
    have h1 := h a (List.mem_cons_self ..)
    have h2 := sum_even f T (fun t ht => h t (List.mem_cons_of_mem _ ht))
    simp only [List.map_cons, List.sum_cons]
    omega

theorem sum_odd_single {α : Type} [DecidableEq α] (f : α → Nat) (t0 : α) :
    ∀ (T : List α), T.Nodup → t0 ∈ T →
    f t0 % 2 = 1 → (∀ t ∈ T, t ≠ t0 → f t % 2 = 0) → (T.map f).sum % 2 = 1
  | [], _, h, _, _ => absurd h (by simp)
  | a :: T, hnd, hmem, h1, h0 => by
    rw [List.nodup_cons] at hnd
    simp only [List.map_cons, List.sum_cons]
    by_cases ha : a = t0
    · subst ha
      have := sum_even f T (fun t ht => h0 t (List.mem_cons_of_mem _ ht)
        (fun e => hnd.1 (e ▸ ht)))
      omega
    · have := sum_odd_single f t0 T hnd.2
        ((List.mem_cons.mp hmem).resolve_left fun e => ha e.symm) h1
        (fun t ht hne => h0 t (List.mem_cons_of_mem _ ht) hne)
      have := h0 a (List.mem_cons_self ..) ha
      omega

theorem exists_min_int {α : Type} (f : α → Int) :
    ∀ (l : List α), l ≠ [] → ∃ a ∈ l, ∀ b ∈ l, f a ≤ f b
  | [], h => absurd rfl h
  | [a], _ => ⟨a, by simp⟩
  | a :: b :: l, _ => by
    obtain ⟨m, hm, hmin⟩ := exists_min_int f (b :: l) (by simp)
    rcases Int.le_total (f a) (f m) with h | h
    · exact ⟨a, List.mem_cons_self, List.forall_mem_cons.2
        ⟨Int.le_refl _, fun c hc => Int.le_trans h (hmin c hc)⟩⟩
    · exact ⟨m, List.mem_cons_of_mem _ hm, List.forall_mem_cons.2 ⟨h, hmin⟩⟩

/-- a member of least rank of a non-empty duplicate-free sub-family pairs oddly with the
    sub-family as a whole -/
theorem exists_odd_row {α : Type} [DecidableEq α] (μ : α → Int) (f : α → α → Nat) {sel : List α}
    (diag : ∀ s ∈ sel, f s s % 2 = 1)
    (later : ∀ s ∈ sel, ∀ t ∈ sel, s ≠ t → μ s ≤ μ t → f s t % 2 = 0)
    {T : List α} (hnd : T.Nodup) (hsub : ∀ t ∈ T, t ∈ sel) (hne : T ≠ []) :
    ∃ s ∈ T, (T.map (f s)).sum % 2 = 1 := by
  obtain ⟨t0, ht0, hmin⟩ := exists_min_int μ T hne
  refine ⟨t0, ht0, sum_odd_single _ t0 T hnd ht0 (diag t0 (hsub t0 ht0)) fun t ht hne' => ?_⟩
  exact later t0 (hsub t0 ht0) t (hsub t ht) (fun e => hne' e.symm) (hmin t ht)

end Panqec
