/-
The parity-check matrix of `XCubeCode(Lx, Ly, Lz)` (hand-written lattice model, undeformed) is CSS
for EVERY size: cubes carry only Z letters, the vertex ("face") operators only X letters; a code all
of whose generators have one letter is CSS.
Core Lean + the `mapM` and `opCount` lemmas of `Proofs/CodeAssembly.lean`, `Proofs/CodeDictBsf.lean`.
-/
import PanqecVerif.Model.XCubeDecoder
import PanqecVerif.Proofs.Decoders
import PanqecVerif.Proofs.CodeDictBsf

namespace Panqec

open Panqec.Lat3Db

theorem insert_letters (op : Op) (q : Coord) (p : Pauli) (h : ∀ e ∈ op, e.2 = p) :
    ∀ e ∈ op.insert q p, e.2 = p := by
  unfold Op.insert
  split
  · intro e he
    obtain ⟨e', he', rfl⟩ := List.mem_map.mp he
    split
    · rfl
    · exact h e' he'
  · intro e he
    rcases List.mem_append.mp he with h1 | h1
    · exact h e h1
    · simp only [List.mem_singleton] at h1; subst h1; rfl

theorem foldl_buildOp_letters (isQ : Coord → Bool) (p : Pauli) : ∀ (locs : List Coord) (acc : Op),
    (∀ e ∈ acc, e.2 = p) →
    ∀ e ∈ locs.foldl (fun op q => if isQ q then op.insert q p else op) acc, e.2 = p
  | [], acc, h => h
  | q :: rest, acc, h => by
    simp only [List.foldl_cons]
    apply foldl_buildOp_letters isQ p rest
    split
    · exact insert_letters acc q p h
    · exact h

theorem buildOp_letters (isQ : Coord → Bool) (locs : List Coord) (p : Pauli) :
    ∀ e ∈ buildOp isQ locs p, e.2 = p :=
  foldl_buildOp_letters isQ p locs [] (by simp)

theorem stabRow_xFlag_false (qs : List Coord) (op : Op) (r : List Nat) (hr : stabRow qs op = some r)
    (h : ∀ e ∈ op, e.2 = Pauli.Z) : xFlag r = false := by
  unfold stabRow toBsf at hr
  split at hr
  · simp only [Option.map_some, Option.some.injEq] at hr
    subst hr
    unfold xFlag
    rw [List.map_append, xPart_append _ _ (by simp)]
    simp only [List.any_map, List.any_eq_false, Function.comp]
    intro q _
    have h0 := opCount_eq_zero op q Pauli.xBit (fun e he hq => by rw [h e he] at hq; cases hq.2)
    simp [h0]
  · simp at hr

theorem stabRow_zFlag_false (qs : List Coord) (op : Op) (r : List Nat) (hr : stabRow qs op = some r)
    (h : ∀ e ∈ op, e.2 = Pauli.X) : zFlag r = false := by
  unfold stabRow toBsf at hr
  split at hr
  · simp only [Option.map_some, Option.some.injEq] at hr
    subst hr
    unfold zFlag
    rw [List.map_append, zPart_append _ _ (by simp)]
    simp only [List.any_map, List.any_eq_false, Function.comp]
    intro q _
    have h0 := opCount_eq_zero op q Pauli.zBit (fun e he hq => by rw [h e he] at hq; cases hq.2)
    simp [h0]
  · simp at hr

theorem isCss_of_uniform (c : CodeData)
    (h : ∀ op ∈ c.stabOps, (∀ e ∈ op, e.2 = Pauli.Z) ∨ (∀ e ∈ op, e.2 = Pauli.X)) :
    isCss ((stabilizerMatrix c).getD []) = true := by
  cases hH : stabilizerMatrix c with
  | none => simp [isCss, xIndices, zIndices]
  | some H =>
    simp only [Option.getD_some]
    rw [isCss_iff]
    intro r hr
    obtain ⟨i, hi, rfl⟩ := List.getElem_of_mem hr
    unfold stabilizerMatrix at hH
    have hlen := mapM_some_length _ _ _ hH
    have hrow := mapM_some_getElem? _ _ _ hH i (by omega)
    rw [List.getElem?_eq_getElem hi] at hrow
    rcases h _ (List.getElem_mem (by omega : i < c.stabOps.length)) with hz | hx
    · rw [stabRow_xFlag_false _ _ _ hrow.symm hz]; simp
    · rw [stabRow_zFlag_false _ _ _ hrow.symm hx]; simp

namespace XCube

theorem getStab_uniform (Lx Ly Lz : Nat) (loc : Coord) :
    (∀ e ∈ XCubeCode.getStab Lx Ly Lz loc, e.2 = Pauli.Z) ∨
    (∀ e ∈ XCubeCode.getStab Lx Ly Lz loc, e.2 = Pauli.X) := by
  unfold XCubeCode.getStab XCubeCode.getStab?
  split
  · left; simp
  · split
    · left; simp only [Option.getD_some]; exact buildOp_letters _ _ _
    · right; simp only [Option.getD_some]; exact buildOp_letters _ _ _
    · left; simp

theorem isCss_xcube (Lx Ly Lz : Nat) :
    isCss ((stabilizerMatrix (codeData Lx Ly Lz none)).getD []) = true := by
  apply isCss_of_uniform
  intro op hop
  simp only [codeData, Lattice.toCodeData, XCubeCode.lattice, List.mem_map] at hop
  obtain ⟨loc, _, rfl⟩ := hop
  exact getStab_uniform Lx Ly Lz loc

end XCube

end Panqec
