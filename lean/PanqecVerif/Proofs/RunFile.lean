/-
Lemmas for the `run_file` model (`Model/RunFile.lean`, property C14):
the run from an admissible results file (within the fuel of `runBatch`; the file satisfies the
invariant of the protocol by `Batch.inv_ghost`), the no-op run.
-/
import PanqecVerif.Proofs.BatchLive
import PanqecVerif.Model.RunFile

namespace Panqec.RunFile

open Panqec.Batch

theorem docOf_eq_fileDoc (f : FileSt) : docOf f = fileDoc f := by cases f <;> rfl

/-- the file satisfies `Inv` with a killed ghost process that holds its records (`inv_ghost`), so
    `start_done` applies from it -/
theorem runBatch_resume (fmt : Fmt) (pre : FileSt) (next0 : Nat) (ids : List Nat) (n : Nat)
    (hpre : pre = .absent ∨ ∃ d, pre = .complete d) (hd : IdsOK (fileDoc pre) next0)
    (hne : ids ≠ []) (hnd : ids.Nodup)
    (hrec : ∀ r ∈ fileDoc pre, r.inputs ∈ ids ∧ r.nRuns ≤ n) :
    (runBatch fmt pre next0 ids n).proc.pc = .done ∧ Inv (runBatch fmt pre next0 ids n) ∧
      FileLE pre (runBatch fmt pre next0 ids n).disk.file ∧
      (runBatch fmt pre next0 ids n).proc.spec = ids ∧ (runBatch fmt pre next0 ids n).proc.n = n := by
  obtain ⟨N, hN⟩ := exists_bound (fileDoc pre)
  have h := start_done (inv_ghost fmt pre next0 N hpre hd hN) (spec := ids) (n := n) (sf := saveFrequency)
    ⟨hne, hnd, Nat.le_refl _, hrec⟩ (Nat.le_refl (fuelFor ids.length n))
  have hsame := startProc_proc (initWorld fmt pre next0)
    ⟨(fileDoc pre).map (·.inputs), N, 1, .killed, [], fileDoc pre⟩ ids n saveFrequency
  unfold runBatch
  rw [runToEnd_eq_stepN, ← hsame]
  exact h

theorem le_minRuns {n : Nat} : ∀ (l : List Sim), l ≠ [] → (∀ s ∈ l, n ≤ s.nRuns) → n ≤ minRuns l
  | [], h, _ => absurd rfl h
  | [a], _, h => by simpa [minRuns] using h a (by simp)
  | a :: b :: t, _, h => by
    simp only [minRuns]
    exact Nat.le_min.mpr ⟨h a (by simp), le_minRuns (b :: t) (by simp)
      (fun s hs => h s (List.mem_cons_of_mem _ hs))⟩

/-- every requested simulation holds `n` trials already: the loop has no iteration -/
theorem runBatch_noop (fmt : Fmt) (pre : FileSt) (next0 : Nat) (ids : List Nat) (n : Nat)
    (od : Option Doc) (hread : readFile fmt pre = .ok od) (hne : ids ≠ [])
    (hall : ∀ x ∈ ids, n ≤ (loadSim od x).nRuns) :
    (runBatch fmt pre next0 ids n).proc.pc = .done ∧
      (runBatch fmt pre next0 ids n).disk.file = pre ∧
      (runBatch fmt pre next0 ids n).next = next0 := by
  have hmin : n ≤ minRuns (ids.map (loadSim od)) :=
    le_minRuns _ (by simpa using hne) (by
      intro s hs
      obtain ⟨x, hx, rfl⟩ := List.mem_map.mp hs
      exact hall x hx)
  have hstart : startProc (initWorld fmt pre next0) ids n saveFrequency =
      { initWorld fmt pre next0 with proc := ⟨ids, n, saveFrequency, .done, [], ids.map (loadSim od)⟩ } := by
    unfold startProc
    rw [if_neg hne]
    show (match readFile fmt pre with | .error e => _ | .ok od => _) = _
    rw [hread]
    simp only
    rw [if_neg (by omega)]
  have hterm : (startProc (initWorld fmt pre next0) ids n saveFrequency).proc.pc.terminal = true := by
    rw [hstart]; rfl
  unfold runBatch
  rw [runToEnd_eq_stepN, stepN_terminal _ _ hterm, hstart]
  exact ⟨rfl, rfl, rfl⟩

/-- the results file before the task: no file (`k = 0`), or a complete well-formed document
    (distinct simulations, equal-length lists, distinct trial identifiers below the counter
    `next0`) that holds, for every requested simulation, a record with `k` trials, and no
    record of any other simulation -/
def UniformFile (pre : FileSt) (ids : List Nat) (k next0 : Nat) : Prop :=
  (pre = .absent ∧ k = 0) ∨
  ∃ d, pre = .complete d ∧ IdsOK d next0 ∧ (∀ r ∈ d, r.inputs ∈ ids ∧ r.nRuns = k) ∧
    ∀ x ∈ ids, ∃ r ∈ d, r.inputs = x

/-- what the file holds for simulation `x` after the task: a record with exactly `m` trials and
    three lists of that length (or no file at all when `m = 0`) -/
def Holds (f : FileSt) (x m : Nat) : Prop :=
  (m = 0 ∧ f = .absent) ∨
  ∃ r, recordOf f x = some r ∧ r.inputs = x ∧ r.nRuns = m ∧ r.ee.length = m ∧
    r.su.length = m ∧ r.cs.length = m

theorem trialsRecorded_of_holds {f : FileSt} {x m : Nat} (h : Holds f x m) :
    trialsRecorded f x = m := by
  rcases h with ⟨hm, hf⟩ | ⟨r, hr, _, hn, _⟩
  · subst hf; subst hm; rfl
  · simp only [trialsRecorded, hr, hn]

theorem holds_of_mem {f : FileSt} {s : Sim} (hn : ((fileDoc f).map (·.inputs)).Nodup)
    (hs : s ∈ fileDoc f) (hwf : s.WF) : Holds f s.inputs s.nRuns := by
  refine Or.inr ⟨s, ?_, rfl, rfl, hwf.lengths⟩
  simp only [recordOf, docOf_eq_fileDoc]; exact findRec_of_mem hn hs

theorem runBatch_uniform (fmt : Fmt) (pre : FileSt) (next0 : Nat) (ids : List Nat) (k n : Nat)
    (hne : ids ≠ []) (hnd : ids.Nodup) (hu : UniformFile pre ids k next0) :
    (runBatch fmt pre next0 ids n).proc.pc = .done ∧
    ((runBatch fmt pre next0 ids n).disk.file = .absent ∨
      ∃ d, (runBatch fmt pre next0 ids n).disk.file = .complete d) ∧
    (∀ x ∈ ids, Holds (runBatch fmt pre next0 ids n).disk.file x (max k n)) ∧
    (∀ r ∈ docOf (runBatch fmt pre next0 ids n).disk.file, r.inputs ∈ ids) ∧
    ((docOf (runBatch fmt pre next0 ids n).disk.file).map (·.inputs)).Nodup := by
  by_cases hnk : n ≤ k
  · -- nothing to run
    have hmax : max k n = k := Nat.max_eq_left hnk
    rcases hu with ⟨hp, hk⟩ | ⟨d, hp, hd, hrec, hall⟩
    · subst hp; subst hk
      have hn0 : n = 0 := by omega
      subst hn0
      obtain ⟨a, b, _⟩ := runBatch_noop fmt .absent next0 ids 0 none rfl hne (fun _ _ => Nat.zero_le _)
      rw [b]
      exact ⟨a, Or.inl rfl, fun x _ => Or.inl ⟨rfl, rfl⟩, fun r hr => (by cases hr), by simp [docOf]⟩
    · subst hp
      obtain ⟨a, b, _⟩ := runBatch_noop fmt (.complete d) next0 ids n (some d) rfl hne fun x hx => by
        obtain ⟨r, hr, rfl⟩ := hall x hx
        rw [loadSim_of_mem hd.inputsNodup hr, (hrec r hr).2]; exact hnk
      rw [b, hmax]
      refine ⟨a, Or.inr ⟨d, rfl⟩, fun x hx => ?_, fun r hr => (hrec r hr).1, hd.inputsNodup⟩
      obtain ⟨r, hr, rfl⟩ := hall x hx
      exact (hrec r hr).2 ▸ holds_of_mem (f := .complete d) hd.inputsNodup hr (hd.each r hr).1
  · -- the run proper
    have hkn : k < n := by omega
    have hmax : max k n = n := Nat.max_eq_right (by omega)
    obtain ⟨hpre, hd, hrec⟩ : (pre = .absent ∨ ∃ d, pre = .complete d) ∧ IdsOK (fileDoc pre) next0 ∧
        ∀ r ∈ fileDoc pre, r.inputs ∈ ids ∧ r.nRuns ≤ n := by
      rcases hu with ⟨rfl, _⟩ | ⟨d, rfl, hd, hrec, _⟩
      · exact ⟨Or.inl rfl, IdsOK.nil _, fun r hr => by cases hr⟩
      · exact ⟨Or.inr ⟨d, rfl⟩, hd, fun r hr => ⟨(hrec r hr).1, by rw [(hrec r hr).2]; omega⟩⟩
    obtain ⟨hdone, hinv, _, hspec, hn⟩ := runBatch_resume fmt pre next0 ids n hpre hd hne hnd hrec
    generalize runBatch fmt pre next0 ids n = w at hdone hinv hspec hn
    rw [hmax]
    refine ⟨hdone, hinv.fileOK, fun x hx => ?_, ?_, ?_⟩
    · rw [← hspec, ← hinv.specMem] at hx
      obtain ⟨s, hs, rfl⟩ := List.mem_map.mp hx
      obtain ⟨hsn, hsf⟩ := hinv.done_counts hdone s hs
      have hsf := hsf (by omega)
      exact (hsn.trans hn) ▸ holds_of_mem hinv.docOK.inputsNodup hsf (hinv.docOK.each s hsf).1
    · intro r hr
      rw [docOf_eq_fileDoc] at hr
      obtain ⟨s, hs, hsr, _⟩ := hinv.pre r hr
      rw [← hspec, ← hinv.specMem, ← hsr]
      exact List.mem_map.mpr ⟨s, hs, rfl⟩
    · rw [docOf_eq_fileDoc]; exact hinv.docOK.inputsNodup

end Panqec.RunFile
