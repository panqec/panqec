/-
Generic lemmas for the hand-written 2-D lattice models (core Lean only):
ranges and grids (membership, distinctness), the dict-building loops `collect` / `lineOp`
as filtered maps, `opAntiCount` of two single-letter operators as the size of the key
intersection, symmetry of that size, and counting lemmas.
-/
import PanqecVerif.Proofs.LatCss
import PanqecVerif.Model.Lattices.Lat2DBase

namespace Panqec.Lat2D

theorem mem_pyRange2 {a b : Nat} {x : Int} :
    x ∈ pyRange2 a b ↔ (a : Int) ≤ x ∧ x < b ∧ x % 2 = (a : Int) % 2 := by
  rw [pyRange2, mem_map_ofNat_range' (by decide)]
  omega

theorem nodup_pyRange2 (a b : Nat) : (pyRange2 a b).Nodup :=
  nodup_map_ofNat_range' a _ (by decide)

theorem length_pyRange2 (a b : Nat) : (pyRange2 a b).length = (b - a + 1) / 2 := by
  simp [pyRange2]

theorem mem_gridIf {xs ys : List Int} {p : Int → Int → Bool} {q : Coord} :
    q ∈ gridIf xs ys p ↔ ∃ x y, x ∈ xs ∧ y ∈ ys ∧ p x y = true ∧ q = [x, y] := by
  unfold gridIf
  simp only [List.mem_flatMap, List.mem_map, List.mem_filter]
  constructor
  · rintro ⟨x, hx, y, ⟨hy, hp⟩, rfl⟩; exact ⟨x, y, hx, hy, hp, rfl⟩
  · rintro ⟨x, y, hx, hy, hp, rfl⟩; exact ⟨x, hx, y, ⟨hy, hp⟩, rfl⟩

theorem filter_const_true {α} (l : List α) : l.filter (fun _ => true) = l :=
  List.filter_eq_self.mpr (by simp)

theorem grid_eq_gridIf (xs ys : List Int) : grid xs ys = gridIf xs ys (fun _ _ => true) := by
  simp [grid, gridIf, filter_const_true]

theorem mem_grid {xs ys : List Int} {q : Coord} :
    q ∈ grid xs ys ↔ ∃ x y, x ∈ xs ∧ y ∈ ys ∧ q = [x, y] := by
  rw [grid_eq_gridIf, mem_gridIf]; simp

theorem nodup_gridIf {xs ys : List Int} (p : Int → Int → Bool) (hx : xs.Nodup) (hy : ys.Nodup) :
    (gridIf xs ys p).Nodup := by
  refine nodup_flatMap_of_key (·.getD 0 0) hx
    (fun x _ => nodup_map_of_key (·.getD 1 0) (hy.sublist List.filter_sublist) fun _ _ => rfl) ?_
  intro x _ q hq
  obtain ⟨y, _, rfl⟩ := List.mem_map.mp hq
  rfl

theorem nodup_grid {xs ys : List Int} (hx : xs.Nodup) (hy : ys.Nodup) : (grid xs ys).Nodup := by
  rw [grid_eq_gridIf]; exact nodup_gridIf _ hx hy

theorem length_grid (xs ys : List Int) : (grid xs ys).length = xs.length * ys.length :=
  length_flatMap_const xs _ ys.length fun _ _ => List.length_map _

theorem isIn_iff {l : List Coord} {q : Coord} : isIn l q = true ↔ q ∈ l := by
  simp [isIn]

theorem collect_eq (cands : List Coord) (f : Coord → Bool) (P : Pauli) (h : cands.Nodup) :
    collect cands f P = (cands.filter f).map (fun q => (q, P)) := by
  unfold collect
  rw [Op.foldl_insert_letter f P cands [] h (by simp), List.nil_append]

theorem lineOp_eq (keys : List Coord) (P : Pauli) (h : keys.Nodup) :
    lineOp keys P = keys.map (fun q => (q, P)) := by
  have := collect_eq keys (fun _ => true) P h
  simpa [collect, lineOp, filter_const_true] using this

def interCount (A B : List Coord) : Nat := A.countP (fun q => B.contains q)

theorem get?_const (B : List Coord) (Q : Pauli) (q : Coord) :
    Op.get? (B.map (fun b => (b, Q))) q = if B.contains q then some Q else none := by
  rw [Op.get?_letter]; simp

theorem opAntiCount_const (A B : List Coord) (P Q : Pauli) :
    opAntiCount (A.map (fun q => (q, P))) (B.map (fun q => (q, Q)))
      = if Pauli.anti P Q then interCount A B else 0 :=
  opAntiCount_letter A B P Q

theorem opCommute_const_of (A B : List Coord) (P Q : Pauli)
    (h : Pauli.anti P Q = true → interCount A B % 2 = 0) :
    opCommute (A.map (fun q => (q, P))) (B.map (fun q => (q, Q))) = true :=
  opCommute_letter_of A B P Q h

theorem opCommute_same (A B : List Coord) (P : Pauli) :
    opCommute (A.map (fun q => (q, P))) (B.map (fun q => (q, P))) = true :=
  opCommute_const_of A B P P fun h => by rw [Pauli.anti_self] at h; cases h

theorem same_letter_comm (P : Pauli) (l : List Op)
    (hl : ∀ a ∈ l, ∃ K : List Coord, a = K.map (fun q => (q, P))) :
    ∀ a ∈ l, ∀ b ∈ l, opCommute a b = true := by
  intro a ha b hb
  obtain ⟨K, rfl⟩ := hl a ha
  obtain ⟨K', rfl⟩ := hl b hb
  exact opCommute_same _ _ _

theorem mem_pair_iff {l : List Coord} {P : Int → Int → Prop}
    (h : ∀ {q}, q ∈ l ↔ ∃ x y, q = [x, y] ∧ P x y) {x y : Int} : [x, y] ∈ l ↔ P x y := by
  rw [h]
  constructor
  · rintro ⟨x', y', e, hq⟩
    simp only [List.cons.injEq, and_true] at e
    rw [e.1, e.2]; exact hq
  · exact fun hq => ⟨x, y, rfl, hq⟩

theorem interCount_comm (A B : List Coord) (hA : A.Nodup) (hB : B.Nodup) :
    interCount A B = interCount B A :=
  countP_contains_comm A B hA hB

theorem countP_eq_one {α} [DecidableEq α] (p : α → Bool) (l : List α) (a0 : α) (hl : l.Nodup)
    (h0 : a0 ∈ l) (hp : p a0 = true) (huniq : ∀ a ∈ l, p a = true → a = a0) :
    l.countP p = 1 :=
  countP_eq_length_of_mem_iff l [a0] p hl (List.pairwise_singleton _ _) fun a => by
    rw [List.mem_singleton]
    exact ⟨fun h => huniq a h.1 h.2, fun h => h ▸ ⟨h0, hp⟩⟩

theorem interCount_filter4 (c1 c2 c3 c4 : Coord) (f : Coord → Bool) (B : List Coord) :
    interCount ([c1, c2, c3, c4].filter f) B =
      (if f c1 = true ∧ c1 ∈ B then 1 else 0) + (if f c2 = true ∧ c2 ∈ B then 1 else 0) +
      (if f c3 = true ∧ c3 ∈ B then 1 else 0) + (if f c4 = true ∧ c4 ∈ B then 1 else 0) := by
  unfold interCount
  rw [List.countP_filter]
  simp only [List.countP_cons, List.countP_nil, Bool.and_eq_true, List.contains_eq_mem,
    decide_eq_true_eq]
  simp only [and_comm]
  omega

theorem mem_filter_map_fst {cands : List Coord} {f : Coord → Bool} {P : Pauli} {e : Coord × Pauli} :
    e ∈ (cands.filter f).map (fun q => (q, P)) ↔ e.1 ∈ cands ∧ f e.1 = true ∧ e.2 = P := by
  rw [mem_letter, List.mem_filter, and_assoc]

theorem interCount_4 (c1 c2 c3 c4 : Coord) (B : List Coord) :
    interCount [c1, c2, c3, c4] B =
      (if c1 ∈ B then 1 else 0) + (if c2 ∈ B then 1 else 0) +
      (if c3 ∈ B then 1 else 0) + (if c4 ∈ B then 1 else 0) := by
  have h := interCount_filter4 c1 c2 c3 c4 (fun _ => true) B
  rw [filter_const_true] at h
  simpa using h

theorem nodup_map_pair {l : List Int} (f : Int → Coord) (hf : ∀ a b, f a = f b → a = b)
    (h : l.Nodup) : (l.map f).Nodup := by
  show List.Pairwise _ _
  rw [List.pairwise_map]
  exact List.Pairwise.imp (fun hab h' => hab (hf _ _ h')) h

theorem deformBy_XZZX (qa : Coord → Option String) (axis : String) (loc : Coord)
    (hax : axis = "x" ∨ axis = "y") :
    deformBy qa "XZZX" axis loc =
      (qa loc).map (fun a => if a = axis then PauliMap.swapXZ else PauliMap.id) := by
  unfold deformBy
  have h : ¬ (axis ≠ "x" ∧ axis ≠ "y") := by
    rcases hax with rfl | rfl <;> simp
  rw [if_neg h, if_pos rfl]
  cases qa loc with
  | none => rfl
  | some a => by_cases ha : a = axis <;> simp [ha]

theorem deformBy_XY (qa : Coord → Option String) (axis : String) (loc : Coord)
    (hax : axis = "x" ∨ axis = "y") :
    deformBy qa "XY" axis loc = some PauliMap.swapYZ := by
  unfold deformBy
  have h : ¬ (axis ≠ "x" ∧ axis ≠ "y") := by
    rcases hax with rfl | rfl <;> simp
  rw [if_neg h, if_neg (by decide), if_pos rfl]

theorem deformBy_bad_axis (qa : Coord → Option String) (name axis : String) (loc : Coord)
    (hx : axis ≠ "x") (hy : axis ≠ "y") : deformBy qa name axis loc = none := by
  unfold deformBy
  rw [if_pos ⟨hx, hy⟩]

theorem deformBy_bad_name (qa : Coord → Option String) (name axis : String) (loc : Coord)
    (h1 : name ≠ "XZZX") (h2 : name ≠ "XY") : deformBy qa name axis loc = none := by
  unfold deformBy
  by_cases h : axis ≠ "x" ∧ axis ≠ "y"
  · rw [if_pos h]
  · rw [if_neg h, if_neg h1, if_neg h2]

/-- whatever the 2-D `get_deformation` returns is a permutation of {X, Y, Z} -/
theorem deformBy_isPerm {qa : Coord → Option String} {name axis : String} {loc : Coord}
    {m : PauliMap} (h : deformBy qa name axis loc = some m) : m.isPerm = true := by
  unfold deformBy at h
  split at h
  · cases h
  · split at h
    · split at h
      · cases h
      · split at h <;> cases h <;> decide
    · split at h <;> cases h
      decide

end Panqec.Lat2D
