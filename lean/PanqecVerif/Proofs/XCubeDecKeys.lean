/-
`XCubeMatchingDecoder.decode`, the look-up that can raise: the loop scatter asks `qubit_index` for
`tuple_insert(cell, proj_axis, plane_proj)`, `cell` one of the cells `decode_plane` returns.  All
these keys exist exactly when the grid handed to `decode_plane` fits in the projected plane: always
when it is given the two sizes of that plane (the repaired code), and iff `Lx ≤ Ly ≤ Lz` when it is
given `(Lx, Ly)` whatever the projection axis (the code before 869642d).
-/
import PanqecVerif.Proofs.XCubeDecBasic
import PanqecVerif.Proofs.LatXCubeCodeBasics
import PanqecVerif.Proofs.LatToric2DCodeStab

namespace Panqec.XCube

open Panqec Panqec.Lat3Db Panqec.XCubeCode

variable {W : Type}

theorem qubitIndex?_isSome_iff (qs : List Coord) (q : Coord) :
    (qubitIndex? qs q).isSome = true ↔ q ∈ qs := by
  rw [← Decidable.not_iff_not, ← qubitIndex?_eq_none_iff]
  cases qubitIndex? qs q <;> simp

/-- a cell of the grid `decode_plane(loops, (Lx, Ly))` works on -/
def Cell (Lx Ly : Nat) (c : Coord) : Prop := ∃ x y, c = [x, y] ∧ R0 (2 * Lx) x ∧ R0 (2 * Ly) y

/-- `[Lx, Ly, Lz][proj_axis_int]` -/
def sideOf (Lx Ly Lz : Nat) : Axis → Nat
  | .x => Lx | .y => Ly | .z => Lz

/-- every key the loop scatter can ask `qubit_index` for exists -/
def LoopKeysOk (Lx Ly Lz : Nat) : Prop :=
  ∀ (proj : Axis) (c : Coord) (p : Int), Cell Lx Ly c → R1 (2 * sideOf Lx Ly Lz proj) p →
    (qubitIndex? (qubits Lx Ly Lz) (tupleInsert c proj.toNat p)).isSome = true

theorem mem_toricQubits_iff (La Lb : Nat) (a b : Int) :
    [a, b] ∈ Toric2DCode.qubits La Lb ↔
      (R1 (2 * La) a ∧ R0 (2 * Lb) b) ∨ (R0 (2 * La) a ∧ R1 (2 * Lb) b) := by
  rw [Toric2DCode.mem_qubits']
  unfold Toric2DCode.IsQ Toric2DCode.InBox R0 R1
  omega

/-- a lifted pair is an X-cube qubit iff it is a vertex of the projected plane at an odd coordinate
    (an edge along `ax`) or a qubit of the plane's `Toric2DCode` at an even one -/
theorem insert_mem_qubits_iff (Lx Ly Lz : Nat) (ax : Axis) (a b p : Int) :
    tupleInsert [a, b] ax.toNat p ∈ qubits Lx Ly Lz ↔
      (R1 (2 * sideOf Lx Ly Lz ax) p ∧ R0 (2 * (planeSizesOf Lx Ly Lz ax).1) a ∧
        R0 (2 * (planeSizesOf Lx Ly Lz ax).2) b) ∨
      (R0 (2 * sideOf Lx Ly Lz ax) p ∧
        [a, b] ∈ Toric2DCode.qubits (planeSizesOf Lx Ly Lz ax).1 (planeSizesOf Lx Ly Lz ax).2) := by
  rw [mem_toricQubits_iff]
  -- both sides are the same three edge cases, with the conjuncts in another order
  cases ax <;>
    simp only [tupleInsert, Axis.toNat, List.insertIdx_zero, List.insertIdx_succ_cons, mem_qubits_iff,
      QX, QY, QZ, sideOf, planeSizesOf] <;>
    grind

theorem Cell.mono {La Lb La' Lb' : Nat} {c : Coord} (h : Cell La Lb c) (ha : La ≤ La') (hb : Lb ≤ Lb') :
    Cell La' Lb' c := by
  obtain ⟨x, y, rfl, hx, hy⟩ := h
  unfold R0 at hx hy
  exact ⟨x, y, rfl, by unfold R0; omega, by unfold R0; omega⟩

theorem cell_insert_mem_qubits (Lx Ly Lz : Nat) (ax : Axis) (c : Coord) (p : Int)
    (hc : Cell (planeSizesOf Lx Ly Lz ax).1 (planeSizesOf Lx Ly Lz ax).2 c)
    (hp : R1 (2 * sideOf Lx Ly Lz ax) p) : tupleInsert c ax.toNat p ∈ qubits Lx Ly Lz := by
  obtain ⟨x, y, rfl, hx, hy⟩ := hc
  exact (insert_mem_qubits_iff ..).mpr (Or.inl ⟨hp, hx, hy⟩)

theorem sideOf_pos {Lx Ly Lz : Nat} (hx : 1 ≤ Lx) (hy : 1 ≤ Ly) (hz : 1 ≤ Lz) (ax : Axis) :
    1 ≤ sideOf Lx Ly Lz ax := by
  cases ax <;> assumption

/-- the counter-cell of a grid that does not fit: `(2 La, 0)` or `(0, 2 Lb)` -/
theorem Cell.not_of_lt {A B La Lb : Nat} (hA : 1 ≤ A) (hB : 1 ≤ B) (h : La < A ∨ Lb < B) :
    ∃ x y, Cell A B [x, y] ∧ ¬ (R0 (2 * La) x ∧ R0 (2 * Lb) y) := by
  unfold R0
  rcases h with h | h
  · exact ⟨2 * La, 0, ⟨_, _, rfl, by unfold R0; omega, by unfold R0; omega⟩, by omega⟩
  · exact ⟨0, 2 * Lb, ⟨_, _, rfl, by unfold R0; omega, by unfold R0; omega⟩, by omega⟩

/-- **which grids can raise.**  With `decode_plane` given an `A × B` grid (`A, B ≥ 1`) for the
    projection axis, the loop-scatter keys over all its cells and all odd planes of the axis are all
    qubits iff the grid fits in the projected plane -/
theorem planeKeys_iff (Lx Ly Lz : Nat) (hx : 1 ≤ Lx) (hy : 1 ≤ Ly) (hz : 1 ≤ Lz) (proj : Axis)
    (A B : Nat) (hA : 1 ≤ A) (hB : 1 ≤ B) :
    (∀ c p, Cell A B c → R1 (2 * sideOf Lx Ly Lz proj) p → tupleInsert c proj.toNat p ∈ qubits Lx Ly Lz) ↔
      A ≤ (planeSizesOf Lx Ly Lz proj).1 ∧ B ≤ (planeSizesOf Lx Ly Lz proj).2 := by
  constructor
  · intro h
    refine Decidable.byContradiction fun hlt => ?_
    obtain ⟨x, y, hc, hn⟩ := Cell.not_of_lt (La := (planeSizesOf Lx Ly Lz proj).1)
      (Lb := (planeSizesOf Lx Ly Lz proj).2) hA hB (by omega)
    have h1 : R1 (2 * sideOf Lx Ly Lz proj) 1 := by
      have := sideOf_pos hx hy hz proj; unfold R1; omega
    rcases (insert_mem_qubits_iff ..).mp (h _ 1 hc h1) with ⟨_, h⟩ | ⟨h, _⟩
    · exact hn h
    · exact absurd h.1 (by decide)
  · rintro ⟨ha, hb⟩ c p hc hp
    exact cell_insert_mem_qubits Lx Ly Lz proj c p (hc.mono ha hb) hp

theorem loopKeysOk_iff (Lx Ly Lz : Nat) (hx : 1 ≤ Lx) (hy : 1 ≤ Ly) (hz : 1 ≤ Lz) :
    LoopKeysOk Lx Ly Lz ↔ Lx ≤ Ly ∧ Ly ≤ Lz := by
  unfold LoopKeysOk
  simp only [qubitIndex?_isSome_iff]
  rw [forall_congr' fun proj => planeKeys_iff Lx Ly Lz hx hy hz proj Lx Ly hx hy]
  exact ⟨fun h => ⟨(h .x).1, (h .x).2⟩, fun h proj => by
    cases proj
    · exact h
    · exact ⟨Nat.le_refl _, h.2⟩
    · exact ⟨Nat.le_refl _, Nat.le_refl _⟩⟩

def NoKeyError (e : XErr) : Prop := ∀ k, e ≠ .keyError k

/-- raised by a sub-decoder's glue or numpy indexing, or the `get_matched_pairs` walk never ends -/
def DecOrHang (e : XErr) : Prop := e = .hang ∨ ∃ x, e = .dec x

theorem DecOrHang.noKeyError {e : XErr} (h : DecOrHang e) : NoKeyError e := by
  rintro k rfl
  rcases h with h | ⟨_, h⟩ <;> cases h

/-- every key the loop scatter of this decoder object can ask `qubit_index` for exists: cells of
    the grid `decode_plane` is given for the projection axis, lifted to a plane of that axis -/
def PlaneKeysOk (d : XCubeDec W) : Prop :=
  ∀ (proj : Axis) (c : Coord) (p : Int), Cell (d.planeSizes proj).1 (d.planeSizes proj).2 c →
    R1 (2 * d.side proj) p → (qubitIndex? d.qubits (tupleInsert c proj.toNat p)).isSome = true

theorem side_eq_sideOf (d : XCubeDec W) (a : Axis) : d.side a = sideOf d.Lx d.Ly d.Lz a := by
  cases a <;> rfl

/-- **the repaired code** (`decode_plane` given the two sizes of the projected plane): every key
    exists, on every lattice -/
theorem planeKeysOk_current (d : XCubeDec W) (hq : d.qubits = qubits d.Lx d.Ly d.Lz)
    (hp : d.planeSizes = planeSizesOf d.Lx d.Ly d.Lz) : PlaneKeysOk d := by
  intro proj c p hc hp1
  rw [hp] at hc
  rw [side_eq_sideOf] at hp1
  rw [qubitIndex?_isSome_iff, hq]
  exact cell_insert_mem_qubits _ _ _ proj c p hc hp1

/-- **the code before 869642d** (`decode_plane` always given `(Lx, Ly)`): every key exists iff
    `Lx ≤ Ly ≤ Lz` -/
theorem planeKeysOk_old_iff (d : XCubeDec W) (hq : d.qubits = qubits d.Lx d.Ly d.Lz)
    (hx : 1 ≤ d.Lx) (hy : 1 ≤ d.Ly) (hz : 1 ≤ d.Lz) :
    PlaneKeysOk d.old ↔ d.Lx ≤ d.Ly ∧ d.Ly ≤ d.Lz := by
  rw [← loopKeysOk_iff d.Lx d.Ly d.Lz hx hy hz]
  unfold PlaneKeysOk LoopKeysOk
  simp only [side_eq_sideOf, ← hq]
  rfl

theorem errs_loopScatter_of_keys (d : XCubeDec W) (hok : PlaneKeysOk d)
    (proj : Axis) (pp : Int) (hpp : R1 (2 * d.side proj) pp) (coords : List Coord)
    (hc : ∀ c ∈ coords, Cell (d.planeSizes proj).1 (d.planeSizes proj).2 c) (pc : Vec) (E : XErr → Prop) :
    Errs (loopScatter d proj pp coords pc) E := by
  unfold loopScatter
  refine spec_forM' (fun _ => True) (fun st c hcm _ => ?_) pc trivial
  have hmem := (qubitIndex?_isSome_iff _ _).mp (hok proj c pp (hc c hcm) hpp)
  exact spec_bind (spec_qubitIndex fun h => absurd hmem h) fun _ _ => spec_pure trivial

theorem loopScatter_raises (d : XCubeDec W) (proj : Axis) (pp : Int) (c : Coord) (rest : List Coord)
    (pc : Vec) (h : tupleInsert c proj.toNat pp ∉ d.qubits) :
    (loopScatter d proj pp (c :: rest) pc).val = .error (.keyError (tupleInsert c proj.toNat pp)) := by
  unfold loopScatter forM'
  simp only
  rw [(qubitIndex?_eq_none_iff _ _).mpr h]
  rfl

end Panqec.XCube
