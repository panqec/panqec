/-
Planar2DCode, all sizes: all stabilizer generators are independent (triangular probes: the
X probe left of a vertex, the Z probe below a face).  Core Lean only.
-/
import PanqecVerif.Proofs.LatPlanar2DCodeCss

namespace Panqec.Planar2DCode
open Panqec.Lat2D

/-- vertex `(x, y)`: `X` on the qubit `(x−1, y)`; face `(x, y)`: `Z` on the qubit `(x, y−1)` -/
def probe (s : Coord) : Coord × Pauli :=
  match s with
  | [x, y] => if x % 2 = 0 then ([x - 1, y], Pauli.X) else ([x, y - 1], Pauli.Z)
  | _ => ([], Pauli.I)

/-- vertices are ranked by `x`, faces by `y` -/
def rankOf (s : Coord) : Nat :=
  match s with
  | [x, y] => if x % 2 = 0 then x.toNat else y.toNat
  | _ => 0

theorem probe_V {x y : Int} (h : x % 2 = 0) : probe [x, y] = ([x - 1, y], Pauli.X) := if_pos h
theorem probe_F {x y : Int} (h : x % 2 = 1) : probe [x, y] = ([x, y - 1], Pauli.Z) :=
  if_neg (by omega)

theorem rankOf_V {x y : Int} (h : x % 2 = 0) : rankOf [x, y] = x.toNat := if_pos h
theorem rankOf_F {x y : Int} (h : x % 2 = 1) : rankOf [x, y] = y.toNat := if_neg (by omega)

/-- The qubit left of a vertex is next to one other vertex, the one two columns to the left, of
    smaller rank; the qubit below a face is next to one other face, the one two rows below. -/
theorem triangular (Lx Ly : Nat) :
    TriangularProbes (lattice Lx Ly) (stabs Lx Ly) probe rankOf := by
  refine triangular_of_supports (supp Lx Ly) (fun x _ => letter x)
    (fun s hs => by obtain ⟨x, y, e, _⟩ := mem_stabs.mp hs; exact ⟨x, y, e⟩)
    (fun x y h => getStab_eq h) (supp_subset Lx Ly) ?_ ?_
  · intro x y hs
    rcases mem_stabs'.mp hs with h | h
    · rw [probe_V h.1, letter_V h.1]
      unfold IsV at h
      exact ⟨rfl, mem_supp.mpr ⟨Or.inl ⟨rfl, Or.inl rfl⟩, Or.inl (by omega)⟩⟩
    · rw [probe_F h.1, letter_F h.1]
      unfold IsF at h
      exact ⟨rfl, mem_supp.mpr ⟨Or.inr ⟨rfl, Or.inl rfl⟩, Or.inl (by omega)⟩⟩
  · intro x y x' y' hs ht hne hle
    rcases mem_stabs'.mp hs with h | h <;> rcases mem_stabs'.mp ht with h' | h'
    · rw [rankOf_V h.1, rankOf_V h'.1] at hle
      rw [probe_V h.1]
      rintro ⟨-, hm⟩
      have hm := (mem_supp.mp hm).1
      obtain ⟨h1, -, h2, -⟩ := h
      obtain ⟨h1', -, h2', -⟩ := h'
      omega
    · rw [probe_V h.1, letter_F h'.1]
      exact fun e => Bool.false_ne_true e.1
    · rw [probe_F h.1, letter_V h'.1]
      exact fun e => Bool.false_ne_true e.1
    · rw [rankOf_F h.1, rankOf_F h'.1] at hle
      rw [probe_F h.1]
      rintro ⟨-, hm⟩
      have hm := (mem_supp.mp hm).1
      obtain ⟨h1, -, -, -, h2, -⟩ := h
      obtain ⟨h1', -, -, -, h2', -⟩ := h'
      omega

/-- the generators at all stabilizer locations are independent, for every size -/
theorem indep_all (Lx Ly : Nat) : IndepGenerators (lattice Lx Ly) (stabs Lx Ly) :=
  indep_of_triangular (triangular Lx Ly)

/-- the number of (independent) generators is `n − k` -/
theorem length_stabs_eq {Lx Ly : Nat} (hx : 1 ≤ Lx) (hy : 1 ≤ Ly) :
    (stabs Lx Ly).length = (qubits Lx Ly).length - 1 := by
  rw [length_stabs, length_qubits]
  obtain ⟨a, rfl⟩ : ∃ a, Lx = a + 1 := ⟨Lx - 1, by omega⟩
  obtain ⟨b, rfl⟩ : ∃ b, Ly = b + 1 := ⟨Ly - 1, by omega⟩
  simp only [Nat.add_sub_cancel, Nat.add_mul, Nat.mul_add, Nat.mul_one, Nat.one_mul]
  omega

end Panqec.Planar2DCode
