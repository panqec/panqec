/-
RotatedPlanar3DCode lattice model: the two logical operators and their lattice translates (a row, a
plane) — closed forms, overlap parities with every stabilizer kind, and the pairing of logical X
with logical Z; for every lattice size.
-/
import PanqecVerif.Proofs.LatRotatedPlanar3DCodeStab
open Panqec Panqec.Lat3Db
namespace Panqec.RotatedPlanar3DCode

def logXKeys (Lx : Nat) : List Coord := (pyRange2 1 (2*Lx)).map fun x => [x, 1, 1]
def logZKeys (Ly Lz : Nat) : List Coord :=
  (pyRange2 1 (2*Lz)).flatMap fun z => (pyRange2 1 (2*Ly)).map fun y => [1, y, z]

/-- `X̄` translated to the row `y = 2j + 1` of the layer `z = 2k + 1` -/
def lineX (Lx : Nat) (j k : Nat) : List Coord :=
  (pyRange2 1 (2 * Lx)).map fun x => [x, 2 * (j : Int) + 1, 2 * (k : Int) + 1]
/-- `Z̄` translated to the plane `x = 2i + 1` -/
def planeX (Ly Lz : Nat) (i : Nat) : List Coord :=
  (pyRange2 1 (2 * Lz)).flatMap fun z => (pyRange2 1 (2 * Ly)).map fun y => [2 * (i : Int) + 1, y, z]

theorem logXKeys_eq (Lx : Nat) : logXKeys Lx = lineX Lx 0 0 := rfl
theorem logZKeys_eq (Ly Lz : Nat) : logZKeys Ly Lz = planeX Ly Lz 0 := rfl

theorem mem_lineX {Lx j k : Nat} {q : Coord} :
    q ∈ lineX Lx j k ↔ ∃ x, R1 (2 * Lx) x ∧ q = [x, 2 * (j : Int) + 1, 2 * (k : Int) + 1] := by
  simp only [lineX, List.mem_map, mem_pyRange2_1, eq_comm]

theorem mem_planeX {Ly Lz i : Nat} {q : Coord} :
    q ∈ planeX Ly Lz i ↔
      ∃ y z, R1 (2 * Ly) y ∧ R1 (2 * Lz) z ∧ q = [2 * (i : Int) + 1, y, z] := by
  simp only [planeX, List.mem_flatMap, List.mem_map, mem_pyRange2_1]
  constructor
  · rintro ⟨z, hz, y, hy, rfl⟩; exact ⟨y, z, hy, hz, rfl⟩
  · rintro ⟨y, z, hy, hz, rfl⟩; exact ⟨z, hz, y, hy, rfl⟩

theorem lineX_nodup (Lx j k : Nat) : (lineX Lx j k).Nodup :=
  List.Nodup.map (fun a b h => by simpa using h) (nodup_pyRange2 _ _)

theorem planeX_nodup (Ly Lz i : Nat) : (planeX Ly Lz i).Nodup := by
  unfold planeX
  rw [List.nodup_flatMap]
  refine ⟨fun z _ => ?_, ?_⟩
  · refine List.Nodup.map ?_ (nodup_pyRange2 _ _)
    intro a b h; simpa using h
  · refine List.Pairwise.imp_of_mem ?_ (nodup_pyRange2 1 (2 * Lz))
    intro a b _ _ hab
    simp only [Function.onFun, List.Disjoint, List.mem_map]
    rintro c ⟨y, _, rfl⟩ ⟨y', _, h⟩
    simp only [List.cons.injEq, and_true] at h
    exact hab h.2.2.symm

theorem lineX_sub {Lx Ly Lz j k : Nat} (hj : j < Ly) (hk : k < Lz) :
    ∀ q ∈ lineX Lx j k, q ∈ qubits Lx Ly Lz := by
  intro q hq
  obtain ⟨x, hx, rfl⟩ := mem_lineX.mp hq
  rw [mem_qubits_iff]
  left
  unfold QH R1 at *
  omega

theorem planeX_sub {Lx Ly Lz i : Nat} (hi : i < Lx) : ∀ q ∈ planeX Ly Lz i, q ∈ qubits Lx Ly Lz := by
  intro q hq
  obtain ⟨y, z, hy, hz, rfl⟩ := mem_planeX.mp hq
  rw [mem_qubits_iff]
  left
  unfold QH R1 at *
  omega

theorem mem_logXKeys (Lx : Nat) (p q r : Int) : [p, q, r] ∈ logXKeys Lx ↔ R1 (2 * Lx) p ∧ q = 1 ∧ r = 1 := by
  unfold logXKeys
  simp only [List.mem_map, mem_pyRange2_1, List.cons.injEq, and_true]
  constructor
  · rintro ⟨x, hx, rfl, rfl, rfl⟩; exact ⟨hx, rfl, rfl⟩
  · rintro ⟨hx, rfl, rfl⟩; exact ⟨p, hx, rfl, rfl, rfl⟩

theorem mem_logZKeys (Ly Lz : Nat) (p q r : Int) :
    [p, q, r] ∈ logZKeys Ly Lz ↔ p = 1 ∧ R1 (2 * Ly) q ∧ R1 (2 * Lz) r := by
  unfold logZKeys
  simp only [List.mem_flatMap, List.mem_map, mem_pyRange2_1, List.cons.injEq, and_true]
  constructor
  · rintro ⟨z, hz, y, hy, rfl, rfl, rfl⟩; exact ⟨rfl, hy, hz⟩
  · rintro ⟨rfl, hy, hz⟩; exact ⟨r, hz, q, hy, rfl, rfl, rfl⟩

theorem nodup_logXKeys (Lx : Nat) : (logXKeys Lx).Nodup := lineX_nodup Lx 0 0

theorem nodup_logZKeys (Ly Lz : Nat) : (logZKeys Ly Lz).Nodup := planeX_nodup Ly Lz 0

theorem logX_eq (Lx Ly Lz : Nat) : logX Lx Ly Lz = [constOp (logXKeys Lx) Pauli.X] := by
  show [dictOf (logXKeys Lx) Pauli.X] = _
  rw [dictOf_eq _ _ (nodup_logXKeys Lx)]

theorem logZ_eq (Lx Ly Lz : Nat) : logZ Lx Ly Lz = [constOp (logZKeys Ly Lz) Pauli.Z] := by
  show [dictOf (logZKeys Ly Lz) Pauli.Z] = _
  rw [dictOf_eq _ _ (nodup_logZKeys Ly Lz)]

theorem logXKeys_qubits (Lx Ly Lz : Nat) (hy : 1 ≤ Ly) (hz : 1 ≤ Lz) :
    ∀ q ∈ logXKeys Lx, isQubit Lx Ly Lz q = true :=
  fun q hq => List.contains_iff_mem.mpr (lineX_sub hy hz q hq)

theorem logZKeys_qubits (Lx Ly Lz : Nat) (hx : 1 ≤ Lx) :
    ∀ q ∈ logZKeys Ly Lz, isQubit Lx Ly Lz q = true :=
  fun q hq => List.contains_iff_mem.mpr (planeX_sub hx q hq)

/-- logical X vs vertex: both horizontal neighbours `x ± 1` lie in the range of the row, so the star
    meets the row `(·, 1, 1)` in `(x - 1, 1, 1)` and `(x + 1, 1, 1)` together or not at all -/
theorem logX_vertex (Lx Ly Lz : Nat) (x y z : Int) (hy : 1 ≤ Ly) (hz : 1 ≤ Lz) (hv : SV Lx Ly Lz x y z) :
    ovl (vertexKeys Lx Ly Lz x y z) (logXKeys Lx) % 2 = 0 := by
  rw [vertexKeys, ovl_filter_left _ _ _ (logXKeys_qubits Lx Ly Lz hy hz)]
  have hx := hv.1
  unfold R2 at hx
  have hm : R1 (2 * Lx) (x - 1) := by unfold R1; omega
  have hp : R1 (2 * Lx) (x + 1) := by unfold R1; omega
  have h0 : ¬ R1 (2 * Lx) x := by unfold R1; omega
  simp only [vertexLocs, ovl_cons_ind, ovl_nil, mem_logXKeys, hm, hp, h0, true_and, false_and,
    ind_neg not_false]
  omega

/-- logical Z vs horizontal face: the plane `x = 1` contains the two qubits `(a - 1, b ± 1, c)` of the
    face when `a = 2`, the two qubits `(a + 1, b ± 1, c)` when `a = 0` -/
theorem logZ_faceZ (Lx Ly Lz : Nat) (a b c : Int) (hx : 1 ≤ Lx) (hf : SH Lx Ly Lz a b c) :
    ovl (faceZKeys Lx Ly Lz a b c) (logZKeys Ly Lz) % 2 = 0 := by
  rw [faceZKeys, ovl_filter_left _ _ _ (logZKeys_qubits Lx Ly Lz hx)]
  obtain ⟨-, hb, hc, -⟩ := hf
  unfold R2 at hb
  have hm : R1 (2 * Ly) (b - 1) := by unfold R1; omega
  have hp : R1 (2 * Ly) (b + 1) := by unfold R1; omega
  simp only [faceZLocs, ovl_cons_ind, ovl_nil, mem_logZKeys, hm, hp, hc, and_true]
  omega

/-- logical Z vs vertical face: the plane `x = 1` contains no vertical qubit, and the two horizontal
    qubits `(a, b, c ± 1)` of the face together when `a = 1` -/
theorem logZ_faceV (Lx Ly Lz : Nat) (a b c q₁ q₂ : Int) (hf : SF Lx Ly Lz a b c) :
    ovl [[a - 1, q₁, c], [a + 1, q₂, c], [a, b, c - 1], [a, b, c + 1]] (logZKeys Ly Lz) % 2 = 0 := by
  obtain ⟨-, hb, hc⟩ := hf
  unfold R2 at hc
  have h0 : ¬ R1 (2 * Lz) c := by unfold R1; omega
  have hm : R1 (2 * Lz) (c - 1) := by unfold R1; omega
  have hp : R1 (2 * Lz) (c + 1) := by unfold R1; omega
  simp only [ovl_cons_ind, ovl_nil, mem_logZKeys, hb, hm, hp, h0, and_true, and_false,
    ind_neg not_false]
  omega

theorem logZ_faceX (Lx Ly Lz : Nat) (a b c : Int) (hx : 1 ≤ Lx) (hf : SF Lx Ly Lz a b c) :
    ovl (faceXKeys Lx Ly Lz a b c) (logZKeys Ly Lz) % 2 = 0 := by
  rw [faceXKeys, ovl_filter_left _ _ _ (logZKeys_qubits Lx Ly Lz hx)]
  exact logZ_faceV Lx Ly Lz a b c _ _ hf

theorem logZ_faceY (Lx Ly Lz : Nat) (a b c : Int) (hx : 1 ≤ Lx) (hf : SF Lx Ly Lz a b c) :
    ovl (faceYKeys Lx Ly Lz a b c) (logZKeys Ly Lz) % 2 = 0 := by
  rw [faceYKeys, ovl_filter_left _ _ _ (logZKeys_qubits Lx Ly Lz hx)]
  exact logZ_faceV Lx Ly Lz a b c _ _ hf

/-- logical X and logical Z share exactly the qubit `(1, 1, 1)` -/
theorem logX_logZ (Lx Ly Lz : Nat) (hx : 1 ≤ Lx) (hy : 1 ≤ Ly) (hz : 1 ≤ Lz) :
    ovl (logXKeys Lx) (logZKeys Ly Lz) = 1 := by
  unfold ovl logXKeys
  rw [List.countP_map]
  have : ∀ x ∈ pyRange2 1 (2*Lx),
      (((fun q => (logZKeys Ly Lz).contains q) ∘ fun x => [x, 1, 1]) x = true ↔ (x == 1) = true) := by
    intro x _
    simp only [Function.comp, List.contains_iff_mem, mem_logZKeys, R1, beq_iff_eq]
    constructor
    · intro h; exact h.1
    · intro h; subst h; omega
  rw [List.countP_congr this]
  have h1 : (1 : Int) ∈ pyRange2 1 (2*Lx) := by rw [mem_pyRange2_1]; unfold R1; omega
  have := List.count_eq_one_of_mem (nodup_pyRange2 1 (2*Lx)) h1
  rw [List.count] at this
  simpa [eq_comm] using this

end Panqec.RotatedPlanar3DCode
