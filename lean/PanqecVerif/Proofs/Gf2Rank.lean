/-
`gf2_rank` / `brank` (`panqec/bpauli.py`) compute the GF(2) rank.

Rows given as binary integers are read as vectors `Fin w → ZMod 2` (coordinate `i` = bit
`i`); the rank is Mathlib's `Module.finrank` of the span of the rows.  The invariant of the
elimination loop of `gf2RankAux` is

    rank counted so far + finrank (span of the remaining rows)  is constant:

* a zero pivot adds nothing to the span;
* a non-zero pivot `p` with lowest set bit `t`: xoring `p` into some of the other rows
  does not change the span of (rows ∪ {p}); afterwards no remaining row has bit `t`, so
  no vector of their span has coordinate `t`, hence `p` is not in it and
  `finrank (span rest' ⊔ span {p}) = finrank (span rest') + 1`.
-/
import Mathlib.LinearAlgebra.FiniteDimensional.Lemmas
import Mathlib.LinearAlgebra.Dimension.Constructions
import Mathlib.Data.ZMod.Basic
import Mathlib.Algebra.Field.ZMod
import PanqecVerif.Proofs.Gf2RankBits

namespace Panqec

open Module Submodule

/-- a row mask read as a vector of `w` coordinates: coordinate `i` is bit `i` -/
def toVecMask (w : ℕ) (m : ℕ) : Fin w → ZMod 2 := fun i => if m.testBit i then 1 else 0

theorem toVecMask_xor (w a b : ℕ) :
    toVecMask w (a ^^^ b) = toVecMask w a + toVecMask w b := by
  funext i
  simp only [toVecMask, Pi.add_apply, Nat.testBit_xor]
  cases a.testBit i <;> cases b.testBit i <;> simp
  rfl

theorem toVecMask_zero (w : ℕ) : toVecMask w 0 = 0 := by
  funext i; simp [toVecMask]

theorem toVecMask_add_self (w a : ℕ) : toVecMask w a + toVecMask w a = 0 := by
  rw [← toVecMask_xor, Nat.xor_self, toVecMask_zero]

theorem toVecMask_injective {w a b : ℕ} (ha : a < 2 ^ w) (hb : b < 2 ^ w)
    (h : toVecMask w a = toVecMask w b) : a = b := by
  apply Nat.eq_of_testBit_eq
  intro i
  by_cases hi : i < w
  · have := congrFun h ⟨i, hi⟩
    simp only [toVecMask] at this
    cases ha' : a.testBit i <;> cases hb' : b.testBit i <;> simp [ha', hb'] at this <;> rfl
  · have hw : 2 ^ w ≤ 2 ^ i := Nat.pow_le_pow_right (by omega) (by omega)
    rw [Nat.testBit_lt_two_pow (by omega), Nat.testBit_lt_two_pow (by omega)]

theorem range_getElem_eq_image {α β : Type*} (f : α → β) (l : List α) :
    (Set.range fun i : Fin l.length => f l[i]) = f '' {x | x ∈ l} := by
  ext v
  constructor
  · rintro ⟨i, rfl⟩
    exact ⟨l[i], List.getElem_mem _, rfl⟩
  · rintro ⟨x, hx, rfl⟩
    obtain ⟨i, hi, rfl⟩ := List.getElem_of_mem hx
    exact ⟨⟨i, hi⟩, rfl⟩

def maskSpan (w : ℕ) (rows : List ℕ) : Submodule (ZMod 2) (Fin w → ZMod 2) :=
  span (ZMod 2) (Set.range fun i : Fin rows.length => toVecMask w rows[i])

/-- the GF(2) rank of a list of masks: dimension of the row space -/
noncomputable def maskRank (w : ℕ) (rows : List ℕ) : ℕ := finrank (ZMod 2) (maskSpan w rows)

theorem maskSpan_eq_image (w : ℕ) (rows : List ℕ) :
    maskSpan w rows = span (ZMod 2) (toVecMask w '' {r | r ∈ rows}) := by
  rw [maskSpan, range_getElem_eq_image]

theorem mem_maskSpan_of_mem {w : ℕ} {rows : List ℕ} {r : ℕ} (h : r ∈ rows) :
    toVecMask w r ∈ maskSpan w rows := by
  rw [maskSpan_eq_image]
  exact subset_span ⟨r, h, rfl⟩

theorem maskSpan_le {w : ℕ} {rows : List ℕ} {S : Submodule (ZMod 2) (Fin w → ZMod 2)}
    (h : ∀ r ∈ rows, toVecMask w r ∈ S) : maskSpan w rows ≤ S := by
  rw [maskSpan_eq_image, span_le]
  rintro _ ⟨r, hr, rfl⟩
  exact h r hr

theorem maskSpan_nil (w : ℕ) : maskSpan w [] = ⊥ := by
  rw [eq_bot_iff]; exact maskSpan_le (by simp)

theorem maskRank_nil (w : ℕ) : maskRank w [] = 0 := by
  rw [maskRank, maskSpan_nil, finrank_bot]

theorem maskSpan_append (w : ℕ) (a b : List ℕ) :
    maskSpan w (a ++ b) = maskSpan w a ⊔ maskSpan w b := by
  simp only [maskSpan_eq_image, ← span_union, ← Set.image_union]
  congr 2
  ext r
  simp

theorem maskSpan_singleton (w p : ℕ) : maskSpan w [p] = span (ZMod 2) {toVecMask w p} := by
  rw [maskSpan_eq_image]
  congr 1
  simp

theorem maskSpan_snoc (w : ℕ) (rest : List ℕ) (p : ℕ) :
    maskSpan w (rest ++ [p]) = maskSpan w rest ⊔ span (ZMod 2) {toVecMask w p} := by
  rw [maskSpan_append, maskSpan_singleton]

theorem maskSpan_cons (w : ℕ) (b : ℕ) (bs : List ℕ) :
    maskSpan w (b :: bs) = maskSpan w bs ⊔ span (ZMod 2) {toVecMask w b} := by
  rw [← List.singleton_append, maskSpan_append, maskSpan_singleton, sup_comm]

theorem maskSpan_eliminate (w : ℕ) (rest : List ℕ) (p : ℕ) (c : ℕ → Prop) [DecidablePred c] :
    maskSpan w (rest.map fun r => if c r then r ^^^ p else r) ⊔ span (ZMod 2) {toVecMask w p}
      = maskSpan w rest ⊔ span (ZMod 2) {toVecMask w p} := by
  have hp : toVecMask w p ∈ span (ZMod 2) {toVecMask w p} := mem_span_singleton_self _
  apply le_antisymm
  · apply sup_le _ le_sup_right
    apply maskSpan_le
    intro r' hr'
    obtain ⟨r, hr, rfl⟩ := List.mem_map.mp hr'
    by_cases hc : c r
    · simp only [hc, if_true, toVecMask_xor]
      exact add_mem (mem_sup_left (mem_maskSpan_of_mem hr)) (mem_sup_right hp)
    · simp only [hc, if_false]
      exact mem_sup_left (mem_maskSpan_of_mem hr)
  · apply sup_le _ le_sup_right
    apply maskSpan_le
    intro r hr
    have hmem : (if c r then r ^^^ p else r) ∈ rest.map fun r => if c r then r ^^^ p else r :=
      List.mem_map.mpr ⟨r, hr, rfl⟩
    have h1 := mem_maskSpan_of_mem (w := w) hmem
    by_cases hc : c r
    · simp only [hc, if_true] at h1
      have e : toVecMask w r = toVecMask w (r ^^^ p) + toVecMask w p := by
        rw [toVecMask_xor, add_assoc, toVecMask_add_self, add_zero]
      rw [e]
      exact add_mem (mem_sup_left h1) (mem_sup_right hp)
    · simp only [hc, if_false] at h1
      exact mem_sup_left h1

theorem notMem_maskSpan_of_bit {w : ℕ} {rows : List ℕ} {p t : ℕ} (ht : t < w)
    (hp : p.testBit t = true) (h : ∀ r ∈ rows, r.testBit t = false) :
    toVecMask w p ∉ maskSpan w rows := by
  have hle : maskSpan w rows ≤ LinearMap.ker (LinearMap.proj (R := ZMod 2) (φ := fun _ => ZMod 2)
      (⟨t, ht⟩ : Fin w)) := by
    apply maskSpan_le
    intro r hr
    rw [LinearMap.mem_ker, LinearMap.proj_apply]
    simp [toVecMask, h r hr]
  intro hmem
  have := hle hmem
  rw [LinearMap.mem_ker, LinearMap.proj_apply] at this
  simp [toVecMask, hp] at this

theorem gf2RankAux_nil (fuel rank : ℕ) : gf2RankAux fuel [] rank = rank := by
  cases fuel <;> simp [gf2RankAux]

/-- one pass of the loop, with the popped (last) row made explicit -/
theorem gf2RankAux_snoc (fuel : ℕ) (rest : List ℕ) (pivot rank : ℕ) :
    gf2RankAux (fuel + 1) (rest ++ [pivot]) rank =
      if pivot = 0 then gf2RankAux fuel rest rank
      else gf2RankAux fuel
        (rest.map fun r => if r &&& lowBit pivot ≠ 0 then r ^^^ pivot else r) (rank + 1) := by
  simp [gf2RankAux]

theorem eliminated_bit_clear {p t : ℕ} (hp : p.testBit t = true) (rest : List ℕ) :
    ∀ r' ∈ rest.map (fun r => if r &&& 2 ^ t ≠ 0 then r ^^^ p else r),
      r'.testBit t = false := by
  intro r' hr'
  obtain ⟨r, _, rfl⟩ := List.mem_map.mp hr'
  by_cases hc : r &&& 2 ^ t ≠ 0
  · have hb := (and_two_pow_ne_zero_iff r t).mp hc
    rw [if_pos hc, Nat.testBit_xor, hb, hp]
    rfl
  · rw [if_neg hc]
    exact Bool.eq_false_iff.mpr fun h => hc ((and_two_pow_ne_zero_iff r t).mpr h)

theorem eliminated_lt {w p : ℕ} (hp : p < 2 ^ w) (c : ℕ → Prop) [DecidablePred c]
    (rest : List ℕ) (h : ∀ r ∈ rest, r < 2 ^ w) :
    ∀ r' ∈ rest.map (fun r => if c r then r ^^^ p else r), r' < 2 ^ w := by
  intro r' hr'
  obtain ⟨r, hr, rfl⟩ := List.mem_map.mp hr'
  by_cases hc : c r
  · simp only [hc, if_true]; exact Nat.xor_lt_two_pow (h r hr) hp
  · simp only [hc, if_false]; exact h r hr

/-- loop invariant of `gf2_rank`: the final answer is the rank counted so far plus the
    GF(2) rank of the rows still on the stack. -/
theorem gf2RankAux_eq (w : ℕ) : ∀ (fuel : ℕ) (rows : List ℕ) (rank : ℕ),
    rows.length ≤ fuel → (∀ r ∈ rows, r < 2 ^ w) →
    gf2RankAux fuel rows rank = rank + maskRank w rows := by
  intro fuel
  induction fuel with
  | zero =>
    intro rows rank hlen _
    have : rows = [] := List.length_eq_zero_iff.mp (by omega)
    subst this
    rw [gf2RankAux_nil, maskRank_nil, add_zero]
  | succ fuel ih =>
    intro rows rank hlen hlt
    rcases List.eq_nil_or_concat rows with rfl | ⟨rest, pivot, rfl⟩
    · rw [gf2RankAux_nil, maskRank_nil, add_zero]
    · rw [List.concat_eq_append] at hlen hlt ⊢
      have hlen' : rest.length ≤ fuel := by
        rw [List.length_append, List.length_singleton] at hlen; omega
      have hrest : ∀ r ∈ rest, r < 2 ^ w := fun r hr => hlt r (List.mem_append_left _ hr)
      have hpiv : pivot < 2 ^ w := hlt pivot (by simp)
      rw [gf2RankAux_snoc]
      by_cases hp0 : pivot = 0
      · subst hp0
        rw [if_pos rfl, ih rest rank hlen' hrest, maskRank, maskRank, maskSpan_snoc, toVecMask_zero,
          span_zero_singleton, sup_bot_eq]
      · rw [if_neg hp0]
        obtain ⟨t, hlb, hbit, hlow⟩ := lowBit_spec pivot hp0
        have htw : t < w := lt_two_pow_of_isLowestBit ⟨hbit, hlow⟩ hpiv
        rw [hlb]
        have hlen'' : (rest.map fun r => if r &&& 2 ^ t ≠ 0 then r ^^^ pivot else r).length
            ≤ fuel := by rw [List.length_map]; exact hlen'
        rw [ih _ (rank + 1) hlen''
          (eliminated_lt hpiv (fun r => r &&& 2 ^ t ≠ 0) rest hrest)]
        have hnot := notMem_maskSpan_of_bit (w := w) htw hbit (eliminated_bit_clear hbit rest)
        have hfin := finrank_sup_span_singleton hnot
        rw [maskSpan_eliminate w rest pivot (fun r => r &&& 2 ^ t ≠ 0), ← maskSpan_snoc] at hfin
        rw [maskRank, maskRank, hfin]
        omega

/-- `gf2_rank` computes the GF(2) rank.  For rows that fit in `w` bits the
    value returned by the elimination loop equals the dimension over `ZMod 2` of the span
    of the rows read as vectors `Fin w → ZMod 2`. -/
theorem gf2Rank_eq_finrank (w : ℕ) (rows : List ℕ) (h : ∀ r ∈ rows, r < 2 ^ w) :
    gf2Rank rows = maskRank w rows := by
  rw [gf2Rank, gf2RankAux_eq w rows.length rows 0 (le_refl _) h, zero_add]

end Panqec
