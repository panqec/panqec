/-
Counting for the rhombic classes: of the points `(x, y, z)` of a box of arithmetic progressions of
step 2 those with `(x + y + z) % 4 = r` (the checkerboard of the cubes, of the vertices) are half the
box, rounded up when the first corner has the colour and down otherwise.  At the end the order of
numbers written with two to four digits in mixed bases: the ranks of the rank clauses are such numbers.
-/
import PanqecVerif.Proofs.Lat3DbOps
import PanqecVerif.Proofs.Lat3DbCount
open Panqec Panqec.Lat3Db
namespace Panqec.Rhombic

/-- number of `i < m` with `i` even (`e = true`) / odd (`e = false`) -/
def half (m : Nat) (e : Bool) : Nat := if e then (m + 1) / 2 else m / 2

theorem half_eq (m : Nat) (e : Bool) : half m e = (m + e.toNat) / 2 := by cases e <;> rfl

theorem half_add {m1 m2 K : Nat} (h : m1 + m2 = 2 * K) : half m1 true + half m2 false = K := by
  unfold half; simp only [if_true, Bool.false_eq_true, if_false]; omega

theorem half_compl (m : Nat) : half m true + half m false = m := by
  unfold half; simp only [if_true, Bool.false_eq_true, if_false]; omega

theorem two_mul_half_of_even {m : Nat} (e : Bool) (h : m % 2 = 0) : 2 * half m e = m := by
  unfold half; cases e <;> simp <;> omega

def alt (e : Bool) (i : Nat) : Bool := if i % 2 = 0 then e else !e

/-- `a` lines of `m` points whose start colours alternate, the first starting with `e` -/
theorem sum_half (a m : Nat) (e : Bool) :
    ((List.range a).map fun i => half m (alt e i)).sum = half (a * m) e := by
  induction a with
  | zero => cases e <;> simp [half]
  | succ a ih =>
    rw [List.range_succ, List.map_append, List.sum_append, ih, List.map_singleton,
      List.sum_singleton, Nat.succ_mul, alt, half_eq, half_eq, half_eq]
    have hn : (!e).toNat = 1 - e.toNat := by cases e <;> rfl
    have hu := Bool.toNat_le e
    obtain ⟨t, rfl | rfl⟩ : ∃ t, a = 2 * t ∨ a = 2 * t + 1 := ⟨a / 2, by omega⟩
    · rw [if_pos (by omega), Nat.mul_assoc]
      generalize t * m = T
      omega
    · rw [if_neg (by omega), Nat.add_mul, Nat.mul_assoc, Nat.one_mul, hn]
      generalize t * m = T
      omega

def ap (x0 : Int) (m : Nat) : List Int := (List.range m).map fun (i : Nat) => x0 + 2 * (i : Int)

theorem pyRange2_eq_ap (a b : Nat) : pyRange2 a b = ap a ((b + 1 - a) / 2) := by
  rw [pyRange2_eq_map]
  unfold ap
  apply List.map_congr_left
  intro i _
  push_cast
  rfl

theorem mem_ap {x0 : Int} {n : Nat} {x : Int} :
    x ∈ ap x0 n ↔ x0 ≤ x ∧ x < x0 + 2 * (n : Int) ∧ (x - x0) % 2 = 0 := by
  unfold ap
  simp only [List.mem_map, List.mem_range]
  constructor
  · rintro ⟨i, hi, rfl⟩; omega
  · intro h; exact ⟨((x - x0) / 2).toNat, by omega, by omega⟩

theorem nodup_ap (x0 : Int) (n : Nat) : (ap x0 n).Nodup := by
  unfold ap
  refine List.Nodup.map ?_ List.nodup_range
  intro i j h; simp only at h; omega

theorem length_ap (x0 : Int) (n : Nat) : (ap x0 n).length = n := by simp [ap]

theorem map_ap {β} (x0 : Int) (m : Nat) (f : Int → β) :
    (ap x0 m).map f = (List.range m).map fun (i : Nat) => f (x0 + 2 * (i : Int)) := by
  unfold ap; rw [List.map_map]; rfl

/-- two steps of 2 return to the colour class of the start -/
theorem start_alternates (s r : Int) (i : Nat) (hpar : (s - r) % 2 = 0) (hr : 0 ≤ r ∧ r < 4) :
    ((s + 2 * (i : Int)) % 4 == r) = alt (s % 4 == r) i := by
  unfold alt
  split
  · rw [Bool.eq_iff_iff, beq_iff_eq, beq_iff_eq]; omega
  · rw [Bool.eq_iff_iff, Bool.not_eq_true', beq_iff_eq, beq_eq_false_iff_ne]; omega

theorem countP_ap (t z0 r : Int) (c : Nat) (hpar : (t + z0 - r) % 2 = 0) (hr : 0 ≤ r ∧ r < 4) :
    (ap z0 c).countP (fun z => (t + z) % 4 == r) = half c ((t + z0) % 4 == r) := by
  unfold ap half
  rw [List.countP_map, List.countP_congr (q := fun i : Nat => (t + z0 + 2 * (i : Int)) % 4 == r),
    countP_range_mod4 _ r c hpar hr]
  · simp only [beq_iff_eq]
  · intro i _
    rw [Function.comp, Int.add_assoc]

theorem length_grid3_sum (xs ys zs : List Int) (p : Int → Int → Int → Bool) :
    (grid3 xs ys zs p).length = (xs.map fun x => (ys.map fun y => zs.countP (p x y)).sum).sum := by
  simp only [grid3, List.length_flatMap, List.length_map, List.countP_eq_length_filter]

theorem length_grid3_checker (x0 y0 z0 r : Int) (a b c : Nat) (hpar : (x0 + y0 + z0 - r) % 2 = 0)
    (hr : 0 ≤ r ∧ r < 4) :
    (grid3 (ap x0 a) (ap y0 b) (ap z0 c) fun x y z => (x + y + z) % 4 == r).length =
      half (a * (b * c)) ((x0 + y0 + z0) % 4 == r) := by
  rw [length_grid3_sum, map_ap, ← sum_half a (b * c)]
  congr 1
  apply List.map_congr_left
  intro i _
  rw [map_ap, ← start_alternates _ r i hpar hr, ← sum_half b c]
  congr 1
  apply List.map_congr_left
  intro j _
  rw [countP_ap (x0 + 2 * (i : Int) + (y0 + 2 * (j : Int))) z0 r c (by omega) hr,
    ← start_alternates _ r j (by omega) hr]
  congr 2
  omega

theorem length_grid3_checker_pair (x0 y0 z0 : Int) (a b c : Nat) (hpar : (x0 + y0 + z0) % 2 = 0) :
    (grid3 (ap x0 a) (ap y0 b) (ap z0 c) fun x y z => (x + y + z) % 4 == 0).length +
      (grid3 (ap x0 a) (ap y0 b) (ap z0 c) fun x y z => (x + y + z) % 4 == 2).length =
        a * (b * c) := by
  rw [length_grid3_checker x0 y0 z0 0 a b c (by omega) (by omega),
    length_grid3_checker x0 y0 z0 2 a b c (by omega) (by omega)]
  by_cases h : (x0 + y0 + z0) % 4 = 0
  · rw [h]; exact half_compl _
  · have e0 : ((x0 + y0 + z0) % 4 == 0) = false := by simpa using h
    have e2 : ((x0 + y0 + z0) % 4 == 2) = true := by rw [beq_iff_eq]; omega
    rw [e0, e2, Nat.add_comm]; exact half_compl _

theorem lex2_iff {X U Y V M : Nat} (hY : Y < M) (hV : V < M) :
    X * M + Y ≤ U * M + V ↔ X < U ∨ (X = U ∧ Y ≤ V) := by
  rcases Nat.lt_trichotomy X U with h | rfl | h
  · have := Nat.mul_le_mul_right M h
    rw [Nat.add_one_mul] at this
    omega
  · omega
  · have := Nat.mul_le_mul_right M h
    rw [Nat.add_one_mul] at this
    omega

theorem lex3 {A B X Y Z U V W : Nat} (hY : Y < A) (hV : V < A) (hZ : Z < B) (hW : W < B)
    (h : (X * A + Y) * B + Z ≤ (U * A + V) * B + W) :
    X < U ∨ (X = U ∧ (Y < V ∨ (Y = V ∧ Z ≤ W))) := by
  have h1 := (lex2_iff (X := X * A + Y) (U := U * A + V) hZ hW).mp h
  have h2 := lex2_iff (X := X) (U := U) hY hV
  have h2' := lex2_iff (X := U) (U := X) hV hY
  omega

theorem lex4 {A B C X Y R Z U V S W : Nat} (hY : Y < A) (hV : V < A) (hR : R < B) (hS : S < B)
    (hZ : Z < C) (hW : W < C)
    (h : ((X * A + Y) * B + R) * C + Z ≤ ((U * A + V) * B + S) * C + W) :
    X < U ∨ (X = U ∧ (Y < V ∨ (Y = V ∧ (R < S ∨ (R = S ∧ Z ≤ W))))) := by
  rcases (lex2_iff hZ hW).mp h with h1 | ⟨h1, hz⟩
  · rcases lex3 hY hV hR hS (Nat.le_of_lt h1) with h2 | ⟨rfl, h2 | ⟨rfl, h2⟩⟩
    · exact Or.inl h2
    · exact Or.inr ⟨rfl, Or.inl h2⟩
    · exact Or.inr ⟨rfl, Or.inr ⟨rfl, Or.inl (by omega)⟩⟩
  · have a := lex3 hY hV hR hS (Nat.le_of_eq h1)
    have b := lex3 hV hY hS hR (Nat.le_of_eq h1.symm)
    omega

end Panqec.Rhombic
