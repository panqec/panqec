/-
XCubeCode lattice model, rank clause for every size `Lx, Ly, Lz ≥ 2`: the probes and ranks of
`Proofs/LatXCubeCodeRankProbes.lean` form a triangular family (`Lat2D.TriangularProbes`) on the selected
generators of `Proofs/LatXCubeCodeRankFamily.lean`, which are therefore independent.
-/
import PanqecVerif.Proofs.LatXCubeCodeRankProbes
import PanqecVerif.Proofs.Lat2DRank
open Panqec Panqec.Lat3Db
namespace Panqec.XCubeCode

theorem getStab_eq {Lx Ly Lz : Nat} (hx : 2 ≤ Lx) (hy : 2 ≤ Ly) (hz : 2 ≤ Lz) {s : Coord}
    (h : Kind Lx Ly Lz s) : getStab Lx Ly Lz s = constOp (keysOf Lx Ly Lz s) (letterOf s) := by
  rcases h with ⟨x, y, z, rfl, hk⟩ | ⟨x, y, z, rfl, hk⟩ | ⟨x, y, z, rfl, hk⟩
  · exact getStab_cube Lx Ly Lz x y z hx hy hz (hk.sc (by omega) (by omega))
  · have e10 : ¬ (0 : Int) = 1 := by decide
    simp only [keysOf, letterOf, e10, if_false]
    exact getStab_faceX Lx Ly Lz x y z hy hz (hk.sv (by omega))
  · simp only [keysOf, letterOf, if_true]
    exact getStab_faceY Lx Ly Lz x y z hx hz (hk.sv (by omega))

theorem keysOf_qubits {Lx Ly Lz : Nat} (hx : 1 ≤ Lx) (hy : 1 ≤ Ly) (hz : 1 ≤ Lz) {s : Coord}
    (h : Kind Lx Ly Lz s) : ∀ q ∈ keysOf Lx Ly Lz s, q ∈ qubits Lx Ly Lz := by
  intro q hq
  apply mem_qubits_of_isQubit
  rcases h with ⟨x, y, z, rfl, hk⟩ | ⟨x, y, z, rfl, hk⟩ | ⟨x, y, z, rfl, hk⟩
  · exact cubeLocs_qubits Lx Ly Lz x y z (hk.sc hy hz) q hq
  · have e10 : ¬ (0 : Int) = 1 := by decide
    simp only [keysOf, e10, if_false] at hq
    exact faceLocsX_qubits Lx Ly Lz x y z (hk.sv hy) q hq
  · simp only [keysOf, if_true] at hq
    exact faceLocsY_qubits Lx Ly Lz x y z (hk.sv hx) q hq

theorem probe_snd3 (x y z : Int) : (probe [x, y, z]).2 = Pauli.X := by
  simp only [probe]
  split
  · rfl
  · split <;> rfl

theorem probe_snd4 (ax x y z : Int) : (probe [ax, x, y, z]).2 = Pauli.Z := by
  simp only [probe]
  split <;> split <;> rfl

/-- the probe sits on a qubit of its generator (for a vertex operator, below the vertex: no wrap) -/
theorem probe_mem {Lx Ly Lz : Nat} {s : Coord} (h : Kind Lx Ly Lz s) : (probe s).1 ∈ keysOf Lx Ly Lz s := by
  rcases h with ⟨x, y, z, rfl, hk⟩ | ⟨x, y, z, rfl, hk⟩ | ⟨x, y, z, rfl, hk⟩
  · unfold CK R1 R3 at hk
    rcases hk with hk | hk | hk
    · rw [probe, if_pos ⟨hk.2.1.2.1, hk.2.2.2.1⟩]
      simp [keysOf, cubeLocs]
    · rw [probe, if_neg (by omega), if_pos hk.2.1]
      simp [keysOf, cubeLocs]
    · rw [probe, if_neg (by omega), if_neg (by omega)]
      simp [keysOf, cubeLocs]
  · unfold F0 R0 R2 at hk
    rw [probe_axis0, keysOf, if_neg (by decide), faceLocsX]
    rcases hk with hk | hk
    · rw [if_pos hk.2.1.2.1, dn_pos _ (show y ≠ 0 by omega)]
      exact List.mem_cons_of_mem _ List.mem_cons_self
    · rw [if_neg (show ¬ 2 ≤ y by omega), dn_pos _ (show z ≠ 0 by omega)]
      simp
  · unfold F1 R0 R2 at hk
    rw [probe_axis1, keysOf, if_pos rfl, faceLocsY]
    rcases hk with hk | hk
    · rw [if_pos hk.1.2.1, dn_pos _ (show x ≠ 0 by omega)]
      exact List.mem_cons_of_mem _ List.mem_cons_self
    · rw [if_neg (show ¬ 2 ≤ x by omega), dn_pos _ (show z ≠ 0 by omega)]
      simp

theorem probe_anti {Lx Ly Lz : Nat} {s : Coord} (h : Kind Lx Ly Lz s) :
    Pauli.anti (probe s).2 (letterOf s) = true := by
  rcases h with ⟨x, y, z, rfl, -⟩ | ⟨x, y, z, rfl, -⟩ | ⟨x, y, z, rfl, -⟩
  · rw [probe_snd3]; rfl
  · rw [probe_snd4]; rfl
  · rw [probe_snd4]; rfl

theorem later_core {Lx Ly Lz : Nat} (hy : 1 ≤ Ly) (hz : 1 ≤ Lz) {s t : Coord}
    (hs : Kind Lx Ly Lz s) (ht : Kind Lx Ly Lz t) (hne : s ≠ t)
    (hle : mu Lx Ly Lz s ≤ mu Lx Ly Lz t) :
    ¬ (Pauli.anti (probe s).2 (letterOf t) = true ∧ (probe s).1 ∈ keysOf Lx Ly Lz t) := by
  have e10 : ¬ (0 : Int) = 1 := by decide
  rintro ⟨hanti, hmem⟩
  rcases hs with ⟨x, y, z, rfl, hs⟩ | ⟨x, y, z, rfl, hs⟩ | ⟨x, y, z, rfl, hs⟩ <;>
  rcases ht with ⟨a, b, c, rfl, ht⟩ | ⟨a, b, c, rfl, ht⟩ | ⟨a, b, c, rfl, ht⟩
  · have hne' : ¬ (x = a ∧ y = b ∧ z = c) := by
      rintro ⟨rfl, rfl, rfl⟩; exact hne rfl
    exact later_cube_cube hy hz hs ht hne' hle hmem
  · rw [probe_snd3] at hanti; simp [letterOf, Pauli.anti] at hanti
  · rw [probe_snd3] at hanti; simp [letterOf, Pauli.anti] at hanti
  · rw [probe_snd4] at hanti; simp [letterOf, Pauli.anti] at hanti
  · have hne' : ¬ (x = a ∧ y = b ∧ z = c) := by
      rintro ⟨rfl, rfl, rfl⟩; exact hne rfl
    simp only [keysOf, e10, if_false] at hmem
    exact later_00 hs ht hne' hle hmem
  · simp only [keysOf, if_true] at hmem
    exact later_01 hs ht hle hmem
  · rw [probe_snd4] at hanti; simp [letterOf, Pauli.anti] at hanti
  · simp only [keysOf, e10, if_false] at hmem
    exact later_10 hs ht hle hmem
  · have hne' : ¬ (x = a ∧ y = b ∧ z = c) := by
      rintro ⟨rfl, rfl, rfl⟩; exact hne rfl
    simp only [keysOf, if_true] at hmem
    exact later_11 hs ht hne' hle hmem

theorem triangular (Lx Ly Lz : Nat) (hx : 2 ≤ Lx) (hy : 2 ≤ Ly) (hz : 2 ≤ Lz) :
    Lat2D.TriangularProbes (lattice Lx Ly Lz) (selStabs Lx Ly Lz) probe (mu Lx Ly Lz) :=
  .of_keys (keysOf Lx Ly Lz) letterOf
    (fun _ hs => getStab_eq hx hy hz (mem_selStabs_cases hs))
    (fun _ hs => keysOf_qubits (by omega) (by omega) (by omega) (mem_selStabs_cases hs))
    (fun _ hs => ⟨probe_anti (mem_selStabs_cases hs), probe_mem (mem_selStabs_cases hs)⟩)
    (fun _ hs _ ht => later_core (by omega) (by omega) (mem_selStabs_cases hs) (mem_selStabs_cases ht))

theorem indep_sel (Lx Ly Lz : Nat) (hx : 2 ≤ Lx) (hy : 2 ≤ Ly) (hz : 2 ≤ Lz) :
    Lat2D.IndepGenerators (lattice Lx Ly Lz) (selStabs Lx Ly Lz) :=
  Lat2D.indep_of_triangular (triangular Lx Ly Lz hx hy hz)

end Panqec.XCubeCode
