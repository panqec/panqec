/-
RotatedPlanar3DCode lattice model: a vertex operator and a face operator (each of the three face
kinds) share an even number of qubits, for every lattice size.

A face consists of two pairs of opposite qubits.  The star of a vertex contains at most one qubit of
each pair, and it meets one pair exactly when it meets the other (`ovl4_even`).
-/
import PanqecVerif.Proofs.LatRotatedPlanar3DCodeStab
open Panqec Panqec.Lat3Db
namespace Panqec.RotatedPlanar3DCode

/-- a location in an odd row `q` (where the horizontal qubits are) belongs to the vertex operator at
    `(x, y, z)` iff it is one of the four diagonal neighbours in the layer of the vertex -/
theorem mem_vertexKeys_h (Lx Ly Lz : Nat) (x y z p q r : Int) (hv : SV Lx Ly Lz x y z)
    (hq : R1 (2 * Ly) q) :
    [p, q, r] ∈ vertexKeys Lx Ly Lz x y z ↔
      r = z ∧ (p = x - 1 ∨ p = x + 1) ∧ (q = y - 1 ∨ q = y + 1) := by
  unfold vertexKeys
  rw [List.mem_filter, isQubit_iff, mem_vertexLocs]
  obtain ⟨⟨hx0, hx1, hx2⟩, ⟨hy0, -⟩, hz, -⟩ := hv
  constructor
  · rintro ⟨h | h, -⟩
    · exact h
    · have := hq.1
      omega
  · intro h
    exact ⟨Or.inl h, Or.inl ⟨by unfold R1; omega, hq, h.1 ▸ hz⟩⟩

/-- a location in an even layer `r` (where the vertical qubits are) belongs to the vertex operator at
    `(x, y, z)` iff it is directly below or above the vertex -/
theorem mem_vertexKeys_v (Lx Ly Lz : Nat) (x y z p q r : Int) (hv : SV Lx Ly Lz x y z)
    (hr : R2 (2 * Lz) r) :
    [p, q, r] ∈ vertexKeys Lx Ly Lz x y z ↔ p = x ∧ q = y ∧ (r = z - 1 ∨ r = z + 1) := by
  unfold vertexKeys
  rw [List.mem_filter, isQubit_iff, mem_vertexLocs]
  obtain ⟨hx, hy, ⟨hz0, -⟩, h4⟩ := hv
  constructor
  · rintro ⟨h | h, -⟩
    · have := hr.1
      omega
    · exact h
  · intro h
    exact ⟨Or.inr h, Or.inr ⟨h.1 ▸ hx, h.2.1 ▸ hy, hr, h.1 ▸ h.2.1 ▸ h4⟩⟩

/-- a set that contains at most one of `f₁, f₂`, at most one of `f₃, f₄`, and meets the first pair
    iff it meets the second, contains an even number of the four -/
theorem ovl4_even {f₁ f₂ f₃ f₄ : Coord} {S : List Coord} (h₁₂ : ¬ (f₁ ∈ S ∧ f₂ ∈ S))
    (h₃₄ : ¬ (f₃ ∈ S ∧ f₄ ∈ S)) (h : f₁ ∈ S ∨ f₂ ∈ S ↔ f₃ ∈ S ∨ f₄ ∈ S) :
    ovl [f₁, f₂, f₃, f₄] S % 2 = 0 := by
  simp only [ovl_cons_ind, ovl_nil, ind]
  by_cases h₁ : f₁ ∈ S <;> by_cases h₂ : f₂ ∈ S <;> by_cases h₃ : f₃ ∈ S <;> by_cases h₄ : f₄ ∈ S <;>
    simp_all

/-- only the locations of the face that are qubits of the vertex count, so the face need not be
    filtered -/
theorem ovl_vertexKeys (Lx Ly Lz : Nat) (x y z : Int) (F : List Coord) :
    ovl (F.filter (isQubit Lx Ly Lz)) (vertexKeys Lx Ly Lz x y z) = ovl F (vertexKeys Lx Ly Lz x y z) :=
  ovl_filter_filter _ _ _

/-- vertex vs horizontal (z-normal) face: in the layer of the vertex the two stars share two qubits
    when the centres differ by `(±2, 0)` or `(0, ±2)`, one from each diagonal of the face -/
theorem vertex_faceZ (Lx Ly Lz : Nat) (x y z a b c : Int) (hv : SV Lx Ly Lz x y z) (hf : SH Lx Ly Lz a b c) :
    ovl (faceZKeys Lx Ly Lz a b c) (vertexKeys Lx Ly Lz x y z) % 2 = 0 := by
  rw [faceZKeys, ovl_vertexKeys]
  obtain ⟨-, hb, -, h4⟩ := hf
  have h4' := hv.2.2.2
  unfold R2 at hb
  have hm : R1 (2 * Ly) (b - 1) := by unfold R1; omega
  have hp : R1 (2 * Ly) (b + 1) := by unfold R1; omega
  clear hb
  apply ovl4_even <;> simp only [mem_vertexKeys_h _ _ _ _ _ _ _ _ _ hv hm, mem_vertexKeys_h _ _ _ _ _ _ _ _ _ hv hp] <;>
    omega

/-- vertex vs vertical face at `(a, b, c)` with vertical qubits `(a - 1, q₁, c)` and `(a + 1, q₂, c)`:
    a horizontal qubit `(a, b, c ± 1)` of the face is a diagonal neighbour of the vertex exactly when
    one of its vertical qubits is below or above the vertex -/
theorem vertex_faceV (Lx Ly Lz : Nat) (x y z a b c q₁ q₂ : Int) (hv : SV Lx Ly Lz x y z)
    (hf : SF Lx Ly Lz a b c)
    (h0 : q₁ = b - 1 ∧ q₂ = b + 1 ∧ (a + b) % 4 = 0 ∨ q₁ = b + 1 ∧ q₂ = b - 1 ∧ (a + b) % 4 = 2) :
    ovl [[a - 1, q₁, c], [a + 1, q₂, c], [a, b, c - 1], [a, b, c + 1]] (vertexKeys Lx Ly Lz x y z) % 2 = 0 := by
  have h4' := hv.2.2.2
  apply ovl4_even <;>
    simp only [mem_vertexKeys_h _ _ _ _ _ _ _ _ _ hv hf.2.1, mem_vertexKeys_v _ _ _ _ _ _ _ _ _ hv hf.2.2] <;>
    omega

theorem vertex_faceX (Lx Ly Lz : Nat) (x y z a b c : Int) (hv : SV Lx Ly Lz x y z) (hf : SF Lx Ly Lz a b c)
    (h0 : (a + b) % 4 = 0) :
    ovl (faceXKeys Lx Ly Lz a b c) (vertexKeys Lx Ly Lz x y z) % 2 = 0 := by
  rw [faceXKeys, ovl_vertexKeys]
  exact vertex_faceV Lx Ly Lz x y z a b c _ _ hv hf (Or.inl ⟨rfl, rfl, h0⟩)

theorem vertex_faceY (Lx Ly Lz : Nat) (x y z a b c : Int) (hv : SV Lx Ly Lz x y z) (hf : SF Lx Ly Lz a b c)
    (h0 : (a + b) % 4 = 2) :
    ovl (faceYKeys Lx Ly Lz a b c) (vertexKeys Lx Ly Lz x y z) % 2 = 0 := by
  rw [faceYKeys, ovl_vertexKeys]
  exact vertex_faceV Lx Ly Lz x y z a b c _ _ hv hf (Or.inr ⟨rfl, rfl, h0⟩)

end Panqec.RotatedPlanar3DCode
