/-
`RotatedToric3DCode`: generic lemmas for operators whose letter depends on the location
(`gop keys g`), as built by the `get_stabilizer` loop (conditional dict assignments on pairwise
distinct neighbours), and for "signed key lists": every stabilizer of this class writes on a qubit
`q` the letter `dl σ q` (Z when the sign `σ` agrees with the colour of `q`, X otherwise), so two
stabilizers anticommute on a shared qubit exactly when their signs differ there.
-/
import PanqecVerif.Proofs.LatRotatedToric3DCodeBasics
open Panqec Panqec.Lat3Db
namespace Panqec.RotatedToric3DCode


def gop (ks : List Coord) (g : Coord → Pauli) : Op := ks.map fun q => (q, g q)

theorem gop_keys (ks : List Coord) (g : Coord → Pauli) : (gop ks g).map Prod.fst = ks := by
  simp [gop, Function.comp_def]

theorem mem_gop {ks : List Coord} {g : Coord → Pauli} {e : Coord × Pauli} :
    e ∈ gop ks g ↔ e.1 ∈ ks ∧ e.2 = g e.1 :=
  mem_map_letter

/-- the loop of `get_stabilizer` over pairwise distinct neighbour locations keeps, in order, the
    neighbours that are qubits, each with its letter -/
theorem foldl_gop (isQ : Coord → Bool) (g : Coord → Pauli) (locs : List Coord) (h : locs.Nodup) :
    locs.foldl (fun (op : Op) q => if isQ q then op.insert q (g q) else op) ([] : Op) =
      gop (locs.filter isQ) g :=
  Op.foldl_insert_map isQ g locs [] h fun _ _ => List.not_mem_nil

theorem gop_get? (ks : List Coord) (g : Coord → Pauli) (q : Coord) :
    (gop ks g).get? q = if q ∈ ks then some (g q) else none :=
  Op.get?_map ks g q

theorem opAntiCount_gop (k1 k2 : List Coord) (g1 g2 : Coord → Pauli) :
    opAntiCount (gop k1 g1) (gop k2 g2) =
      k1.countP fun q => decide (q ∈ k2) && Pauli.anti (g1 q) (g2 q) := by
  rw [gop, gop, opAntiCount_map]
  simp only [List.contains_eq_mem]

theorem constOp_eq_gop (ks : List Coord) (p : Pauli) : constOp ks p = gop ks fun _ => p := rfl

/-- the colour of a qubit location: vertical qubits and the horizontal qubits with
    `(x + y) % 4 = 0` -/
def col : Coord → Bool
  | [x, y, z] => z % 2 == 0 || (x + y) % 4 == 0
  | _ => false

def dl (σ : Bool) (q : Coord) : Pauli := if σ == col q then Pauli.Z else Pauli.X

theorem anti_dl (σ τ : Bool) (q : Coord) : Pauli.anti (dl σ q) (dl τ q) = (σ != τ) := by
  unfold dl
  cases σ <;> cases τ <;> cases col q <;> rfl

theorem dl_ne_I (σ : Bool) (q : Coord) : dl σ q ≠ Pauli.I := by
  unfold dl; split <;> decide

theorem anti_dl_Y (σ : Bool) (q : Coord) : Pauli.anti (dl σ q) Pauli.Y = true := by
  unfold dl; cases σ <;> cases col q <;> rfl

/-- a stabilizer described by signed candidate keys: the candidates that are qubits, each with the
    letter `dl σ q` -/
structure Signed (Lx Ly Lz : Nat) (op : Op) (K : List (Coord × Bool)) : Prop where
  keys_nodup : (K.map Prod.fst).Nodup
  eq : ∃ g : Coord → Pauli, op = gop ((K.map Prod.fst).filter (isQubit Lx Ly Lz)) g ∧
    ∀ e ∈ K, g e.1 = dl e.2 e.1

/-- number of candidate pairs on the same qubit with different signs -/
def antiPairs (Lx Ly Lz : Nat) (K1 K2 : List (Coord × Bool)) : Nat :=
  K1.countP fun e => isQubit Lx Ly Lz e.1 && K2.any fun e' => e'.1 == e.1 && (e.2 != e'.2)

theorem sign_unique {K : List (Coord × Bool)} (h : (K.map Prod.fst).Nodup) {e e' : Coord × Bool}
    (he : e ∈ K) (he' : e' ∈ K) (hk : e.1 = e'.1) : e = e' :=
  List.inj_on_of_nodup_map h he he' hk

theorem opAntiCount_signed {Lx Ly Lz : Nat} {a b : Op} {K1 K2 : List (Coord × Bool)}
    (ha : Signed Lx Ly Lz a K1) (hb : Signed Lx Ly Lz b K2) :
    opAntiCount a b = antiPairs Lx Ly Lz K1 K2 := by
  obtain ⟨g1, rfl, hg1⟩ := ha.eq
  obtain ⟨g2, rfl, hg2⟩ := hb.eq
  rw [opAntiCount_gop, List.countP_filter, List.countP_map]
  unfold antiPairs
  apply List.countP_congr
  intro e he
  simp only [Function.comp]
  by_cases hq : isQubit Lx Ly Lz e.1 = true
  · have hmem : decide (e.1 ∈ (K2.map Prod.fst).filter (isQubit Lx Ly Lz)) =
        decide (e.1 ∈ K2.map Prod.fst) := by
      simp [List.mem_filter, hq]
    rw [hmem, hq, Bool.and_true, Bool.true_and]
    by_cases hm : e.1 ∈ K2.map Prod.fst
    · obtain ⟨e', he', hk⟩ := List.mem_map.mp hm
      have h2 : g2 e.1 = dl e'.2 e.1 := by rw [← hk]; exact hg2 e' he'
      rw [hg1 e he, h2, anti_dl]
      simp only [hm, decide_true, Bool.true_and]
      rw [Bool.eq_iff_iff]
      simp only [bne_iff_ne, ne_eq, List.any_eq_true, Bool.and_eq_true, beq_iff_eq]
      constructor
      · intro hne; exact ⟨e', he', hk, by simpa using hne⟩
      · rintro ⟨e'', he'', hk'', hne⟩
        have := sign_unique hb.keys_nodup he'' he' (hk''.trans hk.symm)
        rw [← this]; simpa using hne
    · have : K2.any (fun e' => e'.1 == e.1 && (e.2 != e'.2)) = false := by
        rw [List.any_eq_false]
        intro e' he'
        have : ¬ e'.1 = e.1 := fun hk => hm (List.mem_map.mpr ⟨e', he', hk⟩)
        simp [this]
      simp [hm, this]
  · have hq' : isQubit Lx Ly Lz e.1 = false := by simpa using hq
    simp [hq']

theorem opCommute_signed {Lx Ly Lz : Nat} {a b : Op} {K1 K2 : List (Coord × Bool)}
    (ha : Signed Lx Ly Lz a K1) (hb : Signed Lx Ly Lz b K2)
    (h : antiPairs Lx Ly Lz K1 K2 % 2 = 0) : opCommute a b = true := by
  unfold opCommute
  rw [opAntiCount_signed ha hb, h]; rfl

theorem opAntiCount_signed_const {Lx Ly Lz : Nat} {a : Op} {K1 : List (Coord × Bool)}
    (ha : Signed Lx Ly Lz a K1) (ks : List Coord) (p : Pauli) :
    opAntiCount a (constOp ks p) =
      K1.countP fun e => isQubit Lx Ly Lz e.1 && (decide (e.1 ∈ ks) && Pauli.anti (dl e.2 e.1) p) := by
  obtain ⟨g1, rfl, hg1⟩ := ha.eq
  rw [constOp_eq_gop, opAntiCount_gop, List.countP_filter, List.countP_map]
  apply List.countP_congr
  intro e he
  simp only [Function.comp, hg1 e he]
  rw [Bool.and_comm]

end Panqec.RotatedToric3DCode
