/-
Geometry part of C10, what every lattice uses: Python `range` / nested loops as lists
(membership, distinctness), the dict `get_stabilizer` builds, the reduction of `flipOK` to
a membership statement (over duplicate-free lists a parity sum is a membership test), and what
`RotatedSweepDecoder3D` does on any lattice (type filter, run-time guard, sweep faces and edges).
-/
import Mathlib.Data.List.Nodup
import PanqecVerif.Proofs.SweepGeneric
import PanqecVerif.Proofs.LoopNest
import PanqecVerif.Proofs.Cyclic

namespace Panqec.Sweep

theorem mem_range2 (a b x : Int) : x ∈ range2 a b ↔ a ≤ x ∧ x < b ∧ (x - a) % 2 = 0 :=
  (Cyclic.mem_progression (s := 2) (n := ((b - a + 1) / 2).toNat) (by decide)).trans (by omega)

theorem nodup_range2 (a b : Int) : (range2 a b).Nodup := by
  unfold range2
  refine List.Nodup.map_on ?_ List.nodup_range
  intro i _ j _ h
  omega

theorem mem_prod3 (A B C : List Int) (l : Loc) :
    l ∈ prod3 A B C ↔ l.1 ∈ A ∧ l.2.1 ∈ B ∧ l.2.2 ∈ C := by
  obtain ⟨x, y, z⟩ := l
  unfold prod3
  simp only [List.mem_flatMap, List.mem_map, Prod.mk.injEq]
  constructor
  · rintro ⟨x', hx, y', hy, z', hz, rfl, rfl, rfl⟩
    exact ⟨hx, hy, hz⟩
  · rintro ⟨hx, hy, hz⟩
    exact ⟨x, hx, y, hy, z, hz, rfl, rfl, rfl⟩

theorem nodup_prod3 (A B C : List Int) (hA : A.Nodup) (hB : B.Nodup) (hC : C.Nodup) :
    (prod3 A B C).Nodup :=
  nodup_loop3 (fun x y z => ((x, y, z) : Loc)) (fun _ _ _ _ _ _ h => by simpa using h) hA hB hC

theorem nodup_prod3_range (a1 b1 a2 b2 a3 b3 : Int) :
    (prod3 (range2 a1 b1) (range2 a2 b2) (range2 a3 b3)).Nodup :=
  nodup_prod3 _ _ _ (nodup_range2 _ _) (nodup_range2 _ _) (nodup_range2 _ _)

/-- over a list with distinct keys, the parity of the number of entries with key `loc` says
    whether `loc` is a key -/
theorem xorSum_beq_nodup {α : Type} (l : List α) (g : α → Loc) (h : (l.map g).Nodup) (loc : Loc) :
    xorSum l (fun a => g a == loc) = decide (loc ∈ l.map g) := by
  induction l with
  | nil => rfl
  | cons a l ih =>
    rw [List.map_cons, List.nodup_cons] at h
    rw [xorSum_cons, ih h.2, List.map_cons]
    by_cases ha : g a = loc
    · subst ha
      simp [h.1]
    · have hb : (g a == loc) = false := beq_eq_false_iff_ne.mpr ha
      simp [hb, Ne.symm ha]

theorem oddCount_nodup (fl : List Loc) (h : fl.Nodup) (s : Loc) : oddCount fl s = decide (s ∈ fl) := by
  have := xorSum_beq_nodup fl id (by rwa [List.map_id]) s
  rwa [List.map_id] at this

theorem xorSum_keys_nodup (op : Op) (h : (op.map Prod.fst).Nodup)
    (hx : ∀ e ∈ op, hasX e.2 = true) (loc : Loc) :
    xorSum op (fun e => hasX e.2 && e.1 == loc) = decide (loc ∈ op.map Prod.fst) := by
  rw [← xorSum_beq_nodup op Prod.fst h]
  exact xorSum_congr _ _ _ fun e he => by rw [hx e he, Bool.true_and]

theorem map_fst_pair (keys : List Loc) (p : Pauli) :
    (keys.map fun k => (k, p)).map Prod.fst = keys := by
  rw [List.map_map]
  exact List.map_id _

/-- an all-X row is not flagged in `z_indices` -/
theorem zIndex_of_X (lat : Lattice) (s : Loc) (keys : List Loc)
    (hop : lat.stabOp s = keys.map fun k => (k, Pauli.X)) : lat.zIndex s = false := by
  rw [Lattice.zIndex, hop, List.any_map]
  exact List.any_eq_false.mpr fun _ _ => Bool.false_ne_true

theorem faceHas_of_Z (lat : Lattice) (s loc : Loc) (e : Loc × Pauli) (he : e ∈ lat.stabOp s)
    (hz : e.2 = Pauli.Z) : faceHas lat s loc = false := by
  unfold faceHas Lattice.zIndex
  have : (lat.stabOp s).any (fun e => hasZ e.2) = true := by
    rw [List.any_eq_true]
    exact ⟨e, he, by rw [hz]; rfl⟩
  simp [this]

/-- reduction of `flipOKK` to a membership statement -/
theorem flipOKK_of (keep : Loc → Bool) (lat : Lattice) (faces : Loc → Option (List Loc))
    (loc : Loc) (fl : List Loc) (hf : faces loc = some fl) (hnd : fl.Nodup)
    (h : ∀ s ∈ lat.stabs, (s ∈ fl ↔ faceHasK keep lat s loc = true)) :
    flipOKK keep lat faces loc = true := by
  unfold flipOKK
  simp only [hf, List.all_eq_true, beq_iff_eq]
  intro s hs
  rw [oddCount_nodup fl hnd, Bool.eq_iff_iff, decide_eq_true_iff]
  exact h s hs

theorem buildOp_foldl_filter (qs : List Loc) (cands acc : List (Loc × Pauli))
    (hnd : ((acc ++ cands).map Prod.fst).Nodup) :
    cands.foldl (fun op c => if qs.contains c.1 then dictSet op c.1 c.2 else op) acc =
      acc ++ cands.filter (fun c => qs.contains c.1) := by
  induction cands generalizing acc with
  | nil => simp
  | cons c cands ih =>
    simp only [List.foldl_cons]
    by_cases hc : qs.contains c.1 = true
    · simp only [hc, if_true, List.filter_cons]
      have hnot : acc.any (fun e => e.1 == c.1) = false := by
        rw [List.any_eq_false]
        intro e he
        simp only [beq_iff_eq]
        intro h
        rw [List.map_append, List.nodup_append] at hnd
        exact hnd.2.2 e.1 (List.mem_map_of_mem he) c.1 (List.mem_map_of_mem List.mem_cons_self) h
      have hds : dictSet acc c.1 c.2 = acc ++ [c] := by
        unfold dictSet
        simp [hnot]
      rw [hds, ih (acc ++ [c]) (by simpa using hnd)]
      simp
    · have hc' : qs.contains c.1 = false := by simpa using hc
      simp only [hc', Bool.false_eq_true, if_false, List.filter_cons]
      apply ih
      rw [List.map_append, List.nodup_append] at hnd ⊢
      refine ⟨hnd.1, ?_, ?_⟩
      · have := hnd.2.1
        rw [List.map_cons, List.nodup_cons] at this
        exact this.2
      · intro a ha b hb
        exact hnd.2.2 a ha b (by rw [List.map_cons]; exact List.mem_cons_of_mem _ hb)

/-- with pairwise distinct candidate locations the dict is the list of the candidates that
    are qubits -/
theorem buildOp_eq_filter (qs : List Loc) (cands : List (Loc × Pauli))
    (hnd : (cands.map Prod.fst).Nodup) :
    buildOp qs cands = cands.filter (fun c => qs.contains c.1) := by
  unfold buildOp
  rw [buildOp_foldl_filter qs cands [] (by simpa using hnd)]
  simp

theorem buildOp_mem (qs : List Loc) (cands : List (Loc × Pauli))
    (hnd : (cands.map Prod.fst).Nodup) {c : Loc × Pauli} (hc : c ∈ cands) (hq : c.1 ∈ qs) :
    c ∈ buildOp qs cands := by
  rw [buildOp_eq_filter qs cands hnd]
  exact List.mem_filter.mpr ⟨hc, List.contains_iff_mem.mpr hq⟩

theorem nodup_keys_filter (p : Loc × Pauli → Bool) (cands : List (Loc × Pauli))
    (hnd : (cands.map Prod.fst).Nodup) : ((cands.filter p).map Prod.fst).Nodup :=
  List.Nodup.sublist (List.Sublist.map _ List.filter_sublist) hnd

theorem xorSum_filter {α : Type} (l : List α) (p f : α → Bool) :
    xorSum (l.filter p) f = xorSum l (fun a => p a && f a) := by
  induction l with
  | nil => rfl
  | cons a l ih =>
    rw [List.filter_cons]
    cases hp : p a
    · simp [ih, hp]
    · simp [ih, hp]

/-- the one characterisation of `faceHasK`: a kept row is toggled by the qubit `loc` iff a candidate
    of `get_stabilizer` sits on `loc` with the letter X, whatever the other letters (defect lines) -/
theorem faceHasK_of_filter (keep : Loc → Bool) (lat : Lattice) (s loc : Loc) (cands : Op)
    (hk : keep s = true) (hop : lat.stabOp s = cands.filter (fun c => lat.qubits.contains c.1))
    (hnd : (cands.map Prod.fst).Nodup) (hq : loc ∈ lat.qubits) :
    faceHasK keep lat s loc = decide (∃ e ∈ cands, e.1 = loc ∧ hasX e.2 = true) := by
  have h1 : xorSum (lat.stabOp s) (fun e => hasX e.2 && e.1 == loc) =
      xorSum ((lat.stabOp s).filter fun e => hasX e.2) (fun e => hasX e.2 && e.1 == loc) := by
    rw [xorSum_filter]
    exact xorSum_congr _ _ _ fun e _ => by cases hasX e.2 <;> rfl
  rw [faceHasK, hk, Bool.true_and, h1, xorSum_keys_nodup _
    (nodup_keys_filter _ _ (by rw [hop]; exact nodup_keys_filter _ cands hnd))
    (fun e he => (List.mem_filter.mp he).2), hop]
  apply decide_eq_decide.mpr
  simp only [List.mem_map, List.mem_filter, List.contains_iff_mem]
  constructor
  · rintro ⟨e, ⟨⟨he, _⟩, hx⟩, rfl⟩
    exact ⟨e, he, rfl, hx⟩
  · rintro ⟨e, he, rfl, hx⟩
    exact ⟨e, ⟨⟨he, hq⟩, hx⟩, rfl⟩

theorem faceHasK_of_X_filter (keep : Loc → Bool) (lat : Lattice) (s loc : Loc) (cands : Op)
    (hk : keep s = true) (hop : lat.stabOp s = cands.filter (fun c => lat.qubits.contains c.1))
    (hnd : (cands.map Prod.fst).Nodup) (hx : ∀ e ∈ cands, e.2 = Pauli.X) (hq : loc ∈ lat.qubits) :
    faceHasK keep lat s loc = decide (loc ∈ cands.map Prod.fst) := by
  rw [faceHasK_of_filter keep lat s loc cands hk hop hnd hq]
  apply decide_eq_decide.mpr
  simp only [List.mem_map]
  constructor
  · rintro ⟨e, he, rfl, _⟩
    exact ⟨e, he, rfl⟩
  · rintro ⟨e, he, rfl⟩
    exact ⟨e, he, rfl, by rw [hx e he]; rfl⟩

/-- for `SweepDecoder3D`: an all-X row is outside `z_indices`, hence kept -/
theorem faceHas_of_X_filter (lat : Lattice) (s loc : Loc) (keys : List Loc)
    (hop : lat.stabOp s =
      (keys.map fun k => (k, Pauli.X)).filter (fun c => lat.qubits.contains c.1))
    (hnd : keys.Nodup) (hq : loc ∈ lat.qubits) :
    faceHas lat s loc = decide (loc ∈ keys) := by
  have hz : lat.zIndex s = false := zIndex_of_X lat s _ (by rw [hop, List.filter_map])
  have h := faceHasK_of_X_filter (fun s => !lat.zIndex s) lat s loc _ (by rw [hz]; rfl) hop
    (by rwa [map_fst_pair]) (fun e he => by obtain ⟨k, _, rfl⟩ := List.mem_map.mp he; rfl) hq
  rwa [map_fst_pair] at h

theorem faceHasRot_of_not_face (lat : Lattice) (s loc : Loc) (h : lat.isFace s = false) :
    faceHasRot lat s loc = false := by
  simp [faceHasRot, faceHasK, h]

/-- reduction of `flipOK` when the face list keeps an arbitrary filter (`is_stabilizer(·,'face')`
    for the rotated decoder) and the unfiltered neighbour list is duplicate-free -/
theorem flipOK_of_filterP (lat : Lattice) (faces : Loc → Option (List Loc)) (loc : Loc)
    (raw : List Loc) (p : Loc → Bool) (hf : faces loc = some (raw.filter p)) (hnd : raw.Nodup)
    (h : ∀ s ∈ lat.stabs, ((s ∈ raw ∧ p s = true) ↔ faceHas lat s loc = true)) :
    flipOK lat faces loc = true := by
  apply flipOKK_of _ lat faces loc _ hf (hnd.filter _)
  intro s hs
  rw [List.mem_filter]
  exact h s hs

/-- a stabilizer whose dict has only Z entries is never toggled as a face: either it is
    flagged in `z_indices`, or its dict is empty -/
theorem faceHas_of_allZ (lat : Lattice) (s loc : Loc) (h : ∀ e ∈ lat.stabOp s, e.2 = Pauli.Z) :
    faceHas lat s loc = false := by
  unfold faceHas
  have : xorSum (lat.stabOp s) (fun e => hasX e.2 && e.1 == loc) = false := by
    rw [xorSum_congr _ _ (fun _ => false), xorSum_false]
    intro e he
    rw [h e he]
    rfl
  rw [this, Bool.and_false]

/-- `flipOKRot` on one edge from the generators of type `'face'` alone: a generator of type
    `'vertex'` is never toggled and never passes the `is_stabilizer(·, 'face')` filter -/
theorem flipOKRot_of_faces (lat : Lattice) (faces : Loc → Option (List Loc)) (q : Loc)
    (raw : List Loc) (hf : faces q = some (raw.filter lat.isStabFace)) (hnd : raw.Nodup)
    (h : ∀ s ∈ lat.stabs, lat.isFace s = true → (faceHasRot lat s q = true ↔ s ∈ raw)) :
    flipOKRot lat faces q = true := by
  refine flipOKK_of _ lat faces q _ hf (hnd.filter _) fun s hs => ?_
  rw [List.mem_filter, Lattice.isStabFace_iff]
  cases hface : lat.isFace s
  · exact iff_of_false (fun k => Bool.false_ne_true k.2.2)
      (ne_true_of_eq_false (faceHasRot_of_not_face lat s q hface))
  · exact ⟨fun k => (h s hs hface).mpr k.1, fun k => ⟨(h s hs hface).mp k, hs, rfl⟩⟩

/-- the guard `all(faces_valid) and all(edges_valid)` of the rotated `sweep_move` never discards
    a vertex for its edges when existing faces imply existing edges -/
theorem sweepGuard_of (lat : Lattice) (F1 F2 F3 E1 E2 E3 : Loc)
    (h : F1 ∈ lat.stabs → F2 ∈ lat.stabs → E1 ∈ lat.qubits ∧ E2 ∈ lat.qubits ∧ E3 ∈ lat.qubits) :
    (!(lat.isStabFace F1 && lat.isStabFace F2 && lat.isStabFace F3) ||
      (lat.isQubit E1 && lat.isQubit E2 && lat.isQubit E3)) = true := by
  cases hF : (lat.isStabFace F1 && lat.isStabFace F2 && lat.isStabFace F3)
  · rfl
  · simp only [Bool.and_eq_true, Lattice.isStabFace_iff] at hF
    obtain ⟨g1, g2, g3⟩ := h hF.1.1.1 hF.1.2.1
    rw [Lattice.isQubit_iff.mpr g1, Lattice.isQubit_iff.mpr g2, Lattice.isQubit_iff.mpr g3]
    rfl

/-- `get_sweep_faces` and `get_sweep_edges` before `_wrap`, in any direction: the x and y face
    sit one diagonal step `(e1, e1)` resp. `(e2, -e2)` from the vertex in the next layer, the y
    and x edge the same step away in the layer of the vertex, the z edge in between -/
theorem oldSweepRot_spec (a b c sx sy sz : Int) :
    ∃ e1 e2 : Int, (e1 = 1 ∨ e1 = -1) ∧ (e2 = 1 ∨ e2 = -1) ∧
      oldSweepFacesRot (a, b, c) (sx, sy, sz) =
        ((a + e1, b + e1, c + sz), (a + e2, b - e2, c + sz), (a + 2 * sx, b + 2 * sy, c)) ∧
      oldSweepEdgesRot (a, b, c) (sx, sy, sz) =
        ((a + e2, b - e2, c), (a + e1, b + e1, c), (a, b, c + sz)) := by
  by_cases h1 : sx + sy > 0 <;> by_cases h2 : sx - sy > 0
  · refine ⟨1, 1, Or.inl rfl, Or.inl rfl, ?_, ?_⟩ <;>
      simp only [oldSweepFacesRot, oldSweepEdgesRot, h1, h2, if_true, Int.one_mul]
  · refine ⟨1, -1, Or.inl rfl, Or.inr rfl, ?_, ?_⟩ <;>
      simp only [oldSweepFacesRot, oldSweepEdgesRot, h1, h2, if_true, if_false, Int.one_mul,
        Int.sub_neg, Int.add_neg_one]
  · refine ⟨-1, 1, Or.inr rfl, Or.inl rfl, ?_, ?_⟩ <;>
      simp only [oldSweepFacesRot, oldSweepEdgesRot, h1, h2, if_true, if_false, Int.one_mul,
        Int.add_neg_one]
  · refine ⟨-1, -1, Or.inr rfl, Or.inr rfl, ?_, ?_⟩ <;>
      simp only [oldSweepFacesRot, oldSweepEdgesRot, h1, h2, if_false, Int.one_mul, Int.sub_neg,
        Int.add_neg_one]

/-- on a lattice without seam (`code.id != 'RotatedToric3DCode'`) `_wrap` is the identity -/
theorem wrapRot_noSeam (lat : Lattice) (h : lat.rotSeam = false) (l : Loc) : wrapRot lat l = l := by
  simp [wrapRot, h]

theorem flipFacesRot_noSeam (lat : Lattice) (h : lat.rotSeam = false) (edge : Loc) :
    flipFacesRot lat edge = (rawFacesRot edge).map fun fs => fs.filter lat.isStabFace := by
  unfold flipFacesRot
  have : wrapRot lat = id := by funext l; exact wrapRot_noSeam lat h l
  rw [this]
  simp

theorem sweepFacesRot_noSeam (lat : Lattice) (h : lat.rotSeam = false) (v : Loc) (sd : SweepDir) :
    sweepFacesRot lat v sd = oldSweepFacesRot v sd := by
  simp [sweepFacesRot, wrapRot_noSeam lat h]

theorem sweepEdgesRot_noSeam (lat : Lattice) (h : lat.rotSeam = false) (v : Loc) (sd : SweepDir) :
    sweepEdgesRot lat v sd = oldSweepEdgesRot v sd := by
  simp [sweepEdgesRot, wrapRot_noSeam lat h]

end Panqec.Sweep
