/-
The lattice data of RotatedToric3DCode that C10 uses (`Model/SweepLattices.lean`: locations as
triples, dicts by `dictSet`) and the hand-written all-sizes lattice model of C01 / C17
(`Model/Lattices/RotatedToric3DCode.lean`: coordinates as lists, dicts by `Op.insert`) are two
transcriptions of the same class.  Here they are proved to be the same function of the size:
qubit coordinates, stabilizer coordinates (same order), `stabilizer_type`, and `get_stabilizer`
of every stabilizer (same keys in the same order, same letters, defect lines included) — so the
all-sizes theorems of C01 (`valid_code`, `stabilizer_letter_rule`, …) and the geometry theorems of
C10 speak about one object.
-/
import PanqecVerif.Proofs.SweepRotToricBase
import PanqecVerif.Model.Lattices.RotatedToric3DCode

namespace Panqec.Sweep

open Panqec.Lat3Db

/-- a location of the sweep model as a coordinate of the lattice models of C01 -/
def toCoord (l : Loc) : Coord := [l.1, l.2.1, l.2.2]

/-- an operator of the sweep model as an operator of the lattice models of C01 -/
def toCOp (op : Sweep.Op) : Panqec.Op := op.map fun e => (toCoord e.1, e.2)

theorem toCoord_inj {a b : Loc} (h : toCoord a = toCoord b) : a = b := by
  obtain ⟨a1, a2, a3⟩ := a
  obtain ⟨b1, b2, b3⟩ := b
  simp only [toCoord, List.cons.injEq, and_true] at h
  obtain ⟨h1, h2, h3⟩ := h
  subst h1 h2 h3
  rfl

theorem toCoord_beq (a b : Loc) : (toCoord a == toCoord b) = (a == b) := by
  by_cases h : a = b
  · subst h; simp
  · have h' : ¬ toCoord a = toCoord b := fun e => h (toCoord_inj e)
    simp [h, h']

theorem contains_map_toCoord (l : List Loc) (q : Loc) :
    (l.map toCoord).contains (toCoord q) = l.contains q := by
  induction l with
  | nil => rfl
  | cons a l ih =>
    simp only [List.map_cons, List.contains_cons, ih]
    rw [toCoord_beq q a]

theorem range2_eq_pyRange2 (a b : Nat) : range2 (a : Int) (b : Int) = pyRange2 a b := by
  unfold range2 pyRange2
  have hlen : (((b : Int) - (a : Int) + 1) / 2).toNat = (b + 1 - a) / 2 := by omega
  rw [hlen]
  apply List.ext_getElem
  · simp
  · intro i h1 h2
    simp only [List.getElem_map, List.getElem_range, List.getElem_range']
    show (a : Int) + 2 * (i : Int) = Int.ofNat (a + 2 * i)
    simp

theorem map_toCoord_filter_prod3 (A B C : List Int) (p : Loc → Bool) :
    ((prod3 A B C).filter p).map toCoord = grid3 A B C (fun x y z => p (x, y, z)) := by
  unfold prod3 grid3
  rw [List.filter_flatMap, List.map_flatMap]
  congr 1
  funext x
  rw [List.filter_flatMap, List.map_flatMap]
  congr 1
  funext y
  rw [List.filter_map, List.map_map]
  rfl

theorem map_toCoord_prod3 (A B C : List Int) :
    (prod3 A B C).map toCoord = grid3 A B C (fun _ _ _ => true) := by
  have := map_toCoord_filter_prod3 A B C (fun _ => true)
  simpa using this

theorem range2_nat (a b : Nat) (a' b' : Int) (ha : a' = (a : Int)) (hb : b' = (b : Int)) :
    range2 a' b' = pyRange2 a b := by
  rw [ha, hb, range2_eq_pyRange2]

theorem toCOp_any (op : Sweep.Op) (k : Loc) :
    (toCOp op).any (fun e => e.1 == toCoord k) = op.any (fun e => e.1 == k) := by
  unfold toCOp
  induction op with
  | nil => rfl
  | cons e op ih =>
    simp only [List.map_cons, List.any_cons, ih, toCoord_beq]

theorem toCOp_dictSet (op : Sweep.Op) (k : Loc) (v : Pauli) :
    toCOp (dictSet op k v) = Panqec.Op.insert (toCOp op) (toCoord k) v := by
  unfold dictSet Panqec.Op.insert
  rw [toCOp_any]
  cases h : op.any (fun e => e.1 == k)
  · simp [toCOp]
  · simp only [if_true, toCOp, List.map_map]
    apply List.map_congr_left
    intro e _
    simp only [Function.comp, toCoord_beq]
    cases e.1 == k <;> rfl

theorem toCOp_foldl (qs : List Loc) (cands : List (Loc × Pauli)) (acc : Sweep.Op) :
    toCOp (cands.foldl (fun op c => if qs.contains c.1 then dictSet op c.1 c.2 else op) acc) =
      cands.foldl (fun op c => if (qs.map toCoord).contains (toCoord c.1)
        then Panqec.Op.insert op (toCoord c.1) c.2 else op) (toCOp acc) := by
  induction cands generalizing acc with
  | nil => rfl
  | cons c cands ih =>
    simp only [List.foldl_cons, ih, contains_map_toCoord]
    cases qs.contains c.1
    · rfl
    · simp only [if_true, toCOp_dictSet]

/-- `get_qubit_coordinates`: the two transcriptions list the same locations in the same order -/
theorem rotToric_qubits_agree (Lx Ly Lz : Nat) :
    (rotToric3D Lx Ly Lz).qubits.map toCoord = RotatedToric3DCode.qubits Lx Ly Lz := by
  show (rotToricQubits Lx Ly Lz).map toCoord = _
  unfold rotToricQubits RotatedToric3DCode.qubits
  rw [List.map_append, map_toCoord_prod3, map_toCoord_filter_prod3]
  rw [range2_nat 1 (2 * Lx) 1 (2 * (Lx : Int)) (by omega) (by omega),
    range2_nat 1 (2 * Ly) 1 (2 * (Ly : Int)) (by omega) (by omega),
    range2_nat 1 (2 * Lz) 1 (2 * (Lz : Int)) (by omega) (by omega),
    range2_nat 2 (2 * Lx + 1) 2 (2 * (Lx : Int) + 1) (by omega) (by omega),
    range2_nat 2 (2 * Ly + 1) 2 (2 * (Ly : Int) + 1) (by omega) (by omega),
    range2_nat 2 (2 * Lz) 2 (2 * (Lz : Int)) (by omega) (by omega)]
  rfl

/-- `get_stabilizer_coordinates` -/
theorem rotToric_stabs_agree (Lx Ly Lz : Nat) :
    (rotToric3D Lx Ly Lz).stabs.map toCoord = RotatedToric3DCode.stabs Lx Ly Lz := by
  show (rotToricStabs Lx Ly Lz).map toCoord = _
  unfold rotToricStabs RotatedToric3DCode.stabs
  rw [List.map_append, List.map_append, map_toCoord_filter_prod3, map_toCoord_filter_prod3,
    map_toCoord_filter_prod3]
  rw [range2_nat 1 (2 * Lx) 1 (2 * (Lx : Int)) (by omega) (by omega),
    range2_nat 1 (2 * Ly) 1 (2 * (Ly : Int)) (by omega) (by omega),
    range2_nat 1 (2 * Lz) 1 (2 * (Lz : Int)) (by omega) (by omega),
    range2_nat 2 (2 * Lx + 1) 2 (2 * (Lx : Int) + 1) (by omega) (by omega),
    range2_nat 2 (2 * Ly + 1) 2 (2 * (Ly : Int) + 1) (by omega) (by omega),
    range2_nat 2 (2 * Lz) 2 (2 * (Lz : Int)) (by omega) (by omega)]
  rfl

theorem defectPauli_eq_flipXZ : RotatedToric3DCode.defectPauli = flipXZ := by
  funext p
  cases p <;> rfl

/-- the candidate the sweep model writes for the offset `d` is the one the lattice model writes -/
theorem rotToric_cand_agree (Lx Ly : Nat) (x y z : Int) (p : Pauli) (d : Loc) :
    RotatedToric3DCode.neighbour Lx Ly x y z (toCoord d) = toCoord (rtCand Lx Ly (x, y, z) p d).1 ∧
    RotatedToric3DCode.letterAt (RotatedToric3DCode.onDefectBoundary Lx Ly x y) p
      (toCoord (rtCand Lx Ly (x, y, z) p d).1) = (rtCand Lx Ly (x, y, z) p d).2 := by
  obtain ⟨d1, d2, d3⟩ := d
  refine ⟨rfl, ?_⟩
  simp only [RotatedToric3DCode.letterAt, RotatedToric3DCode.onDefectBoundary, toCoord,
    defectPauli_eq_flipXZ, rtCand]

/-- the dict loop of `get_stabilizer`, for any list of offsets -/
theorem rotToric_build_agree (Lx Ly Lz : Nat) (x y z : Int) (p : Pauli) (ds : List Loc) :
    toCOp (buildOp (rotToricQubits Lx Ly Lz) (ds.map (rtCand Lx Ly (x, y, z) p))) =
    RotatedToric3DCode.buildStab Lx Ly Lz x y z p (ds.map toCoord) := by
  unfold buildOp RotatedToric3DCode.buildStab
  rw [toCOp_foldl, List.foldl_map, List.foldl_map]
  congr 1
  funext op d
  have h := rotToric_cand_agree Lx Ly x y z p d
  simp only [h.1, h.2, RotatedToric3DCode.isQubit, ← rotToric_qubits_agree]
  rfl

/-- `stabilizer_type` -/
theorem rotToric_type_agree (x y z : Int) :
    rotIsFace (x, y, z) = !RotatedToric3DCode.isVertexXYZ x y z := rfl

/-- the `delta` list chosen by `get_stabilizer` -/
theorem rotToric_deltas_agree (x y z : Int) :
    RotatedToric3DCode.deltaOf x y z =
      (if rotIsFace (x, y, z) then rotFaceDeltas (x, y, z) else some rotVertexDeltasToric).map
        (List.map toCoord) := by
  unfold RotatedToric3DCode.deltaOf rotIsFace rotFaceDeltas xyMod4 RotatedToric3DCode.isVertexXYZ
  rcases Bool.eq_false_or_eq_true ((x + y) % 4 == 2 && z % 2 == 1) with h1 | h1
  · simp only [h1, if_true, Bool.not_true, Bool.false_eq_true, if_false]
    rfl
  · simp only [h1, if_false, Bool.not_false, if_true, Bool.false_eq_true]
    rcases Bool.eq_false_or_eq_true (z % 2 == 1) with h2 | h2
    · simp only [h2, if_true]; rfl
    · simp only [h2, if_false, Bool.false_eq_true]
      rcases Bool.eq_false_or_eq_true ((x + y) % 4 == 0) with h3 | h3
      · simp only [h3, if_true]; rfl
      · simp only [h3, if_false, Bool.false_eq_true]
        rcases Bool.eq_false_or_eq_true ((x + y) % 4 == 2) with h4 | h4
        · simp only [h4, if_true]; rfl
        · simp only [h4, if_false, Bool.false_eq_true]; rfl

theorem rotToric_isStab_agree (Lx Ly Lz : Nat) (s : Loc) (hs : s ∈ (rotToric3D Lx Ly Lz).stabs) :
    RotatedToric3DCode.isStab Lx Ly Lz (toCoord s) = true := by
  unfold RotatedToric3DCode.isStab
  rw [← rotToric_stabs_agree, contains_map_toCoord]
  exact List.contains_iff_mem.mpr hs

/-- `get_stabilizer` at every stabilizer location: the two transcriptions build the same dict
    (same keys in the same order, same letters — defect lines included) -/
theorem rotToric_stabOp_agree (Lx Ly Lz : Nat) (s : Loc) (hs : s ∈ (rotToric3D Lx Ly Lz).stabs) :
    toCOp ((rotToric3D Lx Ly Lz).stabOp s) = RotatedToric3DCode.getStab Lx Ly Lz (toCoord s) := by
  have hst := rotToric_isStab_agree Lx Ly Lz s hs
  obtain ⟨x, y, z⟩ := s
  show toCOp (rotToricStabOp Lx Ly Lz (x, y, z)) = _
  unfold RotatedToric3DCode.getStab RotatedToric3DCode.getStab?
  rw [hst]
  simp only [Bool.not_true, Bool.false_eq_true, if_false, toCoord]
  rw [rotToric_deltas_agree]
  unfold rotToricStabOp
  have hp : (if RotatedToric3DCode.isVertexXYZ x y z = true then Pauli.Z else Pauli.X) =
      (if rotIsFace (x, y, z) = true then Pauli.X else Pauli.Z) := by
    rw [rotToric_type_agree]
    cases RotatedToric3DCode.isVertexXYZ x y z <;> rfl
  rw [hp]
  cases (if rotIsFace (x, y, z) = true then rotFaceDeltas (x, y, z) else some rotVertexDeltasToric) with
  | none => rfl
  | some ds =>
    simp only [Option.map_some, Option.getD_some]
    exact rotToric_build_agree Lx Ly Lz x y z _ ds

/-- `stabilizer_type` at every stabilizer location -/
theorem rotToric_stabilizerType_agree (Lx Ly Lz : Nat) (s : Loc)
    (hs : s ∈ (rotToric3D Lx Ly Lz).stabs) :
    RotatedToric3DCode.stabilizerType Lx Ly Lz (toCoord s) =
      some (if (rotToric3D Lx Ly Lz).isFace s then "face" else "vertex") := by
  have hst := rotToric_isStab_agree Lx Ly Lz s hs
  obtain ⟨x, y, z⟩ := s
  unfold RotatedToric3DCode.stabilizerType
  rw [hst]
  show some (if RotatedToric3DCode.isVertexXYZ x y z = true then "vertex" else "face") =
    some (if rotIsFace (x, y, z) = true then "face" else "vertex")
  rw [rotToric_type_agree]
  cases RotatedToric3DCode.isVertexXYZ x y z <;> rfl

end Panqec.Sweep
