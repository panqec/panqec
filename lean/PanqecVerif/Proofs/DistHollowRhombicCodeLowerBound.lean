/-
HollowRhombicCode, all sizes of the family (`Lx, Ly ≥ 2`, `Lz ≥ 3`), C17: the packing bound, the weights
of the listed logicals in closed form and the reported distance.

Representatives of `X̄` (the sheet `z = 4`): the `Lz` sheets `z = 2i` (existing x- and y-edges).
Representatives of `Z̄` (the stack `(2Lx−1, 2Ly−2, ·)`): one vertical stack over every key of the
listed sheet — as many as the weight of `X̄`.  Each representative commutes with all generators
and has the parities of the listed logical against the two listed logicals, so by C04 (the code
being valid: every size of the family that is not deficient) it differs from the listed logical
by a product of generators (`Lattice.Rep.of_class`).
-/
import PanqecVerif.Proofs.LatHollowRhombicCodeCss
import PanqecVerif.Proofs.DistSameClass

namespace Panqec.HollowRhombicCode
open Panqec.Cubic3D
open Panqec.Planar3DCode (inE inO inE2 inO1)

variable {Lx Ly Lz : Nat}

theorem anti_ZX : Pauli.anti Pauli.Z Pauli.X = true := rfl

theorem sheetH_comm {h : Int} (hh : h % 2 = 0) :
    ∀ s ∈ (lattice Lx Ly Lz).stabs,
      opAntiCount ((lattice Lx Ly Lz).getStab s) (uop (sheetH Lx Ly Lz h) Pauli.X) % 2 = 0 := by
  intro s hs
  rcases mem_stabs.mp hs with ⟨x, y, z, rfl, hc⟩ | ⟨a, x, y, z, rfl, ha, hv, hk⟩
  · rw [getStab_cube', opAntiCount_uop, Pauli.anti_self]; rfl
  · rw [getStab_tri' _ _ _ ha, opAntiCount_uop, anti_ZX, if_pos rfl]
    exact sheetH_tri_even hh ha hv hk

theorem stack_comm {sx sy : Int} (hb : StackBase Lx Ly Lz sx sy) :
    ∀ s ∈ (lattice Lx Ly Lz).stabs,
      opAntiCount ((lattice Lx Ly Lz).getStab s) (uop (stackK Lz sx sy) Pauli.Z) % 2 = 0 := by
  intro s hs
  rcases mem_stabs.mp hs with ⟨x, y, z, rfl, hc⟩ | ⟨a, x, y, z, rfl, ha, hv, hk⟩
  · rw [getStab_cube', opAntiCount_uop, anti_XZ, if_pos rfl,
      ov_comm (nodup_cubeKeys _ _ _ _ _ _) (nodup_stackK _ _ _)]
    exact stack_cube_even hb hc
  · rw [getStab_tri' _ _ _ ha, opAntiCount_uop, Pauli.anti_self]; rfl

/-- every non-trivial logical operator of a valid `Lx × Ly × Lz` hollow rhombic code has weight
    `≥ min w Lz`, `w` the weight of the listed sheet -/
theorem lower_bound (hx : 2 ≤ Lx) (hy : 2 ≤ Ly) (hz : 3 ≤ Lz) (hwf : (lattice Lx Ly Lz).WF)
    {n k : Nat} (hn : (qubits Lx Ly Lz).length = n)
    (hv : ValidCodeL n k (lattice Lx Ly Lz).rowsH (lattice Lx Ly Lz).rowsX
      (lattice Lx Ly Lz).rowsZ) :
    ∀ v, IsNontrivialLogical n (lattice Lx Ly Lz).rowsH v →
      min (sheetKeys Lx Ly Lz).length Lz ≤ pauliWeight v := by
  have hbl := line_base (Lx := Lx) (Ly := Ly) (Lz := Lz) (by omega) (by omega) hz
  apply Lattice.lower_bound_of_reps (lattice Lx Ly Lz) hwf hn hv
  intro a ha
  rcases mem_logicals.mp ha with rfl | rfl
  · -- the sheets `z = 2i`
    refine .of_family Pauli.X (fun i => sheetH Lx Ly Lz (2 * (i : Int))) (Nat.min_le_right ..)
      (fun i hi => .of_class hwf hn hv
        ⟨keysNodup_line _ (nodup_sheetH Lx Ly Lz 4), opSupported_line _ fun q hq => sheetH_sub q hq⟩
        (sheetH_comm (h := 4) (by decide)) (nodup_sheetH ..) (fun q hq => sheetH_sub q hq)
        (sheetH_comm (by omega)) fun m hm => ?_) fun i i' h _ q hq hq' => ?_
    · change opAntiCount m (uop _ _) % 2 = opAntiCount m (uop _ _) % 2
      rcases mem_logicals.mp hm with rfl | rfl
      · rw [opAntiCount_uop, opAntiCount_uop, Pauli.anti_self]; rfl
      · rw [opAntiCount_uop, opAntiCount_uop, anti_ZX, if_pos rfl, if_pos rfl,
          line_sheetH_one (by omega) (by omega) (by unfold inE; omega),
          line_sheetH_one (by omega) (by omega) (by unfold inE; omega)]
    · obtain ⟨x, y, rfl⟩ := sheetH_height hq
      obtain ⟨x', y', e⟩ := sheetH_height hq'
      simp only [List.cons.injEq, and_true] at e
      omega
  · -- the stacks over the keys of the listed sheet
    have hbase : ∀ q ∈ sheetKeys Lx Ly Lz,
        StackBase Lx Ly Lz (q.getD 0 0) (q.getD 1 0) ∧ q = [q.getD 0 0, q.getD 1 0, 4] := by
      intro q hq
      obtain ⟨sx, sy, rfl, hb⟩ := stackBase_of_mem hq
      exact ⟨hb, rfl⟩
    refine .of_list Pauli.Z ((sheetKeys Lx Ly Lz).map fun q => stackK Lz (q.getD 0 0) (q.getD 1 0))
      (by rw [List.length_map]; exact Nat.min_le_left ..) (fun K hK => ?_) ?_
    · obtain ⟨q, hq, rfl⟩ := List.mem_map.mp hK
      have hbq := (hbase q hq).1
      refine .of_class hwf hn hv
        ⟨keysNodup_line _ (nodup_lineKeys Lx Ly Lz), opSupported_line _ (lineKeys_sub (by omega) (by omega))⟩
        (by rw [lineKeys_eq_stack]; exact stack_comm hbl) (nodup_stackK ..) (stack_sub hbq)
        (stack_comm hbq) fun m hm => ?_
      change opAntiCount m (uop _ _) % 2 = opAntiCount m (uop _ _) % 2
      rcases mem_logicals.mp hm with rfl | rfl
      · rw [opAntiCount_uop, opAntiCount_uop, anti_XZ, if_pos rfl, if_pos rfl,
          sheet_stack_one hz hbq, lineKeys_eq_stack, sheet_stack_one hz hbl]
      · rw [opAntiCount_uop, opAntiCount_uop, Pauli.anti_self]; rfl
    · rw [List.pairwise_map]
      exact (nodup_sheetH Lx Ly Lz 4).imp_of_mem fun hq hq' hne => stack_disjoint (by
        rw [← (hbase _ hq).2, ← (hbase _ hq').2]; exact hne)

/-- the two loops of the sheet `z = 4` over the x edges and the y edges -/
def sheetGrid (Lx Ly Lz : Nat) : List Coord :=
  gridH Lx Ly Lz (range2 1 (2 * (Lx : Int) + 1)) (range2 0 (2 * (Ly : Int))) [4] ++
  gridH Lx Ly Lz (range2 2 (2 * (Lx : Int))) (range2 1 (2 * (Ly : Int) - 1)) [4]

theorem mem_gridH {xs ys zs : List Int} {q : Coord} :
    q ∈ gridH Lx Ly Lz xs ys zs ↔
      ∃ x ∈ xs, ∃ y ∈ ys, ∃ z ∈ zs, ¬ Hole Lx Ly Lz x y z ∧ q = [x, y, z] := by
  unfold gridH
  simp only [List.mem_flatMap, List.mem_map, List.mem_filter, Bool.not_eq_true', inHole_false_iff]
  constructor
  · rintro ⟨x, hx, y, hy, z, ⟨hz, hh⟩, rfl⟩; exact ⟨x, hx, y, hy, z, hz, hh, rfl⟩
  · rintro ⟨x, hx, y, hy, z, hz, hh, rfl⟩; exact ⟨x, hx, y, hy, z, ⟨hz, hh⟩, rfl⟩

theorem nodup_gridH (xs ys zs : List Int) (hxs : xs.Nodup) (hys : ys.Nodup) (hzs : zs.Nodup) :
    (gridH Lx Ly Lz xs ys zs).Nodup := by
  rw [gridH_eq]
  exact (nodup_grid hxs hys hzs).filter _

theorem sheetKeys_perm (hz : 3 ≤ Lz) : (sheetKeys Lx Ly Lz).Perm (sheetGrid Lx Ly Lz) := by
  have hnd : (sheetGrid Lx Ly Lz).Nodup := by
    unfold sheetGrid
    rw [List.nodup_append]
    refine ⟨nodup_gridH _ _ _ (nodup_range2 _ _) (nodup_range2 _ _) (by simp),
      nodup_gridH _ _ _ (nodup_range2 _ _) (nodup_range2 _ _) (by simp), ?_⟩
    intro a ha c hc e
    subst e
    obtain ⟨x, hx, y, hy, z, _, _, rfl⟩ := mem_gridH.mp ha
    obtain ⟨x', hx', y', hy', z', _, _, e⟩ := mem_gridH.mp hc
    simp only [List.cons.injEq, and_true] at e
    rw [mem_range2] at hx hx'
    omega
  rw [sheetKeys_eq, List.perm_ext_iff_of_nodup (nodup_sheetH Lx Ly Lz 4) hnd, ← sheetKeys_eq]
  intro q
  constructor
  · intro hq
    obtain ⟨sx, sy, rfl, hb⟩ := stackBase_of_mem hq
    unfold sheetGrid
    rw [List.mem_append]
    rcases hb with ⟨h1, h2, h3⟩ | ⟨h1, h2, h3⟩
    · left
      unfold Qx at h3
      exact mem_gridH.mpr ⟨sx, mem_range2.mpr (by omega), sy, mem_range2.mpr (by omega), 4,
        by simp, h3.2.2.2.2.2.2, rfl⟩
    · right
      unfold Qy at h3
      exact mem_gridH.mpr ⟨sx, mem_range2.mpr (by omega), sy, mem_range2.mpr (by omega), 4,
        by simp, h3.2.2.2.2.2.2, rfl⟩
  · intro hq
    unfold sheetGrid at hq
    rw [List.mem_append] at hq
    rcases hq with hq | hq
    · obtain ⟨x, hx, y, hy, z, hz4, hh, rfl⟩ := mem_gridH.mp hq
      have : z = 4 := by simpa using hz4
      subst this
      rw [mem_range2] at hx hy
      exact base_mem_sheet (Or.inl ⟨by omega, by omega, by
        unfold Qx
        exact ⟨by omega, by omega, by omega, by omega, by omega, by omega, hh⟩⟩)
    · obtain ⟨x, hx, y, hy, z, hz4, hh, rfl⟩ := mem_gridH.mp hq
      have : z = 4 := by simpa using hz4
      subst this
      rw [mem_range2] at hx hy
      exact base_mem_sheet (Or.inr ⟨by omega, by omega, by
        unfold Qy
        exact ⟨by omega, by omega, by omega, by omega, by omega, by omega, hh⟩⟩)

/-- the weight of the listed sheet: all x- and y-edges of a plane, minus — when the plane `z = 4`
    crosses the hole, i.e. `Lz ≥ 5` — the `(Lx−2)(Ly−4)` x-edges and `(Lx−3)(Ly−3)` y-edges in it -/
def wX (Lx Ly Lz : Nat) : Nat :=
  Lx * Ly + (Lx - 1) * (Ly - 1) -
    (if 5 ≤ Lz then (Lx - 2) * (Ly - 4) + (Lx - 3) * (Ly - 3) else 0)

theorem length_sheetKeys (hz : 3 ≤ Lz) : (sheetKeys Lx Ly Lz).length = wX Lx Ly Lz := by
  rw [(sheetKeys_perm hz).length_eq]
  have h1 := length_gridH Lx Ly Lz (range2 1 (2 * (Lx : Int) + 1)) (range2 0 (2 * (Ly : Int))) [4]
  have h2 := length_gridH Lx Ly Lz (range2 2 (2 * (Lx : Int))) (range2 1 (2 * (Ly : Int) - 1)) [4]
  have e4 : ([(4 : Int)].filter (holeY Lz)).length = if 5 ≤ Lz then 1 else 0 := by
    have hv4 : holeY Lz 4 = decide (5 ≤ Lz) := by
      unfold holeY
      rw [Bool.eq_iff_iff]
      simp only [Bool.and_eq_true, decide_eq_true_eq]
      omega
    rw [List.filter_cons, hv4]
    by_cases h5 : 5 ≤ Lz
    · simp [h5]
    · simp [h5]
  simp only [len_holeX_E2, len_holeX_O1, len_holeY_E, len_holeY_O, length_rangeE, length_rangeO,
    length_rangeE2, length_rangeO1, e4, List.length_cons, List.length_nil] at h1 h2
  unfold sheetGrid wX
  rw [List.length_append]
  by_cases h5 : 5 ≤ Lz
  · simp only [if_pos h5] at h1 h2 ⊢
    omega
  · simp only [if_neg h5] at h1 h2 ⊢
    omega

/-- the weight of the row of `logicals_x` is `wX` (the sheet `z = 4`), of the row of `logicals_z`
    `Lz` (a vertical stack of x-edges) -/
theorem weights_listed (hz : 3 ≤ Lz) (hwf : (lattice Lx Ly Lz).WF) :
    (lattice Lx Ly Lz).rowsX.map pauliWeight = [wX Lx Ly Lz] ∧
    (lattice Lx Ly Lz).rowsZ.map pauliWeight = [Lz] := by
  rw [hwf.weights.1, hwf.weights.2, lattice_logX, lattice_logZ]
  simp only [List.map_cons, List.map_nil, uop_length, length_sheetKeys hz, lineKeys, List.length_map,
    length_rangeE]
  exact ⟨trivial, trivial⟩

/-- `code.d` (minimum weight of the listed logicals) is `min wX Lz` -/
theorem reported_distance (hz : 3 ≤ Lz) (hwf : (lattice Lx Ly Lz).WF) :
    distance (lattice Lx Ly Lz).rowsX (lattice Lx Ly Lz).rowsZ = some (min (wX Lx Ly Lz) Lz) :=
  distance_of_weights (weights_listed hz hwf).1 (weights_listed hz hwf).2 rfl rfl

end Panqec.HollowRhombicCode
