/-
Helper lemmas for C19: decimal numerals continued from `Proofs/CliPlan.lean`, the file name is
injective in the bias ratio, the loop of `generate_input` writes one specification per ratio, and the
read-back covers codes × rates.
-/
import PanqecVerif.Proofs.CliPlan
import Mathlib.Data.List.ProdSigma
import Mathlib.Data.List.Nodup

namespace Panqec.Cli

theorem isDigit_digitChar : ∀ d, d < 10 → isDigit (digitChar d) = true := by decide

theorem natStr_all_digits (n : Nat) : ∀ c ∈ natStr n, isDigit c = true := by
  intro c hc
  unfold natStr at hc
  obtain ⟨d, hd, rfl⟩ := List.mem_map.mp hc
  exact isDigit_digitChar d (decDigits_lt_ten n d hd)

theorem natStr_injective {m n : Nat} (h : natStr m = natStr n) : m = n := by
  have := congrArg strVal h
  rwa [strVal_natStr, strVal_natStr] at this

theorem digitChars_injective {a b : List Nat} (ha : ∀ d ∈ a, d < 10) (hb : ∀ d ∈ b, d < 10)
    (h : a.map digitChar = b.map digitChar) : a = b := by
  have h' := congrArg (List.map charDigit) h
  rwa [map_charDigit_digitChar a ha, map_charDigit_digitChar b hb] at h'

theorem digitChars_all_digits (l : List Nat) (hl : ∀ d ∈ l, d < 10) :
    ∀ c ∈ l.map digitChar, isDigit c = true := by
  intro c hc
  obtain ⟨d, hd, rfl⟩ := List.mem_map.mp hc
  exact isDigit_digitChar d (hl d hd)

theorem split_unique {sep : Char} {a a' b b' : List Char} (ha : sep ∉ a) (ha' : sep ∉ a')
    (h : a ++ sep :: b = a' ++ sep :: b') : a = a' ∧ b = b' := by
  -- one of `a`, `a'` is the other followed by some `c`; a non-empty `c` would start with `sep`
  rcases List.append_eq_append_iff.mp h with ⟨c, rfl, hc⟩ | ⟨c, rfl, hc⟩
  · cases c with
    | nil => exact ⟨(List.append_nil a).symm, (List.cons.inj hc).2⟩
    | cons x c => cases hc; exact absurd (by simp) ha'
  · cases c with
    | nil => exact ⟨List.append_nil a', ((List.cons.inj hc).2).symm⟩
    | cons x c => cases hc; exact absurd (by simp) ha

/-- bias ratios as `read_bias_ratios` produces them: fractional digits are digits -/
def Eta.WF : Eta → Prop
  | .flt _ _ fd => ∀ d ∈ fd, d < 10
  | _ => True

theorem not_mem_natStr {c : Char} (hc : isDigit c = false) (n : Nat) : c ∉ natStr n := fun h => by
  rw [natStr_all_digits n c h] at hc; cases hc

/-- the unsigned body `<int>.<frac>` of a float -/
def fltBody (ip : Nat) (fd : List Nat) : List Char := natStr ip ++ '.' :: fd.map digitChar

theorem fltBody_injective {ip ip' : Nat} {fd fd' : List Nat} (h1 : ∀ d ∈ fd, d < 10)
    (h2 : ∀ d ∈ fd', d < 10) (h : fltBody ip fd = fltBody ip' fd') : ip = ip' ∧ fd = fd' := by
  obtain ⟨ha, hb⟩ := split_unique (not_mem_natStr (by decide) ip) (not_mem_natStr (by decide) ip') h
  exact ⟨natStr_injective ha, digitChars_injective h1 h2 hb⟩

theorem not_mem_fltBody {c : Char} (hc : isDigit c = false) (hdot : c ≠ '.') (ip : Nat)
    {fd : List Nat} (h : ∀ d ∈ fd, d < 10) : c ∉ fltBody ip fd := by
  intro hm
  rcases List.mem_append.mp hm with hm | hm
  · exact not_mem_natStr hc ip hm
  · rcases List.mem_cons.mp hm with hm | hm
    · exact hdot hm
    · rw [digitChars_all_digits fd h c hm] at hc; cases hc

/-- signed rendering: `'-' :: body` or `body` -/
def signed (neg : Bool) (body : List Char) : List Char := if neg then '-' :: body else body

theorem signed_injective {n n' : Bool} {b b' : List Char} (hb : '-' ∉ b) (hb' : '-' ∉ b')
    (h : signed n b = signed n' b') : n = n' ∧ b = b' := by
  unfold signed at h
  cases n <;> cases n' <;> simp at h
  · exact ⟨rfl, h⟩
  · exact absurd (by rw [h]; simp) hb
  · exact absurd (by rw [← h]; simp) hb'
  · exact ⟨rfl, h⟩

theorem not_mem_signed {c : Char} {n : Bool} {b : List Char} (hc : c ≠ '-') (hb : c ∉ b) :
    c ∉ signed n b := by
  unfold signed; cases n <;> simp [hc, hb]

theorem Eta.str_int (v : Int) : (Eta.int v).str = signed (decide (v < 0)) (natStr v.natAbs) := by
  unfold Eta.str signed
  by_cases h : v < 0 <;> simp [h]

theorem Eta.str_flt (neg : Bool) (ip : Nat) (fd : List Nat) :
    (Eta.flt neg ip fd).str = signed neg (fltBody ip fd) := by
  unfold Eta.str signed fltBody
  cases neg <;> simp

theorem i_not_mem_str : ∀ {e : Eta}, e.WF → e ≠ .inf → 'i' ∉ e.str
  | .inf, _, he => absurd rfl he
  | .int v, _, _ => by
    rw [Eta.str_int]; exact not_mem_signed (by decide) (not_mem_natStr (by decide) _)
  | .flt neg ip fd, hwf, _ => by
    rw [Eta.str_flt]; exact not_mem_signed (by decide) (not_mem_fltBody (by decide) (by decide) ip hwf)

theorem dot_not_mem_str_int (v : Int) : '.' ∉ (Eta.int v).str := by
  rw [Eta.str_int]; exact not_mem_signed (by decide) (not_mem_natStr (by decide) _)

theorem dot_mem_str_flt (neg : Bool) (ip : Nat) (fd : List Nat) : '.' ∈ (Eta.flt neg ip fd).str := by
  unfold Eta.str; simp

theorem Eta.str_injective {e1 e2 : Eta} (h1 : e1.WF) (h2 : e2.WF) (h : e1.str = e2.str) :
    e1 = e2 := by
  have hi : 'i' ∈ Eta.inf.str := by decide
  by_cases hi1 : e1 = .inf
  · by_cases hi2 : e2 = .inf
    · rw [hi1, hi2]
    · rw [hi1] at h; exact absurd (h ▸ hi) (i_not_mem_str h2 hi2)
  by_cases hi2 : e2 = .inf
  · rw [hi2] at h; exact absurd (h ▸ hi) (i_not_mem_str h1 hi1)
  match e1, e2 with
  | .int v, .int w =>
    rw [Eta.str_int, Eta.str_int] at h
    obtain ⟨hs, hb⟩ := signed_injective (not_mem_natStr (by decide) _) (not_mem_natStr (by decide) _) h
    have hab := natStr_injective hb
    have hs' : (v < 0) ↔ (w < 0) := by simpa using hs
    congr 1
    omega
  | .int v, .flt neg ip fd => exact absurd (h ▸ dot_mem_str_flt neg ip fd) (dot_not_mem_str_int v)
  | .flt neg ip fd, .int v => exact absurd (h ▸ dot_mem_str_flt neg ip fd) (dot_not_mem_str_int v)
  | .flt neg ip fd, .flt neg' ip' fd' =>
    rw [Eta.str_flt, Eta.str_flt] at h
    obtain ⟨hs, hb⟩ := signed_injective (not_mem_fltBody (by decide) (by decide) ip h1)
      (not_mem_fltBody (by decide) (by decide) ip' h2) h
    obtain ⟨hi, hf⟩ := fltBody_injective h1 h2 hb
    rw [hs, hi, hf]

/-- with several ratios the file name determines the ratio -/
theorem fileName_injective {label : List Char} {n : Nat} (hn : 1 < n) {e1 e2 : Eta}
    (h1 : e1.WF) (h2 : e2.WF) (h : fileName label n e1 = fileName label n e2) : e1 = e2 := by
  unfold fileName at h
  simp only [hn, if_true] at h
  have h' := List.append_cancel_right h
  rw [List.append_assoc, List.append_assoc] at h'
  exact Eta.str_injective h1 h2 (List.append_cancel_left (List.append_cancel_left h'))

theorem stripTrailingZeros_subset (ds : List Nat) : ∀ d ∈ stripTrailingZeros ds, d ∈ ds := by
  intro d hd
  unfold stripTrailingZeros at hd
  have h1 := List.mem_reverse.mp hd
  have h2 := (List.dropWhile_sublist _).subset h1
  exact List.mem_reverse.mp h2

theorem charDigit_lt_of_isDigit : ∀ c : Char, isDigit c = true → charDigit c < 10 := by
  intro c h
  unfold isDigit at h
  unfold charDigit
  simp only [Bool.and_eq_true, decide_eq_true_eq] at h
  have h1 : '0'.toNat ≤ c.toNat := h.1
  have h2 : c.toNat ≤ '9'.toNat := h.2
  have e0 : '0'.toNat = 48 := by decide
  have e9 : '9'.toNat = 57 := by decide
  omega

theorem parseBody_frac_digits {n hs : Bool} {b : List Char} {d : DecLit}
    (h : parseBody n hs b = some d) : ∀ x ∈ d.fracDigits, x < 10 := by
  unfold parseBody at h
  split at h
  · split at h
    · exact absurd h (by simp)
    · simp only [Option.some.injEq] at h; subst h; simp
  · rename_i fr _
    split at h
    · rename_i hall
      simp only [Option.some.injEq] at h; subst h
      intro x hx
      obtain ⟨c, hc, rfl⟩ := List.mem_map.mp hx
      simp only [Bool.and_eq_true, List.all_eq_true] at hall
      exact charDigit_lt_of_isDigit c (hall.1 c hc)
    · exact absurd h (by simp)
  · exact absurd h (by simp)

theorem parseDecLit_frac_digits {s : List Char} {d : DecLit} (h : parseDecLit s = some d) :
    ∀ x ∈ d.fracDigits, x < 10 := by
  unfold parseDecLit at h
  split at h <;> exact parseBody_frac_digits h

theorem parseEta_wf {tok : List Char} {e : Eta} (h : parseEta tok = .ok e) : e.WF := by
  unfold parseEta at h
  simp only at h
  split at h
  · cases h; trivial
  · split at h
    · exact absurd h (by simp)
    · rename_i d hd
      split at h
      · split at h
        · exact absurd h (by simp)
        · cases h; trivial
      · cases h
        intro x hx
        exact parseDecLit_frac_digits hd x (stripTrailingZeros_subset _ x hx)

theorem writeAll_ok (a : GenArgs) (rates : List Rat) (n : Nat) (spec : Eta → InputSpec) :
    ∀ etas : List Eta, (∀ e ∈ etas, specFor a rates e = .ok (spec e)) →
      writeAll a rates n etas = (etas.map fun e => (fileName (spec e).label n e, spec e), none) := by
  intro etas
  induction etas with
  | nil => intro _; rfl
  | cons e rest ih =>
    intro h
    unfold writeAll
    rw [h e (by simp), ih (fun e' he' => h e' (by simp [he']))]
    rfl

/-- a later write only replaces a file of the same name: with pairwise distinct names every
    write survives -/
theorem finalFiles_of_nodup : ∀ ws : List (List Char × InputSpec), (ws.map (·.1)).Nodup →
    finalFiles ws = ws
  | [], _ => rfl
  | (n, s) :: rest, h => by
    rw [List.map_cons, List.nodup_cons] at h
    have : rest.any (fun p => p.1 == n) = false :=
      List.any_eq_false.mpr fun p hp hpn => h.1 (List.mem_map.mpr ⟨p, hp, by simpa using hpn⟩)
    rw [finalFiles, this, if_neg Bool.false_ne_true, finalFiles_of_nodup rest h.2]

theorem finalFiles_names_nodup : ∀ ws : List (List Char × InputSpec),
    ((finalFiles ws).map (·.1)).Nodup ∧ ∀ p ∈ finalFiles ws, p ∈ ws
  | [] => ⟨List.nodup_nil, fun _ h => h⟩
  | (n, s) :: rest => by
    have ih := finalFiles_names_nodup rest
    unfold finalFiles
    split
    · exact ⟨ih.1, fun p hp => List.mem_cons_of_mem _ (ih.2 p hp)⟩
    · rename_i hany
      refine ⟨List.nodup_cons.mpr ⟨fun hmem => ?_, ih.1⟩, fun p hp => ?_⟩
      · obtain ⟨p, hp, hpn⟩ := List.mem_map.mp hmem
        exact hany (List.any_eq_true.mpr ⟨p, ih.2 p hp, by simpa using hpn⟩)
      · exact List.mem_cons.mpr ((List.mem_cons.mp hp).imp id (ih.2 p))

theorem coveredPairs_direct {α β : Type} (codes : List α) (rates : List β) :
    (codes.flatMap fun c => rates.map fun r => (c, [r])).flatMap
        (fun s => s.2.map fun r => (s.1, r)) = codes.product rates := by
  simp [List.product, List.flatMap_assoc, List.map_eq_flatMap]

theorem coveredPairs_splitting {α β : Type} (codes : List α) (rates : List β) :
    (codes.map fun c => (c, rates)).flatMap (fun s => s.2.map fun r => (s.1, r)) =
      codes.product rates := by
  simp [List.product, List.flatMap_map]

theorem length_flatMap_map {α β γ : Type} (codes : List α) (rates : List β) (f : α → β → γ) :
    (codes.flatMap fun c => rates.map fun r => f c r).length = codes.length * rates.length := by
  simp [List.length_flatMap]

theorem parametersRange_length {α : Type} (l : List α) (h : l ≠ []) :
    (parametersRange l).length = l.length := by
  unfold parametersRange
  cases l with
  | nil => exact absurd rfl h
  | cons a l => simp

theorem parametersRange_nodup {α : Type} (l : List α) (h : l.Nodup) :
    (parametersRange l).Nodup := by
  unfold parametersRange
  cases l with
  | nil => simp
  | cons a l =>
    simp only [List.isEmpty_cons, Bool.false_eq_true, if_false]
    exact h.map (fun _ _ hab => Option.some.inj hab)

theorem mem_parametersRange {α : Type} (l : List α) (x : α) :
    some x ∈ parametersRange l ↔ l ≠ [] ∧ x ∈ l := by
  unfold parametersRange
  cases l <;> simp

end Panqec.Cli
