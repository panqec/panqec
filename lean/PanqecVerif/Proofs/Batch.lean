/-
Helper lemmas for C12: the invariant `Inv` of the batch save/load/crash/restart protocol
(`Model/Batch.lean`), well-formed documents (`IdsOK`), loading and running one simulation.
`fileDoc` is the same function as `RunFile.docOf` of `Model/RunFile.lean` (`RunFile.docOf_eq_fileDoc`).
-/
import PanqecVerif.Model.Batch

namespace Panqec.Batch

/-- records of a results file (`[]` unless the file is a complete document) -/
def fileDoc : FileSt → Doc
  | .complete d => d
  | _ => []

/-- the three result lists hold the same trials and `n_runs` is their length -/
def Sim.WF (s : Sim) : Prop := s.su = s.ee ∧ s.cs = s.ee ∧ s.nRuns = s.ee.length

/-- a list of records without duplicated simulations, duplicated trials, or unknown trial ids -/
structure IdsOK (l : List Sim) (next : Nat) : Prop where
  inputsNodup : (l.map (·.inputs)).Nodup
  each : ∀ s ∈ l, s.WF ∧ s.ee.Nodup ∧ ∀ id ∈ s.ee, id < next
  cross : ∀ s ∈ l, ∀ t ∈ l, s.inputs ≠ t.inputs → ∀ id ∈ s.ee, id ∉ t.ee

/-- what the trial loop guarantees at each program point -/
def LoopOK (p : Proc) (file : FileSt) : Prop :=
  match p.pc with
  | .trial i => i < p.n ∧ (∀ s ∈ p.front, i + 1 ≤ s.nRuns) ∧ (∀ s ∈ p.back, i ≤ s.nRuns)
  | .save i _ _ _ => i < p.n ∧ p.front = [] ∧ (∀ s ∈ p.back, i + 1 ≤ s.nRuns)
  | .done => p.front = [] ∧ (∀ s ∈ p.back, p.n ≤ s.nRuns) ∧ (1 ≤ p.n → ∀ s ∈ p.back, s ∈ fileDoc file)
  | .failed _ => False
  | _ => True

def Pc.atRename : Pc → Bool
  | .save _ _ _ (.first .rename) => true
  | .save _ _ _ (.second .rename) => true
  | _ => false

/-- the invariant of the atomic protocol -/
structure Inv (w : World) : Prop where
  atomicOK : w.atomic = true
  fileOK : w.disk.file = .absent ∨ ∃ d, w.disk.file = .complete d
  memOK : IdsOK w.proc.mem w.next
  docOK : IdsOK (fileDoc w.disk.file) w.next
  specMem : w.proc.mem.map (·.inputs) = w.proc.spec
  sfOK : 1 ≤ w.proc.sf
  pre : ∀ r ∈ fileDoc w.disk.file, ∃ s ∈ w.proc.mem, s.inputs = r.inputs ∧ r.ee <+: s.ee
  renameOK : w.proc.pc.atRename = true → w.disk.tmp = .complete w.proc.mem
  counts : ∀ s ∈ w.proc.mem, s.nRuns ≤ w.proc.n
  loopOK : LoopOK w.proc w.disk.file

/-- admissible events: a (re)start uses a non-empty specification without duplicates that
    contains every simulation already in the file, a target not below the recorded counts and a
    save frequency ≥ 1; the file is not modified from outside -/
def EvOK (w : World) : Ev → Prop
  | .start spec n sf =>
    spec ≠ [] ∧ spec.Nodup ∧ 1 ≤ sf ∧ ∀ r ∈ fileDoc w.disk.file, r.inputs ∈ spec ∧ r.nRuns ≤ n
  | .put _ => False
  | _ => True

def AllOK : World → List Ev → Prop
  | _, [] => True
  | w, e :: es => EvOK w e ∧ AllOK (apply w e) es

/-- every record of `f` is an unchanged prefix of a record of `f'` -/
def FileLE (f f' : FileSt) : Prop :=
  ∀ r ∈ fileDoc f, ∃ r' ∈ fileDoc f', r'.inputs = r.inputs ∧ r.ee <+: r'.ee ∧ r.su <+: r'.su ∧ r.cs <+: r'.cs

theorem Sim.WF.lengths {s : Sim} (h : s.WF) :
    s.ee.length = s.nRuns ∧ s.su.length = s.nRuns ∧ s.cs.length = s.nRuns :=
  ⟨h.2.2.symm, by rw [h.1]; exact h.2.2.symm, by rw [h.2.1]; exact h.2.2.symm⟩

theorem fresh_WF (x : Nat) : (fresh x).WF := by simp [fresh, Sim.WF]

theorem loadSim_inputs (od : Option Doc) (x : Nat) : (loadSim od x).inputs = x := by
  unfold loadSim
  cases od with
  | none => rfl
  | some d =>
    simp only
    cases findRec d x <;> rfl

theorem findRec_some {d : Doc} {x : Nat} {r : Sim} (h : findRec d x = some r) :
    r ∈ d ∧ r.inputs = x := by
  unfold findRec at h
  have h1 := List.mem_of_find?_eq_some h
  have h2 := List.find?_some h
  exact ⟨h1, by simpa using h2⟩

theorem loadSim_cases (od : Option Doc) (x : Nat) :
    loadSim od x = fresh x ∨ ∃ d, od = some d ∧ loadSim od x ∈ d ∧ (loadSim od x).inputs = x := by
  cases od with
  | none => left; rfl
  | some d =>
    cases h : findRec d x with
    | none => left; simp [loadSim, h]
    | some r =>
      right
      obtain ⟨hm, hx⟩ := findRec_some h
      refine ⟨d, rfl, ?_, loadSim_inputs _ _⟩
      have : loadSim (some d) x = r := by
        simp only [loadSim, h]
        cases r; simp_all
      rw [this]; exact hm

theorem loadSim_fresh_or_mem {d : Doc} {od : Option Doc} (hod : od = none ∨ od = some d) (x : Nat) :
    loadSim od x = fresh x ∨ (loadSim od x ∈ d ∧ (loadSim od x).inputs = x) := by
  rcases loadSim_cases od x with h | ⟨d', hd', hm, hx⟩
  · exact Or.inl h
  · rcases hod with h | h <;> rw [h] at hd' <;> cases hd'
    exact Or.inr ⟨hm, hx⟩

theorem findRec_of_mem {d : Doc} (hn : (d.map (·.inputs)).Nodup) {r : Sim} (hr : r ∈ d) :
    findRec d r.inputs = some r := by
  obtain ⟨as, bs, rfl⟩ := List.append_of_mem hr
  refine List.find?_eq_some_iff_append.mpr ⟨by simp, as, bs, rfl, fun a ha => ?_⟩
  rw [List.map_append, List.map_cons, List.nodup_append] at hn
  simpa using hn.2.2 a.inputs (List.mem_map_of_mem ha) r.inputs (List.mem_cons_self ..)

theorem loadSim_of_mem {d : Doc} (hn : (d.map (·.inputs)).Nodup) {r : Sim} (hr : r ∈ d) :
    loadSim (some d) r.inputs = r := by
  simp only [loadSim, findRec_of_mem hn hr]

theorem minRuns_le : ∀ (l : List Sim) (s : Sim), s ∈ l → minRuns l ≤ s.nRuns
  | [], _, h => by cases h
  | [a], s, h => by
    simp only [List.mem_singleton] at h
    subst h; simp [minRuns]
  | a :: b :: t, s, h => by
    have ih := minRuns_le (b :: t) s
    simp only [minRuns]
    rcases List.mem_cons.mp h with rfl | h'
    · exact Nat.min_le_left _ _
    · exact Nat.le_trans (Nat.min_le_right _ _) (ih h')

theorem IdsOK.nil (next : Nat) : IdsOK [] next :=
  ⟨by simp, by simp, by simp⟩

theorem IdsOK.mono {l : List Sim} {a b : Nat} (h : IdsOK l a) (hab : a ≤ b) : IdsOK l b :=
  ⟨h.inputsNodup, fun s hs => ⟨(h.each s hs).1, (h.each s hs).2.1,
    fun id hid => Nat.lt_of_lt_of_le ((h.each s hs).2.2 id hid) hab⟩, h.cross⟩

theorem IdsOK.tail {a : Sim} {t : List Sim} {next : Nat} (h : IdsOK (a :: t) next) : IdsOK t next := by
  refine ⟨?_, fun s hs => h.each s (List.mem_cons_of_mem _ hs),
    fun s hs u hu => h.cross s (List.mem_cons_of_mem _ hs) u (List.mem_cons_of_mem _ hu)⟩
  have := h.inputsNodup
  simp only [List.map_cons, List.nodup_cons] at this
  exact this.2

theorem IdsOK.flat_nodup : ∀ {d : List Sim} {next : Nat}, IdsOK d next → (d.flatMap (·.ee)).Nodup
  | [], _, _ => by simp
  | a :: t, next, h => by
    have ih := IdsOK.flat_nodup h.tail
    simp only [List.flatMap_cons]
    rw [List.nodup_append]
    refine ⟨(h.each a (by simp)).2.1, ih, ?_⟩
    intro x hx y hy
    obtain ⟨u, hu, hyu⟩ := List.mem_flatMap.mp hy
    have hn := h.inputsNodup
    simp only [List.map_cons, List.nodup_cons] at hn
    have hne : a.inputs ≠ u.inputs := by
      intro he
      exact hn.1 (he ▸ List.mem_map.mpr ⟨u, hu, rfl⟩)
    intro hxy
    subst hxy
    exact h.cross a (by simp) u (List.mem_cons_of_mem _ hu) hne x hx hyu

theorem exists_bound : ∀ (d : List Sim), ∃ N, ∀ s ∈ d, s.nRuns ≤ N
  | [] => ⟨0, fun _ h => by cases h⟩
  | a :: t => by
    obtain ⟨N, hN⟩ := exists_bound t
    refine ⟨max a.nRuns N, fun s hs => ?_⟩
    rcases List.mem_cons.mp hs with rfl | h
    · exact Nat.le_max_left _ _
    · exact Nat.le_trans (hN s h) (Nat.le_max_right _ _)

theorem idsOK_load {d : Doc} {next : Nat} (hd : IdsOK d next) (od : Option Doc)
    (hod : od = none ∨ od = some d) {spec : List Nat} (hs : spec.Nodup) :
    IdsOK (spec.map (loadSim od)) next := by
  have hmem := loadSim_fresh_or_mem hod
  refine ⟨?_, ?_, ?_⟩
  · have : (spec.map (loadSim od)).map (·.inputs) = spec := by
      simp [List.map_map, Function.comp_def, loadSim_inputs]
    rw [this]; exact hs
  · intro s hs'
    obtain ⟨x, _, rfl⟩ := List.mem_map.mp hs'
    rcases hmem x with h | ⟨hm, _⟩
    · rw [h]; exact ⟨fresh_WF x, by simp [fresh], by simp [fresh]⟩
    · exact hd.each _ hm
  · intro s hs' t ht hne id hid
    obtain ⟨x, _, rfl⟩ := List.mem_map.mp hs'
    obtain ⟨y, _, rfl⟩ := List.mem_map.mp ht
    rcases hmem x with h | ⟨hm, _⟩
    · rw [h] at hid; simp [fresh] at hid
    · rcases hmem y with h' | ⟨hm', _⟩
      · rw [h']; simp [fresh]
      · exact hd.cross _ hm _ hm' hne id hid

theorem runOne_inputs (s : Sim) (id : Nat) : (s.runOne id).inputs = s.inputs := rfl

theorem idsOK_runOne {front rest : List Sim} {s : Sim} {next : Nat}
    (h : IdsOK (front ++ s :: rest) next) :
    IdsOK ((front ++ [s.runOne next]) ++ rest) (next + 1) := by
  have hs : s ∈ front ++ s :: rest := by simp
  have hold : ∀ t, t ∈ (front ++ [s.runOne next]) ++ rest →
      t = s.runOne next ∨ t ∈ front ++ s :: rest := by
    intro t ht
    simp only [List.mem_append, List.mem_cons, List.not_mem_nil, or_false] at ht ⊢
    rcases ht with (h1 | h1) | h1
    · exact Or.inr (Or.inl h1)
    · exact Or.inl h1
    · exact Or.inr (Or.inr (Or.inr h1))
  obtain ⟨hwf, hnd, hlt⟩ := h.each s hs
  have hnew : (s.runOne next).WF ∧ (s.runOne next).ee.Nodup ∧ ∀ id ∈ (s.runOne next).ee, id < next + 1 := by
    obtain ⟨h1, h2, h3⟩ := hwf
    refine ⟨⟨by simp [Sim.runOne, h1], by simp [Sim.runOne, h2], by simp [Sim.runOne, h3]⟩, ?_, ?_⟩
    · simp only [Sim.runOne]
      rw [List.nodup_append]
      refine ⟨hnd, by simp, ?_⟩
      intro a ha b hb
      simp only [List.mem_singleton] at hb
      subst hb
      exact Nat.ne_of_lt (hlt a ha)
    · intro id hid
      simp only [Sim.runOne, List.mem_append, List.mem_singleton] at hid
      rcases hid with hid | rfl
      · exact Nat.lt_succ_of_lt (hlt id hid)
      · exact Nat.lt_succ_self _
  -- the new trial is `next`, above every recorded identifier: new in `s` and absent from every other record
  refine ⟨?_, ?_, ?_⟩
  · have : ((front ++ [s.runOne next]) ++ rest).map (·.inputs) = (front ++ s :: rest).map (·.inputs) := by
      simp [runOne_inputs]
    rw [this]; exact h.inputsNodup
  · intro t ht
    rcases hold t ht with rfl | ht'
    · exact hnew
    · obtain ⟨a, b, c⟩ := h.each t ht'
      exact ⟨a, b, fun id hid => Nat.lt_succ_of_lt (c id hid)⟩
  · intro t ht u hu hne id hid
    rcases hold t ht with rfl | ht'
    · rcases hold u hu with rfl | hu'
      · exact absurd rfl hne
      · simp only [Sim.runOne, List.mem_append, List.mem_singleton] at hid
        rcases hid with hid | rfl
        · exact h.cross s hs u hu' hne id hid
        · intro hmem
          exact Nat.lt_irrefl _ ((h.each u hu').2.2 _ hmem)
    · rcases hold u hu with rfl | hu'
      · simp only [Sim.runOne, List.mem_append, List.mem_singleton, not_or]
        refine ⟨h.cross t ht' s hs hne id hid, ?_⟩
        exact Nat.ne_of_lt ((h.each t ht').2.2 id hid)
      · exact h.cross t ht' u hu' hne id hid

theorem pre_runOne {front rest : List Sim} {s : Sim} {next : Nat} {doc : Doc}
    (h : ∀ r ∈ doc, ∃ t ∈ front ++ s :: rest, t.inputs = r.inputs ∧ r.ee <+: t.ee) :
    ∀ r ∈ doc, ∃ t ∈ (front ++ [s.runOne next]) ++ rest, t.inputs = r.inputs ∧ r.ee <+: t.ee := by
  intro r hr
  obtain ⟨t, ht, hi, hp⟩ := h r hr
  simp only [List.mem_append, List.mem_cons] at ht
  rcases ht with ht | rfl | ht
  · exact ⟨t, by simp [ht], hi, hp⟩
  · refine ⟨t.runOne next, by simp, hi, ?_⟩
    exact List.IsPrefix.trans hp (List.prefix_append _ _)
  · exact ⟨t, by simp [ht], hi, hp⟩

end Panqec.Batch
