/-
Color666ToricCode, square sizes `L ≥ 1`: the four strings of qubits carrying the logical operators
(`keysA`, `keysB`: winding around the torus in `x`; `keysC`, `keysD`: in the columns `x = 3, 4`,
winding in `y`).  Every key the class lists lies in the fundamental domain, so it is its own
canonical representative: it is literally the corner `qR a j` / `qL a j` with `(3a+4, 2+2a+4j)`
resp. `(3a, 2+2a+4j)` equal to the key; so each string is, as a set of qubits, a zig-zag of a frame —
`kC = Z 0 0` and `kD = Z 1 0` in the frame `false`, `kA = Z 1 0` and `kB = Z 0 1` in the frame
`true` (`List.Perm`); the periodic identification (`fR_congr`) absorbs the few keys the class
wraps.  The logical operators as dicts (distinct keys).
-/
import Batteries.Data.List.Perm
import PanqecVerif.Proofs.LatColor666ToricCodeZig

namespace Panqec.Color666ToricCode
open Panqec.Lat2D Panqec.Color

/-- the strings `A`, `B` as linear conditions on the coordinates (not used: the strings are
    described as zig-zags below) -/
def PA (L : Nat) (a b : Int) : Prop :=
  (a % 9 = 4 ∧ 3 * b + 2 * a = 36 * (L : Int) + 2) ∨
  (a % 9 = 6 ∧ 3 * b + 2 * a = 36 * (L : Int) + 6) ∨
  (a % 9 = 0 ∧ (3 * b + 2 * a = 36 * (L : Int) + 6 ∨ 3 * b + 2 * a = 6)) ∨
  (a % 9 = 1 ∧ (3 * b + 2 * a = 36 * (L : Int) + 2 ∨ 3 * b + 2 * a = 2))

def PB (L : Nat) (a b : Int) : Prop :=
  ((a % 9 = 0 ∨ a % 9 = 6) ∧ 3 * b + 2 * a = 36 * (L : Int) - 6) ∨
  ((a % 9 = 1 ∨ a % 9 = 4) ∧ 3 * b + 2 * a = 36 * (L : Int) - 10)

instance (L : Nat) (a b : Int) : Decidable (PA L a b) := by unfold PA; infer_instance
instance (L : Nat) (a b : Int) : Decidable (PB L a b) := by unfold PB; infer_instance

/-- the key lists with the `is_qubit` branch of the first one resolved -/
def kA (L : Nat) : List Coord := keysA (isQubit L L) L L
def kB (L : Nat) : List Coord := keysB L L
def kC (L : Nat) : List Coord := keysC L
def kD (L : Nat) : List Coord := keysD L

/-- the `is_qubit` branch of the first string fails only in the last block, where `x + 1 = 9L` -/
theorem branchA {L : Nat} (hL : 1 ≤ L) {x : Int} (h1 : 8 ≤ x)
    (h3 : (x - 8) % 9 = 0) :
    isQubit L L [x + 1, 12 * (L : Int) - 6 - (6 * (x - 8)) / 9 + 2] = true ↔ x + 1 < 9 * (L : Int) := by
  rw [isQubit_iff hL]
  constructor
  · intro h
    have := h.1.2.1
    omega
  · intro h
    apply isQ_left <;> omega

theorem length_blocks (a : Nat) (b : Int) (s : Nat) (f : Int → List Coord)
    (hf : ∀ x, (f x).length = 4) :
    ((pyRangeStep a b s).flatMap f).length = ((b - (a : Int)).toNat + s - 1) / s * 4 := by
  rw [length_flatMap_const _ _ 4 fun x _ => hf x]
  unfold pyRangeStep
  rw [List.length_map, List.length_range']

theorem length_kA (L : Nat) : (kA L).length = 4 * L := by
  unfold kA keysA
  rw [length_blocks _ _ _ _ fun x => by dsimp only; split <;> rfl]
  omega

theorem length_kB (L : Nat) : (kB L).length = 4 * L := by
  unfold kB keysB
  rw [length_blocks _ _ _ _ fun _ => rfl]
  omega

theorem length_kC (L : Nat) : (kC L).length = 4 * L := by
  unfold kC keysC
  rw [length_blocks _ _ _ _ fun _ => rfl]
  omega

theorem length_kD (L : Nat) : (kD L).length = 4 * L := by
  unfold kD keysD
  rw [length_blocks _ _ _ _ fun _ => rfl]
  omega

theorem key_fR_false {L : Nat} (hL : 1 ≤ L) {x y : Int} (hD : InD L x y) (a0 j0 : Int)
    (ex : x = 3 * a0 + 4) (ey : y = 2 + 2 * a0 + 4 * j0) {a j : Int} (h1 : Cg L (a - a0))
    (h2 : Cg L (j - j0)) : [x, y] = fR L false a j := by
  rw [← cn_id hL hD, ex, ey]
  exact fR_congr hL false (a := a0) (j := j0) h1 h2

theorem key_fL_false {L : Nat} (hL : 1 ≤ L) {x y : Int} (hD : InD L x y) (a0 j0 : Int)
    (ex : x = 3 * a0) (ey : y = 2 + 2 * a0 + 4 * j0) {a j : Int} (h1 : Cg L (a - a0))
    (h2 : Cg L (j - j0)) : [x, y] = fL L false a j := by
  rw [← cn_id hL hD, ex, ey]
  exact fL_congr hL false (a := a0) (j := j0) h1 h2

theorem key_fR_true {L : Nat} (hL : 1 ≤ L) {x y : Int} (hD : InD L x y) (a0 j0 : Int)
    (ex : x = 3 * a0 + 4) (ey : y = 2 + 2 * a0 + 4 * j0) {a j : Int} (h1 : Cg L (j - 1 - a0))
    (h2 : Cg L (-a - j - j0)) : [x, y] = fR L true a j := by
  rw [fR_true]
  exact key_fR_false hL hD a0 j0 ex ey h1 h2

theorem key_fL_true {L : Nat} (hL : 1 ≤ L) {x y : Int} (hD : InD L x y) (a0 j0 : Int)
    (ex : x = 3 * a0) (ey : y = 2 + 2 * a0 + 4 * j0) {a j : Int} (h1 : Cg L (j + 1 - a0))
    (h2 : Cg L (-a - j - j0)) : [x, y] = fL L true a j := by
  rw [fL_true]
  exact key_fL_false hL hD a0 j0 ex ey h1 h2

/-- a multiple of the period with a literal factor -/
theorem cg_lit (L : Nat) (k : Int) {x : Int} (e : x = 3 * (L : Int) * k) : Cg L x := ⟨k, e⟩

/-- the block before the block `i'` (cyclically) -/
theorem wrap_idx {L : Nat} (hL : 1 ≤ L) (i' : Nat) (hi' : i' < L) :
    ∃ i : Nat, i < L ∧ Cg L (3 * (i : Int) + 3 - 3 * (i' : Int)) := by
  by_cases h : i' = 0
  · exact ⟨L - 1, by omega, cg_lit L 1 (by omega)⟩
  · exact ⟨i' - 1, by omega, cg_lit L 0 (by omega)⟩

theorem inD_of {L : Nat} {x y : Int} (h0 : 0 < x) (h1 : x < 9 * (L : Int))
    (h2 : 2 * (x - 2) / 3 ≤ y) (h3 : y < 12 * (L : Int) + 2 * (x - 2) / 3) : InD L x y := by
  unfold InD skew; omega

/-- the block after the block `i` (cyclically) -/
theorem wrap_next {L : Nat} (i : Nat) (hi : i < L) :
    ∃ i' : Nat, i' < L ∧ Cg L (3 * (i : Int) + 3 - 3 * (i' : Int)) := by
  by_cases h : i + 1 = L
  · exact ⟨0, by omega, cg_lit L 1 (by omega)⟩
  · exact ⟨i + 1, by omega, cg_lit L 0 (by omega)⟩

theorem zig_sub_kC {L : Nat} (hL : 1 ≤ L) : ∀ q ∈ zigK L false 0 0, q ∈ kC L := by
  intro q hq
  obtain ⟨i, d, hi, h⟩ := mem_zigK.mp hq
  unfold kC keysC
  refine List.mem_flatMap.mpr ⟨12 * (i : Int) + 8,
    (mem_pyRangeStep (s := 12) (by decide)).mpr (by omega), ?_⟩
  simp only [List.mem_cons, List.not_mem_nil, or_false]
  rcases h with ⟨rfl, rfl | rfl⟩ | ⟨rfl, rfl | rfl⟩
  · exact Or.inr (Or.inr (Or.inr (key_fR_false hL (inD_of (by omega) (by omega) (by omega) (by omega))
      0 (3 * (i : Int)) (by omega) (by omega) (cg_lit L 0 (by omega)) (cg_lit L 0 (by omega))).symm))
  · exact Or.inl (key_fR_false hL (inD_of (by omega) (by omega) (by omega) (by omega))
      0 (3 * (i : Int) + 2) (by omega) (by omega) (cg_lit L 0 (by omega)) (cg_lit L 0 (by omega))).symm
  · exact Or.inr (Or.inr (Or.inl (key_fL_false hL (inD_of (by omega) (by omega) (by omega) (by omega))
      1 (3 * (i : Int)) (by omega) (by omega) (cg_lit L 0 (by omega)) (cg_lit L 0 (by omega))).symm))
  · exact Or.inr (Or.inl (key_fL_false hL (inD_of (by omega) (by omega) (by omega) (by omega))
      1 (3 * (i : Int) + 1) (by omega) (by omega) (cg_lit L 0 (by omega)) (cg_lit L 0 (by omega))).symm)

theorem zig_sub_kD {L : Nat} (hL : 1 ≤ L) : ∀ q ∈ zigK L false 1 0, q ∈ kD L := by
  intro q hq
  obtain ⟨i, d, hi, h⟩ := mem_zigK.mp hq
  -- the upper two corners of the block `i` are the keys `(4, 12i' + 2)`, `(3, 12i')` that the class
  -- lists in its next turn `i'`, the last turn closing the first block
  obtain ⟨i', hi', hw⟩ := wrap_next i hi
  unfold kD keysD
  have blk : ∀ k : Nat, k < L → ∀ {q}, q ∈ [[3, 12 * (k : Int) + 8], [4, 12 * (k : Int) + 8 - 2],
      [4, 12 * (k : Int) + 8 - 6], [3, 12 * (k : Int) + 8 - 8]] →
      q ∈ (pyRangeStep 8 (12 * (L : Int)) 12).flatMap fun y =>
        [[3, y], [4, y - 2], [4, y - 6], [3, y - 8]] := fun k hk q hq =>
    List.mem_flatMap.mpr ⟨12 * (k : Int) + 8, (mem_pyRangeStep (s := 12) (by decide)).mpr (by omega), hq⟩
  simp only [List.mem_cons, List.not_mem_nil, or_false] at blk
  rcases h with ⟨rfl, rfl | rfl⟩ | ⟨rfl, rfl | rfl⟩
  · exact blk i hi (Or.inr (Or.inl (key_fR_false hL (inD_of (by omega) (by omega) (by omega) (by omega))
      0 (3 * (i : Int) + 1) (by omega) (by omega) (cg_lit L 0 (by omega)) (cg_lit L 0 (by omega))).symm))
  · exact blk i' hi' (Or.inr (Or.inr (Or.inl (key_fR_false hL (inD_of (by omega) (by omega) (by omega) (by omega))
      0 (3 * (i' : Int)) (by omega) (by omega) (cg_lit L 0 (by omega)) (hw.congr (by omega))).symm)))
  · exact blk i hi (Or.inl (key_fL_false hL (inD_of (by omega) (by omega) (by omega) (by omega))
      1 (3 * (i : Int) + 1) (by omega) (by omega) (cg_lit L 0 (by omega)) (cg_lit L 0 (by omega))).symm)
  · exact blk i' hi' (Or.inr (Or.inr (Or.inr (key_fL_false hL (inD_of (by omega) (by omega) (by omega) (by omega))
      1 (3 * (i' : Int) - 1) (by omega) (by omega) (cg_lit L 0 (by omega)) (hw.congr (by omega))).symm)))

theorem zig_sub_kA {L : Nat} (hL : 1 ≤ L) : ∀ q ∈ zigK L true 1 0, q ∈ kA L := by
  intro q hq
  obtain ⟨i, d, hi, h⟩ := mem_zigK.mp hq
  have hb := branchA hL (x := 9 * (i : Int) + 8) (by omega) (by omega)
  unfold kA keysA
  refine List.mem_flatMap.mpr ⟨9 * (i : Int) + 8, (mem_pyRangeStep (s := 9) (by decide)).mpr (by omega), ?_⟩
  dsimp only
  rw [show 6 * (9 * (i : Int) + 8 - 8) / 9 = 6 * (i : Int) by omega] at hb ⊢
  simp only [List.mem_append, List.mem_cons, List.not_mem_nil, or_false]
  rcases h with ⟨rfl, rfl | rfl⟩ | ⟨rfl, rfl | rfl⟩
  · exact Or.inl (Or.inl (key_fR_true hL (inD_of (by omega) (by omega) (by omega) (by omega)) (3 * (i : Int))
      (3 * (L : Int) - 1 - 3 * (i : Int)) (by omega) (by omega) (cg_lit L 0 (by omega))
      (cg_lit L (-1) (by omega))).symm)
  · right
    by_cases hw : 9 * (i : Int) + 8 + 1 < 9 * (L : Int)
    · rw [if_pos (hb.mpr hw)]
      simp only [List.mem_cons, List.not_mem_nil, or_false]
      exact Or.inr (key_fR_true hL (inD_of (by omega) (by omega) (by omega) (by omega)) (3 * (i : Int) + 2)
        (3 * (L : Int) - 3 * (i : Int) - 3) (by omega) (by omega) (cg_lit L 0 (by omega))
        (cg_lit L (-1) (by omega))).symm
    -- the last turn fails the `is_qubit` test and closes the block with the keys `(0, 2)`, `(1, 0)`
    · rw [if_neg (fun e => hw (hb.mp e))]
      simp only [List.mem_cons, List.not_mem_nil, or_false]
      exact Or.inr (key_fR_true hL (inD_of (by omega) (by omega) (by omega) (by omega)) (-1) 0 (by omega) (by omega)
        (cg_lit L 1 (by omega)) (cg_lit L (-1) (by omega))).symm
  · exact Or.inl (Or.inr (key_fL_true hL (inD_of (by omega) (by omega) (by omega) (by omega)) (3 * (i : Int) + 2)
      (3 * (L : Int) - 2 - 3 * (i : Int)) (by omega) (by omega) (cg_lit L 0 (by omega))
      (cg_lit L (-1) (by omega))).symm)
  · right
    by_cases hw : 9 * (i : Int) + 8 + 1 < 9 * (L : Int)
    · rw [if_pos (hb.mpr hw)]
      simp only [List.mem_cons, List.not_mem_nil, or_false]
      exact Or.inl (key_fL_true hL (inD_of (by omega) (by omega) (by omega) (by omega)) (3 * (i : Int) + 3)
        (3 * (L : Int) - 3 * (i : Int) - 3) (by omega) (by omega) (cg_lit L 0 (by omega))
        (cg_lit L (-1) (by omega))).symm
    · rw [if_neg (fun e => hw (hb.mp e))]
      simp only [List.mem_cons, List.not_mem_nil, or_false]
      exact Or.inl (key_fL_true hL (by unfold InD; omega) 0 0 (by omega) (by omega)
        (cg_lit L 1 (by omega)) (cg_lit L (-1) (by omega))).symm

theorem zig_sub_kB {L : Nat} (hL : 1 ≤ L) : ∀ q ∈ zigK L true 0 1, q ∈ kB L := by
  intro q hq
  obtain ⟨i, d, hi, h⟩ := mem_zigK.mp hq
  -- as for `kD`: the first two keys of the turn `i'` belong to the block before it
  obtain ⟨i', hi', hw⟩ := wrap_next i hi
  have blk : ∀ k : Nat, k < L → ∀ {q}, q ∈ [[9 * (k : Int) + 5 - 5, 12 * (L : Int) - 4 - 6 * (k : Int) + 2],
      [9 * (k : Int) + 5 - 4, 12 * (L : Int) - 4 - 6 * (k : Int)],
      [9 * (k : Int) + 5 - 1, 12 * (L : Int) - 4 - 6 * (k : Int) - 2],
      [9 * (k : Int) + 5 + 1, 12 * (L : Int) - 4 - 6 * (k : Int) - 2]] → q ∈ kB L := fun k hk q hq => by
    unfold kB keysB
    refine List.mem_flatMap.mpr ⟨9 * (k : Int) + 5, (mem_pyRangeStep (s := 9) (by decide)).mpr (by omega), ?_⟩
    dsimp only
    rw [show 6 * (9 * (k : Int) + 5 - 5) / 9 = 6 * (k : Int) by omega]
    exact hq
  simp only [List.mem_cons, List.not_mem_nil, or_false] at blk
  rcases h with ⟨rfl, rfl | rfl⟩ | ⟨rfl, rfl | rfl⟩
  · exact blk i hi (Or.inr (Or.inr (Or.inl (key_fR_true hL (inD_of (by omega) (by omega) (by omega) (by omega)) (3 * (i : Int))
      (3 * (L : Int) - 2 - 3 * (i : Int)) (by omega) (by omega) (cg_lit L 0 (by omega))
      (cg_lit L (-1) (by omega))).symm)))
  · exact blk i' hi' (Or.inr (Or.inl (key_fR_true hL (inD_of (by omega) (by omega) (by omega) (by omega)) (3 * (i' : Int) - 1)
      (3 * (L : Int) - 1 - 3 * (i' : Int)) (by omega) (by omega) (hw.congr (by omega))
      ((hw.neg.sub (cg_period L)).congr (by omega))).symm))
  · exact blk i hi (Or.inr (Or.inr (Or.inr (key_fL_true hL (inD_of (by omega) (by omega) (by omega) (by omega)) (3 * (i : Int) + 2)
      (3 * (L : Int) - 3 - 3 * (i : Int)) (by omega) (by omega) (cg_lit L 0 (by omega))
      (cg_lit L (-1) (by omega))).symm)))
  · exact blk i' hi' (Or.inl (key_fL_true hL (by unfold InD skew; omega) (3 * (i' : Int))
      (3 * (L : Int) - 1 - 3 * (i' : Int)) (by omega) (by omega) (hw.congr (by omega))
      ((hw.neg.sub (cg_period L)).congr (by omega))).symm)

theorem perm_of_sup {K Z : List Coord} (hZ : Z.Nodup) (hsub : ∀ q ∈ Z, q ∈ K)
    (hlen : K.length ≤ Z.length) : K.Perm Z :=
  ((List.subperm_of_subset hZ hsub).perm_of_length_le hlen).symm

theorem kC_perm {L : Nat} (hL : 1 ≤ L) : (kC L).Perm (zigK L false 0 0) :=
  perm_of_sup (nodup_zigK hL ..) (zig_sub_kC hL) (by rw [length_zigK, length_kC])
theorem kD_perm {L : Nat} (hL : 1 ≤ L) : (kD L).Perm (zigK L false 1 0) :=
  perm_of_sup (nodup_zigK hL ..) (zig_sub_kD hL) (by rw [length_zigK, length_kD])
theorem kA_perm {L : Nat} (hL : 1 ≤ L) : (kA L).Perm (zigK L true 1 0) :=
  perm_of_sup (nodup_zigK hL ..) (zig_sub_kA hL) (by rw [length_zigK, length_kA])
theorem kB_perm {L : Nat} (hL : 1 ≤ L) : (kB L).Perm (zigK L true 0 1) :=
  perm_of_sup (nodup_zigK hL ..) (zig_sub_kB hL) (by rw [length_zigK, length_kB])

theorem nodup_kA {L : Nat} (hL : 1 ≤ L) : (kA L).Nodup := (kA_perm hL).nodup_iff.mpr (nodup_zigK hL ..)
theorem nodup_kB {L : Nat} (hL : 1 ≤ L) : (kB L).Nodup := (kB_perm hL).nodup_iff.mpr (nodup_zigK hL ..)
theorem nodup_kC {L : Nat} (hL : 1 ≤ L) : (kC L).Nodup := (kC_perm hL).nodup_iff.mpr (nodup_zigK hL ..)
theorem nodup_kD {L : Nat} (hL : 1 ≤ L) : (kD L).Nodup := (kD_perm hL).nodup_iff.mpr (nodup_zigK hL ..)

theorem logX_eq {L : Nat} (hL : 1 ≤ L) : logX L L =
    [(kA L).map (fun q => (q, Pauli.X)), (kB L).map (fun q => (q, Pauli.X)),
     (kC L).map (fun q => (q, Pauli.X)), (kD L).map (fun q => (q, Pauli.X))] := by
  show [lineOp (kA L) Pauli.X, lineOp (kB L) Pauli.X, lineOp (kC L) Pauli.X, lineOp (kD L) Pauli.X] = _
  rw [lineOp_eq _ _ (nodup_kA hL), lineOp_eq _ _ (nodup_kB hL), lineOp_eq _ _ (nodup_kC hL),
    lineOp_eq _ _ (nodup_kD hL)]

theorem logZ_eq {L : Nat} (hL : 1 ≤ L) : logZ L L =
    [(kC L).map (fun q => (q, Pauli.Z)), (kD L).map (fun q => (q, Pauli.Z)),
     (kA L).map (fun q => (q, Pauli.Z)), (kB L).map (fun q => (q, Pauli.Z))] := by
  show [lineOp (kC L) Pauli.Z, lineOp (kD L) Pauli.Z, lineOp (kA L) Pauli.Z, lineOp (kB L) Pauli.Z] = _
  rw [lineOp_eq _ _ (nodup_kA hL), lineOp_eq _ _ (nodup_kB hL), lineOp_eq _ _ (nodup_kC hL),
    lineOp_eq _ _ (nodup_kD hL)]

theorem string_zig {L : Nat} (hL : 1 ≤ L) {K : List Coord}
    (hK : K = kA L ∨ K = kB L ∨ K = kC L ∨ K = kD L) :
    ∃ (f : Bool) (c t : Int), K.Perm (zigK L f c t) := by
  rcases hK with rfl | rfl | rfl | rfl
  · exact ⟨true, 1, 0, kA_perm hL⟩
  · exact ⟨true, 0, 1, kB_perm hL⟩
  · exact ⟨false, 0, 0, kC_perm hL⟩
  · exact ⟨false, 1, 0, kD_perm hL⟩

theorem face_string_even {L : Nat} (hL : 1 ≤ L) {x y : Int} (hf : IsF L x y) {K : List Coord}
    (hK : K = kA L ∨ K = kB L ∨ K = kC L ∨ K = kD L) : interCount (supp L x y) K % 2 = 0 := by
  obtain ⟨f, c, t, hp⟩ := string_zig hL hK
  obtain ⟨a, j, hs⟩ := faceF_of_isF hL f hf
  have e : interCount (supp L x y) K = interCount (cornersF L f a j) (zigK L f c t) := by
    unfold interCount
    rw [← hs]
    exact List.countP_congr fun q _ => by simp only [List.contains_eq_mem, hp.mem_iff]
  rw [e]; exact zig_face_even hL f c t a j

end Panqec.Color666ToricCode
