/-
Color3DCode: arithmetic description of the stabilizer list (nine boxes, pairwise disjoint by their
residues modulo 4; count `8·LxLyLz + (2Lx+1)(2Ly+1)(2Lz+1)`), of `stabilizer_type` (the colour table
is never missed), of the delta table (`shape`, a function of the residues modulo 4) and of
`get_stabilizer` (the wrapped deltas, no duplicate key when every side is `≥ 2`).  Core Lean only.
-/
import PanqecVerif.Proofs.LatColor3DCodeWrap
import PanqecVerif.Proofs.LoopNest

namespace Panqec.Color3DCode
open Panqec.Lat2D Panqec.Color

def InA (L : Nat) (v : Int) : Prop := 2 ≤ v ∧ v < 4 * (L : Int) ∧ v % 4 = 2
def InB (L : Nat) (v : Int) : Prop := 4 ≤ v ∧ v ≤ 4 * (L : Int) ∧ v % 4 = 0
def InC (L : Nat) (v : Int) : Prop := 0 ≤ v ∧ v < 4 * (L : Int) ∧ v % 4 = 0
def InH (L : Nat) (v : Int) : Prop := 1 ≤ v ∧ v ≤ 4 * (L : Int) + 1 ∧ v % 2 = 1

instance (L : Nat) (v : Int) : Decidable (InA L v) := by unfold InA; infer_instance
instance (L : Nat) (v : Int) : Decidable (InB L v) := by unfold InB; infer_instance
instance (L : Nat) (v : Int) : Decidable (InC L v) := by unfold InC; infer_instance
instance (L : Nat) (v : Int) : Decidable (InH L v) := by unfold InH; infer_instance

theorem mem_rA {L : Nat} {v : Int} : v ∈ rA L ↔ InA L v := by
  unfold rA InA; rw [(mem_pyRangeStep (s := 4) (by decide))]; omega
theorem mem_rB {L : Nat} {v : Int} : v ∈ rB L ↔ InB L v := by
  unfold rB InB; rw [(mem_pyRangeStep (s := 4) (by decide))]; omega
theorem mem_rC {L : Nat} {v : Int} : v ∈ rC L ↔ InC L v := by
  unfold rC InC; rw [(mem_pyRangeStep (s := 4) (by decide))]; omega
/-- `range(2, 4L+1, 4)` has the same members as `range(2, 4L, 4)` -/
theorem mem_rD {L : Nat} {v : Int} : v ∈ rD L ↔ InA L v := by
  unfold rD InA; rw [(mem_pyRangeStep (s := 4) (by decide))]; omega
theorem mem_rH {L : Nat} {v : Int} : v ∈ rH L ↔ InH L v := by
  unfold rH InH; rw [(mem_pyRangeStep (s := 2) (by decide))]; omega

theorem length_pyRangeStep (a : Nat) (b : Int) (step : Nat) :
    (pyRangeStep a b step).length = ((b - (a : Int)).toNat + step - 1) / step := by
  simp [pyRangeStep]

theorem length_rA (L : Nat) : (rA L).length = L := by
  unfold rA; rw [length_pyRangeStep]; omega
theorem length_rB (L : Nat) : (rB L).length = L := by
  unfold rB; rw [length_pyRangeStep]; omega
theorem length_rC (L : Nat) : (rC L).length = L := by
  unfold rC; rw [length_pyRangeStep]; omega
theorem length_rD (L : Nat) : (rD L).length = L := by
  unfold rD; rw [length_pyRangeStep]; omega
theorem length_rH (L : Nat) : (rH L).length = 2 * L + 1 := by
  unfold rH; rw [length_pyRangeStep]; omega

theorem mem_grid3 {zs xs ys : List Int} {q : Coord} :
    q ∈ grid3 zs xs ys ↔ ∃ x y z, q = [x, y, z] ∧ x ∈ xs ∧ y ∈ ys ∧ z ∈ zs :=
  (mem_loop3 fun z x y => [x, y, z]).trans
    ⟨fun ⟨z, hz, x, hx, y, hy, e⟩ => ⟨x, y, z, e, hx, hy, hz⟩,
      fun ⟨x, y, z, e, hx, hy, hz⟩ => ⟨z, hz, x, hx, y, hy, e⟩⟩

theorem nodup_grid3 {zs xs ys : List Int} (hz : zs.Nodup) (hx : xs.Nodup) (hy : ys.Nodup) :
    (grid3 zs xs ys).Nodup :=
  nodup_loop3 (fun z x y => [x, y, z]) (fun _ _ _ _ _ _ h => by
    simp only [List.cons.injEq, and_true] at h; exact ⟨h.2.2, h.1, h.2.1⟩) hz hx hy

theorem length_grid3 (zs xs ys : List Int) :
    (grid3 zs xs ys).length = zs.length * (xs.length * ys.length) :=
  length_loop3 (fun z x y => [x, y, z]) zs xs ys

/-- `(x, y, z)` is in one of the nine boxes of `get_stabilizer_coordinates` -/
def IsS (Lx Ly Lz : Nat) (x y z : Int) : Prop :=
  (InA Lx x ∧ InA Ly y ∧ InA Lz z) ∨ (InB Lx x ∧ InB Ly y ∧ InB Lz z) ∨
  (InA Lx x ∧ InA Ly y ∧ InC Lz z) ∨ (InC Lx x ∧ InA Ly y ∧ InA Lz z) ∨
  (InA Lx x ∧ InC Ly y ∧ InA Lz z) ∨ (InB Lx x ∧ InB Ly y ∧ InA Lz z) ∨
  (InA Lx x ∧ InB Ly y ∧ InB Lz z) ∨ (InB Lx x ∧ InA Ly y ∧ InB Lz z) ∨
  (InH Lx x ∧ InH Ly y ∧ InH Lz z)

instance (Lx Ly Lz : Nat) (x y z : Int) : Decidable (IsS Lx Ly Lz x y z) := by
  unfold IsS; infer_instance

theorem IsS.hex {Lx Ly Lz : Nat} {x y z : Int} (hx : InH Lx x) (hy : InH Ly y) (hz : InH Lz z) :
    IsS Lx Ly Lz x y z :=
  Or.inr (Or.inr (Or.inr (Or.inr (Or.inr (Or.inr (Or.inr (Or.inr ⟨hx, hy, hz⟩)))))))

theorem isS_parity {Lx Ly Lz : Nat} {x y z : Int} (h : IsS Lx Ly Lz x y z) :
    x % 2 = y % 2 ∧ y % 2 = z % 2 := by
  unfold IsS InA InB InC InH at h
  omega

theorem mem_stabs {Lx Ly Lz : Nat} {q : Coord} :
    q ∈ stabs Lx Ly Lz ↔ ∃ x y z, q = [x, y, z] ∧ IsS Lx Ly Lz x y z := by
  unfold stabs IsS
  simp only [List.mem_append, mem_grid3, mem_rA, mem_rB, mem_rC, mem_rD, mem_rH, ← exists_or,
    ← and_or_left, or_assoc]

theorem mem_stabs' {Lx Ly Lz : Nat} {x y z : Int} :
    [x, y, z] ∈ stabs Lx Ly Lz ↔ IsS Lx Ly Lz x y z := by
  rw [mem_stabs]
  constructor
  · rintro ⟨x', y', z', h, hq⟩
    simp only [List.cons.injEq, and_true] at h
    rw [h.1, h.2.1, h.2.2]; exact hq
  · intro h; exact ⟨x, y, z, rfl, h⟩

theorem isStab_iff {Lx Ly Lz : Nat} {x y z : Int} :
    isIn (stabs Lx Ly Lz) [x, y, z] = true ↔ IsS Lx Ly Lz x y z := by
  rw [isIn_iff, mem_stabs']

theorem nodup_stabs (Lx Ly Lz : Nat) : (stabs Lx Ly Lz).Nodup := by
  have hA : ∀ L, (rA L).Nodup := fun L => nodup_pyRangeStep _ _ _ (by decide)
  have hB : ∀ L, (rB L).Nodup := fun L => nodup_pyRangeStep _ _ _ (by decide)
  have hC : ∀ L, (rC L).Nodup := fun L => nodup_pyRangeStep _ _ _ (by decide)
  have hD : ∀ L, (rD L).Nodup := fun L => nodup_pyRangeStep _ _ _ (by decide)
  have hH : ∀ L, (rH L).Nodup := fun L => nodup_pyRangeStep _ _ _ (by decide)
  unfold stabs
  simp only [List.nodup_append, List.mem_append, mem_grid3, mem_rA, mem_rB, mem_rC, mem_rD, mem_rH]
  refine ⟨⟨⟨⟨⟨⟨⟨⟨nodup_grid3 (hA _) (hA _) (hA _), nodup_grid3 (hB _) (hB _) (hB _), ?_⟩,
    nodup_grid3 (hC _) (hA _) (hA _), ?_⟩, nodup_grid3 (hA _) (hC _) (hA _), ?_⟩,
    nodup_grid3 (hA _) (hA _) (hC _), ?_⟩, nodup_grid3 (hD _) (hB _) (hB _), ?_⟩,
    nodup_grid3 (hB _) (hD _) (hB _), ?_⟩, nodup_grid3 (hB _) (hB _) (hD _), ?_⟩,
    nodup_grid3 (hH _) (hH _) (hH _), ?_⟩
  all_goals
    intro a ha b hb e
    subst e
    rcases hb with ⟨x, y, z, rfl, hb⟩
    simp only [InA, InB, InC, InH, List.cons.injEq, and_true, and_assoc, exists_and_left,
      exists_eq_left'] at ha hb
    omega

/-- `n_stabilizers` (every size): `2·LxLyLz` cells, `6·LxLyLz` squares, `(2Lx+1)(2Ly+1)(2Lz+1)` listed
    hexagons -/
theorem length_stabs (Lx Ly Lz : Nat) :
    (stabs Lx Ly Lz).length = 8 * (Lz * (Lx * Ly)) + (2 * Lz + 1) * ((2 * Lx + 1) * (2 * Ly + 1)) := by
  unfold stabs
  simp only [List.length_append, length_grid3, length_rA, length_rB, length_rC, length_rD, length_rH]
  omega

theorem cellColor_isCell {r : Int} (h0 : 0 ≤ r) (h8 : r < 8) (h2 : r % 2 = 0) :
    (cellColor r).isCell = true := by
  have : r = 0 ∨ r = 2 ∨ r = 4 ∨ r = 6 := by omega
  rcases this with rfl | rfl | rfl | rfl <;> rfl

/-- the location is a cell centre: the three coordinates are even and congruent modulo 4 -/
def IsCellLoc (x y z : Int) : Prop := x % 2 ≠ 1 ∧ x % 4 = z % 4 ∧ y % 4 = z % 4

instance (x y z : Int) : Decidable (IsCellLoc x y z) := by unfold IsCellLoc; infer_instance

theorem typeOf_cell {x y z : Int} (h : IsCellLoc x y z) : (typeOf x y z).isCell = true := by
  unfold typeOf
  rw [if_neg h.1, if_pos h.2]
  exact cellColor_isCell (Int.emod_nonneg _ (by decide)) (Int.emod_lt_of_pos _ (by decide))
    (by have := h.1; have := h.2; omega)

theorem typeOf_face {x y z : Int} (h : ¬ IsCellLoc x y z) :
    typeOf x y z = if x % 2 = 1 then .hex else .square := by
  unfold typeOf
  split
  · rfl
  · rw [if_neg fun hc => h ⟨‹_›, hc⟩]

theorem isCell_iff (x y z : Int) : (typeOf x y z).isCell = true ↔ IsCellLoc x y z := by
  refine ⟨fun h => Decidable.byContradiction fun hc => ?_, typeOf_cell⟩
  rw [typeOf_face hc] at h; split at h <;> cases h

/-- the colour table is never missed: `stabilizer_type` raises no `KeyError` -/
theorem typeOf_ne_keyError (x y z : Int) : typeOf x y z ≠ StabType.keyError := by
  intro e
  by_cases h : IsCellLoc x y z
  · have := typeOf_cell h; rw [e] at this; cases this
  · rw [typeOf_face h] at e; split at e <;> cases e

/-- the delta table as a function of the coordinates -/
def shape (x y z : Int) : List D3 :=
  if x % 2 = 1 then deltaHex x y z
  else if x % 4 = z % 4 ∧ y % 4 = z % 4 then deltaCell
  else deltaSquare x y z

theorem deltaOf_eq_shape (x y z : Int) : deltaOf x y z = shape x y z := by
  by_cases h : IsCellLoc x y z
  · have hc := (isCell_iff x y z).mpr h
    unfold deltaOf shape
    rw [if_neg h.1, if_pos h.2]
    generalize typeOf x y z = t at hc
    cases t <;> first | rfl | exact absurd hc (by decide)
  · unfold deltaOf shape typeOf
    unfold IsCellLoc at h
    by_cases h2 : x % 2 = 1
    · simp only [if_pos h2]
    · simp only [if_neg h2, if_neg (fun hc => h ⟨h2, hc⟩)]

theorem shape_congr {x y z x' y' z' : Int} (hx : x % 4 = x' % 4) (hy : y % 4 = y' % 4)
    (hz : z % 4 = z' % 4) : shape x y z = shape x' y' z' := by
  have h2 : x % 2 = x' % 2 := by omega
  unfold shape deltaHex deltaSquare
  rw [hx, hy, hz, h2]

theorem letterOf_cell {x y z : Int} (h : IsCellLoc x y z) : letterOf x y z = Pauli.Z := by
  unfold letterOf; rw [if_pos ((isCell_iff x y z).mpr h)]

theorem letterOf_face {x y z : Int} (h : ¬ IsCellLoc x y z) : letterOf x y z = Pauli.X := by
  unfold letterOf
  have : ¬ (typeOf x y z).isCell = true := fun h' => h ((isCell_iff x y z).mp h')
  rw [if_neg this]

theorem letterOf_ne_I (x y z : Int) : letterOf x y z ≠ Pauli.I := by
  unfold letterOf; by_cases h : (typeOf x y z).isCell = true <;> simp [h]

theorem shape_cell {x y z : Int} (h : IsCellLoc x y z) : shape x y z = deltaCell := by
  unfold shape
  unfold IsCellLoc at h
  rw [if_neg h.1, if_pos ⟨h.2.1, h.2.2⟩]

theorem deltaCell_bd : ∀ d ∈ deltaCell, Bd 2 d := by decide

def res4 : List Int := [0, 1, 2, 3]

theorem mem_res4 (v : Int) : v % 4 ∈ res4 := by
  unfold res4
  simp only [List.mem_cons, List.not_mem_nil, or_false]
  omega

theorem shape_res (x y z : Int) : shape x y z = shape (x % 4) (y % 4) (z % 4) :=
  shape_congr (Int.emod_emod_of_dvd _ (Int.dvd_refl 4)).symm
    (Int.emod_emod_of_dvd _ (Int.dvd_refl 4)).symm (Int.emod_emod_of_dvd _ (Int.dvd_refl 4)).symm

/-- every delta table is a non-empty duplicate-free list of deltas of size `≤ 2`, of size `≤ 1` for a
    face (a check over the residues modulo 4) -/
theorem shape_tbl : ∀ rx ∈ res4, ∀ ry ∈ res4, ∀ rz ∈ res4,
    (shape rx ry rz).Nodup ∧ shape rx ry rz ≠ [] ∧ (∀ d ∈ shape rx ry rz, Bd 2 d) ∧
      (¬ IsCellLoc rx ry rz → ∀ d ∈ shape rx ry rz, Bd 1 d) := by decide

theorem shape_spec (x y z : Int) :
    (shape x y z).Nodup ∧ shape x y z ≠ [] ∧ (∀ d ∈ shape x y z, Bd 2 d) ∧
      (¬ IsCellLoc x y z → ∀ d ∈ shape x y z, Bd 1 d) := by
  have h := shape_tbl _ (mem_res4 x) _ (mem_res4 y) _ (mem_res4 z)
  rw [← shape_res] at h
  exact ⟨h.1, h.2.1, h.2.2.1, fun hc => h.2.2.2 fun hc' => hc (by unfold IsCellLoc at hc' ⊢; omega)⟩

theorem shape_face_bd {x y z : Int} (h : ¬ IsCellLoc x y z) : ∀ d ∈ shape x y z, Bd 1 d :=
  (shape_spec x y z).2.2.2 h

theorem shape_bd (x y z : Int) : ∀ d ∈ shape x y z, Bd 2 d := (shape_spec x y z).2.2.1

theorem shape_nodup (x y z : Int) : (shape x y z).Nodup := (shape_spec x y z).1

/-- the keys of the generator at `(x, y, z)`, in delta order -/
def keys (Lx Ly Lz : Nat) (x y z : Int) : List Coord :=
  (shape x y z).map (wrapAt (4 * (Lx : Int)) (4 * (Ly : Int)) (4 * (Lz : Int)) x y z)

theorem mem_keys {Lx Ly Lz : Nat} {x y z : Int} {q : Coord} :
    q ∈ keys Lx Ly Lz x y z ↔ ∃ d ∈ shape x y z, q =
      [(x + d.1) % (4 * (Lx : Int)), (y + d.2.1) % (4 * (Ly : Int)), (z + d.2.2) % (4 * (Lz : Int))] := by
  unfold keys wrapAt
  simp only [List.mem_map, eq_comm]

theorem nodup_keysOf {Lx Ly Lz : Nat} (hx : 2 ≤ Lx) (hy : 2 ≤ Ly) (hz : 2 ≤ Lz) (x y z : Int) :
    (keys Lx Ly Lz x y z).Nodup :=
  nodup_keys (by omega) (by omega) (by omega) x y z _ (shape_nodup x y z) (shape_bd x y z)

theorem getStabIn_eq {Lx Ly Lz : Nat} (hx : 2 ≤ Lx) (hy : 2 ≤ Ly) (hz : 2 ≤ Lz) {x y z : Int}
    (h : [x, y, z] ∈ stabs Lx Ly Lz) :
    getStabilizerIn (stabs Lx Ly Lz) Lx Ly Lz [x, y, z] =
      some ((keys Lx Ly Lz x y z).map (fun q => (q, letterOf x y z))) := by
  have hs : isIn (stabs Lx Ly Lz) [x, y, z] = true := isIn_iff.mpr h
  unfold getStabilizerIn
  simp only [hs, Bool.not_true, Bool.false_eq_true, if_false]
  rw [candidates_eq, deltaOf_eq_shape]
  show some (lineOp (keys Lx Ly Lz x y z) _) = _
  rw [lineOp_eq _ _ (nodup_keysOf hx hy hz x y z)]

theorem lattice_getStab (Lx Ly Lz : Nat) (s : Coord) :
    (lattice Lx Ly Lz).getStab s = (getStabilizerIn (stabs Lx Ly Lz) Lx Ly Lz s).getD [] := by
  -- by unfolding: asked for `rfl`, the unifier starts to evaluate the stabilizer index
  dsimp only [lattice, getStabilizer?]

theorem getStab_eq {Lx Ly Lz : Nat} (hx : 2 ≤ Lx) (hy : 2 ≤ Ly) (hz : 2 ≤ Lz) {x y z : Int}
    (h : [x, y, z] ∈ stabs Lx Ly Lz) :
    (lattice Lx Ly Lz).getStab [x, y, z] =
      (keys Lx Ly Lz x y z).map (fun q => (q, letterOf x y z)) := by
  rw [lattice_getStab, getStabIn_eq hx hy hz h, Option.getD_some]

/-- a vertex inside the box that a delta reaches without wrap-around is a key -/
theorem mem_keys_inner {Lx Ly Lz : Nat} {x y z a b c : Int} {d : D3} (hd : d ∈ shape x y z)
    (ha : 0 ≤ a ∧ a < 4 * (Lx : Int)) (hb : 0 ≤ b ∧ b < 4 * (Ly : Int))
    (hc : 0 ≤ c ∧ c < 4 * (Lz : Int)) (h1 : x + d.1 = a) (h2 : y + d.2.1 = b) (h3 : z + d.2.2 = c) :
    [a, b, c] ∈ keys Lx Ly Lz x y z := by
  refine List.mem_map.mpr ⟨d, hd, ?_⟩
  unfold wrapAt
  rw [h1, h2, h3, emod_small ha.1 ha.2, emod_small hb.1 hb.2, emod_small hc.1 hc.2]

theorem keys_ne_nil (Lx Ly Lz : Nat) (x y z : Int) : keys Lx Ly Lz x y z ≠ [] := by
  unfold keys
  intro h
  exact (shape_spec x y z).2.1 (List.map_eq_nil_iff.mp h)

end Panqec.Color3DCode
