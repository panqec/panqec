/-
Lemmas about finite rational distributions of `Model/Sim.lean`
(total weight and expectation of independent products; `N` i.i.d. trials).
-/
import PanqecVerif.Model.Sim
import Mathlib.Tactic.Ring
import Mathlib.Algebra.BigOperators.Ring.List
import Mathlib.Tactic.Linarith
import Mathlib.Algebra.Order.Field.Rat

namespace Panqec.Sim

open Panqec

theorem sum_map_flatMap {α β : Type} (l : List α) (f : α → List β) (g : β → Rat) :
    ((l.flatMap f).map g).sum = (l.map fun x => ((f x).map g).sum).sum := by
  induction l with
  | nil => simp
  | cons a l ih => simp [List.flatMap_cons, ih]

theorem total_eq_expect_one {α : Type} (d : Dist α) : d.total = d.expect fun _ => 1 := by
  simp [Dist.total, Dist.expect]

theorem expect_add {α : Type} (d : Dist α) (f g : α → Rat) :
    d.expect (fun x => f x + g x) = d.expect f + d.expect g := by
  simp only [Dist.expect]
  rw [← List.sum_map_add]; congr 1; apply List.map_congr_left; intro x _; ring

theorem expect_mul_left {α : Type} (d : Dist α) (c : Rat) (f : α → Rat) :
    d.expect (fun x => c * f x) = c * d.expect f := by
  simp only [Dist.expect]
  rw [← List.sum_map_mul_left]; congr 1; apply List.map_congr_left; intro x _; ring

theorem expect_const {α : Type} (d : Dist α) (c : Rat) :
    d.expect (fun _ => c) = c * d.total := by
  simpa [total_eq_expect_one] using expect_mul_left d c fun _ => 1

/-- iterated expectation: the first factor outside, the rest inside -/
theorem expect_prodDist_cons {α : Type} (d : Dist α) (ds : List (Dist α)) (g : List α → Rat) :
    (prodDist (d :: ds)).expect g = d.expect fun a => (prodDist ds).expect fun y => g (a :: y) := by
  simp only [Dist.expect, prodDist]
  rw [sum_map_flatMap]
  congr 1
  apply List.map_congr_left
  intro x _
  rw [List.map_map, ← List.sum_map_mul_left]
  congr 1
  apply List.map_congr_left
  intro y _
  simp only [Function.comp]
  ring

theorem total_prodDist {α : Type} : ∀ ds : List (Dist α),
    (prodDist ds).total = (ds.map Dist.total).prod
  | [] => by simp [prodDist, Dist.total]
  | d :: ds => by
    rw [total_eq_expect_one, expect_prodDist_cons]
    simp only [← total_eq_expect_one, total_prodDist ds, expect_const, List.map_cons, List.prod_cons]
    ring

theorem total_prodDist_of_normalised {α : Type} (ds : List (Dist α))
    (h : ∀ d ∈ ds, d.total = 1) : (prodDist ds).total = 1 := by
  rw [total_prodDist]
  exact List.prod_eq_one (by simpa using h)

theorem expect_map {α β : Type} (d : Dist α) (m : α → β) (f : β → Rat) :
    (Dist.expect (d.map fun x => (m x.1, x.2)) f) = d.expect fun a => f (m a) := by
  simp only [Dist.expect, List.map_map]
  congr 1

theorem total_map {α β : Type} (d : Dist α) (m : α → β) :
    (Dist.total (d.map fun x => (m x.1, x.2))) = d.total := by
  simp only [Dist.total, List.map_map]
  congr 1

theorem countFail_cons {α : Type} (fail : α → Bool) (x : α) (xs : List α) :
    (countFail fail (x :: xs) : Rat) = (if fail x then 1 else 0) + (countFail fail xs : Rat) := by
  unfold countFail
  by_cases h : fail x = true
  · simp [h]; ring
  · simp [h]

theorem expect_countFail_replicate {α : Type} (d : Dist α) (fail : α → Bool)
    (hd : d.total = 1) : ∀ N : Nat,
    (prodDist (List.replicate N d)).expect (fun xs => (countFail fail xs : Rat)) =
      (N : Rat) * d.expect fun x => if fail x then 1 else 0
  | 0 => by simp [prodDist, Dist.expect, countFail]
  | N + 1 => by
    have htot : (prodDist (List.replicate N d)).total = 1 :=
      total_prodDist_of_normalised _ (fun d' hd' => by rw [List.eq_of_mem_replicate hd']; exact hd)
    -- E[count (x :: y)] = E_x[1{fail x}] + E_y[count y], the inner expectation by induction
    simp only [List.replicate_succ, expect_prodDist_cons, countFail_cons, expect_add, expect_const,
      htot, hd, mul_one, expect_countFail_replicate d fail hd N]
    push_cast; ring

end Panqec.Sim
