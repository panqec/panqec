/-
Order independence of `calculate_thresholds` up to the call of `curve_fit` (C16): permuting the rows of the
results table changes neither the parameter sets, nor the window limits, nor what the first fit receives.
-/
import PanqecVerif.Proofs.AnalysisWindowCalc
import PanqecVerif.Proofs.AnalysisWindowLines

namespace Panqec.An

/-- the four numbers of a window -/
def Window.limits (w : Window) : Rat × Rat × Rat × Rat := (w.pNearest, w.pSd, w.pLeft, w.pRight)

/-- what a thresholds row shows: key, window limits, (rows, p0[0], p0[2]) of the first fit, replacement values -/
structure Report where
  key : Triple
  pNearest : Rat
  pSd : Rat
  pLeft : Rat
  pRight : Rat
  fit : Option (Nat × Rat × Rat)
  replaced : Option (Rat × Rat × Rat × Rat)
  deriving DecidableEq, Repr

def ThreshEntry.report : ThreshEntry → Report
  | .fitted k w n p0 f0 => ⟨k, w.pNearest, w.pSd, w.pLeft, w.pRight, some (n, p0, f0), none⟩
  | .replaced k w v => ⟨k, w.pNearest, w.pSd, w.pLeft, w.pRight, none, some v⟩
  | .unfitted k w => ⟨k, w.pNearest, w.pSd, w.pLeft, w.pRight, none, none⟩

/-- same limits, same rows up to order -/
def WEq (w w' : Window) : Prop := w.limits = w'.limits ∧ w.rows.Perm w'.rows

theorem tripleLe_total (a b : Triple) : tripleLe a b = true ∨ tripleLe b a = true := by
  unfold tripleLe
  simp only [Bool.or_eq_true, Bool.and_eq_true, decide_eq_true_eq, beq_iff_eq]
  omega

theorem tripleLe_trans {a b c : Triple} (h1 : tripleLe a b = true) (h2 : tripleLe b c = true) : tripleLe a c = true := by
  unfold tripleLe at *
  simp only [Bool.or_eq_true, Bool.and_eq_true, decide_eq_true_eq, beq_iff_eq] at *
  omega

theorem tripleLe_antisymm {a b : Triple} (h1 : tripleLe a b = true) (h2 : tripleLe b a = true) : a = b := by
  unfold tripleLe at *
  simp only [Bool.or_eq_true, Bool.and_eq_true, decide_eq_true_eq, beq_iff_eq] at *
  obtain ⟨a1, a2, a3⟩ := a
  obtain ⟨b1, b2, b3⟩ := b
  simp only [Prod.mk.injEq]
  simp only at h1 h2
  omega

theorem sortTriples_eq_of_perm {a b : List Triple} (h : a.Perm b) : sortTriples a = sortTriples b := by
  rw [sortTriples_eq, sortTriples_eq]
  exact insertionSort_eq_of_perm tripleLe_total (fun _ _ _ => tripleLe_trans) h
    fun _ _ _ _ => tripleLe_antisymm

theorem paramSets_perm {a b : List ResRow} (h : a.Perm b) : paramSets a = paramSets b :=
  sortTriples_eq_of_perm (eraseDups_perm (h.map _))

theorem windowDefault_perm {a b : List TRow} (h : a.Perm b) (pn : Rat) :
    (windowDefault a pn = none ∧ windowDefault b pn = none) ∨
    ∃ w w', windowDefault a pn = some w ∧ windowDefault b pn = some w' ∧ WEq w w' := by
  unfold windowDefault
  rw [← minList_perm (h.map _), ← maxList_perm (h.map _)]
  cases minList (a.map (·.rate)) <;> cases maxList (a.map (·.rate))
  · exact Or.inl ⟨rfl, rfl⟩
  · exact Or.inl ⟨rfl, rfl⟩
  · exact Or.inl ⟨rfl, rfl⟩
  · exact Or.inr ⟨_, _, rfl, rfl, rfl, h⟩

theorem windowOverride_perm (spec : TruncSpec) {a b : List TRow} (h : a.Perm b) (pn : Rat) :
    (windowOverride spec a pn = none ∧ windowOverride spec b pn = none) ∨
    ∃ w w', windowOverride spec a pn = some w ∧ windowOverride spec b pn = some w' ∧ WEq w w' := by
  unfold windowOverride
  rw [← minList_perm (h.map _), ← maxList_perm (h.map _)]
  cases minList (a.map (·.rate)) <;> cases maxList (a.map (·.rate))
  · exact Or.inl ⟨rfl, rfl⟩
  · exact Or.inl ⟨rfl, rfl⟩
  · exact Or.inl ⟨rfl, rfl⟩
  · refine Or.inr ⟨_, _, rfl, rfl, rfl, ?_⟩
    cases spec.hasD
    · exact h
    · cases spec.dmin <;> cases spec.dmax
      · exact h
      · exact h.filter _
      · exact h.filter _
      · exact (h.filter _).filter _

theorem windowAuto_perm (sq : Rat → Rat) (grid : List Rat) {a b : List TRow} (h : a.Perm b) (pn : Rat) :
    (∃ e, windowAuto sq grid a pn = .error e ∧ windowAuto sq grid b pn = .error e) ∨
    ∃ w w', windowAuto sq grid a pn = .ok w ∧ windowAuto sq grid b pn = .ok w' ∧ WEq w w' := by
  unfold windowAuto
  rw [← sdInterp_perm sq grid h]
  cases sdInterp sq grid a with
  | error e => exact Or.inl ⟨e, rfl, rfl⟩
  | ok v =>
    obtain ⟨pc, pl, pr⟩ := v
    exact Or.inr ⟨_, _, rfl, rfl, rfl, h⟩

/-- a grid rule that only looks at the rows as a multiset (e.g. the exact grid, or numpy's: both depend on the
    smallest and largest rate only) -/
def WindowMode.OrderFree : WindowMode → Prop
  | .default => True
  | .auto _ gridOf => ∀ (a b : List TRow) (pn : Rat), a.Perm b → gridOf a pn = gridOf b pn

/-- what is reported for one parameter set: error kind or report -/
def outcome (r : Except WErr ThreshEntry) : Except WErr Report :=
  match r with
  | .ok e => .ok e.report
  | .error e => .error e

theorem pThNearest_perm_single_code {a b : List TRow} (h : a.Perm b) {c : Nat} (hc : ∀ r ∈ a, r.code = c) :
    pThNearest a = pThNearest b := by
  cases hm : minList (a.map (·.rate)) with
  | none =>
    have ha : a = [] := by simpa using minList_eq_none.mp hm
    subst ha
    rw [List.nil_perm.mp h]
  | some m =>
    rw [pThNearest_single_code hc hm,
      pThNearest_single_code (fun r hr => hc r (h.mem_iff.mpr hr)) (by rw [← minList_perm (h.map _)]; exact hm)]

theorem finishEntry_weq (st : OvState) (key : Triple) {w w' : Window} (hw : WEq w w') :
    outcome (finishEntry st key w) = outcome (finishEntry st key w') := by
  obtain ⟨hl, hr⟩ := hw
  simp only [Window.limits, Prod.mk.injEq] at hl
  obtain ⟨h1, h2, h3, h4⟩ := hl
  unfold finishEntry
  cases st.replaces.lookup key with
  | some rp =>
    obtain ⟨pth, se⟩ := rp
    cases pth <;> simp only [outcome, ThreshEntry.report, h1, h2, h3, h4]
  | none =>
    simp only
    rw [firstFitStart_perm hr, h1, h3, h4]
    cases firstFitStart w'.rows w'.pLeft w'.pRight w'.pNearest with
    | error e => rfl
    | ok v =>
      obtain ⟨n, p0, f0⟩ := v
      simp only [outcome, ThreshEntry.report, h1, h2, h3, h4]

theorem thresholdEntry_perm (st : OvState) (sector : Nat) {mode : WindowMode} (hmode : mode.OrderFree) (key : Triple)
    {a b : List ResRow} (h : a.Perm b) :
    outcome (thresholdEntry st sector mode a key) = outcome (thresholdEntry st sector mode b key) := by
  have hc : ∀ r ∈ (a.filter fun r => r.labelKey == key).map (·.row), r.code = key.1 := by
    intro r hr
    obtain ⟨x, hx, rfl⟩ := List.mem_map.mp hr
    have hk : x.labelKey = key := by simpa using (List.mem_filter.mp hx).2
    rw [← hk]; rfl
  have hp : ((a.filter fun r => r.labelKey == key).map (·.row)).Perm ((b.filter fun r => r.labelKey == key).map (·.row)) :=
    (h.filter _).map _
  unfold thresholdEntry
  simp only
  -- from here on only the rows of the parameter set matter
  generalize (a.filter fun r => r.labelKey == key).map (·.row) = x at hc hp ⊢
  generalize (b.filter fun r => r.labelKey == key).map (·.row) = y at hp ⊢
  rw [← pThNearest_perm_single_code hp hc]
  cases pThNearest x with
  | error e => rfl
  | ok pn =>
    simp only
    cases st.overrides.lookup (sector, key) with
    | some spec =>
      simp only
      rcases windowOverride_perm spec hp pn with ⟨h1, h2⟩ | ⟨w, w', h1, h2, hw⟩
      · rw [h1, h2]
      · rw [h1, h2]; exact finishEntry_weq st key hw
    | none =>
      simp only
      cases mode with
      | default =>
        simp only
        rcases windowDefault_perm hp pn with ⟨h1, h2⟩ | ⟨w, w', h1, h2, hw⟩
        · rw [h1, h2]
        · rw [h1, h2]; exact finishEntry_weq st key hw
      | auto sq gridOf =>
        simp only
        rw [← hmode x y pn hp]
        rcases windowAuto_perm sq (gridOf x pn) hp pn with ⟨e, h1, h2⟩ | ⟨w, w', h1, h2, hw⟩
        · rw [h1, h2]
        · rw [h1, h2]; exact finishEntry_weq st key hw

/-- the observable result of `calculate_thresholds`: the reports in order, or the error -/
def calcReport (st : OvState) (sector : Nat) (mode : WindowMode) (rs : List ResRow) :=
  match calcThresholds st sector mode rs with
  | .ok es => Except.ok (es.map ThreshEntry.report)
  | .error e => Except.error e

theorem mapM_outcome (f : Triple → Except WErr ThreshEntry) : ∀ l : List Triple,
    l.mapM (fun k => outcome (f k)) =
      match l.mapM f with
      | .ok es => .ok (es.map ThreshEntry.report)
      | .error e => .error e
  | [] => rfl
  | k :: ks => by
    rw [List.mapM_cons, List.mapM_cons, mapM_outcome f ks]
    cases f k <;> cases ks.mapM f <;> rfl

/-- the observable result is computed from the reports of the parameter sets alone: whether one was fitted
    can be read off its report -/
theorem calcReport_eq (st : OvState) (sector : Nat) (mode : WindowMode) (rs : List ResRow) :
    calcReport st sector mode rs =
      match ((paramSets rs).filter fun t => !st.skips.contains t).mapM
          fun k => outcome (thresholdEntry st sector mode rs k) with
      | .error e => .error e
      | .ok reps =>
        if !reps.any (·.fit.isSome) then .error .nothingFitted
        else if !st.extra.isEmpty then .error .extraRow
        else .ok reps := by
  unfold calcReport calcThresholds
  rw [mapM_outcome]
  cases ((paramSets rs).filter fun t => !st.skips.contains t).mapM (thresholdEntry st sector mode rs) with
  | error e => rfl
  | ok es =>
    have hfit : (es.map ThreshEntry.report).any (·.fit.isSome) = es.any ThreshEntry.isFitted := by
      rw [List.any_map]
      exact congrArg (es.any ·) (funext fun e => by cases e <;> rfl)
    simp only [hfit]
    split_ifs <;> rfl

theorem calcReport_perm (st : OvState) (sector : Nat) {mode : WindowMode} (hmode : mode.OrderFree)
    {a b : List ResRow} (h : a.Perm b) : calcReport st sector mode a = calcReport st sector mode b := by
  rw [calcReport_eq, calcReport_eq, paramSets_perm h,
    mapM_except_congr _ fun k _ => thresholdEntry_perm st sector hmode k h]

end Panqec.An
