/-
The row of a Python dict operator: with distinct keys every slot of `to_bsf` is incremented at most
once, by the bit of the letter the dict holds there (`letterAt`), so `to_bsf` is `pauli_to_bsf` of
the letters read along the qubit list, or `KeyError`; the row is binary and the `%= 2` of
`stabilizer_matrix` changes nothing.  Core Lean only.  `Proofs/CodeDictBsf.lean` (C02),
`Proofs/OpCommCore.lean` (C01) and `Proofs/DeformOp.lean` (C08) rest on it.
-/
import PanqecVerif.Model.Deform
import PanqecVerif.Proofs.Bits

namespace Panqec.Deform

open Panqec

/-- a Python dict has distinct keys -/
def KeysNodup (op : Op) : Prop := (op.map Prod.fst).Nodup

/-- an `Operator` dict only lists the qubits of its support -/
def NoIdentity (op : Op) : Prop := ∀ e ∈ op, e.2 ≠ Pauli.I

/-- the letter an operator dict assigns to a qubit (`I` off the support) -/
def letterAt (op : Op) (q : Coord) : Pauli :=
  match op.find? (fun e => e.1 == q) with
  | some e => e.2
  | none => .I

theorem opCount_eq_zero_of_not_mem (op : Op) (q : Coord) (f : Pauli → Nat)
    (h : q ∉ op.map Prod.fst) : opCount op q f = 0 := by
  unfold opCount
  rw [List.length_eq_zero_iff, List.filter_eq_nil_iff]
  intro e he
  have : e.1 ≠ q := fun heq => h (heq ▸ List.mem_map_of_mem he)
  simp [this]

/-- with distinct keys each slot is incremented at most once: by the bit of the letter -/
theorem opCount_eq_letterAt (f : Pauli → Nat) (hI : f .I = 0) (h01 : ∀ p, f p < 2) :
    ∀ (op : Op) (q : Coord), KeysNodup op → opCount op q f = f (letterAt op q)
  | [], q, _ => by simp [opCount, letterAt, hI]
  | e :: op, q, hk => by
    have hk' : e.1 ∉ op.map Prod.fst ∧ KeysNodup op := by
      simpa [KeysNodup] using hk
    by_cases heq : e.1 = q
    · have h0 := opCount_eq_zero_of_not_mem op q f (heq ▸ hk'.1)
      have hl : letterAt (e :: op) q = e.2 := by simp [letterAt, heq]
      unfold opCount at h0 ⊢
      rw [hl, List.filter_cons]
      have h : f e.2 = 0 ∨ f e.2 = 1 := by have := h01 e.2; omega
      rcases h with h | h <;> simp [heq, h, h0]
    · have ih := opCount_eq_letterAt f hI h01 op q hk'.2
      have hl : letterAt (e :: op) q = letterAt op q := by
        simp [letterAt, heq]
      unfold opCount at ih ⊢
      rw [hl, List.filter_cons]
      simp [heq, ih]

theorem toBsf_eq_pauliToBsf (qs : List Coord) (op : Op) (hk : KeysNodup op) :
    toBsf qs op =
      if opSupported qs op then some (pauliToBsf (qs.map (letterAt op))) else none := by
  unfold toBsf pauliToBsf
  have hx : (qs.map fun q => opCount op q Pauli.xBit) = (qs.map (letterAt op)).map Pauli.xBit := by
    rw [List.map_map]
    exact List.map_congr_left fun q _ => opCount_eq_letterAt _ rfl xBit_lt_two op q hk
  have hz : (qs.map fun q => opCount op q Pauli.zBit) = (qs.map (letterAt op)).map Pauli.zBit := by
    rw [List.map_map]
    exact List.map_congr_left fun q _ => opCount_eq_letterAt _ rfl zBit_lt_two op q hk
  rw [hx, hz]

theorem toBsf_binary (qs : List Coord) (op : Op) (hk : KeysNodup op) (v : List Nat)
    (h : toBsf qs op = some v) : ∀ x ∈ v, x < 2 := by
  rw [toBsf_eq_pauliToBsf qs op hk] at h
  split at h
  · simp only [Option.some.injEq] at h
    subst h
    exact pauliToBsf_binary _
  · simp at h

/-- for a dict with distinct keys the `data %= 2` of `stabilizer_matrix` changes nothing -/
theorem stabRow_eq_toBsf (qs : List Coord) (op : Op) (hk : KeysNodup op) :
    stabRow qs op = toBsf qs op := by
  unfold stabRow
  cases h : toBsf qs op with
  | none => rfl
  | some v => simp [map_mod_two_of_binary v (toBsf_binary qs op hk v h)]

end Panqec.Deform
