/-
Bridge between the list-level model (`List Nat` BSF vectors, `symp`, `vxor`,
`xorCombo`, `InSpan`, `Indep`, `HasRank` of `Proofs/ValidCode.lean`) and Mathlib
linear algebra over `ZMod 2`.

Three layers.  Abstract: stabilizer data inside a space with a nondegenerate
  alternating bilinear form: the logical-effect map on `S^⊥` is surjective, hence
  `2 dim S + 2k ≤ dim V`, and if equality holds `e ∈ S ↔ e ∈ S^⊥ ∧ effect e = 0`.
Concrete form: `(Fin n → ZMod 2)²` with `ω((x,z),(x',z')) = x·z' + z·x'`.
Bridge: `toVec`, `symp ↦ ω`, `vxor ↦ +`, `xorCombo ↦` linear combination,
  `InSpan ↔ ∈ span`, `Indep ↔ LinearIndependent`, `HasRank ⇒ finrank (span) = r`.
-/
import Mathlib.LinearAlgebra.BilinearForm.Orthogonal
import Mathlib.LinearAlgebra.Dimension.Constructions
import Mathlib.LinearAlgebra.FiniteDimensional.Lemmas
import Mathlib.LinearAlgebra.Matrix.DotProduct
import Mathlib.Data.ZMod.Basic
import Mathlib.Algebra.Field.ZMod
import PanqecVerif.Proofs.Bits
import PanqecVerif.Proofs.ValidCode
import PanqecVerif.Proofs.RowCombos

namespace Panqec.Symp

open Module LinearMap Submodule

section Abstract

variable {K V : Type*} [Field K] [AddCommGroup V] [Module K V]

/-- Stabilizer-code data inside a space with a bilinear form `B`:
    an isotropic subspace `S` and `k` pairs of logical operators in `S^⊥` with the
    canonical pairing table.  (No dimension hypothesis here.) -/
structure StabData (B : LinearMap.BilinForm K V) (k : ℕ) where
  S : Submodule K V
  lx : Fin k → V
  lz : Fin k → V
  iso : S ≤ B.orthogonal S
  lxS : ∀ i, lx i ∈ B.orthogonal S
  lzS : ∀ i, lz i ∈ B.orthogonal S
  xx : ∀ i j, B (lx i) (lx j) = 0
  zz : ∀ i j, B (lz i) (lz j) = 0
  xz : ∀ i j, B (lx i) (lz j) = if i = j then 1 else 0

variable {B : LinearMap.BilinForm K V} {k : ℕ}

/-- logical effect map restricted to the normaliser `N = S^⊥`:
    `e ↦ (ω(lz_i, e))_i ⊕ (ω(lx_i, e))_i` -/
noncomputable def effect (C : StabData B k) : B.orthogonal C.S →ₗ[K] (Fin k ⊕ Fin k → K) where
  toFun e := Sum.elim (fun i => B (C.lz i) e) (fun i => B (C.lx i) e)
  map_add' a b := by
    funext s; cases s <;> simp
  map_smul' c a := by
    funext s; cases s <;> simp

theorem effect_surjective (hAlt : B.IsAlt) (C : StabData B k) :
    Function.Surjective (effect C) := by
  intro t
  have hzx : ∀ i j, B (C.lz i) (C.lx j) = if i = j then -1 else 0 := fun i j => by
    rw [← hAlt.neg_eq (C.lx j) (C.lz i), C.xz]
    by_cases h : i = j
    · simp [h]
    · simp [h, Ne.symm h]
  let e : V := ∑ i, (-(t (Sum.inl i))) • C.lx i + ∑ i, (t (Sum.inr i)) • C.lz i
  have he : e ∈ B.orthogonal C.S := by
    apply Submodule.add_mem
    · exact Submodule.sum_mem _ (fun i _ => Submodule.smul_mem _ _ (C.lxS i))
    · exact Submodule.sum_mem _ (fun i _ => Submodule.smul_mem _ _ (C.lzS i))
  refine ⟨⟨e, he⟩, ?_⟩
  funext s
  cases s with
  | inl j =>
    simp only [effect, LinearMap.coe_mk, AddHom.coe_mk, Sum.elim_inl, e]
    simp [map_add, map_sum, hzx, C.zz, Finset.sum_ite_eq]
  | inr j =>
    simp only [effect, LinearMap.coe_mk, AddHom.coe_mk, Sum.elim_inr, e]
    simp [map_add, map_sum, C.xx, C.xz, Finset.sum_ite_eq]

theorem mem_ker_effect (C : StabData B k) (e : B.orthogonal C.S) :
    e ∈ LinearMap.ker (effect C) ↔ (∀ i, B (C.lx i) e = 0) ∧ ∀ i, B (C.lz i) e = 0 := by
  rw [LinearMap.mem_ker, funext_iff, Sum.forall, and_comm]
  rfl

theorem comap_le_ker_effect (hAlt : B.IsAlt) (C : StabData B k) :
    C.S.comap (B.orthogonal C.S).subtype ≤ LinearMap.ker (effect C) := fun x hx =>
  (mem_ker_effect C x).mpr
    ⟨fun i => hAlt.isRefl _ _ (C.lxS i _ hx), fun i => hAlt.isRefl _ _ (C.lzS i _ hx)⟩

theorem finrank_comap_subtype (C : StabData B k) :
    finrank K (C.S.comap (B.orthogonal C.S).subtype) = finrank K C.S :=
  (Submodule.comapSubtypeEquivOfLe C.iso).finrank_eq

variable [FiniteDimensional K V]

/-- rank–nullity for the effect map, which is onto -/
theorem finrank_ker_effect (hB : B.Nondegenerate) (hAlt : B.IsAlt) (C : StabData B k) :
    finrank K (LinearMap.ker (effect C)) + 2 * k + finrank K C.S = finrank K V := by
  have h1 := LinearMap.BilinForm.finrank_orthogonal hB C.S
  have hle : finrank K C.S ≤ finrank K V := Submodule.finrank_le _
  have hrank := LinearMap.finrank_range_add_finrank_ker (effect C)
  have hsurj : finrank K (LinearMap.range (effect C)) = 2 * k := by
    rw [LinearMap.range_eq_top.mpr (effect_surjective hAlt C)]
    simp [two_mul]
  omega

/-- Dimension bound: an isotropic subspace that comes with `k` logical pairs has
    `2·dim S + 2k ≤ dim V`. -/
theorem two_finrank_add_le (hB : B.Nondegenerate) (hAlt : B.IsAlt) (C : StabData B k) :
    2 * finrank K C.S + 2 * k ≤ finrank K V := by
  have h := finrank_ker_effect hB hAlt C
  have hker := Submodule.finrank_mono (comap_le_ker_effect hAlt C)
  rw [finrank_comap_subtype] at hker
  omega

/-- Membership in the stabilizer space when the dimensions add up:
    `e ∈ S ↔ e ∈ S^⊥ ∧ ∀ i, ω(lx_i,e) = 0 ∧ ∀ i, ω(lz_i,e) = 0`. -/
theorem mem_stabilizer_iff (hB : B.Nondegenerate) (hAlt : B.IsAlt) (C : StabData B k)
    (hdim : finrank K V = 2 * finrank K C.S + 2 * k) (e : V) :
    e ∈ C.S ↔ (e ∈ B.orthogonal C.S ∧ (∀ i, B (C.lx i) e = 0) ∧ (∀ i, B (C.lz i) e = 0)) := by
  have h := finrank_ker_effect hB hAlt C
  -- `S ≤ ker` and both have the same dimension
  have heq : C.S.comap (B.orthogonal C.S).subtype = LinearMap.ker (effect C) :=
    Submodule.eq_of_le_of_finrank_eq (comap_le_ker_effect hAlt C)
      (by rw [finrank_comap_subtype]; omega)
  constructor
  · intro he
    exact ⟨C.iso he, (mem_ker_effect C ⟨e, C.iso he⟩).mp (comap_le_ker_effect hAlt C he)⟩
  · rintro ⟨heN, h⟩
    have : (⟨e, heN⟩ : B.orthogonal C.S) ∈ LinearMap.ker (effect C) := (mem_ker_effect C _).mpr h
    rwa [← heq] at this

end Abstract

/-- binary symplectic vectors on `n` qubits: (X block, Z block) -/
abbrev PVec (n : ℕ) := (Fin n → ZMod 2) × (Fin n → ZMod 2)

/-- `ω((x,z),(x',z')) = x·z' + z·x'` -/
def sympForm (n : ℕ) : LinearMap.BilinForm (ZMod 2) (PVec n) :=
  LinearMap.mk₂ (ZMod 2) (fun a b => a.1 ⬝ᵥ b.2 + a.2 ⬝ᵥ b.1)
    (by intro a b c; simp [add_dotProduct]; ring)
    (by intro c a b; simp [smul_dotProduct]; ring)
    (by intro a b c; simp [dotProduct_add]; ring)
    (by intro c a b; simp [dotProduct_smul]; ring)

theorem sympForm_apply (n) (a b : PVec n) : sympForm n a b = a.1 ⬝ᵥ b.2 + a.2 ⬝ᵥ b.1 := rfl

theorem sympForm_isAlt (n) : (sympForm n).IsAlt := by
  intro a
  rw [sympForm_apply, dotProduct_comm a.2 a.1]
  have : (2 : ZMod 2) = 0 := rfl
  rw [← two_mul, this, zero_mul]

theorem sympForm_nondegenerate (n) : (sympForm n).Nondegenerate := by
  apply (LinearMap.IsRefl.nondegenerate_iff_separatingLeft (sympForm_isAlt n).isRefl).mpr
  intro a h
  ext i
  · have := h (0, Pi.single i 1)
    simpa [sympForm_apply] using this
  · have := h (Pi.single i 1, 0)
    simpa [sympForm_apply] using this

theorem finrank_PVec (n : ℕ) : finrank (ZMod 2) (PVec n) = 2 * n := by
  simp [PVec, two_mul]

end Panqec.Symp

namespace Panqec

open Symp Module

/-- cast of a list-level BSF vector into the symplectic space -/
def toVec (n : ℕ) (v : List Nat) : PVec n :=
  (fun i => (((xPart v).getD i 0 : ℕ) : ZMod 2), fun i => (((zPart v).getD i 0 : ℕ) : ZMod 2))

theorem dot_cast : ∀ (n : ℕ) (xs zs : List Nat), xs.length = n → zs.length = n →
    ((dot xs zs : ℕ) : ZMod 2) =
      (fun i : Fin n => ((xs.getD i 0 : ℕ) : ZMod 2)) ⬝ᵥ (fun i : Fin n => ((zs.getD i 0 : ℕ) : ZMod 2))
  | 0, xs, zs, hx, hz => by
    have : xs = [] := List.length_eq_zero_iff.mp hx
    subst this
    simp [dot_nil_left, dotProduct]
  | n + 1, [], zs, hx, hz => by simp at hx
  | n + 1, x :: xs, [], hx, hz => by simp at hz
  | n + 1, x :: xs, z :: zs, hx, hz => by
    simp at hx hz
    have ih := dot_cast n xs zs hx hz
    simp only [dotProduct] at ih ⊢
    rw [Fin.sum_univ_succ]
    simp [ih]

theorem xPart_eq_take {n : ℕ} {a : List Nat} (h : a.length = 2 * n) : xPart a = a.take n := by
  unfold xPart; rw [h]; congr 1; omega
theorem zPart_eq_drop {n : ℕ} {a : List Nat} (h : a.length = 2 * n) : zPart a = a.drop n := by
  unfold zPart; rw [h]; congr 1; omega
theorem symp_cast {n : ℕ} {a b : List Nat} (ha : a.length = 2 * n) (hb : b.length = 2 * n) :
    ((symp a b : ℕ) : ZMod 2) = sympForm n (toVec n a) (toVec n b) := by
  unfold symp
  rw [ZMod.natCast_mod, Nat.cast_add, dot_cast n _ _ (xPart_len ha) (zPart_len hb),
    dot_cast n _ _ (zPart_len ha) (xPart_len hb), sympForm_apply]
  rfl

theorem symp_eq_zero_iff {n : ℕ} {a b : List Nat} (ha : a.length = 2 * n) (hb : b.length = 2 * n) :
    symp a b = 0 ↔ sympForm n (toVec n a) (toVec n b) = 0 := by
  rw [← symp_cast ha hb, ZMod.natCast_eq_zero_iff]
  have := symp_lt_two a b
  omega

theorem toVec_vxor (n : ℕ) (a b : List Nat) (h : a.length = b.length) :
    toVec n (vxor a b) = toVec n a + toVec n b := by
  have hx : (xPart a).length = (xPart b).length := by simp [xPart_length, h]
  have hz : (zPart a).length = (zPart b).length := by simp [zPart_length, h]
  unfold toVec
  rw [xPart_vxor a b h, zPart_vxor a b h]
  refine Prod.ext (funext fun i => ?_) (funext fun i => ?_)
  · show (((vxor (xPart a) (xPart b)).getD i 0 : ℕ) : ZMod 2) = _
    rw [getD_vxor _ _ _ hx, ZMod.natCast_mod, Nat.cast_add]; rfl
  · show (((vxor (zPart a) (zPart b)).getD i 0 : ℕ) : ZMod 2) = _
    rw [getD_vxor _ _ _ hz, ZMod.natCast_mod, Nat.cast_add]; rfl

theorem toVec_vzero (n m : ℕ) : toVec n (vzero m) = 0 := by
  ext i <;>
    simp [toVec, vzero, xPart, zPart, List.getD_eq_getElem?_getD, List.getElem?_replicate] <;>
    split <;> simp

theorem list_eq_of_cast_getD (n : ℕ) (xs ys : List Nat) (hx : xs.length = n) (hy : ys.length = n)
    (bx : ∀ x ∈ xs, x < 2) (by_ : ∀ y ∈ ys, y < 2)
    (h : ∀ i : Fin n, ((xs.getD i 0 : ℕ) : ZMod 2) = ((ys.getD i 0 : ℕ) : ZMod 2)) : xs = ys := by
  apply List.ext_getElem (by rw [hx, hy])
  intro i h1 h2
  have := h ⟨i, by omega⟩
  rw [ZMod.natCast_eq_natCast_iff'] at this
  simp only [List.getD_eq_getElem?_getD, List.getElem?_eq_getElem h1, List.getElem?_eq_getElem h2,
    Option.getD_some] at this
  have b1 := bx _ (List.getElem_mem h1)
  have b2 := by_ _ (List.getElem_mem h2)
  omega

theorem toVec_injective {n : ℕ} {a b : List Nat} (ha : a.length = 2 * n) (hb : b.length = 2 * n)
    (ba : ∀ x ∈ a, x < 2) (bb : ∀ x ∈ b, x < 2) (h : toVec n a = toVec n b) : a = b := by
  have h1 : xPart a = xPart b :=
    list_eq_of_cast_getD n _ _ (xPart_len ha) (xPart_len hb)
      (fun x hx => ba x (List.mem_of_mem_take hx)) (fun x hx => bb x (List.mem_of_mem_take hx))
      (congrFun (congrArg Prod.fst h))
  have h2 : zPart a = zPart b :=
    list_eq_of_cast_getD n _ _ (zPart_len ha) (zPart_len hb)
      (fun x hx => ba x (List.mem_of_mem_drop hx)) (fun x hx => bb x (List.mem_of_mem_drop hx))
      (congrFun (congrArg Prod.snd h))
  rw [← List.take_append_drop (a.length / 2) a, ← List.take_append_drop (b.length / 2) b]
  exact congrArg₂ _ h1 h2

def rowVec (n : ℕ) (rows : List (List Nat)) : Fin rows.length → PVec n := fun i => toVec n rows[i]

def rowSpan (n : ℕ) (rows : List (List Nat)) : Submodule (ZMod 2) (PVec n) :=
  Submodule.span (ZMod 2) (Set.range (rowVec n rows))

theorem toVec_xorCombo (n : ℕ) : ∀ (rows : List (List Nat)) (sel : List Bool),
    (∀ r ∈ rows, r.length = 2 * n) → toVec n (xorCombo (2 * n) sel rows) =
      ∑ i : Fin rows.length, (if sel.getD i false then (1 : ZMod 2) else 0) • rowVec n rows i
  | [], sel, _ => by cases sel <;> simp [xorCombo, toVec_vzero]
  | r :: rows, [], _ => by simp [xorCombo, toVec_vzero]
  | r :: rows, s :: sel, h => by
    have hrows : ∀ r ∈ rows, r.length = 2 * n := fun r hr => h r (by simp [hr])
    have hr : r.length = 2 * n := h r (by simp)
    simp only [List.length_cons]
    rw [Fin.sum_univ_succ, xorCombo]
    cases s
    · simp [rowVec, toVec_xorCombo n rows sel hrows]
    · rw [if_pos rfl, toVec_vxor n _ _ (by rw [hr, xorCombo_length _ _ _ hrows]),
        toVec_xorCombo n rows sel hrows]
      simp [rowVec]

theorem toVec_mem_rowSpan (n : ℕ) (rows : List (List Nat)) (r : List Nat) (hr : r ∈ rows) :
    toVec n r ∈ rowSpan n rows := by
  obtain ⟨i, hi, rfl⟩ := List.getElem_of_mem hr
  exact Submodule.subset_span ⟨⟨i, hi⟩, rfl⟩

theorem zmod2_ite (c : ZMod 2) : (if decide (c = 1) then (1 : ZMod 2) else 0) = c := by
  revert c; decide

/-- every coefficient family over `ZMod 2` is a selection -/
theorem toVec_xorCombo_ofFn {n : ℕ} {rows : List (List Nat)} (hrows : ∀ r ∈ rows, r.length = 2 * n)
    (c : Fin rows.length → ZMod 2) :
    toVec n (xorCombo (2 * n) (List.ofFn fun i => decide (c i = 1)) rows) =
      ∑ i, c i • rowVec n rows i := by
  rw [toVec_xorCombo n rows _ hrows]
  apply Finset.sum_congr rfl
  intro i _
  congr 1
  have : (List.ofFn (fun i => decide (c i = 1))).getD i false = decide (c i = 1) := by
    simp [List.getD_eq_getElem?_getD]
  rw [this, zmod2_ite]

theorem mem_rowSpan_of_inSpan {n : ℕ} {rows : List (List Nat)} {e : List Nat}
    (hrows : ∀ r ∈ rows, r.length = 2 * n) (h : InSpan (2 * n) rows e) :
    toVec n e ∈ rowSpan n rows := by
  obtain ⟨sel, _, rfl⟩ := h
  rw [toVec_xorCombo n rows sel hrows]
  exact Submodule.sum_mem _ fun i _ => Submodule.smul_mem _ _ (Submodule.subset_span ⟨i, rfl⟩)

theorem inSpan_iff_mem_rowSpan {n : ℕ} {rows : List (List Nat)} {e : List Nat}
    (hrows : ∀ r ∈ rows, r.length = 2 * n) (he : e.length = 2 * n) (be : ∀ x ∈ e, x < 2) :
    InSpan (2 * n) rows e ↔ toVec n e ∈ rowSpan n rows := by
  refine ⟨mem_rowSpan_of_inSpan hrows, fun h => ?_⟩
  obtain ⟨c, hc⟩ := (Submodule.mem_span_range_iff_exists_fun _).mp h
  refine ⟨List.ofFn fun i => decide (c i = 1), by simp,
    toVec_injective (xorCombo_length _ _ _ hrows) he (xorCombo_binary _ _ _) be ?_⟩
  rw [toVec_xorCombo_ofFn hrows, hc]

theorem inSpan_vxor {n : Nat} {rows : List (List Nat)} {a b : List Nat}
    (hrows : ∀ r ∈ rows, r.length = 2 * n) (ha : a.length = 2 * n) (hb : b.length = 2 * n)
    (ba : ∀ x ∈ a, x < 2) (bb : ∀ x ∈ b, x < 2)
    (h1 : InSpan (2 * n) rows a) (h2 : InSpan (2 * n) rows b) : InSpan (2 * n) rows (vxor a b) := by
  rw [inSpan_iff_mem_rowSpan hrows (by rw [vxor_length a b (by omega), ha]) (vxor_binary a b),
    toVec_vxor n a b (by omega)]
  exact Submodule.add_mem _ ((inSpan_iff_mem_rowSpan hrows ha ba).mp h1)
    ((inSpan_iff_mem_rowSpan hrows hb bb).mp h2)

theorem xorCombo_eq_vzero_iff {n : ℕ} {rows : List (List Nat)} (sel : List Bool)
    (hrows : ∀ r ∈ rows, r.length = 2 * n) :
    xorCombo (2 * n) sel rows = vzero (2 * n) ↔ toVec n (xorCombo (2 * n) sel rows) = 0 := by
  constructor
  · intro h; rw [h, toVec_vzero]
  · intro h
    rw [← toVec_vzero n (2 * n)] at h
    exact toVec_injective (xorCombo_length _ _ _ hrows) (by simp [vzero])
      (xorCombo_binary _ _ _) (vzero_binary _) h

theorem indep_iff_linearIndependent {n : ℕ} {rows : List (List Nat)}
    (hrows : ∀ r ∈ rows, r.length = 2 * n) :
    Indep (2 * n) rows ↔ LinearIndependent (ZMod 2) (rowVec n rows) := by
  rw [Fintype.linearIndependent_iff]
  constructor
  · intro h g hg i
    have hsel := h (List.ofFn (fun i => decide (g i = 1))) (by simp) (by
      rw [xorCombo_eq_vzero_iff _ hrows, toVec_xorCombo_ofFn hrows, hg])
    have := hsel (decide (g i = 1)) (by
      rw [List.mem_ofFn]; exact ⟨i, rfl⟩)
    have h1 : g i ≠ 1 := by simpa using this
    revert h1; generalize g i = c; revert c; decide
  · intro h sel hl hz s hs
    rw [xorCombo_eq_vzero_iff _ hrows, toVec_xorCombo n rows sel hrows] at hz
    have := h (fun i => if sel.getD i false then 1 else 0) hz
    obtain ⟨i, hi, rfl⟩ := List.getElem_of_mem hs
    have h2 := this ⟨i, by omega⟩
    simp only [List.getD_eq_getElem?_getD, List.getElem?_eq_getElem hi, Option.getD_some] at h2
    cases hsi : sel[i] with
    | false => rfl
    | true => rw [hsi] at h2; simp at h2

theorem rowSpan_mono_of_subset {n : ℕ} {a b : List (List Nat)} (h : ∀ r ∈ a, r ∈ b) :
    rowSpan n a ≤ rowSpan n b := by
  apply Submodule.span_le.mpr
  rintro _ ⟨i, rfl⟩
  exact toVec_mem_rowSpan n b _ (h _ (List.getElem_mem i.2))

theorem finrank_rowSpan_of_indep {n : ℕ} {rows : List (List Nat)}
    (hrows : ∀ r ∈ rows, r.length = 2 * n) (hind : Indep (2 * n) rows) :
    finrank (ZMod 2) (rowSpan n rows) = rows.length := by
  have := finrank_span_eq_card ((indep_iff_linearIndependent hrows).mp hind)
  rwa [Fintype.card_fin] at this

theorem finrank_rowSpan_of_hasRank {n r : ℕ} {rows : List (List Nat)}
    (hrows : ∀ r ∈ rows, r.length = 2 * n) (h : HasRank (2 * n) rows r) :
    finrank (ZMod 2) (rowSpan n rows) = r := by
  obtain ⟨basis, hsub, hlen, hind, hspan⟩ := h
  have hb : ∀ r ∈ basis, r.length = 2 * n := fun r hr => hrows r (hsub.subset hr)
  have h1 : rowSpan n rows = rowSpan n basis := by
    apply le_antisymm
    · apply Submodule.span_le.mpr
      rintro _ ⟨i, rfl⟩
      exact mem_rowSpan_of_inSpan hb (hspan _ (List.getElem_mem i.2))
    · exact rowSpan_mono_of_subset (fun r hr => hsub.subset hr)
  rw [h1, finrank_rowSpan_of_indep hb hind, hlen]

theorem length_le_finrank_of_indep {n : ℕ} {rows basis : List (List Nat)}
    (hrows : ∀ r ∈ rows, r.length = 2 * n) (hsub : basis.Sublist rows)
    (hind : Indep (2 * n) basis) : basis.length ≤ finrank (ZMod 2) (rowSpan n rows) := by
  rw [← finrank_rowSpan_of_indep (fun r hr => hrows r (hsub.subset hr)) hind]
  exact Submodule.finrank_mono (rowSpan_mono_of_subset (fun r hr => hsub.subset hr))

end Panqec
