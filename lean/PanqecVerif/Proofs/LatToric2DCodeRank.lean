/-
Toric2DCode, all sizes `Lx, Ly ≥ 2`: the generators at all stabilizer locations except the
vertex `(0, 0)` and the face `(1, 1)` are independent (triangular probes along a spanning tree:
columns `x = 0`, `x = 1` upwards, then every row to the right).
-/
import PanqecVerif.Proofs.LatPlanar2DCodeShared
import PanqecVerif.Proofs.LatToric2DCodeCss

namespace Panqec.Toric2DCode
open Panqec.Lat2D

/-! `selStabs` (all stabilizer locations but one vertex and one face): defined in
    `Model/Lattices/Toric2DCode.lean` (linked into the driver, op `rankfamily`) -/

theorem mem_selStabs {Lx Ly : Nat} {s : Coord} :
    s ∈ selStabs Lx Ly ↔ s ∈ stabs Lx Ly ∧ s ≠ [0, 0] ∧ s ≠ [1, 1] := by
  unfold selStabs
  simp only [List.mem_filter, Bool.and_eq_true, bne_iff_ne, ne_eq]

/-- vertex `(x, y)`: `X` on `(x−1, y)` (on `(0, y−1)` in the column `x = 0`);
    face `(x, y)`: `Z` on `(x−1, y)` (on `(1, y−1)` in the column `x = 1`) -/
def probe (s : Coord) : Coord × Pauli :=
  match s with
  | [x, y] =>
    if x % 2 = 0 then (if x = 0 then ([0, y - 1], Pauli.X) else ([x - 1, y], Pauli.X))
    else (if x = 1 then ([1, y - 1], Pauli.Z) else ([x - 1, y], Pauli.Z))
  | _ => ([], Pauli.I)

/-- first column bottom-up, then by `x` -/
def rankOf (Ly : Nat) (s : Coord) : Nat :=
  match s with
  | [x, y] => if x = 0 ∨ x = 1 then y.toNat else 2 * Ly + x.toNat
  | _ => 0

theorem rankOf_cases (Ly : Nat) (x y : Int) :
    ((x = 0 ∨ x = 1) ∧ rankOf Ly [x, y] = y.toNat) ∨
    (¬ (x = 0 ∨ x = 1) ∧ rankOf Ly [x, y] = 2 * Ly + x.toNat) := by
  unfold rankOf
  by_cases h : x = 0 ∨ x = 1 <;> simp [h]

/-- a selected location is a stabilizer location other than the two corners -/
theorem sel_pair {Lx Ly : Nat} {x y : Int} (h : [x, y] ∈ selStabs Lx Ly) :
    [x, y] ∈ stabs Lx Ly ∧ InBox Lx Ly x y ∧ x % 2 = y % 2 ∧ ¬ (x = 0 ∧ y = 0) ∧
      ¬ (x = 1 ∧ y = 1) := by
  obtain ⟨hs, h00, h11⟩ := mem_selStabs.mp h
  have hb := stab_box (mem_stabs'.mp hs)
  exact ⟨hs, hb.1, hb.2, fun e => h00 (by rw [e.1, e.2]), fun e => h11 (by rw [e.1, e.2])⟩

theorem probe_pair (x y : Int) :
    probe [x, y] = (if x = 0 ∨ x = 1 then [x, y - 1] else [x - 1, y],
      if x % 2 = 0 then Pauli.X else Pauli.Z) := by
  show (if x % 2 = 0 then (if x = 0 then ([0, y - 1], Pauli.X) else ([x - 1, y], Pauli.X))
    else (if x = 1 then ([1, y - 1], Pauli.Z) else ([x - 1, y], Pauli.Z))) = _
  by_cases hp : x % 2 = 0
  · rw [if_pos hp, if_pos hp]
    by_cases h0 : x = 0
    · subst h0; rfl
    · rw [if_neg h0, if_neg (by omega)]
  · rw [if_neg hp, if_neg hp]
    by_cases h1 : x = 1
    · subst h1; rfl
    · rw [if_neg h1, if_neg (by omega)]

/-- the probed qubit is the neighbour below in the first two columns, the neighbour to the left
    elsewhere -/
theorem probe_fst (Lx Ly : Nat) {x y : Int} (hp : x % 2 = y % 2)
    (h00 : ¬ (x = 0 ∧ y = 0)) (h11 : ¬ (x = 1 ∧ y = 1)) :
    (probe [x, y]).1 =
      if x = 0 ∨ x = 1 then [x, predW y (2 * (Ly : Int))] else [predW x (2 * (Lx : Int)), y] := by
  rw [probe_pair]
  show (if x = 0 ∨ x = 1 then [x, y - 1] else [x - 1, y]) = _
  by_cases hc : x = 0 ∨ x = 1
  · rw [if_pos hc, if_pos hc, predW, if_neg (by omega)]
  · rw [if_neg hc, if_neg hc, predW, if_neg (by omega)]

/-- the probe letter is the one that anticommutes with the generators of the type of `x` -/
theorem probe_anti (x y x' : Int) :
    Pauli.anti (probe [x, y]).2 (letter x') = true ↔ (x % 2 = 0 ↔ x' % 2 = 0) := by
  rw [probe_pair]
  show Pauli.anti (if x % 2 = 0 then Pauli.X else Pauli.Z)
    (if x' % 2 = 0 then Pauli.Z else Pauli.X) = true ↔ _
  by_cases hp : x % 2 = 0 <;> by_cases hp' : x' % 2 = 0 <;>
    simp only [hp, hp', if_true, if_false] <;> decide

/-- the neighbours of the point before `a ≥ 2` on a cycle -/
theorem cadj_pred {P a b : Int} (h2 : 2 ≤ a) (h1 : a < P) (h : cadj P (predW a P) b) :
    b = a - 2 ∨ b = a := by
  have := predW_spec a P; have := predW_spec (predW a P) P; have := succW_spec (predW a P) P
  unfold cadj at h; omega

theorem rank_lt_col {Ly : Nat} {x y : Int} (hc : x = 0 ∨ x = 1) (h2 : 2 ≤ y) :
    rankOf Ly [x, y - 2] < rankOf Ly [x, y] := by
  have := rankOf_cases Ly x y; have := rankOf_cases Ly x (y - 2); omega

theorem rank_lt_row {Ly : Nat} {x y : Int} (h2 : 2 ≤ x) (h0 : 0 ≤ y) (h1 : y < 2 * (Ly : Int)) :
    rankOf Ly [x - 2, y] < rankOf Ly [x, y] := by
  have := rankOf_cases Ly x y; have := rankOf_cases Ly (x - 2) y; omega

/-- the probed qubit of `(x, y)` lies on one other generator of the same type, and that one comes
    earlier: `(x, y − 2)` in the first two columns, `(x − 2, y)` elsewhere -/
theorem probe_nbr_rank {Lx Ly : Nat} {x y x' y' : Int} (hb : InBox Lx Ly x y) (hp : x % 2 = y % 2)
    (h00 : ¬ (x = 0 ∧ y = 0)) (h11 : ¬ (x = 1 ∧ y = 1)) (hb' : InBox Lx Ly x' y')
    (hp' : x' % 2 = y' % 2) (hpar : x % 2 = 0 ↔ x' % 2 = 0)
    (hmem : (probe [x, y]).1 ∈ nbrs Lx Ly x' y') :
    (x = x' ∧ y = y') ∨ rankOf Ly [x', y'] < rankOf Ly [x, y] := by
  rw [probe_fst Lx Ly hp h00 h11] at hmem
  by_cases hc : x = 0 ∨ x = 1
  · have h2 : 2 ≤ y := by have := hb.2.2.1; omega
    have hq : cadj (2 * (Ly : Int)) y (predW y (2 * (Ly : Int))) := Or.inl rfl
    have hqr := cadj_range hb.2.2.1 hb.2.2.2 hq
    have hqp := cadj_parity (Int.mul_emod_right 2 Ly) hq
    rw [if_pos hc, mem_nbrs, nbr_V (by omega),
      cadj_symm hb'.2.2.1 hb'.2.2.2 hqr.1 hqr.2] at hmem
    rcases cadj_pred h2 hb.2.2.2 hmem.2 with e | e
    · right; rw [hmem.1, e]; exact rank_lt_col hc h2
    · left; exact ⟨hmem.1.symm, e.symm⟩
  · have h2 : 2 ≤ x := by have := hb.1; omega
    have hq : cadj (2 * (Lx : Int)) x (predW x (2 * (Lx : Int))) := Or.inl rfl
    have hqr := cadj_range hb.1 hb.2.1 hq
    have hqp := cadj_parity (Int.mul_emod_right 2 Lx) hq
    rw [if_neg hc, mem_nbrs, nbr_H (by omega), cadj_symm hb'.1 hb'.2.1 hqr.1 hqr.2] at hmem
    rcases cadj_pred h2 hb.2.1 hmem.1 with e | e
    · right; rw [hmem.2, e]; exact rank_lt_row h2 hb.2.2.1 hb.2.2.2
    · left; exact ⟨e.symm, hmem.2.symm⟩

theorem triangular {Lx Ly : Nat} (hx : 2 ≤ Lx) (hy : 2 ≤ Ly) :
    TriangularProbes (lattice Lx Ly) (selStabs Lx Ly) probe (rankOf Ly) := by
  -- `get_stabilizer` keeps the neighbours that pass `is_qubit`: all four
  refine triangular_of_supports (fun x y => (nbrs Lx Ly x y).filter (isQubit Lx Ly))
    (fun x _ => letter x)
    (fun s hs => let ⟨x, y, e, _⟩ := mem_stabs.mp (mem_selStabs.mp hs).1; ⟨x, y, e⟩)
    ?_ (fun x y q hq => isIn_iff.mp (List.mem_filter.mp hq).2) ?_ ?_
  · intro x y h
    have hs := (sel_pair h).1
    rw [getStab_eq hx hy hs, List.filter_eq_self.mpr (nbrs_isQ (mem_stabs'.mp hs))]
  · intro x y h
    obtain ⟨hs, -, hp, h00, h11⟩ := sel_pair h
    have hmem : (probe [x, y]).1 ∈ nbrs Lx Ly x y := by
      rw [probe_fst Lx Ly hp h00 h11]
      split
      · exact mem_nbrs.mpr (Or.inr (Or.inr (Or.inl ⟨rfl, rfl⟩)))
      · exact mem_nbrs.mpr (Or.inl ⟨rfl, rfl⟩)
    exact ⟨(probe_anti x y x).mpr Iff.rfl,
      List.mem_filter.mpr ⟨hmem, nbrs_isQ (mem_stabs'.mp hs) _ hmem⟩⟩
  · rintro x y x' y' h h' hne hle ⟨hanti, hmem⟩
    obtain ⟨-, hb, hp, h00, h11⟩ := sel_pair h
    obtain ⟨-, hb', hp', -, -⟩ := sel_pair h'
    rcases probe_nbr_rank hb hp h00 h11 hb' hp' ((probe_anti x y x').mp hanti)
      (List.mem_filter.mp hmem).1 with e | hlt
    · exact hne e
    · exact absurd hle (Nat.not_le.mpr hlt)

/-- the generators at all stabilizer locations except `(0, 0)` and `(1, 1)` are independent,
    for every size `Lx, Ly ≥ 2` -/
theorem indep_sel {Lx Ly : Nat} (hx : 2 ≤ Lx) (hy : 2 ≤ Ly) :
    IndepGenerators (lattice Lx Ly) (selStabs Lx Ly) :=
  indep_of_triangular (triangular hx hy)

/-- the selected family has `n − k = 2·Lx·Ly − 2` members -/
theorem length_selStabs {Lx Ly : Nat} (hx : 1 ≤ Lx) (hy : 1 ≤ Ly) :
    (selStabs Lx Ly).length + 2 = 2 * Lx * Ly := by
  rw [← length_stabs Lx Ly]
  apply length_remove_two _ _ _ (nodup_stabs Lx Ly)
  · rw [mem_stabs']; left; unfold IsV InBox; omega
  · rw [mem_stabs']; right; unfold IsF InBox; omega
  · decide

end Panqec.Toric2DCode
