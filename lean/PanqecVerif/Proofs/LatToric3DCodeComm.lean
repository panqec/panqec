/-
`Toric3DCode`, every size with `2 ≤ Lx, Ly, Lz`: a face operator and a vertex operator overlap on
an even number of qubits, by `Cubic3D.ov_rim_star`; the periodic lattice enters only through
`adj_iff` (one coordinate: an even site is next to an odd one iff the odd one is next to it).
-/
import PanqecVerif.Proofs.LatToric3DCodeStab

namespace Panqec.Toric3DCode
open Panqec.Cubic3D

theorem adj_iff {L : Nat} {e o : Int} (he : isE L e) (ho : isO L o) : e ∈ nbO L o ↔ o ∈ nbE L e := by
  simp only [nbE, nbO, List.mem_cons, List.not_mem_nil, or_false, isE, isO] at *
  have := predW_spec e (2 * (L : Int))
  have := succW_spec o (2 * (L : Int))
  omega

theorem ne_of_isO_isE {L L' : Nat} {o e : Int} (ho : isO L o) (he : isE L' e) : o ≠ e := by
  simp only [isE, isO] at *; omega

theorem ov_vertex_face {Lx Ly Lz : Nat} {ax : Axis} {u v w x y z : Int} (hLx : 2 ≤ Lx)
    (hLy : 2 ≤ Ly) (hLz : 2 ≤ Lz) (hv : isVertex Lx Ly Lz x y z) (hf : isFace Lx Ly Lz ax u v w) :
    ov (vertexKeys Lx Ly Lz x y z) (faceKeys Lx Ly Lz ax u v w) % 2 = 0 := by
  have h2 := le_sz hLx hLy hLz
  have n1 := nbO_nodup (h2 _) hf.2.1
  have n2 := nbO_nodup (h2 _) hf.2.2
  rw [ov_comm (vertexKeys_nodup hLx hLy hLz hv) (faceKeys_nodup (h2 _) (h2 _) hf)]
  rw [vertexKeys_eq]
  cases ax
  · exact ov_rim_star n1 n2 (ne_of_isO_isE hf.2.1 hv.2.1) (ne_of_isO_isE hf.2.2 hv.2.2)
      (adj_iff hv.2.1 hf.2.1) (adj_iff hv.2.2 hf.2.2)
  · rw [ov_congr_right fun _ => star_y]
    exact ov_rim_star n1 n2 (ne_of_isO_isE hf.2.1 hv.1) (ne_of_isO_isE hf.2.2 hv.2.2)
      (adj_iff hv.1 hf.2.1) (adj_iff hv.2.2 hf.2.2)
  · rw [ov_congr_right fun _ => star_z]
    exact ov_rim_star n1 n2 (ne_of_isO_isE hf.2.1 hv.1) (ne_of_isO_isE hf.2.2 hv.2.1)
      (adj_iff hv.1 hf.2.1) (adj_iff hv.2.1 hf.2.2)

end Panqec.Toric3DCode
