/-
The anticommutation count of a line operator on `colKeys` / `rowKeys` (`Lat2DLines`) as a sum of
indicators, for the all-sizes distance proofs of the 2-D surface codes.
-/
import PanqecVerif.Proofs.Lat2DLines
import PanqecVerif.Proofs.DistLattice

namespace Panqec.Lat2D

theorem countP_colKeys (P : Pauli) (b : Op) (u : Int) (p L : Nat) :
    (colKeys u p L).countP (opHit P b) =
      rsum L (fun j => ind P b [u, ((2 * j + p : Nat) : Int)]) :=
  countP_range_map _ _ L
theorem countP_rowKeys (P : Pauli) (b : Op) (u : Int) (p L : Nat) :
    (rowKeys u p L).countP (opHit P b) =
      rsum L (fun j => ind P b [((2 * j + p : Nat) : Int), u]) :=
  countP_range_map _ _ L

end Panqec.Lat2D
