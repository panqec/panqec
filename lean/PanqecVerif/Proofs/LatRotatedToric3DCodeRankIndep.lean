/-
`RotatedToric3DCode`, supported family, rank clause: `rankFamily` is GF(2)-independent, by the
triangular criterion `Cubic3D.opsIndep_of_witnesses`.  Witnesses (qubit, sign; the component is
`sign != col qubit`) and ranks:

* a vertex of a layer `z ≥ 3`: the vertical qubit below it (only the vertex two layers down acts
  there with a Z component); rank `tr x y + z`;
* a horizontal face next to the dropped column (any layer): the qubit of the dropped column /
  row on its lower side — `(1, y − 1, z)` resp. `(x − 1, 1, z)` — with sign "x = 2" resp. "y = 2";
  the only other generator with that component there is a vertex (across the seam a vertex of the
  defect line writes X, a face of the defect line writes Z); no vertical face touches the column;
  rank `N1`, above every vertex;
* a vertical face `(f, g, h)`: the horizontal qubit `(f, g, h + 1)` above it, X component; the other
  generators acting there: the vertical face two layers up and layer generators of a layer `≥ 3`,
  all of smaller rank; rank `N1 + 1 + (2Lz − h)`;
* the other generators of the bottom layer (vertices but `(2, 4, 1)`; faces not next to the dropped
  column, but `(2, 2, 1)`): the qubit towards the parent in a spanning tree of the diagonal-step
  graph of the layer that never crosses a seam — rows `y ≥ 6` step down-left (down-right from
  `x = 2`), rows 2 and 4 zig-zag to the left; rank `tr x y` (`x` in rows 2, 4, `2Lx + y` above),
  faces above all vertical faces.

The same definitions serve even × even (`k = 2`, two roots) and odd × even / even × odd (`k = 1`).
-/
import PanqecVerif.Proofs.LatRotatedToric3DCodeRankFamily
open Panqec Panqec.Lat3Db
namespace Panqec.RotatedToric3DCode

set_option linter.unusedVariables false
set_option linter.unusedSimpArgs false

/-- next to the dropped column / row of vertical faces -/
def near (Lx Ly : Nat) (x y : Int) : Prop :=
  (Lx % 2 = 1 ∧ (x = 2 ∨ x = 2 * (Lx : Int))) ∨ (Ly % 2 = 1 ∧ (y = 2 ∨ y = 2 * (Ly : Int)))

instance (Lx Ly : Nat) (x y : Int) : Decidable (near Lx Ly x y) := by unfold near; infer_instance

/-- depth in the spanning tree of a layer -/
def tr (Lx : Nat) (x y : Int) : Int := if y ≤ 4 then x else 2 * (Lx : Int) + y

def N1 (Lx Ly Lz : Nat) : Int := 2 * (Lx : Int) + 2 * (Ly : Int) + 2 * (Lz : Int) + 1

def rkI (Lx Ly Lz : Nat) : Coord → Int
  | [x, y, z] =>
    if z % 2 = 1 then
      if (x + y) % 4 = 2 then tr Lx x y + z
      else if near Lx Ly x y then N1 Lx Ly Lz
      else N1 Lx Ly Lz + 2 * (Lz : Int) + 2 + tr Lx x y
    else N1 Lx Ly Lz + 1 + (2 * (Lz : Int) - z)
  | _ => 0

/-- witness towards the parent in the spanning tree of a layer -/
def treeWit (x y z : Int) : Coord × Bool :=
  if 6 ≤ y then (if 4 ≤ x then ([x - 1, y - 1, z], true) else ([3, y - 1, z], false))
  else if y = 4 then ([x - 1, 3, z], true) else ([x - 1, 3, z], false)

/-- witness qubit and sign -/
def witS (Lx Ly Lz : Nat) : Coord → Coord × Bool
  | [x, y, z] =>
    if z % 2 = 1 then
      if (x + y) % 4 = 2 then (if 3 ≤ z then ([x, y, z - 1], true) else treeWit x y z)
      else if near Lx Ly x y then
        (if Lx % 2 = 1 then ([1, y - 1, z], decide (x = 2)) else ([x - 1, 1, z], decide (y = 2)))
      else treeWit x y z
    else ([x, y, z + 1], decide ((x + y) % 4 = 2))
  | s => (s, false)

def wit (Lx Ly Lz : Nat) (s : Coord) : Coord := (witS Lx Ly Lz s).1
/-- `true`: X component -/
def wx (Lx Ly Lz : Nat) (s : Coord) : Bool := (witS Lx Ly Lz s).2 != col (witS Lx Ly Lz s).1

section
variable {Lx Ly Lz : Nat}

/-- the triangular condition for one member, from its witness data -/
theorem tri_of (hF : Fam Lx Ly) (hLz : 1 ≤ Lz) {s q : Coord} {σ : Bool} {Ks : List (Coord × Bool)}
    (hw : witS Lx Ly Lz s = (q, σ)) (hk : Kind Lx Ly Lz s Ks) (hself : (q, σ) ∈ Ks)
    (hq : isQubit Lx Ly Lz q = true)
    (hdom : ∀ t K, t ∈ rankFamily Lx Ly Lz → Kind Lx Ly Lz t K → (q, σ) ∈ K →
      t = s ∨ rkI Lx Ly Lz t < rkI Lx Ly Lz s) :
    Cubic3D.hit (wx Lx Ly Lz s) (getStab Lx Ly Lz s) (wit Lx Ly Lz s) = true ∧
    ∀ t ∈ rankFamily Lx Ly Lz,
      Cubic3D.hit (wx Lx Ly Lz s) (getStab Lx Ly Lz t) (wit Lx Ly Lz s) = true →
        t = s ∨ rkI Lx Ly Lz t < rkI Lx Ly Lz s := by
  unfold wx wit
  rw [hw]
  refine ⟨(hit_signed (signed_of_kind hF hk) q σ).mpr ⟨hq, hself⟩, ?_⟩
  intro t ht hh
  obtain ⟨K, hkt⟩ := kind_of_mem (rankFamily_subset hF hLz ht)
  have := (hit_signed (signed_of_kind hF hkt) q σ).mp hh
  exact hdom t K ht hkt this.2

theorem rkI_vertex {x y z : Int} (hz : z % 2 = 1) (h4 : (x + y) % 4 = 2) :
    rkI Lx Ly Lz [x, y, z] = tr Lx x y + z := by
  simp only [rkI]; rw [if_pos hz, if_pos h4]
theorem rkI_near {x y z : Int} (hz : z % 2 = 1) (h4 : ¬ (x + y) % 4 = 2) (hn : near Lx Ly x y) :
    rkI Lx Ly Lz [x, y, z] = N1 Lx Ly Lz := by
  simp only [rkI]; rw [if_pos hz, if_neg h4, if_pos hn]
theorem rkI_tree {x y z : Int} (hz : z % 2 = 1) (h4 : ¬ (x + y) % 4 = 2) (hn : ¬ near Lx Ly x y) :
    rkI Lx Ly Lz [x, y, z] = N1 Lx Ly Lz + 2 * (Lz : Int) + 2 + tr Lx x y := by
  simp only [rkI]; rw [if_pos hz, if_neg h4, if_neg hn]
theorem rkI_vface {x y z : Int} (hz : ¬ z % 2 = 1) :
    rkI Lx Ly Lz [x, y, z] = N1 Lx Ly Lz + 1 + (2 * (Lz : Int) - z) := by
  simp only [rkI]; rw [if_neg hz]
theorem tr_bounds {x y : Int} (hx : Ev Lx x) (hy : Ev Ly y) :
    2 ≤ tr Lx x y ∧ tr Lx x y ≤ 2 * (Lx : Int) + 2 * (Ly : Int) := by
  unfold Ev at hx hy; unfold tr; split <;> omega

theorem rkI_layer_up (hF : Fam Lx Ly) {a b c : Int} (hc : c % 2 = 1) (hc3 : 3 ≤ c)
    (hcz : c < 2 * (Lz : Int)) (ha : Ev Lx a) (hb : Ev Ly b) (ht : InB Lx Ly Lz a b c) :
    rkI Lx Ly Lz [a, b, c] < N1 Lx Ly Lz + 1 := by
  have tb := tr_bounds ha hb
  rcases ht with ht | ht | ht | ht
  · unfold InL1 at ht; omega
  · rw [rkI_vertex hc ht.2.2.2]; unfold N1; omega
  · obtain ⟨_, ht⟩ := ht
    rw [rkI_near hc (by omega) (by unfold near; omega)]; omega
  · unfold InVF R2 at ht; omega

/-- the conclusion of the triangular criterion for the member `s` -/
def Tri (Lx Ly Lz : Nat) (s : Coord) : Prop :=
  Cubic3D.hit (wx Lx Ly Lz s) (getStab Lx Ly Lz s) (wit Lx Ly Lz s) = true ∧
  ∀ t ∈ rankFamily Lx Ly Lz,
    Cubic3D.hit (wx Lx Ly Lz s) (getStab Lx Ly Lz t) (wit Lx Ly Lz s) = true →
      t = s ∨ rkI Lx Ly Lz t < rkI Lx Ly Lz s

theorem tri_VU (hF : Fam Lx Ly) (hLz : 1 ≤ Lz) {x y z : Int} (h : InVU Lx Ly Lz x y z) :
    Tri Lx Ly Lz [x, y, z] := by
  obtain ⟨hx, hy, hz, h4⟩ := h
  unfold ZU at hz
  have hsv : SV Lx Ly Lz x y z := ⟨R2_Ev.mpr hx, R2_Ev.mpr hy, by unfold R1; omega, h4⟩
  have hw : witS Lx Ly Lz [x, y, z] = ([x, y, z - 1], true) := by
    simp only [witS]; rw [if_pos hz.1, if_pos h4, if_pos hz.2.1]
  have hx' := hx; have hy' := hy
  unfold Ev at hx' hy'
  refine tri_of hF hLz hw (Kind.vertex hsv) (by simp [KV])
    (isQ_v hx hy (by unfold R2; omega) h4) ?_
  intro t K ht hk hm
  obtain ⟨h1, _⟩ := hitters_v hF hk hx hy (by omega) hm
  rcases h1 with rfl | rfl
  · right; simp only [rkI, tr]; omega
  · left; have : z - 1 + 1 = z := by omega
    rw [this]

theorem tri_VF (hF : Fam Lx Ly) (hLz : 1 ≤ Lz) {x y z : Int} (h : InVF Lx Ly Lz x y z) :
    Tri Lx Ly Lz [x, y, z] := by
  obtain ⟨hx, hy, hz, h1, h2⟩ := h
  have hodd := hF.2.2
  have hx' := hx; have hy' := hy; have hz' := hz
  unfold Od at hx' hy'; unfold R2 at hz'
  have hsf : SF Lx Ly Lz x y z := by
    refine ⟨R1_Od.mpr hx, R1_Od.mpr hy, hz, ?_⟩
    unfold Dropped; omega
  have hz1 : ¬ z % 2 = 1 := by omega
  have hw : witS Lx Ly Lz [x, y, z] = ([x, y, z + 1], decide ((x + y) % 4 = 2)) := by
    simp only [witS]; rw [if_neg hz1]
  have hq := isQ_h (Lz := Lz) hx hy (r := z + 1) (by unfold R1; omega)
  have hrs := rkI_vface (Lx := Lx) (Ly := Ly) (Lz := Lz) (x := x) (y := y) hz1
  have hdom : ∀ t K, t ∈ rankFamily Lx Ly Lz → Kind Lx Ly Lz t K →
      ([x, y, z + 1], decide ((x + y) % 4 = 2)) ∈ K →
      t = [x, y, z] ∨ rkI Lx Ly Lz t < rkI Lx Ly Lz [x, y, z] := by
    intro t K ht hk hm
    obtain ⟨a, b, c, rfl, hh⟩ := hitters_h hF hk hx hy (c := z + 1) (by omega) hm
    rw [mem_rankFamily] at ht
    rcases hh with ⟨hc, ha, hb, _⟩ | ⟨rfl, rfl, hc, _, _⟩
    · right
      have := rkI_layer_up hF (c := c) (by omega) (by omega) (by omega) ha hb ht
      rw [hrs]; omega
    · rcases hc with rfl | rfl
      · left; have : z + 1 - 1 = z := by omega
        rw [this]
      · right; rw [hrs, rkI_vface (by omega)]; omega
  rcases SF_mod4 hsf with h4 | h4
  · have hd : decide ((x + y) % 4 = 2) = false := decide_eq_false (by omega)
    rw [hd] at hw hdom
    exact tri_of hF hLz hw (Kind.vfaceX hsf h4) (by simp [KFX]) hq hdom
  · have hd : decide ((x + y) % 4 = 2) = true := decide_eq_true h4
    rw [hd] at hw hdom
    exact tri_of hF hLz hw (Kind.vfaceY hsf h4) (by simp [KFY]) hq hdom

/-- two layer generators on the diagonal of sign `σ` through the qubit `(f, g)` are equal or the
    two ends of that diagonal -/
theorem diag_ends {f g x y a b : Int} {σ : Bool}
    (hs : (σ = true ∧ ((x = f + 1 ∧ y = g + 1) ∨ (x = pw Lx f ∧ y = pw Ly g))) ∨
      (σ = false ∧ ((x = f + 1 ∧ y = pw Ly g) ∨ (x = pw Lx f ∧ y = g + 1))))
    (ht : (σ = true ∧ ((a = f + 1 ∧ b = g + 1) ∨ (a = pw Lx f ∧ b = pw Ly g))) ∨
      (σ = false ∧ ((a = f + 1 ∧ b = pw Ly g) ∨ (a = pw Lx f ∧ b = g + 1)))) :
    (a = x ∧ b = y) ∨ (x + a = f + 1 + pw Lx f ∧ y + b = g + 1 + pw Ly g) := by
  cases σ <;> rcases hs with ⟨⟨⟩, hs | hs⟩ | ⟨⟨⟩, hs | hs⟩ <;>
    rcases ht with ⟨⟨⟩, ht | ht⟩ | ⟨⟨⟩, ht | ht⟩ <;> omega

theorem diag_class {f g P s t : Int} (hf : f % 2 = 1) (hg : g % 2 = 1) (hP : P % 4 = (f + g) % 4)
    (hs : s % 4 = 0) (h : s + t = f + 1 + (g + 1) + P) : t % 4 = 2 := by
  omega

theorem InB_not_dropped {a b c : Int} (ht : InB Lx Ly Lz a b c) :
    ¬ ((Lx % 2 = 1 ∧ a = 1) ∨ (Lx % 2 = 0 ∧ Ly % 2 = 1 ∧ b = 1)) := by
  rcases ht with ht | ht | ht | ht
  · unfold InL1 Ev at ht; omega
  · unfold InVU Ev at ht; omega
  · unfold InHU at ht; omega
  · unfold InVF at ht; omega

/-- a horizontal face with a witness `(f, g, z)` in the dropped column / row: across the seam of the
    odd period the two ends of a diagonal through the witness are a face and a vertex, so the only
    other member of the family acting there with the same component is a vertex of the layer -/
theorem tri_dropped (hF : Fam Lx Ly) (hLz : 1 ≤ Lz) {x y z f g : Int} {σ : Bool}
    (hs : SH Lx Ly Lz x y z) (hn : near Lx Ly x y) (hf : Od Lx f) (hg : Od Ly g)
    (hD : (Lx % 2 = 1 ∧ f = 1) ∨ (Lx % 2 = 0 ∧ Ly % 2 = 1 ∧ g = 1))
    (hw : witS Lx Ly Lz [x, y, z] = ([f, g, z], σ)) (hself : ([f, g, z], σ) ∈ KH Lx Ly x y z) :
    Tri Lx Ly Lz [x, y, z] := by
  have hx := R2_Ev.mp hs.1; have hy := R2_Ev.mp hs.2.1
  have hz := hs.2.2.1; have h4 := hs.2.2.2
  have hrs := rkI_near (Lz := Lz) hz.1 (by omega) hn
  have hpw : (pw Lx f + pw Ly g) % 4 = (f + g) % 4 := by
    have hodd := hF.2.2
    rw [Int.add_emod, pw_mod4 hf, pw_mod4 hg]
    rcases hD with ⟨h1, h2⟩ | ⟨h1, h2, h3⟩
    · rw [if_pos ⟨h1, h2⟩, if_neg fun h => hodd ⟨h1, h.1⟩, ← Int.add_emod]; omega
    · rw [if_neg fun h => by omega, if_pos ⟨h2, h3⟩, ← Int.add_emod]; omega
  refine tri_of hF hLz hw (Kind.hface hs) hself (isQ_h hf hg hz) ?_
  intro t K ht hk hm
  obtain ⟨a, b, c, rfl, hh⟩ := hitters_h hF hk hf hg hz.1 hm
  rcases hh with ⟨rfl, ha, hb, hh⟩ | ⟨rfl, rfl, _⟩
  · rcases diag_ends (mem_KH hx hy hf hg hself).2 hh with ⟨rfl, rfl⟩ | ⟨e1, e2⟩
    · exact Or.inl rfl
    · have tb := tr_bounds ha hb
      have hsum : x + y + (a + b) = f + 1 + (g + 1) + (pw Lx f + pw Ly g) := by omega
      unfold R1 at hz
      rw [hrs, rkI_vertex hz.1 (diag_class hf.1 hg.1 hpw h4 hsum)]
      unfold N1
      exact Or.inr (by omega)
  · exact absurd hD (InB_not_dropped ((mem_rankFamily _ _ _ _ _ _).mp ht))

theorem tri_near (hF : Fam Lx Ly) (hLz : 1 ≤ Lz) {x y z : Int} (hs : SH Lx Ly Lz x y z)
    (hn : near Lx Ly x y) : Tri Lx Ly Lz [x, y, z] := by
  have hLx := hF.1; have hLy := hF.2.1; have hodd := hF.2.2
  have hx := R2_Ev.mp hs.1; have hy := R2_Ev.mp hs.2.1
  have hz := hs.2.2.1.1; have h4 := hs.2.2.2
  have h42 : ¬ (x + y) % 4 = 2 := by omega
  have hn' := hn
  unfold near at hn'
  have o1 : ∀ L : Nat, 2 ≤ L → Od L 1 := fun L h => ⟨rfl, Int.le_refl 1, by omega⟩
  by_cases hpx : Lx % 2 = 1
  · -- odd × even: witness `(1, y − 1, z)`
    have hw : witS Lx Ly Lz [x, y, z] = ([1, y - 1, z], decide (x = 2)) := by
      simp only [witS]; rw [if_pos hz, if_neg h42, if_pos hn, if_pos hpx]
    refine tri_dropped hF hLz hs hn (o1 Lx hLx) (pred_od hy) (Or.inl ⟨hpx, rfl⟩) hw ?_
    rcases (hn'.resolve_right fun h => hodd ⟨hpx, h.1⟩).2 with rfl | rfl
    · simp [KH]
    · have hd : decide (2 * (Lx : Int) = 2) = false := decide_eq_false (by omega)
      have hsw : sw Lx (2 * (Lx : Int)) = 1 := if_pos rfl
      rw [hd]
      simp [KH, hsw]
  · -- even × odd: witness `(x − 1, 1, z)`
    have hw : witS Lx Ly Lz [x, y, z] = ([x - 1, 1, z], decide (y = 2)) := by
      simp only [witS]; rw [if_pos hz, if_neg h42, if_pos hn, if_neg hpx]
    have hny := hn'.resolve_left fun h => hpx h.1
    refine tri_dropped hF hLz hs hn (pred_od hx) (o1 Ly hLy)
      (Or.inr ⟨by omega, hny.1, rfl⟩) hw ?_
    rcases hny.2 with rfl | rfl
    · simp [KH]
    · have hd : decide (2 * (Ly : Int) = 2) = false := decide_eq_false (by omega)
      have hsw : sw Ly (2 * (Ly : Int)) = 1 := if_pos rfl
      rw [hd]
      simp [KH, hsw]

/-- a generator of the bottom layer attached to the spanning tree: generic in its kind (vertex /
    horizontal face: the same four horizontal candidates with the same signs).  The witness is away
    from the seams, so the other generator on its diagonal is the mirror image of the member in the
    witness, a tree predecessor -/
theorem tri_tree_core (hF : Fam Lx Ly) (hLz : 1 ≤ Lz) {x y : Int} {K : List (Coord × Bool)}
    (hk : Kind Lx Ly Lz [x, y, 1] K) (hx : Ev Lx x) (hy : Ev Ly y)
    (hroot : ¬ (y = 4 ∧ x < 4) ∧ ¬ (y = 2 ∧ x < 4))
    (hw : witS Lx Ly Lz [x, y, 1] = treeWit x y 1) (hK : ∀ e ∈ KH Lx Ly x y 1, e ∈ K)
    (hpar : ∀ a b : Int, Ev Lx a → Ev Ly b → (a + b) % 4 = (x + y) % 4 → tr Lx a b < tr Lx x y →
      rkI Lx Ly Lz [a, b, 1] < rkI Lx Ly Lz [x, y, 1])
    (hvf : (x + y) % 4 = 0 → ∀ f g c : Int, c % 2 = 0 → 0 ≤ c →
      rkI Lx Ly Lz [f, g, c] < rkI Lx Ly Lz [x, y, 1]) :
    Tri Lx Ly Lz [x, y, 1] := by
  have hLx := hF.1; have hLy := hF.2.1
  have hx' := hx; have hy' := hy
  unfold Ev at hx' hy'
  obtain ⟨f, g, σ, htw, hself, hf, hg, hf3, hg3, htr⟩ : ∃ f g σ, treeWit x y 1 = ([f, g, 1], σ) ∧
      ([f, g, 1], σ) ∈ KH Lx Ly x y 1 ∧ Od Lx f ∧ Od Ly g ∧ 3 ≤ f ∧ 3 ≤ g ∧
      tr Lx (2 * f - x) (2 * g - y) < tr Lx x y := by
    unfold treeWit
    by_cases h6 : 6 ≤ y
    · rw [if_pos h6]
      by_cases h4 : 4 ≤ x
      · rw [if_pos h4]
        refine ⟨_, _, _, rfl, List.mem_cons_self, pred_od hx, pred_od hy, by omega, by omega, ?_⟩
        unfold tr; split <;> split <;> omega
      · have hsw : sw Lx x = 3 := by have := sw_spec Lx x; omega
        rw [if_neg h4]
        refine ⟨_, _, _, rfl, by simp [KH, hsw], ⟨rfl, by omega, by omega⟩, pred_od hy, by omega,
          by omega, ?_⟩
        unfold tr; split <;> split <;> omega
    · rw [if_neg h6]
      by_cases h4 : y = 4
      · rw [if_pos h4]
        refine ⟨_, _, _, rfl, by simp [KH, h4], pred_od hx, ⟨rfl, by omega, by omega⟩, by omega,
          by omega, ?_⟩
        unfold tr; split <;> split <;> omega
      · have hsw : sw Ly y = 3 := by have := sw_spec Ly y; omega
        rw [if_neg h4]
        refine ⟨_, _, _, rfl, by simp [KH, hsw], pred_od hx, ⟨rfl, by omega, by omega⟩, by omega,
          by omega, ?_⟩
        unfold tr; split <;> split <;> omega
  have hz1 : R1 (2 * Lz) (1 : Int) := by unfold R1; omega
  have hs := mem_KH hx hy hf hg hself
  have hcl := (KH_sign hx hy hself).2 (by unfold Dropped; omega)
  have pf : pw Lx f = f - 1 := if_neg (by omega)
  have pg : pw Ly g = g - 1 := if_neg (by omega)
  clear hx' hy' hroot
  refine tri_of hF hLz (hw.trans htw) hk (hK _ hself) (isQ_h hf hg hz1) ?_
  intro t K' _ hk' hm
  obtain ⟨a, b, c, rfl, hh⟩ := hitters_h hF hk' hf hg (c := 1) rfl hm
  rcases hh with ⟨rfl, ha, hb, hh⟩ | ⟨rfl, rfl, hc, hc2, hsg⟩
  · rcases diag_ends hs.2 hh with ⟨rfl, rfl⟩ | ⟨e1, e2⟩
    · exact Or.inl rfl
    · obtain rfl : a = 2 * f - x := by omega
      obtain rfl : b = 2 * g - y := by omega
      refine Or.inr (hpar _ _ ha hb ?_ htr)
      cases σ <;> simp only [if_true, Bool.false_eq_true, if_false] at hcl <;> omega
  · refine Or.inr (hvf ?_ _ _ _ hc2 (by omega))
    have := hf.1; have := hg.1
    cases σ <;> simp only [if_true, Bool.false_eq_true, if_false, true_iff, false_iff] at hcl hsg <;>
      omega

theorem tri_L1 (hF : Fam Lx Ly) (hLz : 1 ≤ Lz) {x y z : Int} (h : InL1 Lx Ly x y z) :
    Tri Lx Ly Lz [x, y, z] := by
  obtain ⟨hLx, hLy, hodd⟩ := hF
  have hF : Fam Lx Ly := ⟨hLx, hLy, hodd⟩
  obtain ⟨hx, hy, rfl, hr1, hr2⟩ := h
  have hx' := hx; have hy' := hy
  unfold Ev at hx' hy'
  have hz1 : R1 (2 * Lz) (1 : Int) := by unfold R1; omega
  have h11 : (1 : Int) % 2 = 1 := by decide
  have tb := tr_bounds hx hy
  by_cases h4 : (x + y) % 4 = 2
  · -- a vertex other than the root `(2, 4, 1)`
    have hsv : SV Lx Ly Lz x y 1 := ⟨R2_Ev.mpr hx, R2_Ev.mpr hy, hz1, h4⟩
    have hrs := rkI_vertex (Lx := Lx) (Ly := Ly) (Lz := Lz) h11 h4
    refine tri_tree_core hF hLz (Kind.vertex hsv) hx hy ⟨by omega, by omega⟩ ?_
      (fun e he => by rw [KV_eq]; exact List.mem_append_left _ (List.mem_reverse.mpr he))
      ?_ (by omega)
    · simp only [witS]; rw [if_pos h11, if_pos h4, if_neg (by omega)]
    · intro a b ha hb hab hlt
      rw [hrs, rkI_vertex h11 (by omega)]; omega
  · have h40 : (x + y) % 4 = 0 := by omega
    have hsh : SH Lx Ly Lz x y 1 := ⟨R2_Ev.mpr hx, R2_Ev.mpr hy, hz1, h40⟩
    by_cases hn : near Lx Ly x y
    · exact tri_near hF hLz hsh hn
    · -- a horizontal face away from the dropped column, other than the root `(2, 2, 1)`
      have hrs := rkI_tree (Lx := Lx) (Ly := Ly) (Lz := Lz) h11 h4 hn
      have hn' := hn
      unfold near at hn'
      refine tri_tree_core hF hLz (Kind.hface hsh) hx hy ⟨by omega, by omega⟩ ?_
        (fun _ he => he) ?_ ?_
      · simp only [witS]; rw [if_pos h11, if_neg h4, if_neg hn]
      · intro a b ha hb hab hlt
        have tb' := tr_bounds ha hb
        by_cases hna : near Lx Ly a b
        · rw [hrs, rkI_near h11 (by omega) hna]; omega
        · rw [hrs, rkI_tree h11 (by omega) hna]; omega
      · intro _ f g c hc hc0
        rw [hrs, rkI_vface (by omega)]; omega

theorem tri_all (hF : Fam Lx Ly) (hLz : 1 ≤ Lz) {s : Coord} (hs : s ∈ rankFamily Lx Ly Lz) :
    Tri Lx Ly Lz s := by
  obtain ⟨x, y, z, rfl⟩ := shape_of_mem_rankFamily hs
  rw [mem_rankFamily] at hs
  rcases hs with h | h | h | h
  · exact tri_L1 hF hLz h
  · exact tri_VU hF hLz h
  · obtain ⟨hz, h⟩ := h
    have hz' := hz
    unfold ZU at hz'
    have hodd := hF.2.2
    refine tri_near hF hLz ⟨R2_Ev.mpr ?_, R2_Ev.mpr ?_, by unfold R1; omega, by omega⟩
      (by unfold near; omega) <;> unfold Ev <;> omega
  · exact tri_VF hF hLz h

theorem rankFamily_indep (hF : Fam Lx Ly) (hLz : 1 ≤ Lz) :
    Cubic3D.OpsIndep ((rankFamily Lx Ly Lz).map (getStab Lx Ly Lz)) :=
  Cubic3D.opsIndep_of_witnesses (rankFamily_nodup hF.1 hF.2.1 Lz) (rkI Lx Ly Lz) (wit Lx Ly Lz)
    (wx Lx Ly Lz) (fun s hs => tri_all hF hLz hs)

end

end Panqec.RotatedToric3DCode
