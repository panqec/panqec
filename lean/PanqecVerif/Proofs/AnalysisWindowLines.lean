/-
`get_p_th_sd_interp` on curves that are straight lines through a common point `(p_th, A)` (the ansatz with
`C = 0`): linear interpolation is exact, the SD is `|p - p_th|` times a constant, hence V-shaped on the grid,
and the crossover is the grid point nearest to `p_th`; the exact grid stays below `p_max + res`; zero
spread of a column (C16).
-/
import PanqecVerif.Proofs.AnalysisWindowVShape
import Mathlib.Tactic.FieldSimp
import Mathlib.Tactic.Ring
import Mathlib.Tactic.Linarith
import Mathlib.Tactic.Positivity

namespace Panqec.An

theorem interpAt_line {pts : List (Rat × Rat)} {A b pth : Rat} (hline : ∀ q ∈ pts, q.2 = A + b * (q.1 - pth))
    (hd : pts.Pairwise fun a c => a.1 ≠ c.1) (hlen : 2 ≤ pts.length) (x : Rat) :
    interpAt pts x = A + b * (x - pth) := by
  match pts, hline, hd, hlen with
  | p0 :: p1 :: rest, hline, hd, hlen =>
    unfold interpAt
    simp only
    generalize hi : min (max ((p0 :: p1 :: rest).countP fun q => decide (q.1 < x)) 1) ((p0 :: p1 :: rest).length - 1) = i
    have hi1 : 1 ≤ i := by rw [← hi]; simp only [List.length_cons]; omega
    have hi2 : i < (p0 :: p1 :: rest).length := by rw [← hi]; simp only [List.length_cons]; omega
    rw [List.getD_eq_getElem _ _ (by omega : i - 1 < _), List.getD_eq_getElem _ _ hi2]
    have hne : ((p0 :: p1 :: rest)[i - 1]'(by omega)).1 ≠ ((p0 :: p1 :: rest)[i]'hi2).1 :=
      List.pairwise_iff_getElem.mp hd (i - 1) i (by omega) hi2 (by omega)
    have e1 : ((p0 :: p1 :: rest)[i - 1]'(by omega)).2 = A + b * (((p0 :: p1 :: rest)[i - 1]'(by omega)).1 - pth) :=
      hline _ (List.getElem_mem _)
    have e2 : ((p0 :: p1 :: rest)[i]'hi2).2 = A + b * (((p0 :: p1 :: rest)[i]'hi2).1 - pth) :=
      hline _ (List.getElem_mem hi2)
    rw [e1, e2]
    have hne' : ((p0 :: p1 :: rest)[i]'hi2).1 - ((p0 :: p1 :: rest)[i - 1]'(by omega)).1 ≠ 0 :=
      sub_ne_zero.mpr (Ne.symm hne)
    field_simp
    ring

theorem sum_map_affine (A t : Rat) (l : List Rat) :
    (l.map fun v => A + v * t).sum = (l.length : Rat) * A + l.sum * t := by
  rw [List.sum_map_add, List.sum_map_mul_right, List.map_id', List.map_const', List.sum_replicate, nsmul_eq_mul]

theorem sampleVariance_affine (A t : Rat) (l : List Rat) :
    sampleVariance (l.map fun v => A + v * t) = t ^ 2 * sampleVariance l := by
  unfold sampleVariance
  simp only [List.length_map]
  by_cases hl : l = []
  · subst hl; simp
  · have hn : (l.length : Rat) ≠ 0 := by
      have : 0 < l.length := List.length_pos_iff.mpr hl
      positivity
    rw [sum_map_affine, List.map_map]
    have : ((fun v => (v - ((l.length : Rat) * A + l.sum * t) / (l.length : Rat)) ^ 2) ∘ fun v => A + v * t) =
        fun v => t ^ 2 * (v - l.sum / (l.length : Rat)) ^ 2 := by
      funext v
      simp only [Function.comp]
      field_simp
      ring
    rw [this, List.sum_map_mul_left]
    ring

theorem sum_sq_nonneg (m : Rat) (l : List Rat) : 0 ≤ (l.map fun v => (v - m) ^ 2).sum :=
  List.sum_nonneg fun _ hy => by obtain ⟨v, _, rfl⟩ := List.mem_map.mp hy; positivity

theorem sum_sq_pos_of_mem (m : Rat) (l : List Rat) (x : Rat) (hx : x ∈ l) (hne : x ≠ m) :
    0 < (l.map fun v => (v - m) ^ 2).sum :=
  lt_of_lt_of_le (by have := sub_ne_zero.mpr hne; positivity)
    (List.single_le_sum (fun _ hy => by obtain ⟨v, _, rfl⟩ := List.mem_map.mp hy; positivity) _
      (List.mem_map_of_mem (f := fun v => (v - m) ^ 2) hx))

theorem sampleVariance_nonneg (l : List Rat) : 0 ≤ sampleVariance l := by
  unfold sampleVariance
  simp only
  rcases Nat.lt_or_ge l.length 2 with h | h
  · have : l.length = 0 ∨ l.length = 1 := by omega
    rcases this with h0 | h1
    · rw [List.length_eq_zero_iff.mp h0]; simp
    · rw [h1]; simp
  · have hpos : (0 : Rat) < (l.length : Rat) - 1 := by
      have : (2 : Rat) ≤ (l.length : Rat) := by exact_mod_cast h
      linarith
    exact div_nonneg (sum_sq_nonneg _ l) (le_of_lt hpos)

theorem popVariance_nonneg (l : List Rat) : 0 ≤ popVariance l := by
  unfold popVariance
  simp only
  exact div_nonneg (sum_sq_nonneg _ l) (by positivity)

theorem two_le_length_of_ne {α : Type} {l : List α} {x y : α} (hx : x ∈ l) (hy : y ∈ l) (hxy : x ≠ y) :
    2 ≤ l.length := by
  match l, hx, hy with
  | [], hx, _ => simp at hx
  | [z], hx, hy =>
    simp only [List.mem_singleton] at hx hy
    exact absurd (hx.trans hy.symm) hxy
  | _ :: _ :: _, _, _ => simp

theorem sampleVariance_pos {l : List Rat} {x y : Rat} (hx : x ∈ l) (hy : y ∈ l) (hxy : x ≠ y) : 0 < sampleVariance l := by
  unfold sampleVariance
  simp only
  have hlen := two_le_length_of_ne hx hy hxy
  have hpos : (0 : Rat) < (l.length : Rat) - 1 := by
    have : (2 : Rat) ≤ (l.length : Rat) := by exact_mod_cast hlen
    linarith
  apply div_pos _ hpos
  by_cases hxm : x = l.sum / (l.length : Rat)
  · exact sum_sq_pos_of_mem _ l y hy (fun e => hxy (hxm.trans e.symm))
  · exact sum_sq_pos_of_mem _ l x hx hxm

/-- every row of label `ℓ` lies on the line `A + b ℓ (p - p_th)`, and every label has at least two rows -/
structure OnLines (rows : List TRow) (pth A : Rat) (b : Nat → Rat) : Prop where
  line : ∀ r ∈ rows, r.pest = some (A + b r.label * (r.rate - pth))
  two : ∀ lab ∈ labelsOf rows, 2 ≤ (rows.filter fun r => r.label == lab).length
  keys : KeysNodup rows

theorem pointsOf_line {rows : List TRow} {pth A : Rat} {b : Nat → Rat} (h : OnLines rows pth A b) {lab : Nat}
    (hlab : lab ∈ labelsOf rows) (x : Rat) : interpAt (pointsOf rows lab) x = A + b lab * (x - pth) := by
  apply interpAt_line
  · intro q hq
    unfold pointsOf at hq
    rw [(sortPts_perm _).mem_iff] at hq
    obtain ⟨r, hr, rfl⟩ := List.mem_map.mp hq
    have hr' := List.mem_filter.mp hr
    have hl : r.label = lab := by simpa using hr'.2
    simp only [h.line r hr'.1, Option.getD_some, hl]
  · unfold pointsOf
    have hp := sortPts_perm ((rows.filter fun r => r.label == lab).map fun r => (r.rate, r.pest.getD 0))
    have hnd : (((rows.filter fun r => r.label == lab).map fun r => (r.rate, r.pest.getD 0)).map (·.1)).Nodup := by
      rw [List.map_map]
      have hk := h.keys
      unfold KeysNodup at hk
      have h1 : ((rows.filter fun r => r.label == lab).map fun r => (r.label, r.rate)).Nodup :=
        (List.filter_sublist.map _).nodup hk
      have h2 : ((rows.filter fun r => r.label == lab).map fun r => (r.label, r.rate)) =
          ((rows.filter fun r => r.label == lab).map ((·.1) ∘ fun r => (r.rate, r.pest.getD 0))).map fun p => (lab, p) := by
        rw [List.map_map]
        apply List.map_congr_left
        intro r hr
        have : r.label = lab := by simpa using (List.mem_filter.mp hr).2
        simp [this]
      rw [h2] at h1
      exact h1.of_map _
    have hnd' : ((sortPts ((rows.filter fun r => r.label == lab).map fun r => (r.rate, r.pest.getD 0))).map (·.1)).Nodup :=
      (hp.map _).nodup_iff.mpr hnd
    rw [List.Nodup, List.pairwise_map] at hnd'
    exact hnd'
  · unfold pointsOf
    rw [(sortPts_perm _).length_eq, List.length_map]
    exact h.two lab hlab

theorem sdValues_lines (sq : Rat → Rat) {rows : List TRow} {pth A : Rat} {b : Nat → Rat} (h : OnLines rows pth A b)
    (grid : List Rat) :
    sdValues sq rows grid = grid.map fun x => sq ((x - pth) ^ 2 * sampleVariance ((labelsOf rows).map b)) := by
  unfold sdValues curveValues
  simp only [List.map_map]
  apply List.map_congr_left
  intro x _
  simp only [Function.comp]
  congr 1
  have : (labelsOf rows).map ((fun pts => interpAt pts x) ∘ pointsOf rows) =
      ((labelsOf rows).map b).map fun v => A + v * (x - pth) := by
    rw [List.map_map]
    apply List.map_congr_left
    intro lab hlab
    simp only [Function.comp, pointsOf_line h hlab x]
  rw [this, sampleVariance_affine]

theorem exactGrid_length (pmin res : Rat) (N : Nat) : (exactGrid pmin res N).length = N := by
  simp [exactGrid]

theorem exactGrid_getD (pmin res : Rat) {N i : Nat} (h : i < N) : (exactGrid pmin res N).getD i 0 = gridPt pmin res i := by
  unfold exactGrid
  rw [List.getD_eq_getElem?_getD, List.getElem?_map, List.getElem?_range h]
  rfl

theorem gridPt_succ (pmin res : Rat) (i : Nat) : gridPt pmin res (i + 1) = gridPt pmin res i + res := by
  unfold gridPt
  push_cast
  ring

theorem gridPt_mono {pmin res : Rat} (hres : 0 ≤ res) {i j : Nat} (h : i ≤ j) : gridPt pmin res i ≤ gridPt pmin res j :=
  add_le_add_right (mul_le_mul_of_nonneg_right (Nat.cast_le.mpr h) hres) pmin

/-- of `a < b`, the one farther from `c` is `a` when their midpoint lies before `c`, `b` when after it -/
theorem sq_sub_lt_of_mid_lt {a b c : Rat} (hab : a < b) (hmid : a + b < 2 * c) : (b - c) ^ 2 < (a - c) ^ 2 := by
  nlinarith [mul_pos (sub_pos.mpr hab) (sub_pos.mpr hmid)]

theorem sq_sub_lt_of_lt_mid {a b c : Rat} (hab : a < b) (hmid : 2 * c < a + b) : (a - c) ^ 2 < (b - c) ^ 2 := by
  nlinarith [mul_pos (sub_pos.mpr hab) (sub_pos.mpr hmid)]

/-- the spread `sq ((x - p_th)² V)` on the exact grid is V-shaped around the grid point `j` nearest to `p_th`:
    before `j` the midpoint of two neighbouring grid points lies before `p_th`, after `j` behind it -/
theorem vshape_of_lines (sq : Rat → Rat) (hsq : ∀ a c : Rat, 0 ≤ a → a < c → sq a < sq c) {V pth pmin res : Rat}
    (hV : 0 < V) (hres : 0 < res) {N j : Nat} (hj : j < N)
    (hlo : j = 0 ∨ gridPt pmin res j - res / 2 < pth) (hhi : j + 1 = N ∨ pth < gridPt pmin res j + res / 2) :
    VShape ((exactGrid pmin res N).map fun x => sq ((x - pth) ^ 2 * V)) j := by
  have hget : ∀ i, i < N → ((exactGrid pmin res N).map fun x => sq ((x - pth) ^ 2 * V)).getD i 0 =
      sq ((gridPt pmin res i - pth) ^ 2 * V) := by
    intro i hi
    rw [List.getD_eq_getElem?_getD, List.getElem?_map, exactGrid, List.getElem?_map, List.getElem?_range hi]
    rfl
  refine ⟨by simpa [exactGrid_length] using hj, ?_, ?_⟩
  · intro i hij
    rw [hget i (by omega), hget (i + 1) (by omega)]
    have hp : gridPt pmin res j - res / 2 < pth := hlo.resolve_left (by omega)
    have hle := gridPt_mono (pmin := pmin) hres.le (Nat.succ_le_of_lt hij)
    have hs := gridPt_succ pmin res i
    exact hsq _ _ (by positivity)
      (mul_lt_mul_of_pos_right (sq_sub_lt_of_mid_lt (by linarith) (by linarith)) hV)
  · intro i hji hi
    have hi' : i + 1 < N := by simpa [exactGrid_length] using hi
    rw [hget i (by omega), hget (i + 1) hi']
    have hp : pth < gridPt pmin res j + res / 2 := hhi.resolve_left (by omega)
    have hle := gridPt_mono (pmin := pmin) hres.le hji
    have hs := gridPt_succ pmin res i
    exact hsq _ _ (by positivity)
      (mul_lt_mul_of_pos_right (sq_sub_lt_of_lt_mid (by linarith) (by linarith)) hV)

/-- `np.arange(p_min, p_max + res, res)` in exact arithmetic -/
theorem gridLenExact_spec {pmin pmaxE res : Rat} (hres : 0 < res) (hle : pmin ≤ pmaxE) :
    0 < gridLenExact pmin pmaxE res ∧
    gridPt pmin res (gridLenExact pmin pmaxE res - 1) < pmaxE + res ∧
    pmaxE ≤ gridPt pmin res (gridLenExact pmin pmaxE res - 1) := by
  unfold gridLenExact gridPt
  generalize hq : (pmaxE + res - pmin) / res = q
  -- `N = ⌈q⌉` with `q res = p_max + res - p_min` and `⌈q⌉ - 1 < q ≤ ⌈q⌉`
  have hqr : q * res = pmaxE + res - pmin := by rw [← hq]; exact div_mul_cancel₀ _ hres.ne'
  have hq1 : 1 ≤ q := by rw [← hq, le_div_iff₀ hres]; linarith
  have hc1 : (1 : Int) ≤ q.ceil := by exact_mod_cast hq1.trans Rat.le_ceil
  have hcast : ((q.ceil.toNat - 1 : Nat) : Rat) = (q.ceil : Rat) - 1 := by
    have h1 : ((q.ceil.toNat - 1 : Nat) : Int) = q.ceil - 1 := by omega
    exact_mod_cast congrArg (fun z : Int => (z : Rat)) h1
  refine ⟨by omega, ?_, ?_⟩
  · rw [hcast]
    have := mul_lt_mul_of_pos_right (sub_lt_iff_lt_add.mpr (Rat.ceil_lt (x := q))) hres
    linarith
  · rw [hcast]
    have := mul_le_mul_of_nonneg_right (Rat.le_ceil (x := q)) hres.le
    linarith

theorem popVariance_eq_zero_iff {l : List Rat} (hne : l ≠ []) :
    popVariance l = 0 ↔ ∀ x ∈ l, ∀ y ∈ l, x = y := by
  unfold popVariance
  simp only
  have hn : (l.length : Rat) ≠ 0 := by
    have : 0 < l.length := List.length_pos_iff.mpr hne
    positivity
  rw [div_eq_zero_iff, or_iff_left hn]
  constructor
  · intro h x hx y hy
    have hxm : x = l.sum / (l.length : Rat) := by
      by_contra hc
      have := sum_sq_pos_of_mem _ l x hx hc
      linarith
    have hym : y = l.sum / (l.length : Rat) := by
      by_contra hc
      have := sum_sq_pos_of_mem _ l y hy hc
      linarith
    rw [hxm, hym]
  · intro h
    obtain ⟨x0, hx0⟩ := List.exists_mem_of_ne_nil l hne
    have hall : ∀ x ∈ l, x = x0 := fun x hx => h x hx x0 hx0
    have hmean : l.sum / (l.length : Rat) = x0 := by
      rw [List.sum_eq_card_nsmul l x0 hall, nsmul_eq_mul]; field_simp
    rw [hmean]
    exact List.sum_eq_zero fun y hy => by
      obtain ⟨x, hx, rfl⟩ := List.mem_map.mp hy
      rw [hall x hx, sub_self]; rfl

end Panqec.An
