/-
`HollowPlanar3DCode`, every size with `1 ≤ Lx, Ly, Lz`: `rankFamily` is GF(2)-independent, by the
triangular criterion (`opsIndep_of_witnesses`), i.e. a collapse of the 2-complex of the kept faces
through free edges.  Every generator acts only on neighbours of its location (`hit_adj`), so a
generator `t` acting on the witness `s + d` of `s` sits at `s + d + e` for unit vectors `d`, `e`,
and the linear integer rank `x + y − 2z` of `Planar3DCode` does for all members:
* a vertex `(x,y,z)` has the witness `(x−1,y,z)`, or `(x+1,y,z)` for the last layer `x = 2Lx−2`,
  whose inner x edge may be in the hole; the vertices `(x−1,y±1,z)`, `(x−1,y,z±1)` do not exist;
* a yz / xz face `(x,y,z)` has the witness `(x,y,z+1)` above it: every other neighbour of that
  edge is higher up;
* an xy face has the witness `(x,y−1,z)` in the layer `z = 0` and in the first column `x = 3` of
  the top of the tube, `(x−1,y,z)` in the other columns of the top: the only neighbour of that edge
  of larger rank is the vertical face under it, which is below the lattice, resp. in the hole.
-/
import PanqecVerif.Proofs.LatPlanar3DCodeRank
import PanqecVerif.Proofs.LatHollowPlanar3DCodeRankCount

namespace Panqec.HollowPlanar3DCode
open Panqec.Cubic3D
open Panqec.Planar3DCode (inE inO inE2 inO1 isVertex isFace rE rO isq isq_iff vertexCands faceCands
  nbM Adj adj_of_mem_vertexCands hit_uop_Z hit_uop_X faceCands_sub rk tri_up tri_side self_faceXY
  self_faceYZ self_faceXZ)

theorem rankFamily_cases {Lx Ly Lz : Nat} {s : Coord} (h : s ∈ rankFamily Lx Ly Lz) :
    ∃ x y z, s = [x, y, z] ∧ ¬ Hole Lx Ly Lz x y z ∧ (isVertex Lx Ly Lz x y z ∨
      (isFace Lx Ly Lz .z z x y ∧ z = 0) ∨ (isFace Lx Ly Lz .z z x y ∧ isTop Lx Lz x y z) ∨
      isFace Lx Ly Lz .x x y z ∨ isFace Lx Ly Lz .y y x z) := by
  obtain ⟨hs, hd⟩ := List.mem_filter.mp h
  obtain ⟨x, y, z, rfl⟩ := shape_of_mem_stabs hs
  obtain ⟨hP, hn⟩ := mem_stabs.mp hs
  refine ⟨x, y, z, rfl, hn, ?_⟩
  rw [Bool.not_eq_true', ← Bool.not_eq_true] at hd
  rcases Planar3DCode.mem_stabs.mp hP with hk | hk | hk | hk
  · exact Or.inl hk
  · have hk : isFace Lx Ly Lz .z z x y := ⟨hk.2.2, hk.1, hk.2.1⟩
    rcases (keptXY_iff hk).mp ⟨hn, hd⟩ with h0 | hT
    · exact Or.inr (Or.inl ⟨hk, h0⟩)
    · exact Or.inr (Or.inr (Or.inl ⟨hk, hT⟩))
  · exact Or.inr (Or.inr (Or.inr (Or.inl hk)))
  · exact Or.inr (Or.inr (Or.inr (Or.inr ⟨hk.2.1, hk.1, hk.2.2⟩)))

theorem adj_under {u v w a b c : Int} (h : Adj u v w a b c) (hc : c = w - 1) : a = u ∧ b = v := by
  unfold Adj at h
  omega

/-- a generator acts only on neighbours of its location: a vertex (even `a`, `b`) with Z, a face
    with X -/
theorem hit_adj {Lx Ly Lz : Nat} {a b c u v w : Int} (ht : [a, b, c] ∈ stabs Lx Ly Lz) {bx : Bool}
    (h : hit bx (getStab Lx Ly Lz [a, b, c]) [u, v, w] = true) :
    Adj u v w a b c ∧ (a % 2 = 0 ∧ b % 2 = 0 ↔ bx = false) := by
  obtain ⟨hP, hn⟩ := mem_stabs.mp ht
  have face : ∀ {cs : List Coord}, cs ⊆ vertexCands a b c → ¬ (a % 2 = 0 ∧ b % 2 = 0) →
      getStab Lx Ly Lz [a, b, c] = uop (cs.filter (isq Lx Ly Lz)) Pauli.X →
      Adj u v w a b c ∧ (a % 2 = 0 ∧ b % 2 = 0 ↔ bx = false) := by
    intro cs hsub hpar e
    rw [e, hit_uop_X, Bool.and_eq_true, decide_eq_true_eq] at h
    exact ⟨adj_of_mem_vertexCands (hsub (List.mem_filter.mp h.2).1),
      iff_of_false hpar (by rw [h.1]; decide)⟩
  rcases Planar3DCode.mem_stabs.mp hP with k | k | k | k
  · rw [getStab_vertex k hn, hit_uop_Z, Bool.and_eq_true, Bool.not_eq_true', decide_eq_true_eq] at h
    exact ⟨adj_of_mem_vertexCands (List.mem_filter.mp (List.mem_filter.mp h.2).1).1,
      iff_of_true ⟨k.1.2.2, k.2.1.2.2⟩ h.1⟩
  · exact face (faceCands_sub a b c).1 (by have := k.1.2.2; omega)
      (getStab_face (ax := .z) (u := c) ⟨k.2.2, k.1, k.2.1⟩ (notHoleC3.mpr hn))
  · exact face (faceCands_sub a b c).2.1 (by have := k.2.1.2.2; omega)
      (getStab_face (ax := .x) k (notHoleC3.mpr hn))
  · exact face (faceCands_sub a b c).2.2 (by have := k.1.2.2; omega)
      (getStab_face (ax := .y) (u := b) ⟨k.2.1, k.1, k.2.2⟩ (notHoleC3.mpr hn))

def wit (Lx : Nat) : Coord → Coord
  | [x, y, z] =>
    if x % 2 = 0 ∧ y % 2 = 0 then vertexEdge Lx x y z
    else if z % 2 = 0 then (if z ≠ 0 ∧ x ≠ 3 then [x - 1, y, z] else [x, y - 1, z])
    else [x, y, z + 1]
  | q => q

/-- `true`: the witness is hit with an X component (faces); `false`: with a Z component (vertices) -/
def wx : Coord → Bool
  | [x, y, _] => !(decide (x % 2 = 0 ∧ y % 2 = 0))
  | _ => false

section eval
variable {Lx Ly Lz : Nat} {x y z : Int}

theorem eval_vertex (h : isVertex Lx Ly Lz x y z) :
    wit Lx [x, y, z] = vertexEdge Lx x y z ∧ wx [x, y, z] = false := by
  simp [wit, wx, h.1.2.2, h.2.1.2.2]

theorem eval_faceXY (h : isFace Lx Ly Lz .z z x y) :
    wit Lx [x, y, z] = (if z ≠ 0 ∧ x ≠ 3 then [x - 1, y, z] else [x, y - 1, z]) ∧
      wx [x, y, z] = true := by
  simp [wit, wx, h.2.1.2.2, h.1.2.2]

theorem eval_faceYZ (h : isFace Lx Ly Lz .x x y z) :
    wit Lx [x, y, z] = [x, y, z + 1] ∧ wx [x, y, z] = true := by
  simp [wit, wx, h.2.1.2.2, h.2.2.2.2]

theorem eval_faceXZ (h : isFace Lx Ly Lz .y y x z) :
    wit Lx [x, y, z] = [x, y, z + 1] ∧ wx [x, y, z] = true := by
  simp [wit, wx, h.2.1.2.2, h.2.2.2.2]
end eval

theorem self_faceXY_x {Lx Ly Lz : Nat} {x y z : Int} (h : isFace Lx Ly Lz .z z x y)
    (h3 : 3 ≤ x) : [x - 1, y, z] ∈ Planar3DCode.faceKeys Lx Ly Lz .z z x y := by
  obtain ⟨hz, hx, hy⟩ := h
  simp only [rE, rO, Axis.fst, Axis.snd, inE, inO, inO1] at hx hy hz
  refine List.mem_filter.mpr ⟨by simp [Planar3DCode.faceCands_eq, ins], isq_iff.mpr ?_⟩
  rw [Planar3DCode.mem_qubits_y (by omega) hy.2.2 hz.2.2]
  omega

/-! ### any other generator acting on a witness has smaller rank

The generator sits at a neighbour `(a, b, c)` of the witness. -/

/-- the witness of a vertex: the other vertex on that x edge is nearer to `x = 0`, or beyond the
    last layer -/
theorem tri_vertex {Lx : Nat} {x y z a b c : Int} (hx0 : x % 2 = 0) (ha : a % 2 = 0)
    (ha' : a < 2 * (Lx : Int))
    (hadj : Adj (if x = 2 * (Lx : Int) - 2 then x + 1 else x - 1) y z a b c) :
    (a = x ∧ b = y ∧ c = z) ∨ a + b - 2 * c < x + y - 2 * z := by
  split at hadj
  · unfold Adj at hadj
    omega
  · exact Planar3DCode.tri_vertex hx0 ha hadj

/-- the witness `(x − 1, y, z)` beside an xy face (`Planar3DCode.tri_side` with `x` and `y`
    exchanged) -/
theorem tri_side_x {x y z a b c : Int} (hx1 : x % 2 = 1) (hy1 : y % 2 = 1)
    (hadj : Adj (x - 1) y z a b c) (hab : ¬ (a % 2 = 0 ∧ b % 2 = 0)) (hc : c ≠ z - 1) :
    (a = x ∧ b = y ∧ c = z) ∨ a + b - 2 * c < x + y - 2 * z := by
  rcases hadj with h | h | h | h | h | h
  · exact Or.inr (by omega)
  · exact Or.inl (by omega)
  · exact absurd ⟨by omega, by omega⟩ hab
  · exact absurd ⟨by omega, by omega⟩ hab
  · exact absurd (by omega) hc
  · exact Or.inr (by omega)

/-- under the witness of an xy face of the top of the tube is the hole -/
theorem hole_under_top {Lx Ly Lz : Nat} {x y z : Int} (h : isFace Lx Ly Lz .z z x y)
    (hT : isTop Lx Lz x y z) :
    (x ≠ 3 → Hole Lx Ly Lz (x - 1) y (z - 1)) ∧ (x = 3 → Hole Lx Ly Lz x (y - 1) (z - 1)) := by
  obtain ⟨hz, hx, hy⟩ := h
  simp only [rE, rO, Axis.fst, Axis.snd, inE, inO, inO1] at hx hy hz
  unfold isTop at hT
  unfold Hole
  omega

theorem stabs_box {Lx Ly Lz : Nat} {a b c : Int} (h : [a, b, c] ∈ stabs Lx Ly Lz) :
    a < 2 * (Lx : Int) ∧ 0 ≤ c := by
  rcases Planar3DCode.mem_stabs.mp (stabs_sub h) with k | k | k | k <;>
    simp only [inE, inO, inE2, inO1] at k <;> omega

/-- the second clause of the triangular criterion for the member `(x, y, z)` with witness
    `(u, v, w)`, from the neighbours of the witness -/
theorem others {Lx Ly Lz : Nat} {x y z u v w : Int} {bx : Bool}
    (H : ∀ a b c, [a, b, c] ∈ stabs Lx Ly Lz → Adj u v w a b c →
      (a % 2 = 0 ∧ b % 2 = 0 ↔ bx = false) →
      (a = x ∧ b = y ∧ c = z) ∨ a + b - 2 * c < x + y - 2 * z) :
    ∀ t ∈ rankFamily Lx Ly Lz, hit bx (getStab Lx Ly Lz t) [u, v, w] = true →
      t = [x, y, z] ∨ rk t < rk [x, y, z] := by
  intro t ht hh
  have hts := (rankFamily_sublist Lx Ly Lz).subset ht
  obtain ⟨a, b, c, rfl⟩ := shape_of_mem_stabs hts
  obtain ⟨hadj, hpar⟩ := hit_adj hts hh
  simpa only [rk, List.cons.injEq, and_true] using H a b c hts hadj hpar

theorem hit_face {Lx Ly Lz : Nat} {ax : Axis} {u v w : Int} {q : Coord}
    (h : isFace Lx Ly Lz ax u v w) (hn : notHoleC Lx Ly Lz (ins ax u v w) = true)
    (hq : q ∈ Planar3DCode.faceKeys Lx Ly Lz ax u v w) :
    hit true (getStab Lx Ly Lz (ins ax u v w)) q = true := by
  rw [getStab_face h hn, hit_uop_X]
  simpa using hq

theorem rankFamily_indep (Lx Ly Lz : Nat) :
    OpsIndep ((rankFamily Lx Ly Lz).map (getStab Lx Ly Lz)) := by
  refine opsIndep_of_witnesses (rankFamily_nodup Lx Ly Lz) rk (wit Lx) wx ?_
  intro s hs
  obtain ⟨x, y, z, rfl, hn, h | ⟨h, h0⟩ | ⟨h, hT⟩ | h | h⟩ := rankFamily_cases hs
  · rw [(eval_vertex h).1, (eval_vertex h).2]
    exact ⟨by rw [getStab_vertex h hn, hit_uop_Z]; simpa using vertexEdge_mem h hn,
      others fun a b c ht hadj hpar =>
        tri_vertex h.1.2.2 (hpar.mpr rfl).1 (stabs_box ht).1 hadj⟩
  · rw [(eval_faceXY h).1, (eval_faceXY h).2, if_neg (fun h' => h'.1 h0)]
    exact ⟨hit_face (ax := .z) h (notHoleC3.mpr hn) (self_faceXY h),
      others fun a b c ht hadj hpar =>
        tri_side h.2.1.2.2 h.2.2.2.2 hadj (mt hpar.mp (by decide))
          (by have := (stabs_box ht).2; omega)⟩
  · rw [(eval_faceXY h).1, (eval_faceXY h).2]
    have hit_self : ∀ {q}, q ∈ Planar3DCode.faceKeys Lx Ly Lz .z z x y →
        hit true (getStab Lx Ly Lz [x, y, z]) q = true :=
      hit_face (ax := .z) h (notHoleC3.mpr hn)
    by_cases h3 : x = 3
    · rw [if_neg (fun h' => h'.2 h3)]
      exact ⟨hit_self (self_faceXY h), others fun a b c ht hadj hpar =>
        tri_side h.2.1.2.2 h.2.2.2.2 hadj (mt hpar.mp (by decide))
          (fun e => (mem_stabs.mp ht).2 (by
            obtain ⟨rfl, rfl⟩ := adj_under hadj e; rw [e]; exact (hole_under_top h hT).2 h3))⟩
    · rw [if_pos ⟨hT.2.1, h3⟩]
      exact ⟨hit_self (self_faceXY_x h hT.2.2.1), others fun a b c ht hadj hpar =>
        tri_side_x h.2.1.2.2 h.2.2.2.2 hadj (mt hpar.mp (by decide))
          (fun e => (mem_stabs.mp ht).2 (by
            obtain ⟨rfl, rfl⟩ := adj_under hadj e; rw [e]; exact (hole_under_top h hT).1 h3))⟩
  · rw [(eval_faceYZ h).1, (eval_faceYZ h).2]
    exact ⟨hit_face (ax := .x) h (notHoleC3.mpr hn) (self_faceYZ h),
      others fun a b c _ hadj _ => tri_up hadj⟩
  · rw [(eval_faceXZ h).1, (eval_faceXZ h).2]
    exact ⟨hit_face (ax := .y) h (notHoleC3.mpr hn) (self_faceXZ h),
      others fun a b c _ hadj _ => tri_up hadj⟩

end Panqec.HollowPlanar3DCode
