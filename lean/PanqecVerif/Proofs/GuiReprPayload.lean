/-
The `/code-data` payload of the visualizer model is faithful for every class whose lattice model is
well-formed and whose configuration entries can be served (`Servable`): generic theorem
`describeAll_faithful`, instantiated per class and for all sizes in `Properties/C20Repr.lean`.
-/
import PanqecVerif.Proofs.GuiRepr
import PanqecVerif.Proofs.OpComm
import PanqecVerif.Proofs.DeformOp

namespace Panqec.GuiRepr
open Panqec.Gui

/-- the hypotheses under which a class is served, in the form the per-class files prove them -/
structure Servable (g : ClassGeom) (T : Tables) (types : List String) (name : String) : Prop where
  wf : g.lat.WF
  tables : classTablesOk T g.cls types = true
  stab_types : ∀ s ∈ g.lat.stabs, ∃ t ∈ types, g.stabType s = some t
  qubit_axes : ∀ q ∈ g.lat.qubits, ∃ a, g.qubitAxis q = some a
  stab_edits : ∀ rot s t, (g.stabEdits rot s t).all Edit.simple = true
  qubit_edits : ∀ rot q a, (g.qubitEdits rot q a).all Edit.simple = true
  deformation : name = "None" ∨ ∀ q ∈ g.lat.qubits, (g.deformation name q).isSome = true

/-- the `location` field the class gives the description of a qubit / stabilizer coordinate -/
def ClassGeom.qubitLocation (g : ClassGeom) (rot : Bool) (q : Coord) : JV :=
  finalLocation (g.qubitEdits rot q ((g.qubitAxis q).getD "")) (locJV q)

def ClassGeom.stabLocation (g : ClassGeom) (rot : Bool) (s : Coord) : JV :=
  finalLocation (g.stabEdits rot s ((g.stabType s).getD "")) (locJV s)

/-- the primitive form of the hypotheses: every coordinate is represented successfully, completely and at
    its location (for classes whose overrides are not plain assignments this is proved directly) -/
structure Served (g : ClassGeom) (T : Tables) (name : String) : Prop where
  wf : g.lat.WF
  qubit_ok : ∀ rot, ∀ q ∈ g.lat.qubits, ∃ d, g.qubitRepr T rot q = .ok d ∧ descComplete d = true ∧
    getKey d "location" = some (g.qubitLocation rot q)
  stab_ok : ∀ rot, ∀ s ∈ g.lat.stabs, ∃ d, g.stabRepr T rot s = .ok d ∧ descComplete d = true ∧
    getKey d "location" = some (g.stabLocation rot s) ∧ getKey d "type" = (g.stabType s).map JV.str
  deformation : name = "None" ∨ ∀ q ∈ g.lat.qubits, (g.deformation name q).isSome = true

/-- C20 for one answer: one complete description per qubit and per stabilizer, the i-th one computed
    from (and located at) the i-th library coordinate — a stabilizer's with the `type` of that
    coordinate —, and the matrices of the generic assembly -/
structure Faithful (g : ClassGeom) (T : Tables) (name : String) (rot : Bool) (p : Payload) : Prop where
  n_qubits : p.qubits.length = g.lat.qubits.length
  n_stabs : p.stabilizers.length = g.lat.stabs.length
  qubit_at : ∀ i (h : i < g.lat.qubits.length) (h' : i < p.qubits.length),
    g.qubitRepr T rot g.lat.qubits[i] = .ok p.qubits[i] ∧ descComplete p.qubits[i] = true ∧
    getKey p.qubits[i] "location" = some (g.qubitLocation rot g.lat.qubits[i])
  stab_at : ∀ i (h : i < g.lat.stabs.length) (h' : i < p.stabilizers.length),
    g.stabRepr T rot g.lat.stabs[i] = .ok p.stabilizers[i] ∧ descComplete p.stabilizers[i] = true ∧
    getKey p.stabilizers[i] "location" = some (g.stabLocation rot g.lat.stabs[i]) ∧
    getKey p.stabilizers[i] "type" = (g.stabType g.lat.stabs[i]).map JV.str
  undeformed : name = "None" → p.H = g.lat.rowsH ∧ p.logicalX = g.lat.rowsX ∧ p.logicalZ = g.lat.rowsZ
  deformed : name ≠ "None" →
    p.H = g.lat.rowsH.map (deformBsf (g.lat.qubits.map (g.dmap name))) ∧
    p.logicalX = g.lat.rowsX.map (deformBsf (g.lat.qubits.map (g.dmap name))) ∧
    p.logicalZ = g.lat.rowsZ.map (deformBsf (g.lat.qubits.map (g.dmap name)))

theorem classTablesOk_unpack {T : Tables} {cls : String} {types : List String}
    (h : classTablesOk T cls types = true) (rot : Bool) :
    (∃ e, lookupFull T.cfg cls "qubits" (pictureName rot) "" = some e ∧
      entryOk T.colormap qubitColorKeys e = true) ∧
    ∀ t ∈ types, ∃ e, lookupFull T.cfg cls "stabilizers" (pictureName rot) t = some e ∧
      entryOk T.colormap stabColorKeys e = true := by
  unfold classTablesOk at h
  have h1 := List.all_eq_true.mp h rot (by cases rot <;> simp)
  simp only [Bool.and_eq_true] at h1
  constructor
  · cases hl : lookupFull T.cfg cls "qubits" (pictureName rot) "" with
    | none => simp [hl] at h1
    | some e => exact ⟨e, rfl, by simpa [hl] using h1.1⟩
  · intro t ht
    have h2 := List.all_eq_true.mp h1.2 t ht
    cases hl : lookupFull T.cfg cls "stabilizers" (pictureName rot) t with
    | none => simp [hl] at h2
    | some e => exact ⟨e, rfl, by simpa [hl] using h2⟩

variable {g : ClassGeom} {T : Tables} {types : List String} {name : String}

theorem qubitRepr_ok (ht : classTablesOk T g.cls types = true) (rot : Bool) {q : Coord} {a : String}
    (ha : g.qubitAxis q = some a) (he : (g.qubitEdits rot q a).all Edit.simple = true) :
    ∃ d, g.qubitRepr T rot q = .ok d ∧ descComplete d = true ∧
      getKey d "location" = some (g.qubitLocation rot q) := by
  obtain ⟨⟨e, hl, he'⟩, _⟩ := classTablesOk_unpack ht rot
  obtain ⟨d, hd, hg, hloc, _⟩ := baseQubit_ok T g.cls rot a q e hl he'
  obtain ⟨d', h1, h2, h3, _⟩ := applyEdits_ok (g.qubitEdits rot q a) d _ hg hloc he
  refine ⟨d', ?_, h2.complete, ?_⟩
  · unfold ClassGeom.qubitRepr
    rw [ha, hd]; exact h1
  · unfold ClassGeom.qubitLocation
    rw [ha]; exact h3

theorem Servable.stab_ok (hs : Servable g T types name) (rot : Bool) {s : Coord} (hq : s ∈ g.lat.stabs) :
    ∃ d, g.stabRepr T rot s = .ok d ∧ descComplete d = true ∧
      getKey d "location" = some (g.stabLocation rot s) ∧ getKey d "type" = (g.stabType s).map JV.str := by
  obtain ⟨t, ht, hty⟩ := hs.stab_types s hq
  obtain ⟨_, hall⟩ := classTablesOk_unpack hs.tables rot
  obtain ⟨e, hl, he⟩ := hall t ht
  obtain ⟨d, hd, hg, hloc, htyp, _⟩ := baseStab_ok T g.cls rot t s e hl he
  obtain ⟨d', h1, h2, h3, h4⟩ := applyEdits_ok (g.stabEdits rot s t) d _ hg hloc (hs.stab_edits rot s t)
  refine ⟨d', ?_, h2.complete, ?_, ?_⟩
  · unfold ClassGeom.stabRepr
    simp only [hty, hd]; exact h1
  · unfold ClassGeom.stabLocation
    rw [hty]; exact h3
  · rw [h4, htyp, hty]; rfl

theorem opKeys_sub (hwf : g.lat.WF) {q : Coord} (hq : q ∈ g.opKeys) : q ∈ g.lat.qubits := by
  unfold ClassGeom.opKeys at hq
  rw [List.mem_flatMap] at hq
  obtain ⟨op, hop, hq⟩ := hq
  obtain ⟨e, he, rfl⟩ := List.mem_map.mp hq
  rw [List.append_assoc, List.mem_append] at hop
  rcases hop with hop | hop
  · obtain ⟨s, hs, rfl⟩ := List.mem_map.mp hop
    exact (hwf.stab_supported s hs e he).1
  · exact (hwf.log_supported op hop e he).1

theorem Servable.served (hs : Servable g T types name) : Served g T name :=
  ⟨hs.wf,
    fun rot q hq => let ⟨a, ha⟩ := hs.qubit_axes q hq; qubitRepr_ok hs.tables rot ha (hs.qubit_edits rot q a),
    fun rot _ hq => hs.stab_ok rot hq, hs.deformation⟩

theorem Served.matrices (hs : Served g T name) :
    ∃ cd lz lx h, g.codeData name = .ok cd ∧ logicalsZ cd = some lz ∧ logicalsX cd = some lx ∧
      stabilizerMatrix cd = some h ∧
      (name = "None" → h = g.lat.rowsH ∧ lx = g.lat.rowsX ∧ lz = g.lat.rowsZ) ∧
      (name ≠ "None" →
        h = g.lat.rowsH.map (deformBsf (g.lat.qubits.map (g.dmap name))) ∧
        lx = g.lat.rowsX.map (deformBsf (g.lat.qubits.map (g.dmap name))) ∧
        lz = g.lat.rowsZ.map (deformBsf (g.lat.qubits.map (g.dmap name)))) := by
  have hH := Lattice.stabilizerMatrix_eq hs.wf
  have hX := Lattice.logicalsX_eq hs.wf
  have hZ := Lattice.logicalsZ_eq hs.wf
  by_cases hn : name = "None"
  · refine ⟨g.lat.toCodeData, _, _, _, ?_, hZ, hX, hH, fun _ => ⟨rfl, rfl, rfl⟩, fun h => absurd hn h⟩
    unfold ClassGeom.codeData
    simp [hn]
  · have hdef : ∀ q ∈ g.lat.qubits, (g.deformation name q).isSome = true := by
      rcases hs.deformation with h | h
      · exact absurd h hn
      · exact h
    have hcd : g.codeData name = .ok (g.lat.toCodeData.deform (g.dmap name)) := by
      unfold ClassGeom.codeData
      have h1 : (name == "None") = false := by simpa using hn
      have h2 : (g.opKeys.all fun q => (g.deformation name q).isSome) = true :=
        List.all_eq_true.mpr fun q hq => hdef q (opKeys_sub hs.wf hq)
      simp only [h1, Bool.false_eq_true, if_false, h2, if_true]
    have kS : ∀ op ∈ g.lat.toCodeData.stabOps, KeysNodup op := by
      intro op hop
      obtain ⟨s, hs', rfl⟩ := List.mem_map.mp hop
      exact hs.wf.stab_keys s hs'
    have kX : ∀ op ∈ g.lat.toCodeData.logX, KeysNodup op :=
      fun op hop => hs.wf.log_keys op (List.mem_append_left _ hop)
    have kZ : ∀ op ∈ g.lat.toCodeData.logZ, KeysNodup op :=
      fun op hop => hs.wf.log_keys op (List.mem_append_right _ hop)
    refine ⟨_, _, _, _, hcd, ?_, ?_, ?_, fun h => absurd h hn, fun _ => ⟨rfl, rfl, rfl⟩⟩
    · rw [Deform.logicalsZ_deform _ _ kZ, hZ]; rfl
    · rw [Deform.logicalsX_deform _ _ kX, hX]; rfl
    · rw [Deform.stabilizerMatrix_deform _ _ kS, hH]; rfl

theorem Served.faithful (hs : Served g T name) (rot : Bool) :
    ∃ p, g.describeAll T name rot = .ok p ∧ Faithful g T name rot p := by
  obtain ⟨qs, hq1, hq2, hq3⟩ := mapM_except_getElem (g.qubitRepr T rot) g.lat.qubits
    fun q hq => (hs.qubit_ok rot q hq).imp fun _ h => h.1
  obtain ⟨ss, hs1, hs2, hs3⟩ := mapM_except_getElem (g.stabRepr T rot) g.lat.stabs
    fun s hq => (hs.stab_ok rot s hq).imp fun _ h => h.1
  obtain ⟨cd, lz, lx, h, hcd, hlz, hlx, hh, hund, hdef⟩ := hs.matrices
  refine ⟨⟨h, lx, lz, qs, ss⟩, ?_, ⟨hq2, hs2, ?_, ?_, hund, hdef⟩⟩
  · unfold ClassGeom.describeAll
    simp only [hq1, hs1, hcd, hlz, hlx, hh]
  · intro i hi hi'
    obtain ⟨d, hd, hc, hl⟩ := hs.qubit_ok rot _ (List.getElem_mem hi)
    have := hq3 i hi hi'
    rw [hd] at this
    cases this
    exact ⟨hd, hc, hl⟩
  · intro i hi hi'
    obtain ⟨d, hd, hc, hl, ht⟩ := hs.stab_ok rot _ (List.getElem_mem hi)
    have := hs3 i hi hi'
    rw [hd] at this
    cases this
    exact ⟨hd, hc, hl, ht⟩

theorem describeAll_faithful (hs : Servable g T types name) (rot : Bool) :
    ∃ p, g.describeAll T name rot = .ok p ∧ Faithful g T name rot p :=
  hs.served.faithful rot

end Panqec.GuiRepr
