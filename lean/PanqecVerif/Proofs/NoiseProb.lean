/-
Lemmas for C18 (`error_probability`: product form, normalisation, likelihood ratios).
-/
import PanqecVerif.Proofs.Noise
import Mathlib.Algebra.BigOperators.Ring.List
import Mathlib.Algebra.Order.BigOperators.Group.List

namespace Panqec

/-- numpy truthiness of an integer -/
def truth (x : Nat) : Nat := if x = 0 then 0 else 1

theorem probEntry_bits (d : Dist) (σ : Pauli) : probEntry d σ.xBit σ.zBit = d.get σ := by
  cases σ <;> simp [probEntry, ind, Pauli.xBit, Pauli.zBit, Dist.get]

theorem oldProbEntry_bits (d : Dist) (σ : Pauli) :
    oldProbEntry d σ.xBit σ.zBit = d.get σ + (if σ = .I then d.y else 0) := by
  cases σ <;> simp [oldProbEntry, ind, Pauli.xBit, Pauli.zBit, Dist.get, add_comm]

theorem entriesGo_bits (f : Dist → Nat → Nat → Rat) : ∀ (ds : List Dist) (s : List Pauli),
    entriesGo f ds (s.map Pauli.xBit) (s.map Pauli.zBit) =
      List.zipWith (fun d σ => f d σ.xBit σ.zBit) ds s
  | [], s => by cases s <;> simp [entriesGo]
  | _ :: _, [] => by simp [entriesGo]
  | d :: ds, σ :: s => by simp [entriesGo, entriesGo_bits f ds s]

theorem probVectorWith_pauliToBsf (f : Dist → Nat → Nat → Rat) (ds : List Dist) (s : List Pauli)
    (h : s.length = ds.length) :
    probVectorWith f ds (pauliToBsf s) = some (List.zipWith (fun d σ => f d σ.xBit σ.zBit) ds s) := by
  unfold probVectorWith
  have hl : (pauliToBsf s).length = 2 * ds.length := by rw [pauliToBsf_length, h]
  simp only [hl, ne_eq, not_true_eq_false, if_false]
  have h1 : (pauliToBsf s).take ds.length = s.map Pauli.xBit := by
    simp [pauliToBsf, ← h]
  have h2 : (pauliToBsf s).drop ds.length = s.map Pauli.zBit := by
    simp [pauliToBsf, ← h]
  rw [h1, h2, entriesGo_bits]

theorem errorProbability_pauliToBsf (ds : List Dist) (s : List Pauli) (h : s.length = ds.length) :
    errorProbability ds (pauliToBsf s) = some (stringProb ds s) := by
  unfold errorProbability probVector
  rw [probVectorWith_pauliToBsf _ ds s h]
  simp only [Option.map_some, stringProb]
  have : (fun (d : Dist) (σ : Pauli) => probEntry d σ.xBit σ.zBit) = Dist.get := by
    funext d σ
    exact probEntry_bits d σ
  rw [this]

/-- the model's `ratSum` is the library's sum, whose lemmas are used from here on -/
theorem ratSum_eq_sum : ∀ l : List Rat, ratSum l = l.sum
  | [] => rfl
  | a :: l => by rw [ratSum, ratSum_eq_sum l, List.sum_cons]

theorem stringProb_cons (d : Dist) (ds : List Dist) (σ : Pauli) (s : List Pauli) :
    stringProb (d :: ds) (σ :: s) = d.get σ * stringProb ds s := by
  simp [stringProb, ratProd]

theorem sum_stringProb : ∀ ds : List Dist,
    ratSum ((allPaulis ds.length).map (stringProb ds)) = ratProd (ds.map Dist.total)
  | [] => by simp [allPaulis, stringProb, ratSum, ratProd]
  | d :: ds => by
    have ih := sum_stringProb ds
    rw [ratSum_eq_sum] at ih ⊢
    have key : ∀ σ : Pauli, (((allPaulis ds.length).map (σ :: ·)).map (stringProb (d :: ds))).sum =
        d.get σ * ((allPaulis ds.length).map (stringProb ds)).sum := by
      intro σ
      rw [← List.sum_map_mul_left, List.map_map]
      rfl
    simp only [List.length_cons, allPaulis, List.flatMap_cons, List.flatMap_nil, List.append_nil,
      List.map_append, List.sum_append, key, ih, List.map_cons, ratProd, Dist.total, Dist.get]
    ring

theorem ratProd_eq_one_of_all_one : ∀ l : List Rat, (∀ x ∈ l, x = 1) → ratProd l = 1
  | [], _ => rfl
  | x :: l, h => by
    simp [ratProd, h x (by simp), ratProd_eq_one_of_all_one l (fun y hy => h y (by simp [hy]))]

theorem allPaulis_length : ∀ n, (allPaulis n).length = 4 ^ n
  | 0 => rfl
  | n + 1 => by simp [allPaulis, allPaulis_length n, Nat.pow_succ]; omega

theorem mem_allPaulis : ∀ (n : Nat) (s : List Pauli), s ∈ allPaulis n ↔ s.length = n
  | 0, s => by simp [allPaulis]
  | n + 1, s => by
    cases s with
    | nil => simp [allPaulis]
    | cons σ s =>
      have ih := mem_allPaulis n s
      cases σ <;> simp [allPaulis, ih]

/-- qubit `i` contributes one factor: `P(s with letter ρ at i) = p_i(ρ) · r`, the same `r` for every `ρ` -/
theorem stringProb_set_eq : ∀ (ds : List Dist) (s : List Pauli) (i : Nat) (d : Dist),
    ds[i]? = some d → i < s.length → ∃ r, ∀ ρ, stringProb ds (s.set i ρ) = d.get ρ * r
  | [], _, _, _, h, _ => by simp at h
  | _ :: _, [], _, _, _, h => by simp at h
  | d0 :: ds, σ0 :: s, 0, d, hd, _ => by
    cases hd
    exact ⟨stringProb ds s, fun ρ => stringProb_cons _ _ _ _⟩
  | d0 :: ds, σ0 :: s, i + 1, d, hd, hs => by
    obtain ⟨r, hr⟩ := stringProb_set_eq ds s i d hd (by simpa using hs)
    exact ⟨d0.get σ0 * r, fun ρ => by rw [List.set_cons_succ, stringProb_cons, hr]; ring⟩

theorem stringProb_set (ds : List Dist) (s : List Pauli) (i : Nat) (d : Dist) (σ τ : Pauli)
    (hd : ds[i]? = some d) (hs : s[i]? = some σ) :
    stringProb ds (s.set i τ) * d.get σ = stringProb ds s * d.get τ := by
  obtain ⟨hi, rfl⟩ := List.getElem?_eq_some_iff.mp hs
  obtain ⟨r, hr⟩ := stringProb_set_eq ds s i d hd hi
  have hs' := hr s[i]
  rw [List.set_getElem_self hi] at hs'
  rw [hr τ, hs']
  ring

theorem stringProb_ratio (ds : List Dist) (s : List Pauli) (i : Nat) (d : Dist) (τ ρ : Pauli)
    (hd : ds[i]? = some d) (hs : s[i]? = some τ) (h0 : stringProb ds s ≠ 0) :
    stringProb ds (s.set i ρ) / stringProb ds s = d.get ρ / d.get τ := by
  obtain ⟨hi, rfl⟩ := List.getElem?_eq_some_iff.mp hs
  obtain ⟨r, hr⟩ := stringProb_set_eq ds s i d hd hi
  have hs' := hr s[i]
  rw [List.set_getElem_self hi] at hs'
  rw [hs'] at h0 ⊢
  rw [hr ρ, mul_div_mul_right _ _ (right_ne_zero_of_mul h0)]

theorem stringProb_nonneg : ∀ (ds : List Dist) (s : List Pauli),
    (∀ d ∈ ds, ∀ σ, 0 ≤ d.get σ) → 0 ≤ stringProb ds s
  | [], _, _ => by simp [stringProb, ratProd]
  | _ :: _, [], _ => by simp [stringProb, ratProd]
  | d :: ds, σ :: s, h => by
    rw [stringProb_cons]
    exact mul_nonneg (h d (by simp) σ) (stringProb_nonneg ds s fun d' hd' => h d' (by simp [hd']))

end Panqec
