/-
Color666ToricCode, square sizes `L ≥ 1`: `get_stabilizer` in closed form and the closed form `IsQ`
of the DERIVED qubit list (the qubits are the corners `qR a j`, `qL a j` of the faces), which is
disjoint from the stabilizer locations.  Counting: `n_stabilizers = 2·(3L)·(3L)` directly from the
two nested ranges; the derived qubit list has the same members as the duplicate-free list of the two
corners `qR a j`, `qL a j` owned by each of the `3L × 3L` faces, hence `n = 18L²`.
-/
import PanqecVerif.Proofs.LatColor666ToricCodeFaces


namespace Panqec.Color666ToricCode
open Panqec.Lat2D Panqec.Color

def letter (p : Int) : Pauli := if p = 0 then Pauli.X else Pauli.Z

theorem getStabIn_eq {L : Nat} (hL : 1 ≤ L) {x y p : Int} (h : [x, y, p] ∈ stabs L L) :
    getStabilizerIn (stabs L L) L L [x, y, p] = some ((supp L x y).map (fun q => (q, letter p))) := by
  have hs : isIn (stabs L L) [x, y, p] = true := isIn_iff.mpr h
  unfold getStabilizerIn
  simp only [hs, Bool.not_true, Bool.false_eq_true, if_false]
  rw [candidates_eq, lineOp_eq _ _ (nodup_supp hL (mem_stabs'.mp h).1)]
  rfl

theorem getStab_eq {L : Nat} (hL : 1 ≤ L) {x y p : Int} (h : [x, y, p] ∈ stabs L L) :
    (lattice L L).getStab [x, y, p] = (supp L x y).map (fun q => (q, letter p)) := by
  show (getStabilizer? L L [x, y, p]).getD [] = _
  unfold getStabilizer?
  rw [getStabIn_eq hL h]; rfl

/-- `(a, b)` is a qubit coordinate (closed form of the derived list) -/
def IsQ (L : Nat) (a b : Int) : Prop :=
  InD L a b ∧ (((a % 6 = 1 ∨ a % 6 = 3) ∧ b % 4 = 0) ∨ ((a % 6 = 0 ∨ a % 6 = 4) ∧ b % 4 = 2))

theorem isQ_unfold {L : Nat} {a b : Int} : IsQ L a b ↔
    ((0 ≤ a ∧ a < 9 * (L : Int) ∧
      ((a = 0 ∧ -2 < b ∧ b ≤ 12 * (L : Int) - 2) ∨
       (a ≠ 0 ∧ (2 * (a - 2)) / 3 ≤ b ∧ b < 12 * (L : Int) + (2 * (a - 2)) / 3))) ∧
     (((a % 6 = 1 ∨ a % 6 = 3) ∧ b % 4 = 0) ∨ ((a % 6 = 0 ∨ a % 6 = 4) ∧ b % 4 = 2))) := by
  unfold IsQ InD skew; rfl

/-- a site with `x ≡ 0 (mod 3)` is a qubit: `3y − 2x ≡ 6 (mod 12)`; the column `x = 0` has its
    range shifted by the corner rule -/
theorem isQ_left {L : Nat} {a b : Int} (h3 : a % 3 = 0) (h0 : 0 ≤ a) (h1 : a < 9 * (L : Int))
    (hu : (3 * b - 2 * a) % 12 = 6) (hl : 2 * a - 6 ≤ 3 * b) (hl0 : a = 0 → 0 < b)
    (hr : 3 * b ≤ 36 * (L : Int) + 2 * a - 6) (hr0 : a ≠ 0 → 3 * b < 36 * (L : Int) + 2 * a - 6) :
    IsQ L a b := by
  rw [isQ_unfold]
  omega

theorem nodup_qubits (L : Nat) : (qubits L L).Nodup := nodup_derivedQubits _ _

theorem mem_qubits_faces {L : Nat} (hL : 1 ≤ L) {q : Coord} :
    q ∈ qubits L L ↔ ∃ x y, IsF L x y ∧ q ∈ supp L x y :=
  mem_derived_faces mem_faces fun x y p h => by
    rw [getStabIn_eq hL h, Option.getD_some, map_fst_letter]

theorem isQ_qR {L : Nat} (hL : 1 ≤ L) (a j : Int) : ∃ x y, qR L a j = [x, y] ∧ IsQ L x y := by
  obtain ⟨qx, qy, e, hd, hx, hu⟩ := cn_spec hL (3 * a + 4) (2 + 2 * a + 4 * j)
  have h3 := mod3_of_dvd9 hx
  have h12 := mod12_of_dvd36 hu
  exact ⟨qx, qy, e, hd, by omega⟩

theorem isQ_qL {L : Nat} (hL : 1 ≤ L) (a j : Int) : ∃ x y, qL L a j = [x, y] ∧ IsQ L x y := by
  obtain ⟨qx, qy, e, hd, hx, hu⟩ := cn_spec hL (3 * a) (2 + 2 * a + 4 * j)
  have h3 := mod3_of_dvd9 hx
  have h12 := mod12_of_dvd36 hu
  exact ⟨qx, qy, e, hd, by omega⟩

theorem corners_isQ {L : Nat} (hL : 1 ≤ L) {a j : Int} {q : Coord} (hq : q ∈ corners L a j) :
    ∃ x y, q = [x, y] ∧ IsQ L x y := by
  unfold corners at hq
  simp only [List.mem_cons, List.not_mem_nil, or_false] at hq
  rcases hq with rfl | rfl | rfl | rfl | rfl | rfl <;> first | exact isQ_qR hL _ _ | exact isQ_qL hL _ _

theorem cn_id {L : Nat} (hL : 1 ≤ L) {x y : Int} (hD : InD L x y) : cn L x y = [x, y] := by
  obtain ⟨qx, qy, e, hd, hx, hu⟩ := cn_spec hL x y
  have := canon_congr hD hd ⟨dvd_to_emod hx, dvd_to_emod hu⟩
  rw [e, this.1, this.2]

theorem isQ_is_corner {L : Nat} (hL : 1 ≤ L) {x y : Int} (h : IsQ L x y) :
    ∃ a j, [x, y] = qR L a j ∨ [x, y] = qL L a j := by
  obtain ⟨hD, hm⟩ := h
  rw [← cn_id hL hD]
  by_cases h3 : x % 3 = 0
  · exact ⟨x / 3, (y - 2 - 2 * (x / 3)) / 4, Or.inr (by unfold qL; congr 1 <;> omega)⟩
  · exact ⟨(x - 4) / 3, (y - 2 - 2 * ((x - 4) / 3)) / 4, Or.inl (by unfold qR; congr 1 <;> omega)⟩

theorem corner_of_isQ {L : Nat} (hL : 1 ≤ L) {x y : Int} (h : IsQ L x y) :
    ∃ a j, [x, y] ∈ corners L a j := by
  obtain ⟨a, j, e | e⟩ := isQ_is_corner hL h <;> exact ⟨a, j, by rw [e]; simp [corners]⟩

theorem mem_qubits {L : Nat} (hL : 1 ≤ L) {q : Coord} :
    q ∈ qubits L L ↔ ∃ a b, q = [a, b] ∧ IsQ L a b := by
  rw [mem_qubits_faces hL]
  constructor
  · rintro ⟨x, y, hf, hq⟩
    obtain ⟨a, j, e⟩ := face_of_isF hL hf
    rw [e] at hq
    exact corners_isQ hL hq
  · rintro ⟨x, y, rfl, h⟩
    obtain ⟨a, j, hm⟩ := corner_of_isQ hL h
    obtain ⟨fx, fy, hf, e⟩ := isF_of_face hL a j
    exact ⟨fx, fy, hf, e ▸ hm⟩

theorem mem_qubits' {L : Nat} (hL : 1 ≤ L) {a b : Int} : [a, b] ∈ qubits L L ↔ IsQ L a b :=
  mem_pair_iff (mem_qubits hL)

theorem isQubit_iff {L : Nat} (hL : 1 ≤ L) {a b : Int} :
    isQubit L L [a, b] = true ↔ IsQ L a b := by
  unfold isQubit; rw [isIn_iff, mem_qubits' hL]

theorem qubits_stabs_disjoint {L : Nat} (hL : 1 ≤ L) : ∀ q ∈ qubits L L, q ∉ stabs L L := by
  intro q hq hs
  obtain ⟨a, b, rfl, _⟩ := (mem_qubits hL).mp hq
  obtain ⟨x', y', p, h, _⟩ := mem_stabs.mp hs
  simp at h

theorem supp_nonempty (L : Nat) (x y : Int) : supp L x y ≠ [] := by
  unfold supp; simp

theorem qR_qubit {L : Nat} (hL : 1 ≤ L) (a j : Int) : qR L a j ∈ qubits L L := by
  obtain ⟨x, y, e, h⟩ := isQ_qR hL a j
  rw [e]; exact (mem_qubits' hL).mpr h

theorem qL_qubit {L : Nat} (hL : 1 ≤ L) (a j : Int) : qL L a j ∈ qubits L L := by
  obtain ⟨x, y, e, h⟩ := isQ_qL hL a j
  rw [e]; exact (mem_qubits' hL).mpr h

theorem length_stabs (L : Nat) : (stabs L L).length = 18 * (L * L) := by
  unfold stabs faces
  rw [length_both, length_flatMap_const _ _ (3 * L)]
  · have : (pyRangeStep 2 (9 * (L : Int)) 3).length = 3 * L := by
      unfold pyRangeStep
      simp only [List.length_map, List.length_range']
      omega
    rw [this]
    have e : 3 * L * (3 * L) = 9 * (L * L) := by rw [Nat.mul_mul_mul_comm]
    omega
  · intro x _
    unfold pyRangeI
    simp only [List.length_map, List.length_range]
    omega

/-- the two corners owned by each face `(a, j)`, `a, j < 3L` -/
def niceQubits (L : Nat) : List Coord :=
  (List.range (3 * L)).flatMap fun (a : Nat) => (List.range (3 * L)).flatMap fun (j : Nat) =>
    [qR L a j, qL L a j]

theorem cg_reduce {L : Nat} (hL : 1 ≤ L) (w : Int) :
    ∃ n : Nat, n < 3 * L ∧ Cg L ((n : Int) - w) := by
  have h0 := Int.emod_nonneg w (show 3 * (L : Int) ≠ 0 by omega)
  have h1 := Int.emod_lt_of_pos w (show (0 : Int) < 3 * (L : Int) by omega)
  refine ⟨(w % (3 * (L : Int))).toNat, by omega, ?_⟩
  rw [Int.toNat_of_nonneg h0]
  exact (cg_sub_emod L w).neg.congr (by omega)

theorem mem_niceQubits {L : Nat} (hL : 1 ≤ L) {q : Coord} : q ∈ niceQubits L ↔ q ∈ qubits L L := by
  unfold niceQubits
  simp only [List.mem_flatMap, List.mem_range, List.mem_cons, List.not_mem_nil, or_false]
  constructor
  · rintro ⟨a, -, j, -, rfl | rfl⟩
    · exact qR_qubit hL a j
    · exact qL_qubit hL a j
  · intro hq
    obtain ⟨x, y, rfl, h⟩ := (mem_qubits hL).mp hq
    obtain ⟨a, j, e⟩ := isQ_is_corner hL h
    obtain ⟨a', ha', ca⟩ := cg_reduce hL a
    obtain ⟨j', hj', cj⟩ := cg_reduce hL j
    refine ⟨a', ha', j', hj', e.imp (fun e => ?_) fun e => ?_⟩
    · rw [e]; exact (qR_eq_iff hL ..).mpr ⟨ca, cj⟩
    · rw [e]; exact (qL_eq_iff hL ..).mpr ⟨ca, cj⟩

theorem cg_nat {L : Nat} {i i' : Nat} (hi : i < 3 * L) (hi' : i' < 3 * L)
    (h : Cg L ((i' : Int) - (i : Int))) : i = i' := by
  have := h.eq_zero (by omega) (by omega); omega

theorem nodup_niceQubits {L : Nat} (hL : 1 ≤ L) : (niceQubits L).Nodup := by
  unfold niceQubits
  refine nodup_blocks _ _ (fun a ha => nodup_blocks _ _ (fun j _ => ?_) ?_) ?_
  · simp only [List.nodup_cons, List.mem_cons, List.not_mem_nil, or_false, not_false_eq_true,
      List.nodup_nil, and_true]
    exact qR_ne_qL hL _ _ _ _
  · intro j j' hj hj' hne q hq hq'
    simp only [List.mem_cons, List.not_mem_nil, or_false] at hq hq'
    rcases hq with rfl | rfl <;> rcases hq' with e | e
    · exact hne (cg_nat hj hj' ((qR_eq_iff hL ..).mp e).2)
    · exact qR_ne_qL hL _ _ _ _ e
    · exact qR_ne_qL hL _ _ _ _ e.symm
    · exact hne (cg_nat hj hj' ((qL_eq_iff hL ..).mp e).2)
  · intro a a' ha ha' hne q hq hq'
    simp only [List.mem_flatMap, List.mem_range, List.mem_cons, List.not_mem_nil, or_false] at hq hq'
    obtain ⟨j, -, hq⟩ := hq
    obtain ⟨j', -, hq'⟩ := hq'
    rcases hq with rfl | rfl <;> rcases hq' with e | e
    · exact hne (cg_nat ha ha' ((qR_eq_iff hL ..).mp e).1)
    · exact qR_ne_qL hL _ _ _ _ e
    · exact qR_ne_qL hL _ _ _ _ e.symm
    · exact hne (cg_nat ha ha' ((qL_eq_iff hL ..).mp e).1)

theorem length_qubits {L : Nat} (hL : 1 ≤ L) : (qubits L L).length = 18 * (L * L) := by
  rw [← length_eq_of_mem_iff (nodup_niceQubits hL) (nodup_qubits L) (fun q => mem_niceQubits hL)]
  unfold niceQubits
  rw [length_flatMap_const _ _ (3 * L * 2)
    (fun a _ => by rw [length_flatMap_const _ _ 2 (fun _ _ => rfl), List.length_range]),
    List.length_range]
  rw [← Nat.mul_assoc, Nat.mul_mul_mul_comm 3 L 3 L]
  omega

end Panqec.Color666ToricCode
