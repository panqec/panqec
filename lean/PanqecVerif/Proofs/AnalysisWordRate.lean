/-
Helper lemmas (C15), the part over the reals: the square-root bracketing test, the word-error-rate
formula `1 - (1 - p)^(1/k)`, its standard error as a derivative, soundness of the bracketing test
used by the driver.
-/
import PanqecVerif.Proofs.AnalysisRates
import Mathlib.Analysis.SpecialFunctions.Pow.Deriv

namespace Panqec.An

theorem sqrtWithin_sound {ε f r : Rat} (hε0 : 0 ≤ ε) (hε1 : ε ≤ 1) (h : sqrtWithin ε f r = true) :
    (f : ℝ) * (1 - ε) ≤ Real.sqrt r ∧ Real.sqrt r ≤ (f : ℝ) * (1 + ε) := by
  unfold sqrtWithin at h
  simp only [Bool.and_eq_true, decide_eq_true_eq] at h
  obtain ⟨⟨hf, hlo⟩, hhi⟩ := h
  have hf' : (0 : ℝ) ≤ f := by exact_mod_cast hf
  have hε0' : (0 : ℝ) ≤ ε := by exact_mod_cast hε0
  have hε1' : (ε : ℝ) ≤ 1 := by exact_mod_cast hε1
  have hlo' : ((f : ℝ) * (1 - ε)) ^ 2 ≤ (r : ℝ) := by exact_mod_cast hlo
  have hhi' : (r : ℝ) ≤ ((f : ℝ) * (1 + ε)) ^ 2 := by exact_mod_cast hhi
  constructor
  · apply Real.le_sqrt_of_sq_le hlo'
  · rw [Real.sqrt_le_left (by positivity)]
    exact hhi'

/-- `get_word_error_rate`: `1 - (1 - p)**(1/k)` over the reals -/
noncomputable def wordRate (p : ℝ) (k : ℕ) : ℝ := 1 - (1 - p) ^ ((1 : ℝ) / k)

/-- the standard error the code attaches to it: `(1/k) (1-p)**(1/k - 1) * se` -/
noncomputable def wordSe (p se : ℝ) (k : ℕ) : ℝ := (1 / (k : ℝ)) * (1 - p) ^ ((1 : ℝ) / k - 1) * se

/-- the defining relation: all `k` logical qubits fail independently at rate `p_word` -/
theorem wordRate_relation (p : ℝ) (k : ℕ) (hk : 0 < k) (hp : p ≤ 1) :
    (1 - wordRate p k) ^ k = 1 - p := by
  unfold wordRate
  have h0 : (0 : ℝ) ≤ 1 - p := by linarith
  have hk' : (k : ℝ) ≠ 0 := by exact_mod_cast (by omega : k ≠ 0)
  rw [sub_sub_cancel, ← Real.rpow_natCast, ← Real.rpow_mul h0, one_div, inv_mul_cancel₀ hk', Real.rpow_one]

/-- first-order error propagation: the factor in `p_word_se` is the derivative of the word rate -/
theorem wordRate_hasDerivAt (p : ℝ) (k : ℕ) (hp : p < 1) :
    HasDerivAt (fun q => wordRate q k) ((1 / (k : ℝ)) * (1 - p) ^ ((1 : ℝ) / k - 1)) p := by
  unfold wordRate
  have h1 : HasDerivAt (fun q : ℝ => 1 - q) (-1) p := by
    simpa using (hasDerivAt_id p).const_sub 1
  have h2 := h1.rpow_const (p := (1 : ℝ) / k) (Or.inl (by linarith : (1 : ℝ) - p ≠ 0))
  have h3 := h2.const_sub 1
  have heq : (1 / (k : ℝ)) * (1 - p) ^ ((1 : ℝ) / k - 1)
      = -(-1 * ((1 : ℝ) / k) * (1 - p) ^ ((1 : ℝ) / k - 1)) := by ring
  rw [heq]
  exact h3

theorem wordSe_eq_deriv_mul (p se : ℝ) (k : ℕ) :
    wordSe p se k = ((1 / (k : ℝ)) * (1 - p) ^ ((1 : ℝ) / k - 1)) * se := rfl

/-- the root-free form used by the driver: `se_word · k · (1 - p_word)^(k-1) = se` -/
theorem wordSe_rootfree (p se : ℝ) (k : ℕ) (hk : 0 < k) (hp : p < 1) :
    wordSe p se k * k * (1 - wordRate p k) ^ (k - 1) = se := by
  unfold wordSe wordRate
  have h0 : (0 : ℝ) < 1 - p := by linarith
  have hk' : (k : ℝ) ≠ 0 := by exact_mod_cast (by omega : k ≠ 0)
  rw [sub_sub_cancel, ← Real.rpow_natCast, ← Real.rpow_mul h0.le]
  have hcast : ((k - 1 : ℕ) : ℝ) = (k : ℝ) - 1 := by
    rw [Nat.cast_sub (by omega)]; simp
  rw [hcast]
  have hexp : (1 : ℝ) / k * ((k : ℝ) - 1) = -((1 : ℝ) / k - 1) := by
    field_simp
    ring
  rw [hexp, Real.rpow_neg h0.le]
  have hne : (1 - p) ^ ((1 : ℝ) / k - 1) ≠ 0 := (Real.rpow_pos_of_pos h0 _).ne'
  field_simp

theorem wordWithin_sound {ε δ p w : Rat} {k : ℕ} (hk : 0 < k) (hp : p ≤ 1)
    (h : wordWithin ε δ k p w = true) :
    ((w * (1 - ε) - δ : Rat) : ℝ) ≤ wordRate p k ∧ wordRate p k ≤ ((w * (1 + ε) + δ : Rat) : ℝ) := by
  unfold wordWithin at h
  simp only [Bool.and_eq_true, decide_eq_true_eq] at h
  obtain ⟨⟨hlo1, hlo⟩, hhi⟩ := h
  set lo : Rat := w * (1 - ε) - δ with hlo_def
  set hi : Rat := w * (1 + ε) + δ with hhi_def
  have hrel := wordRate_relation (p : ℝ) k hk (by exact_mod_cast hp)
  have hp0 : (0 : ℝ) ≤ 1 - (p : ℝ) := by
    have : ((p : Rat) : ℝ) ≤ 1 := by exact_mod_cast hp
    linarith
  have hw1 : 0 ≤ 1 - wordRate (p : ℝ) k := by
    unfold wordRate; rw [sub_sub_cancel]; exact Real.rpow_nonneg hp0 _
  have hk0 : k ≠ 0 := by omega
  constructor
  · -- (1 - lo)^k ≥ 1 - p = (1 - w*)^k  ⟹  1 - lo ≥ 1 - w*
    have h1 : (1 - (p : ℝ)) ≤ (1 - (lo : ℝ)) ^ k := by
      have : 1 - (1 - lo) ^ k ≤ p := hlo
      have : ((1 - (1 - lo) ^ k : Rat) : ℝ) ≤ (p : ℝ) := by exact_mod_cast this
      push_cast at this
      linarith
    have hlo1' : (0 : ℝ) ≤ 1 - (lo : ℝ) := by
      have : ((lo : Rat) : ℝ) ≤ 1 := by exact_mod_cast hlo1
      linarith
    rw [← hrel] at h1
    have := (pow_le_pow_iff_left₀ hw1 hlo1' hk0).mp h1
    linarith
  · by_cases hc : hi ≤ 1
    · rw [min_eq_left hc] at hhi
      have h1 : (1 - (hi : ℝ)) ^ k ≤ (1 - (p : ℝ)) := by
        have : ((p : Rat) : ℝ) ≤ ((1 - (1 - hi) ^ k : Rat) : ℝ) := by exact_mod_cast hhi
        push_cast at this
        linarith
      have hhi1' : (0 : ℝ) ≤ 1 - (hi : ℝ) := by
        have : ((hi : Rat) : ℝ) ≤ 1 := by exact_mod_cast hc
        linarith
      rw [← hrel] at h1
      have := (pow_le_pow_iff_left₀ hhi1' hw1 hk0).mp h1
      linarith
    · have : (1 : ℝ) < (hi : ℝ) := by exact_mod_cast (not_le.mp hc)
      linarith

end Panqec.An
