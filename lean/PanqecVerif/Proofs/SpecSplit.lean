/-
Structure of `simsOfRanges` for `method: splitting` (the `SplittingSimulation` branch of
`get_simulations`): position by position over `itertools.product(codes, error_models,
decoder_range)`, and the error rates every such simulation carries.
-/
import PanqecVerif.Proofs.SpecSims

namespace Panqec.Spec

/-- simulation `s` of the splitting method is built from the requested (code, noise, decoder)
    blocks with exactly those parameters and carries the requested rates `er`, sorted
    descending (`np.sort(error_rates)[::-1]`).  `s.decoder` is the instantiation
    `(class, params)` shared by the decoders built for the individual rates: `code`,
    `error_model` and `error_rate` are implicit constructor arguments, not `params`. -/
def BuiltSplit (er : List PV) (t : Block × Block × Block) (s : SimT) : Prop :=
  instCode t.1 = .ok s.code ∧ instNoise t.2.1 = .ok s.noise ∧
  instDecoder t.2.2 = .ok s.decoder ∧ ratesDescending er = .ok s.errorRate ∧ s.splitting = true

theorem product3_length {α β γ : Type} (as : List α) (bs : List β) (cs : List γ) :
    (product3 as bs cs).length = as.length * bs.length * cs.length := by
  unfold product3
  rw [length_flatMap_uniform _ (bs.length * cs.length) as
    (fun a _ => length_flatMap_uniform _ cs.length bs (fun b _ => by simp)), Nat.mul_assoc]

theorem mem_product3 {α β γ : Type} (as : List α) (bs : List β) (cs : List γ) (a : α) (b : β) (c : γ) :
    (a, b, c) ∈ product3 as bs cs ↔ a ∈ as ∧ b ∈ bs ∧ c ∈ cs := by
  simp only [product3, List.mem_flatMap, List.mem_map]
  constructor
  · rintro ⟨a', ha, b', hb, c', hc, he⟩
    cases he
    exact ⟨ha, hb, hc⟩
  · rintro ⟨ha, hb, hc⟩
    exact ⟨a, ha, b, hb, c, hc, rfl⟩

theorem product3_forall₂ {α α' β β' γ : Type} (P : α → α' → Prop) (Q : β → β' → Prop)
    (cs : List γ) :
    ∀ (as : List α) (as' : List α'), List.Forall₂ P as as' →
    ∀ (bs : List β) (bs' : List β'), List.Forall₂ Q bs bs' →
    List.Forall₂ (fun t t' => P t.1 t'.1 ∧ Q t.2.1 t'.2.1 ∧ t.2.2 = t'.2.2)
      (product3 as bs cs) (product3 as' bs' cs) :=
  fun _ _ ha _ _ hb =>
    List.rel_flatMap ha fun _ _ hp => List.rel_flatMap hb fun _ _ hq =>
      List.rel_map (fun _ _ hc => ⟨hp, hq, hc⟩) (List.forall₂_refl (Rₐ := Eq) cs)

/-- one instance of the loop body of the splitting branch -/
theorem buildSplit_ok (mparams : PV) (er : List PV) (t : Inst × Inst × Block) (s : SimT)
    (h : buildSplit mparams er t = .ok s) :
    s.code = t.1 ∧ s.noise = t.2.1 ∧ instDecoder t.2.2 = .ok s.decoder ∧
      ratesDescending er = .ok s.errorRate ∧ s.splitting = true := by
  unfold buildSplit at h
  split at h
  · cases h
  · split at h
    · cases h
    · split at h <;> cases h
      exact ⟨rfl, rfl, by assumption, by assumption, rfl⟩

theorem simsOfRanges_splitting_spec (r : Ranges) (p : PV) (sims : List SimT)
    (hm : methodOf r = .ok ("splitting", p)) (h : simsOfRanges r = .ok sims)
    (cr nr dr : List Block) (er : List PV) (hp : parseAllRanges r = .ok (cr, nr, dr, er)) :
    List.Forall₂ (BuiltSplit er) (product3 cr nr dr) sims := by
  unfold simsOfRanges at h
  rw [hp, hm] at h
  simp only at h
  split at h
  · cases h
  · rename_i codes hc
    split at h
    · cases h
    · rename_i noises hn
      rw [if_neg (by decide), if_pos (by decide)] at h
      have hprod := product3_forall₂ _ _ dr cr codes ((mapE_ok_iff _ _ _).mp hc) nr noises
        ((mapE_ok_iff _ _ _).mp hn)
      apply (forall₂_comp hprod ((mapE_ok_iff _ _ _).mp h)).imp
      intro t s ⟨t', ⟨h1, h2, h3⟩, hs⟩
      obtain ⟨e1, e2, e3, e4, e5⟩ := buildSplit_ok p er t' s hs
      exact ⟨e1 ▸ h1, e2 ▸ h2, by rw [h3]; exact e3, e4, e5⟩

theorem ratesDescending_spec (er : List PV) (v : PV) (h : ratesDescending er = .ok v) :
    ∃ qs sorted : List Rat, er.mapM PV.toRat? = some qs ∧ v = .list (sorted.map PV.num) ∧
      sorted.Perm qs ∧ sorted.Pairwise (fun a b => b ≤ a) := by
  unfold ratesDescending at h
  cases hq : er.mapM PV.toRat? with
  | none => rw [hq] at h; cases h
  | some qs =>
    rw [hq] at h
    cases h
    refine ⟨qs, _, rfl, rfl, List.mergeSort_perm _ _, ?_⟩
    have := List.pairwise_mergeSort (le := fun a b : Rat => decide (b ≤ a))
      (fun a b c hab hbc => by
        simp only [decide_eq_true_eq] at hab hbc ⊢
        exact Rat.le_trans hbc hab)
      (fun a b => by
        simp only [Bool.or_eq_true, decide_eq_true_eq]
        exact Rat.le_total)
      qs
    exact this.imp (fun h => by simpa using h)

end Panqec.Spec
