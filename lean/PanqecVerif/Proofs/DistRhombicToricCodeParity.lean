/-
RhombicToricCode, all even sizes, C17: the lattice translates of the six listed logical
operators and the parity argument.

A dict operator `b` that commutes with every stabilizer generator (coloured cubes: X on twelve
edges; triangles `(axis, v)`: Z on three legs at the vertex `v`) anticommutes (mod 2) with every
translate of a listed logical on as many qubits as with the logical itself:

* Z lines of parallel edges (`logicals_z`): the product of two of the four triangles of a vertex is
  the planar star of the vertex (the third legs coincide and cancel); two consecutive translates of
  a line differ by the product of the row of planar stars between them (the legs across are
  counted twice, cyclically shifted).
* X sheets (`logicals_x`: all edges lying in a lattice plane): two consecutive translates of a sheet
  along its normal differ by the product of the coloured cubes of the slab between them — every
  in-plane edge lies on exactly one coloured cube of the slab and every edge across on exactly two
  (`Lat2D.slab_checker`; the sizes are even, so the colouring is consistent across the boundary).
-/
import PanqecVerif.Proofs.DistCheckerboard
import PanqecVerif.Proofs.DistXCubeCodeParity
import PanqecVerif.Proofs.LatRhombicToricCodeStab

namespace Panqec.RhombicToricCode
open Panqec.Lat3Db Panqec.Rhombic
open Panqec.XCubeCode (up dn up_odd_nat up_nowrap Placed Dir tX parity_tX_of)
open Panqec.Lat2D (wrapS slab_checker plane2 countP_plane2 ind)

def CommStabs (Lx Ly Lz : Nat) (b : Op) : Prop :=
  ∀ s ∈ (lattice Lx Ly Lz).stabs, opAntiCount ((lattice Lx Ly Lz).getStab s) b % 2 = 0

variable {Lx Ly Lz : Nat}

/-- every edge of a coloured cube is a qubit -/
theorem cubeKeys_eq {x y z : Int} (h : SC Lx Ly Lz x y z) :
    cubeKeys Lx Ly Lz x y z = cubeLocs Lx Ly Lz x y z := by
  obtain ⟨hx, hy, hz, _⟩ := h
  unfold cubeKeys
  apply List.filter_eq_self.mpr
  intro q hq
  have hxu := up_R0 Lx hx
  have hyu := up_R0 Ly hy
  have hzu := up_R0 Lz hz
  have hxm := pred_R0 Lx hx
  have hym := pred_R0 Ly hy
  have hzm := pred_R0 Lz hz
  unfold cubeLocs at hq
  simp only [List.mem_cons, List.not_mem_nil, or_false] at hq
  rcases hq with rfl | rfl | rfl | rfl | rfl | rfl | rfl | rfl | rfl | rfl | rfl | rfl <;>
    rw [isQubit_iff]
  · exact Or.inr (Or.inr ⟨hxu, hyu, hz⟩)
  · exact Or.inr (Or.inr ⟨hxm, hym, hz⟩)
  · exact Or.inr (Or.inr ⟨hxu, hym, hz⟩)
  · exact Or.inr (Or.inr ⟨hxm, hyu, hz⟩)
  · exact Or.inr (Or.inl ⟨hxu, hy, hzu⟩)
  · exact Or.inr (Or.inl ⟨hxm, hy, hzm⟩)
  · exact Or.inr (Or.inl ⟨hxu, hy, hzm⟩)
  · exact Or.inr (Or.inl ⟨hxm, hy, hzu⟩)
  · exact Or.inl ⟨hx, hyu, hzu⟩
  · exact Or.inl ⟨hx, hym, hzm⟩
  · exact Or.inl ⟨hx, hym, hzu⟩
  · exact Or.inl ⟨hx, hyu, hzm⟩

theorem cube_even (hx : 2 ≤ Lx) (hy : 2 ≤ Ly) (hz : 2 ≤ Lz) {b : Op}
    (hb : CommStabs Lx Ly Lz b) {x y z : Int} (hv : SC Lx Ly Lz x y z)
    {xm xp ym yp zm zp : Int} (e1 : x - 1 = xm) (e2 : up (2 * Lx) x = xp) (e3 : y - 1 = ym)
    (e4 : up (2 * Ly) y = yp) (e5 : z - 1 = zm) (e6 : up (2 * Lz) z = zp) :
    (ind Pauli.X b [xp, yp, z] + ind Pauli.X b [xm, ym, z] + ind Pauli.X b [xp, ym, z]
      + ind Pauli.X b [xm, yp, z] + ind Pauli.X b [xp, y, zp] + ind Pauli.X b [xm, y, zm]
      + ind Pauli.X b [xp, y, zm] + ind Pauli.X b [xm, y, zp] + ind Pauli.X b [x, yp, zp]
      + ind Pauli.X b [x, ym, zm] + ind Pauli.X b [x, ym, zp] + ind Pauli.X b [x, yp, zm]) % 2
      = 0 := by
  have h : opAntiCount (getStab Lx Ly Lz [x, y, z]) b % 2 = 0 :=
    hb [x, y, z] ((mem_stabs_cube Lx Ly Lz x y z).mpr hv)
  rw [getStab_cube Lx Ly Lz x y z hx hy hz hv, cubeKeys_eq hv, opAntiCount_constOp_hit] at h
  subst e1 e2 e3 e4 e5 e6
  unfold cubeLocs at h
  simp only [List.countP_cons, List.countP_nil] at h
  unfold Lat2D.ind
  omega

theorem tri_even {b : Op} (hb : CommStabs Lx Ly Lz b) {a x y z : Int} (hv : ST Lx Ly Lz a x y z) :
    (ind Pauli.Z b [step (2*Lx) x (sgnX a), y, z] + ind Pauli.Z b [x, step (2*Ly) y (sgnY a), z]
      + ind Pauli.Z b [x, y, step (2*Lz) z (sgnZ a x y z)]) % 2 = 0 := by
  have h : opAntiCount (getStab Lx Ly Lz [a, x, y, z]) b % 2 = 0 :=
    hb [a, x, y, z] ((mem_stabs_tri Lx Ly Lz a x y z).mpr hv)
  rw [getStab_tri Lx Ly Lz a x y z hv, triKeys_eq hv, opAntiCount_constOp_hit] at h
  unfold triLocs at h
  simp only [List.countP_cons, List.countP_nil] at h
  unfold Lat2D.ind
  omega

/-- the xy star of a vertex (product of the triangles of axis 0 and 1) -/
theorem starXY_even {b : Op} (hb : CommStabs Lx Ly Lz b) {x y z : Int} (hx : R0 (2*Lx) x)
    (hy : R0 (2*Ly) y) (hz : R0 (2*Lz) z) {xp xm yp ym : Int} (e1 : x + 1 = xp)
    (e2 : dn (2*Lx) x = xm) (e3 : y + 1 = yp) (e4 : dn (2*Ly) y = ym) :
    (ind Pauli.Z b [xp, y, z] + ind Pauli.Z b [xm, y, z] + ind Pauli.Z b [x, yp, z]
      + ind Pauli.Z b [x, ym, z]) % 2 = 0 := by
  have h0 := tri_even hb (a := 0) (x := x) (y := y) (z := z) ⟨Or.inl rfl, hx, hy, hz⟩
  have h1 := tri_even hb (a := 1) (x := x) (y := y) (z := z) ⟨Or.inr (Or.inl rfl), hx, hy, hz⟩
  have a0 : sgnX 0 = 1 := by decide
  have a1 : sgnY 0 = 1 := by decide
  have a2 : sgnX 1 = -1 := by decide
  have a3 : sgnY 1 = -1 := by decide
  have a4 : sgnZ 1 x y z = sgnZ 0 x y z := by unfold sgnZ; split <;> simp
  rw [a0, a1, step_pos, step_pos] at h0
  rw [a2, a3, a4, step_neg, step_neg] at h1
  subst e1 e2 e3 e4
  omega

/-- the yz star of a vertex (product of the triangles of axis 0 and 2) -/
theorem starYZ_even {b : Op} (hb : CommStabs Lx Ly Lz b) {x y z : Int} (hx : R0 (2*Lx) x)
    (hy : R0 (2*Ly) y) (hz : R0 (2*Lz) z) {yp ym zp zm : Int} (e1 : y + 1 = yp)
    (e2 : dn (2*Ly) y = ym) (e3 : z + 1 = zp) (e4 : dn (2*Lz) z = zm) :
    (ind Pauli.Z b [x, yp, z] + ind Pauli.Z b [x, ym, z] + ind Pauli.Z b [x, y, zp]
      + ind Pauli.Z b [x, y, zm]) % 2 = 0 := by
  have h0 := tri_even hb (a := 0) (x := x) (y := y) (z := z) ⟨Or.inl rfl, hx, hy, hz⟩
  have h2 := tri_even hb (a := 2) (x := x) (y := y) (z := z)
    ⟨Or.inr (Or.inr (Or.inl rfl)), hx, hy, hz⟩
  have a0 : sgnX 0 = 1 := by decide
  have a1 : sgnY 0 = 1 := by decide
  have a2 : sgnX 2 = 1 := by decide
  have a3 : sgnY 2 = -1 := by decide
  rw [a0, a1, step_pos, step_pos] at h0
  rw [a2, a3, step_pos, step_neg] at h2
  subst e1 e2 e3 e4
  by_cases hp : (x + y + z) % 4 = 0
  · have b0 : sgnZ 0 x y z = 1 := by unfold sgnZ; rw [if_pos hp]; rfl
    have b2 : sgnZ 2 x y z = -1 := by unfold sgnZ; rw [if_pos hp]; rfl
    rw [b0, step_pos] at h0
    rw [b2, step_neg] at h2
    omega
  · have b0 : sgnZ 0 x y z = -1 := by unfold sgnZ; rw [if_neg hp]; rfl
    have b2 : sgnZ 2 x y z = 1 := by unfold sgnZ; rw [if_neg hp]; rfl
    rw [b0, step_neg] at h0
    rw [b2, step_pos] at h2
    omega

/-- `X̄₁` (all y- and z-edges of the plane `x = 0`) translated along x: the plane `x = 2i` -/
def tSheetX (Ly Lz : Nat) (i : Nat) : List Coord :=
  plane2 Ly Lz (fun j k => [2 * (i : Int), 2 * (j : Int) + 1, 2 * (k : Int)]) ++
  plane2 Ly Lz (fun j k => [2 * (i : Int), 2 * (j : Int), 2 * (k : Int) + 1])

/-- the edges of the lattice plane `n = 2i`, `e n u w` the location with `n` along the normal:
    `tSheetX Ly Lz i` is the sheet of the placement `(x, y, z)`, the translates of `X̄₂`, `X̄₃`
    (planes `y = 2i`, `z = 2i`) are those of the placements `Dir.y`, `Dir.z` -/
def tSheet (Lu Lw : Nat) (e : Int → Int → Int → Coord) (i : Nat) : List Coord :=
  plane2 Lu Lw (fun j k => e (2 * (i : Int)) (2 * (j : Int) + 1) (2 * (k : Int))) ++
  plane2 Lu Lw (fun j k => e (2 * (i : Int)) (2 * (j : Int)) (2 * (k : Int) + 1))

section parity
variable {b : Op} (hb : CommStabs Lx Ly Lz b)
include hb

/-- `Z̄₁` (y-edges `(x, 1, 0)`, all `x`): translates at `y = 2i + 1`, through the xy stars at
    `(2j, 2i + 2, 0)` -/
theorem parity_Z0 (hz : 1 ≤ Lz) (i : Nat) (hi : i < Ly) :
    (tX Lx (fun o u w => [w, o, u]) 0 i).countP (opHit Pauli.Z b) % 2 =
      (tX Lx (fun o u w => [w, o, u]) 0 0).countP (opHit Pauli.Z b) % 2 :=
  parity_tX_of Pauli.Z _ 0 (fun ho hw _ _ _ _ e1 e2 e3 e4 => by
    have := starXY_even hb hw ho (z := 0) (by unfold R0; omega) e3 e4 e1 e2
    omega) i hi

/-- `Z̄₂` (x-edges `(1, y, 0)`, all `y`): translates at `x = 2i + 1`, through the xy stars at
    `(2i + 2, 2j, 0)` -/
theorem parity_Z1 (hz : 1 ≤ Lz) (i : Nat) (hi : i < Lx) :
    (tX Ly (fun o u w => [o, w, u]) 0 i).countP (opHit Pauli.Z b) % 2 =
      (tX Ly (fun o u w => [o, w, u]) 0 0).countP (opHit Pauli.Z b) % 2 :=
  parity_tX_of Pauli.Z _ 0 (fun ho hw _ _ _ _ e1 e2 e3 e4 => by
    have := starXY_even hb ho hw (z := 0) (by unfold R0; omega) e1 e2 e3 e4
    omega) i hi

/-- `Z̄₃` (y-edges `(0, 1, z)`, all `z`): translates at `y = 2i + 1`, through the yz stars at
    `(0, 2i + 2, 2k)` -/
theorem parity_Z2 (hx : 1 ≤ Lx) (i : Nat) (hi : i < Ly) :
    (tX Lz (fun o u w => [u, o, w]) 0 i).countP (opHit Pauli.Z b) % 2 =
      (tX Lz (fun o u w => [u, o, w]) 0 0).countP (opHit Pauli.Z b) % 2 :=
  parity_tX_of Pauli.Z _ 0 (fun ho hw _ _ _ _ e1 e2 e3 e4 => by
    have := starYZ_even hb (x := 0) (by unfold R0; omega) ho hw e1 e2 e3 e4
    omega) i hi

variable {e : Int → Int → Int → Coord} {Ln Lu Lw : Nat} (hd : Dir Lx Ly Lz e Ln Lu Lw)
include hd

theorem cube_even_dir (h2n : 2 ≤ Ln) (h2u : 2 ≤ Lu) (h2w : 2 ≤ Lw) {n u w : Int}
    (hn : R1 (2 * Ln) n) (hu : R1 (2 * Lu) u) (hw : R1 (2 * Lw) w) (hc : (n + u + w) % 4 = 1)
    {nm np um up' wm wp : Int} (e1 : n - 1 = nm) (e2 : up (2 * Ln) n = np) (e3 : u - 1 = um)
    (e4 : up (2 * Lu) u = up') (e5 : w - 1 = wm) (e6 : up (2 * Lw) w = wp) :
    (ind Pauli.X b (e nm u wm) + ind Pauli.X b (e nm u wp) + ind Pauli.X b (e nm um w)
      + ind Pauli.X b (e nm up' w) + ind Pauli.X b (e np u wm) + ind Pauli.X b (e np u wp)
      + ind Pauli.X b (e np um w) + ind Pauli.X b (e np up' w) + ind Pauli.X b (e n um wm)
      + ind Pauli.X b (e n up' wm) + ind Pauli.X b (e n um wp) + ind Pauli.X b (e n up' wp)) % 2
      = 0 := by
  cases hd <;> dsimp only
  · have := cube_even h2n h2u h2w hb ⟨hn, hu, hw, hc⟩ e1 e2 e3 e4 e5 e6
    omega
  · have := cube_even h2u h2n h2w hb ⟨hu, hn, hw, by omega⟩ e3 e4 e1 e2 e5 e6
    omega
  · have := cube_even h2u h2w h2n hb ⟨hu, hw, hn, by omega⟩ e3 e4 e5 e6 e1 e2
    omega

/-- a sheet and its translates along the normal: two consecutive ones differ by the coloured cubes
    of the slab between them -/
theorem parity_sheet (h2n : 2 ≤ Ln) (h2u : 2 ≤ Lu) (h2w : 2 ≤ Lw) (heu : Lu % 2 = 0)
    (hew : Lw % 2 = 0) (i : Nat) (hi : i < Ln) :
    (tSheet Lu Lw e i).countP (opHit Pauli.X b) % 2 =
      (tSheet Lu Lw e 0).countP (opHit Pauli.X b) % 2 := by
  unfold tSheet
  rw [List.countP_append, List.countP_append, countP_plane2, countP_plane2, countP_plane2,
    countP_plane2]
  refine slab_checker Lu Lw Ln 0 heu hew
    (fun i j k => ind Pauli.X b (e (2 * (i : Int)) (2 * (j : Int) + 1) (2 * (k : Int))))
    (fun i j k => ind Pauli.X b (e (2 * (i : Int)) (2 * (j : Int)) (2 * (k : Int) + 1)))
    (fun i j k => ind Pauli.X b (e (2 * (i : Int) + 1) (2 * (j : Int)) (2 * (k : Int)))) ?_ i hi
  intro i hi j k hj hk hc
  have h := cube_even_dir hb hd h2n h2u h2w (n := 2 * (i : Int) + 1) (u := 2 * (j : Int) + 1)
    (w := 2 * (k : Int) + 1) (by unfold R1; omega) (by unfold R1; omega) (by unfold R1; omega)
    (by omega) (nm := 2 * (i : Int)) (np := 2 * ((i + 1 : Nat) : Int)) (um := 2 * (j : Int))
    (up' := 2 * ((wrapS Lu j : Nat) : Int)) (wm := 2 * (k : Int))
    (wp := 2 * ((wrapS Lw k : Nat) : Int)) (by omega) (by rw [up_nowrap _ (by omega)]; omega)
    (by omega) (up_odd_nat _ j) (by omega) (up_odd_nat _ k)
  omega

end parity

end Panqec.RhombicToricCode
