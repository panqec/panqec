/-
`HollowPlanar3DCode`, every size: the logical Z of `get_logicals_z` — Z on the existing x edges of
the cross-section `x = 3` when `Lx ≥ 3` (the membrane through the cavity), of the end plane `x = 1`
otherwise — and the clauses of `Lattice.CommPair` / `Lattice.WF` that involve it.

The cross-section `x = 2i + 1` differs from the end plane `x = 1` by the product of the vertex
generators of the slabs `x = 2, …, 2i` (a vertex location in the hole has no generator, but then
none of its six neighbours is a qubit): `parity_Z` of `DistHollowPlanar3DCodeParity.lean`.  Hence it
meets every face generator on an even number of qubits and the logical X line on an odd number, as
the end plane does (`LatHollowPlanar3DCodeOldCss.lean`).  Its weight is
`wZ = Ly·Lz − [Lx ≥ 3]·(Ly − 2)(Lz − 2)`.
-/
import PanqecVerif.Proofs.DistHollowPlanar3DCodeParity

namespace Panqec.HollowPlanar3DCode
open Panqec.Cubic3D Panqec.Lat2D
open Panqec.Planar3DCode (inE inO inE2 inO1 isVertex isFace isq isq_iff
  lxK lzK lineX planeX mem_lineX mem_planeX lineX_nodup planeX_nodup lxK_nodup lzK_nodup)

/-- the number of x edges in a cross-section through the hole (`x = 3`): the weight of the
    lightest Z membrane -/
def wZ (Lx Ly Lz : Nat) : Nat := Ly * Lz - (if 3 ≤ Lx then (Ly - 2) * (Lz - 2) else 0)

variable {Lx Ly Lz : Nat}

theorem keysNodup_uop {ks : List Coord} (p : Pauli) (h : ks.Nodup) : KeysNodup (uop ks p) :=
  keysNodup_line p h

theorem mem_crossX {i : Nat} {q : Coord} :
    q ∈ crossX Lx Ly Lz i ↔ ∃ y z, inE Ly y ∧ inE Lz z ∧ q = [2 * (i : Int) + 1, y, z] ∧
      ¬ Hole Lx Ly Lz (2 * (i : Int) + 1) y z := by
  unfold crossX
  rw [List.mem_filter, mem_planeX]
  constructor
  · rintro ⟨⟨y, z, hy, hz, rfl⟩, hn⟩
    exact ⟨y, z, hy, hz, rfl, notHoleC3.mp hn⟩
  · rintro ⟨y, z, hy, hz, rfl, hn⟩
    exact ⟨⟨y, z, hy, hz, rfl⟩, notHoleC3.mpr hn⟩

theorem crossX_nodup (i : Nat) : (crossX Lx Ly Lz i).Nodup := (planeX_nodup Ly Lz i).filter _

theorem crossX_sub {i : Nat} (hi : i < Lx) : ∀ q ∈ crossX Lx Ly Lz i, q ∈ qubits Lx Ly Lz := by
  intro q hq
  obtain ⟨y, z, hy, hz, rfl, hn⟩ := mem_crossX.mp hq
  exact mem_qubits_x (by unfold inO1; omega) hy hz hn

theorem crossX_zero : crossX Lx Ly Lz 0 = lzK Ly Lz := by
  unfold crossX
  rw [Planar3DCode.lzK_eq, List.filter_eq_self]
  intro q hq
  obtain ⟨y, z, _, _, rfl⟩ := mem_planeX.mp hq
  rw [notHoleC3]
  intro h; unfold Hole at h; omega

theorem length_crossX_one : (crossX Lx Ly Lz 1).length = wZ Lx Ly Lz := by
  have e : crossX Lx Ly Lz 1 =
      gridH Lx Ly Lz [3] (range2 0 (2 * (Ly : Int))) (range2 0 (2 * (Lz : Int))) := by
    rw [gridH_eq]
    unfold crossX planeX Cubic3D.grid grid2
    simp
  have h := length_gridH Lx Ly Lz [3] (range2 0 (2 * (Ly : Int))) (range2 0 (2 * (Lz : Int)))
  rw [len_holeYZ_E, len_holeYZ_E, length_rangeE, length_rangeE] at h
  rw [e]
  unfold wZ
  by_cases h3 : 3 ≤ Lx
  · have hh : holeX Lx 3 = true := by
      simp only [holeX, Bool.and_eq_true, decide_eq_true_eq]; omega
    have hx : ([3] : List Int).filter (holeX Lx) = [3] := by simp [hh]
    rw [hx] at h
    simp only [List.length_cons, List.length_nil, Nat.zero_add, Nat.one_mul] at h
    rw [if_pos h3]
    omega
  · have hh : holeX Lx 3 = false := by
      rw [Bool.eq_false_iff]
      simp only [holeX, ne_eq, Bool.and_eq_true, decide_eq_true_eq]; omega
    have hx : ([3] : List Int).filter (holeX Lx) = [] := by simp [hh]
    rw [hx] at h
    simp only [List.length_cons, List.length_nil, Nat.zero_add, Nat.one_mul, Nat.zero_mul,
      Nat.add_zero] at h
    rw [if_neg h3]
    omega

/-- the index of the cross-section that `get_logicals_z` uses: `x = 2·zIdx + 1` -/
def zIdx (Lx : Nat) : Nat := if 3 ≤ Lx then 1 else 0

theorem logZPlane_eq (Lx : Nat) : logZPlane Lx = 2 * ((zIdx Lx : Nat) : Int) + 1 := by
  unfold logZPlane zIdx
  split <;> rfl

theorem zIdx_lt (hLx : 1 ≤ Lx) : zIdx Lx < Lx := by
  unfold zIdx; split <;> omega

/-- `get_logicals_z` is the Z operator on the existing x edges of the cross-section
    `x = 2·zIdx + 1` -/
theorem logZ_eq (Lx Ly Lz : Nat) :
    logZ Lx Ly Lz = [uop (crossX Lx Ly Lz (zIdx Lx)) Pauli.Z] := by
  unfold logZ crossX planeX grid2 uop
  rw [logZPlane_eq, List.filter_flatMap, List.map_flatMap]
  congr 1
  apply List.flatMap_congr
  intro y _
  rw [List.filter_map, List.map_map]
  rfl

/-- the listed logical Z has `wZ` letters: the full plane `Ly·Lz` when `Lx ≤ 2`, the plane minus the
    `(Ly − 2)(Lz − 2)` x edges in the hole when `Lx ≥ 3` -/
theorem length_crossX_zIdx : (crossX Lx Ly Lz (zIdx Lx)).length = wZ Lx Ly Lz := by
  unfold zIdx
  by_cases h3 : 3 ≤ Lx
  · rw [if_pos h3]; exact length_crossX_one
  · rw [if_neg h3, crossX_zero]
    unfold wZ
    rw [if_neg h3]
    simp only [lzK, length_grid2, length_rangeE]
    omega

section
variable (hLx : 1 ≤ Lx) (hLy : 1 ≤ Ly) (hLz : 1 ≤ Lz)
include hLx hLy hLz

theorem commStabs_getStab {s : Coord} (hs : s ∈ stabs Lx Ly Lz) :
    CommStabs Lx Ly Lz (getStab Lx Ly Lz s) := by
  intro t ht
  rw [lattice_stabs] at ht
  rw [lattice_getStab]
  exact (opCommute_iff _ _).mp (stab_comm hLx hLy hLz ht hs)

theorem commStabs_lxK : CommStabs Lx Ly Lz (uop (lxK Lx) Pauli.X) := by
  intro t ht
  rw [lattice_stabs] at ht
  rw [lattice_getStab, opAntiCount_comm_mod2 (getStab_keysNodup hLx hLy hLz ht)
    (keysNodup_uop Pauli.X (lxK_nodup Lx))]
  exact (opCommute_iff _ _).mp (lxK_comm hLx hLy hLz ht)

/-- every cross-section of existing x edges commutes with every generator: it has the parities of
    the end plane `x = 1` -/
theorem crossX_comm {i : Nat} (hi : i < Lx) {s : Coord} (hs : s ∈ stabs Lx Ly Lz) :
    opCommute (uop (crossX Lx Ly Lz i) Pauli.Z) (getStab Lx Ly Lz s) = true := by
  rw [opCommute_iff, opAntiCount_uop_hit, parity_Z (commStabs_getStab hLx hLy hLz hs) i hi,
    crossX_zero, ← opAntiCount_uop_hit, ← opCommute_iff]
  exact lzK_comm hLx hLy hLz hs

theorem crossX_anti {i : Nat} (hi : i < Lx) :
    opAntiCount (uop (lxK Lx) Pauli.X) (uop (crossX Lx Ly Lz i) Pauli.Z) % 2 = 1 := by
  rw [opAntiCount_comm_mod2 (keysNodup_uop Pauli.X (lxK_nodup Lx))
      (keysNodup_uop Pauli.Z (crossX_nodup i)),
    opAntiCount_uop_hit, parity_Z (commStabs_lxK hLx hLy hLz) i hi, crossX_zero,
    ← opAntiCount_uop_hit,
    ← opAntiCount_comm_mod2 (keysNodup_uop Pauli.X (lxK_nodup Lx))
      (keysNodup_uop Pauli.Z (lzK_nodup Ly Lz))]
  exact lxK_lzK_anti hLx hLy hLz

theorem pairing (i j : Nat) (hi : i < 1) (hj : j < 1) :
    opAntiCount ((logX Lx Ly Lz).getD i []) ((logZ Lx Ly Lz).getD j []) % 2 =
      if i = j then 1 else 0 := by
  obtain rfl : i = 0 := by omega
  obtain rfl : j = 0 := by omega
  rw [logX_eq, logZ_eq]
  simp only [List.getD_cons_zero, if_true]
  exact crossX_anti hLx hLy hLz (zIdx_lt hLx)

/-- The lattice as listed: the logical Z is the cross-section `x = 2·zIdx + 1`, which meets every
    face operator evenly because it commutes with it (`crossX_comm`). -/
theorem css : (lattice Lx Ly Lz).Css (IsVertexKeys Lx Ly Lz) (IsFaceKeys Lx Ly Lz) (· = lxK Lx)
    (· = crossX Lx Ly Lz (zIdx Lx)) := by
  have C := oldCss hLx hLy hLz
  refine C.of_logZ rfl rfl rfl rfl ?_ ?_ ?_ rfl (pairing hLx hLy hLz)
  · rw [lattice_logZ, logZ_eq]; exact fun a ha => ⟨_, rfl, List.mem_singleton.mp ha⟩
  · rintro _ rfl
    exact ⟨crossX_nodup _, crossX_sub (zIdx_lt hLx)⟩
  · rintro kx _ hk rfl
    obtain ⟨s, hs, e⟩ := hk.stab
    rw [overlap_comm (C.keysX kx hk).1 (crossX_nodup _)]
    exact Lattice.Css.even_of_comm rfl (e ▸ crossX_comm hLx hLy hLz (zIdx_lt hLx) hs)

end

end Panqec.HollowPlanar3DCode
