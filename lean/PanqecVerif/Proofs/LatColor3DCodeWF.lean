/-
Color3DCode, even sides `≥ 2`: every key of every logical operator is a qubit; `Lattice.WF`; the
supported family `C01Color3DCode.Family`.
Core Lean only.
-/
import PanqecVerif.Proofs.LatColor3DCodeMembranes
import PanqecVerif.Proofs.LatColor3DCodeStrings

namespace Panqec.Color3DCode
open Panqec.Lat2D Panqec.Color

/-! The strings and square membranes are placed families: their points along the axis `ax` are
vertices for the sides in the order `sides ax`, hence qubits (`mem_qubits_place`). -/

section
variable {Lx Ly Lz : Nat} (hx : 2 ≤ Lx) (hy : 2 ≤ Ly) (hz : 2 ≤ Lz)
include hx hy hz

theorem sub_kZA {ax L1 L2 L3 : Nat} (hs : sides ax Lx Ly Lz = (L1, L2, L3)) (h1 : 1 ≤ L1) (h2 : 1 ≤ L2)
    (h3 : 1 ≤ L3) : ∀ q ∈ kZA ax L2 L3, q ∈ qubits Lx Ly Lz := by
  intro q hq
  obtain ⟨u, v, w, rfl, rfl, h⟩ := (kZA_closed h2 h3 q).mp hq
  exact mem_qubits_place hx hy hz hs (h.isQ (by omega) rfl rfl)

theorem sub_kZC {ax L1 L2 L3 : Nat} (hs : sides ax Lx Ly Lz = (L1, L2, L3)) (h1 : 1 ≤ L1) (h2 : 1 ≤ L2)
    (h3 : 1 ≤ L3) : ∀ q ∈ kZC ax L2 L3, q ∈ qubits Lx Ly Lz := by
  intro q hq
  obtain ⟨u, v, w, rfl, rfl, h⟩ := (kZC_closed h2 h3 q).mp hq
  exact mem_qubits_place hx hy hz hs (h.isQ (by omega) rfl rfl)

theorem sub_kXS {a : Nat} {v : Int} (hv : a = 2 ∧ v = 6 ∨ a = 4 ∧ v = 0) {ax L L2 L3 : Nat}
    (hs : sides ax Lx Ly Lz = (L, L2, L3)) (eL : L % 2 = 0) (h2 : 2 ≤ L2) (h3 : 1 ≤ L3) :
    ∀ q ∈ kXS a v ax L, q ∈ qubits Lx Ly Lz := by
  intro q hq
  obtain ⟨u, v, w, rfl, rfl, h⟩ := (kXS_closed (by omega) eL q).mp hq
  exact mem_qubits_place hx hy hz hs (h.isQ hv h2 h3)

theorem sub_kXC {ax L L2 L3 : Nat} (hs : sides ax Lx Ly Lz = (L, L2, L3)) (h2 : 1 ≤ L2)
    (h3 : 1 ≤ L3) : ∀ q ∈ kXC ax L, q ∈ qubits Lx Ly Lz := by
  intro q hq
  obtain ⟨u, v, w, rfl, ⟨rfl, rfl⟩, h⟩ := (kXC_closed q).mp hq
  exact mem_qubits_place hx hy hz hs (h.isQ h2 h3)

end

section
variable {Lx Ly Lz : Nat} (hx : 2 ≤ Lx) (hy : 2 ≤ Ly) (hz : 2 ≤ Lz) (ex : Lx % 2 = 0)
  (ey : Ly % 2 = 0) (ez : Lz % 2 = 0)
include hx hy hz ex ey ez

theorem sub_kZ3 : ∀ q ∈ kZ3 Lx Ly Lz, q ∈ qubits Lx Ly Lz := by
  intro q hq
  obtain ⟨y, z, h1, h2, _, hk⟩ := (mem_kZ3 hx hy hz ex ey ez).mp hq
  exact key_mem_qubits hx hy hz ⟨h1.2.2.symm, h1.2.2.trans h2.2.2.symm⟩ hk
theorem sub_kZ6 : ∀ q ∈ kZ6 Lx Ly Lz, q ∈ qubits Lx Ly Lz := by
  intro q hq
  obtain ⟨x, z, h1, h2, _, hk⟩ := (mem_kZ6 hx hy hz ex ey ez).mp hq
  exact key_mem_qubits hx hy hz ⟨h1.2.2, h2.2.2.symm⟩ hk
theorem sub_kZ9 : ∀ q ∈ kZ9 Lx Ly Lz, q ∈ qubits Lx Ly Lz := by
  intro q hq
  obtain ⟨x, y, h1, h2, _, hk⟩ := (mem_kZ9 hx hy hz ex ey ez).mp hq
  exact key_mem_qubits hx hy hz ⟨h1.2.2.trans h2.2.2.symm, h2.2.2⟩ hk

theorem sub_kXs : ∀ K ∈ kXs Lx Ly Lz, ∀ q ∈ K, q ∈ qubits Lx Ly Lz := by
  intro K hK
  simp only [kXs, List.mem_cons, List.not_mem_nil, or_false] at hK
  rcases hK with rfl | rfl | rfl | rfl | rfl | rfl | rfl | rfl | rfl
  · exact sub_kXS hx hy hz (by decide) rfl ex hy (by omega)
  · exact sub_kXS hx hy hz (by decide) rfl ex hy (by omega)
  · exact sub_kXC hx hy hz rfl (by omega) (by omega)
  · exact sub_kXS hx hy hz (by decide) rfl ey hx (by omega)
  · exact sub_kXS hx hy hz (by decide) rfl ey hx (by omega)
  · exact sub_kXC hx hy hz rfl (by omega) (by omega)
  · exact sub_kXS hx hy hz (by decide) rfl ez hx (by omega)
  · exact sub_kXS hx hy hz (by decide) rfl ez hx (by omega)
  · exact sub_kXC hx hy hz rfl (by omega) (by omega)

theorem sub_kZs : ∀ K ∈ kZs Lx Ly Lz, ∀ q ∈ K, q ∈ qubits Lx Ly Lz := by
  intro K hK
  simp only [kZs, List.mem_cons, List.not_mem_nil, or_false] at hK
  rcases hK with rfl | rfl | rfl | rfl | rfl | rfl | rfl | rfl | rfl
  · exact sub_kZA hx hy hz (ax := 0) rfl (by omega) (by omega) (by omega)
  · exact sub_kZC hx hy hz (ax := 0) rfl (by omega) (by omega) (by omega)
  · exact sub_kZ3 hx hy hz ex ey ez
  · exact sub_kZA hx hy hz (ax := 1) rfl (by omega) (by omega) (by omega)
  · exact sub_kZC hx hy hz (ax := 1) rfl (by omega) (by omega) (by omega)
  · exact sub_kZ6 hx hy hz ex ey ez
  · exact sub_kZA hx hy hz (ax := 2) rfl (by omega) (by omega) (by omega)
  · exact sub_kZC hx hy hz (ax := 2) rfl (by omega) (by omega) (by omega)
  · exact sub_kZ9 hx hy hz ex ey ez

omit hx hy hz ex ey ez in
theorem mem_logs {a : Op} (ha : a ∈ logX Lx Ly Lz ++ logZ Lx Ly Lz) :
    (∃ K ∈ kXs Lx Ly Lz, a = lineOp K Pauli.X) ∨ (∃ K ∈ kZs Lx Ly Lz, a = lineOp K Pauli.Z) := by
  rw [logX_map, logZ_map, List.mem_append, List.mem_map, List.mem_map] at ha
  rcases ha with ⟨K, hK, rfl⟩ | ⟨K, hK, rfl⟩
  · exact Or.inl ⟨K, hK, rfl⟩
  · exact Or.inr ⟨K, hK, rfl⟩

theorem wf_all : (lattice Lx Ly Lz).WF := by
  -- the record is opened first: asked to match `(lattice Lx Ly Lz).qubits` with `qubits Lx Ly Lz`,
  -- the unifier unfolds the derived qubit list and not the record
  refine Lattice.WF.of_letterOps ?hq ?hs ?hd ?hstab ?hlog <;> dsimp only [lattice, getStabilizer?]
  case hq => exact nodup_qubits Lx Ly Lz
  case hs => exact nodup_stabs Lx Ly Lz
  case hd => exact qubits_stabs_disjoint hx hy hz
  case hstab =>
    intro s hs
    obtain ⟨x, y, z, rfl, hS⟩ := mem_stabs.mp hs
    rw [getStabIn_eq hx hy hz hs, Option.getD_some]
    exact ⟨_, _, rfl, nodup_keysOf hx hy hz x y z, keys_ne_nil Lx Ly Lz x y z, fun q hq =>
      key_mem_qubits hx hy hz (isS_parity hS) hq, letterOf_ne_I x y z⟩
  case hlog =>
    intro a ha
    have key : ∀ (K : List Coord) (P : Pauli), P ≠ Pauli.I → (∀ q ∈ K, q ∈ qubits Lx Ly Lz) →
        ∃ (ks : List Coord) (p : Pauli), lineOp K P = ks.map (fun q => (q, p)) ∧ ks.Nodup ∧
          (∀ q ∈ ks, q ∈ qubits Lx Ly Lz) ∧ p ≠ Pauli.I :=
      fun K P hP h => ⟨_, P, lineOp_firstOcc K P, nodup_firstOcc K,
        fun q hq => h q (mem_firstOcc.mp hq), hP⟩
    rcases mem_logs ha with ⟨K, hK, rfl⟩ | ⟨K, hK, rfl⟩
    · exact key K _ (by decide) (sub_kXs hx hy hz ex ey ez K hK)
    · exact key K _ (by decide) (sub_kZs hx hy hz ex ey ez K hK)

end

end Panqec.Color3DCode

namespace Panqec.C01Color3DCode

/-- the supported family: every side even and at least 2 (defined below the property file so that
    `Proofs/GuiReprColor.lean` can state its theorems on it) -/
def Family (Lx Ly Lz : Nat) : Prop :=
  (2 ≤ Lx ∧ Lx % 2 = 0) ∧ (2 ≤ Ly ∧ Ly % 2 = 0) ∧ (2 ≤ Lz ∧ Lz % 2 = 0)

instance (Lx Ly Lz : Nat) : Decidable (Family Lx Ly Lz) := by unfold Family; infer_instance

end Panqec.C01Color3DCode
