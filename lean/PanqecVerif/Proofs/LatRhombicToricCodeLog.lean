/-
RhombicToricCode lattice model: the logical operators in closed form (three sheets of X through
the origin, three lines of parallel Z edges), their commutation with the stabilizers, and the
pairing table (`X_i · Z_j`: one shared qubit for `i = j`, none or a whole line of `L` — an even
number — otherwise).  Sizes even `≥ 2`.
-/
import PanqecVerif.Proofs.LatRhombicToricCodeComm
open Panqec Panqec.Lat3Db Panqec.Rhombic
open Panqec.XCubeCode (up dn up_spec dn_spec)
namespace Panqec.RhombicToricCode

/-- the keys written by the double loop of one sheet -/
def sheetLocs (A B : Nat) (f : Int → Int → Coord) : List Coord :=
  (pyRange A).flatMap fun a => ((pyRange B).filter fun b => (a + b) % 2 == 1).map fun b => f a b

def sheetX (Ly Lz : Nat) : List Coord := sheetLocs (2*Ly) (2*Lz) fun y z => [0, y, z]
def sheetY (Lx Lz : Nat) : List Coord := sheetLocs (2*Lx) (2*Lz) fun x z => [x, 0, z]
def sheetZ (Lx Ly : Nat) : List Coord := sheetLocs (2*Lx) (2*Ly) fun x y => [x, y, 0]

def lineX (Lx : Nat) : List Coord := (pyRange2 0 (2*Lx)).map fun x => [x, 1, 0]
def lineY (Ly : Nat) : List Coord := (pyRange2 0 (2*Ly)).map fun y => [1, y, 0]
def lineZ (Lz : Nat) : List Coord := (pyRange2 0 (2*Lz)).map fun z => [0, 1, z]

theorem mem_sheetLocs (A B : Nat) (f : Int → Int → Coord) (c : Coord) :
    c ∈ sheetLocs A B f ↔ ∃ a b : Int, (0 ≤ a ∧ a < A) ∧ (0 ≤ b ∧ b < B) ∧ (a + b) % 2 = 1 ∧ c = f a b := by
  unfold sheetLocs
  simp only [List.mem_flatMap, List.mem_map, List.mem_filter, mem_pyRange, beq_iff_eq]
  constructor
  · rintro ⟨a, ha, b, ⟨hb, hab⟩, rfl⟩; exact ⟨a, b, ha, hb, hab, rfl⟩
  · rintro ⟨a, b, ha, hb, hab, rfl⟩; exact ⟨a, ha, b, ⟨hb, hab⟩, rfl⟩

theorem nodup_sheetLocs (A B : Nat) (f : Int → Int → Coord)
    (hf : ∀ a b a' b', f a b = f a' b' → a = a' ∧ b = b') : (sheetLocs A B f).Nodup := by
  unfold sheetLocs
  rw [List.nodup_flatMap]
  refine ⟨fun a _ => ((nodup_pyRange B).filter _).map (fun b b' h => (hf a b a b' h).2), ?_⟩
  refine List.Pairwise.imp_of_mem ?_ (nodup_pyRange A)
  intro a a' _ _ hne
  simp only [Function.onFun, List.Disjoint, List.mem_map]
  rintro c ⟨b, _, rfl⟩ ⟨b', _, h⟩
  exact hne (hf a' b' a b h).1.symm

theorem mem_sheetX (Ly Lz : Nat) (p q r : Int) :
    [p, q, r] ∈ sheetX Ly Lz ↔ p = 0 ∧ (0 ≤ q ∧ q < 2*Ly) ∧ (0 ≤ r ∧ r < 2*Lz) ∧ (q + r) % 2 = 1 := by
  unfold sheetX
  rw [mem_sheetLocs]
  constructor
  · rintro ⟨a, b, ha, hb, hab, h⟩
    simp only [List.cons.injEq, and_true] at h
    obtain ⟨rfl, rfl, rfl⟩ := h
    exact ⟨rfl, by omega, by omega, hab⟩
  · rintro ⟨rfl, hq, hr, hqr⟩; exact ⟨q, r, by omega, by omega, hqr, rfl⟩

theorem mem_sheetY (Lx Lz : Nat) (p q r : Int) :
    [p, q, r] ∈ sheetY Lx Lz ↔ q = 0 ∧ (0 ≤ p ∧ p < 2*Lx) ∧ (0 ≤ r ∧ r < 2*Lz) ∧ (p + r) % 2 = 1 := by
  unfold sheetY
  rw [mem_sheetLocs]
  constructor
  · rintro ⟨a, b, ha, hb, hab, h⟩
    simp only [List.cons.injEq, and_true] at h
    obtain ⟨rfl, rfl, rfl⟩ := h
    exact ⟨rfl, by omega, by omega, hab⟩
  · rintro ⟨rfl, hq, hr, hqr⟩; exact ⟨p, r, by omega, by omega, hqr, rfl⟩

theorem mem_sheetZ (Lx Ly : Nat) (p q r : Int) :
    [p, q, r] ∈ sheetZ Lx Ly ↔ r = 0 ∧ (0 ≤ p ∧ p < 2*Lx) ∧ (0 ≤ q ∧ q < 2*Ly) ∧ (p + q) % 2 = 1 := by
  unfold sheetZ
  rw [mem_sheetLocs]
  constructor
  · rintro ⟨a, b, ha, hb, hab, h⟩
    simp only [List.cons.injEq, and_true] at h
    obtain ⟨rfl, rfl, rfl⟩ := h
    exact ⟨rfl, by omega, by omega, hab⟩
  · rintro ⟨rfl, hq, hr, hqr⟩; exact ⟨p, q, by omega, by omega, hqr, rfl⟩

theorem nodup_sheetX (Ly Lz : Nat) : (sheetX Ly Lz).Nodup :=
  nodup_sheetLocs _ _ _ (fun a b a' b' h => by simpa using h)
theorem nodup_sheetY (Lx Lz : Nat) : (sheetY Lx Lz).Nodup :=
  nodup_sheetLocs _ _ _ (fun a b a' b' h => by simpa using h)
theorem nodup_sheetZ (Lx Ly : Nat) : (sheetZ Lx Ly).Nodup :=
  nodup_sheetLocs _ _ _ (fun a b a' b' h => by simpa using h)

theorem mem_lineX (Lx : Nat) (p q r : Int) : [p, q, r] ∈ lineX Lx ↔ R0 (2*Lx) p ∧ q = 1 ∧ r = 0 := by
  unfold lineX; simp only [List.mem_map, mem_pyRange2_0, List.cons.injEq, and_true]
  constructor
  · rintro ⟨t, ht, rfl, rfl, rfl⟩; exact ⟨ht, rfl, rfl⟩
  · rintro ⟨ht, rfl, rfl⟩; exact ⟨p, ht, rfl, rfl, rfl⟩
theorem mem_lineY (Ly : Nat) (p q r : Int) : [p, q, r] ∈ lineY Ly ↔ p = 1 ∧ R0 (2*Ly) q ∧ r = 0 := by
  unfold lineY; simp only [List.mem_map, mem_pyRange2_0, List.cons.injEq, and_true]
  constructor
  · rintro ⟨t, ht, rfl, rfl, rfl⟩; exact ⟨rfl, ht, rfl⟩
  · rintro ⟨rfl, ht, rfl⟩; exact ⟨q, ht, rfl, rfl, rfl⟩
theorem mem_lineZ (Lz : Nat) (p q r : Int) : [p, q, r] ∈ lineZ Lz ↔ p = 0 ∧ q = 1 ∧ R0 (2*Lz) r := by
  unfold lineZ; simp only [List.mem_map, mem_pyRange2_0, List.cons.injEq, and_true]
  constructor
  · rintro ⟨t, ht, rfl, rfl, rfl⟩; exact ⟨rfl, rfl, ht⟩
  · rintro ⟨rfl, rfl, ht⟩; exact ⟨r, ht, rfl, rfl, rfl⟩

theorem nodup_lineX (Lx : Nat) : (lineX Lx).Nodup := (nodup_pyRange2 _ _).map (fun a b h => by simpa using h)
theorem nodup_lineY (Ly : Nat) : (lineY Ly).Nodup := (nodup_pyRange2 _ _).map (fun a b h => by simpa using h)
theorem nodup_lineZ (Lz : Nat) : (lineZ Lz).Nodup := (nodup_pyRange2 _ _).map (fun a b h => by simpa using h)

theorem logX_eq (Lx Ly Lz : Nat) : logX Lx Ly Lz =
    [constOp (sheetX Ly Lz) Pauli.X, constOp (sheetY Lx Lz) Pauli.X, constOp (sheetZ Lx Ly) Pauli.X] := by
  simp only [logX, sheet]
  congr 1
  · exact dictOf_eq _ _ (nodup_sheetX Ly Lz)
  · congr 1
    · exact dictOf_eq _ _ (nodup_sheetY Lx Lz)
    · congr 1
      exact dictOf_eq _ _ (nodup_sheetZ Lx Ly)

theorem logZ_eq (Lx Ly Lz : Nat) : logZ Lx Ly Lz =
    [constOp (lineX Lx) Pauli.Z, constOp (lineY Ly) Pauli.Z, constOp (lineZ Lz) Pauli.Z] := by
  simp only [logZ]
  congr 1
  · exact dictOf_eq _ _ (nodup_lineX Lx)
  · congr 1
    · exact dictOf_eq _ _ (nodup_lineY Ly)
    · congr 1
      exact dictOf_eq _ _ (nodup_lineZ Lz)

def IsSheet (Lx Ly Lz : Nat) (K : List Coord) : Prop := K = sheetX Ly Lz ∨ K = sheetY Lx Lz ∨ K = sheetZ Lx Ly
def IsLine (Lx Ly Lz : Nat) (K : List Coord) : Prop := K = lineX Lx ∨ K = lineY Ly ∨ K = lineZ Lz

theorem IsSheet.nodup {Lx Ly Lz : Nat} {K : List Coord} (h : IsSheet Lx Ly Lz K) : K.Nodup := by
  rcases h with rfl | rfl | rfl
  · exact nodup_sheetX _ _
  · exact nodup_sheetY _ _
  · exact nodup_sheetZ _ _

theorem IsLine.nodup {Lx Ly Lz : Nat} {K : List Coord} (h : IsLine Lx Ly Lz K) : K.Nodup := by
  rcases h with rfl | rfl | rfl
  · exact nodup_lineX _
  · exact nodup_lineY _
  · exact nodup_lineZ _

/-- a location in range with exactly one odd coordinate is a qubit -/
theorem isQubit_of_parity {Lx Ly Lz : Nat} {x y z : Int} (hx : 0 ≤ x ∧ x < 2*(Lx:Int))
    (hy : 0 ≤ y ∧ y < 2*(Ly:Int)) (hz : 0 ≤ z ∧ z < 2*(Lz:Int)) (h : x % 2 + y % 2 + z % 2 = 1) :
    isQubit Lx Ly Lz [x, y, z] = true := by
  rw [isQubit_iff]; unfold QX QY QZ R0 R1
  rcases (by omega : x % 2 = 1 ∨ y % 2 = 1 ∨ z % 2 = 1) with h1 | h1 | h1
  · exact Or.inl (by omega)
  · exact Or.inr (Or.inl (by omega))
  · exact Or.inr (Or.inr (by omega))

theorem IsSheet.qubits {Lx Ly Lz : Nat} (hx : 1 ≤ Lx) (hy : 1 ≤ Ly) (hz : 1 ≤ Lz) {K : List Coord}
    (h : IsSheet Lx Ly Lz K) : ∀ q ∈ K, isQubit Lx Ly Lz q = true := by
  intro q hq
  rcases h with rfl | rfl | rfl <;>
    (obtain ⟨a, b, ha, hb, hab, rfl⟩ := (mem_sheetLocs _ _ _ _).mp hq
     exact isQubit_of_parity (by omega) (by omega) (by omega) (by omega))

theorem IsLine.qubits {Lx Ly Lz : Nat} (hx : 1 ≤ Lx) (hy : 1 ≤ Ly) (hz : 1 ≤ Lz) {K : List Coord}
    (h : IsLine Lx Ly Lz K) : ∀ q ∈ K, isQubit Lx Ly Lz q = true := by
  intro q hq
  rcases h with rfl | rfl | rfl <;>
    (obtain ⟨t, ht, rfl⟩ := List.mem_map.mp hq
     obtain ⟨ht2, ht⟩ := (mem_pyRange2_0 _ _).mp ht
     exact isQubit_of_parity (by omega) (by omega) (by omega) (by omega))

/-! ### a sheet against a triangle: two legs or none -/

theorem tri_sheet_even (Lx Ly Lz : Nat) (hLx : 1 ≤ Lx) (hLy : 1 ≤ Ly) (hLz : 1 ≤ Lz)
    (a vx vy vz : Int) (hv : ST Lx Ly Lz a vx vy vz) (K : List Coord) (hK : IsSheet Lx Ly Lz K) :
    ovl (triKeys Lx Ly Lz a vx vy vz) K % 2 = 0 := by
  obtain ⟨ha, hvx, hvy, hvz⟩ := hv
  unfold triKeys
  rw [ovl_filter_left _ _ _ (hK.qubits hLx hLy hLz)]
  have h1 := step_spec (2*Lx) vx (sgnX a) (by omega) hvx (sgnX_pm a)
  have h2 := step_spec (2*Ly) vy (sgnY a) (by omega) hvy (sgnY_pm a)
  have h3 := step_spec (2*Lz) vz (sgnZ a vx vy vz) (by omega) hvz (sgnZ_pm a vx vy vz)
  unfold triLocs
  simp only [ovl_cons_ind, ovl_nil]
  generalize step (2*Lx) vx (sgnX a) = px at *
  generalize step (2*Ly) vy (sgnY a) = py at *
  generalize step (2*Lz) vz (sgnZ a vx vy vz) = pz at *
  unfold R0 at hvx hvy hvz; unfold R1 at h1 h2 h3
  rcases hK with rfl | rfl | rfl
  · have e1 : ¬ [px, vy, vz] ∈ sheetX Ly Lz := by rw [mem_sheetX]; omega
    have e2 : [vx, py, vz] ∈ sheetX Ly Lz ↔ vx = 0 := by rw [mem_sheetX]; omega
    have e3 : [vx, vy, pz] ∈ sheetX Ly Lz ↔ vx = 0 := by rw [mem_sheetX]; omega
    rw [ind_neg e1, ind_congr e2, ind_congr e3]; omega
  · have e1 : [px, vy, vz] ∈ sheetY Lx Lz ↔ vy = 0 := by rw [mem_sheetY]; omega
    have e2 : ¬ [vx, py, vz] ∈ sheetY Lx Lz := by rw [mem_sheetY]; omega
    have e3 : [vx, vy, pz] ∈ sheetY Lx Lz ↔ vy = 0 := by rw [mem_sheetY]; omega
    rw [ind_congr e1, ind_neg e2, ind_congr e3]; omega
  · have e1 : [px, vy, vz] ∈ sheetZ Lx Ly ↔ vz = 0 := by rw [mem_sheetZ]; omega
    have e2 : [vx, py, vz] ∈ sheetZ Lx Ly ↔ vz = 0 := by rw [mem_sheetZ]; omega
    have e3 : ¬ [vx, vy, pz] ∈ sheetZ Lx Ly := by rw [mem_sheetZ]; omega
    rw [ind_congr e1, ind_congr e2, ind_neg e3]; omega

/-! ### a line against a cube: two parallel edges or none -/

theorem cube_even_free_x (Lx Ly Lz : Nat) (x y z : Int) (K : List Coord)
    (h1 : ∀ q r, [up (2*Lx) x, q, r] ∈ K ↔ [x - 1, q, r] ∈ K) (h2 : ∀ q r, [x, q, r] ∉ K) :
    ovl (cubeLocs Lx Ly Lz x y z) K % 2 = 0 := by
  simp only [cubeLocs, ovl_cons_ind, ovl_nil, ind_neg (h2 _ _), ind_congr (h1 _ _)]
  omega

theorem cube_even_free_y (Lx Ly Lz : Nat) (x y z : Int) (K : List Coord)
    (h1 : ∀ p r, [p, up (2*Ly) y, r] ∈ K ↔ [p, y - 1, r] ∈ K) (h2 : ∀ p r, [p, y, r] ∉ K) :
    ovl (cubeLocs Lx Ly Lz x y z) K % 2 = 0 := by
  simp only [cubeLocs, ovl_cons_ind, ovl_nil, ind_neg (h2 _ _), ind_congr (h1 _ _)]
  omega

theorem cube_even_free_z (Lx Ly Lz : Nat) (x y z : Int) (K : List Coord)
    (h1 : ∀ p q, [p, q, up (2*Lz) z] ∈ K ↔ [p, q, z - 1] ∈ K) (h2 : ∀ p q, [p, q, z] ∉ K) :
    ovl (cubeLocs Lx Ly Lz x y z) K % 2 = 0 := by
  simp only [cubeLocs, ovl_cons_ind, ovl_nil, ind_neg (h2 _ _), ind_congr (h1 _ _)]
  omega

theorem cube_line_even (Lx Ly Lz : Nat) (hLx : 1 ≤ Lx) (hLy : 1 ≤ Ly) (hLz : 1 ≤ Lz)
    (cx cy cz : Int) (hc : SC Lx Ly Lz cx cy cz) (K : List Coord) (hK : IsLine Lx Ly Lz K) :
    ovl (cubeKeys Lx Ly Lz cx cy cz) K % 2 = 0 := by
  obtain ⟨hcx, hcy, hcz, _⟩ := hc
  unfold cubeKeys
  rw [ovl_filter_left _ _ _ (hK.qubits hLx hLy hLz)]
  -- the two faces of the cube across the line hold the same edges of it; the odd coordinate of the
  -- cube is not that of an edge of the line
  rcases hK with rfl | rfl | rfl
  · refine cube_even_free_x _ _ _ _ _ _ _ (fun q r => ?_) (fun q r h => ?_)
    · simp only [mem_lineX, iff_of_true (up_R0 Lx hcx) (pred_R0 Lx hcx)]
    · have := hcx.1; have := ((mem_lineX ..).mp h).1.1; omega
  · refine cube_even_free_y _ _ _ _ _ _ _ (fun p r => ?_) (fun p r h => ?_)
    · simp only [mem_lineY, iff_of_true (up_R0 Ly hcy) (pred_R0 Ly hcy)]
    · have := hcy.1; have := ((mem_lineY ..).mp h).2.1.1; omega
  · refine cube_even_free_z _ _ _ _ _ _ _ (fun p q => ?_) (fun p q h => ?_)
    · simp only [mem_lineZ, iff_of_true (up_R0 Lz hcz) (pred_R0 Lz hcz)]
    · have := hcz.1; have := ((mem_lineZ ..).mp h).2.2.1; omega

/-! ### the pairing table: a line of parallel edges shares one key with a sheet, none, or all -/

theorem ovl_map_line (f : Int → Coord) (l : List Int) (K : List Coord) :
    ovl (l.map f) K = l.countP fun t => K.contains (f t) := by
  unfold ovl; rw [List.countP_map]; rfl

section line
variable (f : Int → Coord) (L : Nat) (K : List Coord)

theorem ovl_line_none (h : ∀ t, f t ∉ K) : ovl ((pyRange2 0 (2*L)).map f) K = 0 := by
  rw [ovl_map_line]
  exact countP_iff_none _ _ fun t _ => by simpa using h t

theorem ovl_line_all (h : ∀ t, R0 (2*L) t → f t ∈ K) : ovl ((pyRange2 0 (2*L)).map f) K = L := by
  rw [ovl_map_line, List.countP_eq_length.mpr, length_pyRange2]
  · omega
  · intro t ht; simpa using h t ((mem_pyRange2_0 _ _).mp ht)

theorem ovl_line_point (hL : 1 ≤ L) (h : ∀ t, R0 (2*L) t → (f t ∈ K ↔ t = 0)) :
    ovl ((pyRange2 0 (2*L)).map f) K = 1 := by
  rw [ovl_map_line]
  apply countP_iff_point _ 0 _ (nodup_pyRange2 _ _)
  · rw [mem_pyRange2_0]; unfold R0; omega
  · intro t ht; simpa using h t ((mem_pyRange2_0 _ _).mp ht)

end line

theorem anti_sheet_line (S L : List Coord) (hS : S.Nodup) (hL : L.Nodup) :
    opAntiCount (constOp S Pauli.X) (constOp L Pauli.Z) = ovl L S := by
  rw [opAntiCount_constOp]
  have : Pauli.anti Pauli.X Pauli.Z = true := by decide
  rw [if_pos this, ovl_comm _ _ hS hL]

theorem pairing (Lx Ly Lz : Nat) (hLx : 1 ≤ Lx) (hLy : 1 ≤ Ly) (hLz : 1 ≤ Lz)
    (hex : Lx % 2 = 0) (hey : Ly % 2 = 0) (hez : Lz % 2 = 0) (i j : Nat)
    (hi : i < (logX Lx Ly Lz).length) (hj : j < (logZ Lx Ly Lz).length) :
    opAntiCount ((logX Lx Ly Lz).getD i []) ((logZ Lx Ly Lz).getD j []) % 2 = if i = j then 1 else 0 := by
  rw [logX_eq] at hi ⊢
  rw [logZ_eq] at hj ⊢
  simp only [List.length_cons, List.length_nil] at hi hj
  have hi' : i = 0 ∨ i = 1 ∨ i = 2 := by omega
  have hj' : j = 0 ∨ j = 1 ∨ j = 2 := by omega
  rcases hi' with rfl | rfl | rfl <;> rcases hj' with rfl | rfl | rfl <;>
    simp only [List.getD_cons_zero, List.getD_cons_succ] <;>
    rw [anti_sheet_line _ _ (by first | exact nodup_sheetX _ _ | exact nodup_sheetY _ _ | exact nodup_sheetZ _ _)
      (by first | exact nodup_lineX _ | exact nodup_lineY _ | exact nodup_lineZ _)]
  · rw [lineX, ovl_line_point _ _ _ hLx]
    · rfl
    · intro t ht; rw [mem_sheetX]; unfold R0 at ht; omega
  · rw [lineY, ovl_line_none]
    · rfl
    · intro t; rw [mem_sheetX]; omega
  · rw [lineZ, ovl_line_all]
    · simpa using hez
    · intro t ht; rw [mem_sheetX]; unfold R0 at ht; omega
  · rw [lineX, ovl_line_none]
    · rfl
    · intro t; rw [mem_sheetY]; omega
  · rw [lineY, ovl_line_point _ _ _ hLy]
    · rfl
    · intro t ht; rw [mem_sheetY]; unfold R0 at ht; omega
  · rw [lineZ, ovl_line_none]
    · rfl
    · intro t; rw [mem_sheetY]; omega
  · rw [lineX, ovl_line_all]
    · simpa using hex
    · intro t ht; rw [mem_sheetZ]; unfold R0 at ht; omega
  · rw [lineY, ovl_line_all]
    · simpa using hey
    · intro t ht; rw [mem_sheetZ]; unfold R0 at ht; omega
  · rw [lineZ, ovl_line_point _ _ _ hLz]
    · rfl
    · intro t ht; rw [mem_sheetZ]; unfold R0 at ht; omega

end Panqec.RhombicToricCode
