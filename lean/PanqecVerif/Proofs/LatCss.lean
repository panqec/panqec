/-
A lattice class of CSS form: every stabilizer generator carries the letter Z on a key list of one
kind (`KZ`) or the letter X on a key list of another kind (`KX`), the logical X (Z) operators carry
X (Z) on key lists of the kind `LX` (`LZ`).  `Lattice.WF` and `Lattice.CommPair` then say no more
than: the key lists are duplicate-free lists of qubits, a Z-kind list meets every X-kind list and
every `LX` list in an even number of keys, an X-kind list meets every `LZ` list evenly, and the
listed logical operators meet according to the pairing table.
-/
import PanqecVerif.Proofs.LatCommon

namespace Panqec

/-- the operator with the letter `p` on every key of `ks`; the `uop` of `LatCubic3D`, the `constOp`
    of `Lat3DbOps` and the raw `ks.map fun q => (q, p)` of the 2-D classes unfold to this text, so a
    class gives its own spelling where a field asks for `letterOp` -/
abbrev letterOp (ks : List Coord) (p : Pauli) : Op := ks.map fun q => (q, p)

/-- number of keys of `A` that are keys of `B`; `Lat3Db.ovl` and `Lat2D.interCount` unfold to this
    text, `Cubic3D.ov` (written with `decide (q ∈ B)`) is rewritten by `Cubic3D.overlap_eq_ov` -/
abbrev overlap (A B : List Coord) : Nat := A.countP fun q => B.contains q

theorem overlap_comm {A B : List Coord} (hA : A.Nodup) (hB : B.Nodup) : overlap A B = overlap B A :=
  countP_contains_comm A B hA hB

/-- How a class states it: `theorem css (bounds) : (lattice …).Css KZ KX LX LZ`, proved field by field
    under the field names (`where`, or `constructor` with `case zx => …`), one named lemma per field;
    after it `wf` and `commPair` are the projections `(css …).wf`, `(css …).commPair`. -/
structure Lattice.Css (l : Lattice) (KZ KX LX LZ : List Coord → Prop) : Prop where
  qubits_nodup : l.qubits.Nodup
  stabs_nodup : l.stabs.Nodup
  disjoint : ∀ q ∈ l.qubits, q ∉ l.stabs
  stab : ∀ s ∈ l.stabs, (∃ k, KZ k ∧ l.getStab s = letterOp k .Z) ∨
    ∃ k, KX k ∧ l.getStab s = letterOp k .X
  keysZ : ∀ k, KZ k → k.Nodup ∧ k ≠ [] ∧ ∀ q ∈ k, q ∈ l.qubits
  keysX : ∀ k, KX k → k.Nodup ∧ k ≠ [] ∧ ∀ q ∈ k, q ∈ l.qubits
  logX : ∀ a ∈ l.logX, ∃ k, LX k ∧ a = letterOp k .X
  logZ : ∀ a ∈ l.logZ, ∃ k, LZ k ∧ a = letterOp k .Z
  keysLX : ∀ k, LX k → k.Nodup ∧ ∀ q ∈ k, q ∈ l.qubits
  keysLZ : ∀ k, LZ k → k.Nodup ∧ ∀ q ∈ k, q ∈ l.qubits
  zx : ∀ kz kx, KZ kz → KX kx → overlap kz kx % 2 = 0
  zLX : ∀ kz k, KZ kz → LX k → overlap kz k % 2 = 0
  xLZ : ∀ kx k, KX kx → LZ k → overlap kx k % 2 = 0
  same_k : l.logX.length = l.logZ.length
  pairing : ∀ i j, i < l.logX.length → j < l.logZ.length →
    opAntiCount (l.logX.getD i []) (l.logZ.getD j []) % 2 = if i = j then 1 else 0

namespace Lattice.Css
variable {l : Lattice} {KZ KX LX LZ : List Coord → Prop}

theorem wf (h : l.Css KZ KX LX LZ) : l.WF := by
  refine .of_letterOps h.qubits_nodup h.stabs_nodup h.disjoint (fun s hs => ?_) fun a ha => ?_
  · rcases h.stab s hs with ⟨k, hk, e⟩ | ⟨k, hk, e⟩
    · exact ⟨k, _, e, (h.keysZ k hk).1, (h.keysZ k hk).2.1, (h.keysZ k hk).2.2, by decide⟩
    · exact ⟨k, _, e, (h.keysX k hk).1, (h.keysX k hk).2.1, (h.keysX k hk).2.2, by decide⟩
  · rcases List.mem_append.mp ha with ha | ha
    · obtain ⟨k, hk, rfl⟩ := h.logX a ha
      exact ⟨k, _, rfl, (h.keysLX k hk).1, (h.keysLX k hk).2, by decide⟩
    · obtain ⟨k, hk, rfl⟩ := h.logZ a ha
      exact ⟨k, _, rfl, (h.keysLZ k hk).1, (h.keysLZ k hk).2, by decide⟩

theorem comm_of_even {kz kx : List Coord} (hz : kz.Nodup) (hx : kx.Nodup)
    (h : overlap kz kx % 2 = 0) :
    opCommute (letterOp kz .Z) (letterOp kx .X) = true ∧
      opCommute (letterOp kx .X) (letterOp kz .Z) = true :=
  ⟨opCommute_letter_of _ _ _ _ fun _ => h,
    opCommute_letter_of _ _ _ _ fun _ => (congrArg (· % 2) (overlap_comm hx hz)).trans h⟩

theorem even_of_comm {A B : List Coord} {P Q : Pauli} (hPQ : Pauli.anti P Q = true)
    (h : opCommute (letterOp A P) (letterOp B Q) = true) : overlap A B % 2 = 0 := by
  unfold opCommute at h
  rw [opAntiCount_letter, if_pos hPQ] at h
  exact beq_iff_eq.mp h

theorem same_comm (A B : List Coord) (p : Pauli) : opCommute (letterOp A p) (letterOp B p) = true :=
  opCommute_letter_of _ _ _ _ fun e => by rw [Pauli.anti_self] at e; cases e

theorem commPair (h : l.Css KZ KX LX LZ) : l.CommPair where
  stab_comm s hs t ht := by
    rcases h.stab s hs with ⟨k, hk, e⟩ | ⟨k, hk, e⟩ <;>
      rcases h.stab t ht with ⟨k', hk', e'⟩ | ⟨k', hk', e'⟩ <;> rw [e, e']
    · exact same_comm ..
    · exact (comm_of_even (h.keysZ k hk).1 (h.keysX k' hk').1 (h.zx k k' hk hk')).1
    · exact (comm_of_even (h.keysZ k' hk').1 (h.keysX k hk).1 (h.zx k' k hk' hk)).2
    · exact same_comm ..
  logX_comm a ha s hs := by
    obtain ⟨K, hK, rfl⟩ := h.logX a ha
    rcases h.stab s hs with ⟨k, hk, e⟩ | ⟨k, hk, e⟩ <;> rw [e]
    · exact (comm_of_even (h.keysZ k hk).1 (h.keysLX K hK).1 (h.zLX k K hk hK)).2
    · exact same_comm ..
  logZ_comm a ha s hs := by
    obtain ⟨K, hK, rfl⟩ := h.logZ a ha
    rcases h.stab s hs with ⟨k, hk, e⟩ | ⟨k, hk, e⟩ <;> rw [e]
    · exact same_comm ..
    · exact (comm_of_even (h.keysLZ K hK).1 (h.keysX k hk).1 (by
        rw [overlap_comm (h.keysLZ K hK).1 (h.keysX k hk).1]
        exact h.xLZ k K hk hK)).1
  same_k := h.same_k
  pairing := h.pairing
  logXX a ha b hb := by
    obtain ⟨A, -, rfl⟩ := h.logX a ha
    obtain ⟨B, -, rfl⟩ := h.logX b hb
    exact same_comm ..
  logZZ a ha b hb := by
    obtain ⟨A, -, rfl⟩ := h.logZ a ha
    obtain ⟨B, -, rfl⟩ := h.logZ b hb
    exact same_comm ..

/-- another choice of logical Z operators on the same lattice -/
theorem of_logZ {l' : Lattice} {LZ' : List Coord → Prop} (h : l.Css KZ KX LX LZ)
    (hq : l'.qubits = l.qubits) (hs : l'.stabs = l.stabs) (hg : l'.getStab = l.getStab)
    (hX : l'.logX = l.logX) (logZ : ∀ a ∈ l'.logZ, ∃ k, LZ' k ∧ a = letterOp k .Z)
    (keysLZ : ∀ k, LZ' k → k.Nodup ∧ ∀ q ∈ k, q ∈ l.qubits)
    (xLZ : ∀ kx k, KX kx → LZ' k → overlap kx k % 2 = 0) (same_k : l.logX.length = l'.logZ.length)
    (pairing : ∀ i j, i < l.logX.length → j < l'.logZ.length →
      opAntiCount (l.logX.getD i []) (l'.logZ.getD j []) % 2 = if i = j then 1 else 0) :
    l'.Css KZ KX LX LZ' := by
  constructor <;> try simp only [hq, hs, hg, hX]
  case qubits_nodup => exact h.qubits_nodup
  case stabs_nodup => exact h.stabs_nodup
  case disjoint => exact h.disjoint
  case stab => exact h.stab
  case keysZ => exact h.keysZ
  case keysX => exact h.keysX
  case logX => exact h.logX
  case logZ => exact logZ
  case keysLX => exact h.keysLX
  case keysLZ => exact keysLZ
  case zx => exact h.zx
  case zLX => exact h.zLX
  case xLZ => exact xLZ
  case same_k => exact same_k
  case pairing => exact pairing

end Lattice.Css
end Panqec
