/-
Color3DCode: the keys of a generator and the centred difference of two coordinates (core Lean only).

A stabilizer writes the keys `wrapAt a d = ((a + d) % m)` (componentwise, `m = (4Lx, 4Ly, 4Lz)`) for
the deltas `d` of its table; with all periods `≥ 8` and deltas of size `≤ 2` they are pairwise
distinct (`nodup_keys`).  `cd m a b` is the CENTRED difference of two coordinates: the integer of
absolute value `≤ 3` congruent to `b − a` modulo `m`, or the marker `100` if there is none; the
normal forms of the logical operators (`LatColor3DCodeNormalForms`) use it for the coordinate across a
membrane or a string.
-/
import PanqecVerif.Proofs.ColorBase
import PanqecVerif.Model.Lattices.Color3DCode


namespace Panqec.Color3DCode
open Panqec.Lat2D Panqec.Color

abbrev D3 := Int × Int × Int

/-- the key written for the delta `d` at the location `(x, y, z)` -/
def wrapAt (mx my mz : Int) (x y z : Int) (d : D3) : Coord :=
  [(x + d.1) % mx, (y + d.2.1) % my, (z + d.2.2) % mz]

theorem candidates_eq (Lx Ly Lz : Nat) (x y z : Int) :
    candidates Lx Ly Lz x y z =
      (deltaOf x y z).map (wrapAt (4 * (Lx : Int)) (4 * (Ly : Int)) (4 * (Lz : Int)) x y z) := rfl

/-- the centred representative of a residue `E ∈ [0, m)`: the integer of absolute value `≤ 3`
    congruent to `E`, or `100` when there is none -/
def cen (m E : Int) : Int := if E ≤ 3 then E else if m - E ≤ 3 then E - m else 100

theorem cen_iff {m E δ : Int} (hm : 8 ≤ m) (h0 : 0 ≤ E) (h1 : E < m) (hl : -3 ≤ δ) (hu : δ ≤ 3) :
    E = δ % m ↔ cen m E = δ := by
  unfold cen
  by_cases hδ : 0 ≤ δ
  · rw [emod_small hδ (by omega)]
    by_cases h3 : E ≤ 3
    · rw [if_pos h3]
    · rw [if_neg h3]
      by_cases h4 : m - E ≤ 3
      · rw [if_pos h4]; omega
      · rw [if_neg h4]; omega
  · rw [emod_neg_small (by omega) (by omega)]
    by_cases h3 : E ≤ 3
    · rw [if_pos h3]; omega
    · rw [if_neg h3]
      by_cases h4 : m - E ≤ 3
      · rw [if_pos h4]; omega
      · rw [if_neg h4]; omega

theorem cen_range (m E : Int) (h0 : 0 ≤ E) (h1 : E < m) :
    (-3 ≤ cen m E ∧ cen m E ≤ 3) ∨ cen m E = 100 := by
  unfold cen
  by_cases h3 : E ≤ 3
  · rw [if_pos h3]; omega
  · rw [if_neg h3]
    by_cases h4 : m - E ≤ 3
    · rw [if_pos h4]; omega
    · rw [if_neg h4]; omega

theorem cen_emod {m E k : Int} (hk : k ∣ m) (h : cen m E ≠ 100) : cen m E % k = E % k := by
  unfold cen at h ⊢
  by_cases h3 : E ≤ 3
  · rw [if_pos h3]
  · rw [if_neg h3] at h ⊢
    by_cases h4 : m - E ≤ 3
    · rw [if_pos h4]
      obtain ⟨c, rfl⟩ := hk
      rw [Int.sub_eq_add_neg, ← Int.mul_neg, Int.add_mul_emod_self_left]
    · rw [if_neg h4] at h; exact absurd rfl h

/-- centred difference of two coordinates -/
def cd (m a b : Int) : Int := cen m ((b - a) % m)

theorem cd_iff {m a b d e : Int} (hm : 8 ≤ m) (hl : -3 ≤ d - e) (hu : d - e ≤ 3) :
    (a + d) % m = (b + e) % m ↔ cd m a b = d - e := by
  rw [emod_bridge]
  exact cen_iff hm (Int.emod_nonneg _ (by omega)) (Int.emod_lt_of_pos _ (by omega)) hl hu

theorem cd_range (m a b : Int) (hm : 8 ≤ m) :
    (-3 ≤ cd m a b ∧ cd m a b ≤ 3) ∨ cd m a b = 100 :=
  cen_range _ _ (Int.emod_nonneg _ (by omega)) (Int.emod_lt_of_pos _ (by omega))

theorem cd_emod {m a b k : Int} (hk : k ∣ m) (h : cd m a b ≠ 100) : b % k = (a + cd m a b) % k := by
  unfold cd at h ⊢
  rw [Int.add_emod, cen_emod hk h, Int.emod_emod_of_dvd _ hk, ← Int.add_emod]
  congr 1; omega

/-- a delta of size at most `r` in every coordinate -/
def Bd (r : Int) (d : D3) : Prop :=
  -r ≤ d.1 ∧ d.1 ≤ r ∧ -r ≤ d.2.1 ∧ d.2.1 ≤ r ∧ -r ≤ d.2.2 ∧ d.2.2 ≤ r

instance (r : Int) (d : D3) : Decidable (Bd r d) := by unfold Bd; infer_instance

theorem nodup_keys {mx my mz : Int} (hx : 8 ≤ mx) (hy : 8 ≤ my) (hz : 8 ≤ mz) (x y z : Int)
    (Δ : List D3) (hΔ : Δ.Nodup) (hb : ∀ d ∈ Δ, Bd 2 d) : (Δ.map (wrapAt mx my mz x y z)).Nodup := by
  refine List.pairwise_map.mpr (hΔ.imp_of_mem fun {d e} hd he hne h => hne ?_)
  have h1 := hb d hd
  have h2 := hb e he
  unfold Bd at h1 h2
  simp only [wrapAt, List.cons.injEq, and_true] at h
  exact Prod.ext (Cyclic.add_emod_inj h.1 (by omega) (by omega))
    (Prod.ext (Cyclic.add_emod_inj h.2.1 (by omega) (by omega))
      (Cyclic.add_emod_inj h.2.2 (by omega) (by omega)))

end Panqec.Color3DCode
