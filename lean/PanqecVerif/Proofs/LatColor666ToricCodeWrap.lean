/-
Color666ToricCode, square sizes `Lx = Ly = L ≥ 1`: the periodic identification of the class.
`wrapP L (px, py)` — the body of the delta loop of `get_stabilizer` — sends a point at most one
period away from the rhombic domain `InD` (`Near`) to its representative in the domain (with the
corner `(0, −2) ↦ (0, 12L − 2)`).  `cn L (px, py)` is the canonical representative of ANY point of
the plane modulo the lattice generated by `(9L, 6L)` and `(0, 12L)`; it extends `wrapP`
(`wrapP_eq_cn`), and two points have the same representative iff `x` agrees modulo `9L` and
`3y − 2x` agrees modulo `36L` (`cn_eq_iff`).  `Cg` is congruence modulo `3L`, the period of the face
coordinates used from here on.
-/
import Mathlib.Tactic.LinearCombination
import Mathlib.Tactic.Ring
import PanqecVerif.Proofs.ColorBase
import PanqecVerif.Model.Lattices.Color666ToricCode


namespace Panqec.Color666ToricCode
open Panqec.Lat2D Panqec.Color

theorem emod_zero_cases {v m : Int} (h : v % m = 0) (h1 : -(2 * m) < v) (h2 : v < 2 * m) :
    v = 0 ∨ v = m ∨ v = -m := by
  by_cases a : v ≤ -m
  · have := Cyclic.eq_zero_of_emod_of_abs_lt (v := v + m) (by rw [Int.add_emod_right]; exact h) (by omega) (by omega)
    omega
  · by_cases b : m ≤ v
    · have := Cyclic.eq_zero_of_emod_of_abs_lt (v := v - m) (by rw [Int.sub_emod_right]; exact h) (by omega) (by omega)
      omega
    · have := Cyclic.eq_zero_of_emod_of_abs_lt h (by omega) (by omega)
      omega

/-- `get_stabilizer`'s loop body as a function of the point `(X + dx, Y + dy)` -/
def wrapP (L : Nat) (px py : Int) : Coord :=
  let x := px % (9 * (L : Int))
  let y0 := py
  let y1 := if px ≥ 9 * (L : Int) then y0 - 6 * (L : Int) else y0
  let y2 := if y1 ≥ 12 * (L : Int) + skew x then y1 - 12 * (L : Int) else y1
  if x = 0 ∧ y2 = -2 then [0, 12 * (L : Int) - 2] else [x, y2]

theorem wrapQ_eq (L : Nat) (X Y dx dy : Int) : wrapQ L L X Y dx dy = wrapP L (X + dx) (Y + dy) := rfl

/-- the fundamental domain in which the keys live -/
def InD (L : Nat) (x y : Int) : Prop :=
  0 ≤ x ∧ x < 9 * (L : Int) ∧
    ((x = 0 ∧ -2 < y ∧ y ≤ 12 * (L : Int) - 2) ∨
     (x ≠ 0 ∧ skew x ≤ y ∧ y < 12 * (L : Int) + skew x))

/-- the points the loop body is applied to: at most one period off in each direction -/
def Near (L : Nat) (px py : Int) : Prop :=
  0 ≤ px ∧ px < 18 * (L : Int) ∧
  (px < 9 * (L : Int) → skew px ≤ py ∧ py < 24 * (L : Int) + skew px) ∧
  (9 * (L : Int) ≤ px → skew (px - 9 * (L : Int)) ≤ py - 6 * (L : Int) ∧
      py - 6 * (L : Int) < 24 * (L : Int) + skew (px - 9 * (L : Int)))

theorem wrapP_spec {L : Nat} (hL : 1 ≤ L) {px py : Int} (hn : Near L px py) :
    ∃ qx qy, wrapP L px py = [qx, qy] ∧ InD L qx qy ∧
      (qx = px ∨ qx = px - 9 * (L : Int)) ∧
      (3 * qy - 2 * qx = 3 * py - 2 * px ∨ 3 * qy - 2 * qx = 3 * py - 2 * px - 36 * (L : Int) ∨
        3 * qy - 2 * qx = 3 * py - 2 * px + 36 * (L : Int)) := by
  obtain ⟨h0, h1, hy1, hy2⟩ := hn
  unfold wrapP
  simp only []
  by_cases hw : 9 * (L : Int) ≤ px
  · have e : px % (9 * (L : Int)) = px - 9 * (L : Int) := Cyclic.emod_of_near (by omega) (by omega) (.inr (.inr (by omega)))
    rw [e, if_pos (by omega : px ≥ 9 * (L : Int))]
    obtain ⟨a, b⟩ := hy2 hw
    unfold skew at *
    by_cases h2 : py - 6 * (L : Int) ≥ 12 * (L : Int) + 2 * (px - 9 * (L : Int) - 2) / 3
    · rw [if_pos h2]
      by_cases h3 : px - 9 * (L : Int) = 0 ∧ py - 6 * (L : Int) - 12 * (L : Int) = -2
      · rw [if_pos h3]; exact ⟨_, _, rfl, by unfold InD skew; omega, by omega, by omega⟩
      · rw [if_neg h3]; exact ⟨_, _, rfl, by unfold InD skew; omega, by omega, by omega⟩
    · rw [if_neg h2]
      by_cases h3 : px - 9 * (L : Int) = 0 ∧ py - 6 * (L : Int) = -2
      · rw [if_pos h3]; exact ⟨_, _, rfl, by unfold InD skew; omega, by omega, by omega⟩
      · rw [if_neg h3]; exact ⟨_, _, rfl, by unfold InD skew; omega, by omega, by omega⟩
  · have e : px % (9 * (L : Int)) = px := emod_small h0 (by omega)
    rw [e, if_neg (by omega : ¬ px ≥ 9 * (L : Int))]
    obtain ⟨a, b⟩ := hy1 (by omega)
    unfold skew at *
    by_cases h2 : py ≥ 12 * (L : Int) + 2 * (px - 2) / 3
    · rw [if_pos h2]
      by_cases h3 : px = 0 ∧ py - 12 * (L : Int) = -2
      · rw [if_pos h3]; exact ⟨_, _, rfl, by unfold InD skew; omega, by omega, by omega⟩
      · rw [if_neg h3]; exact ⟨_, _, rfl, by unfold InD skew; omega, by omega, by omega⟩
    · rw [if_neg h2]
      by_cases h3 : px = 0 ∧ py = -2
      · rw [if_pos h3]; exact ⟨_, _, rfl, by unfold InD skew; omega, by omega, by omega⟩
      · rw [if_neg h3]; exact ⟨_, _, rfl, by unfold InD skew; omega, by omega, by omega⟩

theorem canon_congr {L : Nat} {x y x' y' : Int} (h : InD L x y) (h' : InD L x' y')
    (hc : (x' - x) % (9 * (L : Int)) = 0 ∧
      ((3 * y' - 2 * x') - (3 * y - 2 * x)) % (36 * (L : Int)) = 0) : x = x' ∧ y = y' := by
  obtain ⟨hx, hu⟩ := hc
  unfold InD at h h'
  have e1 : x' - x = 0 := Cyclic.eq_zero_of_emod_of_abs_lt hx (by omega) (by omega)
  have e1' : x = x' := by omega
  subst e1'
  have e2 : (3 * y' - 2 * x) - (3 * y - 2 * x) = 0 := by
    apply Cyclic.eq_zero_of_emod_of_abs_lt hu
    · unfold skew at h h'; omega
    · unfold skew at h h'; omega
  exact ⟨rfl, by omega⟩

/-- congruence modulo `3L`: the period of the face coordinates -/
def Cg (L : Nat) (x : Int) : Prop := (3 * (L : Int)) ∣ x

instance (L : Nat) (x : Int) : Decidable (Cg L x) := by unfold Cg; infer_instance

theorem Cg.mod3 {L : Nat} {x : Int} (h : Cg L x) : x % 3 = 0 := by
  obtain ⟨k, hk⟩ := h
  have : x = 3 * ((L : Int) * k) := by rw [hk]; ring
  omega

theorem Cg.eq_zero {L : Nat} {x : Int} (h : Cg L x) (h1 : -(3 * (L : Int)) < x)
    (h2 : x < 3 * (L : Int)) : x = 0 := by
  have h0 : x % (3 * (L : Int)) = 0 := Int.emod_eq_zero_of_dvd h
  exact Cyclic.eq_zero_of_emod_of_abs_lt h0 h1 h2

theorem cg_zero (L : Nat) : Cg L 0 := ⟨0, by ring⟩
theorem cg_period (L : Nat) : Cg L (3 * (L : Int)) := ⟨1, by ring⟩

theorem Cg.congr {L : Nat} {x y : Int} (h : Cg L x) (e : y = x) : Cg L y := e ▸ h

theorem Cg.neg {L : Nat} {x : Int} (h : Cg L x) : Cg L (-x) := (Int.dvd_neg).mpr h
theorem Cg.add {L : Nat} {x y : Int} (h : Cg L x) (h' : Cg L y) : Cg L (x + y) := Int.dvd_add h h'
theorem Cg.sub {L : Nat} {x y : Int} (h : Cg L x) (h' : Cg L y) : Cg L (x - y) := Int.dvd_sub h h'
theorem Cg.mul {L : Nat} {x : Int} (h : Cg L x) (c : Int) : Cg L (c * x) := Dvd.dvd.mul_left h c

theorem cg_three_mul {L : Nat} {x : Int} : Cg L (3 * x) ↔ ((L : Int) ∣ x) := by
  unfold Cg
  exact Int.mul_dvd_mul_iff_left (by omega)

theorem cg_sub_emod (L : Nat) (w : Int) : Cg L (w - w % (3 * (L : Int))) :=
  ⟨w / (3 * (L : Int)), by have := Int.mul_ediv_add_emod w (3 * (L : Int)); omega⟩

theorem cg_of_emod9 {L : Nat} {v : Int} (h : v % (9 * (L : Int)) = 0) : ∃ k, v = 9 * (L : Int) * k :=
  Int.dvd_of_emod_eq_zero h

/-- the canonical representative of `(px, py)` modulo `⟨(9L, 6L), (0, 12L)⟩` in the domain `InD` -/
def cn (L : Nat) (px py : Int) : Coord :=
  let x := px % (9 * (L : Int))
  let y1 := py - 6 * ((L : Int) * (px / (9 * (L : Int))))
  let y2 := skew x + (y1 - skew x) % (12 * (L : Int))
  if x = 0 ∧ y2 = -2 then [0, 12 * (L : Int) - 2] else [x, y2]

theorem emod_sub_self (w n : Int) : (w % n - w) % n = 0 := by
  rw [← Int.emod_eq_emod_iff_emod_sub_eq_zero]
  exact Int.emod_emod _ _

theorem cn_spec {L : Nat} (hL : 1 ≤ L) (px py : Int) :
    ∃ qx qy, cn L px py = [qx, qy] ∧ InD L qx qy ∧ (9 * (L : Int)) ∣ (qx - px) ∧
      (36 * (L : Int)) ∣ ((3 * qy - 2 * qx) - (3 * py - 2 * px)) := by
  have hm : (0 : Int) < 9 * (L : Int) := by omega
  have hx0 := Int.emod_nonneg px (show 9 * (L : Int) ≠ 0 by omega)
  have hx1 := Int.emod_lt_of_pos px hm
  have hdiv : 9 * (L : Int) * (px / (9 * (L : Int))) + px % (9 * (L : Int)) = px :=
    Int.mul_ediv_add_emod px _
  generalize hT : (px / (9 * (L : Int))) = t at hdiv
  generalize hX : px % (9 * (L : Int)) = x at hdiv hx0 hx1
  have hr0 := Int.emod_nonneg (py - 6 * ((L : Int) * t) - skew x)
    (show 12 * (L : Int) ≠ 0 by omega)
  have hr1 := Int.emod_lt_of_pos (py - 6 * ((L : Int) * t) - skew x)
    (show (0 : Int) < 12 * (L : Int) by omega)
  obtain ⟨k, hk⟩ : (12 * (L : Int)) ∣
      ((py - 6 * ((L : Int) * t) - skew x) % (12 * (L : Int)) - (py - 6 * ((L : Int) * t) - skew x)) :=
    Int.dvd_of_emod_eq_zero (emod_sub_self _ _)
  unfold cn
  simp only [hT, hX]
  generalize hR : (py - 6 * ((L : Int) * t) - skew x) % (12 * (L : Int)) = r at hr0 hr1 hk
  by_cases hc : x = 0 ∧ skew x + r = -2
  · rw [if_pos hc]
    refine ⟨0, 12 * (L : Int) - 2, rfl, by unfold InD; omega, ⟨-t, ?_⟩, ⟨k + 1, ?_⟩⟩
    · obtain ⟨rfl, _⟩ := hc; linear_combination hdiv
    · obtain ⟨rfl, h2⟩ := hc
      linear_combination (3 : Int) * hk - (2 : Int) * hdiv - (3 : Int) * h2
  · rw [if_neg hc]
    refine ⟨x, skew x + r, rfl, ?_, ⟨-t, ?_⟩, ⟨k, ?_⟩⟩
    · unfold InD
      refine ⟨hx0, hx1, ?_⟩
      by_cases h0 : x = 0
      · left
        subst h0
        have : skew 0 = -2 := by decide
        rw [this] at hc ⊢
        omega
      · right; exact ⟨h0, by omega, by omega⟩
    · linear_combination hdiv
    · linear_combination (3 : Int) * hk - (2 : Int) * hdiv

theorem dvd_to_emod {m v : Int} (h : m ∣ v) : v % m = 0 := Int.emod_eq_zero_of_dvd h

theorem cn_eq_iff {L : Nat} (hL : 1 ≤ L) (px py px' py' : Int) :
    cn L px py = cn L px' py' ↔
      ((9 * (L : Int)) ∣ (px' - px) ∧
       (36 * (L : Int)) ∣ ((3 * py' - 2 * px') - (3 * py - 2 * px))) := by
  obtain ⟨qx, qy, e, hd, hx, hu⟩ := cn_spec hL px py
  obtain ⟨qx', qy', e', hd', hx', hu'⟩ := cn_spec hL px' py'
  rw [e, e']
  constructor
  · intro h
    simp only [List.cons.injEq, and_true] at h
    obtain ⟨rfl, rfl⟩ := h
    exact ⟨by have := Int.dvd_sub hx hx'; rwa [show qx - px - (qx - px') = px' - px by ring] at this,
      by have := Int.dvd_sub hu hu'
         rwa [show 3 * qy - 2 * qx - (3 * py - 2 * px) - (3 * qy - 2 * qx - (3 * py' - 2 * px')) =
           3 * py' - 2 * px' - (3 * py - 2 * px) by ring] at this⟩
  · rintro ⟨h1, h2⟩
    have a1 : (9 * (L : Int)) ∣ (qx' - qx) := by
      have := Int.dvd_sub (Int.dvd_add hx' h1) hx
      rwa [show qx' - px' + (px' - px) - (qx - px) = qx' - qx by ring] at this
    have a2 : (36 * (L : Int)) ∣ ((3 * qy' - 2 * qx') - (3 * qy - 2 * qx)) := by
      have := Int.dvd_sub (Int.dvd_add hu' h2) hu
      rwa [show 3 * qy' - 2 * qx' - (3 * py' - 2 * px') + (3 * py' - 2 * px' - (3 * py - 2 * px)) -
        (3 * qy - 2 * qx - (3 * py - 2 * px)) = 3 * qy' - 2 * qx' - (3 * qy - 2 * qx) by ring] at this
    have := canon_congr hd hd' ⟨dvd_to_emod a1, dvd_to_emod a2⟩
    rw [this.1, this.2]

theorem wrapP_eq_cn {L : Nat} (hL : 1 ≤ L) {px py : Int} (hn : Near L px py) :
    wrapP L px py = cn L px py := by
  obtain ⟨qx, qy, e, hd, hx, hu⟩ := wrapP_spec hL hn
  obtain ⟨qx', qy', e', hd', hx', hu'⟩ := cn_spec hL px py
  rw [e, e']
  have a1 : (9 * (L : Int)) ∣ (qx' - qx) := by
    rcases hx with rfl | rfl
    · exact hx'
    · have := Int.dvd_add hx' (Int.dvd_refl (9 * (L : Int)))
      rwa [show qx' - px + 9 * (L : Int) = qx' - (px - 9 * (L : Int)) by ring] at this
  have a2 : (36 * (L : Int)) ∣ ((3 * qy' - 2 * qx') - (3 * qy - 2 * qx)) := by
    rcases hu with h | h | h
    · rw [h]; exact hu'
    · rw [h]
      have := Int.dvd_add hu' (Int.dvd_refl (36 * (L : Int)))
      rwa [show 3 * qy' - 2 * qx' - (3 * py - 2 * px) + 36 * (L : Int) =
        3 * qy' - 2 * qx' - (3 * py - 2 * px - 36 * (L : Int)) by ring] at this
    · rw [h]
      have := Int.dvd_sub hu' (Int.dvd_refl (36 * (L : Int)))
      rwa [show 3 * qy' - 2 * qx' - (3 * py - 2 * px) - 36 * (L : Int) =
        3 * qy' - 2 * qx' - (3 * py - 2 * px + 36 * (L : Int)) by ring] at this
  have := canon_congr hd hd' ⟨dvd_to_emod a1, dvd_to_emod a2⟩
  rw [this.1, this.2]
theorem wrapP_eq_iff {L : Nat} (hL : 1 ≤ L) {px py px' py' : Int} (hn : Near L px py)
    (hn' : Near L px' py') : wrapP L px py = wrapP L px' py' ↔
      ((px' - px) % (9 * (L : Int)) = 0 ∧
       ((3 * py' - 2 * px') - (3 * py - 2 * px)) % (36 * (L : Int)) = 0) := by
  rw [wrapP_eq_cn hL hn, wrapP_eq_cn hL hn', cn_eq_iff hL, Int.dvd_iff_emod_eq_zero,
    Int.dvd_iff_emod_eq_zero]

end Panqec.Color666ToricCode
