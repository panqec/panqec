/-
Structure of `simsOfRanges` / `simsOfMany` / `simsOfRuns` (what `get_simulations` returns),
and of `_find_current_simulation`.
-/
import PanqecVerif.Proofs.Spec

namespace Panqec.Spec

/-- the method of a ranges dictionary is the direct one (absent, or `{'name': 'direct', …}`) -/
def DirectMethod (r : Ranges) : Prop :=
  r.method = none ∨ ∃ p, r.method = some ⟨some "direct", some p⟩

/-- simulation `s` is built from the requested blocks `t` with exactly those parameters -/
def Built (t : Block × Block × Block × PV) (s : SimT) : Prop :=
  instCode t.1 = .ok s.code ∧ instNoise t.2.1 = .ok s.noise ∧
  instDecoder t.2.2.1 = .ok s.decoder ∧ s.errorRate = t.2.2.2

theorem forall₂_comp {α β γ : Type} {R : α → β → Prop} {S : β → γ → Prop} :
    ∀ {as : List α} {bs : List β} {cs : List γ}, List.Forall₂ R as bs → List.Forall₂ S bs cs →
      List.Forall₂ (fun a c => ∃ b, R a b ∧ S b c) as cs
  | _, _, _, .nil, .nil => .nil
  | _, _, _, .cons h1 t1, .cons h2 t2 => .cons ⟨_, h1, h2⟩ (forall₂_comp t1 t2)

/-- one instance of the loop body of `get_simulations` (direct method) -/
theorem buildSim_ok (mparams : PV) (t : Inst × Inst × Block × PV) (s : SimT)
    (h : buildSim mparams t = .ok s) :
    s.code = t.1 ∧ s.noise = t.2.1 ∧ instDecoder t.2.2.1 = .ok s.decoder ∧ s.errorRate = t.2.2.2 := by
  unfold buildSim at h
  split at h
  · cases h
  · split at h <;> cases h
    exact ⟨rfl, rfl, by assumption, rfl⟩

theorem methodOf_direct (r : Ranges) (hm : DirectMethod r) : ∃ p, methodOf r = .ok ("direct", p) := by
  unfold methodOf
  rcases hm with hm | ⟨p, hm⟩
  · rw [hm]; exact ⟨_, rfl⟩
  · rw [hm]; exact ⟨p, rfl⟩

theorem simsOfRanges_spec (r : Ranges) (hm : DirectMethod r) (sims : List SimT)
    (h : simsOfRanges r = .ok sims) :
    ∃ cr nr dr er, parseAllRanges r = .ok (cr, nr, dr, er) ∧
      List.Forall₂ Built (product4 cr nr dr er) sims := by
  obtain ⟨mparams, hmeth⟩ := methodOf_direct r hm
  unfold simsOfRanges at h
  rw [hmeth] at h
  split at h
  · cases h
  · rename_i cr nr dr er hp
    split at h
    · cases h
    · rename_i codes hc
      split at h
      · cases h
      · rename_i noises hn
        simp only [beq_self_eq_true, if_true] at h
        refine ⟨cr, nr, dr, er, hp, ?_⟩
        have hprod := product4_forall₂ _ _ dr er cr codes ((mapE_ok_iff _ _ _).mp hc) nr noises
          ((mapE_ok_iff _ _ _).mp hn)
        apply (forall₂_comp hprod ((mapE_ok_iff _ _ _).mp h)).imp
        intro t s ⟨t', ⟨h1, h2, h3⟩, hs⟩
        obtain ⟨e1, e2, e3, e4⟩ := buildSim_ok mparams t' s hs
        exact ⟨e1 ▸ h1, e2 ▸ h2, by rw [h3]; exact e3, by rw [h3]; exact e4⟩

theorem simsOfMany_eq : ∀ rs, simsOfMany rs =
    match mapE simsOfRanges rs with
    | .error e => .error e
    | .ok ps => .ok ps.flatten
  | [] => rfl
  | r :: rs => by
    simp only [simsOfMany, mapE, simsOfMany_eq rs]
    cases simsOfRanges r with
    | error e => rfl
    | ok a => cases mapE simsOfRanges rs <;> rfl

theorem simsOfMany_spec (rs : List Ranges) (sims : List SimT) :
    simsOfMany rs = .ok sims ↔
      ∃ parts, List.Forall₂ (fun r p => simsOfRanges r = .ok p) rs parts ∧ sims = parts.flatten := by
  simp only [simsOfMany_eq, ← mapE_ok_iff]
  cases mapE simsOfRanges rs with
  | error e => simp
  | ok ps => simp [eq_comm]

/-- simulation `s` is built from run `r` -/
def BuiltFromRun (r : Run) (s : SimT) : Prop :=
  (∃ b, r.code = some b ∧ instCode b = .ok s.code) ∧
  (∃ b, r.noise = some b ∧ instNoise b = .ok s.noise) ∧
  (∃ b, r.decoder = some b ∧ instDecoder b = .ok s.decoder) ∧
  r.errorRate = some s.errorRate

theorem forall₂_zipWith {α β γ δ : Type} {P : α → β → Prop} {Q : α → γ → Prop} (f : β → γ → δ) :
    ∀ {as : List α} {bs : List β} {cs : List γ}, List.Forall₂ P as bs → List.Forall₂ Q as cs →
      List.Forall₂ (fun a d => ∃ b c, d = f b c ∧ P a b ∧ Q a c) as (List.zipWith f bs cs)
  | _, _, _, .nil, .nil => .nil
  | _, _, _, .cons h1 t1, .cons h2 t2 => .cons ⟨_, _, rfl, h1, h2⟩ (forall₂_zipWith f t1 t2)

theorem simsOfRuns_spec (runs : List Run) (sims : List SimT) (h : simsOfRuns runs = .ok sims) :
    List.Forall₂ BuiltFromRun runs sims := by
  unfold simsOfRuns at h
  split at h
  · cases h
  rename_i codes hc
  split at h
  · cases h
  rename_i decs hd
  split at h
  · cases h
  rename_i noises hn
  split at h
  · cases h
  rename_i rates hr
  have fc := (mapE_ok_iff _ _ _).mp hc
  have fd := (mapE_ok_iff _ _ _).mp hd
  have fn := (mapE_ok_iff _ _ _).mp hn
  have fr := (mapE_ok_iff _ _ _).mp hr
  have fs := (mapE_ok_iff _ _ _).mp h
  have z1 := forall₂_zipWith Prod.mk fd fr
  rw [← List.zip_eq_zipWith] at z1
  have z2 := forall₂_zipWith (fun n (x : Block × PV) => (n, x)) fn z1
  have z3 := forall₂_zipWith (fun c (x : Inst × Block × PV) => (c, x)) fc z2
  have z4 := forall₂_comp z3 fs
  apply z4.imp
  intro run s ⟨t, ⟨c, x, ht, hcode, n, y, hx, hnoise, d, p, hy, hdec, hrate⟩, hs⟩
  subst ht hx hy
  have hb := buildSim_ok _ _ s hs
  simp only at hb
  unfold Run.getCode at hcode
  unfold Run.getNoise at hnoise
  unfold Run.getDecoder at hdec
  unfold Run.getRate at hrate
  refine ⟨?_, ?_, ?_, ?_⟩
  · split at hcode
    · cases hcode
    · exact ⟨_, by assumption, hb.1 ▸ hcode⟩
  · split at hnoise
    · cases hnoise
    · exact ⟨_, by assumption, hb.2.1 ▸ hnoise⟩
  · split at hdec <;> cases hdec
    exact ⟨_, by assumption, hb.2.2.1⟩
  · split at hrate <;> cases hrate
    rw [hb.2.2.2]; assumption

theorem findCurrent_of_mem {ι ρ : Type} [DecidableEq ι] (data : List (ι × ρ))
    (hnd : (data.map (·.1)).Nodup) (rec : ι × ρ) (hmem : rec ∈ data) :
    findCurrent data rec.1 = some rec := by
  obtain ⟨as, bs, rfl⟩ := List.append_of_mem hmem
  refine List.find?_eq_some_iff_append.mpr ⟨by simp, as, bs, rfl, fun a ha => ?_⟩
  rw [List.map_append, List.map_cons, List.nodup_append] at hnd
  simpa using hnd.2.2 a.1 (List.mem_map_of_mem ha) rec.1 (List.mem_cons_self ..)

theorem findCurrent_none {ι ρ : Type} [DecidableEq ι] (data : List (ι × ρ)) (i : ι)
    (h : i ∉ data.map (·.1)) : findCurrent data i = none := by
  unfold findCurrent
  rw [List.find?_eq_none]
  intro x hx
  simp only [decide_eq_true_eq]
  intro e
  exact h (e ▸ List.mem_map_of_mem (f := (·.1)) hx)

theorem findCurrent_sound {ι ρ : Type} [DecidableEq ι] (data : List (ι × ρ)) (i : ι) (rec : ι × ρ)
    (h : findCurrent data i = some rec) : rec ∈ data ∧ rec.1 = i := by
  unfold findCurrent at h
  exact ⟨List.mem_of_find?_eq_some h, by simpa using List.find?_some h⟩

end Panqec.Spec
