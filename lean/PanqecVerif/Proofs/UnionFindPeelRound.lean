/-
Union-find internals (C05), peeling: the state after one round in closed form and the
preservation of the invariant.
-/
import PanqecVerif.Proofs.UnionFindPeelLeaves

namespace Panqec.UF

/-- the state after one round of `peel`, in closed form -/
def nextSt (H : Mat) (stabs qubits : Nat → Bool) (S0 : Nat → Nat → Bool) (st : PeelSt) : PeelSt :=
  { S := fun p c => if c ∈ st.leaves then false else st.S p c,
    syn := updateSyndrome st.syn (st.leaves.map (parOf H.length S0)) st.leaves,
    leaves := unique ((st.leaves.map (parOf H.length S0)).filter fun p =>
      (List.range H.length).all fun c => !(if c ∈ st.leaves then false else st.S p c)),
    corr := st.corr ++ (st.leaves.filter st.syn).map
      (fun c => eOf H stabs qubits (parOf H.length S0 c) c),
    rounds := st.rounds ++ [⟨st.leaves.map (parOf H.length S0), st.leaves,
      (List.range H.length).map st.syn⟩] }

section
variable {H : Mat} {stabs qubits : Nat → Bool} {root : Nat} {S0 : Nat → Nat → Bool}
  {syn0 : Nat → Bool} {al : Nat → Bool} {st : PeelSt}

theorem peelRound_eq (hst : ∀ s, stabs s = true → s < H.length)
    (T : TreeOK H stabs qubits root S0) (I : PInv H stabs qubits S0 syn0 al st)
    (hroot : root ∉ st.leaves) (hn : ncols H ≠ 0) :
    peelRound H stabs qubits st = .ok (nextSt H stabs qubits S0 st) := by
  unfold peelRound
  simp only []
  rw [parents_eq hst T I hroot, if_neg (by simp), if_neg hn,
    zip_flatMap_if _ _ _ fun p c => [firstShared H stabs qubits p c], ← List.map_eq_flatMap]
  simp only [tabGet_tabArr]
  rfl

theorem b2n_xor_odd (x : Bool) (k : Nat) : (b2n (x != decide (k % 2 = 1)) + k) % 2 = b2n x % 2 := by
  rcases Nat.mod_two_eq_zero_or_one k with h | h <;> cases x <;> simp [h] <;> omega

/-- **one round preserves the invariant** (on the stabilizers that are still alive) -/
theorem PInv_next (G : GraphOK H) (hst : ∀ s, stabs s = true → s < H.length)
    (T : TreeOK H stabs qubits root S0) (I : PInv H stabs qubits S0 syn0 al st)
    (hroot : root ∉ st.leaves) :
    PInv H stabs qubits S0 syn0 (fun v => al v && !decide (v ∈ st.leaves))
      (nextSt H stabs qubits S0 st) := by
  have hpar : ∀ c, c ∈ st.leaves → S0 (parOf H.length S0 c) c = true :=
    fun c hc => leaf_edge hst T I hroot hc
  have hnp : ∀ s c, s ∈ st.leaves → c ∈ st.leaves → parOf H.length S0 c ≠ s :=
    fun s c hs hc => leaf_not_parent hst T I hroot hs hc
  have hS' : ∀ p c, (if c ∈ st.leaves then false else st.S p c) =
      (S0 p c && (al c && !decide (c ∈ st.leaves))) := by
    intro p c
    rw [I.S_eq]
    by_cases hc : c ∈ st.leaves <;> simp [hc]
  have hS : ∀ p c, (nextSt H stabs qubits S0 st).S p c =
      (S0 p c && (al c && !decide (c ∈ st.leaves))) := hS'
  have hsyn : ∀ s, (nextSt H stabs qubits S0 st).syn s =
      if s ∈ st.leaves then false else (st.syn s != decide (st.leaves.countP
        (fun c => decide (parOf H.length S0 c = s) && st.syn c) % 2 = 1)) :=
    updateSyndrome_eq st.syn _ st.leaves
  refine ⟨hS, fun v hv => I.al_stabs v (Bool.and_eq_true_iff.mp hv).1, ?_, ?_, nodup_unique _, ?_,
    ?_, ?_, ?_, ?_⟩
  · -- al_up: a leaf has no alive child
    intro p c hpc hc
    simp only [Bool.and_eq_true, Bool.not_eq_true', decide_eq_false_iff_not] at hc ⊢
    refine ⟨I.al_up p c hpc hc.1, fun hp => ?_⟩
    rw [leaf_no_child I hp hpc] at hc
    cases hc.1
  · -- leaves_iff: the new leaves are the parents of old leaves all of whose children were leaves
    intro v
    show v ∈ unique _ ↔ _
    simp only [mem_unique, List.mem_filter, List.mem_map, List.all_eq_true, List.mem_range, hS, hS',
      Bool.and_eq_true, Bool.not_eq_true', decide_eq_false_iff_not]
    constructor
    · rintro ⟨⟨c0, hc0, rfl⟩, hall⟩
      have he := hpar c0 hc0
      refine ⟨⟨I.al_up _ _ he (leaf_alive I hc0), fun hv => hnp _ c0 hv hc0 rfl⟩, fun c => ?_⟩
      by_cases hcm : c < H.length
      · exact hall c hcm
      · have : al c = false := Bool.eq_false_iff.mpr fun hac => hcm (hst c (I.al_stabs c hac))
        simp [this]
    · rintro ⟨⟨hav, hvl⟩, hno⟩
      -- `v` is not an old leaf: it has an alive child `c`, which by `hno` is an old leaf
      have hex : ∃ c, S0 v c = true ∧ al c = true := by
        by_contra hcon
        exact hvl (leaf_of_no_child I hav fun c hc => Bool.eq_false_iff.mpr fun hac => hcon ⟨c, hc, hac⟩)
      obtain ⟨c, hc, hac⟩ := hex
      have hcl : c ∈ st.leaves := by simpa [hc, hac] using hno c
      exact ⟨⟨c, hcl, parOf_eq hst T hc⟩, fun x _ => hno x⟩
  · -- syn_al: a new defect sits on the parent of a leaf
    intro s hs
    rw [hsyn] at hs
    by_cases hsl : s ∈ st.leaves
    · simp [hsl] at hs
    · rw [if_neg hsl] at hs
      simp only [Bool.and_eq_true, Bool.not_eq_true', decide_eq_false_iff_not]
      refine ⟨?_, hsl⟩
      cases hss : st.syn s
      · rw [hss] at hs
        have hk : 0 < st.leaves.countP (fun c => decide (parOf H.length S0 c = s) && st.syn c) := by
          apply Nat.pos_of_ne_zero
          intro h0
          simp [h0] at hs
        obtain ⟨c, hc, hpc⟩ := List.countP_pos_iff.mp hk
        simp only [Bool.and_eq_true, decide_eq_true_eq] at hpc
        exact I.al_up s c (hpc.1 ▸ hpar c hc) (leaf_alive I hc)
      · exact I.syn_al s hss
  · -- bdry: the column of the edge qubit of a leaf `c` is `{parent c, c}`
    intro s
    show ((st.corr ++ (st.leaves.filter st.syn).map
        (fun c => eOf H stabs qubits (parOf H.length S0 c) c)).countP (fun q => hb H s q) +
      b2n ((nextSt H stabs qubits S0 st).syn s)) % 2 = b2n (syn0 s)
    rw [List.countP_append, List.countP_map, List.countP_filter, hsyn]
    have hcong : st.leaves.countP (fun a =>
          ((fun q => hb H s q) ∘ fun c => eOf H stabs qubits (parOf H.length S0 c) c) a && st.syn a) =
        st.leaves.countP (fun c => (decide (parOf H.length S0 c = s) && st.syn c) ||
          (st.syn c && decide (s = c))) := by
      refine countP_congr' _ _ _ fun c hc => ?_
      have hspec := (edge_spec G T (hpar c hc)).2 s
      have hne : parOf H.length S0 c ≠ c := (T.mem _ _ (hpar c hc)).2.2.1
      rw [Function.comp, Bool.eq_iff_iff]
      simp only [hspec, Bool.and_eq_true, Bool.or_eq_true, decide_eq_true_eq]
      constructor
      · rintro ⟨rfl | rfl, h⟩
        · exact Or.inl ⟨rfl, h⟩
        · exact Or.inr ⟨h, rfl⟩
      · rintro (⟨rfl, h⟩ | ⟨h, rfl⟩)
        · exact ⟨Or.inl rfl, h⟩
        · exact ⟨Or.inr rfl, h⟩
    rw [hcong, countP_or_disjoint, countP_eq_nodup st.leaves I.leaves_nodup s st.syn]
    · have hb := I.bdry s
      by_cases hsl : s ∈ st.leaves
      · have hk1 : st.leaves.countP (fun c => decide (parOf H.length S0 c = s) && st.syn c) = 0 :=
          List.countP_eq_zero.mpr fun c hc => by simp [hnp s c hsl hc]
        simp only [hsl, if_true, hk1, b2n_false]
        omega
      · simp only [hsl, if_false]
        have := b2n_xor_odd (st.syn s)
          (st.leaves.countP (fun c => decide (parOf H.length S0 c = s) && st.syn c))
        omega
    · intro c hc ⟨h1, h2⟩
      simp only [Bool.and_eq_true, decide_eq_true_eq] at h1 h2
      exact (T.mem _ _ (hpar c hc)).2.2.1 (h1.1.trans h2.2)
  · -- even
    show cnt H.length (updateSyndrome st.syn (st.leaves.map (parOf H.length S0)) st.leaves) % 2 = 0
    rw [updateSyndrome_cnt H.length st.syn _ st.leaves I.leaves_nodup
      (fun c hc => ⟨hst c (I.al_stabs c (leaf_alive I hc)), hst _ (T.mem _ _ (hpar c hc)).1⟩) hnp]
    exact I.even
  · -- corr_nodup: different leaves have different edge qubits, and theirs are new
    show (st.corr ++ (st.leaves.filter st.syn).map
        (fun c => eOf H stabs qubits (parOf H.length S0 c) c)).Nodup
    refine List.nodup_append.mpr ⟨I.corr_nodup, ?_, ?_⟩
    · refine List.Nodup.map_on (fun c hc c' hc' he => ?_) (I.leaves_nodup.filter _)
      exact edge_inj G T (hpar c (List.mem_filter.mp hc).1) (hpar c' (List.mem_filter.mp hc').1) he
    · rintro q hq _ hq' rfl
      obtain ⟨c, hc, rfl⟩ := List.mem_map.mp hq'
      have hcl := (List.mem_filter.mp hc).1
      obtain ⟨p1, c1, h1, hal1, hadj⟩ := I.corr_removed _ hq
      rw [← edge_inj G T (hpar c hcl) h1 hadj, leaf_alive I hcl] at hal1
      cases hal1
  · -- corr_removed
    intro q hq
    rcases List.mem_append.mp (show q ∈ st.corr ++ _ from hq) with hq | hq
    · obtain ⟨p1, c1, h1, hal1, hadj⟩ := I.corr_removed _ hq
      exact ⟨p1, c1, h1, by simp [hal1], hadj⟩
    · obtain ⟨c, hc, rfl⟩ := List.mem_map.mp hq
      have hcl := (List.mem_filter.mp hc).1
      exact ⟨_, c, hpar c hcl, by simp [hcl], rfl⟩

end

end Panqec.UF
