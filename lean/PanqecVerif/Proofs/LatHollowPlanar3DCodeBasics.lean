/-
`HollowPlanar3DCode` for every size: the coordinate lists are those of `Planar3DCode` filtered by
`not _is_in_hole` (list equalities, so distinctness, membership and order are inherited), the hole
as an arithmetic predicate, and the counting lemmas for a box-shaped hole in a triple loop.
-/
import PanqecVerif.Proofs.LatPlanar3DCodeCss
import PanqecVerif.Model.Lattices.HollowPlanar3DCode

namespace Panqec.HollowPlanar3DCode
open Panqec.Cubic3D
open Panqec.Planar3DCode (inE inO inE2 inO1 isVertex isFace)

/-- `_is_in_hole` as an arithmetic statement -/
def Hole (Lx Ly Lz : Nat) (x y z : Int) : Prop :=
  (2 < x ∧ x < 2 * (Lx : Int) - 2) ∧ (1 ≤ y ∧ y < 2 * (Ly : Int) - 2) ∧
    (1 ≤ z ∧ z < 2 * (Lz : Int) - 2)

theorem inHole_iff {Lx Ly Lz : Nat} {x y z : Int} :
    inHole Lx Ly Lz x y z = true ↔ Hole Lx Ly Lz x y z := by
  unfold inHole Hole
  simp only [Bool.and_eq_true, decide_eq_true_eq, gt_iff_lt, ge_iff_le, and_assoc]

theorem inHole_false_iff {Lx Ly Lz : Nat} {x y z : Int} :
    inHole Lx Ly Lz x y z = false ↔ ¬ Hole Lx Ly Lz x y z := by
  rw [← inHole_iff]; simp

/-- the guard of the innermost loop body as a predicate on locations -/
def notHoleC (Lx Ly Lz : Nat) : Coord → Bool
  | [x, y, z] => !inHole Lx Ly Lz x y z
  | _ => true

theorem notHoleC3 {Lx Ly Lz : Nat} {x y z : Int} :
    notHoleC Lx Ly Lz [x, y, z] = true ↔ ¬ Hole Lx Ly Lz x y z := by
  simp only [notHoleC, Bool.not_eq_true', inHole_false_iff]

theorem gridH_eq (Lx Ly Lz : Nat) (xs ys zs : List Int) :
    gridH Lx Ly Lz xs ys zs = (grid xs ys zs).filter (notHoleC Lx Ly Lz) := by
  unfold gridH grid
  rw [List.filter_flatMap]
  congr 1; funext x
  rw [List.filter_flatMap]
  congr 1; funext y
  rw [List.filter_map]
  rfl

theorem range2_one_even (L : Nat) : range2 1 (2 * (L : Int)) = range2 1 (2 * (L : Int) + 1) := by
  unfold range2
  have : ((2 * (L : Int) - 1 + 1) / 2).toNat = ((2 * (L : Int) + 1 - 1 + 1) / 2).toNat := by omega
  rw [this]

theorem qubits_eq (Lx Ly Lz : Nat) :
    qubits Lx Ly Lz = (Planar3DCode.qubits Lx Ly Lz).filter (notHoleC Lx Ly Lz) := by
  unfold qubits Planar3DCode.qubits
  simp only [gridH_eq, List.filter_append, range2_one_even]

theorem stabs_eq (Lx Ly Lz : Nat) :
    stabs Lx Ly Lz = (Planar3DCode.stabs Lx Ly Lz).filter (notHoleC Lx Ly Lz) := by
  unfold stabs Planar3DCode.stabs
  simp only [gridH_eq, List.filter_append]

theorem mem_qubits {Lx Ly Lz : Nat} {x y z : Int} :
    [x, y, z] ∈ qubits Lx Ly Lz ↔
      [x, y, z] ∈ Planar3DCode.qubits Lx Ly Lz ∧ ¬ Hole Lx Ly Lz x y z := by
  rw [qubits_eq, List.mem_filter, notHoleC3]

theorem mem_stabs {Lx Ly Lz : Nat} {x y z : Int} :
    [x, y, z] ∈ stabs Lx Ly Lz ↔
      [x, y, z] ∈ Planar3DCode.stabs Lx Ly Lz ∧ ¬ Hole Lx Ly Lz x y z := by
  rw [stabs_eq, List.mem_filter, notHoleC3]

theorem qubits_sub {Lx Ly Lz : Nat} {q : Coord} (h : q ∈ qubits Lx Ly Lz) :
    q ∈ Planar3DCode.qubits Lx Ly Lz := by
  rw [qubits_eq] at h; exact (List.mem_filter.mp h).1

theorem stabs_sub {Lx Ly Lz : Nat} {q : Coord} (h : q ∈ stabs Lx Ly Lz) :
    q ∈ Planar3DCode.stabs Lx Ly Lz := by
  rw [stabs_eq] at h; exact (List.mem_filter.mp h).1

theorem shape_of_mem_qubits {Lx Ly Lz : Nat} {q : Coord} (h : q ∈ qubits Lx Ly Lz) :
    ∃ x y z, q = [x, y, z] := Planar3DCode.shape_of_mem_qubits (qubits_sub h)

theorem shape_of_mem_stabs {Lx Ly Lz : Nat} {q : Coord} (h : q ∈ stabs Lx Ly Lz) :
    ∃ x y z, q = [x, y, z] := Planar3DCode.shape_of_mem_stabs (stabs_sub h)

theorem contains_qubits (Lx Ly Lz : Nat) (q : Coord) :
    (qubits Lx Ly Lz).contains q = (Planar3DCode.isq Lx Ly Lz q && notHoleC Lx Ly Lz q) := by
  rw [Bool.eq_iff_iff]
  simp only [List.contains_iff_mem, Bool.and_eq_true, Planar3DCode.isq_iff, qubits_eq,
    List.mem_filter]

theorem stab_cases {Lx Ly Lz : Nat} {s : Coord} (h : s ∈ stabs Lx Ly Lz) :
    notHoleC Lx Ly Lz s = true ∧ ((∃ x y z, s = [x, y, z] ∧ isVertex Lx Ly Lz x y z) ∨
      ∃ ax u v w, s = ins ax u v w ∧ isFace Lx Ly Lz ax u v w) := by
  rw [stabs_eq, List.mem_filter] at h
  exact ⟨h.2, Planar3DCode.stab_cases h.1⟩

theorem length_filter_range2 {a b a' b' : Int} {p : Int → Bool}
    (h : ∀ x, (x ∈ range2 a b ∧ p x = true) ↔ x ∈ range2 a' b') :
    ((range2 a b).filter p).length = (range2 a' b').length := by
  apply List.Perm.length_eq
  rw [List.perm_ext_iff_of_nodup ((nodup_range2 a b).filter _) (nodup_range2 a' b')]
  intro x
  rw [List.mem_filter]; exact h x

theorem flatMap_filter {α : Type} (l : List Int) (p : Int → Bool) (g : Int → List α) :
    (l.filter p).flatMap g = l.flatMap fun a => if p a = true then g a else [] := by
  induction l with
  | nil => rfl
  | cons a l ih => by_cases h : p a = true <;> simp [h, ih]

theorem filter_grid_box (xs ys zs : List Int) (px py pz : Int → Bool) (P : Coord → Bool)
    (hP : ∀ x y z, P [x, y, z] = (px x && py y && pz z)) :
    (grid xs ys zs).filter P = grid (xs.filter px) (ys.filter py) (zs.filter pz) := by
  unfold grid
  rw [List.filter_flatMap, flatMap_filter]
  refine List.flatMap_congr fun x _ => ?_
  rw [List.filter_flatMap]
  split
  · next hx =>
    rw [flatMap_filter]
    refine List.flatMap_congr fun y _ => ?_
    rw [List.filter_map]
    split
    · next hy => exact congrArg _ (List.filter_congr fun z _ => by simp [hP, hx, hy])
    · next hy =>
      rw [List.map_eq_nil_iff, List.filter_eq_nil_iff]
      intro z _; simp [hP, hy]
  · next hx =>
    rw [List.flatMap_eq_nil_iff]
    intro y _
    rw [List.filter_eq_nil_iff]
    intro q hq
    obtain ⟨z, _, rfl⟩ := List.mem_map.mp hq
    simp [hP, hx]

/-- the three factors of `_is_in_hole` -/
def holeX (Lx : Nat) (x : Int) : Bool := decide (x > 2) && decide (x < 2 * (Lx : Int) - 2)
def holeYZ (L : Nat) (y : Int) : Bool := decide (y ≥ 1) && decide (y < 2 * (L : Int) - 2)

theorem length_gridH (Lx Ly Lz : Nat) (xs ys zs : List Int) :
    (gridH Lx Ly Lz xs ys zs).length +
      (xs.filter (holeX Lx)).length * (ys.filter (holeYZ Ly)).length *
        (zs.filter (holeYZ Lz)).length = xs.length * ys.length * zs.length := by
  rw [gridH_eq, ← length_grid, ← length_grid,
    ← filter_grid_box xs ys zs (holeX Lx) (holeYZ Ly) (holeYZ Lz)
      (fun q => !notHoleC Lx Ly Lz q) (by intro x y z; simp [notHoleC, inHole, holeX, holeYZ])]
  have := List.length_eq_length_filter_add (l := grid xs ys zs) (notHoleC Lx Ly Lz)
  omega

/-! the part of each of the four kinds of range that lies in the hole (per axis) -/

theorem len_holeX_E2 (L : Nat) : ((range2 2 (2 * (L : Int))).filter (holeX L)).length = L - 3 := by
  rw [length_filter_range2 (a' := 4) (b' := 2 * (L : Int) - 2), length_range2]
  · omega
  · intro x; simp only [mem_range2, holeX, Bool.and_eq_true, decide_eq_true_eq]; omega

theorem len_holeX_O1 (L : Nat) :
    ((range2 1 (2 * (L : Int) + 1)).filter (holeX L)).length = L - 2 := by
  rw [length_filter_range2 (a' := 3) (b' := 2 * (L : Int) - 2), length_range2]
  · omega
  · intro x; simp only [mem_range2, holeX, Bool.and_eq_true, decide_eq_true_eq]; omega

theorem len_holeX_O (L : Nat) :
    ((range2 1 (2 * (L : Int))).filter (holeX L)).length = L - 2 := by
  rw [range2_one_even]; exact len_holeX_O1 L

theorem len_holeYZ_E (L : Nat) : ((range2 0 (2 * (L : Int))).filter (holeYZ L)).length = L - 2 := by
  rw [length_filter_range2 (a' := 2) (b' := 2 * (L : Int) - 2), length_range2]
  · omega
  · intro x; simp only [mem_range2, holeYZ, Bool.and_eq_true, decide_eq_true_eq]; omega

theorem len_holeYZ_O (L : Nat) :
    ((range2 1 (2 * (L : Int) - 1)).filter (holeYZ L)).length = L - 1 := by
  rw [length_filter_range2 (a' := 1) (b' := 2 * (L : Int) - 1), length_range2]
  · omega
  · intro x; simp only [mem_range2, holeYZ, Bool.and_eq_true, decide_eq_true_eq]; omega

/-- `n` plus the number of removed edges is the `n` of `Planar3DCode` (x, y, z edges) -/
theorem qubits_length_add (Lx Ly Lz : Nat) : (qubits Lx Ly Lz).length +
    ((Lx - 2) * (Ly - 2) * (Lz - 2) + (Lx - 3) * (Ly - 1) * (Lz - 2) +
      (Lx - 3) * (Ly - 2) * (Lz - 1)) =
    Lx * Ly * Lz + (Lx - 1) * (Ly - 1) * Lz + (Lx - 1) * Ly * (Lz - 1) := by
  have h1 := length_gridH Lx Ly Lz (range2 1 (2 * (Lx : Int))) (range2 0 (2 * (Ly : Int)))
    (range2 0 (2 * (Lz : Int)))
  have h2 := length_gridH Lx Ly Lz (range2 2 (2 * (Lx : Int))) (range2 1 (2 * (Ly : Int) - 1))
    (range2 0 (2 * (Lz : Int)))
  have h3 := length_gridH Lx Ly Lz (range2 2 (2 * (Lx : Int))) (range2 0 (2 * (Ly : Int)))
    (range2 1 (2 * (Lz : Int) - 1))
  simp only [len_holeX_E2, len_holeX_O, len_holeYZ_E, len_holeYZ_O, length_rangeE, length_rangeO,
    length_rangeE2] at h1 h2 h3
  rw [range2_one_even, length_rangeO1] at h1
  simp only [qubits, List.length_append]
  rw [range2_one_even]
  omega

/-- the number of stabilizer locations plus the number of removed ones is the number of
    `Planar3DCode` (vertices, xy / yz / xz faces) -/
theorem stabs_length_add (Lx Ly Lz : Nat) : (stabs Lx Ly Lz).length +
    ((Lx - 3) * (Ly - 2) * (Lz - 2) + (Lx - 2) * (Ly - 1) * (Lz - 2) +
      (Lx - 3) * (Ly - 1) * (Lz - 1) + (Lx - 2) * (Ly - 2) * (Lz - 1)) =
    (Lx - 1) * Ly * Lz + Lx * (Ly - 1) * Lz + (Lx - 1) * (Ly - 1) * (Lz - 1) +
      Lx * Ly * (Lz - 1) := by
  have h1 := length_gridH Lx Ly Lz (range2 2 (2 * (Lx : Int))) (range2 0 (2 * (Ly : Int)))
    (range2 0 (2 * (Lz : Int)))
  have h2 := length_gridH Lx Ly Lz (range2 1 (2 * (Lx : Int) + 1)) (range2 1 (2 * (Ly : Int) - 1))
    (range2 0 (2 * (Lz : Int)))
  have h3 := length_gridH Lx Ly Lz (range2 2 (2 * (Lx : Int))) (range2 1 (2 * (Ly : Int) - 1))
    (range2 1 (2 * (Lz : Int) - 1))
  have h4 := length_gridH Lx Ly Lz (range2 1 (2 * (Lx : Int) + 1)) (range2 0 (2 * (Ly : Int)))
    (range2 1 (2 * (Lz : Int) - 1))
  simp only [len_holeX_E2, len_holeX_O1, len_holeYZ_E, len_holeYZ_O, length_rangeE, length_rangeO,
    length_rangeE2, length_rangeO1] at h1 h2 h3 h4
  simp only [stabs, List.length_append]
  omega

end Panqec.HollowPlanar3DCode
