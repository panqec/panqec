/-
Union-find internals (C05), list facts: counting over `List.range` and in lists, point
updates, unique-element filters, `np.unique`, set union of duplicate-free lists.  Core Lean only.
-/
import PanqecVerif.Model.UnionFindWF

namespace Panqec.UF

theorem tabGet_tabArr {α : Type} (k : Nat) (f : Nat → α) : tabGet (tabArr k f) f = f := by
  funext i
  unfold tabGet tabArr
  split <;> simp

theorem tabGet2_tabArr2 (k : Nat) (f : Nat → Nat → Bool) : tabGet2 (tabArr2 k f) k f = f := by
  funext i j
  unfold tabGet2 tabArr2
  split
  next h =>
    have h1 : (i * k + j) / k = i := by
      rw [Nat.mul_comm, Nat.mul_add_div (by omega), Nat.div_eq_of_lt h.2.1]; rfl
    have h2 : (i * k + j) % k = j := by
      rw [Nat.mul_comm, Nat.mul_add_mod, Nat.mod_eq_of_lt h.2.1]
    simp [h1, h2]
  next => rfl

@[simp] theorem cnt_zero (f : Nat → Bool) : cnt 0 f = 0 := rfl

def b2n (b : Bool) : Nat := if b then 1 else 0

@[simp] theorem b2n_true : b2n true = 1 := rfl
@[simp] theorem b2n_false : b2n false = 0 := rfl

theorem b2n_le (b : Bool) : b2n b ≤ 1 := by cases b <;> simp

theorem cnt_succ (m : Nat) (f : Nat → Bool) : cnt (m + 1) f = cnt m f + b2n (f m) := by
  simp [cnt, b2n, List.range_succ, List.countP_cons]

theorem cnt_le (m : Nat) (f : Nat → Bool) : cnt m f ≤ m :=
  Nat.le_trans List.countP_le_length (Nat.le_of_eq List.length_range)

theorem cnt_congr (m : Nat) (f g : Nat → Bool) (h : ∀ i, i < m → f i = g i) : cnt m f = cnt m g :=
  List.countP_congr fun i hi => by rw [h i (List.mem_range.mp hi)]

theorem cnt_mono (m : Nat) (f g : Nat → Bool) (h : ∀ i, i < m → f i = true → g i = true) :
    cnt m f ≤ cnt m g :=
  List.countP_mono_left fun i hi => h i (List.mem_range.mp hi)

theorem cnt_eq_zero (m : Nat) (f : Nat → Bool) (h : ∀ i, i < m → f i = false) : cnt m f = 0 :=
  List.countP_eq_zero.mpr fun i hi => by simp [h i (List.mem_range.mp hi)]

theorem cnt_pos (m : Nat) (f : Nat → Bool) (k : Nat) (hk : k < m) (hf : f k = true) : 0 < cnt m f :=
  List.countP_pos_iff.mpr ⟨k, List.mem_range.mpr hk, hf⟩

theorem cnt_any (m : Nat) (f : Nat → Bool) : (List.range m).any f = true ↔ 0 < cnt m f := by
  rw [List.any_eq_true]; exact List.countP_pos_iff.symm

theorem cnt_update (m : Nat) (f : Nat → Bool) (i : Nat) (hi : i < m) (v : Bool) :
    cnt m (fun j => if j = i then v else f j) + b2n (f i) = cnt m f + b2n v := by
  induction m with
  | zero => omega
  | succ m ih =>
    rw [cnt_succ, cnt_succ]
    by_cases him : m = i
    · subst him
      rw [cnt_congr m _ f fun j hj => if_neg (by omega), if_pos rfl]
      omega
    · rw [if_neg him]
      have := ih (by omega)
      omega

theorem cnt_lt (m : Nat) (f g : Nat → Bool) (h : ∀ i, i < m → f i = true → g i = true)
    (k : Nat) (hk : k < m) (hgk : g k = true) (hfk : f k = false) : cnt m f < cnt m g := by
  have h1 := cnt_update m f k hk true
  have h2 := cnt_mono m (fun j => if j = k then true else f j) g fun j hj hfj => by
    by_cases hjk : j = k
    · rw [hjk, hgk]
    · exact h j hj (by simpa [hjk] using hfj)
  rw [hfk, b2n_false, b2n_true] at h1
  omega

theorem filter_range_nil (m : Nat) (p : Nat → Bool) (h : ∀ i, i < m → p i = false) :
    (List.range m).filter p = [] :=
  List.filter_eq_nil_iff.mpr fun i hi => by simp [h i (List.mem_range.mp hi)]

theorem filter_range_unique (m : Nat) (p : Nat → Bool) (k : Nat) (hk : k < m) (hp : p k = true)
    (hu : ∀ i, i < m → p i = true → i = k) : (List.range m).filter p = [k] := by
  induction m with
  | zero => omega
  | succ m ih =>
    rw [List.range_succ, List.filter_append]
    by_cases hkm : k = m
    · subst hkm
      rw [filter_range_nil k p fun i hi =>
        Bool.eq_false_iff.mpr fun hpi => by have := hu i (by omega) hpi; omega]
      simp [hp]
    · rw [ih (by omega) fun i hi => hu i (by omega)]
      have : p m = false := Bool.eq_false_iff.mpr fun hpm => by have := hu m (by omega) hpm; omega
      simp [this]

theorem mem_filter_range (m : Nat) (p : Nat → Bool) (i : Nat) :
    i ∈ (List.range m).filter p ↔ i < m ∧ p i = true := by
  simp [List.mem_filter]

theorem mem_insertU (x a : Nat) (l : List Nat) : x ∈ insertU a l ↔ x = a ∨ x ∈ l := by
  induction l with
  | nil => simp [insertU]
  | cons y ys ih =>
    unfold insertU
    split
    · simp
    · split
      next h => simp [h]
      next => simp [ih, or_left_comm]

theorem mem_unique (x : Nat) (l : List Nat) : x ∈ unique l ↔ x ∈ l := by
  induction l with
  | nil => simp [unique]
  | cons a l ih => rw [show unique (a :: l) = insertU a (unique l) from rfl, mem_insertU, ih]; simp

theorem pairwise_insertU (a : Nat) (l : List Nat) (h : l.Pairwise (· < ·)) :
    (insertU a l).Pairwise (· < ·) := by
  induction l with
  | nil => simp [insertU]
  | cons y ys ih =>
    have hy := List.pairwise_cons.mp h
    unfold insertU
    split
    next h1 =>
      exact List.pairwise_cons.mpr ⟨fun z hz => by
        rcases List.mem_cons.mp hz with rfl | hz
        · exact h1
        · exact Nat.lt_trans h1 (hy.1 z hz), h⟩
    next h1 =>
      split
      · exact h
      next h2 =>
        refine List.pairwise_cons.mpr ⟨fun z hz => ?_, ih hy.2⟩
        rcases (mem_insertU z a ys).mp hz with rfl | hz
        · omega
        · exact hy.1 z hz

theorem pairwise_unique (l : List Nat) : (unique l).Pairwise (· < ·) := by
  induction l with
  | nil => exact List.Pairwise.nil
  | cons a l ih => exact pairwise_insertU a _ ih

theorem nodup_unique (l : List Nat) : (unique l).Nodup :=
  (pairwise_unique l).imp Nat.ne_of_lt

theorem mem_sunion (x : Int) (a b : List Int) : x ∈ sunion a b ↔ x ∈ a ∨ x ∈ b := by
  unfold sunion
  induction b generalizing a with
  | nil => simp
  | cons y ys ih =>
    rw [List.foldl_cons, ih]
    split
    next h =>
      have : x = y → x ∈ a := fun e => e ▸ h
      simp only [List.mem_cons]
      exact ⟨fun h => h.imp_right Or.inr, fun h => h.elim Or.inl fun h => h.elim (Or.inl ∘ this) Or.inr⟩
    next => simp [or_assoc]

theorem nodup_sunion (a b : List Int) (ha : a.Nodup) : (sunion a b).Nodup := by
  unfold sunion
  induction b generalizing a with
  | nil => exact ha
  | cons y ys ih =>
    rw [List.foldl_cons]
    apply ih
    split
    · exact ha
    next h => exact List.nodup_append.mpr ⟨ha, by simp, fun x hx z hz => by
        rw [List.mem_singleton.mp hz]; exact fun e => h (e ▸ hx)⟩

theorem cnt_single (m : Nat) (f : Nat → Bool) (k : Nat) (hk : k < m)
    (h : ∀ i, f i = true → i = k) : cnt m f = b2n (f k) := by
  have h1 := cnt_update m (fun _ => false) k hk (f k)
  rw [cnt_eq_zero m _ fun _ _ => rfl, b2n_false] at h1
  rw [cnt_congr m f (fun j => if j = k then f k else false) fun i _ => by
    split
    next e => rw [e]
    next e => exact Bool.eq_false_iff.mpr fun hi => e (h i hi)]
  omega

theorem countP_or_disjoint {α : Type} (l : List α) (p q : α → Bool)
    (h : ∀ a, a ∈ l → ¬ (p a = true ∧ q a = true)) :
    l.countP (fun a => p a || q a) = l.countP p + l.countP q := by
  induction l with
  | nil => rfl
  | cons a l ih =>
    simp only [List.countP_cons]
    rw [ih (fun b hb => h b (by simp [hb]))]
    have := h a (by simp)
    cases hp : p a <;> cases hq : q a <;> simp_all <;> omega

theorem countP_congr' {α : Type} (l : List α) (p q : α → Bool) (h : ∀ a, a ∈ l → p a = q a) :
    l.countP p = l.countP q :=
  List.countP_congr fun a ha => by rw [h a ha]

theorem countP_eq_nodup (l : List Nat) (hl : l.Nodup) (s : Nat) (g : Nat → Bool) :
    l.countP (fun c => g c && decide (s = c)) = if s ∈ l then b2n (g s) else 0 := by
  induction l with
  | nil => rfl
  | cons a l ih =>
    rw [List.nodup_cons] at hl
    simp only [List.countP_cons, ih hl.2]
    by_cases hsa : s = a
    · subst hsa
      cases hg : g s <;> simp [hl.1]
    · simp [hsa]

end Panqec.UF
