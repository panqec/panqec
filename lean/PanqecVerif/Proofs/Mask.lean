/-
Soundness of the executable packed-bitmask validity checker `checkValid` (Model/Mask.lean)
with respect to the list-level definition `ValidCodeL` (Proofs/ValidCode.lean), and of
`reportedDistanceOK` with respect to `distance` (Model/Code.lean).  Core Lean only.
-/
import PanqecVerif.Proofs.MaskPrimitives
import PanqecVerif.Proofs.MaskSelect

namespace Panqec

theorem rowsFit_sound (n : Nat) (rows : List Nat) (h : rowsFit n rows = true) :
    ∀ r ∈ rows, r < 2 ^ (2 * n) := by
  simpa [rowsFit] using h

theorem wfRows_map_unpack (n : Nat) (rows : List Nat) :
    WFRows n (rows.map (unpackBits (2 * n))) :=
  List.forall_mem_map.mpr fun _ _ => ⟨unpackBits_length _ _, unpackBits_binary _ _⟩

theorem getD_map_unpack (w : Nat) (xs : List Nat) (i : Nat) (hi : i < xs.length) :
    (xs.map (unpackBits w)).getD i [] = unpackBits w (xs.getD i 0) :=
  getD_map_of_lt _ xs 0 [] hi

theorem allPairs_sound (n : Nat) (as bs : List Nat)
    (h : allPairs as bs (fun a b => sympMask n a b == 0) = true) :
    ∀ a ∈ as.map (unpackBits (2 * n)), ∀ b ∈ bs.map (unpackBits (2 * n)), symp a b = 0 := by
  simp only [allPairs, List.all_eq_true, beq_iff_eq] at h
  refine List.forall_mem_map.mpr fun x hx => List.forall_mem_map.mpr fun y hy => ?_
  rw [← sympMask_eq_symp']
  exact h x hx y hy

theorem pairingOK_sound (n : Nat) (xs ys : List Nat) (h : pairingOK n xs ys = true) :
    ∀ i j, i < xs.length → j < ys.length →
      symp ((xs.map (unpackBits (2 * n))).getD i []) ((ys.map (unpackBits (2 * n))).getD j [])
        = if i = j then 1 else 0 := by
  intro i j hi hj
  simp only [pairingOK, List.all_eq_true, List.mem_range, beq_iff_eq] at h
  rw [getD_map_unpack _ _ _ hi, getD_map_unpack _ _ _ hj, ← sympMask_eq_symp']
  exact h i hi j hj

theorem dualOK_indep (n : Nat) (rows dual : List Nat) (h : dualOK n rows dual = true) :
    Indep (2 * n) (rows.map (unpackBits (2 * n))) := by
  simp only [dualOK, Bool.and_eq_true, beq_iff_eq] at h
  apply indep_of_dual n _ (dual.map (unpackBits (2 * n))) (wfRows_map_unpack n rows)
  · simpa using h.1
  · intro i j hi hj
    exact pairingOK_sound n rows dual h.2 i j (by simpa using hi) (by simpa using hj)

/-- the picked generators are independent by their dual family, and every generator is a combination of
    them -/
theorem rankCertOK_sound (c : MaskCode) (rc : RankCert) (h : rankCertOK c rc = true) :
    HasRank (2 * c.n) (c.stabs.map (unpackBits (2 * c.n))) (c.n - c.k) ∧ c.k ≤ c.n := by
  simp only [rankCertOK, Bool.and_eq_true, List.all_eq_true, decide_eq_true_eq, beq_iff_eq,
    List.mem_range] at h
  obtain ⟨⟨⟨⟨⟨hlt, hsorted⟩, hlen⟩, hdual⟩, hcl⟩, hcombo⟩ := h
  refine ⟨⟨(rc.basisIdx.map fun i => c.stabs.getD i 0).map (unpackBits (2 * c.n)),
    ?_, ?_, ?_, ?_⟩, by omega⟩
  · exact (map_getD_sublist 0 c.stabs rc.basisIdx hsorted hlt).map _
  · simp only [List.length_map] at hlen ⊢
    omega
  · exact dualOK_indep c.n _ rc.dual hdual
  · intro v hv
    obtain ⟨m, hm, rfl⟩ := List.mem_map.mp hv
    obtain ⟨i, hi, rfl⟩ := List.mem_iff_getElem.mp hm
    have hx := hcombo i hi
    have hg : c.stabs.getD i 0 = c.stabs[i] := by simp [List.getD_eq_getElem?_getD, hi]
    rw [hg] at hx
    rw [← hx]
    exact inSpan_unpack_xorSelect _ _ _

theorem checkValid_sound (c : MaskCode) (rc : RankCert) (h : checkValid c rc = true) :
    ValidCodeL c.n c.k (c.stabs.map (unpackBits (2 * c.n)))
      (c.logX.map (unpackBits (2 * c.n))) (c.logZ.map (unpackBits (2 * c.n))) := by
  simp only [checkValid, Bool.and_eq_true, beq_iff_eq] at h
  obtain ⟨⟨⟨⟨⟨⟨⟨⟨⟨⟨⟨_hfS, _hfX⟩, _hfZ⟩, hkX⟩, hkZ⟩, hSS⟩, hXS⟩, hZS⟩, hP⟩, hXX⟩, hZZ⟩, hR⟩ := h
  obtain ⟨hrank, hk⟩ := rankCertOK_sound c rc hR
  exact {
    wfH := wfRows_map_unpack _ _
    wfX := wfRows_map_unpack _ _
    wfZ := wfRows_map_unpack _ _
    kX := by simpa using hkX
    kZ := by simpa using hkZ
    stab_comm := allPairs_sound _ _ _ hSS
    logX_comm := allPairs_sound _ _ _ hXS
    logZ_comm := allPairs_sound _ _ _ hZS
    pairing := fun i j hi hj =>
      pairingOK_sound _ _ _ hP i j (by omega) (by omega)
    logXX := allPairs_sound _ _ _ hXX
    logZZ := allPairs_sound _ _ _ hZZ
    rank := hrank
    k_le := hk }

/-- `reportedDistanceOK` takes the minimum over `logX ++ logZ`, `distance` the minimum of the
    two minima; they agree when both lists are non-empty (equal lengths, k ≥ 1), and for
    k = 0 `reportedDistanceOK` is `false`. -/
theorem reportedDistanceOK_sound (c : MaskCode)
    (hlen : c.logX.length = c.logZ.length) (h : reportedDistanceOK c = true) :
    distance (c.logX.map (unpackBits (2 * c.n))) (c.logZ.map (unpackBits (2 * c.n)))
      = some c.d := by
  have hw : weightMask c.n = fun a => rowWeight (unpackBits (2 * c.n) a) :=
    funext (weightMask_eq' c.n)
  unfold reportedDistanceOK at h
  rw [hw] at h
  unfold distance
  simp only [List.map_map]
  cases hx : c.logX with
  | nil =>
    cases hz : c.logZ with
    | nil => simp [hx, hz, listMin] at h
    | cons z zs => simp [hx, hz] at hlen
  | cons x xs =>
    cases hz : c.logZ with
    | nil => simp [hx, hz] at hlen
    | cons z zs =>
      rw [hx, hz, List.map_append, List.map_cons, List.map_cons, listMin_append_cons] at h
      simp only [beq_iff_eq] at h
      simp only [List.map_cons, listMin, Function.comp_def]
      rw [← h]

theorem reportedDistanceOK_sound_of_checkValid (c : MaskCode) (rc : RankCert)
    (hv : checkValid c rc = true) (h : reportedDistanceOK c = true) :
    distance (c.logX.map (unpackBits (2 * c.n))) (c.logZ.map (unpackBits (2 * c.n)))
      = some c.d := by
  simp only [checkValid, Bool.and_eq_true, beq_iff_eq] at hv
  obtain ⟨⟨⟨⟨⟨⟨⟨⟨⟨_, hkX⟩, hkZ⟩, _⟩, _⟩, _⟩, _⟩, _⟩, _⟩, _⟩ := hv
  exact reportedDistanceOK_sound c (by omega) h

theorem reportedDistanceOK_k0 (c : MaskCode) (hX : c.logX = []) (hZ : c.logZ = []) :
    reportedDistanceOK c = false ∧
    distance (c.logX.map (unpackBits (2 * c.n))) (c.logZ.map (unpackBits (2 * c.n))) = none := by
  simp [reportedDistanceOK, distance, listMin, hX, hZ]

/-! ### non-vacuity: the [[4,2,2]] code -/

/-- `XXXX`, `ZZZZ`; `X̄₁ = X₀X₁`, `X̄₂ = X₀X₂`, `Z̄₁ = Z₀Z₂`, `Z̄₂ = Z₀Z₁`
    (bit `j` = X on qubit `j`, bit `4 + j` = Z on qubit `j`). -/
def code422 : MaskCode :=
  { n := 4, k := 2, stabs := [0x0F, 0xF0], logX := [0x03, 0x05], logZ := [0x50, 0x30], d := 2 }

/-- both generators are picked; `Z₀` is dual to `XXXX`, `X₀` is dual to `ZZZZ` -/
def cert422 : RankCert := { basisIdx := [0, 1], dual := [0x10, 0x01], combo := [1, 2] }

example : checkValid code422 cert422 = true := by decide
example : reportedDistanceOK code422 = true := by decide

/-- so the unpacked [[4,2,2]] code is a valid code -/
example : ValidCodeL 4 2 [[1,1,1,1,0,0,0,0], [0,0,0,0,1,1,1,1]]
    [[1,1,0,0,0,0,0,0], [1,0,1,0,0,0,0,0]] [[0,0,0,0,1,0,1,0], [0,0,0,0,1,1,0,0]] :=
  checkValid_sound code422 cert422 (by decide)

example : distance [[1,1,0,0,0,0,0,0], [1,0,1,0,0,0,0,0]]
    [[0,0,0,0,1,0,1,0], [0,0,0,0,1,1,0,0]] = some 2 :=
  reportedDistanceOK_sound_of_checkValid code422 cert422 (by decide) (by decide)

/-- a redundant generator (`YYYY = XXXX·ZZZZ`) is accepted with a two-element basis -/
example : checkValid { code422 with stabs := [0x0F, 0xF0, 0xFF] }
    { basisIdx := [0, 1], dual := [0x10, 0x01], combo := [1, 2, 3] } = true := by decide

/-- swapped logical Z's: the pairing clause fails -/
example : checkValid { code422 with logZ := [0x30, 0x50] } cert422 = false := by decide
example : pairingOK 4 [0x03, 0x05] [0x30, 0x50] = false := by decide

/-- a generator that anticommutes with another one: the commutation clause fails -/
example : checkValid { code422 with stabs := [0x0F, 0x10] } cert422 = false := by decide

/-- a wrong dual certificate (does not anticommute with its generator): the rank clause fails -/
example : checkValid code422 { cert422 with dual := [0x01, 0x10] } = false := by decide

/-- unsorted basis indices are rejected (`basisIdxSorted`) -/
example : rankCertOK code422 { basisIdx := [1, 0], dual := [0x01, 0x10], combo := [2, 1] }
    = false := by decide

/-- wrong `k`: three independent generators on 4 qubits do not have rank `n - k = 2`
    (the dual family is fine, only the count fails) -/
example : dualOK 4 [0x0F, 0xF0, 0x30] [0x10, 0x08, 0x06] = true := by decide
example : rankCertOK { code422 with stabs := [0x0F, 0xF0, 0x30] }
    { basisIdx := [0, 1, 2], dual := [0x10, 0x08, 0x06], combo := [1, 2, 4] } = false := by decide
example : rankCertOK { code422 with stabs := [0x0F, 0xF0, 0x30], k := 1 }
    { basisIdx := [0, 1, 2], dual := [0x10, 0x08, 0x06], combo := [1, 2, 4] } = true := by decide

/-- a wrong reported distance is rejected -/
example : reportedDistanceOK { code422 with d := 3 } = false := by decide

/-- the fold count is enough and the folded parity is the bit parity on a sample -/
example : sympMask 4 0x0F 0x10 = 1 := by decide
example : weightMask 4 0x33 = 2 := by decide

end Panqec
