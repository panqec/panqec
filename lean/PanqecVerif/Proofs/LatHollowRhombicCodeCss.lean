/-
`HollowRhombicCode`, `Lx, Ly ≥ 1`, `Lz ≥ 3`: the class in CSS form (`css`: `Lattice.Css`), from which
`Lattice.WF` and `Lattice.CommPair`; the supported family
`C01HollowRhombicCode.Family`.
-/
import PanqecVerif.Proofs.LatHollowRhombicCodeSheets
import PanqecVerif.Proofs.LatCss


namespace Panqec.HollowRhombicCode
open Panqec.Cubic3D
open Panqec.Planar3DCode (inE inO inE2 inO1)

/-- a listed cube has at least one key: the x edge `(cx, y', cz ± 1)` or the z edge `(cx ± 1, y', cz)`
    on a side where the cube sticks out of the hole -/
theorem cubeKeys_ne_nil {Lx Ly Lz : Nat} (hy : 1 ≤ Ly) {cx cy cz : Int}
    (hc : CubeLoc Lx Ly Lz cx cy cz) : cubeKeys Lx Ly Lz cx cy cz ≠ [] := by
  unfold CubeLoc at hc
  obtain ⟨c1, c2, c3, c4, c5⟩ := hc
  suffices h : ∃ a b c, [a, b, c] ∈ cubeCands cx cy cz ∧ [a, b, c] ∈ qubits Lx Ly Lz by
    obtain ⟨a, b, c, h1, h2⟩ := h
    intro he
    have : [a, b, c] ∈ cubeKeys Lx Ly Lz cx cy cz := List.mem_filter.mpr ⟨h1, isq_iff.mpr h2⟩
    rw [he] at this
    exact absurd this (by simp)
  -- an x edge `(cx, y', z')` with `y' = cy ± 1` inside the lattice
  have xedge : ∀ y' z', (y' = cy + 1 ∨ y' = cy - 1) → (z' = cz + 1 ∨ z' = cz - 1) →
      0 ≤ y' → y' < 2 * (Ly : Int) → ¬ Hole Lx Ly Lz cx y' z' →
      ∃ a b c, [a, b, c] ∈ cubeCands cx cy cz ∧ [a, b, c] ∈ qubits Lx Ly Lz := by
    intro y' z' hy' hz' h0 h1 hh
    refine ⟨cx, y', z', mem_cubeCands.mpr (Or.inl ⟨rfl, hy', hz'⟩), ?_⟩
    rw [mem_qubits_x c1.2.2 (by omega) (by omega)]
    unfold Qx
    exact ⟨by omega, by omega, h0, h1, by omega, by omega, hh⟩
  -- a z edge `(x', y', cz)`
  have zedge : ∀ x' y', (x' = cx + 1 ∨ x' = cx - 1) → (y' = cy + 1 ∨ y' = cy - 1) →
      2 ≤ x' → x' < 2 * (Lx : Int) → 0 ≤ y' → y' < 2 * (Ly : Int) → ¬ Hole Lx Ly Lz x' y' cz →
      ∃ a b c, [a, b, c] ∈ cubeCands cx cy cz ∧ [a, b, c] ∈ qubits Lx Ly Lz := by
    intro x' y' hx' hy' h0 h1 h2 h3 hh
    refine ⟨x', y', cz, mem_cubeCands.mpr (Or.inr (Or.inr ⟨rfl, hx', hy'⟩)), ?_⟩
    rw [mem_qubits_z (by omega) (by omega) c3.2.2]
    unfold Qz
    exact ⟨h0, h1, h2, h3, by omega, by omega, hh⟩
  by_cases hlow : 0 ≤ cy - 1
  · -- `y' = cy − 1` is inside the lattice
    by_cases h1 : Hole Lx Ly Lz cx (cy - 1) (cz + 1)
    · by_cases h2 : Hole Lx Ly Lz cx (cy - 1) (cz - 1)
      · by_cases h3 : Hole Lx Ly Lz (cx - 1) (cy - 1) cz
        · by_cases h4 : Hole Lx Ly Lz (cx + 1) (cy - 1) cz
          · -- the whole lower side is in the hole: the upper side is not
            have h5 : ¬ Hole Lx Ly Lz cx (cy + 1) (cz + 1) := by
              intro h5
              apply c5
              unfold Hole at *
              omega
            exact xedge (cy + 1) (cz + 1) (Or.inl rfl) (Or.inl rfl) (by omega)
              (by unfold Hole at h1; omega) h5
          · exact zedge (cx + 1) (cy - 1) (Or.inl rfl) (Or.inr rfl) (by omega)
              (by unfold Hole at h1; omega) (by omega) (by omega) h4
        · exact zedge (cx - 1) (cy - 1) (Or.inr rfl) (Or.inr rfl) (by unfold Hole at h1; omega)
            (by omega) (by omega) (by omega) h3
      · exact xedge (cy - 1) (cz - 1) (Or.inr rfl) (Or.inr rfl) (by omega) (by omega) h2
    · exact xedge (cy - 1) (cz + 1) (Or.inr rfl) (Or.inl rfl) (by omega) (by omega) h1
  · -- `cy = −1`: the x edge `(cx, 0, cz + 1)` is outside the hole
    exact xedge (cy + 1) (cz + 1) (Or.inl rfl) (Or.inl rfl) (by omega) (by omega)
      (by unfold Hole; omega)

theorem triKeys_ne_nil {Lx Ly Lz : Nat} {a x y z : Int} (hv : VertexLoc Lx Ly Lz x y z)
    (hk : TriKeep Lx Ly Lz (TX Lx Ly Lz a x y z) (TY Lx Ly Lz a x y z) (TZ Lx Ly Lz a x y z) x y z) :
    triKeys Lx Ly Lz a x y z ≠ [] := by
  unfold VertexLoc inE2 inE at hv
  rw [triKeys_eq hv.1.2.2 hv.2.1.2.2 hv.2.2.2.2]
  unfold TriKeep at hk
  rcases hk.1 with h | h | h
  · simp [h.1]
  · simp [h.1]
  · simp [h.1]

/-- the key list of a listed triangle / of a listed cube -/
def IsTriKeys (Lx Ly Lz : Nat) (k : List Coord) : Prop :=
  ∃ a x y z, (0 ≤ a ∧ a < 4) ∧ VertexLoc Lx Ly Lz x y z ∧
    TriKeep Lx Ly Lz (TX Lx Ly Lz a x y z) (TY Lx Ly Lz a x y z) (TZ Lx Ly Lz a x y z) x y z ∧
    k = triKeys Lx Ly Lz a x y z
def IsCubeKeys (Lx Ly Lz : Nat) (k : List Coord) : Prop :=
  ∃ x y z, CubeLoc Lx Ly Lz x y z ∧ k = cubeKeys Lx Ly Lz x y z

section
variable {Lx Ly Lz : Nat} (hx : 1 ≤ Lx) (hy : 1 ≤ Ly) (hz : 3 ≤ Lz)
include hx hy hz

/-- triangles carry Z, cubes X (both truncated at the boundaries and at the hole), the logical X is
    the sheet `z = 4`, the logical Z the line `(2Lx−1, 2Ly−2, ·)` -/
theorem css : (lattice Lx Ly Lz).Css (IsTriKeys Lx Ly Lz) (IsCubeKeys Lx Ly Lz)
    (· = sheetKeys Lx Ly Lz) (· = lineKeys Lx Ly Lz) where
  qubits_nodup := qubits_nodup Lx Ly Lz
  stabs_nodup := nodup_stabs Lx Ly Lz
  disjoint := qubits_stabs_disjoint
  stab s hs := by
    rcases mem_stabs.mp hs with ⟨x, y, z, rfl, hc⟩ | ⟨a, x, y, z, rfl, ha, hv, hk⟩
    · exact .inr ⟨_, ⟨x, y, z, hc, rfl⟩, getStab_cube' Lx Ly Lz x y z⟩
    · exact .inl ⟨_, ⟨a, x, y, z, ha, hv, hk, rfl⟩, getStab_tri' Lx Ly Lz ha⟩
  keysZ := by
    rintro _ ⟨a, x, y, z, -, hv, hk, rfl⟩
    exact ⟨nodup_triKeys _ _ _ _ _ _ _, triKeys_ne_nil hv hk, filter_isq_sub _⟩
  keysX := by
    rintro _ ⟨x, y, z, hc, rfl⟩
    exact ⟨nodup_cubeKeys _ _ _ _ _ _, cubeKeys_ne_nil hy hc, filter_isq_sub _⟩
  logX a ha := ⟨_, rfl, mem_logX.mp ha⟩
  logZ a ha := ⟨_, rfl, mem_logZ.mp ha⟩
  keysLX := by rintro _ rfl; exact ⟨sheetKeys_nodup _ _ _, filter_isq_sub _⟩
  keysLZ := by rintro _ rfl; exact ⟨nodup_lineKeys _ _ _, lineKeys_sub hx hy⟩
  zx := by
    rintro _ _ ⟨a, x, y, z, ha, hv, hk, rfl⟩ ⟨cx, cy, cz, hc, rfl⟩
    rw [overlap_eq_ov]; exact cube_tri_even hc ha hv hk
  zLX := by
    rintro _ _ ⟨a, x, y, z, ha, hv, hk, rfl⟩ rfl
    rw [overlap_eq_ov]; exact sheet_tri_even ha hv hk
  xLZ := by
    rintro _ _ ⟨cx, cy, cz, hc, rfl⟩ rfl
    rw [overlap_eq_ov, ov_comm (nodup_cubeKeys _ _ _ _ _ _) (nodup_lineKeys _ _ _)]
    exact line_cube_even hx hy hz hc
  same_k := rfl
  pairing i j hi hj := by
    obtain rfl : i = 0 := Nat.lt_one_iff.mp hi
    obtain rfl : j = 0 := Nat.lt_one_iff.mp hj
    rw [lattice_logX, lattice_logZ]
    show opAntiCount (uop (sheetKeys Lx Ly Lz) Pauli.X) (uop (lineKeys Lx Ly Lz) Pauli.Z) % 2 = 1
    rw [opAntiCount_uop, sheet_line_one hx hy hz]
    rfl

theorem wf_all : (lattice Lx Ly Lz).WF := (css hx hy hz).wf

theorem commPair : (lattice Lx Ly Lz).CommPair := (css hx hy hz).commPair

end

end Panqec.HollowRhombicCode

namespace Panqec.C01HollowRhombicCode

/-- the supported family -/
def Family (Lx Ly Lz : Nat) : Prop := 2 ≤ Lx ∧ 2 ≤ Ly ∧ 3 ≤ Lz

instance (Lx Ly Lz : Nat) : Decidable (Family Lx Ly Lz) := by unfold Family; infer_instance

end Panqec.C01HollowRhombicCode
