/-
Bit-level facts behind `gf2_rank` (`panqec/bpauli.py`): what `lowBit r = r & -r` is,
what the test `row & lsb` decides, and how `bvectorToInt` (big-endian packing) lays the
digits of a row out as bits.  Core Lean only.
-/
import PanqecVerif.Proofs.Bits

namespace Panqec

theorem lowBit_odd (k : Nat) : lowBit (2 * k + 1) = 1 := by
  unfold lowBit
  have h : (2 * k + 1) ^^^ (2 * k + 1 - 1) = 1 := by
    apply Nat.eq_of_testBit_eq
    intro i
    cases i with
    | zero => simp [Nat.testBit_zero]
    | succ i =>
      have e1 : (2 * k + 1) / 2 = k := by omega
      have e2 : (2 * k + 1 - 1) / 2 = k := by omega
      have e3 : (1 : Nat) / 2 = 0 := by omega
      rw [Nat.testBit_succ, Nat.testBit_succ, Nat.xor_div_two, e1, e2, e3]
      simp
  rw [h]; rfl

theorem xor_pred_ne_zero (k : Nat) (hk : k ≠ 0) : k ^^^ (k - 1) ≠ 0 := by
  intro h
  have h1 := @Nat.xor_mod_two_eq_one k (k - 1)
  rw [h] at h1
  omega

theorem lowBit_even (k : Nat) (hk : k ≠ 0) : lowBit (2 * k) = 2 * lowBit k := by
  unfold lowBit
  have h : (2 * k) ^^^ (2 * k - 1) = 2 * (k ^^^ (k - 1)) + 1 := by
    apply Nat.eq_of_testBit_eq
    intro i
    cases i with
    | zero => simp [Nat.testBit_zero]; omega
    | succ i =>
      have e1 : (2 * k) / 2 = k := by omega
      have e2 : (2 * k - 1) / 2 = k - 1 := by omega
      have e3 : (2 * (k ^^^ (k - 1)) + 1) / 2 = k ^^^ (k - 1) := by omega
      rw [Nat.testBit_succ, Nat.testBit_succ, Nat.xor_div_two, e1, e2, e3]
  have hx := xor_pred_ne_zero k hk
  have hlog : (2 * (k ^^^ (k - 1)) + 1).log2 = (k ^^^ (k - 1)).log2 + 1 := by
    have h2 : 2 * (k ^^^ (k - 1)) + 1 ≠ 0 := by omega
    rw [Nat.log2_eq_iff h2]
    have := (Nat.log2_eq_iff hx).mp rfl
    rw [Nat.pow_succ, Nat.pow_succ]
    omega
  rw [h, hlog, Nat.pow_succ, Nat.mul_comm]

def IsLowestBit (r t : Nat) : Prop := r.testBit t = true ∧ ∀ i < t, r.testBit i = false

/-- `lowBit` is `r & -r`: for `r ≠ 0` it is `2 ^ t`, `t` the index of the lowest set
    bit of `r`. -/
theorem lowBit_spec : ∀ (r : Nat), r ≠ 0 → ∃ t, lowBit r = 2 ^ t ∧ IsLowestBit r t := by
  intro r
  induction r using Nat.strongRecOn with
  | _ r ih =>
    intro hr
    rcases Nat.mod_two_eq_zero_or_one r with h | h
    · have hk : r / 2 ≠ 0 := by omega
      have er : r = 2 * (r / 2) := by omega
      obtain ⟨t, ht, hb, hlow⟩ := ih (r / 2) (by omega) hk
      refine ⟨t + 1, ?_, ?_, ?_⟩
      · rw [er, lowBit_even _ hk, ht, Nat.pow_succ, Nat.mul_comm]
      · rw [Nat.testBit_succ]; exact hb
      · intro i hi
        cases i with
        | zero => simp [Nat.testBit_zero, h]
        | succ i => rw [Nat.testBit_succ]; exact hlow i (by omega)
    · have er : r = 2 * (r / 2) + 1 := by omega
      refine ⟨0, ?_, ?_, ?_⟩
      · rw [er, lowBit_odd]
      · simp [Nat.testBit_zero, h]
      · intro i hi; exact absurd hi (Nat.not_lt_zero i)

theorem isLowestBit_unique {r t t' : Nat} (h : IsLowestBit r t) (h' : IsLowestBit r t') :
    t = t' := by
  rcases Nat.lt_trichotomy t t' with hlt | heq | hgt
  · have := h'.2 t hlt; rw [h.1] at this; cases this
  · exact heq
  · have := h.2 t' hgt; rw [h'.1] at this; cases this

/-- the test `row & lsb` of the elimination loop reads bit `t` of the row -/
theorem and_two_pow_ne_zero_iff (r t : Nat) : r &&& 2 ^ t ≠ 0 ↔ r.testBit t = true := by
  constructor
  · intro h
    cases hb : r.testBit t with
    | true => rfl
    | false =>
      exfalso; apply h
      apply Nat.eq_of_testBit_eq
      intro i
      rw [Nat.testBit_and, Nat.testBit_two_pow, Nat.zero_testBit]
      by_cases hti : t = i
      · subst hti; simp [hb]
      · simp [hti]
  · intro hb h
    have : (r &&& 2 ^ t).testBit t = true := by
      rw [Nat.testBit_and, Nat.testBit_two_pow_self, hb]; rfl
    rw [h, Nat.zero_testBit] at this
    cases this

theorem lt_two_pow_of_isLowestBit {r t w : Nat} (h : IsLowestBit r t) (hr : r < 2 ^ w) :
    t < w := by
  rcases Nat.lt_or_ge t w with h1 | h1
  · exact h1
  · have h2 : r < 2 ^ t := Nat.lt_of_lt_of_le hr (Nat.pow_le_pow_right (by omega) h1)
    have := Nat.testBit_lt_two_pow h2
    rw [h.1] at this; cases this

theorem testBit_bvectorToInt_reverse : ∀ (u : List Nat), (∀ x ∈ u, x < 2) → ∀ i,
    (bvectorToInt u.reverse).testBit i = decide (u.getD i 0 = 1) := by
  intro u
  induction u with
  | nil => intro _ i; simp [bvectorToInt]
  | cons b u ih =>
    intro h i
    have hb : b < 2 := h b (by simp)
    have ih' := ih (fun x hx => h x (by simp [hx]))
    rw [List.reverse_cons, bvectorToInt_append]
    cases i with
    | zero =>
      simp only [Nat.testBit_zero, List.getD_cons_zero]
      congr 1
      apply propext
      omega
    | succ i =>
      have e : (2 * bvectorToInt u.reverse + b) / 2 = bvectorToInt u.reverse := by omega
      rw [Nat.testBit_succ, e, ih' i]
      simp

theorem testBit_bvectorToInt (v : List Nat) (h : ∀ x ∈ v, x < 2) (i : Nat) :
    (bvectorToInt v).testBit i = decide (v.reverse.getD i 0 = 1) := by
  have := testBit_bvectorToInt_reverse v.reverse (fun x hx => h x (by simpa using hx)) i
  simpa using this

end Panqec
