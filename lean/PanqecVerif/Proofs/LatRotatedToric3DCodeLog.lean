/-
`RotatedToric3DCode`: the logical operators.  A comprehension over `qubit_coordinates` is the
constant-letter operator on the filtered qubit list (`LK`), `_deform_operator` changes nothing (a
location cannot have `x == 2*Lx` and `x == 1` at once), so `get_logicals_x` / `get_logicals_z` are
lists of one or two line / plane operators depending on the parities of `Lx`, `Ly`.
-/
import PanqecVerif.Proofs.LatRotatedToric3DCodeKinds
open Panqec Panqec.Lat3Db
namespace Panqec.RotatedToric3DCode


def flt (f : Int → Int → Int → Bool) : Coord → Bool
  | [x, y, z] => f x y z
  | _ => false

/-- key list of `{(x, y, z): p for x, y, z in self.qubit_coordinates if f(x, y, z)}` -/
def LK (Lx Ly Lz : Nat) (f : Int → Int → Int → Bool) : List Coord :=
  (qubits Lx Ly Lz).filter (flt f)

theorem LK_nodup (Lx Ly Lz : Nat) (f : Int → Int → Int → Bool) : (LK Lx Ly Lz f).Nodup :=
  (qubits_nodup Lx Ly Lz).filter _

theorem LK_sub {Lx Ly Lz : Nat} {f : Int → Int → Int → Bool} {q : Coord} (h : q ∈ LK Lx Ly Lz f) :
    q ∈ qubits Lx Ly Lz := (List.mem_filter.mp h).1

theorem mem_LK {Lx Ly Lz : Nat} {f : Int → Int → Int → Bool} {x y z : Int} :
    [x, y, z] ∈ LK Lx Ly Lz f ↔ [x, y, z] ∈ qubits Lx Ly Lz ∧ f x y z = true := by
  unfold LK; rw [List.mem_filter]; rfl

theorem comprehension_eq (Lx Ly Lz : Nat) (f : Int → Int → Int → Bool) (p : Pauli) :
    comprehension Lx Ly Lz f p = constOp (LK Lx Ly Lz f) p := by
  unfold comprehension
  exact dictOf_eq _ _ (LK_nodup Lx Ly Lz f)

theorem deformOperator_id {Lx Ly : Nat} (op : Op) :
    deformOperator Lx Ly op = op := by
  unfold deformOperator
  conv => rhs; rw [← List.map_id op]
  apply List.map_congr_left
  intro e _
  rcases e with ⟨k, p⟩
  simp only [id]
  split
  · rename_i x y _ hk
    have h1 : ((onDefectBoundary Lx Ly x y).1 && x == 1) = false := by
      unfold onDefectBoundary
      by_cases hx : x = 1
      · have : ¬ (x = 2 * (Lx : Int)) := by omega
        simp [this]
      · simp [hx]
    have h2 : ((onDefectBoundary Lx Ly x y).2 && y == 1) = false := by
      unfold onDefectBoundary
      by_cases hy : y = 1
      · have : ¬ (y = 2 * (Ly : Int)) := by omega
        simp [this]
      · simp [hy]
    rw [h1, h2]; rfl
  · rfl

/-- `y == 1 and z == 1` -/
def fXy : Int → Int → Int → Bool := fun _ y z => y == 1 && z == 1
/-- `x == 1 and z == 1` -/
def fXx : Int → Int → Int → Bool := fun x _ z => x == 1 && z == 1
/-- `x == 1` -/
def fZx : Int → Int → Int → Bool := fun x _ _ => x == 1
/-- `y == 1` -/
def fZy : Int → Int → Int → Bool := fun _ y _ => y == 1
/-- `(Lx % 2 == 1 and y == 1) or (Ly % 2 == 1 and x == 1)` -/
def fY (Lx Ly : Nat) : Int → Int → Int → Bool :=
  fun x y _ => (Lx % 2 == 1 && y == 1) || (Ly % 2 == 1 && x == 1)

section forms
variable {Lx Ly Lz : Nat}

theorem logX_EE (hx : Lx % 2 = 0) (hy : Ly % 2 = 0) :
    logX Lx Ly Lz = [constOp (LK Lx Ly Lz fXy) .X, constOp (LK Lx Ly Lz fXx) .X] := by
  unfold logX
  simp only [hx, hy, beq_self_eq_true, Bool.and_self, if_true, deformOperator_id,
    comprehension_eq]
  rfl

theorem logZ_EE (hx : Lx % 2 = 0) (hy : Ly % 2 = 0) :
    logZ Lx Ly Lz = [constOp (LK Lx Ly Lz fZx) .Z, constOp (LK Lx Ly Lz fZy) .Z] := by
  unfold logZ
  simp only [hx, hy, beq_self_eq_true, Bool.and_self, if_true, comprehension_eq]
  rfl

theorem logX_OE (hx : Lx % 2 = 1) (hy : Ly % 2 = 0) :
    logX Lx Ly Lz = [constOp (LK Lx Ly Lz fXx) .X] := by
  unfold logX
  have e1 : (Lx % 2 == 0) = false := by simp [hx]
  have e2 : (Ly % 2 == 1) = false := by simp [hy]
  have e3 : (Lx % 2 == 1) = true := by simp [hx]
  simp only [e1, e2, e3, Bool.false_and, Bool.and_false, Bool.false_eq_true, if_false, if_true,
    deformOperator_id, comprehension_eq]
  rfl

theorem logX_EO (hx : Lx % 2 = 0) (hy : Ly % 2 = 1) :
    logX Lx Ly Lz = [constOp (LK Lx Ly Lz fXy) .X] := by
  unfold logX
  have e1 : (Ly % 2 == 0) = false := by simp [hy]
  have e2 : (Lx % 2 == 1) = false := by simp [hx]
  simp only [e1, e2, Bool.false_and, Bool.and_false, Bool.false_eq_true, if_false,
    deformOperator_id, comprehension_eq]
  rfl

theorem logZ_odd (h : ¬ (Lx % 2 = 0 ∧ Ly % 2 = 0)) (hfam : ¬ (Lx % 2 = 1 ∧ Ly % 2 = 1)) :
    logZ Lx Ly Lz = [constOp (LK Lx Ly Lz (fY Lx Ly)) .Y] := by
  unfold logZ
  have e1 : (Lx % 2 == 0 && Ly % 2 == 0) = false := by
    rw [Bool.and_eq_false_iff]
    by_cases hx : Lx % 2 = 0
    · right; have : ¬ Ly % 2 = 0 := fun hy => h ⟨hx, hy⟩
      simpa using this
    · left; simpa using hx
  have e2 : (Lx % 2 == 1 && Ly % 2 == 1) = false := by
    rw [Bool.and_eq_false_iff]
    by_cases hx : Lx % 2 = 1
    · right; have : ¬ Ly % 2 = 1 := fun hy => hfam ⟨hx, hy⟩
      simpa using this
    · left; simpa using hx
  simp only [e1, e2, Bool.false_eq_true, if_false, comprehension_eq]
  rfl

end forms

theorem logX_form {Lx Ly Lz : Nat} {a : Op} (ha : a ∈ logX Lx Ly Lz) :
    ∃ f, a = constOp (LK Lx Ly Lz f) Pauli.X := by
  unfold logX at ha
  simp only [deformOperator_id, comprehension_eq] at ha
  repeat' split at ha
  all_goals
    simp only [List.mem_cons, List.not_mem_nil, or_false] at ha
    rcases ha with rfl | rfl <;> exact ⟨_, rfl⟩

theorem logZ_form {Lx Ly Lz : Nat} :
    ∃ p, p ≠ Pauli.I ∧ ∀ a ∈ logZ Lx Ly Lz, ∃ f, a = constOp (LK Lx Ly Lz f) p := by
  unfold logZ
  simp only [comprehension_eq]
  repeat' split
  · exact ⟨.Z, by decide, fun a ha => by
      simp only [List.mem_cons, List.not_mem_nil, or_false] at ha
      rcases ha with rfl | rfl <;> exact ⟨_, rfl⟩⟩
  · exact ⟨.Z, by decide, fun a ha => ⟨_, List.mem_singleton.mp ha⟩⟩
  · exact ⟨.Y, by decide, fun a ha => ⟨_, List.mem_singleton.mp ha⟩⟩

theorem logical_form {Lx Ly Lz : Nat} {a : Op} (ha : a ∈ logX Lx Ly Lz ++ logZ Lx Ly Lz) :
    ∃ f p, a = constOp (LK Lx Ly Lz f) p ∧ p ≠ Pauli.I := by
  rcases List.mem_append.mp ha with ha | ha
  · obtain ⟨f, rfl⟩ := logX_form ha
    exact ⟨f, _, rfl, by decide⟩
  · obtain ⟨p, hp, h⟩ := logZ_form (Lx := Lx) (Ly := Ly) (Lz := Lz)
    obtain ⟨f, rfl⟩ := h a ha
    exact ⟨f, p, rfl, hp⟩

end Panqec.RotatedToric3DCode
