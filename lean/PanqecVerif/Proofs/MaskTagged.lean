/-
`checkValidT`: `checkValidFast` (Model/Mask.lean) with every entry of the table read through
`tagNat`, and the proof that the two are the same function.  The instance theorems
(`Instances/<Class>.lean`) evaluate `checkValidT`; `instances_soundT` is `instances_sound` read
through `checkValidT_eq`.

Why: the kernel keeps every reduct in a cache keyed by the term, and the key of a `Nat` literal is
its low 32 bits (see `tagNat`).  Every Z-type row, every row supported on qubits `≥ 32` and every
selection mask over generators `≥ 32` has low word 0, so terms that differ only in such a literal
(`r < 2 ^ (2 * n)` for each row `r` in `rowsFit`, `x % W` for each entry in `packLanes`) fall into
one bucket, and the work per entry grows with the number of such entries evaluated before it in
the same `decide`.  `zeroRows`, `deltaRows` and `weightsIdx` avoid this with `tagNat`; `rowsFit` and
`packLanes` do not.  Core Lean only.
-/
import PanqecVerif.Proofs.MaskFast

namespace Panqec

/-- `rows.all (· < B)` with the rows tagged by their index -/
def rowsFitIdx (B : Nat) : List Nat → Nat → Bool
  | [], _ => true
  | x :: xs, i => decide (tagNat i x < B) && rowsFitIdx B xs (i + 1)

/-- `packLanes W` with the entries tagged by their index -/
def packLanesIdx (W : Nat) : List Nat → Nat → Nat
  | [], _ => 0
  | x :: xs, i => W * packLanesIdx W xs (i + 1) + tagNat i x % W

theorem rowsFitIdx_eq (n : Nat) : ∀ (l : List Nat) (i : Nat),
    rowsFitIdx (2 ^ (2 * n)) l i = rowsFit n l
  | [], _ => rfl
  | x :: xs, i => by
    rw [rowsFitIdx, rowsFitIdx_eq n xs (i + 1)]
    rfl

theorem packLanesIdx_eq (W : Nat) : ∀ (l : List Nat) (i : Nat), packLanesIdx W l i = packLanes W l
  | [], _ => rfl
  | x :: xs, i => by rw [packLanesIdx, packLanesIdx_eq W xs (i + 1)]; rfl

/-- `checkValidFast` with `rowsFitIdx`, `packLanesIdx` for `rowsFit`, `packLanes` -/
def checkValidT (c : MaskCode) (rc : RankCert) : Bool :=
  let n := c.n
  let lo := 2 ^ n
  let s := foldsFor (2 * n)
  let W := 2 ^ (2 ^ s)
  let basis := pickSorted rc.basisIdx c.stabs 0
  let S := packLanesIdx W c.stabs 0
  let RS := repunit W c.stabs.length
  let LX := packLanesIdx W c.logX 0
  let RX := repunit W c.logX.length
  let LZ := packLanesIdx W c.logZ 0
  let RZ := repunit W c.logZ.length
  rowsFitIdx (2 ^ (2 * n)) c.stabs 0 &&
  c.logX.length == c.k && c.logZ.length == c.k &&
  basis.length + c.k == n &&
  zeroRows s n lo RS S c.stabs 0 &&
  zeroRows s n lo RS S c.logX 0 &&
  zeroRows s n lo RS S c.logZ 0 &&
  deltaRows s n lo W RZ LZ c.logX 0 1 &&
  zeroRows s n lo RX LX c.logX 0 &&
  zeroRows s n lo RZ LZ c.logZ 0 &&
  rc.dual.length == basis.length &&
  deltaRows s n lo W (repunit W basis.length) (packLanesIdx W basis 0) rc.dual 0 1 &&
  rc.combo.length == c.stabs.length &&
  comboAcc RS basis (packLanesIdx W rc.combo 0) == S

theorem checkValidT_eq (c : MaskCode) (rc : RankCert) : checkValidT c rc = checkValidFast c rc := by
  simp only [checkValidT, checkValidFast, rowsFitIdx_eq, packLanesIdx_eq]

theorem instances_soundT (all : List (MaskCode × RankCert))
    (h : (all.all fun p => checkValidT p.1 p.2 && reportedDistanceFast p.1) = true) :
    ∀ p ∈ all,
      ValidCodeL p.1.n p.1.k (p.1.stabs.map (unpackBits (2 * p.1.n)))
        (p.1.logX.map (unpackBits (2 * p.1.n))) (p.1.logZ.map (unpackBits (2 * p.1.n))) ∧
      distance (p.1.logX.map (unpackBits (2 * p.1.n))) (p.1.logZ.map (unpackBits (2 * p.1.n)))
        = some p.1.d :=
  instances_sound all (by simp only [← checkValidT_eq]; exact h)

end Panqec
