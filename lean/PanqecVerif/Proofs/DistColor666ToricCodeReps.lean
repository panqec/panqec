/-
Color666ToricCode, all square sizes `L ≥ 1`, C17: the representatives as key lists.

For a frame `f` and a colour offset `c`: the `3L` zig-zags `zigK c t` (`t < 3L`, `4L` qubits each)
and the `L` closed straight lines `lineK c m` (`m < L`, `6L` qubits each: both corners `fR`, `fL`
of the faces `(3m + 2s, c + 1 − s)`, `s < 3L` — the faces of the third colour, along the direction
`(2, −1)`).  They are duplicate-free lists of qubits, pairwise disjoint (together they use every
qubit exactly once).  A qubit `fR a j` / `fL a j` lies on the line `m` iff
`a + 2j ≡ 3m + 2c + 2 (mod 3L)` (`OnLine`).
-/
import PanqecVerif.Proofs.DistColor666ToricCodeLadder


namespace Panqec.Color666ToricCode
open Panqec.Lat2D Panqec.Color

def lineK (L : Nat) (f : Bool) (c m : Int) : List Coord :=
  (List.range (3 * L)).flatMap fun (s : Nat) =>
    [fR L f (3 * m + 2 * (s : Int)) (c + 1 - (s : Int)),
     fL L f (3 * m + 2 * (s : Int)) (c + 1 - (s : Int))]

theorem countP_zigK (L : Nat) (f : Bool) (P : Pauli) (b : Op) (c t : Int) :
    (zigK L f c t).countP (opHit P b) = zigS L f P b c t := by
  unfold zigK zigS
  rw [countP_flatMap_range]
  apply rsum_congr
  intro i _
  simp only [List.countP_cons, List.countP_nil, blk]
  unfold ind
  omega

theorem length_lineK (L : Nat) (f : Bool) (c m : Int) : (lineK L f c m).length = 6 * L := by
  unfold lineK
  rw [List.length_flatMap]
  simp
  omega

theorem mem_lineK {L : Nat} {f : Bool} {c m : Int} {q : Coord} :
    q ∈ lineK L f c m ↔ ∃ s : Nat, s < 3 * L ∧
      (q = fR L f (3 * m + 2 * (s : Int)) (c + 1 - (s : Int)) ∨
       q = fL L f (3 * m + 2 * (s : Int)) (c + 1 - (s : Int))) := by
  unfold lineK
  simp only [List.mem_flatMap, List.mem_range, List.mem_cons, List.not_mem_nil, or_false]

theorem lineK_qubits {L : Nat} (hL : 1 ≤ L) (f : Bool) (c m : Int) :
    ∀ q ∈ lineK L f c m, q ∈ qubits L L := by
  intro q hq
  obtain ⟨s, _, rfl | rfl⟩ := mem_lineK.mp hq
  · exact fR_qubit hL f _ _
  · exact fL_qubit hL f _ _

/-- the face `(a, j)` lies on the line `m` of colour offset `c` -/
def OnLine (L : Nat) (c m a j : Int) : Prop := Cg L (a + 2 * j - 3 * m - 2 * c - 2)

instance (L : Nat) (c m a j : Int) : Decidable (OnLine L c m a j) := by
  unfold OnLine Cg; infer_instance

theorem onLine_witness {L : Nat} (hL : 1 ≤ L) {c m a j : Int} (h : OnLine L c m a j) :
    ∃ s : Nat, s < 3 * L ∧ Cg L (a - (3 * m + 2 * (s : Int))) ∧ Cg L (j - (c + 1 - (s : Int))) := by
  have h0 := Int.emod_nonneg (c + 1 - j) (show 3 * (L : Int) ≠ 0 by omega)
  have h1 := Int.emod_lt_of_pos (c + 1 - j) (show (0 : Int) < 3 * (L : Int) by omega)
  have h2 := cg_sub_emod L (c + 1 - j)
  generalize (c + 1 - j) % (3 * (L : Int)) = r at h0 h1 h2
  refine ⟨r.toNat, by omega, ?_, ?_⟩
  · rw [Int.toNat_of_nonneg h0]
    exact (h.add (h2.mul 2)).congr (by unfold OnLine at h; ring)
  · rw [Int.toNat_of_nonneg h0]
    exact h2.neg.congr (by ring)

theorem fR_mem_lineK {L : Nat} (hL : 1 ≤ L) (f : Bool) (c m a j : Int) :
    fR L f a j ∈ lineK L f c m ↔ OnLine L c m a j := by
  rw [mem_lineK]
  constructor
  · rintro ⟨s, _, e | e⟩
    · obtain ⟨h1, h2⟩ := (fR_eq_iff hL f _ _ _ _).mp e
      exact ((h1.add (h2.mul 2)).neg).congr (by ring)
    · exact absurd e (fR_ne_fL hL f _ _ _ _)
  · intro h
    obtain ⟨s, hs, h1, h2⟩ := onLine_witness hL h
    exact ⟨s, hs, Or.inl (fR_congr hL f (h1.neg.congr (by ring)) (h2.neg.congr (by ring)))⟩

theorem fL_mem_lineK {L : Nat} (hL : 1 ≤ L) (f : Bool) (c m a j : Int) :
    fL L f a j ∈ lineK L f c m ↔ OnLine L c m a j := by
  rw [mem_lineK]
  constructor
  · rintro ⟨s, _, e | e⟩
    · exact absurd e.symm (fR_ne_fL hL f _ _ _ _)
    · obtain ⟨h1, h2⟩ := (fL_eq_iff hL f _ _ _ _).mp e
      exact ((h1.add (h2.mul 2)).neg).congr (by ring)
  · intro h
    obtain ⟨s, hs, h1, h2⟩ := onLine_witness hL h
    exact ⟨s, hs, Or.inr (fL_congr hL f (h1.neg.congr (by ring)) (h2.neg.congr (by ring)))⟩

/-- offsets within a period of three: equal blocks, equal offsets -/
theorem nodup_lineK {L : Nat} (hL : 1 ≤ L) (f : Bool) (c m : Int) : (lineK L f c m).Nodup := by
  unfold lineK
  apply nodup_blocks
  · intro s _
    simp only [List.nodup_cons, List.mem_cons, List.not_mem_nil, or_false, not_false_eq_true,
      List.nodup_nil, and_true]
    exact fR_ne_fL hL f _ _ _ _
  · intro s s' hs hs' hne q hq hq'
    simp only [List.mem_cons, List.not_mem_nil, or_false] at hq hq'
    rcases hq with rfl | rfl <;> rcases hq' with e | e
    · have := ((fR_eq_iff hL f _ _ _ _).mp e).2.eq_zero (by omega) (by omega)
      omega
    · exact fR_ne_fL hL f _ _ _ _ e
    · exact fR_ne_fL hL f _ _ _ _ e.symm
    · have := ((fL_eq_iff hL f _ _ _ _).mp e).2.eq_zero (by omega) (by omega)
      omega

theorem zigK_disjoint {L : Nat} (hL : 1 ≤ L) (f : Bool) (c : Int) {t t' : Nat} (ht : t < 3 * L)
    (ht' : t' < 3 * L) (hne : t ≠ t') :
    ∀ q ∈ zigK L f c (t : Int), q ∉ zigK L f c (t' : Int) := by
  intro q hq hq'
  obtain ⟨i, d, _, ⟨rfl, _⟩ | ⟨rfl, _⟩⟩ := mem_zigK.mp hq <;>
  obtain ⟨i', d', _, ⟨e, _⟩ | ⟨e, _⟩⟩ := mem_zigK.mp hq'
  · have := ((fR_eq_iff hL f _ _ _ _).mp e).1.eq_zero (by omega) (by omega)
    omega
  · exact fR_ne_fL hL f _ _ _ _ e
  · exact fR_ne_fL hL f _ _ _ _ e.symm
  · have := ((fL_eq_iff hL f _ _ _ _).mp e).1.eq_zero (by omega) (by omega)
    omega

theorem zigK_lineK_disjoint {L : Nat} (hL : 1 ≤ L) (f : Bool) (c t m : Int) :
    ∀ q ∈ zigK L f c t, q ∉ lineK L f c m := by
  intro q hq hq'
  obtain ⟨i, d, _, ⟨rfl, hd⟩ | ⟨rfl, hd⟩⟩ := mem_zigK.mp hq
  · have h := ((fR_mem_lineK hL f c m _ _).mp hq').mod3
    omega
  · have h := ((fL_mem_lineK hL f c m _ _).mp hq').mod3
    omega

theorem lineK_disjoint {L : Nat} (hL : 1 ≤ L) (f : Bool) (c : Int) {m m' : Nat} (hm : m < L)
    (hm' : m' < L) (hne : m ≠ m') :
    ∀ q ∈ lineK L f c (m : Int), q ∉ lineK L f c (m' : Int) := by
  intro q hq hq'
  have key : ∀ a j : Int, OnLine L c m a j → OnLine L c m' a j → False := by
    intro a j h h'
    have h3 : Cg L (3 * ((m' : Int) - (m : Int))) := (h.sub h').congr (by ring)
    obtain ⟨k, hk⟩ := cg_three_mul.mp h3
    have : (m' : Int) - (m : Int) = 0 := by
      apply Cyclic.eq_zero_of_emod_of_abs_lt (m := (L : Int)) (Int.emod_eq_zero_of_dvd ⟨k, hk⟩) (by omega) (by omega)
    omega
  obtain ⟨s, _, rfl | rfl⟩ := mem_lineK.mp hq
  · exact key _ _ ((fR_mem_lineK hL f c m _ _).mp hq) ((fR_mem_lineK hL f c m' _ _).mp hq')
  · exact key _ _ ((fL_mem_lineK hL f c m _ _).mp hq) ((fL_mem_lineK hL f c m' _ _).mp hq')

end Panqec.Color666ToricCode
