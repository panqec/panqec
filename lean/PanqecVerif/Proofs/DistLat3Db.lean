/-
Key lists over the Python ranges of `Model/Lattices/Util3Db.lean` (the classes whose model imports
it) for the all-sizes distance proofs: `range(1, 2L, 2)` / `range(0, 2L, 2)` as maps over
`List.range`, the anticommutation count of a line / plane operator as a (double) sum of
indicators.
-/
import PanqecVerif.Proofs.DistCubic3D
import PanqecVerif.Proofs.Lat3DbOps

namespace Panqec.Lat3Db
open Panqec.Lat2D (rsum rsum2 rsum_congr countP_range_map map_range'_two)

/-- Python `range(1, 2L, 2)` -/
theorem pyRange2_odd (L : Nat) :
    pyRange2 1 (2 * L) = (List.range L).map (fun (j : Nat) => 2 * (j : Int) + 1) := by
  unfold pyRange2
  rw [show (2 * L + 1 - 1) / 2 = L by omega]
  exact map_range'_two _ _ _ fun j => by omega

theorem length_pyRange2_odd (L : Nat) : (pyRange2 1 (2 * L)).length = L := by
  rw [pyRange2_odd]; simp

theorem countP_lineO (p : Coord → Bool) (f : Int → Coord) (L : Nat) :
    ((pyRange2 1 (2 * L)).map f).countP p =
      rsum L (fun j => if p (f (2 * (j : Int) + 1)) = true then 1 else 0) := by
  rw [pyRange2_odd, List.map_map]
  exact countP_range_map p _ L

theorem countP_planeO (p : Coord → Bool) (f : Int → Int → Coord) (A B : Nat) :
    ((pyRange2 1 (2 * A)).flatMap fun z => (pyRange2 1 (2 * B)).map fun y => f y z).countP p =
      rsum2 A B (fun k j =>
        if p (f (2 * (j : Int) + 1) (2 * (k : Int) + 1)) = true then 1 else 0) := by
  unfold rsum2
  rw [pyRange2_odd A, List.flatMap_map, Lat2D.countP_flatMap_range]
  apply rsum_congr
  intro k _
  exact countP_lineO p _ B

theorem opAntiCount_constOp_hit (K : List Coord) (P : Pauli) (b : Op) :
    opAntiCount (constOp K P) b = K.countP (opHit P b) :=
  opAntiCount_line K P b

/-- Python `range(0, 2L, 2)` -/
theorem pyRange2_even (L : Nat) :
    pyRange2 0 (2 * L) = (List.range L).map (fun (j : Nat) => 2 * (j : Int)) := by
  unfold pyRange2
  rw [show (2 * L + 1 - 0) / 2 = L by omega]
  exact map_range'_two _ _ _ fun j => by omega

theorem length_pyRange2_even (L : Nat) : (pyRange2 0 (2 * L)).length = L := by
  rw [pyRange2_even]; simp

theorem countP_lineE (p : Coord → Bool) (f : Int → Coord) (L : Nat) :
    ((pyRange2 0 (2 * L)).map f).countP p =
      rsum L (fun j => if p (f (2 * (j : Int))) = true then 1 else 0) := by
  rw [pyRange2_even, List.map_map]
  exact countP_range_map p _ L

end Panqec.Lat3Db

