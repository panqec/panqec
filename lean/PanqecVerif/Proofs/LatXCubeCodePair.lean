/-
XCubeCode lattice model: the pairing of the logical operators.  The operators on the edges of one
direction, written over the placement of the odd coordinate (the direction of the edge) among the
three, and their pairing table (`pair_placed`); then the table of all `2(Lx+Ly+Lz) - 3` pairs
(`pairTable`).  Sizes ≥ 1.
-/
import PanqecVerif.Proofs.Lat3DbPair
import PanqecVerif.Proofs.LatXCubeCodeLog
open Panqec Panqec.Lat3Db
namespace Panqec.XCubeCode

theorem ovl_map_range (a b : Nat) (f : Int → Coord) (K : List Coord) :
    ovl ((pyRange2 a b).map f) K = (pyRange2 a b).countP (fun t => K.contains (f t)) := by
  unfold ovl; rw [List.countP_map]; rfl

theorem zero_mem_E (L : Nat) (h : 1 ≤ L) : (0 : Int) ∈ pyRange2 0 (2*L) := by
  rw [mem_pyRange2_0]; unfold R0; omega

theorem E2_sub_E (L : Nat) (z : Int) (h : z ∈ pyRange2 2 (2*L)) : z ∈ pyRange2 0 (2*L) ∧ z ≠ 0 := by
  rw [mem_pyRange2_2] at h; rw [mem_pyRange2_0]; unfold R2 at h; unfold R0; omega

theorem cnt_XZ (k1 k2 : List Coord) : opAntiCount (constOp k1 Pauli.X) (constOp k2 Pauli.Z) = ovl k1 k2 := by
  rw [opAntiCount_constOp]; exact if_pos rfl

section
variable {Lx Ly Lz : Nat} {e : Int → Int → Int → Coord} {Lo Lu Lw : Nat}
  (hp : Placed Lx Ly Lz e Lo Lu Lw)
include hp

/-! the four overlap counts: the edge `(1, u, w)` is on a Z line iff its transverse position is
    that of the line -/

theorem ovl_gX1_gZ1 (hw : 1 ≤ Lw) (ho : 1 ≤ Lo) (u u' : Int) :
    ovl (gX1 Lw e u) (gZ1 Lo e u') = if u = u' then 1 else 0 := by
  have h1 : R1 (2*Lo) 1 := by unfold R1; omega
  unfold gX1; rw [ovl_map_range]
  by_cases h : u = u'
  · rw [if_pos h]
    apply countP_iff_point _ 0 _ (nodup_pyRange2 _ _) (zero_mem_E Lw hw)
    intro w _
    simp only [List.contains_iff_mem, mem_gZ1 hp]
    exact ⟨fun h' => h'.2.2, fun h0 => ⟨h1, h, h0⟩⟩
  · rw [if_neg h]
    apply countP_iff_none
    intro w _
    simp only [List.contains_iff_mem, mem_gZ1 hp]
    exact fun h' => h h'.2.1

theorem ovl_gX2_gZ2 (hu : 1 ≤ Lu) (ho : 1 ≤ Lo) {w : Int} (hw0 : w ≠ 0) (w' : Int) :
    ovl (gX2 Lu e w) (gZ2 Lo e w') = if w = w' then 1 else 0 := by
  have h1 : R1 (2*Lo) 1 := by unfold R1; omega
  unfold gX2; rw [ovl_map_range]
  by_cases h : w = w'
  · rw [if_pos h]
    apply countP_iff_point _ 0 _ (nodup_pyRange2 _ _) (zero_mem_E Lu hu)
    intro u _
    simp only [List.contains_iff_mem, mem_gZ2 hp]
    exact ⟨fun h' => h'.2.1, fun h0 => ⟨h1, h0, Or.inr h⟩⟩
  · rw [if_neg h]
    apply countP_iff_none
    intro u _
    simp only [List.contains_iff_mem, mem_gZ2 hp]
    exact fun h' => h'.2.2.elim hw0 h

theorem ovl_gX1_gZ2 (hw : 1 ≤ Lw) (ho : 1 ≤ Lo) (u : Int) {w' : Int} (hw' : w' ∈ pyRange2 2 (2*Lw)) :
    ovl (gX1 Lw e u) (gZ2 Lo e w') % 2 = 0 := by
  have h1 : R1 (2*Lo) 1 := by unfold R1; omega
  obtain ⟨hm, hne⟩ := E2_sub_E Lw w' hw'
  unfold gX1; rw [ovl_map_range]
  by_cases h : u = 0
  · rw [countP_iff_two_points _ 0 w' _ (nodup_pyRange2 _ _) (zero_mem_E Lw hw) hm (Ne.symm hne)]
    intro w _
    simp only [List.contains_iff_mem, mem_gZ2 hp]
    exact ⟨fun h' => h'.2.2, fun h' => ⟨h1, h, h'⟩⟩
  · rw [countP_iff_none]
    intro w _
    simp only [List.contains_iff_mem, mem_gZ2 hp]
    exact fun h' => h h'.2.1

theorem ovl_gX2_gZ1 {w : Int} (hw0 : w ≠ 0) (u' : Int) : ovl (gX2 Lu e w) (gZ1 Lo e u') % 2 = 0 := by
  unfold gX2; rw [ovl_map_range, countP_iff_none]
  intro u _
  simp only [List.contains_iff_mem, mem_gZ1 hp]
  exact fun h' => hw0 h'.2.2

theorem pair_placed (ho : 1 ≤ Lo) (hu : 1 ≤ Lu) (hw : 1 ≤ Lw) : PairTable (bX e Lu Lw) (bZ e Lo Lu Lw) := by
  apply PairTable.append
  · exact PairTable.map _ _ _ (nodup_pyRange2 _ _) fun a _ b _ => by
      rw [cnt_XZ, ovl_gX1_gZ1 hp hw ho]; split <;> rfl
  · exact PairTable.map _ _ _ (nodup_pyRange2 _ _) fun a ha b _ => by
      rw [cnt_XZ, ovl_gX2_gZ2 hp hu ho (E2_sub_E Lw a ha).2]; split <;> rfl
  · exact CrossEven.map _ _ _ _ fun a _ b hb => by rw [cnt_XZ]; exact ovl_gX1_gZ2 hp hw ho a hb
  · exact CrossEven.map _ _ _ _ fun a ha b _ => by
      rw [cnt_XZ]; exact ovl_gX2_gZ1 hp (E2_sub_E Lw a ha).2 b

/-- every key has the parities of the edge direction: odd in the coordinate `e` places first -/
theorem keys_bX : AllKeys (fun q => q.map (· % 2) = e 1 0 0) (bX e Lu Lw) := by
  apply AllKeys.append <;> apply AllKeys.map_constOp <;> intro t ht q hq <;>
    obtain ⟨s, hs, rfl⟩ := List.mem_map.mp hq
  · rw [hp.par, even_of_E _ _ ht, even_of_E _ _ hs]; rfl
  · rw [hp.par, even_of_E2 _ _ ht, even_of_E _ _ hs]; rfl

theorem keys_bZ : AllKeys (fun q => q.map (· % 2) = e 1 0 0) (bZ e Lo Lu Lw) := by
  apply AllKeys.append <;> apply AllKeys.map_constOp <;> intro t ht q hq
  · obtain ⟨s, hs, rfl⟩ := List.mem_map.mp hq
    rw [hp.par, even_of_E _ _ ht, odd_of_O _ _ hs]; rfl
  · rcases List.mem_append.mp hq with hq | hq <;> obtain ⟨s, hs, rfl⟩ := List.mem_map.mp hq
    · rw [hp.par, odd_of_O _ _ hs]; rfl
    · rw [hp.par, even_of_E2 _ _ ht, odd_of_O _ _ hs]; rfl

end
/-! operators on edges of different directions share no key: the table of all `2(Lx+Ly+Lz) - 3`
    pairs is the three tables of the edge directions -/

theorem AllKeys.mono {φ ψ : Coord → Prop} {X : List Op} (h : ∀ q, φ q → ψ q) (hX : AllKeys φ X) : AllKeys ψ X :=
  fun a ha e he => h _ (hX a ha e he)

theorem par_ne {v v' : Coord} (h : v ≠ v') (q : Coord) (h1 : q.map (· % 2) = v) : q.map (· % 2) ≠ v' :=
  fun h2 => h (h1.symm.trans h2)

section
variable (Lx Ly Lz : Nat)

theorem pairTable (hx : 1 ≤ Lx) (hy : 1 ≤ Ly) (hz : 1 ≤ Lz) : PairTable (logX Lx Ly Lz) (logZ Lx Ly Lz) := by
  rw [logX_blocks, logZ_blocks]
  apply PairTable.append (pair_placed (@Placed.xyz Lx Ly Lz) hx hy hz)
  · apply PairTable.append (pair_placed (@Placed.yxz Lx Ly Lz) hy hx hz) (pair_placed (@Placed.zxy Lx Ly Lz) hz hx hy)
    · exact CrossEven.of_disjoint (keys_bX (@Placed.yxz Lx Ly Lz)) (keys_bZ (@Placed.zxy Lx Ly Lz)) (par_ne (by decide))
    · exact CrossEven.of_disjoint (keys_bX (@Placed.zxy Lx Ly Lz)) (keys_bZ (@Placed.yxz Lx Ly Lz)) (par_ne (by decide))
  · exact CrossEven.of_disjoint (keys_bX (@Placed.xyz Lx Ly Lz))
      (AllKeys.append (AllKeys.mono (par_ne (by decide)) (keys_bZ (@Placed.yxz Lx Ly Lz)))
        (AllKeys.mono (par_ne (by decide)) (keys_bZ (@Placed.zxy Lx Ly Lz)))) fun _ h1 h2 => h2 h1
  · exact CrossEven.of_disjoint
      (AllKeys.append (AllKeys.mono (par_ne (by decide)) (keys_bX (@Placed.yxz Lx Ly Lz)))
        (AllKeys.mono (par_ne (by decide)) (keys_bX (@Placed.zxy Lx Ly Lz)))) (keys_bZ (@Placed.xyz Lx Ly Lz)) fun _ h1 h2 => h1 h2

end
end Panqec.XCubeCode
