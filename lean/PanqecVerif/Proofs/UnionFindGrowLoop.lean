/-
Union-find internals (C05), growth phase: `Clustering_Tree.grow`, the choice of the
smallest odd cluster, the `while` loop of `Support.clustering`, the initial state.
-/
import PanqecVerif.Proofs.UnionFindGrowFuse

namespace Panqec.UF

/-! ### `grow` only zeroes entries of `_H_to_grow` -/

theorem growStep_mono (H : Mat) (acc : GrowAcc) (b : Int) :
    (∀ i, acc.rowDead i = true → (growStep H acc b).rowDead i = true) ∧
    (∀ i, acc.colDead i = true → (growStep H acc b).colDead i = true) := by
  unfold growStep
  by_cases hb : b < 0
  · simp only [hb, if_true]
    exact ⟨fun i h => by by_cases hi : i = unhashS b <;> simp [hi, h], fun i h => h⟩
  · simp only [hb, if_false]
    exact ⟨fun i h => h, fun i h => by by_cases hi : i = b.toNat <;> simp [hi, h]⟩

theorem growFold_mono (H : Mat) (l : List Int) (acc : GrowAcc) :
    (∀ i, acc.rowDead i = true → (l.foldl (growStep H) acc).rowDead i = true) ∧
    (∀ i, acc.colDead i = true → (l.foldl (growStep H) acc).colDead i = true) := by
  induction l generalizing acc with
  | nil => exact ⟨fun _ h => h, fun _ h => h⟩
  | cons b l ih =>
    simp only [List.foldl_cons]
    have h1 := growStep_mono H acc b
    have h2 := ih (growStep H acc b)
    exact ⟨fun i h => h2.1 i (h1.1 i h), fun i h => h2.2 i (h1.2 i h)⟩

theorem grown_mono {H : Mat} {rd cd rd' cd' : Nat → Bool}
    (hr : ∀ i, rd i = true → rd' i = true) (hc : ∀ i, cd i = true → cd' i = true) {u q : Nat}
    (h : grown H rd cd u q = true) : grown H rd' cd' u q = true := by
  unfold grown live at h ⊢
  cases hh : hb H u q
  · simp [hh] at h
  · simp only [hh, Bool.true_and, Bool.not_and, Bool.not_not, Bool.or_eq_true] at h ⊢
    rcases h with h | h
    · exact Or.inl (hr u h)
    · exact Or.inr (hc q h)

theorem upd_root (c0 : Cluster) (p : Prop) [Decidable p] (nb : List Int) :
    (if p then { c0 with bnd := nb } else c0).root = c0.root := by split <;> rfl

theorem upd_size (c0 : Cluster) (p : Prop) [Decidable p] (nb : List Int) :
    (if p then { c0 with bnd := nb } else c0).size = c0.size := by split <;> rfl

theorem upd_odd (c0 : Cluster) (p : Prop) [Decidable p] (nb : List Int) :
    (if p then { c0 with bnd := nb } else c0).odd = c0.odd := by split <;> rfl

/-- the state after `c.grow()` (before the merges) still satisfies the invariant -/
theorem GInv_grow {H : Mat} {sy : Vec} {st : GState} {rep d : Nat → Nat} (I : GInv H sy st rep d)
    (c : Cluster) : GInv H sy (growCluster H st c).2 rep d := by
  unfold growCluster
  simp only []
  have hmono := growFold_mono H (st.sched.take c.bnd).1 ⟨st.rowDead, st.colDead, [], []⟩
  refine ⟨I.uf, ⟨?_, ?_, ?_, ?_, I.fi.defect_live⟩, I.nbad, ?_, I.qrng⟩
  · intro x
    rw [← I.fi.roots_iff]
    constructor
    · rintro ⟨c', hc', hr⟩
      obtain ⟨c0, hc0, rfl⟩ := List.mem_map.mp hc'
      rw [upd_root] at hr
      exact ⟨c0, hc0, hr⟩
    · rintro ⟨c0, hc0, hr⟩
      refine ⟨_, List.mem_map.mpr ⟨c0, hc0, rfl⟩, ?_⟩
      rw [upd_root]; exact hr
  · have : (List.map (fun x => x.root)
        (st.forest.map fun d => if d.root = c.root then { d with bnd :=
          ((st.sched.take c.bnd).1.foldl (growStep H) ⟨st.rowDead, st.colDead, [], []⟩).newB } else d)) =
        st.forest.map (·.root) := by
      rw [List.map_map]
      apply List.map_congr_left
      intro a _
      exact upd_root a _ _
    rw [this]; exact I.fi.roots_nodup
  · intro c' hc'
    obtain ⟨c0, hc0, rfl⟩ := List.mem_map.mp hc'
    rw [upd_size]; exact I.fi.size_pos c0 hc0
  · intro c' hc'
    obtain ⟨c0, hc0, rfl⟩ := List.mem_map.mp hc'
    rw [upd_odd, upd_root]; exact I.fi.odd_ok c0 hc0
  · intro i hi
    apply (I.conn i hi).lift
    intro u q v e
    exact ⟨grown_mono hmono.1 hmono.2 e.gu, grown_mono hmono.1 hmono.2 e.gv, e.lu, e.lv, e.same, e.qp⟩

theorem GInv_fuseFold {H : Mat} {sy : Vec} (l : List Int) :
    ∀ (st : GState) (rep d : Nat → Nat), GInv H sy st rep d →
      ∃ rep' d', GInv H sy (l.foldl (fuseStep H) st) rep' d' := by
  induction l with
  | nil => intro st rep d I; exact ⟨rep, d, I⟩
  | cons q l ih =>
    intro st rep d I
    obtain ⟨rep1, d1, I1, _⟩ := fuse_spec I q
    simp only [List.foldl_cons]
    exact ih _ rep1 d1 I1

/-- one turn of the `while` loop -/
theorem GInv_iter {H : Mat} {sy : Vec} {st : GState} {rep d : Nat → Nat} (I : GInv H sy st rep d)
    (c : Cluster) : ∃ rep' d', GInv H sy (growIter H st c) rep' d' :=
  GInv_fuseFold _ _ rep d (GInv_sched (GInv_grow I c) _)

theorem take_mem (sc : Sched) (s : List Int) (x : Int) : x ∈ (sc.take s).1 ↔ x ∈ s := by
  unfold Sched.take
  cases hr : sc.rest with
  | nil => simp
  | cons l rest =>
    simp only []
    by_cases hp : isPermOf l s = true
    · simp only [hp, if_true]
      unfold isPermOf at hp
      simp only [Bool.and_eq_true, List.all_eq_true, decide_eq_true_eq] at hp
      exact ⟨fun h => hp.1.1.2 x h, fun h => hp.1.2 x h⟩
    · simp [hp]

/-- the body of the fold in `_smallest_invalid_cluster` -/
def pickStep (acc : Option Cluster) (c : Cluster) : Option Cluster :=
  if c.odd then
    match acc with
    | none => some c
    | some a => if c.size < a.size then some c else acc
  else acc

/-- a step keeps the candidate (which it may only do with an odd record when there is one already)
    or replaces it by an odd record -/
theorem pickStep_cases (a : Option Cluster) (x : Cluster) :
    (pickStep a x = a ∧ (x.odd = true → a ≠ none)) ∨ (pickStep a x = some x ∧ x.odd = true) := by
  unfold pickStep
  cases hx : x.odd
  · exact Or.inl ⟨rfl, fun h => absurd h (by simp)⟩
  · cases a with
    | none => exact Or.inr ⟨rfl, rfl⟩
    | some a =>
      by_cases hlt : x.size < a.size
      · exact Or.inr ⟨by simp [hlt], rfl⟩
      · exact Or.inl ⟨by simp [hlt], fun _ => by simp⟩

theorem pickFold_spec : ∀ (l : List Cluster) (a : Option Cluster),
    (l.foldl pickStep a = none → a = none ∧ ∀ c, c ∈ l → c.odd = false) ∧
    (∀ c, l.foldl pickStep a = some c → a = some c ∨ (c ∈ l ∧ c.odd = true)) := by
  intro l
  induction l with
  | nil => intro a; exact ⟨fun h => ⟨h, by simp⟩, fun c h => Or.inl h⟩
  | cons x l ih =>
    intro a
    rw [List.foldl_cons]
    rcases pickStep_cases a x with ⟨he, hn⟩ | ⟨he, ho⟩
    · rw [he]
      obtain ⟨h1, h2⟩ := ih a
      constructor
      · intro h
        obtain ⟨ha, hl⟩ := h1 h
        refine ⟨ha, fun c hc => ?_⟩
        rcases List.mem_cons.mp hc with rfl | hc
        · exact Bool.eq_false_iff.mpr fun ho => hn ho ha
        · exact hl c hc
      · intro c h
        rcases h2 c h with h | h
        · exact Or.inl h
        · exact Or.inr ⟨List.mem_cons_of_mem _ h.1, h.2⟩
    · rw [he]
      obtain ⟨h1, h2⟩ := ih (some x)
      constructor
      · intro h; exact absurd (h1 h).1 (by simp)
      · intro c h
        rcases h2 c h with h | h
        · rw [← Option.some.inj h]; exact Or.inr ⟨List.mem_cons_self, ho⟩
        · exact Or.inr ⟨List.mem_cons_of_mem _ h.1, h.2⟩

theorem GInv_pick {H : Mat} {sy : Vec} {st : GState} {rep d : Nat → Nat} (I : GInv H sy st rep d) :
    GInv H sy (pick st).2 rep d :=
  GInv_sched I _

/-- when no cluster is chosen, no record in the dict is odd -/
theorem pick_none {H : Mat} {sy : Vec} {st : GState} {rep d : Nat → Nat} (I : GInv H sy st rep d)
    (h : (pick st).1 = none) : ∀ c, c ∈ st.forest → c.odd = false := by
  unfold pick at h
  intro c hc
  apply ((pickFold_spec _ none).1 h).2 c
  rw [List.mem_filterMap]
  refine ⟨(c.root : Int), (take_mem ..).mpr (List.mem_map.mpr ⟨c, hc, rfl⟩), ?_⟩
  -- the record found under this root is `c` itself
  cases hf : st.forest.find? (fun c' => decide ((c'.root : Int) = (c.root : Int))) with
  | none => simpa using List.find?_eq_none.mp hf c hc
  | some c' =>
    have hr : c'.root = c.root := by
      have := List.find?_some hf; simp at this; omega
    rw [eq_of_root_eq _ I.fi.roots_nodup c' c (List.mem_of_find?_eq_some hf) hc hr]

/-- a chosen cluster is an odd record of the dict -/
theorem pick_some {st : GState} {c : Cluster} (h : (pick st).1 = some c) :
    c ∈ st.forest ∧ c.odd = true := by
  unfold pick at h
  rcases (pickFold_spec _ none).2 c h with h | ⟨h1, h2⟩
  · exact absurd h (by simp)
  · obtain ⟨r, _, hr⟩ := List.mem_filterMap.mp h1
    exact ⟨List.mem_of_find?_eq_some hr, h2⟩

theorem clusterLoop_succ (H : Mat) (fuel : Nat) (st : GState) : clusterLoop H (fuel + 1) st =
    match (pick st).1 with
    | none => ((pick st).2, true)
    | some c => clusterLoop H fuel (growIter H (pick st).2 c) := by
  rw [clusterLoop]
  rcases pick st with ⟨_ | c, st'⟩ <;> rfl

/-- **the `while` loop**: the invariant holds when it stops, and then no record is odd -/
theorem clusterLoop_inv {H : Mat} {sy : Vec} :
    ∀ (fuel : Nat) (st : GState) (rep d : Nat → Nat), GInv H sy st rep d →
      ∃ rep' d', GInv H sy (clusterLoop H fuel st).1 rep' d' ∧
        ((clusterLoop H fuel st).2 = true → ∀ c, c ∈ (clusterLoop H fuel st).1.forest → c.odd = false) := by
  intro fuel
  induction fuel with
  | zero =>
    intro st rep d I
    exact ⟨rep, d, I, by simp [clusterLoop]⟩
  | succ fuel ih =>
    intro st rep d I
    rw [clusterLoop_succ]
    cases hp : (pick st).1 with
    | none => exact ⟨rep, d, GInv_pick I, fun _ c hc => pick_none I hp c hc⟩
    | some c =>
      obtain ⟨rep1, d1, I1⟩ := GInv_iter (GInv_pick I) c
      exact ih _ rep1 d1 I1

theorem GInv_init (H : Mat) (sy : Vec) (sched : List (List Int)) :
    GInv H sy (initState H sy sched) (fun i => i) (fun _ => 0) := by
  have hmem : ∀ i, i ∈ ((List.range H.length).filter fun i => sy.getD i 0 != 0) ↔
      (i < H.length ∧ defect sy i = true) := by
    intro i; rw [mem_filter_range]; rfl
  unfold initState
  simp only []
  generalize hdef : ((List.range H.length).filter fun i => sy.getD i 0 != 0) = defects at hmem
  have hnd : defects.Nodup := by rw [← hdef]; exact (List.nodup_range).filter _
  have hsp : ∀ i, (if i ∈ defects then (i : Int) else -1) = -1 ↔ i ∉ defects := by
    intro i
    by_cases h : i ∈ defects
    · simp only [h, if_true]; constructor
      · intro hh; omega
      · intro hh; exact absurd trivial hh
    · simp [h]
  have hsp2 : ∀ (i p : Nat), (if i ∈ defects then (i : Int) else -1) = (p : Int) → i ∈ defects ∧ p = i := by
    intro i p h
    by_cases hi : i ∈ defects
    · simp only [hi, if_true] at h; exact ⟨hi, by omega⟩
    · simp only [hi, if_false] at h; omega
  -- every defect is its own tree (`rep = id`, depth 0); the fields of `UFInv`, then of `FInv`, then `conn`
  refine ⟨⟨?_, ?_, ?_, ?_, ?_, ?_, ?_, fun _ _ => rfl, fun _ _ => rfl, ?_⟩, ⟨?_, ?_, ?_, ?_, ?_⟩, rfl, ?_,
    fun _ => Or.inl rfl⟩
  -- uf.rng
  · intro s
    by_cases hs : s ∈ defects
    · exact Or.inr ⟨s, ((hmem s).mp hs).1, by simp [hs]⟩
    · exact Or.inl (by simp [hs])
  -- uf.out
  · intro s hs
    have : s ∉ defects := fun h => by have := ((hmem s).mp h).1; omega
    simp [this]
  -- uf.rep_root
  · intro s hs
    have : s ∈ defects := by
      by_contra h; exact hs ((hsp s).mpr h)
    simp [this]
  -- uf.rep_par
  · intro s p h; rw [(hsp2 s p h).2]
  -- uf.root_rep
  · intro s _; rfl
  -- uf.par_live
  · intro s p h
    obtain ⟨h1, h2⟩ := hsp2 s p h
    subst h2
    rw [Ne, hsp]; simpa using h1
  -- uf.d_par
  · intro s p h hne; exact absurd (hsp2 s p h).2 hne
  -- uf.d_bound
  · intro s
    show 0 + cnt H.length (freeOrRoot fun i => if i ∈ defects then (i : Int) else -1) ≤ H.length
    have := cnt_le H.length (freeOrRoot fun i => if i ∈ defects then (i : Int) else -1)
    omega
  -- fi.roots_iff
  · intro x
    constructor
    · rintro ⟨c, hc, rfl⟩
      obtain ⟨i, hi, rfl⟩ := List.mem_map.mp hc
      simp [hi]
    · intro h
      have := (hsp2 x x h).1
      exact ⟨_, List.mem_map.mpr ⟨x, this, rfl⟩, rfl⟩
  -- fi.roots_nodup
  · rw [List.map_map]
    have : ((fun c : Cluster => c.root) ∘ fun i => (⟨i, 1, true, [hashS i]⟩ : Cluster)) = id := rfl
    rw [this, List.map_id]; exact hnd
  -- fi.size_pos
  · intro c hc
    obtain ⟨i, _, rfl⟩ := List.mem_map.mp hc
    exact Nat.one_pos
  -- fi.odd_ok
  · intro c hc
    obtain ⟨i, hi, rfl⟩ := List.mem_map.mp hc
    have him := (hmem i).mp hi
    unfold clsCnt
    rw [cnt_single H.length _ i him.1]
    · simp [hi, him.2]
    · intro j hj
      simp only [Bool.and_eq_true, decide_eq_true_eq] at hj
      exact hj.2
  -- fi.defect_live
  · intro i hi hd
    have : i ∈ defects := (hmem i).mpr ⟨hi, hd⟩
    simp [this]
  -- conn
  · intro i _; exact Conn.refl _

end Panqec.UF
