/-
RotatedPlanar3DCode lattice model: number of qubits for every size.
-/
import PanqecVerif.Proofs.Lat3DbCount
import PanqecVerif.Proofs.LatRotatedPlanar3DCodeLog
open Panqec Panqec.Lat3Db
namespace Panqec.RotatedPlanar3DCode

theorem length_qubits (Lx Ly Lz : Nat) :
    (qubits Lx Ly Lz).length =
      Lx * Ly * Lz + ((Lx / 2) * (Ly / 2 + 1) + ((Lx - 1) / 2) * ((Ly + 1) / 2)) * (Lz - 1) := by
  unfold qubits
  rw [List.length_append, length_grid3_true, length_grid3_xy, cnt2_checker]
  simp only [length_pyRange2]
  have e1 : (2 * Lx + 1 - 1) / 2 = Lx := by omega
  have e2 : (2 * Ly + 1 - 1) / 2 = Ly := by omega
  have e3 : (2 * Lz + 1 - 1) / 2 = Lz := by omega
  have e4 : (2 * Lz + 1 - 2) / 2 = Lz - 1 := by omega
  rw [e1, e2, e3, e4]

end Panqec.RotatedPlanar3DCode
