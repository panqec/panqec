/-
`Planar3DCode` for every size: arithmetic characterisation of the coordinate lists (four kinds of
ranges: `range(0,2L,2)`, `range(1,2L-1,2)`, `range(2,2L,2)`, `range(1,2L+1,2)`).
-/
import PanqecVerif.Proofs.LatCubic3D
import PanqecVerif.Model.Lattices.Planar3DCode

namespace Panqec.Planar3DCode
open Panqec.Cubic3D

/-- `x ∈ range(0, 2L, 2)` -/
def inE (L : Nat) (x : Int) : Prop := 0 ≤ x ∧ x < 2 * (L : Int) ∧ x % 2 = 0
/-- `x ∈ range(1, 2L-1, 2)` -/
def inO (L : Nat) (x : Int) : Prop := 1 ≤ x ∧ x < 2 * (L : Int) - 1 ∧ x % 2 = 1
/-- `x ∈ range(2, 2L, 2)` -/
def inE2 (L : Nat) (x : Int) : Prop := 2 ≤ x ∧ x < 2 * (L : Int) ∧ x % 2 = 0
/-- `x ∈ range(1, 2L+1, 2)` -/
def inO1 (L : Nat) (x : Int) : Prop := 1 ≤ x ∧ x < 2 * (L : Int) + 1 ∧ x % 2 = 1

theorem mem_rangeE {L : Nat} {x : Int} : x ∈ range2 0 (2 * (L : Int)) ↔ inE L x := by
  rw [mem_range2]; unfold inE; omega
theorem mem_rangeO {L : Nat} {x : Int} : x ∈ range2 1 (2 * (L : Int) - 1) ↔ inO L x := by
  rw [mem_range2]; unfold inO; omega
theorem mem_rangeE2 {L : Nat} {x : Int} : x ∈ range2 2 (2 * (L : Int)) ↔ inE2 L x := by
  rw [mem_range2]; unfold inE2; omega
theorem mem_rangeO1 {L : Nat} {x : Int} : x ∈ range2 1 (2 * (L : Int) + 1) ↔ inO1 L x := by
  rw [mem_range2]; unfold inO1; omega

theorem mem_qubits {Lx Ly Lz : Nat} {x y z : Int} :
    [x, y, z] ∈ qubits Lx Ly Lz ↔
      (inO1 Lx x ∧ inE Ly y ∧ inE Lz z) ∨ (inE2 Lx x ∧ inO Ly y ∧ inE Lz z) ∨
      (inE2 Lx x ∧ inE Ly y ∧ inO Lz z) := by
  simp only [qubits, List.mem_append, mem_grid3, mem_rangeE, mem_rangeO, mem_rangeE2, mem_rangeO1,
    or_assoc]

theorem mem_stabs {Lx Ly Lz : Nat} {x y z : Int} :
    [x, y, z] ∈ stabs Lx Ly Lz ↔
      (inE2 Lx x ∧ inE Ly y ∧ inE Lz z) ∨ (inO1 Lx x ∧ inO Ly y ∧ inE Lz z) ∨
      (inE2 Lx x ∧ inO Ly y ∧ inO Lz z) ∨ (inO1 Lx x ∧ inE Ly y ∧ inO Lz z) := by
  simp only [stabs, List.mem_append, mem_grid3, mem_rangeE, mem_rangeO, mem_rangeE2, mem_rangeO1,
    or_assoc]

theorem shape_of_mem_qubits {Lx Ly Lz : Nat} {q : Coord} (h : q ∈ qubits Lx Ly Lz) :
    ∃ x y z, q = [x, y, z] := by
  simp only [qubits, List.mem_append, mem_grid] at h
  rcases h with (⟨x, _, y, _, z, _, rfl⟩ | ⟨x, _, y, _, z, _, rfl⟩) | ⟨x, _, y, _, z, _, rfl⟩ <;>
    exact ⟨x, y, z, rfl⟩

theorem shape_of_mem_stabs {Lx Ly Lz : Nat} {q : Coord} (h : q ∈ stabs Lx Ly Lz) :
    ∃ x y z, q = [x, y, z] := by
  simp only [stabs, List.mem_append, mem_grid] at h
  rcases h with ((⟨x, _, y, _, z, _, rfl⟩ | ⟨x, _, y, _, z, _, rfl⟩) | ⟨x, _, y, _, z, _, rfl⟩) |
    ⟨x, _, y, _, z, _, rfl⟩ <;> exact ⟨x, y, z, rfl⟩

theorem mem_qubits_x {Lx Ly Lz : Nat} {x y z : Int} (hx : x % 2 = 1) (hy : y % 2 = 0)
    (hz : z % 2 = 0) : [x, y, z] ∈ qubits Lx Ly Lz ↔
      1 ≤ x ∧ x < 2 * (Lx : Int) + 1 ∧ 0 ≤ y ∧ y < 2 * (Ly : Int) ∧ 0 ≤ z ∧ z < 2 * (Lz : Int) := by
  rw [mem_qubits]; simp only [inE, inO, inE2, inO1]
  constructor
  · rintro (h | h | h) <;> omega
  · intro h; left; omega
theorem mem_qubits_y {Lx Ly Lz : Nat} {x y z : Int} (hx : x % 2 = 0) (hy : y % 2 = 1)
    (hz : z % 2 = 0) : [x, y, z] ∈ qubits Lx Ly Lz ↔
      2 ≤ x ∧ x < 2 * (Lx : Int) ∧ 1 ≤ y ∧ y < 2 * (Ly : Int) - 1 ∧ 0 ≤ z ∧ z < 2 * (Lz : Int) := by
  rw [mem_qubits]; simp only [inE, inO, inE2, inO1]
  constructor
  · rintro (h | h | h) <;> omega
  · intro h; right; left; omega
theorem mem_qubits_z {Lx Ly Lz : Nat} {x y z : Int} (hx : x % 2 = 0) (hy : y % 2 = 0)
    (hz : z % 2 = 1) : [x, y, z] ∈ qubits Lx Ly Lz ↔
      2 ≤ x ∧ x < 2 * (Lx : Int) ∧ 0 ≤ y ∧ y < 2 * (Ly : Int) ∧ 1 ≤ z ∧ z < 2 * (Lz : Int) - 1 := by
  rw [mem_qubits]; simp only [inE, inO, inE2, inO1]
  constructor
  · rintro (h | h | h) <;> omega
  · intro h; right; right; omega

end Panqec.Planar3DCode
