/-
RhombicToricCode lattice model, rank clause: single-qubit probes and ranks of the selected
generators (`Proofs/LatRhombicToricCodeRankFamily.lean`), and the diagonal part of the triangular
criterion (each probe sits on a qubit of its generator with an anticommuting letter).

Cubes `(x, y, z)` (rank lexicographic in `(z, y if y ≥ 5 else 0, x)`): for `z ≥ 3` the x edge
`(x, y−1, z−1)` (the other coloured cube on it is two layers below); in the layer `z = 1` the z edge
towards the cube `(x−2, y−2, 1)` for `y ≥ 5`, and in the two rows `y ∈ {1, 3}` the z edge `(x−1, 2, 1)`
towards the cube of the other row with smaller `x` — except `(1, 3, 1)`, which uses `(2, 2, 1)`,
shared with the left-out cube `(3, 1, 1)`.
Triangles `(a, x, y, z)` (rank lexicographic in `(x, [axis 2 in a middle column], y, z, local order)`):
middle columns: axis 3 the x leg `(x−1, y, z)`, axis 2 the y leg below, axis 1 the z leg below;
last column: axis 2 the seam x leg `(x+1, y, z)`, axis 3 the x leg `(x−1, y, z)` (the z leg below on the
row `y = 0`, `(x+y+z) % 4 = 0`), axis 1 the y leg below (`y ≥ 2`) or the x leg / z leg below (`y = 0`);
column `x = 0`: the corners of the y-z torus use their y leg below, their z leg below, or (top layer)
their z leg above.
-/
import PanqecVerif.Proofs.LatRhombicToricCodeRankCount
import PanqecVerif.Proofs.Lat2DRank
open Panqec Panqec.Lat3Db Panqec.Rhombic
open Panqec.XCubeCode (up dn up_spec dn_spec)
namespace Panqec.RhombicToricCode

/-- the witness qubit and probe letter of a selected generator -/
def probe (Lx Ly Lz : Nat) : Coord → Coord × Pauli
  | [x, y, z] =>
    (if 3 ≤ z then [x, y - 1, z - 1]
     else if 5 ≤ y then [x - 1, y - 1, 1]
     else if y = 3 ∧ x = 1 then [2, 2, 1]
     else [x - 1, 2, 1], Pauli.Z)
  | [a, x, y, z] =>
    (if x = 2*(Lx:Int)-2 then
       (if a = 2 then [x + 1, y, z]
        else if a = 3 then (if y = 0 ∧ (x + y + z) % 4 = 0 then [x, y, z - 1] else [x - 1, y, z])
        else (if 2 ≤ y then [x, y - 1, z] else if (x + y + z) % 4 = 0 then [x - 1, y, z] else [x, y, z - 1]))
     else if x = 0 then
       (if (a = 1 ∧ (x + y + z) % 4 = 0) ∨ (a = 2 ∧ (x + y + z) % 4 = 2) then [x, dn (2*Ly) y, z]
        else if a = 3 ∨ a = 0 then [x, y, z + 1]
        else [x, y, z - 1])
     else
       (if a = 1 then [x, y, dn (2*Lz) z] else if a = 2 then [x, dn (2*Ly) y, z] else [x - 1, y, z]),
     Pauli.X)
  | _ => ([], Pauli.I)

/-- local order of the triangles of a vertex -/
def rkT (Lx : Nat) (a x y z : Int) : Nat :=
  if x = 2*(Lx:Int)-2 then
    (if 2 ≤ y then (if a = 2 then 0 else if a = 1 then 1 else 2)
     else if (x + y + z) % 4 = 0 then (if a = 2 then 0 else if a = 3 then 1 else 2)
     else (if a = 1 then 0 else if a = 2 then 1 else 2))
  else if x = 0 then
    (if (x + y + z) % 4 = 0 then (if a = 2 then 0 else if a = 1 then 1 else 2)
     else (if a = 1 then 0 else if a = 2 then 1 else 2))
  else (if a = 1 then 0 else if a = 3 then 1 else 2)

/-- axis 2 of the middle columns comes after the other axes of its column -/
def tier (Lx : Nat) (a x : Int) : Nat := if 0 < x ∧ x < 2*(Lx:Int)-2 ∧ a = 2 then 1 else 0

/-- the rank of a selected generator -/
def mu (Lx Ly Lz : Nat) : Coord → Nat
  | [x, y, z] => (z.toNat * (2*Ly+1) + (if y ≤ 3 then 0 else y.toNat)) * (2*Lx+1) + x.toNat
  | [a, x, y, z] =>
    (((2 * x.toNat + tier Lx a x) * (2*Ly+1) + y.toNat) * (2*Lz+1) + z.toNat) * 4 + rkT Lx a x y z
  | _ => 0

theorem rkT_lt (Lx : Nat) (a x y z : Int) : rkT Lx a x y z < 4 := by
  unfold rkT
  repeat' split
  all_goals omega

theorem tier_le (Lx : Nat) (a x : Int) : tier Lx a x ≤ 1 := by unfold tier; split <;> omega

/-- kinds of selected generators -/
def Kind (Lx Ly Lz : Nat) (s : Coord) : Prop :=
  (∃ x y z, s = [x, y, z] ∧ CK Lx Ly Lz x y z) ∨
  (∃ a x y z, s = [a, x, y, z] ∧ TK Lx Ly Lz a x y z)

def keysOf (Lx Ly Lz : Nat) : Coord → List Coord
  | [x, y, z] => cubeKeys Lx Ly Lz x y z
  | [a, x, y, z] => triKeys Lx Ly Lz a x y z
  | _ => []

theorem getStab_eq {Lx Ly Lz : Nat} (hx : 2 ≤ Lx) (hy : 2 ≤ Ly) (hz : 2 ≤ Lz) {s : Coord}
    (h : Kind Lx Ly Lz s) : getStab Lx Ly Lz s = constOp (keysOf Lx Ly Lz s) (letterOf s) := by
  rcases h with ⟨x, y, z, rfl, hk⟩ | ⟨a, x, y, z, rfl, hk⟩
  · exact getStab_cube Lx Ly Lz x y z hx hy hz hk.1
  · exact getStab_tri Lx Ly Lz a x y z hk.st

theorem keysOf_qubits {Lx Ly Lz : Nat} {s : Coord} (h : Kind Lx Ly Lz s) :
    ∀ q ∈ keysOf Lx Ly Lz s, q ∈ qubits Lx Ly Lz := by
  intro q hq
  apply XCubeCode.mem_qubits_of_isQubit
  rcases h with ⟨x, y, z, rfl, _⟩ | ⟨a, x, y, z, rfl, _⟩ <;> exact (List.mem_filter.mp hq).2

theorem step_facts (P : Nat) (v s : Int) (hs : U s) :
    (s = 1 ∧ step P v s = v + 1) ∨
    (s = -1 ∧ ((v = 0 ∧ step P v s = P - 1) ∨ (v ≠ 0 ∧ step P v s = v - 1))) := by
  unfold step
  have := dn_spec P v
  rcases hs with rfl | rfl
  · left; simp
  · right
    have h1 : ¬ ((-1 : Int) = 1) := by decide
    simp only [h1, if_false, true_and]
    omega

/-! The x leg points up for the axes 0 and 2, the y leg for 0 and 3, the z leg for 0 and 1 at a vertex
with `(x + y + z) % 4 = 0` and for 2 and 3 at the other vertices. -/

section legs
variable {Lx Ly Lz : Nat} {a x y z : Int}

theorem xleg_succ (h : ST Lx Ly Lz a x y z) (ha : a = 0 ∨ a = 2) :
    [x + 1, y, z] ∈ triKeys Lx Ly Lz a x y z := by
  refine (mem_triKeys_iff h).mpr (Or.inl ⟨?_, rfl, rfl⟩)
  rw [sgnX, if_pos ha, step_pos]

theorem xleg_pred (h : ST Lx Ly Lz a x y z) (ha : a = 1 ∨ a = 3) (hx : x ≠ 0) :
    [x - 1, y, z] ∈ triKeys Lx Ly Lz a x y z := by
  refine (mem_triKeys_iff h).mpr (Or.inl ⟨?_, rfl, rfl⟩)
  rw [sgnX, if_neg (by omega), step_neg, dn, if_neg hx]

theorem yleg_dn (h : ST Lx Ly Lz a x y z) (ha : a = 1 ∨ a = 2) :
    [x, dn (2*Ly) y, z] ∈ triKeys Lx Ly Lz a x y z := by
  refine (mem_triKeys_iff h).mpr (Or.inr (Or.inl ⟨rfl, ?_, rfl⟩))
  rw [sgnY, if_neg (by omega), step_neg]

theorem yleg_pred (h : ST Lx Ly Lz a x y z) (ha : a = 1 ∨ a = 2) (hy : y ≠ 0) :
    [x, y - 1, z] ∈ triKeys Lx Ly Lz a x y z := by
  have := yleg_dn h ha
  rwa [dn, if_neg hy] at this

theorem zleg_succ (h : ST Lx Ly Lz a x y z)
    (ha : ((x + y + z) % 4 = 0 ∧ (a = 0 ∨ a = 1)) ∨ ((x + y + z) % 4 ≠ 0 ∧ (a = 2 ∨ a = 3))) :
    [x, y, z + 1] ∈ triKeys Lx Ly Lz a x y z := by
  refine (mem_triKeys_iff h).mpr (Or.inr (Or.inr ⟨rfl, rfl, ?_⟩))
  rcases ha with ⟨hp, ha⟩ | ⟨hp, ha⟩
  · rw [sgnZ, if_pos hp, if_pos ha, step_pos]
  · rw [sgnZ, if_neg hp, if_pos ha, step_pos]

theorem zleg_dn (h : ST Lx Ly Lz a x y z)
    (ha : ((x + y + z) % 4 = 0 ∧ (a = 2 ∨ a = 3)) ∨ ((x + y + z) % 4 ≠ 0 ∧ (a = 0 ∨ a = 1))) :
    [x, y, dn (2*Lz) z] ∈ triKeys Lx Ly Lz a x y z := by
  refine (mem_triKeys_iff h).mpr (Or.inr (Or.inr ⟨rfl, rfl, ?_⟩))
  rcases ha with ⟨hp, ha⟩ | ⟨hp, ha⟩
  · rw [sgnZ, if_pos hp, if_neg (by omega), step_neg]
  · rw [sgnZ, if_neg hp, if_neg (by omega), step_neg]

theorem zleg_pred (h : ST Lx Ly Lz a x y z)
    (ha : ((x + y + z) % 4 = 0 ∧ (a = 2 ∨ a = 3)) ∨ ((x + y + z) % 4 ≠ 0 ∧ (a = 0 ∨ a = 1)))
    (hz : z ≠ 0) : [x, y, z - 1] ∈ triKeys Lx Ly Lz a x y z := by
  have := zleg_dn h ha
  rwa [dn, if_neg hz] at this

end legs

theorem probe_tri_mem {Lx Ly Lz : Nat} (hex : Lx % 2 = 0) {a x y z : Int}
    (h : TK Lx Ly Lz a x y z) : (probe Lx Ly Lz [a, x, y, z]).1 ∈ triKeys Lx Ly Lz a x y z := by
  have hst := h.st
  obtain ⟨hx, hy, hz, hc⟩ := h
  unfold R0 at hx hy hz
  simp only [probe]
  rcases hc with ⟨h0, h1, hc⟩ | ⟨h0, hc⟩ | ⟨h0, hc⟩
  · rw [if_neg (by omega), if_neg (by omega)]
    rcases hc with rfl | rfl | ⟨rfl, hp⟩
    · rw [if_neg (by decide), if_pos rfl]
      exact yleg_dn hst (Or.inr rfl)
    · rw [if_neg (by decide), if_neg (by decide)]
      exact xleg_pred hst (Or.inr rfl) (by omega)
    · rw [if_pos rfl]
      exact zleg_dn hst (Or.inr ⟨by omega, Or.inr rfl⟩)
  · rw [if_pos h0]
    rcases hc with rfl | rfl | ⟨rfl, hyz⟩
    · rw [if_pos rfl]
      exact xleg_succ hst (Or.inr rfl)
    · rw [if_neg (by decide), if_pos rfl]
      split
      · -- `x ≡ 2 (mod 4)` because `Lx` is even, so `z ≡ 2 (mod 4)` here, and `z ≠ 0`
        rename_i hp
        exact zleg_pred hst (Or.inl ⟨hp.2, Or.inr rfl⟩) (by omega)
      · exact xleg_pred hst (Or.inr rfl) (by omega)
    · rw [if_neg (by decide), if_neg (by decide)]
      split
      · exact yleg_pred hst (Or.inl rfl) (by omega)
      · split
        · exact xleg_pred hst (Or.inl rfl) (by omega)
        · rename_i hp
          exact zleg_pred hst (Or.inr ⟨hp, Or.inr rfl⟩) (by omega)
  · rw [if_neg (by omega), if_pos h0]
    rcases hc with hc | hc | ⟨hz2, hc⟩ | ⟨hzt, -, hc⟩
    · rw [if_pos (Or.inl hc)]
      exact yleg_dn hst (Or.inl hc.1)
    · rw [if_pos (Or.inr hc)]
      exact yleg_dn hst (Or.inr hc.1)
    · rw [if_neg (by omega), if_neg (by omega)]
      exact zleg_pred hst (by omega) (by omega)
    · rw [if_neg (by omega), if_pos (by omega)]
      exact zleg_succ hst (by omega)

theorem probe_cube_mem {Lx Ly Lz : Nat} (hLx : 2 ≤ Lx) (hLy : 2 ≤ Ly) {x y z : Int}
    (h : CK Lx Ly Lz x y z) : (probe Lx Ly Lz [x, y, z]).1 ∈ cubeKeys Lx Ly Lz x y z := by
  obtain ⟨⟨hx, hy, hz, hp⟩, hne⟩ := h
  have ux := up_spec (2*Lx) x
  have uy := up_spec (2*Ly) y
  unfold R1 at hx hy hz
  simp only [probe]
  unfold cubeKeys
  generalize up (2*Lx) x = xu at *
  generalize up (2*Ly) y = yu at *
  split
  · rw [List.mem_filter, mem_cubeLocs, isQubit_iff]
    refine ⟨Or.inr (Or.inr ⟨rfl, Or.inr rfl, Or.inr rfl⟩), Or.inl ?_⟩
    unfold QX R0 R1; omega
  · split
    · rw [List.mem_filter, mem_cubeLocs, isQubit_iff]
      refine ⟨Or.inl ⟨by omega, Or.inr rfl, Or.inr rfl⟩, Or.inr (Or.inr ?_)⟩
      unfold QZ R0 R1; omega
    · split
      · rename_i h1 h2 h3
        obtain ⟨rfl, rfl⟩ := h3
        rw [List.mem_filter, mem_cubeLocs, isQubit_iff]
        refine ⟨Or.inl ⟨by omega, ?_, Or.inr (by omega)⟩, Or.inr (Or.inr ?_)⟩
        · unfold A; left; have := up_spec (2*Lx) 1; omega
        · unfold QZ R0 R1; omega
      · rw [List.mem_filter, mem_cubeLocs, isQubit_iff]
        refine ⟨Or.inl ⟨by omega, Or.inr rfl, ?_⟩, Or.inr (Or.inr ?_)⟩
        · unfold A
          have := up_spec (2*Ly) y
          omega
        · unfold QZ R0 R1; omega

theorem probe_diag {Lx Ly Lz : Nat} (hLx : 2 ≤ Lx) (hLy : 2 ≤ Ly) (hex : Lx % 2 = 0)
    {s : Coord} (h : Kind Lx Ly Lz s) :
    Pauli.anti (probe Lx Ly Lz s).2 (letterOf s) = true ∧ (probe Lx Ly Lz s).1 ∈ keysOf Lx Ly Lz s := by
  rcases h with ⟨x, y, z, rfl, hk⟩ | ⟨a, x, y, z, rfl, hk⟩
  · exact ⟨rfl, probe_cube_mem hLx hLy hk⟩
  · exact ⟨rfl, probe_tri_mem hex hk⟩

theorem probe_snd3 (Lx Ly Lz : Nat) (x y z : Int) : (probe Lx Ly Lz [x, y, z]).2 = Pauli.Z := rfl
theorem probe_snd4 (Lx Ly Lz : Nat) (a x y z : Int) : (probe Lx Ly Lz [a, x, y, z]).2 = Pauli.X := rfl

end Panqec.RhombicToricCode
