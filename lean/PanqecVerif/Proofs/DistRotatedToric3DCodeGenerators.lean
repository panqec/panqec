/-
RotatedToric3DCode, supported family, C17: the parity constraints of one generator in the SIGN
picture of `commPair` (`Proofs/LatRotatedToric3DCode{Signed,Candidates,Stab}.lean`; `Kind`, `signed_of_kind` in
`…Kinds.lean`, `col_h` in `…LogComm.lean`).  For an operator `b` and a sign `σ`, `hS b σ q` is 1 when `q` is a
qubit and the letter `dl σ q` (Z if `σ` is the colour of `q`, X otherwise) anticommutes with the
letter of `b` on `q`.  A generator is a signed operator, so if `b` commutes with it the indicators
of its signed candidates add up to an even number (`stab_sum`).  Written out: every layer generator
(vertex or horizontal face alike, on or off a defect line) gives `layer_even`, every vertical face
`vface_even`.
-/
import PanqecVerif.Proofs.LatRotatedToric3DCodeCommPair
-- nothing below names this module; `stab_sum` (a fixed statement) elaborates `List.sum` with the
-- `Zero ℕ` instance that its Mathlib imports bring into scope
import PanqecVerif.Proofs.DistLat3Db

namespace Panqec.RotatedToric3DCode
open Panqec.Lat3Db

/-- sign indicator restricted to the qubits: `0` outside the lattice -/
def hS (Lx Ly Lz : Nat) (b : Op) (σ : Bool) (q : Coord) : Nat :=
  if isQubit Lx Ly Lz q = true then
    (if Pauli.anti (dl σ q) (Op.letter b q) = true then 1 else 0) else 0

/-- X-component indicator: the sign opposite to the colour -/
def xH (Lx Ly Lz : Nat) (b : Op) (q : Coord) : Nat := hS Lx Ly Lz b (!col q) q

theorem hS_of_not {Lx Ly Lz : Nat} {b : Op} {σ : Bool} {x y z : Int}
    (h : ¬ (QH Lx Ly Lz x y z ∨ QV Lx Ly Lz x y z)) : hS Lx Ly Lz b σ [x, y, z] = 0 := by
  unfold hS; rw [if_neg (fun h' => h ((isQubit_iff Lx Ly Lz x y z).mp h'))]

theorem hS_le_one (Lx Ly Lz : Nat) (b : Op) (σ : Bool) (q : Coord) : hS Lx Ly Lz b σ q ≤ 1 := by
  unfold hS; split <;> (try split) <;> omega

def CommStabs (Lx Ly Lz : Nat) (b : Op) : Prop :=
  ∀ s ∈ (lattice Lx Ly Lz).stabs, opAntiCount ((lattice Lx Ly Lz).getStab s) b % 2 = 0

variable {Lx Ly Lz : Nat}

theorem stab_sum (hF : Fam Lx Ly) {b : Op} (hb : CommStabs Lx Ly Lz b) {s : Coord}
    {K : List (Coord × Bool)} (hs : s ∈ stabs Lx Ly Lz) (hk : Kind Lx Ly Lz s K) :
    (K.map fun e => hS Lx Ly Lz b e.2 e.1).sum % 2 = 0 := by
  have h := hb s hs
  change opAntiCount (getStab Lx Ly Lz s) b % 2 = 0 at h
  obtain ⟨g, hg, hgl⟩ := (signed_of_kind hF hk).eq
  rw [hg, opAntiCount_eq_countP] at h
  unfold gop at h
  rw [List.countP_map, List.countP_filter, List.countP_map] at h
  have e1 : K.countP (((fun q => ((fun e : Coord × Pauli => Pauli.anti e.2 (Op.letter b e.1)) ∘
        fun q => (q, g q)) q && isQubit Lx Ly Lz q) ∘ Prod.fst)) =
      K.countP (fun e => Pauli.anti (dl e.2 e.1) (Op.letter b e.1) && isQubit Lx Ly Lz e.1) := by
    apply List.countP_congr
    intro e he
    simp only [Function.comp]
    rw [hgl e he]
  have e2 : K.countP (fun e => Pauli.anti (dl e.2 e.1) (Op.letter b e.1) && isQubit Lx Ly Lz e.1) =
      (K.map fun e => hS Lx Ly Lz b e.2 e.1).sum := by
    rw [← sum_indicator_eq_countP]
    congr 1
    apply List.map_congr_left
    intro e _
    unfold hS
    by_cases hq : isQubit Lx Ly Lz e.1 = true
    · simp [hq]
    · have hq' : isQubit Lx Ly Lz e.1 = false := by simpa using hq
      simp [hq']
  rw [e1, e2] at h
  exact h

/-- the constraint of a layer generator at `(x, y, z)` — vertex or horizontal face, on or off a
    defect line: the two neighbours on the main diagonal with sign `true`, the two on the
    anti-diagonal with sign `false`, and the vertical neighbours (qubits only above / below a
    vertex) with sign `true` -/
theorem layer_even (hF : Fam Lx Ly) {b : Op} (hb : CommStabs Lx Ly Lz b) {x y z : Int}
    (hx : Ev Lx x) (hy : Ev Ly y) (hz : R1 (2 * Lz) z) :
    (hS Lx Ly Lz b true [x - 1, y - 1, z] + hS Lx Ly Lz b true [sw Lx x, sw Ly y, z]
      + hS Lx Ly Lz b false [x - 1, sw Ly y, z] + hS Lx Ly Lz b false [sw Lx x, y - 1, z]
      + hS Lx Ly Lz b true [x, y, z + 1] + hS Lx Ly Lz b true [x, y, z - 1]) % 2 = 0 := by
  have hx' := hx; have hy' := hy
  unfold Ev at hx' hy'
  rcases (show (x + y) % 4 = 2 ∨ (x + y) % 4 = 0 by omega) with h4 | h4
  · have hsv : SV Lx Ly Lz x y z := ⟨R2_Ev.mpr hx, R2_Ev.mpr hy, hz, h4⟩
    have h := stab_sum hF hb ((mem_stabs_iff Lx Ly Lz x y z).mpr (Or.inl hsv)) (Kind.vertex hsv)
    simp only [KV, List.map_cons, List.map_nil, List.sum_cons, List.sum_nil] at h
    omega
  · have hsh : SH Lx Ly Lz x y z := ⟨R2_Ev.mpr hx, R2_Ev.mpr hy, hz, h4⟩
    have h := stab_sum hF hb ((mem_stabs_iff Lx Ly Lz x y z).mpr (Or.inr (Or.inl hsh)))
      (Kind.hface hsh)
    simp only [KH, List.map_cons, List.map_nil, List.sum_cons, List.sum_nil] at h
    have e1 : hS Lx Ly Lz b true [x, y, z + 1] = 0 :=
      hS_of_not (by unfold QH QV R1 R2; omega)
    have e2 : hS Lx Ly Lz b true [x, y, z - 1] = 0 :=
      hS_of_not (by unfold QH QV R1 R2; omega)
    omega

/-- the constraint of a vertical face at `(f, g, h)`: the four diagonal neighbours in its layer
    (vertical qubits on one diagonal only) with sign `false`, the horizontal qubits below and
    above with their X component -/
theorem vface_even (hF : Fam Lx Ly) {b : Op} (hb : CommStabs Lx Ly Lz b) {f g h : Int}
    (hs : SF Lx Ly Lz f g h) :
    (hS Lx Ly Lz b false [pw Lx f, pw Ly g, h] + hS Lx Ly Lz b false [f + 1, g + 1, h]
      + hS Lx Ly Lz b false [pw Lx f, g + 1, h] + hS Lx Ly Lz b false [f + 1, pw Ly g, h]
      + xH Lx Ly Lz b [f, g, h - 1] + xH Lx Ly Lz b [f, g, h + 1]) % 2 = 0 := by
  have hh : h % 2 = 0 := hs.2.2.1.1
  -- the candidates of the face's layer on the other diagonal are not qubits
  have off : ∀ {a c : Int} (σ : Bool), (a + c) % 4 = 0 → hS Lx Ly Lz b σ [a, c, h] = 0 :=
    fun σ hac => hS_of_not (by unfold QH QV R1; omega)
  -- off the dropped columns the predecessors keep their class
  have ef : pw Lx f % 4 = (f - 1) % 4 := by
    rw [pw_mod4 (R1_Od.mp hs.1), if_neg fun h => hs.2.2.2 (Or.inr h)]
  have eg : pw Ly g % 4 = (g - 1) % 4 := by
    rw [pw_mod4 (R1_Od.mp hs.2.1), if_neg fun h => hs.2.2.2 (Or.inl h)]
  have hst := fun K hk => stab_sum (K := K) hF hb
    ((mem_stabs_iff Lx Ly Lz f g h).mpr (Or.inr (Or.inr hs))) hk
  unfold xH
  rw [col_h (by omega), col_h (by omega)]
  rcases SF_mod4 hs with h4 | h4
  · have hst := hst _ (Kind.vfaceX hs h4)
    simp only [KFX, List.map_cons, List.map_nil, List.sum_cons, List.sum_nil] at hst
    rw [off false (a := pw Lx f) (c := g + 1) (by rw [Int.add_emod, ef, ← Int.add_emod]; omega),
      off false (a := f + 1) (c := pw Ly g) (by rw [Int.add_emod, eg, ← Int.add_emod]; omega),
      show ((f + g) % 4 == 0) = true from beq_iff_eq.mpr h4]
    simp only [Bool.not_true]
    omega
  · have hst := hst _ (Kind.vfaceY hs h4)
    simp only [KFY, List.map_cons, List.map_nil, List.sum_cons, List.sum_nil] at hst
    rw [off false (a := pw Lx f) (c := pw Ly g) (by rw [Int.add_emod, ef, eg, ← Int.add_emod]; omega),
      off false (a := f + 1) (c := g + 1) (by omega),
      show ((f + g) % 4 == 0) = false from beq_eq_false_iff_ne.mpr (by omega)]
    simp only [Bool.not_false]
    omega

end Panqec.RotatedToric3DCode
