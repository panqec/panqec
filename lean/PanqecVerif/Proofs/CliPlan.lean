/-
Helper lemmas for C14.  The tasks of input `j` are the consecutive task numbers
`j·q, …, j·q + tpi j - 1` (`q = n_tasks / n_inputs`); each of them runs `T / tpi j` trials and
the last one the remainder as well, which gives both the number of tasks per input and the
conservation of trials.  Then the enumeration of (node, core) pairs, and injectivity of the
zero-padded decimal task number.  Core Lean only.
-/
import PanqecVerif.Model.Cli

namespace Panqec.Cli

theorem filter_range_interval (p : Nat → Bool) {a n N : Nat} (hN : a + n ≤ N)
    (h : ∀ t < N, p t = true ↔ a ≤ t ∧ t < a + n) :
    (List.range N).filter p = List.range' a n := by
  obtain ⟨k, rfl⟩ : ∃ k, N = a + n + k := ⟨N - (a + n), by omega⟩
  have hsplit : List.range (a + n + k) =
      List.range' 0 a ++ (List.range' a n ++ List.range' (a + n) k) := by
    rw [List.range_eq_range', ← List.range'_append_1, ← List.range'_append_1, List.append_assoc,
      Nat.zero_add, Nat.zero_add]
  have h0 : (List.range' 0 a).filter p = [] := List.filter_eq_nil_iff.mpr fun t ht => by
    have := List.mem_range'_1.mp ht
    rw [h t (by omega)]
    omega
  have h1 : (List.range' a n).filter p = List.range' a n := List.filter_eq_self.mpr fun t ht => by
    have := List.mem_range'_1.mp ht
    exact (h t (by omega)).mpr this
  have h2 : (List.range' (a + n) k).filter p = [] := List.filter_eq_nil_iff.mpr fun t ht => by
    have := List.mem_range'_1.mp ht
    rw [h t (by omega)]
    omega
  rw [hsplit, List.filter_append, List.filter_append, h0, h1, h2, List.nil_append, List.append_nil]

theorem sum_map_range'_last (f : Nat → Nat) (c e : Nat) : ∀ {n a : Nat}, 0 < n →
    (∀ t, a ≤ t → t < a + n → f t = c + if t + 1 = a + n then e else 0) →
    ((List.range' a n).map f).sum = n * c + e
  | 1, a, _, h => by simp [h a]
  | n + 2, a, _, h => by
    have ih := sum_map_range'_last f c e (n := n + 1) (a := a + 1) (Nat.succ_pos n) fun t h1 h2 => by
      rw [h t (by omega) (by omega), show a + (n + 2) = a + 1 + (n + 1) by omega]
    rw [List.range'_succ, List.map_cons, List.sum_cons, ih, h a (Nat.le_refl a) (by omega),
      if_neg (by omega), Nat.succ_mul (n + 1) c]
    omega

/-! ### the tasks of one input

`q` tasks per input, `r` extra ones for the last input, `nT` tasks in all; `run_parallel` has
`q = nT / I`, `r = nT % I` (`div_mod_split`). -/

theorem div_mod_split {I : Nat} (hI : 0 < I) (n : Nat) : n = (I - 1) * (n / I) + n / I + n % I := by
  obtain ⟨k, rfl⟩ : ∃ k, I = k + 1 := ⟨I - 1, by omega⟩
  rw [Nat.add_sub_cancel, ← Nat.succ_mul]
  exact (Nat.div_add_mod n (k + 1)).symm

section
variable {q r I nT : Nat} (hq : 0 < q) (hs : nT = (I - 1) * q + q + r)
include hq hs

theorem tasks_interval_le {j : Nat} (hj : j < I) : j * q + tpi q r I j ≤ nT := by
  unfold tpi
  by_cases hlast : j = I - 1
  · rw [if_pos hlast, hlast]; omega
  · have h : (j + 1) * q ≤ (I - 1) * q := Nat.mul_le_mul_right _ (by omega)
    rw [Nat.add_mul, Nat.one_mul] at h
    rw [if_neg hlast]; omega

theorem inputOf_eq_iff {t j : Nat} (ht : t < nT) (hj : j < I) :
    inputOf q I t = j ↔ j * q ≤ t ∧ t < j * q + tpi q r I j := by
  have hle := tasks_interval_le (r := r) hq hs hj
  have hlast : I - 1 ≤ t / q ↔ (I - 1) * q ≤ t := Nat.le_div_iff_mul_le hq
  have hdiv : t / q = j ↔ j * q ≤ t ∧ t ≤ j * q + q - 1 := Nat.div_eq_iff hq
  unfold inputOf
  unfold tpi at hle ⊢
  by_cases hge : t / q ≥ I
  · rw [if_pos hge]
    by_cases hl : j = I - 1
    · rw [if_pos hl, hl]; omega
    · rw [if_neg hl] at hle ⊢; omega
  · rw [if_neg hge]
    by_cases hl : j = I - 1
    · rw [if_pos hl, hl]; omega
    · rw [if_neg hl]; omega

theorem runsOf_eq {t j : Nat} (T : Nat) (ht : t < nT) (hj : j < I) (hin : inputOf q I t = j) :
    runsOf q r I T t =
      T / tpi q r I j + if t + 1 = j * q + tpi q r I j then T % tpi q r I j else 0 := by
  obtain ⟨h1, h2⟩ := (inputOf_eq_iff hq hs ht hj).mp hin
  have hidx : idxIn q r I t = t - j * q := by
    unfold idxIn
    rw [hin]
    by_cases hl : j = I - 1
    · rw [if_pos hl, hl, Nat.mul_comm]
    · have hn : tpi q r I j = q := if_neg hl
      rw [hn] at h2 ⊢
      have hdiv : t / q = j := (Nat.div_eq_iff hq).mpr (by omega)
      rw [if_neg hl, Nat.mod_eq_sub_div_mul, hdiv]
  unfold runsOf
  rw [hin, hidx]
  by_cases hend : t + 1 = j * q + tpi q r I j
  · rw [if_pos hend, if_pos (by omega)]
  · rw [if_neg hend, if_neg (by omega)]; rfl

theorem tasksOf_eq_range' {j : Nat} (hj : j < I) :
    (List.range nT).filter (fun t => inputOf q I t == j) = List.range' (j * q) (tpi q r I j) :=
  filter_range_interval _ (tasks_interval_le hq hs hj)
    fun _ ht => beq_iff_eq.trans (inputOf_eq_iff hq hs ht hj)

theorem sum_runsOf {j : Nat} (T : Nat) (hj : j < I) :
    (((List.range nT).filter (fun t => inputOf q I t == j)).map (runsOf q r I T)).sum = T := by
  have hle := tasks_interval_le (r := r) hq hs hj
  have hn : 0 < tpi q r I j := by unfold tpi; split <;> omega
  rw [tasksOf_eq_range' hq hs hj, sum_map_range'_last _ (T / tpi q r I j) (T % tpi q r I j) hn
    fun t h1 h2 => runsOf_eq hq hs T (by omega) hj ((inputOf_eq_iff hq hs (by omega) hj).mpr ⟨h1, h2⟩)]
  exact Nat.div_add_mod T _
end

theorem flatMap_range_range {α : Type} (N C : Nat) (f : Nat → α) :
    ((List.range N).flatMap fun n => (List.range C).map fun c => f (C * n + c)) =
      (List.range (N * C)).map f := by
  induction N with
  | zero => simp
  | succ N ih =>
    rw [List.range_succ, List.flatMap_append, ih, Nat.succ_mul, List.range_add, List.map_append]
    simp [List.map_map, Function.comp_def, Nat.mul_comm]

theorem allTasks_eq (I N C T : Nat) :
    allTasks I N C T = (List.range (N * C)).map fun t =>
      ({ input := inputOf (N * C / I) I t
         nRuns := runsOf (N * C / I) (N * C % I) I T t
         resultFile := resultName (N * C) t
         logFile := progressName (N * C) t } : Task) := by
  unfold allTasks
  exact flatMap_range_range N C fun t =>
    ({ input := inputOf (N * C / I) I t
       nRuns := runsOf (N * C / I) (N * C % I) I T t
       resultFile := resultName (N * C) t
       logFile := progressName (N * C) t } : Task)

theorem trialsFor_allTasks (I N C T j : Nat) :
    trialsFor j (allTasks I N C T) =
      (((List.range (N * C)).filter (fun t => inputOf (N * C / I) I t == j)).map
        (runsOf (N * C / I) (N * C % I) I T)).sum := by
  rw [allTasks_eq]
  unfold trialsFor
  rw [List.filter_map, List.map_map]
  rfl

theorem tasksFor_allTasks (I N C T j : Nat) :
    ((allTasks I N C T).filter (fun t => t.input == j)).length =
      ((List.range (N * C)).filter (fun t => inputOf (N * C / I) I t == j)).length := by
  rw [allTasks_eq, List.filter_map, List.length_map]
  rfl

theorem digitsVal_append_single (ds : List Nat) (d : Nat) :
    digitsVal (ds ++ [d]) = 10 * digitsVal ds + d := by
  simp [digitsVal, List.foldl_append]

theorem digitsVal_decDigitsAux : ∀ f n, n ≤ f → digitsVal (decDigitsAux f n) = n := by
  intro f
  induction f with
  | zero => intro n hn; have : n = 0 := by omega
            subst this; simp [decDigitsAux, digitsVal]
  | succ f ih =>
    intro n hn
    unfold decDigitsAux
    by_cases h : n < 10
    · simp [h, digitsVal]
    · simp only [h, if_false]
      rw [digitsVal_append_single, ih (n / 10) (by omega)]
      omega

theorem digitsVal_decDigits (n : Nat) : digitsVal (decDigits n) = n :=
  digitsVal_decDigitsAux n n (Nat.le_refl n)

theorem decDigitsAux_lt_ten : ∀ f n, ∀ d ∈ decDigitsAux f n, d < 10 := by
  intro f
  induction f with
  | zero => intro n d hd; simp [decDigitsAux] at hd; omega
  | succ f ih =>
    intro n d hd
    unfold decDigitsAux at hd
    by_cases h : n < 10
    · simp [h] at hd; omega
    · simp only [h, if_false] at hd
      rcases List.mem_append.mp hd with hd | hd
      · exact ih (n / 10) d hd
      · simp at hd; omega

theorem decDigits_lt_ten (n : Nat) : ∀ d ∈ decDigits n, d < 10 := decDigitsAux_lt_ten n n

theorem charDigit_digitChar : ∀ d, d < 10 → charDigit (digitChar d) = d := by decide

/-- value of a string of decimal digit characters -/
def strVal (s : List Char) : Nat := digitsVal (s.map charDigit)

theorem map_charDigit_digitChar : ∀ l : List Nat, (∀ d ∈ l, d < 10) →
    (l.map digitChar).map charDigit = l
  | [], _ => rfl
  | d :: l, h => by
    rw [List.map_cons, List.map_cons, charDigit_digitChar d (h d (by simp)),
      map_charDigit_digitChar l fun x hx => h x (by simp [hx])]

theorem strVal_natStr (n : Nat) : strVal (natStr n) = n := by
  unfold strVal natStr
  rw [map_charDigit_digitChar _ (decDigits_lt_ten n), digitsVal_decDigits]

theorem digitsVal_replicate_zero_append (k : Nat) (ds : List Nat) :
    digitsVal (List.replicate k 0 ++ ds) = digitsVal ds := by
  unfold digitsVal
  rw [List.foldl_append]
  congr 1
  induction k with
  | zero => rfl
  | succ k ih => simp [List.replicate_succ, ih]

theorem strVal_zfill (w : Nat) (s : List Char) : strVal (zfill w s) = strVal s := by
  unfold strVal zfill
  rw [List.map_append, List.map_replicate]
  have : charDigit '0' = 0 := by decide
  rw [this, digitsVal_replicate_zero_append]

theorem strVal_taskNumber (nT t : Nat) : strVal (taskNumber nT t) = t + 1 := by
  unfold taskNumber
  rw [strVal_zfill, strVal_natStr]

theorem taskNumber_injective (nT t t' : Nat) (h : taskNumber nT t = taskNumber nT t') : t = t' := by
  have := congrArg strVal h
  rw [strVal_taskNumber, strVal_taskNumber] at this
  omega

theorem resultName_injective (nT t t' : Nat) (h : resultName nT t = resultName nT t') : t = t' :=
  taskNumber_injective nT t t' (List.append_cancel_left (List.append_cancel_right h))

theorem progressName_injective (nT t t' : Nat) (h : progressName nT t = progressName nT t') :
    t = t' :=
  taskNumber_injective nT t t' (List.append_cancel_left (List.append_cancel_right h))

theorem taskIndex_injective (C job job' core core' : Nat) (hc : core < C) (hc' : core' < C)
    (hj : 1 ≤ job) (hj' : 1 ≤ job')
    (h : taskIndex C job core = taskIndex C job' core') : job = job' ∧ core = core' := by
  unfold taskIndex at h
  have h1 : (C * (job - 1) + core) / C = job - 1 := by
    rw [Nat.mul_add_div (by omega), Nat.div_eq_of_lt hc]; rfl
  have h2 : (C * (job' - 1) + core') / C = job' - 1 := by
    rw [Nat.mul_add_div (by omega), Nat.div_eq_of_lt hc']; rfl
  have h3 : job - 1 = job' - 1 := by rw [← h1, ← h2, h]
  have h4 : job = job' := by omega
  subst h4
  exact ⟨rfl, by omega⟩

theorem taskIndex_lt (N C job core : Nat) (hc : core < C) (hj : 1 ≤ job) (hjN : job ≤ N) :
    taskIndex C job core < N * C := by
  unfold taskIndex
  have : C * (job - 1) + C ≤ C * N := by
    rw [← Nat.mul_succ]; exact Nat.mul_le_mul_left _ (by omega)
  rw [Nat.mul_comm N C]; omega

end Panqec.Cli
