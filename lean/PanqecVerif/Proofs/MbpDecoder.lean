/-
The integer glue of `MemoryBeliefPropagationDecoder` (`Model/MbpDecoder.lean`): shape of the
result, the loop's break condition, the final reverse-and-swap.  Core Lean only.
-/
import PanqecVerif.Model.MbpDecoder

namespace Panqec.Mbp

open Panqec

theorem hardDecision_lt (m : Bool × Fin 3) : hardDecision m < 4 := by
  unfold hardDecision
  split
  · omega
  · have := m.2.isLt; omega

theorem hardVec_length (n : Nat) (msg : List (Bool × Fin 3)) : (hardVec n msg).length = n := by
  simp [hardVec]

theorem hardVec_lt (n : Nat) (msg : List (Bool × Fin 3)) : ∀ x ∈ hardVec n msg, x < 4 := by
  intro x hx
  obtain ⟨q, _, rfl⟩ := List.mem_map.mp hx
  exact hardDecision_lt _

theorem pauliToSymplectic_length (a : Vec) (r : Bool) : (pauliToSymplectic a r).length = 2 * a.length := by
  unfold pauliToSymplectic
  cases r <;> simp <;> omega

theorem pauliToSymplectic_binary (a : Vec) (r : Bool) : ∀ x ∈ pauliToSymplectic a r, x < 2 := by
  intro x hx
  unfold pauliToSymplectic at hx
  cases r <;> simp only [Bool.false_eq_true, if_false, if_true, List.mem_append, List.mem_map] at hx <;>
    rcases hx with ⟨v, _, rfl⟩ | ⟨v, _, rfl⟩ <;> split <;> omega

/-- reversing the halves and swapping them back is the plain conversion: the vector `decode`
    returns is the vector whose syndrome the last iteration tested -/
theorem finalVector_eq (n : Nat) (c : Vec) (h : c.length = n) :
    finalVector n c = pauliToSymplectic c false := by
  unfold finalVector pauliToSymplectic
  simp only [if_true, Bool.false_eq_true, if_false]
  rw [List.drop_left' (by simp [h]), List.take_left' (by simp [h])]

/-- the vector tested in iteration `it` -/
def testedVector (n : Nat) (msgs : Nat → List (Bool × Fin 3)) (it : Nat) : Vec :=
  pauliToSymplectic (hardVec n (msgs it)) false

/-- what the loop returns: it runs iterations `it, it+1, …`, stops after the first one whose tested
    vector has the measured syndrome, otherwise after `remaining` iterations -/
theorem loop_spec (H : Mat) (n : Nat) (msgs : Nat → List (Bool × Fin 3)) (s : Vec) :
    ∀ (remaining it : Nat) (last r : Option Vec) (k : Nat),
      loop H n msgs s remaining it last = (r, k) →
      it ≤ k ∧ k ≤ it + remaining ∧
      (∀ j, it ≤ j → j + 1 < k → measureSyndrome H (testedVector n msgs j) ≠ s) ∧
      (k = it → r = last ∧ remaining = 0) ∧
      (it < k → r = some (hardVec n (msgs (k - 1))) ∧
        (measureSyndrome H (testedVector n msgs (k - 1)) = s ∨ k = it + remaining))
  | 0, it, last, r, k, h => by
    simp only [loop, Prod.mk.injEq] at h
    obtain ⟨rfl, rfl⟩ := h
    exact ⟨Nat.le_refl _, Nat.le_refl _, fun j h1 h2 => by omega, fun _ => ⟨rfl, rfl⟩, fun h => by omega⟩
  | remaining + 1, it, last, r, k, h => by
    unfold loop at h
    simp only at h
    by_cases hc : measureSyndrome H (pauliToSymplectic (hardVec n (msgs it)) false) = s
    · simp only [hc, beq_self_eq_true, if_true, Prod.mk.injEq] at h
      obtain ⟨rfl, rfl⟩ := h
      refine ⟨by omega, by omega, fun j h1 h2 => by omega, fun h => by omega, fun _ => ?_⟩
      simp only [Nat.add_sub_cancel]
      exact ⟨trivial, Or.inl hc⟩
    · have hne : (measureSyndrome H (pauliToSymplectic (hardVec n (msgs it)) false) == s) = false := by
        simpa using hc
      simp only [hne, Bool.false_eq_true, if_false] at h
      obtain ⟨h1, h2, h3, h4, h5⟩ := loop_spec H n msgs s remaining (it + 1) _ r k h
      refine ⟨by omega, by omega, ?_, fun hk => by omega, fun _ => ?_⟩
      · intro j hj1 hj2
        by_cases hj : j = it
        · subst hj; exact hc
        · exact h3 j (by omega) hj2
      · by_cases hk : k = it + 1
        · obtain ⟨hr, hrem⟩ := h4 hk
          subst hk
          simp only [Nat.add_sub_cancel]
          exact ⟨hr, Or.inr (by omega)⟩
        · obtain ⟨hr, hor⟩ := h5 (by omega)
          exact ⟨hr, hor.imp id (fun h => by omega)⟩

/-- `decode` with a budget of at least one iteration: it runs `1 ≤ k ≤ max_bp_iter` iterations,
    returns the vector tested in the last one, every earlier test failed, and the last one
    succeeded unless the budget ran out -/
theorem decode_spec (H : Mat) (n maxIter : Nat) (msgs : Nat → List (Bool × Fin 3)) (s : Vec)
    (hmax : 1 ≤ maxIter) :
    ∃ k, 1 ≤ k ∧ k ≤ maxIter ∧ decode H n maxIter msgs s = (.ok (testedVector n msgs (k - 1)), k) ∧
      (∀ j, j + 1 < k → measureSyndrome H (testedVector n msgs j) ≠ s) ∧
      (measureSyndrome H (testedVector n msgs (k - 1)) = s ∨ k = maxIter) := by
  unfold decode
  cases hl : loop H n msgs s maxIter 0 none with
  | mk r k =>
    obtain ⟨_, h2, h3, h4, h5⟩ := loop_spec H n msgs s maxIter 0 none r k hl
    have hk : 0 < k := Nat.pos_of_ne_zero fun h0 => by have := (h4 h0).2; omega
    obtain ⟨rfl, hor⟩ := h5 hk
    exact ⟨k, hk, by omega, by simp only [finalVector_eq n _ (hardVec_length _ _), testedVector],
      fun j hj => h3 j (Nat.zero_le _) hj, hor.imp id (by omega)⟩

end Panqec.Mbp
