/-
`checkDistanceP`: `checkDistance` (Model/Dist.lean) with the forcing taken out of the packing check
(`forceNat` and `unlanesK` in `checkPacking`, `comboAccS` for `comboAcc`, `forceList` in
`checkGroups`) and from the entry of the two enumerations (`forceNat`, `forceList`, `forcePairs` on
the bound, the rows and the effect table in `checkExhaustive`, `checkExhaustiveCSS`), and the proof
that the two are the same function.  The enumeration itself (`exhB`, `exhTails`, `exhB1`,
`exhTails1`) is the model's and keeps its `forceNat` on the accumulated effect.  The instance
theorems (`Instances/Dist<Class>.lean`) evaluate `checkDistanceP`, and the soundness proofs
(`Proofs/DistPacking.lean`, `DistExhaustive.lean`, `DistCSS.lean`) read the model's checkers through
`checkPacking_eq`, `checkExhaustive_eq`, `checkExhaustiveCSS_eq`.  Core Lean only.

Why: the comment in Model/Dist.lean gives the intent of the forcing (evaluate once, pass the value);
what the kernel does is this.  It keeps every reduct in a cache keyed by the term, and the key of a
`Nat` literal is its low 32 bits (see `tagNat`, Model/Mask.lean).  `forceNat x k` hands the VALUE of
`x` to `k`, so the words the checker works on (shifted lanes of selection masks, products with
Z-type rows, effect words: mostly low word 0) become literal arguments of otherwise equal terms;
these fall into one bucket and the work per step grows with the number of steps taken before it in
the same `decide`.  Left as terms they have distinct keys, and the kernel evaluates a term that
occurs several times once.
-/
import PanqecVerif.Model.Dist

namespace Panqec

@[simp] theorem forceNat_eq {α : Type} (x : Nat) (k : Nat → α) : forceNat x k = k x := by
  cases x <;> rfl

@[simp] theorem forceList_eq {α : Type} : ∀ (l : List Nat) (k : List Nat → α),
    forceList l k = k l
  | [], _ => rfl
  | x :: xs, k => by simp [forceList, forceList_eq xs]

@[simp] theorem forcePairs_eq {α : Type} : ∀ (l : List (Nat × Nat)) (k : List (Nat × Nat) → α),
    forcePairs l k = k l
  | [], _ => rfl
  | (x, z) :: t, k => by simp [forcePairs, forcePairs_eq t]

theorem comboAccS_eq (R : Nat) : ∀ (bs : List Nat) (C : Nat), comboAccS R bs C = comboAcc R bs C
  | [], _ => rfl
  | b :: bs, C => by simp [comboAccS, comboAcc, comboAccS_eq R bs]

@[simp] theorem unlanesK_eq {α : Type} (W : Nat) : ∀ (cnt X : Nat) (k : List Nat → α),
    unlanesK W cnt X k = k (unlanes W cnt X)
  | 0, _, _ => rfl
  | cnt + 1, X, k => by simp [unlanesK, unlanes, unlanesK_eq W cnt]

/-- `checkGroups` without `forceList` -/
def checkGroupsP (n d : Nat) : List Nat → List Nat → Bool
  | [], _ => true
  | l :: ls, xs =>
    (xs.take d).length == d &&
    pairwiseDisjoint ((xs.take d).map fun x => suppNat n (l ^^^ x)) &&
    checkGroupsP n d ls (xs.drop d)

theorem checkGroups_eq (n d : Nat) : ∀ (ls xs : List Nat),
    checkGroups n d ls xs = checkGroupsP n d ls xs
  | [], _ => rfl
  | l :: ls, xs => by simp only [checkGroups, checkGroupsP, forceList_eq, checkGroups_eq n d ls]

/-- `checkPacking` on `comboAcc` and `unlanes` -/
def checkPackingP (c : MaskCode) (cs : List Nat) : Bool :=
  c.stabs.all (fun b => Nat.blt b (2 ^ (2 * c.n + c.stabs.length))) &&
  checkGroupsP c.n c.d (c.logX ++ c.logZ)
    (unlanes (2 ^ (2 * c.n + c.stabs.length)) cs.length
      (comboAcc (repunit (2 ^ (2 * c.n + c.stabs.length)) cs.length) c.stabs
        (packLanes (2 ^ (2 * c.n + c.stabs.length)) cs)))

theorem checkPacking_eq (c : MaskCode) (cs : List Nat) : checkPacking c cs = checkPackingP c cs := by
  simp only [checkPacking, checkPackingP, forceNat_eq, unlanesK_eq, comboAccS_eq, checkGroups_eq]

def checkExhaustiveP (c : MaskCode) : Bool :=
  exhB (2 ^ (c.logX.length + c.logZ.length)) (c.d - 1) (effTableAt (effRows c) c.n c.n) 0

theorem checkExhaustive_eq (c : MaskCode) : checkExhaustive c = checkExhaustiveP c := by
  simp only [checkExhaustive, checkExhaustiveP, forceNat_eq, forceList_eq, forcePairs_eq]

def checkExhaustiveCSSP (c : MaskCode) : Bool :=
  isCSSMask c.n c.stabs &&
  (exhB1 (2 ^ (c.logX.length + c.logZ.length)) (c.d - 1)
      ((effTableAt (effRows c) c.n c.n).map (·.1)) 0 &&
    exhB1 (2 ^ (c.logX.length + c.logZ.length)) (c.d - 1)
      ((effTableAt (effRows c) c.n c.n).map (·.2)) 0)

theorem checkExhaustiveCSS_eq (c : MaskCode) : checkExhaustiveCSS c = checkExhaustiveCSSP c := by
  simp only [checkExhaustiveCSS, checkExhaustiveCSSP, forceNat_eq, forceList_eq, forcePairs_eq]

def checkDistanceP (c : MaskCode) : DistCert → Bool
  | .exhaustive => checkExhaustiveP c
  | .exhaustiveCSS => checkExhaustiveCSSP c
  | .packing sels => checkPackingP c sels

theorem checkDistance_eq (c : MaskCode) (cert : DistCert) :
    checkDistance c cert = checkDistanceP c cert := by
  cases cert <;> simp only [checkDistance, checkDistanceP, checkPacking_eq, checkExhaustive_eq,
    checkExhaustiveCSS_eq]

end Panqec
