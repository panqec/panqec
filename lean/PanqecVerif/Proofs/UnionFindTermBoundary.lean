/-
Union-find internals (C05), termination of the growth loop: the invariant that ties the
boundary lists to `_H_to_grow` and to the trees, and its preservation by `grow` and by the merges
of the fusion set.
-/
import PanqecVerif.Proofs.UnionFindTermGrow

namespace Panqec.UF

/-- `pend` = qubits of the current fusion set that have not been merged yet -/
structure BdInv (H : Mat) (st : GState) (rep : Nat → Nat) (pend : List Int) : Prop where
  /-- only rows of tree members are zeroed -/
  row_live : ∀ s, st.rowDead s = true → st.sPar s ≠ -1
  /-- a zeroed column has a zeroed row -/
  col_row : ∀ q, st.colDead q = true → ∃ s, hb H s q = true ∧ st.rowDead s = true
  /-- a stabilizer in a boundary list belongs to that cluster (or will, after a pending merge) -/
  bnd_stab : ∀ c, c ∈ st.forest → ∀ s, hashS s ∈ c.bnd →
    (st.sPar s ≠ -1 ∧ rep s = c.root) ∨
    (∃ q : Nat, (q : Int) ∈ pend ∧ hb H s q = true ∧ st.colDead q = true ∧
      ∃ s0, hb H s0 q = true ∧ st.rowDead s0 = true ∧ rep s0 = c.root)
  /-- a qubit in a boundary list is half-grown from a member of that cluster -/
  bnd_qubit : ∀ c, c ∈ st.forest → ∀ q : Nat, (q : Int) ∈ c.bnd →
    ∃ s, hb H s q = true ∧ st.rowDead s = true ∧ rep s = c.root
  /-- a member whose row is not zeroed is in the boundary list of its cluster -/
  j1 : ∀ s, st.sPar s ≠ -1 → st.rowDead s = false →
    ∃ c, c ∈ st.forest ∧ c.root = rep s ∧ hashS s ∈ c.bnd
  /-- a half-grown qubit is in the boundary list of the cluster it was grown from -/
  j2 : ∀ s q, hb H s q = true → st.rowDead s = true → st.colDead q = false →
    ∃ c, c ∈ st.forest ∧ c.root = rep s ∧ (q : Int) ∈ c.bnd
  /-- all rows grown over a (non-pending) column are in one tree -/
  k : ∀ q : Nat, (q : Int) ∉ pend → ∀ s s', grown H st.rowDead st.colDead s q = true →
    grown H st.rowDead st.colDead s' q = true →
    st.sPar s ≠ -1 ∧ st.sPar s' ≠ -1 ∧ rep s = rep s'

/-- the state after `c.grow()`: closed forms -/
theorem growCluster_forms {H : Mat} (hrange : ∀ s q, hb H s q = true → q < ncols H) (st : GState)
    (c : Cluster) :
    ∃ ord : List Int, (∀ x, x ∈ ord ↔ x ∈ c.bnd) ∧
      GFInv H st ord ⟨(growCluster H st c).2.rowDead, (growCluster H st c).2.colDead,
        (ord.foldl (growStep H) ⟨st.rowDead, st.colDead, [], []⟩).newB, (growCluster H st c).1⟩ ∧
      (growCluster H st c).2.sPar = st.sPar ∧ (growCluster H st c).2.qPar = st.qPar ∧
      (growCluster H st c).2.forest = st.forest.map (fun d => if d.root = c.root then
        { d with bnd := (ord.foldl (growStep H) ⟨st.rowDead, st.colDead, [], []⟩).newB } else d) := by
  refine ⟨(st.sched.take c.bnd).1, take_mem _ _, ?_, rfl, rfl, rfl⟩
  have := GFInv_fold hrange (st.sched.take c.bnd).1 [] _ (GFInv_init H st)
  simpa [growCluster] using this

/-- **`grow` preserves the invariant**; the pending merges are the fusion set -/
theorem BdInv_grow {H : Mat} {sy : Vec} (hrange : ∀ s q, hb H s q = true → q < ncols H)
    {st : GState} {rep d : Nat → Nat} (I : GInv H sy st rep d) (B : BdInv H st rep [])
    {c : Cluster} (hc : c ∈ st.forest) (pend : List Int)
    (hpend : ∀ x, x ∈ pend ↔ x ∈ (growCluster H st c).1) :
    BdInv H (growCluster H st c).2 rep pend := by
  obtain ⟨ord, hord, G, hsp, hqp, hforest⟩ := growCluster_forms hrange st c
  generalize (ord.foldl (growStep H) ⟨st.rowDead, st.colDead, [], []⟩).newB = newB at G hforest
  generalize (growCluster H st c).1 = fus at G hpend
  generalize (growCluster H st c).2 = st1 at G hsp hqp hforest
  have hrow : ∀ s, st1.rowDead s = true ↔ (st.rowDead s = true ∨ hashS s ∈ c.bnd) :=
    fun s => (G.row s).trans (or_congr Iff.rfl (hord _))
  have hcol : ∀ q : Nat, st1.colDead q = true ↔ (st.colDead q = true ∨ (q : Int) ∈ c.bnd) :=
    fun q => (G.col q).trans (or_congr Iff.rfl (hord _))
  have hrow0 : ∀ s, st1.rowDead s = false → st.rowDead s = false ∧ hashS s ∉ c.bnd := fun s h =>
    ⟨Bool.eq_false_iff.mpr fun h' => Bool.eq_false_iff.mp h ((hrow s).mpr (Or.inl h')),
      fun h' => Bool.eq_false_iff.mp h ((hrow s).mpr (Or.inr h'))⟩
  have hcol0 : ∀ q : Nat, st1.colDead q = false → st.colDead q = false ∧ (q : Int) ∉ c.bnd :=
    fun q h => ⟨Bool.eq_false_iff.mpr fun h' => Bool.eq_false_iff.mp h ((hcol q).mpr (Or.inl h')),
      fun h' => Bool.eq_false_iff.mp h ((hcol q).mpr (Or.inr h'))⟩
  -- membership in the new dict
  have hmem1 : ∀ c1, c1 ∈ st1.forest →
      (c1.root ≠ c.root ∧ c1 ∈ st.forest) ∨ (c1.root = c.root ∧ c1.bnd = newB) := by
    intro c1 hc1
    rw [hforest, List.mem_map] at hc1
    obtain ⟨c0, hc0, rfl⟩ := hc1
    by_cases h : c0.root = c.root
    · right; simp [h]
    · left; simp [h, hc0]
  have hkeep : ∀ c0, c0 ∈ st.forest → c0.root ≠ c.root → c0 ∈ st1.forest := by
    intro c0 hc0 h
    rw [hforest, List.mem_map]
    exact ⟨c0, hc0, by simp [h]⟩
  have hnew : (⟨c.root, c.size, c.odd, newB⟩ : Cluster) ∈ st1.forest := by
    rw [hforest, List.mem_map]
    exact ⟨c, hc, by simp⟩
  have hceq : ∀ c0, c0 ∈ st.forest → c0.root = c.root → c0 = c :=
    fun c0 hc0 h => eq_of_root_eq st.forest I.fi.roots_nodup c0 c hc0 hc h
  -- members listed in the old boundary list of `c`
  have hstabc : ∀ s, hashS s ∈ c.bnd → st.sPar s ≠ -1 ∧ rep s = c.root := by
    intro s hs
    rcases B.bnd_stab c hc s hs with h | ⟨q, hq, _⟩
    · exact h
    · simp at hq
  refine ⟨?_, ?_, ?_, ?_, ?_, ?_, ?_⟩
  · -- row_live
    intro s hs
    rw [hsp]
    rcases (hrow s).mp hs with h | h
    · exact B.row_live s h
    · exact (hstabc s h).1
  · -- col_row
    intro q hq
    rcases (hcol q).mp hq with h | h
    · obtain ⟨s, h1, h2⟩ := B.col_row q h
      exact ⟨s, h1, (hrow s).mpr (Or.inl h2)⟩
    · obtain ⟨s, h1, h2, _⟩ := B.bnd_qubit c hc q h
      exact ⟨s, h1, (hrow s).mpr (Or.inl h2)⟩
  · -- bnd_stab
    intro c1 hc1 s hs
    rw [hsp]
    rcases hmem1 c1 hc1 with ⟨_, h0⟩ | ⟨hr, hb1⟩
    · rcases B.bnd_stab c1 h0 s hs with h | ⟨q, hq, _⟩
      · exact Or.inl h
      · simp at hq
    · rw [hb1] at hs
      obtain ⟨q, hq, hsq⟩ := (G.nb_src _ hs).2 (hashS_neg s)
      rw [unhashS_hashS] at hsq
      have hqc : (q : Int) ∈ c.bnd := (hord _).mp hq
      obtain ⟨s0, h1, h2, h3⟩ := B.bnd_qubit c hc q hqc
      refine Or.inr ⟨q, (hpend _).mpr (G.fus_col _ hq (by omega)), hsq, (hcol q).mpr (Or.inr hqc),
        s0, h1, (hrow s0).mpr (Or.inl h2), by rw [hr]; exact h3⟩
  · -- bnd_qubit
    intro c1 hc1 q hq
    rcases hmem1 c1 hc1 with ⟨_, h0⟩ | ⟨hr, hb1⟩
    · obtain ⟨s, h1, h2, h3⟩ := B.bnd_qubit c1 h0 q hq
      exact ⟨s, h1, (hrow s).mpr (Or.inl h2), h3⟩
    · rw [hb1] at hq
      obtain ⟨s, hs, hsq⟩ := (G.nb_src _ hq).1 (by omega)
      have hsc : hashS s ∈ c.bnd := (hord _).mp hs
      refine ⟨s, by simpa using hsq, (hrow s).mpr (Or.inr hsc), ?_⟩
      rw [hr]; exact (hstabc s hsc).2
  · -- j1
    intro s hs hrd
    rw [hsp] at hs
    obtain ⟨hrd0, hsc⟩ := hrow0 s hrd
    obtain ⟨c0, hc0, hr0, hb0⟩ := B.j1 s hs hrd0
    have hne : c0.root ≠ c.root := fun h => hsc (hceq c0 hc0 h ▸ hb0)
    exact ⟨c0, hkeep c0 hc0 hne, hr0, hb0⟩
  · -- j2
    intro s q hsq hrd hcd
    obtain ⟨hcd0, hqc⟩ := hcol0 q hcd
    cases hrd0 : st.rowDead s
    · -- the row was zeroed in this call
      have hsc : hashS s ∈ c.bnd := by
        rcases (hrow s).mp hrd with h | h
        · rw [hrd0] at h; exact absurd h (by simp)
        · exact h
      rcases G.nb_row s ((hord _).mpr hsc) q hsq with h | h | h
      · rw [hrd0] at h; exact absurd h (by simp)
      · simp only [] at h; rw [hcd] at h; exact absurd h (by simp)
      · exact ⟨_, hnew, (hstabc s hsc).2.symm, h⟩
    · obtain ⟨c0, hc0, hr0, hb0⟩ := B.j2 s q hsq hrd0 hcd0
      have hne : c0.root ≠ c.root := fun h => hqc (hceq c0 hc0 h ▸ hb0)
      exact ⟨c0, hkeep c0 hc0 hne, hr0, hb0⟩
  · -- k
    intro q hq s s' hg hg'
    rw [hsp]
    have hqf : (q : Int) ∉ fus := fun h => hq ((hpend _).mpr h)
    have hold : ∀ t, grown H st1.rowDead st1.colDead t q = true →
        grown H st.rowDead st.colDead t q = true := by
      intro t ht
      rw [grown_iff] at ht ⊢
      refine ⟨ht.1, ?_⟩
      rcases ht.2 with h | h
      · rcases (hrow t).mp h with h | h
        · exact Or.inl h
        · rcases G.fus_row t ((hord _).mpr h) q ht.1 with h1 | h1 | h1
          · exact Or.inl h1
          · exact Or.inr h1
          · exact absurd h1 hqf
      · rcases (hcol q).mp h with h | h
        · exact Or.inr h
        · exact absurd (G.fus_col _ ((hord _).mpr h) (by omega)) hqf
    exact B.k q (by simp) s s' (hold s hg) (hold s' hg')

/-- **the merge of one fused qubit preserves the invariant** and removes it from the pending list -/
theorem BdInv_fuse {H : Mat} {sy : Vec} {st : GState} {rep d : Nat → Nat} (I : GInv H sy st rep d)
    {x : Int} {rest : List Int} (B : BdInv H st rep (x :: rest)) :
    ∃ rep' d', GInv H sy (fuseStep H st x) rep' d' ∧ BdInv H (fuseStep H st x) rep' rest := by
  obtain ⟨rep', d', I', M, hrd, hcd⟩ := fuse_spec I x
  refine ⟨rep', d', I', ?_⟩
  generalize fuseStep H st x = st' at I' M hrd hcd
  have hrootlive : ∀ c, c ∈ st.forest → st.sPar c.root ≠ -1 := by
    intro c hc; rw [forest_root I.fi hc]; omega
  -- a member of the tree of an old record follows the root of that record
  have hfollow : ∀ c, c ∈ st.forest → ∀ s, st.sPar s ≠ -1 → rep s = c.root → rep' s = rep' c.root :=
    fun c hc s hs h => M.coarse s c.root hs (hrootlive c hc)
      (by rw [h, I.uf.root_rep _ (forest_root I.fi hc)])
  have hreprep : ∀ s, st.sPar s ≠ -1 → rep' (rep s) = rep' s := fun s hs =>
    M.coarse (rep s) s (by rw [I.uf.rep_root s hs]; omega) hs (I.uf.rep_rep hs)
  -- all rows grown over the fused column end up in one tree
  have hcolumn : ∀ s s', grown H st.rowDead st.colDead s x.toNat = true →
      grown H st.rowDead st.colDead s' x.toNat = true →
      st'.sPar s ≠ -1 ∧ st'.sPar s' ≠ -1 ∧ rep' s = rep' s' := by
    intro s s' hs hs'
    have hlive : ∃ t, t ∈ grownRows H st x.toNat ∧ st.sPar t ≠ -1 := by
      rcases ((grown_iff ..).mp hs).2 with h | h
      · exact ⟨s, mem_grownRows.mpr hs, B.row_live s h⟩
      · obtain ⟨t, h1, h2⟩ := B.col_row _ h
        exact ⟨t, mem_grownRows.mpr ((grown_iff ..).mpr ⟨h1, Or.inl h2⟩), B.row_live t h2⟩
    obtain ⟨b, _, _, hall, _⟩ := M.merged hlive
    have h1 := hall s (mem_grownRows.mpr hs)
    have h2 := hall s' (mem_grownRows.mpr hs')
    exact ⟨h1.1, h2.1, h1.2.trans h2.2.symm⟩
  refine ⟨?_, ?_, ?_, ?_, ?_, ?_, ?_⟩
  · intro s hs; rw [hrd] at hs; exact M.live_mono s (B.row_live s hs)
  · intro q hq
    rw [hcd] at hq
    obtain ⟨s, h1, h2⟩ := B.col_row q hq
    exact ⟨s, h1, by rw [hrd]; exact h2⟩
  · -- bnd_stab
    intro c' hc' s hs
    rcases M.bnd_src c' hc' _ hs with ⟨c, hc, hsc, hroot⟩ | ⟨s', hs', hfresh, hlive', hx, hrep'⟩
    · rcases B.bnd_stab c hc s hsc with ⟨h1, h2⟩ | ⟨q, hq, hsq, hcq, s0, h01, h02, h03⟩
      · exact Or.inl ⟨M.live_mono s h1, hroot ▸ hfollow c hc s h1 h2⟩
      · have hs0live := B.row_live s0 h02
        have hrep0 : rep' s0 = c'.root := hroot ▸ hfollow c hc s0 hs0live h03
        rcases List.mem_cons.mp hq with hqx | hqr
        · -- this is the merge that makes `s` a member
          have hq0 : q = x.toNat := by omega
          subst hq0
          have := hcolumn s s0 ((grown_iff ..).mpr ⟨hsq, Or.inr hcq⟩)
            ((grown_iff ..).mpr ⟨h01, Or.inl h02⟩)
          exact Or.inl ⟨this.1, this.2.2.trans hrep0⟩
        · exact Or.inr ⟨q, hqr, hsq, by rw [hcd]; exact hcq, s0, h01, by rw [hrd]; exact h02, hrep0⟩
    · have : s = s' := hashS_inj hx
      subst this
      exact Or.inl ⟨hlive', hrep'⟩
  · -- bnd_qubit
    intro c' hc' q hq
    rcases M.bnd_src c' hc' _ hq with ⟨c, hc, hqc, hroot⟩ | ⟨s', _, _, _, hx, _⟩
    · obtain ⟨s, h1, h2, h3⟩ := B.bnd_qubit c hc q hqc
      exact ⟨s, h1, by rw [hrd]; exact h2, hroot ▸ hfollow c hc s (B.row_live s h2) h3⟩
    · have := hashS_neg s'; omega
  · -- j1
    intro s hs hrow
    rw [hrd] at hrow
    by_cases hold : st.sPar s = -1
    · have hss := M.newlive s hold hs
      obtain ⟨c', h1, h2, h3⟩ := M.bnd_fresh s hss hold hs
      exact ⟨c', h1, h2, h3⟩
    · obtain ⟨c, hc, hr, hb⟩ := B.j1 s hold hrow
      obtain ⟨c', h1, h2, h3⟩ := M.bnd_keep c hc _ hb
      exact ⟨c', h1, by rw [h2, hr]; exact hreprep s hold, h3⟩
  · -- j2
    intro s q hsq hrow hcol
    rw [hrd] at hrow
    rw [hcd] at hcol
    have hold := B.row_live s hrow
    obtain ⟨c, hc, hr, hb⟩ := B.j2 s q hsq hrow hcol
    obtain ⟨c', h1, h2, h3⟩ := M.bnd_keep c hc _ hb
    exact ⟨c', h1, by rw [h2, hr]; exact hreprep s hold, h3⟩
  · -- k
    intro q hq s s' hg hg'
    rw [hrd, hcd] at hg hg'
    by_cases hqx : (q : Int) = x
    · have hq0 : q = x.toNat := by omega
      subst hq0
      exact hcolumn s s' hg hg'
    · have hq' : (q : Int) ∉ x :: rest := by
        intro h
        rcases List.mem_cons.mp h with h | h
        · exact hqx h
        · exact hq h
      obtain ⟨h1, h2, h3⟩ := B.k q hq' s s' hg hg'
      exact ⟨M.live_mono s h1, M.live_mono s' h2, M.coarse s s' h1 h2 h3⟩

end Panqec.UF
