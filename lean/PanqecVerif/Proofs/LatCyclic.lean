/-
`Cyclic` for the lattice models: the model's wrap `pmod (x + d) P` at the three steps the classes
take from a coordinate `0 ≤ x < P`, and `range(a, b, step)` from a natural start in the shape of
`Color.pyRangeStep`.
-/
import PanqecVerif.Proofs.Cyclic
import PanqecVerif.Proofs.LatCommon

namespace Panqec.Cyclic

section pmod
variable {P : Nat} {x : Int}

theorem pmod_succ (h0 : 0 ≤ x) (h1 : x < P) : pmod (x + 1) P = cup 0 P x := by
  have := emod_succ (lo := 0) (P := P) (x := x) ⟨h0, by omega⟩
  rw [Int.sub_zero, Int.add_zero] at this
  exact this

theorem pmod_pred (h0 : 0 ≤ x) (h1 : x < P) : pmod (x + -1) P = cdn 0 P x := by
  have := emod_pred (lo := 0) (P := P) (x := x) ⟨h0, by omega⟩
  rw [Int.sub_zero, Int.add_zero] at this
  rw [← Int.sub_eq_add_neg]
  exact this

theorem pmod_self (h0 : 0 ≤ x) (h1 : x < P) : pmod (x + 0) P = x := by
  unfold pmod; rw [Int.add_zero]; exact Int.emod_eq_of_lt h0 h1

end pmod

/-- `range(a, b, s)` from a natural start, as `Color.pyRangeStep` writes it -/
theorem mem_py_range {a : Nat} {b : Int} {s : Nat} (hs : 0 < s) {x : Int} :
    x ∈ (List.range' a (((b - (a : Int)).toNat + s - 1) / s) s).map Int.ofNat ↔
      (a : Int) ≤ x ∧ x < b ∧ (x - a) % s = 0 := by
  rw [mem_map_ofNat_range' hs]
  constructor
  · rintro ⟨h1, h2, h3⟩; exact ⟨h1, (lt_terms_iff hs h1 h3).mp h2, h3⟩
  · rintro ⟨h1, h2, h3⟩; exact ⟨h1, (lt_terms_iff hs h1 h3).mpr h2, h3⟩

end Panqec.Cyclic
