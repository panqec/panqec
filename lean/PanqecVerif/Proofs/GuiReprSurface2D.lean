/-
`Servable` for the three 2-D surface codes, all sizes of their families.
-/
import PanqecVerif.Proofs.GuiReprEdits
import PanqecVerif.Proofs.LatToric2DCodeCss
import PanqecVerif.Proofs.LatPlanar2DCodeCss
import PanqecVerif.Proofs.LatRotatedPlanar2DCodeCss

namespace Panqec.GuiRepr
open Panqec.Gui

/-- The three classes have no override and deform through `Lat2D.deformBy` along the default axis `y`:
    what varies is the lattice, its types and its axes. -/
theorem surface2D_servable {cls : String} {lat : Lattice} {st qa : Coord → Option String} {name : String}
    (wf : lat.WF) (tables : classTablesOk Generated.GuiFull.tables cls surfaceTypes = true)
    (types : ∀ s ∈ lat.stabs, ∃ t ∈ surfaceTypes, st s = some t)
    (axes : ∀ q ∈ lat.qubits, ∃ a, qa q = some a)
    (hn : name = "None" ∨ name = "XZZX" ∨ name = "XY") :
    Servable ⟨cls, lat, st, qa, fun name loc => Lat2D.deformBy qa name "y" loc, noEdits, noEdits⟩
      Generated.GuiFull.tables surfaceTypes name where
  wf := wf
  tables := tables
  stab_types := types
  qubit_axes := axes
  stab_edits := noEdits_simple
  qubit_edits := noEdits_simple
  deformation := by
    refine hn.imp_right fun h q hq => ?_
    obtain ⟨a, ha⟩ := axes q hq
    show (Lat2D.deformBy qa name "y" q).isSome = true
    rcases h with rfl | rfl
    · rw [Lat2D.deformBy_XZZX _ _ _ (Or.inr rfl), ha]; rfl
    · rw [Lat2D.deformBy_XY _ _ _ (Or.inr rfl)]; rfl

/-- `stabilizer_type` of the three classes: off the index an error, on it "vertex" or "face" -/
theorem surface_type {b : Bool} (hb : b = true) (c : Prop) [Decidable c] :
    ∃ t ∈ surfaceTypes, (if !b then none else if c then some "vertex" else some "face") = some t :=
  guarded_type hb (by by_cases h : c <;> simp [h, surfaceTypes])

theorem toric2D_tables : classTablesOk Generated.GuiFull.tables "Toric2DCode" surfaceTypes = true := by
  decide +kernel

theorem toric2D_servable (Lx Ly : Nat) (hx : 2 ≤ Lx) (hy : 2 ≤ Ly) (name : String)
    (hn : name = "None" ∨ name = "XZZX" ∨ name = "XY") :
    Servable (toric2D Lx Ly) Generated.GuiFull.tables surfaceTypes name :=
  surface2D_servable (Toric2DCode.wf hx hy) toric2D_tables
    (fun s hs => by
      obtain ⟨x, y, rfl, _⟩ := Toric2DCode.mem_stabs.mp hs
      exact surface_type (List.contains_iff_mem.mpr hs) _)
    (fun _ hq => let ⟨_, _, _, h⟩ := Toric2DCode.qubitAxis_of_mem hq; h.elim (⟨_, ·.2.2⟩) (⟨_, ·.2.2⟩)) hn

theorem planar2D_tables : classTablesOk Generated.GuiFull.tables "Planar2DCode" surfaceTypes = true := by
  decide +kernel

theorem planar2D_servable (Lx Ly : Nat) (hx : 1 ≤ Lx) (hy : 1 ≤ Ly) (name : String)
    (hn : name = "None" ∨ name = "XZZX" ∨ name = "XY") :
    Servable (planar2D Lx Ly) Generated.GuiFull.tables surfaceTypes name :=
  surface2D_servable (Planar2DCode.wf hx hy) planar2D_tables
    (fun s hs => by
      obtain ⟨x, y, rfl, _⟩ := Planar2DCode.mem_stabs.mp hs
      exact surface_type (List.contains_iff_mem.mpr hs) _)
    (fun _ hq => let ⟨_, _, _, h⟩ := Planar2DCode.qubitAxis_of_mem hq; h.elim (⟨_, ·.2.2⟩) (⟨_, ·.2.2⟩)) hn

theorem rotatedPlanar2D_tables :
    classTablesOk Generated.GuiFull.tables "RotatedPlanar2DCode" surfaceTypes = true := by
  decide +kernel

theorem rotatedPlanar2D_servable (Lx Ly : Nat) (hx : 1 ≤ Lx) (hy : 1 ≤ Ly) (name : String)
    (hn : name = "None" ∨ name = "XZZX" ∨ name = "XY") :
    Servable (rotatedPlanar2D Lx Ly) Generated.GuiFull.tables surfaceTypes name :=
  surface2D_servable (RotatedPlanar2DCode.wf hx hy) rotatedPlanar2D_tables
    (fun s hs => by
      obtain ⟨x, y, rfl, _⟩ := RotatedPlanar2DCode.mem_stabs.mp hs
      exact surface_type (List.contains_iff_mem.mpr hs) _)
    (fun _ hq => let ⟨_, _, _, h⟩ := RotatedPlanar2DCode.qubitAxis_of_mem hq; h.elim (⟨_, ·.2⟩) (⟨_, ·.2⟩)) hn

end Panqec.GuiRepr
