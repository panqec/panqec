/-
`HollowRhombicCode`, rank clause, the multi-qubit probes of the sizes with `Lz = 4` (the hole is the slab
`z = 3`).  `Lx = 4`, `Ly ≥ 5`: a kept lower triangle `(0, 2, y, 2)` under the hole edge `(3, ·, 3)` (`QY`) has
the probe `X(3,y,2) X(4,y−1,2) X(3,y−2,2)`; among the selected triangles that come after it only
`(1, 4, y, 2)` and `(3, 4, y−2, 2)` contain one of the three qubits, and each of them contains two.
`Ly = 5`, `Lx ≥ 5`: a kept lower triangle `(0, x, 2, 2)` under the hole edge `(·, 3, 3)` (`QX`) has the
probe `X(x,3,2) X(x−1,4,2)`; only `(1, x, 4, 2)` contains one of the two qubits, and it contains both.
The other triangles at these vertices have their z leg in the hole, except at the vertex `(4, 2, 2)`
next to the corner of the hole, where they are not selected.
-/
import PanqecVerif.Proofs.LatHollowRhombicCodeRankEdgeProbes

namespace Panqec.HollowRhombicCode
open Panqec.Cubic3D
open Panqec.Planar3DCode (inE inO inE2 inO1)

section
variable {Lx Ly Lz : Nat} {x y b u v w : Int}

theorem not_sel_0422 (h4 : Lz = 4 ∧ Lx = 4 ∧ 5 ≤ Ly) : ¬ TS Lx Ly Lz 0 4 2 2 := by
  rintro ⟨_, _, _, hc⟩
  have hp : PT Lx Ly Lz 0 4 2 (2 + 2) := by
    unfold PT
    rw [sgnX_0, sgnY_0, sgnZ_01 (Or.inl rfl), if_neg (by decide)]
    refine ⟨?_, ?_, ?_, ?_, by omega, by omega⟩ <;> (intro hh; unfold Hole at hh; omega)
  unfold SelC QC QY QX at hc
  simp only [hp, not_true_eq_false, and_false, false_or] at hc
  omega

/-- for `Lx = 4`, `Lz = 4`, `Ly ≥ 5` the triangle `(1, 4, 2, 2)` is not selected (all four triangles of the
    vertex are listed) -/
theorem not_sel_1422 (h4 : Lz = 4 ∧ Lx = 4 ∧ 5 ≤ Ly) : ¬ TS Lx Ly Lz 1 4 2 2 := by
  rintro ⟨_, _, _, hc⟩
  have h3 : PT Lx Ly Lz 3 4 2 2 := by
    unfold PT
    rw [sgnX_3, sgnY_3, sgnZ_23 (Or.inr rfl), if_pos (by decide)]
    refine ⟨?_, ?_, ?_, ?_, by omega, by omega⟩ <;> (intro hh; unfold Hole at hh; omega)
  have h2 : PT Lx Ly Lz 2 4 2 2 := by
    unfold PT
    rw [sgnX_2, sgnY_2, sgnZ_23 (Or.inl rfl), if_pos (by decide)]
    refine ⟨?_, ?_, ?_, ?_, by omega, by omega⟩ <;> (intro hh; unfold Hole at hh; omega)
  unfold SelC at hc
  simp only [h3, h2, not_true_eq_false, or_self, and_false, false_or] at hc
  omega

theorem y_qubits (hq : QY Lx Ly Lz 2 y 2) :
    [3, y, 2] ∈ qubits Lx Ly Lz ∧ [4, y - 1, 2] ∈ qubits Lx Ly Lz ∧ [3, y - 2, 2] ∈ qubits Lx Ly Lz := by
  unfold QY at hq
  refine ⟨?_, ?_, ?_⟩
  · rw [mem_qubits_x (by decide) (by omega) (by decide)]; unfold Qx Hole; omega
  · rw [mem_qubits_y (by decide) (by omega) (by decide)]; unfold Qy Hole; omega
  · rw [mem_qubits_x (by decide) (by omega) (by decide)]; unfold Qx Hole; omega

/-- `(1, 4, y, 2)` contains the first two probe qubits, `(3, 4, y−2, 2)` the last two -/
theorem y_keys (hq : QY Lx Ly Lz 2 y 2) :
    ([3, y, 2] ∈ triKeys Lx Ly Lz 1 4 y 2 ∧ [4, y - 1, 2] ∈ triKeys Lx Ly Lz 1 4 y 2) ∧
    [4, y - 1, 2] ∈ triKeys Lx Ly Lz 3 4 (y - 2) 2 ∧ [3, y - 2, 2] ∈ triKeys Lx Ly Lz 3 4 (y - 2) 2 := by
  obtain ⟨q1, q2, q3⟩ := y_qubits hq
  exact ⟨⟨mem_triKeys_of (Or.inl ⟨by rw [sgnX_1]; rfl, rfl, rfl⟩) q1,
      mem_triKeys_of (Or.inr (Or.inl ⟨rfl, by rw [sgnY_1]; rfl, rfl⟩)) q2⟩,
    mem_triKeys_of (Or.inr (Or.inl ⟨rfl, by rw [sgnY_3]; omega, rfl⟩)) q2,
    mem_triKeys_of (Or.inl ⟨by rw [sgnX_3]; rfl, rfl, rfl⟩) q3⟩

theorem y_loc1 (hq : QY Lx Ly Lz 2 y 2) (ht : TS Lx Ly Lz b u v w) (hlt : Before 0 2 y 2 b u v w)
    (hmem : [3, y, 2] ∈ triKeys Lx Ly Lz b u v w) : b = 1 ∧ u = 4 ∧ v = y ∧ w = 2 := by
  obtain ⟨hb, htv, htp, _⟩ := ht
  unfold QY at hq
  have ho := Rhombic.xleg_owner (isAxis_of hb) htv.1.2.2 (by decide) (triKeys_sub_legs hb hmem)
  have hz := sgnZ_eq (u := u) (v := v) (w := w) hb (by omega)
  have hp := htp.2.2.2.1
  unfold Hole at hp
  unfold Before at hlt
  omega

theorem y_loc3 (hq : QY Lx Ly Lz 2 y 2) (ht : TS Lx Ly Lz b u v w) (hlt : Before 0 2 y 2 b u v w)
    (hmem : [3, y - 2, 2] ∈ triKeys Lx Ly Lz b u v w) : b = 3 ∧ u = 4 ∧ v = y - 2 ∧ w = 2 := by
  have ⟨hb, htv, htp, _⟩ := ht
  have hq' := hq
  unfold QY at hq'
  have ho := Rhombic.xleg_owner (isAxis_of hb) htv.1.2.2 (by decide) (triKeys_sub_legs hb hmem)
  have hz := sgnZ_eq (u := u) (v := v) (w := w) hb (by omega)
  have hp := htp.2.2.2.1
  unfold Hole at hp
  unfold Before at hlt
  by_cases hb1 : b = 1
  · obtain ⟨rfl, rfl, rfl⟩ : u = 4 ∧ v = 2 ∧ w = 2 := by omega
    subst hb1
    exact absurd ht (not_sel_1422 hq'.2.2.2.2.2)
  · omega

theorem y_loc2 (hq : QY Lx Ly Lz 2 y 2) (ht : TS Lx Ly Lz b u v w)
    (hmem : [4, y - 1, 2] ∈ triKeys Lx Ly Lz b u v w) :
    (b = 1 ∧ u = 4 ∧ v = y ∧ w = 2) ∨ (b = 3 ∧ u = 4 ∧ v = y - 2 ∧ w = 2) := by
  have ⟨hb, htv, htp, _⟩ := ht
  have hq' := hq
  unfold QY at hq'
  have ho := Rhombic.yleg_owner (isAxis_of hb) htv.2.1.2.2 (by omega) (triKeys_sub_legs hb hmem)
  have hz := sgnZ_eq (u := u) (v := v) (w := w) hb (by omega)
  have hp := htp.2.2.2.1
  unfold Hole at hp
  by_cases hb0 : b = 0
  · obtain ⟨rfl, rfl, rfl⟩ : u = 4 ∧ v = 2 ∧ w = 2 := by omega
    subst hb0
    exact absurd ht (not_sel_0422 hq'.2.2.2.2.2)
  · by_cases hb1 : b = 1
    · exact Or.inl (by omega)
    · exact Or.inr (by omega)

theorem later_y (hq : QY Lx Ly Lz 2 y 2) (ht : TS Lx Ly Lz b u v w) (hlt : Before 0 2 y 2 b u v w) :
    ([[3, y, 2], [4, y - 1, 2], [3, y - 2, 2]].countP
      fun q => decide (q ∈ triKeys Lx Ly Lz b u v w)) % 2 = 0 := by
  have hk := y_keys hq
  refine countP3_even (fun m1 => ?_) (fun m3 => ?_) (fun m2 => ?_)
  · obtain ⟨rfl, rfl, rfl, rfl⟩ := y_loc1 hq ht hlt m1
    exact ⟨hk.1.2, fun m3 => by have := y_loc3 hq ht hlt m3; omega⟩
  · obtain ⟨rfl, rfl, rfl, rfl⟩ := y_loc3 hq ht hlt m3
    exact ⟨hk.2.1, fun m1 => by have := y_loc1 hq ht hlt m1; omega⟩
  · rcases y_loc2 hq ht m2 with ⟨rfl, rfl, rfl, rfl⟩ | ⟨rfl, rfl, rfl, rfl⟩
    · exact Or.inl hk.1.1
    · exact Or.inr hk.2.2

theorem diag_y (hq : QY Lx Ly Lz 2 y 2) :
    ([[3, y, 2], [4, y - 1, 2], [3, y - 2, 2]].countP
      fun q => decide (q ∈ triKeys Lx Ly Lz 0 2 y 2)) = 1 := by
  refine countP3_one (mem_triKeys_of (Or.inl ⟨by decide, rfl, rfl⟩) (y_qubits hq).1)
    (fun h => ?_) (fun h => ?_)
  · have := mem_triKeys h; omega
  · have := mem_triKeys h; rw [sgnX_0, sgnY_0] at this; omega

theorem x_qubits (hq : QX Lx Ly Lz x 2 2) :
    [x, 3, 2] ∈ qubits Lx Ly Lz ∧ [x - 1, 4, 2] ∈ qubits Lx Ly Lz := by
  unfold QX at hq
  refine ⟨?_, ?_⟩
  · rw [mem_qubits_y (by omega) (by decide) (by decide)]; unfold Qy Hole; omega
  · rw [mem_qubits_x (by omega) (by decide) (by decide)]; unfold Qx Hole; omega

theorem x_keys (hq : QX Lx Ly Lz x 2 2) :
    [x, 3, 2] ∈ triKeys Lx Ly Lz 1 x 4 2 ∧ [x - 1, 4, 2] ∈ triKeys Lx Ly Lz 1 x 4 2 := by
  obtain ⟨q1, q2⟩ := x_qubits hq
  exact ⟨mem_triKeys_of (Or.inr (Or.inl ⟨rfl, by rw [sgnY_1]; rfl, rfl⟩)) q1,
    mem_triKeys_of (Or.inl ⟨by rw [sgnX_1]; rfl, rfl, rfl⟩) q2⟩

theorem x_loc1 (hq : QX Lx Ly Lz x 2 2) (ht : TS Lx Ly Lz b u v w) (hlt : Before 0 x 2 2 b u v w)
    (hmem : [x, 3, 2] ∈ triKeys Lx Ly Lz b u v w) : b = 1 ∧ u = x ∧ v = 4 ∧ w = 2 := by
  obtain ⟨hb, htv, htp, _⟩ := ht
  unfold QX at hq
  have ho := Rhombic.yleg_owner (isAxis_of hb) htv.2.1.2.2 (by decide) (triKeys_sub_legs hb hmem)
  have hz := sgnZ_eq (u := u) (v := v) (w := w) hb (by omega)
  have hp := htp.2.2.2.1
  unfold Hole at hp
  unfold Before at hlt
  omega

theorem x_loc2 (hq : QX Lx Ly Lz x 2 2) (ht : TS Lx Ly Lz b u v w) (hlt : Before 0 x 2 2 b u v w)
    (hmem : [x - 1, 4, 2] ∈ triKeys Lx Ly Lz b u v w) : b = 1 ∧ u = x ∧ v = 4 ∧ w = 2 := by
  obtain ⟨hb, htv, htp, _⟩ := ht
  unfold QX at hq
  have ho := Rhombic.xleg_owner (isAxis_of hb) htv.1.2.2 (by omega) (triKeys_sub_legs hb hmem)
  have hz := sgnZ_eq (u := u) (v := v) (w := w) hb (by omega)
  have hp := htp.2.2.2.1
  unfold Hole at hp
  unfold Before at hlt
  omega

theorem later_x (hq : QX Lx Ly Lz x 2 2) (ht : TS Lx Ly Lz b u v w) (hlt : Before 0 x 2 2 b u v w) :
    ([[x, 3, 2], [x - 1, 4, 2]].countP
      fun q => decide (q ∈ triKeys Lx Ly Lz b u v w)) % 2 = 0 := by
  have hk := x_keys hq
  by_cases m1 : [x, 3, 2] ∈ triKeys Lx Ly Lz b u v w
  · obtain ⟨rfl, rfl, rfl, rfl⟩ := x_loc1 hq ht hlt m1
    simp [hk.1, hk.2]
  · by_cases m2 : [x - 1, 4, 2] ∈ triKeys Lx Ly Lz b u v w
    · obtain ⟨rfl, rfl, rfl, rfl⟩ := x_loc2 hq ht hlt m2
      exact absurd hk.1 m1
    · simp [m1, m2]

theorem diag_x (hq : QX Lx Ly Lz x 2 2) :
    ([[x, 3, 2], [x - 1, 4, 2]].countP
      fun q => decide (q ∈ triKeys Lx Ly Lz 0 x 2 2)) = 1 := by
  have h1 : [x, 3, 2] ∈ triKeys Lx Ly Lz 0 x 2 2 :=
    mem_triKeys_of (Or.inr (Or.inl ⟨rfl, by decide, rfl⟩)) (x_qubits hq).1
  have h2 : [x - 1, 4, 2] ∉ triKeys Lx Ly Lz 0 x 2 2 := by
    intro h; have := mem_triKeys h
    rw [sgnX_0, sgnY_0] at this; omega
  simp [h1, h2]

end

end Panqec.HollowRhombicCode
