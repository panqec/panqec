/-
RhombicPlanarCode lattice model: `Lattice.WF` (distinct / disjoint coordinates, operators are dicts
on qubits, no empty stabilizer), the number of qubits and of logical operators, and `qubit_axis` on
the qubits.
-/
import PanqecVerif.Proofs.LatRhombicPlanarCodeLog
open Panqec Panqec.Lat3Db Panqec.Rhombic
namespace Panqec.RhombicPlanarCode

theorem nodup_qubits (Lx Ly Lz : Nat) : (qubits Lx Ly Lz).Nodup := by
  unfold qubits
  rw [List.nodup_append, List.nodup_append]
  refine ⟨⟨nodup_box _ _ _ _ _ _ _, nodup_box _ _ _ _ _ _ _, ?_⟩, nodup_box _ _ _ _ _ _ _, ?_⟩
  · -- x edges and y edges differ in the parity of `x`
    intro a ha b hb hab
    subst hab
    obtain ⟨x, y, z, rfl⟩ := shape_grid3 ha
    rw [mem_grid3_cons, mem_pyRange2_1] at ha
    rw [mem_grid3_cons, mem_pyRange2_2] at hb
    have := ha.1.1
    have := hb.1.1
    omega
  · -- z edges differ from both in the parity of `z`
    intro a ha b hb hab
    subst hab
    obtain ⟨x, y, z, rfl⟩ := shape_grid3 hb
    rw [mem_grid3_cons, mem_pyRange2_1] at hb
    have := hb.2.2.1.1
    simp only [List.mem_append, mem_grid3_cons, mem_pyRange2_0] at ha
    rcases ha with ha | ha
    · have := ha.2.2.1.1
      omega
    · have := ha.2.2.1.1
      omega

theorem nodup_stabs (Lx Ly Lz : Nat) : (stabs Lx Ly Lz).Nodup := by
  unfold stabs
  rw [List.nodup_append]
  refine ⟨nodup_grid3 _ _ _ _ (nodup_pyRange2 _ _) (nodup_rangeM1 _) (nodup_pyRange2 _ _), ?_, ?_⟩
  · rw [List.nodup_flatMap]
    refine ⟨fun ax _ => (nodup_box _ _ _ _ _ _ _).map (fun a b h => by simpa using h), ?_⟩
    have : ([0, 1, 2, 3] : List Int).Nodup := by decide
    refine List.Pairwise.imp_of_mem ?_ this
    intro a b _ _ hab
    simp only [Function.onFun, List.Disjoint, List.mem_map]
    rintro c ⟨d, _, rfl⟩ ⟨d', _, h⟩
    simp only [List.cons.injEq] at h
    exact hab h.1.symm
  · -- a cube has three coordinates, a triangle four
    intro a ha b hb hab
    subst hab
    obtain ⟨x, y, z, rfl⟩ := shape_grid3 ha
    simp only [List.mem_flatMap, List.mem_map] at hb
    obtain ⟨ax, _, c, hc, h⟩ := hb
    obtain ⟨x', y', z', rfl⟩ := shape_grid3 hc
    cases h

theorem qubits_not_stabs (Lx Ly Lz : Nat) (q : Coord) (hq : q ∈ qubits Lx Ly Lz) : q ∉ stabs Lx Ly Lz := by
  obtain ⟨x, y, z, rfl⟩ := mem_qubits_shape Lx Ly Lz q hq
  rw [mem_qubits_iff] at hq
  rw [mem_stabs_cube]
  unfold QX QY QZ R0 R1 R2 at hq
  unfold SC R1 RM
  omega

theorem mem_qubits_of_isQubit (Lx Ly Lz : Nat) (q : Coord) (h : isQubit Lx Ly Lz q = true) :
    q ∈ qubits Lx Ly Lz := List.contains_iff_mem.mp h

theorem IsCubeKeys.qubits {Lx Ly Lz : Nat} {k : List Coord} (h : IsCubeKeys Lx Ly Lz k) :
    ∀ q ∈ k, q ∈ qubits Lx Ly Lz := by
  obtain ⟨x, y, z, _, rfl⟩ := h
  exact fun q hq => mem_qubits_of_isQubit _ _ _ _ (List.mem_filter.mp hq).2

theorem IsTriKeys.qubits {Lx Ly Lz : Nat} {k : List Coord} (h : IsTriKeys Lx Ly Lz k) :
    ∀ q ∈ k, q ∈ qubits Lx Ly Lz := by
  obtain ⟨a, x, y, z, _, rfl⟩ := h
  exact fun q hq => mem_qubits_of_isQubit _ _ _ _ (List.mem_filter.mp hq).2

/-- a cube (also a half cube of the rough boundary) has an x edge that is a qubit -/
theorem IsCubeKeys.ne_nil {Lx Ly Lz : Nat} (hy : 1 ≤ Ly) {k : List Coord} (h : IsCubeKeys Lx Ly Lz k) :
    k ≠ [] := by
  obtain ⟨x, y, z, ⟨hx, hyy, hz, _⟩, rfl⟩ := h
  unfold R1 RM at *
  -- the lower x edge on the side of larger `y`, or of smaller `y` in the last row
  by_cases hc : y + 1 < 2 * (Ly : Int)
  · refine List.ne_nil_of_mem (a := [x, y + 1, z - 1]) (mem_cubeKeys.mpr ⟨?_, Or.inl ?_⟩)
    · rw [mem_cubeLocs]; unfold U; omega
    · unfold QX R0 R1; omega
  · refine List.ne_nil_of_mem (a := [x, y - 1, z - 1]) (mem_cubeKeys.mpr ⟨?_, Or.inl ?_⟩)
    · rw [mem_cubeLocs]; unfold U; omega
    · unfold QX R0 R1; omega

/-- the x leg of a triangle is a qubit, so its key list is not empty -/
theorem IsTriKeys.ne_nil {Lx Ly Lz : Nat} {k : List Coord} (h : IsTriKeys Lx Ly Lz k) : k ≠ [] := by
  obtain ⟨a, x, y, z, ⟨_, hx, hy, hz, _⟩, rfl⟩ := h
  exact List.ne_nil_of_mem
    (mem_triKeys.mpr ⟨Or.inl ⟨rfl, rfl, rfl⟩, Or.inl (legX_qubit hx hy hz (sgnX_pm a))⟩)

theorem wf (Lx Ly Lz : Nat) (hx : 1 ≤ Lx) (hy : 1 ≤ Ly) : (lattice Lx Ly Lz).WF := by
  refine wf_of_constOp (nodup_qubits Lx Ly Lz) (nodup_stabs Lx Ly Lz) (qubits_not_stabs Lx Ly Lz) ?_ ?_
  · intro s hs
    rcases getStab_cases Lx Ly Lz s hs with ⟨k, hk, e⟩ | ⟨k, hk, e⟩
    · exact ⟨k, _, e, hk.nodup, hk.ne_nil hy, hk.qubits, by decide⟩
    · exact ⟨k, _, e, hk.nodup, hk.ne_nil, hk.qubits, by decide⟩
  · intro a ha
    rcases List.mem_append.mp ha with ha | ha
    · exact ⟨_, _, mem_logX.mp ha, nodup_sheetKeys Lx Ly Lz,
        fun q hq => mem_qubits_of_isQubit _ _ _ _ (List.mem_filter.mp hq).2, by decide⟩
    · exact ⟨_, _, mem_logZ.mp ha, nodup_lineKeys Lx Ly Lz,
        fun q hq => mem_qubits_of_isQubit _ _ _ _ (lineKeys_qubits Lx Ly Lz hx hy q hq), by decide⟩

theorem length_qubits (Lx Ly Lz : Nat) :
    (qubits Lx Ly Lz).length = Lx * Ly * Lz + (Lx - 1) * (Ly - 1) * Lz + (Lx - 1) * Ly * (Lz - 1) := by
  unfold qubits allTrue
  simp only [List.length_append, length_grid3_true, length_pyRange2]
  have e1 : (2 * Lx + 1 + 1 - 1) / 2 = Lx := by omega
  have e2 : (2 * Ly + 1 - 0) / 2 = Ly := by omega
  have e3 : (2 * Lz + 1 - 0) / 2 = Lz := by omega
  have e4 : (2 * Lx + 1 - 2) / 2 = Lx - 1 := by omega
  have e5 : (2 * Ly - 1 + 1 - 1) / 2 = Ly - 1 := by omega
  have e6 : (2 * Lz - 1 + 1 - 1) / 2 = Lz - 1 := by omega
  rw [e1, e2, e3, e4, e5, e6]

theorem length_logX (Lx Ly Lz : Nat) : (logX Lx Ly Lz).length = 1 := rfl

theorem qubitAxis_qubit (Lx Ly Lz : Nat) (x y z : Int) (h : [x, y, z] ∈ qubits Lx Ly Lz) :
    qubitAxis [x, y, z] = some (if x % 2 = 1 then "x" else if y % 2 = 1 then "y" else "z") := by
  rw [mem_qubits_iff] at h
  unfold QX QY QZ R0 R1 R2 at h
  apply Rhombic.qubitAxis_eq
  omega

end Panqec.RhombicPlanarCode
