/-
Geometry of C10 on RotatedToric3DCode with the repaired `RotatedSweepDecoder3D`: the periodic
seam, one coordinate at a time.  `RotatedToric3DCode.get_stabilizer` identifies `2L + 1` with `1`
and `0` with `2L` (`seam`), the decoder's `_wrap` is `(v - 1) % (2L) + 1` (`wrapC`); one step from
the coordinates `1 … 2L` both are the cyclic successor `up` / predecessor `dn`.  Across the seam of
an odd side the class mod 4 moves by 2 (`shift`), which is what the letter rule `has_defect` tests
(`wrapC_defect`).  Then the coordinate lists of the class, and `get_stabilizer` of a face as a
filtered candidate list with that letter rule.
-/
import PanqecVerif.Proofs.SweepRotPlanarBase
import PanqecVerif.Proofs.Cyclic

namespace Panqec.Sweep

/-- cyclic successor on `1 … 2L` -/
def up (L : Nat) (a : Int) : Int := if a = 2 * (L : Int) then 1 else a + 1
/-- cyclic predecessor on `1 … 2L` -/
def dn (L : Nat) (a : Int) : Int := if a = 1 then 2 * (L : Int) else a - 1

theorem up_def (L : Nat) (a : Int) : up L a = if a = 2 * (L : Int) then 1 else a + 1 := rfl
theorem dn_def (L : Nat) (a : Int) : dn L a = if a = 1 then 2 * (L : Int) else a - 1 := rfl

theorem up_of_lt (L : Nat) (x : Int) (h : x < 2 * (L : Int)) : up L x = x + 1 := if_neg (by omega)

theorem seam_succ (L : Nat) (a : Int) (h1 : 1 ≤ a) (h2 : a ≤ 2 * (L : Int)) :
    seam L (a + 1) = up L a := by
  simp only [seam, up, beq_iff_eq]
  omega

theorem seam_pred (L : Nat) (a : Int) (h1 : 1 ≤ a) (h2 : a ≤ 2 * (L : Int)) :
    seam L (a + -1) = dn L a := by
  simp only [seam, dn, beq_iff_eq]
  omega

theorem seam_id (L : Nat) (a : Int) (h1 : 1 ≤ a) (h2 : a ≤ 2 * (L : Int)) : seam L a = a := by
  simp only [seam, beq_iff_eq]
  omega

/-- the decoder's `_wrap` on one coordinate -/
def wrapC (L : Nat) (v : Int) : Int := (v - 1) % (2 * (L : Int)) + 1

theorem wrapC_id (L : Nat) (a : Int) (h1 : 1 ≤ a) (h2 : a ≤ 2 * (L : Int)) : wrapC L a = a := by
  unfold wrapC
  rw [Int.emod_eq_of_lt (by omega) (by omega)]
  omega

theorem wrapC_succ (L : Nat) (a : Int) (h1 : 1 ≤ a) (h2 : a ≤ 2 * (L : Int)) :
    wrapC L (a + 1) = up L a :=
  (Cyclic.emod_succ ⟨h1, by omega⟩).trans (Cyclic.cup_one _ a)

theorem wrapC_pred (L : Nat) (a : Int) (h1 : 1 ≤ a) (h2 : a ≤ 2 * (L : Int)) :
    wrapC L (a - 1) = dn L a :=
  (Cyclic.emod_pred ⟨h1, by omega⟩).trans (Cyclic.cdn_one _ a)

theorem seam_eq_wrapC (L : Nat) (hL : 1 ≤ L) (u : Int) (h0 : 0 ≤ u) (h1 : u ≤ 2 * (L : Int) + 1) :
    seam L u = wrapC L u := by
  have h : u = 1 + -1 ∨ u = 2 * (L : Int) + 1 ∨ (1 ≤ u ∧ u ≤ 2 * (L : Int)) := by omega
  rcases h with rfl | rfl | h
  · rw [seam_pred L 1 (by omega) (by omega)]
    exact (wrapC_pred L 1 (by omega) (by omega)).symm
  · rw [seam_succ L _ (by omega) (by omega), wrapC_succ L _ (by omega) (by omega)]
  · rw [seam_id L u h.1 h.2, wrapC_id L u h.1 h.2]

theorem wrapC_add_eq_iff (L : Nat) (x a u : Int) (hx : 1 ≤ x ∧ x ≤ 2 * (L : Int))
    (ha : 1 ≤ a ∧ a ≤ 2 * (L : Int)) : wrapC L (x + u) = a ↔ wrapC L (a + -u) = x := by
  have k := Cyclic.emod_add_eq_iff (x - 1) (a - 1) u (2 * (L : Int)) ⟨by omega, by omega⟩ ⟨by omega, by omega⟩
  unfold wrapC
  rw [show x + u - 1 = x - 1 + u by omega, show a + -u - 1 = a - 1 + -u by omega]
  constructor
  · intro h
    have := k.mp (by omega)
    omega
  · intro h
    have := k.mpr (by omega)
    omega

theorem wrapC_add_inj (L : Nat) (hL : 2 ≤ L) (x u v : Int) (hu : -1 ≤ u ∧ u ≤ 1) (hv : -1 ≤ v ∧ v ≤ 1)
    (h : wrapC L (x + u) = wrapC L (x + v)) : u = v := by
  unfold wrapC at h
  rw [show x + u - 1 = x - 1 + u by omega, show x + v - 1 = x - 1 + v by omega] at h
  exact Cyclic.add_emod_inj (m := 2 * (L : Int)) (by omega : (x - 1 + u) % _ = (x - 1 + v) % _) (by omega) (by omega)

/-- what the wrap adds to the class mod 4 beyond the step itself: 2 across the seam of an odd side
    (`2 L ≡ 2`), else 0 -/
def shift (L : Nat) (e a : Int) : Int :=
  if L % 2 = 1 ∧ ((e = 1 ∧ a = 2 * (L : Int)) ∨ (e = -1 ∧ a = 1)) then 2 else 0

theorem shift_cases (L : Nat) (e a : Int) : shift L e a = 0 ∨ shift L e a = 2 := by
  unfold shift
  split
  · exact Or.inr rfl
  · exact Or.inl rfl

theorem shift_zero (L : Nat) (a : Int) : shift L 0 a = 0 :=
  if_neg fun h => h.2.elim (fun k => by cases k.1) (fun k => by cases k.1)

theorem wrapC_mod4 (L : Nat) (e a : Int) (he : -1 ≤ e ∧ e ≤ 1)
    (ha : 1 ≤ a ∧ a ≤ 2 * (L : Int)) : wrapC L (a + e) % 4 = (a + e + shift L e a) % 4 := by
  have he : e = 1 ∨ e = 0 ∨ e = -1 := by omega
  rcases he with rfl | rfl | rfl
  · rw [wrapC_succ L a ha.1 ha.2, up, shift]
    by_cases h : a = 2 * (L : Int)
    · rw [if_pos h]
      by_cases hL : L % 2 = 1
      · rw [if_pos ⟨hL, Or.inl ⟨rfl, h⟩⟩]; omega
      · rw [if_neg (fun k => hL k.1)]; omega
    · rw [if_neg h, if_neg (by omega), Int.add_zero]
  · rw [shift_zero, Int.add_zero, Int.add_zero, wrapC_id L a ha.1 ha.2]
  · rw [← Int.sub_eq_add_neg, wrapC_pred L a ha.1 ha.2, dn, shift]
    by_cases h : a = 1
    · rw [if_pos h]
      by_cases hL : L % 2 = 1
      · rw [if_pos ⟨hL, Or.inr ⟨rfl, h⟩⟩]; omega
      · rw [if_neg (fun k => hL k.1)]; omega
    · rw [if_neg h, if_neg (by omega), Int.add_zero]

theorem shift_eq_two {L : Nat} {e a : Int} (h : shift L e a = 2) :
    L % 2 = 1 ∧ ((e = 1 ∧ a = 2 * (L : Int)) ∨ (e = -1 ∧ a = 1)) := by
  unfold shift at h
  split at h
  · assumption
  · cases h

/-- on an odd coordinate the seam is crossed downwards from 1 only: the test of `has_defect` -/
theorem wrapC_defect (L : Nat) (hL : 2 ≤ L) (e a : Int) (he : -1 ≤ e ∧ e ≤ 1)
    (ha : 1 ≤ a ∧ a ≤ 2 * (L : Int)) (odd : a % 2 = 1) :
    (L % 2 = 1 ∧ wrapC L (a + e) = 2 * (L : Int) ∧ a = 1) ↔ shift L e a = 2 := by
  constructor
  · rintro ⟨h1, h2, h3⟩
    have he : e = 1 ∨ e = 0 ∨ e = -1 := by omega
    rcases he with rfl | rfl | rfl
    · rw [wrapC_succ L a ha.1 ha.2, up_of_lt L a (by omega)] at h2
      omega
    · rw [Int.add_zero, wrapC_id L a ha.1 ha.2] at h2
      omega
    · exact if_pos ⟨h1, Or.inr ⟨rfl, h3⟩⟩
  · intro h
    obtain ⟨h1, ⟨rfl, h2⟩ | ⟨rfl, h2⟩⟩ := shift_eq_two h
    · omega
    · rw [h2]
      exact ⟨h1, wrapC_pred L 1 (by omega) (by omega), rfl⟩

/-- a step from an even coordinate that does not land on a left-out column is not shifted -/
theorem shift_eq_zero_of (L : Nat) (e x : Int) (hx : 1 ≤ x ∧ x ≤ 2 * (L : Int))
    (px : x % 2 = 0) (h : ¬(L % 2 = 1 ∧ wrapC L (x + e) = 1)) : shift L e x = 0 := by
  rcases shift_cases L e x with h0 | h2
  · exact h0
  · obtain ⟨h1, ⟨rfl, k⟩ | ⟨rfl, k⟩⟩ := shift_eq_two h2
    · exact (h ⟨h1, by rw [wrapC_succ L x hx.1 hx.2, up, if_pos k]⟩).elim
    · omega

theorem mem_rotToricQubits (Lx Ly Lz : Nat) (x y z : Int) :
    (x, y, z) ∈ rotToricQubits Lx Ly Lz ↔
      (1 ≤ x ∧ x < 2 * (Lx : Int) ∧ x % 2 = 1 ∧ 1 ≤ y ∧ y < 2 * (Ly : Int) ∧ y % 2 = 1 ∧
        1 ≤ z ∧ z < 2 * (Lz : Int) ∧ z % 2 = 1) ∨
      (2 ≤ x ∧ x ≤ 2 * (Lx : Int) ∧ x % 2 = 0 ∧ 2 ≤ y ∧ y ≤ 2 * (Ly : Int) ∧ y % 2 = 0 ∧
        2 ≤ z ∧ z < 2 * (Lz : Int) ∧ z % 2 = 0 ∧ (x + y) % 4 = 2) := by
  simp only [rotToricQubits, List.mem_append, List.mem_filter, mem_prod3, mem_range2_odd,
    mem_range2_even 2 _ _ rfl, xyMod4, beq_iff_eq, and_assoc, Int.lt_add_one_iff]

/-- is the vertical face `(x, y, ·)` left out of `get_stabilizer_coordinates` (the faces on the
    defect lines of the odd directions) -/
def VfOut (Lx Ly : Nat) (x y : Int) : Prop := (Ly % 2 = 1 ∧ y = 1) ∨ (Lx % 2 = 1 ∧ x = 1)

theorem mem_rotToricStabs (Lx Ly Lz : Nat) (x y z : Int) :
    (x, y, z) ∈ rotToricStabs Lx Ly Lz ↔
      (2 ≤ x ∧ x ≤ 2 * (Lx : Int) ∧ x % 2 = 0 ∧ 2 ≤ y ∧ y ≤ 2 * (Ly : Int) ∧ y % 2 = 0 ∧
        1 ≤ z ∧ z < 2 * (Lz : Int) ∧ z % 2 = 1 ∧ (x + y) % 4 = 2) ∨
      (2 ≤ x ∧ x ≤ 2 * (Lx : Int) ∧ x % 2 = 0 ∧ 2 ≤ y ∧ y ≤ 2 * (Ly : Int) ∧ y % 2 = 0 ∧
        1 ≤ z ∧ z < 2 * (Lz : Int) ∧ z % 2 = 1 ∧ (x + y) % 4 = 0) ∨
      (1 ≤ x ∧ x < 2 * (Lx : Int) ∧ x % 2 = 1 ∧ 1 ≤ y ∧ y < 2 * (Ly : Int) ∧ y % 2 = 1 ∧
        2 ≤ z ∧ z < 2 * (Lz : Int) ∧ z % 2 = 0 ∧ ¬ VfOut Lx Ly x y) := by
  simp only [rotToricStabs, VfOut, List.mem_append, List.mem_filter, mem_prod3, mem_range2_odd,
    mem_range2_even 2 _ _ rfl, xyMod4, beq_iff_eq, and_assoc, or_assoc, Int.lt_add_one_iff,
    Bool.not_eq_true', Bool.or_eq_false_iff, Bool.and_eq_false_imp,
    beq_eq_false_iff_ne, ne_eq, not_or, not_and]

theorem rotToricQubits_range (Lx Ly Lz : Nat) (x y z : Int) (h : (x, y, z) ∈ rotToricQubits Lx Ly Lz) :
    RotEdge x y z ∧ (1 ≤ x ∧ x ≤ 2 * (Lx : Int)) ∧ (1 ≤ y ∧ y ≤ 2 * (Ly : Int)) := by
  rcases (mem_rotToricQubits Lx Ly Lz x y z).mp h with h | h
  · obtain ⟨h1, h2, hx, h3, h4, hy, -, -, hz⟩ := h
    exact ⟨Or.inl ⟨hx, hy, hz⟩, ⟨h1, by omega⟩, ⟨h3, by omega⟩⟩
  · obtain ⟨h1, h2, hx, h3, h4, hy, -, -, hz, hxy⟩ := h
    exact ⟨Or.inr ⟨hx, hy, hz, hxy⟩, ⟨by omega, h2⟩, ⟨by omega, h4⟩⟩

theorem rotToricStabs_range (Lx Ly Lz : Nat) (a b c : Int) (h : (a, b, c) ∈ rotToricStabs Lx Ly Lz) :
    ((a % 2 = 0 ∧ b % 2 = 0 ∧ c % 2 = 1) ∨ (a % 2 = 1 ∧ b % 2 = 1 ∧ c % 2 = 0 ∧ ¬VfOut Lx Ly a b)) ∧
      (1 ≤ a ∧ a ≤ 2 * (Lx : Int)) ∧ (1 ≤ b ∧ b ≤ 2 * (Ly : Int)) := by
  rcases (mem_rotToricStabs Lx Ly Lz a b c).mp h with h | h | h
  · obtain ⟨h1, h2, ha, h3, h4, hb, -, -, hc, -⟩ := h
    exact ⟨Or.inl ⟨ha, hb, hc⟩, ⟨by omega, h2⟩, ⟨by omega, h4⟩⟩
  · obtain ⟨h1, h2, ha, h3, h4, hb, -, -, hc, -⟩ := h
    exact ⟨Or.inl ⟨ha, hb, hc⟩, ⟨by omega, h2⟩, ⟨by omega, h4⟩⟩
  · obtain ⟨h1, h2, ha, h3, h4, hb, -, -, hc, ho⟩ := h
    exact ⟨Or.inr ⟨ha, hb, hc, ho⟩, ⟨h1, by omega⟩, ⟨h3, by omega⟩⟩

theorem rotToricStabs_nodup (Lx Ly Lz : Nat) : (rotToricStabs Lx Ly Lz).Nodup := by
  unfold rotToricStabs
  refine List.Nodup.append (List.Nodup.append ((nodup_prod3_range ..).filter _)
    ((nodup_prod3_range ..).filter _) ?_) ((nodup_prod3_range ..).filter _) ?_
  all_goals
    rw [List.disjoint_left]
    rintro ⟨x, y, z⟩ h1 h2
    simp only [List.mem_append, List.mem_filter, mem_prod3, mem_range2, xyMod4, beq_iff_eq] at h1 h2
    omega

theorem rotToricQubits_nodup (Lx Ly Lz : Nat) : (rotToricQubits Lx Ly Lz).Nodup := by
  unfold rotToricQubits
  refine List.Nodup.append (nodup_prod3_range ..) ((nodup_prod3_range ..).filter _) ?_
  rw [List.disjoint_left]
  rintro ⟨x, y, z⟩ h1 h2
  simp only [List.mem_filter, mem_prod3, mem_range2, xyMod4, beq_iff_eq] at h1 h2
  omega

theorem wrapRot_rotToric (Lx Ly Lz : Nat) (x y z : Int) :
    wrapRot (rotToric3D Lx Ly Lz) (x, y, z) = (wrapC Lx x, wrapC Ly y, z) := rfl

/-- one candidate of `RotatedToric3DCode.get_stabilizer` -/
def rtCand (Lx Ly : Nat) (l : Loc) (p : Pauli) (d : Loc) : Loc × Pauli :=
  let q0 := addLoc l d
  let q : Loc := (seam Lx q0.1, seam Ly q0.2.1, q0.2.2)
  let defectX := Lx % 2 == 1 && l.1 == 2 * (Lx : Int)
  let defectY := Ly % 2 == 1 && l.2.1 == 2 * (Ly : Int)
  let hasDefect := (defectX && q.1 == 1) != (defectY && q.2.1 == 1)
  (q, if hasDefect then flipXZ p else p)

theorem rotToric_op_face (Lx Ly Lz : Nat) (l : Loc) (ds : List Loc) (hf : rotIsFace l = true)
    (hd : rotFaceDeltas l = some ds) :
    (rotToric3D Lx Ly Lz).stabOp l =
      buildOp (rotToricQubits Lx Ly Lz) (ds.map (rtCand Lx Ly l Pauli.X)) := by
  simp only [rotToric3D, rotToricStabOp, hf, hd, if_true]
  rfl

/-- no defect on the candidate: the letter stays X -/
def NoDef (Lx Ly : Nat) (a b qx qy : Int) : Prop :=
  (Lx % 2 = 1 ∧ a = 2 * (Lx : Int) ∧ qx = 1) ↔ (Ly % 2 = 1 ∧ b = 2 * (Ly : Int) ∧ qy = 1)

theorem rtCand_fst (Lx Ly : Nat) (a b c d1 d2 d3 : Int) (p : Pauli) :
    (rtCand Lx Ly (a, b, c) p (d1, d2, d3)).1 = (seam Lx (a + d1), seam Ly (b + d2), c + d3) := rfl

theorem rtCand_hasX (Lx Ly : Nat) (a b c d1 d2 d3 : Int) :
    hasX (rtCand Lx Ly (a, b, c) Pauli.X (d1, d2, d3)).2 = true ↔
      NoDef Lx Ly a b (seam Lx (a + d1)) (seam Ly (b + d2)) := by
  unfold NoDef
  simp only [rtCand, addLoc]
  have e1 : ((Lx % 2 == 1 && a == 2 * (Lx : Int)) && seam Lx (a + d1) == 1) = true ↔
      (Lx % 2 = 1 ∧ a = 2 * (Lx : Int) ∧ seam Lx (a + d1) = 1) := by
    simp only [Bool.and_eq_true, beq_iff_eq, and_assoc]
  have e2 : ((Ly % 2 == 1 && b == 2 * (Ly : Int)) && seam Ly (b + d2) == 1) = true ↔
      (Ly % 2 = 1 ∧ b = 2 * (Ly : Int) ∧ seam Ly (b + d2) = 1) := by
    simp only [Bool.and_eq_true, beq_iff_eq, and_assoc]
  rw [← e1, ← e2]
  rcases Bool.eq_false_or_eq_true ((Lx % 2 == 1 && a == 2 * (Lx : Int)) && seam Lx (a + d1) == 1) with h1 | h1 <;>
  rcases Bool.eq_false_or_eq_true ((Ly % 2 == 1 && b == 2 * (Ly : Int)) && seam Ly (b + d2) == 1) with h2 | h2 <;>
  simp [h1, h2, flipXZ, hasX]

/-- a generator of type `'face'` (candidate locations pairwise distinct) is toggled by the qubit
    `loc` iff one of its candidates sits on `loc` and keeps the letter X -/
theorem rotToric_faceHas (Lx Ly Lz : Nat) (l : Loc) (ds : List Loc) (hf : rotIsFace l = true)
    (hd : rotFaceDeltas l = some ds)
    (hnd : ((ds.map (rtCand Lx Ly l Pauli.X)).map Prod.fst).Nodup) (loc : Loc)
    (hq : loc ∈ rotToricQubits Lx Ly Lz) :
    faceHasRot (rotToric3D Lx Ly Lz) l loc = true ↔
      ∃ d ∈ ds, (rtCand Lx Ly l Pauli.X d).1 = loc ∧ hasX (rtCand Lx Ly l Pauli.X d).2 = true := by
  have hop : (rotToric3D Lx Ly Lz).stabOp l = (ds.map (rtCand Lx Ly l Pauli.X)).filter
      (fun c => (rotToric3D Lx Ly Lz).qubits.contains c.1) := by
    rw [rotToric_op_face Lx Ly Lz l ds hf hd]
    exact buildOp_eq_filter _ _ hnd
  rw [faceHasRot, faceHasK_of_filter (rotToric3D Lx Ly Lz).isFace _ l loc _ hf hop hnd hq, decide_eq_true_iff]
  simp only [List.mem_map]
  constructor
  · rintro ⟨e, ⟨d, hd, rfl⟩, h1, h2⟩
    exact ⟨d, hd, h1, h2⟩
  · rintro ⟨d, hd, h1, h2⟩
    exact ⟨_, ⟨d, hd, rfl⟩, h1, h2⟩

end Panqec.Sweep
