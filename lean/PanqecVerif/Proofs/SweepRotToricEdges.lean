/-
Geometry of C10 on RotatedToric3DCode with the repaired `RotatedSweepDecoder3D`, every size
`L_x, L_y ≥ 1` — the edges proposed by the rotated sweep rule.  `sweep_move` only applies the
rule at a vertex when the three faces of `get_sweep_faces` (after `_wrap`) are face stabilizers
AND the three edges of `get_sweep_edges` (after `_wrap`) are qubits.  On the torus the two
horizontal edges always exist (the lattice is periodic in x and y); the vertical edge exists as
soon as the first face does (same layer `z ± 1`).  So `all(faces_valid)` implies
`all(edges_valid)`: the second guard never discards a vertex.
-/
import PanqecVerif.Proofs.SweepRotToricBase

namespace Panqec.Sweep

/-- `_wrap` sends every odd coordinate to an odd coordinate of the lattice -/
theorem wrapC_odd (L : Nat) (hL : 1 ≤ L) (u : Int) (hu : u % 2 = 1) :
    1 ≤ wrapC L u ∧ wrapC L u < 2 * (L : Int) ∧ wrapC L u % 2 = 1 := by
  unfold wrapC
  have h0 := Int.emod_nonneg (u - 1) (b := 2 * (L : Int)) (by omega)
  have h1 := Int.emod_lt_of_pos (u - 1) (b := 2 * (L : Int)) (by omega)
  have h2 : (u - 1) % (2 * (L : Int)) % 2 = (u - 1) % 2 := Int.emod_emod_of_dvd _ ⟨L, rfl⟩
  omega

/-- a stabilizer location with odd x is a vertical face, in a layer of vertical edges -/
theorem rotToricStabs_odd (Lx Ly Lz : Nat) (x y z : Int) (h : (x, y, z) ∈ rotToricStabs Lx Ly Lz)
    (hx : x % 2 = 1) : 2 ≤ z ∧ z < 2 * (Lz : Int) ∧ z % 2 = 0 := by
  rw [mem_rotToricStabs] at h
  omega

/-- after `_wrap` there is a horizontal edge at any odd x, y in every odd layer -/
theorem rotToric_hedge (Lx Ly Lz : Nat) (hLx : 1 ≤ Lx) (hLy : 1 ≤ Ly) (u v c : Int) (hu : u % 2 = 1)
    (hv : v % 2 = 1) (hc : 1 ≤ c ∧ c < 2 * (Lz : Int) ∧ c % 2 = 1) :
    (wrapC Lx u, wrapC Ly v, c) ∈ rotToricQubits Lx Ly Lz := by
  have w1 := wrapC_odd Lx hLx u hu
  have w2 := wrapC_odd Ly hLy v hv
  rw [mem_rotToricQubits]
  left
  omega

/-- at a vertex, if the x face of the sweep rule exists (in the layer `t` above or below), so do
    its three edges: the horizontal ones always do, the vertical one lies in the column of the
    vertex and the layer of the face -/
theorem rotToric_sweepEdges (Lx Ly Lz : Nat) (hLx : 1 ≤ Lx) (hLy : 1 ≤ Ly) (a b c u1 v1 u2 v2 t : Int)
    (hu1 : u1 % 2 = 1) (hv1 : v1 % 2 = 1) (hu2 : u2 % 2 = 1) (hv2 : v2 % 2 = 1)
    (hvert : 2 ≤ a ∧ a ≤ 2 * (Lx : Int) ∧ a % 2 = 0 ∧ 2 ≤ b ∧ b ≤ 2 * (Ly : Int) ∧ b % 2 = 0 ∧
      1 ≤ c ∧ c < 2 * (Lz : Int) ∧ c % 2 = 1 ∧ (a + b) % 4 = 2)
    (h1 : (wrapC Lx u1, wrapC Ly v1, t) ∈ rotToricStabs Lx Ly Lz) :
    (wrapC Lx u2, wrapC Ly v2, c) ∈ rotToricQubits Lx Ly Lz ∧
      (wrapC Lx u1, wrapC Ly v1, c) ∈ rotToricQubits Lx Ly Lz ∧
      (wrapC Lx a, wrapC Ly b, t) ∈ rotToricQubits Lx Ly Lz := by
  obtain ⟨-, -, -, -, -, -, c1, c2, pc, -⟩ := id hvert
  have hc : 1 ≤ c ∧ c < 2 * (Lz : Int) ∧ c % 2 = 1 := ⟨c1, c2, pc⟩
  refine ⟨rotToric_hedge Lx Ly Lz hLx hLy u2 v2 c hu2 hv2 hc,
    rotToric_hedge Lx Ly Lz hLx hLy u1 v1 c hu1 hv1 hc, ?_⟩
  have k := rotToricStabs_odd Lx Ly Lz _ _ _ h1 (wrapC_odd Lx hLx u1 hu1).2.2
  rw [wrapC_id Lx a (by omega) (by omega), wrapC_id Ly b (by omega) (by omega), mem_rotToricQubits]
  right
  omega

/-- RotatedToric3DCode, every size `L_x, L_y ≥ 1`: whenever the three faces the rotated sweep rule
    looks at exist, the three edges it may propose are edges of the lattice -/
theorem rotToric_sweepEdgesOK (Lx Ly Lz : Nat) (hLx : 1 ≤ Lx) (hLy : 1 ≤ Ly) :
    sweepEdgesOKRot (rotToric3D Lx Ly Lz) = true := by
  unfold sweepEdgesOKRot
  rw [List.all_eq_true]
  rintro ⟨a, b, c⟩ hv
  unfold sweepVerticesRot at hv
  rw [List.mem_filter] at hv
  obtain ⟨hs, hnf⟩ := hv
  rw [show (rotToric3D Lx Ly Lz).stabs = rotToricStabs Lx Ly Lz from rfl, mem_rotToricStabs] at hs
  have hvert : 2 ≤ a ∧ a ≤ 2 * (Lx : Int) ∧ a % 2 = 0 ∧ 2 ≤ b ∧ b ≤ 2 * (Ly : Int) ∧ b % 2 = 0 ∧
      1 ≤ c ∧ c < 2 * (Lz : Int) ∧ c % 2 = 1 ∧ (a + b) % 4 = 2 := by
    obtain ⟨p4, pc⟩ := rotVertex_of_not_face (a := a) (b := b) (c := c)
      (by rw [← Bool.not_eq_true']; exact hnf)
    rcases hs with h | h | h
    · exact h
    · obtain ⟨-, -, -, -, -, -, -, -, -, q4⟩ := h
      omega
    · obtain ⟨-, -, -, -, -, -, -, -, qc, -⟩ := h
      omega
  rw [List.all_eq_true]
  rintro ⟨sx, sy, sz⟩ -
  obtain ⟨e1, e2, he1, he2, hF, hE⟩ := oldSweepRot_spec a b c sx sy sz
  simp only [sweepFacesRot, sweepEdgesRot, hF, hE, wrapRot_rotToric]
  exact sweepGuard_of _ _ _ _ _ _ _ fun h1 _ =>
    rotToric_sweepEdges Lx Ly Lz hLx hLy a b c _ _ _ _ (c + sz) (by omega) (by omega) (by omega)
      (by omega) hvert h1

end Panqec.Sweep
