/-
Counting lemmas for the all-sizes distance proof of the rhombic code with open boundaries.
The checkerboard slab with open boundaries (`slab_checker_open`) is obtained from the
periodic one (`slab_checker`) by padding with zeros: the half cubes below the first row are the
cubes that the padded period wraps around to.
-/
import PanqecVerif.Proofs.DistCheckerboard

namespace Panqec.Lat2D

theorem rsum_restrict (g : Nat → Nat) (a : Nat) : ∀ A : Nat, a ≤ A → (∀ j, a ≤ j → g j = 0) →
    rsum A g = rsum a g
  | 0, h, _ => by
    have : a = 0 := by omega
    subst this; rfl
  | A + 1, h, hz => by
    by_cases e : a = A + 1
    · subst e; rfl
    · rw [rsum, rsum_restrict g a A (by omega) hz, hz A (by omega)]; rfl

theorem rsum2_restrict (g : Nat → Nat → Nat) (a b A B : Nat) (ha : a ≤ A) (hb : b ≤ B)
    (hz : ∀ j k, ¬ (j < a ∧ k < b) → g j k = 0) : rsum2 A B g = rsum2 a b g := by
  unfold rsum2
  rw [rsum_restrict (fun j => rsum B (g j)) a A ha
    (fun j hj => rsum_zero B (fun k _ => hz j k (by omega)))]
  apply rsum_congr
  intro j hj
  exact rsum_restrict (g j) b B hb (fun k hk => hz j k (by omega))

theorem rsum2_inner_box (F : Nat → Nat → Nat) (a c : Nat) (h0 : ∀ k, F 0 k = 0)
    (hl : ∀ j, F j c = 0) : rsum2 (a + 1) (c + 1) F = rsum2 a c (fun j k => F (j + 1) k) := by
  unfold rsum2
  rw [rsum_succ', rsum_zero (c + 1) (fun k _ => h0 k), Nat.zero_add]
  apply rsum_congr
  intro j _
  show rsum c (F (j + 1)) + F (j + 1) c = _
  rw [hl]
  rfl

theorem wrapS_spec (L k : Nat) :
    k + 1 = L ∧ wrapS L k = 0 ∨ k + 1 ≠ L ∧ wrapS L k = k + 1 := by
  unfold wrapS
  split <;> simp [*]

/-- **Checkerboard slab with open boundaries.**  Planes `i < M`; in-plane edges `P1 i j k`
    (`j < a`, `k < b`), `P2 i j k` and rungs `R i j k` (`1 ≤ j < a`, `k < b`), all vanishing outside
    these ranges.  The cube `(j, k)` (`j < a`, `k < b`) of slab `i`, coloured when `i + j + k` is
    odd, touches `P1 j k`, `P1 j (k+1)`, `P2 j k`, `P2 (j+1) k` in both planes and the four rungs at
    its corners; below the first row there is a row of half cubes `(j, -1)`, coloured when `i + j`
    is even, touching `P1 j 0` in both planes and the rungs `R j 0`, `R (j+1) 0`. -/
theorem slab_checker_open (a b M : Nat) (P1 P2 R : Nat → Nat → Nat → Nat)
    (s1 : ∀ i j k, ¬ (j < a ∧ k < b) → P1 i j k = 0)
    (s2 : ∀ i j k, ¬ (1 ≤ j ∧ j < a ∧ k < b) → P2 i j k = 0)
    (sR : ∀ i j k, ¬ (1 ≤ j ∧ j < a ∧ k < b) → R i j k = 0)
    (h : ∀ i, i + 1 < M → ∀ j k, j < a → k < b → (i + j + k) % 2 = 1 →
      (P1 i j k + P1 i j (k + 1) + P2 i j k + P2 i (j + 1) k
        + P1 (i + 1) j k + P1 (i + 1) j (k + 1) + P2 (i + 1) j k + P2 (i + 1) (j + 1) k
        + R i j k + R i (j + 1) k + R i j (k + 1) + R i (j + 1) (k + 1)) % 2 = 0)
    (h0 : ∀ i, i + 1 < M → ∀ j, j < a → (i + j) % 2 = 0 →
      (P1 i j 0 + P1 (i + 1) j 0 + R i j 0 + R i (j + 1) 0) % 2 = 0) :
    ∀ i, i < M →
      (rsum2 a b (P1 i) + rsum2 a b (P2 i)) % 2 = (rsum2 a b (P1 0) + rsum2 a b (P2 0)) % 2 := by
  intro i hi
  have key := slab_checker (2 * a + 2) (2 * b + 2) M 0 (by omega) (by omega) P1 P2 R ?_ i hi
  · rw [rsum2_restrict (P1 i) a b _ _ (by omega) (by omega) (s1 i),
      rsum2_restrict (P2 i) a b _ _ (by omega) (by omega) (fun j k hjk => s2 i j k (by omega)),
      rsum2_restrict (P1 0) a b _ _ (by omega) (by omega) (s1 0),
      rsum2_restrict (P2 0) a b _ _ (by omega) (by omega) (fun j k hjk => s2 0 j k (by omega))]
      at key
    exact key
  · intro i hi j k hj hk hc
    by_cases hr : j < a ∧ k < b
    · rw [show wrapS (2 * a + 2) j = j + 1 from if_neg (by omega),
        show wrapS (2 * b + 2) k = k + 1 from if_neg (by omega)]
      exact h i hi j k hr.1 hr.2 (by omega)
    by_cases hl : j < a ∧ k + 1 = 2 * b + 2
    · -- the last row of the padded period wraps around to the half cubes
      rw [show wrapS (2 * a + 2) j = j + 1 from if_neg (by omega),
        show wrapS (2 * b + 2) k = 0 from if_pos hl.2]
      have := h0 i hi j hl.1 (by omega)
      simp (disch := omega) only [s1, s2, sR]
      omega
    · -- everything this cube touches lies outside the lattice
      by_cases hja : j < a
      · rw [show wrapS (2 * a + 2) j = j + 1 from if_neg (by omega),
          show wrapS (2 * b + 2) k = k + 1 from if_neg (by omega)]
        simp (disch := omega) only [s1, s2, sR]
      · have wj := wrapS_spec (2 * a + 2) j
        simp (disch := omega) only [s1, s2, sR]

/-- **Up/down stack.**  Sites `m < L`; the sites with `m % 2 = e` read the position `2m + 1` above
    them, the others the position `2m - 1` below.  Every position between two sites is read by both
    or by none; the two positions outside carry nothing.  So the total is even. -/
theorem rsum_updown (e : Nat) (he : e < 2) (g : Int → Nat) (h0 : g (-1) = 0) :
    ∀ L : Nat, (rsum L (fun m => if m % 2 = e then g (2 * (m : Int) + 1) else g (2 * (m : Int) - 1))
      + (if 0 < L ∧ (L - 1) % 2 = e then g (2 * (L : Int) - 1) else 0)) % 2 = 0
  | 0 => by simp [rsum]
  | L + 1 => by
    have ih := rsum_updown e he g h0 L
    rw [rsum]
    have eL : 2 * ((L + 1 : Nat) : Int) - 1 = 2 * (L : Int) + 1 := by omega
    rw [eL]
    by_cases hL : L % 2 = e
    · rw [if_pos hL, if_pos ⟨by omega, by simpa using hL⟩]
      rw [if_neg (by omega)] at ih
      omega
    · rw [if_neg hL, if_neg (by simp; exact hL)]
      by_cases h0L : 0 < L
      · rw [if_pos ⟨h0L, by omega⟩] at ih
        omega
      · have : L = 0 := by omega
        subst this
        simp only [Int.natCast_zero, Int.mul_zero, Int.zero_sub] at ih ⊢
        rw [h0]
        simp [rsum]

theorem rsum_updown_even (e : Nat) (he : e < 2) (g : Int → Nat) (L : Nat) (h0 : g (-1) = 0)
    (hL : g (2 * (L : Int) - 1) = 0) :
    rsum L (fun m => if m % 2 = e then g (2 * (m : Int) + 1) else g (2 * (m : Int) - 1)) % 2 = 0 := by
  have := rsum_updown e he g h0 L
  rw [hL] at this
  simpa using this

/-- **Cells.**  `SX` on the corners `(j, k)`, `j < a`, `k < b`, and `SY` on the centres `(j, k)`,
    `j < a - 1`, `k < b - 1`, of the cells of a grid.  If on every cell the four corners have the
    parity of the centre, everything has the parity of the last corner. -/
theorem cells_const (a b : Nat) (ha : 2 ≤ a) (hb : 2 ≤ b) (SX SY : Nat → Nat → Nat)
    (h : ∀ j k, j + 1 < a → k + 1 < b →
      (SX j k + SY j k) % 2 = 0 ∧ (SX (j + 1) k + SY j k) % 2 = 0 ∧
      (SX j (k + 1) + SY j k) % 2 = 0 ∧ (SX (j + 1) (k + 1) + SY j k) % 2 = 0) :
    (∀ j k, j < a → k < b → SX j k % 2 = SX (a - 1) (b - 1) % 2) ∧
    (∀ j k, j + 1 < a → k + 1 < b → SY j k % 2 = SX (a - 1) (b - 1) % 2) := by
  -- all centres have the parity of the centre (0, 0): along the row, then along the first column
  have hY : ∀ j k, j + 1 < a → k + 1 < b → SY j k % 2 = SY 0 0 % 2 := by
    intro j k hj hk
    have r := chain (a - 1) (fun j => SY j k) (fun j hj' => by
      have := (h j k (by omega) hk).2.1
      have := (h (j + 1) k (by omega) hk).1
      show (SY j k + SY (j + 1) k) % 2 = 0
      omega) j (by omega)
    have c := chain (b - 1) (SY 0) (fun k hk' => by
      have := (h 0 k (by omega) (by omega)).2.2.1
      have := (h 0 (k + 1) (by omega) (by omega)).1
      omega) k (by omega)
    exact r.trans c
  -- every corner is a corner of the cell below and to the left of it, or of a cell of the first
  -- row / column
  have hX : ∀ j k, j < a → k < b → SX j k % 2 = SY 0 0 % 2 := by
    intro j k hj hk
    rcases j with _ | j <;> rcases k with _ | k
    · have := (h 0 0 (by omega) (by omega)).1
      omega
    · have := (h 0 k (by omega) (by omega)).2.2.1
      have := hY 0 k (by omega) (by omega)
      omega
    · have := (h j 0 (by omega) (by omega)).2.1
      have := hY j 0 (by omega) (by omega)
      omega
    · have := (h j k (by omega) (by omega)).2.2.2
      have := hY j k (by omega) (by omega)
      omega
  have hlast := hX (a - 1) (b - 1) (by omega) (by omega)
  exact ⟨fun j k hj hk => by rw [hX j k hj hk, hlast],
    fun j k hj hk => by rw [hY j k hj hk, hlast]⟩

end Panqec.Lat2D
