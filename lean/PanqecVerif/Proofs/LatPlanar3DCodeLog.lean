/-
`Planar3DCode`, every size: the logical operators as one-letter operators on explicit key lists (the
string of X along `y = z = 0`, the plane of Z at `x = 1`), their overlap with the stabilizers
(even) and with each other (exactly the qubit `(1, 0, 0)`).
-/
import PanqecVerif.Proofs.LatPlanar3DCodeComm


namespace Panqec.Planar3DCode
open Panqec.Cubic3D

section axis
variable {L : Nat} {e o : Int}
theorem fE_m (ho : inO L o) : inE L (o - 1) := by simp only [inE, inO] at *; omega
theorem fE_p (ho : inO L o) : inE L (o + 1) := by simp only [inE, inO] at *; omega
theorem f1_m (ho : o % 2 = 1) : ¬ (o - 1 = 1) := by omega
theorem f1_p (ho : o % 2 = 1) : ¬ (o + 1 = 1) := by omega
theorem vO_p (he : inE2 L e) : inO1 L (e + 1) := by simp only [inE2, inO1] at *; omega
theorem vO_m (he : inE2 L e) : inO1 L (e - 1) := by simp only [inE2, inO1] at *; omega
theorem vO_0 (he : e % 2 = 0) : ¬ inO1 L e := by simp only [inO1]; omega
theorem v0_p (he : inE L e) : ¬ (e + 1 = 0) := by simp only [inE] at *; omega
theorem v0_m (he : inE L e) : ¬ (e - 1 = 0) := by simp only [inE] at *; omega
theorem inE_zero (hL : 1 ≤ L) : inE L 0 := by simp only [inE]; omega
theorem inO1_one (hL : 1 ≤ L) : inO1 L 1 := by simp only [inO1]; omega
end axis

def lxK (Lx : Nat) : List Coord := (range2 1 (2 * (Lx : Int) + 1)).map fun x => [x, 0, 0]
def lzK (Ly Lz : Nat) : List Coord :=
  grid2 (range2 0 (2 * (Ly : Int))) (range2 0 (2 * (Lz : Int))) fun y z => [1, y, z]

theorem logX_eq (Lx Ly Lz : Nat) : logX Lx Ly Lz = [uop (lxK Lx) Pauli.X] := by
  simp only [logX, lxK, uop_map]

theorem logZ_eq (Lx Ly Lz : Nat) : logZ Lx Ly Lz = [uop (lzK Ly Lz) Pauli.Z] := by
  simp only [logZ, lzK, uop_grid2]

theorem mem_lxK {Lx : Nat} {a b c : Int} : [a, b, c] ∈ lxK Lx ↔ inO1 Lx a ∧ b = 0 ∧ c = 0 := by
  simp only [lxK, List.mem_map, mem_rangeO1, List.cons.injEq, and_true]
  constructor
  · rintro ⟨o, ho, rfl, rfl, rfl⟩; exact ⟨ho, rfl, rfl⟩
  · rintro ⟨ho, rfl, rfl⟩; exact ⟨a, ho, rfl, rfl, rfl⟩

theorem mem_lzK {Ly Lz : Nat} {a b c : Int} :
    [a, b, c] ∈ lzK Ly Lz ↔ a = 1 ∧ inE Ly b ∧ inE Lz c := by
  simp only [lzK, mem_grid2, mem_rangeE, List.cons.injEq, and_true]
  constructor
  · rintro ⟨y, hy, z, hz, rfl, rfl, rfl⟩; exact ⟨rfl, hy, hz⟩
  · rintro ⟨rfl, hy, hz⟩; exact ⟨b, hy, c, hz, rfl, rfl, rfl⟩

theorem shape_lxK {Lx : Nat} {q : Coord} (h : q ∈ lxK Lx) : ∃ a b c, q = [a, b, c] := by
  simp only [lxK, List.mem_map] at h; obtain ⟨o, _, rfl⟩ := h; exact ⟨_, _, _, rfl⟩
theorem shape_lzK {Ly Lz : Nat} {q : Coord} (h : q ∈ lzK Ly Lz) : ∃ a b c, q = [a, b, c] := by
  simp only [lzK, mem_grid2] at h; obtain ⟨_, _, _, _, rfl⟩ := h; exact ⟨_, _, _, rfl⟩

theorem lxK_nodup (Lx : Nat) : (lxK Lx).Nodup :=
  List.Nodup.map (fun a b h => by simpa using h) (nodup_range2 _ _)
theorem lzK_nodup (Ly Lz : Nat) : (lzK Ly Lz).Nodup :=
  nodup_grid2 (nodup_range2 _ _) (nodup_range2 _ _) (fun a b a' b' h => by simpa using h)

theorem lxK_sub {Lx Ly Lz : Nat} (hLy : 1 ≤ Ly) (hLz : 1 ≤ Lz) :
    ∀ q ∈ lxK Lx, q ∈ qubits Lx Ly Lz := by
  intro q hq
  obtain ⟨a, b, c, rfl⟩ := shape_lxK hq
  rw [mem_lxK] at hq
  obtain ⟨h1, rfl, rfl⟩ := hq
  rw [mem_qubits]
  exact Or.inl ⟨h1, inE_zero hLy, inE_zero hLz⟩

theorem lzK_sub {Lx Ly Lz : Nat} (hLx : 1 ≤ Lx) : ∀ q ∈ lzK Ly Lz, q ∈ qubits Lx Ly Lz := by
  intro q hq
  obtain ⟨a, b, c, rfl⟩ := shape_lzK hq
  rw [mem_lzK] at hq
  obtain ⟨rfl, h2, h3⟩ := hq
  rw [mem_qubits]
  exact Or.inl ⟨inO1_one hLx, h2, h3⟩

theorem ov_vertex_lxK {Lx Ly Lz : Nat} (hLy : 1 ≤ Ly) (hLz : 1 ≤ Lz) {x y z : Int}
    (hv : isVertex Lx Ly Lz x y z) : ov (vertexKeys Lx Ly Lz x y z) (lxK Lx) % 2 = 0 := by
  unfold vertexKeys
  rw [ov_filter_left _ (fun q hq => isq_iff.mpr (lxK_sub hLy hLz q hq))]
  obtain ⟨hx, hy, hz⟩ := hv
  have px : x % 2 = 0 := hx.2.2
  unfold ov vertexCands
  simp only [List.countP_cons, List.countP_nil, decide_eq_true_eq, Nat.zero_add, mem_lxK,
    vO_p hx, vO_m hx, vO_0 px, v0_p hy, v0_m hy, v0_p hz, v0_m hz,
    true_and, false_and, and_false, if_false, Nat.add_zero]
  by_cases h2 : y = 0 <;> by_cases h3 : z = 0 <;> simp_all

/-- the plane `x = 1` as a box, one coordinate at a time -/
def onPlane (Ly Lz : Nat) : Axis → Int → Prop
  | .x => (· = 1) | .y => inE Ly | .z => inE Lz

theorem onPlane_pair {Lx Ly Lz : Nat} {a : Axis} {o : Int} (ho : rO Lx Ly Lz a o) :
    onPlane Ly Lz a (o - 1) ↔ onPlane Ly Lz a (o + 1) := by
  cases a
  · exact iff_of_false (f1_m ho.2.2) (f1_p ho.2.2)
  · exact iff_of_true (fE_m ho) (fE_p ho)
  · exact iff_of_true (fE_m ho) (fE_p ho)

theorem ov_face_lzK {Lx Ly Lz : Nat} (hLx : 1 ≤ Lx) {ax : Axis} {u v w : Int}
    (hf : isFace Lx Ly Lz ax u v w) : ov (faceKeys Lx Ly Lz ax u v w) (lzK Ly Lz) % 2 = 0 := by
  unfold faceKeys
  rw [ov_filter_left _ (fun q hq => isq_iff.mpr (lzK_sub hLx q hq))]
  exact ov_rim_box (P := onPlane Ly Lz) mem_lzK (onPlane_pair hf.2.1) (onPlane_pair hf.2.2)

theorem ov_lxK_lzK {Lx Ly Lz : Nat} (hLx : 1 ≤ Lx) (hLy : 1 ≤ Ly) (hLz : 1 ≤ Lz) :
    ov (lxK Lx) (lzK Ly Lz) = 1 := by
  have ey := inE_zero hLy; have ez := inE_zero hLz; have ox := inO1_one hLx
  refine ov_eq_one (lxK_nodup _) [1, 0, 0] ?_ ?_
  · rw [mem_lxK]; exact ⟨ox, rfl, rfl⟩
  · intro q hq
    obtain ⟨a, b, c, rfl⟩ := shape_lxK hq
    rw [mem_lxK] at hq
    rw [mem_lzK]
    obtain ⟨h1, rfl, rfl⟩ := hq
    simp_all

end Panqec.Planar3DCode
