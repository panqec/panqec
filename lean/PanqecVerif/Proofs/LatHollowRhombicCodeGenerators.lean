/-
`HollowRhombicCode`, every size: membership in the stabilizer list of the lattice record
(`mem_stabs`, from the closed form of `Proofs/LatHollowRhombicCodeStab.lean`), `get_stabilizer` of the
record on the listed locations, and the generators commute.
-/
import PanqecVerif.Proofs.LatHollowRhombicCodeComm
import PanqecVerif.Proofs.Lat2DBase

namespace Panqec.HollowRhombicCode
open Panqec.Cubic3D
open Panqec.Planar3DCode (inE inO inE2 inO1)

theorem mem_stabs {Lx Ly Lz : Nat} {s : Coord} :
    s ∈ stabs Lx Ly Lz ↔ (∃ x y z, s = [x, y, z] ∧ CubeLoc Lx Ly Lz x y z) ∨
      (∃ a x y z, s = [a, x, y, z] ∧ (0 ≤ a ∧ a < 4) ∧ VertexLoc Lx Ly Lz x y z ∧
        TriKeep Lx Ly Lz (TX Lx Ly Lz a x y z) (TY Lx Ly Lz a x y z) (TZ Lx Ly Lz a x y z) x y z) := by
  unfold stabs VertexLoc
  rw [List.mem_append, mem_cubes, mem_triangles]
  constructor
  · rintro (h | ⟨a, x, y, z, rfl, ha, hx, hy, hz, hk⟩)
    · exact Or.inl h
    · exact Or.inr ⟨a, x, y, z, rfl, ha, ⟨hx, hy, hz⟩, hk⟩
  · rintro (h | ⟨a, x, y, z, rfl, ha, ⟨hx, hy, hz⟩, hk⟩)
    · exact Or.inl h
    · exact Or.inr ⟨a, x, y, z, rfl, ha, hx, hy, hz, hk⟩

theorem nodup_triangles (Lx Ly Lz : Nat) : (triangles Lx Ly Lz).Nodup := by
  unfold triangles
  simp only []
  refine nodup_flatMap_of_key (fun q => q.headD 0) (by decide) ?_ ?_
  · intro a _
    refine List.Nodup.sublist ?_ (nodup_map_cons a (nodup_grid (nodup_range2 2 (2 * (Lx : Int)))
      (nodup_range2 0 (2 * (Ly : Int))) (nodup_range2 0 (2 * (Lz : Int)))))
    unfold grid
    rw [List.map_flatMap]
    apply sublist_flatMap
    intro x
    rw [List.map_flatMap]
    apply sublist_flatMap
    intro y
    rw [List.map_map]
    exact (List.filter_sublist).map _
  · intro a _ b hb
    simp only [List.mem_flatMap, List.mem_map] at hb
    obtain ⟨x, _, y, _, z, _, rfl⟩ := hb
    rfl

theorem nodup_stabs (Lx Ly Lz : Nat) : (stabs Lx Ly Lz).Nodup := by
  unfold stabs
  refine nodup_append_of (nodup_cubes Lx Ly Lz) (nodup_triangles Lx Ly Lz) ?_
  intro s hs ht
  obtain ⟨x, y, z, rfl, _⟩ := mem_cubes.mp hs
  obtain ⟨a, x', y', z', e, _⟩ := mem_triangles.mp ht
  have := congrArg List.length e
  simp at this

theorem qubits_stabs_disjoint {Lx Ly Lz : Nat} : ∀ q ∈ qubits Lx Ly Lz, q ∉ stabs Lx Ly Lz := by
  intro q hq hs
  obtain ⟨a, b, c, rfl⟩ := shape_of_mem_qubits hq
  have hp := qubit_parity hq
  rcases mem_stabs.mp hs with ⟨x, y, z, e, hc⟩ | ⟨a', x, y, z, e, _⟩
  · simp only [List.cons.injEq, and_true] at e
    obtain ⟨rfl, rfl, rfl⟩ := e
    unfold CubeLoc at hc
    omega
  · have := congrArg List.length e
    simp at this

/-- Stated for a variable location: with a literal `[x, y, z]` the unifier evaluates
    `get_stabilizer` on both sides before it compares them. -/
theorem lattice_getStab (Lx Ly Lz : Nat) (s : Coord) :
    (lattice Lx Ly Lz).getStab s = (getStabilizer Lx Ly Lz s).getD := rfl

theorem getStab_cube' (Lx Ly Lz : Nat) (x y z : Int) :
    (lattice Lx Ly Lz).getStab [x, y, z] = uop (cubeKeys Lx Ly Lz x y z) Pauli.X := by
  rw [lattice_getStab, getStab_cube]; rfl

theorem getStab_tri' (Lx Ly Lz : Nat) {a x y z : Int} (ha : 0 ≤ a ∧ a < 4) :
    (lattice Lx Ly Lz).getStab [a, x, y, z] = uop (triKeys Lx Ly Lz a x y z) Pauli.Z := by
  rw [lattice_getStab, getStab_tri Lx Ly Lz ha]; rfl

theorem nodup_cubeKeys (Lx Ly Lz : Nat) (x y z : Int) : (cubeKeys Lx Ly Lz x y z).Nodup :=
  (cubeCands_nodup x y z).filter _
theorem nodup_triKeys (Lx Ly Lz : Nat) (a x y z : Int) : (triKeys Lx Ly Lz a x y z).Nodup :=
  (triCands_nodup a x y z).filter _

theorem stab_comm_all (Lx Ly Lz : Nat) :
    ∀ s ∈ (lattice Lx Ly Lz).stabs, ∀ t ∈ (lattice Lx Ly Lz).stabs,
      opCommute ((lattice Lx Ly Lz).getStab s) ((lattice Lx Ly Lz).getStab t) = true := by
  intro s hs t ht
  rcases mem_stabs.mp hs with ⟨x, y, z, rfl, hc⟩ | ⟨a, x, y, z, rfl, ha, hv, hk⟩ <;>
    rcases mem_stabs.mp ht with ⟨x', y', z', rfl, hc'⟩ | ⟨a', x', y', z', rfl, ha', hv', hk'⟩
  · rw [getStab_cube', getStab_cube']; exact opCommute_uop_same _ _ _
  · rw [getStab_cube', getStab_tri' _ _ _ ha']
    apply opCommute_uop_of_even
    rw [ov_comm (nodup_cubeKeys _ _ _ _ _ _) (nodup_triKeys _ _ _ _ _ _ _)]
    exact cube_tri_even hc ha' hv' hk'
  · rw [getStab_tri' _ _ _ ha, getStab_cube']
    apply opCommute_uop_of_even
    exact cube_tri_even hc' ha hv hk
  · rw [getStab_tri' _ _ _ ha, getStab_tri' _ _ _ ha']; exact opCommute_uop_same _ _ _

end Panqec.HollowRhombicCode
