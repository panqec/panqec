/-
Color3DCode, every side `≥ 2`: the DERIVED qubit list in closed form (`IsQ`: the vertices of the
truncated octahedra — one odd coordinate, the two even ones different modulo 4), disjoint from the
generator locations, `n = 12·LxLyLz`; the vertex set is invariant under the coordinate permutations
(`IsQ.swap`, `IsQ.rot`, `mem_qubits_place`).  Core Lean only.
-/
import PanqecVerif.Proofs.LatColor3DCodeSym

namespace Panqec.Color3DCode
open Panqec.Lat2D Panqec.Color

/-- the residues (modulo 4) of a vertex: one odd, the two even ones differ by 2 -/
def patR (a b c : Int) : Bool :=
  (a % 2 == 1 && b % 2 == 0 && c % 2 == 0 && (b - c) % 4 == 2) ||
  (b % 2 == 1 && a % 2 == 0 && c % 2 == 0 && (a - c) % 4 == 2) ||
  (c % 2 == 1 && a % 2 == 0 && b % 2 == 0 && (a - b) % 4 == 2)

/-- `(a, b, c)` is a qubit coordinate (closed form of the derived list) -/
def IsQ (Lx Ly Lz : Nat) (a b c : Int) : Prop :=
  0 ≤ a ∧ a < 4 * (Lx : Int) ∧ 0 ≤ b ∧ b < 4 * (Ly : Int) ∧ 0 ≤ c ∧ c < 4 * (Lz : Int) ∧
    patR (a % 4) (b % 4) (c % 4) = true

instance (Lx Ly Lz : Nat) (a b c : Int) : Decidable (IsQ Lx Ly Lz a b c) := by
  unfold IsQ; infer_instance

def InBox (Lx Ly Lz : Nat) (a b c : Int) : Prop :=
  0 ≤ a ∧ a < 4 * (Lx : Int) ∧ 0 ≤ b ∧ b < 4 * (Ly : Int) ∧ 0 ≤ c ∧ c < 4 * (Lz : Int)

/-- `patR` as a proposition -/
def Vtx (a b c : Int) : Prop :=
  (a % 2 = 1 ∧ b % 2 = 0 ∧ c % 2 = 0 ∧ (b - c) % 4 = 2) ∨
  (b % 2 = 1 ∧ a % 2 = 0 ∧ c % 2 = 0 ∧ (a - c) % 4 = 2) ∨
  (c % 2 = 1 ∧ a % 2 = 0 ∧ b % 2 = 0 ∧ (a - b) % 4 = 2)

theorem patR_iff {a b c : Int} : patR a b c = true ↔ Vtx a b c := by
  unfold patR Vtx
  simp only [Bool.or_eq_true, Bool.and_eq_true, beq_iff_eq, and_assoc, or_assoc]

theorem vtx_emod4 {a b c : Int} : Vtx (a % 4) (b % 4) (c % 4) ↔ Vtx a b c := by
  unfold Vtx
  simp only [Int.emod_emod_of_dvd _ (by decide : (2 : Int) ∣ 4), ← Int.sub_emod]

theorem isQ_iff {Lx Ly Lz : Nat} {a b c : Int} :
    IsQ Lx Ly Lz a b c ↔ InBox Lx Ly Lz a b c ∧ Vtx a b c := by
  unfold IsQ InBox
  rw [patR_iff, vtx_emod4]
  simp only [and_assoc]

theorem isQ_of {Lx Ly Lz : Nat} {a b c : Int} (hb : InBox Lx Ly Lz a b c) (h : Vtx a b c) :
    IsQ Lx Ly Lz a b c := isQ_iff.mpr ⟨hb, h⟩

/-- the vertex pattern and the box do not single out a coordinate: exchange of the first two -/
theorem IsQ.swap {Lx Ly Lz : Nat} {a b c : Int} (h : IsQ Lx Ly Lz a b c) : IsQ Ly Lx Lz b a c := by
  obtain ⟨⟨a0, a1, b0, b1, c0, c1⟩, h⟩ := isQ_iff.mp h
  refine isQ_of ⟨b0, b1, a0, a1, c0, c1⟩ ?_
  rcases h with h | h | ⟨h1, h2, h3, h4⟩
  · exact Or.inr (Or.inl h)
  · exact Or.inl h
  · exact Or.inr (Or.inr ⟨h1, h3, h2, by omega⟩)

theorem IsQ.rot {Lx Ly Lz : Nat} {a b c : Int} (h : IsQ Lx Ly Lz a b c) : IsQ Ly Lz Lx b c a := by
  obtain ⟨⟨a0, a1, b0, b1, c0, c1⟩, h⟩ := isQ_iff.mp h
  refine isQ_of ⟨b0, b1, c0, c1, a0, a1⟩ ?_
  rcases h with h | ⟨h1, h2, h3, h4⟩ | ⟨h1, h2, h3, h4⟩
  · exact Or.inr (Or.inr h)
  · exact Or.inl ⟨h1, h3, h2, by omega⟩
  · exact Or.inr (Or.inl ⟨h1, h3, h2, by omega⟩)

/-- every delta of a generator location (all-odd or all-even residues) leads to a vertex -/
theorem keys_pat_check :
    (res4.all fun rx => res4.all fun ry => res4.all fun rz =>
      !(rx % 2 == ry % 2 && ry % 2 == rz % 2) ||
      (shape rx ry rz).all fun d => patR ((rx + d.1) % 4) ((ry + d.2.1) % 4) ((rz + d.2.2) % 4)) = true := by
  decide +kernel

theorem emod_emod_4 {L : Nat} (v : Int) : (v % (4 * (L : Int))) % 4 = v % 4 :=
  Int.emod_emod_of_dvd _ ⟨(L : Int), rfl⟩

theorem emod_emod_2 {L : Nat} (v : Int) : (v % (4 * (L : Int))) % 2 = v % 2 :=
  Int.emod_emod_of_dvd _ ⟨2 * (L : Int), by omega⟩

theorem wrap_range {L : Nat} (hL : 1 ≤ L) (v : Int) :
    0 ≤ v % (4 * (L : Int)) ∧ v % (4 * (L : Int)) < 4 * (L : Int) :=
  ⟨Int.emod_nonneg _ (by omega), Int.emod_lt_of_pos _ (by omega)⟩

theorem isQ_of_key {Lx Ly Lz : Nat} (hx : 2 ≤ Lx) (hy : 2 ≤ Ly) (hz : 2 ≤ Lz) {x y z : Int}
    (hp : x % 2 = y % 2 ∧ y % 2 = z % 2) {q : Coord} (hq : q ∈ keys Lx Ly Lz x y z) :
    ∃ a b c, q = [a, b, c] ∧ IsQ Lx Ly Lz a b c := by
  obtain ⟨d, hd, rfl⟩ := mem_keys.mp hq
  refine ⟨_, _, _, rfl, ?_⟩
  have h := keys_pat_check
  simp only [List.all_eq_true] at h
  have h1 := h (x % 4) (mem_res4 x) (y % 4) (mem_res4 y) (z % 4) (mem_res4 z)
  simp only [Bool.or_eq_true, Bool.not_eq_true', Bool.and_eq_false_iff, beq_eq_false_iff_ne,
    List.all_eq_true] at h1
  have e1 : x % 4 % 2 = x % 2 := by omega
  have e2 : y % 4 % 2 = y % 2 := by omega
  have e3 : z % 4 % 2 = z % 2 := by omega
  rw [e1, e2, e3] at h1
  rcases h1 with (h1 | h1) | h1
  · exact absurd hp.1 h1
  · exact absurd hp.2 h1
  · rw [← shape_res] at h1
    have h2 := h1 d hd
    obtain ⟨a1, a2⟩ := wrap_range (L := Lx) (by omega) (x + d.1)
    obtain ⟨b1, b2⟩ := wrap_range (L := Ly) (by omega) (y + d.2.1)
    obtain ⟨c1, c2⟩ := wrap_range (L := Lz) (by omega) (z + d.2.2)
    refine ⟨a1, a2, b1, b2, c1, c2, ?_⟩
    rw [emod_emod_4, emod_emod_4, emod_emod_4]
    rw [Int.emod_add_emod] at h2
    rw [Int.emod_add_emod] at h2
    rw [Int.emod_add_emod] at h2
    exact h2

theorem mem_deltaHex_yz {x y z : Int} (h : y % 4 ≠ z % 4) : ((0, -1, -1) : D3) ∈ deltaHex x y z := by
  unfold deltaHex
  rw [if_neg (fun c => h c.2), if_neg (fun c => h c.2)]
  by_cases c : x % 4 = z % 4
  · rw [if_pos ⟨c, h⟩]; decide
  · rw [if_neg (fun c' => c c'.1)]; decide

theorem mem_deltaHex_xz {x y z : Int} (h : x % 4 ≠ z % 4) : ((-1, 0, -1) : D3) ∈ deltaHex x y z := by
  unfold deltaHex
  rw [if_neg (fun c => h c.1)]
  by_cases c : y % 4 = z % 4
  · rw [if_pos ⟨h, c⟩]; decide
  · rw [if_neg (fun c' => c c'.2), if_neg (fun c' => h c'.1)]; decide

theorem mem_deltaHex_xy {x y z : Int} (h : (x % 4 = z % 4 ∧ y % 4 ≠ z % 4) ∨ (x % 4 ≠ z % 4 ∧ y % 4 = z % 4)) :
    ((-1, -1, 0) : D3) ∈ deltaHex x y z := by
  unfold deltaHex
  rcases h with h | h
  · rw [if_neg (fun c => h.2 c.2), if_neg (fun c => h.2 c.2), if_pos h]; decide
  · rw [if_neg (fun c => h.1 c.1), if_pos h]; decide

theorem shape_hex {x y z : Int} (h : x % 2 = 1) : shape x y z = deltaHex x y z := if_pos h

/-- every vertex of the closed form is a corner of a hexagon of the list (no wrap-around needed) -/
theorem key_of_isQ {Lx Ly Lz : Nat} {a b c : Int} (h : IsQ Lx Ly Lz a b c) :
    ∃ x y z, IsS Lx Ly Lz x y z ∧ [a, b, c] ∈ keys Lx Ly Lz x y z := by
  obtain ⟨⟨a0, a1, b0, b1, c0, c1⟩, hp⟩ := isQ_iff.mp h
  rcases hp with ⟨h1, h2, h3, h4⟩ | ⟨h1, h2, h3, h4⟩ | ⟨h1, h2, h3, h4⟩
  · refine ⟨a, b + 1, c + 1, IsS.hex ⟨by omega, by omega, h1⟩ ⟨by omega, by omega, by omega⟩
      ⟨by omega, by omega, by omega⟩, mem_keys_inner (d := (0, -1, -1)) ?_ ⟨a0, a1⟩ ⟨b0, b1⟩ ⟨c0, c1⟩
      (Int.add_zero a) (Int.add_neg_cancel_right b 1) (Int.add_neg_cancel_right c 1)⟩
    rw [shape_hex h1]
    exact mem_deltaHex_yz (by omega)
  · refine ⟨a + 1, b, c + 1, IsS.hex ⟨by omega, by omega, by omega⟩ ⟨by omega, by omega, h1⟩
      ⟨by omega, by omega, by omega⟩, mem_keys_inner (d := (-1, 0, -1)) ?_ ⟨a0, a1⟩ ⟨b0, b1⟩ ⟨c0, c1⟩
      (Int.add_neg_cancel_right a 1) (Int.add_zero b) (Int.add_neg_cancel_right c 1)⟩
    rw [shape_hex (by omega)]
    exact mem_deltaHex_xz (by omega)
  · refine ⟨a + 1, b + 1, c, IsS.hex ⟨by omega, by omega, by omega⟩ ⟨by omega, by omega, by omega⟩
      ⟨by omega, by omega, h1⟩, mem_keys_inner (d := (-1, -1, 0)) ?_ ⟨a0, a1⟩ ⟨b0, b1⟩ ⟨c0, c1⟩
      (Int.add_neg_cancel_right a 1) (Int.add_neg_cancel_right b 1) (Int.add_zero c)⟩
    rw [shape_hex (by omega)]
    exact mem_deltaHex_xy (by omega)

theorem nodup_qubits (Lx Ly Lz : Nat) : (qubits Lx Ly Lz).Nodup := nodup_derivedQubits _ _

theorem mem_qubits {Lx Ly Lz : Nat} (hx : 2 ≤ Lx) (hy : 2 ≤ Ly) (hz : 2 ≤ Lz) {q : Coord} :
    q ∈ qubits Lx Ly Lz ↔ ∃ a b c, q = [a, b, c] ∧ IsQ Lx Ly Lz a b c := by
  unfold qubits
  simp only []
  rw [mem_derivedQubits]
  constructor
  · rintro ⟨s, hs, hq⟩
    obtain ⟨x, y, z, rfl, hf⟩ := mem_stabs.mp hs
    rw [getStabIn_eq hx hy hz hs, Option.getD_some, map_fst_letter] at hq
    exact isQ_of_key hx hy hz (isS_parity hf) hq
  · rintro ⟨a, b, c, rfl, h⟩
    obtain ⟨x, y, z, hf, hk⟩ := key_of_isQ h
    have hs : [x, y, z] ∈ stabs Lx Ly Lz := mem_stabs'.mpr hf
    refine ⟨[x, y, z], hs, ?_⟩
    rw [getStabIn_eq hx hy hz hs, Option.getD_some, map_fst_letter]
    exact hk

theorem key_mem_qubits {Lx Ly Lz : Nat} (hx : 2 ≤ Lx) (hy : 2 ≤ Ly) (hz : 2 ≤ Lz) {x y z : Int}
    (hp : x % 2 = y % 2 ∧ y % 2 = z % 2) {q : Coord} (hq : q ∈ keys Lx Ly Lz x y z) :
    q ∈ qubits Lx Ly Lz :=
  (mem_qubits hx hy hz).mpr (isQ_of_key hx hy hz hp hq)

theorem mem_qubits' {Lx Ly Lz : Nat} (hx : 2 ≤ Lx) (hy : 2 ≤ Ly) (hz : 2 ≤ Lz) {a b c : Int} :
    [a, b, c] ∈ qubits Lx Ly Lz ↔ IsQ Lx Ly Lz a b c := by
  rw [mem_qubits hx hy hz]
  constructor
  · rintro ⟨x', y', z', h, hq⟩
    simp only [List.cons.injEq, and_true] at h
    rw [h.1, h.2.1, h.2.2]; exact hq
  · intro h; exact ⟨a, b, c, rfl, h⟩

/-- a vertex of the lattice with the sides permuted, placed along the axis `ax` -/
theorem mem_qubits_place {Lx Ly Lz : Nat} (hx : 2 ≤ Lx) (hy : 2 ≤ Ly) (hz : 2 ≤ Lz) {ax L1 L2 L3 : Nat}
    (hs : sides ax Lx Ly Lz = (L1, L2, L3)) {u v w : Int} (h : IsQ L1 L2 L3 u v w) :
    place ax u v w ∈ qubits Lx Ly Lz := by
  rcases ax with _ | _ | n <;> simp only [sides, Prod.mk.injEq] at hs <;> obtain ⟨rfl, rfl, rfl⟩ := hs
  · exact (mem_qubits' hx hy hz).mpr h
  · exact (mem_qubits' hx hy hz).mpr h.swap
  · exact (mem_qubits' hx hy hz).mpr h.rot

theorem isQubit_iff {Lx Ly Lz : Nat} (hx : 2 ≤ Lx) (hy : 2 ≤ Ly) (hz : 2 ≤ Lz) {a b c : Int} :
    isQubit Lx Ly Lz [a, b, c] = true ↔ IsQ Lx Ly Lz a b c := by
  unfold isQubit; rw [isIn_iff, mem_qubits' hx hy hz]

/-- a vertex has exactly one odd coordinate; generator locations are all-odd or all-even -/
theorem qubits_stabs_disjoint {Lx Ly Lz : Nat} (hx : 2 ≤ Lx) (hy : 2 ≤ Ly) (hz : 2 ≤ Lz) :
    ∀ q ∈ qubits Lx Ly Lz, q ∉ stabs Lx Ly Lz := by
  intro q hq hs
  obtain ⟨a, b, c, rfl, h⟩ := (mem_qubits hx hy hz).mp hq
  have hp := isS_parity (mem_stabs'.mp hs)
  have hv := (isQ_iff.mp h).2
  unfold Vtx at hv
  omega

def rng (L : Nat) : List Int := pyRangeStep 0 (L : Int) 1

theorem mem_rng {L : Nat} {v : Int} : v ∈ rng L ↔ 0 ≤ v ∧ v < (L : Int) := by
  unfold rng; rw [(mem_pyRangeStep (s := 1) (by decide))]; omega

theorem length_rng (L : Nat) : (rng L).length = L := by
  unfold rng; rw [length_pyRangeStep]; omega

/-- the twelve vertices of a unit cell `[0, 4)³` -/
def offs : List D3 :=
  [(1, 0, 2), (1, 2, 0), (3, 0, 2), (3, 2, 0), (0, 1, 2), (2, 1, 0), (0, 3, 2), (2, 3, 0),
   (0, 2, 1), (2, 0, 1), (0, 2, 3), (2, 0, 3)]

theorem offs_spec : ∀ o ∈ offs, 0 ≤ o.1 ∧ o.1 < 4 ∧ 0 ≤ o.2.1 ∧ o.2.1 < 4 ∧ 0 ≤ o.2.2 ∧ o.2.2 < 4 ∧
    patR o.1 o.2.1 o.2.2 = true := by decide

theorem offs_complete : (res4.all fun r1 => res4.all fun r2 => res4.all fun r3 =>
    !patR r1 r2 r3 || offs.contains (r1, r2, r3)) = true := by decide

theorem offs_nodup : offs.Nodup := by decide

/-- the vertices of the unit cell `c = (i, j, k)` -/
def block (c : Coord) : List Coord :=
  match c with
  | [i, j, k] => offs.map fun o => [4 * i + o.1, 4 * j + o.2.1, 4 * k + o.2.2]
  | _ => []

/-- all vertices, unit cell by unit cell -/
def qlist (Lx Ly Lz : Nat) : List Coord := (grid3 (rng Lz) (rng Lx) (rng Ly)).flatMap block

theorem length_qlist (Lx Ly Lz : Nat) : (qlist Lx Ly Lz).length = 12 * (Lz * (Lx * Ly)) := by
  unfold qlist
  rw [length_flatMap_const _ block 12, length_grid3, length_rng, length_rng, length_rng]
  · omega
  · intro c hc
    obtain ⟨i, j, k, rfl, _⟩ := mem_grid3.mp hc
    simp [block, offs]

theorem mem_qlist {Lx Ly Lz : Nat} {q : Coord} :
    q ∈ qlist Lx Ly Lz ↔ ∃ a b c, q = [a, b, c] ∧ IsQ Lx Ly Lz a b c := by
  unfold qlist
  simp only [List.mem_flatMap]
  constructor
  · rintro ⟨cl, hc, hq⟩
    obtain ⟨i, j, k, rfl, hi, hj, hk⟩ := mem_grid3.mp hc
    rw [mem_rng] at hi hj hk
    simp only [block, List.mem_map] at hq
    obtain ⟨o, ho, rfl⟩ := hq
    obtain ⟨o1, o2, o3, o4, o5, o6, hp⟩ := offs_spec o ho
    refine ⟨_, _, _, rfl, ?_⟩
    unfold IsQ
    have e1 : (4 * i + o.1) % 4 = o.1 := by omega
    have e2 : (4 * j + o.2.1) % 4 = o.2.1 := by omega
    have e3 : (4 * k + o.2.2) % 4 = o.2.2 := by omega
    rw [e1, e2, e3]
    refine ⟨by omega, by omega, by omega, by omega, by omega, by omega, hp⟩
  · rintro ⟨a, b, c, rfl, h⟩
    unfold IsQ at h
    obtain ⟨a1, a2, b1, b2, c1, c2, hp⟩ := h
    refine ⟨[a / 4, b / 4, c / 4], mem_grid3.mpr ⟨_, _, _, rfl, ?_, ?_, ?_⟩, ?_⟩
    · rw [mem_rng]; omega
    · rw [mem_rng]; omega
    · rw [mem_rng]; omega
    · simp only [block, List.mem_map]
      refine ⟨(a % 4, b % 4, c % 4), ?_, ?_⟩
      · have h := offs_complete
        simp only [List.all_eq_true] at h
        have h1 := h (a % 4) (mem_res4 a) (b % 4) (mem_res4 b) (c % 4) (mem_res4 c)
        rw [hp] at h1
        simpa using h1
      · simp only [List.cons.injEq, and_true]
        omega

theorem nodup_qlist (Lx Ly Lz : Nat) : (qlist Lx Ly Lz).Nodup := by
  unfold qlist
  show List.Pairwise _ _
  rw [List.pairwise_flatMap]
  constructor
  · intro cl hc
    obtain ⟨i, j, k, rfl, _⟩ := mem_grid3.mp hc
    simp only [block]
    rw [List.pairwise_map]
    refine List.Pairwise.imp ?_ offs_nodup
    intro o o' hne h
    apply hne
    simp only [List.cons.injEq, and_true] at h
    obtain ⟨o1, o2, o3⟩ := o
    obtain ⟨p1, p2, p3⟩ := o'
    simp only [Prod.mk.injEq]
    simp only at h
    omega
  · have hnd : (grid3 (rng Lz) (rng Lx) (rng Ly)).Nodup :=
      nodup_grid3 (nodup_pyRangeStep _ _ _ (by decide)) (nodup_pyRangeStep _ _ _ (by decide))
        (nodup_pyRangeStep _ _ _ (by decide))
    refine List.Pairwise.imp_of_mem ?_ hnd
    intro c c' hc hc' hne q hq r hr e
    subst e
    apply hne
    obtain ⟨i, j, k, rfl, _⟩ := mem_grid3.mp hc
    obtain ⟨i', j', k', rfl, _⟩ := mem_grid3.mp hc'
    simp only [block, List.mem_map] at hq hr
    obtain ⟨o, ho, rfl⟩ := hq
    obtain ⟨o', ho', e⟩ := hr
    have s1 := offs_spec o ho
    have s2 := offs_spec o' ho'
    simp only [List.cons.injEq, and_true] at e ⊢
    omega

theorem length_qubits {Lx Ly Lz : Nat} (hx : 2 ≤ Lx) (hy : 2 ≤ Ly) (hz : 2 ≤ Lz) :
    (qubits Lx Ly Lz).length = 12 * (Lz * (Lx * Ly)) := by
  rw [← length_qlist]
  apply length_eq_of_mem_iff (nodup_qubits _ _ _) (nodup_qlist _ _ _)
  intro q
  rw [mem_qubits hx hy hz, mem_qlist]

end Panqec.Color3DCode
