/-
Toric2DCode, all sizes: the cyclic adjacency `cadj` that `predW` / `succW` (`LatToricStep`) define
on one coordinate (range, parity, symmetry, common neighbours), the coordinate lists in arithmetic
form, and `get_stabilizer` as an explicit 4-entry dict (for `2 ≤ Lx`, `2 ≤ Ly`).
-/
import PanqecVerif.Proofs.Lat2DBase
import PanqecVerif.Proofs.LatToricStep
import PanqecVerif.Model.Lattices.Toric2DCode

namespace Panqec.Toric2DCode
open Panqec.Lat2D

def cadj (P a b : Int) : Prop := b = predW a P ∨ b = succW a P

instance (P a b : Int) : Decidable (cadj P a b) := by unfold cadj; infer_instance

theorem cadj_range {P a b : Int} (h0 : 0 ≤ a) (h1 : a < P) (h : cadj P a b) : 0 ≤ b ∧ b < P := by
  have := predW_spec a P; have := succW_spec a P
  unfold cadj at h; omega

theorem cadj_parity {P a b : Int} (hP : P % 2 = 0) (h : cadj P a b) : b % 2 = 1 - a % 2 := by
  rcases h with rfl | rfl
  · have := predW_spec a P; omega
  · have := succW_spec a P; omega

theorem cadj_symm {P a b : Int} (ha0 : 0 ≤ a) (ha1 : a < P) (hb0 : 0 ≤ b) (hb1 : b < P) :
    cadj P a b ↔ cadj P b a :=
  (or_congr (pred_eq_iff ha0 ha1 hb0 hb1) (pred_eq_iff hb0 hb1 ha0 ha1).symm).trans or_comm

theorem cyc_unique {P a b c d : Int} (hP : 5 ≤ P) (ha0 : 0 ≤ a) (ha1 : a < P) (hb0 : 0 ≤ b)
    (hb1 : b < P) (hab : a ≠ b) (hac : cadj P a c) (hbc : cadj P b c) (had : cadj P a d)
    (hbd : cadj P b d) : c = d := by
  have := predW_spec a P; have := succW_spec a P
  have := predW_spec b P; have := succW_spec b P
  unfold cadj at hac hbc had hbd
  omega

def InBox (Lx Ly : Nat) (x y : Int) : Prop := 0 ≤ x ∧ x < 2 * (Lx : Int) ∧ 0 ≤ y ∧ y < 2 * (Ly : Int)

def IsQ (Lx Ly : Nat) (x y : Int) : Prop :=
  InBox Lx Ly x y ∧ ((x % 2 = 1 ∧ y % 2 = 0) ∨ (x % 2 = 0 ∧ y % 2 = 1))
def IsV (Lx Ly : Nat) (x y : Int) : Prop := InBox Lx Ly x y ∧ x % 2 = 0 ∧ y % 2 = 0
def IsF (Lx Ly : Nat) (x y : Int) : Prop := InBox Lx Ly x y ∧ x % 2 = 1 ∧ y % 2 = 1

/-- the locations with `x ≡ p`, `y ≡ r` modulo 2: each of the four coordinate loops of the class is
    one of these -/
theorem mem_cells {Lx Ly p r : Nat} (hp : p ≤ 1) (hr : r ≤ 1) {q : Coord} :
    q ∈ grid (pyRange2 p (2 * Lx)) (pyRange2 r (2 * Ly)) ↔
      ∃ x y, q = [x, y] ∧ InBox Lx Ly x y ∧ x % 2 = p ∧ y % 2 = r := by
  unfold InBox
  simp only [mem_grid, mem_pyRange2]
  constructor
  · rintro ⟨x, y, hx, hy, rfl⟩; exact ⟨x, y, rfl, by omega⟩
  · rintro ⟨x, y, rfl, h⟩; exact ⟨x, y, by omega, by omega, rfl⟩

theorem nodup_cells {Lx Ly p r p' r' : Nat} (h : p % 2 ≠ p' % 2) :
    (grid (pyRange2 p (2 * Lx)) (pyRange2 r (2 * Ly)) ++
      grid (pyRange2 p' (2 * Lx)) (pyRange2 r' (2 * Ly))).Nodup := by
  rw [List.nodup_append]
  refine ⟨nodup_grid (nodup_pyRange2 ..) (nodup_pyRange2 ..),
    nodup_grid (nodup_pyRange2 ..) (nodup_pyRange2 ..), ?_⟩
  intro a ha b hb hab
  subst hab
  simp only [mem_grid, mem_pyRange2] at ha hb
  obtain ⟨x, y, hx, hy, rfl⟩ := ha
  obtain ⟨x', y', hx', hy', h⟩ := hb
  simp only [List.cons.injEq, and_true] at h
  omega

theorem length_cells {Lx Ly p r : Nat} (hp : p ≤ 1) (hr : r ≤ 1) :
    (grid (pyRange2 p (2 * Lx)) (pyRange2 r (2 * Ly))).length = Lx * Ly := by
  rw [length_grid, length_pyRange2, length_pyRange2]
  congr 1 <;> omega

theorem exists_coord_iff {P : Int → Int → Prop} {x y : Int} :
    (∃ x' y', [x, y] = [x', y'] ∧ P x' y') ↔ P x y := by
  constructor
  · rintro ⟨x', y', h, hP⟩
    simp only [List.cons.injEq, and_true] at h
    rw [h.1, h.2]; exact hP
  · intro h; exact ⟨x, y, rfl, h⟩

theorem mem_qubits {Lx Ly : Nat} {q : Coord} :
    q ∈ qubits Lx Ly ↔ ∃ x y, q = [x, y] ∧ IsQ Lx Ly x y := by
  unfold qubits IsQ
  rw [List.mem_append, mem_cells (by decide) (by decide), mem_cells (by decide) (by decide)]
  simp only [← exists_or, ← and_or_left]
  exact Iff.rfl

theorem mem_qubits' {Lx Ly : Nat} {x y : Int} : [x, y] ∈ qubits Lx Ly ↔ IsQ Lx Ly x y :=
  mem_qubits.trans exists_coord_iff

theorem mem_stabs {Lx Ly : Nat} {q : Coord} :
    q ∈ stabs Lx Ly ↔ ∃ x y, q = [x, y] ∧ (IsV Lx Ly x y ∨ IsF Lx Ly x y) := by
  unfold stabs IsV IsF
  rw [List.mem_append, mem_cells (by decide) (by decide), mem_cells (by decide) (by decide)]
  simp only [← exists_or, ← and_or_left]
  exact Iff.rfl

theorem mem_stabs' {Lx Ly : Nat} {x y : Int} :
    [x, y] ∈ stabs Lx Ly ↔ (IsV Lx Ly x y ∨ IsF Lx Ly x y) :=
  mem_stabs.trans exists_coord_iff

theorem mem_stabs_parity {Lx Ly c : Nat} (hc : c ≤ 1) {x y : Int} (hb : InBox Lx Ly x y)
    (px : x % 2 = c) (py : y % 2 = c) : [x, y] ∈ stabs Lx Ly := by
  obtain rfl | rfl : c = 0 ∨ c = 1 := by omega
  · exact mem_stabs'.mpr (Or.inl ⟨hb, px, py⟩)
  · exact mem_stabs'.mpr (Or.inr ⟨hb, px, py⟩)

theorem nodup_qubits (Lx Ly : Nat) : (qubits Lx Ly).Nodup := nodup_cells (by decide)

theorem nodup_stabs (Lx Ly : Nat) : (stabs Lx Ly).Nodup := nodup_cells (by decide)

theorem qubits_stabs_disjoint (Lx Ly : Nat) : ∀ q ∈ qubits Lx Ly, q ∉ stabs Lx Ly := by
  intro q hq hs
  rw [mem_qubits] at hq
  obtain ⟨x, y, rfl, h⟩ := hq
  rw [mem_stabs'] at hs
  unfold IsQ at h; unfold IsV IsF at hs
  omega

/-- the four neighbours, in delta order -/
def nbrs (Lx Ly : Nat) (x y : Int) : List Coord :=
  [[predW x (2 * (Lx : Int)), y], [succW x (2 * (Lx : Int)), y],
   [x, predW y (2 * (Ly : Int))], [x, succW y (2 * (Ly : Int))]]

theorem candidates_eq {Lx Ly : Nat} {x y : Int} (h : InBox Lx Ly x y) :
    candidates Lx Ly x y = nbrs Lx Ly x y := by
  unfold InBox at h
  unfold candidates delta nbrs
  simp only [List.map_cons, List.map_nil]
  rw [pmod_pred x _ (by omega) (by omega), pmod_succ x _ (by omega) (by omega),
    pmod_pred y _ (by omega) (by omega), pmod_succ y _ (by omega) (by omega),
    pmod_zero x _ (by omega) (by omega), pmod_zero y _ (by omega) (by omega)]
  simp only [Int.natCast_mul, Int.cast_ofNat_Int]

theorem nodup_nbrs {Lx Ly : Nat} {x y : Int} (hx : 2 ≤ Lx) (hy : 2 ≤ Ly) (h : InBox Lx Ly x y) :
    (nbrs Lx Ly x y).Nodup := by
  unfold InBox at h
  unfold nbrs
  have := predW_spec x (2 * (Lx : Int)); have := succW_spec x (2 * (Lx : Int))
  have := predW_spec y (2 * (Ly : Int)); have := succW_spec y (2 * (Ly : Int))
  simp only [List.nodup_cons, List.mem_cons, List.cons.injEq, and_true, List.not_mem_nil,
    or_false, not_false_eq_true, List.nodup_nil]
  omega

theorem stab_box {Lx Ly : Nat} {x y : Int} (h : IsV Lx Ly x y ∨ IsF Lx Ly x y) :
    InBox Lx Ly x y ∧ x % 2 = y % 2 := by
  rcases h with h | h <;> exact ⟨h.1, h.2.1.trans h.2.2.symm⟩

theorem isQ_step_x {Lx Ly : Nat} {x y x' : Int} (h : InBox Lx Ly x y) (hp : x % 2 = y % 2)
    (hc : cadj (2 * (Lx : Int)) x x') : IsQ Lx Ly x' y := by
  have hr := cadj_range h.1 h.2.1 hc
  have := cadj_parity (Int.mul_emod_right 2 Lx) hc
  exact ⟨⟨hr.1, hr.2, h.2.2⟩, by omega⟩

theorem isQ_step_y {Lx Ly : Nat} {x y y' : Int} (h : InBox Lx Ly x y) (hp : x % 2 = y % 2)
    (hc : cadj (2 * (Ly : Int)) y y') : IsQ Lx Ly x y' := by
  have hr := cadj_range h.2.2.1 h.2.2.2 hc
  have := cadj_parity (Int.mul_emod_right 2 Ly) hc
  exact ⟨⟨h.1, h.2.1, hr⟩, by omega⟩

theorem nbrs_isQ {Lx Ly : Nat} {x y : Int} (h : IsV Lx Ly x y ∨ IsF Lx Ly x y) :
    ∀ q ∈ nbrs Lx Ly x y, isQubit Lx Ly q = true := by
  obtain ⟨hb, hp⟩ := stab_box h
  intro q hq
  unfold isQubit
  rw [isIn_iff]
  simp only [nbrs, List.mem_cons, List.not_mem_nil, or_false] at hq
  rcases hq with rfl | rfl | rfl | rfl
  · exact mem_qubits'.mpr (isQ_step_x hb hp (Or.inl rfl))
  · exact mem_qubits'.mpr (isQ_step_x hb hp (Or.inr rfl))
  · exact mem_qubits'.mpr (isQ_step_y hb hp (Or.inl rfl))
  · exact mem_qubits'.mpr (isQ_step_y hb hp (Or.inr rfl))

def letter (x : Int) : Pauli := if x % 2 = 0 then Pauli.Z else Pauli.X

theorem letter_congr {x y : Int} (h : x % 2 = y % 2) : letter x = letter y := by
  unfold letter; rw [h]

theorem getStab_eq {Lx Ly : Nat} {x y : Int} (hx : 2 ≤ Lx) (hy : 2 ≤ Ly)
    (h : [x, y] ∈ stabs Lx Ly) :
    (lattice Lx Ly).getStab [x, y] = (nbrs Lx Ly x y).map (fun q => (q, letter x)) := by
  have hs : isStabilizer Lx Ly [x, y] = true := by unfold isStabilizer; rw [isIn_iff]; exact h
  have h' := mem_stabs'.mp h
  have hbox := (stab_box h').1
  show (getStabilizer? Lx Ly [x, y]).getD [] = _
  unfold getStabilizer? stabilizerType
  simp only [hs, Bool.not_true, Bool.false_eq_true, if_false, Option.getD_some]
  rw [candidates_eq hbox, collect_eq _ _ _ (nodup_nbrs hx hy hbox),
    List.filter_eq_self.mpr (nbrs_isQ h')]
  unfold letter
  by_cases hp : x % 2 = 0 <;> simp [hp]

end Panqec.Toric2DCode
