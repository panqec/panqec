/-
Lane arithmetic for the kernel-efficient checker `checkValidFast` (Model/Mask.lean):
`packLanes`, `repunit`, `foldAll`, `swapMask` (the functions built on them are treated in
Proofs/MaskBatched.lean).  Core Lean only.

Conventions: `L` is the lane width in bits (`L = 2^s` in the checker), `W = 2^L`.
-/
import PanqecVerif.Proofs.MaskPrimitives

namespace Panqec

theorem getD_map_zero (f : Nat → Nat) (xs : List Nat) (i : Nat) :
    (xs.map f).getD i 0 = if i < xs.length then f (xs.getD i 0) else 0 := by
  by_cases h : i < xs.length <;> simp [List.getD_eq_getElem?_getD, h]

theorem getD_replicate_zero (m b i : Nat) :
    (List.replicate m b).getD i 0 = if i < m then b else 0 := by
  by_cases h : i < m <;> simp [List.getD_eq_getElem?_getD, h]

theorem getD_of_length_le (xs : List Nat) (i : Nat) (h : xs.length ≤ i) : xs.getD i 0 = 0 := by
  simp [List.getD_eq_getElem?_getD, h]

theorem testBit_packLanes (L : Nat) (hL : 0 < L) : ∀ (xs : List Nat) (p : Nat),
    (packLanes (2 ^ L) xs).testBit p = (xs.getD (p / L) 0).testBit (p % L)
  | [], p => by simp [packLanes]
  | x :: xs, p => by
    rw [packLanes, Nat.testBit_two_pow_mul_add _ (Nat.mod_lt _ (Nat.two_pow_pos L))]
    by_cases hp : p < L
    · rw [if_pos hp, Nat.div_eq_of_lt hp, Nat.mod_eq_of_lt hp, Nat.testBit_mod_two_pow]
      simp [hp]
    · have hp' : L ≤ p := Nat.le_of_not_lt hp
      rw [if_neg hp, testBit_packLanes L hL xs (p - L), Nat.div_eq_sub_div hL hp',
        Nat.mod_eq_sub_mod hp', List.getD_cons_succ]

theorem packLanes_zero (W : Nat) : ∀ (xs : List Nat), packLanes W (xs.map fun _ => 0) = 0
  | [] => rfl
  | _ :: xs => by simp [packLanes, packLanes_zero W xs]

theorem lane_packLanes (L : Nat) : ∀ (xs : List Nat) (i : Nat),
    (packLanes (2 ^ L) xs >>> (i * L)) % 2 ^ L = xs.getD i 0 % 2 ^ L
  | [], i => by simp [packLanes]
  | x :: xs, 0 => by
    simp [packLanes, Nat.mul_add_mod_self_left]
  | x :: xs, i + 1 => by
    have e : (i + 1) * L = L + i * L := by rw [Nat.add_mul]; omega
    have hdiv : (2 ^ L * packLanes (2 ^ L) xs + x % 2 ^ L) >>> L = packLanes (2 ^ L) xs := by
      rw [Nat.shiftRight_eq_div_pow, Nat.mul_add_div (Nat.two_pow_pos L),
        Nat.div_eq_of_lt (Nat.mod_lt _ (Nat.two_pow_pos L)), Nat.add_zero]
    rw [packLanes, e, Nat.shiftRight_add, hdiv, lane_packLanes L xs i, List.getD_cons_succ]

theorem repunit_eq (W : Nat) (hW : 1 < W) : ∀ m, repunit W m = packLanes W (List.replicate m 1)
  | 0 => rfl
  | m + 1 => by
    rw [repunit, repunit_eq W hW m, List.replicate_succ, packLanes, Nat.mod_eq_of_lt hW]

theorem testBit_repunit (L : Nat) (hL : 0 < L) (m p : Nat) :
    (repunit (2 ^ L) m).testBit p = decide (p % L = 0 ∧ p / L < m) := by
  rw [repunit_eq _ (Nat.one_lt_two_pow (Nat.ne_of_gt hL)), testBit_packLanes L hL, getD_replicate_zero]
  by_cases h : p / L < m
  · rw [if_pos h]
    by_cases h0 : p % L = 0
    · simp [h0, h]
    · have : (1 : Nat).testBit (p % L) = false :=
        Nat.testBit_lt_two_pow (by
          have : 2 ^ 1 ≤ 2 ^ (p % L) := Nat.pow_le_pow_right (by omega) (by omega)
          omega)
      simp [this, h0]
  · simp [h]

/-- multiplying 0/1 lanes by `b < W` puts `b` into the selected lanes (no carries) -/
theorem packLanes_mul (W : Nat) (hW : 1 < W) (b : Nat) (hb : b < W) : ∀ (es : List Nat),
    (∀ e ∈ es, e < 2) → packLanes W es * b = packLanes W (es.map (· * b))
  | [], _ => by simp [packLanes]
  | e :: es, h => by
    have he : e < 2 := h e (by simp)
    have ih := packLanes_mul W hW b hb es (fun x hx => h x (by simp [hx]))
    have h1 : e % W = e := Nat.mod_eq_of_lt (by omega)
    have h2 : e * b % W = e * b := by
      apply Nat.mod_eq_of_lt
      have : e = 0 ∨ e = 1 := by omega
      rcases this with rfl | rfl
      · simp; omega
      · simpa using hb
    simp only [List.map_cons, packLanes, h1, h2, ← ih]
    rw [Nat.add_mul, Nat.mul_assoc]

theorem repunit_mul (L : Nat) (hL : 0 < L) (m b : Nat) (hb : b < 2 ^ L) :
    repunit (2 ^ L) m * b = packLanes (2 ^ L) (List.replicate m b) := by
  have hW := Nat.one_lt_two_pow (Nat.ne_of_gt hL)
  rw [repunit_eq _ hW, packLanes_mul _ hW b hb _ (by simp), List.map_replicate, Nat.one_mul]

theorem packLanes_inj (W : Nat) (hW : 0 < W) : ∀ (xs ys : List Nat), xs.length = ys.length →
    packLanes W xs = packLanes W ys → ∀ i, xs.getD i 0 % W = ys.getD i 0 % W
  | [], [], _, _, _ => rfl
  | [], _ :: _, h, _, _ => by simp at h
  | _ :: _, [], h, _, _ => by simp at h
  | x :: xs, y :: ys, hl, h, i => by
    simp only [packLanes] at h
    have hm : x % W = y % W := by
      have := congrArg (· % W) h
      simpa [Nat.mul_add_mod_self_left] using this
    have hd : packLanes W xs = packLanes W ys := by
      have := congrArg (· / W) h
      simpa [Nat.mul_add_div hW, Nat.div_eq_of_lt (Nat.mod_lt _ hW)] using this
    cases i with
    | zero => simpa using hm
    | succ i =>
      simpa using packLanes_inj W hW xs ys (by simpa using hl) hd i

theorem foldAll_shiftRight : ∀ (s x p : Nat), foldAll s x >>> p = foldAll s (x >>> p)
  | 0, _, _ => rfl
  | s + 1, x, p => by
    rw [foldAll, foldAll, foldAll_shiftRight s, Nat.shiftRight_xor_distrib,
      ← Nat.shiftRight_add, ← Nat.shiftRight_add, Nat.add_comm]

theorem foldAll_mod_two : ∀ (s x : Nat), foldAll s x % 2 = parityFold s x
  | 0, _ => rfl
  | s + 1, x => by rw [foldAll, parityFold, foldAll_mod_two s]

theorem testBit_foldAll (s x p : Nat) :
    (foldAll s x).testBit p = decide (parityRec (2 ^ s) (x >>> p) = 1) := by
  rw [Nat.testBit_eq_decide_div_mod_eq, ← Nat.shiftRight_eq_div_pow, foldAll_shiftRight,
    foldAll_mod_two, parityFold_eq]

theorem parityRec_mod : ∀ (w x : Nat), parityRec w (x % 2 ^ w) = parityRec w x
  | 0, _ => rfl
  | w + 1, x => by
    simp only [parityRec]
    rw [Nat.pow_succ', Nat.mod_mul_right_mod, Nat.mod_mul_right_div_self, parityRec_mod w]

theorem swapMask_lt (n b : Nat) : swapMask n (2 ^ n) b < 2 ^ (2 * n) := by
  unfold swapMask
  have h1 : b % 2 ^ n < 2 ^ n := Nat.mod_lt _ (Nat.two_pow_pos n)
  have h2 : (b >>> n) % 2 ^ n < 2 ^ n := Nat.mod_lt _ (Nat.two_pow_pos n)
  have e : 2 ^ (2 * n) = 2 ^ n * 2 ^ n := by rw [← Nat.pow_add]; congr 1; omega
  have h3 : 2 ^ n * (b % 2 ^ n + 1) ≤ 2 ^ n * 2 ^ n := Nat.mul_le_mul_left _ h1
  rw [Nat.mul_add, Nat.mul_one] at h3
  omega

theorem parity_swap (n a b : Nat) :
    parityRec (2 * n) (a &&& swapMask n (2 ^ n) b) =
      symp (unpackBits (2 * n) a) (unpackBits (2 * n) b) := by
  have hpos := Nat.two_pow_pos n
  have hz : (b >>> n) % 2 ^ n < 2 ^ n := Nat.mod_lt _ hpos
  have hsr : swapMask n (2 ^ n) b >>> n = b % 2 ^ n := by
    unfold swapMask
    rw [Nat.shiftRight_eq_div_pow, Nat.mul_add_div hpos, Nat.div_eq_of_lt hz, Nat.add_zero]
  have hsm : swapMask n (2 ^ n) b % 2 ^ n = (b >>> n) % 2 ^ n := by
    unfold swapMask
    rw [Nat.mul_add_mod_self_left, Nat.mod_mod]
  have e : 2 * n = n + n := by omega
  rw [symp_eq_parity, e, parityRec_split, Nat.shiftRight_and_distrib, hsr,
    ← parityRec_mod n (a &&& _), Nat.and_mod_two_pow, hsm,
    ← parityRec_mod n (a % 2 ^ n &&& b >>> n), Nat.and_mod_two_pow, Nat.mod_mod]

end Panqec
