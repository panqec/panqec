/-
Geometry of C10 on RotatedToric3DCode with the repaired `RotatedSweepDecoder3D`, for EVERY size
`L_x, L_y ≥ 2` (any `L_z`; both parities of `L_x`, `L_y` — the family the class supports is
"not both odd", the statement does not need it): on every edge `flip_edge` (branch on `z % 2`,
`x % 4`, `y % 4`, neighbour list, `_wrap` across the periodic seams, `is_stabilizer(·, 'face')`
filter) toggles exactly the generators of type `'face'` that anticommute with Z on that edge —
on the defect lines of an odd direction too, where a face generator carries Z on the edges across
the seam and the decoder's filter drops the wrapped location because it is a vertex.
For `L_x = 1` or `L_y = 1` the statement is false (two candidates of a face coincide;
`RotatedToric3DCode(1, 2, 2)`: 4 of 5 edges inconsistent).

`_wrap` shifts the class `(x % 4, y % 4, z % 2)` across the seam of an odd side; the two tables
tolerate exactly the shifts that `has_defect` marks (`rotTables_shift`, `rotToric_kind`), and
`NbrTables.toggled_iff_of` does the rest.
-/
import PanqecVerif.Proofs.SweepRotToricBase

namespace Panqec.Sweep


theorem rotUnits_small : ∀ d ∈ rotUnits, (-1 ≤ d.1 ∧ d.1 ≤ 1) ∧ (-1 ≤ d.2.1 ∧ d.2.1 ≤ 1) ∧
    (d.2.2 = 0 ∨ d.1 = 0 ∧ d.2.1 = 0) := by decide

/-- the class shifts of the two periodic coordinates -/
def rotShift (Lx Ly : Nat) (q d : Loc) : Loc := (shift Lx d.1 q.1, shift Ly d.2.1 q.2.1, 0)

def rotShifts : List Loc := [(0, 0, 0), (2, 0, 0), (0, 2, 0), (2, 2, 0)]

theorem rotShift_mem (Lx Ly : Nat) (q d : Loc) : rotShift Lx Ly q d ∈ rotShifts := by
  unfold rotShift
  rcases shift_cases Lx d.1 q.1 with h1 | h1 <;> rcases shift_cases Ly d.2.1 q.2.1 with h2 | h2 <;>
    rw [h1, h2] <;> decide

/-- The tables under a class shift `σ` between what `flip_edge` computes (`p + d`) and the wrapped
    face (class of `p + d + σ`): `flip_edge` lists the location iff both or neither coordinate is
    shifted, and the step back from the face ends on an edge.  Finite check. -/
theorem rotTables_shift : ∀ p ∈ rotEdgeCls, ∀ d ∈ rotUnits, ∀ σ ∈ rotShifts,
    cls4 (addLoc (addLoc p d) σ) ∈ rotFaceCls → ((p.2.2 == 1 && d.2.2 == 0) = true ∨ σ = (0, 0, 0)) →
    (cls4 (addLoc p d) ∈ rotFaceCls ↔ cls4 (addLoc p σ) ∈ rotEdgeCls ∧ (σ.1 = 2 ↔ σ.2.1 = 2)) := by
  decide

theorem cls4_add2 (q d σ : Loc) :
    cls4 (addLoc (addLoc q d) σ) = cls4 (addLoc (addLoc (cls4 q) d) σ) := by
  simp only [cls4, addLoc, Int.add_assoc, Int.emod_add_emod]

theorem rot_shift_kind (q d σ : Loc) (hq : cls4 q ∈ rotEdgeCls) (hd : d ∈ rotUnits)
    (hσ : σ ∈ rotShifts) (hf : cls4 (addLoc (addLoc q d) σ) ∈ rotFaceCls)
    (hside : ((cls4 q).2.2 == 1 && d.2.2 == 0) = true ∨ σ = (0, 0, 0)) :
    cls4 (addLoc q d) ∈ rotFaceCls ↔ cls4 (addLoc q σ) ∈ rotEdgeCls ∧ (σ.1 = 2 ↔ σ.2.1 = 2) := by
  rw [rotTables.cls_add q d, rotTables.cls_add q σ]
  exact rotTables_shift _ hq d hd σ hσ (cls4_add2 q d σ ▸ hf) hside

section
variable (Lx Ly Lz : Nat) (hLx : 2 ≤ Lx) (hLy : 2 ≤ Ly)
include hLx hLy

omit hLx hLy in
theorem wrapRot_step_iff (x y z a b c : Int) (hx : 1 ≤ x ∧ x ≤ 2 * (Lx : Int))
    (hy : 1 ≤ y ∧ y ≤ 2 * (Ly : Int)) (ha : 1 ≤ a ∧ a ≤ 2 * (Lx : Int))
    (hb : 1 ≤ b ∧ b ≤ 2 * (Ly : Int)) (d : Loc) :
    wrapRot (rotToric3D Lx Ly Lz) (addLoc (x, y, z) d) = (a, b, c) ↔
      wrapRot (rotToric3D Lx Ly Lz) (addLoc (a, b, c) (negLoc d)) = (x, y, z) := by
  obtain ⟨d1, d2, d3⟩ := d
  simp only [addLoc, negLoc, wrapRot_rotToric, Prod.mk.injEq]
  rw [wrapC_add_eq_iff Lx x a d1 hx ha, wrapC_add_eq_iff Ly y b d2 hy hb]
  constructor <;> rintro ⟨h1, h2, h3⟩ <;> exact ⟨h1, h2, by omega⟩

/-- `_wrap` keeps the locations around one location apart (the cycles have at least four points) -/
theorem wrapRot_addLoc_inj (q : Loc) {d d' : Loc} (hd : d ∈ rotUnits) (hd' : d' ∈ rotUnits)
    (h : wrapRot (rotToric3D Lx Ly Lz) (addLoc q d) = wrapRot (rotToric3D Lx Ly Lz) (addLoc q d')) :
    d = d' := by
  obtain ⟨b1, b2, -⟩ := rotUnits_small d hd
  obtain ⟨b1', b2', -⟩ := rotUnits_small d' hd'
  obtain ⟨x, y, z⟩ := q
  obtain ⟨d1, d2, d3⟩ := d
  obtain ⟨e1, e2, e3⟩ := d'
  simp only [addLoc, wrapRot_rotToric, Prod.mk.injEq] at h
  rw [wrapC_add_inj Lx hLx x d1 e1 b1 b1' h.1, wrapC_add_inj Ly hLy y d2 e2 b2 b2' h.2.1,
    Int.add_left_cancel h.2.2]

/-- the location of a candidate of `get_stabilizer`: `seam` is `_wrap` one step from the lattice -/
theorem rtCand_fst_wrap (a b c : Int) (ha : 1 ≤ a ∧ a ≤ 2 * (Lx : Int))
    (hb : 1 ≤ b ∧ b ≤ 2 * (Ly : Int)) (p : Pauli) {d : Loc} (hd : d ∈ rotUnits) :
    (rtCand Lx Ly (a, b, c) p d).1 = wrapRot (rotToric3D Lx Ly Lz) (addLoc (a, b, c) d) := by
  obtain ⟨b1, b2, -⟩ := rotUnits_small d hd
  obtain ⟨d1, d2, d3⟩ := d
  dsimp only at b1 b2
  rw [rtCand_fst, seam_eq_wrapC Lx (by omega) _ (by omega) (by omega),
    seam_eq_wrapC Ly (by omega) _ (by omega) (by omega)]
  rfl

theorem rotToric_faceHas_iff (a b c x y z : Int) (hf : rotIsFace (a, b, c) = true)
    (hsc : cls4 (a, b, c) ∈ rotFaceCls) (ha : 1 ≤ a ∧ a ≤ 2 * (Lx : Int))
    (hb : 1 ≤ b ∧ b ≤ 2 * (Ly : Int)) (hq : (x, y, z) ∈ rotToricQubits Lx Ly Lz) :
    faceHasRot (rotToric3D Lx Ly Lz) (a, b, c) (x, y, z) = true ↔
      (∃ d ∈ rotXDeltas (cls4 (a, b, c)),
        wrapRot (rotToric3D Lx Ly Lz) (addLoc (a, b, c) d) = (x, y, z)) ∧ NoDef Lx Ly a b x y := by
  have hd := rotFaceDeltas_eq _ hsc
  have hu : ∀ d ∈ rotXDeltas (cls4 (a, b, c)), d ∈ rotUnits := fun d h =>
    ((rotTables.mem_xD hsc d).mp h).1
  have hkey := fun d hd => rtCand_fst_wrap Lx Ly Lz hLx hLy a b c ha hb Pauli.X (hu d hd)
  have hnd : (((rotXDeltas (cls4 (a, b, c))).map (rtCand Lx Ly (a, b, c) Pauli.X)).map
      Prod.fst).Nodup := by
    rw [List.map_map]
    refine List.Nodup.map_on (fun d hd d' hd' h => ?_) (rotFaceDeltas_nodup _ _ hd)
    rw [Function.comp_apply, Function.comp_apply, hkey d hd, hkey d' hd'] at h
    exact wrapRot_addLoc_inj Lx Ly Lz hLx hLy _ (hu d hd) (hu d' hd') h
  rw [rotToric_faceHas Lx Ly Lz _ _ hf hd hnd _ hq]
  constructor
  · rintro ⟨d, hdm, h1, h2⟩
    have hw := (hkey d hdm).symm.trans h1
    obtain ⟨d1, d2, d3⟩ := d
    rw [rtCand_fst, Prod.mk.injEq, Prod.mk.injEq] at h1
    rw [rtCand_hasX, h1.1, h1.2.1] at h2
    exact ⟨⟨_, hdm, hw⟩, h2⟩
  · rintro ⟨⟨d, hdm, hw⟩, nd⟩
    have h1 := (hkey d hdm).trans hw
    refine ⟨d, hdm, h1, ?_⟩
    obtain ⟨d1, d2, d3⟩ := d
    rw [rtCand_fst, Prod.mk.injEq, Prod.mk.injEq] at h1
    rw [rtCand_hasX, h1.1, h1.2.1]
    exact nd

/-- `_wrap` reaches the face `s` from `q + d` and shifts the class by `rotShift`: `flip_edge` sees a
    face at `q + d` iff both or neither coordinate is shifted, which is when `has_defect` leaves the
    letter X; a vertical face next to a vertical edge is not shifted (those on the defect lines are
    left out of the lattice). -/
theorem rotToric_kind (x y z a b c : Int) (hq : (x, y, z) ∈ rotToricQubits Lx Ly Lz)
    (hs : (a, b, c) ∈ rotToricStabs Lx Ly Lz) (hf : rotIsFace (a, b, c) = true) {d : Loc}
    (hd : d ∈ rotUnits) (h : wrapRot (rotToric3D Lx Ly Lz) (addLoc (x, y, z) d) = (a, b, c)) :
    cls4 (addLoc (x, y, z) d) ∈ rotFaceCls ↔
      cls4 (addLoc (a, b, c) (negLoc d)) ∈ rotEdgeCls ∧ NoDef Lx Ly a b x y := by
  obtain ⟨he, hx, hy⟩ := rotToricQubits_range Lx Ly Lz x y z hq
  obtain ⟨par, -, -⟩ := rotToricStabs_range Lx Ly Lz a b c hs
  have hqc := cls4_edge x y z he
  have hsc := cls4_face a b c (par.imp id fun h => ⟨h.1, h.2.1, h.2.2.1⟩) hf
  obtain ⟨b1, b2, b3⟩ := rotUnits_small d hd
  have hσ := rotShift_mem Lx Ly (x, y, z) d
  obtain ⟨d1, d2, d3⟩ := d
  dsimp only at b1 b2 b3
  simp only [addLoc, wrapRot_rotToric, Prod.mk.injEq] at h
  obtain ⟨ea, eb, ec⟩ := h
  have m1 := wrapC_mod4 Lx d1 x b1 hx
  have m2 := wrapC_mod4 Ly d2 y b2 hy
  rw [ea] at m1
  rw [eb] at m2
  have A : cls4 (a, b, c) =
      cls4 (addLoc (addLoc (x, y, z) (d1, d2, d3)) (rotShift Lx Ly (x, y, z) (d1, d2, d3))) := by
    simp only [cls4, addLoc, rotShift, m1, m2, ← ec, Int.add_zero]
  have B : cls4 (addLoc (a, b, c) (negLoc (d1, d2, d3))) =
      cls4 (addLoc (x, y, z) (rotShift Lx Ly (x, y, z) (d1, d2, d3))) := by
    simp only [cls4, addLoc, negLoc, rotShift, Prod.mk.injEq]
    exact ⟨by omega, by omega, by omega⟩
  -- the shift is zero unless the step is diagonal from a horizontal edge; the letter rule
  have key : (((cls4 (x, y, z)).2.2 == 1 && d3 == 0) = true ∨
        rotShift Lx Ly (x, y, z) (d1, d2, d3) = (0, 0, 0)) ∧
      (NoDef Lx Ly a b x y ↔ (shift Lx d1 x = 2 ↔ shift Ly d2 y = 2)) := by
    rcases b3 with rfl | ⟨rfl, rfl⟩
    · rcases he with ⟨px, py, pz⟩ | ⟨px, py, pz, -⟩
      · refine ⟨Or.inl (by simp only [cls4, pz]; rfl), ?_⟩
        rw [NoDef, ← ea, ← eb, wrapC_defect Lx hLx d1 x b1 hx px, wrapC_defect Ly hLy d2 y b2 hy py]
      · have hvo : ¬(Lx % 2 = 1 ∧ a = 1) ∧ ¬(Ly % 2 = 1 ∧ b = 1) := by
          rcases par with ⟨pa, pb, -⟩ | ⟨-, -, -, ho⟩
          · exact ⟨fun k => by omega, fun k => by omega⟩
          · exact ⟨fun k => ho (Or.inr k), fun k => ho (Or.inl k)⟩
        have s1 := shift_eq_zero_of Lx d1 x hx px (ea ▸ hvo.1)
        have s2 := shift_eq_zero_of Ly d2 y hy py (eb ▸ hvo.2)
        refine ⟨Or.inr (by rw [rotShift, s1, s2]), ?_⟩
        rw [s1, s2]
        exact iff_of_true (iff_of_false (fun k => by omega) (fun k => by omega)) Iff.rfl
    · refine ⟨Or.inr (by rw [rotShift, shift_zero, shift_zero]), ?_⟩
      rw [Int.add_zero, wrapC_id Lx x hx.1 hx.2] at ea
      rw [Int.add_zero, wrapC_id Ly y hy.1 hy.2] at eb
      rw [shift_zero, shift_zero]
      exact iff_of_true (iff_of_false (fun k => by omega) (fun k => by omega)) Iff.rfl
  rw [rot_shift_kind _ _ _ hqc hd hσ (A ▸ hsc) key.1, B, key.2]
  rfl

/-- GEOMETRY, all sizes `L_x, L_y ≥ 2`: on every edge of `RotatedToric3DCode(L_x, L_y, L_z)`,
    the repaired `RotatedSweepDecoder3D.flip_edge` toggles exactly the generators of type
    `'face'` that anticommute with Z on that edge. -/
theorem rotToric_flipTableOK :
    flipTableOKRot (rotToric3D Lx Ly Lz) (flipFacesRot (rotToric3D Lx Ly Lz)) = true := by
  unfold flipTableOKRot
  rw [List.all_eq_true]
  rintro ⟨x, y, z⟩ hq
  have hq' : (x, y, z) ∈ rotToricQubits Lx Ly Lz := hq
  obtain ⟨he, hx, hy⟩ := rotToricQubits_range Lx Ly Lz x y z hq'
  have hqc := cls4_edge x y z he
  have hu : ∀ d ∈ rotEdgeDeltas (cls4 (x, y, z)), d ∈ rotUnits := fun d h =>
    ((rotTables.mem_eD hqc d).mp h).1
  refine flipOKRot_of_faces _ _ _ ((rotEdgeDeltas (cls4 (x, y, z))).map fun d =>
    wrapRot (rotToric3D Lx Ly Lz) (addLoc (x, y, z) d)) ?_
    (List.Nodup.map_on (fun d hd d' hd' h =>
      wrapRot_addLoc_inj Lx Ly Lz hLx hLy _ (hu d hd) (hu d' hd') h) (rotTables_aux.1 _ hqc)) ?_
  · rw [flipFacesRot, rawFacesRot_eq _ hqc, Option.map_some, List.map_map]
    rfl
  · rintro ⟨a, b, c⟩ hs hf
    have hs' : (a, b, c) ∈ rotToricStabs Lx Ly Lz := hs
    obtain ⟨par, ha, hb⟩ := rotToricStabs_range Lx Ly Lz a b c hs'
    have hsc := cls4_face a b c (par.imp id fun h => ⟨h.1, h.2.1, h.2.2.1⟩) hf
    rw [rotToric_faceHas_iff Lx Ly Lz hLx hLy a b c x y z hf hsc ha hb hq', List.mem_map]
    exact (rotTables.toggled_iff_of _ _ _ hqc hsc
      (fun d _ => wrapRot_step_iff Lx Ly Lz x y z a b c hx hy ha hb d)
      (fun d hd h => rotToric_kind Lx Ly Lz hLx hLy x y z a b c hq' hs' hf hd h)).symm

end
end Panqec.Sweep
