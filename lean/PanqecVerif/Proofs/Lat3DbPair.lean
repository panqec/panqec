/-
Generic lemmas for pairing tables of logical operators given as concatenated blocks
(`PairTable`, `CrossEven`) and for counting the members of a distinct list that satisfy a
point predicate.
-/
import PanqecVerif.Proofs.Lat3DbOps
open Panqec Panqec.Lat3Db
namespace Panqec.Lat3Db

/-- the pairing clause of `Lattice.CommPair` for two lists of operators (`Lattice.Css` spells it as
    its two fields `same_k` and `pairing`) -/
def PairTable (X Z : List Op) : Prop :=
  X.length = Z.length ∧ ∀ i j, i < X.length → j < Z.length →
    opAntiCount (X.getD i []) (Z.getD j []) % 2 = if i = j then 1 else 0

def CrossEven (X Z : List Op) : Prop := ∀ a ∈ X, ∀ b ∈ Z, opAntiCount a b % 2 = 0

theorem getD_eq_getElem' {α} (l : List α) (i : Nat) (d : α) (h : i < l.length) : l.getD i d = l[i] := by
  simp [List.getD_eq_getElem?_getD, h]
theorem getD_append {α} (l l' : List α) (i : Nat) (d : α) :
    (l ++ l').getD i d = if i < l.length then l.getD i d else l'.getD (i - l.length) d := by
  simp only [List.getD_eq_getElem?_getD, List.getElem?_append]
  split <;> rfl

theorem getD_mem {α} (l : List α) (i : Nat) (d : α) (h : i < l.length) : l.getD i d ∈ l := by
  rw [getD_eq_getElem' _ _ _ h]; exact List.getElem_mem h

theorem PairTable.append {X1 X2 Z1 Z2 : List Op} (h1 : PairTable X1 Z1) (h2 : PairTable X2 Z2)
    (c12 : CrossEven X1 Z2) (c21 : CrossEven X2 Z1) : PairTable (X1 ++ X2) (Z1 ++ Z2) := by
  obtain ⟨l1, t1⟩ := h1
  obtain ⟨l2, t2⟩ := h2
  refine ⟨by simp [l1, l2], fun i j hi hj => ?_⟩
  rw [List.length_append] at hi hj
  rw [getD_append, getD_append]
  split <;> split
  · next hi1 hj1 => exact t1 i j hi1 hj1
  · next hi1 hj1 =>
    rw [if_neg (by omega)]
    exact c12 _ (getD_mem _ _ _ hi1) _ (getD_mem _ _ _ (by omega))
  · next hi1 hj1 =>
    rw [if_neg (by omega)]
    exact c21 _ (getD_mem _ _ _ (by omega)) _ (getD_mem _ _ _ hj1)
  · rw [t2 _ _ (by omega) (by omega)]
    exact if_congr (by omega) rfl rfl

theorem PairTable.map {ι} [DecidableEq ι] (l : List ι) (f g : ι → Op) (hl : l.Nodup)
    (h : ∀ a ∈ l, ∀ b ∈ l, opAntiCount (f a) (g b) % 2 = if a = b then 1 else 0) :
    PairTable (l.map f) (l.map g) := by
  refine ⟨by simp, ?_⟩
  intro i j hi hj
  simp only [List.length_map] at hi hj
  rw [getD_eq_getElem' _ _ _ (by simpa using hi), getD_eq_getElem' _ _ _ (by simpa using hj)]
  simp only [List.getElem_map]
  rw [h _ (List.getElem_mem hi) _ (List.getElem_mem hj)]
  exact if_congr hl.getElem_inj_iff rfl rfl

theorem CrossEven.append_left {X1 X2 Z : List Op} (h1 : CrossEven X1 Z) (h2 : CrossEven X2 Z) :
    CrossEven (X1 ++ X2) Z := by
  intro a ha b hb
  rcases List.mem_append.mp ha with h | h
  · exact h1 a h b hb
  · exact h2 a h b hb

theorem CrossEven.append_right {X Z1 Z2 : List Op} (h1 : CrossEven X Z1) (h2 : CrossEven X Z2) :
    CrossEven X (Z1 ++ Z2) := by
  intro a ha b hb
  rcases List.mem_append.mp hb with h | h
  · exact h1 a ha b h
  · exact h2 a ha b h

theorem CrossEven.map {ι κ} (l : List ι) (l' : List κ) (f : ι → Op) (g : κ → Op)
    (h : ∀ a ∈ l, ∀ b ∈ l', opAntiCount (f a) (g b) % 2 = 0) : CrossEven (l.map f) (l'.map g) := by
  intro a ha b hb
  obtain ⟨s, hs, rfl⟩ := List.mem_map.mp ha
  obtain ⟨t, ht, rfl⟩ := List.mem_map.mp hb
  exact h s hs t ht

def AllKeys (φ : Coord → Prop) (X : List Op) : Prop := ∀ a ∈ X, ∀ e ∈ a, φ e.1

theorem AllKeys.append {φ : Coord → Prop} {X1 X2 : List Op} (h1 : AllKeys φ X1) (h2 : AllKeys φ X2) :
    AllKeys φ (X1 ++ X2) := by
  intro a ha
  rcases List.mem_append.mp ha with h | h
  · exact h1 a h
  · exact h2 a h

theorem AllKeys.map_constOp {ι} {φ : Coord → Prop} (l : List ι) (k : ι → List Coord) (p : Pauli)
    (h : ∀ t ∈ l, ∀ q ∈ k t, φ q) : AllKeys φ (l.map fun t => constOp (k t) p) := by
  intro a ha e he
  obtain ⟨t, ht, rfl⟩ := List.mem_map.mp ha
  rw [mem_constOp] at he
  exact h t ht _ he.1

theorem opAntiCount_eq_zero_of_disjoint (a b : Op) (h : ∀ e ∈ a, ∀ e' ∈ b, e.1 ≠ e'.1) :
    opAntiCount a b = 0 := by
  unfold opAntiCount
  rw [List.length_eq_zero_iff, List.filter_eq_nil_iff]
  intro e he
  have : b.get? e.1 = none := by
    unfold Op.get?
    rw [Option.map_eq_none_iff, List.find?_eq_none]
    intro e' he'
    have := h e he e' he'
    simpa using fun hh : e'.1 = e.1 => this hh.symm
  simp [this]

theorem CrossEven.of_disjoint {φ ψ : Coord → Prop} {X Z : List Op} (hX : AllKeys φ X) (hZ : AllKeys ψ Z)
    (hd : ∀ q, φ q → ψ q → False) : CrossEven X Z := by
  intro a ha b hb
  rw [opAntiCount_eq_zero_of_disjoint]
  intro e he e' he' heq
  exact hd e.1 (hX a ha e he) (by rw [heq]; exact hZ b hb e' he')

theorem countP_iff_point (l : List Int) (a : Int) (p : Int → Bool) (hl : l.Nodup) (ha : a ∈ l)
    (hp : ∀ t ∈ l, (p t = true ↔ t = a)) : l.countP p = 1 :=
  countP_eq_length_of_mem_iff l [a] p hl (List.nodup_singleton a) fun t => by
    rw [List.mem_singleton]
    exact ⟨fun h => (hp t h.1).mp h.2, fun h => ⟨h ▸ ha, (hp t (h ▸ ha)).mpr h⟩⟩

theorem countP_eq_point (l : List Int) (a : Int) (hl : l.Nodup) (ha : a ∈ l) :
    l.countP (fun t => t == a) = 1 :=
  countP_iff_point l a _ hl ha fun _ _ => beq_iff_eq

theorem countP_iff_none (l : List Int) (p : Int → Bool) (hp : ∀ t ∈ l, ¬ p t = true) : l.countP p = 0 :=
  List.countP_eq_zero.mpr hp

theorem countP_iff_two_points (l : List Int) (a b : Int) (p : Int → Bool) (hl : l.Nodup) (ha : a ∈ l)
    (hb : b ∈ l) (hab : a ≠ b) (hp : ∀ t ∈ l, (p t = true ↔ t = a ∨ t = b)) : l.countP p = 2 :=
  countP_eq_length_of_mem_iff l [a, b] p hl
    (List.nodup_cons.mpr ⟨by simpa using hab, List.nodup_singleton b⟩) fun t => by
      rw [List.mem_cons, List.mem_singleton]
      refine ⟨fun h => (hp t h.1).mp h.2, fun h => ?_⟩
      have ht : t ∈ l := h.elim (· ▸ ha) (· ▸ hb)
      exact ⟨ht, (hp t ht).mpr h⟩

end Panqec.Lat3Db
