/-
Union-find internals (C05), termination of the growth loop: an odd cluster always has a
boundary element with a nonzero entry left in `_H_to_grow` (otherwise it would be a union of
connected components with an odd number of defects), so every turn of the loop zeroes at least
one entry; the loop stops within `m·n + 1` turns.
-/
import PanqecVerif.Proofs.UnionFindTermBoundary

namespace Panqec.UF

/-- every union of connected components of the Tanner graph carries an even number of defects -/
def EvenComponents (H : Mat) (sy : Vec) : Prop :=
  ∀ P : Nat → Bool, (∀ s s' q, hb H s q = true → hb H s' q = true → P s = true → P s' = true) →
    cnt H.length (fun s => defect sy s && P s) % 2 = 0

/-- number of nonzero entries of `_H_to_grow` -/
def mu (H : Mat) (rd cd : Nat → Bool) : Nat :=
  cnt (H.length * ncols H) fun k => live H rd cd (k / ncols H) (k % ncols H)

theorem mu_lt {H : Mat} {rd cd rd' cd' : Nat → Bool}
    (hr : ∀ i, rd i = true → rd' i = true) (hc : ∀ i, cd i = true → cd' i = true)
    {s q : Nat} (hs : s < H.length) (hq : q < ncols H) (hl : live H rd cd s q = true)
    (hl' : live H rd' cd' s q = false) : mu H rd' cd' < mu H rd cd := by
  unfold mu
  have hn : 0 < ncols H := by omega
  have hk : ncols H * s + q < H.length * ncols H := by
    have h1 : ncols H * s + q < ncols H * (s + 1) := by rw [Nat.mul_succ]; omega
    have h2 : ncols H * (s + 1) ≤ ncols H * H.length := Nat.mul_le_mul_left _ (by omega)
    rw [Nat.mul_comm H.length]; omega
  have hdiv : (ncols H * s + q) / ncols H = s := by
    rw [Nat.mul_add_div hn, Nat.div_eq_of_lt hq]; rfl
  have hmod : (ncols H * s + q) % ncols H = q := by
    rw [Nat.mul_add_mod, Nat.mod_eq_of_lt hq]
  apply cnt_lt _ _ _ _ (ncols H * s + q) hk
  · rw [hdiv, hmod]; exact hl
  · rw [hdiv, hmod]; exact hl'
  · intro k _ hk'
    unfold live at hk' ⊢
    simp only [Bool.and_eq_true, Bool.not_eq_true'] at hk' ⊢
    refine ⟨⟨hk'.1.1, ?_⟩, ?_⟩
    · cases h : rd (k / ncols H)
      · rfl
      · have := hr _ h; rw [hk'.1.2] at this; exact absurd this (by simp)
    · cases h : cd (k % ncols H)
      · rfl
      · have := hc _ h; rw [hk'.2] at this; exact absurd this (by simp)

/-! ### an odd cluster can grow -/

theorem exists_productive {H : Mat} {sy : Vec} {st : GState} {rep d : Nat → Nat}
    (I : GInv H sy st rep d) (B : BdInv H st rep []) (E : EvenComponents H sy)
    {c : Cluster} (hc : c ∈ st.forest) (hodd : c.odd = true) :
    ∃ s q, live H st.rowDead st.colDead s q = true ∧ (hashS s ∈ c.bnd ∨ (q : Int) ∈ c.bnd) := by
  by_contra hno
  push Not at hno
  -- without such an element the cluster is closed under adjacency
  have hclosed : ∀ s s' q, hb H s q = true → hb H s' q = true →
      (decide (st.sPar s ≠ -1) && decide (rep s = c.root)) = true →
      (decide (st.sPar s' ≠ -1) && decide (rep s' = c.root)) = true := by
    intro s s' q hsq hs'q hP
    simp only [Bool.and_eq_true, decide_eq_true_eq] at hP ⊢
    have key : grown H st.rowDead st.colDead s q = true ∧ grown H st.rowDead st.colDead s' q = true := by
      cases hrd : st.rowDead s
      · -- the row of `s` is not zeroed: `s` is in the boundary list, so all its columns are zeroed
        obtain ⟨c1, hc1, hr1, hb1⟩ := B.j1 s hP.1 hrd
        have : c1 = c := eq_of_root_eq st.forest I.fi.roots_nodup c1 c hc1 hc (hr1.trans hP.2)
        rw [this] at hb1
        have hcd : st.colDead q = true := by
          cases h : st.colDead q
          · exfalso
            have hl : live H st.rowDead st.colDead s q = true := by unfold live; simp [hsq, hrd, h]
            exact (hno s q hl).1 hb1
          · rfl
        exact ⟨(grown_iff ..).mpr ⟨hsq, Or.inr hcd⟩, (grown_iff ..).mpr ⟨hs'q, Or.inr hcd⟩⟩
      · cases hcd : st.colDead q
        · -- `q` is half-grown from `s`: it is in the boundary list, so all its rows are zeroed
          obtain ⟨c1, hc1, hr1, hb1⟩ := B.j2 s q hsq hrd hcd
          have : c1 = c := eq_of_root_eq st.forest I.fi.roots_nodup c1 c hc1 hc (hr1.trans hP.2)
          rw [this] at hb1
          have hrd' : st.rowDead s' = true := by
            cases h : st.rowDead s'
            · exfalso
              have hl : live H st.rowDead st.colDead s' q = true := by unfold live; simp [hs'q, h, hcd]
              exact (hno s' q hl).2 hb1
            · rfl
          exact ⟨(grown_iff ..).mpr ⟨hsq, Or.inl hrd⟩, (grown_iff ..).mpr ⟨hs'q, Or.inl hrd'⟩⟩
        · exact ⟨(grown_iff ..).mpr ⟨hsq, Or.inr hcd⟩, (grown_iff ..).mpr ⟨hs'q, Or.inr hcd⟩⟩
    obtain ⟨_, h2, h3⟩ := B.k q (by simp) s s' key.1 key.2
    exact ⟨h2, h3.symm.trans hP.2⟩
  have heven := E _ hclosed
  have hoddc := I.fi.odd_ok c hc
  rw [hodd] at hoddc
  have : clsCnt H.length sy st.sPar rep c.root =
      cnt H.length (fun s => defect sy s && (decide (st.sPar s ≠ -1) && decide (rep s = c.root))) := by
    unfold clsCnt
    apply cnt_congr
    intro i _
    rw [Bool.and_assoc]
  rw [this] at hoddc
  simp only [b2n_true] at hoddc
  omega

theorem BdInv_fuseFold {H : Mat} {sy : Vec} :
    ∀ (pend : List Int) (st : GState) (rep d : Nat → Nat), GInv H sy st rep d →
      BdInv H st rep pend →
      ∃ rep' d', GInv H sy (pend.foldl (fuseStep H) st) rep' d' ∧
        BdInv H (pend.foldl (fuseStep H) st) rep' [] ∧
        (pend.foldl (fuseStep H) st).rowDead = st.rowDead ∧
        (pend.foldl (fuseStep H) st).colDead = st.colDead := by
  intro pend
  induction pend with
  | nil => intro st rep d I B; exact ⟨rep, d, I, B, rfl, rfl⟩
  | cons x rest ih =>
    intro st rep d I B
    obtain ⟨rep1, d1, I1, B1⟩ := BdInv_fuse I B
    obtain ⟨rep2, d2, I2, B2, h1, h2⟩ := ih _ rep1 d1 I1 B1
    simp only [List.foldl_cons]
    exact ⟨rep2, d2, I2, B2, h1, h2⟩

theorem BdInv_sched {H : Mat} {st : GState} {rep : Nat → Nat} {pend : List Int}
    (B : BdInv H st rep pend) (sc : Sched) : BdInv H { st with sched := sc } rep pend :=
  ⟨B.row_live, B.col_row, B.bnd_stab, B.bnd_qubit, B.j1, B.j2, B.k⟩

/-- one turn of the loop on an odd cluster: invariants kept, at least one entry zeroed -/
theorem iter_progress {H : Mat} {sy : Vec} (hrange : ∀ s q, hb H s q = true → q < ncols H)
    {st : GState} {rep d : Nat → Nat} (I : GInv H sy st rep d) (B : BdInv H st rep [])
    (E : EvenComponents H sy) {c : Cluster} (hc : c ∈ st.forest) (hodd : c.odd = true) :
    ∃ rep' d', GInv H sy (growIter H st c) rep' d' ∧ BdInv H (growIter H st c) rep' [] ∧
      mu H (growIter H st c).rowDead (growIter H st c).colDead < mu H st.rowDead st.colDead := by
  obtain ⟨s0, q0, hl0, hb0⟩ := exists_productive I B E hc hodd
  have I1 := GInv_grow I c
  have B1 := BdInv_grow hrange I B hc
    (((growCluster H st c).2.sched.take (growCluster H st c).1).1) (take_mem _ _)
  obtain ⟨rep', d', I2, B2, hr2, hc2⟩ := BdInv_fuseFold _ _ rep d
    (GInv_sched I1 ((growCluster H st c).2.sched.take (growCluster H st c).1).2)
    (BdInv_sched B1 ((growCluster H st c).2.sched.take (growCluster H st c).1).2)
  have hiter : growIter H st c =
      (((growCluster H st c).2.sched.take (growCluster H st c).1).1).foldl (fuseStep H)
        { (growCluster H st c).2 with
          sched := ((growCluster H st c).2.sched.take (growCluster H st c).1).2 } := rfl
  rw [hiter]
  refine ⟨rep', d', I2, B2, ?_⟩
  rw [hr2, hc2]
  show mu H (growCluster H st c).2.rowDead (growCluster H st c).2.colDead < _
  obtain ⟨ord, hord, G, _, _, _⟩ := growCluster_forms hrange st c
  have hl0' := hl0
  unfold live at hl0'
  simp only [Bool.and_eq_true, Bool.not_eq_true'] at hl0'
  apply mu_lt (s := s0) (q := q0) _ _ (hb_lt hl0'.1.1) (hrange s0 q0 hl0'.1.1) hl0
  · unfold live
    rcases hb0 with h | h
    · simp [show (growCluster H st c).2.rowDead s0 = true from
        (G.row s0).mpr (Or.inr ((hord _).mpr h))]
    · simp [show (growCluster H st c).2.colDead q0 = true from
        (G.col q0).mpr (Or.inr ((hord _).mpr h))]
  · exact fun i hi => (G.row i).mpr (Or.inl hi)
  · exact fun i hi => (G.col i).mpr (Or.inl hi)

/-- **the growth loop terminates**: with `EvenComponents`, on a well-formed state with fewer
    nonzero entries in `_H_to_grow` than fuel -/
theorem clusterLoop_terminates {H : Mat} {sy : Vec}
    (hrange : ∀ s q, hb H s q = true → q < ncols H) (E : EvenComponents H sy) :
    ∀ (fuel : Nat) (st : GState) (rep d : Nat → Nat), GInv H sy st rep d → BdInv H st rep [] →
      mu H st.rowDead st.colDead < fuel → (clusterLoop H fuel st).2 = true := by
  intro fuel
  induction fuel with
  | zero => intro st rep d _ _ h; omega
  | succ fuel ih =>
    intro st rep d I B hmu
    rw [clusterLoop_succ]
    cases hp : (pick st).1 with
    | none => rfl
    | some c =>
      obtain ⟨hcf, hodd⟩ := pick_some hp
      obtain ⟨rep1, d1, I1, B1, hlt⟩ :=
        iter_progress hrange (GInv_pick I) (BdInv_sched B (pick st).2.sched) E hcf hodd
      exact ih _ rep1 d1 I1 B1 (Nat.lt_of_lt_of_le hlt (Nat.le_of_lt_succ hmu))

/-- the initial state satisfies the boundary invariant -/
theorem BdInv_init (H : Mat) (sy : Vec) (sched : List (List Int)) :
    BdInv H (initState H sy sched) (fun i => i) [] := by
  unfold initState
  simp only []
  refine ⟨by simp, by simp, ?_, ?_, ?_, by simp, ?_⟩
  · intro c hc s hs
    rw [List.mem_map] at hc
    obtain ⟨i, hi, rfl⟩ := hc
    simp at hs
    have := hashS_inj hs
    subst this
    refine Or.inl ⟨?_, rfl⟩
    show (if s ∈ _ then (s : Int) else -1) ≠ -1
    rw [if_pos hi]; omega
  · intro c hc q hq
    rw [List.mem_map] at hc
    obtain ⟨i, _, rfl⟩ := hc
    simp at hq
    have := hashS_neg i; omega
  · intro s hs _
    have hsd : s ∈ (List.range H.length).filter fun i => sy.getD i 0 != 0 := by
      by_contra h
      simp only [h, if_false] at hs
      exact hs rfl
    exact ⟨_, List.mem_map.mpr ⟨s, hsd, rfl⟩, rfl, by simp⟩
  · intro q _ s s' hg
    rw [grown_iff] at hg
    simp at hg

end Panqec.UF
