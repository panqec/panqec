/-
Planar3DCode, all sizes, C17: translates of the two listed logical operators across the lattice,
the parity argument with open boundaries, weights of the listed logicals.

`X̄` (X on the x edges of the line `y = z = 0`, weight `Lx`) has the `Ly·Lz` translates
`(y, z) = (2j, 2k)`: moving `z` by 2 multiplies by the row of xz face generators between the two
lines, moving `y` by 2 by the row of xy face generators.  `Z̄` (Z on the x edges of the plane
`x = 1`, weight `Ly·Lz`) has the `Lx` translates `x = 2i + 1`; consecutive translates differ by
the slab of vertex generators between them.  A generator at the boundary has fewer qubits: the
missing neighbours are not qubits (`indQ` is `0` there).  So the distance is `min Lx (Ly·Lz)`.
-/
import PanqecVerif.Proofs.DistCubic3D
import PanqecVerif.Proofs.LatPlanar3DCodeCss

namespace Panqec.Planar3DCode
open Panqec.Cubic3D Panqec.Lat2D

def indQ (Lx Ly Lz : Nat) (P : Pauli) (b : Op) (q : Coord) : Nat :=
  if isq Lx Ly Lz q = true then ind P b q else 0

theorem indQ_of {Lx Ly Lz : Nat} {q : Coord} (P : Pauli) (b : Op) (h : q ∈ qubits Lx Ly Lz) :
    indQ Lx Ly Lz P b q = ind P b q := by
  unfold indQ; rw [if_pos (isq_iff.mpr h)]

theorem indQ_of_not {Lx Ly Lz : Nat} {q : Coord} (P : Pauli) (b : Op)
    (h : q ∉ qubits Lx Ly Lz) : indQ Lx Ly Lz P b q = 0 := by
  unfold indQ; rw [if_neg (fun h' => h (isq_iff.mp h'))]

def CommStabs (Lx Ly Lz : Nat) (b : Op) : Prop :=
  ∀ s ∈ (lattice Lx Ly Lz).stabs, opAntiCount ((lattice Lx Ly Lz).getStab s) b % 2 = 0

variable {Lx Ly Lz : Nat}

theorem vertex_even {b : Op} (hb : CommStabs Lx Ly Lz b) {x y z : Int}
    (hv : isVertex Lx Ly Lz x y z) {xm xp ym yp zm zp : Int} (e1 : x - 1 = xm) (e2 : x + 1 = xp)
    (e3 : y - 1 = ym) (e4 : y + 1 = yp) (e5 : z - 1 = zm) (e6 : z + 1 = zp) :
    (indQ Lx Ly Lz Pauli.Z b [xm, y, z] + indQ Lx Ly Lz Pauli.Z b [xp, y, z]
      + indQ Lx Ly Lz Pauli.Z b [x, ym, z] + indQ Lx Ly Lz Pauli.Z b [x, yp, z]
      + indQ Lx Ly Lz Pauli.Z b [x, y, zm] + indQ Lx Ly Lz Pauli.Z b [x, y, zp]) % 2 = 0 := by
  have h := (lattice Lx Ly Lz).stab_even hb (mem_stabs.mpr (Or.inl hv))
    (by rw [lattice_getStab]; exact getStab_vertex hv)
  subst e1 e2 e3 e4 e5 e6
  unfold vertexKeys vertexCands at h
  rw [List.countP_filter] at h
  simp only [List.countP_cons, List.countP_nil, ite_and_bool] at h
  unfold indQ ind
  omega

/-- a face of any orientation: its four edges (given by name) carry an even number of hits -/
theorem face_even {b : Op} (hb : CommStabs Lx Ly Lz b) (ax : Axis) {u v w : Int}
    (hv : isFace Lx Ly Lz ax u v w) {vm vp wm wp : Int}
    (e1 : v - 1 = vm) (e2 : v + 1 = vp) (e3 : w - 1 = wm) (e4 : w + 1 = wp) :
    (indQ Lx Ly Lz Pauli.X b (ins ax u v wm) + indQ Lx Ly Lz Pauli.X b (ins ax u v wp)
      + indQ Lx Ly Lz Pauli.X b (ins ax u vm w) + indQ Lx Ly Lz Pauli.X b (ins ax u vp w)) % 2
      = 0 := by
  have h := (lattice Lx Ly Lz).stab_even hb (face_mem hv)
    (by rw [lattice_getStab]; exact getStab_face hv)
  subst e1 e2 e3 e4
  unfold faceKeys faceCands rim nbM at h
  rw [List.countP_filter] at h
  simp only [List.map_cons, List.map_nil, List.cons_append, List.nil_append, List.countP_cons,
    List.countP_nil, ite_and_bool] at h
  unfold indQ ind
  omega

/-- `X̄` translated to the line `y = 2j`, `z = 2k` -/
def lineX (Lx : Nat) (j k : Nat) : List Coord :=
  (range2 1 (2 * (Lx : Int) + 1)).map fun x => [x, 2 * (j : Int), 2 * (k : Int)]
/-- `Z̄` translated to the plane `x = 2i + 1` -/
def planeX (Ly Lz : Nat) (i : Nat) : List Coord :=
  grid2 (range2 0 (2 * (Ly : Int))) (range2 0 (2 * (Lz : Int))) fun y z => [2 * (i : Int) + 1, y, z]

theorem lxK_eq (Lx : Nat) : lxK Lx = lineX Lx 0 0 := rfl
theorem lzK_eq (Ly Lz : Nat) : lzK Ly Lz = planeX Ly Lz 0 := rfl

theorem mem_lineX {Lx j k : Nat} {q : Coord} :
    q ∈ lineX Lx j k ↔ ∃ x, inO1 Lx x ∧ q = [x, 2 * (j : Int), 2 * (k : Int)] := by
  simp only [lineX, List.mem_map, mem_rangeO1]
  constructor
  · rintro ⟨x, hx, rfl⟩; exact ⟨x, hx, rfl⟩
  · rintro ⟨x, hx, rfl⟩; exact ⟨x, hx, rfl⟩
theorem mem_planeX {Ly Lz i : Nat} {q : Coord} :
    q ∈ planeX Ly Lz i ↔ ∃ y z, inE Ly y ∧ inE Lz z ∧ q = [2 * (i : Int) + 1, y, z] := by
  simp only [planeX, mem_grid2, mem_rangeE]
  constructor
  · rintro ⟨y, hy, z, hz, rfl⟩; exact ⟨y, z, hy, hz, rfl⟩
  · rintro ⟨y, z, hy, hz, rfl⟩; exact ⟨y, hy, z, hz, rfl⟩

theorem lineX_nodup (Lx j k : Nat) : (lineX Lx j k).Nodup :=
  List.Nodup.map (fun a b h => by simpa using h) (nodup_range2 _ _)
theorem planeX_nodup (Ly Lz i : Nat) : (planeX Ly Lz i).Nodup :=
  nodup_grid2 (nodup_range2 _ _) (nodup_range2 _ _) (fun a b a' b' h => by simpa using h)

theorem lineX_sub {j k : Nat} (hj : j < Ly) (hk : k < Lz) :
    ∀ q ∈ lineX Lx j k, q ∈ qubits Lx Ly Lz := by
  intro q hq
  obtain ⟨x, hx, rfl⟩ := mem_lineX.mp hq
  exact mem_qubits.mpr (Or.inl ⟨hx, by unfold inE; omega, by unfold inE; omega⟩)
theorem planeX_sub {i : Nat} (hi : i < Lx) : ∀ q ∈ planeX Ly Lz i, q ∈ qubits Lx Ly Lz := by
  intro q hq
  obtain ⟨y, z, hy, hz, rfl⟩ := mem_planeX.mp hq
  exact mem_qubits.mpr (Or.inl ⟨by unfold inO1; omega, hy, hz⟩)

theorem qubits_box {x y z : Int} (h : [x, y, z] ∈ qubits Lx Ly Lz) :
    (1 ≤ x ∧ x < 2 * (Lx : Int)) ∧ (0 ≤ y ∧ y < 2 * (Ly : Int) - 1) ∧
      (0 ≤ z ∧ z < 2 * (Lz : Int) - 1) := by
  rcases mem_qubits.mp h with k | k | k <;> simp only [inO1, inE, inE2, inO] at k <;> omega

theorem countP_planeX (P : Pauli) (b : Op) {i : Nat} (hi : i < Lx) :
    (planeX Ly Lz i).countP (opHit P b) =
      rsum2 Ly Lz (fun j k => indQ Lx Ly Lz P b [2 * (i : Int) + 1, 2 * (j : Int), 2 * (k : Int)]) := by
  unfold planeX
  rw [countP_planeE]
  exact rsum2_congr fun j k hj hk => (indQ_of P b (mem_qubits.mpr (Or.inl
    ⟨by unfold inO1; omega, by unfold inE; omega, by unfold inE; omega⟩))).symm

theorem countP_lineX (P : Pauli) (b : Op) {j k : Nat} (hj : j < Ly) (hk : k < Lz) :
    (lineX Lx j k).countP (opHit P b) =
      rsum Lx (fun a => indQ Lx Ly Lz P b [2 * (a : Int) + 1, 2 * (j : Int), 2 * (k : Int)]) := by
  unfold lineX
  rw [countP_lineO1]
  exact rsum_congr Lx fun a ha => (indQ_of P b (mem_qubits.mpr (Or.inl
    ⟨by unfold inO1; omega, by unfold inE; omega, by unfold inE; omega⟩))).symm

/-- `Z̄`: planes `x = 2i + 1`, through the slab of vertices at `x = 2i + 2` -/
theorem parity_Z {b : Op} (hb : CommStabs Lx Ly Lz b) (i : Nat) (hi : i < Lx) :
    (planeX Ly Lz i).countP (opHit Pauli.Z b) % 2 =
      (planeX Ly Lz 0).countP (opHit Pauli.Z b) % 2 := by
  rw [countP_planeX _ _ hi, countP_planeX _ _ (show 0 < Lx by omega)]
  have h := slab_open Lx Ly Lz (fun u v w => indQ Lx Ly Lz Pauli.Z b [u, v, w]) ?_ ?_ ?_ ?_ ?_ i hi
  · simpa using h
  · intro i k; exact indQ_of_not _ _ (fun h => by have := qubits_box h; omega)
  · intro i k; exact indQ_of_not _ _ (fun h => by have := qubits_box h; omega)
  · intro i j; exact indQ_of_not _ _ (fun h => by have := qubits_box h; omega)
  · intro i j; exact indQ_of_not _ _ (fun h => by have := qubits_box h; omega)
  · intro i j k hi hj hk
    exact vertex_even hb (by simp only [isVertex, inE, inE2]; omega) (by omega) (by omega)
      rfl rfl rfl rfl

/-- `X̄`, moving `z`: lines `(y, z) = (2j, 2i)`, through the xz faces at `z = 2i + 1` -/
theorem parity_Xz {b : Op} (hb : CommStabs Lx Ly Lz b) (j : Nat) (hj : j < Ly) (i : Nat)
    (hi : i < Lz) :
    (lineX Lx j i).countP (opHit Pauli.X b) % 2 = (lineX Lx j 0).countP (opHit Pauli.X b) % 2 := by
  rw [countP_lineX _ _ hj hi, countP_lineX _ _ hj (Nat.zero_lt_of_lt hi)]
  have h := ladder_open 0 1 Lz Lx (fun u w => indQ Lx Ly Lz Pauli.X b [w, 2 * (j : Int), u])
    ?_ ?_ ?_ i hi
  · simpa only [Int.add_zero, Nat.cast_zero, Int.mul_zero] using h
  · intro i; exact indQ_of_not _ _ (fun h => by have := qubits_box h; omega)
  · intro i; exact indQ_of_not _ _ (fun h => by have := qubits_box h; omega)
  · intro i a hi ha
    exact face_even hb .y (u := 2 * (j : Int)) (v := 2 * (a : Int) + 1)
      (w := 2 * (i : Int) + 0 + 1)
      (by simp only [isFace, rE, rO, Axis.fst, Axis.snd, inO1, inE, inO]; omega) (by omega)
      (by omega) (by omega) (by omega)

/-- `X̄`, moving `y` in the layer `z = 2k`: lines `(y, z) = (2i, 2k)`, through the xy faces at
    `y = 2i + 1` -/
theorem parity_Xy {b : Op} (hb : CommStabs Lx Ly Lz b) (k : Nat) (hk : k < Lz) (i : Nat)
    (hi : i < Ly) :
    (lineX Lx i k).countP (opHit Pauli.X b) % 2 = (lineX Lx 0 k).countP (opHit Pauli.X b) % 2 := by
  rw [countP_lineX _ _ hi hk, countP_lineX _ _ (Nat.zero_lt_of_lt hi) hk]
  have h := ladder_open 0 1 Ly Lx (fun u w => indQ Lx Ly Lz Pauli.X b [w, u, 2 * (k : Int)])
    ?_ ?_ ?_ i hi
  · simpa only [Int.add_zero, Nat.cast_zero, Int.mul_zero] using h
  · intro i; exact indQ_of_not _ _ (fun h => by have := qubits_box h; omega)
  · intro i; exact indQ_of_not _ _ (fun h => by have := qubits_box h; omega)
  · intro i a hi ha
    exact face_even hb .z (u := 2 * (k : Int)) (v := 2 * (a : Int) + 1)
      (w := 2 * (i : Int) + 0 + 1)
      (by simp only [isFace, rE, rO, Axis.fst, Axis.snd, inO1, inE, inO]; omega) (by omega)
      (by omega) (by omega) (by omega)

theorem lineX_disj {j k j' k' : Nat} (h : j ≠ j' ∨ k ≠ k') :
    ∀ q ∈ lineX Lx j k, q ∉ lineX Lx j' k' := by
  intro q hq hq'
  obtain ⟨x, _, rfl⟩ := mem_lineX.mp hq
  obtain ⟨x', _, e⟩ := mem_lineX.mp hq'
  simp only [List.cons.injEq, and_true] at e
  omega

theorem planeX_disj {i i' : Nat} (h : i < i') : ∀ q ∈ planeX Ly Lz i, q ∉ planeX Ly Lz i' := by
  intro q hq hq'
  obtain ⟨y, z, _, _, rfl⟩ := mem_planeX.mp hq
  obtain ⟨y', z', _, _, e⟩ := mem_planeX.mp hq'
  simp only [List.cons.injEq, and_true] at e; omega

/-- every non-trivial logical operator of the `Lx × Ly × Lz` 3-D planar code has weight
    `≥ min Lx (Ly·Lz)` -/
theorem lower_bound (hLz : 1 ≤ Lz) (hwf : (lattice Lx Ly Lz).WF)
    {n : Nat} (hn : (qubits Lx Ly Lz).length = n)
    (hv : ValidCodeL n 1 (lattice Lx Ly Lz).rowsH (lattice Lx Ly Lz).rowsX
      (lattice Lx Ly Lz).rowsZ) :
    ∀ v, IsNontrivialLogical n (lattice Lx Ly Lz).rowsH v → min Lx (Ly * Lz) ≤ pauliWeight v := by
  apply Lattice.lower_bound_of_reps (lattice Lx Ly Lz) hwf (by rw [lattice_qubits]; exact hn) hv
  intro a ha
  rw [lattice_logX, lattice_logZ, logX_eq, logZ_eq] at ha
  simp only [List.cons_append, List.nil_append, List.mem_cons, List.not_mem_nil, or_false] at ha
  rcases ha with rfl | rfl
  · refine .of_family2 Pauli.X (lineX Lx) (Nat.min_le_right ..) (fun j k hj hk =>
      .of_parity (lineX_nodup Lx _ _) (lineX_sub hj hk) fun b hb => ?_)
      fun _ _ _ _ h => lineX_disj h
    rw [lxK_eq, parity_Xz hb _ hj _ hk, parity_Xy hb 0 (by omega) _ hj]
  · exact .of_family Pauli.Z (planeX Ly Lz) (Nat.min_le_left ..) (fun i hi =>
      .of_parity (planeX_nodup Ly Lz i) (planeX_sub hi) fun b hb => parity_Z hb i hi)
      fun i i' h _ => planeX_disj h

/-- the row of `logicals_x` has weight `Lx` (a line), the row of `logicals_z` weight `Ly·Lz`
    (a plane) -/
theorem weights_listed (hwf : (lattice Lx Ly Lz).WF) :
    (lattice Lx Ly Lz).rowsX.map pauliWeight = [Lx] ∧
    (lattice Lx Ly Lz).rowsZ.map pauliWeight = [Ly * Lz] := by
  rw [hwf.weights.1, hwf.weights.2, lattice_logX, lattice_logZ, logX_eq, logZ_eq]
  simp only [List.map_cons, List.map_nil, uop_length, lxK, lzK, List.length_map, length_grid2,
    length_rangeE, length_rangeO1]
  exact ⟨trivial, trivial⟩

/-- `code.d` (minimum weight of the listed logicals) is `min Lx (Ly·Lz)` -/
theorem reported_distance (hwf : (lattice Lx Ly Lz).WF) :
    distance (lattice Lx Ly Lz).rowsX (lattice Lx Ly Lz).rowsZ = some (min Lx (Ly * Lz)) :=
  distance_of_weights (weights_listed hwf).1 (weights_listed hwf).2 rfl rfl

end Panqec.Planar3DCode
