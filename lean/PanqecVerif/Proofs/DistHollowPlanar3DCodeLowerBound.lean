/-
HollowPlanar3DCode, all sizes, C17: the packing bound.

`X̄` (X on the x edges of the line `y = z = 0`, weight `Lx`) has one translate per x line that
misses the hole — as many as there are x edges in the cross-section `x = 3`:
`wZ = Ly·Lz − (Ly − 2)(Lz − 2)` when the hole is there (`Lx ≥ 3`), `Ly·Lz` otherwise.  `Z̄` (Z on the
existing x edges of the cross-section `x = 3` when `Lx ≥ 3`, of the plane `x = 1` otherwise, weight
`wZ`: `LatHollowPlanar3DCodeCss.lean`) has the `Lx` translates "existing x edges of the
cross-section `x = 2i + 1`".  Hence every non-trivial logical operator has weight `≥ min Lx wZ`,
which is what `code.d` reports since the repair of `get_logicals_z` (before it, `Z̄` was the full end
plane `x = 1` and `code.d = min Lx (Ly·Lz)`).
-/
import PanqecVerif.Proofs.LatHollowPlanar3DCodeCss

namespace Panqec.HollowPlanar3DCode
open Panqec.Cubic3D Panqec.Lat2D
open Panqec.Planar3DCode (inE inO inE2 inO1 isVertex isFace isq isq_iff
  lxK lzK lineX planeX mem_lineX mem_planeX lineX_nodup planeX_nodup)

variable {Lx Ly Lz : Nat}

/-- the x line through a location (its `y` and `z` coordinates) -/
def lineOf (Lx : Nat) : Coord → List Coord
  | [_, y, z] => (range2 1 (2 * (Lx : Int) + 1)).map fun x => [x, y, z]
  | _ => []

theorem lineOf_eq (x : Int) (j k : Nat) :
    lineOf Lx [x, 2 * (j : Int), 2 * (k : Int)] = lineX Lx j k := rfl

/-- a member of the cross-section `x = 3` names a line that misses the hole -/
theorem crossX_one_cases {q : Coord} (hq : q ∈ crossX Lx Ly Lz 1) :
    ∃ j k : Nat, j < Ly ∧ k < Lz ∧ q = [3, 2 * (j : Int), 2 * (k : Int)] ∧
      ¬ Hole Lx Ly Lz 3 (2 * (j : Int)) (2 * (k : Int)) := by
  obtain ⟨y, z, hy, hz, rfl, hn⟩ := mem_crossX.mp hq
  unfold inE at hy hz
  obtain ⟨j, rfl⟩ : ∃ j : Nat, y = 2 * (j : Int) := ⟨(y / 2).toNat, by omega⟩
  obtain ⟨k, rfl⟩ : ∃ k : Nat, z = 2 * (k : Int) := ⟨(z / 2).toNat, by omega⟩
  exact ⟨j, k, by omega, by omega, rfl, hn⟩

/-- every non-trivial logical operator of the `Lx × Ly × Lz` hollow planar code has weight
    `≥ min Lx wZ` -/
theorem lower_bound (hwf : (lattice Lx Ly Lz).WF)
    {n : Nat} (hn : (qubits Lx Ly Lz).length = n)
    (hv : ValidCodeL n 1 (lattice Lx Ly Lz).rowsH (lattice Lx Ly Lz).rowsX
      (lattice Lx Ly Lz).rowsZ) :
    ∀ v, IsNontrivialLogical n (lattice Lx Ly Lz).rowsH v →
      min Lx (wZ Lx Ly Lz) ≤ pauliWeight v := by
  apply Lattice.lower_bound_of_reps (lattice Lx Ly Lz) hwf (by rw [lattice_qubits]; exact hn) hv
  intro a ha
  rw [lattice_logX, lattice_logZ, logX_eq, logZ_eq] at ha
  simp only [List.cons_append, List.nil_append, List.mem_cons, List.not_mem_nil, or_false] at ha
  rcases ha with rfl | rfl
  · -- the translates of `X̄`: one per x line that misses the hole
    refine .of_list Pauli.X ((crossX Lx Ly Lz 1).map (lineOf Lx))
      (by rw [List.length_map, length_crossX_one]; exact Nat.min_le_right ..) (fun K hK => ?_) ?_
    · obtain ⟨q, hq, rfl⟩ := List.mem_map.mp hK
      obtain ⟨j, k, hj, hk, rfl, hn⟩ := crossX_one_cases hq
      rw [lineOf_eq]
      exact .of_parity (lineX_nodup Lx j k)
        (lineX_sub hj hk fun x h => hn (by unfold Hole at h ⊢; omega))
        fun b hb => parity_X hb hj hk hn
    · rw [List.pairwise_map]
      refine List.Pairwise.imp_of_mem ?_ (crossX_nodup (Lx := Lx) (Ly := Ly) (Lz := Lz) 1)
      intro q q' hq hq' hne
      obtain ⟨j, k, _, _, rfl, _⟩ := crossX_one_cases hq
      obtain ⟨j', k', _, _, rfl, _⟩ := crossX_one_cases hq'
      rw [lineOf_eq, lineOf_eq]
      intro c h1 h2
      obtain ⟨x, _, rfl⟩ := mem_lineX.mp h1
      obtain ⟨x', _, e⟩ := mem_lineX.mp h2
      simp only [List.cons.injEq, and_true] at e
      exact hne (by rw [e.2.1, e.2.2])
  · refine .of_family Pauli.Z (crossX Lx Ly Lz) (Nat.min_le_left ..) (fun i hi =>
      ⟨crossX_nodup i, crossX_sub hi, fun b hb => ?_⟩) fun i i' h _ q hq hq' => ?_
    · rw [opAntiCount_uop_hit, parity_Z hb i hi, parity_Z hb (zIdx Lx) (zIdx_lt (by omega))]
    · obtain ⟨y, z, _, _, rfl, _⟩ := mem_crossX.mp hq
      obtain ⟨y', z', _, _, e, _⟩ := mem_crossX.mp hq'
      simp only [List.cons.injEq, and_true] at e; omega

end Panqec.HollowPlanar3DCode
