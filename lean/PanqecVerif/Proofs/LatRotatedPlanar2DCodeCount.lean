/-
RotatedPlanar2DCode, all sizes `Lx, Ly ≥ 1`: the number of stabilizer locations is
`Lx·Ly − 1 = n − k` (count of the `(x + y) % 4` guard over the two nested loops).
Core Lean only.
-/
import PanqecVerif.Proofs.LatRotatedPlanar2DCodeCss

namespace Panqec.RotatedPlanar2DCode
open Panqec.Lat2D

/-- among `b, b+2, b+4, …` (`n` terms) those `y` with `(c + y) % 4 = r`, when `c + b ≡ r (mod 2)`:
    every other one, the first included iff `(c + b) % 4 = r` -/
theorem countP_mod4 (c r : Int) (hr : 0 ≤ r ∧ r < 4) : ∀ (n b : Nat), (c + (b : Int)) % 2 = r % 2 →
    ((List.range' b n 2).map (fun k : Nat => (k : Int))).countP
        (fun y => decide ((c + y) % 4 = r))
      = if (c + (b : Int)) % 4 = r then (n + 1) / 2 else n / 2
  | 0, b, _ => by simp
  | n + 1, b, h => by
    rw [List.range'_succ, List.map_cons, List.countP_cons,
      countP_mod4 c r hr n (b + 2) (by omega)]
    simp only [decide_eq_true_eq]
    by_cases h1 : (c + (b : Int)) % 4 = r
    · have h2 : ¬ (c + ((b + 2 : Nat) : Int)) % 4 = r := by omega
      simp only [if_pos h1, if_neg h2]
      omega
    · have h2 : (c + ((b + 2 : Nat) : Int)) % 4 = r := by omega
      simp only [if_neg h1, if_pos h2]
      omega

/-- A checkerboard.  Of the sites `(x, y)`, `x ∈ a, a+2, …` (`m` values), `y ∈ b, b+2, …`
    (`n` values), those with `(x + y) % 4 = r` are every other one: two neighbouring columns hold
    `n` of them together, which leaves `⌈mn/2⌉` if the corner `(a, b)` is one and `⌊mn/2⌋` if not. -/
theorem sum_countP_mod4 (r : Int) (hr : 0 ≤ r ∧ r < 4) (n b : Nat) :
    ∀ (m a : Nat), ((a : Int) + b) % 2 = r % 2 →
    (((List.range' a m 2).map (fun k : Nat => (k : Int))).map fun x =>
        ((List.range' b n 2).map (fun k : Nat => (k : Int))).countP
          (fun y => decide ((x + y) % 4 = r))).sum
      = if ((a : Int) + b) % 4 = r then (m * n + 1) / 2 else m * n / 2
  | 0, a, _ => by simp
  | 1, a, h => by
    simp only [List.range'_one, List.map_cons, List.map_nil, List.sum_cons, List.sum_nil,
      Nat.add_zero, Nat.one_mul]
    exact countP_mod4 a r hr n b h
  | m + 2, a, h => by
    rw [List.range'_succ, List.range'_succ]
    simp only [List.map_cons, List.sum_cons]
    rw [sum_countP_mod4 r hr n b m (a + 2 + 2) (by omega), countP_mod4 _ r hr n b h,
      countP_mod4 _ r hr n b (by omega), Nat.add_mul]
    by_cases h1 : ((a : Int) + b) % 4 = r
    · have h2 : ¬ (((a + 2 : Nat) : Int) + b) % 4 = r := by omega
      have h3 : (((a + 2 + 2 : Nat) : Int) + b) % 4 = r := by omega
      simp only [if_pos h1, if_neg h2, if_pos h3]
      omega
    · have h2 : (((a + 2 : Nat) : Int) + b) % 4 = r := by omega
      have h3 : ¬ (((a + 2 + 2 : Nat) : Int) + b) % 4 = r := by omega
      simp only [if_neg h1, if_pos h2, if_neg h3]
      omega

theorem length_gridIf (xs ys : List Int) (p : Int → Int → Bool) :
    (gridIf xs ys p).length = (xs.map fun x => ys.countP (p x)).sum := by
  unfold gridIf
  induction xs with
  | nil => rfl
  | cons x xs ih =>
    simp only [List.flatMap_cons, List.length_append, List.length_map, List.map_cons,
      List.sum_cons, ih, List.countP_eq_length_filter]

theorem pyRange2_def (a b : Nat) :
    pyRange2 a b = (List.range' a ((b - a + 1) / 2) 2).map (fun n : Nat => (n : Int)) := rfl

/-- Number of stabilizer locations `= Lx·Ly − 1`.  The vertices are the checkerboard sites of an
    `(Lx−1) × (Ly+1)` board whose corner `(2, 0)` is one, the faces those of an `(Lx+1) × (Ly−1)`
    board whose corner `(0, 2)` is none; the two boards have `2·(Lx·Ly − 1)` sites together. -/
theorem length_stabs {Lx Ly : Nat} (hx : 1 ≤ Lx) (hy : 1 ≤ Ly) :
    (stabs Lx Ly).length + 1 = Lx * Ly := by
  unfold stabs
  rw [List.length_append, length_gridIf, length_gridIf, pyRange2_def, pyRange2_def, pyRange2_def,
    pyRange2_def, sum_countP_mod4 2 (by omega) _ _ _ _ (by omega),
    sum_countP_mod4 0 (by omega) _ _ _ _ (by omega), if_pos (by decide), if_neg (by decide)]
  obtain ⟨a, rfl⟩ : ∃ a, Lx = a + 1 := ⟨Lx - 1, by omega⟩
  obtain ⟨b, rfl⟩ : ∃ b, Ly = b + 1 := ⟨Ly - 1, by omega⟩
  have e1 : (2 * (a + 1) - 2 + 1) / 2 = a := by omega
  have e2 : (2 * (b + 1) + 1 - 0 + 1) / 2 = b + 2 := by omega
  have e3 : (2 * (a + 1) + 1 - 0 + 1) / 2 = a + 2 := by omega
  have e4 : (2 * (b + 1) - 2 + 1) / 2 = b := by omega
  rw [e1, e2, e3, e4, Nat.mul_add, Nat.add_mul, Nat.add_mul, Nat.mul_add]
  omega

end Panqec.RotatedPlanar2DCode
