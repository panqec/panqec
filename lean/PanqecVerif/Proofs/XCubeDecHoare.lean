/-
The one judgment about the writer/exception monad `Out` of `Model/XCubeDecoder.lean`:
`Spec o E P` — every exception `o` can raise is in `E`, every value it can return is in `P` — with
one rule per way of building an `Out` (pure, raise, note, emit, a dict look-up, bind, the `forM'`
loop) and the consequence rule.  A function that raises nothing is stated for every `E`, one whose
result is not constrained with `P := fun _ => True`, so that the bind rule composes specs without
conversions.  Core Lean only.
-/
import PanqecVerif.Model.XCubeDecoder

namespace Panqec.XCube

open Panqec

variable {W α β σ : Type}

@[simp] theorem Out.pure_val (a : α) : (Out.pure a : Out W α).val = .ok a := rfl
@[simp] theorem raise_val (e : XErr) : (raise e : Out W α).val = .error e := rfl
@[simp] theorem emit_val (ev : List (Event W)) : (emit ev).val = .ok () := rfl
@[simp] theorem note_val (t : Trace) : (note t : Out W Unit).val = .ok () := rfl

theorem Out.bind_val_ok {o : Out W α} {f : α → Out W β} {a : α} (h : o.val = .ok a) :
    (Out.bind o f).val = (f a).val := by
  unfold Out.bind; rw [h]

theorem Out.bind_val_error {o : Out W α} {f : α → Out W β} {e : XErr} (h : o.val = .error e) :
    (Out.bind o f).val = .error e := by
  unfold Out.bind; rw [h]

structure Spec (o : Out W α) (E : XErr → Prop) (P : α → Prop) : Prop where
  errs : ∀ e, o.val = .error e → E e
  post : ∀ a, o.val = .ok a → P a

abbrev Post (o : Out W α) (P : α → Prop) : Prop := Spec o (fun _ => True) P

abbrev Errs (o : Out W α) (E : XErr → Prop) : Prop := Spec o E (fun _ => True)

variable {E E' : XErr → Prop} {P Q : α → Prop}

theorem spec_of_val {o : Out W α} (h : match o.val with | .ok a => P a | .error e => E e) : Spec o E P :=
  ⟨fun e he => by rw [he] at h; exact h, fun a ha => by rw [ha] at h; exact h⟩

theorem spec_pure {a : α} (h : P a) : Spec (Out.pure a : Out W α) E P := spec_of_val h

theorem spec_raise {e : XErr} (h : E e) : Spec (raise e : Out W α) E P := spec_of_val h

theorem spec_note (t : Trace) : Errs (note t : Out W Unit) E := spec_of_val trivial

theorem spec_emit (ev : List (Event W)) : Errs (emit ev) E := spec_of_val trivial

theorem spec_orKeyError {key : Coord} {o : Option α} (hE : o = none → E (.keyError key))
    (hP : ∀ a, o = some a → P a) : Spec (orKeyError key o : Out W α) E P := by
  cases o with
  | none => exact spec_raise (hE rfl)
  | some a => exact spec_pure (hP a rfl)

theorem spec_bind {o : Out W α} {f : α → Out W β} {P : β → Prop}
    (ho : Spec o E Q) (hf : ∀ a, Q a → Spec (f a) E P) : Spec (Out.bind o f) E P := by
  cases h : o.val with
  | error e => exact ⟨fun e' he => by rw [Out.bind_val_error h] at he; cases he; exact ho.errs e h,
      fun b hb => by rw [Out.bind_val_error h] at hb; cases hb⟩
  | ok a => exact ⟨fun e he => (hf a (ho.post a h)).errs e (by rwa [Out.bind_val_ok h] at he),
      fun b hb => (hf a (ho.post a h)).post b (by rwa [Out.bind_val_ok h] at hb)⟩

/-- `spec_bind` with nothing said of the intermediate value: no `Q` to supply at a `refine` -/
theorem errs_bind {o : Out W α} {f : α → Out W β} (ho : Errs o E) (hf : ∀ a, Errs (f a) E) :
    Errs (Out.bind o f) E :=
  spec_bind ho fun a _ => hf a

theorem Spec.imp {o : Out W α} (h : Spec o E P) (hE : ∀ e, E e → E' e) (hP : ∀ a, P a → Q a) : Spec o E' Q :=
  ⟨fun e he => hE e (h.errs e he), fun a ha => hP a (h.post a ha)⟩

theorem Spec.mono {o : Out W α} (h : Spec o E P) (hP : ∀ a, P a → Q a) : Spec o E Q := h.imp (fun _ => id) hP

theorem Spec.withPost {o : Out W α} {Q' : α → Prop} (h : Spec o E Q') (h' : Spec o E' P) : Spec o E P :=
  ⟨h.errs, h'.post⟩

theorem post_true (o : Out W α) : Post o (fun _ => True) := ⟨fun _ _ => trivial, fun _ _ => trivial⟩

/-- the invariant sees the prefix of the list already processed -/
theorem spec_forM'_prefix {l : List α} {f : σ → α → Out W σ} (I : List α → σ → Prop)
    (hstep : ∀ pre a post st, l = pre ++ a :: post → I pre st → Spec (f st a) E (I (pre ++ [a]))) :
    ∀ (pre rest : List α) (st : σ), l = pre ++ rest → I pre st → Spec (forM' rest st f) E (I l) := by
  intro pre rest
  induction rest generalizing pre with
  | nil =>
    intro st hl hI
    rw [List.append_nil] at hl
    subst hl
    exact spec_pure hI
  | cons a rest ih =>
    intro st hl hI
    unfold forM'
    exact spec_bind (hstep pre a rest st hl hI) fun st' hst' => ih (pre ++ [a]) st' (by simp [hl]) hst'

theorem spec_forM' {l : List α} {f : σ → α → Out W σ} (I : σ → Prop)
    (hstep : ∀ st a, a ∈ l → I st → Spec (f st a) E I) (init : σ) (h0 : I init) :
    Spec (forM' l init f) E I :=
  spec_forM'_prefix (l := l) (fun _ => I)
    (fun _ a _ st hl hI => hstep st a (by rw [hl]; exact List.mem_append_right _ (List.mem_cons_self ..)) hI)
    [] l init rfl h0

end Panqec.XCube
