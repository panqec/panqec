/-
Geometry of C10, what the four lattices share.  Both Python tables are indexed by a residue class of
the location (`cls`: the parities for the cubic lattices, `(x % 4, y % 4, z % 2)` for the rotated
ones): `flip_edge` toggles `q + d`, `d ∈ eD (cls q)`, and `get_stabilizer` puts X on `s + d`,
`d ∈ xD (cls s)`.  Each table lists the unit neighbours of the other kind (`NbrTables`: finite
checks), so a face is toggled by an edge iff it carries X there (`NbrTables.toggled_iff`), whatever
the lattice does to `q + d` afterwards (wrap it, or drop it at a boundary).
-/
import PanqecVerif.Proofs.SweepLattice

namespace Panqec.Sweep

def negLoc (d : Loc) : Loc := (-d.1, -d.2.1, -d.2.2)

theorem negLoc_negLoc (d : Loc) : negLoc (negLoc d) = d := by
  simp only [negLoc, Int.neg_neg]

theorem addLoc_negLoc (l d : Loc) : addLoc (addLoc l d) (negLoc d) = l := by
  simp only [addLoc, negLoc, Int.add_neg_cancel_right]

theorem addLoc_negLoc' (l d : Loc) : addLoc (addLoc l (negLoc d)) d = l := by
  simp only [addLoc, negLoc, Int.neg_add_cancel_right]

theorem addLoc_left_cancel {l d d' : Loc} (h : addLoc l d = addLoc l d') : d = d' := by
  simp only [addLoc, Prod.mk.injEq] at h
  exact Prod.ext (Int.add_left_cancel h.1)
    (Prod.ext (Int.add_left_cancel h.2.1) (Int.add_left_cancel h.2.2))

/-- `flip_edge`'s offsets `eD` on the classes of edges and `get_stabilizer`'s X offsets `xD` on the
    classes of faces: each lists the steps `d ∈ units` that lead to a location of the other kind -/
structure NbrTables (cls : Loc → Loc) (units edgeCls faceCls : List Loc) (eD xD : Loc → List Loc) :
    Prop where
  cls_add : ∀ l d, cls (addLoc l d) = cls (addLoc (cls l) d)
  neg : ∀ d ∈ units, negLoc d ∈ units
  edge : ∀ p ∈ edgeCls, (∀ d ∈ eD p, d ∈ units) ∧
    ∀ d ∈ units, (d ∈ eD p ↔ cls (addLoc p d) ∈ faceCls)
  face : ∀ p ∈ faceCls, (∀ d ∈ xD p, d ∈ units) ∧
    ∀ d ∈ units, (d ∈ xD p ↔ cls (addLoc p d) ∈ edgeCls)

namespace NbrTables
variable {cls : Loc → Loc} {units edgeCls faceCls : List Loc} {eD xD : Loc → List Loc}
  (T : NbrTables cls units edgeCls faceCls eD xD)
include T

theorem mem_eD {q : Loc} (hq : cls q ∈ edgeCls) (d : Loc) :
    d ∈ eD (cls q) ↔ d ∈ units ∧ cls (addLoc q d) ∈ faceCls := by
  rw [T.cls_add]
  exact ⟨fun h => ⟨(T.edge _ hq).1 d h, ((T.edge _ hq).2 d ((T.edge _ hq).1 d h)).mp h⟩,
    fun h => ((T.edge _ hq).2 d h.1).mpr h.2⟩

theorem mem_xD {s : Loc} (hs : cls s ∈ faceCls) (d : Loc) :
    d ∈ xD (cls s) ↔ d ∈ units ∧ cls (addLoc s d) ∈ edgeCls := by
  rw [T.cls_add]
  exact ⟨fun h => ⟨(T.face _ hs).1 d h, ((T.face _ hs).2 d ((T.face _ hs).1 d h)).mp h⟩,
    fun h => ((T.face _ hs).2 d h.1).mpr h.2⟩

/-- `W`, `V`: what the lattice does to `q + d` in `flip_edge` and to `s + d` in `get_stabilizer`
    (wrap it, or nothing); `ok`: what else `get_stabilizer` asks before it writes X (the letter rule
    of the defect lines).  The classes `flip_edge` sees (`hkind`) need not survive `W`. -/
theorem toggled_iff_of (W V : Loc → Loc) (ok : Prop) {q s : Loc} (hq : cls q ∈ edgeCls)
    (hs : cls s ∈ faceCls)
    (hstep : ∀ d ∈ units, W (addLoc q d) = s ↔ V (addLoc s (negLoc d)) = q)
    (hkind : ∀ d ∈ units, W (addLoc q d) = s →
      (cls (addLoc q d) ∈ faceCls ↔ cls (addLoc s (negLoc d)) ∈ edgeCls ∧ ok)) :
    (∃ d ∈ eD (cls q), W (addLoc q d) = s) ↔ (∃ d ∈ xD (cls s), V (addLoc s d) = q) ∧ ok := by
  constructor
  · rintro ⟨d, hd, h⟩
    obtain ⟨hu, hf⟩ := (T.mem_eD hq d).mp hd
    obtain ⟨he, hok⟩ := (hkind d hu h).mp hf
    exact ⟨⟨negLoc d, (T.mem_xD hs _).mpr ⟨T.neg d hu, he⟩, (hstep d hu).mp h⟩, hok⟩
  · rintro ⟨⟨d, hd, h⟩, hok⟩
    obtain ⟨hu, he⟩ := (T.mem_xD hs d).mp hd
    have hu' := T.neg d hu
    have h' : W (addLoc q (negLoc d)) = s := (hstep _ hu').mpr (by rw [negLoc_negLoc]; exact h)
    refine ⟨negLoc d, (T.mem_eD hq _).mpr ⟨hu', (hkind _ hu' h').mpr ⟨?_, hok⟩⟩, h'⟩
    rw [negLoc_negLoc]
    exact he

theorem toggled_iff (W V : Loc → Loc) (hW : ∀ l, cls (W l) = cls l) (hV : ∀ l, cls (V l) = cls l)
    {q s : Loc} (hq : cls q ∈ edgeCls) (hs : cls s ∈ faceCls)
    (hstep : ∀ d ∈ units, W (addLoc q d) = s ↔ V (addLoc s (negLoc d)) = q) :
    (∃ d ∈ eD (cls q), W (addLoc q d) = s) ↔ ∃ d ∈ xD (cls s), V (addLoc s d) = q := by
  rw [T.toggled_iff_of W V True hq hs hstep fun d hd h => ?_, and_true]
  exact iff_of_true (by rw [← hW, h]; exact hs)
    ⟨by rw [← hV, (hstep d hd).mp h]; exact hq, trivial⟩

theorem toggled_face (W : Loc → Loc) (hW : ∀ l, cls (W l) = cls l) {q s d : Loc}
    (hq : cls q ∈ edgeCls) (hd : d ∈ eD (cls q)) (h : W (addLoc q d) = s) : cls s ∈ faceCls := by
  rw [← h, hW]
  exact ((T.mem_eD hq d).mp hd).2

end NbrTables
end Panqec.Sweep
