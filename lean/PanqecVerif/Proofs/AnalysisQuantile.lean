/-
Helper lemmas (C16): the linear-interpolation quantile is monotone in `q`
(hence the median lies between the 0.16 and 0.84 quantiles).
-/
import PanqecVerif.Proofs.AnalysisFss
import Mathlib.Data.Rat.Floor

namespace Panqec.An

/-- value of the interpolation on a sorted list (default `x` never used when non-empty) -/
def qval (srt : List Rat) (x q : Rat) : Rat :=
  let pos := ((srt.length : Rat) - 1) * q
  let i := pos.floor.toNat
  let g := pos - (i : Rat)
  let lo := srt.getD i x
  let hi := srt.getD (i + 1) lo
  lo + (hi - lo) * g

theorem quantile_eq_qval {a : List Rat} {x : Rat} {xs : List Rat} (h : sortRat a = x :: xs) (q : Rat) :
    quantile a q = some (qval (x :: xs) x q) := by
  unfold quantile
  rw [h]
  rfl

theorem quantile_some (a : List Rat) (q : Rat) (ha : a ≠ []) : ∃ v, quantile a q = some v := by
  cases h : quantile a q with
  | none => exact absurd ((quantile_none_iff a q).mp h) ha
  | some v => exact ⟨v, rfl⟩

theorem floor_facts {pos : Rat} (h0 : 0 ≤ pos) :
    ((pos.floor.toNat : Nat) : Rat) ≤ pos ∧ pos < ((pos.floor.toNat : Nat) : Rat) + 1 := by
  have hfl : Int.floor pos = pos.floor := rfl
  have hnn : 0 ≤ pos.floor := by rw [← hfl]; exact Int.floor_nonneg.mpr h0
  have hcast : ((pos.floor.toNat : Nat) : Rat) = ((pos.floor : Int) : Rat) := by
    have := Int.toNat_of_nonneg hnn
    exact_mod_cast congrArg (fun z : Int => (z : Rat)) this
  rw [hcast, ← hfl]
  exact ⟨Int.floor_le pos, Int.lt_floor_add_one pos⟩

/-- linear interpolation between `lo ≤ hi` is monotone in the fraction -/
theorem lerp_mono {lo hi g₁ g₂ : Rat} (h : lo ≤ hi) (hg : g₁ ≤ g₂) :
    lo + (hi - lo) * g₁ ≤ lo + (hi - lo) * g₂ :=
  add_le_add_right (mul_le_mul_of_nonneg_left hg (sub_nonneg.mpr h)) lo

/-- the segment `[i, i+1)` that holds the virtual index, and the value between its two order statistics -/
theorem qval_bounds {srt : List Rat} (x : Rat) (hs : srt.Pairwise (· ≤ ·)) (hn : 0 < srt.length)
    {q : Rat} (h0 : 0 ≤ q) (h1 : q ≤ 1) :
    let pos := ((srt.length : Rat) - 1) * q
    let i := pos.floor.toNat
    i < srt.length ∧ (i : Rat) ≤ pos ∧ pos < (i : Rat) + 1 ∧
      srt.getD i x ≤ srt.getD (i + 1) (srt.getD i x) ∧
      srt.getD i x ≤ qval srt x q ∧ qval srt x q ≤ srt.getD (i + 1) (srt.getD i x) := by
  intro pos i
  have hn1 : (1 : Rat) ≤ (srt.length : Rat) := by exact_mod_cast hn
  have hposn : pos ≤ (srt.length : Rat) - 1 := mul_le_of_le_one_right (sub_nonneg.mpr hn1) h1
  obtain ⟨hf1, hf2⟩ := floor_facts (mul_nonneg (sub_nonneg.mpr hn1) h0 : 0 ≤ pos)
  have hi : i < srt.length := by
    have : (i : Rat) + 1 ≤ (srt.length : Rat) := by linarith
    exact_mod_cast this
  have hlohi : srt.getD i x ≤ srt.getD (i + 1) (srt.getD i x) := by
    by_cases h : i + 1 < srt.length
    · exact sorted_getD_le hs (Nat.le_succ i) h _ _
    · rw [getD_of_length_le srt (i + 1) _ (Nat.le_of_not_lt h)]
  refine ⟨hi, hf1, hf2, hlohi, ?_, ?_⟩
  · have := lerp_mono hlohi (sub_nonneg.mpr hf1)
    rwa [mul_zero, add_zero] at this
  · have := lerp_mono hlohi (sub_le_iff_le_add'.mpr hf2.le)
    rwa [mul_one, add_sub_cancel] at this

theorem qval_mono {srt : List Rat} (x : Rat) (hs : srt.Pairwise (· ≤ ·)) (hn : 0 < srt.length)
    {q₁ q₂ : Rat} (h0 : 0 ≤ q₁) (h12 : q₁ ≤ q₂) (h1 : q₂ ≤ 1) : qval srt x q₁ ≤ qval srt x q₂ := by
  have b₁ := qval_bounds x hs hn h0 (h12.trans h1)
  have b₂ := qval_bounds x hs hn (h0.trans h12) h1
  have hpos : ((srt.length : Rat) - 1) * q₁ ≤ ((srt.length : Rat) - 1) * q₂ :=
    mul_le_mul_of_nonneg_left h12 (sub_nonneg.mpr (by exact_mod_cast hn))
  simp only [qval] at b₁ b₂ ⊢
  generalize ((srt.length : Rat) - 1) * q₁ = p₁ at *
  generalize ((srt.length : Rat) - 1) * q₂ = p₂ at *
  generalize p₁.floor.toNat = i₁ at *
  generalize p₂.floor.toNat = i₂ at *
  obtain ⟨-, hf₁, hg₁, hlh₁, -, hhi₁⟩ := b₁
  obtain ⟨hi₂, hf₂, hg₂, -, hlo₂, -⟩ := b₂
  have hile : i₁ < i₂ + 1 := by exact_mod_cast (by linarith : (i₁ : Rat) < i₂ + 1)
  rcases (Nat.le_of_lt_succ hile).eq_or_lt with rfl | hlt
  · -- same segment
    exact lerp_mono hlh₁ (by linarith)
  · -- different segments: value₁ ≤ hi₁ ≤ lo₂ ≤ value₂
    exact hhi₁.trans ((sorted_getD_le hs hlt hi₂ _ _).trans hlo₂)

/-- monotone in `q`: in particular `quantile 0.16 ≤ median ≤ quantile 0.84` -/
theorem quantile_mono (a : List Rat) {q₁ q₂ : Rat} (h0 : 0 ≤ q₁) (h12 : q₁ ≤ q₂) (h1 : q₂ ≤ 1)
    {v₁ v₂ : Rat} (e₁ : quantile a q₁ = some v₁) (e₂ : quantile a q₂ = some v₂) : v₁ ≤ v₂ := by
  cases hs : sortRat a with
  | nil =>
    rw [(quantile_none_iff a q₁).mpr (sortRat_eq_nil.mp hs)] at e₁
    cases e₁
  | cons x xs =>
    rw [quantile_eq_qval hs] at e₁ e₂
    injection e₁ with e₁
    injection e₂ with e₂
    rw [← e₁, ← e₂]
    have hp := sortRat_pairwise a
    rw [hs] at hp
    exact qval_mono x hp (by simp) h0 h12 h1

end Panqec.An
