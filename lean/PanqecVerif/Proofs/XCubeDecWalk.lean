/-
The fuel of the `get_matched_pairs` walk in `Model/XCubeDecoder.lean` is exact: the walk is a
deterministic function of the state (stabilizer, previous qubit); a proper matrix with `rows` rows
and `cols` columns has at most `rows · (cols + 1)` such states, so a walk that is still running
after that many steps has repeated a state and runs forever (pigeonhole).  Hence, on a proper
matrix, the walk runs out of its fuel exactly when the Python `while` loop does not terminate.
-/
import Mathlib.Data.Finset.Card
import PanqecVerif.Proofs.XCubeDecMatch

namespace Panqec.XCube

open Panqec

/-- state of the walk: current stabilizer, previous qubit -/
abbrev WState := Nat × Option Nat

/-- one round of the `while` loop as a partial function on states (`none` = the loop ends) -/
def wstep (H : Mat) (corr : Vec) (s : WState) : Option WState :=
  (walkStep H corr s.1 s.2).map fun p => (p.1, some p.2)

/-- state after `k` rounds (`none` = the loop ended earlier) -/
def witer (H : Mat) (corr : Vec) : Nat → WState → Option WState
  | 0, s => some s
  | k + 1, s => (wstep H corr s).bind (witer H corr k)

theorem walk_none_iff (H : Mat) (corr : Vec) : ∀ (fuel : Nat) (s : WState),
    walk H corr fuel s.1 s.2 = none ↔ (witer H corr fuel s).isSome = true
  | 0, s => by simp [walk, witer]
  | fuel + 1, s => by
    unfold walk witer wstep
    cases h : walkStep H corr s.1 s.2 with
    | none => simp
    | some p =>
      simp only [Option.map_some, Option.bind_some]
      exact walk_none_iff H corr fuel (p.1, some p.2)

theorem witer_add (H : Mat) (corr : Vec) : ∀ (a b : Nat) (s : WState),
    witer H corr (a + b) s = (witer H corr a s).bind (witer H corr b)
  | 0, b, s => by simp [witer]
  | a + 1, b, s => by
    have h1 : witer H corr (a + 1 + b) s = (wstep H corr s).bind (witer H corr (a + b)) := by
      rw [Nat.add_right_comm]; rfl
    have h2 : witer H corr (a + 1) s = (wstep H corr s).bind (witer H corr a) := rfl
    rw [h1, h2]
    cases h : wstep H corr s with
    | none => simp
    | some t => simp only [Option.bind_some]; exact witer_add H corr a b t

theorem witer_isSome_mono (H : Mat) (corr : Vec) (a b : Nat) (s : WState) (hab : a ≤ b)
    (h : (witer H corr b s).isSome = true) : (witer H corr a s).isSome = true := by
  obtain ⟨c, rfl⟩ := Nat.exists_eq_add_of_le hab
  rw [witer_add] at h
  cases ha : witer H corr a s with
  | none => rw [ha] at h; simp at h
  | some t => simp

/-- the states of a walk that starts at a row of a proper matrix -/
def WBounded (rows cols : Nat) (s : WState) : Prop := s.1 < rows ∧ ∀ q, s.2 = some q → q < cols

theorem wstep_bounded (H : Mat) (corr : Vec) (cols : Nat) (hcols : ∀ r ∈ H, r.length = cols)
    (s t : WState) (hs : WBounded H.length cols s) (h : wstep H corr s = some t) :
    WBounded H.length cols t := by
  unfold wstep at h
  cases hw : walkStep H corr s.1 s.2 with
  | none => rw [hw] at h; cases h
  | some p =>
    rw [hw] at h
    simp only [Option.map_some, Option.some.injEq] at h
    subst h
    obtain ⟨hqmem, _⟩ := walkStep_some hw
    have hqlt : p.2 < cols := by
      have := mem_nonzeroIdx hqmem
      have hrow : (H.getD s.1 []).length = cols := by
        simp only [List.getD, List.getElem?_eq_getElem hs.1, Option.getD_some]
        exact hcols _ (List.getElem_mem _)
      omega
    exact ⟨walkStep_lt (Nat.le_refl _) hs.1 hw, fun q' hq' => by simp only [Option.some.injEq] at hq'; omega⟩

theorem witer_bounded (H : Mat) (corr : Vec) (cols : Nat) (hcols : ∀ r ∈ H, r.length = cols) :
    ∀ (k : Nat) (s t : WState), WBounded H.length cols s → witer H corr k s = some t →
      WBounded H.length cols t
  | 0, s, t, hs, h => by simp only [witer, Option.some.injEq] at h; exact h ▸ hs
  | k + 1, s, t, hs, h => by
    unfold witer at h
    cases hw : wstep H corr s with
    | none => rw [hw] at h; cases h
    | some u =>
      rw [hw] at h
      exact witer_bounded H corr cols hcols k u t (wstep_bounded H corr cols hcols s u hs hw) h

def wtag : Option Nat → Nat
  | none => 0
  | some q => q + 1

/-- injective code of a bounded state -/
def wcode (cols : Nat) (s : WState) : Nat := s.1 * (cols + 1) + wtag s.2

theorem wtag_lt {rows cols : Nat} {s : WState} (h : WBounded rows cols s) : wtag s.2 < cols + 1 := by
  cases hq : s.2 with
  | none => exact Nat.succ_pos _
  | some q => exact Nat.succ_lt_succ (h.2 q hq)

theorem wcode_lt (rows cols : Nat) (s : WState) (h : WBounded rows cols s) :
    wcode cols s < rows * (cols + 1) :=
  calc s.1 * (cols + 1) + wtag s.2 < s.1 * (cols + 1) + (cols + 1) := Nat.add_lt_add_left (wtag_lt h) _
    _ = (s.1 + 1) * (cols + 1) := (Nat.succ_mul ..).symm
    _ ≤ rows * (cols + 1) := Nat.mul_le_mul_right _ h.1

theorem wcode_inj (rows cols : Nat) (s t : WState) (hs : WBounded rows cols s) (ht : WBounded rows cols t)
    (h : wcode cols s = wcode cols t) : s = t := by
  unfold wcode at h
  have hs2 := wtag_lt hs
  have ht2 := wtag_lt ht
  have h1 : s.1 = t.1 := by
    have := congrArg (fun v => v / (cols + 1)) h
    rwa [Nat.mul_comm s.1, Nat.mul_comm t.1, Nat.mul_add_div (by omega), Nat.mul_add_div (by omega),
      Nat.div_eq_of_lt hs2, Nat.div_eq_of_lt ht2, Nat.add_zero, Nat.add_zero] at this
  have h2 : wtag s.2 = wtag t.2 := by
    rw [h1] at h; omega
  obtain ⟨s1, s2⟩ := s
  obtain ⟨t1, t2⟩ := t
  simp only at h1 h2 ⊢
  subst h1
  cases s2 <;> cases t2 <;> simp_all [wtag]

/-- **pigeonhole**: a walk still running after `rows · (cols + 1)` rounds runs forever -/
theorem witer_alive_forever (H : Mat) (corr : Vec) (cols : Nat) (hcols : ∀ r ∈ H, r.length = cols)
    (s : WState) (hs : WBounded H.length cols s)
    (h : (witer H corr (H.length * (cols + 1)) s).isSome = true) :
    ∀ k, (witer H corr k s).isSome = true := by
  set N := H.length * (cols + 1) with hN
  have hstate : ∀ i, i ≤ N → ∃ t, witer H corr i s = some t ∧ WBounded H.length cols t := by
    intro i hi
    have := witer_isSome_mono H corr i N s hi h
    cases ht : witer H corr i s with
    | none => rw [ht] at this; simp at this
    | some t => exact ⟨t, rfl, witer_bounded H corr cols hcols i s t hs ht⟩
  let f : Nat → Nat := fun i => match witer H corr i s with
    | some t => wcode cols t
    | none => 0
  have hmaps : Set.MapsTo f (Finset.range (N + 1) : Finset Nat) (Finset.range N : Finset Nat) := by
    intro i hi
    simp only [Finset.coe_range, Set.mem_Iio] at hi ⊢
    obtain ⟨t, ht, hb⟩ := hstate i (by omega)
    simp only [f, ht]
    exact wcode_lt _ _ t hb
  obtain ⟨i, hi, j, hj, hij, hf⟩ := Finset.exists_ne_map_eq_of_card_lt_of_maps_to
    (by simp : (Finset.range N).card < (Finset.range (N + 1)).card) hmaps
  simp only [Finset.mem_range] at hi hj
  -- wlog i < j
  have key : ∀ i j, i < j → j ≤ N → f i = f j → ∀ k, (witer H corr k s).isSome = true := by
    intro i j hlt hjN hf
    obtain ⟨ti, hti, hbi⟩ := hstate i (by omega)
    obtain ⟨tj, htj, hbj⟩ := hstate j hjN
    simp only [f, hti, htj] at hf
    have heq : ti = tj := wcode_inj _ _ ti tj hbi hbj hf
    subst heq
    intro k
    induction k using Nat.strong_induction_on with
    | _ k ih =>
      by_cases hk : k ≤ j
      · exact witer_isSome_mono H corr k N s (by omega) h
      · obtain ⟨m, rfl⟩ := Nat.exists_eq_add_of_le (Nat.le_of_lt (Nat.lt_of_not_le hk))
        rw [witer_add, htj, ← hti, ← witer_add]
        exact ih (i + m) (by omega)
  rcases Nat.lt_or_gt_of_ne hij with hlt | hgt
  · exact key i j hlt (by omega) hf
  · exact key j i hgt (by omega) hf.symm

theorem walk_fuel_exact (H : Mat) (corr : Vec) (hcols : ∀ r ∈ H, r.length = (H.headD []).length)
    (sp : Nat) (hsp : sp < H.length) (h : walk H corr (walkFuel H) sp none = none) :
    ∀ fuel, walk H corr fuel sp none = none := by
  intro fuel
  have hb : WBounded H.length (H.headD []).length (sp, none) := ⟨hsp, fun q hq => by cases hq⟩
  rw [walk_none_iff H corr _ (sp, none)] at h ⊢
  unfold walkFuel at h
  exact witer_alive_forever H corr _ hcols (sp, none) hb
    (witer_isSome_mono H corr _ _ _ (Nat.le_succ _) h) fuel

end Panqec.XCube
