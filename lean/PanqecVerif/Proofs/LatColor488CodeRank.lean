/-
Color488Code, all sizes `Lx, Ly ≥ 1`: an independent family of `n − k = 8·Lx·Ly − 4` generators.
Selected: the X and the Z generator of every face centre in `[0, 8Lx) × [0, 8Ly)` (the seam rows
are copies) except the green octagon `(0, 4)` and the blue octagon `(4, 0)`.  Triangular
single-qubit probes (each qubit lies on one square, one green and one blue octagon):

* columns `x = 0` and `x = 4` are peeled upwards from the hole, level by level in `y`, the octagon
  of a level before its square — probes `(1, ·)` / `(3, ·)` between the two columns, whose two
  other faces are one level down (or removed, or the octagon of the same level);
* every column `x ≥ 8` after all columns to its left, octagons before squares — probe on the left
  side `(x−3, y+1)` / `(x−1, y+1)`, whose other faces are in the column `x − 4` (or the octagon
  `(x, y+4)` of the same column for a square); wrap-around in `y` is harmless.

Whether a wrapped corner `a + d` of the face `a` lies on the face `b` is a condition on the two
offsets `(b − a) % 8L` (multiples of 4) of `b` from `a`: in one direction, `a + d` is at distance `k`
from `b` iff the offset is `off (8L) d k`.  A face `t ≠ s` containing the probe of `s` is one of the
two other faces around that qubit, which are removed or of strictly smaller rank.
-/
import PanqecVerif.Proofs.Lat2DRank
import PanqecVerif.Proofs.LatColor488CodeCss
import PanqecVerif.Proofs.ColorFaces

namespace Panqec.Color488Code
open Panqec.Lat2D Panqec.Color

/-- the offset of `b` from `a` (modulo `m`) for which `a + d` is at distance `k` from `b`: none if
    `|d| = k`, else one step of 4 in the direction of `d` -/
def off (m d k : Int) : Int := if d = k ∨ d = -k then 0 else if 0 < d then 4 else m - 4

theorem wrap_eq_iff {L : Nat} (hL : 1 ≤ L) {a b d k : Int} (ha : a % 4 = 0) (hb : b % 4 = 0)
    (hd : d = 1 ∨ d = -1 ∨ d = 3 ∨ d = -3) (hk : k = 1 ∨ k = 3) :
    ((a + d) % (8 * (L : Int)) = (b + k) % (8 * (L : Int)) ∨
      (a + d) % (8 * (L : Int)) = (b + -k) % (8 * (L : Int))) ↔
      (b - a) % (8 * (L : Int)) = off (8 * (L : Int)) d k := by
  obtain ⟨c0, c2, c4, c6, n2, n4, n6⟩ := consts hL
  obtain ⟨r0, r1, r8⟩ := Cyclic.emod_window (m := 8 * (L : Int)) (by omega) (b - a) ⟨(L : Int), rfl⟩
  have r4 : (b - a) % (8 * (L : Int)) % 4 = 0 := by omega
  clear r8 ha hb
  rw [emod_bridge, emod_bridge]
  generalize (b - a) % (8 * (L : Int)) = e at *
  rcases hd with rfl | rfl | rfl | rfl <;> rcases hk with rfl | rfl <;>
    simp only [off, Int.reduceSub, Int.reduceNeg, Int.reduceEq, Int.reduceLT, or_self, or_false,
      false_or, if_true, if_false] <;> omega

section
variable {Lx Ly : Nat} {ax ay bx by' dx dy : Int}

theorem corner_mem_sqC (hx : 1 ≤ Lx) (hy : 1 ≤ Ly) (ha : IsF Lx Ly ax ay) (hb : IsF Lx Ly bx by')
    (hdx : dx = 1 ∨ dx = -1 ∨ dx = 3 ∨ dx = -3) (hdy : dy = 1 ∨ dy = -1 ∨ dy = 3 ∨ dy = -3) :
    [(ax + dx) % (8 * (Lx : Int)), (ay + dy) % (8 * (Ly : Int))] ∈ sqC Lx Ly bx by' ↔
      (bx - ax) % (8 * (Lx : Int)) = off (8 * (Lx : Int)) dx 1 ∧
      (by' - ay) % (8 * (Ly : Int)) = off (8 * (Ly : Int)) dy 1 := by
  rw [mem_sqC, wrap_eq_iff hx ha.1 hb.1 hdx (Or.inl rfl), wrap_eq_iff hy ha.2.1 hb.2.1 hdy (Or.inl rfl)]

theorem corner_mem_ocC (hx : 1 ≤ Lx) (hy : 1 ≤ Ly) (ha : IsF Lx Ly ax ay) (hb : IsF Lx Ly bx by')
    (hdx : dx = 1 ∨ dx = -1 ∨ dx = 3 ∨ dx = -3) (hdy : dy = 1 ∨ dy = -1 ∨ dy = 3 ∨ dy = -3) :
    [(ax + dx) % (8 * (Lx : Int)), (ay + dy) % (8 * (Ly : Int))] ∈ ocC Lx Ly bx by' ↔
      ((bx - ax) % (8 * (Lx : Int)) = off (8 * (Lx : Int)) dx 1 ∧
        (by' - ay) % (8 * (Ly : Int)) = off (8 * (Ly : Int)) dy 3) ∨
      ((bx - ax) % (8 * (Lx : Int)) = off (8 * (Lx : Int)) dx 3 ∧
        (by' - ay) % (8 * (Ly : Int)) = off (8 * (Ly : Int)) dy 1) := by
  rw [mem_ocC, wrap_eq_iff hx ha.1 hb.1 hdx (Or.inl rfl), wrap_eq_iff hy ha.2.1 hb.2.1 hdy (Or.inl rfl),
    wrap_eq_iff hx ha.1 hb.1 hdx (Or.inr rfl), wrap_eq_iff hy ha.2.1 hb.2.1 hdy (Or.inr rfl)]

end

def IsC (Lx Ly : Nat) (x y : Int) : Prop :=
  x % 4 = 0 ∧ y % 4 = 0 ∧ 0 ≤ x ∧ x < 8 * (Lx : Int) ∧ 0 ≤ y ∧ y < 8 * (Ly : Int)

/-! `canonFaces`, `selFaces`, `sel` (the selected stabilizer locations): defined in
    `Model/Lattices/Color488Code.lean` (linked into the driver, op `rankfamily`) -/

theorem mem_canonFaces {Lx Ly : Nat} {q : Coord} :
    q ∈ canonFaces Lx Ly ↔ ∃ x y, q = [x, y] ∧ IsC Lx Ly x y := by
  unfold canonFaces IsC
  simp only [mem_grid, (mem_pyRangeStep (s := 4) (by decide))]
  constructor
  · rintro ⟨x, y, hx, hy, rfl⟩; refine ⟨x, y, rfl, ?_⟩; omega
  · rintro ⟨x, y, rfl, h⟩; exact ⟨x, y, by omega, by omega, rfl⟩

theorem nodup_canonFaces (Lx Ly : Nat) : (canonFaces Lx Ly).Nodup :=
  nodup_grid (nodup_pyRangeStep _ _ _ (by decide)) (nodup_pyRangeStep _ _ _ (by decide))

theorem mem_selFaces_q {Lx Ly : Nat} {q : Coord} : q ∈ selFaces Lx Ly ↔
    ∃ x y, q = [x, y] ∧ (IsC Lx Ly x y ∧ ¬ (x = 0 ∧ y = 4) ∧ ¬ (x = 4 ∧ y = 0)) := by
  unfold selFaces
  simp only [List.mem_filter, Bool.and_eq_true, bne_iff_ne, ne_eq, mem_canonFaces]
  constructor
  · rintro ⟨⟨x, y, rfl, hf⟩, h1, h2⟩
    exact ⟨x, y, rfl, hf, by simpa using h1, by simpa using h2⟩
  · rintro ⟨x, y, rfl, hf, h1, h2⟩
    exact ⟨⟨x, y, rfl, hf⟩, by simpa using h1, by simpa using h2⟩

theorem mem_selFaces {Lx Ly : Nat} {x y : Int} : [x, y] ∈ selFaces Lx Ly ↔
    IsC Lx Ly x y ∧ ¬ (x = 0 ∧ y = 4) ∧ ¬ (x = 4 ∧ y = 0) := mem_pair_iff mem_selFaces_q

theorem mem_sel {Lx Ly : Nat} {s : Coord} :
    s ∈ sel Lx Ly ↔ ∃ x y p, s = [x, y, p] ∧ IsC Lx Ly x y ∧ ¬ (x = 0 ∧ y = 4) ∧ ¬ (x = 4 ∧ y = 0) ∧
      (p = 0 ∨ p = 1) := by
  unfold sel
  simp only [mem_both_iff mem_selFaces_q, and_assoc]

theorem nodup_sel (Lx Ly : Nat) : (sel Lx Ly).Nodup :=
  nodup_both ((nodup_canonFaces Lx Ly).sublist List.filter_sublist)

theorem sel_subset {Lx Ly : Nat} : ∀ s ∈ sel Lx Ly, s ∈ stabs Lx Ly := by
  intro s hs
  obtain ⟨x, y, p, rfl, hc, _, _, hp⟩ := mem_sel.mp hs
  rw [mem_stabs']
  unfold IsC at hc
  exact ⟨by unfold IsF; omega, hp⟩

theorem length_range4' (L : Nat) : (pyRangeStep 0 (8 * (L : Int)) 4).length = 2 * L := by
  unfold pyRangeStep
  simp only [List.length_map, List.length_range']
  omega

theorem length_sel {Lx Ly : Nat} (hx : 1 ≤ Lx) (hy : 1 ≤ Ly) : (sel Lx Ly).length + 4 = 8 * (Lx * Ly) := by
  unfold sel
  rw [length_both]
  have h := length_remove_two (canonFaces Lx Ly) [0, 4] [4, 0] (nodup_canonFaces Lx Ly)
    (mem_canonFaces.mpr ⟨0, 4, rfl, by unfold IsC; omega⟩)
    (mem_canonFaces.mpr ⟨4, 0, rfl, by unfold IsC; omega⟩) (by decide)
  have h2 : (canonFaces Lx Ly).length = 4 * (Lx * Ly) := by
    unfold canonFaces
    rw [length_grid, length_range4', length_range4']
    rw [Nat.mul_mul_mul_comm]
  unfold selFaces
  have h3 : 1 ≤ Lx * Ly := Nat.mul_pos hx hy
  omega

def probeQubit (x y : Int) : Coord :=
  if 8 ≤ x then (if (x + y) % 8 = 0 then [x - 1, y + 1] else [x - 3, y + 1])
  else if x = 0 then
    (if (x + y) % 8 = 0 then (if y = 0 then [1, 1] else [1, y - 1]) else [1, y - 3])
  else (if (x + y) % 8 = 0 then [3, y - 1] else [3, y - 3])

def probe (s : Coord) : Coord × Pauli :=
  match s with
  | [x, y, p] => (probeQubit x y, if p = 0 then Pauli.Z else Pauli.X)
  | _ => ([], Pauli.I)

set_option linter.unusedVariables false in
def rankI (Lx Ly : Nat) (x y : Int) : Int :=
  (if 8 ≤ x then 16 * (Ly : Int) + x / 2 else y / 2) + (if (x + y) % 8 = 0 then 1 else 0)

def rankOf (Lx Ly : Nat) (s : Coord) : Nat :=
  match s with
  | [x, y, _] => (rankI Lx Ly x y).toNat
  | _ => 0

theorem rankI_sq (Lx Ly : Nat) {x y : Int} (h : (x + y) % 8 = 0) :
    (8 ≤ x ∧ rankI Lx Ly x y = 16 * (Ly : Int) + x / 2 + 1) ∨
    (x < 8 ∧ rankI Lx Ly x y = y / 2 + 1) := by
  unfold rankI
  rw [if_pos h]
  by_cases h1 : 8 ≤ x
  · rw [if_pos h1]; exact .inl ⟨h1, rfl⟩
  · rw [if_neg h1]; exact .inr ⟨Int.not_le.mp h1, rfl⟩

theorem rankI_oc (Lx Ly : Nat) {x y : Int} (h : ¬ (x + y) % 8 = 0) :
    (8 ≤ x ∧ rankI Lx Ly x y = 16 * (Ly : Int) + x / 2) ∨
    (x < 8 ∧ rankI Lx Ly x y = y / 2) := by
  unfold rankI
  rw [if_neg h, Int.add_zero]
  by_cases h1 : 8 ≤ x
  · rw [if_pos h1]; exact .inl ⟨h1, rfl⟩
  · rw [if_neg h1]; exact .inr ⟨Int.not_le.mp h1, rfl⟩

theorem wrap_pt {Lx Ly : Nat} {u v : Int} (hu : 0 ≤ u) (hu' : u < 8 * (Lx : Int)) (hv : 0 ≤ v)
    (hv' : v < 8 * (Ly : Int)) : [u, v] = [u % (8 * (Lx : Int)), v % (8 * (Ly : Int))] := by
  rw [emod_small hu hu', emod_small hv hv']

/-- the seven kinds of selected faces: the probe is a (wrapped, but in range) corner of the face;
    the rank orders the columns `x ≥ 8` by `x` after the two columns `x = 0, 4`, which are ordered
    by `y`, an octagon before the square of the same level -/
theorem probeQubit_spec {Lx Ly : Nat} (hx : 1 ≤ Lx) (hy : 1 ≤ Ly) {x y : Int} (hc : IsC Lx Ly x y)
    (h1 : ¬ (x = 0 ∧ y = 4)) (h2 : ¬ (x = 4 ∧ y = 0)) :
    (8 ≤ x ∧ (x + y) % 8 = 0 ∧
      probeQubit x y = [(x + -1) % (8 * (Lx : Int)), (y + 1) % (8 * (Ly : Int))] ∧
      rankI Lx Ly x y = 16 * (Ly : Int) + x / 2 + 1) ∨
    (8 ≤ x ∧ (x + y) % 8 ≠ 0 ∧
      probeQubit x y = [(x + -3) % (8 * (Lx : Int)), (y + 1) % (8 * (Ly : Int))] ∧
      rankI Lx Ly x y = 16 * (Ly : Int) + x / 2) ∨
    (x = 0 ∧ y = 0 ∧
      probeQubit x y = [(x + 1) % (8 * (Lx : Int)), (y + 1) % (8 * (Ly : Int))] ∧
      rankI Lx Ly x y = 1) ∨
    (x = 0 ∧ 8 ≤ y ∧ (x + y) % 8 = 0 ∧
      probeQubit x y = [(x + 1) % (8 * (Lx : Int)), (y + -1) % (8 * (Ly : Int))] ∧
      rankI Lx Ly x y = y / 2 + 1) ∨
    (x = 0 ∧ 12 ≤ y ∧ (x + y) % 8 ≠ 0 ∧
      probeQubit x y = [(x + 1) % (8 * (Lx : Int)), (y + -3) % (8 * (Ly : Int))] ∧
      rankI Lx Ly x y = y / 2) ∨
    (x = 4 ∧ 4 ≤ y ∧ (x + y) % 8 = 0 ∧
      probeQubit x y = [(x + -1) % (8 * (Lx : Int)), (y + -1) % (8 * (Ly : Int))] ∧
      rankI Lx Ly x y = y / 2 + 1) ∨
    (x = 4 ∧ 8 ≤ y ∧ (x + y) % 8 ≠ 0 ∧
      probeQubit x y = [(x + -1) % (8 * (Lx : Int)), (y + -3) % (8 * (Ly : Int))] ∧
      rankI Lx Ly x y = y / 2) := by
  obtain ⟨x4, y4, x0, x1, y0, y1⟩ := hc
  have xb : x + 4 ≤ 8 * (Lx : Int) := by omega
  have yb : y + 4 ≤ 8 * (Ly : Int) := by omega
  unfold probeQubit rankI
  by_cases hx8 : 8 ≤ x
  · rw [if_pos hx8, if_pos hx8]
    clear x4 y4 h1 h2
    by_cases h8 : (x + y) % 8 = 0
    · rw [if_pos h8, if_pos h8]
      refine .inl ⟨hx8, h8, ?_, rfl⟩
      clear h8
      exact wrap_pt (by omega) (by omega) (by omega) (by omega)
    · rw [if_neg h8, if_neg h8]
      refine .inr (.inl ⟨hx8, h8, ?_, Int.add_zero _⟩)
      clear h8
      exact wrap_pt (by omega) (by omega) (by omega) (by omega)
  · rw [if_neg hx8, if_neg hx8]
    by_cases hx0 : x = 0
    · rw [if_pos hx0]
      by_cases h8 : (x + y) % 8 = 0
      · rw [if_pos h8, if_pos h8]
        by_cases hy0 : y = 0
        · rw [if_pos hy0]
          refine .inr (.inr (.inl ⟨hx0, hy0, ?_, by omega⟩))
          rw [hx0, hy0]
          exact wrap_pt (by omega) (by omega) (by omega) (by omega)
        · rw [if_neg hy0]
          have hy8 : 8 ≤ y := by omega
          refine .inr (.inr (.inr (.inl ⟨hx0, hy8, h8, ?_, rfl⟩)))
          clear x4 y4 h1 h2 h8
          rw [hx0]
          exact wrap_pt (by omega) (by omega) (by omega) (by omega)
      · rw [if_neg h8, if_neg h8]
        have hy12 : 12 ≤ y := by omega
        refine .inr (.inr (.inr (.inr (.inl ⟨hx0, hy12, h8, ?_, Int.add_zero _⟩))))
        clear x4 y4 h1 h2 h8
        rw [hx0]
        exact wrap_pt (by omega) (by omega) (by omega) (by omega)
    · have hx4 : x = 4 := by omega
      rw [if_neg hx0]
      by_cases h8 : (x + y) % 8 = 0
      · rw [if_pos h8, if_pos h8]
        have hy4 : 4 ≤ y := by omega
        refine .inr (.inr (.inr (.inr (.inr (.inl ⟨hx4, hy4, h8, ?_, rfl⟩)))))
        clear x4 y4 h1 h2 h8
        rw [hx4]
        exact wrap_pt (by omega) (by omega) (by omega) (by omega)
      · rw [if_neg h8, if_neg h8]
        have hy8 : 8 ≤ y := by omega
        refine .inr (.inr (.inr (.inr (.inr (.inr ⟨hx4, hy8, h8, ?_, Int.add_zero _⟩)))))
        clear x4 y4 h1 h2 h8
        rw [hx4]
        exact wrap_pt (by omega) (by omega) (by omega) (by omega)

theorem probe_mem_own {Lx Ly : Nat} (hx : 1 ≤ Lx) (hy : 1 ≤ Ly) {x y : Int} (hc : IsC Lx Ly x y)
    (h1 : ¬ (x = 0 ∧ y = 4)) (h2 : ¬ (x = 4 ∧ y = 0)) : probeQubit x y ∈ supp Lx Ly x y := by
  unfold supp
  rcases probeQubit_spec hx hy hc h1 h2 with ⟨_, h8, e, _⟩ | ⟨_, h8, e, _⟩ | ⟨hx0, hy0, e, _⟩ |
    ⟨_, _, h8, e, _⟩ | ⟨_, _, h8, e, _⟩ | ⟨_, _, h8, e, _⟩ | ⟨_, _, h8, e, _⟩
  · rw [e, if_pos h8]; simp [sqC]
  · rw [e, if_neg h8]; simp [ocC]
  · rw [e, if_pos (by omega)]; simp [sqC]
  · rw [e, if_pos h8]; simp [sqC]
  · rw [e, if_neg h8]; simp [ocC]
  · rw [e, if_pos h8]; simp [sqC]
  · rw [e, if_neg h8]; simp [ocC]

theorem isC_isF {Lx Ly : Nat} {x y : Int} (h : IsC Lx Ly x y) : IsF Lx Ly x y := by
  unfold IsC at h; unfold IsF; omega

theorem emod_diff {m a b : Int} (ha0 : 0 ≤ a) (ha : a < m) (hb0 : 0 ≤ b) (hb : b < m) :
    ((b - a) % m = b - a ∧ a ≤ b) ∨ ((b - a) % m = b - a + m ∧ b < a) := by
  by_cases h : a ≤ b
  · left; exact ⟨emod_small (by omega) (by omega), h⟩
  · right; exact ⟨emod_neg_small (by omega) (by omega), by omega⟩

theorem probe_not_mem {Lx Ly : Nat} (hx : 1 ≤ Lx) (hy : 1 ≤ Ly) {x y x' y' : Int} (hc : IsC Lx Ly x y)
    (h1 : ¬ (x = 0 ∧ y = 4)) (h2 : ¬ (x = 4 ∧ y = 0)) (hc' : IsC Lx Ly x' y')
    (h1' : ¬ (x' = 0 ∧ y' = 4)) (h2' : ¬ (x' = 4 ∧ y' = 0)) (hne : ¬ (x = x' ∧ y = y'))
    (hle : rankI Lx Ly x y ≤ rankI Lx Ly x' y') : probeQubit x y ∉ supp Lx Ly x' y' := by
  intro hmem
  have hf := isC_isF hc
  have hf' := isC_isF hc'
  have hk := probeQubit_spec hx hy hc h1 h2
  obtain ⟨-, -, x0, x1, y0, y1⟩ := hc
  obtain ⟨-, -, x0', x1', y0', y1'⟩ := hc'
  have hex := emod_diff x0 x1 x0' x1'
  have hey := emod_diff y0 y1 y0' y1'
  clear h1 h2
  unfold supp at hmem
  by_cases h8' : (x' + y') % 8 = 0
  · rw [if_pos h8'] at hmem
    have rt := rankI_sq Lx Ly h8'
    clear h8'
    rcases hk with ⟨_, -, e, rs⟩ | ⟨_, -, e, rs⟩ | ⟨_, _, e, rs⟩ | ⟨_, _, -, e, rs⟩ |
      ⟨_, _, -, e, rs⟩ | ⟨_, _, -, e, rs⟩ | ⟨_, _, -, e, rs⟩ <;>
    · rw [e, corner_mem_sqC hx hy hf hf' (by decide) (by decide)] at hmem
      simp only [off, Int.reduceNeg, Int.reduceEq, Int.reduceLT, or_self, or_false, false_or,
        if_true, if_false] at hmem
      omega
  · rw [if_neg h8'] at hmem
    have rt := rankI_oc Lx Ly h8'
    clear h8'
    rcases hk with ⟨_, -, e, rs⟩ | ⟨_, -, e, rs⟩ | ⟨_, _, e, rs⟩ | ⟨_, _, -, e, rs⟩ |
      ⟨_, _, -, e, rs⟩ | ⟨_, _, -, e, rs⟩ | ⟨_, _, -, e, rs⟩ <;>
    · rw [e, corner_mem_ocC hx hy hf hf' (by decide) (by decide)] at hmem
      simp only [off, Int.reduceNeg, Int.reduceEq, Int.reduceLT, or_self, or_false, false_or,
        if_true, if_false] at hmem
      omega

theorem rankI_nonneg {Lx Ly : Nat} {x y : Int} (hc : IsC Lx Ly x y) : 0 ≤ rankI Lx Ly x y := by
  unfold IsC at hc
  by_cases h : (x + y) % 8 = 0
  · have := rankI_sq Lx Ly h; omega
  · have := rankI_oc Lx Ly h; omega

theorem triangular {Lx Ly : Nat} (hx : 1 ≤ Lx) (hy : 1 ≤ Ly) :
    TriangularProbes (lattice Lx Ly) (sel Lx Ly) probe (rankOf Lx Ly) := by
  refine triangular_of_faces (supp Lx Ly) probeQubit (rankI Lx Ly) (fun c hc => ?_)
    (fun x y p h hp => ?_) (fun _ _ _ => rfl) (fun x y p h => ?_) (fun x y h => ?_)
    (fun x y h q hq => ?_) (fun x y x' y' h h' hne hle => ?_)
  · obtain ⟨x, y, rfl, -⟩ := mem_canonFaces.mp (List.mem_filter.mp hc).1
    exact ⟨x, y, rfl⟩
  · exact getStab_eq hx hy (mem_stabs'.mpr ⟨isC_isF (mem_selFaces.mp h).1, hp⟩)
  · exact Int.toNat_of_nonneg (rankI_nonneg (mem_selFaces.mp h).1)
  · obtain ⟨hc, h1, h2⟩ := mem_selFaces.mp h
    exact probe_mem_own hx hy hc h1 h2
  · exact (mem_qubits_faces hx hy).mpr ⟨x, y, isC_isF (mem_selFaces.mp h).1, hq⟩
  · obtain ⟨hc, h1, h2⟩ := mem_selFaces.mp h
    obtain ⟨hc', h1', h2'⟩ := mem_selFaces.mp h'
    exact probe_not_mem hx hy hc h1 h2 hc' h1' h2' hne hle

theorem indep_sel {Lx Ly : Nat} (hx : 1 ≤ Lx) (hy : 1 ≤ Ly) : IndepGenerators (lattice Lx Ly) (sel Lx Ly) :=
  indep_of_triangular (triangular hx hy)

end Panqec.Color488Code
