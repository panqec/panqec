/-
Lemmas for the chain step of `SplittingSimulation.get_next_error`
(`Model/Splitting.lean`): closed form of a successful call, the acceptance probability as
a likelihood ratio of product-form probabilities, what a successful call looked like, and the
definition of the Metropolis kernel whose detailed balance `Properties/C18Splitting.lean` proves.
-/
import PanqecVerif.Model.Splitting
import PanqecVerif.Proofs.NoiseSplit

namespace Panqec.Split

open Panqec

/-- the record `get_next_error` returns when nothing raises -/
def traceOf (dt : DType) (c : Sim.CodeMats) (decode : List Nat → List Nat) (idx : Nat)
    (letters : List Pauli) (σ : Pauli) (prev new : List Nat) (a b u : Rat) : StepTrace :=
  let q := acceptQ a b
  let bit := coin q u
  let acc := bit && fails dt c decode new
  { idx := idx, letters := letters, letter := σ, proposed := new, pPrev := a, pNew := b, q := q,
    coin := bit, test := if bit then some (failTest dt c decode new) else none, accepted := acc,
    next := if acc then new else prev, pNext := if acc then b else a }

theorem getNextError_eq (dt : DType) (c : Sim.CodeMats) (n : Nat) (decode : List Nat → List Nat)
    (rate : Rat) (ds : List Dist) (prev : List Nat) (d : Draw) (dq : Dist) (σ : Pauli) (a b : Rat)
    (hr : Sim.rateOk rate = true) (hq : ds[d.idx]? = some dq)
    (hσ : (proposalLetters dq)[d.letter]? = some σ)
    (ha : errorProbability ds prev = some a)
    (hb : errorProbability ds (proposeError n prev d.idx σ) = some b) :
    getNextError dt c n decode rate ds prev d =
      .ok (traceOf dt c decode d.idx (proposalLetters dq) σ prev (proposeError n prev d.idx σ) a b d.u) := by
  have hne : (proposalLetters dq).isEmpty = false := by
    cases hl : proposalLetters dq with
    | nil => rw [hl] at hσ; simp at hσ
    | cons x xs => rfl
  unfold getNextError
  simp only [hr, Bool.not_true, Bool.false_eq_true, if_false, hq, hne, hσ, ha, hb]
  unfold traceOf fails
  cases hc : coin (acceptQ a b) d.u <;> simp [hc]

theorem getNextError_rate (dt : DType) (c : Sim.CodeMats) (n : Nat) (decode : List Nat → List Nat)
    (rate : Rat) (ds : List Dist) (prev : List Nat) (d : Draw) (hr : Sim.rateOk rate = false) :
    getNextError dt c n decode rate ds prev d = .error .rate := by
  simp [getNextError, hr]

theorem acceptQ_eq_min (a b : Rat) (ha : a ≠ 0) : acceptQ a b = min 1 (b / a) := by
  simp only [acceptQ, acceptRatio, ha, if_false, min_def]
  split_ifs with h1 h2 h2
  · exact le_antisymm h1 h2
  · rfl
  · rfl
  · exact absurd (le_of_lt (not_le.mp h1)) h2

/-- `P(s) · q(s → t) = min(P(s), P(t))`: the symmetric quantity behind detailed balance -/
theorem mul_acceptQ (a b : Rat) (ha : 0 ≤ a) (hb : 0 ≤ b) : a * acceptQ a b = min a b := by
  by_cases h0 : a = 0
  · subst h0; simp [acceptQ, hb]
  · rw [acceptQ_eq_min a b h0, mul_min_of_nonneg _ _ ha, mul_one, mul_div_cancel₀ _ h0]

/-- the coin is 1 exactly when `1 - q ≤ u`: among the variates `0 ≤ u < 1` that is the interval
    `[1 - q, 1)`, of length `q` -/
theorem coin_iff (q u : Rat) : coin q u = true ↔ 1 - q ≤ u := by simp [coin]

/-- `Panqec.Dist.Valid.get_nonneg` under a second name -/
theorem Dist.Valid.get_nonneg {d : Dist} (h : d.Valid) (σ : Pauli) : 0 ≤ d.get σ :=
  Panqec.Dist.Valid.get_nonneg h σ

theorem mul_mul_self (σ τ : Pauli) : σ.mul (σ.mul τ) = τ := by
  cases σ <;> cases τ <;> rfl

theorem set_set_self (s : List Pauli) (i : Nat) (σ τ : Pauli) (h : s[i]? = some τ) :
    (s.set i (σ.mul τ)).set i (σ.mul (σ.mul τ)) = s := by
  rw [mul_mul_self, List.set_set]
  obtain ⟨hi, rfl⟩ := List.getElem?_eq_some_iff.mp h
  exact List.set_getElem_self hi

/-- everything `get_next_error` computes, in terms of product-form probabilities -/
theorem getNextError_pauli (dt : DType) (c : Sim.CodeMats) (decode : List Nat → List Nat)
    (rate : Rat) (ds : List Dist) (s : List Pauli) (d : Draw) (dq : Dist) (σ τ : Pauli)
    (hs : s.length = ds.length) (hr : Sim.rateOk rate = true) (hq : ds[d.idx]? = some dq)
    (hτ : s[d.idx]? = some τ) (hσ : (proposalLetters dq)[d.letter]? = some σ) :
    getNextError dt c ds.length decode rate ds (pauliToBsf s) d =
      .ok (traceOf dt c decode d.idx (proposalLetters dq) σ (pauliToBsf s)
            (pauliToBsf (s.set d.idx (σ.mul τ))) (stringProb ds s)
            (stringProb ds (s.set d.idx (σ.mul τ))) d.u) := by
  have hnew := proposeError_pauliToBsf s d.idx σ τ hτ
  rw [hs] at hnew
  have := getNextError_eq dt c ds.length decode rate ds (pauliToBsf s) d dq σ (stringProb ds s)
    (stringProb ds (s.set d.idx (σ.mul τ))) hr hq hσ (errorProbability_pauliToBsf ds s hs)
    (by rw [hnew]; exact errorProbability_pauliToBsf ds _ (by simp [hs]))
  rw [this, hnew]

/-- the probability, over the three draws of one call, that the chain moves from `s` by the
    letter `σ` on qubit `i`: `1/n` for the qubit, `1/m` for the letter among the `m`
    candidates of that qubit, `q` for the coin (length of `[1-q, 1)`), and the move must
    lead into the failure set `F` -/
def moveProb (ds : List Dist) (F : List Pauli → Bool) (s : List Pauli) (i : Nat) (σ : Pauli) : Rat :=
  match ds[i]?, s[i]? with
  | some dq, some τ =>
    if σ ∈ proposalLetters dq ∧ F (s.set i (σ.mul τ)) = true then
      1 / (ds.length : Rat) * (1 / ((proposalLetters dq).length : Rat)) *
        acceptQ (stringProb ds s) (stringProb ds (s.set i (σ.mul τ)))
    else 0
  | _, _ => 0

/-- the (unnormalised) target: the product distribution restricted to the failure set -/
def target (ds : List Dist) (F : List Pauli → Bool) (s : List Pauli) : Rat :=
  if F s then stringProb ds s else 0

theorem getNextError_inv (dt : DType) (c : Sim.CodeMats) (n : Nat) (decode : List Nat → List Nat)
    (rate : Rat) (ds : List Dist) (prev : List Nat) (d : Draw) (t : StepTrace)
    (h : getNextError dt c n decode rate ds prev d = .ok t) :
    ∃ dq σ a b, Sim.rateOk rate = true ∧ ds[d.idx]? = some dq ∧
      (proposalLetters dq)[d.letter]? = some σ ∧ errorProbability ds prev = some a ∧
      errorProbability ds (proposeError n prev d.idx σ) = some b ∧
      t = traceOf dt c decode d.idx (proposalLetters dq) σ prev (proposeError n prev d.idx σ) a b d.u := by
  have h0 := h
  unfold getNextError at h
  split at h
  · cases h
  rename_i hr
  split at h
  · cases h
  rename_i dq hq
  dsimp only at h
  split at h
  · cases h
  split at h
  · cases h
  rename_i σ hσ
  split at h
  · rename_i a b ha hb
    have hr : Sim.rateOk rate = true := by simpa using hr
    rw [getNextError_eq dt c n decode rate ds prev d dq σ a b hr hq hσ ha hb] at h0
    exact ⟨dq, σ, a, b, hr, hq, hσ, ha, hb, (Except.ok.inj h0).symm⟩
  · cases h

theorem getNextError_pNext (dt : DType) (c : Sim.CodeMats) (n : Nat) (decode : List Nat → List Nat)
    (rate : Rat) (ds : List Dist) (prev : List Nat) (d : Draw) (t : StepTrace)
    (h : getNextError dt c n decode rate ds prev d = .ok t) :
    errorProbability ds t.next = some t.pNext := by
  obtain ⟨dq, σ, a, b, _, _, _, ha, hb, rfl⟩ := getNextError_inv dt c n decode rate ds prev d t h
  unfold traceOf
  dsimp only
  split_ifs
  · exact hb
  · exact ha

theorem getNextError_next (dt : DType) (c : Sim.CodeMats) (n : Nat) (decode : List Nat → List Nat)
    (rate : Rat) (ds : List Dist) (prev : List Nat) (d : Draw) (t : StepTrace)
    (h : getNextError dt c n decode rate ds prev d = .ok t) :
    (t.accepted = true → t.next = t.proposed ∧ fails dt c decode t.proposed = true ∧ t.coin = true) ∧
    (t.accepted = false → t.next = prev ∧ t.pNext = t.pPrev) := by
  obtain ⟨dq, σ, a, b, _, _, _, _, _, rfl⟩ := getNextError_inv dt c n decode rate ds prev d t h
  unfold traceOf
  dsimp only
  constructor
  · intro hacc
    simp only [Bool.and_eq_true] at hacc
    simp [hacc.1, hacc.2]
  · intro hacc
    simp [hacc]

theorem getNextError_stays (dt : DType) (c : Sim.CodeMats) (n : Nat) (decode : List Nat → List Nat)
    (rate : Rat) (ds : List Dist) (prev : List Nat) (d : Draw) (t : StepTrace)
    (h : getNextError dt c n decode rate ds prev d = .ok t) (hp : fails dt c decode prev = true) :
    fails dt c decode t.next = true := by
  have := getNextError_next dt c n decode rate ds prev d t h
  cases hacc : t.accepted
  · rw [(this.2 hacc).1]; exact hp
  · rw [(this.1 hacc).1]; exact (this.1 hacc).2.1

/-- the test of `get_next_error` is the complement of `is_success`, which `_run` uses to check
    the initial error -/
theorem fails_eq_not_isSuccess (dt : DType) (c : Sim.CodeMats) (decode : List Nat → List Nat)
    (e : List Nat) :
    fails dt c decode e =
      !(isSuccess dt c.H c.Lx c.Lz (vxor (decode (measureSyndrome c.H e)) e)) := by
  unfold fails failTest Test.fails isSuccess
  dsimp only
  cases isLogicalError dt c.Lx c.Lz (vxor (decode (measureSyndrome c.H e)) e) <;>
    cases inCodespace c.H (vxor (decode (measureSyndrome c.H e)) e) <;> rfl

end Panqec.Split
