/-
Union-find internals (C05), assembly: from the index list to the correction vector
(`correction[correction_ind] = 1`) and its syndrome; `Support.decode()` is correct whenever the
growth phase terminates with `ClusterPost`.
-/
import PanqecVerif.Proofs.UnionFindDecodeClusters

namespace Panqec.UF

theorem getD_row_eq {H : Mat} {s : Nat} (hs : s < H.length) : H.getD s [] = H[s] := by
  rw [List.getD_eq_getElem?_getD, List.getElem?_eq_getElem hs]; rfl

theorem getD_row_mem {H : Mat} {s : Nat} (hs : s < H.length) : H.getD s [] ∈ H :=
  getD_row_eq hs ▸ List.getElem_mem hs

theorem dot_indicator_aux : ∀ (r : List Nat) (p : Nat → Bool), (∀ x, x ∈ r → x ≤ 1) →
    dot r ((List.range r.length).map fun q => if p q = true then 1 else 0) =
      (List.range r.length).countP fun q => r.getD q 0 != 0 && p q := by
  intro r
  induction r with
  | nil => intro p _; simp [dot]
  | cons a as ih =>
    intro p hbin
    have ha : a ≤ 1 := hbin a (by simp)
    have ih' := ih (fun q => p (q + 1)) (fun x hx => hbin x (by simp [hx]))
    simp only [List.length_cons, List.range_succ_eq_map, List.map_cons, List.map_map, dot,
      List.countP_cons, List.countP_map]
    have h1 : (List.map ((fun q => if p q = true then 1 else 0) ∘ Nat.succ) (List.range as.length)) =
        (List.range as.length).map fun q => if p (q + 1) = true then 1 else 0 := rfl
    have h2 : List.countP ((fun q => (a :: as).getD q 0 != 0 && p q) ∘ Nat.succ) (List.range as.length) =
        List.countP (fun q => as.getD q 0 != 0 && p (q + 1)) (List.range as.length) := rfl
    rw [h1, h2, ih']
    have h3 : (a :: as).getD 0 0 = a := rfl
    rw [h3]
    rcases Nat.le_one_iff_eq_zero_or_eq_one.mp ha with h | h <;> subst h <;> cases p 0 <;> simp
    omega

theorem countP_range_mem (n : Nat) (l : List Nat) (hl : l.Nodup) (hlt : ∀ q, q ∈ l → q < n)
    (p : Nat → Bool) :
    (List.range n).countP (fun q => p q && decide (q ∈ l)) = l.countP p := by
  have hperm : ((List.range n).filter fun q => decide (q ∈ l)).Perm l := by
    rw [List.perm_ext_iff_of_nodup ((List.nodup_range).filter _) hl]
    intro a
    simp only [List.mem_filter, List.mem_range, decide_eq_true_eq]
    exact ⟨fun h => h.2, fun h => ⟨hlt a h, h⟩⟩
  rw [← hperm.countP_eq, List.countP_filter]

/-- the syndrome bit of row `s` of `correction[ind] = 1` is the parity of the listed qubits in
    that row -/
theorem row_indicator {H : Mat} (R : RectBin H) (s : Nat) (hs : s < H.length) (ind : List Nat)
    (hnd : ind.Nodup) (hlt : ∀ q, q ∈ ind → q < ncols H) :
    dot (H.getD s []) (indicator (ncols H) ind) = ind.countP (fun q => hb H s q) := by
  have hlen := R.rect _ (getD_row_mem hs)
  have h1 := dot_indicator_aux (H.getD s []) (fun q => decide (q ∈ ind)) (R.bin _ (getD_row_mem hs))
  rw [hlen] at h1
  have h2 : ((List.range (ncols H)).map fun q => if decide (q ∈ ind) = true then 1 else 0) =
      indicator (ncols H) ind := by
    unfold indicator
    apply List.map_congr_left
    intro q _
    by_cases h : q ∈ ind <;> simp [h]
  rw [h2] at h1
  rw [h1]
  exact countP_range_mem (ncols H) ind hnd hlt (fun q => hb H s q)

theorem indicator_length (n : Nat) (ind : List Nat) : (indicator n ind).length = n := by
  unfold indicator; simp

theorem indicator_binary (n : Nat) (ind : List Nat) : ∀ x, x ∈ indicator n ind → x < 2 := by
  intro x hx
  unfold indicator at hx
  rw [List.mem_map] at hx
  obtain ⟨q, _, rfl⟩ := hx
  split <;> omega

/-- **`Support.decode()` given the post-condition of the growth phase**: the peeling of every
    cluster succeeds and the assembled vector has exactly the defects as its syndrome. -/
theorem peeling_correct {H : Mat} (G : GraphOK H) (R : RectBin H) (sy : Vec)
    (roots : List Nat) (sPar qPar : Nat → Int) (P : ClusterPost H sy roots sPar qPar) :
    ∃ ts, peelAll H sy sPar qPar roots = .ok ts ∧
      sectorSyndrome H (indicator (ncols H) (ts.flatMap (·.corr))) =
        (List.range H.length).map fun s => b2n (defect sy s) := by
  obtain ⟨ts, hts, hnd, hmem, hbd⟩ := peelAll_spec G sy sPar qPar roots P.roots_nodup P.root_self
    P.conn P.even
  refine ⟨ts, hts, ?_⟩
  have hlt : ∀ q, q ∈ ts.flatMap (·.corr) → q < ncols H := by
    intro q hq
    obtain ⟨r, _, h⟩ := hmem q hq
    unfold qubitsOf at h; simp at h; exact h.1
  unfold sectorSyndrome
  apply List.ext_getElem
  · simp
  · intro s h1 h2
    simp only [List.length_map] at h1
    simp only [List.getElem_map, List.getElem_range]
    rw [← getD_row_eq h1, row_indicator R s h1 _ hnd hlt, hbd s, count_clusters P s h1]
    have := b2n_le (defect sy s)
    omega

end Panqec.UF
