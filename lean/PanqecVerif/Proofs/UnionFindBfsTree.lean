/-
Union-find internals (C05), spanning tree: one round (`for s in leaves_ind`), the step
for the root, the `while np.sum(unseen) > 0` loop, and the specification of `_build_tree`:
for a cluster whose member stabilizers are connected to the root through member qubits it
terminates within `m + 1` rounds and returns a spanning tree (`TreeOK`) with its leaf list
(`LeavesOK`).
-/
import PanqecVerif.Proofs.UnionFindBfsStep

namespace Panqec.UF

section
variable {H : Mat} {stabs qubits : Nat → Bool} {root : Nat}

theorem BInv_fold (hst : ∀ s, stabs s = true → s < H.length) {r : Nat} :
    ∀ (F2 : List Nat) (S : Nat → Nat → Bool) (unseen : Nat → Bool) (nl : List Nat) (lv : Nat → Nat),
      BInv H stabs qubits root r S unseen F2 nl lv →
      ∃ lv', BInv H stabs qubits root r (F2.foldl (bfsStep H.length) ⟨S, unseen, nl⟩).S
          (F2.foldl (bfsStep H.length) ⟨S, unseen, nl⟩).unseen []
          (F2.foldl (bfsStep H.length) ⟨S, unseen, nl⟩).newLeaves lv' ∧
        (∀ v, (F2.foldl (bfsStep H.length) ⟨S, unseen, nl⟩).unseen v = true → unseen v = true) ∧
        (∀ u, u ∈ F2 → ∀ v, shared H stabs qubits u v = true →
          (F2.foldl (bfsStep H.length) ⟨S, unseen, nl⟩).unseen v = false) := by
  intro F2
  induction F2 with
  | nil =>
    intro S unseen nl lv I
    exact ⟨lv, I, fun v h => h, fun u hu => by simp at hu⟩
  | cons s F2 ih =>
    intro S unseen nl lv I
    obtain ⟨lv1, I1, hmono1, hprog1⟩ := BInv_step hst I
    obtain ⟨lv2, I2, hmono2, hprog2⟩ := ih _ _ _ lv1 I1
    simp only [List.foldl_cons]
    refine ⟨lv2, I2, fun v hv => hmono1 v (hmono2 v hv), ?_⟩
    intro u hu v huv
    rcases List.mem_cons.mp hu with rfl | hu
    · exact Bool.eq_false_iff.mpr fun h =>
        Bool.false_ne_true ((hprog1 v huv).symm.trans (hmono2 v h))
    · exact hprog2 u hu v huv

/-- from the end of round `r` to the start of round `r + 1` -/
theorem BInv_next_round {r : Nat} {S : Nat → Nat → Bool} {unseen : Nat → Bool} {nl : List Nat}
    {lv : Nat → Nat} (I : BInv H stabs qubits root r S unseen [] nl lv) :
    BInv H stabs qubits root (r + 1) S unseen nl [] lv := by
  refine ⟨I.un_stabs, I.un_eq, I.le_shared, I.root_col, I.par_ex, I.par_spec, I.par_uniq,
    fun v h1 h2 h3 => Or.comm.trans (I.pend_iff v h1 h2 h3), by simpa using I.pend_nodup,
    fun v hv => I.pend_vis v hv.symm, fun u v h1 h2 h3 h4 => (I.front u v h1 h2 h3 h4).symm,
    fun v h1 h2 => Nat.le_succ_of_le (I.lv_vis v h1 h2), fun v hv => ?_⟩
  have := I.pend_vis v (Or.inr hv)
  exact I.lv_vis v this.1 this.2.1

set_option linter.unusedVariables false in
/-- an unseen member stabilizer that is connected to the root is separated from the visited ones
    by an edge -/
theorem crossing (G : GraphOK H) {unseen : Nat → Bool} (hroot : stabs root = true)
    (hur : unseen root = false) (hus : ∀ v, unseen v = true → stabs v = true)
    {v0 : Nat} (hr : Reach H stabs qubits root v0) (hv0 : unseen v0 = true) :
    ∃ u v, stabs u = true ∧ unseen u = false ∧ unseen v = true ∧
      shared H stabs qubits u v = true := by
  induction hr with
  | base => rw [hur] at hv0; cases hv0
  | @step u v _ hq ih =>
    obtain ⟨q, hq⟩ := hq
    cases huu : unseen u
    · have hne : u ≠ v := fun h => by rw [h, hv0] at huu; cases huu
      exact ⟨u, v, ((adjq_true H stabs qubits u v q).mp hq).2.2.2.1, huu, hv0, shared_of G hne ⟨q, hq⟩⟩
    · exact ih huu

/-- the `while` loop from the start of a round -/
theorem bfsLoop_spec (G : GraphOK H) (hst : ∀ s, stabs s = true → s < H.length)
    (hroot : stabs root = true) (hconn : ∀ v, stabs v = true → Reach H stabs qubits root v) :
    ∀ (fuel r : Nat) (S : Nat → Nat → Bool) (unseen : Nat → Bool) (F : List Nat) (lv : Nat → Nat),
      BInv H stabs qubits root r S unseen F [] lv → cnt H.length unseen < fuel →
      ∃ S' F' lv' r', bfsLoop H.length fuel S unseen F = some (S', F') ∧
        BInv H stabs qubits root r' S' (fun _ => false) F' [] lv' := by
  intro fuel
  induction fuel with
  | zero => intro r S unseen F lv _ h; omega
  | succ fuel ih =>
    intro r S unseen F lv I hfuel
    unfold bfsLoop
    cases hany : (List.range H.length).any unseen
    · -- nothing unseen: return
      have hall : unseen = fun _ => false := funext fun v => Bool.eq_false_iff.mpr fun hv =>
        Bool.false_ne_true (hany.symm.trans (List.any_eq_true.mpr
          ⟨v, List.mem_range.mpr (hst v (I.un_stabs v hv).1), hv⟩))
      exact ⟨S, F, lv, r, by simp, hall ▸ I⟩
    · simp only [if_true]
      obtain ⟨v0, _, hv0⟩ := List.any_eq_true.mp hany
      have hur : unseen root = false := Bool.eq_false_iff.mpr fun h => (I.un_stabs root h).2 rfl
      obtain ⟨u, v, hu, huu, hvu, huv⟩ := crossing G hroot hur (fun v h => (I.un_stabs v h).1)
        (hconn v0 (I.un_stabs v0 hv0).1) hv0
      have huF : u ∈ F := (I.front u v hu huu hvu huv).resolve_right List.not_mem_nil
      obtain ⟨lv', I', hmono, hprog⟩ := BInv_fold hst F S unseen [] lv I
      have hlt : cnt H.length (F.foldl (bfsStep H.length) ⟨S, unseen, []⟩).unseen <
          cnt H.length unseen :=
        cnt_lt _ _ _ (fun i _ hi => hmono i hi) v (hst v (I.un_stabs v hvu).1) hvu
          (hprog u huF v huv)
      exact ih (r + 1) _ _ _ lv' (BInv_next_round I') (by omega)

/-- the step for the root (round 0), when some member stabilizer is still unseen: the root claims
    all its neighbours (and, on the diagonal, possibly itself) -/
theorem BInv_root (G : GraphOK H) (hst : ∀ s, stabs s = true → s < H.length)
    (hroot : stabs root = true) (hconn : ∀ v, stabs v = true → Reach H stabs qubits root v)
    {v0 : Nat} (hv0 : stabs v0 = true) (hv0r : v0 ≠ root) :
    ∃ lv', BInv H stabs qubits root 1
        (bfsStep H.length ⟨shared H stabs qubits, fun i => if i = root then false else stabs i, []⟩ root).S
        (bfsStep H.length ⟨shared H stabs qubits, fun i => if i = root then false else stabs i, []⟩ root).unseen
        (bfsStep H.length ⟨shared H stabs qubits, fun i => if i = root then false else stabs i, []⟩ root).newLeaves
        [] lv' ∧
      cnt H.length
        (bfsStep H.length ⟨shared H stabs qubits, fun i => if i = root then false else stabs i, []⟩ root).unseen <
        cnt H.length (fun i => if i = root then false else stabs i) := by
  have hU0 : ∀ v, (if v = root then false else stabs v) = true ↔ (stabs v = true ∧ v ≠ root) := by
    intro v; by_cases h : v = root <;> simp [h]
  -- an edge from the root to an unseen stabilizer
  obtain ⟨u, w, hu, huu, hwu, huw⟩ := crossing G (unseen := fun i => if i = root then false else stabs i)
    hroot (if_pos rfl) (fun v h => ((hU0 v).mp h).1) (hconn v0 hv0) ((hU0 v0).mpr ⟨hv0, hv0r⟩)
  have hur : u = root := by
    by_contra h
    exact Bool.false_ne_true (huu.symm.trans ((hU0 u).mpr ⟨hu, h⟩))
  rw [hur] at huw
  have hwm : w < H.length := hst w ((hU0 w).mp hwu).1
  rw [bfsStep_cons _ _ _ _ _ (List.ne_nil_of_mem ((mem_filter_range _ _ w).mpr ⟨hwm, huw⟩))]
  dsimp only
  generalize hchdef : ((List.range H.length).filter fun j => shared H stabs qubits root j) = ch
  have hchm : ∀ j, j ∈ ch ↔ (j < H.length ∧ shared H stabs qubits root j = true) := fun j => by
    rw [← hchdef, mem_filter_range]
  have hchs : ∀ j, j ∈ ch → stabs j = true := fun j hj => (shared_stabs ((hchm j).mp hj).2).2
  have hnb : ∀ j, shared H stabs qubits root j = true → j ∈ ch := fun j h =>
    (hchm j).mpr ⟨hst j (shared_stabs h).2, h⟩
  have hnl : ∀ j, j ∈ [] ++ ch.filter (fun i => if i = root then false else stabs i) ↔
      (j ∈ ch ∧ j ≠ root) := by
    intro j
    rw [List.nil_append, List.mem_filter, hU0]
    exact ⟨fun h => ⟨h.1, h.2.2⟩, fun h => ⟨h.1, hchs j h.1, h.2⟩⟩
  have hUt : ∀ v, (if v ∈ ch then false else if v = root then false else stabs v) = true →
      v ∉ ch ∧ stabs v = true ∧ v ≠ root := by
    intro v hv
    by_cases h : v ∈ ch
    · rw [if_pos h] at hv
      cases hv
    · rw [if_neg h] at hv
      exact ⟨h, (hU0 v).mp hv⟩
  have hUf : ∀ v, v ∈ ch → (if v ∈ ch then false else if v = root then false else stabs v) = false :=
    fun v hv => if_pos hv
  -- the visited stabilizers other than the root are exactly the children
  have hvis : ∀ c, stabs c = true →
      (if c ∈ ch then false else if c = root then false else stabs c) = false → c ≠ root → c ∈ ch := by
    intro c hc hcu hcr
    by_contra hcc
    rw [if_neg hcc, if_neg hcr, hc] at hcu
    cases hcu
  refine ⟨fun j => if j ∈ ch ∧ j ≠ root then 1 else 0,
    ⟨fun v hv => (hUt v hv).2, ?_, ?_, ?_, ?_, ?_, ?_, ?_, ?_, ?_, ?_, ?_, ?_⟩, ?_⟩
  · -- un_eq
    intro p v hv
    rw [claim_old (hUt v hv).1, if_neg fun h => (hUt v hv).2.2 h.2]
  · -- le_shared
    intro p v hpv
    by_cases hv : v ∈ ch
    · rw [(claim_new hv).mp hpv]
      exact ((hchm v).mp hv).2
    · rw [claim_old hv] at hpv
      split at hpv
      · cases hpv
      · exact hpv
  · -- root_col: a neighbour of the root is a child, and its entry in the root's column is cleared
    intro p hp
    refine Bool.eq_false_iff.mpr fun h => ?_
    by_cases hr : root ∈ ch
    · exact hp ((claim_new hr).mp h)
    · rw [claim_old hr] at h
      split at h
      · cases h
      next hpc => exact hpc ⟨hnb p ((shared_symm H stabs qubits root p).trans h), rfl⟩
  · -- par_ex
    intro c hc hcu hcr
    exact ⟨root, (claim_new (hvis c hc hcu hcr)).mpr rfl⟩
  · -- par_spec
    intro c hc hcu hcr p hp
    have hcc := hvis c hc hcu hcr
    rw [(claim_new hcc).mp hp]
    refine ⟨Ne.symm hcr, hroot, ?_, ?_⟩
    · by_cases h : root ∈ ch <;> simp [h]
    · rw [if_neg fun h => h.2 rfl, if_pos ⟨hcc, hcr⟩]
      exact Nat.zero_lt_one
  · -- par_uniq
    intro c hc hcu hcr p p' hp hp'
    have hcc := hvis c hc hcu hcr
    rw [(claim_new hcc).mp hp, (claim_new hcc).mp hp']
  · -- pend_iff: every child is pending and has no visited child
    intro v hv hvu hvr
    have hvc := hvis v hv hvu hvr
    refine iff_of_true (Or.inl ((hnl v).mpr ⟨hvc, hvr⟩)) fun c hc hcu => ?_
    by_cases hcc : c ∈ ch
    · exact Bool.eq_false_iff.mpr fun h => hvr ((claim_new hcc).mp h)
    · rw [claim_old hcc, if_pos ⟨hvc, Classical.not_not.mp fun hcr => hcc (hvis c hc hcu hcr)⟩]
  · -- pend_nodup
    rw [List.append_nil, List.nil_append]
    exact (hchdef ▸ List.nodup_range.filter _).filter _
  · -- pend_vis
    intro v hv
    obtain ⟨hvc, hvr⟩ := (hnl v).mp (hv.resolve_right List.not_mem_nil)
    exact ⟨hchs v hvc, hUf v hvc, hvr⟩
  · -- front
    intro p v hp hpu hvu hpv
    refine Or.inl ((hnl p).mpr ?_)
    by_cases hpr : p = root
    · exact absurd (hnb v (hpr ▸ hpv)) (hUt v hvu).1
    · exact ⟨hvis p hp hpu hpr, hpr⟩
  · -- lv_vis
    intro v _ _
    split <;> omega
  · -- lv_F2
    intro v _
    split <;> omega
  · -- strictly fewer unseen: `w` has been claimed
    exact cnt_lt _ _ _ (fun i _ hi => (hU0 i).mpr (hUt i hi).2) w hwm hwu (hUf w (hnb w huw))

/-- when nothing is unseen any more, the matrix (diagonal cleared) is a spanning tree and the
    frontier is its leaf list -/
theorem BInv_done {r : Nat} {S : Nat → Nat → Bool} {F : List Nat} {lv : Nat → Nat}
    (hroot : stabs root = true) (I : BInv H stabs qubits root r S (fun _ => false) F [] lv) :
    TreeOK H stabs qubits root (fun i j => if i = j then false else S i j) ∧
      LeavesOK stabs root (fun i j => if i = j then false else S i j) F := by
  have hoff : ∀ {p c}, (if p = c then false else S p c) = true → p ≠ c ∧ S p c = true := by
    intro p c h
    split at h
    · cases h
    next hpc => exact ⟨hpc, h⟩
  -- an off-diagonal entry points at a member stabilizer other than the root
  have hcol : ∀ {p c}, p ≠ c → S p c = true → stabs c = true ∧ c ≠ root := by
    intro p c hpc h
    refine ⟨(shared_stabs (I.le_shared p c h)).2, fun hcr => ?_⟩
    rw [hcr, I.root_col p (hcr ▸ hpc)] at h
    cases h
  refine ⟨⟨⟨lv, r + 1, fun p c hpc => ?_⟩, fun p c hpc => ?_, fun p p' c hp hp' => ?_,
    fun c hc hcr => ?_, fun p => ?_, hroot⟩, by simpa using I.pend_nodup, fun ⟨v0, hv0, hv0r⟩ v => ?_⟩
  · obtain ⟨hne, h⟩ := hoff hpc
    obtain ⟨hsc, hcr⟩ := hcol hne h
    exact ⟨(I.par_spec c hsc rfl hcr p h).2.2.2, I.lv_vis c hsc rfl⟩
  · obtain ⟨hne, h⟩ := hoff hpc
    have hsh := I.le_shared p c h
    exact ⟨(shared_stabs hsh).1, (shared_stabs hsh).2, hne, shared_imp hsh⟩
  · obtain ⟨hne, h⟩ := hoff hp
    obtain ⟨hsc, hcr⟩ := hcol hne h
    exact I.par_uniq c hsc rfl hcr p p' h (hoff hp').2
  · obtain ⟨p, hp⟩ := I.par_ex c hc rfl hcr
    exact ⟨p, by rw [if_neg (I.par_spec c hc rfl hcr p hp).1]; exact hp⟩
  · split
    · rfl
    next hp => exact I.root_col p hp
  · show v ∈ F ↔ stabs v = true ∧ ∀ c, (if v = c then false else S v c) = false
    constructor
    · intro hv
      have hvv := I.pend_vis v (Or.inl hv)
      refine ⟨hvv.1, fun c => ?_⟩
      split
      · rfl
      next hvc =>
        refine Bool.eq_false_iff.mpr fun hS => ?_
        rw [(I.pend_iff v hvv.1 hvv.2.1 hvv.2.2).mp (Or.inl hv) c (hcol hvc hS).1 rfl] at hS
        cases hS
    · rintro ⟨hv, hno⟩
      by_cases hvr : v = root
      · -- the root has a child: walk up from `v0`
        exfalso
        have key : ∀ k w, lv w < k → stabs w = true → w ≠ root → False := by
          intro k
          induction k with
          | zero => intro w hk; omega
          | succ k ih =>
            intro w hk hw hwr
            obtain ⟨p, hp⟩ := I.par_ex w hw rfl hwr
            have hps := I.par_spec w hw rfl hwr p hp
            by_cases hpr : p = root
            · have := hno w
              rw [hvr, ← hpr, if_neg hps.1, hp] at this
              cases this
            · exact ih p (by omega) hps.2.1 hpr
        exact key _ v0 (Nat.lt_succ_self _) hv0 hv0r
      · refine ((I.pend_iff v hv rfl hvr).mpr fun c hc _ => ?_).resolve_right List.not_mem_nil
        by_cases hvc : v = c
        · refine Bool.eq_false_iff.mpr fun hS => ?_
          rw [← hvc] at hS
          exact (I.par_spec v hv rfl hvr v hS).1 rfl
        · have := hno c
          rwa [if_neg hvc] at this

/-- **`Peeling_Tree._build_tree`**: for a cluster whose member stabilizers are all reachable from
    the root through member qubits, on a multigraph (`GraphOK`: fewer than 256 parallel edges), the
    breadth-first loops
    terminate within `m + 1` rounds and return a spanning tree and its leaves. -/
theorem buildTree_spec (G : GraphOK H) (hst : ∀ s, stabs s = true → s < H.length)
    (hroot : stabs root = true) (hconn : ∀ v, stabs v = true → Reach H stabs qubits root v) :
    ∃ S0 leaves, buildTree H stabs qubits root = some (S0, leaves) ∧
      TreeOK H stabs qubits root S0 ∧ LeavesOK stabs root S0 leaves := by
  unfold buildTree
  by_cases hother : ∃ v, stabs v = true ∧ v ≠ root
  · obtain ⟨v0, hv0, hv0r⟩ := hother
    obtain ⟨lv1, I1, hlt⟩ := BInv_root G hst hroot hconn hv0 hv0r
    have hany : (List.range H.length).any (fun i => if i = root then false else stabs i) = true :=
      List.any_eq_true.mpr ⟨v0, List.mem_range.mpr (hst v0 hv0), by simp [hv0r, hv0]⟩
    have := cnt_le H.length (fun i => if i = root then false else stabs i)
    obtain ⟨S', F', lv', r', hrun, I⟩ := bfsLoop_spec G hst hroot hconn H.length 1 _ _ _ lv1 I1
      (by omega)
    rw [bfsLoop]
    simp only [hany, if_true, List.foldl_cons, List.foldl_nil, hrun]
    exact ⟨_, F', rfl, BInv_done hroot I⟩
  · -- the cluster is the single stabilizer `root`: no round, and no off-diagonal entry
    have hother' : ∀ v, stabs v = true → v = root := fun v hv =>
      Classical.not_not.mp fun hne => hother ⟨v, hv, hne⟩
    have hany : (List.range H.length).any (fun i => if i = root then false else stabs i) = false :=
      List.any_eq_false.mpr fun x _ => by
        by_cases hx : x = root
        · simp [hx]
        · simpa [hx] using fun h => hx (hother' x h)
    rw [bfsLoop]
    simp only [hany, Bool.false_eq_true, if_false]
    have hfalse : ∀ p c, (if p = c then false else shared H stabs qubits p c) = false := by
      intro p c
      split
      · rfl
      next hpc =>
        refine Bool.eq_false_iff.mpr fun h => hpc ?_
        rw [hother' p (shared_stabs h).1, hother' c (shared_stabs h).2]
    refine ⟨_, [root], rfl, ⟨⟨fun _ => 0, 0, fun p c h => ?_⟩, fun p c h => ?_, fun p p' c h => ?_,
      fun c hc hcr => absurd (hother' c hc) hcr, fun p => hfalse p root, hroot⟩,
      List.nodup_singleton root, fun h => absurd h hother⟩
    all_goals
      rw [hfalse] at h
      cases h

end

end Panqec.UF
