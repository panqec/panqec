/-
Color3DCode, even sides `≥ 2`: the key lists of the nine membranes of `get_logicals_z`.  The square
membranes (planes `0` and `2` orthogonal to an axis): keys `(u ± 1, v)`, `(u, v ± 1)` around the points
of a double loop, in closed form.  The hexagon membranes: the keys of the hexagons `(3, y, z)`
(`(x, 3, z)`, `(x, y, 3)`) whose two free coordinates add up to `0 (mod 8)`, the hexagons shared by a
red and a green cell (the red-cell test is evaluated at a wrapped location); those orthogonal to y
and z are the images of the one orthogonal to x under the coordinate permutations.  Core Lean only.
-/
import PanqecVerif.Proofs.LatColor3DCodeLineOp
import PanqecVerif.Proofs.LatColor3DCodeQubits

namespace Panqec.Color3DCode
open Panqec.Lat2D Panqec.Color

theorem mem_membraneKeys {mk : Int → Int → Coord} {mu mv : Nat} {us vs : List Int} {q : Coord} :
    q ∈ membraneKeys mk mu mv us vs ↔ ∃ u v, u ∈ us ∧ v ∈ vs ∧
      (q = mk ((u + 1) % (4 * (mu : Int))) v ∨ q = mk ((u - 1) % (4 * (mu : Int))) v ∨
       q = mk u ((v + 1) % (4 * (mv : Int))) ∨ q = mk u ((v - 1) % (4 * (mv : Int)))) := by
  unfold membraneKeys
  simp only [List.mem_flatMap, List.mem_cons, List.not_mem_nil, or_false]
  constructor
  · rintro ⟨u, hu, v, hv, h⟩; exact ⟨u, v, hu, hv, h⟩
  · rintro ⟨u, v, hu, hv, h⟩; exact ⟨u, hu, v, hv, h⟩

/-- the in-plane pattern of the membrane through the squares `≡ ρ (mod 4)` -/
def PlanePat (ρ : Int) (mu mv : Nat) (p r : Int) : Prop :=
  0 ≤ p ∧ p < 4 * (mu : Int) ∧ 0 ≤ r ∧ r < 4 * (mv : Int) ∧
    ((p % 2 = 1 ∧ r % 4 = ρ) ∨ (p % 4 = ρ ∧ r % 2 = 1))

/-- the pattern in the plane `k ≡ ρ + 2 (mod 4)`: vertices of the lattice -/
theorem PlanePat.isQ {ρ k : Int} {L mu mv : Nat} {p r : Int} (h : PlanePat ρ mu mv p r)
    (hk : 0 ≤ k ∧ k < 4 * (L : Int)) (hk2 : k % 2 = 0) (hρ : (k - ρ) % 4 = 2) : IsQ L mu mv k p r := by
  obtain ⟨p0, p1, r0, r1, h⟩ := h
  refine isQ_of ⟨hk.1, hk.2, p0, p1, r0, r1⟩ ?_
  rcases h with ⟨h1, h2⟩ | ⟨h1, h2⟩
  · exact Or.inr (Or.inl ⟨h1, hk2, by omega, by omega⟩)
  · exact Or.inr (Or.inr ⟨h2, hk2, by omega, by omega⟩)

theorem planePat_left {ρ : Int} {mu mv : Nat} (hu : 1 ≤ mu) {w v : Int} (hw : w % 2 = 1)
    (hv : 0 ≤ v ∧ v < 4 * (mv : Int) ∧ v % 4 = ρ) : PlanePat ρ mu mv (w % (4 * (mu : Int))) v :=
  ⟨(wrap_range hu w).1, (wrap_range hu w).2, hv.1, hv.2.1,
    Or.inl ⟨by rw [emod_emod_2]; exact hw, hv.2.2⟩⟩

theorem planePat_right {ρ : Int} {mu mv : Nat} (hv : 1 ≤ mv) {u w : Int} (hw : w % 2 = 1)
    (hu : 0 ≤ u ∧ u < 4 * (mu : Int) ∧ u % 4 = ρ) : PlanePat ρ mu mv u (w % (4 * (mv : Int))) :=
  ⟨hu.1, hu.2.1, (wrap_range hv w).1, (wrap_range hv w).2,
    Or.inr ⟨hu.2.2, by rw [emod_emod_2]; exact hw⟩⟩

/-- a square membrane: squares centred at the points `(u, v) ≡ (ρ, ρ) (mod 4)` of the plane (the
    yellow-red one with `ρ = 2`, the green-blue one with `ρ = 0`, whose row `u = 0` reaches `4L − 1`
    through the wrap-around) -/
theorem mem_membrane {mk : Int → Int → Coord} {mu mv : Nat} (hu : 1 ≤ mu) (hv : 1 ≤ mv) {ρ : Int}
    (hρ : ρ = 0 ∨ ρ = 2) {us vs : List Int}
    (hus : ∀ u, u ∈ us ↔ 0 ≤ u ∧ u < 4 * (mu : Int) ∧ u % 4 = ρ)
    (hvs : ∀ v, v ∈ vs ↔ 0 ≤ v ∧ v < 4 * (mv : Int) ∧ v % 4 = ρ) {q : Coord} :
    q ∈ membraneKeys mk mu mv us vs ↔ ∃ p r, q = mk p r ∧ PlanePat ρ mu mv p r := by
  rw [mem_membraneKeys]
  simp only [hus, hvs]
  -- the centre beside the odd coordinate `p`: the one after it (through the wrap-around), or before
  have centre : ∀ {m : Nat} {p : Int}, 1 ≤ m → 0 ≤ p → p < 4 * (m : Int) → p % 2 = 1 →
      ∃ u, (0 ≤ u ∧ u < 4 * (m : Int) ∧ u % 4 = ρ) ∧
        ((u + 1) % (4 * (m : Int)) = p ∨ (u - 1) % (4 * (m : Int)) = p) := by
    intro m p hm p0 p1 hp
    by_cases h4 : (p + 1) % 4 = ρ
    · exact ⟨(p + 1) % (4 * (m : Int)), ⟨(wrap_range hm _).1, (wrap_range hm _).2,
        by rw [emod_emod_4]; exact h4⟩, Or.inr (Cyclic.emod_add_cancel p 1 _ ⟨p0, p1⟩)⟩
    · exact ⟨p - 1, ⟨by omega, by omega, by omega⟩,
        Or.inl (by rw [show p - 1 + 1 = p by omega, emod_small p0 p1])⟩
  constructor
  · rintro ⟨u, v, hu', hv', h | h | h | h⟩
    · exact ⟨_, _, h, planePat_left hu (by omega) hv'⟩
    · exact ⟨_, _, h, planePat_left hu (by omega) hv'⟩
    · exact ⟨_, _, h, planePat_right hv (by omega) hu'⟩
    · exact ⟨_, _, h, planePat_right hv (by omega) hu'⟩
  · rintro ⟨p, r, rfl, p0, p1, r0, r1, ⟨h1, h2⟩ | ⟨h1, h2⟩⟩
    · obtain ⟨u, hu', e | e⟩ := centre hu p0 p1 h1
      · exact ⟨u, r, hu', ⟨r0, r1, h2⟩, Or.inl (by rw [e])⟩
      · exact ⟨u, r, hu', ⟨r0, r1, h2⟩, Or.inr (Or.inl (by rw [e]))⟩
    · obtain ⟨v, hv', e | e⟩ := centre hv r0 r1 h2
      · exact ⟨p, v, ⟨p0, p1, h1⟩, hv', Or.inr (Or.inr (Or.inl (by rw [e])))⟩
      · exact ⟨p, v, ⟨p0, p1, h1⟩, hv', Or.inr (Or.inr (Or.inr (by rw [e])))⟩

theorem cellColor_red_iff (r : Int) : cellColor r = StabType.red ↔ r = 2 := by
  unfold cellColor
  by_cases h6 : r = 6
  · rw [if_pos h6]; simp; omega
  · rw [if_neg h6]
    by_cases h2 : r = 2
    · rw [if_pos h2]; simp [h2]
    · rw [if_neg h2]
      by_cases h4 : r = 4
      · rw [if_pos h4]; simp [h2]
      · rw [if_neg h4]
        by_cases h0 : r = 0
        · rw [if_pos h0]; simp [h2]
        · rw [if_neg h0]; simp [h2]

theorem typeOf_red_iff (x y z : Int) :
    typeOf x y z = StabType.red ↔ x % 4 = 2 ∧ y % 4 = 2 ∧ z % 4 = 2 ∧ (x + y + z) % 8 = 2 := by
  unfold typeOf
  by_cases h2 : x % 2 = 1
  · rw [if_pos h2]; simp; omega
  · rw [if_neg h2]
    by_cases hc : x % 4 = z % 4 ∧ y % 4 = z % 4
    · rw [if_pos hc, cellColor_red_iff]; omega
    · rw [if_neg hc]; simp; omega

theorem isRedCell_iff {Lx Ly Lz : Nat} {x y z : Int} :
    isRedCell (stabs Lx Ly Lz) [x, y, z] = true ↔
      IsS Lx Ly Lz x y z ∧ typeOf x y z = StabType.red := by
  unfold isRedCell stabilizerTypeIn
  by_cases hs : isIn (stabs Lx Ly Lz) [x, y, z] = true
  · have hS := isStab_iff.mp hs
    simp only [hs, Bool.not_true, Bool.false_eq_true, if_false, Bool.true_and, beq_iff_eq,
      Option.some.injEq, hS, true_and]
  · have hS : ¬ IsS Lx Ly Lz x y z := fun h => hs (isStab_iff.mpr h)
    simp only [hs, hS, Bool.false_and, Bool.false_eq_true, false_and]

/-- the sides are even: the periods are multiples of 8 -/
theorem dvd8 {L : Nat} (hL : L % 2 = 0) : (8 : Int) ∣ 4 * (L : Int) := ⟨(L : Int) / 2, by omega⟩

theorem emod_emod_8 {L : Nat} (hL : L % 2 = 0) (v : Int) : (v % (4 * (L : Int))) % 8 = v % 8 :=
  Int.emod_emod_of_dvd _ (dvd8 hL)

theorem redAt_iff {Lx Ly Lz : Nat} (hx : 2 ≤ Lx) (hy : 2 ≤ Ly) (hz : 2 ≤ Lz) (ex : Lx % 2 = 0)
    (ey : Ly % 2 = 0) (ez : Lz % 2 = 0) (X Y Z : Int) :
    isRedCell (stabs Lx Ly Lz) [X % (4 * (Lx : Int)), Y % (4 * (Ly : Int)), Z % (4 * (Lz : Int))] = true ↔
      X % 4 = 2 ∧ Y % 4 = 2 ∧ Z % 4 = 2 ∧ (X + Y + Z) % 8 = 2 := by
  rw [isRedCell_iff, typeOf_red_iff]
  have a := wrap_range (L := Lx) (by omega) X
  have b := wrap_range (L := Ly) (by omega) Y
  have c := wrap_range (L := Lz) (by omega) Z
  have a4 := emod_emod_4 (L := Lx) X
  have b4 := emod_emod_4 (L := Ly) Y
  have c4 := emod_emod_4 (L := Lz) Z
  have a8 := emod_emod_8 ex X
  have b8 := emod_emod_8 ey Y
  have c8 := emod_emod_8 ez Z
  generalize X % (4 * (Lx : Int)) = X' at *
  generalize Y % (4 * (Ly : Int)) = Y' at *
  generalize Z % (4 * (Lz : Int)) = Z' at *
  constructor
  · rintro ⟨_, h1, h2, h3, h4⟩; omega
  · intro h
    refine ⟨Or.inl ?_, by omega⟩
    unfold InA; omega

theorem mem_hexMembraneKeys {ss : List Coord} {Lx Ly Lz : Nat} {us vs : List Int}
    {h c1 c2 : Int → Int → Coord} {q : Coord} :
    q ∈ hexMembraneKeys ss Lx Ly Lz us vs h c1 c2 ↔ ∃ u v, u ∈ us ∧ v ∈ vs ∧
      (isRedCell ss (c1 u v) || isRedCell ss (c2 u v)) = true ∧
      q ∈ ((getStabilizerIn ss Lx Ly Lz (h u v)).getD []).map Prod.fst := by
  unfold hexMembraneKeys
  simp only [List.mem_flatMap]
  constructor
  · rintro ⟨u, hu, v, hv, hq⟩
    by_cases hc : (isRedCell ss (c1 u v) || isRedCell ss (c2 u v)) = true
    · rw [if_pos hc] at hq; exact ⟨u, v, hu, hv, hc, hq⟩
    · rw [if_neg hc] at hq; exact absurd hq (by simp)
  · rintro ⟨u, v, hu, hv, hc, hq⟩
    exact ⟨u, hu, v, hv, by rw [if_pos hc]; exact hq⟩

/-! The nine key lists of `get_logicals_z`, all with the three sides as arguments (a list does not
use the side along which it is thin). -/
section
set_option linter.unusedVariables false

def kZ1 (Lx Ly Lz : Nat) : List Coord := membraneKeys (fun y z => [0, y, z]) Ly Lz (rA Ly) (rA Lz)
def kZ2 (Lx Ly Lz : Nat) : List Coord := membraneKeys (fun y z => [2, y, z]) Ly Lz (rC Ly) (rC Lz)
def kZ3 (Lx Ly Lz : Nat) : List Coord :=
  hexMembraneKeys (stabs Lx Ly Lz) Lx Ly Lz (rH Ly) (rH Lz) (fun y z => [3, y, z])
    (fun y z => [(3 - 1) % (4 * (Lx : Int)), (y - 1) % (4 * (Ly : Int)), (z + 1) % (4 * (Lz : Int))])
    (fun y z => [(3 - 1) % (4 * (Lx : Int)), (y + 1) % (4 * (Ly : Int)), (z - 1) % (4 * (Lz : Int))])
def kZ4 (Lx Ly Lz : Nat) : List Coord := membraneKeys (fun x z => [x, 0, z]) Lx Lz (rA Lx) (rA Lz)
def kZ5 (Lx Ly Lz : Nat) : List Coord := membraneKeys (fun x z => [x, 2, z]) Lx Lz (rC Lx) (rC Lz)
def kZ6 (Lx Ly Lz : Nat) : List Coord :=
  hexMembraneKeys (stabs Lx Ly Lz) Lx Ly Lz (rH Lx) (rH Lz) (fun x z => [x, 3, z])
    (fun x z => [(x - 1) % (4 * (Lx : Int)), (3 - 1) % (4 * (Ly : Int)), (z + 1) % (4 * (Lz : Int))])
    (fun x z => [(x + 1) % (4 * (Lx : Int)), (3 - 1) % (4 * (Ly : Int)), (z - 1) % (4 * (Lz : Int))])
def kZ7 (Lx Ly Lz : Nat) : List Coord := membraneKeys (fun x y => [x, y, 0]) Lx Ly (rA Lx) (rA Ly)
def kZ8 (Lx Ly Lz : Nat) : List Coord := membraneKeys (fun x y => [x, y, 2]) Lx Ly (rC Lx) (rC Ly)
def kZ9 (Lx Ly Lz : Nat) : List Coord :=
  hexMembraneKeys (stabs Lx Ly Lz) Lx Ly Lz (rH Lx) (rH Ly) (fun x y => [x, y, 3])
    (fun x y => [(x - 1) % (4 * (Lx : Int)), (y + 1) % (4 * (Ly : Int)), (3 - 1) % (4 * (Lz : Int))])
    (fun x y => [(x + 1) % (4 * (Lx : Int)), (y - 1) % (4 * (Ly : Int)), (3 - 1) % (4 * (Lz : Int))])

end

theorem logZ_eq (Lx Ly Lz : Nat) :
    logZ Lx Ly Lz = [lineOp (kZ1 Lx Ly Lz) Pauli.Z, lineOp (kZ2 Lx Ly Lz) Pauli.Z,
      lineOp (kZ3 Lx Ly Lz) Pauli.Z, lineOp (kZ4 Lx Ly Lz) Pauli.Z, lineOp (kZ5 Lx Ly Lz) Pauli.Z,
      lineOp (kZ6 Lx Ly Lz) Pauli.Z, lineOp (kZ7 Lx Ly Lz) Pauli.Z, lineOp (kZ8 Lx Ly Lz) Pauli.Z,
      lineOp (kZ9 Lx Ly Lz) Pauli.Z] := rfl

/-- the two square membranes orthogonal to the axis `ax`, in the planes `0` and `2`; `L2`, `L3` the
    sides along the two other axes -/
def kZA (ax L2 L3 : Nat) : List Coord :=
  membraneKeys (fun v w => place ax 0 v w) L2 L3 (rA L2) (rA L3)
def kZC (ax L2 L3 : Nat) : List Coord :=
  membraneKeys (fun v w => place ax 2 v w) L2 L3 (rC L2) (rC L3)

theorem kZA_closed {ax L2 L3 : Nat} (h2 : 1 ≤ L2) (h3 : 1 ≤ L3) (q : Coord) :
    q ∈ kZA ax L2 L3 ↔ ∃ u v w, q = place ax u v w ∧ u = 0 ∧ PlanePat 2 L2 L3 v w := by
  unfold kZA
  rw [mem_membrane h2 h3 (Or.inr rfl) (fun u => by rw [mem_rA]; unfold InA; omega)
    fun v => by rw [mem_rA]; unfold InA; omega]
  exact ⟨fun ⟨p, r, e, h⟩ => ⟨0, p, r, e, rfl, h⟩, fun ⟨_, v, w, e, rfl, h⟩ => ⟨v, w, e, h⟩⟩

theorem kZC_closed {ax L2 L3 : Nat} (h2 : 1 ≤ L2) (h3 : 1 ≤ L3) (q : Coord) :
    q ∈ kZC ax L2 L3 ↔ ∃ u v w, q = place ax u v w ∧ u = 2 ∧ PlanePat 0 L2 L3 v w := by
  unfold kZC; rw [mem_membrane h2 h3 (Or.inl rfl) (fun _ => mem_rC) fun _ => mem_rC]
  exact ⟨fun ⟨p, r, e, h⟩ => ⟨2, p, r, e, rfl, h⟩, fun ⟨_, v, w, e, rfl, h⟩ => ⟨v, w, e, h⟩⟩

def kZs (Lx Ly Lz : Nat) : List (List Coord) :=
  [kZ1 Lx Ly Lz, kZ2 Lx Ly Lz, kZ3 Lx Ly Lz, kZ4 Lx Ly Lz, kZ5 Lx Ly Lz, kZ6 Lx Ly Lz, kZ7 Lx Ly Lz,
    kZ8 Lx Ly Lz, kZ9 Lx Ly Lz]

theorem logZ_map (Lx Ly Lz : Nat) :
    logZ Lx Ly Lz = (kZs Lx Ly Lz).map fun K => lineOp K Pauli.Z := rfl

section
variable {Lx Ly Lz : Nat} (hx : 2 ≤ Lx) (hy : 2 ≤ Ly) (hz : 2 ≤ Lz) (ex : Lx % 2 = 0)
  (ey : Ly % 2 = 0) (ez : Lz % 2 = 0)
include hx hy hz ex ey ez

omit ex ey ez in
/-- a hexagon membrane: the keys of the hexagons `loc u v` of the double loop for which one of the
    two red-cell tests passes, `hred` saying which these are -/
theorem mem_hexMembrane {Lu Lv : Nat} {loc : Int → Int → D3} {c1 c2 : Int → Int → Coord}
    (hloc : ∀ u v, InH Lu u → InH Lv v →
      IsS Lx Ly Lz (loc u v).1 (loc u v).2.1 (loc u v).2.2)
    (hred : ∀ u v, InH Lu u → InH Lv v →
      ((isRedCell (stabs Lx Ly Lz) (c1 u v) = true ∨ isRedCell (stabs Lx Ly Lz) (c2 u v) = true) ↔
        (u + v) % 8 = 0)) {q : Coord} :
    q ∈ hexMembraneKeys (stabs Lx Ly Lz) Lx Ly Lz (rH Lu) (rH Lv) (fun u v => toC (loc u v)) c1 c2 ↔
      ∃ u v, InH Lu u ∧ InH Lv v ∧ (u + v) % 8 = 0 ∧
        q ∈ keys Lx Ly Lz (loc u v).1 (loc u v).2.1 (loc u v).2.2 := by
  rw [mem_hexMembraneKeys]
  simp only [mem_rH, Bool.or_eq_true]
  refine exists_congr fun u => exists_congr fun v => and_congr_right fun h1 =>
    and_congr_right fun h2 => and_congr (hred u v h1 h2) ?_
  rw [show toC (loc u v) = [(loc u v).1, (loc u v).2.1, (loc u v).2.2] from rfl,
    getStabIn_eq hx hy hz (mem_stabs'.mpr (hloc u v h1 h2)), Option.getD_some, map_fst_letter]

theorem mem_kZ3 {q : Coord} :
    q ∈ kZ3 Lx Ly Lz ↔ ∃ y z, InH Ly y ∧ InH Lz z ∧ (y + z) % 8 = 0 ∧ q ∈ keys Lx Ly Lz 3 y z :=
  mem_hexMembrane hx hy hz (loc := fun y z => (3, y, z))
    (fun y z h1 h2 => IsS.hex (show InH Lx 3 by unfold InH; omega) h1 h2) fun y z h1 h2 => by
      rw [redAt_iff hx hy hz ex ey ez, redAt_iff hx hy hz ex ey ez]
      unfold InH at h1 h2
      omega

theorem mem_kZ6 {q : Coord} :
    q ∈ kZ6 Lx Ly Lz ↔ ∃ x z, InH Lx x ∧ InH Lz z ∧ (x + z) % 8 = 0 ∧ q ∈ keys Lx Ly Lz x 3 z :=
  mem_hexMembrane hx hy hz (loc := fun x z => (x, 3, z))
    (fun x z h1 h2 => IsS.hex h1 (show InH Ly 3 by unfold InH; omega) h2) fun x z h1 h2 => by
      rw [redAt_iff hx hy hz ex ey ez, redAt_iff hx hy hz ex ey ez]
      unfold InH at h1 h2
      omega

theorem mem_kZ9 {q : Coord} :
    q ∈ kZ9 Lx Ly Lz ↔ ∃ x y, InH Lx x ∧ InH Ly y ∧ (x + y) % 8 = 0 ∧ q ∈ keys Lx Ly Lz x y 3 :=
  mem_hexMembrane hx hy hz (loc := fun x y => (x, y, 3))
    (fun x y h1 h2 => IsS.hex h1 h2 (show InH Lz 3 by unfold InH; omega)) fun x y h1 h2 => by
      rw [redAt_iff hx hy hz ex ey ez, redAt_iff hx hy hz ex ey ez]
      unfold InH at h1 h2
      omega

/-- the red-green membrane orthogonal to y is the one orthogonal to x of the lattice with the sides
    `Ly, Lx, Lz`, read along the axis 1 -/
theorem kZ6_place (q : Coord) :
    q ∈ kZ6 Lx Ly Lz ↔ ∃ u v w, q = place 1 u v w ∧ [u, v, w] ∈ kZ3 Ly Lx Lz := by
  simp only [mem_kZ6 hx hy hz ex ey ez, mem_kZ3 hy hx hz ey ex ez]
  constructor
  · rintro ⟨x, z, h1, h2, h3, hq⟩
    obtain ⟨a, b, c, rfl, h⟩ := (mem_keys_place' (ax := 1) (u := 3) rfl
      (by unfold InH at h1 h2; omega)).mp hq
    exact ⟨a, b, c, rfl, x, z, h1, h2, h3, h⟩
  · rintro ⟨a, b, c, rfl, x, z, h1, h2, h3, h⟩
    exact ⟨x, z, h1, h2, h3, (mem_keys_place' (ax := 1) (u := 3) rfl
      (by unfold InH at h1 h2; omega)).mpr ⟨a, b, c, rfl, h⟩⟩

/-- orthogonal to z: sides `Lz, Lx, Ly`, axis 2 -/
theorem kZ9_place (q : Coord) :
    q ∈ kZ9 Lx Ly Lz ↔ ∃ u v w, q = place 2 u v w ∧ [u, v, w] ∈ kZ3 Lz Lx Ly := by
  simp only [mem_kZ9 hx hy hz ex ey ez, mem_kZ3 hz hx hy ez ex ey]
  constructor
  · rintro ⟨x, y, h1, h2, h3, hq⟩
    obtain ⟨a, b, c, rfl, h⟩ := (mem_keys_place' (ax := 2) (u := 3) rfl
      (by unfold InH at h1 h2; omega)).mp hq
    exact ⟨a, b, c, rfl, x, y, h1, h2, h3, h⟩
  · rintro ⟨a, b, c, rfl, x, y, h1, h2, h3, h⟩
    exact ⟨x, y, h1, h2, h3, (mem_keys_place' (ax := 2) (u := 3) rfl
      (by unfold InH at h1 h2; omega)).mpr ⟨a, b, c, rfl, h⟩⟩

end

end Panqec.Color3DCode
