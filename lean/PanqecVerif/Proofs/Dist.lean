/-
C17 main soundness theorem: an accepted distance certificate proves that the reported `d` is
the true distance.

Each of the three certificates gives the lower bound: the two enumerations below `d`
(Proofs/DistExhaustive.lean, Proofs/DistCSS.lean) leave no room for a lighter non-trivial logical
(C04 through `nontrivial_anticommutes_listed`), the packing certificate (Proofs/DistPacking.lean)
shows `d` disjoint representatives per listed logical (`packing_lower_bound`).  The upper bound is
a listed logical of weight `d` (`reportedDistanceFast`: the least listed weight is `d`).
-/
import PanqecVerif.Proofs.DistPacking
import PanqecVerif.Proofs.DistCSS

namespace Panqec

theorem checkPacking_sound (c : MaskCode) (cs : List Nat)
    (hv : ValidCodeL c.n c.k (c.stabs.map (unpackBits (2 * c.n)))
      (c.logX.map (unpackBits (2 * c.n))) (c.logZ.map (unpackBits (2 * c.n))))
    (h : checkPacking c cs = true) :
    ∀ v, IsNontrivialLogical c.n (c.stabs.map (unpackBits (2 * c.n))) v →
      c.d ≤ pauliWeight v :=
  packing_lower_bound hv c.d (checkPacking_reps c cs h)

theorem checkDistance_lower (c : MaskCode) (cert : DistCert)
    (hv : ValidCodeL c.n c.k (c.stabs.map (unpackBits (2 * c.n)))
      (c.logX.map (unpackBits (2 * c.n))) (c.logZ.map (unpackBits (2 * c.n))))
    (h : checkDistance c cert = true) :
    ∀ v, IsNontrivialLogical c.n (c.stabs.map (unpackBits (2 * c.n))) v →
      c.d ≤ pauliWeight v := by
  cases cert with
  | exhaustive => exact checkExhaustive_sound c hv h
  | exhaustiveCSS => exact checkExhaustiveCSS_sound c hv h
  | packing cs => exact checkPacking_sound c cs hv h

/-- the model's `listMin` is the library's `List.min?` -/
theorem listMin_eq_min? (l : List Nat) : listMin l = l.min? := by
  cases l <;> rfl

theorem listMin_mem (l : List Nat) (m : Nat) (h : listMin l = some m) : m ∈ l :=
  List.min?_mem (listMin_eq_min? l ▸ h)

theorem listMin_eq_some {l : List Nat} {m : Nat} (hm : m ∈ l) (hle : ∀ x ∈ l, m ≤ x) :
    listMin l = some m :=
  (listMin_eq_min? l).trans (List.min?_eq_some_iff.mpr ⟨hm, hle⟩)

/-- `code.d = some d` means some listed logical has weight `d` -/
theorem exists_listed_of_distance (Lx Lz : List (List Nat)) (d : Nat)
    (h : distance Lx Lz = some d) : ∃ l ∈ Lx ++ Lz, pauliWeight l = d := by
  unfold distance at h
  split at h
  · next a b hx hz =>
    obtain rfl := Option.some.inj h
    rcases (by omega : min a b = a ∨ min a b = b) with e | e
    · obtain ⟨l, hl, hw⟩ := List.mem_map.mp (listMin_mem _ _ hx)
      exact ⟨l, List.mem_append_left _ hl, hw.trans e.symm⟩
    · obtain ⟨l, hl, hw⟩ := List.mem_map.mp (listMin_mem _ _ hz)
      exact ⟨l, List.mem_append_right _ hl, hw.trans e.symm⟩
  · cases h

theorem isDistance_of_cert (c : MaskCode) (cert : DistCert)
    (hv : ValidCodeL c.n c.k (c.stabs.map (unpackBits (2 * c.n)))
      (c.logX.map (unpackBits (2 * c.n))) (c.logZ.map (unpackBits (2 * c.n))))
    (hd : distance (c.logX.map (unpackBits (2 * c.n))) (c.logZ.map (unpackBits (2 * c.n)))
      = some c.d)
    (h : checkDistance c cert = true) :
    IsDistance c.n (c.stabs.map (unpackBits (2 * c.n))) c.d :=
  distance_criterion hv c.d (exists_listed_of_distance _ _ _ hd) (checkDistance_lower c cert hv h)

/-- The three executable checks together prove that the reported `d` is the minimum
    weight of a non-trivial logical operator. -/
theorem checkDistance_sound (c : MaskCode) (rc : RankCert) (cert : DistCert)
    (hvalid : checkValidFast c rc = true) (hrep : reportedDistanceFast c = true)
    (h : checkDistance c cert = true) :
    IsDistance c.n (c.stabs.map (unpackBits (2 * c.n))) c.d :=
  isDistance_of_cert c cert (checkValidFast_sound c rc hvalid)
    (reportedDistanceFast_sound c rc hvalid hrep) h

theorem mem_attachCerts : ∀ (ps : List (MaskCode × RankCert)) (cs : List (Option DistCert))
    (q : MaskCode × RankCert × DistCert), q ∈ attachCerts ps cs → (q.1, q.2.1) ∈ ps
  | [], _, q, h => by simp [attachCerts] at h
  | _ :: _, [], q, h => by simp [attachCerts] at h
  | p :: ps, none :: cs, q, h => by
    simp only [attachCerts] at h
    exact List.mem_cons_of_mem _ (mem_attachCerts ps cs q h)
  | p :: ps, some c :: cs, q, h => by
    simp only [attachCerts, List.mem_cons] at h
    rcases h with rfl | h
    · simp
    · exact List.mem_cons_of_mem _ (mem_attachCerts ps cs q h)

/-- what an instance theorem `(attachCerts all certs).all (checkDistance …) = true` gives,
    on top of the validity theorem of the same table -/
theorem certified_sound (all : List (MaskCode × RankCert)) (certs : List (Option DistCert))
    (hvalid : ∀ p ∈ all,
      ValidCodeL p.1.n p.1.k (p.1.stabs.map (unpackBits (2 * p.1.n)))
        (p.1.logX.map (unpackBits (2 * p.1.n))) (p.1.logZ.map (unpackBits (2 * p.1.n))) ∧
      distance (p.1.logX.map (unpackBits (2 * p.1.n))) (p.1.logZ.map (unpackBits (2 * p.1.n)))
        = some p.1.d)
    (h : ((attachCerts all certs).all fun q => checkDistance q.1 q.2.2) = true) :
    ∀ q ∈ attachCerts all certs,
      IsDistance q.1.n (q.1.stabs.map (unpackBits (2 * q.1.n))) q.1.d := by
  intro q hq
  have hm := mem_attachCerts all certs q hq
  obtain ⟨hv, hd⟩ := hvalid _ hm
  exact isDistance_of_cert q.1 q.2.2 hv hd (List.all_eq_true.mp h q hq)

theorem certified_soundP (all : List (MaskCode × RankCert)) (certs : List (Option DistCert))
    (hvalid : ∀ p ∈ all,
      ValidCodeL p.1.n p.1.k (p.1.stabs.map (unpackBits (2 * p.1.n)))
        (p.1.logX.map (unpackBits (2 * p.1.n))) (p.1.logZ.map (unpackBits (2 * p.1.n))) ∧
      distance (p.1.logX.map (unpackBits (2 * p.1.n))) (p.1.logZ.map (unpackBits (2 * p.1.n)))
        = some p.1.d)
    (h : ((attachCerts all certs).all fun q => checkDistanceP q.1 q.2.2) = true) :
    ∀ q ∈ attachCerts all certs,
      IsDistance q.1.n (q.1.stabs.map (unpackBits (2 * q.1.n))) q.1.d :=
  certified_sound all certs hvalid (by simp only [checkDistance_eq]; exact h)

/-! non-vacuity on the [[4,2,2]] code -/

example : checkDistance code422 .exhaustive = true := by decide
/-- `l`, `l·XXXX` (resp. `l·ZZZZ`) for each of the four listed logicals -/
example : checkDistance code422 (.packing [0, 1, 0, 1, 0, 2, 0, 2]) = true := by decide
/-- a non-disjoint family is rejected -/
example : checkDistance code422 (.packing [0, 0, 0, 1, 0, 2, 0, 2]) = false := by decide
/-- too few representatives -/
example : checkDistance code422 (.packing [0, 1, 0, 1, 0, 2]) = false := by decide
/-- an overstated distance is rejected by both checks -/
example : checkDistance { code422 with d := 3 } .exhaustive = false := by decide
example : checkDistance { code422 with d := 3 } (.packing [0, 1, 3, 0, 1, 3, 0, 2, 3, 0, 2, 3])
    = false := by decide
example : IsDistance 4 (code422.stabs.map (unpackBits 8)) 2 :=
  checkDistance_sound code422 cert422 .exhaustive (by decide) (by decide) (by decide)

end Panqec
