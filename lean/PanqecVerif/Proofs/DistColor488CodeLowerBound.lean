/-
Color488Code, all sizes `Lx, Ly ≥ 1`, C17: the `2·La` lines of each family (`La = Lx` for
the columns, `La = Ly` for the rows) are sets of qubits with pairwise disjoint supports, the listed
logicals are members of the families (`lower_bound`: `min (2Lx) (2Ly)`, through
`Lattice.lower_bound_of_reps`), the listed columns have weight `2Ly` and the listed rows weight `2Lx`
(`reported_distance`: `min (2Lx) (2Ly)`).
-/
import PanqecVerif.Proofs.DistColor488CodeParity

namespace Panqec.Color488Code
open Panqec.Lat2D Panqec.Color

variable {La Lb : Nat}

theorem mk_inj {tr : Bool} {a b a' b' : Int} (h : mk tr a b = mk tr a' b') : a = a' ∧ b = b' := by
  cases tr
  · simp only [mk, Bool.false_eq_true, if_false, List.cons.injEq, and_true] at h; exact h
  · simp only [mk, if_true, List.cons.injEq, and_true] at h; exact ⟨h.2, h.1⟩

theorem isQ_symm {Lx Ly : Nat} {a b : Int} (h : IsQ Lx Ly a b) : IsQ Ly Lx b a :=
  ⟨h.2.2.1, h.2.2.2.1, h.1, h.2.1,
    h.2.2.2.2.elim (fun h => .inl ⟨h.2, h.1⟩) (fun h => .inr ⟨h.2, h.1⟩)⟩

theorem mk_qubit (hA : 1 ≤ La) (hB : 1 ≤ Lb) (tr : Bool) {a b : Int} (h : IsQ La Lb a b) :
    mk tr a b ∈ qubits (sx tr La Lb) (sy tr La Lb) := by
  cases tr
  · exact (mem_qubits' hA hB).mpr h
  · exact (mem_qubits' hB hA).mpr (isQ_symm h)

/-! Both coordinates of the qubits of a line of kind `s` are running coordinates `W L (8i + c + s)`,
`i < L`, `c = 3, 5`: the first one is `xc s t` with `i = t / 2`, the second one runs along the line.
They are pairwise distinct (`W_run_inj`) and fill the residues `3 + s`, `5 + s` of the range
(`mem_run`). -/

/-- a running coordinate stays in range, except the last one of the kind `s = 4`, which wraps to 1 -/
theorem W_run {L : Nat} {s : Int} (hs : s = 0 ∨ s = 4) {i : Nat} (hi : i < L) {c : Int}
    (hc : c = 3 ∨ c = 5) :
    W L (8 * (i : Int) + c + s) = 8 * (i : Int) + c + s ∨
      (W L (8 * (i : Int) + c + s) = 1 ∧ i + 1 = L ∧ c = 5 ∧ s = 4) := by
  rcases W_cases (L := L) (v := 8 * (i : Int) + c + s) (by omega) (by omega) with ⟨_, e⟩ | ⟨h, e⟩
  · exact .inl e
  · exact .inr ⟨by omega, by omega, by omega, by omega⟩

theorem W_run_inj {L : Nat} {s : Int} (hs : s = 0 ∨ s = 4) {i j : Nat} (hi : i < L)
    (hj : j < L) {c c' : Int} (hc : c = 3 ∨ c = 5) (hc' : c' = 3 ∨ c' = 5)
    (h : W L (8 * (i : Int) + c + s) = W L (8 * (j : Int) + c' + s)) : i = j ∧ c = c' := by
  rcases W_run hs hi hc with e | ⟨e, _, _, _⟩ <;> rcases W_run hs hj hc' with e' | ⟨e', _, _, _⟩ <;>
    rw [e, e'] at h <;> omega

theorem mem_run {L : Nat} (hL : 1 ≤ L) {s : Int} (hs : s = 0 ∨ s = 4) {b : Int} :
    (∃ i : Nat, i < L ∧ (b = W L (8 * (i : Int) + 3 + s) ∨ b = W L (8 * (i : Int) + 5 + s))) ↔
      0 ≤ b ∧ b < 8 * (L : Int) ∧ (b % 8 = (3 + s) % 8 ∨ b % 8 = (5 + s) % 8) := by
  constructor
  · rintro ⟨i, hi, rfl | rfl⟩
    · have r := W_range hL (8 * (i : Int) + 3 + s); omega
    · have r := W_range hL (8 * (i : Int) + 5 + s); omega
  · rintro ⟨h0, h1, h⟩
    -- `b = 8q + r`
    have hb := Int.mul_ediv_add_emod b 8
    generalize b / 8 = q at hb
    generalize b % 8 = r at hb h
    rcases hs with rfl | rfl
    · -- 8i+3, 8i+5: no wrap
      refine ⟨q.toNat, by omega, h.imp (fun h => ?_) (fun h => ?_)⟩
      · rw [W_small (by omega) (by omega)]; omega
      · rw [W_small (by omega) (by omega)]; omega
    · -- 8i+7, 8i+9: the last one wraps to 1
      rcases h with h | h
      · refine ⟨q.toNat, by omega, .inl ?_⟩
        rw [W_small (by omega) (by omega)]; omega
      · by_cases hb1 : q = 0
        · refine ⟨L - 1, by omega, .inr ?_⟩
          rw [W_congr L (by omega : 8 * ((L - 1 : Nat) : Int) + 5 + 4 = 1 + 8 * (L : Int)),
            W_shift, W_small (by omega) (by omega)]
          omega
        · refine ⟨q.toNat - 1, by omega, .inr ?_⟩
          rw [W_small (by omega) (by omega)]; omega

theorem xc_run (s : Int) (t : Nat) :
    xc s t = 8 * ((t / 2 : Nat) : Int) + 3 + s ∨ xc s t = 8 * ((t / 2 : Nat) : Int) + 5 + s := by
  unfold xc
  by_cases h : t % 2 = 0
  · rw [if_pos h]; exact .inl rfl
  · rw [if_neg h]; exact .inr rfl

/-- for a first coordinate with the residues of the kind `s`, the closed form of the qubit list
    asks the same of the second -/
theorem isQ_run {s : Int} (hs : s = 0 ∨ s = 4) {a b : Int}
    (ha : 0 ≤ a ∧ a < 8 * (La : Int) ∧ (a % 8 = (3 + s) % 8 ∨ a % 8 = (5 + s) % 8)) :
    IsQ La Lb a b ↔
      0 ≤ b ∧ b < 8 * (Lb : Int) ∧ (b % 8 = (3 + s) % 8 ∨ b % 8 = (5 + s) % 8) := by
  unfold IsQ
  obtain ⟨a0, a1, a8⟩ := ha
  generalize a % 8 = ra at *
  generalize b % 8 = rb at *
  rcases hs with rfl | rfl <;> omega

theorem mem_lineK {tr : Bool} {s : Int} {t : Nat} {q : Coord} :
    q ∈ lineK La Lb tr s t ↔ ∃ b, q = mk tr (W La (xc s t)) b ∧ ∃ i : Nat, i < Lb ∧
      (b = W Lb (8 * (i : Int) + 3 + s) ∨ b = W Lb (8 * (i : Int) + 5 + s)) := by
  unfold lineK
  simp only [List.mem_flatMap, List.mem_range, List.mem_cons, List.not_mem_nil, or_false]
  constructor
  · rintro ⟨i, hi, rfl | rfl⟩
    · exact ⟨_, rfl, i, hi, .inl rfl⟩
    · exact ⟨_, rfl, i, hi, .inr rfl⟩
  · rintro ⟨b, rfl, i, hi, rfl | rfl⟩
    · exact ⟨i, hi, .inl rfl⟩
    · exact ⟨i, hi, .inr rfl⟩

theorem mem_lineK_iff (hA : 1 ≤ La) (hB : 1 ≤ Lb) {tr : Bool} {s : Int} (hs : s = 0 ∨ s = 4) {t : Nat}
    (ht : t < 2 * La) {q : Coord} :
    q ∈ lineK La Lb tr s t ↔ ∃ a b, q = mk tr a b ∧ a = W La (xc s t) ∧ IsQ La Lb a b := by
  have ha := (mem_run hA hs).mp ⟨t / 2, by omega, (xc_run s t).imp (congrArg _) (congrArg _)⟩
  rw [mem_lineK]
  simp only [mem_run hB hs]
  constructor
  · rintro ⟨b, rfl, hb⟩
    exact ⟨_, b, rfl, rfl, (isQ_run hs ha).mpr hb⟩
  · rintro ⟨a, b, rfl, rfl, hq⟩
    exact ⟨b, rfl, (isQ_run hs ha).mp hq⟩

theorem lineK_qubits (hA : 1 ≤ La) (hB : 1 ≤ Lb) {tr : Bool} {s : Int} (hs : s = 0 ∨ s = 4) {t : Nat}
    (ht : t < 2 * La) : ∀ q ∈ lineK La Lb tr s t, q ∈ qubits (sx tr La Lb) (sy tr La Lb) := by
  intro q hq
  obtain ⟨a, b, rfl, _, h⟩ := (mem_lineK_iff hA hB hs ht).mp hq
  exact mk_qubit hA hB tr h

theorem nodup_lineK (hB : 1 ≤ Lb) (tr : Bool) {s : Int} (hs : s = 0 ∨ s = 4) (t : Nat) :
    (lineK La Lb tr s t).Nodup := by
  unfold lineK
  apply nodup_blocks
  · intro i _
    simp only [List.nodup_cons, List.mem_cons, List.not_mem_nil, or_false, not_false_eq_true,
      List.nodup_nil, and_true]
    intro e
    have r1 := W_range hB (8 * (i : Int) + 3 + s)
    have r2 := W_range hB (8 * (i : Int) + 5 + s)
    have := (mk_inj e).2
    omega
  · intro i j hi hj hij q hq hr
    simp only [List.mem_cons, List.not_mem_nil, or_false] at hq hr
    rcases hq with rfl | rfl <;> rcases hr with e | e
    · exact hij (W_run_inj hs hi hj (Or.inl rfl) (Or.inl rfl) (mk_inj e).2).1
    · have := (W_run_inj hs hi hj (Or.inl rfl) (Or.inr rfl) (mk_inj e).2).2; omega
    · have := (W_run_inj hs hi hj (Or.inr rfl) (Or.inl rfl) (mk_inj e).2).2; omega
    · exact hij (W_run_inj hs hi hj (Or.inr rfl) (Or.inr rfl) (mk_inj e).2).1

theorem W_xc_inj {s : Int} (hs : s = 0 ∨ s = 4) {t t' : Nat} (ht : t < 2 * La)
    (ht' : t' < 2 * La) (h : W La (xc s t) = W La (xc s t')) : t = t' := by
  have := W_run_inj hs (i := t / 2) (j := t' / 2) (by omega) (by omega)
    (c := if t % 2 = 0 then 3 else 5) (c' := if t' % 2 = 0 then 3 else 5)
    (by split <;> simp) (by split <;> simp) h
  split at this <;> split at this <;> omega

theorem lineK_disjoint (hA : 1 ≤ La) (hB : 1 ≤ Lb) (tr : Bool) {s : Int} (hs : s = 0 ∨ s = 4)
    {t t' : Nat} (htt : t < t') (ht' : t' < 2 * La) : ∀ q ∈ lineK La Lb tr s t, q ∉ lineK La Lb tr s t' := by
  intro q hq hq'
  obtain ⟨a, b, rfl, ha, _⟩ := (mem_lineK_iff hA hB hs (by omega : t < 2 * La)).mp hq
  obtain ⟨a', b', e, ha', _⟩ := (mem_lineK_iff hA hB hs ht').mp hq'
  have := (mk_inj e).1
  have := W_xc_inj hs (by omega : t < 2 * La) ht' (by rw [← ha, ← ha', this])
  omega

theorem xc_zero (s : Int) : xc s 0 = 3 + s := by unfold xc; simp
theorem xc_one (s : Int) : xc s 1 = 5 + s := by unfold xc; simp
theorem xc_last {L : Nat} (hL : 1 ≤ L) (s : Int) : xc s (2 * L - 1) = 8 * (L : Int) - 3 + s := by
  unfold xc
  rw [if_neg (by omega)]
  omega

/-- a full line of qubits of the lattice is, up to order, the member of the family with that
    coordinate -/
theorem IsLine.perm_lineK (hA : 1 ≤ La) (hB : 1 ≤ Lb) {tr : Bool} {s : Int} (hs : s = 0 ∨ s = 4)
    {t : Nat} (ht : t < 2 * La) {c : Int} (hc : W La (xc s t) = c) {K : List Coord}
    (h : IsLine (sx tr La Lb) (sy tr La Lb) tr c K) : K.Perm (lineK La Lb tr s t) := by
  rw [List.perm_ext_iff_of_nodup h.1 (nodup_lineK hB tr hs t)]
  intro q
  rw [mem_lineK_iff hA hB hs ht, hc]
  cases tr
  · constructor
    · intro hq
      obtain ⟨a, b, rfl, _⟩ := h.shape hA hB hq
      obtain ⟨e, hab⟩ := (h.mem' hA hB).mp hq
      exact ⟨a, b, rfl, e, hab⟩
    · rintro ⟨a, b, rfl, e, hab⟩
      exact (h.mem' hA hB).mpr ⟨e, hab⟩
  · constructor
    · intro hq
      obtain ⟨a, b, rfl, _⟩ := h.shape hB hA hq
      obtain ⟨e, hab⟩ := (h.mem' hB hA).mp hq
      exact ⟨b, a, rfl, e, isQ_symm hab⟩
    · rintro ⟨a, b, rfl, e, hab⟩
      exact (h.mem' hB hA).mpr ⟨e, isQ_symm hab⟩

section listed
variable {Lx Ly : Nat} (hx : 1 ≤ Lx) (hy : 1 ≤ Ly)
include hx hy

theorem k3_perm : (k3 Lx Ly).Perm (lineK Lx Ly false 0 0) :=
  IsLine.perm_lineK (tr := false) hx hy (.inl rfl) (by omega)
    (by rw [xc_zero]; exact W_small (by omega) (by omega)) (isLine_k3 hx hy)

theorem k7_perm : (k7 Lx Ly).Perm (lineK Lx Ly false 4 0) :=
  IsLine.perm_lineK (tr := false) hx hy (.inr rfl) (by omega)
    (by rw [xc_zero]; exact W_small (by omega) (by omega)) (isLine_k7 hx hy)

theorem r5_perm : (r5 Lx Ly).Perm (lineK Ly Lx true 0 1) :=
  IsLine.perm_lineK (tr := true) hy hx (.inl rfl) (by omega)
    (by rw [xc_one]; exact W_small (by omega) (by omega)) (isLine_r5 hx hy)

theorem r1_perm : (r1 Lx Ly).Perm (lineK Ly Lx true 4 (2 * Ly - 1)) :=
  IsLine.perm_lineK (tr := true) hy hx (.inr rfl) (by omega) (by
    rw [xc_last hy, W_congr Ly (by omega : 8 * (Ly : Int) - 3 + 4 = 1 + 8 * (Ly : Int)), W_shift]
    exact W_small (by omega) (by omega)) (isLine_r1 hx hy)

end listed

theorem line_parity' (tr : Bool) (hA : 1 ≤ La) (hB : 1 ≤ Lb) {b : Op}
    (hb : CommStabs (sx tr La Lb) (sy tr La Lb) b) {p : Int}
    (hp : p = 0 ∨ p = 1) {s : Int} (hs : s = 0 ∨ s = 4) {t0 : Nat} (ht0 : t0 < 2 * La) (t : Nat)
    (ht : t < 2 * La) :
    (lineK La Lb tr s t).countP (opHit (letter p) b) % 2 =
      (lineK La Lb tr s t0).countP (opHit (letter p) b) % 2 := by
  rw [countP_lineK, countP_lineK, line_parity tr hA hB hb hp hs t ht,
    line_parity tr hA hB hb hp hs t0 ht0]

/-- one listed logical: the `2·La` lines of its family are disjoint representatives -/
theorem packed_of (hA : 1 ≤ La) (hB : 1 ≤ Lb) (tr : Bool) {s : Int} (hs : s = 0 ∨ s = 4) {p : Int}
    (hp : p = 0 ∨ p = 1) {K : List Coord} {t0 : Nat} (ht0 : t0 < 2 * La)
    (hK : K.Perm (lineK La Lb tr s t0)) {d : Nat} (hd : d ≤ 2 * La) :
    (lattice (sx tr La Lb) (sy tr La Lb)).Packed d (K.map fun q => (q, letter p)) :=
  .of_family (letter p) (fun t => lineK La Lb tr s t) hd
    (fun t ht => ⟨nodup_lineK hB tr hs t, lineK_qubits hA hB hs ht, fun b hb => by
      rw [opAntiCount_line, hK.countP_eq]
      exact line_parity' tr hA hB hb hp hs ht0 t ht⟩)
    fun _ _ htt ht' => lineK_disjoint hA hB tr hs htt ht'

theorem reps_of (hA : 1 ≤ La) (hB : 1 ≤ Lb) (tr : Bool) {s : Int} (hs : s = 0 ∨ s = 4) {p : Int}
    (hp : p = 0 ∨ p = 1) {K : List Coord} {t0 : Nat} (ht0 : t0 < 2 * La)
    (hK : K.Perm (lineK La Lb tr s t0)) :
    ∃ reps : List Op, 2 * La ≤ reps.length ∧
      (∀ r ∈ reps, KeysNodup r ∧ opSupported (qubits (sx tr La Lb) (sy tr La Lb)) r = true) ∧
      reps.Pairwise KeysDisjoint ∧
      ∀ b : Op, KeysNodup b → opSupported (qubits (sx tr La Lb) (sy tr La Lb)) b = true →
        CommStabs (sx tr La Lb) (sy tr La Lb) b →
        ∀ r ∈ reps, opAntiCount r b % 2 = opAntiCount (K.map (fun q => (q, letter p))) b % 2 :=
  (packed_of hA hB tr hs hp ht0 hK (Nat.le_refl _)).reps

section bound
variable {Lx Ly : Nat}

/-- every non-trivial logical operator of the `Lx × Ly` 4.8.8 colour code has weight
    `≥ min (2Lx) (2Ly)`: it anticommutes with a listed column (which has `2Lx` disjoint translates)
    or with a listed row (`2Ly` disjoint translates) -/
theorem lower_bound (hx : 1 ≤ Lx) (hy : 1 ≤ Ly) (hwf : (lattice Lx Ly).WF) {n k : Nat}
    (hn : (qubits Lx Ly).length = n)
    (hv : ValidCodeL n k (lattice Lx Ly).rowsH (lattice Lx Ly).rowsX (lattice Lx Ly).rowsZ) :
    ∀ v, IsNontrivialLogical n (lattice Lx Ly).rowsH v → min (2 * Lx) (2 * Ly) ≤ pauliWeight v := by
  apply Lattice.lower_bound_of_reps (lattice Lx Ly) hwf hn hv
  intro a ha
  change a ∈ logX Lx Ly ++ logZ Lx Ly at ha
  rw [logX_eq, logZ_eq] at ha
  simp only [List.cons_append, List.nil_append, List.mem_cons, List.not_mem_nil, or_false] at ha
  have p0 : (0 : Int) = 0 ∨ (0 : Int) = 1 := Or.inl rfl
  have p1 : (1 : Int) = 0 ∨ (1 : Int) = 1 := Or.inr rfl
  rcases ha with rfl | rfl | rfl | rfl | rfl | rfl | rfl | rfl
  · exact packed_of hx hy false (Or.inl rfl) p0 (by omega) (k3_perm hx hy) (by omega)
  · exact packed_of hx hy false (Or.inr rfl) p0 (by omega) (k7_perm hx hy) (by omega)
  · exact packed_of hy hx true (Or.inl rfl) p0 (by omega) (r5_perm hx hy) (by omega)
  · exact packed_of hy hx true (Or.inr rfl) p0 (by omega) (r1_perm hx hy) (by omega)
  · exact packed_of hy hx true (Or.inl rfl) p1 (by omega) (r5_perm hx hy) (by omega)
  · exact packed_of hy hx true (Or.inr rfl) p1 (by omega) (r1_perm hx hy) (by omega)
  · exact packed_of hx hy false (Or.inl rfl) p1 (by omega) (k3_perm hx hy) (by omega)
  · exact packed_of hx hy false (Or.inr rfl) p1 (by omega) (k7_perm hx hy) (by omega)

/-- the rows of `logicals_x` have weights `2Ly, 2Ly, 2Lx, 2Lx` (two columns, two rows of qubits),
    those of `logicals_z` weights `2Lx, 2Lx, 2Ly, 2Ly` -/
theorem weights_listed (hx : 1 ≤ Lx) (hy : 1 ≤ Ly) (hwf : (lattice Lx Ly).WF) :
    (lattice Lx Ly).rowsX.map pauliWeight = [2 * Ly, 2 * Ly, 2 * Lx, 2 * Lx] ∧
    (lattice Lx Ly).rowsZ.map pauliWeight = [2 * Lx, 2 * Lx, 2 * Ly, 2 * Ly] := by
  rw [hwf.weights.1, hwf.weights.2]
  change (logX Lx Ly).map List.length = _ ∧ (logZ Lx Ly).map List.length = _
  rw [logX_eq, logZ_eq]
  simp only [List.map_cons, List.map_nil, List.length_map, length_k3 hx hy, length_k7 hx hy,
    length_r5 hx hy, length_r1 hx hy]
  exact ⟨trivial, trivial⟩

/-- `code.d` (minimum weight of the listed logicals) is `min (2Lx) (2Ly)` -/
theorem reported_distance (hx : 1 ≤ Lx) (hy : 1 ≤ Ly) (hwf : (lattice Lx Ly).WF) :
    distance (lattice Lx Ly).rowsX (lattice Lx Ly).rowsZ = some (min (2 * Lx) (2 * Ly)) := by
  obtain ⟨h1, h2⟩ := weights_listed hx hy hwf
  rw [distance_of_weights h1 h2 rfl rfl]
  simp only [List.foldl_cons, List.foldl_nil]
  congr 1
  omega

end bound

end Panqec.Color488Code
