/-
Helper lemmas about `Model/Bits.lean` (dot products, symplectic form, converters).
Core Lean only.
-/
import PanqecVerif.Model.Bits

namespace Panqec

theorem dot_nil_left (b : List Nat) : dot [] b = 0 := by simp [dot]
theorem dot_nil_right (a : List Nat) : dot a [] = 0 := by cases a <;> simp [dot]
@[simp] theorem dot_cons (a b : Nat) (as bs : List Nat) :
    dot (a :: as) (b :: bs) = a * b + dot as bs := by simp [dot]

theorem dot_comm : ∀ a b : List Nat, dot a b = dot b a
  | [], b => by rw [dot_nil_left, dot_nil_right]
  | a :: as, [] => by rw [dot_nil_left, dot_nil_right]
  | a :: as, b :: bs => by simp [dot_comm as bs, Nat.mul_comm]

theorem dotU8_eq_mod : ∀ a b : List Nat, dotU8 a b = dot a b % 256
  | [], b => by simp [dotU8, dot]
  | a :: as, [] => by simp [dotU8, dot]
  | a :: as, b :: bs => by
    simp only [dotU8, dot, dotU8_eq_mod as bs]
    have h1 : (a % 256) * (b % 256) % 256 = a * b % 256 := by
      rw [Nat.mul_mod a b 256]
    rw [h1]; omega

theorem dotU8_mod_two (a b : List Nat) : dotU8 a b % 2 = dot a b % 2 := by
  rw [dotU8_eq_mod]; omega

/-- the wrap lemma: reducing modulo 256 first does not change the parity -/
theorem wrap_parity (s t : Nat) : ((s % 256 + t % 256) % 256) % 2 = (s + t) % 2 := by omega

@[simp] theorem vadd_cons (a b : Nat) (as bs : List Nat) :
    vadd (a :: as) (b :: bs) = (a + b) :: vadd as bs := by simp [vadd]
@[simp] theorem vadd_nil_left (b : List Nat) : vadd [] b = [] := by simp [vadd]
@[simp] theorem vadd_nil_right (a : List Nat) : vadd a [] = [] := by cases a <;> simp [vadd]

theorem vadd_length : ∀ a b : List Nat, a.length = b.length → (vadd a b).length = a.length
  | [], _, _ => by simp
  | a :: as, [], h => by simp at h
  | a :: as, b :: bs, h => by
    simp at h; simp [vadd_length as bs h]

theorem vadd_take : ∀ (k : Nat) (a b : List Nat), (vadd a b).take k = vadd (a.take k) (b.take k)
  | 0, a, b => by simp
  | k + 1, [], b => by simp
  | k + 1, a :: as, [] => by simp
  | k + 1, a :: as, b :: bs => by simp [vadd_take k as bs]

theorem vadd_drop : ∀ (k : Nat) (a b : List Nat), a.length = b.length →
    (vadd a b).drop k = vadd (a.drop k) (b.drop k)
  | 0, a, b, _ => by simp
  | k + 1, [], b, h => by simp
  | k + 1, a :: as, [], h => by simp at h
  | k + 1, a :: as, b :: bs, h => by
    simp at h; simp [vadd_drop k as bs h]

theorem dot_vadd_left : ∀ a b c : List Nat, a.length = b.length →
    dot (vadd a b) c = dot a c + dot b c
  | [], b, c, h => by
    have : b = [] := by cases b with | nil => rfl | cons _ _ => simp at h
    subst this; simp [dot]
  | a :: as, [], c, h => by simp at h
  | a :: as, b :: bs, [], _ => by simp [dot_nil_right]
  | a :: as, b :: bs, c :: cs, h => by
    simp at h
    simp [dot_vadd_left as bs cs h, Nat.add_mul]; omega

theorem dot_map_mod_left : ∀ a c : List Nat, dot (a.map (· % 2)) c % 2 = dot a c % 2
  | [], c => by simp [dot]
  | a :: as, [] => by simp [dot_nil_right]
  | a :: as, c :: cs => by
    simp only [List.map, dot_cons]
    have ih := dot_map_mod_left as cs
    have h : (a % 2) * c % 2 = a * c % 2 := by rw [Nat.mul_mod, Nat.mod_mod, ← Nat.mul_mod]
    omega

theorem dot_map_mod_right (a c : List Nat) : dot a (c.map (· % 2)) % 2 = dot a c % 2 := by
  rw [dot_comm, dot_map_mod_left, dot_comm]

theorem map_mod_binary (v : List Nat) : ∀ x ∈ v.map (· % 2), x < 2 :=
  List.forall_mem_map.mpr fun y _ => Nat.mod_lt y (by decide)

theorem map_mod_two_of_binary : ∀ a : List Nat, (∀ x ∈ a, x < 2) → a.map (· % 2) = a
  | [], _ => rfl
  | x :: a, h => by
    have hx := h x (by simp)
    simp only [List.map_cons, map_mod_two_of_binary a (fun y hy => h y (by simp [hy]))]
    congr 1
    omega

theorem xPart_vadd (a b : List Nat) (h : a.length = b.length) :
    xPart (vadd a b) = vadd (xPart a) (xPart b) := by
  simp only [xPart, vadd_length a b h, vadd_take, ← h]

theorem zPart_vadd (a b : List Nat) (h : a.length = b.length) :
    zPart (vadd a b) = vadd (zPart a) (zPart b) := by
  simp only [zPart, vadd_length a b h, vadd_drop _ a b h, ← h]

theorem xPart_map (f : Nat → Nat) (a : List Nat) : xPart (a.map f) = (xPart a).map f := by
  simp [xPart, List.map_take]

theorem zPart_map (f : Nat → Nat) (a : List Nat) : zPart (a.map f) = (zPart a).map f := by
  simp [zPart, List.map_drop]

theorem xPart_length (a : List Nat) : (xPart a).length = a.length / 2 := by
  simp [xPart]; omega

theorem zPart_length (a : List Nat) : (zPart a).length = a.length - a.length / 2 := by
  simp [zPart]

theorem xPart_append (a b : List Nat) (h : a.length = b.length) : xPart (a ++ b) = a := by
  unfold xPart
  apply List.take_left'
  rw [List.length_append]; omega

theorem zPart_append (a b : List Nat) (h : a.length = b.length) : zPart (a ++ b) = b := by
  unfold zPart
  apply List.drop_left'
  rw [List.length_append]; omega

theorem xPart_append_zPart (v : List Nat) : xPart v ++ zPart v = v := by
  unfold xPart zPart; exact List.take_append_drop _ _

theorem xPart_len {n : Nat} {a : List Nat} (h : a.length = 2 * n) : (xPart a).length = n := by
  rw [xPart_length, h]; omega
theorem zPart_len {n : Nat} {a : List Nat} (h : a.length = 2 * n) : (zPart a).length = n := by
  rw [zPart_length, h]; omega

theorem dot_zero_left : ∀ (a b : List Nat), (∀ x ∈ a, x = 0) → dot a b = 0
  | [], b, _ => dot_nil_left b
  | a :: as, [], _ => dot_nil_right _
  | a :: as, b :: bs, h => by
    have ha : a = 0 := h a (by simp)
    rw [dot_cons, dot_zero_left as bs (fun x hx => h x (by simp [hx])), ha]
    simp

theorem dot_ne_zero : ∀ xs zs : List Nat, dot xs zs ≠ 0 →
    ∃ i, xs.getD i 0 ≠ 0 ∧ zs.getD i 0 ≠ 0
  | [], zs, h => by simp [dot_nil_left] at h
  | x :: xs, [], h => by simp [dot_nil_right] at h
  | x :: xs, z :: zs, h => by
    rw [dot_cons] at h
    by_cases hxz : x * z = 0
    · have : dot xs zs ≠ 0 := by omega
      obtain ⟨i, h1, h2⟩ := dot_ne_zero xs zs this
      exact ⟨i + 1, by simpa using h1, by simpa using h2⟩
    · obtain ⟨hx, hz⟩ := Nat.mul_ne_zero_iff.mp hxz
      exact ⟨0, by simpa using hx, by simpa using hz⟩

theorem symp_comm (a b : List Nat) : symp a b = symp b a := by
  unfold symp
  rw [dot_comm (xPart a) (zPart b), dot_comm (zPart a) (xPart b)]
  omega

theorem symp_lt_two (a b : List Nat) : symp a b < 2 := by
  unfold symp; omega

theorem symp_vadd_left (a b c : List Nat) (h : a.length = b.length) :
    symp (vadd a b) c = (symp a c + symp b c) % 2 := by
  unfold symp
  rw [xPart_vadd a b h, zPart_vadd a b h]
  have hx : (xPart a).length = (xPart b).length := by simp [xPart_length, h]
  have hz : (zPart a).length = (zPart b).length := by simp [zPart_length, h]
  rw [dot_vadd_left _ _ _ hx, dot_vadd_left _ _ _ hz]
  omega

theorem symp_map_mod_left (a c : List Nat) : symp (a.map (· % 2)) c = symp a c := by
  unfold symp
  rw [xPart_map, zPart_map]
  have h1 := dot_map_mod_left (xPart a) (zPart c)
  have h2 := dot_map_mod_left (zPart a) (xPart c)
  omega

theorem symp_vxor_left (a b c : List Nat) (h : a.length = b.length) :
    symp (vxor a b) c = (symp a c + symp b c) % 2 := by
  unfold vxor
  rw [symp_map_mod_left, symp_vadd_left a b c h]

theorem symp_vxor_right (a b c : List Nat) (h : b.length = c.length) :
    symp a (vxor b c) = (symp a b + symp a c) % 2 := by
  rw [symp_comm, symp_vxor_left b c a h, symp_comm b a, symp_comm c a]

theorem getD_vxor : ∀ (xs ys : List Nat) (i : Nat), xs.length = ys.length →
    (vxor xs ys).getD i 0 = (xs.getD i 0 + ys.getD i 0) % 2
  | [], ys, i, h => by
    have : ys = [] := by cases ys with | nil => rfl | cons _ _ => simp at h
    subst this; simp [vxor]
  | x :: xs, [], i, h => by simp at h
  | x :: xs, y :: ys, 0, h => by simp [vxor]
  | x :: xs, y :: ys, i + 1, h => by
    simp at h
    simpa [vxor] using getD_vxor xs ys i h

theorem xPart_vxor (a b : List Nat) (h : a.length = b.length) :
    xPart (vxor a b) = vxor (xPart a) (xPart b) := by
  unfold vxor; rw [xPart_map, xPart_vadd a b h]
theorem zPart_vxor (a b : List Nat) (h : a.length = b.length) :
    zPart (vxor a b) = vxor (zPart a) (zPart b) := by
  unfold vxor; rw [zPart_map, zPart_vadd a b h]

theorem getD_map_of_lt {α β} (f : α → β) (l : List α) (d : α) (d' : β) {i : Nat} (hi : i < l.length) :
    (l.map f).getD i d' = f (l.getD i d) := by
  simp [List.getD_eq_getElem?_getD, hi]

theorem vxor_map_symp (L : List (List Nat)) (e f : List Nat) (h : e.length = f.length) :
    L.map (fun l => symp l (vxor e f)) =
      vxor (L.map (fun l => symp l e)) (L.map (fun l => symp l f)) := by
  induction L with
  | nil => simp [vxor]
  | cons r L ih =>
    simp only [List.map_cons, vxor, vadd_cons] at ih ⊢
    rw [ih]
    have := symp_vxor_right r e f h
    simp only [vxor] at this
    rw [this]

/-- every computational path of `bs_prod` computes the symplectic form -/
theorem bsProdDense_eq_symp (dt : DType) (a b : List Nat) : bsProdDense dt a b = symp a b := by
  cases dt
  · simp only [bsProdDense, symp, dotU8_eq_mod]; omega
  · simp only [bsProdDense, symp]

theorem bsProdSparse_eq_symp (a b : List Nat) : bsProdSparse a b = symp a b := by
  simp only [bsProdSparse, symp, dotU8_eq_mod]; omega

theorem Pauli.ofBits_bits (p : Pauli) : Pauli.ofBits p.xBit p.zBit = p := by
  cases p <;> simp [Pauli.ofBits, Pauli.xBit, Pauli.zBit]

theorem pauliToBsf_length (ps : List Pauli) : (pauliToBsf ps).length = 2 * ps.length := by
  simp [pauliToBsf]; omega

theorem xPart_pauliToBsf (ps : List Pauli) : xPart (pauliToBsf ps) = ps.map Pauli.xBit := by
  have h : (pauliToBsf ps).length / 2 = (ps.map Pauli.xBit).length := by
    rw [pauliToBsf_length]; simp
  unfold xPart; rw [h]; simp [pauliToBsf]

theorem zPart_pauliToBsf (ps : List Pauli) : zPart (pauliToBsf ps) = ps.map Pauli.zBit := by
  have h : (pauliToBsf ps).length / 2 = (ps.map Pauli.xBit).length := by
    rw [pauliToBsf_length]; simp
  unfold zPart; rw [h]; simp [pauliToBsf]

theorem zipWith_ofBits_bits : ∀ ps : List Pauli,
    List.zipWith Pauli.ofBits (ps.map Pauli.xBit) (ps.map Pauli.zBit) = ps
  | [] => rfl
  | p :: ps => by simp [Pauli.ofBits_bits, zipWith_ofBits_bits ps]

theorem bsfToPauli_pauliToBsf (ps : List Pauli) : bsfToPauli (pauliToBsf ps) = ps := by
  unfold bsfToPauli
  rw [xPart_pauliToBsf, zPart_pauliToBsf, zipWith_ofBits_bits]

theorem xBit_lt_two (p : Pauli) : p.xBit < 2 := by cases p <;> simp [Pauli.xBit]
theorem zBit_lt_two (p : Pauli) : p.zBit < 2 := by cases p <;> simp [Pauli.zBit]

theorem ofBits_xBit (x z : Nat) : (Pauli.ofBits x z).xBit = x % 2 := by
  unfold Pauli.ofBits
  split <;> split <;> simp [Pauli.xBit] <;> omega

theorem ofBits_zBit (x z : Nat) : (Pauli.ofBits x z).zBit = z % 2 := by
  unfold Pauli.ofBits
  split <;> split <;> simp [Pauli.zBit] <;> omega

theorem Pauli.bits_ofBits (x z : Nat) (hx : x < 2) (hz : z < 2) :
    (Pauli.ofBits x z).xBit = x ∧ (Pauli.ofBits x z).zBit = z := by
  rw [ofBits_xBit, ofBits_zBit, Nat.mod_eq_of_lt hx, Nat.mod_eq_of_lt hz]
  exact ⟨rfl, rfl⟩

theorem pauliToBsf_binary (ps : List Pauli) : ∀ x ∈ pauliToBsf ps, x < 2 := by
  intro x hx
  simp only [pauliToBsf, List.mem_append, List.mem_map] at hx
  rcases hx with ⟨p, _, rfl⟩ | ⟨p, _, rfl⟩
  · exact xBit_lt_two p
  · exact zBit_lt_two p

theorem map_bits_zipWith : ∀ xs zs : List Nat, xs.length = zs.length →
    (∀ x ∈ xs, x < 2) → (∀ z ∈ zs, z < 2) →
    (List.zipWith Pauli.ofBits xs zs).map Pauli.xBit = xs ∧
    (List.zipWith Pauli.ofBits xs zs).map Pauli.zBit = zs
  | [], [], _, _, _ => by simp
  | [], _ :: _, h, _, _ => by simp at h
  | _ :: _, [], h, _, _ => by simp at h
  | x :: xs, z :: zs, h, hx, hz => by
    simp at h
    have hx0 : x < 2 := hx x (by simp)
    have hz0 : z < 2 := hz z (by simp)
    have ih := map_bits_zipWith xs zs h (fun a ha => hx a (by simp [ha])) (fun a ha => hz a (by simp [ha]))
    have hb := Pauli.bits_ofBits x z hx0 hz0
    simp [hb.1, hb.2, ih.1, ih.2]

theorem pauliToBsf_bsfToPauli (v : List Nat) (heven : v.length % 2 = 0)
    (hbin : ∀ x ∈ v, x < 2) : pauliToBsf (bsfToPauli v) = v := by
  unfold pauliToBsf bsfToPauli
  have hlen : (xPart v).length = (zPart v).length := by
    rw [xPart_length, zPart_length]; omega
  have hx : ∀ x ∈ xPart v, x < 2 := fun x hx => hbin x (List.mem_of_mem_take hx)
  have hz : ∀ z ∈ zPart v, z < 2 := fun z hz => hbin z (List.mem_of_mem_drop hz)
  have h := map_bits_zipWith (xPart v) (zPart v) hlen hx hz
  rw [h.1, h.2]
  simp [xPart, zPart]

theorem countP_zipWith_bits : ∀ ps : List Pauli,
    (List.zipWith (fun x z => x + z) (ps.map Pauli.xBit) (ps.map Pauli.zBit)).countP (· ≠ 0)
      = ps.countP (· ≠ Pauli.I)
  | [] => rfl
  | p :: ps => by
    have ih := countP_zipWith_bits ps
    simp only [List.map_cons, List.zipWith_cons_cons, List.countP_cons, ih]
    cases p <;> simp [Pauli.xBit, Pauli.zBit]

theorem bvectorToInt_append (l : List Nat) (b : Nat) :
    bvectorToInt (l ++ [b]) = 2 * bvectorToInt l + b := by
  simp [bvectorToInt, List.foldl_append]

theorem natToBitsBE_length : ∀ w k, (natToBitsBE w k).length = w
  | 0, _ => rfl
  | w + 1, k => by simp [natToBitsBE, natToBitsBE_length w]

theorem natToBitsBE_binary : ∀ w k, ∀ x ∈ natToBitsBE w k, x < 2
  | 0, _, x, h => by simp [natToBitsBE] at h
  | w + 1, k, x, h => by
    simp [natToBitsBE] at h
    rcases h with h | h
    · exact natToBitsBE_binary w _ x h
    · omega

theorem bvectorToInt_natToBitsBE : ∀ w k, k < 2 ^ w → bvectorToInt (natToBitsBE w k) = k
  | 0, k, h => by
    have : k = 0 := by simpa using h
    subst this; rfl
  | w + 1, k, h => by
    rw [natToBitsBE, bvectorToInt_append, bvectorToInt_natToBitsBE w (k / 2)]
    · omega
    · rw [Nat.pow_succ] at h; omega

theorem list_rev_induction {α} {P : List α → Prop} (hnil : P [])
    (hsnoc : ∀ l a, P l → P (l ++ [a])) : ∀ l, P l := by
  intro l
  have h : ∀ r : List α, P r.reverse := by
    intro r
    induction r with
    | nil => exact hnil
    | cons a r ih => rw [List.reverse_cons]; exact hsnoc _ _ ih
  simpa using h l.reverse

theorem bvectorToInt_lt : ∀ l : List Nat, (∀ x ∈ l, x < 2) → bvectorToInt l < 2 ^ l.length := by
  intro l
  induction l using list_rev_induction with
  | hnil => intro _; simp [bvectorToInt]
  | hsnoc l b ih =>
    intro h
    rw [bvectorToInt_append]
    have hb : b < 2 := h b (by simp)
    have := ih (fun x hx => h x (by simp [hx]))
    simp [Nat.pow_succ]; omega

theorem natToBitsBE_bvectorToInt : ∀ l : List Nat, (∀ x ∈ l, x < 2) →
    natToBitsBE l.length (bvectorToInt l) = l := by
  intro l
  induction l using list_rev_induction with
  | hnil => intro _; rfl
  | hsnoc l b ih =>
    intro h
    have hb : b < 2 := h b (by simp)
    have hl := ih (fun x hx => h x (by simp [hx]))
    rw [bvectorToInt_append]
    simp only [List.length_append, List.length_singleton, natToBitsBE]
    have h1 : (2 * bvectorToInt l + b) / 2 = bvectorToInt l := by omega
    have h2 : (2 * bvectorToInt l + b) % 2 = b := by omega
    rw [h1, h2, hl]

end Panqec
