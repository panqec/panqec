/-
Color666ToricCode, square sizes `L ≥ 1`: faces and supports in FACE coordinates.

The face `(a, j)` (`a, j ∈ ℤ`) is the hexagon centred at `(3a+2, 2+2a+4j)`; the period lattice
`⟨(9L, 6L), (0, 12L)⟩` of the class becomes `⟨(3L, 0), (0, 3L)⟩`: an UNSHEARED `3L × 3L` torus of
faces.  Every face owns its right corner `qR a j` (`x ≡ 1 mod 3`) and its left corner `qL a j`
(`x ≡ 0 mod 3`), the canonical representatives of the plane points; two of them are equal iff the
face coordinates agree modulo `3L` (`qR_eq_iff`, `qL_eq_iff`).  The support of a generator location
is the list `corners a j` of its face (`face_of_isF`, `isF_of_face`), a table of (kind, owner offset)
read through `ckey`; so the supports are duplicate-free and two faces share an even number of
qubits (`keyed_even` with the table fact `corner_even`).
-/
import PanqecVerif.Proofs.LatColor666ToricCodeWrap
import PanqecVerif.Proofs.KeyedOverlap


namespace Panqec.Color666ToricCode
open Panqec.Lat2D Panqec.Color

/-- `(x, y)` is the centre of a face -/
def IsF (L : Nat) (x y : Int) : Prop :=
  x % 3 = 2 ∧ 2 ≤ x ∧ x < 9 * (L : Int) ∧ 2 + skew x ≤ y ∧ y ≤ 12 * (L : Int) + skew x ∧
    (y - (2 + skew x)) % 4 = 0

instance (L : Nat) (x y : Int) : Decidable (IsF L x y) := by unfold IsF; infer_instance

theorem mem_pyRangeI {a b x : Int} {s : Nat} (hs : 0 < s) :
    x ∈ pyRangeI a b s ↔ a ≤ x ∧ x < b ∧ (x - a) % s = 0 :=
  Cyclic.mem_py_rangeI hs

theorem nodup_pyRangeI (a b : Int) (step : Nat) (hs : 0 < step) : (pyRangeI a b step).Nodup := by
  unfold pyRangeI
  show List.Pairwise _ _
  rw [List.pairwise_map]
  refine List.Pairwise.imp ?_ List.nodup_range
  intro i j hij e
  apply hij
  have h1 : (step : Int) * (i : Int) = (step : Int) * (j : Int) := by omega
  have h2 : (step : Int) ≠ 0 := by omega
  have := Int.eq_of_mul_eq_mul_left h2 h1
  omega

theorem mem_faces {L : Nat} {q : Coord} :
    q ∈ faces L L ↔ ∃ x y, q = [x, y] ∧ IsF L x y := by
  unfold faces
  rw [mem_columns]
  simp only [(mem_pyRangeStep (s := 3) (by decide)), (mem_pyRangeI (s := 4) (by decide))]
  unfold IsF
  constructor
  · rintro ⟨x, y, hx, hy, rfl⟩; refine ⟨x, y, rfl, ?_⟩; omega
  · rintro ⟨x, y, rfl, h⟩; exact ⟨x, y, by omega, by omega, rfl⟩

theorem mem_faces' {L : Nat} {x y : Int} : [x, y] ∈ faces L L ↔ IsF L x y :=
  mem_pair_iff mem_faces

theorem nodup_faces (L : Nat) : (faces L L).Nodup := by
  unfold faces
  exact nodup_columns _ (nodup_pyRangeStep _ _ _ (by decide)) (fun x => nodup_pyRangeI _ _ _ (by decide))

theorem mem_stabs {L : Nat} {s : Coord} :
    s ∈ stabs L L ↔ ∃ x y p, s = [x, y, p] ∧ IsF L x y ∧ (p = 0 ∨ p = 1) :=
  mem_both_iff mem_faces

theorem mem_stabs' {L : Nat} {x y p : Int} :
    [x, y, p] ∈ stabs L L ↔ IsF L x y ∧ (p = 0 ∨ p = 1) :=
  mem_both_iff' mem_faces

theorem nodup_stabs (L : Nat) : (stabs L L).Nodup := nodup_both (nodup_faces L)

/-- the six keys of the two generators of the face `(x, y)`, in delta order -/
def supp (L : Nat) (x y : Int) : List Coord :=
  [wrapP L (x + -1) (y + -2), wrapP L (x + 1) (y + -2), wrapP L (x + 2) (y + 0),
   wrapP L (x + 1) (y + 2), wrapP L (x + -1) (y + 2), wrapP L (x + -2) (y + 0)]

theorem candidates_eq (L : Nat) (x y : Int) : candidates L L x y = supp L x y := rfl

/-- the corners of a face are near the domain: a corner delta moves `x` by at most 2 and
    `3y − 2x` by at most 8 -/
theorem near_corner {L : Nat} {x y dx dy : Int} (h : IsF L x y) (hx : -2 ≤ dx ∧ dx ≤ 2)
    (hu : -8 ≤ 3 * dy - 2 * dx ∧ 3 * dy - 2 * dx ≤ 8) : Near L (x + dx) (y + dy) := by
  unfold IsF skew at h
  unfold Near skew
  exact ⟨by omega, by omega, fun _ => by omega, fun _ => by omega⟩

/-- the right corner of the face `(a, j)` -/
def qR (L : Nat) (a j : Int) : Coord := cn L (3 * a + 4) (2 + 2 * a + 4 * j)
/-- the left corner of the face `(a, j)` -/
def qL (L : Nat) (a j : Int) : Coord := cn L (3 * a) (2 + 2 * a + 4 * j)

theorem dvd9_iff {L : Nat} (x : Int) : (9 * (L : Int)) ∣ (3 * x) ↔ Cg L x := by
  unfold Cg
  rw [show 9 * (L : Int) = 3 * (3 * (L : Int)) by ring]
  exact Int.mul_dvd_mul_iff_left (by omega)

theorem dvd36_iff {L : Nat} (x : Int) : (36 * (L : Int)) ∣ (12 * x) ↔ Cg L x := by
  unfold Cg
  rw [show 36 * (L : Int) = 12 * (3 * (L : Int)) by ring]
  exact Int.mul_dvd_mul_iff_left (by omega)

theorem qR_eq_iff {L : Nat} (hL : 1 ≤ L) (a j a' j' : Int) :
    qR L a j = qR L a' j' ↔ (Cg L (a' - a) ∧ Cg L (j' - j)) := by
  unfold qR
  rw [cn_eq_iff hL,
    show 3 * a' + 4 - (3 * a + 4) = 3 * (a' - a) by ring,
    show 3 * (2 + 2 * a' + 4 * j') - 2 * (3 * a' + 4) - (3 * (2 + 2 * a + 4 * j) - 2 * (3 * a + 4))
      = 12 * (j' - j) by ring, dvd9_iff, dvd36_iff]

theorem qL_eq_iff {L : Nat} (hL : 1 ≤ L) (a j a' j' : Int) :
    qL L a j = qL L a' j' ↔ (Cg L (a' - a) ∧ Cg L (j' - j)) := by
  unfold qL
  rw [cn_eq_iff hL,
    show 3 * a' - (3 * a) = 3 * (a' - a) by ring,
    show 3 * (2 + 2 * a' + 4 * j') - 2 * (3 * a') - (3 * (2 + 2 * a + 4 * j) - 2 * (3 * a))
      = 12 * (j' - j) by ring, dvd9_iff, dvd36_iff]

theorem qR_ne_qL {L : Nat} (hL : 1 ≤ L) (a j a' j' : Int) : qR L a j ≠ qL L a' j' := by
  unfold qR qL
  intro h
  obtain ⟨⟨k, hk⟩, _⟩ := (cn_eq_iff hL _ _ _ _).mp h
  have : 3 * a' - (3 * a + 4) = 3 * (3 * ((L : Int) * k)) := by rw [hk]; ring
  omega

theorem mod3_of_dvd9 {L : Nat} {v : Int} (h : (9 * (L : Int)) ∣ v) : v % 3 = 0 := by
  obtain ⟨k, hk⟩ := h
  have : v = 3 * (3 * ((L : Int) * k)) := by rw [hk]; ring
  omega

theorem mod12_of_dvd36 {L : Nat} {v : Int} (h : (36 * (L : Int)) ∣ v) : v % 12 = 0 := by
  obtain ⟨k, hk⟩ := h
  have : v = 12 * (3 * ((L : Int) * k)) := by rw [hk]; ring
  omega

/-- the corners of the face `(a, j)`, in the delta order of `get_stabilizer` -/
def corners (L : Nat) (a j : Int) : List Coord :=
  [qR L (a - 1) j, qL L (a + 1) (j - 1), qR L a j, qL L (a + 1) j, qR L (a - 1) (j + 1), qL L a j]

theorem supp_eq_cn {L : Nat} (hL : 1 ≤ L) {x y : Int} (hf : IsF L x y) :
    supp L x y = [cn L (x + -1) (y + -2), cn L (x + 1) (y + -2), cn L (x + 2) (y + 0),
      cn L (x + 1) (y + 2), cn L (x + -1) (y + 2), cn L (x + -2) (y + 0)] := by
  unfold supp
  have n : ∀ dx dy : Int, -2 ≤ dx ∧ dx ≤ 2 → (-8 ≤ 3 * dy - 2 * dx ∧ 3 * dy - 2 * dx ≤ 8) →
      wrapP L (x + dx) (y + dy) = cn L (x + dx) (y + dy) :=
    fun dx dy h1 h2 => wrapP_eq_cn hL (near_corner hf h1 h2)
  rw [n (-1) (-2) (by omega) (by omega), n 1 (-2) (by omega) (by omega),
    n 2 0 (by omega) (by omega), n 1 2 (by omega) (by omega),
    n (-1) 2 (by omega) (by omega), n (-2) 0 (by omega) (by omega)]

theorem isF_coords {L : Nat} {x y : Int} (hf : IsF L x y) :
    ∃ a j, x = 3 * a + 2 ∧ y = 2 + 2 * a + 4 * j ∧ 0 ≤ a ∧ a < 3 * (L : Int) ∧ 0 ≤ j ∧
      j < 3 * (L : Int) := by
  unfold IsF skew at hf
  exact ⟨(x - 2) / 3, (y - 2 - 2 * ((x - 2) / 3)) / 4, by omega, by omega, by omega, by omega,
    by omega, by omega⟩

theorem supp_face {L : Nat} (hL : 1 ≤ L) {a j : Int} (hf : IsF L (3 * a + 2) (2 + 2 * a + 4 * j)) :
    supp L (3 * a + 2) (2 + 2 * a + 4 * j) = corners L a j := by
  rw [supp_eq_cn hL hf]
  unfold corners qR qL
  congr 1
  · congr 1 <;> ring
  congr 1
  · congr 1 <;> ring
  congr 1
  · congr 1 <;> ring
  congr 1
  · congr 1 <;> ring
  congr 1
  · congr 1 <;> ring
  congr 1
  · congr 1 <;> ring

/-- every generator location is a face `(a, j)` -/
theorem face_of_isF {L : Nat} (hL : 1 ≤ L) {x y : Int} (hf : IsF L x y) :
    ∃ a j, supp L x y = corners L a j := by
  obtain ⟨a, j, rfl, rfl, -⟩ := isF_coords hf
  exact ⟨a, j, supp_face hL hf⟩

/-- every face `(a, j)` of the plane is (congruent to) a generator location -/
theorem isF_of_face {L : Nat} (hL : 1 ≤ L) (a j : Int) :
    ∃ x y, IsF L x y ∧ supp L x y = corners L a j := by
  obtain ⟨fx, fy, e, hd, hx, hu⟩ := cn_spec hL (3 * a + 2) (2 + 2 * a + 4 * j)
  have h3 := mod3_of_dvd9 hx
  have h12 := mod12_of_dvd36 hu
  have hf : IsF L fx fy := by
    unfold InD skew at hd
    unfold IsF skew
    omega
  refine ⟨fx, fy, hf, ?_⟩
  rw [supp_eq_cn hL hf]
  unfold corners qR qL
  have key : ∀ dx dy px py : Int, px = 3 * a + 2 + dx → py = 2 + 2 * a + 4 * j + dy →
      cn L (fx + dx) (fy + dy) = cn L px py := by
    intro dx dy px py e1 e2
    subst e1 e2
    rw [cn_eq_iff hL]
    constructor
    · have := (Int.dvd_neg).mpr hx
      rwa [show -(fx - (3 * a + 2)) = 3 * a + 2 + dx - (fx + dx) by ring] at this
    · have := (Int.dvd_neg).mpr hu
      rwa [show -(3 * fy - 2 * fx - (3 * (2 + 2 * a + 4 * j) - 2 * (3 * a + 2))) =
        3 * (2 + 2 * a + 4 * j + dy) - 2 * (3 * a + 2 + dx) - (3 * (fy + dy) - 2 * (fx + dx))
        by ring] at this
  rw [key (-1) (-2) (3 * (a - 1) + 4) (2 + 2 * (a - 1) + 4 * j) (by ring) (by ring),
    key 1 (-2) (3 * (a + 1)) (2 + 2 * (a + 1) + 4 * (j - 1)) (by ring) (by ring),
    key 2 0 (3 * a + 4) (2 + 2 * a + 4 * j) (by ring) (by ring),
    key 1 2 (3 * (a + 1)) (2 + 2 * (a + 1) + 4 * j) (by ring) (by ring),
    key (-1) 2 (3 * (a - 1) + 4) (2 + 2 * (a - 1) + 4 * (j + 1)) (by ring) (by ring),
    key (-2) 0 (3 * a) (2 + 2 * a + 4 * j) (by ring) (by ring)]

/-- the corners of a face in face coordinates: kind (right / left corner) and offset of the face
    that owns the corner, in the order of `corners` -/
def cornerTbl : List (Bool × Int × Int) :=
  [(true, -1, 0), (false, 1, -1), (true, 0, 0), (false, 1, 0), (true, -1, 1), (false, 0, 0)]

def ckey (L : Nat) (a j : Int) (d : Bool × Int × Int) : Coord :=
  if d.1 then qR L (a + d.2.1) (j + d.2.2) else qL L (a + d.2.1) (j + d.2.2)

theorem corners_keyed (L : Nat) (a j : Int) : corners L a j = cornerTbl.map (ckey L a j) := by
  simp only [corners, cornerTbl, ckey, List.map_cons, List.map_nil, if_true, Bool.false_eq_true,
    if_false, Int.add_zero, Int.sub_eq_add_neg]

def cdif (p : (Bool × Int × Int) × (Bool × Int × Int)) : Int × Int :=
  (p.1.2.1 - p.2.2.1, p.1.2.2 - p.2.2.2)

/-- only corners of the same kind can coincide -/
def cadm (p : (Bool × Int × Int) × (Bool × Int × Int)) : Bool := p.1.1 == p.2.1

/-- two hexagons of the tiling share none, two or all of their corners -/
theorem corner_even : EvenClasses cdif ((pairsOf cornerTbl cornerTbl).filter cadm) := by decide

theorem ckey_eq_iff {L : Nat} (hL : 1 ≤ L) (a j a' j' : Int)
    (p : (Bool × Int × Int) × (Bool × Int × Int)) :
    ckey L a' j' p.2 = ckey L a j p.1 ↔
      cadm p = true ∧ Cg L (a - a' + (cdif p).1) ∧ Cg L (j - j' + (cdif p).2) := by
  obtain ⟨⟨k, da, dj⟩, ⟨k', da', dj'⟩⟩ := p
  have e1 : a + da - (a' + da') = a - a' + (da - da') := by omega
  have e2 : j + dj - (j' + dj') = j - j' + (dj - dj') := by omega
  unfold ckey cdif cadm
  cases k <;> cases k'
  · simpa [e1, e2] using qL_eq_iff hL (a' + da') (j' + dj') (a + da) (j + dj)
  · simpa using fun h => qR_ne_qL hL _ _ _ _ h
  · simpa using fun h => qR_ne_qL hL _ _ _ _ h.symm
  · simpa [e1, e2] using qR_eq_iff hL (a' + da') (j' + dj') (a + da) (j + dj)

theorem cornerTbl_small : ∀ d ∈ cornerTbl, -1 ≤ d.2.1 ∧ d.2.1 ≤ 1 ∧ -1 ≤ d.2.2 ∧ d.2.2 ≤ 1 := by
  decide

theorem nodup_corners {L : Nat} (hL : 1 ≤ L) (a j : Int) : (corners L a j).Nodup := by
  rw [corners_keyed]
  refine nodup_keyed _ (by decide) fun d hd e he h => ?_
  obtain ⟨hk, h1, h2⟩ := (ckey_eq_iff hL a j a j (e, d)).mp h
  have sd := cornerTbl_small d hd
  have se := cornerTbl_small e he
  simp only [cadm, beq_iff_eq] at hk
  simp only [cdif] at h1 h2
  have z1 := h1.eq_zero (by omega) (by omega)
  have z2 := h2.eq_zero (by omega) (by omega)
  obtain ⟨k, da, dj⟩ := d
  obtain ⟨k', da', dj'⟩ := e
  simp only at hk z1 z2 ⊢
  rw [hk, show da = da' by omega, show dj = dj' by omega]

theorem corners_even {L : Nat} (hL : 1 ≤ L) (a j a' j' : Int) :
    interCount (corners L a j) (corners L a' j') % 2 = 0 := by
  have hn := nodup_corners hL a' j'
  rw [corners_keyed] at hn ⊢
  rw [corners_keyed]
  refine keyed_even _ _ cdif cadm hn (fun p _ h => ?_) (fun p _ q _ hp hq h => ?_) corner_even
  · exact ((ckey_eq_iff hL ..).mp h).1
  · rw [ckey_eq_iff hL, ckey_eq_iff hL, h, hp, hq]

theorem nodup_supp {L : Nat} (hL : 1 ≤ L) {x y : Int} (h : IsF L x y) : (supp L x y).Nodup := by
  obtain ⟨a, j, e⟩ := face_of_isF hL h
  rw [e]; exact nodup_corners hL a j

theorem face_face_even {L : Nat} (hL : 1 ≤ L) {ax ay bx by' : Int} (ha : IsF L ax ay)
    (hb : IsF L bx by') : interCount (supp L ax ay) (supp L bx by') % 2 = 0 := by
  obtain ⟨a, j, e⟩ := face_of_isF hL ha
  obtain ⟨a', j', e'⟩ := face_of_isF hL hb
  rw [e, e']; exact corners_even hL a j a' j'

end Panqec.Color666ToricCode
