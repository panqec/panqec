/-
`HollowRhombicCode`, rank clause: the listed triangles of one axis of a size with a hole
(`Lx ≥ 3`, `Ly, Lz ≥ 4`) as boxes.  The hole is a product of three intervals, so everything about it is
said coordinate by coordinate: a vertex is in the hole iff each of its coordinates is in the interior
range of the hole (`4 … 2Lx−4`, `4 … 2Ly−6`, `4 … 2Lz−6`; `hx_even`, `hy_even`); a leg is in the hole iff
the two other coordinates are in their interior range and the coordinate along the leg is in it or on
the face that the leg points away from (`hx_step`, `hy_step`).  So the triangles of an axis that are not
listed fill five boxes: the hole, one x face, one y face, and the vertices of one colour on each z
face; together with the listed ones they fill the box of all vertices whose y leg stays inside the
lattice (`listed_boxes`, one statement for the four axes: the faces, the first row and the colours are
parameters).  Then the selected triangles of axis 1: a triangle of axis 1 is selected where that of
axis 3 or of axis 2 is not listed: in the row `y = 2Ly−2`, and in those of the five boxes of axis 3 and
of axis 2 that are not among the five boxes of axis 1 itself (`ax1`).
-/
import PanqecVerif.Proofs.LatHollowRhombicCodeRankSpec
import PanqecVerif.Proofs.LatHollowRhombicCodeRankProbes

namespace Panqec.HollowRhombicCode
open Panqec.Lat3Db Panqec.Rhombic
open Panqec.Planar3DCode (inE inO inE2 inO1)

section oneD
variable {L : Nat} {v s f : Int}

theorem hx_even (hv : v % 2 = 0) : HX L v ↔ InAp 4 (L - 3) v := by unfold HX InAp; omega
theorem hy_even (hv : v % 2 = 0) : HY L v ↔ InAp 4 (L - 4) v := by unfold HY InAp; omega

theorem hx_step (hL : 3 ≤ L) (hv : v % 2 = 0)
    (hs : (s = 1 ∧ f = 2) ∨ (s = -1 ∧ f = 2 * (L : Int) - 2)) :
    HX L (v + s) ↔ InAp 4 (L - 3) v ∨ InAp f 1 v := by unfold HX InAp; omega
theorem hy_step (hL : 4 ≤ L) (hv : v % 2 = 0)
    (hs : (s = 1 ∧ f = 2) ∨ (s = -1 ∧ f = 2 * (L : Int) - 4)) :
    HY L (v + s) ↔ InAp 4 (L - 4) v ∨ InAp f 1 v := by unfold HY InAp; omega

end oneD

/-- the five boxes in and next to the hole: `xf`, `yf` are the faces whose vertices have their x, y leg
    in the hole; on the face `z = 2` (`z = 2Lz−4`) the vertices of colour `c` (`c'`) have their z leg in
    the hole -/
def Near (Lx Ly Lz : Nat) (xf yf c c' x y z : Int) : Prop :=
  (InAp 4 (Lx - 3) x ∧ InAp 4 (Ly - 4) y ∧ InAp 4 (Lz - 4) z) ∨
  (InAp xf 1 x ∧ InAp 4 (Ly - 4) y ∧ InAp 4 (Lz - 4) z) ∨
  (InAp 4 (Lx - 3) x ∧ InAp yf 1 y ∧ InAp 4 (Lz - 4) z) ∨
  (InAp 4 (Lx - 3) x ∧ InAp 4 (Ly - 4) y ∧ InAp 2 1 z ∧ (x + y + z) % 4 = c) ∨
  (InAp 4 (Lx - 3) x ∧ InAp 4 (Ly - 4) y ∧ InAp (2 * Lz - 4) 1 z ∧ (x + y + z) % 4 = c')

/-- a listed triangle -/
def LT (Lx Ly Lz : Nat) (a x y z : Int) : Prop :=
  (0 ≤ a ∧ a < 4) ∧ VertexLoc Lx Ly Lz x y z ∧ PT Lx Ly Lz a x y z

section
variable {Lx Ly Lz : Nat} {a xf yf y0 c c' : Int}

theorem listed_boxes (hx : 3 ≤ Lx) (hy : 4 ≤ Ly) (hz : 4 ≤ Lz)
    (hX : (sgnX a = 1 ∧ xf = 2) ∨ (sgnX a = -1 ∧ xf = 2 * (Lx : Int) - 2))
    (hY : (sgnY a = 1 ∧ yf = 2 ∧ y0 = 0) ∨ (sgnY a = -1 ∧ yf = 2 * (Ly : Int) - 4 ∧ y0 = 2))
    (hZ : ∀ x y z : Int, (x + y + z) % 2 = 0 → (sgnZ a x y z = 1 ∧ (x + y + z) % 4 = c) ∨
      (sgnZ a x y z = -1 ∧ (x + y + z) % 4 = c')) (x y z : Int) :
    ((VertexLoc Lx Ly Lz x y z ∧ PT Lx Ly Lz a x y z) ∨ Near Lx Ly Lz xf yf c c' x y z) ↔
      (InAp 2 (Lx - 1) x ∧ InAp y0 (Ly - 1) y ∧ InAp 0 Lz z) := by
  -- the vertex box, coordinate by coordinate; the y range of the box is that of the y leg
  have bx : inE2 Lx x ↔ InAp 2 (Lx - 1) x := by unfold inE2 InAp; omega
  have bz : inE Lz z ↔ InAp 0 Lz z := by unfold inE InAp; omega
  have by' : (inE Ly y ∧ 1 ≤ y + sgnY a ∧ y + sgnY a ≤ 2 * (Ly : Int) - 3) ↔ InAp y0 (Ly - 1) y := by
    unfold inE InAp; omega
  -- the boxes of the hole lie in the vertex box
  have ix : InAp 4 (Lx - 3) x ∨ InAp xf 1 x → InAp 2 (Lx - 1) x := by unfold InAp; omega
  have iy : InAp 4 (Ly - 4) y ∨ InAp yf 1 y → InAp y0 (Ly - 1) y := by unfold InAp; omega
  have iz : InAp 4 (Lz - 4) z ∨ InAp 2 1 z ∨ InAp (2 * Lz - 4) 1 z → InAp 0 Lz z := by
    unfold InAp; omega
  constructor
  · rintro (⟨hv, hp⟩ | h)
    · exact ⟨bx.mp hv.1, by'.mp ⟨hv.2.1, hp.2.2.2.2⟩, bz.mp hv.2.2⟩
    · unfold Near at h
      rcases h with h | h | h | h | h
      · exact ⟨ix (Or.inl h.1), iy (Or.inl h.2.1), iz (Or.inl h.2.2)⟩
      · exact ⟨ix (Or.inr h.1), iy (Or.inl h.2.1), iz (Or.inl h.2.2)⟩
      · exact ⟨ix (Or.inl h.1), iy (Or.inr h.2.1), iz (Or.inl h.2.2)⟩
      · exact ⟨ix (Or.inl h.1), iy (Or.inl h.2.1), iz (Or.inr (Or.inl h.2.2.1))⟩
      · exact ⟨ix (Or.inl h.1), iy (Or.inl h.2.1), iz (Or.inr (Or.inr h.2.2.1))⟩
  · rintro ⟨bX, bY, bZ⟩
    have hvx := bx.mpr bX
    obtain ⟨hvy, hyr⟩ := by'.mpr bY
    have hvz := bz.mpr bZ
    have ex : x % 2 = 0 := hvx.2.2
    have ey : y % 2 = 0 := hvy.2.2
    have ez : z % 2 = 0 := hvz.2.2
    -- the vertex and its x and y leg, coordinate by coordinate
    have e0x := hx_even (L := Lx) ex
    have e0y := hy_even (L := Ly) ey
    have e0z := hy_even (L := Lz) ez
    have e1 := hx_step hx ex hX
    have e2 := hy_step (s := sgnY a) (f := yf) hy ey (by omega)
    unfold Near PT
    simp only [hole_iff, e0x, e0y, e0z, e1, e2]
    by_cases Ix : InAp 4 (Lx - 3) x <;> by_cases Iy : InAp 4 (Ly - 4) y <;>
      by_cases Iz : InAp 4 (Lz - 4) z
    · exact Or.inr (Or.inl ⟨Ix, Iy, Iz⟩)
    · -- the z leg: up on the colour `c`, down on `c'`
      rcases hZ x y z (by omega) with ⟨e, hc⟩ | ⟨e, hc⟩
      · have e3 := hy_step (f := 2) hz ez (Or.inl ⟨e, rfl⟩)
        by_cases Fz : InAp 2 1 z
        · exact Or.inr (Or.inr (Or.inr (Or.inr (Or.inl ⟨Ix, Iy, Fz, hc⟩))))
        · refine Or.inl ⟨⟨hvx, hvy, hvz⟩, by simp [Iz], by simp [Iz], by simp [Iz], ?_, hyr⟩
          rw [e3]; simp [Iz, Fz]
      · have e3 := hy_step (f := 2 * (Lz : Int) - 4) hz ez (Or.inr ⟨e, rfl⟩)
        by_cases Fz : InAp (2 * Lz - 4) 1 z
        · exact Or.inr (Or.inr (Or.inr (Or.inr (Or.inr ⟨Ix, Iy, Fz, hc⟩))))
        · refine Or.inl ⟨⟨hvx, hvy, hvz⟩, by simp [Iz], by simp [Iz], by simp [Iz], ?_, hyr⟩
          rw [e3]; simp [Iz, Fz]
    · by_cases Fy : InAp yf 1 y
      · exact Or.inr (Or.inr (Or.inr (Or.inl ⟨Ix, Fy, Iz⟩)))
      · exact Or.inl ⟨⟨hvx, hvy, hvz⟩, by simp [Iy], by simp [Iy], by simp [Iy, Fy], by simp [Iy], hyr⟩
    · exact Or.inl ⟨⟨hvx, hvy, hvz⟩, by simp [Iy], by simp [Iy], by simp [Iz], by simp [Iy], hyr⟩
    · by_cases Fx : InAp xf 1 x
      · exact Or.inr (Or.inr (Or.inl ⟨Fx, Iy, Iz⟩))
      · exact Or.inl ⟨⟨hvx, hvy, hvz⟩, by simp [Ix], by simp [Ix, Fx], by simp [Ix], by simp [Ix], hyr⟩
    · exact Or.inl ⟨⟨hvx, hvy, hvz⟩, by simp [Ix], by simp [Iz], by simp [Ix], by simp [Ix], hyr⟩
    · exact Or.inl ⟨⟨hvx, hvy, hvz⟩, by simp [Ix], by simp [Iy], by simp [Ix], by simp [Ix], hyr⟩
    · exact Or.inl ⟨⟨hvx, hvy, hvz⟩, by simp [Ix], by simp [Iy], by simp [Ix], by simp [Ix], hyr⟩

theorem listed_disj (hx : 3 ≤ Lx) (hy : 4 ≤ Ly) (hz : 4 ≤ Lz)
    (hX : (sgnX a = 1 ∧ xf = 2) ∨ (sgnX a = -1 ∧ xf = 2 * (Lx : Int) - 2))
    (hY : (sgnY a = 1 ∧ yf = 2) ∨ (sgnY a = -1 ∧ yf = 2 * (Ly : Int) - 4))
    (hZ : ∀ x y z : Int, (x + y + z) % 2 = 0 → (sgnZ a x y z = 1 ∧ (x + y + z) % 4 = c) ∨
      (sgnZ a x y z = -1 ∧ (x + y + z) % 4 = c')) (hcc : c ≠ c') {x y z : Int}
    (hp : PT Lx Ly Lz a x y z) (hn : Near Lx Ly Lz xf yf c c' x y z) : False := by
  obtain ⟨p1, p2, p3, p4, _⟩ := hp
  -- in each box the three coordinates are even, and two of them are in the interior range
  have par : ∀ {f : Int} {n : Nat} {v : Int}, f % 2 = 0 → InAp f n v → v % 2 = 0 := fun hf h => by
    unfold InAp at h; omega
  have hxf : xf % 2 = 0 := by omega
  have hyf : yf % 2 = 0 := by omega
  unfold Near at hn
  rcases hn with h | h | h | h | h
  · exact p1 ⟨(hx_even (par (by decide) h.1)).mpr h.1, (hy_even (par (by decide) h.2.1)).mpr h.2.1,
      (hy_even (par (by decide) h.2.2)).mpr h.2.2⟩
  · exact p2 ⟨(hx_step hx (par hxf h.1) hX).mpr (Or.inr h.1), (hy_even (par (by decide) h.2.1)).mpr h.2.1,
      (hy_even (par (by decide) h.2.2)).mpr h.2.2⟩
  · exact p3 ⟨(hx_even (par (by decide) h.1)).mpr h.1,
      (hy_step hy (par hyf h.2.1) (hY.imp id id)).mpr (Or.inr h.2.1),
      (hy_even (par (by decide) h.2.2)).mpr h.2.2⟩
  · have ez := par (by decide) h.2.2.1
    have hxy := par (by decide) h.1
    have hyy := par (by decide) h.2.1
    rcases hZ x y z (by omega) with ⟨e, hc⟩ | ⟨e, hc⟩
    · exact p4 ⟨(hx_even hxy).mpr h.1, (hy_even hyy).mpr h.2.1,
        (hy_step (f := 2) hz ez (Or.inl ⟨e, rfl⟩)).mpr (Or.inr h.2.2.1)⟩
    · exact hcc (h.2.2.2.symm.trans hc)
  · have ez : z % 2 = 0 := by have := h.2.2.1; unfold InAp at this; omega
    have hxy := par (by decide) h.1
    have hyy := par (by decide) h.2.1
    rcases hZ x y z (by omega) with ⟨e, hc⟩ | ⟨e, hc⟩
    · exact hcc (hc.symm.trans h.2.2.2)
    · exact p4 ⟨(hx_even hxy).mpr h.1, (hy_even hyy).mpr h.2.1,
        (hy_step (f := 2 * (Lz : Int) - 4) hz ez (Or.inr ⟨e, rfl⟩)).mpr (Or.inr h.2.2.1)⟩

theorem Near.x {x y z : Int} (h : Near Lx Ly Lz xf yf c c' x y z) : InAp 4 (Lx - 3) x ∨ InAp xf 1 x := by
  rcases h with h | h | h | h | h
  exacts [.inl h.1, .inr h.1, .inl h.1, .inl h.1, .inl h.1]

theorem Near.y {x y z : Int} (h : Near Lx Ly Lz xf yf c c' x y z) : InAp 4 (Ly - 4) y ∨ InAp yf 1 y := by
  rcases h with h | h | h | h | h
  exacts [.inl h.2.1, .inl h.2.1, .inr h.2.1, .inl h.2.1, .inl h.2.1]

theorem Near.z {x y z : Int} (h : Near Lx Ly Lz xf yf c c' x y z) :
    InAp 4 (Lz - 4) z ∨ (InAp 2 1 z ∧ (x + y + z) % 4 = c) ∨
      (InAp (2 * Lz - 4) 1 z ∧ (x + y + z) % 4 = c') := by
  rcases h with h | h | h | h | h
  exacts [.inl h.2.2, .inl h.2.2, .inl h.2.2, .inr (.inl h.2.2), .inr (.inr h.2.2)]

theorem sgnZ_up01 {a : Int} (ha : a = 0 ∨ a = 1) (x y z : Int) (h : (x + y + z) % 2 = 0) :
    (sgnZ a x y z = 1 ∧ (x + y + z) % 4 = 0) ∨ (sgnZ a x y z = -1 ∧ (x + y + z) % 4 = 2) := by
  rw [sgnZ_01 ha]; split <;> omega

theorem sgnZ_up23 {a : Int} (ha : a = 2 ∨ a = 3) (x y z : Int) (h : (x + y + z) % 2 = 0) :
    (sgnZ a x y z = 1 ∧ (x + y + z) % 4 = 2) ∨ (sgnZ a x y z = -1 ∧ (x + y + z) % 4 = 0) := by
  rw [sgnZ_23 ha]; split <;> omega

/-- the boxes next to the hole where the triangle of axis 3 is not listed -/
def P3 (Lx Ly Lz : Nat) : Int → Int → Int → Prop := Near Lx Ly Lz (2 * Lx - 2) 2 2 0

/-- the boxes next to the hole where the triangle of axis 2 is not listed -/
def P2 (Lx Ly Lz : Nat) : Int → Int → Int → Prop := Near Lx Ly Lz 2 (2 * Ly - 4) 2 0

/-- the box of the triangles of axis 3 (and 0) -/
def B3 (Lx Ly Lz : Nat) (x y z : Int) : Prop :=
  InAp 2 (Lx - 1) x ∧ InAp 0 (Ly - 1) y ∧ InAp 0 Lz z

/-- the box of the triangles of axis 2 (and 1) -/
def B2 (Lx Ly Lz : Nat) (x y z : Int) : Prop :=
  InAp 2 (Lx - 1) x ∧ InAp 2 (Ly - 1) y ∧ InAp 0 Lz z

theorem ts3_iff {x y z : Int} :
    TS Lx Ly Lz 3 x y z ↔ VertexLoc Lx Ly Lz x y z ∧ PT Lx Ly Lz 3 x y z :=
  ⟨fun h => ⟨h.2.1, h.2.2.1⟩, fun h => ⟨by decide, h.1, h.2, Or.inl rfl⟩⟩

theorem ts2_iff {x y z : Int} :
    TS Lx Ly Lz 2 x y z ↔ VertexLoc Lx Ly Lz x y z ∧ PT Lx Ly Lz 2 x y z :=
  ⟨fun h => ⟨h.2.1, h.2.2.1⟩, fun h => ⟨by decide, h.1, h.2, Or.inr (Or.inl rfl)⟩⟩

theorem ax3 (hx : 3 ≤ Lx) (hy : 4 ≤ Ly) (hz : 4 ≤ Lz) (x y z : Int) :
    (TS Lx Ly Lz 3 x y z ∨ P3 Lx Ly Lz x y z) ↔ B3 Lx Ly Lz x y z := by
  rw [ts3_iff]
  exact listed_boxes hx hy hz (Or.inr ⟨sgnX_3, rfl⟩) (Or.inl ⟨sgnY_3, rfl, rfl⟩)
    (sgnZ_up23 (Or.inr rfl)) x y z

theorem pt3_near (hx : 3 ≤ Lx) (hy : 4 ≤ Ly) (hz : 4 ≤ Lz) {x y z : Int}
    (hp : PT Lx Ly Lz 3 x y z) (hn : P3 Lx Ly Lz x y z) : False :=
  listed_disj hx hy hz (Or.inr ⟨sgnX_3, rfl⟩) (Or.inl ⟨sgnY_3, rfl⟩) (sgnZ_up23 (Or.inr rfl))
    (by decide) hp hn

theorem ax2 (hx : 3 ≤ Lx) (hy : 4 ≤ Ly) (hz : 4 ≤ Lz) (x y z : Int) :
    (TS Lx Ly Lz 2 x y z ∨ P2 Lx Ly Lz x y z) ↔ B2 Lx Ly Lz x y z := by
  rw [ts2_iff]
  exact listed_boxes hx hy hz (Or.inl ⟨sgnX_2, rfl⟩) (Or.inr ⟨sgnY_2, rfl, rfl⟩)
    (sgnZ_up23 (Or.inl rfl)) x y z

theorem pt2_near (hx : 3 ≤ Lx) (hy : 4 ≤ Ly) (hz : 4 ≤ Lz) {x y z : Int}
    (hp : PT Lx Ly Lz 2 x y z) (hn : P2 Lx Ly Lz x y z) : False :=
  listed_disj hx hy hz (Or.inl ⟨sgnX_2, rfl⟩) (Or.inr ⟨sgnY_2, rfl⟩) (sgnZ_up23 (Or.inl rfl))
    (by decide) hp hn

theorem lt3_iff {x y z : Int} : LT Lx Ly Lz 3 x y z ↔ TS Lx Ly Lz 3 x y z :=
  ⟨fun h => ⟨h.1, h.2.1, h.2.2, Or.inl rfl⟩, fun h => ⟨h.1, h.2.1, h.2.2.1⟩⟩

theorem lt2_iff {x y z : Int} : LT Lx Ly Lz 2 x y z ↔ TS Lx Ly Lz 2 x y z :=
  ⟨fun h => ⟨h.1, h.2.1, h.2.2, Or.inr (Or.inl rfl)⟩, fun h => ⟨h.1, h.2.1, h.2.2.1⟩⟩

theorem lt_iff {a x y z : Int} (ha : 0 ≤ a ∧ a < 4) :
    LT Lx Ly Lz a x y z ↔ VertexLoc Lx Ly Lz x y z ∧ PT Lx Ly Lz a x y z :=
  ⟨fun h => h.2, fun h => ⟨ha, h⟩⟩

/-- the boxes next to the hole where the triangle of axis 1 is not listed -/
def PA1 (Lx Ly Lz : Nat) : Int → Int → Int → Prop := Near Lx Ly Lz (2 * Lx - 2) (2 * Ly - 4) 0 2

/-- the boxes next to the hole where the triangle of axis 0 is not listed -/
def PA0 (Lx Ly Lz : Nat) : Int → Int → Int → Prop := Near Lx Ly Lz 2 2 0 2

theorem lt1 (hx : 3 ≤ Lx) (hy : 4 ≤ Ly) (hz : 4 ≤ Lz) (x y z : Int) :
    (LT Lx Ly Lz 1 x y z ∨ PA1 Lx Ly Lz x y z) ↔ B2 Lx Ly Lz x y z := by
  rw [lt_iff (by decide)]
  exact listed_boxes hx hy hz (Or.inr ⟨sgnX_1, rfl⟩) (Or.inr ⟨sgnY_1, rfl, rfl⟩)
    (sgnZ_up01 (Or.inr rfl)) x y z

theorem lt1_disj (hx : 3 ≤ Lx) (hy : 4 ≤ Ly) (hz : 4 ≤ Lz) (x y z : Int)
    (ht : LT Lx Ly Lz 1 x y z) (hp : PA1 Lx Ly Lz x y z) : False :=
  listed_disj hx hy hz (Or.inr ⟨sgnX_1, rfl⟩) (Or.inr ⟨sgnY_1, rfl⟩) (sgnZ_up01 (Or.inr rfl))
    (by decide) ht.2.2 hp

theorem lt0 (hx : 3 ≤ Lx) (hy : 4 ≤ Ly) (hz : 4 ≤ Lz) (x y z : Int) :
    (LT Lx Ly Lz 0 x y z ∨ PA0 Lx Ly Lz x y z) ↔ B3 Lx Ly Lz x y z := by
  rw [lt_iff (by decide)]
  exact listed_boxes hx hy hz (Or.inl ⟨sgnX_0, rfl⟩) (Or.inl ⟨sgnY_0, rfl, rfl⟩)
    (sgnZ_up01 (Or.inl rfl)) x y z

theorem lt0_disj (hx : 3 ≤ Lx) (hy : 4 ≤ Ly) (hz : 4 ≤ Lz) (x y z : Int)
    (ht : LT Lx Ly Lz 0 x y z) (hp : PA0 Lx Ly Lz x y z) : False :=
  listed_disj hx hy hz (Or.inl ⟨sgnX_0, rfl⟩) (Or.inl ⟨sgnY_0, rfl⟩) (sgnZ_up01 (Or.inl rfl))
    (by decide) ht.2.2 hp

end

section
variable {Lx Ly Lz : Nat}

/-- the selected triangles of axis 1: the row `y = 2Ly−2` and four boxes next to the hole -/
def P1 (Lx Ly Lz : Nat) (x y z : Int) : Prop :=
  (InAp 2 (Lx - 1) x ∧ InAp (2 * Ly - 2) 1 y ∧ InAp 0 Lz z) ∨
  (InAp 4 (Lx - 3) x ∧ InAp 2 1 y ∧ InAp 4 (Lz - 4) z) ∨
  (InAp 2 1 x ∧ InAp 4 (Ly - 4) y ∧ InAp 4 (Lz - 4) z) ∨
  (InAp 4 (Lx - 3) x ∧ InAp 4 (Ly - 4) y ∧ InAp 2 1 z ∧ (x + y + z) % 4 = 2) ∨
  (InAp 4 (Lx - 3) x ∧ InAp 4 (Ly - 4) y ∧ InAp (2 * Lz - 4) 1 z ∧ (x + y + z) % 4 = 0)

theorem ax1 (hx : 3 ≤ Lx) (hy : 4 ≤ Ly) (hz : 4 ≤ Lz) (x y z : Int) :
    TS Lx Ly Lz 1 x y z ↔ P1 Lx Ly Lz x y z := by
  unfold P1
  constructor
  · rintro ⟨_, hv, hp, hc⟩
    have hl : LT Lx Ly Lz 1 x y z := ⟨by decide, hv, hp⟩
    unfold SelC at hc
    rcases hc with hc | hc | ⟨_, hn | hn⟩ | ⟨hc, _⟩
    · omega
    · omega
    · -- the triangle of axis 3 is not listed: above the box of axis 3, or in one of its five boxes
      by_cases hb : B3 Lx Ly Lz x y z
      · rcases (ax3 hx hy hz x y z).mpr hb with h | h
        · exact absurd h.2.2.1 hn
        · rcases h with h | h | h | h | h
          · exact (lt1_disj hx hy hz x y z hl (Or.inl h)).elim
          · exact (lt1_disj hx hy hz x y z hl (Or.inr (Or.inl h))).elim
          · exact Or.inr (Or.inl h)
          · exact Or.inr (Or.inr (Or.inr (Or.inl h)))
          · exact Or.inr (Or.inr (Or.inr (Or.inr h)))
      · left
        have h5 := hp.2.2.2.2
        rw [sgnY_1] at h5
        unfold VertexLoc inE2 inE at hv
        unfold B3 at hb
        unfold InAp at hb ⊢
        omega
    · -- the triangle of axis 2 is not listed: in one of its five boxes
      rcases (ax2 hx hy hz x y z).mpr ((lt1 hx hy hz x y z).mp (Or.inl hl)) with h | h
      · exact absurd h.2.2.1 hn
      · rcases h with h | h | h | h | h
        · exact (lt1_disj hx hy hz x y z hl (Or.inl h)).elim
        · exact Or.inr (Or.inr (Or.inl h))
        · exact (lt1_disj hx hy hz x y z hl (Or.inr (Or.inr (Or.inl h)))).elim
        · exact Or.inr (Or.inr (Or.inr (Or.inl h)))
        · exact Or.inr (Or.inr (Or.inr (Or.inr h)))
    · omega
  · intro h
    -- in the box of axis 1, outside its five boxes, and one of the two other triangles is missing
    have key : B2 Lx Ly Lz x y z → ¬ PA1 Lx Ly Lz x y z →
        (¬ PT Lx Ly Lz 3 x y z ∨ ¬ PT Lx Ly Lz 2 x y z) → TS Lx Ly Lz 1 x y z := fun hb hna hs => by
      rcases (lt1 hx hy hz x y z).mpr hb with hl | hn
      · exact ⟨hl.1, hl.2.1, hl.2.2, Or.inr (Or.inr (Or.inl ⟨rfl, hs⟩))⟩
      · exact absurd hn hna
    rcases h with h | h | h | h | h
    · refine key (by unfold B2; unfold InAp at h ⊢; omega)
        (fun hn => by have := hn.y; have := h.2.1; unfold InAp at *; omega) (Or.inl fun hp => ?_)
      have := hp.2.2.2.2.2
      rw [sgnY_3] at this
      unfold InAp at h
      omega
    · exact key (by unfold B2; unfold InAp at h ⊢; omega)
        (fun hn => by have := hn.y; have := h.2.1; unfold InAp at *; omega)
        (Or.inl fun hp => pt3_near hx hy hz hp (Or.inr (Or.inr (Or.inl h))))
    · exact key (by unfold B2; unfold InAp at h ⊢; omega)
        (fun hn => by have := hn.x; have := h.1; unfold InAp at *; omega)
        (Or.inr fun hp => pt2_near hx hy hz hp (Or.inr (Or.inl h)))
    · exact key (by unfold B2; unfold InAp at h ⊢; omega)
        (fun hn => by have := hn.z; have := h.2.2; unfold InAp at *; omega)
        (Or.inl fun hp => pt3_near hx hy hz hp (Or.inr (Or.inr (Or.inr (Or.inl h)))))
    · exact key (by unfold B2; unfold InAp at h ⊢; omega)
        (fun hn => by have := hn.z; have := h.2.2; unfold InAp at *; omega)
        (Or.inl fun hp => pt3_near hx hy hz hp (Or.inr (Or.inr (Or.inr (Or.inr h)))))

end

end Panqec.HollowRhombicCode
