/-
RotatedPlanar2DCode, all sizes: overlaps (vertex/face, logical/stabilizer, logical/logical).
-/
import PanqecVerif.Proofs.LatRotatedPlanar2DCodeStab
import PanqecVerif.Proofs.Lat2DLines

namespace Panqec.RotatedPlanar2DCode
open Panqec.Lat2D

/-- The diagonal neighbourhoods of two sites whose `(x + y) % 4` differ by 2 share an even number
    of sites.  In the same column the shared sites come in left/right pairs, in the same row in
    lower/upper pairs; otherwise a shared site needs both coordinates to differ by exactly 2,
    which `(x + y) % 4` excludes. -/
theorem nbrs_overlap_even {ax ay bx by' : Int} (h : (ax + ay) % 4 = 2) (h' : (bx + by') % 4 = 0) :
    interCount (nbrs ax ay) (nbrs bx by') % 2 = 0 := by
  show interCount [_, _, _, _] _ % 2 = 0
  rw [interCount_4]
  simp only [mem_nbrs]
  by_cases hx : bx = ax
  · subst hx
    simp only [true_or, or_true, true_and]
    omega
  · by_cases hy : by' = ay
    · subst hy
      simp only [true_or, or_true, and_true]
      omega
    · rw [if_neg (by omega), if_neg (by omega), if_neg (by omega), if_neg (by omega)]

/-- a site next to a vertex has its `x` inside the qubit columns, a site next to a face has its `y`
    inside the qubit rows -/
theorem isQubit_of_common_nbr {Lx Ly : Nat} {ax ay bx by' : Int} (ha : IsV Lx Ly ax ay)
    (hb : IsF Lx Ly bx by') : ∀ q ∈ nbrs ax ay, q ∈ nbrs bx by' → isQubit Lx Ly q = true := by
  intro q hq hq'
  obtain ⟨a, b, rfl⟩ := eq_pair_of_mem_nbrs hq
  have hx := (mem_nbrs.mp hq).1
  have hy := (mem_nbrs.mp hq').2
  clear hq hq'
  rw [isQubit_iff]
  unfold IsV at ha; unfold IsF at hb; unfold IsQ
  omega

/-- a vertex and a face share 0 or 2 qubits: they are either edge-adjacent plaquettes of the
    checkerboard (two shared corners, both of which are qubits) or share nothing; corner
    adjacency is excluded by `(x + y) % 4` -/
theorem vertex_face_even {Lx Ly : Nat} {ax ay bx by' : Int}
    (ha : IsV Lx Ly ax ay) (hb : IsF Lx Ly bx by') :
    interCount (supp Lx Ly ax ay) (supp Lx Ly bx by') % 2 = 0 := by
  unfold supp
  rw [interCount_filter_filter (isQubit_of_common_nbr ha hb)]
  exact nbrs_overlap_even ha.mod4 hb.mod4

def kX (Lx : Nat) : List Coord := (pyRange2 1 (2 * Lx + 1)).map fun x => [x, 1]
def kZ (Ly : Nat) : List Coord := (pyRange2 1 (2 * Ly + 1)).map fun y => [1, y]

theorem kX_eq (Lx : Nat) : kX Lx = rowKeys 1 1 Lx := by
  unfold kX rowKeys; rw [pyRange2_odd, List.map_map]; rfl
theorem kZ_eq (Ly : Nat) : kZ Ly = colKeys 1 1 Ly := by
  unfold kZ colKeys; rw [pyRange2_odd, List.map_map]; rfl

theorem nodup_kX (L : Nat) : (kX L).Nodup := kX_eq L ▸ nodup_rowKeys ..
theorem nodup_kZ (L : Nat) : (kZ L).Nodup := kZ_eq L ▸ nodup_colKeys ..

theorem mem_kX {L : Nat} {a b : Int} :
    [a, b] ∈ kX L ↔ (1 ≤ a ∧ a < 2 * (L : Int) + 1 ∧ a % 2 = 1 ∧ b = 1) := by
  unfold kX
  simp only [List.mem_map, mem_pyRange2, List.cons.injEq, and_true]
  constructor
  · rintro ⟨x, hx, rfl, rfl⟩; omega
  · rintro ⟨h1, h2, h3, rfl⟩; exact ⟨a, by omega, rfl, rfl⟩
theorem mem_kZ {L : Nat} {a b : Int} :
    [a, b] ∈ kZ L ↔ (1 ≤ b ∧ b < 2 * (L : Int) + 1 ∧ b % 2 = 1 ∧ a = 1) := by
  unfold kZ
  simp only [List.mem_map, mem_pyRange2, List.cons.injEq, and_true]
  constructor
  · rintro ⟨x, hx, rfl, rfl⟩; omega
  · rintro ⟨h1, h2, h3, rfl⟩; exact ⟨b, by omega, rfl, rfl⟩

theorem colKeys_qubits {Lx Ly : Nat} (i : Nat) (hi : i < Lx) :
    ∀ q ∈ colKeys (2 * i + 1) 1 Ly, q ∈ qubits Lx Ly := by
  intro q hq
  obtain ⟨j, hj, rfl⟩ := mem_colKeys.mp hq
  rw [mem_qubits']; unfold IsQ; omega

theorem rowKeys_qubits {Lx Ly : Nat} (i : Nat) (hi : i < Ly) :
    ∀ q ∈ rowKeys (2 * i + 1) 1 Lx, q ∈ qubits Lx Ly := by
  intro q hq
  obtain ⟨j, hj, rfl⟩ := mem_rowKeys.mp hq
  rw [mem_qubits']; unfold IsQ; omega

theorem kX_subset {Lx Ly : Nat} (hy : 1 ≤ Ly) : ∀ q ∈ kX Lx, q ∈ qubits Lx Ly := by
  have h := rowKeys_qubits (Lx := Lx) (Ly := Ly) 0 hy
  rwa [kX_eq]
theorem kZ_subset {Lx Ly : Nat} (hx : 1 ≤ Lx) : ∀ q ∈ kZ Ly, q ∈ qubits Lx Ly := by
  have h := colKeys_qubits (Lx := Lx) (Ly := Ly) 0 hx
  rwa [kZ_eq]

theorem logX_eq (Lx Ly : Nat) : logX Lx Ly = [(kX Lx).map (fun q => (q, Pauli.X))] := by
  show [lineOp (kX Lx) Pauli.X] = _
  rw [lineOp_eq _ _ (nodup_kX Lx)]
theorem logZ_eq (Lx Ly : Nat) : logZ Lx Ly = [(kZ Ly).map (fun q => (q, Pauli.Z))] := by
  show [lineOp (kZ Ly) Pauli.Z] = _
  rw [lineOp_eq _ _ (nodup_kZ Ly)]

/-- both left and both right neighbours of a vertex lie on the columns of `X̄`, so they meet its
    row in pairs -/
theorem supp_kX {Lx Ly : Nat} {x y : Int} (hy : 1 ≤ Ly) (h : IsV Lx Ly x y) :
    interCount (supp Lx Ly x y) (kX Lx) % 2 = 0 := by
  unfold supp
  rw [interCount_filter_left (f := isQubit Lx Ly) fun q _ hq => isIn_iff.mpr (kX_subset hy q hq)]
  show interCount [_, _, _, _] _ % 2 = 0
  rw [interCount_4]
  unfold IsV at h
  have hm : 1 ≤ x - 1 ∧ x - 1 < 2 * (Lx : Int) + 1 ∧ (x - 1) % 2 = 1 := by omega
  have hp : 1 ≤ x + 1 ∧ x + 1 < 2 * (Lx : Int) + 1 ∧ (x + 1) % 2 = 1 := by omega
  simp only [mem_kX, hm, hp, true_and]
  omega

theorem supp_kZ {Lx Ly : Nat} {x y : Int} (hx : 1 ≤ Lx) (h : IsF Lx Ly x y) :
    interCount (supp Lx Ly x y) (kZ Ly) % 2 = 0 := by
  unfold supp
  rw [interCount_filter_left (f := isQubit Lx Ly) fun q _ hq => isIn_iff.mpr (kZ_subset hx q hq)]
  show interCount [_, _, _, _] _ % 2 = 0
  rw [interCount_4]
  unfold IsF at h
  have hm : 1 ≤ y - 1 ∧ y - 1 < 2 * (Ly : Int) + 1 ∧ (y - 1) % 2 = 1 := by omega
  have hp : 1 ≤ y + 1 ∧ y + 1 < 2 * (Ly : Int) + 1 ∧ (y + 1) % 2 = 1 := by omega
  simp only [mem_kZ, hm, hp, true_and]
  omega

theorem kX_kZ {Lx Ly : Nat} (hx : 1 ≤ Lx) (hy : 1 ≤ Ly) : interCount (kX Lx) (kZ Ly) = 1 :=
  row_col_cross (nodup_pyRange2 ..) (mem_pyRange2.mpr (by omega)) (mem_pyRange2.mpr (by omega))

end Panqec.RotatedPlanar2DCode
