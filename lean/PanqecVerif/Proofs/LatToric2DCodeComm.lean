/-
Toric2DCode, all sizes `Lx, Ly ≥ 2`: incidence of a stabilizer location and a qubit location in
arithmetic form (one cyclic step in `x` or in `y`, decided by the parities), and: a vertex and a
face share an even number of qubits.
-/
import PanqecVerif.Proofs.LatToric2DCodeStab

namespace Panqec.Toric2DCode
open Panqec.Lat2D

def nbr (PX PY bx by' qx qy : Int) : Prop :=
  (qx = predW bx PX ∧ qy = by') ∨ (qx = succW bx PX ∧ qy = by') ∨
  (qx = bx ∧ qy = predW by' PY) ∨ (qx = bx ∧ qy = succW by' PY)

theorem mem_nbrs {Lx Ly : Nat} {bx by' qx qy : Int} :
    [qx, qy] ∈ nbrs Lx Ly bx by' ↔ nbr (2 * (Lx : Int)) (2 * (Ly : Int)) bx by' qx qy := by
  unfold nbrs nbr
  simp only [List.mem_cons, List.cons.injEq, and_true, List.not_mem_nil, or_false]

variable {PX PY bx by' qx qy : Int}

theorem nbr_iff :
    nbr PX PY bx by' qx qy ↔ (cadj PX bx qx ∧ by' = qy) ∨ (bx = qx ∧ cadj PY by' qy) := by
  unfold nbr cadj
  rw [eq_comm (a := by'), eq_comm (a := bx), or_and_right, and_or_left, or_assoc]

theorem nbr_H (hpar : qx % 2 ≠ bx % 2) :
    nbr PX PY bx by' qx qy ↔ cadj PX bx qx ∧ by' = qy :=
  nbr_iff.trans (or_iff_left fun h => hpar (by rw [h.1]))

theorem nbr_V (hpar : qy % 2 ≠ by' % 2) :
    nbr PX PY bx by' qx qy ↔ bx = qx ∧ cadj PY by' qy :=
  nbr_iff.trans (or_iff_right fun h => hpar (by rw [h.2]))

/-- `p1, p2` exclude each other and so do `r1, r2`: of the four corners `pᵢ ∧ rⱼ` none or
    two hold -/
theorem corners_even (p1 p2 r1 r2 : Prop) [Decidable p1] [Decidable p2] [Decidable r1]
    [Decidable r2] (hp : ¬ (p1 ∧ p2)) (hr : ¬ (r1 ∧ r2)) :
    ((if p1 ∧ (r1 ∨ r2) then 1 else 0) + (if p2 ∧ (r1 ∨ r2) then 1 else 0) +
      (if (p1 ∨ p2) ∧ r1 then 1 else 0) + (if (p1 ∨ p2) ∧ r2 then 1 else 0)) % 2 = 0 := by
  by_cases h1 : p1 <;> by_cases h2 : p2 <;> by_cases h3 : r1 <;> by_cases h4 : r2 <;> simp_all

/-- a vertex and a face of the `Lx × Ly` torus (`Lx, Ly ≥ 2`) share 0 or 2 qubits: the face is a
    cyclic neighbour of the vertex in both coordinates, and then the qubits are `(ax, by)` and
    `(bx, ay)`, or not, and then there is none -/
theorem vertex_face_even {Lx Ly : Nat} {ax ay bx by' : Int} (hx : 2 ≤ Lx) (hy : 2 ≤ Ly)
    (ha : IsV Lx Ly ax ay) (hb : IsF Lx Ly bx by') :
    interCount (nbrs Lx Ly ax ay) (nbrs Lx Ly bx by') % 2 = 0 := by
  have hx' : ax % 2 ≠ bx % 2 := by rw [ha.2.1, hb.2.1]; decide
  have hy' : ay % 2 ≠ by' % 2 := by rw [ha.2.2, hb.2.2]; decide
  have sx := cadj_symm hb.1.1 hb.1.2.1 ha.1.1 ha.1.2.1
  have sy := cadj_symm hb.1.2.2.1 hb.1.2.2.2 ha.1.2.2.1 ha.1.2.2.2
  rw [show nbrs Lx Ly ax ay = [[predW ax (2 * (Lx : Int)), ay], [succW ax (2 * (Lx : Int)), ay],
    [ax, predW ay (2 * (Ly : Int))], [ax, succW ay (2 * (Ly : Int))]] from rfl, interCount_4]
  simp only [mem_nbrs, nbr_V hy', nbr_H hx', sx, sy]
  exact corners_even (bx = predW ax _) (bx = succW ax _) (by' = predW ay _) (by' = succW ay _)
    (fun h => pred_ne_succ (by omega) (h.1.symm.trans h.2))
    (fun h => pred_ne_succ (by omega) (h.1.symm.trans h.2))

end Panqec.Toric2DCode
