/-
The cyclic predecessor and successor of a coordinate on `[0, P)` in the spelling of the toric
surface codes (`predW x P`, `succW x P`; `Toric3DCode` uses the same two functions): the window
`0` of `Cyclic.cdn` / `Cyclic.cup`, and the model's `(x ± 1) % P` written with them.
-/
import PanqecVerif.Proofs.LatCyclic

namespace Panqec.Toric2DCode
open Panqec.Cyclic

def predW (x P : Int) : Int := if x = 0 then P - 1 else x - 1
def succW (x P : Int) : Int := if x + 1 = P then 0 else x + 1

theorem predW_eq (x P : Int) : predW x P = cdn 0 P x := (cdn_zero P x).symm
theorem succW_eq (x P : Int) : succW x P = cup 0 P x := (cup_zero P x).symm

theorem predW_spec (x P : Int) :
    (x = 0 ∧ predW x P = P - 1) ∨ (x ≠ 0 ∧ predW x P = x - 1) := by
  unfold predW; split <;> simp_all
theorem succW_spec (x P : Int) :
    (x + 1 = P ∧ succW x P = 0) ∨ (x + 1 ≠ P ∧ succW x P = x + 1) := by
  unfold succW; split <;> simp_all

theorem pred_eq_iff {P a b : Int} (ha0 : 0 ≤ a) (ha1 : a < P) (hb0 : 0 ≤ b) (hb1 : b < P) :
    b = predW a P ↔ a = succW b P := by
  rw [predW_eq, succW_eq, eq_comm (a := a), cup_eq_iff ⟨hb0, by omega⟩ ⟨ha0, by omega⟩]

theorem pred_ne_succ {P a : Int} (hP : 3 ≤ P) : predW a P ≠ succW a P := by
  rw [predW_eq, succW_eq]; exact cdn_ne_cup hP

theorem pmod_pred (x : Int) (P : Nat) (h0 : 0 ≤ x) (h1 : x < P) :
    pmod (x + -1) P = predW x P := by
  rw [predW_eq]; exact Cyclic.pmod_pred h0 h1

theorem pmod_succ (x : Int) (P : Nat) (h0 : 0 ≤ x) (h1 : x < P) :
    pmod (x + 1) P = succW x P := by
  rw [succW_eq]; exact Cyclic.pmod_succ h0 h1

theorem pmod_zero (x : Int) (P : Nat) (h0 : 0 ≤ x) (h1 : x < P) : pmod (x + 0) P = x :=
  Cyclic.pmod_self h0 h1

end Panqec.Toric2DCode
