/-
Geometry of C10 on the cubic torus, for every size L_x, L_y, L_z ≥ 2: `SweepDecoder3D.flip_edge`
toggles exactly the face stabilizers of `Toric3DCode` that contain the edge.  Qubits and
stabilizers are the locations of the periodic box with the parities of an edge resp. of a vertex
or face; `np.mod` by the limits is a bijection of the box compatible with the parities, so the
agreement of the two tables (`toggled_iff_hasX`) carries over.
-/
import PanqecVerif.Proofs.SweepCubic
import PanqecVerif.Proofs.Cyclic

namespace Panqec.Sweep

def InBox (Lx Ly Lz : Nat) (l : Loc) : Prop :=
  (0 ≤ l.1 ∧ l.1 < 2 * (Lx : Int)) ∧ (0 ≤ l.2.1 ∧ l.2.1 < 2 * (Ly : Int)) ∧
  (0 ≤ l.2.2 ∧ l.2.2 < 2 * (Lz : Int))

theorem mem_range2_evenBox (L x : Int) : x ∈ range2 0 (2 * L) ↔ (0 ≤ x ∧ x < 2 * L) ∧ x % 2 = 0 := by
  rw [mem_range2]
  omega

theorem mem_range2_oddBox (L x : Int) : x ∈ range2 1 (2 * L) ↔ (0 ≤ x ∧ x < 2 * L) ∧ x % 2 = 1 := by
  rw [mem_range2]
  omega

theorem mem_toricQubits (Lx Ly Lz : Nat) (l : Loc) :
    l ∈ toricQubits Lx Ly Lz ↔ InBox Lx Ly Lz l ∧ par l ∈ edgePars := by
  simp only [toricQubits, List.mem_append, mem_prod3, mem_range2_evenBox, mem_range2_oddBox, and3_and3,
    ← and_or_left, InBox, par, edgePars, List.mem_cons, Prod.mk.injEq, List.not_mem_nil, or_false,
    or_assoc]

theorem mem_toricStabs (Lx Ly Lz : Nat) (l : Loc) :
    l ∈ toricStabs Lx Ly Lz ↔ InBox Lx Ly Lz l ∧ par l ∈ stabPars := by
  simp only [toricStabs, List.mem_append, mem_prod3, mem_range2_evenBox, mem_range2_oddBox, and3_and3,
    ← and_or_left, InBox, par, stabPars, List.mem_cons, Prod.mk.injEq, List.not_mem_nil, or_false,
    or_assoc]

theorem toricStabs_nodup (Lx Ly Lz : Nat) : (toricStabs Lx Ly Lz).Nodup := by
  unfold toricStabs
  refine List.Nodup.append (List.Nodup.append (List.Nodup.append (nodup_prod3_range ..)
    (nodup_prod3_range ..) ?_) (nodup_prod3_range ..) ?_) (nodup_prod3_range ..) ?_
  all_goals
    rw [List.disjoint_left]
    rintro ⟨x, y, z⟩ h1 h2
    simp only [List.mem_append, mem_prod3, mem_range2] at h1 h2
    omega

theorem wrap3_addLoc_iff {Lx Ly Lz : Nat} {q s : Loc} (hq : InBox Lx Ly Lz q)
    (hs : InBox Lx Ly Lz s) (d : Loc) :
    wrap3 Lx Ly Lz (addLoc q d) = s ↔ wrap3 Lx Ly Lz (addLoc s (negLoc d)) = q := by
  obtain ⟨x, y, z⟩ := q
  obtain ⟨a, b, c⟩ := s
  simp only [wrap3, addLoc, negLoc, Prod.mk.injEq]
  rw [Cyclic.emod_add_eq_iff _ _ _ _ hq.1 hs.1, Cyclic.emod_add_eq_iff _ _ _ _ hq.2.1 hs.2.1,
    Cyclic.emod_add_eq_iff _ _ _ _ hq.2.2 hs.2.2]

section
variable (Lx Ly Lz : Nat) (hLx : 2 ≤ Lx) (hLy : 2 ≤ Ly) (hLz : 2 ≤ Lz)
include hLx hLy hLz

theorem inBox_wrap3 (l : Loc) : InBox Lx Ly Lz (wrap3 Lx Ly Lz l) :=
  ⟨⟨Int.emod_nonneg _ (by omega), Int.emod_lt_of_pos _ (by omega)⟩,
   ⟨Int.emod_nonneg _ (by omega), Int.emod_lt_of_pos _ (by omega)⟩,
   ⟨Int.emod_nonneg _ (by omega), Int.emod_lt_of_pos _ (by omega)⟩⟩

theorem wrap3_addLoc_inj (q : Loc) {d d' : Loc} (hd : d ∈ units) (hd' : d' ∈ units)
    (h : wrap3 Lx Ly Lz (addLoc q d) = wrap3 Lx Ly Lz (addLoc q d')) : d = d' := by
  obtain ⟨h1, h2, h3⟩ := units_small d hd
  obtain ⟨h1', h2', h3'⟩ := units_small d' hd'
  simp only [wrap3, addLoc, Prod.mk.injEq] at h
  exact Prod.ext (Cyclic.add_emod_inj h.1 (by omega) (by omega))
    (Prod.ext (Cyclic.add_emod_inj h.2.1 (by omega) (by omega))
      (Cyclic.add_emod_inj h.2.2 (by omega) (by omega)))

/-- the X locations of `get_stabilizer s` -/
def toricKeys (Lx Ly Lz : Nat) (s : Loc) : List Loc :=
  (xDeltas (par s)).map fun d => wrap3 Lx Ly Lz (addLoc s d)

omit hLx hLy hLz in
theorem toricStabOp_face (s : Loc) (hf : cubicIsFace s = true) :
    toricStabOp Lx Ly Lz s =
      buildOp (toricQubits Lx Ly Lz) ((toricKeys Lx Ly Lz s).map fun k => (k, Pauli.X)) := by
  unfold toricStabOp toricKeys xDeltas
  rw [List.map_map, cubicIsFace_par, cubicFaceDeltas_par]
  simp only [hf, if_true]
  cases cubicFaceDeltas s <;> rfl

/-- the `is_qubit` filter drops nothing on the torus; the form is that of `planar_op_face` -/
theorem toric_op_face (s : Loc) (hp : par s ∈ stabPars) (hf : cubicIsFace s = true) :
    (toric3D Lx Ly Lz).stabOp s = ((toricKeys Lx Ly Lz s).map fun k => (k, Pauli.X)).filter
      (fun c => (toric3D Lx Ly Lz).qubits.contains c.1) ∧ (toricKeys Lx Ly Lz s).Nodup := by
  have htab := fun d hd => (cubicTables.mem_xD ((stabPars_cases _ hp).2.1 (by rw [cubicIsFace_par, hf])) d).mp hd
  have hK : (toricKeys Lx Ly Lz s).Nodup :=
    List.Nodup.map_on (fun d hd d' hd' h =>
      wrap3_addLoc_inj Lx Ly Lz hLx hLy hLz s (htab d hd).1 (htab d' hd').1 h)
      (stabPars_cases _ hp).1
  refine ⟨?_, hK⟩
  change toricStabOp Lx Ly Lz s = _
  rw [toricStabOp_face Lx Ly Lz s hf]
  exact buildOp_eq_filter _ _ (by rwa [map_fst_pair])

/-- a vertex stabilizer has a Z entry (so its row is flagged in `z_indices`) -/
theorem toric_op_vertex (s : Loc) (hp : par s ∈ stabPars) (hf : cubicIsFace s = false) :
    ∃ e ∈ (toric3D Lx Ly Lz).stabOp s, e.2 = Pauli.Z := by
  have h0 : par s = (0, 0, 0) := (stabPars_cases _ hp).2.2 (by rw [cubicIsFace_par, hf])
  have hu : ∀ d ∈ ([(-1, 0, 0), (1, 0, 0), (0, -1, 0), (0, 1, 0), (0, 0, -1), (0, 0, 1)] : List Loc),
      d ∈ units := by decide
  change ∃ e ∈ toricStabOp Lx Ly Lz s, _
  unfold toricStabOp
  simp only [hf, Bool.false_eq_true, if_false]
  refine ⟨_, buildOp_mem _ _ ?_ (List.mem_map.mpr ⟨(-1, 0, 0), by decide, rfl⟩) ?_, rfl⟩
  · rw [List.map_map]
    exact List.Nodup.map_on (fun d hd d' hd' h =>
      wrap3_addLoc_inj Lx Ly Lz hLx hLy hLz s (hu d hd) (hu d' hd') h) (by decide)
  · rw [mem_toricQubits, par_wrap3, par_addLoc, h0]
    exact ⟨inBox_wrap3 Lx Ly Lz hLx hLy hLz _, vertex_table _ (by decide)⟩

theorem toric_faceHas (s : Loc) (hs : s ∈ toricStabs Lx Ly Lz) (q : Loc)
    (hq : q ∈ toricQubits Lx Ly Lz) :
    faceHas (toric3D Lx Ly Lz) s q = decide (q ∈ toricKeys Lx Ly Lz s) := by
  have hp := ((mem_toricStabs Lx Ly Lz s).mp hs).2
  cases hf : cubicIsFace s
  · obtain ⟨e, he, hz⟩ := toric_op_vertex Lx Ly Lz hLx hLy hLz s hp hf
    rw [faceHas_of_Z _ _ _ e he hz, toricKeys, xDeltas, cubicIsFace_par, hf]
    rfl
  · obtain ⟨hop, hK⟩ := toric_op_face Lx Ly Lz hLx hLy hLz s hp hf
    exact faceHas_of_X_filter _ _ _ _ hop hK hq

/-- GEOMETRY, all sizes: on every edge of `Toric3DCode(L_x, L_y, L_z)`, `L_i ≥ 2`,
    `SweepDecoder3D.flip_edge` toggles exactly the face stabilizers that anticommute with Z
    on that edge. -/
theorem toric_flipTableOK :
    flipTableOK (toric3D Lx Ly Lz) (flipFaces3D (toric3D Lx Ly Lz)) = true := by
  unfold flipTableOK
  rw [List.all_eq_true]
  intro q hq
  obtain ⟨hb, hp⟩ := (mem_toricQubits Lx Ly Lz q).mp hq
  have hw : wrapLimits (toric3D Lx Ly Lz) = wrap3 Lx Ly Lz := rfl
  apply flipOK3D_of _ q hp
  · intro d hd d' hd' _ h
    rw [hw] at h
    exact wrap3_addLoc_inj Lx Ly Lz hLx hLy hLz q ((cubicTables.mem_eD hp d).mp hd).1 ((cubicTables.mem_eD hp d').mp hd').1 h
  · intro s hs
    obtain ⟨hsb, hsp⟩ := (mem_toricStabs Lx Ly Lz s).mp hs
    rw [toric_faceHas Lx Ly Lz hLx hLy hLz s hs q hq, decide_eq_true_iff, toricKeys, List.mem_map, hw]
    exact toggled_iff_hasX _ _ (par_wrap3 Lx Ly Lz) (par_wrap3 Lx Ly Lz) hp hsp
      (fun d _ => wrap3_addLoc_iff hb hsb d)

/-- every edge the sweep rule proposes on the torus is an edge of the lattice -/
theorem toric_sweepEdgesOK : sweepEdgesOK3D (toric3D Lx Ly Lz) = true := by
  unfold sweepEdgesOK3D
  rw [List.all_eq_true]
  intro v hv
  obtain ⟨hs, hz⟩ := List.mem_filter.mp hv
  have hp := ((mem_toricStabs Lx Ly Lz v).mp hs).2
  have hf : cubicIsFace v = false := by
    cases hf : cubicIsFace v
    · rfl
    · have hop := (toric_op_face Lx Ly Lz hLx hLy hLz v hp hf).1
      rw [List.filter_map] at hop
      rw [zIndex_of_X _ _ _ hop] at hz
      cases hz
  have h0 : par v = (0, 0, 0) := (stabPars_cases _ hp).2.2 (by rw [cubicIsFace_par, hf])
  have hq : ∀ d ∈ units,
      (toric3D Lx Ly Lz).isQubit (wrapLimits (toric3D Lx Ly Lz) (addLoc v d)) = true := by
    intro d hd
    rw [Lattice.isQubit_iff]
    change wrap3 Lx Ly Lz (addLoc v d) ∈ toricQubits Lx Ly Lz
    rw [mem_toricQubits, par_wrap3, par_addLoc, h0]
    exact ⟨inBox_wrap3 Lx Ly Lz hLx hLy hLz _, vertex_table d hd⟩
  obtain ⟨ex, ey, ez⟩ := edges3D_eq (toric3D Lx Ly Lz) v
  rw [ex, ey, ez, hq _ (by decide), hq _ (by decide), hq _ (by decide)]
  simp only [Bool.or_true, Bool.and_true]

end
end Panqec.Sweep
