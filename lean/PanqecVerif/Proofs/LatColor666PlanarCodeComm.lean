/-
Color666PlanarCode, all sizes: overlaps.  Two faces share 0 or 2 qubits (an edge of the hexagonal
tiling, both ends of which are inside the triangle as soon as both faces are), a face has 4 or 6
corners inside the triangle (the cut removes corners in pairs), the bottom row meets every face in
0 or 2 qubits and has an odd number `2L + 1` of qubits.  Core Lean only.
-/
import PanqecVerif.Proofs.LatColor666PlanarCodeBasics
import PanqecVerif.Proofs.KeyedOverlap


namespace Panqec.Color666PlanarCode
open Panqec.Lat2D Panqec.Color

section faceface
variable {L : Nat} {x y : Int}

/-- the corner of the hexagon at `(x, y)` for the delta `d` -/
def keyAt (x y : Int) (d : Int × Int) : Coord := [x + d.1, y + d.2]

theorem supp_keyed (L : Nat) (x y : Int) :
    supp L x y = (delta.map (keyAt x y)).filter (inTriangle L) := by
  unfold supp; rw [← candidates_eq]; rfl

theorem nodup_corners (x y : Int) : (delta.map (keyAt x y)).Nodup := by
  have := nodup_nbrs x y; rwa [← candidates_eq] at this

/-- face centres lie in the columns `x ≡ 2 (mod 3)` -/
def admF (p : (Int × Int) × (Int × Int)) : Bool := (dif p).1 % 3 == 0

/-- two hexagons of the tiling share none, two or all of their corners -/
theorem hex_even : EvenClasses dif ((pairsOf delta delta).filter admF) := by decide

/-- The corner `a + d = b + e` shared by two neighbouring faces `a`, `b`: each of the bounds of the
    triangle that a face centre keeps with room to spare (`0 ≤ y`, `y ≤ 2 x`, `2 x + y ≤ 12 L`) is
    moved in the harmless direction by one of the two offsets. -/
theorem hex_edges : ∀ p ∈ pairsOf delta delta, admF p = true → dif p ≠ (0, 0) →
    (0 ≤ p.1.2 ∨ 0 ≤ p.2.2) ∧ (-1 ≤ 2 * p.1.1 - p.1.2 ∨ -1 ≤ 2 * p.2.1 - p.2.2) ∧
      (2 * p.1.1 + p.1.2 ≤ 3 ∨ 2 * p.2.1 + p.2.2 ≤ 3) ∧ -2 ≤ p.1.1 := by decide

/-- an edge of the tiling between two faces of the code lies inside the triangle -/
theorem edge_inside {bx by' : Int} (ha : IsF L x y) (hb : IsF L bx by')
    (hne : ¬ (bx = x ∧ by' = y)) {p : (Int × Int) × (Int × Int)} (hp : p ∈ pairsOf delta delta)
    (hd : dif p = (bx - x, by' - y)) : inTriangle L (keyAt x y p.1) = true := by
  obtain ⟨a1, a2, a3, a4, a5, a6⟩ := isF_iff.mp ha
  obtain ⟨b1, b2, b3, b4, b5, b6⟩ := isF_iff.mp hb
  obtain ⟨h2, h3, h4, h1⟩ := hex_edges p hp (by simp only [admF, hd, beq_iff_eq]; omega)
    (by rw [hd]; intro e; simp only [Prod.mk.injEq] at e; omega)
  obtain ⟨⟨d1, d2⟩, e1, e2⟩ := p
  simp only [dif, Prod.mk.injEq] at hd
  unfold keyAt; rw [inTriangle_iff]; unfold InT
  dsimp only at h1 h2 h3 h4 ⊢
  clear hp a5 b5 ha hb
  omega

/-- the triangle cuts the corners of a face in pairs -/
theorem cut_pairs (ha : IsF L x y) :
    (InT L (x - 1) (y - 2) ↔ InT L (x + 1) (y - 2)) ∧
    (InT L (x + 2) y ↔ InT L (x + 1) (y + 2)) ∧
    (InT L (x - 1) (y + 2) ↔ InT L (x - 2) y) := by
  obtain ⟨h1, h2, h3, h4, -⟩ := ha
  unfold InT
  refine ⟨?_, ?_, ?_⟩ <;> constructor <;> intro h <;> omega

theorem length_supp_even (ha : IsF L x y) : (supp L x y).length % 2 = 0 := by
  obtain ⟨p12, p34, p56⟩ := cut_pairs ha
  simp only [← inTriangle_iff, ← Bool.eq_iff_iff] at p12 p34 p56
  unfold supp nbrs
  rw [← List.countP_eq_length_filter]
  simp only [List.countP_cons, List.countP_nil, p12, p34, p56]
  cases inTriangle L [x + 1, y - 2] <;> cases inTriangle L [x + 1, y + 2] <;>
    cases inTriangle L [x - 2, y] <;> rfl

theorem face_face_even {bx by' : Int} (ha : IsF L x y) (hb : IsF L bx by') :
    interCount (supp L x y) (supp L bx by') % 2 = 0 := by
  by_cases hne : bx = x ∧ by' = y
  · rw [hne.1, hne.2, interCount_self]; exact length_supp_even ha
  · -- the corners that count are ends of a common edge; these are inside the triangle
    have hk : ∀ p : (Int × Int) × (Int × Int), keyAt bx by' p.2 = keyAt x y p.1 ↔
        dif p = (bx - x, by' - y) := fun p => by
      unfold keyAt dif; simp only [List.cons.injEq, and_true, Prod.mk.injEq]; omega
    rw [supp_keyed, supp_keyed]
    unfold interCount
    rw [keyed_pairs_filter _ _ _ (nodup_corners bx by'),
      ← countP_class_even dif hex_even (bx - x, by' - y), List.countP_filter]
    congr 1
    apply List.countP_congr
    intro p hp
    by_cases hd : dif p = (bx - x, by' - y)
    · have h3 : admF p = true := by
        have := (isF_iff.mp ha).2.2.2.2.1; have := (isF_iff.mp hb).2.2.2.2.1
        simp only [admF, hd, beq_iff_eq]; omega
      simp [(hk p).mpr hd, edge_inside ha hb hne hp hd, hd, h3]
    · simp [hd, mt (hk p).mp hd]

end faceface

/-- the qubits of the row `y = 0`, in the order of the loop of `get_logicals_x/z` -/
def kB (L L' : Nat) : List Coord := (bottomRow L).filter (isQubit L L')

theorem nodup_bottomRow (L : Nat) : (bottomRow L).Nodup :=
  nodup_map_pair _ (fun a b h => by simpa using h) (nodup_pyRangeStep _ _ _ (by decide))

theorem nodup_kB (L L' : Nat) : (kB L L').Nodup := (nodup_bottomRow L).sublist List.filter_sublist

theorem mem_kB {L L' : Nat} (hL : 1 ≤ L) {a b : Int} :
    [a, b] ∈ kB L L' ↔ (b = 0 ∧ IsQ L a 0) := by
  unfold kB bottomRow
  simp only [List.mem_filter, List.mem_map, (mem_pyRangeStep (s := 2) (by decide)), List.cons.injEq, and_true]
  constructor
  · rintro ⟨⟨x, hx, rfl, rfl⟩, hq⟩
    exact ⟨rfl, (isQubit_iff hL).mp hq⟩
  · rintro ⟨rfl, hq⟩
    refine ⟨⟨a, ?_, rfl, rfl⟩, (isQubit_iff hL).mpr hq⟩
    unfold IsQ InT at hq; omega

theorem kB_shape {L L' : Nat} {q : Coord} (h : q ∈ kB L L') : ∃ a, q = [a, 0] := by
  unfold kB bottomRow at h
  simp only [List.mem_filter, List.mem_map] at h
  obtain ⟨⟨x, _, rfl⟩, _⟩ := h
  exact ⟨x, rfl⟩

theorem logX_eq (L L' : Nat) : logX L L' = [(kB L L').map (fun q => (q, Pauli.X))] := by
  show [collect (bottomRow L) (isQubit L L') Pauli.X] = _
  rw [collect_eq _ _ _ (nodup_bottomRow L)]; rfl

theorem logZ_eq (L L' : Nat) : logZ L L' = [(kB L L').map (fun q => (q, Pauli.Z))] := by
  show [collect (bottomRow L) (isQubit L L') Pauli.Z] = _
  rw [collect_eq _ _ _ (nodup_bottomRow L)]; rfl

/-- a corner of a face inside the triangle is a qubit, so it is on the bottom row iff `b = 0` -/
theorem corner_kB {L L' : Nat} (hL : 1 ≤ L) {x y a b : Int} (hf : IsF L x y) {P : Prop}
    (hc : [a, b] ∈ nbrs x y) (hP : b = 0 ↔ P) :
    (inTriangle L [a, b] = true ∧ [a, b] ∈ kB L L') ↔ (InT L a b ∧ P) := by
  rw [inTriangle_iff, mem_kB hL, ← hP]
  refine ⟨fun h => ⟨h.1, h.2.1⟩, fun h => ⟨h.1, h.2, ?_⟩⟩
  have := isQ_of_corner hf (List.mem_filter.mpr ⟨hc, inTriangle_iff.mpr h.1⟩)
  rwa [h.2] at this

theorem interCount_filter6 (c1 c2 c3 c4 c5 c6 : Coord) (f : Coord → Bool) (B : List Coord) :
    interCount ([c1, c2, c3, c4, c5, c6].filter f) B =
      (if f c1 = true ∧ c1 ∈ B then 1 else 0) + (if f c2 = true ∧ c2 ∈ B then 1 else 0) +
      (if f c3 = true ∧ c3 ∈ B then 1 else 0) + (if f c4 = true ∧ c4 ∈ B then 1 else 0) +
      (if f c5 = true ∧ c5 ∈ B then 1 else 0) + (if f c6 = true ∧ c6 ∈ B then 1 else 0) := by
  unfold interCount
  rw [List.countP_filter]
  simp only [List.countP_cons, List.countP_nil, Bool.and_eq_true, List.contains_eq_mem,
    decide_eq_true_eq]
  simp only [and_comm]
  omega

theorem interCount_filter6_iff (c1 c2 c3 c4 c5 c6 : Coord) (f : Coord → Bool) (B : List Coord)
    (P1 P2 P3 P4 P5 P6 : Prop) [Decidable P1] [Decidable P2] [Decidable P3] [Decidable P4]
    [Decidable P5] [Decidable P6]
    (h1 : (f c1 = true ∧ c1 ∈ B) ↔ P1) (h2 : (f c2 = true ∧ c2 ∈ B) ↔ P2)
    (h3 : (f c3 = true ∧ c3 ∈ B) ↔ P3) (h4 : (f c4 = true ∧ c4 ∈ B) ↔ P4)
    (h5 : (f c5 = true ∧ c5 ∈ B) ↔ P5) (h6 : (f c6 = true ∧ c6 ∈ B) ↔ P6) :
    interCount ([c1, c2, c3, c4, c5, c6].filter f) B =
      (if P1 then 1 else 0) + (if P2 then 1 else 0) + (if P3 then 1 else 0) +
      (if P4 then 1 else 0) + (if P5 then 1 else 0) + (if P6 then 1 else 0) := by
  rw [interCount_filter6]
  simp only [h1, h2, h3, h4, h5, h6]

/-- a face meets the bottom row in 0 or 2 qubits: its two lowest corners if `y = 2`, its left and
    right corners if `y = 0` -/
theorem supp_kB {L L' : Nat} (hL : 1 ≤ L) {x y : Int} (h : IsF L x y) :
    interCount (supp L x y) (kB L L') % 2 = 0 := by
  obtain ⟨h1, h2, h3, h4, h5, h6⟩ := isF_iff.mp h
  show interCount ([[x - 1, y - 2], [x + 1, y - 2], [x + 2, y], [x + 1, y + 2],
    [x - 1, y + 2], [x - 2, y]].filter (inTriangle L)) (kB L L') % 2 = 0
  rw [interCount_filter6_iff _ _ _ _ _ _ _ _ (InT L (x - 1) (y - 2) ∧ y = 2)
    (InT L (x + 1) (y - 2) ∧ y = 2) (InT L (x + 2) y ∧ y = 0) (InT L (x + 1) (y + 2) ∧ False)
    (InT L (x - 1) (y + 2) ∧ False) (InT L (x - 2) y ∧ y = 0)
    (corner_kB hL h (by simp [nbrs]) (by omega)) (corner_kB hL h (by simp [nbrs]) (by omega))
    (corner_kB hL h (by simp [nbrs]) (by omega))
    (corner_kB hL h (by simp [nbrs]) (iff_false_intro (by omega)))
    (corner_kB hL h (by simp [nbrs]) (iff_false_intro (by omega)))
    (corner_kB hL h (by simp [nbrs]) (by omega))]
  by_cases c2 : y = 2
  · subst c2
    have p : InT L (x - 1) 0 ↔ InT L (x + 1) 0 := (cut_pairs h).1
    by_cases t : InT L (x + 1) 0 <;> simp [p, t]
  by_cases c0 : y = 0
  · subst c0
    have t3 : InT L (x + 2) 0 := by unfold InT; omega
    have t6 : InT L (x - 2) 0 := by unfold InT; omega
    simp [t3, t6]
  simp [c2, c0]

end Panqec.Color666PlanarCode
