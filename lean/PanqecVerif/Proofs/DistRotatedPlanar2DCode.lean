/-
RotatedPlanar2DCode, all sizes, C17: translates of the two listed logical lines, the parity
argument, weights of the listed logicals.

Qubits sit at odd/odd coordinates.  `X̄` (X on the row `y = 1`, weight `Lx`) has the `Ly`
translates `y = 2i + 1`; the X-type (face) generators of the row `y = 2i + 2` sit at every
other site `x = 2k` and each covers the positions `2k ± 1` of the two neighbouring rows: they
tile both rows like dominoes (the weight-2 boundary generators close the tiling), so their
product is the product of the two rows.  Same for `Z̄` (column `x = 1`, weight `Ly`, `Lx`
translates `x = 2i + 1`) with the Z-type (vertex) generators of the column `x = 2i + 2`.
-/
import PanqecVerif.Proofs.DistPlanar2DCodeShared
import PanqecVerif.Proofs.LatRotatedPlanar2DCodeCss

namespace Panqec.RotatedPlanar2DCode
open Panqec.Lat2D

theorem indIf_out {Lx Ly : Nat} {x y : Int} (P : Pauli) (b : Op) (h : ¬ IsQ Lx Ly x y) :
    indIf (isQubit Lx Ly) P b [x, y] = 0 :=
  indIf_neg P b fun h' => h (isQubit_iff.mp h')

def CommStabs (Lx Ly : Nat) (b : Op) : Prop :=
  ∀ s ∈ (lattice Lx Ly).stabs, opAntiCount ((lattice Lx Ly).getStab s) b % 2 = 0

/-- the vertex generator between the columns `u` and `u + 2` -/
theorem vertex_even {Lx Ly : Nat} {b : Op} (hb : CommStabs Lx Ly b) {u w : Int}
    (hs : IsV Lx Ly (u + 1) w) :
    (indIf (isQubit Lx Ly) Pauli.Z b [u, w - 1] + indIf (isQubit Lx Ly) Pauli.Z b [u, w + 1]
      + indIf (isQubit Lx Ly) Pauli.Z b [u + 2, w - 1]
      + indIf (isQubit Lx Ly) Pauli.Z b [u + 2, w + 1]) % 2 = 0 := by
  have hs' : [u + 1, w] ∈ stabs Lx Ly := mem_stabs'.mpr (Or.inl hs)
  have h := hb _ hs'
  rw [getStab_eq hs', letter_V hs.mod4] at h
  unfold supp nbrs at h
  rw [opAntiCount_filter4, Int.add_sub_cancel, show u + 1 + 1 = u + 2 by omega] at h
  exact h

/-- the face generator between the rows `u` and `u + 2` -/
theorem face_even {Lx Ly : Nat} {b : Op} (hb : CommStabs Lx Ly b) {u w : Int}
    (hs : IsF Lx Ly w (u + 1)) :
    (indIf (isQubit Lx Ly) Pauli.X b [w - 1, u] + indIf (isQubit Lx Ly) Pauli.X b [w + 1, u]
      + indIf (isQubit Lx Ly) Pauli.X b [w - 1, u + 2]
      + indIf (isQubit Lx Ly) Pauli.X b [w + 1, u + 2]) % 2 = 0 := by
  have hs' : [w, u + 1] ∈ stabs Lx Ly := mem_stabs'.mpr (Or.inr hs)
  have h := hb _ hs'
  rw [getStab_eq hs', letter_F hs.ne2] at h
  unfold supp nbrs at h
  rw [opAntiCount_filter4, Int.add_sub_cancel, show u + 1 + 1 = u + 2 by omega] at h
  omega

variable {Lx Ly : Nat}

/-- **Domino ladder.**  Lines `u = 2i + 1` (`i < M`) with positions `w = 2j + 1` (`j < L`).
    Between the lines `i` and `i + 1` the constraints sit at `w = 2k` for the `k ≤ L` of one
    parity `e i`, each involving the positions `2k ± 1` of both lines: they tile both lines like
    dominoes (`F` vanishes at `w = -1` and `w = 2L + 1`), so all lines have the same parity. -/
theorem domino_ladder (M L : Nat) (F : Int → Int → Nat) (e : Nat → Nat) (he : ∀ i, e i < 2)
    (h0 : ∀ u, F u (-1) = 0) (hL : ∀ u, F u (2 * L + 1) = 0)
    (hstab : ∀ i k : Nat, i + 1 < M → k < L + 1 → k % 2 = e i →
      (F (2 * i + 1) (2 * k - 1) + F (2 * i + 1) (2 * k + 1)
        + F (2 * i + 1 + 2) (2 * k - 1) + F (2 * i + 1 + 2) (2 * k + 1)) % 2 = 0) :
    ∀ i : Nat, i < M →
      rsum L (fun j => F (2 * i + 1) (2 * j + 1)) % 2 = rsum L (fun j => F 1 (2 * j + 1)) % 2 := by
  refine chain M (fun i => rsum L fun j => F (2 * i + 1) (2 * j + 1)) fun i hi => ?_
  have hp := rsum_pairs (e i) (he i) L (fun w => F (2 * i + 1) w + F (2 * i + 1 + 2) w)
    (by rw [h0, h0]) (by rw [hL, hL])
  show (rsum L _ + rsum L _) % 2 = 0
  rw [show 2 * ((i + 1 : Nat) : Int) + 1 = 2 * (i : Int) + 1 + 2 by omega, ← rsum_add, ← hp]
  refine rsum_even _ fun k hk => ?_
  by_cases hke : k % 2 = e i
  · have := hstab i k hi hk hke
    rw [if_pos hke]; omega
  · rw [if_neg hke]

/-- `Z̄` (vertical Z line at `x = 1`): translates at `x = 2i + 1`; the vertex generators of the
    column `x = 2i + 2` are the dominoes -/
theorem parity_Z {b : Op} (hb : CommStabs Lx Ly b) (i : Nat) (hi : i < Lx) :
    (colKeys (2 * i + 1) 1 Ly).countP (opHit Pauli.Z b) % 2 =
      (colKeys 1 1 Ly).countP (opHit Pauli.Z b) % 2 := by
  rw [countP_colKeys_if (isQubit Lx Ly) _ _ _ _ _ 1 rfl
      fun j hj => isQubit_iff.mpr (by unfold IsQ; omega),
    countP_colKeys_if (isQubit Lx Ly) _ _ _ _ _ 1 rfl
      fun j hj => isQubit_iff.mpr (by unfold IsQ; omega)]
  exact domino_ladder Lx Ly (fun u w => indIf (isQubit Lx Ly) Pauli.Z b [u, w]) (· % 2)
    (fun i => Nat.mod_lt _ (by omega)) (fun u => indIf_out _ _ (by unfold IsQ; omega))
    (fun u => indIf_out _ _ (by unfold IsQ; omega))
    (fun i k hi hk hke => vertex_even hb (by unfold IsV; omega)) i hi

/-- `X̄` (horizontal X line at `y = 1`): translates at `y = 2i + 1`; the face generators of the
    row `y = 2i + 2` are the dominoes -/
theorem parity_X {b : Op} (hb : CommStabs Lx Ly b) (i : Nat) (hi : i < Ly) :
    (rowKeys (2 * i + 1) 1 Lx).countP (opHit Pauli.X b) % 2 =
      (rowKeys 1 1 Lx).countP (opHit Pauli.X b) % 2 := by
  rw [countP_rowKeys_if (isQubit Lx Ly) _ _ _ _ _ 1 rfl
      fun j hj => isQubit_iff.mpr (by unfold IsQ; omega),
    countP_rowKeys_if (isQubit Lx Ly) _ _ _ _ _ 1 rfl
      fun j hj => isQubit_iff.mpr (by unfold IsQ; omega)]
  exact domino_ladder Ly Lx (fun u w => indIf (isQubit Lx Ly) Pauli.X b [w, u]) (fun i => (i + 1) % 2)
    (fun i => Nat.mod_lt _ (by omega)) (fun u => indIf_out _ _ (by unfold IsQ; omega))
    (fun u => indIf_out _ _ (by unfold IsQ; omega))
    (fun i k hi hk hke => face_even hb (by unfold IsF; omega)) i hi

/-- every non-trivial logical operator of the `Lx × Ly` rotated planar code has weight
    `≥ min Lx Ly` -/
theorem lower_bound (hx : 1 ≤ Lx) (hy : 1 ≤ Ly)
    (hv : ValidCodeL (Lx * Ly) 1 (lattice Lx Ly).rowsH (lattice Lx Ly).rowsX
      (lattice Lx Ly).rowsZ) :
    ∀ v, IsNontrivialLogical (Lx * Ly) (lattice Lx Ly).rowsH v → min Lx Ly ≤ pauliWeight v :=
  Lattice.lower_bound_of_packed1 (lattice Lx Ly) (wf hx hy) (length_qubits Lx Ly) hv
    ((logX_eq Lx Ly).trans (by rw [kX_eq])) ((logZ_eq Lx Ly).trans (by rw [kZ_eq]))
    (.of_family _ (fun i => rowKeys (2 * i + 1) 1 Lx) (Nat.min_le_right ..) (fun i hi =>
      .of_parity (nodup_rowKeys ..) (rowKeys_qubits i hi) fun _ hb => parity_X hb i hi)
      fun i i' h _ => rowKeys_disjoint 1 Lx 1 i i' h)
    (.of_family _ (fun i => colKeys (2 * i + 1) 1 Ly) (Nat.min_le_left ..) (fun i hi =>
      .of_parity (nodup_colKeys ..) (colKeys_qubits i hi) fun _ hb => parity_Z hb i hi)
      fun i i' h _ => colKeys_disjoint 1 Ly 1 i i' h)

/-- the row of `logicals_x` has weight `Lx`, the row of `logicals_z` weight `Ly` -/
theorem weights_listed (hx : 1 ≤ Lx) (hy : 1 ≤ Ly) :
    (lattice Lx Ly).rowsX.map pauliWeight = [Lx] ∧
    (lattice Lx Ly).rowsZ.map pauliWeight = [Ly] := by
  have h := weights_of_lines (lattice Lx Ly) (wf hx hy) (logX_eq Lx Ly) (logZ_eq Lx Ly)
  rwa [kX_eq, kZ_eq, length_rowKeys, length_colKeys] at h

/-- `code.d` (minimum weight of the listed logicals) is `min Lx Ly` -/
theorem reported_distance (hx : 1 ≤ Lx) (hy : 1 ≤ Ly) :
    distance (lattice Lx Ly).rowsX (lattice Lx Ly).rowsZ = some (min Lx Ly) :=
  distance_of_weights (weights_listed hx hy).1 (weights_listed hx hy).2 rfl rfl

end Panqec.RotatedPlanar2DCode
