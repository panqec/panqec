/-
`HollowPlanar3DCode`, every size with `1 ≤ Lx, Ly, Lz`: `rankFamily` (the stabilizer locations not
dropped by `rankDrop`) has exactly `n − 1` members.  The vertex, yz-face and xz-face blocks are kept
entirely; the kept xy faces are those of the layer `z = 0` and, when the hole is not empty
(`3 ≤ Lx`, `2 ≤ Ly`, `2 ≤ Lz`), those of the top of the tube (`z = 2Lz − 2`, `3 ≤ x ≤ 2Lx − 3`) other
than `(3, 1, 2Lz − 2)`.
-/
import Mathlib.Tactic.Linarith
import PanqecVerif.Proofs.LatHollowPlanar3DCodeOldCss

namespace Panqec.HollowPlanar3DCode
open Panqec.Cubic3D
open Panqec.Planar3DCode (inE inO inE2 inO1 isFace rE rO mem_rangeE mem_rangeO mem_rangeE2 mem_rangeO1)

theorem rankDrop3 {Lx : Nat} {x y z : Int} : rankDrop Lx [x, y, z] = true ↔
    (z % 2 = 0 ∧ x % 2 = 1 ∧ z ≠ 0 ∧ (x = 1 ∨ x = 2 * (Lx : Int) - 1 ∨ (x = 3 ∧ y = 1))) := by
  simp only [rankDrop, Bool.and_eq_true, Bool.or_eq_true, beq_iff_eq, bne_iff_ne, ne_eq, and_assoc,
    or_assoc]

theorem rankFamily_sublist (Lx Ly Lz : Nat) : (rankFamily Lx Ly Lz).Sublist (stabs Lx Ly Lz) :=
  List.filter_sublist

theorem rankFamily_nodup (Lx Ly Lz : Nat) : (rankFamily Lx Ly Lz).Nodup :=
  (stabs_nodup Lx Ly Lz).sublist (rankFamily_sublist Lx Ly Lz)

theorem shape_grid {xs ys zs : List Int} {q : Coord} (h : q ∈ grid xs ys zs) :
    ∃ x y z, q = [x, y, z] := by
  obtain ⟨x, _, y, _, z, _, rfl⟩ := mem_grid.mp h; exact ⟨x, y, z, rfl⟩

/-- a block of `get_stabilizer_coordinates` none of whose members is dropped -/
theorem filter_keep_self {Lx Ly Lz : Nat} {xs ys zs : List Int}
    (h : ∀ x ∈ xs, ∀ z ∈ zs, x % 2 = 0 ∨ z % 2 = 1) :
    (gridH Lx Ly Lz xs ys zs).filter (fun s => !rankDrop Lx s) = gridH Lx Ly Lz xs ys zs := by
  rw [List.filter_eq_self]
  intro q hq
  rw [gridH_eq, List.mem_filter] at hq
  obtain ⟨x, hx, y, _, z, hz, rfl⟩ := mem_grid.mp hq.1
  have := h x hx z hz
  have hd : ¬ rankDrop Lx [x, y, z] = true := by rw [rankDrop3]; omega
  simpa using hd

/-- the xy-face block of `get_stabilizer_coordinates` -/
def xyBlock (Lx Ly Lz : Nat) : List Coord :=
  gridH Lx Ly Lz (range2 1 (2 * (Lx : Int) + 1)) (range2 1 (2 * (Ly : Int) - 1))
    (range2 0 (2 * (Lz : Int)))

/-- an xy face of the top of the tube that belongs to the family -/
def isTop (Lx Lz : Nat) (x y z : Int) : Prop :=
  z = 2 * (Lz : Int) - 2 ∧ z ≠ 0 ∧ 3 ≤ x ∧ x ≤ 2 * (Lx : Int) - 3 ∧ ¬ (x = 3 ∧ y = 1)

/-- the xy faces outside the hole that are not dropped: the layer `z = 0` and the top of the tube -/
theorem keptXY_iff {Lx Ly Lz : Nat} {x y z : Int} (h : isFace Lx Ly Lz .z z x y) :
    ¬ Hole Lx Ly Lz x y z ∧ ¬ rankDrop Lx [x, y, z] = true ↔ z = 0 ∨ isTop Lx Lz x y z := by
  obtain ⟨hz, hx, hy⟩ := h
  simp only [rE, rO, Axis.fst, Axis.snd, inO1, inO, inE] at hx hy hz
  rw [rankDrop3]
  unfold Hole isTop
  omega

theorem mem_xyKept {Lx Ly Lz : Nat} {x y z : Int} :
    [x, y, z] ∈ (xyBlock Lx Ly Lz).filter (fun s => !rankDrop Lx s) ↔
      isFace Lx Ly Lz .z z x y ∧ (z = 0 ∨ isTop Lx Lz x y z) := by
  unfold xyBlock
  rw [List.mem_filter, gridH_eq, List.mem_filter, mem_grid3, mem_rangeO1, mem_rangeO, mem_rangeE,
    notHoleC3, Bool.not_eq_true', ← Bool.not_eq_true, and_assoc]
  exact ⟨fun ⟨⟨hx, hy, hz⟩, hk⟩ => ⟨⟨hz, hx, hy⟩, (keptXY_iff ⟨hz, hx, hy⟩).mp hk⟩,
    fun ⟨h, hk⟩ => ⟨⟨h.2.1, h.2.2, h.1⟩, (keptXY_iff h).mpr hk⟩⟩

theorem xyKept_nodup (Lx Ly Lz : Nat) :
    ((xyBlock Lx Ly Lz).filter (fun s => !rankDrop Lx s)).Nodup := by
  unfold xyBlock
  rw [gridH_eq]
  exact ((nodup_grid (nodup_range2 _ _) (nodup_range2 _ _) (nodup_range2 _ _)).filter _).filter _

theorem shape_xyKept {Lx Ly Lz : Nat} {q : Coord}
    (hq : q ∈ (xyBlock Lx Ly Lz).filter (fun s => !rankDrop Lx s)) : ∃ x y z, q = [x, y, z] := by
  unfold xyBlock at hq
  rw [gridH_eq] at hq
  exact shape_grid (List.mem_filter.mp (List.mem_filter.mp hq).1).1

theorem length_layer0 (Lx Ly : Nat) :
    (grid (range2 1 (2 * (Lx : Int) + 1)) (range2 1 (2 * (Ly : Int) - 1)) [0]).length =
      Lx * (Ly - 1) := by
  rw [length_grid, length_rangeO1, length_rangeO, List.length_singleton, Nat.mul_one]

/-- no cavity: the kept xy faces are those of the layer `z = 0` -/
theorem xyKept_length_A {Lx Ly Lz : Nat} (hLz : 1 ≤ Lz) (hA : Lx ≤ 2 ∨ Ly ≤ 1 ∨ Lz ≤ 1) :
    ((xyBlock Lx Ly Lz).filter (fun s => !rankDrop Lx s)).length = Lx * (Ly - 1) := by
  rw [← length_layer0]
  refine length_eq_of_mem3 (xyKept_nodup Lx Ly Lz)
    (nodup_grid (nodup_range2 _ _) (nodup_range2 _ _) (List.nodup_singleton _))
    (fun q => shape_xyKept) (fun q => shape_grid) ?_
  intro x y z
  rw [mem_xyKept, mem_grid3, mem_rangeO1, mem_rangeO, List.mem_singleton]
  simp only [isFace, rE, rO, Axis.fst, Axis.snd, isTop, inE, inO, inO1]
  omega

/-- a cavity: the kept xy faces are those of the layer `z = 0` and those of the top of the tube
    other than `(3, 1, 2Lz − 2)` -/
theorem xyKept_length_B {Lx Ly Lz : Nat} (hLx : 3 ≤ Lx) (hLy : 2 ≤ Ly) (hLz : 2 ≤ Lz) :
    ((xyBlock Lx Ly Lz).filter (fun s => !rankDrop Lx s)).length + 1 =
      Lx * (Ly - 1) + (Lx - 2) * (Ly - 1) := by
  let top := grid (range2 3 (2 * (Lx : Int) - 2)) (range2 1 (2 * (Ly : Int) - 1))
    [2 * (Lz : Int) - 2]
  have htop : top.length = (Lx - 2) * (Ly - 1) := by
    show (grid _ _ _).length = _
    rw [length_grid, length_range2, length_rangeO, List.length_singleton, Nat.mul_one,
      show ((2 * (Lx : Int) - 2 - 3 + 1) / 2).toNat = Lx - 2 by omega]
  have hmemtop : [3, 1, 2 * (Lz : Int) - 2] ∈ top :=
    mem_grid3.mpr ⟨mem_range2.mpr (by omega), mem_range2.mpr (by omega), List.mem_singleton_self _⟩
  have hnt : top.Nodup :=
    nodup_grid (nodup_range2 _ _) (nodup_range2 _ _) (List.nodup_singleton _)
  have key : ((xyBlock Lx Ly Lz).filter (fun s => !rankDrop Lx s)).length =
      (grid (range2 1 (2 * (Lx : Int) + 1)) (range2 1 (2 * (Ly : Int) - 1)) [0] ++
        top.erase [3, 1, 2 * (Lz : Int) - 2]).length := by
    refine length_eq_of_mem3 (xyKept_nodup Lx Ly Lz) ?_ (fun q => shape_xyKept) ?_ ?_
    · refine List.nodup_append.mpr ⟨nodup_grid (nodup_range2 _ _) (nodup_range2 _ _)
        (List.nodup_singleton _), hnt.erase _, ?_⟩
      rintro a ha _ hb rfl
      obtain ⟨x, y, z, rfl⟩ := shape_grid ha
      have hb' : _ ∈ grid _ _ _ := List.mem_of_mem_erase hb
      rw [mem_grid3, List.mem_singleton] at ha hb'
      omega
    · intro q hq
      rcases List.mem_append.mp hq with h | h
      · exact shape_grid h
      · exact shape_grid (List.mem_of_mem_erase h)
    · intro x y z
      rw [mem_xyKept, List.mem_append, hnt.mem_erase_iff]
      show _ ↔ _ ∨ (_ ∧ _ ∈ grid _ _ _)
      rw [mem_grid3, mem_grid3, mem_rangeO1, mem_rangeO, mem_range2]
      simp only [List.mem_singleton, ne_eq, List.cons.injEq, and_true]
      simp only [isFace, rE, rO, Axis.fst, Axis.snd, isTop, inE, inO, inO1]
      omega
  rw [key, List.length_append, length_layer0, List.length_erase_of_mem hmemtop, htop]
  have hpos : 1 ≤ (Lx - 2) * (Ly - 1) := Nat.mul_pos (by omega) (by omega)
  omega

theorem rankFamily_length_split (Lx Ly Lz : Nat) : (rankFamily Lx Ly Lz).length =
    (gridH Lx Ly Lz (range2 2 (2 * (Lx : Int))) (range2 0 (2 * (Ly : Int)))
      (range2 0 (2 * (Lz : Int)))).length +
    ((xyBlock Lx Ly Lz).filter (fun s => !rankDrop Lx s)).length +
    (gridH Lx Ly Lz (range2 2 (2 * (Lx : Int))) (range2 1 (2 * (Ly : Int) - 1))
      (range2 1 (2 * (Lz : Int) - 1))).length +
    (gridH Lx Ly Lz (range2 1 (2 * (Lx : Int) + 1)) (range2 0 (2 * (Ly : Int)))
      (range2 1 (2 * (Lz : Int) - 1))).length := by
  unfold rankFamily stabs
  have k1 := filter_keep_self (Lx := Lx) (Ly := Ly) (Lz := Lz) (xs := range2 2 (2 * (Lx : Int)))
    (ys := range2 0 (2 * (Ly : Int))) (zs := range2 0 (2 * (Lz : Int)))
    (by intro x hx z _; rw [mem_range2] at hx; omega)
  have k3 := filter_keep_self (Lx := Lx) (Ly := Ly) (Lz := Lz) (xs := range2 2 (2 * (Lx : Int)))
    (ys := range2 1 (2 * (Ly : Int) - 1)) (zs := range2 1 (2 * (Lz : Int) - 1))
    (by intro x hx z _; rw [mem_range2] at hx; omega)
  have k4 := filter_keep_self (Lx := Lx) (Ly := Ly) (Lz := Lz)
    (xs := range2 1 (2 * (Lx : Int) + 1))
    (ys := range2 0 (2 * (Ly : Int))) (zs := range2 1 (2 * (Lz : Int) - 1))
    (by intro x _ z hz; rw [mem_range2] at hz; omega)
  rw [List.filter_append, List.filter_append, List.filter_append, k1, k3, k4]
  simp only [List.length_append]
  rfl

theorem rankFamily_length {Lx Ly Lz : Nat} (hLx : 1 ≤ Lx) (hLy : 1 ≤ Ly) (hLz : 1 ≤ Lz) :
    (rankFamily Lx Ly Lz).length = (qubits Lx Ly Lz).length - 1 := by
  have hn := qubits_length_add Lx Ly Lz
  have hV := length_gridH Lx Ly Lz (range2 2 (2 * (Lx : Int))) (range2 0 (2 * (Ly : Int)))
    (range2 0 (2 * (Lz : Int)))
  have hYZ := length_gridH Lx Ly Lz (range2 2 (2 * (Lx : Int))) (range2 1 (2 * (Ly : Int) - 1))
    (range2 1 (2 * (Lz : Int) - 1))
  have hXZ := length_gridH Lx Ly Lz (range2 1 (2 * (Lx : Int) + 1)) (range2 0 (2 * (Ly : Int)))
    (range2 1 (2 * (Lz : Int) - 1))
  simp only [len_holeX_E2, len_holeX_O1, len_holeYZ_E, len_holeYZ_O, length_rangeE, length_rangeO,
    length_rangeE2, length_rangeO1] at hV hYZ hXZ
  rw [rankFamily_length_split]
  by_cases hB : 3 ≤ Lx ∧ 2 ≤ Ly ∧ 2 ≤ Lz
  · have hXY := xyKept_length_B hB.1 hB.2.1 hB.2.2
    obtain ⟨a, rfl⟩ := Nat.exists_eq_add_of_le' hB.1
    obtain ⟨b, rfl⟩ := Nat.exists_eq_add_of_le' hB.2.1
    obtain ⟨c, rfl⟩ := Nat.exists_eq_add_of_le' hB.2.2
    simp only [Nat.reduceSubDiff, Nat.add_sub_cancel] at hn hV hYZ hXZ hXY
    apply Nat.eq_sub_of_add_eq
    linarith only [hn, hV, hYZ, hXZ, hXY]
  · have hA : Lx ≤ 2 ∨ Ly ≤ 1 ∨ Lz ≤ 1 := by omega
    have hXY := xyKept_length_A hLz hA
    have zero : ∀ i j k : Nat, 2 ≤ i → 1 ≤ j → 1 ≤ k → (Lx - i) * (Ly - j) * (Lz - k) = 0 := by
      intro i j k hi hj hk
      rcases hA with h | h | h
      · rw [show Lx - i = 0 by omega]; simp
      · rw [show Ly - j = 0 by omega]; simp
      · rw [show Lz - k = 0 by omega]; simp
    rw [zero 2 2 2 (by omega) (by omega) (by omega), zero 3 1 2 (by omega) (by omega) (by omega),
      zero 3 2 1 (by omega) (by omega) (by omega)] at hn
    rw [zero 3 2 2 (by omega) (by omega) (by omega)] at hV
    rw [zero 3 1 1 (by omega) (by omega) (by omega)] at hYZ
    rw [zero 2 2 1 (by omega) (by omega) (by omega)] at hXZ
    obtain ⟨a, rfl⟩ := Nat.exists_eq_add_of_le' hLx
    obtain ⟨b, rfl⟩ := Nat.exists_eq_add_of_le' hLy
    obtain ⟨c, rfl⟩ := Nat.exists_eq_add_of_le' hLz
    simp only [Nat.add_sub_cancel] at hn hV hYZ hXZ hXY
    apply Nat.eq_sub_of_add_eq
    linarith only [hn, hV, hYZ, hXZ, hXY]

end Panqec.HollowPlanar3DCode
