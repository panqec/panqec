/-
Planar2DCode, all sizes, C17: translates of the two listed logical lines across the lattice,
the parity argument with open boundaries, weights of the listed logicals.

`X̄` (X on the horizontal edges of the row `y = 0`, weight `Lx`) has the `Ly` translates
`y = 2i`; consecutive translates differ by the row of face generators between them.  `Z̄` (Z on
the horizontal edges of the column `x = 1`, weight `Ly`) has the `Lx` translates `x = 2i + 1`;
consecutive translates differ by the column of vertex generators between them.  A generator at
the boundary has fewer than four qubits: the missing neighbours are not qubits (`indIf` is `0`
there).
-/
import PanqecVerif.Proofs.DistPlanar2DCodeShared
import PanqecVerif.Proofs.LatPlanar2DCodeCss

namespace Panqec.Planar2DCode
open Panqec.Lat2D

theorem indIf_out {Lx Ly : Nat} {x y : Int} (P : Pauli) (b : Op) (h : ¬ IsQ Lx Ly x y) :
    indIf (isQubit Lx Ly) P b [x, y] = 0 :=
  indIf_neg P b fun h' => h (isQubit_iff.mp h')

def CommStabs (Lx Ly : Nat) (b : Op) : Prop :=
  ∀ s ∈ (lattice Lx Ly).stabs, opAntiCount ((lattice Lx Ly).getStab s) b % 2 = 0

/-- the vertex generator right of the site `(u, w)`, in the order of `ladder_open` -/
theorem vertex_even {Lx Ly : Nat} {b : Op} (hb : CommStabs Lx Ly b) {u w : Int}
    (hs : IsV Lx Ly (u + 1) w) :
    (indIf (isQubit Lx Ly) Pauli.Z b [u, w] + indIf (isQubit Lx Ly) Pauli.Z b [u + 2, w]
      + indIf (isQubit Lx Ly) Pauli.Z b [u + 1, w - 1]
      + indIf (isQubit Lx Ly) Pauli.Z b [u + 1, w + 1]) % 2 = 0 := by
  have hs' : [u + 1, w] ∈ stabs Lx Ly := mem_stabs'.mpr (Or.inl hs)
  have h := hb _ hs'
  rw [getStab_eq hs', letter_V hs.1] at h
  unfold supp nbrs at h
  rw [opAntiCount_filter4, Int.add_sub_cancel, show u + 1 + 1 = u + 2 by omega] at h
  exact h

/-- the face generator above the site `(w, u)` -/
theorem face_even {Lx Ly : Nat} {b : Op} (hb : CommStabs Lx Ly b) {u w : Int}
    (hs : IsF Lx Ly w (u + 1)) :
    (indIf (isQubit Lx Ly) Pauli.X b [w, u] + indIf (isQubit Lx Ly) Pauli.X b [w, u + 2]
      + indIf (isQubit Lx Ly) Pauli.X b [w - 1, u + 1]
      + indIf (isQubit Lx Ly) Pauli.X b [w + 1, u + 1]) % 2 = 0 := by
  have hs' : [w, u + 1] ∈ stabs Lx Ly := mem_stabs'.mpr (Or.inr hs)
  have h := hb _ hs'
  rw [getStab_eq hs', letter_F hs.1] at h
  unfold supp nbrs at h
  rw [opAntiCount_filter4, Int.add_sub_cancel, show u + 1 + 1 = u + 2 by omega] at h
  omega

variable {Lx Ly : Nat}

/-- `Z̄` (vertical Z line at `x = 1`): translates at `x = 2i + 1` -/
theorem parity_Z {b : Op} (hb : CommStabs Lx Ly b) (i : Nat) (hi : i < Lx) :
    (colKeys (2 * i + 1) 0 Ly).countP (opHit Pauli.Z b) % 2 =
      (colKeys 1 0 Ly).countP (opHit Pauli.Z b) % 2 := by
  rw [countP_colKeys_if (isQubit Lx Ly) _ _ _ _ _ 0 rfl
      fun j hj => isQubit_iff.mpr (Or.inl (by omega)),
    countP_colKeys_if (isQubit Lx Ly) _ _ _ _ _ 0 rfl
      fun j hj => isQubit_iff.mpr (Or.inl (by omega))]
  exact ladder_open 1 0 Lx Ly (fun u w => indIf (isQubit Lx Ly) Pauli.Z b [u, w])
    (fun i => indIf_out _ _ (by unfold IsQ; omega)) (fun i => indIf_out _ _ (by unfold IsQ; omega))
    (fun i j hi hj => vertex_even hb (by unfold IsV; omega)) i hi

/-- `X̄` (horizontal X line at `y = 0`): translates at `y = 2i` -/
theorem parity_X {b : Op} (hb : CommStabs Lx Ly b) (i : Nat) (hi : i < Ly) :
    (rowKeys (2 * i) 1 Lx).countP (opHit Pauli.X b) % 2 =
      (rowKeys 0 1 Lx).countP (opHit Pauli.X b) % 2 := by
  rw [show (2 * i : Int) = 2 * i + 0 by omega,
    countP_rowKeys_if (isQubit Lx Ly) _ _ _ _ _ 1 rfl
      fun j hj => isQubit_iff.mpr (Or.inl (by omega)),
    countP_rowKeys_if (isQubit Lx Ly) _ _ _ _ _ 1 rfl
      fun j hj => isQubit_iff.mpr (Or.inl (by omega))]
  exact ladder_open 0 1 Ly Lx (fun u w => indIf (isQubit Lx Ly) Pauli.X b [w, u])
    (fun i => indIf_out _ _ (by unfold IsQ; omega)) (fun i => indIf_out _ _ (by unfold IsQ; omega))
    (fun i j hi hj => face_even hb (by unfold IsF; omega)) i hi

/-- every non-trivial logical operator of the `Lx × Ly` planar code has weight `≥ min Lx Ly` -/
theorem lower_bound (hx : 1 ≤ Lx) (hy : 1 ≤ Ly)
    (hv : ValidCodeL (Lx * Ly + (Lx - 1) * (Ly - 1)) 1 (lattice Lx Ly).rowsH
      (lattice Lx Ly).rowsX (lattice Lx Ly).rowsZ) :
    ∀ v, IsNontrivialLogical (Lx * Ly + (Lx - 1) * (Ly - 1)) (lattice Lx Ly).rowsH v →
      min Lx Ly ≤ pauliWeight v :=
  Lattice.lower_bound_of_packed1 (lattice Lx Ly) (wf hx hy) (length_qubits Lx Ly) hv
    ((logX_eq Lx Ly).trans (by rw [kX_eq])) ((logZ_eq Lx Ly).trans (by rw [kZ_eq]))
    (.of_family _ (fun i => rowKeys (2 * i) 1 Lx) (Nat.min_le_right ..) (fun i hi =>
      .of_parity (nodup_rowKeys ..) (rowKeys_qubits i hi) fun _ hb => parity_X hb i hi)
      fun i i' h _ => by simpa using rowKeys_disjoint 1 Lx 0 i i' h)
    (.of_family _ (fun i => colKeys (2 * i + 1) 0 Ly) (Nat.min_le_left ..) (fun i hi =>
      .of_parity (nodup_colKeys ..) (colKeys_qubits i hi) fun _ hb => parity_Z hb i hi)
      fun i i' h _ => colKeys_disjoint 0 Ly 1 i i' h)

/-- the row of `logicals_x` has weight `Lx`, the row of `logicals_z` weight `Ly` -/
theorem weights_listed (hx : 1 ≤ Lx) (hy : 1 ≤ Ly) :
    (lattice Lx Ly).rowsX.map pauliWeight = [Lx] ∧
    (lattice Lx Ly).rowsZ.map pauliWeight = [Ly] := by
  have h := weights_of_lines (lattice Lx Ly) (wf hx hy) (logX_eq Lx Ly) (logZ_eq Lx Ly)
  rwa [kX_eq, kZ_eq, length_rowKeys, length_colKeys] at h

/-- `code.d` (minimum weight of the listed logicals) is `min Lx Ly` -/
theorem reported_distance (hx : 1 ≤ Lx) (hy : 1 ≤ Ly) :
    distance (lattice Lx Ly).rowsX (lattice Lx Ly).rowsZ = some (min Lx Ly) :=
  distance_of_weights (weights_listed hx hy).1 (weights_listed hx hy).2 rfl rfl

end Panqec.Planar2DCode
