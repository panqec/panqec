/-
RotatedPlanar3DCode lattice model: the selected generators of `Proofs/LatRotatedPlanar3DCodeRank.lean`
(all vertices, the horizontal faces of the layer `z = 1`, all vertical faces) are exactly `n − k = n − 1`
in number, for every size `Lx, Ly, Lz ≥ 1`: one layer of the rotated planar code has
`V + F = Lx·Ly − 1` vertices and faces.
-/
import Mathlib.Tactic.Ring
import PanqecVerif.Proofs.Lat3DbCount
import PanqecVerif.Proofs.LatRotatedPlanar3DCodeCount
import PanqecVerif.Proofs.LatRotatedPlanar3DCodeRank
open Panqec Panqec.Lat3Db
namespace Panqec.RotatedPlanar3DCode

/-- number of horizontal-face positions in one layer: for even `x` the column `range(2, 2*Ly, 2)`
    holds `Ly / 2` of them if `x % 4 = 2` and `(Ly - 1) / 2` otherwise -/
theorem cnt2_faces (Lx Ly : Nat) :
    cnt2 (pyRange2 0 (2*Lx+1)) (pyRange2 2 (2*Ly)) (fun x y => (x + y) % 4 == 0) =
      (Lx / 2 + 1) * ((Ly - 1) / 2) + ((Lx + 1) / 2) * (Ly / 2) := by
  unfold cnt2
  rw [pyRange2_eq_map 0 (2*Lx+1), List.map_map, show (2 * Lx + 1 + 1 - 0) / 2 = Lx + 1 by omega,
    List.map_congr_left (g := fun i => if i % 2 = 0 then (Ly - 1) / 2 else Ly / 2),
    sum_alternate, show (Lx + 1 + 1) / 2 = Lx / 2 + 1 by omega]
  intro i _
  rw [Function.comp, countP_pyRange2_mod4 2 (2*Ly) _ 0 (by omega) (by omega)]
  by_cases h : i % 2 = 0
  · rw [if_neg (by omega), if_pos h]
    omega
  · rw [if_pos (by omega), if_neg h]
    omega

/-- one layer of the rotated planar code: vertices + faces + 1 = qubits.  With `a = Lx / 2`,
    `a' = (Lx - 1) / 2` (so `Lx = a + a' + 1`) and `b`, `b'` likewise this is a polynomial identity. -/
theorem layer_count (Lx Ly : Nat) (hx : 1 ≤ Lx) (hy : 1 ≤ Ly) :
    (Lx / 2) * (Ly / 2 + 1) + ((Lx - 1) / 2) * ((Ly + 1) / 2) +
      ((Lx / 2 + 1) * ((Ly - 1) / 2) + ((Lx + 1) / 2) * (Ly / 2)) + 1 = Lx * Ly := by
  have ex : Lx = Lx / 2 + (Lx - 1) / 2 + 1 := by omega
  have ey : Ly = Ly / 2 + (Ly - 1) / 2 + 1 := by omega
  rw [show (Lx + 1) / 2 = (Lx - 1) / 2 + 1 by omega, show (Ly + 1) / 2 = (Ly - 1) / 2 + 1 by omega]
  conv_rhs => rw [ex, ey]
  ring

theorem length_selStabs (Lx Ly Lz : Nat) :
    (selStabs Lx Ly Lz).length =
      ((Lx / 2) * (Ly / 2 + 1) + ((Lx - 1) / 2) * ((Ly + 1) / 2)) * Lz +
      ((Lx / 2 + 1) * ((Ly - 1) / 2) + ((Lx + 1) / 2) * (Ly / 2)) +
      Lx * Ly * (Lz - 1) := by
  unfold selStabs
  rw [List.length_append, List.length_append, length_grid3_true, length_grid3_xy, length_grid3_xy,
    cnt2_checker, cnt2_faces]
  simp only [length_pyRange2]
  have e1 : (2 * Lx + 1 + 1 - 1) / 2 = Lx := by omega
  have e2 : (2 * Ly + 1 - 1) / 2 = Ly := by omega
  have e3 : (2 * Lz + 1 - 1) / 2 = Lz := by omega
  have e4 : (2 * Lz + 1 - 2) / 2 = Lz - 1 := by omega
  have e5 : (2 + 1 - 1) / 2 = 1 := by omega
  rw [e1, e2, e3, e4, e5, Nat.mul_one]

/-- the selected generators are `n − k = n − 1` in number -/
theorem selStabs_count (Lx Ly Lz : Nat) (hx : 1 ≤ Lx) (hy : 1 ≤ Ly) (hz : 1 ≤ Lz) :
    (selStabs Lx Ly Lz).length + 1 = (qubits Lx Ly Lz).length := by
  rw [length_selStabs, length_qubits]
  have hl := layer_count Lx Ly hx hy
  obtain ⟨m, rfl⟩ : ∃ m, Lz = m + 1 := ⟨Lz - 1, by omega⟩
  generalize (Lx / 2) * (Ly / 2 + 1) + ((Lx - 1) / 2) * ((Ly + 1) / 2) = V at hl ⊢
  generalize (Lx / 2 + 1) * ((Ly - 1) / 2) + ((Lx + 1) / 2) * (Ly / 2) = F at hl ⊢
  rw [← hl]
  simp only [Nat.add_sub_cancel]
  ring

end Panqec.RotatedPlanar3DCode
