/-
RhombicPlanarCode lattice model, rank clause for every size `Lx, Ly ≥ 2`: single-qubit
probes and ranks that form a triangular family (`Lat2D.TriangularProbes`) on the selected
generators of `Proofs/LatRhombicPlanarCodeRankFamily.lean`, which are therefore independent.

Cube `(x, y, z)`: probe `Z` on the x edge `(x, y−1, z−1)` (`(x, 0, z−1)` for a half cube `y = −1`);
the only other coloured cube containing it is `(x, y−2, z−2)`: rank `z`.
Triangle `(a, x, y, z)`: probe `X` on the x leg `(x−1, y, z)` for the axes 3 and 1, on the y leg
`(x, y−1, z)` for axis 2, on the x leg `(x+1, y, z)` for axis 0 in the last column and on the z leg
`(x, y, z−1)` for axis 0 elsewhere; rank lexicographic in `(x, y, axis order 1 < 2 < 3 < 0)`.
-/
import PanqecVerif.Proofs.LatRhombicPlanarCodeRankFamily
import PanqecVerif.Proofs.Lat2DRank
open Panqec Panqec.Lat3Db Panqec.Rhombic
namespace Panqec.RhombicPlanarCode

/-- the witness qubit and probe letter of a selected generator -/
def probe (Lx : Nat) : Coord → Coord × Pauli
  | [x, y, z] => (if y = -1 then [x, 0, z - 1] else [x, y - 1, z - 1], Pauli.Z)
  | [a, x, y, z] =>
    (if a = 3 ∨ a = 1 then [x - 1, y, z]
     else if a = 2 then [x, y - 1, z]
     else if x = 2*(Lx:Int)-2 then [x + 1, y, z]
     else [x, y, z - 1], Pauli.X)
  | _ => ([], Pauli.I)

/-- order of the axes inside a vertex -/
def rk (a : Int) : Nat := if a = 1 then 0 else if a = 2 then 1 else if a = 3 then 2 else 3

/-- the rank of a selected generator -/
def mu (Ly : Nat) : Coord → Nat
  | [_, _, z] => z.toNat
  | [a, x, y, _] => (x.toNat * (2*Ly+1) + y.toNat) * 4 + rk a
  | _ => 0

def keysOf (Lx Ly Lz : Nat) : Coord → List Coord
  | [x, y, z] => cubeKeys Lx Ly Lz x y z
  | [a, x, y, z] => triKeys Lx Ly Lz a x y z
  | _ => []

theorem getStab_eq {Lx Ly Lz : Nat} (hy : 2 ≤ Ly) {s : Coord} (h : Kind Lx Ly Lz s) :
    getStab Lx Ly Lz s = constOp (keysOf Lx Ly Lz s) (letterOf s) := by
  rcases h with ⟨x, y, z, rfl, hk⟩ | ⟨a, x, y, z, rfl, hk⟩
  · exact getStab_cube Lx Ly Lz x y z hk
  · exact getStab_tri Lx Ly Lz a x y z (hk.st hy)

theorem keysOf_qubits {Lx Ly Lz : Nat} {s : Coord} (h : Kind Lx Ly Lz s) :
    ∀ q ∈ keysOf Lx Ly Lz s, q ∈ qubits Lx Ly Lz := by
  intro q hq
  apply mem_qubits_of_isQubit
  rcases h with ⟨x, y, z, rfl, _⟩ | ⟨a, x, y, z, rfl, _⟩ <;> exact (List.mem_filter.mp hq).2

theorem rk_lt (a : Int) : rk a < 4 := by
  unfold rk
  split
  · omega
  · split
    · omega
    · split <;> omega

theorem probe_diag {Lx Ly Lz : Nat} (hy : 2 ≤ Ly) {s : Coord} (h : Kind Lx Ly Lz s) :
    Pauli.anti (probe Lx s).2 (letterOf s) = true ∧ (probe Lx s).1 ∈ keysOf Lx Ly Lz s := by
  rcases h with ⟨x, y, z, rfl, hx, hyy, hz, _⟩ | ⟨a, x, y, z, rfl, hk⟩
  · refine ⟨rfl, ?_⟩
    unfold R1 RM at *
    simp only [probe, keysOf]
    -- an x edge of the cube, below it and on the side of smaller `y` (of larger `y` for a half cube)
    split
    · rw [mem_cubeKeys, mem_cubeLocs]
      refine ⟨Or.inr (Or.inr ?_), Or.inl ?_⟩
      · unfold U; omega
      · unfold QX R0 R1; omega
    · rw [mem_cubeKeys, mem_cubeLocs]
      refine ⟨Or.inr (Or.inr ?_), Or.inl ?_⟩
      · unfold U; omega
      · unfold QX R0 R1; omega
  · refine ⟨rfl, ?_⟩
    obtain ⟨hx, hyy, hz, hc⟩ := hk
    simp only [probe, keysOf]
    -- a leg of the triangle: the x leg, but the y leg for axis 2 and the (downward) z leg for
    -- axis 0 in an inner column
    rcases hc with ⟨rfl, hc⟩ | ⟨rfl, hc⟩ | ⟨rfl, hc⟩ | ⟨rfl, hc, hc'⟩
    · rw [if_pos (Or.inl rfl), mem_triKeys]
      refine ⟨Or.inl ⟨rfl, rfl, rfl⟩, Or.inl ⟨?_, hyy, hz⟩⟩
      unfold R2 at hx; unfold R1; omega
    · rw [if_neg (by decide), if_pos rfl, mem_triKeys]
      refine ⟨Or.inr (Or.inl ⟨rfl, rfl, rfl⟩), Or.inr (Or.inl ⟨hx, ?_, hz⟩)⟩
      unfold R0 at hyy; unfold R1; omega
    · rw [if_pos (Or.inr rfl), mem_triKeys]
      refine ⟨Or.inl ⟨rfl, rfl, rfl⟩, Or.inl ⟨?_, hyy, hz⟩⟩
      unfold R2 at hx; unfold R1; omega
    · rw [if_neg (by decide), if_neg (by decide)]
      split
      · rw [mem_triKeys]
        refine ⟨Or.inl ⟨rfl, rfl, rfl⟩, Or.inl ⟨?_, hyy, hz⟩⟩
        unfold R2 at hx; unfold R1; omega
      · rw [mem_triKeys]
        refine ⟨Or.inr (Or.inr ⟨rfl, rfl, ?_⟩), Or.inr (Or.inr ⟨hx, hyy, ?_⟩)⟩
        · unfold sgnZ; omega
        · unfold R0 at hz; unfold R1; omega

theorem probe_snd3 (Lx : Nat) (x y z : Int) : (probe Lx [x, y, z]).2 = Pauli.Z := rfl
theorem probe_snd4 (Lx : Nat) (a x y z : Int) : (probe Lx [a, x, y, z]).2 = Pauli.X := rfl

/-- the only other coloured cube on the probe edge is `(x, y−2, z−2)` -/
theorem later_cube_cube {Lx Ly Lz : Nat} {x y z u v w : Int} (hs : SC Lx Ly Lz x y z)
    (ht : SC Lx Ly Lz u v w) (hne : ¬ (x = u ∧ y = v ∧ z = w)) (hle : z.toNat ≤ w.toNat)
    (hmem : (probe Lx [x, y, z]).1 ∈ cubeKeys Lx Ly Lz u v w) : False := by
  obtain ⟨hx, hy, hz, hp⟩ := hs
  obtain ⟨hu, hv, hw, hp'⟩ := ht
  replace hle : z ≤ w := by
    have := hz.2.1
    omega
  have py := hy.1
  have pz := hz.1
  replace hy := hy.2.1
  simp only [probe] at hmem
  split at hmem
  · have h := (Rhombic.cube_xedge hv.1 hw.1 (by decide) (by omega)).mp (mem_cubeKeys.mp hmem).1
    unfold U at h
    clear hmem hx hz hu hv hw
    omega
  · have h := (Rhombic.cube_xedge hv.1 hw.1 (by omega) (by omega)).mp (mem_cubeKeys.mp hmem).1
    unfold U at h
    clear hmem hx hz hu hv hw
    omega

theorem rk_eq {a : Int} (ha : IsAxis a) : (rk a : Int) = (a + 3) % 4 := by
  rcases ha with rfl | rfl | rfl | rfl <;> rfl

theorem le3_of_mu_le {Ly : Nat} {a x y b u v : Int} (z w : Int) (ha : IsAxis a) (hb : IsAxis b)
    (hx : 0 ≤ x) (hy : 0 ≤ y ∧ y < 2*Ly + 1) (hu : 0 ≤ u) (hv : 0 ≤ v ∧ v < 2*Ly + 1)
    (h : mu Ly [a, x, y, z] ≤ mu Ly [b, u, v, w]) : Le3 a x y b u v := by
  have := lex3 (A := 2*Ly+1) (by omega) (by omega) (rk_lt a) (rk_lt b) h
  have := rk_eq ha
  have := rk_eq hb
  unfold Le3
  omega

/-- The probe is a leg of its triangle `(a, x, y, z)`; of the triangles on that leg those that do not
    come before it (`Rhombic.after_*`) are at the same vertex with an axis that is not selected there,
    or in the column after the last, or `(0, x, y, z−2)` below an axis-0 triangle of an inner column,
    which is not selected. -/
theorem later_tri_tri {Lx Ly Lz : Nat} (hy : 2 ≤ Ly) {a x y z b u v w : Int} (hs : TK Lx Ly Lz a x y z)
    (ht : TK Lx Ly Lz b u v w) (hne : ¬ (a = b ∧ x = u ∧ y = v ∧ z = w))
    (hle : mu Ly [a, x, y, z] ≤ mu Ly [b, u, v, w])
    (hmem : (probe Lx [a, x, y, z]).1 ∈ triKeys Lx Ly Lz b u v w) : False := by
  have hb := (ht.st hy).1
  have ha := (hs.st hy).1
  obtain ⟨hx, hyy, hz, hc⟩ := hs
  obtain ⟨hu, hv, hw, hd⟩ := ht
  unfold R0 R2 at *
  have hle3 := le3_of_mu_le z w ha hb (by omega) ⟨hyy.2.1, by omega⟩ (by omega) ⟨hv.2.1, by omega⟩ hle
  clear hle hy ha
  replace hmem := triKeys_sub_legs hmem
  simp only [probe] at hmem
  rcases hc with ⟨rfl, hc⟩ | ⟨rfl, hc⟩ | ⟨rfl, hc⟩ | ⟨rfl, hc, hc'⟩
  · rw [if_pos (Or.inl rfl)] at hmem
    have := after_xleg_below hb hu.1 hle3 hx.1 hmem
    clear hmem hle3 hd hx hyy hz hu hv hw hb
    omega
  · rw [if_neg (by decide), if_pos rfl] at hmem
    have := after_yleg_below hb hv.1 hle3 hyy.1 hmem
    clear hmem hle3 hd hx hyy hz hu hv hw hb
    omega
  · rw [if_pos (Or.inr rfl)] at hmem
    have := after_xleg_below hb hu.1 hle3 hx.1 hmem
    clear hmem hle3 hx hyy hz hu hv hw hb
    omega
  · rw [if_neg (by decide), if_neg (by decide)] at hmem
    split at hmem
    · have := after_xleg_above hb hu.1 hle3 hx.1 hmem
      clear hmem hle3 hd hyy hz hv hw hb
      omega
    · have := after_zleg hb hu.1 hv.1 hw.1 hle3 hz.1 (-1) (Or.inr rfl) rfl (by omega) hmem
      clear hmem hle3 hx hyy hz hu hv hw hb
      omega

theorem later_core {Lx Ly Lz : Nat} (hy : 2 ≤ Ly) {s t : Coord} (hs : Kind Lx Ly Lz s)
    (ht : Kind Lx Ly Lz t) (hne : s ≠ t) (hle : mu Ly s ≤ mu Ly t) :
    ¬ (Pauli.anti (probe Lx s).2 (letterOf t) = true ∧ (probe Lx s).1 ∈ keysOf Lx Ly Lz t) := by
  rintro ⟨hanti, hmem⟩
  rcases hs with ⟨x, y, z, rfl, hs⟩ | ⟨a, x, y, z, rfl, hs⟩ <;>
  rcases ht with ⟨u, v, w, rfl, ht⟩ | ⟨b, u, v, w, rfl, ht⟩
  · have hne' : ¬ (x = u ∧ y = v ∧ z = w) := by
      rintro ⟨rfl, rfl, rfl⟩; exact hne rfl
    exact later_cube_cube hs ht hne' hle hmem
  · rw [probe_snd3] at hanti; simp [letterOf, Pauli.anti] at hanti
  · rw [probe_snd4] at hanti; simp [letterOf, Pauli.anti] at hanti
  · have hne' : ¬ (a = b ∧ x = u ∧ y = v ∧ z = w) := by
      rintro ⟨rfl, rfl, rfl, rfl⟩; exact hne rfl
    exact later_tri_tri hy hs ht hne' hle hmem

theorem triangular (Lx Ly Lz : Nat) (hx : 2 ≤ Lx) (hy : 2 ≤ Ly) :
    Lat2D.TriangularProbes (lattice Lx Ly Lz) (selStabs Lx Ly Lz) (probe Lx) (mu Ly) :=
  .of_keys (keysOf Lx Ly Lz) letterOf
    (fun _ hs => getStab_eq hy (mem_selStabs_cases hx hy hs))
    (fun _ hs => keysOf_qubits (mem_selStabs_cases hx hy hs))
    (fun _ hs => probe_diag hy (mem_selStabs_cases hx hy hs))
    (fun _ hs _ ht => later_core hy (mem_selStabs_cases hx hy hs) (mem_selStabs_cases hx hy ht))

theorem indep_sel (Lx Ly Lz : Nat) (hx : 2 ≤ Lx) (hy : 2 ≤ Ly) :
    Lat2D.IndepGenerators (lattice Lx Ly Lz) (selStabs Lx Ly Lz) :=
  Lat2D.indep_of_triangular (triangular Lx Ly Lz hx hy)

end Panqec.RhombicPlanarCode
