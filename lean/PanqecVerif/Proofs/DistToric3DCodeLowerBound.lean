/-
Toric3DCode, all sizes, C17: the translates are sets of qubits with pairwise disjoint
supports (`lower_bound`, through `Lattice.lower_bound_of_reps`), the listed logicals have weights
`Lx, Ly, Lz` (X lines) and `Ly·Lz, Lz·Lx, Lx·Ly` (Z planes) (`reported_distance`).
-/
import PanqecVerif.Proofs.DistToric3DCodeParity

namespace Panqec.Toric3DCode
open Panqec.Cubic3D Panqec.Lat2D

variable {Lx Ly Lz : Nat}

theorem min_le_sz (ax : Axis) : min Lx (min Ly Lz) ≤ sz Lx Ly Lz ax := by
  cases ax <;> simp only [sz] <;> omega

/-- every non-trivial logical operator of the `Lx × Ly × Lz` 3-D toric code has weight
    `≥ min Lx (min Ly Lz)` -/
theorem lower_bound (hLx : 2 ≤ Lx) (hLy : 2 ≤ Ly) (hLz : 2 ≤ Lz) (hwf : (lattice Lx Ly Lz).WF)
    (hv : ValidCodeL (3 * (Lx * Ly * Lz)) 3 (lattice Lx Ly Lz).rowsH (lattice Lx Ly Lz).rowsX
      (lattice Lx Ly Lz).rowsZ) :
    ∀ v, IsNontrivialLogical (3 * (Lx * Ly * Lz)) (lattice Lx Ly Lz).rowsH v →
      min Lx (min Ly Lz) ≤ pauliWeight v := by
  apply Lattice.lower_bound_of_reps (lattice Lx Ly Lz) hwf
    (by rw [lattice_qubits]; exact qubits_length Lx Ly Lz) hv
  intro a ha
  rw [lattice_logX, lattice_logZ] at ha
  rcases List.mem_append.mp ha with h | h
  · obtain ⟨ax, rfl⟩ := mem_logX.mp h
    refine .of_family Pauli.X (line Lx Ly Lz ax) (min_le_sz (nx ax)) (fun i hi => .of_parity
      (line_nodup Lx Ly Lz ax i) (line_sub hi (le_sz (by omega) (by omega) (by omega) _))
      fun _ hb => parity_line hLx hLy hLz hb ax i hi) fun i i' h _ q hq hq' => ?_
    obtain ⟨o, _, rfl⟩ := mem_line.mp hq
    obtain ⟨o', _, e⟩ := mem_line.mp hq'
    have := (put_inj.mp e).2.1
    omega
  · obtain ⟨ax, rfl⟩ := mem_logZ.mp h
    refine .of_family Pauli.Z (plane Lx Ly Lz ax) (min_le_sz ax) (fun i hi => .of_parity
      (plane_nodup Lx Ly Lz ax i) (plane_sub hi)
      fun _ hb => parity_plane hLx hLy hLz hb ax i hi) fun i i' h _ q hq hq' => ?_
    obtain ⟨v, w, _, _, rfl⟩ := mem_plane.mp hq
    obtain ⟨v', w', _, _, e⟩ := mem_plane.mp hq'
    have := (put_inj.mp e).1
    omega

/-- the weights of the rows of `logicals_x` are `[Lx, Ly, Lz]` (lines), of `logicals_z`
    `[Ly·Lz, Lz·Lx, Lx·Ly]` (planes) -/
theorem weights_listed (hwf : (lattice Lx Ly Lz).WF) :
    (lattice Lx Ly Lz).rowsX.map pauliWeight = [Lx, Ly, Lz] ∧
    (lattice Lx Ly Lz).rowsZ.map pauliWeight = [Ly * Lz, Lz * Lx, Lx * Ly] := by
  rw [hwf.weights.1, hwf.weights.2, lattice_logX, lattice_logZ, logX_eq, logZ_eq]
  simp only [List.map_cons, List.map_nil, uop_length, lxK0, lxK1, lxK2, lzK0, lzK1, lzK2,
    List.length_map, length_grid2, length_rangeE, length_rangeO0]
  exact ⟨trivial, trivial⟩

/-- `code.d` (minimum weight of the listed logicals) is `min Lx (min Ly Lz)` -/
theorem reported_distance (hLx : 1 ≤ Lx) (hLy : 1 ≤ Ly) (hLz : 1 ≤ Lz)
    (hwf : (lattice Lx Ly Lz).WF) :
    distance (lattice Lx Ly Lz).rowsX (lattice Lx Ly Lz).rowsZ = some (min Lx (min Ly Lz)) := by
  rw [distance_of_weights (weights_listed hwf).1 (weights_listed hwf).2 rfl rfl]
  simp only [List.foldl_cons, List.foldl_nil]
  congr 1
  have a1 : Ly ≤ Ly * Lz := Nat.le_mul_of_pos_right _ (by omega)
  have a2 : Lz ≤ Lz * Lx := Nat.le_mul_of_pos_right _ (by omega)
  have a3 : Lx ≤ Lx * Ly := Nat.le_mul_of_pos_right _ (by omega)
  generalize Ly * Lz = p at *
  generalize Lz * Lx = q at *
  generalize Lx * Ly = r at *
  omega

end Panqec.Toric3DCode
