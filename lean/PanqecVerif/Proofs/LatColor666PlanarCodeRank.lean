/-
Color666PlanarCode, all sizes `L ≥ 1`: ALL stabilizer generators are independent (triangular
single-qubit probes).  Faces are ranked by `3x + y`; the probe of the X (Z) generator of the face
`(x, y)` is a Z (X) on its left corner `(x−2, y)` — or, where the triangle cuts that corner off
(left edge `y ≥ 2x − 2`), on its lower-left corner `(x−1, y−2)`; the two other faces around that
corner have smaller rank.  Core Lean only.
-/
import PanqecVerif.Proofs.Lat2DRank
import PanqecVerif.Proofs.LatColor666PlanarCodeCss
import PanqecVerif.Proofs.ColorFaces

namespace Panqec.Color666PlanarCode
open Panqec.Lat2D Panqec.Color

def probeQubit (L : Nat) (x y : Int) : Coord :=
  if InT L (x - 2) y then [x - 2, y] else [x - 1, y - 2]

def probe (L : Nat) (s : Coord) : Coord × Pauli :=
  match s with
  | [x, y, p] => (probeQubit L x y, if p = 0 then Pauli.Z else Pauli.X)
  | _ => ([], Pauli.I)

def rankOf (s : Coord) : Nat :=
  match s with
  | [x, y, _] => (3 * x + y).toNat
  | _ => 0

/-- where the triangle cuts off the left corner of a face (`y ≥ 2x − 2`), its lower-left corner is
    inside -/
theorem probeQubit_mem {L : Nat} {x y : Int} (h : IsF L x y) : probeQubit L x y ∈ supp L x y := by
  obtain ⟨h1, h2, h3, h4, -⟩ := h
  unfold probeQubit
  by_cases hi : InT L (x - 2) y
  · rw [if_pos hi]
    exact List.mem_filter.mpr ⟨by simp [nbrs], inTriangle_iff.mpr hi⟩
  · rw [if_neg hi]
    have hi' : InT L (x - 1) (y - 2) := by unfold InT at hi ⊢; omega
    exact List.mem_filter.mpr ⟨by simp [nbrs], inTriangle_iff.mpr hi'⟩

/-- the other faces around the probe qubit of a face lie to its left, at smaller rank -/
theorem probeQubit_rank {L : Nat} {x y i j : Int} (h3 : i % 3 = 0)
    (h : probeQubit L x y ∈ supp L (x + i) (y + j)) : (i = 0 ∧ j = 0) ∨ 3 * i + j < 0 := by
  unfold probeQubit at h
  split at h
  · have := mem_nbrs.mp (List.mem_filter.mp h).1
    omega
  · have := mem_nbrs.mp (List.mem_filter.mp h).1
    omega

set_option linter.unusedVariables false in
theorem triangular {L L' : Nat} (hL : 1 ≤ L) :
    TriangularProbes (lattice L L') (stabs L L') (probe L) rankOf := by
  refine triangular_of_faces (supp L) (probeQubit L) (fun x y => 3 * x + y) (fun c hc => ?_)
    (fun x y p h hp => ?_) (fun _ _ _ => rfl) (fun x y p h => ?_) (fun x y h => ?_)
    (fun x y h q hq => ?_) (fun x y x' y' h h' hne hle => ?_)
  · obtain ⟨x, y, rfl, -⟩ := mem_faces.mp hc
    exact ⟨x, y, rfl⟩
  · exact getStab_eq (mem_stabs'.mpr ⟨mem_faces'.mp h, hp⟩)
  · have := isF_iff.mp (mem_faces'.mp h)
    exact Int.toNat_of_nonneg (by omega)
  · exact probeQubit_mem (mem_faces'.mp h)
  · exact mem_qubits_faces.mpr ⟨x, y, mem_faces'.mp h, hq⟩
  · -- the other faces around the probe qubit have smaller rank
    intro hm
    have h5 := (isF_iff.mp (mem_faces'.mp h)).2.2.2.2.1
    have h5' := (isF_iff.mp (mem_faces'.mp h')).2.2.2.2.1
    obtain ⟨i, rfl⟩ : ∃ i, x' = x + i := ⟨x' - x, by omega⟩
    obtain ⟨j, rfl⟩ : ∃ j, y' = y + j := ⟨y' - y, by omega⟩
    rcases probeQubit_rank (by omega) hm with ⟨rfl, rfl⟩ | hlt
    · exact hne ⟨by omega, by omega⟩
    · omega

theorem indep_all {L L' : Nat} (hL : 1 ≤ L) : IndepGenerators (lattice L L') (stabs L L') :=
  indep_of_triangular (triangular hL)

theorem count_all {L L' : Nat} (hL : 1 ≤ L) :
    (stabs L L').length + 1 = (qubits L L').length := by
  rw [length_stabs, length_qubits hL]

end Panqec.Color666PlanarCode
