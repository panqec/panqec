/-
Color3DCode, every side `≥ 2`: a cell and a face share an even number of qubits, hence all
generators commute.  The keys of a generator are its delta table read through `wrapAt`; two keys
agree iff the difference of the deltas is the offset of the locations modulo the periods
(`wrapAt_eq_iff`), so the count is taken over the pairs of the two tables (`keyed_even`) and the
table fact is `cell_tbl_even`: 2 × 14 residue classes, kernel-checked.  Core Lean only.
-/
import PanqecVerif.Proofs.LatColor3DCodeStab
import PanqecVerif.Proofs.KeyedOverlap

namespace Panqec.Color3DCode
open Panqec.Lat2D Panqec.Color

def dif3 (p : D3 × D3) : D3 := (p.1.1 - p.2.1, p.1.2.1 - p.2.2.1, p.1.2.2 - p.2.2.2)

/-- a cell with residues `(ra, ra, ra)` and a generator with residues `(rx, ry, rz)` modulo 4: the
    differences of deltas their locations allow -/
def adm3 (ra rx ry rz : Int) (p : D3 × D3) : Bool :=
  (ra + (dif3 p).1) % 4 == rx && (ra + (dif3 p).2.1) % 4 == ry && (ra + (dif3 p).2.2) % 4 == rz

/-- the 24 vertices of a cell against the table of a face (residues of equal parity, not those of a
    cell): every difference the two locations can have is taken by an even number of pairs -/
theorem cell_tbl_even : ∀ ra ∈ [0, 2], ∀ rx ∈ res4, ∀ ry ∈ res4, ∀ rz ∈ res4,
    rx % 2 = ry % 2 → ry % 2 = rz % 2 → ¬ (rx = rz ∧ ry = rz ∧ rx % 2 = 0) →
    EvenClasses dif3 ((pairsOf deltaCell (shape rx ry rz)).filter (adm3 ra rx ry rz)) := by
  decide +kernel

theorem wrapAt_eq_iff (mx my mz ax ay az bx by' bz : Int) (p : D3 × D3) :
    wrapAt mx my mz bx by' bz p.2 = wrapAt mx my mz ax ay az p.1 ↔
      (ax - bx) % mx = (-(dif3 p).1) % mx ∧ (ay - by') % my = (-(dif3 p).2.1) % my ∧
        (az - bz) % mz = (-(dif3 p).2.2) % mz := by
  unfold wrapAt dif3
  simp only [List.cons.injEq, and_true, emod_bridge]
  rw [show p.2.1 - p.1.1 = -(p.1.1 - p.2.1) by omega,
    show p.2.2.1 - p.1.2.1 = -(p.1.2.1 - p.2.2.1) by omega,
    show p.2.2.2 - p.1.2.2 = -(p.1.2.2 - p.2.2.2) by omega]

/-- an offset modulo the period is one modulo 4: the admissibility test of `adm3` -/
theorem adm_of {L : Nat} {a b v : Int} (h : (a - b) % (4 * (L : Int)) = (-v) % (4 * (L : Int))) :
    (a % 4 + v) % 4 = b % 4 := by
  have : (a - b) % 4 = (-v) % 4 := by
    rw [← Int.emod_emod_of_dvd (a - b) (⟨(L : Int), rfl⟩ : (4 : Int) ∣ 4 * (L : Int)), h,
      Int.emod_emod_of_dvd _ ⟨(L : Int), rfl⟩]
  omega

theorem cell_res {x y z : Int} (h : IsCellLoc x y z) :
    x % 4 ∈ [0, 2] ∧ y % 4 = x % 4 ∧ z % 4 = x % 4 := by
  obtain ⟨h2, hxz, hyz⟩ := h
  refine ⟨?_, by omega, by omega⟩
  simp only [List.mem_cons, List.not_mem_nil, or_false]; omega

theorem face_res {x y z : Int} (h : ¬ IsCellLoc x y z) (hp : x % 2 = y % 2 ∧ y % 2 = z % 2) :
    x % 4 % 2 = y % 4 % 2 ∧ y % 4 % 2 = z % 4 % 2 ∧
      ¬ (x % 4 = z % 4 ∧ y % 4 = z % 4 ∧ x % 4 % 2 = 0) := by
  unfold IsCellLoc at h; omega

theorem cell_face_even {Lx Ly Lz : Nat} (hx : 2 ≤ Lx) (hy : 2 ≤ Ly) (hz : 2 ≤ Lz)
    {ax ay az bx by' bz : Int} (ha : IsCellLoc ax ay az) (hb : ¬ IsCellLoc bx by' bz)
    (hp : bx % 2 = by' % 2 ∧ by' % 2 = bz % 2) :
    interCount (keys Lx Ly Lz ax ay az) (keys Lx Ly Lz bx by' bz) % 2 = 0 := by
  have hn := nodup_keysOf hx hy hz bx by' bz
  unfold keys at hn ⊢
  obtain ⟨hr, hy4, hz4⟩ := cell_res ha
  obtain ⟨hp1, hp2, hc⟩ := face_res hb hp
  rw [shape_cell ha]
  rw [shape_res bx] at hn ⊢
  refine keyed_even
    (wrapAt (4 * (Lx : Int)) (4 * (Ly : Int)) (4 * (Lz : Int)) ax ay az)
    (wrapAt (4 * (Lx : Int)) (4 * (Ly : Int)) (4 * (Lz : Int)) bx by' bz)
    dif3 (adm3 (ax % 4) (bx % 4) (by' % 4) (bz % 4)) hn
    (fun p _ h => ?_) (fun p _ q _ _ _ h => ?_)
    (cell_tbl_even _ hr _ (mem_res4 bx) _ (mem_res4 by') _ (mem_res4 bz) hp1 hp2 hc)
  · obtain ⟨h1, h2, h3⟩ := (wrapAt_eq_iff ..).mp h
    simp only [adm3, Bool.and_eq_true, beq_iff_eq]
    exact ⟨⟨adm_of h1, hy4 ▸ adm_of h2⟩, hz4 ▸ adm_of h3⟩
  · rw [wrapAt_eq_iff, wrapAt_eq_iff, h]

theorem stab_comm_all {Lx Ly Lz : Nat} (hx : 2 ≤ Lx) (hy : 2 ≤ Ly) (hz : 2 ≤ Lz) :
    ∀ s ∈ (lattice Lx Ly Lz).stabs, ∀ t ∈ (lattice Lx Ly Lz).stabs,
      opCommute ((lattice Lx Ly Lz).getStab s) ((lattice Lx Ly Lz).getStab t) = true := by
  intro s hs t ht
  obtain ⟨ax, ay, az, rfl, ha⟩ := mem_stabs.mp hs
  obtain ⟨bx, by', bz, rfl, hb⟩ := mem_stabs.mp ht
  rw [getStab_eq hx hy hz hs, getStab_eq hx hy hz ht]
  apply opCommute_const_of
  intro hanti
  by_cases ca : IsCellLoc ax ay az
  · by_cases cb : IsCellLoc bx by' bz
    · rw [letterOf_cell ca, letterOf_cell cb] at hanti; exact absurd hanti (by decide)
    · exact cell_face_even hx hy hz ca cb (isS_parity hb)
  · by_cases cb : IsCellLoc bx by' bz
    · rw [interCount_comm _ _ (nodup_keysOf hx hy hz _ _ _) (nodup_keysOf hx hy hz _ _ _)]
      exact cell_face_even hx hy hz cb ca (isS_parity ha)
    · rw [letterOf_face ca, letterOf_face cb] at hanti; exact absurd hanti (by decide)

end Panqec.Color3DCode
