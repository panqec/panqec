/-
`Toric3DCode.getStab` of a vertex and of a face as an explicit one-letter operator, for every size
with `2 ≤ Lx, Ly, Lz` (the six / four neighbours are then pairwise distinct qubits); the faces over
their normal axis `ax` (the face `ins ax u v w`, its edges `faceKeys ax u v w`).
-/
import PanqecVerif.Proofs.LatCubic3DGeom
import PanqecVerif.Proofs.LatToric3DCodeBasics

namespace Panqec.Toric3DCode
open Panqec.Cubic3D

def isVertex (Lx Ly Lz : Nat) (x y z : Int) : Prop := isE Lx x ∧ isE Ly y ∧ isE Lz z

/-- `get_stabilizer` at a stabilizer location whose candidate locations `ks` are pairwise distinct
    qubits: nothing is filtered out and nothing is overwritten -/
theorem getStab_of {Lx Ly Lz : Nat} {x y z : Int} {ks : List Coord} (t : StabType)
    (hs : [x, y, z] ∈ stabs Lx Ly Lz) (ht : typeOf x y = t)
    (hc : candidates Lx Ly Lz x y z (if t = .vertex then vertexDelta else faceDelta x y z) = ks)
    (hn : ks.Nodup) (hq : ∀ q ∈ ks, q ∈ qubits Lx Ly Lz) :
    getStab Lx Ly Lz [x, y, z] = uop ks (if t = .vertex then Pauli.Z else Pauli.X) := by
  unfold getStab getStab?
  simp only [List.contains_iff_mem.mpr hs, if_true, ht, hc, Option.getD_some]
  rw [collect_eq _ _ _ hn, List.filter_eq_self.mpr]
  intro q hq'
  exact List.contains_iff_mem.mpr (hq q hq')

section kinds
variable {Lx Ly Lz : Nat} (hLx : 2 ≤ Lx) (hLy : 2 ≤ Ly) (hLz : 2 ≤ Lz) {x y z : Int}

def vertexKeys (Lx Ly Lz : Nat) (x y z : Int) : List Coord :=
  [[predW x (2 * (Lx : Int)), y, z], [x + 1, y, z], [x, predW y (2 * (Ly : Int)), z], [x, y + 1, z],
   [x, y, predW z (2 * (Lz : Int))], [x, y, z + 1]]

include hLx hLy hLz in
/-- keys along different axes differ in the parity of some coordinate; the two keys along one axis
    differ because the period is at least 4 -/
theorem vertexKeys_nodup (h : isVertex Lx Ly Lz x y z) : (vertexKeys Lx Ly Lz x y z).Nodup := by
  simp only [isVertex, isE] at h
  have px := predW_spec x (2 * (Lx : Int))
  have py := predW_spec y (2 * (Ly : Int))
  have pz := predW_spec z (2 * (Lz : Int))
  simp only [vertexKeys, List.nodup_cons, List.mem_cons, List.cons.injEq, List.not_mem_nil,
    and_true, or_false, not_false_eq_true, List.nodup_nil]
  omega

theorem vertexKeys_sub (h : isVertex Lx Ly Lz x y z) :
    ∀ q ∈ vertexKeys Lx Ly Lz x y z, q ∈ qubits Lx Ly Lz := by
  obtain ⟨hx, hy, hz⟩ := h
  simp only [vertexKeys, List.forall_mem_cons, List.not_mem_nil, false_imp_iff, implies_true,
    and_true, mem_qubits]
  exact ⟨.inl ⟨vO_p hx, hy, hz⟩, .inl ⟨vO_s hx, hy, hz⟩, .inr (.inl ⟨hx, vO_p hy, hz⟩),
    .inr (.inl ⟨hx, vO_s hy, hz⟩), .inr (.inr ⟨hx, hy, vO_p hz⟩), .inr (.inr ⟨hx, hy, vO_s hz⟩)⟩

include hLx hLy hLz in
theorem getStab_vertex (h : isVertex Lx Ly Lz x y z) :
    getStab Lx Ly Lz [x, y, z] = uop (vertexKeys Lx Ly Lz x y z) Pauli.Z := by
  refine getStab_of .vertex (mem_stabs.mpr (.inl h)) ?_ ?_ (vertexKeys_nodup hLx hLy hLz h)
    (vertexKeys_sub h)
  · exact typeOf_vertex h.1 h.2.1
  · simp only [if_true, candidates, vertexDelta, List.map_cons, List.map_nil, vertexKeys,
      pmod_even h.1, pmod_even h.2.1, pmod_even h.2.2]

end kinds

/-! ### faces over the normal axis

`ins ax u v w` is the face normal to `ax` with the even coordinate `u` along `ax`; its four edges
are the `Cubic3D.rim` over the cyclic neighbours of the two odd coordinates. -/

/-- the neighbours of an even / an odd coordinate of the period `2L`, in the order of `delta` -/
def nbE (L : Nat) (e : Int) : List Int := [predW e (2 * (L : Int)), e + 1]
def nbO (L : Nat) (o : Int) : List Int := [o - 1, succW o (2 * (L : Int))]

def isFace (Lx Ly Lz : Nat) (ax : Axis) (u v w : Int) : Prop :=
  isE (sz Lx Ly Lz ax) u ∧ isO (sz Lx Ly Lz ax.fst) v ∧ isO (sz Lx Ly Lz ax.snd) w

def faceKeys (Lx Ly Lz : Nat) (ax : Axis) (u v w : Int) : List Coord :=
  rim ax u (nbO (sz Lx Ly Lz ax.fst) v) (nbO (sz Lx Ly Lz ax.snd) w) v w

section faces
variable {Lx Ly Lz L : Nat} {ax : Axis} {x y z u v w o : Int}

/-- the four edges of a face, in the order of `delta` -/
theorem faceKeys_eq : faceKeys Lx Ly Lz ax u v w =
    [ins ax u (v - 1) w, ins ax u (succW v (2 * (sz Lx Ly Lz ax.fst : Int))) w,
      ins ax u v (w - 1), ins ax u v (succW w (2 * (sz Lx Ly Lz ax.snd : Int)))] :=
  rim_pairs ..

theorem mem_faceKeys {q : Coord} : q ∈ faceKeys Lx Ly Lz ax u v w ↔
    q = ins ax u (v - 1) w ∨ q = ins ax u (succW v (2 * (sz Lx Ly Lz ax.fst : Int))) w ∨
      q = ins ax u v (w - 1) ∨ q = ins ax u v (succW w (2 * (sz Lx Ly Lz ax.snd : Int))) := by
  rw [faceKeys_eq]
  simp only [List.mem_cons, List.not_mem_nil, or_false]

theorem vertexKeys_eq :
    vertexKeys Lx Ly Lz x y z = star .x (nbE Lx x) (nbE Ly y) (nbE Lz z) x y z := rfl
theorem nbO_nodup (hL : 2 ≤ L) (ho : isO L o) : (nbO L o).Nodup := by
  simp only [nbO, List.nodup_cons, List.mem_cons, List.not_mem_nil, or_false, not_false_eq_true,
    List.nodup_nil, and_true, isO] at *
  have := succW_spec o (2 * (L : Int))
  omega

theorem not_mem_nbO : o ∉ nbO L o := by
  simp only [nbO, List.mem_cons, List.not_mem_nil, or_false]
  have := succW_spec o (2 * (L : Int))
  omega

theorem nbO_isE (ho : isO L o) : ∀ t ∈ nbO L o, isE L t := by
  simp only [nbO, List.forall_mem_cons, List.not_mem_nil, false_imp_iff, implies_true, and_true]
  exact ⟨fE_m ho, fE_s ho⟩

theorem faceKeys_nodup (h1 : 2 ≤ sz Lx Ly Lz ax.fst) (h2 : 2 ≤ sz Lx Ly Lz ax.snd)
    (h : isFace Lx Ly Lz ax u v w) : (faceKeys Lx Ly Lz ax u v w).Nodup :=
  rim_nodup (nbO_nodup h1 h.2.1) (nbO_nodup h2 h.2.2) not_mem_nbO

/-- an edge along the first (second) of the two other axes -/
theorem ins_qubit_fst (hu : isE (sz Lx Ly Lz ax) u) (hv : isO (sz Lx Ly Lz ax.fst) v)
    (hw : isE (sz Lx Ly Lz ax.snd) w) : ins ax u v w ∈ qubits Lx Ly Lz := by
  cases ax
  exacts [mem_qubits.mpr (.inr (.inl ⟨hu, hv, hw⟩)), mem_qubits.mpr (.inl ⟨hv, hu, hw⟩),
    mem_qubits.mpr (.inl ⟨hv, hw, hu⟩)]

theorem ins_qubit_snd (hu : isE (sz Lx Ly Lz ax) u) (hv : isE (sz Lx Ly Lz ax.fst) v)
    (hw : isO (sz Lx Ly Lz ax.snd) w) : ins ax u v w ∈ qubits Lx Ly Lz := by
  cases ax
  exacts [mem_qubits.mpr (.inr (.inr ⟨hu, hv, hw⟩)), mem_qubits.mpr (.inr (.inr ⟨hv, hu, hw⟩)),
    mem_qubits.mpr (.inr (.inl ⟨hv, hw, hu⟩))]

theorem faceKeys_sub (h : isFace Lx Ly Lz ax u v w) :
    ∀ q ∈ faceKeys Lx Ly Lz ax u v w, q ∈ qubits Lx Ly Lz := by
  intro q hq
  rcases List.mem_append.mp hq with hq | hq <;> obtain ⟨t, ht, rfl⟩ := List.mem_map.mp hq
  · exact ins_qubit_snd h.1 (nbO_isE h.2.1 t ht) h.2.2
  · exact ins_qubit_fst h.1 h.2.1 (nbO_isE h.2.2 t ht)

theorem face_mem (h : isFace Lx Ly Lz ax u v w) : ins ax u v w ∈ stabs Lx Ly Lz := by
  obtain ⟨hu, hv, hw⟩ := h
  cases ax <;> simp only [sz, Axis.fst, Axis.snd] at hu hv hw
  exacts [mem_stabs.mpr (.inr (.inr (.inl ⟨hu, hv, hw⟩))),
    mem_stabs.mpr (.inr (.inr (.inr ⟨hv, hu, hw⟩))), mem_stabs.mpr (.inr (.inl ⟨hv, hw, hu⟩))]

theorem getStab_face (h1 : 2 ≤ sz Lx Ly Lz ax.fst) (h2 : 2 ≤ sz Lx Ly Lz ax.snd)
    (h : isFace Lx Ly Lz ax u v w) :
    getStab Lx Ly Lz (ins ax u v w) = uop (faceKeys Lx Ly Lz ax u v w) Pauli.X := by
  have hn := faceKeys_nodup h1 h2 h
  have hq := faceKeys_sub h
  have hm := face_mem h
  obtain ⟨hu, hv, hw⟩ := h
  cases ax <;> simp only [sz, Axis.fst, Axis.snd] at hu hv hw
  · refine getStab_of .face hm (typeOf_face_y hv) ?_ hn hq
    simp only [reduceCtorEq, if_false, faceDelta_yz hu hw, candidates, List.map_cons, List.map_nil,
      faceKeys, rim, ins, nbO, sz, Axis.fst, Axis.snd, List.cons_append, List.nil_append,
      pmod_even hu, pmod_odd hv, pmod_odd hw]
  · refine getStab_of .face hm (typeOf_face_x hv) ?_ hn hq
    simp only [reduceCtorEq, if_false, faceDelta_xz hv hu hw, candidates, List.map_cons,
      List.map_nil, faceKeys, rim, ins, nbO, sz, Axis.fst, Axis.snd, List.cons_append,
      List.nil_append, pmod_odd hv, pmod_even hu, pmod_odd hw]
  · refine getStab_of .face hm (typeOf_face_x hv) ?_ hn hq
    simp only [reduceCtorEq, if_false, faceDelta_xy hu, candidates, List.map_cons, List.map_nil,
      faceKeys, rim, ins, nbO, sz, Axis.fst, Axis.snd, List.cons_append, List.nil_append,
      pmod_odd hv, pmod_odd hw, pmod_even hu]

theorem stab_cases {s : Coord} (h : s ∈ stabs Lx Ly Lz) :
    (∃ x y z, s = [x, y, z] ∧ isVertex Lx Ly Lz x y z) ∨
      ∃ ax u v w, s = ins ax u v w ∧ isFace Lx Ly Lz ax u v w := by
  obtain ⟨x, y, z, rfl⟩ := shape_of_mem_stabs h
  rcases mem_stabs.mp h with h | h | h | h
  exacts [.inl ⟨x, y, z, rfl, h⟩, .inr ⟨.z, z, x, y, rfl, h.2.2, h.1, h.2.1⟩,
    .inr ⟨.x, x, y, z, rfl, h⟩, .inr ⟨.y, y, x, z, rfl, h.2.1, h.1, h.2.2⟩]

end faces

end Panqec.Toric3DCode
