/-
`HollowRhombicCode`, rank clause: the selected family in propositional form (`TS`), its
probes and ranks.

Triangle `(a, x, y, z)`: probe `X` on the x leg `(x−1, y, z)` for axis 3 and for axis 1 where the
triangle of axis 3 is not listed, on the y leg `(x, y−1, z)` for axis 2 and for axis 1 where the
triangle of axis 3 is listed (that of axis 2 is not), on the x leg `(x+1, y, z)` for axis 0 in the
last column, on the z leg `(x, y, z∓1)` for the other triangles of axis 0; the lower triangles
`(0, 2, 2, z)` along the hole edge `x = y = 3` have the three-qubit probe
`X(3,2,z) X(4,2,z−1) X(3,2,z−2)` (for `Lx ≥ 4`) or `X(2,3,z) X(2,4,z−1) X(2,3,z−2)` (for `Lx = 3`); for
`Lz = 4` the kept lower triangles under a hole edge (`QY`, `QX`) have the probes of
`Proofs/LatHollowRhombicCodeRankSlabProbes.lean`.  Rank: lexicographic in `(x, y, axis order 1 < 2 < 3 < 0, z)`.
Cube `(x, y, z)`: probe `Z` on the first of its lower edges `(x, y∓1, z−1)`, `(x∓1, y, z−1)` that is a
qubit, else on an upper edge `(x, y∓1, z+1)`; the cubes of the top layer `z = 2Lz−3` use an upper
edge; rank `z`, and 0 for the top layer.
-/
import PanqecVerif.Proofs.LatHollowRhombicCodeRankListed
import PanqecVerif.Proofs.LatRhombicCount

namespace Panqec.HollowRhombicCode
open Panqec.Cubic3D
open Panqec.Planar3DCode (inE inO inE2 inO1)

/-- the lower axis-0 triangles along the hole edge `x = y = 3` that are kept -/
def QC (Lx Ly Lz : Nat) (x y z : Int) : Prop :=
  x = 2 ∧ y = 2 ∧ z % 4 = 0 ∧ 8 ≤ z ∧ z ≤ 2 * (Lz : Int) - 6 ∧ ((4 ≤ Lx ∧ 4 ≤ Ly) ∨ (Lx = 3 ∧ 5 ≤ Ly))

instance (Lx Ly Lz : Nat) (x y z : Int) : Decidable (QC Lx Ly Lz x y z) := by unfold QC; infer_instance

/-- `Lz = 4`, `Lx = 4`, `Ly ≥ 5`: the kept lower axis-0 triangles under the hole edge `(3, ·, 3)` -/
def QY (Lx Ly Lz : Nat) (x y z : Int) : Prop :=
  x = 2 ∧ 4 ≤ y ∧ y ≤ 2 * (Ly : Int) - 6 ∧ z = 2 ∧ (x + y + z) % 4 = 0 ∧ Lz = 4 ∧ Lx = 4 ∧ 5 ≤ Ly

/-- `Lz = 4`, `Ly = 5`, `Lx ≥ 5`: the kept lower axis-0 triangles under the hole edge `(·, 3, 3)` -/
def QX (Lx Ly Lz : Nat) (x y z : Int) : Prop :=
  4 ≤ x ∧ x ≤ 2 * (Lx : Int) - 4 ∧ y = 2 ∧ z = 2 ∧ (x + y + z) % 4 = 0 ∧ Lz = 4 ∧ Ly = 5 ∧ 5 ≤ Lx

instance (Lx Ly Lz : Nat) (x y z : Int) : Decidable (QY Lx Ly Lz x y z) := by unfold QY; infer_instance
instance (Lx Ly Lz : Nat) (x y z : Int) : Decidable (QX Lx Ly Lz x y z) := by unfold QX; infer_instance

/-- the selection clause of a listed triangle -/
def SelC (Lx Ly Lz : Nat) (a x y z : Int) : Prop :=
  a = 3 ∨ a = 2 ∨ (a = 1 ∧ (¬ PT Lx Ly Lz 3 x y z ∨ ¬ PT Lx Ly Lz 2 x y z)) ∨
  (a = 0 ∧ (x = 2 * (Lx : Int) - 2 ∨ ((x + y + z) % 4 = 2 ∧ 2 ≤ z) ∨
    ((x + y + z) % 4 = 0 ∧ z < 2 * (Lz : Int) - 2 ∧ ¬ PT Lx Ly Lz 0 x y (z + 2)) ∨ QC Lx Ly Lz x y z ∨
    QY Lx Ly Lz x y z ∨ QX Lx Ly Lz x y z))

theorem selTri_iff {Lx Ly Lz : Nat} {a x y z : Int} (ha : 0 ≤ a ∧ a < 4) :
    selTri Lx Ly Lz [a, x, y, z] = true ↔ SelC Lx Ly Lz a x y z := by
  have h : a = 0 ∨ a = 1 ∨ a = 2 ∨ a = 3 := by omega
  unfold SelC QC QY QX
  rcases h with rfl | rfl | rfl | rfl
  · simp [selTri, presB_false_iff, and_assoc, or_assoc]
  · simp [selTri, presB_false_iff]
  · simp [selTri]
  · simp [selTri]

def TS (Lx Ly Lz : Nat) (a x y z : Int) : Prop :=
  (0 ≤ a ∧ a < 4) ∧ VertexLoc Lx Ly Lz x y z ∧ PT Lx Ly Lz a x y z ∧ SelC Lx Ly Lz a x y z

theorem mem_rankFamily {Lx Ly Lz : Nat} {s : Coord} :
    s ∈ rankFamily Lx Ly Lz ↔ (∃ x y z, s = [x, y, z] ∧ CubeLoc Lx Ly Lz x y z) ∨
      (∃ a x y z, s = [a, x, y, z] ∧ TS Lx Ly Lz a x y z) := by
  unfold rankFamily
  rw [List.mem_append, mem_cubes, List.mem_filter, mem_triangles']
  constructor
  · rintro (h | ⟨⟨a, x, y, z, rfl, ha, hv, hp⟩, hs⟩)
    · exact Or.inl h
    · exact Or.inr ⟨a, x, y, z, rfl, ha, hv, hp, (selTri_iff ha).mp hs⟩
  · rintro (h | ⟨a, x, y, z, rfl, ha, hv, hp, hs⟩)
    · exact Or.inl h
    · exact Or.inr ⟨⟨a, x, y, z, rfl, ha, hv, hp⟩, (selTri_iff ha).mpr hs⟩

theorem rankFamily_sub {Lx Ly Lz : Nat} {s : Coord} (h : s ∈ rankFamily Lx Ly Lz) :
    s ∈ stabs Lx Ly Lz := by
  unfold rankFamily at h; unfold stabs
  rcases List.mem_append.mp h with h | h
  · exact List.mem_append_left _ h
  · exact List.mem_append_right _ (List.mem_filter.mp h).1

theorem nodup_rankFamily (Lx Ly Lz : Nat) : (rankFamily Lx Ly Lz).Nodup := by
  have h := nodup_stabs Lx Ly Lz
  unfold stabs at h; unfold rankFamily
  exact h.sublist (List.Sublist.append (List.Sublist.refl _) List.filter_sublist)

def probeKeys (Lx Ly Lz : Nat) (a x y z : Int) : List Coord :=
  if a = 3 then [[x - 1, y, z]]
  else if a = 2 then [[x, y - 1, z]]
  else if a = 1 then (if PT Lx Ly Lz 3 x y z then [[x, y - 1, z]] else [[x - 1, y, z]])
  else if x = 2 * (Lx : Int) - 2 then [[x + 1, y, z]]
  else if (x + y + z) % 4 = 2 then [[x, y, z - 1]]
  else if QC Lx Ly Lz x y z then
    (if 4 ≤ Lx then [[3, 2, z], [4, 2, z - 1], [3, 2, z - 2]] else [[2, 3, z], [2, 4, z - 1], [2, 3, z - 2]])
  else if QY Lx Ly Lz x y z then [[3, y, 2], [4, y - 1, 2], [3, y - 2, 2]]
  else if QX Lx Ly Lz x y z then [[x, 3, 2], [x - 1, 4, 2]]
  else [[x, y, z + 1]]

def cubeProbe (Lx Ly Lz : Nat) (x y z : Int) : Coord :=
  if z = 2 * (Lz : Int) - 3 then
    (if isq Lx Ly Lz [x, y - 1, z + 1] then [x, y - 1, z + 1] else [x, y + 1, z + 1])
  else if isq Lx Ly Lz [x, y - 1, z - 1] then [x, y - 1, z - 1]
  else if isq Lx Ly Lz [x, y + 1, z - 1] then [x, y + 1, z - 1]
  else if isq Lx Ly Lz [x - 1, y, z - 1] then [x - 1, y, z - 1]
  else if isq Lx Ly Lz [x + 1, y, z - 1] then [x + 1, y, z - 1]
  else if isq Lx Ly Lz [x, y - 1, z + 1] then [x, y - 1, z + 1]
  else [x, y + 1, z + 1]

/-- the probe operator of a member of the family -/
def probe (Lx Ly Lz : Nat) : Coord → Op
  | [x, y, z] => [(cubeProbe Lx Ly Lz x y z, Pauli.Z)]
  | [a, x, y, z] => uop (probeKeys Lx Ly Lz a x y z) Pauli.X
  | _ => []

/-- order of the axes inside a vertex -/
def rk (a : Int) : Nat := if a = 1 then 0 else if a = 2 then 1 else if a = 3 then 2 else 3

theorem rk_lt (a : Int) : rk a < 4 := by
  unfold rk; split <;> [omega; (split <;> [omega; (split <;> omega)])]

theorem rk_eq {a : Int} (ha : 0 ≤ a ∧ a < 4) : (rk a : Int) = (a + 3) % 4 := by
  have h : a = 0 ∨ a = 1 ∨ a = 2 ∨ a = 3 := by omega
  rcases h with rfl | rfl | rfl | rfl <;> rfl

/-- the rank of a member of the family -/
def mu (Ly Lz : Nat) : Coord → Nat
  | [_, _, z] => if z = 2 * (Lz : Int) - 3 then 0 else z.toNat
  | [a, x, y, z] => ((x.toNat * (2 * Ly + 1) + y.toNat) * 4 + rk a) * (2 * Lz + 1) + z.toNat
  | _ => 0

/-- the triangle `(a, x, y, z)` comes strictly before `(b, u, v, w)`: lexicographic in
    `(x, y, axis, z)` with the axes in the order `1 < 2 < 3 < 0` -/
def Before (a x y z b u v w : Int) : Prop :=
  x < u ∨ (x = u ∧ (y < v ∨ (y = v ∧ ((a + 3) % 4 < (b + 3) % 4 ∨ (a = b ∧ z < w)))))

theorem mu_lex {Lx Ly Lz : Nat} {a x y z b u v w : Int} (ha : 0 ≤ a ∧ a < 4) (hb : 0 ≤ b ∧ b < 4)
    (hs : VertexLoc Lx Ly Lz x y z) (ht : VertexLoc Lx Ly Lz u v w)
    (hne : ¬ (a = b ∧ x = u ∧ y = v ∧ z = w)) (h : mu Ly Lz [a, x, y, z] ≤ mu Ly Lz [b, u, v, w]) :
    Before a x y z b u v w := by
  unfold VertexLoc inE2 inE at hs ht
  have h4 := Rhombic.lex4 (Y := y.toNat) (V := v.toNat) (Z := z.toNat) (W := w.toNat) (by omega)
    (by omega) (rk_lt a) (rk_lt b) (by omega) (by omega) h
  have ra := rk_eq ha
  have rb := rk_eq hb
  unfold Before
  omega

theorem Before.le3 {a x y z b u v w : Int} (h : Before a x y z b u v w) : Rhombic.Le3 a x y b u v := by
  unfold Before at h; unfold Rhombic.Le3; omega

theorem sgnX_0 : sgnX 0 = 1 := by decide
theorem sgnY_0 : sgnY 0 = 1 := by decide
theorem sgnX_1 : sgnX 1 = -1 := by decide
theorem sgnY_1 : sgnY 1 = -1 := by decide
theorem sgnX_2 : sgnX 2 = 1 := by decide
theorem sgnY_2 : sgnY 2 = -1 := by decide
theorem sgnX_3 : sgnX 3 = -1 := by decide
theorem sgnY_3 : sgnY 3 = 1 := by decide
theorem sgnZ_23 {a x y z : Int} (ha : a = 2 ∨ a = 3) :
    sgnZ a x y z = if (x + y + z) % 4 = 0 then -1 else 1 := by
  unfold sgnZ
  by_cases h : (x + y + z) % 4 = 0 <;> rcases ha with rfl | rfl <;> simp [h]
theorem sgnZ_01 {a x y z : Int} (ha : a = 0 ∨ a = 1) :
    sgnZ a x y z = if (x + y + z) % 4 = 0 then 1 else -1 := by
  unfold sgnZ
  by_cases h : (x + y + z) % 4 = 0 <;> rcases ha with rfl | rfl <;> simp [h]

theorem sgnX_eq {b : Int} (hb : 0 ≤ b ∧ b < 4) :
    (sgnX b = 1 ∧ (b = 0 ∨ b = 2)) ∨ (sgnX b = -1 ∧ (b = 1 ∨ b = 3)) :=
  Rhombic.sgnX_table (isAxis_of hb)

theorem sgnY_eq {b : Int} (hb : 0 ≤ b ∧ b < 4) :
    (sgnY b = 1 ∧ (b = 0 ∨ b = 3)) ∨ (sgnY b = -1 ∧ (b = 1 ∨ b = 2)) :=
  Rhombic.sgnY_table (isAxis_of hb)

theorem sgnZ_eq {b u v w : Int} (hb : 0 ≤ b ∧ b < 4) (hp : (u + v + w) % 2 = 0) :
    (sgnZ b u v w = 1 ∧ ((b ≤ 1 ∧ (u + v + w) % 4 = 0) ∨ (2 ≤ b ∧ (u + v + w) % 4 = 2))) ∨
    (sgnZ b u v w = -1 ∧ ((b ≤ 1 ∧ (u + v + w) % 4 = 2) ∨ (2 ≤ b ∧ (u + v + w) % 4 = 0))) :=
  sgnZ_eq_rhombic hb u v w ▸ Rhombic.sgnZ_table (isAxis_of hb) hp

theorem mem_triKeys {Lx Ly Lz : Nat} {b u v w p q r : Int}
    (h : [p, q, r] ∈ triKeys Lx Ly Lz b u v w) :
    (p = u + sgnX b ∧ q = v ∧ r = w) ∨ (p = u ∧ q = v + sgnY b ∧ r = w) ∨
    (p = u ∧ q = v ∧ r = w + sgnZ b u v w) := by
  unfold triKeys triCands at h
  have := (List.mem_filter.mp h).1
  simpa using this

theorem mem_triKeys_of {Lx Ly Lz : Nat} {b u v w p q r : Int}
    (h : (p = u + sgnX b ∧ q = v ∧ r = w) ∨ (p = u ∧ q = v + sgnY b ∧ r = w) ∨
      (p = u ∧ q = v ∧ r = w + sgnZ b u v w))
    (hq : [p, q, r] ∈ qubits Lx Ly Lz) : [p, q, r] ∈ triKeys Lx Ly Lz b u v w := by
  unfold triKeys triCands
  rw [List.mem_filter, isq_iff]
  refine ⟨?_, hq⟩
  simpa using h

theorem triKeys_sub_legs {Lx Ly Lz : Nat} {b u v w : Int} {e : Coord} (hb : 0 ≤ b ∧ b < 4)
    (h : e ∈ triKeys Lx Ly Lz b u v w) : e ∈ Rhombic.legs b u v w :=
  triCands_eq hb u v w ▸ (List.mem_filter.mp h).1

end Panqec.HollowRhombicCode
