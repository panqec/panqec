/-
Counting lemmas for the all-sizes distance proofs of the rhombic codes: sums over the sites of one
colour of a checkerboard (`chk`), cyclic shifts of a coloured sum (the successor of a site of one
colour is a site of the other colour when the period is even), the checkerboard slab argument
(consecutive planes differ by the coloured cubes of the slab between them: every in-plane edge lies on
exactly one coloured cube of the slab, every rung on exactly two), and rectangular key lists `plane2`
with their anticommutation count as a double sum of indicators.
-/
import PanqecVerif.Proofs.DistCubic3D

namespace Panqec.Lat2D

def chk (e r : Nat) (g : Nat → Nat → Nat) : Nat → Nat → Nat :=
  fun j k => if (e + j + k) % 2 = r then g j k else 0

theorem chk_add (A B e r : Nat) (g h : Nat → Nat → Nat) :
    rsum2 A B (chk e r (fun j k => g j k + h j k)) =
      rsum2 A B (chk e r g) + rsum2 A B (chk e r h) := by
  rw [← rsum2_add]
  apply rsum2_congr
  intro j k _ _
  unfold chk
  split <;> rfl

theorem chk_even {A B e r : Nat} {g : Nat → Nat → Nat}
    (h : ∀ j k, j < A → k < B → (e + j + k) % 2 = r → g j k % 2 = 0) :
    rsum2 A B (chk e r g) % 2 = 0 := by
  apply rsum2_even
  intro j k hj hk
  unfold chk
  split
  · exact h j k hj hk ‹_›
  · rfl

theorem chk_split (A B e : Nat) (g : Nat → Nat → Nat) :
    rsum2 A B (chk e 1 g) + rsum2 A B (chk e 0 g) = rsum2 A B g := by
  rw [← rsum2_add]
  apply rsum2_congr
  intro j k _ _
  unfold chk
  by_cases h : (e + j + k) % 2 = 1
  · rw [if_pos h, if_neg (by omega)]; rfl
  · rw [if_neg h, if_pos (by omega)]; omega

theorem wrapS_parity {L : Nat} (hL : L % 2 = 0) (k : Nat) : wrapS L k % 2 = (k + 1) % 2 := by
  unfold wrapS
  split <;> omega

/-- stated for its own sake: no proof here needs the bound -/
theorem wrapS_lt {L k : Nat} (hk : k < L) : wrapS L k < L := by
  unfold wrapS
  split <;> omega

/-- cyclic shift of the inner index of a coloured double sum: the sites of colour `r`, each reading
    its cyclic successor, read exactly the sites of the other colour `s` (even period) -/
theorem chk_shiftR {A B : Nat} (hB : B % 2 = 0) (e r s : Nat) (hrs : r + s = 1)
    (g : Nat → Nat → Nat) :
    rsum2 A B (chk e r (fun j k => g j (wrapS B k))) = rsum2 A B (chk e s g) := by
  unfold rsum2
  apply rsum_congr
  intro j _
  rw [← rsum_wrapS (chk e s g j) B]
  apply rsum_congr
  intro k _
  have := wrapS_parity hB k
  exact if_congr (by omega) rfl rfl

theorem chk_shiftL {A B : Nat} (hA : A % 2 = 0) (e r s : Nat) (hrs : r + s = 1)
    (g : Nat → Nat → Nat) :
    rsum2 A B (chk e r (fun j k => g (wrapS A j) k)) = rsum2 A B (chk e s g) := by
  unfold rsum2
  rw [← rsum_wrapS (fun j => rsum B (chk e s g j)) A]
  apply rsum_congr
  intro j _
  apply rsum_congr
  intro k _
  have := wrapS_parity hA j
  exact if_congr (by omega) rfl rfl

/-- **Checkerboard slab.**  Planes `i < M` of `A × B` sites carrying two families of in-plane
    edges `P1 i`, `P2 i`; between plane `i` and plane `i + 1` the slab of cubes `(j, k)`, of which
    those with `(e + i + j + k) % 2 = 1` are coloured.  A coloured cube touches, in each of the two
    planes, the edges `P1 j k`, `P1 j (k+1)`, `P2 j k`, `P2 (j+1) k` (cyclically), and the four
    rungs `R i` at its corners.  For even periods every in-plane edge lies on exactly one coloured
    cube of the slab and every rung on exactly two; so if the constraint of every coloured cube is
    even, all planes have the same parity. -/
theorem slab_checker (A B M e : Nat) (hA : A % 2 = 0) (hB : B % 2 = 0)
    (P1 P2 R : Nat → Nat → Nat → Nat)
    (h : ∀ i, i + 1 < M → ∀ j k, j < A → k < B → (e + i + j + k) % 2 = 1 →
      (P1 i j k + P1 i j (wrapS B k) + P2 i j k + P2 i (wrapS A j) k
        + P1 (i + 1) j k + P1 (i + 1) j (wrapS B k) + P2 (i + 1) j k + P2 (i + 1) (wrapS A j) k
        + R i j k + R i (wrapS A j) k + R i j (wrapS B k) + R i (wrapS A j) (wrapS B k)) % 2 = 0) :
    ∀ i, i < M →
      (rsum2 A B (P1 i) + rsum2 A B (P2 i)) % 2 = (rsum2 A B (P1 0) + rsum2 A B (P2 0)) % 2 := by
  apply chain M (fun i => rsum2 A B (P1 i) + rsum2 A B (P2 i))
  intro i hi
  have he : rsum2 A B (chk (e + i) 1 (fun j k =>
      P1 i j k + P1 i j (wrapS B k) + P2 i j k + P2 i (wrapS A j) k
        + P1 (i + 1) j k + P1 (i + 1) j (wrapS B k) + P2 (i + 1) j k + P2 (i + 1) (wrapS A j) k
        + R i j k + R i (wrapS A j) k + R i j (wrapS B k) + R i (wrapS A j) (wrapS B k))) % 2 = 0 :=
    chk_even (fun j k hj hk hc => h i hi j k hj hk hc)
  simp only [chk_add, chk_shiftR hB _ 1 0 rfl, chk_shiftL hA _ 1 0 rfl, chk_shiftL hA _ 0 1 rfl]
    at he
  have t1 := chk_split A B (e + i) (P1 i)
  have t2 := chk_split A B (e + i) (P2 i)
  have t3 := chk_split A B (e + i) (P1 (i + 1))
  have t4 := chk_split A B (e + i) (P2 (i + 1))
  show (rsum2 A B (P1 i) + rsum2 A B (P2 i) + (rsum2 A B (P1 (i + 1)) + rsum2 A B (P2 (i + 1)))) % 2
    = 0
  omega

def plane2 (A B : Nat) (f : Nat → Nat → Coord) : List Coord :=
  (List.range A).flatMap fun j => (List.range B).map fun k => f j k

theorem mem_plane2 {A B : Nat} {f : Nat → Nat → Coord} {q : Coord} :
    q ∈ plane2 A B f ↔ ∃ j k, j < A ∧ k < B ∧ q = f j k := by
  unfold plane2
  simp only [List.mem_flatMap, List.mem_map, List.mem_range]
  constructor
  · rintro ⟨j, hj, k, hk, rfl⟩; exact ⟨j, k, hj, hk, rfl⟩
  · rintro ⟨j, k, hj, hk, rfl⟩; exact ⟨j, hj, k, hk, rfl⟩

theorem nodup_plane2 (A B : Nat) (f : Nat → Nat → Coord)
    (hf : ∀ j k j' k', f j k = f j' k' → j = j' ∧ k = k') : (plane2 A B f).Nodup := by
  unfold plane2
  rw [List.nodup_flatMap]
  refine ⟨fun j _ => List.nodup_range.map (fun k k' h => (hf j k j k' h).2), ?_⟩
  refine List.Pairwise.imp_of_mem ?_ List.nodup_range
  intro j j' _ _ hne
  simp only [Function.onFun, List.Disjoint, List.mem_map]
  rintro c ⟨k, _, rfl⟩ ⟨k', _, h⟩
  exact hne (hf j' k' j k h).1.symm

theorem length_plane2 (A B : Nat) (f : Nat → Nat → Coord) : (plane2 A B f).length = A * B := by
  unfold plane2
  induction A with
  | zero => simp
  | succ A ih =>
    rw [List.range_succ, List.flatMap_append, List.length_append, ih]
    simp [Nat.succ_mul]

theorem countP_plane2 (p : Coord → Bool) (A B : Nat) (f : Nat → Nat → Coord) :
    (plane2 A B f).countP p = rsum2 A B (fun j k => if p (f j k) = true then 1 else 0) := by
  unfold plane2 rsum2
  rw [Lat2D.countP_flatMap_range]
  apply rsum_congr
  intro j _
  exact countP_range_map p _ B

end Panqec.Lat2D
