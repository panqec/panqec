/-
`HollowPlanar3DCode.getStab` of a vertex / a face (over its normal axis, as in `Planar3DCode`)
outside the hole, for every size: the one-letter operator on the key list of `Planar3DCode` with
the locations in the hole removed.  A face outside the hole has none of its edges in the hole (the
hole is bounded by odd coordinates, an edge differs from a neighbouring face in an even
coordinate), so only vertex operators are truncated by the hole.
-/
import PanqecVerif.Proofs.LatHollowPlanar3DCodeBasics

namespace Panqec.HollowPlanar3DCode
open Panqec.Cubic3D
open Panqec.Planar3DCode (inE inO inE2 inO1 isVertex isFace rE rO isq isq_iff vertexCands
  faceCands nbM vertexCands_nodup)

def vertexKeys (Lx Ly Lz : Nat) (x y z : Int) : List Coord :=
  (Planar3DCode.vertexKeys Lx Ly Lz x y z).filter (notHoleC Lx Ly Lz)

theorem filter_contains (Lx Ly Lz : Nat) (cands : List Coord) :
    cands.filter (qubits Lx Ly Lz).contains =
      (cands.filter (isq Lx Ly Lz)).filter (notHoleC Lx Ly Lz) := by
  rw [List.filter_filter]
  apply List.filter_congr
  intro q _
  rw [contains_qubits, Bool.and_comm]

theorem keys_sub {Lx Ly Lz : Nat} {ks : List Coord}
    (hsub : ∀ q ∈ ks, q ∈ Planar3DCode.qubits Lx Ly Lz)
    (hn : ∀ q ∈ ks, notHoleC Lx Ly Lz q = true) : ∀ q ∈ ks, q ∈ qubits Lx Ly Lz := fun q hq => by
  rw [qubits_eq, List.mem_filter]
  exact ⟨hsub q hq, hn q hq⟩

theorem vertexKeys_nodup (Lx Ly Lz : Nat) (x y z : Int) : (vertexKeys Lx Ly Lz x y z).Nodup :=
  (Planar3DCode.vertexKeys_nodup Lx Ly Lz x y z).filter _

theorem vertexKeys_sub (Lx Ly Lz : Nat) (x y z : Int) :
    ∀ q ∈ vertexKeys Lx Ly Lz x y z, q ∈ qubits Lx Ly Lz :=
  keys_sub (fun q hq => Planar3DCode.vertexKeys_sub Lx Ly Lz x y z q (List.mem_filter.mp hq).1)
    fun _ hq => (List.mem_filter.mp hq).2

theorem face_edges {Lx Ly Lz : Nat} {ax : Axis} {u v w : Int} (hf : isFace Lx Ly Lz ax u v w)
    (hn : notHoleC Lx Ly Lz (ins ax u v w) = true) :
    ∀ q ∈ Planar3DCode.faceKeys Lx Ly Lz ax u v w, notHoleC Lx Ly Lz q = true := by
  obtain ⟨hu, hv, hw⟩ := hf
  intro q hq
  have hq := (List.mem_filter.mp hq).1
  cases ax <;> simp only [rE, rO, Axis.fst, Axis.snd, inE, inE2, inO, inO1] at hu hv hw <;>
    simp only [ins, notHoleC3] at hn <;>
    simp only [Planar3DCode.faceCands_eq, ins, List.mem_cons, List.not_mem_nil, or_false] at hq <;>
    rcases hq with rfl | rfl | rfl | rfl <;>
    exact notHoleC3.mpr fun ⟨h1, h2, h3⟩ => hn ⟨by omega, by omega, by omega⟩

theorem contains_stabs {Lx Ly Lz : Nat} {x y z : Int}
    (h : [x, y, z] ∈ Planar3DCode.stabs Lx Ly Lz) (hn : ¬ Hole Lx Ly Lz x y z) :
    (stabs Lx Ly Lz).contains [x, y, z] = true := by
  rw [List.contains_iff_mem, mem_stabs]; exact ⟨h, hn⟩

/-- `get_stabilizer` of a stabilizer location, from the letter and the candidate list of its kind -/
theorem getStab_of {Lx Ly Lz : Nat} {x y z : Int} {p : Pauli} {cs : List Coord}
    (hs : [x, y, z] ∈ Planar3DCode.stabs Lx Ly Lz) (hn : ¬ Hole Lx Ly Lz x y z)
    (hp : (if typeOf x y = .vertex then Pauli.Z else Pauli.X) = p)
    (hc : candidates x y z (if typeOf x y = .vertex then vertexDelta else faceDelta x y z) = cs)
    (hnd : cs.Nodup) :
    getStab Lx Ly Lz [x, y, z] =
      uop ((cs.filter (isq Lx Ly Lz)).filter (notHoleC Lx Ly Lz)) p := by
  unfold getStab getStab?
  rw [if_pos (contains_stabs hs hn)]
  simp only [Option.getD_some, hp, hc]
  rw [collect_eq _ _ _ hnd, filter_contains]

theorem getStab_vertex {Lx Ly Lz : Nat} {x y z : Int} (h : isVertex Lx Ly Lz x y z)
    (hn : ¬ Hole Lx Ly Lz x y z) :
    getStab Lx Ly Lz [x, y, z] = uop (vertexKeys Lx Ly Lz x y z) Pauli.Z := by
  have ht : typeOf x y = .vertex := by simp [typeOf, h.1.2.2, h.2.1.2.2]
  refine getStab_of (Planar3DCode.mem_stabs.mpr (Or.inl h)) hn (if_pos ht) ?_
    (vertexCands_nodup x y z)
  rw [if_pos ht]
  simp only [candidates, vertexDelta, List.map_cons, List.map_nil, vertexCands, Int.add_zero,
    Int.sub_eq_add_neg]

theorem getStab_face {Lx Ly Lz : Nat} {ax : Axis} {u v w : Int} (h : isFace Lx Ly Lz ax u v w)
    (hn : notHoleC Lx Ly Lz (ins ax u v w) = true) :
    getStab Lx Ly Lz (ins ax u v w) = uop (Planar3DCode.faceKeys Lx Ly Lz ax u v w) Pauli.X := by
  have he := face_edges h hn
  obtain ⟨x, y, z, e, hs, ht, hc⟩ := Planar3DCode.face_data h
  rw [e] at hn ⊢
  exact (getStab_of hs (notHoleC3.mp hn) (by rw [ht]; rfl) (by rw [ht]; exact hc)
    (Planar3DCode.faceCands_nodup ax u v w)).trans
    (congrArg (uop · Pauli.X) (List.filter_eq_self.mpr he))

/-! ### non-emptiness: a vertex keeps the x edge on its outer side -/

/-- the x edge of a vertex that is never in the hole: towards `x = 2Lx − 1` for the last layer of
    vertices, towards `x = 1` otherwise -/
def vertexEdge (Lx : Nat) (x y z : Int) : Coord :=
  [if x = 2 * (Lx : Int) - 2 then x + 1 else x - 1, y, z]

theorem vertexEdge_mem {Lx Ly Lz : Nat} {x y z : Int} (h : isVertex Lx Ly Lz x y z)
    (hn : ¬ Hole Lx Ly Lz x y z) : vertexEdge Lx x y z ∈ vertexKeys Lx Ly Lz x y z := by
  obtain ⟨hx, hy, hz⟩ := h
  unfold inE2 at hx
  unfold inE at hy hz
  unfold Hole at hn
  have key : ∀ u, u = x + 1 ∧ x = 2 * (Lx : Int) - 2 ∨ u = x - 1 ∧ x ≠ 2 * (Lx : Int) - 2 →
      [u, y, z] ∈ vertexKeys Lx Ly Lz x y z := by
    intro u hu
    refine List.mem_filter.mpr ⟨List.mem_filter.mpr ⟨?_, isq_iff.mpr ?_⟩, notHoleC3.mpr ?_⟩
    · rcases hu with ⟨rfl, _⟩ | ⟨rfl, _⟩ <;> simp [vertexCands]
    · rw [Planar3DCode.mem_qubits_x (by omega) hy.2.2 hz.2.2]; omega
    · unfold Hole; omega
  unfold vertexEdge
  split
  · exact key _ (Or.inl ⟨rfl, ‹_›⟩)
  · exact key _ (Or.inr ⟨rfl, ‹_›⟩)

theorem vertexKeys_ne_nil {Lx Ly Lz : Nat} {x y z : Int} (h : isVertex Lx Ly Lz x y z)
    (hn : ¬ Hole Lx Ly Lz x y z) : vertexKeys Lx Ly Lz x y z ≠ [] := by
  intro h0
  have := vertexEdge_mem h hn
  rw [h0] at this
  exact List.not_mem_nil this

end Panqec.HollowPlanar3DCode
