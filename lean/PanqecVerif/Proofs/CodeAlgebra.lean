/-
List-level theorems about the success / codespace / logical-effect tests of
`Model/Code.lean` for a valid stabilizer code (`ValidCodeL` of `Proofs/ValidCode.lean`):
C04 (success ⇔ residual error is a product of generators; the logical effect is linear,
constant on stabilizer cosets, and its bits are pairings with the listed logicals),
the rank bound of C01 and the distance criteria of C17.

The linear algebra is done over `ZMod 2` through the bridge of `Proofs/Symplectic.lean`.
-/
import Mathlib.Data.Finset.Card
import PanqecVerif.Proofs.Symplectic

namespace Panqec

open Symp Module

theorem getD_eq_getElem' {α} (l : List α) (d : α) {i : ℕ} (h : i < l.length) :
    l.getD i d = l[i] := by
  simp [List.getD_eq_getElem?_getD, h]

theorem getD_mem' {α} (L : List α) (d : α) (i : Nat) (hi : i < L.length) : L.getD i d ∈ L := by
  rw [getD_eq_getElem' L d hi]
  exact List.getElem_mem hi

/-- Meaning of the bits of the logical effect: entry `i < |Lz|` is the pairing of `e`
    with the i-th logical Z (set iff `e` acts X-type on logical qubit i), entry
    `|Lz| + i` is the pairing with the i-th logical X (Z-type action). -/
theorem logicalErrors_spec (dt : DType) (Lx Lz : List (List Nat)) (e : List Nat) :
    (∀ i (h : i < Lz.length), (logicalErrors dt Lx Lz e)[i]? = some (symp Lz[i] e)) ∧
    (∀ i (h : i < Lx.length),
      (logicalErrors dt Lx Lz e)[Lz.length + i]? = some (symp Lx[i] e)) := by
  rw [logicalErrors_eq]
  constructor
  · intro i h
    rw [List.getElem?_append_left (by simpa using h)]
    simp [h]
  · intro i h
    rw [List.getElem?_append_right (by simp)]
    simp [h]

theorem toVec_mem_orthogonal_rowSpan_iff {n : ℕ} {rows : List (List Nat)} {l : List Nat}
    (hrows : ∀ r ∈ rows, r.length = 2 * n) (hl : l.length = 2 * n) :
    toVec n l ∈ (sympForm n).orthogonal (rowSpan n rows) ↔ ∀ g ∈ rows, symp g l = 0 := by
  rw [LinearMap.BilinForm.mem_orthogonal_iff]
  constructor
  · intro h g hg
    exact (symp_eq_zero_iff (hrows g hg) hl).mpr (h _ (toVec_mem_rowSpan n rows g hg))
  · intro h y hy
    have hle : rowSpan n rows ≤ LinearMap.ker ((sympForm n).flip (toVec n l)) :=
      Submodule.span_le.mpr (by
        rintro _ ⟨i, rfl⟩
        exact (symp_eq_zero_iff (hrows _ (List.getElem_mem i.2)) hl).mp
          (h _ (List.getElem_mem i.2)))
    exact hle hy

theorem not_inSpan_of_symp_one {w : ℕ} {rows : List (List Nat)} {m l : List Nat}
    (hrows : ∀ r ∈ rows, r.length = w)
    (hcomm : ∀ g ∈ rows, symp m g = 0) (h1 : symp m l = 1) : ¬ InSpan w rows l :=
  fun hs => Nat.zero_ne_one ((symp_zero_of_inSpan hrows hcomm hs).symm.trans h1)

theorem inSpan_binary {m : ℕ} {rows : List (List Nat)} {s : List Nat}
    (hs : InSpan m rows s) : ∀ x ∈ s, x < 2 := by
  obtain ⟨sel, _, rfl⟩ := hs
  exact xorCombo_binary _ _ _

/-- `ValidCodeL` without the rank clause (and without `k ≤ n`, which follows). -/
structure CommPairL (n k : Nat) (H Lx Lz : List (List Nat)) : Prop where
  wfH : WFRows n H
  wfX : WFRows n Lx
  wfZ : WFRows n Lz
  kX : Lx.length = k
  kZ : Lz.length = k
  stab_comm : ∀ a ∈ H, ∀ b ∈ H, symp a b = 0
  logX_comm : ∀ l ∈ Lx, ∀ g ∈ H, symp l g = 0
  logZ_comm : ∀ l ∈ Lz, ∀ g ∈ H, symp l g = 0
  pairing : ∀ i j, i < k → j < k →
    symp (Lx.getD i []) (Lz.getD j []) = if i = j then 1 else 0
  logXX : ∀ a ∈ Lx, ∀ b ∈ Lx, symp a b = 0
  logZZ : ∀ a ∈ Lz, ∀ b ∈ Lz, symp a b = 0

theorem ValidCodeL.toCommPair {n k : Nat} {H Lx Lz : List (List Nat)}
    (hv : ValidCodeL n k H Lx Lz) : CommPairL n k H Lx Lz :=
  ⟨hv.wfH, hv.wfX, hv.wfZ, hv.kX, hv.kZ, hv.stab_comm, hv.logX_comm, hv.logZ_comm,
    hv.pairing, hv.logXX, hv.logZZ⟩

namespace CommPairL

variable {n k : Nat} {H Lx Lz : List (List Nat)}

theorem lenH (hc : CommPairL n k H Lx Lz) : ∀ r ∈ H, r.length = 2 * n := fun r hr => (hc.wfH r hr).1
theorem lenX (hc : CommPairL n k H Lx Lz) : ∀ r ∈ Lx, r.length = 2 * n := fun r hr => (hc.wfX r hr).1
theorem lenZ (hc : CommPairL n k H Lx Lz) : ∀ r ∈ Lz, r.length = 2 * n := fun r hr => (hc.wfZ r hr).1

theorem getX_mem (hc : CommPairL n k H Lx Lz) (i : Fin k) : Lx.getD i [] ∈ Lx :=
  getD_mem' _ _ _ (hc.kX ▸ i.2)

theorem getZ_mem (hc : CommPairL n k H Lx Lz) (i : Fin k) : Lz.getD i [] ∈ Lz :=
  getD_mem' _ _ _ (hc.kZ ▸ i.2)

theorem exists_getD {L : List (List Nat)} (hk : L.length = k) {l : List Nat} (hl : l ∈ L) :
    ∃ i : Fin k, L.getD i [] = l := by
  obtain ⟨i, hi, rfl⟩ := List.getElem_of_mem hl
  exact ⟨⟨i, hk ▸ hi⟩, getD_eq_getElem' _ _ hi⟩

noncomputable def stabData (hc : CommPairL n k H Lx Lz) : StabData (sympForm n) k where
  S := rowSpan n H
  lx i := toVec n (Lx.getD i [])
  lz i := toVec n (Lz.getD i [])
  iso := Submodule.span_le.mpr (by
    rintro _ ⟨i, rfl⟩
    exact (toVec_mem_orthogonal_rowSpan_iff hc.lenH (hc.lenH _ (List.getElem_mem i.2))).mpr
      fun g hg => hc.stab_comm g hg _ (List.getElem_mem i.2))
  lxS i := (toVec_mem_orthogonal_rowSpan_iff hc.lenH (hc.lenX _ (hc.getX_mem i))).mpr
    fun g hg => (symp_comm g _).trans (hc.logX_comm _ (hc.getX_mem i) g hg)
  lzS i := (toVec_mem_orthogonal_rowSpan_iff hc.lenH (hc.lenZ _ (hc.getZ_mem i))).mpr
    fun g hg => (symp_comm g _).trans (hc.logZ_comm _ (hc.getZ_mem i) g hg)
  xx i j := (symp_eq_zero_iff (hc.lenX _ (hc.getX_mem i)) (hc.lenX _ (hc.getX_mem j))).mp
    (hc.logXX _ (hc.getX_mem i) _ (hc.getX_mem j))
  zz i j := (symp_eq_zero_iff (hc.lenZ _ (hc.getZ_mem i)) (hc.lenZ _ (hc.getZ_mem j))).mp
    (hc.logZZ _ (hc.getZ_mem i) _ (hc.getZ_mem j))
  xz i j := by
    rw [← symp_cast (hc.lenX _ (hc.getX_mem i)) (hc.lenZ _ (hc.getZ_mem j)),
      hc.pairing i j i.2 j.2]
    simp [Fin.ext_iff]

theorem two_finrank_rowSpan_add_le (hc : CommPairL n k H Lx Lz) :
    2 * finrank (ZMod 2) (rowSpan n H) + 2 * k ≤ 2 * n := by
  have h := two_finrank_add_le (sympForm_nondegenerate n) (sympForm_isAlt n) hc.stabData
  rwa [finrank_PVec] at h

theorem finrank_rowSpan_le (hc : CommPairL n k H Lx Lz) :
    finrank (ZMod 2) (rowSpan n H) ≤ n - k := by
  have := hc.two_finrank_rowSpan_add_le
  omega

theorem k_le (hc : CommPairL n k H Lx Lz) : k ≤ n := by
  have := hc.two_finrank_rowSpan_add_le
  omega

theorem toValid (hc : CommPairL n k H Lx Lz) (hr : HasRank (2 * n) H (n - k)) :
    ValidCodeL n k H Lx Lz :=
  ⟨hc.wfH, hc.wfX, hc.wfZ, hc.kX, hc.kZ, hc.stab_comm, hc.logX_comm, hc.logZ_comm,
    hc.pairing, hc.logXX, hc.logZZ, hr, hc.k_le⟩

end CommPairL

/-- C01 rank bound from commutation and pairing alone: a wrong `k` or dependent logicals cannot
    hide behind the rank clause of `ValidCodeL`. -/
theorem rank_le_of_commute_pairing {n k : Nat} {H Lx Lz : List (List Nat)}
    (hc : CommPairL n k H Lx Lz) (basis : List (List Nat)) (hsub : basis.Sublist H)
    (hind : Indep (2 * n) basis) : basis.length ≤ n - k :=
  Nat.le_trans (length_le_finrank_of_indep hc.lenH hsub hind) hc.finrank_rowSpan_le

theorem hasRank_le_of_commute_pairing {n k r : Nat} {H Lx Lz : List (List Nat)}
    (hc : CommPairL n k H Lx Lz) (hr : HasRank (2 * n) H r) : r ≤ n - k := by
  obtain ⟨basis, hsub, hlen, hind, _⟩ := hr
  rw [← hlen]
  exact rank_le_of_commute_pairing hc basis hsub hind

theorem forall_symp_getD_iff {n k : ℕ} {L : List (List Nat)} {e : List Nat} (hk : L.length = k)
    (hL : ∀ l ∈ L, l.length = 2 * n) (he : e.length = 2 * n) :
    (∀ l ∈ L, symp l e = 0) ↔
      ∀ i : Fin k, sympForm n (toVec n (L.getD i [])) (toVec n e) = 0 := by
  constructor
  · intro h i
    have hm := getD_mem' L [] i (hk ▸ i.2)
    exact (symp_eq_zero_iff (hL _ hm) he).mp (h _ hm)
  · intro h l hl
    obtain ⟨i, rfl⟩ := CommPairL.exists_getD hk hl
    exact (symp_eq_zero_iff (hL _ hl) he).mpr (h i)

/-- C04 main theorem: `is_success` holds exactly for the products of generators.  Its three tests are
    the three conditions of `mem_stabilizer_iff`; the rank clause says that the dimensions add up. -/
theorem isSuccess_iff_inSpan {n k : Nat} {H Lx Lz : List (List Nat)}
    (hv : ValidCodeL n k H Lx Lz) (dt : DType) (e : List Nat) (he_len : e.length = 2 * n)
    (he_bin : ∀ x ∈ e, x < 2) :
    isSuccess dt H Lx Lz e = true ↔ InSpan (2 * n) H e := by
  have hc := hv.toCommPair
  have hdim : finrank (ZMod 2) (PVec n) = 2 * finrank (ZMod 2) hc.stabData.S + 2 * k := by
    have : finrank (ZMod 2) hc.stabData.S = n - k := finrank_rowSpan_of_hasRank hc.lenH hv.rank
    rw [finrank_PVec, this]
    have := hv.k_le
    omega
  rw [inSpan_iff_mem_rowSpan hc.lenH he_len he_bin]
  refine Iff.trans ?_
    (mem_stabilizer_iff (sympForm_nondegenerate n) (sympForm_isAlt n) hc.stabData hdim _).symm
  rw [isSuccess_iff, ← toVec_mem_orthogonal_rowSpan_iff hc.lenH he_len, forall_symp_getD_iff hc.kX hc.lenX he_len,
    forall_symp_getD_iff hc.kZ hc.lenZ he_len]
  exact and_congr_right fun _ => and_comm

/-- a listed logical anticommutes with its partner, which commutes with every generator -/
theorem listedX_nontrivial {n k : Nat} {H Lx Lz : List (List Nat)}
    (hv : ValidCodeL n k H Lx Lz) {l : List Nat} (hl : l ∈ Lx) : IsNontrivialLogical n H l := by
  have hc := hv.toCommPair
  obtain ⟨i, rfl⟩ := CommPairL.exists_getD hc.kX hl
  have hz := hc.getZ_mem i
  refine ⟨(hv.wfX _ hl).1, (hv.wfX _ hl).2,
    fun g hg => (symp_comm g _).trans (hv.logX_comm _ hl g hg), ?_⟩
  apply not_inSpan_of_symp_one hc.lenH (hv.logZ_comm _ hz)
  rw [symp_comm, hv.pairing i i i.2 i.2, if_pos rfl]

theorem listedZ_nontrivial {n k : Nat} {H Lx Lz : List (List Nat)}
    (hv : ValidCodeL n k H Lx Lz) {l : List Nat} (hl : l ∈ Lz) : IsNontrivialLogical n H l := by
  have hc := hv.toCommPair
  obtain ⟨i, rfl⟩ := CommPairL.exists_getD hc.kZ hl
  have hx := hc.getX_mem i
  refine ⟨(hv.wfZ _ hl).1, (hv.wfZ _ hl).2,
    fun g hg => (symp_comm g _).trans (hv.logZ_comm _ hl g hg), ?_⟩
  apply not_inSpan_of_symp_one hc.lenH (hv.logX_comm _ hx)
  rw [hv.pairing i i i.2 i.2, if_pos rfl]

/-- C17 generic criterion: if some listed logical has weight `d` and no non-trivial
    logical is lighter, then `d` is the distance. -/
theorem distance_criterion {n k : Nat} {H Lx Lz : List (List Nat)}
    (hv : ValidCodeL n k H Lx Lz) (d : Nat)
    (hex : ∃ l ∈ Lx ++ Lz, pauliWeight l = d)
    (hlow : ∀ v, IsNontrivialLogical n H v → d ≤ pauliWeight v) : IsDistance n H d := by
  refine ⟨?_, hlow⟩
  obtain ⟨l, hl, hw⟩ := hex
  rcases List.mem_append.mp hl with h | h
  · exact ⟨l, listedX_nontrivial hv h, hw⟩
  · exact ⟨l, listedZ_nontrivial hv h, hw⟩

theorem nontrivial_anticommutes_listed {n k : Nat} {H Lx Lz : List (List Nat)}
    (hv : ValidCodeL n k H Lx Lz) {v : List Nat} (hnt : IsNontrivialLogical n H v) :
    ∃ l ∈ Lx ++ Lz, symp l v = 1 := by
  obtain ⟨hlen, hbin, hcomm, hns⟩ := hnt
  by_contra hcon
  have key : ∀ l ∈ Lx ++ Lz, symp l v = 0 := fun l hl => by
    have := symp_lt_two l v
    have h1 : symp l v ≠ 1 := fun h => hcon ⟨l, hl, h⟩
    omega
  exact hns ((isSuccess_iff_inSpan hv .wide v hlen hbin).mp ((isSuccess_iff ..).mpr
    ⟨hcomm, fun l hl => key l (List.mem_append_right _ hl),
      fun l hl => key l (List.mem_append_left _ hl)⟩))

def hasSupp (v : List Nat) (q : Nat) : Prop :=
  (xPart v).getD q 0 ≠ 0 ∨ (zPart v).getD q 0 ≠ 0

def SuppDisjoint (a b : List Nat) : Prop := ∀ q, ¬ (hasSupp a q ∧ hasSupp b q)

/-- the support mask `rowWeight` counts -/
def suppMask (v : List Nat) : List Bool :=
  List.zipWith (fun x z => x != 0 || z != 0) (xPart v) (zPart v)

def suppDisjointB (a b : List Nat) : Bool :=
  (List.zipWith (fun p q => p && q) (suppMask a) (suppMask b)).all (fun t => !t)

theorem supp_meet_of_symp_one {a b : List Nat} (h : symp a b = 1) :
    ∃ q, hasSupp a q ∧ hasSupp b q := by
  unfold symp at h
  by_cases h1 : dot (xPart a) (zPart b) = 0
  · have h2 : dot (zPart a) (xPart b) ≠ 0 := by omega
    obtain ⟨q, ha, hb⟩ := dot_ne_zero _ _ h2
    exact ⟨q, Or.inr ha, Or.inl hb⟩
  · obtain ⟨q, ha, hb⟩ := dot_ne_zero _ _ h1
    exact ⟨q, Or.inl ha, Or.inr hb⟩

theorem card_le_countP (l : List Bool) : ∀ T : Finset ℕ, (∀ i ∈ T, l[i]? = some true) →
    T.card ≤ l.countP id := by
  induction l using list_rev_induction with
  | hnil =>
    intro T hT
    have : T = ∅ := Finset.eq_empty_of_forall_notMem fun i hi => by simpa using hT i hi
    simp [this]
  | hsnoc l a ih =>
    intro T hT
    have h1 := ih (T.erase l.length) fun i hi => by
      have hne := Finset.ne_of_mem_erase hi
      have hi' := hT i (Finset.mem_of_mem_erase hi)
      have hlt : i < l.length := by
        have := (List.getElem?_eq_some_iff.mp hi').1
        simp at this; omega
      rwa [List.getElem?_append_left hlt] at hi'
    rw [List.countP_append]
    by_cases hmem : l.length ∈ T
    · have ha : a = true := by simpa using hT _ hmem
      have := Finset.card_erase_of_mem hmem
      have hpos : 0 < T.card := Finset.card_pos.mpr ⟨_, hmem⟩
      simp [ha]; omega
    · rw [Finset.erase_eq_of_notMem hmem] at h1
      omega

theorem suppMask_getElem?_of_hasSupp {n : ℕ} {v : List Nat} (hv : v.length = 2 * n) {q : ℕ}
    (h : hasSupp v q) : (suppMask v)[q]? = some true := by
  have hx := xPart_len hv
  have hz := zPart_len hv
  unfold hasSupp at h
  unfold suppMask
  rw [List.getD_eq_getElem?_getD, List.getD_eq_getElem?_getD] at h
  rcases Nat.lt_or_ge q n with hq | hq
  · rw [List.getElem?_eq_getElem (hx ▸ hq), List.getElem?_eq_getElem (hz ▸ hq)] at h
    rw [List.getElem?_zipWith, List.getElem?_eq_getElem (hx ▸ hq),
      List.getElem?_eq_getElem (hz ▸ hq)]
    simpa using h
  · rw [List.getElem?_eq_none (hx ▸ hq), List.getElem?_eq_none (hz ▸ hq)] at h
    simp at h

theorem card_le_pauliWeight {n : ℕ} {v : List Nat} (hv : v.length = 2 * n) (T : Finset ℕ)
    (hT : ∀ q ∈ T, hasSupp v q) : T.card ≤ pauliWeight v :=
  card_le_countP (suppMask v) T fun q hq => suppMask_getElem?_of_hasSupp hv (hT q hq)

/-- pigeonhole over pairwise disjoint supports -/
theorem exists_supp_transversal (v : List Nat) : ∀ reps : List (List Nat),
    reps.Pairwise SuppDisjoint → (∀ r ∈ reps, ∃ q, hasSupp r q ∧ hasSupp v q) →
    ∃ T : Finset ℕ, T.card = reps.length ∧ ∀ q ∈ T, hasSupp v q ∧ ∃ r ∈ reps, hasSupp r q
  | [], _, _ => ⟨∅, by simp⟩
  | r :: rs, hp, hm => by
    rw [List.pairwise_cons] at hp
    obtain ⟨T, hcard, hT⟩ := exists_supp_transversal v rs hp.2
      (fun r' hr' => hm r' (by simp [hr']))
    obtain ⟨q, hrq, hvq⟩ := hm r (by simp)
    have hnot : q ∉ T := by
      intro hq
      obtain ⟨_, r', hr', hr'q⟩ := hT q hq
      exact hp.1 r' hr' q ⟨hrq, hr'q⟩
    refine ⟨insert q T, by rw [Finset.card_insert_of_notMem hnot, hcard]; simp, ?_⟩
    intro q' hq'
    rcases Finset.mem_insert.mp hq' with rfl | hq'
    · exact ⟨hvq, r, by simp, hrq⟩
    · obtain ⟨h1, r', hr', h2⟩ := hT q' hq'
      exact ⟨h1, r', by simp [hr'], h2⟩

/-- Packing bound with representatives given by their pairings: `v` anticommutes with some listed
    `l`, hence with each of its representatives, hence meets each of their disjoint supports. -/
theorem packing_lower_bound_symp {n k : Nat} {H Lx Lz : List (List Nat)}
    (hv : ValidCodeL n k H Lx Lz) (m : Nat)
    (hreps : ∀ l ∈ Lx ++ Lz, ∃ reps : List (List Nat), m ≤ reps.length ∧
      (∀ r ∈ reps, ∀ v : List Nat, v.length = 2 * n → (∀ x ∈ v, x < 2) →
        (∀ g ∈ H, symp g v = 0) → symp r v = symp l v) ∧
      reps.Pairwise SuppDisjoint) :
    ∀ v, IsNontrivialLogical n H v → m ≤ pauliWeight v := by
  intro v hnt
  obtain ⟨l, hl, hlv⟩ := nontrivial_anticommutes_listed hv hnt
  obtain ⟨hlen, hbin, hcomm, _⟩ := hnt
  obtain ⟨reps, hm, hr, hpw⟩ := hreps l hl
  have hmeet : ∀ r ∈ reps, ∃ q, hasSupp r q ∧ hasSupp v q := fun r hrr =>
    supp_meet_of_symp_one (by rw [hr r hrr v hlen hbin hcomm]; exact hlv)
  obtain ⟨T, hcard, hT⟩ := exists_supp_transversal v reps hpw hmeet
  calc m ≤ reps.length := hm
    _ = T.card := hcard.symm
    _ ≤ pauliWeight v := card_le_pauliWeight hlen T (fun q hq => (hT q hq).1)

/-- C17 packing bound, representatives modulo the stabilizer group (`l ⊕ r` a product of
    generators): what commutes with the generators commutes with `l ⊕ r`, so it pairs with `r` as
    with `l`. -/
theorem packing_lower_bound {n k : Nat} {H Lx Lz : List (List Nat)}
    (hv : ValidCodeL n k H Lx Lz) (m : Nat)
    (hreps : ∀ l ∈ Lx ++ Lz, ∃ reps : List (List Nat), reps.length = m ∧
      (∀ r ∈ reps, r.length = 2 * n ∧ InSpan (2 * n) H (vxor l r)) ∧
      reps.Pairwise SuppDisjoint) :
    ∀ v, IsNontrivialLogical n H v → m ≤ pauliWeight v := by
  refine packing_lower_bound_symp hv m fun l hl => ?_
  obtain ⟨reps, hm, hr, hpw⟩ := hreps l hl
  have hllen : l.length = 2 * n :=
    (List.mem_append.mp hl).elim (fun h => (hv.wfX l h).1) (fun h => (hv.wfZ l h).1)
  refine ⟨reps, hm.ge, fun r hrr v _ _ hcomm => ?_, hpw⟩
  have h0 := symp_zero_of_inSpan (fun g hg => (hv.wfH g hg).1)
    (fun g hg => (symp_comm v g).trans (hcomm g hg)) (hr r hrr).2
  rw [symp_comm, symp_vxor_left l r v (by rw [hllen, (hr r hrr).1])] at h0
  have := symp_lt_two r v
  have := symp_lt_two l v
  omega

theorem hasRank_of_indep {n : ℕ} {rows : List (List Nat)} (hwf : WFRows n rows)
    (hind : Indep (2 * n) rows) : HasRank (2 * n) rows rows.length := by
  refine ⟨rows, List.Sublist.refl _, rfl, hind, ?_⟩
  intro v hv
  exact (inSpan_iff_mem_rowSpan (fun r hr => (hwf r hr).1) (hwf v hv).1 (hwf v hv).2).mpr
    (toVec_mem_rowSpan n rows v hv)

theorem suppDisjoint_of_check {n : ℕ} {a b : List Nat} (ha : a.length = 2 * n)
    (hb : b.length = 2 * n) (h : suppDisjointB a b = true) : SuppDisjoint a b := by
  intro q ⟨hqa, hqb⟩
  have hq : (List.zipWith (fun p q => p && q) (suppMask a) (suppMask b))[q]? = some true := by
    rw [List.getElem?_zipWith, suppMask_getElem?_of_hasSupp ha hqa,
      suppMask_getElem?_of_hasSupp hb hqb]
    rfl
  have := List.all_eq_true.mp h _ (List.mem_of_getElem? hq)
  simp at this

end Panqec
