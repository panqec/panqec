/-
`HollowRhombicCode`, rank clause: the probes of `Proofs/LatHollowRhombicCodeRankProbes.lean` form a
triangular family on `rankFamily` (`Lat2D.TriangularOpProbes`), for EVERY size with `Ly ≥ 1`; the
members of `rankFamily` are therefore independent.  A single-qubit probe is a leg of its triangle `s`;
of the four triangles that contain it those other than `s` come before `s` (`Rhombic.after_*`), or
are the one triangle that the selection rule of `s` says is not listed.
-/
import PanqecVerif.Proofs.Lat2DRank
import PanqecVerif.Proofs.LatHollowRhombicCodeRankSlabProbes
import PanqecVerif.Proofs.LatHollowRhombicCodeRankCubes

namespace Panqec.HollowRhombicCode
open Panqec.Cubic3D
open Panqec.Planar3DCode (inE inO inE2 inO1)

section
variable {Lx Ly Lz : Nat} {x y z b u v w : Int}

/-- axis 3, probe on the x leg `(x−1, y, z)` -/
theorem later_3 (hv : VertexLoc Lx Ly Lz x y z) (ht : TS Lx Ly Lz b u v w)
    (hlt : Before 3 x y z b u v w) : [x - 1, y, z] ∉ triKeys Lx Ly Lz b u v w := by
  intro hmem
  have := Rhombic.after_xleg_below (isAxis_of ht.1) ht.2.1.1.2.2 hlt.le3 hv.1.2.2 (triKeys_sub_legs ht.1 hmem)
  unfold Before at hlt
  omega

/-- axis 2, probe on the y leg `(x, y−1, z)` -/
theorem later_2 (hv : VertexLoc Lx Ly Lz x y z) (ht : TS Lx Ly Lz b u v w)
    (hlt : Before 2 x y z b u v w) : [x, y - 1, z] ∉ triKeys Lx Ly Lz b u v w := by
  intro hmem
  have := Rhombic.after_yleg_below (isAxis_of ht.1) ht.2.1.2.1.2.2 hlt.le3 hv.2.1.2.2 (triKeys_sub_legs ht.1 hmem)
  unfold Before at hlt
  omega

/-- axis 1 where the triangle of axis 3 is not listed, probe on the x leg `(x−1, y, z)` -/
theorem later_1x (hv : VertexLoc Lx Ly Lz x y z) (ht : TS Lx Ly Lz b u v w)
    (hlt : Before 1 x y z b u v w) (hn : ¬ PT Lx Ly Lz 3 x y z) :
    [x - 1, y, z] ∉ triKeys Lx Ly Lz b u v w := by
  intro hmem
  have := Rhombic.after_xleg_below (isAxis_of ht.1) ht.2.1.1.2.2 hlt.le3 hv.1.2.2 (triKeys_sub_legs ht.1 hmem)
  unfold Before at hlt
  obtain ⟨rfl, rfl, rfl, rfl⟩ : b = 3 ∧ u = x ∧ v = y ∧ w = z := by omega
  exact hn ht.2.2.1

/-- axis 1 where the triangle of axis 2 is not listed, probe on the y leg `(x, y−1, z)` -/
theorem later_1y (hv : VertexLoc Lx Ly Lz x y z) (ht : TS Lx Ly Lz b u v w)
    (hlt : Before 1 x y z b u v w) (hn : ¬ PT Lx Ly Lz 2 x y z) :
    [x, y - 1, z] ∉ triKeys Lx Ly Lz b u v w := by
  intro hmem
  have := Rhombic.after_yleg_below (isAxis_of ht.1) ht.2.1.2.1.2.2 hlt.le3 hv.2.1.2.2 (triKeys_sub_legs ht.1 hmem)
  unfold Before at hlt
  obtain ⟨rfl, rfl, rfl, rfl⟩ : b = 2 ∧ u = x ∧ v = y ∧ w = z := by omega
  exact hn ht.2.2.1

/-- axis 0 in the last column, probe on the x leg `(x+1, y, z)` -/
theorem later_0x (hv : VertexLoc Lx Ly Lz x y z) (ht : TS Lx Ly Lz b u v w)
    (hlt : Before 0 x y z b u v w) (hx : x = 2 * (Lx : Int) - 2) :
    [x + 1, y, z] ∉ triKeys Lx Ly Lz b u v w := by
  intro hmem
  have := Rhombic.after_xleg_above (isAxis_of ht.1) ht.2.1.1.2.2 hlt.le3 hv.1.2.2 (triKeys_sub_legs ht.1 hmem)
  have := ht.2.1.1.2.1
  unfold Before at hlt
  omega

/-- the upper triangle of axis 0, probe on the z leg `(x, y, z−1)`: its other triangle of axis 0
    is the lower one `(0, x, y, z−2)`, which comes before -/
theorem later_0d (hv : VertexLoc Lx Ly Lz x y z) (ht : TS Lx Ly Lz b u v w)
    (hlt : Before 0 x y z b u v w) (hc : (x + y + z) % 4 = 2) :
    [x, y, z - 1] ∉ triKeys Lx Ly Lz b u v w := by
  intro hmem
  have := Rhombic.after_zleg (isAxis_of ht.1) ht.2.1.1.2.2 ht.2.1.2.1.2.2 ht.2.1.2.2.2.2 hlt.le3
    hv.2.2.2.2 (-1) (Or.inr rfl) rfl (by omega) (triKeys_sub_legs ht.1 hmem)
  unfold Before at hlt
  omega

/-- the lower triangle of axis 0 whose upper partner is not listed, probe on the z leg
    `(x, y, z+1)` -/
theorem later_0u (hv : VertexLoc Lx Ly Lz x y z) (ht : TS Lx Ly Lz b u v w)
    (hlt : Before 0 x y z b u v w) (hc : (x + y + z) % 4 = 0) (hn : ¬ PT Lx Ly Lz 0 x y (z + 2)) :
    [x, y, z + 1] ∉ triKeys Lx Ly Lz b u v w := by
  intro hmem
  have := Rhombic.after_zleg (isAxis_of ht.1) ht.2.1.1.2.2 ht.2.1.2.1.2.2 ht.2.1.2.2.2.2 hlt.le3
    hv.2.2.2.2 1 (Or.inl rfl) rfl (by omega) (triKeys_sub_legs ht.1 hmem)
  unfold Before at hlt
  obtain ⟨rfl, rfl, rfl, rfl⟩ : b = 0 ∧ u = x ∧ v = y ∧ w = z + 2 := by omega
  exact hn ht.2.2.1

end

section
variable {Lx Ly Lz : Nat} {a x y z : Int}

theorem triKeys_sub {q : Coord} (h : q ∈ triKeys Lx Ly Lz a x y z) : q ∈ qubits Lx Ly Lz :=
  isq_iff.mp (List.mem_filter.mp h).2

theorem cubeKeys_sub {q : Coord} (h : q ∈ cubeKeys Lx Ly Lz x y z) : q ∈ qubits Lx Ly Lz :=
  isq_iff.mp (List.mem_filter.mp h).2

theorem xleg_mem (hv : VertexLoc Lx Ly Lz x y z) (hp : PT Lx Ly Lz a x y z) :
    [x + sgnX a, y, z] ∈ triKeys Lx Ly Lz a x y z := by
  rw [triKeys_pt hv hp]; simp

theorem yleg_mem (hv : VertexLoc Lx Ly Lz x y z) (hp : PT Lx Ly Lz a x y z) :
    [x, y + sgnY a, z] ∈ triKeys Lx Ly Lz a x y z := by
  rw [triKeys_pt hv hp]; simp

theorem zleg_mem (hv : VertexLoc Lx Ly Lz x y z) (hp : PT Lx Ly Lz a x y z)
    (hr : 1 ≤ z + sgnZ a x y z ∧ z + sgnZ a x y z ≤ 2 * (Lz : Int) - 3) :
    [x, y, z + sgnZ a x y z] ∈ triKeys Lx Ly Lz a x y z := by
  rw [triKeys_pt hv hp, if_pos ((tz_iff hv).mpr ⟨hr.1, hr.2, hp.2.2.2.1⟩)]; simp

theorem sgnZ0_pos (h : (x + y + z) % 4 = 0) : sgnZ 0 x y z = 1 := by
  unfold sgnZ; rw [if_pos ⟨fun _ => h, fun _ => Or.inl rfl⟩]
theorem sgnZ0_neg (h : (x + y + z) % 4 ≠ 0) : sgnZ 0 x y z = -1 := by
  unfold sgnZ; rw [if_neg (fun e => h (e.mp (Or.inl rfl)))]

theorem probeKeys_cases (hs : TS Lx Ly Lz a x y z) :
    (a = 3 ∧ probeKeys Lx Ly Lz a x y z = [[x - 1, y, z]]) ∨
    (a = 2 ∧ probeKeys Lx Ly Lz a x y z = [[x, y - 1, z]]) ∨
    (a = 1 ∧ ¬ PT Lx Ly Lz 3 x y z ∧ probeKeys Lx Ly Lz a x y z = [[x - 1, y, z]]) ∨
    (a = 1 ∧ ¬ PT Lx Ly Lz 2 x y z ∧ probeKeys Lx Ly Lz a x y z = [[x, y - 1, z]]) ∨
    (a = 0 ∧ x = 2 * (Lx : Int) - 2 ∧ probeKeys Lx Ly Lz a x y z = [[x + 1, y, z]]) ∨
    (a = 0 ∧ x ≠ 2 * (Lx : Int) - 2 ∧ (x + y + z) % 4 = 2 ∧ 2 ≤ z ∧
      probeKeys Lx Ly Lz a x y z = [[x, y, z - 1]]) ∨
    (a = 0 ∧ x = 2 ∧ y = 2 ∧ QC Lx Ly Lz 2 2 z ∧ (4 ≤ Lx ∧ 4 ≤ Ly) ∧
      probeKeys Lx Ly Lz a x y z = [[3, 2, z], [4, 2, z - 1], [3, 2, z - 2]]) ∨
    (a = 0 ∧ x = 2 ∧ y = 2 ∧ QC Lx Ly Lz 2 2 z ∧ (Lx = 3 ∧ 5 ≤ Ly) ∧
      probeKeys Lx Ly Lz a x y z = [[2, 3, z], [2, 4, z - 1], [2, 3, z - 2]]) ∨
    (a = 0 ∧ x = 2 ∧ z = 2 ∧ QY Lx Ly Lz 2 y 2 ∧
      probeKeys Lx Ly Lz a x y z = [[3, y, 2], [4, y - 1, 2], [3, y - 2, 2]]) ∨
    (a = 0 ∧ y = 2 ∧ z = 2 ∧ QX Lx Ly Lz x 2 2 ∧
      probeKeys Lx Ly Lz a x y z = [[x, 3, 2], [x - 1, 4, 2]]) ∨
    (a = 0 ∧ (x + y + z) % 4 = 0 ∧ z < 2 * (Lz : Int) - 2 ∧ ¬ PT Lx Ly Lz 0 x y (z + 2) ∧
      probeKeys Lx Ly Lz a x y z = [[x, y, z + 1]]) := by
  obtain ⟨ha, hv, hp, hc⟩ := hs
  have hv' := hv
  unfold VertexLoc inE2 inE at hv'
  unfold SelC at hc
  unfold probeKeys
  rcases hc with rfl | rfl | ⟨rfl, hc⟩ | ⟨rfl, hc⟩
  · left; exact ⟨rfl, by simp⟩
  · right; left; exact ⟨rfl, by simp⟩
  · by_cases h3 : PT Lx Ly Lz 3 x y z
    · right; right; right; left
      rcases hc with hc | hc
      · exact absurd h3 hc
      · exact ⟨rfl, hc, by simp [h3]⟩
    · right; right; left
      exact ⟨rfl, h3, by simp [h3]⟩
  · by_cases hx : x = 2 * (Lx : Int) - 2
    · right; right; right; right; left
      exact ⟨rfl, hx, by simp [hx]⟩
    · by_cases h2 : (x + y + z) % 4 = 2
      · right; right; right; right; right; left
        have hz : 2 ≤ z := by
          rcases hc with hc | hc | hc | hc | hc | hc
          · exact absurd hc hx
          · exact hc.2
          · omega
          · unfold QC at hc; omega
          · unfold QY at hc; omega
          · unfold QX at hc; omega
        exact ⟨rfl, hx, h2, hz, by simp [hx, h2]⟩
      · by_cases hq : QC Lx Ly Lz x y z
        · have hq' := hq
          unfold QC at hq'
          obtain ⟨hx2, hy2, _, _, _, hgd⟩ := hq'
          by_cases h4 : 4 ≤ Lx
          · right; right; right; right; right; right; left
            refine ⟨rfl, hx2, hy2, ?_, ⟨h4, by omega⟩, ?_⟩
            · rw [hx2, hy2] at hq; exact hq
            · rw [if_neg (by decide), if_neg (by decide), if_neg (by decide), if_neg hx, if_neg h2,
                if_pos hq, if_pos h4]
          · right; right; right; right; right; right; right; left
            refine ⟨rfl, hx2, hy2, ?_, by omega, ?_⟩
            · rw [hx2, hy2] at hq; exact hq
            · rw [if_neg (by decide), if_neg (by decide), if_neg (by decide), if_neg hx, if_neg h2,
                if_pos hq, if_neg h4]
        · by_cases hqy : QY Lx Ly Lz x y z
          · have hq' := hqy
            unfold QY at hq'
            obtain ⟨hx2, _, _, hz2, _⟩ := hq'
            right; right; right; right; right; right; right; right; left
            refine ⟨rfl, hx2, hz2, ?_, ?_⟩
            · rw [hx2, hz2] at hqy; exact hqy
            · rw [if_neg (by decide), if_neg (by decide), if_neg (by decide), if_neg hx, if_neg h2,
                if_neg hq, if_pos hqy]
          · by_cases hqx : QX Lx Ly Lz x y z
            · have hq' := hqx
              unfold QX at hq'
              obtain ⟨_, _, hy2, hz2, _⟩ := hq'
              right; right; right; right; right; right; right; right; right; left
              refine ⟨rfl, hy2, hz2, ?_, ?_⟩
              · rw [hy2, hz2] at hqx; exact hqx
              · rw [if_neg (by decide), if_neg (by decide), if_neg (by decide), if_neg hx, if_neg h2,
                  if_neg hq, if_neg hqy, if_pos hqx]
            · right; right; right; right; right; right; right; right; right; right
              rcases hc with hc | hc | hc | hc | hc | hc
              · exact absurd hc hx
              · exact absurd hc.1 h2
              · exact ⟨rfl, hc.1, hc.2.1, hc.2.2, by simp [hx, h2, hq, hqy, hqx]⟩
              · exact absurd hc hq
              · exact absurd hc hqy
              · exact absurd hc hqx

theorem probeKeys_qubits (hs : TS Lx Ly Lz a x y z) :
    ∀ q ∈ probeKeys Lx Ly Lz a x y z, q ∈ qubits Lx Ly Lz := by
  have hv := hs.2.1
  have hp := hs.2.2.1
  have hv' := hv
  unfold VertexLoc inE2 inE at hv'
  rcases probeKeys_cases hs with ⟨rfl, e⟩ | ⟨rfl, e⟩ | ⟨rfl, _, e⟩ | ⟨rfl, _, e⟩ | ⟨rfl, _, e⟩ |
    ⟨rfl, _, h2, hz, e⟩ | ⟨rfl, rfl, rfl, hq, hg, e⟩ | ⟨rfl, rfl, rfl, hq, hg, e⟩ | ⟨rfl, rfl, rfl, hqy, e⟩ | ⟨rfl, rfl, rfl, hqx, e⟩ |
    ⟨rfl, h0, hz, _, e⟩ <;> rw [e] <;> intro q hq' <;>
    simp only [List.mem_cons, List.not_mem_nil, or_false] at hq'
  · subst hq'
    exact triKeys_sub (xleg_mem hv hp)
  · subst hq'
    exact triKeys_sub (yleg_mem hv hp)
  · subst hq'
    exact triKeys_sub (xleg_mem hv hp)
  · subst hq'
    exact triKeys_sub (yleg_mem hv hp)
  · subst hq'
    exact triKeys_sub (xleg_mem hv hp)
  · subst hq'
    have e1 := sgnZ0_neg (x := x) (y := y) (z := z) (by omega)
    have := zleg_mem hv hp (by rw [e1]; omega)
    rw [e1] at this
    exact triKeys_sub this
  · obtain ⟨q1, q2, q3⟩ := q_qubits hq hg
    rcases hq' with rfl | rfl | rfl <;> assumption
  · obtain ⟨q1, q2, q3⟩ := r_qubits hq hg
    rcases hq' with rfl | rfl | rfl <;> assumption
  · obtain ⟨q1, q2, q3⟩ := y_qubits hqy
    rcases hq' with rfl | rfl | rfl <;> assumption
  · obtain ⟨q1, q2⟩ := x_qubits hqx
    rcases hq' with rfl | rfl <;> assumption
  · subst hq'
    have e1 := sgnZ0_pos h0
    have := zleg_mem hv hp (by rw [e1]; omega)
    rw [e1] at this
    exact triKeys_sub this

theorem probeKeys_nodup (hs : TS Lx Ly Lz a x y z) : (probeKeys Lx Ly Lz a x y z).Nodup := by
  rcases probeKeys_cases hs with ⟨rfl, e⟩ | ⟨rfl, e⟩ | ⟨rfl, _, e⟩ | ⟨rfl, _, e⟩ | ⟨rfl, _, e⟩ |
    ⟨rfl, _, h2, hz, e⟩ | ⟨rfl, rfl, rfl, hq, hg, e⟩ | ⟨rfl, rfl, rfl, hq, hg, e⟩ | ⟨rfl, rfl, rfl, hqy, e⟩ | ⟨rfl, rfl, rfl, hqx, e⟩ |
    ⟨rfl, h0, hz, _, e⟩ <;> rw [e] <;>
    simp only [List.nodup_cons, List.mem_cons, List.cons.injEq, and_true, List.not_mem_nil, or_false,
      not_false_eq_true, List.nodup_nil]
  · omega
  · omega
  · omega
  · omega

theorem probeKeys_diag (hs : TS Lx Ly Lz a x y z) :
    ((probeKeys Lx Ly Lz a x y z).countP fun q => decide (q ∈ triKeys Lx Ly Lz a x y z)) % 2 = 1 := by
  have hv := hs.2.1
  have hp := hs.2.2.1
  have hv' := hv
  unfold VertexLoc inE2 inE at hv'
  rcases probeKeys_cases hs with ⟨rfl, e⟩ | ⟨rfl, e⟩ | ⟨rfl, _, e⟩ | ⟨rfl, _, e⟩ | ⟨rfl, _, e⟩ |
    ⟨rfl, _, h2, hz, e⟩ | ⟨rfl, rfl, rfl, hq, hg, e⟩ | ⟨rfl, rfl, rfl, hq, hg, e⟩ | ⟨rfl, rfl, rfl, hqy, e⟩ | ⟨rfl, rfl, rfl, hqx, e⟩ |
    ⟨rfl, h0, hz, _, e⟩ <;> rw [e]
  · have := xleg_mem hv hp
    simp [show x - 1 = x + sgnX 3 from rfl, this]
  · have := yleg_mem hv hp
    simp [show y - 1 = y + sgnY 2 from rfl, this]
  · have := xleg_mem hv hp
    simp [show x - 1 = x + sgnX 1 from rfl, this]
  · have := yleg_mem hv hp
    simp [show y - 1 = y + sgnY 1 from rfl, this]
  · have := xleg_mem hv hp
    simp [show x + 1 = x + sgnX 0 from rfl, this]
  · have e1 := sgnZ0_neg (x := x) (y := y) (z := z) (by omega)
    have := zleg_mem hv hp (by rw [e1]; omega)
    rw [e1] at this
    simp [show z - 1 = z + -1 from rfl, this]
  · rw [diag_q hq hg]
  · rw [diag_r hq hg]
  · rw [diag_y hqy]
  · rw [diag_x hqx]
  · have e1 := sgnZ0_pos h0
    have := zleg_mem hv hp (by rw [e1]; omega)
    rw [e1] at this
    simp [this]

theorem probeKeys_later {b u v w : Int} (hs : TS Lx Ly Lz a x y z) (ht : TS Lx Ly Lz b u v w)
    (hne : ¬ (a = b ∧ x = u ∧ y = v ∧ z = w))
    (hle : mu Ly Lz [a, x, y, z] ≤ mu Ly Lz [b, u, v, w]) :
    ((probeKeys Lx Ly Lz a x y z).countP fun q => decide (q ∈ triKeys Lx Ly Lz b u v w)) % 2 = 0 := by
  have hlt := mu_lex hs.1 ht.1 hs.2.1 ht.2.1 hne hle
  have hv := hs.2.1
  have single : ∀ {e : Coord}, e ∉ triKeys Lx Ly Lz b u v w →
      ([e].countP fun q => decide (q ∈ triKeys Lx Ly Lz b u v w)) % 2 = 0 := fun h => by simp [h]
  rcases probeKeys_cases hs with ⟨rfl, e⟩ | ⟨rfl, e⟩ | ⟨rfl, hn, e⟩ | ⟨rfl, hn, e⟩ | ⟨rfl, hx, e⟩ |
    ⟨rfl, hx, h2, hz, e⟩ | ⟨rfl, rfl, rfl, hq, hg, e⟩ | ⟨rfl, rfl, rfl, hq, hg, e⟩ | ⟨rfl, rfl, rfl, hqy, e⟩ |
    ⟨rfl, rfl, rfl, hqx, e⟩ | ⟨rfl, h0, hz, hn, e⟩ <;> rw [e]
  · exact single (later_3 hv ht hlt)
  · exact single (later_2 hv ht hlt)
  · exact single (later_1x hv ht hlt hn)
  · exact single (later_1y hv ht hlt hn)
  · exact single (later_0x hv ht hlt hx)
  · exact single (later_0d hv ht hlt h2)
  · exact later_q hq hg ht hlt
  · exact later_r hq hg ht hlt
  · exact later_y hqy ht hlt
  · exact later_x hqx ht hlt
  · exact single (later_0u hv ht hlt h0 hn)

end

/-- the keys and the letter of a member of the family, the keys and the letter of its probe -/
def keysOf (Lx Ly Lz : Nat) : Coord → List Coord
  | [x, y, z] => cubeKeys Lx Ly Lz x y z
  | [a, x, y, z] => triKeys Lx Ly Lz a x y z
  | _ => []
def probeKeysOf (Lx Ly Lz : Nat) : Coord → List Coord
  | [x, y, z] => [cubeProbe Lx Ly Lz x y z]
  | [a, x, y, z] => probeKeys Lx Ly Lz a x y z
  | _ => []
def probeLetterOf (s : Coord) : Pauli := if s.length = 3 then Pauli.Z else Pauli.X

theorem triangular (Lx Ly Lz : Nat) (hy : 1 ≤ Ly) :
    Lat2D.TriangularOpProbes (lattice Lx Ly Lz) (rankFamily Lx Ly Lz) (probe Lx Ly Lz) (mu Ly Lz) := by
  refine .of_keys (keysOf Lx Ly Lz) (probeKeysOf Lx Ly Lz) Rhombic.letterOf probeLetterOf ?_ ?_ ?_ ?_ ?_ ?_
  all_goals intro s hs
  all_goals rcases mem_rankFamily.mp hs with ⟨x, y, z, rfl, hc⟩ | ⟨a, x, y, z, rfl, hts⟩
  · rfl
  · rfl
  · exact getStab_cube' Lx Ly Lz x y z
  · exact getStab_tri' Lx Ly Lz hts.1
  · exact List.nodup_singleton _
  · exact probeKeys_nodup hts
  · intro q hq
    obtain rfl := List.mem_singleton.mp hq
    exact cubeKeys_sub (cubeProbe_mem hy hc)
  · exact probeKeys_qubits hts
  · exact ⟨rfl, by simp [probeKeysOf, keysOf, cubeProbe_mem hy hc]⟩
  · exact ⟨rfl, probeKeys_diag hts⟩
  · intro t ht hne hle hanti
    rcases mem_rankFamily.mp ht with ⟨u, v, w, rfl, hc'⟩ | ⟨b, u, v, w, rfl, htt⟩
    · have : cubeProbe Lx Ly Lz x y z ∉ cubeKeys Lx Ly Lz u v w := fun h =>
        later_cube hy hc hc' (by rintro ⟨rfl, rfl, rfl⟩; exact hne rfl) hle h
      simp [probeKeysOf, keysOf, this]
    · exact absurd hanti (Bool.false_ne_true)
  · intro t ht hne hle hanti
    rcases mem_rankFamily.mp ht with ⟨u, v, w, rfl, hc'⟩ | ⟨b, u, v, w, rfl, htt⟩
    · exact absurd hanti (Bool.false_ne_true)
    · exact probeKeys_later hts htt (by rintro ⟨rfl, rfl, rfl, rfl⟩; exact hne rfl) hle

theorem indep_rankFamily (Lx Ly Lz : Nat) (hy : 1 ≤ Ly) :
    Lat2D.IndepGenerators (lattice Lx Ly Lz) (rankFamily Lx Ly Lz) :=
  Lat2D.indep_of_probes (triangular Lx Ly Lz hy)

end Panqec.HollowRhombicCode
