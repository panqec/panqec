/-
RhombicPlanarCode, all sizes (`Lx, Ly ≥ 2`), C17: the parity argument.

A dict operator `b` that commutes with every stabilizer generator (coloured cubes: X on the edges
that are qubits; triangles `(axis, v)`: Z on the legs that are qubits):

* **`X̄`** (all x- and y-edges of the plane `z = 0`) has the `Lz` translates `z = 2i`; consecutive
  translates differ by the coloured cubes of the slab between them, the half cubes `y = -1`,
  `y = 2Ly - 1` of the rough boundaries included (`Lat2D.slab_checker_open`).
* **`Z̄`** (the x-edges `(2Lx-1, 2Ly-2, z)`, all `z`) is equivalent to each of the
  `Lx·Ly + (Lx-1)(Ly-1)` vertical stacks of x-edges `(2j+1, 2k, ·)` and of y-edges `(2j+2, 2k+1, ·)`:
  the product of the triangles of one axis over the vertical stack of vertices `(x, y, ·)` is the
  stack of their x-legs times the stack of their y-legs — the z-legs point alternately up and down
  and cancel in pairs (`Lat2D.rsum_updown_even`); the four triangles around a cell of the xy grid tie the
  four x-stacks at its corners to the y-stack at its centre (`Lat2D.cells_const`).
-/
import PanqecVerif.Proofs.DistCheckerboardOpen
import PanqecVerif.Proofs.DistLat3Db
import PanqecVerif.Proofs.LatRhombicPlanarCodeWF

namespace Panqec.RhombicPlanarCode
open Panqec.Lat3Db Panqec.Rhombic
open Panqec.Lat2D (rsum rsum2 rsum_congr rsum_add rsum_even plane2 countP_plane2 ind)

/-- indicator restricted to the qubits: `0` outside the lattice -/
def indQ (Lx Ly Lz : Nat) (P : Pauli) (b : Op) (q : Coord) : Nat :=
  if isQubit Lx Ly Lz q = true then ind P b q else 0

variable {Lx Ly Lz : Nat}

theorem indQ_of {x y z : Int} (P : Pauli) (b : Op)
    (h : QX Lx Ly Lz x y z ∨ QY Lx Ly Lz x y z ∨ QZ Lx Ly Lz x y z) :
    indQ Lx Ly Lz P b [x, y, z] = ind P b [x, y, z] := by
  unfold indQ; rw [if_pos ((isQubit_iff Lx Ly Lz x y z).mpr h)]

theorem indQ_of_not {x y z : Int} (P : Pauli) (b : Op)
    (h : ¬ (QX Lx Ly Lz x y z ∨ QY Lx Ly Lz x y z ∨ QZ Lx Ly Lz x y z)) :
    indQ Lx Ly Lz P b [x, y, z] = 0 := by
  unfold indQ; rw [if_neg (fun h' => h ((isQubit_iff Lx Ly Lz x y z).mp h'))]

/-- no qubit has a negative y coordinate (the half cubes `y = −1` reach below the lattice) -/
theorem indQ_of_neg {p q r : Int} (P : Pauli) (b : Op) (h : q < 0) : indQ Lx Ly Lz P b [p, q, r] = 0 :=
  indQ_of_not P b (by unfold QX QY QZ R0 R1; omega)

def CommStabs (Lx Ly Lz : Nat) (b : Op) : Prop :=
  ∀ s ∈ (lattice Lx Ly Lz).stabs, opAntiCount ((lattice Lx Ly Lz).getStab s) b % 2 = 0

theorem opAntiCount_keys (L : List Coord) (P : Pauli) (b : Op) :
    opAntiCount (constOp (L.filter (isQubit Lx Ly Lz)) P) b = (L.map (indQ Lx Ly Lz P b)).sum := by
  rw [opAntiCount_constOp_hit]
  induction L with
  | nil => rfl
  | cons q L ih =>
    rw [List.map_cons, List.sum_cons, ← ih, List.filter_cons]
    unfold indQ Lat2D.ind
    split
    · rw [List.countP_cons]; omega
    · rw [Nat.zero_add]

theorem cube_even {b : Op} (hb : CommStabs Lx Ly Lz b) {x y z : Int} (hv : SC Lx Ly Lz x y z)
    {xm xp ym yp zm zp : Int} (e1 : x - 1 = xm) (e2 : x + 1 = xp) (e3 : y - 1 = ym)
    (e4 : y + 1 = yp) (e5 : z - 1 = zm) (e6 : z + 1 = zp) :
    (indQ Lx Ly Lz Pauli.X b [xp, yp, z] + indQ Lx Ly Lz Pauli.X b [xm, ym, z]
      + indQ Lx Ly Lz Pauli.X b [xp, ym, z] + indQ Lx Ly Lz Pauli.X b [xm, yp, z]
      + indQ Lx Ly Lz Pauli.X b [xp, y, zp] + indQ Lx Ly Lz Pauli.X b [xm, y, zm]
      + indQ Lx Ly Lz Pauli.X b [xp, y, zm] + indQ Lx Ly Lz Pauli.X b [xm, y, zp]
      + indQ Lx Ly Lz Pauli.X b [x, yp, zp] + indQ Lx Ly Lz Pauli.X b [x, ym, zm]
      + indQ Lx Ly Lz Pauli.X b [x, ym, zp] + indQ Lx Ly Lz Pauli.X b [x, yp, zm]) % 2 = 0 := by
  have h : opAntiCount (getStab Lx Ly Lz [x, y, z]) b % 2 = 0 :=
    hb [x, y, z] ((mem_stabs_cube Lx Ly Lz x y z).mpr hv)
  rw [getStab_cube Lx Ly Lz x y z hv, cubeKeys, opAntiCount_keys] at h
  subst e1 e2 e3 e4 e5 e6
  simp only [cubeLocs, List.map_cons, List.map_nil, List.sum_cons, List.sum_nil] at h
  omega

theorem tri_even {b : Op} (hb : CommStabs Lx Ly Lz b) {a x y z : Int} (hv : ST Lx Ly Lz a x y z) :
    (indQ Lx Ly Lz Pauli.Z b [x + sgnX a, y, z] + indQ Lx Ly Lz Pauli.Z b [x, y + sgnY a, z]
      + indQ Lx Ly Lz Pauli.Z b [x, y, z + sgnZ a x y z]) % 2 = 0 := by
  have h : opAntiCount (getStab Lx Ly Lz [a, x, y, z]) b % 2 = 0 :=
    hb [a, x, y, z] ((mem_stabs_tri Lx Ly Lz a x y z).mpr hv)
  rw [getStab_tri Lx Ly Lz a x y z hv, triKeys, opAntiCount_keys] at h
  simp only [triLocs, List.map_cons, List.map_nil, List.sum_cons, List.sum_nil] at h
  omega

theorem sgnZ_par0 {a x y z : Int} (h : (x + y + z) % 4 = 0) :
    sgnZ a x y z = if a = 0 ∨ a = 1 then 1 else -1 := by unfold sgnZ; rw [if_pos h]
theorem sgnZ_par2 {a x y z : Int} (h : ¬ (x + y + z) % 4 = 0) :
    sgnZ a x y z = if a = 2 ∨ a = 3 then 1 else -1 := by unfold sgnZ; rw [if_neg h]

/-- along a vertical stack of vertices the z-leg of the triangles of one axis points alternately
    up and down -/
theorem sgnZ_stack (a vx vy : Int) (ha : IsAxis a) (hx : vx % 2 = 0) (hy : vy % 2 = 0) :
    ∃ e : Nat, e < 2 ∧ ∀ m : Nat, sgnZ a vx vy (2 * (m : Int)) = if m % 2 = e then 1 else -1 := by
  -- the vertices of the stack with `(x + y + z) % 4 = 0` are those with `m` of one parity
  obtain ⟨c, hc, hpar⟩ : ∃ c : Nat, c < 2 ∧ ∀ m : Nat, (vx + vy + 2 * (m : Int)) % 4 = 0 ↔ m % 2 = c := by
    by_cases hp : (vx + vy) % 4 = 0
    · exact ⟨0, by omega, fun m => by omega⟩
    · exact ⟨1, by omega, fun m => by omega⟩
  unfold IsAxis at ha
  by_cases h : a = 0 ∨ a = 1
  · refine ⟨c, hc, fun m => ?_⟩
    by_cases hm : m % 2 = c
    · rw [sgnZ_par0 ((hpar m).mpr hm), if_pos h, if_pos hm]
    · rw [sgnZ_par2 (mt (hpar m).mp hm), if_neg (by omega), if_neg hm]
  · refine ⟨1 - c, by omega, fun m => ?_⟩
    by_cases hm : m % 2 = c
    · rw [sgnZ_par0 ((hpar m).mpr hm), if_neg h, if_neg (by omega)]
    · rw [sgnZ_par2 (mt (hpar m).mp hm), if_pos (by omega), if_pos (by omega)]

/-- the product of the triangles of axis `a` over the vertical stack of vertices `(vx, vy, ·)`: the
    stack of x-legs and the stack of y-legs together carry an even number of hits -/
theorem tri_stack {b : Op} (hb : CommStabs Lx Ly Lz b) {a vx vy : Int} (ha : IsAxis a)
    (hx : R2 (2*Lx) vx) (hy : R0 (2*Ly) vy) (hr : ¬ Rough Ly a vy) :
    (rsum Lz (fun m => indQ Lx Ly Lz Pauli.Z b [vx + sgnX a, vy, 2 * (m : Int)])
      + rsum Lz (fun m => indQ Lx Ly Lz Pauli.Z b [vx, vy + sgnY a, 2 * (m : Int)])) % 2 = 0 := by
  obtain ⟨e, he, hs⟩ := sgnZ_stack a vx vy ha hx.1 hy.1
  have h3 : rsum Lz (fun m => indQ Lx Ly Lz Pauli.Z b [vx, vy, 2 * (m : Int) + sgnZ a vx vy (2 * (m : Int))])
      % 2 = 0 := by
    have hu := Lat2D.rsum_updown_even e he (fun t => indQ Lx Ly Lz Pauli.Z b [vx, vy, t]) Lz
      (indQ_of_not _ _ (by unfold QX QY QZ R0 R1 R2; omega))
      (indQ_of_not _ _ (by unfold QX QY QZ R0 R1 R2; omega))
    rw [← hu]
    congr 1
    apply rsum_congr
    intro m _
    rw [hs m]
    by_cases hm : m % 2 = e
    · rw [if_pos hm, if_pos hm]
    · rw [if_neg hm, if_neg hm]; rfl
  have hall : rsum Lz (fun m => indQ Lx Ly Lz Pauli.Z b [vx + sgnX a, vy, 2 * (m : Int)]
      + indQ Lx Ly Lz Pauli.Z b [vx, vy + sgnY a, 2 * (m : Int)]
      + indQ Lx Ly Lz Pauli.Z b [vx, vy, 2 * (m : Int) + sgnZ a vx vy (2 * (m : Int))]) % 2 = 0 :=
    rsum_even Lz (fun m hm => tri_even hb ⟨ha, hx, hy, by unfold R0; omega, hr⟩)
  rw [rsum_add, rsum_add] at hall
  omega

/-- the vertical stack of edges over the point `(p, q)` of the xy plane: x-edges over
    `(2j + 1, 2k)`, y-edges over `(2j + 2, 2k + 1)` -/
def stack (Lz : Nat) (p q : Int) : List Coord := (pyRange2 0 (2 * Lz)).map fun z => [p, q, z]

/-- the hits on a vertical stack of qubits, as the sum that `stacks_const` speaks of -/
theorem countP_stack (b : Op) {p q : Int}
    (hq : ∀ m : Nat, m < Lz → QX Lx Ly Lz p q (2 * (m : Int)) ∨ QY Lx Ly Lz p q (2 * (m : Int)) ∨
      QZ Lx Ly Lz p q (2 * (m : Int))) :
    (stack Lz p q).countP (opHit Pauli.Z b) =
      rsum Lz (fun m => indQ Lx Ly Lz Pauli.Z b [p, q, 2 * (m : Int)]) := by
  unfold stack
  rw [countP_lineE]
  apply rsum_congr
  intro m hm
  rw [indQ_of _ _ (hq m hm)]
  rfl

/-- a stack of qubits whose sum has the parity of the last x-stack is hit as often, mod 2, as `Z̄` -/
theorem parity_stack (b : Op) (hx : 1 ≤ Lx) (hy : 1 ≤ Ly) {p q : Int}
    (hq : ∀ m : Nat, m < Lz → QX Lx Ly Lz p q (2 * (m : Int)) ∨ QY Lx Ly Lz p q (2 * (m : Int)) ∨
      QZ Lx Ly Lz p q (2 * (m : Int)))
    (h : rsum Lz (fun m => indQ Lx Ly Lz Pauli.Z b [p, q, 2 * (m : Int)]) % 2 =
      rsum Lz (fun m => indQ Lx Ly Lz Pauli.Z b
        [2 * ((Lx - 1 : Nat) : Int) + 1, 2 * ((Ly - 1 : Nat) : Int), 2 * (m : Int)]) % 2) :
    (stack Lz p q).countP (opHit Pauli.Z b) % 2 = (lineKeys Lx Ly Lz).countP (opHit Pauli.Z b) % 2 := by
  have e : lineKeys Lx Ly Lz = stack Lz (2 * ((Lx - 1 : Nat) : Int) + 1) (2 * ((Ly - 1 : Nat) : Int)) := by
    unfold lineKeys stack
    rw [show 2 * (Lx : Int) - 1 = 2 * ((Lx - 1 : Nat) : Int) + 1 by omega,
      show 2 * (Ly : Int) - 2 = 2 * ((Ly - 1 : Nat) : Int) by omega]
  rw [e, countP_stack b hq, countP_stack b]
  · exact h
  · exact fun m hm => Or.inl (by unfold QX R0 R1; omega)

section zparity
variable {b : Op} (hb : CommStabs Lx Ly Lz b)
include hb

theorem stacks_const (hx : 2 ≤ Lx) (hy : 2 ≤ Ly) :
    (∀ j k, j < Lx → k < Ly →
      rsum Lz (fun m => indQ Lx Ly Lz Pauli.Z b [2 * (j : Int) + 1, 2 * (k : Int), 2 * (m : Int)]) % 2 =
      rsum Lz (fun m => indQ Lx Ly Lz Pauli.Z b
        [2 * ((Lx - 1 : Nat) : Int) + 1, 2 * ((Ly - 1 : Nat) : Int), 2 * (m : Int)]) % 2) ∧
    (∀ j k, j + 1 < Lx → k + 1 < Ly →
      rsum Lz (fun m => indQ Lx Ly Lz Pauli.Z b [2 * (j : Int) + 2, 2 * (k : Int) + 1, 2 * (m : Int)]) % 2 =
      rsum Lz (fun m => indQ Lx Ly Lz Pauli.Z b
        [2 * ((Lx - 1 : Nat) : Int) + 1, 2 * ((Ly - 1 : Nat) : Int), 2 * (m : Int)]) % 2) := by
  refine Lat2D.cells_const Lx Ly hx hy
    (fun j k => rsum Lz (fun m => indQ Lx Ly Lz Pauli.Z b [2 * (j : Int) + 1, 2 * (k : Int), 2 * (m : Int)]))
    (fun j k => rsum Lz (fun m => indQ Lx Ly Lz Pauli.Z b [2 * (j : Int) + 2, 2 * (k : Int) + 1, 2 * (m : Int)]))
    ?_
  intro j k hj hk
  have hvx : R2 (2*Lx) (2 * (j : Int) + 2) := by unfold R2; omega
  have hvy1 : R0 (2*Ly) (2 * (k : Int)) := by unfold R0; omega
  have hvy2 : R0 (2*Ly) (2 * (k : Int) + 2) := by unfold R0; omega
  have t0 := tri_stack hb (a := 0) (Or.inl rfl) hvx hvy1 (by unfold Rough; omega)
  have t3 := tri_stack hb (a := 3) (Or.inr (Or.inr (Or.inr rfl))) hvx hvy1 (by unfold Rough; omega)
  have t1 := tri_stack hb (a := 1) (Or.inr (Or.inl rfl)) hvx hvy2 (by unfold Rough; omega)
  have t2 := tri_stack hb (a := 2) (Or.inr (Or.inr (Or.inl rfl))) hvx hvy2 (by unfold Rough; omega)
  simp only [sgnX, sgnY, Int.reduceEq, or_self, or_false, false_or, if_true, if_false] at t0 t3 t1 t2
  have c1 : 2 * (j : Int) + 2 + 1 = 2 * ((j + 1 : Nat) : Int) + 1 := by omega
  have c2 : 2 * (j : Int) + 2 + -1 = 2 * (j : Int) + 1 := by omega
  have c3 : 2 * (k : Int) + 2 + -1 = 2 * (k : Int) + 1 := by omega
  have c4 : 2 * (k : Int) + 2 = 2 * ((k + 1 : Nat) : Int) := by omega
  rw [c1] at t0 t2
  rw [c2] at t3 t1
  rw [c3, c4] at t1 t2
  exact ⟨t3, t0, t1, t2⟩

end zparity

/-- `X̄` (all x- and y-edges of the plane `z = 0`) translated along z: the plane `z = 2i` -/
def tSheet (Lx Ly : Nat) (i : Nat) : List Coord :=
  plane2 Lx Ly (fun j k => [2 * (j : Int) + 1, 2 * (k : Int), 2 * (i : Int)]) ++
  plane2 (Lx - 1) (Ly - 1) (fun j k => [2 * (j : Int) + 2, 2 * (k : Int) + 1, 2 * (i : Int)])

/-- the count over a sheet as the two double sums of the slab argument -/
theorem countP_tSheet (b : Op) (hx : 1 ≤ Lx) (hy : 1 ≤ Ly) {i : Nat} (hi : i < Lz) :
    (tSheet Lx Ly i).countP (opHit Pauli.X b) =
      rsum2 Lx Ly (fun j k => indQ Lx Ly Lz Pauli.X b [2 * (j : Int) + 1, 2 * (k : Int), 2 * (i : Int)])
      + rsum2 Lx Ly (fun j k => indQ Lx Ly Lz Pauli.X b [2 * (j : Int), 2 * (k : Int) + 1, 2 * (i : Int)])
      := by
  unfold tSheet
  rw [List.countP_append, countP_plane2, countP_plane2]
  congr 1
  · apply Lat2D.rsum2_congr
    intro j k hj hk
    rw [indQ_of _ _ (Or.inl (by unfold QX R0 R1; omega))]
    rfl
  · obtain ⟨a, rfl⟩ : ∃ a, Lx = a + 1 := ⟨Lx - 1, by omega⟩
    obtain ⟨c, rfl⟩ : ∃ c, Ly = c + 1 := ⟨Ly - 1, by omega⟩
    simp only [Nat.add_sub_cancel]
    rw [Lat2D.rsum2_inner_box _ a c
      (fun k => indQ_of_not _ _ (by unfold QX QY QZ R0 R1 R2; omega))
      (fun j => indQ_of_not _ _ (by unfold QX QY QZ R0 R1 R2; omega))]
    apply Lat2D.rsum2_congr
    intro j k hj hk
    have e : 2 * ((j + 1 : Nat) : Int) = 2 * (j : Int) + 2 := by omega
    show _ = indQ (a + 1) (c + 1) Lz Pauli.X b [2 * ((j + 1 : Nat) : Int), 2 * (k : Int) + 1, 2 * (i : Int)]
    rw [e, indQ_of _ _ (Or.inr (Or.inl (by unfold QY R0 R1 R2; omega)))]
    rfl

/-- `X̄`: planes `z = 2i`, through the coloured cubes `(2j + 1, 2k + 1, 2i + 1)` and the half cubes
    `(2j + 1, -1, 2i + 1)` -/
theorem parity_X {b : Op} (hb : CommStabs Lx Ly Lz b) (hx : 1 ≤ Lx) (hy : 1 ≤ Ly) (i : Nat)
    (hi : i < Lz) :
    (tSheet Lx Ly i).countP (opHit Pauli.X b) % 2 = (tSheet Lx Ly 0).countP (opHit Pauli.X b) % 2 := by
  rw [countP_tSheet b hx hy hi, countP_tSheet b hx hy (by omega : 0 < Lz)]
  refine Lat2D.slab_checker_open Lx Ly Lz
    (fun i j k => indQ Lx Ly Lz Pauli.X b [2 * (j : Int) + 1, 2 * (k : Int), 2 * (i : Int)])
    (fun i j k => indQ Lx Ly Lz Pauli.X b [2 * (j : Int), 2 * (k : Int) + 1, 2 * (i : Int)])
    (fun i j k => indQ Lx Ly Lz Pauli.X b [2 * (j : Int), 2 * (k : Int), 2 * (i : Int) + 1])
    ?_ ?_ ?_ ?_ ?_ i hi
  · intro i j k h
    exact indQ_of_not _ _ (by unfold QX QY QZ R0 R1 R2; omega)
  · intro i j k h
    exact indQ_of_not _ _ (by unfold QX QY QZ R0 R1 R2; omega)
  · intro i j k h
    exact indQ_of_not _ _ (by unfold QX QY QZ R0 R1 R2; omega)
  · intro i hi j k hj hk hc
    have hv : SC Lx Ly Lz (2 * (j : Int) + 1) (2 * (k : Int) + 1) (2 * (i : Int) + 1) := by
      unfold SC R1 RM; omega
    have h := cube_even hb hv (xm := 2 * (j : Int)) (xp := 2 * ((j + 1 : Nat) : Int))
      (ym := 2 * (k : Int)) (yp := 2 * ((k + 1 : Nat) : Int))
      (zm := 2 * (i : Int)) (zp := 2 * ((i + 1 : Nat) : Int)) (by omega) (by omega) (by omega)
      (by omega) (by omega) (by omega)
    omega
  · intro i hi j hj hc
    have hv : SC Lx Ly Lz (2 * (j : Int) + 1) (-1) (2 * (i : Int) + 1) := by
      unfold SC R1 RM; omega
    have h := cube_even hb hv (xm := 2 * (j : Int)) (xp := 2 * ((j + 1 : Nat) : Int))
      (ym := -2) (yp := 2 * ((0 : Nat) : Int))
      (zm := 2 * (i : Int)) (zp := 2 * ((i + 1 : Nat) : Int)) (by omega) (by omega) (by omega)
      (by omega) (by omega) (by omega)
    -- the eight edges below `y = 0` drop out
    simp only [indQ_of_neg (q := -2) _ _ (by decide), indQ_of_neg (q := -1) _ _ (by decide)] at h
    omega

end Panqec.RhombicPlanarCode
