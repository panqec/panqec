/-
`Servable` for `RotatedPlanar3DCode` and `RotatedToric3DCode`, all sizes of their families.
-/
import PanqecVerif.Proofs.GuiReprEdits
import PanqecVerif.Proofs.LatRotatedPlanar3DCodeCss
import PanqecVerif.Proofs.LatRotatedToric3DCodeCommPair

namespace Panqec.GuiRepr
open Panqec.Gui

theorem vertexOrFace_mem (b : Bool) : (if b then "vertex" else "face") ∈ surfaceTypes := by
  cases b <;> decide

theorem rotatedPlanar3D_tables :
    classTablesOk Generated.GuiFull.tables "RotatedPlanar3DCode" surfaceTypes = true := by decide +kernel

theorem rotatedPlanar3D_servable (Lx Ly Lz : Nat) (hx : 1 ≤ Lx) (hy : 1 ≤ Ly) (hz : 1 ≤ Lz)
    (name : String) (hn : name = "None" ∨ name = "XZZX") :
    Servable (rotatedPlanar3D Lx Ly Lz) Generated.GuiFull.tables surfaceTypes name where
  wf := RotatedPlanar3DCode.wf Lx Ly Lz hx hy hz
  tables := rotatedPlanar3D_tables
  stab_types := by
    intro s hs
    have hb : RotatedPlanar3DCode.isStab Lx Ly Lz s = true := List.contains_iff_mem.mpr hs
    obtain ⟨x, y, z, rfl⟩ := RotatedPlanar3DCode.mem_stabs_shape Lx Ly Lz s hs
    dsimp only [rotatedPlanar3D, RotatedPlanar3DCode.stabilizerType]
    exact guarded_type hb ⟨_, vertexOrFace_mem _, rfl⟩
  qubit_axes := by
    intro q hq
    obtain ⟨x, y, z, rfl⟩ := RotatedPlanar3DCode.mem_qubits_shape Lx Ly Lz q hq
    exact ⟨_, RotatedPlanar3DCode.qubitAxis_qubit Lx Ly Lz x y z hq⟩
  stab_edits := rotated3DStabEdits_simple
  qubit_edits := rotated3DQubitEdits_simple
  deformation := by
    refine hn.imp_right fun h q hq => ?_
    obtain ⟨x, y, z, rfl⟩ := RotatedPlanar3DCode.mem_qubits_shape Lx Ly Lz q hq
    show (RotatedPlanar3DCode.getDeformation Lx Ly Lz name "z" [x, y, z]).isSome = true
    rw [h, RotatedPlanar3DCode.getDeformation_rule,
      RotatedPlanar3DCode.qubitAxis_qubit Lx Ly Lz x y z hq]
    simp

theorem rotatedToric3D_tables :
    classTablesOk Generated.GuiFull.tables "RotatedToric3DCode" surfaceTypes = true := by decide +kernel

theorem rotatedToric3D_servable (Lx Ly Lz : Nat) (hx : 2 ≤ Lx) (hy : 2 ≤ Ly)
    (hodd : ¬ (Lx % 2 = 1 ∧ Ly % 2 = 1)) (name : String) (hn : name = "None" ∨ name = "XZZX") :
    Servable (rotatedToric3D Lx Ly Lz) Generated.GuiFull.tables surfaceTypes name where
  wf := RotatedToric3DCode.wf ⟨hx, hy, hodd⟩
  tables := rotatedToric3D_tables
  stab_types := by
    intro s hs
    have hb : RotatedToric3DCode.isStab Lx Ly Lz s = true := List.contains_iff_mem.mpr hs
    obtain ⟨x, y, z, rfl⟩ := RotatedToric3DCode.mem_stabs_shape Lx Ly Lz s hs
    dsimp only [rotatedToric3D, RotatedToric3DCode.stabilizerType]
    exact guarded_type hb ⟨_, vertexOrFace_mem _, rfl⟩
  qubit_axes := by
    intro q hq
    obtain ⟨x, y, z, rfl⟩ := RotatedToric3DCode.mem_qubits_shape Lx Ly Lz q hq
    exact ⟨_, RotatedToric3DCode.qubitAxis_qubit Lx Ly Lz x y z hq⟩
  stab_edits := rotated3DStabEdits_simple
  qubit_edits := rotated3DQubitEdits_simple
  deformation := by
    refine hn.imp_right fun h q hq => ?_
    obtain ⟨x, y, z, rfl⟩ := RotatedToric3DCode.mem_qubits_shape Lx Ly Lz q hq
    show (RotatedToric3DCode.getDeformation Lx Ly Lz name none [x, y, z]).isSome = true
    rw [h, RotatedToric3DCode.getDeformation_rule,
      RotatedToric3DCode.qubitAxis_qubit Lx Ly Lz x y z hq]
    simp

end Panqec.GuiRepr
