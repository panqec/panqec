/-
What the hand-written colour-code lattice models share (core Lean only): Python `range` with a step,
the qubit list derived from the stabilizers (first occurrences), the X and the Z copy of every face
(`both`), and list facts about blocks of nested loops and overlaps of key lists.
-/
import PanqecVerif.Proofs.Lat2DBase
import PanqecVerif.Proofs.LatCyclic
import PanqecVerif.Proofs.RankCore
import PanqecVerif.Model.Lattices.ColorBase

namespace Panqec.Color
open Panqec.Lat2D

theorem mem_pyRangeStep {a : Nat} {b x : Int} {s : Nat} (hs : 0 < s) :
    x ∈ pyRangeStep a b s ↔ (a : Int) ≤ x ∧ x < b ∧ (x - a) % s = 0 :=
  Cyclic.mem_py_range hs

theorem nodup_pyRangeStep (a : Nat) (b : Int) (step : Nat) (hs : 0 < step) :
    (pyRangeStep a b step).Nodup :=
  nodup_map_ofNat_range' a _ hs

theorem appendNew_cons (acc : List Coord) (q : Coord) (ks : List Coord) :
    appendNew acc (q :: ks) = appendNew (if acc.contains q then acc else acc ++ [q]) ks := rfl

theorem mem_appendNew : ∀ (ks acc : List Coord) (q : Coord),
    q ∈ appendNew acc ks ↔ q ∈ acc ∨ q ∈ ks
  | [], acc, q => by simp [appendNew]
  | k :: ks, acc, q => by
    rw [appendNew_cons, mem_appendNew ks, List.mem_cons]
    by_cases h : acc.contains k = true
    · rw [if_pos h]
      have hk : k ∈ acc := by simpa using h
      exact ⟨Or.imp_right Or.inr,
        fun h1 => h1.elim Or.inl fun h2 => h2.elim (fun e => Or.inl (e ▸ hk)) Or.inr⟩
    · rw [if_neg h]
      simp only [List.mem_append, List.mem_singleton, or_assoc]

theorem nodup_appendNew : ∀ (ks acc : List Coord), acc.Nodup → (appendNew acc ks).Nodup
  | [], acc, h => by simpa [appendNew] using h
  | k :: ks, acc, h => by
    rw [appendNew_cons]
    apply nodup_appendNew ks
    by_cases hk : acc.contains k = true
    · rw [if_pos hk]; exact h
    · rw [if_neg hk]
      have hk' : k ∉ acc := by simpa using hk
      rw [List.nodup_append]
      refine ⟨h, by simp, ?_⟩
      intro a ha b hb
      simp only [List.mem_singleton] at hb
      subst hb
      intro e; subst e; exact hk' ha

theorem derived_aux (getStab : Coord → Op) : ∀ (ss acc : List Coord),
    (acc.Nodup → (ss.foldl (fun acc s => appendNew acc ((getStab s).map Prod.fst)) acc).Nodup) ∧
    ∀ q, q ∈ ss.foldl (fun acc s => appendNew acc ((getStab s).map Prod.fst)) acc ↔
      q ∈ acc ∨ ∃ s ∈ ss, q ∈ (getStab s).map Prod.fst
  | [], acc => by simp
  | s :: ss, acc => by
    rw [List.foldl_cons]
    obtain ⟨ih1, ih2⟩ := derived_aux getStab ss (appendNew acc ((getStab s).map Prod.fst))
    refine ⟨fun h => ih1 (nodup_appendNew _ _ h), ?_⟩
    intro q
    simp only [ih2, mem_appendNew, List.mem_cons, exists_eq_or_imp, or_assoc]

theorem nodup_derivedQubits (ss : List Coord) (getStab : Coord → Op) :
    (derivedQubits ss getStab).Nodup :=
  (derived_aux getStab ss []).1 List.nodup_nil

theorem mem_derivedQubits {ss : List Coord} {getStab : Coord → Op} {q : Coord} :
    q ∈ derivedQubits ss getStab ↔ ∃ s ∈ ss, q ∈ (getStab s).map Prod.fst := by
  unfold derivedQubits
  rw [(derived_aux getStab ss []).2]
  simp

theorem mem_both {faces : List Coord} {s : Coord} :
    s ∈ both faces ↔ ∃ c ∈ faces, s = c ++ [0] ∨ s = c ++ [1] := by
  unfold both
  simp only [List.mem_flatMap, List.mem_cons, List.not_mem_nil, or_false]

theorem mem_both_iff {F : List Coord} {P : Int → Int → Prop}
    (h : ∀ {q}, q ∈ F ↔ ∃ x y, q = [x, y] ∧ P x y) {s : Coord} :
    s ∈ both F ↔ ∃ x y p, s = [x, y, p] ∧ P x y ∧ (p = 0 ∨ p = 1) := by
  rw [mem_both]
  constructor
  · rintro ⟨c, hc, e⟩
    obtain ⟨x, y, rfl, hp⟩ := h.mp hc
    rcases e with rfl | rfl
    · exact ⟨x, y, 0, rfl, hp, Or.inl rfl⟩
    · exact ⟨x, y, 1, rfl, hp, Or.inr rfl⟩
  · rintro ⟨x, y, p, rfl, hp, rfl | rfl⟩
    · exact ⟨[x, y], h.mpr ⟨x, y, rfl, hp⟩, Or.inl rfl⟩
    · exact ⟨[x, y], h.mpr ⟨x, y, rfl, hp⟩, Or.inr rfl⟩

theorem mem_both_iff' {F : List Coord} {P : Int → Int → Prop}
    (h : ∀ {q}, q ∈ F ↔ ∃ x y, q = [x, y] ∧ P x y) {x y p : Int} :
    [x, y, p] ∈ both F ↔ P x y ∧ (p = 0 ∨ p = 1) := by
  rw [mem_both_iff h]
  constructor
  · rintro ⟨x', y', p', e, hq⟩
    simp only [List.cons.injEq, and_true] at e
    rw [e.1, e.2.1, e.2.2]; exact hq
  · exact fun hq => ⟨x, y, p, rfl, hq⟩

/-- the derived qubit list of a class whose generators `(x, y, p)` have the keys `supp x y` -/
theorem mem_derived_faces {F : List Coord} {P : Int → Int → Prop} {gs : Coord → Op}
    {supp : Int → Int → List Coord} (h : ∀ {q}, q ∈ F ↔ ∃ x y, q = [x, y] ∧ P x y)
    (hg : ∀ x y p, [x, y, p] ∈ both F → (gs [x, y, p]).map Prod.fst = supp x y) {q : Coord} :
    q ∈ derivedQubits (both F) gs ↔ ∃ x y, P x y ∧ q ∈ supp x y := by
  rw [mem_derivedQubits]
  constructor
  · rintro ⟨s, hs, hq⟩
    obtain ⟨x, y, p, rfl, hp, -⟩ := (mem_both_iff h).mp hs
    rw [hg x y p hs] at hq
    exact ⟨x, y, hp, hq⟩
  · rintro ⟨x, y, hp, hq⟩
    have hs : [x, y, 0] ∈ both F := (mem_both_iff' h).mpr ⟨hp, Or.inl rfl⟩
    exact ⟨[x, y, 0], hs, by rw [hg x y 0 hs]; exact hq⟩

theorem nodup_both {faces : List Coord} (h : faces.Nodup) : (both faces).Nodup := by
  refine nodup_flatMap_of_key List.dropLast h (fun c _ => by simp) fun c _ b hb => ?_
  simp only [List.mem_cons, List.not_mem_nil, or_false] at hb
  rcases hb with rfl | rfl <;> simp

/-- `for x in xs: for y in ys(x): append((x, y))` has no duplicates -/
theorem nodup_columns {xs : List Int} (f : Int → List Int) (hx : xs.Nodup)
    (hf : ∀ x, (f x).Nodup) : (xs.flatMap fun x => (f x).map fun y => [x, y]).Nodup := by
  refine nodup_flatMap_of_key (·.getD 0 0) hx
    (fun x _ => nodup_map_of_key (·.getD 1 0) (hf x) fun _ _ => rfl) ?_
  intro x _ q hq
  obtain ⟨y, _, rfl⟩ := List.mem_map.mp hq
  rfl

theorem mem_columns {xs : List Int} {f : Int → List Int} {q : Coord} :
    (q ∈ xs.flatMap fun x => (f x).map fun y => [x, y]) ↔
      ∃ x y, x ∈ xs ∧ y ∈ f x ∧ q = [x, y] := by
  simp only [List.mem_flatMap, List.mem_map]
  constructor
  · rintro ⟨x, hx, y, hy, rfl⟩; exact ⟨x, y, hx, hy, rfl⟩
  · rintro ⟨x, y, hx, hy, rfl⟩; exact ⟨x, hx, y, hy, rfl⟩

theorem interCount_self (A : List Coord) : interCount A A = A.length := by
  unfold interCount
  rw [List.countP_eq_length]
  intro a ha
  simpa using ha

theorem length_eq_of_mem_iff {A B : List Coord} (hA : A.Nodup) (hB : B.Nodup)
    (h : ∀ q, q ∈ A ↔ q ∈ B) : A.length = B.length :=
  ((List.perm_ext_iff_of_nodup hA hB).mpr h).length_eq

theorem length_flatMap_range {α} (f : Nat → List α) (c : Nat → Nat) (hc : ∀ i, (f i).length = c i) :
    ∀ L, ((List.range L).flatMap f).length = ((List.range L).map c).sum
  | 0 => rfl
  | L + 1 => by
    rw [List.range_succ, List.flatMap_append, List.length_append, List.map_append, List.sum_append,
      length_flatMap_range f c hc L]
    simp [hc]

theorem interCount_pred (A K : List Coord) (π : Coord → Bool) (Q : List Coord)
    (hA : ∀ q ∈ A, q ∈ Q) (hK : ∀ q, q ∈ K ↔ (q ∈ Q ∧ π q = true)) :
    interCount A K = A.countP π := by
  unfold interCount
  apply List.countP_congr
  intro q hq
  simp only [List.contains_eq_mem, decide_eq_true_eq, hK]
  exact ⟨fun h => h.2, fun h => ⟨hA q hq, h⟩⟩

theorem cross_one (A B : List Coord) (hA : A.Nodup) (q0 : Coord)
    (h0 : q0 ∈ A) (h0' : q0 ∈ B) (hu : ∀ q ∈ A, q ∈ B → q = q0) : interCount A B = 1 := by
  unfold interCount
  apply countP_eq_one _ _ q0 hA h0
  · simpa using h0'
  · intro a ha h
    exact hu a ha (by simpa using h)

theorem cross_zero (A B : List Coord) (hu : ∀ q ∈ A, q ∈ B → False) : interCount A B = 0 := by
  unfold interCount
  rw [List.countP_eq_zero]
  intro a ha h
  exact hu a ha (by simpa using h)

theorem sum_const (c : Nat) : ∀ L, ((List.range L).map fun _ => c).sum = c * L
  | 0 => rfl
  | L + 1 => by
    rw [List.range_succ, List.map_append, List.sum_append, sum_const c L]
    simp [Nat.mul_add]

theorem length_both (fs : List Coord) : (both fs).length = 2 * fs.length := by
  unfold both
  induction fs with
  | nil => rfl
  | cons a fs ih => simp only [List.flatMap_cons, List.length_append, ih, List.length_cons,
      List.length_nil]; omega

theorem nodup_flatMap_of {α β} (xs : List α) (f : α → List β) (hx : xs.Nodup)
    (h1 : ∀ x ∈ xs, (f x).Nodup)
    (h2 : ∀ x ∈ xs, ∀ x' ∈ xs, x ≠ x' → ∀ q ∈ f x, q ∈ f x' → False) : (xs.flatMap f).Nodup := by
  show List.Pairwise _ _
  rw [List.pairwise_flatMap]
  refine ⟨h1, ?_⟩
  refine List.Pairwise.imp_of_mem ?_ hx
  intro a b ha hb hab q hq r hr e
  subst e
  exact h2 a ha b hb hab q hq hr

theorem nodup_blocks {α} (f : Nat → List α) (N : Nat) (h1 : ∀ i, i < N → (f i).Nodup)
    (h2 : ∀ i j, i < N → j < N → i ≠ j → ∀ q, q ∈ f i → q ∈ f j → False) :
    ((List.range N).flatMap f).Nodup :=
  nodup_flatMap_of _ f List.nodup_range (fun i hi => h1 i (List.mem_range.mp hi))
    fun i hi j hj hij q hq hq' => h2 i j (List.mem_range.mp hi) (List.mem_range.mp hj) hij q hq hq'

end Panqec.Color
