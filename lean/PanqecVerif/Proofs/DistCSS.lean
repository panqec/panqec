/-
Soundness of the CSS-restricted exhaustive check `checkExhaustiveCSS` (Model/Dist.lean).

For a code whose generators are all pure X-type or pure Z-type, the X part `(x | 0)` and the Z
part `(0 | z)` of an operator `v = (x | z)` that commutes with every generator commute with every
generator as well, `v` is their product, and neither is heavier than `v`.  If `v` is not a product
of generators, one of the two parts is not: a non-trivial logical of pure type and weight
`≤ wt v`.  So enumerating the pure X-type and pure Z-type operators below `d` suffices.
-/
import PanqecVerif.Proofs.DistExhaustive

namespace Panqec

def cnt1 (xs : List Nat) : Nat := xs.countP (· != 0)

/-- xor of the table entries selected by `xs` -/
def effList1 : List Nat → List Nat → Nat
  | e :: t, x :: xs => (if x ≠ 0 then e else 0) ^^^ effList1 t xs
  | _, _ => 0

theorem cnt1_cons_zero (xs : List Nat) : cnt1 (0 :: xs) = cnt1 xs := rfl

theorem cnt1_cons_pos {x : Nat} (h : x ≠ 0) (xs : List Nat) : cnt1 (x :: xs) = cnt1 xs + 1 :=
  List.countP_cons_of_pos (by simpa using h)

theorem effList1_of_cnt_zero : ∀ (tbl xs : List Nat), cnt1 xs = 0 → effList1 tbl xs = 0
  | [], _, _ => rfl
  | _ :: _, [], _ => rfl
  | e :: t, x :: xs, h => by
    by_cases hx : x = 0
    · subst hx
      simp [effList1, effList1_of_cnt_zero t xs h]
    · rw [cnt1_cons_pos hx] at h
      omega

theorem exhTails1_cover (T b : Nat) (f : List Nat → Nat → Bool)
    (hf : ∀ tbl acc, f tbl acc = true → ∀ xs, cnt1 xs ≤ b →
      goodEff T (acc ^^^ effList1 tbl xs) = true) :
    ∀ (tbl : List Nat) (acc : Nat), goodEff T acc = true →
      exhTails1 f tbl acc = true → ∀ xs, cnt1 xs ≤ b + 1 →
      goodEff T (acc ^^^ effList1 tbl xs) = true
  | [], acc, hg, _, xs, _ => by simpa [effList1] using hg
  | _ :: _, acc, hg, _, [], _ => by simpa [effList1] using hg
  | e :: t, acc, hg, h, x :: xs, hw => by
    simp only [exhTails1, forceNat_eq, Bool.and_eq_true] at h
    rw [effList1, ← Nat.xor_assoc]
    by_cases hx : x = 0
    · subst hx
      rw [if_neg (fun h => h rfl), Nat.xor_zero]
      exact exhTails1_cover T b f hf t acc hg h.2 xs hw
    · rw [cnt1_cons_pos hx] at hw
      rw [if_pos hx]
      exact hf t _ h.1 xs (by omega)

theorem exhB1_cover (T : Nat) : ∀ (b : Nat) (tbl : List Nat) (acc : Nat),
    exhB1 T b tbl acc = true → ∀ xs, cnt1 xs ≤ b → goodEff T (acc ^^^ effList1 tbl xs) = true
  | 0, tbl, acc, h, xs, hw => by
    rw [effList1_of_cnt_zero tbl xs (by omega), Nat.xor_zero]
    exact h
  | b + 1, tbl, acc, h, xs, hw => by
    simp only [exhB1, Bool.and_eq_true] at h
    exact exhTails1_cover T b (exhB1 T b) (exhB1_cover T b) tbl acc h.1 h.2 xs hw

/-- a pure X-type (pure Z-type) operator selects from the first (second) components only -/
theorem effList_pure : ∀ (tbl : List (Nat × Nat)) (xs : List Nat),
    effList tbl xs (List.replicate xs.length 0) = effList1 (tbl.map (·.1)) xs ∧
      effList tbl (List.replicate xs.length 0) xs = effList1 (tbl.map (·.2)) xs
  | [], xs => by simp [effList, effList1]
  | _ :: _, [] => by simp [effList, effList1]
  | (ex, ez) :: t, x :: xs => by
    simp [List.replicate_succ, effList, effList1, effList_pure t xs]

theorem cnt1_le_wtXZ : ∀ (xs zs : List Nat), xs.length = zs.length →
    cnt1 xs ≤ wtXZ xs zs ∧ cnt1 zs ≤ wtXZ xs zs
  | [], [], _ => ⟨Nat.le_refl _, Nat.le_refl _⟩
  | [], _ :: _, h => by simp at h
  | _ :: _, [], h => by simp at h
  | x :: xs, z :: zs, h => by
    have ih := cnt1_le_wtXZ xs zs (by simpa using h)
    by_cases hx : x = 0 <;> by_cases hz : z = 0
    · subst hx hz
      exact ih
    · subst hx
      rw [wtXZ_cons_pos (Or.inr hz), cnt1_cons_zero, cnt1_cons_pos hz]
      omega
    · subst hz
      rw [wtXZ_cons_pos (Or.inl hx), cnt1_cons_zero, cnt1_cons_pos hx]
      omega
    · rw [wtXZ_cons_pos (Or.inl hx), cnt1_cons_pos hx, cnt1_cons_pos hz]
      omega

theorem vxor_parts (n : Nat) (v : List Nat) (hlen : v.length = 2 * n) (hbin : ∀ x ∈ v, x < 2) :
    vxor (xPart v ++ List.replicate n 0) (List.replicate n 0 ++ zPart v) = v := by
  have hx := xPart_len hlen
  have hz := zPart_len hlen
  have h1 := (vxor_zeros (xPart v) fun x h => hbin x (List.mem_of_mem_take h)).1
  have h2 := (vxor_zeros (zPart v) fun x h => hbin x (List.mem_of_mem_drop h)).2
  rw [hx] at h1
  rw [hz] at h2
  rw [vxor_append _ _ _ _ (by simp [hx]), h1, h2]
  exact List.take_append_drop _ _

theorem isCSSMask_sound (n : Nat) (stabs : List Nat) (h : isCSSMask n stabs = true) :
    ∀ g ∈ stabs.map (unpackBits (2 * n)),
      xPart g = List.replicate n 0 ∨ zPart g = List.replicate n 0 := by
  intro g hg
  obtain ⟨m, hm, rfl⟩ := List.mem_map.mp hg
  simp only [isCSSMask, List.all_eq_true, Bool.or_eq_true, beq_iff_eq] at h
  rcases h m hm with h0 | h0
  · left; rw [xPart_unpackBits', h0, unpackBits_zero]; rfl
  · right; rw [zPart_unpackBits', h0, unpackBits_zero]; rfl

theorem symp_parts {n : Nat} {g v : List Nat} (hv : v.length = 2 * n)
    (hg : xPart g = List.replicate n 0 ∨ zPart g = List.replicate n 0) (hc : symp g v = 0) :
    symp g (xPart v ++ List.replicate n 0) = 0 ∧ symp g (List.replicate n 0 ++ zPart v) = 0 := by
  have hx : (xPart v).length = (List.replicate n 0).length := by simp [xPart_len hv]
  have hz : (List.replicate n 0).length = (zPart v).length := by simp [zPart_len hv]
  unfold symp at hc ⊢
  rw [xPart_append _ _ hx, zPart_append _ _ hx, xPart_append _ _ hz,
    zPart_append _ _ hz, dot_replicate_zero_right, dot_replicate_zero_right]
  rcases hg with h0 | h0 <;> rw [h0, dot_replicate_zero_left] at hc ⊢ <;> omega

theorem css_pure_part (n : Nat) (H : List (List Nat)) (hH : ∀ r ∈ H, r.length = 2 * n)
    (hcss : ∀ g ∈ H, xPart g = List.replicate n 0 ∨ zPart g = List.replicate n 0)
    (v : List Nat) (hnt : IsNontrivialLogical n H v) :
    IsNontrivialLogical n H (xPart v ++ List.replicate n 0) ∨
      IsNontrivialLogical n H (List.replicate n 0 ++ zPart v) := by
  obtain ⟨hlen, hbin, hcomm, hns⟩ := hnt
  have hul : (xPart v ++ List.replicate n 0).length = 2 * n := by simp [xPart_len hlen]; omega
  have hwl : (List.replicate n 0 ++ zPart v).length = 2 * n := by simp [zPart_len hlen]; omega
  have hub : ∀ x ∈ xPart v ++ List.replicate n 0, x < 2 := by
    intro x h
    rcases List.mem_append.mp h with h | h
    · exact hbin x (List.mem_of_mem_take h)
    · rw [List.eq_of_mem_replicate h]; omega
  have hwb : ∀ x ∈ List.replicate n 0 ++ zPart v, x < 2 := by
    intro x h
    rcases List.mem_append.mp h with h | h
    · rw [List.eq_of_mem_replicate h]; omega
    · exact hbin x (List.mem_of_mem_drop h)
  have hc := fun g hg => symp_parts hlen (hcss g hg) (hcomm g hg)
  by_cases hu : InSpan (2 * n) H (xPart v ++ List.replicate n 0)
  · refine Or.inr ⟨hwl, hwb, fun g hg => (hc g hg).2, fun hw => hns ?_⟩
    have := inSpan_vxor hH hul hwl hub hwb hu hw
    rwa [vxor_parts n v hlen hbin] at this
  · exact Or.inl ⟨hul, hub, fun g hg => (hc g hg).1, hu⟩

theorem checkExhaustiveCSS_sound (c : MaskCode)
    (hv : ValidCodeL c.n c.k (c.stabs.map (unpackBits (2 * c.n)))
      (c.logX.map (unpackBits (2 * c.n))) (c.logZ.map (unpackBits (2 * c.n))))
    (h : checkExhaustiveCSS c = true) :
    ∀ v, IsNontrivialLogical c.n (c.stabs.map (unpackBits (2 * c.n))) v →
      c.d ≤ pauliWeight v := by
  intro v hnt
  by_contra hlt
  have hx := xPart_len hnt.1
  have hz := zPart_len hnt.1
  have hw : wtXZ (xPart v) (zPart v) ≤ c.d - 1 := by
    have := rowWeight_eq_wtXZ v
    unfold pauliWeight at hlt
    omega
  have hcnt := cnt1_le_wtXZ (xPart v) (zPart v) (by rw [hx, hz])
  rw [checkExhaustiveCSS_eq] at h
  simp only [checkExhaustiveCSSP, Bool.and_eq_true] at h
  obtain ⟨hcss, hX, hZ⟩ := h
  rcases css_pure_part c.n _ (fun r hr => (hv.wfH r hr).1) (isCSSMask_sound c.n c.stabs hcss) v hnt
    with hu | hu
  · have hgood := exhB1_cover _ _ _ _ hX (xPart v) (by omega)
    rw [Nat.zero_xor, ← (effList_pure _ _).1, hx] at hgood
    apply effect_not_harmless c hv _ hu
    rwa [xPart_append _ _ (by simp [hx]), zPart_append _ _ (by simp [hx])]
  · have hgood := exhB1_cover _ _ _ _ hZ (zPart v) (by omega)
    rw [Nat.zero_xor, ← (effList_pure _ _).2, hz] at hgood
    apply effect_not_harmless c hv _ hu
    rwa [xPart_append _ _ (by simp [hz]), zPart_append _ _ (by simp [hz])]

end Panqec
