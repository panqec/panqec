/-
Color3DCode: generic lemmas for the logical operators (core Lean only).

* a dict built by assignments of one letter (`lineOp`) is the list of FIRST OCCURRENCES of the keys
  (`firstOcc`), whatever repetitions the key list has: the membranes of `get_logicals_z` assign many
  keys twice;
* the anticommutation count of such a dict with a generator is the number of keys of the generator
  that occur in the key list;
* evaluation of a membership test on a wrapped key: a "thin" coordinate (tested against small
  constants) through the centred difference, a "thick" one (tested modulo 8) through the residue.
-/
import PanqecVerif.Proofs.LatColor3DCodeWrap
import PanqecVerif.Proofs.RankCore


namespace Panqec.Color3DCode
open Panqec.Lat2D Panqec.Color

/-- the first occurrences of the keys, in order -/
def firstOcc (ks : List Coord) : List Coord := appendNew [] ks

theorem nodup_firstOcc (ks : List Coord) : (firstOcc ks).Nodup :=
  nodup_appendNew ks [] List.nodup_nil

theorem mem_firstOcc {ks : List Coord} {q : Coord} : q ∈ firstOcc ks ↔ q ∈ ks := by
  unfold firstOcc; rw [mem_appendNew]; simp

theorem any_fst_map (acc : List Coord) (P : Pauli) (q : Coord) :
    (acc.map (fun k => (k, P))).any (fun e => e.1 == q) = acc.contains q := by
  induction acc with
  | nil => rfl
  | cons a acc ih =>
    simp only [List.map_cons, List.any_cons, ih, List.contains_cons]
    by_cases h : a = q
    · subst h; simp
    · have h1 : (a == q) = false := by simpa using h
      have h2 : (q == a) = false := by simpa using fun e => h e.symm
      rw [h1, h2]

theorem insert_map (acc : List Coord) (P : Pauli) (q : Coord) :
    Op.insert (acc.map (fun k => (k, P))) q P =
      (if acc.contains q then acc else acc ++ [q]).map (fun k => (k, P)) := by
  unfold Op.insert
  rw [any_fst_map]
  by_cases h : acc.contains q = true
  · rw [if_pos h, if_pos h, List.map_map]
    apply List.map_congr_left
    intro a _
    simp only [Function.comp]
    by_cases ha : a = q
    · subst ha; simp
    · have h1 : (a == q) = false := by simpa using ha
      simp [h1]
  · rw [if_neg h, if_neg h, List.map_append]; rfl

theorem lineOp_aux (P : Pauli) : ∀ (ks acc : List Coord),
    ks.foldl (fun op q => Op.insert op q P) (acc.map (fun k => (k, P))) =
      (appendNew acc ks).map (fun k => (k, P))
  | [], acc => rfl
  | k :: ks, acc => by
    rw [List.foldl_cons, insert_map, lineOp_aux P ks, appendNew_cons]

/-- `operator = dict(); for q in keys: operator[q] = P` for ANY key list -/
theorem lineOp_firstOcc (ks : List Coord) (P : Pauli) :
    lineOp ks P = (firstOcc ks).map (fun k => (k, P)) := by
  unfold lineOp firstOcc
  exact lineOp_aux P ks []

theorem firstOcc_of_nodup : ∀ (ks acc : List Coord), (acc ++ ks).Nodup → appendNew acc ks = acc ++ ks
  | [], acc, _ => by simp [appendNew]
  | k :: ks, acc, h => by
    rw [appendNew_cons]
    have hk : k ∉ acc := by
      intro hk
      rw [List.nodup_append] at h
      exact h.2.2 k hk k (List.mem_cons_self ..) rfl
    have : acc.contains k = false := by simpa using hk
    rw [this]
    simp only [Bool.false_eq_true, if_false]
    rw [firstOcc_of_nodup ks (acc ++ [k]) (by simpa using h)]
    simp

theorem firstOcc_eq_self {ks : List Coord} (h : ks.Nodup) : firstOcc ks = ks := by
  unfold firstOcc
  rw [firstOcc_of_nodup ks [] (by simpa using h)]; simp

theorem interCount_firstOcc (B ks : List Coord) (hB : B.Nodup) :
    interCount (firstOcc ks) B = B.countP (fun q => decide (q ∈ ks)) := by
  rw [interCount_comm _ _ (nodup_firstOcc ks) hB]
  unfold interCount
  apply List.countP_congr
  intro q _
  simp only [List.contains_eq_mem, decide_eq_true_eq, mem_firstOcc]

theorem exists_getD_of_mem {l : List Op} {a : Op} (h : a ∈ l) :
    ∃ i, i < l.length ∧ l.getD i [] = a := by
  obtain ⟨i, hi, rfl⟩ := List.mem_iff_getElem.mp h
  exact ⟨i, hi, by rw [List.getD_eq_getElem?_getD, List.getElem?_eq_getElem hi, Option.getD_some]⟩

/-- `t` if `|t| ≤ τ`, else the marker `9` -/
def clamp (τ t : Int) : Int := if -τ ≤ t ∧ t ≤ τ then t else 9

theorem clamp0_iff {t : Int} : clamp 0 t = 0 ↔ t = 0 := by
  unfold clamp
  by_cases c : -0 ≤ t ∧ t ≤ 0
  · rw [if_pos c]
  · rw [if_neg c]; omega

theorem clamp1_iff {t d : Int} (hd : -1 ≤ d ∧ d ≤ 1) : clamp 1 t = d ↔ t = d := by
  unfold clamp
  by_cases c : -1 ≤ t ∧ t ≤ 1
  · rw [if_pos c]
  · rw [if_neg c]; omega

/-- a thin coordinate of a wrapped key: its offset from the constant `v` is the delta minus the
    centred difference, as far as offsets of size `≤ τ` are concerned -/
theorem clamp_wrap {m s v d τ : Int} (hm : 8 ≤ m) (h0 : 0 ≤ τ) (h1 : τ ≤ 1) (hv : τ ≤ v)
    (hv' : v + τ < m) (hd : -2 ≤ d ∧ d ≤ 2) :
    clamp τ ((s + d) % m - v) = clamp τ (d - cd m s v) := by
  unfold clamp
  by_cases hA : -τ ≤ (s + d) % m - v ∧ (s + d) % m - v ≤ τ
  · rw [if_pos hA]
    have e : (s + d) % m = (v + ((s + d) % m - v)) % m := by
      rw [show v + ((s + d) % m - v) = (s + d) % m by omega]
      exact (emod_small (Int.emod_nonneg _ (by omega)) (Int.emod_lt_of_pos _ (by omega))).symm
    have h2 := (cd_iff (a := s) (b := v) (d := d) (e := (s + d) % m - v) hm (by omega) (by omega)).mp e
    rw [h2]
    have : d - (d - ((s + d) % m - v)) = (s + d) % m - v := by omega
    rw [this, if_pos hA]
  · rw [if_neg hA]
    by_cases hB : -τ ≤ d - cd m s v ∧ d - cd m s v ≤ τ
    · exfalso
      apply hA
      have h2 := (cd_iff (a := s) (b := v) (d := d) (e := d - cd m s v) hm (by omega) (by omega)).mpr
        (by omega)
      rw [emod_small (k := v + (d - cd m s v)) (by omega) (by omega)] at h2
      omega
    · rw [if_neg hB]

theorem thick_wrap {m s d : Int} (h8 : 8 ∣ m) : ((s + d) % m) % 8 = (s % 8 + d) % 8 := by
  rw [Int.emod_emod_of_dvd _ h8]; omega

theorem clamp_far (τ d : Int) (h0 : 0 ≤ τ) (h1 : τ ≤ 1) (hd : -2 ≤ d ∧ d ≤ 2) :
    clamp τ (d - 100) = 9 := by
  unfold clamp; rw [if_neg (by omega)]

theorem sum_odd_single (l : List Int) (g : Int → Nat) (t0 : Int) (hnd : l.Nodup) (h0 : t0 ∈ l)
    (hodd : g t0 % 2 = 1) (h : ∀ a ∈ l, a ≠ t0 → g a % 2 = 0) : (l.map g).sum % 2 = 1 :=
  _root_.Panqec.sum_odd_single g t0 l hnd h0 hodd h

end Panqec.Color3DCode
