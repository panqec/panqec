/-
XCubeCode lattice model, rank clause: the selected family of `n − k` generators, its membership in
arithmetic form, distinctness, and its size.

Cubes (Z-type; `Lx·Ly·Lz − (Lx + Ly + Lz) + 2` of them): all cubes `(x, y, z)` with at most one
coordinate equal to 1 — the products of the cubes of a plane are trivial, `Lx + Ly + Lz − 2`
independent relations.
Vertex operators (X-type; `2·Lx·Ly·Lz − (Lx + Ly + Lz) + 1` of them): none of axis 2 (the product
of the three operators of a vertex is trivial); of axis 1 those with `x ≥ 2` or `z ≥ 2`; of axis 0
those with `y ≥ 2`, or `x ≥ 2` and `z ≥ 2` (plane relations).
-/
import Mathlib.Tactic.Ring
import PanqecVerif.Proofs.LatXCubeCodeCss
open Panqec Panqec.Lat3Db
namespace Panqec.XCubeCode

/-- member of `range(3, b, 2)` -/
def R3 (b : Nat) (x : Int) : Prop := x % 2 = 1 ∧ 3 ≤ x ∧ x < b

theorem mem_pyRange2_3 (b : Nat) (x : Int) : x ∈ pyRange2 3 b ↔ R3 b x := by
  rw [mem_pyRange2]; unfold R3; omega

/-! `selCubes`, `selFaces0`, `selFaces1`, `selStabs`: defined in `Model/Lattices/XCubeCode.lean` (linked into
    the driver, op `rankfamily`) -/

/-- selected cube -/
def CK (Lx Ly Lz : Nat) (x y z : Int) : Prop :=
  (R1 (2*Lx) x ∧ R3 (2*Ly) y ∧ R3 (2*Lz) z) ∨ (R3 (2*Lx) x ∧ y = 1 ∧ R3 (2*Lz) z) ∨
    (R3 (2*Lx) x ∧ R3 (2*Ly) y ∧ z = 1)
/-- selected axis-0 vertex operator -/
def F0 (Lx Ly Lz : Nat) (x y z : Int) : Prop :=
  (R0 (2*Lx) x ∧ R2 (2*Ly) y ∧ R0 (2*Lz) z) ∨ (R2 (2*Lx) x ∧ y = 0 ∧ R2 (2*Lz) z)
/-- selected axis-1 vertex operator -/
def F1 (Lx Ly Lz : Nat) (x y z : Int) : Prop :=
  (R2 (2*Lx) x ∧ R0 (2*Ly) y ∧ R0 (2*Lz) z) ∨ (x = 0 ∧ R0 (2*Ly) y ∧ R2 (2*Lz) z)

theorem mem_selCubes_iff (Lx Ly Lz : Nat) (x y z : Int) :
    [x, y, z] ∈ selCubes Lx Ly Lz ↔ CK Lx Ly Lz x y z := by
  unfold selCubes CK
  simp only [List.mem_append, mem_grid3_cons, mem_pyRange2_1, mem_pyRange2_3, List.mem_singleton,
    and_true]

theorem mem_selFaces0_iff (Lx Ly Lz : Nat) (x y z : Int) :
    [x, y, z] ∈ selFaces0 Lx Ly Lz ↔ F0 Lx Ly Lz x y z := by
  unfold selFaces0 F0
  simp only [List.mem_append, mem_grid3_cons, mem_pyRange2_0, mem_pyRange2_2, List.mem_singleton,
    and_true]

theorem mem_selFaces1_iff (Lx Ly Lz : Nat) (x y z : Int) :
    [x, y, z] ∈ selFaces1 Lx Ly Lz ↔ F1 Lx Ly Lz x y z := by
  unfold selFaces1 F1
  simp only [List.mem_append, mem_grid3_cons, mem_pyRange2_0, mem_pyRange2_2, List.mem_singleton,
    and_true]

theorem shape_selCubes {Lx Ly Lz : Nat} {a : Coord} (h : a ∈ selCubes Lx Ly Lz) :
    ∃ x y z, a = [x, y, z] := by
  unfold selCubes at h
  simp only [List.mem_append] at h
  rcases h with h | h | h <;> exact shape_grid3 h

theorem shape_selFaces0 {Lx Ly Lz : Nat} {a : Coord} (h : a ∈ selFaces0 Lx Ly Lz) :
    ∃ x y z, a = [x, y, z] := by
  unfold selFaces0 at h
  simp only [List.mem_append] at h
  rcases h with h | h <;> exact shape_grid3 h

theorem shape_selFaces1 {Lx Ly Lz : Nat} {a : Coord} (h : a ∈ selFaces1 Lx Ly Lz) :
    ∃ x y z, a = [x, y, z] := by
  unfold selFaces1 at h
  simp only [List.mem_append] at h
  rcases h with h | h <;> exact shape_grid3 h

/-- kinds of selected generators -/
def Kind (Lx Ly Lz : Nat) (s : Coord) : Prop :=
  (∃ x y z, s = [x, y, z] ∧ CK Lx Ly Lz x y z) ∨
  (∃ x y z, s = [0, x, y, z] ∧ F0 Lx Ly Lz x y z) ∨
  (∃ x y z, s = [1, x, y, z] ∧ F1 Lx Ly Lz x y z)

theorem mem_selStabs_cases {Lx Ly Lz : Nat} {s : Coord} (h : s ∈ selStabs Lx Ly Lz) :
    Kind Lx Ly Lz s := by
  unfold selStabs at h
  simp only [List.mem_append, List.mem_map] at h
  rcases h with h | ⟨c, hc, rfl⟩ | ⟨c, hc, rfl⟩
  · obtain ⟨x, y, z, rfl⟩ := shape_selCubes h
    exact Or.inl ⟨x, y, z, rfl, (mem_selCubes_iff _ _ _ _ _ _).mp h⟩
  · obtain ⟨x, y, z, rfl⟩ := shape_selFaces0 hc
    exact Or.inr (Or.inl ⟨x, y, z, rfl, (mem_selFaces0_iff _ _ _ _ _ _).mp hc⟩)
  · obtain ⟨x, y, z, rfl⟩ := shape_selFaces1 hc
    exact Or.inr (Or.inr ⟨x, y, z, rfl, (mem_selFaces1_iff _ _ _ _ _ _).mp hc⟩)

theorem CK.sc {Lx Ly Lz : Nat} {x y z : Int} (hy : 1 ≤ Ly) (hz : 1 ≤ Lz) (h : CK Lx Ly Lz x y z) : SC Lx Ly Lz x y z := by
  unfold CK R1 R3 at h; unfold SC R1; omega

theorem F0.sv {Lx Ly Lz : Nat} {x y z : Int} (hy : 1 ≤ Ly) (h : F0 Lx Ly Lz x y z) : SVx Lx Ly Lz x y z := by
  unfold F0 R0 R2 at h; unfold SVx R0; omega

theorem F1.sv {Lx Ly Lz : Nat} {x y z : Int} (hx : 1 ≤ Lx) (h : F1 Lx Ly Lz x y z) : SVx Lx Ly Lz x y z := by
  unfold F1 R0 R2 at h; unfold SVx R0; omega

theorem selStabs_sub {Lx Ly Lz : Nat} (hx : 1 ≤ Lx) (hy : 1 ≤ Ly) (hz : 1 ≤ Lz) {s : Coord}
    (h : s ∈ selStabs Lx Ly Lz) :
    s ∈ stabs Lx Ly Lz := by
  rcases mem_selStabs_cases h with ⟨x, y, z, rfl, hk⟩ | ⟨x, y, z, rfl, hk⟩ | ⟨x, y, z, rfl, hk⟩
  · exact (mem_stabs_cube _ _ _ _ _ _).mpr (hk.sc hy hz)
  · exact (mem_stabs_face _ _ _ _ _ _ _).mpr ⟨Or.inl rfl, hk.sv hy⟩
  · exact (mem_stabs_face _ _ _ _ _ _ _).mpr ⟨Or.inr (Or.inl rfl), hk.sv hx⟩

theorem nodup_g (xs ys zs : List Int) (hx : xs.Nodup) (hy : ys.Nodup) (hz : zs.Nodup) :
    (grid3 xs ys zs fun _ _ _ => true).Nodup := nodup_grid3 _ _ _ _ hx hy hz

theorem nodup_selCubes (Lx Ly Lz : Nat) : (selCubes Lx Ly Lz).Nodup := by
  unfold selCubes
  refine nodup_append_of (nodup_g _ _ _ (nodup_pyRange2 _ _) (nodup_pyRange2 _ _) (nodup_pyRange2 _ _))
    (nodup_append_of
      (nodup_g _ _ _ (nodup_pyRange2 _ _) (List.nodup_singleton _) (nodup_pyRange2 _ _))
      (nodup_g _ _ _ (nodup_pyRange2 _ _) (nodup_pyRange2 _ _) (List.nodup_singleton _))
      fun a h1 h2 => ?_) fun a h1 h2 => ?_
  · obtain ⟨x, y, z, rfl⟩ := shape_grid3 h1
    simp only [mem_grid3_cons, mem_pyRange2_3, List.mem_singleton] at h1 h2
    unfold R3 at h1 h2; omega
  · obtain ⟨x, y, z, rfl⟩ := shape_grid3 h1
    simp only [List.mem_append, mem_grid3_cons, mem_pyRange2_1, mem_pyRange2_3, List.mem_singleton] at h1 h2
    unfold R3 at h1 h2; omega

theorem nodup_selFaces0 (Lx Ly Lz : Nat) : (selFaces0 Lx Ly Lz).Nodup := by
  unfold selFaces0
  refine nodup_append_of (nodup_g _ _ _ (nodup_pyRange2 _ _) (nodup_pyRange2 _ _) (nodup_pyRange2 _ _))
    (nodup_g _ _ _ (nodup_pyRange2 _ _) (List.nodup_singleton _) (nodup_pyRange2 _ _)) fun a h1 h2 => ?_
  obtain ⟨x, y, z, rfl⟩ := shape_grid3 h1
  simp only [mem_grid3_cons, mem_pyRange2_0, mem_pyRange2_2, List.mem_singleton] at h1 h2
  unfold R2 at h1 h2; omega

theorem nodup_selFaces1 (Lx Ly Lz : Nat) : (selFaces1 Lx Ly Lz).Nodup := by
  unfold selFaces1
  refine nodup_append_of (nodup_g _ _ _ (nodup_pyRange2 _ _) (nodup_pyRange2 _ _) (nodup_pyRange2 _ _))
    (nodup_g _ _ _ (List.nodup_singleton _) (nodup_pyRange2 _ _) (nodup_pyRange2 _ _)) fun a h1 h2 => ?_
  obtain ⟨x, y, z, rfl⟩ := shape_grid3 h1
  simp only [mem_grid3_cons, mem_pyRange2_0, mem_pyRange2_2, List.mem_singleton] at h1 h2
  unfold R2 at h1 h2; omega

theorem nodup_selStabs (Lx Ly Lz : Nat) : (selStabs Lx Ly Lz).Nodup := by
  unfold selStabs
  rw [List.nodup_append, List.nodup_append]
  refine ⟨nodup_selCubes Lx Ly Lz, ⟨?_, ?_, ?_⟩, ?_⟩
  · exact (nodup_selFaces0 Lx Ly Lz).map (fun a b h => by simpa using h)
  · exact (nodup_selFaces1 Lx Ly Lz).map (fun a b h => by simpa using h)
  · intro a ha b hb hab
    simp only [List.mem_map] at ha hb
    obtain ⟨c, _, rfl⟩ := ha
    obtain ⟨d, _, rfl⟩ := hb
    simp at hab
  · intro a ha b hb hab
    subst hab
    obtain ⟨x, y, z, rfl⟩ := shape_selCubes ha
    simp only [List.mem_append, List.mem_map] at hb
    rcases hb with ⟨c, hc, h⟩ | ⟨c, hc, h⟩
    · obtain ⟨p, q, r, rfl⟩ := shape_selFaces0 hc; simp at h
    · obtain ⟨p, q, r, rfl⟩ := shape_selFaces1 hc; simp at h

theorem length_selStabs (Lx Ly Lz : Nat) :
    (selStabs Lx Ly Lz).length =
      (Lx * (Ly - 1) * (Lz - 1) + ((Lx - 1) * 1 * (Lz - 1) + (Lx - 1) * (Ly - 1) * 1)) +
      ((Lx * (Ly - 1) * Lz + (Lx - 1) * 1 * (Lz - 1)) + ((Lx - 1) * Ly * Lz + 1 * Ly * (Lz - 1))) := by
  simp only [selStabs, selCubes, selFaces0, selFaces1, List.length_append, List.length_map, length_grid3_true,
    length_pyRange2_two_mul, List.length_cons, List.length_nil, Nat.reduceDiv, Nat.sub_zero, Nat.zero_add]

/-- the selected family has `n − k` members -/
theorem selStabs_count (Lx Ly Lz : Nat) (hx : 1 ≤ Lx) (hy : 1 ≤ Ly) (hz : 1 ≤ Lz) :
    (selStabs Lx Ly Lz).length + (logX Lx Ly Lz).length = (qubits Lx Ly Lz).length := by
  rw [length_selStabs, length_logX Lx Ly Lz hx hy hz, length_qubits]
  obtain ⟨a, rfl⟩ : ∃ a, Lx = a + 1 := ⟨Lx - 1, by omega⟩
  obtain ⟨b, rfl⟩ : ∃ b, Ly = b + 1 := ⟨Ly - 1, by omega⟩
  obtain ⟨c, rfl⟩ : ∃ c, Lz = c + 1 := ⟨Lz - 1, by omega⟩
  have : 2 * (a + 1 + (b + 1) + (c + 1)) - 3 = 2 * (a + b + c) + 3 := by omega
  rw [this]
  simp only [Nat.add_sub_cancel]
  ring

end Panqec.XCubeCode
