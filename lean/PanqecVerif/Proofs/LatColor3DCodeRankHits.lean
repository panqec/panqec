/-
Color3DCode, rank clause, Z-type part: the selected cells (`Model/Lattices/Color3DCode.lean`,
`selCells`: all cells but `(6,2,2)`, `(6,2,6)`, `(4,4,4)`) in arithmetic form, distinctness, membership
in the stabilizer list, their number `2·LxLyLz − 3`, and the Z-component of a cell generator (a cell
acts on a qubit iff the qubit is one of its 24 wrapped vertices; the wrap-around resolved into
"no wrap" / "one period"; which cells act on a qubit with odd `x`, `geo_xodd`, and by the coordinate
permutations on one with odd `y` or `z`).  Core Lean and the operator-level independence notions of
`Proofs/LatCubic3DRank.lean`.
-/
import PanqecVerif.Proofs.LatColor3DCodeSym
import PanqecVerif.Proofs.LatCubic3DRank

namespace Panqec.Color3DCode
open Panqec.Lat2D Panqec.Color

/-- `(x, y, z)` is in one of the two cell boxes of `get_stabilizer_coordinates` -/
def IsC (Lx Ly Lz : Nat) (x y z : Int) : Prop :=
  (InA Lx x ∧ InA Ly y ∧ InA Lz z) ∨ (InB Lx x ∧ InB Ly y ∧ InB Lz z)

/-- selected cell -/
def IsK (Lx Ly Lz : Nat) (x y z : Int) : Prop :=
  IsC Lx Ly Lz x y z ∧ ¬ (x = 6 ∧ y = 2 ∧ z = 2) ∧ ¬ (x = 6 ∧ y = 2 ∧ z = 6) ∧ ¬ (x = 4 ∧ y = 4 ∧ z = 4)

theorem mem_cellLocs {Lx Ly Lz : Nat} {q : Coord} :
    q ∈ cellLocs Lx Ly Lz ↔ ∃ x y z, q = [x, y, z] ∧ IsC Lx Ly Lz x y z := by
  unfold cellLocs IsC
  simp only [List.mem_append, mem_grid3, mem_rA, mem_rB]
  constructor
  · rintro (⟨x, y, z, rfl, h⟩ | ⟨x, y, z, rfl, h⟩)
    · exact ⟨x, y, z, rfl, Or.inl h⟩
    · exact ⟨x, y, z, rfl, Or.inr h⟩
  · rintro ⟨x, y, z, rfl, h | h⟩
    · exact Or.inl ⟨x, y, z, rfl, h⟩
    · exact Or.inr ⟨x, y, z, rfl, h⟩

theorem mem_cellLocs' {Lx Ly Lz : Nat} {x y z : Int} :
    [x, y, z] ∈ cellLocs Lx Ly Lz ↔ IsC Lx Ly Lz x y z := by
  rw [mem_cellLocs]
  constructor
  · rintro ⟨x', y', z', h, hq⟩
    simp only [List.cons.injEq, and_true] at h
    rw [h.1, h.2.1, h.2.2]; exact hq
  · intro h; exact ⟨x, y, z, rfl, h⟩

theorem IsC.isS {Lx Ly Lz : Nat} {x y z : Int} (h : IsC Lx Ly Lz x y z) : IsS Lx Ly Lz x y z := by
  rcases h with h | h
  · exact Or.inl h
  · exact Or.inr (Or.inl h)

theorem IsC.cellLoc {Lx Ly Lz : Nat} {x y z : Int} (h : IsC Lx Ly Lz x y z) : IsCellLoc x y z := by
  unfold IsCellLoc
  rcases h with ⟨h1, h2, h3⟩ | ⟨h1, h2, h3⟩ <;> (simp only [InA, InB] at h1 h2 h3; omega)

theorem cellLocs_sub {Lx Ly Lz : Nat} : ∀ s ∈ cellLocs Lx Ly Lz, s ∈ stabs Lx Ly Lz := by
  intro s hs
  obtain ⟨x, y, z, rfl, h⟩ := mem_cellLocs.mp hs
  exact mem_stabs'.mpr h.isS

theorem nodup_cellLocs (Lx Ly Lz : Nat) : (cellLocs Lx Ly Lz).Nodup := by
  have hA : ∀ L, (rA L).Nodup := fun L => nodup_pyRangeStep _ _ _ (by decide)
  have hB : ∀ L, (rB L).Nodup := fun L => nodup_pyRangeStep _ _ _ (by decide)
  unfold cellLocs
  rw [List.nodup_append]
  refine ⟨nodup_grid3 (hA _) (hA _) (hA _), nodup_grid3 (hB _) (hB _) (hB _), ?_⟩
  intro a ha b hb e
  subst e
  simp only [mem_grid3, mem_rA, mem_rB, InA, InB] at ha hb
  obtain ⟨x, y, z, rfl, h1⟩ := ha
  obtain ⟨x', y', z', e, h2⟩ := hb
  simp only [List.cons.injEq, and_true] at e
  obtain ⟨rfl, rfl, rfl⟩ := e
  omega

theorem length_cellLocs (Lx Ly Lz : Nat) : (cellLocs Lx Ly Lz).length = 2 * (Lz * (Lx * Ly)) := by
  unfold cellLocs
  simp only [List.length_append, length_grid3, length_rA, length_rB]
  omega

theorem mem_selCells {Lx Ly Lz : Nat} {x y z : Int} :
    [x, y, z] ∈ selCells Lx Ly Lz ↔ IsK Lx Ly Lz x y z := by
  unfold selCells IsK
  simp only [List.mem_filter, mem_cellLocs', bne_iff_ne, ne_eq, List.cons.injEq, and_true, and_assoc]

theorem shape_selCells {Lx Ly Lz : Nat} {s : Coord} (h : s ∈ selCells Lx Ly Lz) :
    ∃ x y z, s = [x, y, z] := by
  unfold selCells at h
  simp only [List.mem_filter] at h
  obtain ⟨x, y, z, rfl, _⟩ := mem_cellLocs.mp h.1.1.1
  exact ⟨x, y, z, rfl⟩

theorem selCells_sub {Lx Ly Lz : Nat} : ∀ s ∈ selCells Lx Ly Lz, s ∈ stabs Lx Ly Lz := by
  intro s hs
  unfold selCells at hs
  simp only [List.mem_filter] at hs
  exact cellLocs_sub s hs.1.1.1

theorem nodup_selCells (Lx Ly Lz : Nat) : (selCells Lx Ly Lz).Nodup :=
  (((nodup_cellLocs Lx Ly Lz).filter _).filter _).filter _

theorem length_filter_ne3 (l : List Coord) (a b c : Coord) (hl : l.Nodup) (ha : a ∈ l) (hb : b ∈ l)
    (hc : c ∈ l) (hab : b ≠ a) (hac : c ≠ a) (hbc : c ≠ b) :
    (((l.filter (· != a)).filter (· != b)).filter (· != c)).length + 3 = l.length := by
  have e1 := length_filter_ne l a hl ha
  have hb' : b ∈ l.filter (· != a) := by
    rw [List.mem_filter]; exact ⟨hb, by simpa using hab⟩
  have e2 := length_filter_ne _ b (hl.filter _) hb'
  have hc' : c ∈ (l.filter (· != a)).filter (· != b) := by
    rw [List.mem_filter, List.mem_filter]; exact ⟨⟨hc, by simpa using hac⟩, by simpa using hbc⟩
  have e3 := length_filter_ne _ c ((hl.filter _).filter _) hc'
  omega

theorem length_selCells (Lx Ly Lz : Nat) (hx : 2 ≤ Lx) (hy : 1 ≤ Ly) (hz : 2 ≤ Lz) :
    (selCells Lx Ly Lz).length + 3 = 2 * (Lz * (Lx * Ly)) := by
  have m1 : ([6, 2, 2] : Coord) ∈ cellLocs Lx Ly Lz := by
    rw [mem_cellLocs']; left; simp only [InA]; omega
  have m2 : ([6, 2, 6] : Coord) ∈ cellLocs Lx Ly Lz := by
    rw [mem_cellLocs']; left; simp only [InA]; omega
  have m3 : ([4, 4, 4] : Coord) ∈ cellLocs Lx Ly Lz := by
    rw [mem_cellLocs']; right; simp only [InB]; omega
  have e := length_filter_ne3 _ _ _ _ (nodup_cellLocs Lx Ly Lz) m1 m2 m3 (by decide) (by decide)
    (by decide)
  rw [← length_cellLocs Lx Ly Lz]
  exact e

theorem getStab_cell {Lx Ly Lz : Nat} (hx : 2 ≤ Lx) (hy : 2 ≤ Ly) (hz : 2 ≤ Lz) {x y z : Int}
    (h : IsC Lx Ly Lz x y z) :
    (lattice Lx Ly Lz).getStab [x, y, z] = Cubic3D.uop (keys Lx Ly Lz x y z) Pauli.Z := by
  rw [getStab_eq hx hy hz (mem_stabs'.mpr h.isS), letterOf_cell h.cellLoc]
  rfl

theorem keys_cell (Lx Ly Lz : Nat) {x y z : Int} (h : IsCellLoc x y z) :
    keys Lx Ly Lz x y z =
      deltaCell.map (wrapAt (4 * (Lx : Int)) (4 * (Ly : Int)) (4 * (Lz : Int)) x y z) := by
  unfold keys; rw [shape_cell h]

/-- the shape of a cell delta: a permutation of `(0, ±1, ±2)` -/
def DSpec (d1 d2 d3 : Int) : Prop :=
  (d1 = 0 ∧ (d2 = 1 ∨ d2 = -1) ∧ (d3 = 2 ∨ d3 = -2)) ∨
  (d1 = 0 ∧ (d2 = 2 ∨ d2 = -2) ∧ (d3 = 1 ∨ d3 = -1)) ∨
  (d2 = 0 ∧ (d1 = 1 ∨ d1 = -1) ∧ (d3 = 2 ∨ d3 = -2)) ∨
  (d2 = 0 ∧ (d1 = 2 ∨ d1 = -2) ∧ (d3 = 1 ∨ d3 = -1)) ∨
  (d3 = 0 ∧ (d1 = 1 ∨ d1 = -1) ∧ (d2 = 2 ∨ d2 = -2)) ∨
  (d3 = 0 ∧ (d1 = 2 ∨ d1 = -2) ∧ (d2 = 1 ∨ d2 = -1))

instance (d1 d2 d3 : Int) : Decidable (DSpec d1 d2 d3) := by unfold DSpec; infer_instance

theorem deltaCell_spec : ∀ d ∈ deltaCell, DSpec d.1 d.2.1 d.2.2 := by decide

theorem deltaCell_complete : ∀ d1 d2 d3 : Int, DSpec d1 d2 d3 → (d1, d2, d3) ∈ deltaCell := by
  intro d1 d2 d3 h
  unfold DSpec at h
  rcases h with ⟨rfl, h2, h3⟩ | ⟨rfl, h2, h3⟩ | ⟨rfl, h1, h3⟩ | ⟨rfl, h1, h3⟩ | ⟨rfl, h1, h2⟩ | ⟨rfl, h1, h2⟩ <;>
    first
    | (rcases h2 with rfl | rfl <;> rcases h3 with rfl | rfl <;> decide)
    | (rcases h1 with rfl | rfl <;> rcases h3 with rfl | rfl <;> decide)
    | (rcases h1 with rfl | rfl <;> rcases h2 with rfl | rfl <;> decide)

theorem wrap_two {v m r : Int} (h0 : 0 ≤ v) (h1 : v < 2 * m) (h : v % m = r) : v = r ∨ v = r + m := by
  have hm : 0 < m := by omega
  by_cases hv : v < m
  · left; rw [emod_small h0 hv] at h; exact h
  · right
    have e : v % m = (v - m) % m := by
      rw [← Int.add_emod_right (v - m) m]; congr 1; omega
    rw [e, emod_small (by omega) (by omega)] at h
    omega

/-- a cell at `(tx, ty, tz)` acts on the qubit `(a, b, c)`: the unwrapped vertex is the qubit, up to
    one period in each coordinate -/
theorem cell_hit_cases {Lx Ly Lz : Nat} {tx ty tz a b c : Int} (h : IsC Lx Ly Lz tx ty tz)
    (hq : [a, b, c] ∈ keys Lx Ly Lz tx ty tz) :
    ∃ d1 d2 d3 : Int, DSpec d1 d2 d3 ∧
      (tx + d1 = a ∨ tx + d1 = a + 4 * (Lx : Int)) ∧
      (ty + d2 = b ∨ ty + d2 = b + 4 * (Ly : Int)) ∧
      (tz + d3 = c ∨ tz + d3 = c + 4 * (Lz : Int)) := by
  obtain ⟨d, hd, e⟩ := mem_keys.mp hq
  rw [shape_cell h.cellLoc] at hd
  have hs := deltaCell_spec d hd
  have hb := deltaCell_bd d hd
  unfold Bd at hb
  simp only [List.cons.injEq, and_true] at e
  obtain ⟨e1, e2, e3⟩ := e
  have r : 0 ≤ tx ∧ tx ≤ 4 * (Lx : Int) ∧ 2 ≤ tx ∧ 2 ≤ ty ∧ ty ≤ 4 * (Ly : Int) ∧ 2 ≤ tz ∧
      tz ≤ 4 * (Lz : Int) := by
    rcases h with ⟨h1, h2, h3⟩ | ⟨h1, h2, h3⟩ <;> (simp only [InA, InB] at h1 h2 h3; omega)
  refine ⟨d.1, d.2.1, d.2.2, hs, wrap_two (by omega) (by omega) e1.symm,
    wrap_two (by omega) (by omega) e2.symm, wrap_two (by omega) (by omega) e3.symm⟩

/-- ranges and residues of a cell location, without case distinction -/
def CellR (Lx Ly Lz : Nat) (x y z : Int) : Prop :=
  2 ≤ x ∧ x ≤ 4 * (Lx : Int) ∧ 2 ≤ y ∧ y ≤ 4 * (Ly : Int) ∧ 2 ≤ z ∧ z ≤ 4 * (Lz : Int) ∧
  x % 2 = 0 ∧ x % 4 = z % 4 ∧ y % 4 = z % 4

theorem IsC.cellR {Lx Ly Lz : Nat} {x y z : Int} (h : IsC Lx Ly Lz x y z) : CellR Lx Ly Lz x y z := by
  unfold CellR
  rcases h with ⟨h1, h2, h3⟩ | ⟨h1, h2, h3⟩ <;> (simp only [InA, InB] at h1 h2 h3; omega)

theorem DSpec.bd {d1 d2 d3 : Int} (h : DSpec d1 d2 d3) :
    -2 ≤ d1 ∧ d1 ≤ 2 ∧ -2 ≤ d2 ∧ d2 ≤ 2 ∧ -2 ≤ d3 ∧ d3 ≤ 2 := by
  unfold DSpec at h; omega

theorem DSpec.of3 {d1 d2 d3 : Int} (h : DSpec d1 d2 d3) (h3 : d3 = 1 ∨ d3 = -1) :
    (d1 = 0 ∧ (d2 = 2 ∨ d2 = -2)) ∨ (d2 = 0 ∧ (d1 = 2 ∨ d1 = -2)) := by
  unfold DSpec at h; omega

theorem DSpec.of1 {d1 d2 d3 : Int} (h : DSpec d1 d2 d3) (h1 : d1 = 1 ∨ d1 = -1) :
    (d2 = 0 ∧ (d3 = 2 ∨ d3 = -2)) ∨ (d3 = 0 ∧ (d2 = 2 ∨ d2 = -2)) := by
  unfold DSpec at h; omega

theorem DSpec.of2 {d1 d2 d3 : Int} (h : DSpec d1 d2 d3) (h2 : d2 = 1 ∨ d2 = -1) :
    (d1 = 0 ∧ (d3 = 2 ∨ d3 = -2)) ∨ (d3 = 0 ∧ (d1 = 2 ∨ d1 = -2)) := by
  unfold DSpec at h; omega

theorem DSpec.of3' {d1 d2 d3 : Int} (h : DSpec d1 d2 d3) (h3 : d3 = 2 ∨ d3 = -2) :
    (d1 = 0 ∧ (d2 = 1 ∨ d2 = -1)) ∨ (d2 = 0 ∧ (d1 = 1 ∨ d1 = -1)) := by
  unfold DSpec at h; omega

theorem DSpec.c2 {d1 d2 d3 : Int} (h1 : d1 = 0) (h2 : d2 = 2 ∨ d2 = -2) (h3 : d3 = 1 ∨ d3 = -1) :
    DSpec d1 d2 d3 := Or.inr (Or.inl ⟨h1, h2, h3⟩)
theorem DSpec.c3 {d1 d2 d3 : Int} (h2 : d2 = 0) (h1 : d1 = 1 ∨ d1 = -1) (h3 : d3 = 2 ∨ d3 = -2) :
    DSpec d1 d2 d3 := Or.inr (Or.inr (Or.inl ⟨h2, h1, h3⟩))
theorem DSpec.c4 {d1 d2 d3 : Int} (h2 : d2 = 0) (h1 : d1 = 2 ∨ d1 = -2) (h3 : d3 = 1 ∨ d3 = -1) :
    DSpec d1 d2 d3 := Or.inr (Or.inr (Or.inr (Or.inl ⟨h2, h1, h3⟩)))
theorem DSpec.c5 {d1 d2 d3 : Int} (h3 : d3 = 0) (h1 : d1 = 1 ∨ d1 = -1) (h2 : d2 = 2 ∨ d2 = -2) :
    DSpec d1 d2 d3 := Or.inr (Or.inr (Or.inr (Or.inr (Or.inl ⟨h3, h1, h2⟩))))
theorem DSpec.c6 {d1 d2 d3 : Int} (h3 : d3 = 0) (h1 : d1 = 2 ∨ d1 = -2) (h2 : d2 = 1 ∨ d2 = -1) :
    DSpec d1 d2 d3 := Or.inr (Or.inr (Or.inr (Or.inr (Or.inr ⟨h3, h1, h2⟩))))

/-- no coordinate of the qubit is within 2 of the seam: the vertex is not wrapped -/
theorem cell_hit_inner {Lx Ly Lz : Nat} {tx ty tz a b c : Int} (h : IsC Lx Ly Lz tx ty tz)
    (hq : [a, b, c] ∈ keys Lx Ly Lz tx ty tz) (ha : 3 ≤ a) (hb : 3 ≤ b) (hc : 3 ≤ c) :
    DSpec (a - tx) (b - ty) (c - tz) := by
  obtain ⟨d1, d2, d3, hs, h1, h2, h3⟩ := cell_hit_cases h hq
  have bd := hs.bd
  obtain ⟨-, x1, -, y1, -, z1, -, -, -⟩ := h.cellR
  rw [show a - tx = d1 by omega, show b - ty = d2 by omega, show c - tz = d3 by omega]
  exact hs

/-- conversely: an unwrapped vertex inside the box is a key -/
theorem cell_hits {Lx Ly Lz : Nat} {tx ty tz a b c : Int} (h : IsCellLoc tx ty tz)
    (hs : DSpec (a - tx) (b - ty) (c - tz)) (ha : 0 ≤ a ∧ a < 4 * (Lx : Int))
    (hb : 0 ≤ b ∧ b < 4 * (Ly : Int)) (hc : 0 ≤ c ∧ c < 4 * (Lz : Int)) :
    [a, b, c] ∈ keys Lx Ly Lz tx ty tz :=
  mem_keys_inner (d := (a - tx, b - ty, c - tz))
    (by rw [shape_cell h]; exact deltaCell_complete _ _ _ hs) ha hb hc
    (by dsimp only; omega) (by dsimp only; omega) (by dsimp only; omega)

/-- the two even coordinates of a tetrahedron against a cell on it, `d` the cell delta up to one
    period: either the cell shares the second coordinate (the delta moves the third by 2), and then
    the second coordinate of the qubit has the residue of the cell, or it shares the third -/
theorem even_pair_cases {m2 m3 r t2 t3 a2 a3 d2 d3 : Int} (hm : m2 % 4 = 0) (ht : t2 % 4 = r % 4)
    (hd : (d2 = 0 ∧ (d3 = 2 ∨ d3 = -2)) ∨ (d3 = 0 ∧ (d2 = 2 ∨ d2 = -2)))
    (h2 : t2 + d2 = a2 ∨ t2 + d2 = a2 + m2) (h3 : t3 + d3 = a3 ∨ t3 + d3 = a3 + m3) :
    (a2 % 4 = r % 4 ∧ (t2 = a2 ∨ t2 = a2 + m2) ∧
        (t3 = a3 - 2 ∨ t3 = a3 + 2 ∨ t3 = a3 - 2 + m3 ∨ t3 = a3 + 2 + m3)) ∨
     (a2 % 4 ≠ r % 4 ∧ (t3 = a3 ∨ t3 = a3 + m3) ∧
        (t2 = a2 - 2 ∨ t2 = a2 + 2 ∨ t2 = a2 - 2 + m2 ∨ t2 = a2 + 2 + m2)) := by
  rcases hd with ⟨rfl, hd3⟩ | ⟨rfl, hd2⟩
  · rw [Int.add_zero] at h2
    exact Or.inl ⟨by omega, h2, by omega⟩
  · rw [Int.add_zero] at h3
    exact Or.inr ⟨by omega, h3, by omega⟩

section geo
variable {Lx Ly Lz : Nat} {tx ty tz a b c : Int}

set_option linter.unusedVariables false in
/-- a cell acting on a qubit with odd `x` (the parity of `b` is not needed) -/
theorem geo_xodd (ht : IsC Lx Ly Lz tx ty tz) (ha : a % 2 = 1) (hb2 : b % 2 = 0)
    (hq : [a, b, c] ∈ keys Lx Ly Lz tx ty tz) :
    (tx = a - 1 ∨ tx = a + 1 ∨ tx = a - 1 + 4 * (Lx : Int) ∨ tx = a + 1 + 4 * (Lx : Int)) ∧
    ((b % 4 = tx % 4 ∧ (ty = b ∨ ty = b + 4 * (Ly : Int)) ∧
        (tz = c - 2 ∨ tz = c + 2 ∨ tz = c - 2 + 4 * (Lz : Int) ∨ tz = c + 2 + 4 * (Lz : Int))) ∨
     (b % 4 ≠ tx % 4 ∧ (tz = c ∨ tz = c + 4 * (Lz : Int)) ∧
        (ty = b - 2 ∨ ty = b + 2 ∨ ty = b - 2 + 4 * (Ly : Int) ∨ ty = b + 2 + 4 * (Ly : Int)))) := by
  obtain ⟨d1, d2, d3, hsp, h1, h2, h3⟩ := cell_hit_cases ht hq
  obtain ⟨-, -, -, -, -, -, px, rx, ry⟩ := ht.cellR
  have hb := hsp.bd
  have hd1 : d1 = 1 ∨ d1 = -1 := by omega
  exact ⟨by omega, even_pair_cases (by omega) (by omega) (hsp.of1 hd1) h2 h3⟩

theorem IsC.swap (ht : IsC Lx Ly Lz tx ty tz) : IsC Ly Lx Lz ty tx tz :=
  ht.imp (fun h => ⟨h.2.1, h.1, h.2.2⟩) fun h => ⟨h.2.1, h.1, h.2.2⟩

theorem IsC.rot (ht : IsC Lx Ly Lz tx ty tz) : IsC Lz Lx Ly tz tx ty :=
  ht.imp (fun h => ⟨h.2.2, h.1, h.2.1⟩) fun h => ⟨h.2.2, h.1, h.2.1⟩

/-- a cell acting on a qubit with odd `y`: the image of `geo_xodd` under the exchange of x and y -/
theorem geo_yodd (ht : IsC Lx Ly Lz tx ty tz) (hb2 : b % 2 = 1) (ha : a % 2 = 0)
    (hq : [a, b, c] ∈ keys Lx Ly Lz tx ty tz) :
    (ty = b - 1 ∨ ty = b + 1 ∨ ty = b - 1 + 4 * (Ly : Int) ∨ ty = b + 1 + 4 * (Ly : Int)) ∧
    ((a % 4 = ty % 4 ∧ (tx = a ∨ tx = a + 4 * (Lx : Int)) ∧
        (tz = c - 2 ∨ tz = c + 2 ∨ tz = c - 2 + 4 * (Lz : Int) ∨ tz = c + 2 + 4 * (Lz : Int))) ∨
     (a % 4 ≠ ty % 4 ∧ (tz = c ∨ tz = c + 4 * (Lz : Int)) ∧
        (tx = a - 2 ∨ tx = a + 2 ∨ tx = a - 2 + 4 * (Lx : Int) ∨ tx = a + 2 + 4 * (Lx : Int)))) :=
  have hp := ht.cellR
  geo_xodd ht.swap hb2 ha ((mem_keys_place (ax := 1) (u := ty) (v := tx) (w := tz) rfl
    (by unfold CellR at hp; omega)).mp hq)

set_option linter.unusedVariables false in
/-- a cell acting on a qubit with odd `z`, inside the box: the image of `geo_xodd` under `plc 2` (the
    upper bound on `c` is not needed) -/
theorem geo_zodd (ht : IsC Lx Ly Lz tx ty tz) (ha : a % 2 = 0) (hc : c % 2 = 1) (hc3 : 3 ≤ c)
    (hcm : c < 4 * (Lz : Int)) (hq : [a, b, c] ∈ keys Lx Ly Lz tx ty tz) :
    (tz = c - 1 ∨ tz = c + 1) ∧
    ((a % 4 = tz % 4 ∧ (tx = a ∨ tx = a + 4 * (Lx : Int)) ∧
        (ty = b - 2 ∨ ty = b + 2 ∨ ty = b - 2 + 4 * (Ly : Int) ∨ ty = b + 2 + 4 * (Ly : Int))) ∨
     (a % 4 ≠ tz % 4 ∧ (ty = b ∨ ty = b + 4 * (Ly : Int)) ∧
        (tx = a - 2 ∨ tx = a + 2 ∨ tx = a - 2 + 4 * (Lx : Int) ∨ tx = a + 2 + 4 * (Lx : Int)))) := by
  obtain ⟨-, -, -, -, z0, z1, px, rx, ry⟩ := ht.cellR
  obtain ⟨h1, h2⟩ := geo_xodd ht.rot hc ha ((mem_keys_place (ax := 2) (u := tz) (v := tx) (w := ty)
    rfl (by omega)).mp hq)
  exact ⟨by clear h2 hq ht px rx ry; omega, h2⟩

end geo

end Panqec.Color3DCode
