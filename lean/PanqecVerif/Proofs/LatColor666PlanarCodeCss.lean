/-
Color666PlanarCode, all sizes `L ≥ 1`: the class in CSS form (`Lattice.Css`, which
yields `Lattice.WF` and `Lattice.CommPair`).
-/
import PanqecVerif.Proofs.LatColor666PlanarCodeCount
import PanqecVerif.Proofs.LatCss


namespace Panqec.Color666PlanarCode
open Panqec.Lat2D Panqec.Color

theorem logX_mem {L L' : Nat} {a : Op} (ha : a ∈ (lattice L L').logX) :
    a = (kB L L').map (fun q => (q, Pauli.X)) := by
  change a ∈ logX L L' at ha
  rw [logX_eq] at ha
  simpa only [List.mem_cons, List.not_mem_nil, or_false] using ha

theorem logZ_mem {L L' : Nat} {a : Op} (ha : a ∈ (lattice L L').logZ) :
    a = (kB L L').map (fun q => (q, Pauli.Z)) := by
  change a ∈ logZ L L' at ha
  rw [logZ_eq] at ha
  simpa only [List.mem_cons, List.not_mem_nil, or_false] using ha

theorem pairing {L L' : Nat} (hL : 1 ≤ L) :
    ∀ i j, i < (lattice L L').logX.length → j < (lattice L L').logZ.length →
      opAntiCount ((lattice L L').logX.getD i []) ((lattice L L').logZ.getD j []) % 2
        = if i = j then 1 else 0 := by
  intro i j hi hj
  change i < (logX L L').length at hi
  change j < (logZ L L').length at hj
  show opAntiCount ((logX L L').getD i []) ((logZ L L').getD j []) % 2 = _
  rw [logX_eq] at hi ⊢
  rw [logZ_eq] at hj ⊢
  simp only [List.length_cons, List.length_nil] at hi hj
  have hXZ : Pauli.anti Pauli.X Pauli.Z = true := by decide
  obtain rfl : i = 0 := by omega
  obtain rfl : j = 0 := by omega
  simp only [List.getD_cons_zero, opAntiCount_const, hXZ, if_true]
  rw [interCount_self, length_kB hL]
  omega

theorem kB_qubits {L L' : Nat} : ∀ q ∈ kB L L', q ∈ qubits L L' := by
  intro q hq
  unfold kB at hq
  have := (List.mem_filter.mp hq).2
  unfold isQubit at this
  exact isIn_iff.mp this

def IsSupp (L : Nat) (k : List Coord) : Prop := ∃ x y, IsF L x y ∧ k = supp L x y

theorem IsSupp.keys {L L' : Nat} {k : List Coord} (hk : IsSupp L k) :
    k.Nodup ∧ k ≠ [] ∧ ∀ q ∈ k, q ∈ (lattice L L').qubits := by
  obtain ⟨x, y, h, rfl⟩ := hk
  exact ⟨nodup_supp .., supp_nonempty h, fun q hq => mem_qubits_faces.mpr ⟨x, y, h, hq⟩⟩

theorem css {L L' : Nat} (hL : 1 ≤ L) :
    (lattice L L').Css (IsSupp L) (IsSupp L) (· = kB L L') (· = kB L L') where
  qubits_nodup := nodup_qubits L L'
  stabs_nodup := nodup_stabs L L'
  disjoint := qubits_stabs_disjoint L L'
  stab s hs := by
    obtain ⟨x, y, p, rfl, h, hp⟩ := (mem_stabs (L' := L')).mp hs
    rcases hp with rfl | rfl
    · exact Or.inr ⟨_, ⟨x, y, h, rfl⟩, getStab_eq hs⟩
    · exact Or.inl ⟨_, ⟨x, y, h, rfl⟩, getStab_eq hs⟩
  keysZ _ hk := hk.keys
  keysX _ hk := hk.keys
  logX a ha := ⟨_, rfl, logX_mem ha⟩
  logZ a ha := ⟨_, rfl, logZ_mem ha⟩
  keysLX := by rintro _ rfl; exact ⟨nodup_kB L L', kB_qubits⟩
  keysLZ := by rintro _ rfl; exact ⟨nodup_kB L L', kB_qubits⟩
  zx := by
    rintro _ _ ⟨x, y, h, rfl⟩ ⟨x', y', h', rfl⟩
    exact face_face_even h h'
  zLX := by
    rintro _ _ ⟨x, y, h, rfl⟩ rfl
    exact supp_kB hL h
  xLZ := by
    rintro _ _ ⟨x, y, h, rfl⟩ rfl
    exact supp_kB hL h
  same_k := rfl
  pairing := pairing hL

end Panqec.Color666PlanarCode
