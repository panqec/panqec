/-
Supports given as a table of offsets read through a key function (core Lean only; about no family
of lattices in particular).

A generator writes the keys `key (s + d)`, `d` in a fixed table of offsets; `key` is the periodic
identification of the class (or the identity).  Whether `key (a + d) = key (b + e)` depends on
`d − e` only, so the number of keys two generators share is a count over the pairs `(d, e)` of the
two tables, and it is even as soon as every difference that the residues of the two locations allow
is taken by an even number of pairs: a fact about the two tables, whatever the size of the lattice.
The count is written `A.countP fun q => B.contains q`, which is what `Lat2D.interCount` and the
count in `opAntiCount_letter` unfold to.
-/

namespace Panqec

section
variable {V I K : Type} [DecidableEq I] [BEq K] [LawfulBEq K]

def pairsOf (A B : List V) : List (V × V) := A.flatMap fun d => B.map fun e => (d, e)

def EvenClasses {α : Type} (ι : α → I) (l : List α) : Prop :=
  ∀ v ∈ l, (l.countP fun w => ι w = ι v) % 2 = 0

instance {α : Type} (ι : α → I) (l : List α) : Decidable (EvenClasses ι l) := by
  unfold EvenClasses; infer_instance

theorem countP_filter_split {α : Type} (p c : α → Bool) : ∀ l : List α,
    l.countP p = (l.filter c).countP p + (l.filter fun a => !c a).countP p
  | [] => rfl
  | a :: l => by
    have ih := countP_filter_split p c l
    cases hc : c a <;> simp only [List.filter_cons, hc, List.countP_cons, Bool.not_false,
      Bool.not_true, if_true, if_false, Bool.false_eq_true] <;> omega

/-- `countP_even_of_classes` by induction on a bound `n` of the length -/
theorem countP_even_aux {α : Type} (ι : α → I) (p : α → Bool) : ∀ (n : Nat) (l : List α),
    l.length ≤ n → (∀ v ∈ l, ∀ w ∈ l, ι v = ι w → p v = p w) → EvenClasses ι l →
      l.countP p % 2 = 0
  | _, [], _, _, _ => rfl
  | 0, _ :: _, h, _, _ => absurd h (by simp)
  | n + 1, v :: l, hn, hp, he => by
    -- the class of `v` contributes all its members or none; the other classes stay even
    rw [countP_filter_split p (fun w => ι w = ι v)]
    have hin : ∀ {w}, w ∈ (v :: l).filter (fun w => !decide (ι w = ι v)) → w ∈ v :: l ∧ ι w ≠ ι v :=
      fun hw => ⟨(List.mem_filter.mp hw).1, by simpa using (List.mem_filter.mp hw).2⟩
    have h1 : ((v :: l).filter fun w => ι w = ι v).countP p % 2 = 0 := by
      have hv := he v List.mem_cons_self
      rw [List.countP_eq_length_filter] at hv
      by_cases pv : p v = true
      · rw [List.countP_eq_length.mpr]
        · exact hv
        · intro w hw
          have := List.mem_filter.mp hw
          rw [← hp v List.mem_cons_self w this.1 (of_decide_eq_true this.2).symm]; exact pv
      · rw [List.countP_eq_zero.mpr]
        intro w hw
        have := List.mem_filter.mp hw
        rw [← hp v List.mem_cons_self w this.1 (of_decide_eq_true this.2).symm]; exact pv
    have h2 : ((v :: l).filter fun w => !decide (ι w = ι v)).countP p % 2 = 0 := by
      apply countP_even_aux ι p n
      · have : ((v :: l).filter fun w => !decide (ι w = ι v)) = l.filter fun w => !decide (ι w = ι v) := by
          simp
        rw [this]
        exact Nat.le_trans (List.length_filter_le _ _) (by simpa using hn)
      · intro a ha b hb; exact hp a (hin ha).1 b (hin hb).1
      · intro w hw
        rw [List.countP_filter, ← he w (hin hw).1]
        congr 1
        apply List.countP_congr
        intro u _
        by_cases e : ι u = ι w
        · simp [e, (hin hw).2]
        · simp [e]
    omega

theorem countP_even_of_classes {α : Type} (ι : α → I) (p : α → Bool) (l : List α)
    (hp : ∀ v ∈ l, ∀ w ∈ l, ι v = ι w → p v = p w) (he : EvenClasses ι l) : l.countP p % 2 = 0 :=
  countP_even_aux ι p l.length l (Nat.le_refl _) hp he

theorem countP_class_even {α : Type} (ι : α → I) {l : List α} (h : EvenClasses ι l) (i : I) :
    (l.countP fun w => ι w = i) % 2 = 0 :=
  countP_even_of_classes ι _ l (fun v _ w _ e => by simp [e]) h

def dif (p : (Int × Int) × (Int × Int)) : Int × Int := (p.1.1 - p.2.1, p.1.2 - p.2.2)

variable (f g : V → K) (T : K → Bool) {A B : List V}

theorem countP_key (hB : (B.map g).Nodup) (k : K) :
    B.countP (fun e => g e == k) = if k ∈ B.map g then 1 else 0 := by
  have := hB.count (a := k)
  rwa [List.count, List.countP_map] at this

theorem keyed_pairs_filter (hB : (B.map g).Nodup) :
    (((A.map f).filter T).countP fun q => ((B.map g).filter T).contains q) =
      (pairsOf A B).countP fun p => T (f p.1) && (g p.2 == f p.1) := by
  unfold pairsOf
  induction A with
  | nil => rfl
  | cons d A ih =>
    rw [List.flatMap_cons, List.countP_append, ← ih, List.countP_map, List.map_cons,
      List.filter_cons]
    -- the pairs `(d, ·)`: the keys of `B` are distinct, so at most one of them is `f d`, and the row
    -- counts 1 exactly when `f d` passes `T` and is a key of `B`, which is what the head `f d`
    -- contributes on the left
    have hd : B.countP ((fun p : V × V => T (f p.1) && (g p.2 == f p.1)) ∘ fun e => (d, e)) =
        if T (f d) = true then (if f d ∈ B.map g then 1 else 0) else 0 := by
      rw [← countP_key g hB]
      cases hT : T (f d)
      · exact List.countP_eq_zero.mpr fun e _ => by simp [hT]
      · exact List.countP_congr fun e _ => by simp [hT]
    rw [hd]
    cases hT : T (f d)
    · rw [if_neg (by simp), if_neg (by simp), Nat.zero_add]
    · rw [if_pos rfl, if_pos rfl, List.countP_cons, Nat.add_comm]
      congr 1
      by_cases hm : f d ∈ B.map g
      · rw [if_pos hm, if_pos]
        exact List.contains_iff_mem.mpr (List.mem_filter.mpr ⟨hm, hT⟩)
      · rw [if_neg hm, if_neg]
        exact fun h => hm (List.mem_filter.mp (List.contains_iff_mem.mp h)).1

theorem keyed_pairs (hB : (B.map g).Nodup) :
    ((A.map f).countP fun q => (B.map g).contains q) = (pairsOf A B).countP fun p => g p.2 == f p.1 := by
  have := keyed_pairs_filter f g (fun _ => true) (A := A) hB
  simpa [List.filter_eq_self.mpr] using this

/-- `adm`: the pairs whose difference the residues of the two locations allow; `ι`: the difference
    `d − e` or a projection of it, which decides `f d = g e` on them.  The evenness is stated on the
    FILTERED pair list: that is the list a `decide` has to scan. -/
theorem keyed_even (ι : V × V → I) (adm : V × V → Bool) (hB : (B.map g).Nodup)
    (hadm : ∀ p ∈ pairsOf A B, g p.2 = f p.1 → adm p = true)
    (hkey : ∀ p ∈ pairsOf A B, ∀ q ∈ pairsOf A B, adm p = true → adm q = true → ι p = ι q →
      (g p.2 = f p.1 ↔ g q.2 = f q.1))
    (hev : EvenClasses ι ((pairsOf A B).filter adm)) :
    ((A.map f).countP fun q => (B.map g).contains q) % 2 = 0 := by
  rw [keyed_pairs f g hB]
  have : (pairsOf A B).countP (fun p => g p.2 == f p.1) =
      ((pairsOf A B).filter adm).countP (fun p => g p.2 == f p.1) := by
    rw [List.countP_filter]
    apply List.countP_congr
    intro p hp
    by_cases h : g p.2 = f p.1
    · simp [h, hadm p hp h]
    · simp [h]
  rw [this]
  refine countP_even_of_classes ι _ _ (fun p hp q hq h => ?_) hev
  rw [Bool.eq_iff_iff, beq_iff_eq, beq_iff_eq]
  exact hkey p (List.mem_filter.mp hp).1 q (List.mem_filter.mp hq).1 (List.mem_filter.mp hp).2
    (List.mem_filter.mp hq).2 h

omit [BEq K] [LawfulBEq K] in
theorem nodup_keyed (hA : A.Nodup) (h : ∀ d ∈ A, ∀ e ∈ A, f d = f e → d = e) : (A.map f).Nodup :=
  List.pairwise_map.mpr (hA.imp_of_mem fun hd he hne e => hne (h _ hd _ he e))

end

end Panqec
