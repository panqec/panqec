/-
Lemmas for C07 (single-qubit channel and its deformation, `fast_choice`, sampling a
whole error, `update_probabilities`).
-/
import PanqecVerif.Model.Noise
import PanqecVerif.Proofs.CodeAssembly
import Mathlib.Tactic.Linarith
import Mathlib.Tactic.Ring
import Mathlib.Tactic.FieldSimp
import Mathlib.Algebra.Order.Field.Rat
import Mathlib.Algebra.Order.Field.Basic

namespace Panqec

theorem baseDist_nonneg (p rx ry rz : Rat) (hp0 : 0 ≤ p) (hp1 : p ≤ 1) (hx : 0 ≤ rx) (hy : 0 ≤ ry)
    (hz : 0 ≤ rz) (σ : Pauli) : 0 ≤ (baseDist p rx ry rz).get σ := by
  cases σ <;> simp only [baseDist, Dist.get]
  · linarith
  · exact mul_nonneg hx hp0
  · exact mul_nonneg hy hp0
  · exact mul_nonneg hz hp0

theorem baseDist_total (p rx ry rz : Rat) (h : rx + ry + rz = 1) :
    (baseDist p rx ry rz).total = 1 := by
  simp only [baseDist, Dist.total]
  have : rx * p + ry * p + rz * p = (rx + ry + rz) * p := by ring
  rw [h] at this
  linarith

theorem baseDist_valid (p rx ry rz : Rat) (hp0 : 0 ≤ p) (hp1 : p ≤ 1) (hx : 0 ≤ rx) (hy : 0 ≤ ry)
    (hz : 0 ≤ rz) (h : rx + ry + rz = 1) : (baseDist p rx ry rz).Valid :=
  ⟨baseDist_nonneg p rx ry rz hp0 hp1 hx hy hz .I, baseDist_nonneg p rx ry rz hp0 hp1 hx hy hz .X,
   baseDist_nonneg p rx ry rz hp0 hp1 hx hy hz .Y, baseDist_nonneg p rx ry rz hp0 hp1 hx hy hz .Z,
   baseDist_total p rx ry rz h⟩

theorem Dist.Valid.get_nonneg {d : Dist} (h : d.Valid) (σ : Pauli) : 0 ≤ d.get σ := by
  obtain ⟨h1, h2, h3, h4, _⟩ := h
  cases σ <;> simpa [Dist.get]

theorem permDist_get (D : PauliMap) (d : Dist) (σ : Pauli) :
    (permDist D d).get σ = d.get (D.apply σ) := by
  cases σ <;> rfl

theorem deformDist_of_perm (D : PauliMap) (d : Dist) (h : D.isPerm = true) :
    deformDist D d = some (permDist D d) := by
  obtain ⟨a, b, c⟩ := D
  cases a <;> cases b <;> cases c <;> simp_all [PauliMap.isPerm, deformDist, Dist.prev, permDist, Dist.get]

/-- a permutation of `{X, Y, Z}` only reorders the summands -/
theorem permDist_total (D : PauliMap) (d : Dist) (h : D.isPerm = true) :
    (permDist D d).total = d.total := by
  obtain ⟨a, b, c⟩ := D
  cases a <;> cases b <;> cases c <;> first
    | exact absurd h (by decide)
    | simp only [permDist, Dist.total, Dist.get] <;> ring

theorem permDist_valid (D : PauliMap) (d : Dist) (h : D.isPerm = true) (hv : d.Valid) :
    (permDist D d).Valid :=
  ⟨hv.1, hv.get_nonneg _, hv.get_nonneg _, hv.get_nonneg _, (permDist_total D d h).trans hv.2.2.2.2⟩

theorem mapM_deformDist_of_perm (b : Dist) (Ds : List PauliMap) (h : ∀ D ∈ Ds, D.isPerm = true) :
    Ds.mapM (fun D => deformDist D b) = some (Ds.map fun D => permDist D b) :=
  mapM_eq_some_map_of_forall _ _ Ds fun D hD => deformDist_of_perm D b (h D hD)

theorem fastChoice_eq (u : Rat) (d : Dist) : fastChoice u d =
    if u < d.i then .I else if u < d.i + d.x then .X
    else if u < d.i + d.x + d.y then .Y else .Z := by
  simp only [fastChoice, fastChoiceGo, zero_add]
  split_ifs <;> rfl

theorem fastChoice_mem (u : Rat) (d : Dist) (hv : d.Valid) (hu0 : 0 ≤ u) (hu1 : u < 1) :
    d.lo (fastChoice u d) ≤ u ∧ u < d.hi (fastChoice u d) := by
  obtain ⟨h1, h2, h3, h4, h5⟩ := hv
  simp only [Dist.total] at h5
  rw [fastChoice_eq]
  split_ifs <;> simp only [Dist.lo, Dist.hi, Dist.get] <;> constructor <;> linarith

theorem fastChoice_iff (u : Rat) (d : Dist) (hv : d.Valid) (hu0 : 0 ≤ u) (hu1 : u < 1) (σ : Pauli) :
    fastChoice u d = σ ↔ d.lo σ ≤ u ∧ u < d.hi σ := by
  refine ⟨fun h => h ▸ fastChoice_mem u d hv hu0 hu1, fun ⟨hlo, hhi⟩ => ?_⟩
  -- conversely the left ends are increasing, so every earlier comparison of the loop fails
  obtain ⟨h1, h2, h3, h4, _⟩ := hv
  rw [fastChoice_eq]
  cases σ <;> simp only [Dist.lo, Dist.hi, Dist.get, zero_add] at hlo hhi
  · rw [if_pos hhi]
  · rw [if_neg (not_lt.mpr hlo), if_pos hhi]
  · rw [if_neg (by linarith), if_neg (not_lt.mpr hlo), if_pos hhi]
  · rw [if_neg (by linarith), if_neg (by linarith), if_neg (not_lt.mpr hlo)]

theorem sampleLetters_length (ds : List Dist) (us : List Rat) :
    (sampleLetters ds us).length = min ds.length us.length := by
  simp [sampleLetters]

theorem sampleLetters_get (ds : List Dist) (us : List Rat) (q : Nat) (d : Dist) (u : Rat)
    (hd : ds[q]? = some d) (hu : us[q]? = some u) :
    (sampleLetters ds us)[q]? = some (fastChoice u d) := by
  simp [sampleLetters, List.getElem?_zipWith, hd, hu]

theorem generate_length (ds : List Dist) (us : List Rat) (h : us.length = ds.length) :
    (generate ds us).length = 2 * ds.length := by
  simp [generate, pauliToBsf_length, sampleLetters_length, h]

theorem sampleLetters_iff_inBox : ∀ (ds : List Dist) (s : List Pauli) (us : List Rat),
    (∀ d ∈ ds, d.Valid) → (∀ u ∈ us, 0 ≤ u ∧ u < 1) → ds.length = us.length →
    (sampleLetters ds us = s ↔ inBox ds s us)
  | [], [], [], _, _, _ => by simp [sampleLetters, inBox]
  | [], _ :: _, [], _, _, _ => by simp [sampleLetters, inBox]
  | [], _, _ :: _, _, _, h => by simp at h
  | _ :: _, _, [], _, _, h => by simp at h
  | d :: ds, [], u :: us, _, _, _ => by simp [sampleLetters, inBox]
  | d :: ds, σ :: s, u :: us, hv, hu, hl => by
    have ih := sampleLetters_iff_inBox ds s us (fun d' h' => hv d' (by simp [h']))
      (fun u' h' => hu u' (by simp [h'])) (by simpa using hl)
    have h1 := fastChoice_iff u d (hv d (by simp)) (hu u (by simp)).1 (hu u (by simp)).2 σ
    simp only [sampleLetters] at ih
    simp only [sampleLetters, List.zipWith_cons_cons, List.cons.injEq, inBox, h1, ih]

theorem boxVolume_eq_stringProb (ds : List Dist) (s : List Pauli) :
    boxVolume ds s = stringProb ds s := by
  unfold boxVolume stringProb
  congr 1
  induction ds generalizing s with
  | nil => simp
  | cons d ds ih =>
    cases s with
    | nil => simp
    | cons σ s => simp [Dist.hi]

theorem joint_values (d : Dist) : d.joint 0 0 = d.i ∧ d.joint 1 0 = d.x ∧ d.joint 1 1 = d.y ∧
    d.joint 0 1 = d.z := by
  simp [Dist.joint, Pauli.ofBits, Dist.get]

theorem updateProbabilities_get (dir : UpdDir) : ∀ (cs : List Nat) (pxs pys pzs : List Rat),
    cs.length ≤ pxs.length → cs.length ≤ pys.length → cs.length ≤ pzs.length →
    ∃ v : List UpdVal, updateProbabilities dir cs pxs pys pzs = some v ∧ v.length = cs.length ∧
      ∀ (q c : Nat) (px py pz : Rat), cs[q]? = some c → pxs[q]? = some px → pys[q]? = some py →
        pzs[q]? = some pz → v[q]? = some (updateEntry dir c px py pz)
  | [], _, _, _, _, _, _ => ⟨[], by simp [updateProbabilities]⟩
  | c :: cs, [], _, _, h, _, _ => by simp at h
  | c :: cs, _ :: _, [], _, _, h, _ => by simp at h
  | c :: cs, _ :: _, _ :: _, [], _, _, h => by simp at h
  | c :: cs, px :: pxs, py :: pys, pz :: pzs, h1, h2, h3 => by
    obtain ⟨v, hv, hl, hg⟩ := updateProbabilities_get dir cs pxs pys pzs (by simpa using h1)
      (by simpa using h2) (by simpa using h3)
    refine ⟨updateEntry dir c px py pz :: v, by simp [updateProbabilities, hv], by simp [hl], ?_⟩
    intro q c' px' py' pz' hc hpx hpy hpz
    cases q with
    | zero => simp_all
    | succ q => simp only [List.getElem?_cons_succ] at *; exact hg q c' px' py' pz' hc hpx hpy hpz

theorem sampleLetters_forall (P : Pauli → Prop) : ∀ (ds : List Dist) (us : List Rat),
    (∀ d ∈ ds, ∀ u ∈ us, P (fastChoice u d)) → ∀ σ ∈ sampleLetters ds us, P σ
  | [], _, _ => by simp [sampleLetters]
  | _ :: _, [], _ => by simp [sampleLetters]
  | d :: ds, u :: us, h => by
    intro σ hσ
    simp only [sampleLetters, List.zipWith_cons_cons, List.mem_cons] at hσ
    rcases hσ with rfl | hσ
    · exact h d (by simp) u (by simp)
    · exact sampleLetters_forall P ds us
        (fun d' hd' u' hu' => h d' (by simp [hd']) u' (by simp [hu'])) σ hσ

end Panqec
