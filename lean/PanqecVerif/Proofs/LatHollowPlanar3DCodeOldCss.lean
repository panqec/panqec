/-
`HollowPlanar3DCode`, every size: commutation of vertex and face operators (the overlap is the one
of `Planar3DCode`: a location shared by a vertex and a face outside the hole is an edge of that face,
hence outside the hole), the logical X line and the end plane `x = 1` (they avoid the hole:
`y = z = 0`, resp. `x = 1`; the end plane is the logical Z of the model's `oldLogZ` and the
reference plane of the parity argument), distinctness / disjointness of the coordinate lists, the
uniform description of `get_stabilizer`, and the clauses of `Lattice.CommPair` that do not involve
the logical Z.  The listed logical Z (the cross-section through the cavity) is treated in
`LatHollowPlanar3DCodeCss.lean`.
-/
import PanqecVerif.Proofs.LatHollowPlanar3DCodeStab

set_option linter.unusedSectionVars false

namespace Panqec.HollowPlanar3DCode
open Panqec.Cubic3D
open Panqec.Planar3DCode (inE inO inE2 inO1 isVertex isFace isq isq_iff lxK lzK
  vertexCands faceCands
  lxK_nodup lzK_nodup mem_lxK mem_lzK shape_lxK shape_lzK)

theorem ov_vertexKeys {Lx Ly Lz : Nat} (x y z : Int) {ks : List Coord}
    (h : ∀ q ∈ ks, notHoleC Lx Ly Lz q = true) :
    ov (vertexKeys Lx Ly Lz x y z) ks = ov (Planar3DCode.vertexKeys Lx Ly Lz x y z) ks :=
  ov_filter_left _ h

theorem logX_eq (Lx Ly Lz : Nat) : logX Lx Ly Lz = [uop (lxK Lx) Pauli.X] :=
  Planar3DCode.logX_eq Lx Ly Lz

theorem oldLogZ_eq (Lx Ly Lz : Nat) : oldLogZ Lx Ly Lz = [uop (lzK Ly Lz) Pauli.Z] :=
  Planar3DCode.logZ_eq Lx Ly Lz

theorem lxK_notHole {Lx Ly Lz : Nat} : ∀ q ∈ lxK Lx, notHoleC Lx Ly Lz q = true := by
  intro q hq
  obtain ⟨a, b, c, rfl⟩ := shape_lxK hq
  rw [mem_lxK] at hq
  obtain ⟨_, rfl, rfl⟩ := hq
  rw [notHoleC3]; unfold Hole; omega

theorem lzK_notHole {Lx Ly Lz : Nat} : ∀ q ∈ lzK Ly Lz, notHoleC Lx Ly Lz q = true := by
  intro q hq
  obtain ⟨a, b, c, rfl⟩ := shape_lzK hq
  rw [mem_lzK] at hq
  obtain ⟨rfl, _, _⟩ := hq
  rw [notHoleC3]; unfold Hole; omega

theorem lxK_sub {Lx Ly Lz : Nat} (hLy : 1 ≤ Ly) (hLz : 1 ≤ Lz) :
    ∀ q ∈ lxK Lx, q ∈ qubits Lx Ly Lz := by
  intro q hq
  rw [qubits_eq, List.mem_filter]
  exact ⟨Planar3DCode.lxK_sub hLy hLz q hq, lxK_notHole q hq⟩

theorem lzK_sub {Lx Ly Lz : Nat} (hLx : 1 ≤ Lx) : ∀ q ∈ lzK Ly Lz, q ∈ qubits Lx Ly Lz := by
  intro q hq
  rw [qubits_eq, List.mem_filter]
  exact ⟨Planar3DCode.lzK_sub hLx q hq, lzK_notHole q hq⟩

def IsVertexKeys (Lx Ly Lz : Nat) (k : List Coord) : Prop :=
  ∃ x y z, isVertex Lx Ly Lz x y z ∧ ¬ Hole Lx Ly Lz x y z ∧ k = vertexKeys Lx Ly Lz x y z

def IsFaceKeys (Lx Ly Lz : Nat) (k : List Coord) : Prop :=
  ∃ ax u v w, isFace Lx Ly Lz ax u v w ∧ notHoleC Lx Ly Lz (ins ax u v w) = true ∧
    k = Planar3DCode.faceKeys Lx Ly Lz ax u v w

theorem IsFaceKeys.planar {Lx Ly Lz : Nat} {k : List Coord} (h : IsFaceKeys Lx Ly Lz k) :
    Planar3DCode.IsFaceKeys Lx Ly Lz k :=
  let ⟨ax, u, v, w, h, _, e⟩ := h; ⟨ax, u, v, w, h, e⟩

theorem IsFaceKeys.notHole {Lx Ly Lz : Nat} {k : List Coord} (h : IsFaceKeys Lx Ly Lz k) :
    ∀ q ∈ k, notHoleC Lx Ly Lz q = true := by
  obtain ⟨ax, u, v, w, h, hn, rfl⟩ := h
  exact face_edges h hn

theorem IsFaceKeys.stab {Lx Ly Lz : Nat} {k : List Coord} (h : IsFaceKeys Lx Ly Lz k) :
    ∃ s ∈ stabs Lx Ly Lz, getStab Lx Ly Lz s = uop k Pauli.X := by
  obtain ⟨ax, u, v, w, h, hn, rfl⟩ := h
  obtain ⟨x, y, z, e, hs, -⟩ := Planar3DCode.face_data h
  exact ⟨_, by rw [stabs_eq, List.mem_filter, e]; exact ⟨hs, e ▸ hn⟩, getStab_face h hn⟩

theorem qubits_nodup (Lx Ly Lz : Nat) : (qubits Lx Ly Lz).Nodup := by
  rw [qubits_eq]; exact (Planar3DCode.qubits_nodup Lx Ly Lz).filter _

theorem stabs_nodup (Lx Ly Lz : Nat) : (stabs Lx Ly Lz).Nodup := by
  rw [stabs_eq]; exact (Planar3DCode.stabs_nodup Lx Ly Lz).filter _

theorem qubits_not_stabs {Lx Ly Lz : Nat} {q : Coord} (h : q ∈ qubits Lx Ly Lz) :
    q ∉ stabs Lx Ly Lz :=
  fun hs => Planar3DCode.qubits_not_stabs (qubits_sub h) (stabs_sub hs)

theorem lattice_qubits (Lx Ly Lz : Nat) : (lattice Lx Ly Lz).qubits = qubits Lx Ly Lz := by
  simp only [lattice]
theorem lattice_stabs (Lx Ly Lz : Nat) : (lattice Lx Ly Lz).stabs = stabs Lx Ly Lz := by
  simp only [lattice]
theorem lattice_getStab (Lx Ly Lz : Nat) : (lattice Lx Ly Lz).getStab = getStab Lx Ly Lz := by
  simp only [lattice]
theorem lattice_logX (Lx Ly Lz : Nat) : (lattice Lx Ly Lz).logX = logX Lx Ly Lz := by
  simp only [lattice]
theorem lattice_logZ (Lx Ly Lz : Nat) : (lattice Lx Ly Lz).logZ = logZ Lx Ly Lz := by
  simp only [lattice]

theorem oldLattice_qubits (Lx Ly Lz : Nat) : (oldLattice Lx Ly Lz).qubits = qubits Lx Ly Lz := by
  simp only [oldLattice]
theorem oldLattice_logX (Lx Ly Lz : Nat) : (oldLattice Lx Ly Lz).logX = logX Lx Ly Lz := by
  simp only [oldLattice]
theorem oldLattice_logZ (Lx Ly Lz : Nat) : (oldLattice Lx Ly Lz).logZ = oldLogZ Lx Ly Lz := by
  simp only [oldLattice]

section
variable {Lx Ly Lz : Nat} (hLx : 1 ≤ Lx) (hLy : 1 ≤ Ly) (hLz : 1 ≤ Lz)
include hLx hLy hLz

theorem oldPairing (i j : Nat) (hi : i < 1) (hj : j < 1) :
    opAntiCount ((logX Lx Ly Lz).getD i []) ((oldLogZ Lx Ly Lz).getD j []) % 2 =
      if i = j then 1 else 0 :=
  Planar3DCode.pairing hLx hLy hLz i j hi hj

/-- The lattice with the end plane `x = 1` as logical Z.  The overlaps are those of `Planar3DCode`:
    the hole truncates vertex operators only, and neither a face operator nor a listed line or
    plane has a key in the hole. -/
theorem oldCss : (oldLattice Lx Ly Lz).Css (IsVertexKeys Lx Ly Lz) (IsFaceKeys Lx Ly Lz) (· = lxK Lx)
    (· = lzK Ly Lz) := by
  have P := Planar3DCode.css hLx hLy hLz
  constructor <;> try dsimp only [oldLattice]
  case qubits_nodup => exact qubits_nodup Lx Ly Lz
  case stabs_nodup => exact stabs_nodup Lx Ly Lz
  case disjoint => exact fun _ => qubits_not_stabs
  case stab =>
    intro s hs
    obtain ⟨hn, ⟨x, y, z, rfl, h⟩ | ⟨ax, u, v, w, rfl, h⟩⟩ := stab_cases hs
    · exact .inl ⟨_, ⟨x, y, z, h, notHoleC3.mp hn, rfl⟩, getStab_vertex h (notHoleC3.mp hn)⟩
    · exact .inr ⟨_, ⟨ax, u, v, w, h, hn, rfl⟩, getStab_face h hn⟩
  case keysZ =>
    rintro _ ⟨x, y, z, h, hn, rfl⟩
    exact ⟨vertexKeys_nodup _ _ _ _ _ _, vertexKeys_ne_nil h hn, vertexKeys_sub _ _ _ _ _ _⟩
  case keysX =>
    intro k hk
    obtain ⟨h1, h2, h3⟩ := P.keysX k hk.planar
    exact ⟨h1, h2, keys_sub h3 hk.notHole⟩
  case logX => rw [logX_eq]; exact fun a ha => ⟨_, rfl, List.mem_singleton.mp ha⟩
  case logZ => rw [oldLogZ_eq]; exact fun a ha => ⟨_, rfl, List.mem_singleton.mp ha⟩
  case keysLX =>
    rintro _ rfl
    exact ⟨lxK_nodup _, lxK_sub hLy hLz⟩
  case keysLZ =>
    rintro _ rfl
    exact ⟨lzK_nodup _ _, lzK_sub hLx⟩
  case zx =>
    rintro _ kx ⟨x, y, z, hv, _, rfl⟩ hk
    rw [overlap_eq_ov, ov_vertexKeys _ _ _ hk.notHole, ← overlap_eq_ov]
    exact P.zx _ _ ⟨x, y, z, hv, rfl⟩ hk.planar
  case zLX =>
    rintro _ _ ⟨x, y, z, hv, _, rfl⟩ rfl
    rw [overlap_eq_ov, ov_vertexKeys _ _ _ lxK_notHole, ← overlap_eq_ov]
    exact P.zLX _ _ ⟨x, y, z, hv, rfl⟩ rfl
  case xLZ => exact fun kx k hk e => P.xLZ kx k hk.planar e
  case same_k => rfl
  case pairing => exact oldPairing hLx hLy hLz

/-- the clauses of `oldCss` that do not involve the logical Z, in the terms of this class -/
theorem stab_comm {s t : Coord} (hs : s ∈ stabs Lx Ly Lz) (ht : t ∈ stabs Lx Ly Lz) :
    opCommute (getStab Lx Ly Lz s) (getStab Lx Ly Lz t) = true := by
  have h := (oldCss hLx hLy hLz).commPair.stab_comm
  dsimp only [oldLattice] at h
  exact h s hs t ht

theorem getStab_keysNodup {s : Coord} (hs : s ∈ stabs Lx Ly Lz) :
    ((getStab Lx Ly Lz s).map Prod.fst).Nodup := by
  have h := (oldCss hLx hLy hLz).wf.stab_keys
  dsimp only [oldLattice] at h
  exact h s hs

theorem lxK_comm {s : Coord} (hs : s ∈ stabs Lx Ly Lz) :
    opCommute (uop (lxK Lx) Pauli.X) (getStab Lx Ly Lz s) = true := by
  have h := (oldCss hLx hLy hLz).commPair.logX_comm
  dsimp only [oldLattice] at h
  exact h _ (by rw [logX_eq]; exact .head _) s hs

/-- the end plane `x = 1` (the logical Z of `oldLattice`) commutes with every generator -/
theorem lzK_comm {s : Coord} (hs : s ∈ stabs Lx Ly Lz) :
    opCommute (uop (lzK Ly Lz) Pauli.Z) (getStab Lx Ly Lz s) = true := by
  have h := (oldCss hLx hLy hLz).commPair.logZ_comm
  dsimp only [oldLattice] at h
  exact h _ (by rw [oldLogZ_eq]; exact .head _) s hs

theorem lxK_lzK_anti : opAntiCount (uop (lxK Lx) Pauli.X) (uop (lzK Ly Lz) Pauli.Z) % 2 = 1 := by
  have h := oldPairing hLx hLy hLz 0 0 (by omega) (by omega)
  rw [logX_eq, oldLogZ_eq] at h
  simpa using h

end

theorem qubitAxis_of_mem_qubits {Lx Ly Lz : Nat} {x y z : Int} (h : [x, y, z] ∈ qubits Lx Ly Lz) :
    qubitAxis [x, y, z] =
      some (if x % 2 = 1 then Axis.x else if y % 2 = 1 then Axis.y else Axis.z) :=
  Planar3DCode.qubitAxis_of_mem_qubits (qubits_sub h)

/-- `stabilizer_type` and the letter / weight bound of `get_stabilizer` for the four kinds -/
theorem stab_shape {Lx Ly Lz : Nat} {s : Coord} (hs : s ∈ stabs Lx Ly Lz) :
    (stabilizerType Lx Ly Lz s = some StabType.vertex ∧
      ∃ ks, getStab Lx Ly Lz s = uop ks Pauli.Z ∧ ks.length ≤ 6) ∨
    (stabilizerType Lx Ly Lz s = some StabType.face ∧
      ∃ ks, getStab Lx Ly Lz s = uop ks Pauli.X ∧ ks.length ≤ 4) := by
  obtain ⟨hn, ⟨x, y, z, rfl, h⟩ | ⟨ax, u, v, w, rfl, h⟩⟩ := stab_cases hs
  · exact Or.inl ⟨by simp [stabilizerType, hs, typeOf, h.1.2.2, h.2.1.2.2], _,
      getStab_vertex h (notHoleC3.mp hn),
      Nat.le_trans (List.length_filter_le _ _) (List.length_filter_le _ (vertexCands x y z))⟩
  · refine Or.inr ⟨?_, _, getStab_face h hn, List.length_filter_le _ (faceCands ax u v w)⟩
    obtain ⟨x, y, z, e, -, ht, -⟩ := Planar3DCode.face_data h
    rw [e] at hs ⊢
    simp [stabilizerType, hs, ht]

end Panqec.HollowPlanar3DCode
