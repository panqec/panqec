/-
List-level statement of "valid [[n,k]] stabilizer code" (the four clauses of C01)
and of GF(2) span / independence / rank, on the same `List Nat` BSF vectors the
executable model uses.  Definitions only (core Lean); the elementary theorems about them are in
`Proofs/RowCombos.lean`, the soundness of the executable checker in `Proofs/Mask.lean`, the
linear algebra over `ZMod 2` in `Proofs/Symplectic.lean`.
-/
import PanqecVerif.Model.Bits
import PanqecVerif.Model.Code

namespace Panqec

def vzero (m : Nat) : List Nat := List.replicate m 0

/-- xor of the rows selected by `sel` (rows beyond `sel` are not selected);
    `m` is the common length of the rows. -/
def xorCombo (m : Nat) : List Bool → List (List Nat) → List Nat
  | s :: sel, r :: rows => if s then vxor r (xorCombo m sel rows) else xorCombo m sel rows
  | _, _ => vzero m

/-- `v` is a GF(2) combination of `rows` (all of length `m`) -/
def InSpan (m : Nat) (rows : List (List Nat)) (v : List Nat) : Prop :=
  ∃ sel : List Bool, sel.length = rows.length ∧ xorCombo m sel rows = v

/-- no non-trivial GF(2) combination of `rows` vanishes -/
def Indep (m : Nat) (rows : List (List Nat)) : Prop :=
  ∀ sel : List Bool, sel.length = rows.length → xorCombo m sel rows = vzero m →
    ∀ s ∈ sel, s = false

/-- `rows` has GF(2) rank `r`: some `r` of the rows are independent and span all rows -/
def HasRank (m : Nat) (rows : List (List Nat)) (r : Nat) : Prop :=
  ∃ basis : List (List Nat), basis.Sublist rows ∧ basis.length = r ∧ Indep m basis ∧
    ∀ v ∈ rows, InSpan m basis v

/-- a well-formed stack of binary BSF vectors on `n` qubits -/
def WFRows (n : Nat) (rows : List (List Nat)) : Prop :=
  ∀ r ∈ rows, r.length = 2 * n ∧ ∀ x ∈ r, x < 2

/-- The clauses of C01 for parity-check matrix `H` and logical operators `Lx`, `Lz`
    (as the rows `stabilizer_matrix`, `logicals_x`, `logicals_z` hold them). -/
structure ValidCodeL (n k : Nat) (H Lx Lz : List (List Nat)) : Prop where
  wfH : WFRows n H
  wfX : WFRows n Lx
  wfZ : WFRows n Lz
  kX : Lx.length = k
  kZ : Lz.length = k
  /-- stabilizer generators pairwise commute -/
  stab_comm : ∀ a ∈ H, ∀ b ∈ H, symp a b = 0
  /-- every logical commutes with every stabilizer -/
  logX_comm : ∀ l ∈ Lx, ∀ g ∈ H, symp l g = 0
  logZ_comm : ∀ l ∈ Lz, ∀ g ∈ H, symp l g = 0
  /-- X_i and Z_j anticommute exactly when i = j -/
  pairing : ∀ i j, i < k → j < k →
    symp (Lx.getD i []) (Lz.getD j []) = if i = j then 1 else 0
  logXX : ∀ a ∈ Lx, ∀ b ∈ Lx, symp a b = 0
  logZZ : ∀ a ∈ Lz, ∀ b ∈ Lz, symp a b = 0
  /-- the generators have GF(2) rank n - k -/
  rank : HasRank (2 * n) H (n - k)
  k_le : k ≤ n

/-- Pauli weight of a binary BSF vector = `rowWeight` -/
abbrev pauliWeight (v : List Nat) : Nat := rowWeight v

/-- `v` commutes with every generator but is not a product of generators:
    a non-trivial logical operator. -/
def IsNontrivialLogical (n : Nat) (H : List (List Nat)) (v : List Nat) : Prop :=
  v.length = 2 * n ∧ (∀ x ∈ v, x < 2) ∧ (∀ g ∈ H, symp g v = 0) ∧ ¬ InSpan (2 * n) H v

/-- `d` is the code distance: minimum weight of a non-trivial logical operator -/
def IsDistance (n : Nat) (H : List (List Nat)) (d : Nat) : Prop :=
  (∃ v, IsNontrivialLogical n H v ∧ pauliWeight v = d) ∧
  ∀ v, IsNontrivialLogical n H v → d ≤ pauliWeight v

end Panqec
