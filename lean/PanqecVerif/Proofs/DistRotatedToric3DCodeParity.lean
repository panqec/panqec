/-
RotatedToric3DCode, supported family, C17: the parity argument.  `b` commutes with every
generator.  Rows and columns are one argument: it is written once for an indicator `H σ u v z` with
`u` running along the line and `v` across (`SignSums`), which the sign indicator of `b` satisfies
along either transposition of `LatRotatedToric3DCodeCommPair` (`Tr.signSums`: rows as it stands, columns
with `Lx` and `Ly` exchanged).

* `wall_step` — the Y-count (both signs) of the wall `v = g`, all layers, has the parity of the wall
  `v = g + 2`: the layer generators of the line `v = g + 1` (ALL of them, every layer — vertices and
  faces alike, on and off the defect line of an odd side) see every qubit of either wall once on
  each diagonal, and every vertical qubit of the line twice.  Valid for every parity.
* `line_step` — the X-count of the line `v = g` of a layer has the parity of the line `v = g + 2`
  (even side along the line: the horizontal faces between the lines tile both like dominoes, around
  the seam).
* `line_up` — the X-count of a line has the parity of the same line one layer up (row of vertical
  faces; every vertical qubit next to the line lies on two of them).
-/
import PanqecVerif.Proofs.DistRotatedToric3DCodeGenerators
import PanqecVerif.Proofs.DistCubic3D

namespace Panqec.RotatedToric3DCode
open Panqec.Lat3Db
open Panqec.Lat2D (rsum rsum2 rsum_congr rsum2_congr rsum_even rsum2_even rsum_add rsum2_add
  rsum_shift_open wrapP wrapS rsum_wrapP rsum_wrapS wrapP_wrapS rsum2_wrapS_left odd_chain)

theorem sw_idx (L m : Nat) :
    sw L (2 * (m : Int) + 2) = 2 * ((wrapS L m : Nat) : Int) + 1 := by
  unfold sw wrapS
  by_cases h : m + 1 = L
  · rw [if_pos (by omega), if_pos h]; rfl
  · rw [if_neg (by omega), if_neg h]; omega

theorem pw_idx {L j : Nat} (hj : j < L) :
    pw L (2 * (j : Int) + 1) = 2 * ((wrapP L j : Nat) : Int) + 2 := by
  unfold pw wrapP
  by_cases h : j = 0
  · rw [if_pos (by omega), if_pos h]; omega
  · rw [if_neg (by omega), if_neg h]; omega

/-- dominoes around a cycle of even length: the sites of one parity class, each with its
    successor, cover the cycle once -/
theorem rsum_pairs_wrap (e L : Nat) (he : e < 2) (hL : L % 2 = 0) (G : Nat → Nat) :
    rsum L (fun m => if m % 2 = e then G m + G (wrapS L m) else 0) = rsum L G := by
  have h1 : rsum L (fun m => if m % 2 = e then G m + G (wrapS L m) else 0) =
      rsum L (fun m => if m % 2 = e then G m else 0) +
        rsum L (fun m => if m % 2 = e then G (wrapS L m) else 0) := by
    rw [← rsum_add]
    apply rsum_congr
    intro m _
    by_cases h : m % 2 = e <;> simp [h]
  have h2 : rsum L (fun m => if m % 2 = e then G (wrapS L m) else 0) =
      rsum L (fun m => (fun m' => if wrapP L m' % 2 = e then G m' else 0) (wrapS L m)) :=
    rsum_congr L (fun m _ => by simp only; rw [wrapP_wrapS])
  have h3 : rsum L (fun m' => if wrapP L m' % 2 = e then G m' else 0) =
      rsum L (fun m' => if m' % 2 = e then 0 else G m') := by
    apply rsum_congr
    intro m' hm'
    unfold wrapP
    by_cases h0 : m' = 0
    · rw [if_pos h0]
      by_cases h : m' % 2 = e
      · rw [if_pos h, if_neg (by omega)]
      · rw [if_neg h, if_pos (by omega)]
    · rw [if_neg h0]
      by_cases h : m' % 2 = e
      · rw [if_pos h, if_neg (by omega)]
      · rw [if_neg h, if_pos (by omega)]
  rw [h1, h2, rsum_wrapS (fun m' => if wrapP L m' % 2 = e then G m' else 0) L, h3, ← rsum_add]
  apply rsum_congr
  intro m _
  by_cases h : m % 2 = e <;> simp [h]

/-- what the arguments below use of an operator commuting with every generator: `H σ u v z` is its
    sign indicator at the location with coordinate `u` along the lines (period `La`) and `v` across
    (period `Lc`), `X` its X component; the constraint of every layer generator and of every
    vertical face, and nothing outside the qubits -/
structure SignSums (La Lc Lz : Nat) (H : Bool → Int → Int → Int → Nat)
    (X : Int → Int → Int → Nat) : Prop where
  off : ∀ σ u v z, ¬ (QH La Lc Lz u v z ∨ QV La Lc Lz u v z) → H σ u v z = 0
  xcomp : ∀ u v z, X u v z = H (!col [u, v, z]) u v z
  layer : ∀ {u v z}, Ev La u → Ev Lc v → R1 (2 * Lz) z →
    (H true (u - 1) (v - 1) z + H true (sw La u) (sw Lc v) z + H false (u - 1) (sw Lc v) z
      + H false (sw La u) (v - 1) z + H true u v (z + 1) + H true u v (z - 1)) % 2 = 0
  vface : ∀ {f g h}, SF La Lc Lz f g h →
    (H false (pw La f) (pw Lc g) h + H false (f + 1) (g + 1) h + H false (pw La f) (g + 1) h
      + H false (f + 1) (pw Lc g) h + X f g (h - 1) + X f g (h + 1)) % 2 = 0

variable {Lx Ly Lz : Nat}

/-- the sign indicator of an operator commuting with the generators, read along the lines of a
    transposition: rows as it stands, columns with `Lx` and `Ly` exchanged -/
theorem Tr.signSums {e : Int → Int → Int → Coord} {La Lc : Nat} (hp : Tr Lx Ly e La Lc)
    (hF : Fam Lx Ly) {b : Op} (hb : CommStabs Lx Ly Lz b) :
    SignSums La Lc Lz (fun σ u v z => hS Lx Ly Lz b σ (e u v z))
      (fun u v z => xH Lx Ly Lz b (e u v z)) := by
  cases hp <;> dsimp only
  · exact ⟨fun _ _ _ _ h => hS_of_not h, fun _ _ _ => rfl, layer_even hF hb, vface_even hF hb⟩
  · exact {
      off := fun σ u v z h => hS_of_not fun h' => h (h'.imp (fun q => ⟨q.2.1, q.1, q.2.2⟩)
        fun q => ⟨q.2.1, q.1, q.2.2.1, by rw [Int.add_comm]; exact q.2.2.2⟩)
      xcomp := fun u v z => by unfold xH; rw [col_comm]
      layer := fun hu hv hz => by
        have := layer_even hF hb hv hu hz
        omega
      vface := fun {f g h} hs => by
        have := vface_even hF hb (f := g) (g := f) (h := h)
          ⟨hs.2.1, hs.1, hs.2.2.1, fun hd => hs.2.2.2 hd.symm⟩
        omega }

/-- Y-count (both signs) of the wall `v = g`, all layers -/
def wallS (La Lz : Nat) (H : Bool → Int → Int → Int → Nat) (g : Int) : Nat :=
  rsum2 La Lz (fun j k => H true (2 * (j : Int) + 1) g (2 * (k : Int) + 1)
    + H false (2 * (j : Int) + 1) g (2 * (k : Int) + 1))
/-- X-count of the line `v = g` of the layer `z = c` -/
def lineS (La : Nat) (X : Int → Int → Int → Nat) (g c : Int) : Nat :=
  rsum La (fun j => X (2 * (j : Int) + 1) g c)

section
variable {La Lc : Nat} {H : Bool → Int → Int → Int → Nat} {X : Int → Int → Int → Nat}

/-- a location of the class `(u + v) % 4 = 0` with even `u` is no qubit -/
theorem SignSums.off_face (hH : SignSums La Lc Lz H X) (σ : Bool) {u v z : Int}
    (h : (u + v) % 4 = 0) (hu : u % 2 = 0) : H σ u v z = 0 :=
  hH.off _ _ _ _ (by unfold QH QV R1; omega)

theorem wall_step (hH : SignSums La Lc Lz H X) (i : Nat) (hi : i + 1 < Lc) :
    (wallS La Lz H (2 * (i : Int) + 1) + wallS La Lz H (2 * (i : Int) + 3)) % 2 = 0 := by
  -- the constraints of the line of generators `v = 2i + 2`, every `u`, every layer
  have hE := rsum2_even (A := La) (B := Lz) (f := fun m k =>
      H true (2 * (m : Int) + 1) (2 * (i : Int) + 1) (2 * (k : Int) + 1)
      + H true (2 * ((wrapS La m : Nat) : Int) + 1) (2 * (i : Int) + 3) (2 * (k : Int) + 1)
      + H false (2 * (m : Int) + 1) (2 * (i : Int) + 3) (2 * (k : Int) + 1)
      + H false (2 * ((wrapS La m : Nat) : Int) + 1) (2 * (i : Int) + 1) (2 * (k : Int) + 1)
      + H true (2 * (m : Int) + 2) (2 * (i : Int) + 2) (2 * ((k + 1 : Nat) : Int))
      + H true (2 * (m : Int) + 2) (2 * (i : Int) + 2) (2 * (k : Int))) (by
    intro m k hm hk
    have h := hH.layer (u := 2 * (m : Int) + 2) (v := 2 * (i : Int) + 2)
      (z := 2 * (k : Int) + 1) (by unfold Ev; omega) (by unfold Ev; omega) (by unfold R1; omega)
    have e1 : sw Lc (2 * (i : Int) + 2) = 2 * (i : Int) + 3 := by
      have := sw_spec Lc (2 * (i : Int) + 2); omega
    rw [sw_idx, e1, show (2 * (m : Int) + 2 - 1) = 2 * (m : Int) + 1 by omega,
      show (2 * (i : Int) + 2 - 1) = 2 * (i : Int) + 1 by omega,
      show (2 * (k : Int) + 1 + 1) = 2 * ((k + 1 : Nat) : Int) by omega,
      show (2 * (k : Int) + 1 - 1) = 2 * (k : Int) by omega] at h
    exact h)
  rw [rsum2_add, rsum2_add, rsum2_add, rsum2_add, rsum2_add] at hE
  rw [rsum2_wrapS_left La Lz (fun j k =>
      H true (2 * (j : Int) + 1) (2 * (i : Int) + 3) (2 * (k : Int) + 1)),
    rsum2_wrapS_left La Lz (fun j k =>
      H false (2 * (j : Int) + 1) (2 * (i : Int) + 1) (2 * (k : Int) + 1))] at hE
  -- every vertical qubit of the line is seen from below and from above
  have hv : rsum2 La Lz (fun m k =>
        H true (2 * (m : Int) + 2) (2 * (i : Int) + 2) (2 * ((k + 1 : Nat) : Int))) =
      rsum2 La Lz (fun m k =>
        H true (2 * (m : Int) + 2) (2 * (i : Int) + 2) (2 * (k : Int))) := by
    apply rsum_congr
    intro m _
    exact rsum_shift_open
      (fun k => H true (2 * (m : Int) + 2) (2 * (i : Int) + 2) (2 * (k : Int))) Lz
      (hH.off _ _ _ _ (by unfold QH QV R1 R2; omega)) (hH.off _ _ _ _ (by unfold QH QV R1 R2; omega))
  rw [hv] at hE
  unfold wallS
  rw [rsum2_add, rsum2_add]
  omega

/-- colours of the four corners of the horizontal face at `(2m + 2, 2i + 2)`, `m ≡ i mod 2`, `w` the
    odd coordinate after `2m + 2` around a seam of even period -/
theorem corner_cols {L m i : Nat} {c : Int} (hL : L % 2 = 0) (hmi : m % 2 = i % 2) (hc : c % 2 = 1) :
    col [2 * (m : Int) + 1, 2 * (i : Int) + 1, c] = false ∧
    col [2 * ((wrapS L m : Nat) : Int) + 1, 2 * (i : Int) + 1, c] = true ∧
    col [2 * (m : Int) + 1, 2 * (i : Int) + 3, c] = true ∧
    col [2 * ((wrapS L m : Nat) : Int) + 1, 2 * (i : Int) + 3, c] = false := by
  have hw : (2 * ((wrapS L m : Nat) : Int) + 1) % 4 = (2 * (m : Int) + 3) % 4 := by
    unfold wrapS; split <;> omega
  simp only [col_h hc, beq_iff_eq, beq_eq_false_iff_ne, ne_eq]
  omega

/-- the horizontal face between the lines `v = 2i + 1` and `v = 2i + 3` at `u = 2m + 2`
    (`m ≡ i mod 2`), for an even `La`: its four qubits with their X component -/
theorem face_lines (hH : SignSums La Lc Lz H X) (hpa : La % 2 = 0) {i m k : Nat} (hi : i + 1 < Lc)
    (hm : m < La) (hk : k < Lz) (hmi : m % 2 = i % 2) :
    (X (2 * (m : Int) + 1) (2 * (i : Int) + 1) (2 * (k : Int) + 1)
      + X (2 * ((wrapS La m : Nat) : Int) + 1) (2 * (i : Int) + 1) (2 * (k : Int) + 1)
      + (X (2 * (m : Int) + 1) (2 * (i : Int) + 3) (2 * (k : Int) + 1)
      + X (2 * ((wrapS La m : Nat) : Int) + 1) (2 * (i : Int) + 3) (2 * (k : Int) + 1)))
      % 2 = 0 := by
  obtain ⟨c1, c2, c3, c4⟩ := corner_cols (c := 2 * (k : Int) + 1) hpa hmi (by omega)
  have hxy : (2 * (m : Int) + 2 + (2 * (i : Int) + 2)) % 4 = 0 := by omega
  have h := hH.layer (u := 2 * (m : Int) + 2) (v := 2 * (i : Int) + 2)
    (z := 2 * (k : Int) + 1) (by unfold Ev; omega) (by unfold Ev; omega) (by unfold R1; omega)
  have e1 : sw Lc (2 * (i : Int) + 2) = 2 * (i : Int) + 3 := by
    have := sw_spec Lc (2 * (i : Int) + 2); omega
  rw [sw_idx, e1, show (2 * (m : Int) + 2 - 1) = 2 * (m : Int) + 1 by omega,
    show (2 * (i : Int) + 2 - 1) = 2 * (i : Int) + 1 by omega,
    hH.off_face _ hxy (by omega), hH.off_face _ hxy (by omega)] at h
  rw [hH.xcomp, hH.xcomp, hH.xcomp, hH.xcomp, c1, c2, c3, c4]
  simp only [Bool.not_true, Bool.not_false]
  omega

theorem line_step (hH : SignSums La Lc Lz H X) (hpa : La % 2 = 0) {i k : Nat} (hi : i + 1 < Lc)
    (hk : k < Lz) :
    (lineS La X (2 * (i : Int) + 1) (2 * (k : Int) + 1)
      + lineS La X (2 * (i : Int) + 3) (2 * (k : Int) + 1)) % 2 = 0 := by
  have hp := rsum_pairs_wrap (i % 2) La (Nat.mod_lt _ (by omega)) hpa (fun m =>
    X (2 * (m : Int) + 1) (2 * (i : Int) + 1) (2 * (k : Int) + 1)
    + X (2 * (m : Int) + 1) (2 * (i : Int) + 3) (2 * (k : Int) + 1))
  unfold lineS
  rw [← rsum_add, ← hp]
  apply rsum_even
  intro m hm
  by_cases hmi : m % 2 = i % 2
  · rw [if_pos hmi]
    have h := face_lines hH hpa hi hm hk hmi
    omega
  · rw [if_neg hmi]

theorem line_up (hH : SignSums La Lc Lz H X) (hpa : La % 2 = 0) {i k : Nat} (hi : i < Lc)
    (hline : ¬ (Lc % 2 = 1 ∧ i = 0)) (hk : k + 1 < Lz) :
    (lineS La X (2 * (i : Int) + 1) (2 * (k : Int) + 1)
      + lineS La X (2 * (i : Int) + 1) (2 * (k : Int) + 3)) % 2 = 0 := by
  -- the vertical qubits next to the line, before (`pw g`) and after (`g + 1`) it, at `u = 2i' + 2`
  let D : Nat → Nat := fun i' =>
    H false (2 * (i' : Int) + 2) (pw Lc (2 * (i : Int) + 1)) (2 * (k : Int) + 2)
    + H false (2 * (i' : Int) + 2) (2 * (i : Int) + 1 + 1) (2 * (k : Int) + 2)
  have hE := rsum_even La (g := fun j => D (wrapP La j) + D j
      + X (2 * (j : Int) + 1) (2 * (i : Int) + 1) (2 * (k : Int) + 1)
      + X (2 * (j : Int) + 1) (2 * (i : Int) + 1) (2 * (k : Int) + 3)) (by
    intro j hj
    have hs : SF La Lc Lz (2 * (j : Int) + 1) (2 * (i : Int) + 1) (2 * (k : Int) + 2) := by
      refine ⟨by unfold R1; omega, by unfold R1; omega, by unfold R2; omega, ?_⟩
      unfold Dropped; omega
    have h := hH.vface hs
    rw [pw_idx hj, show (2 * (j : Int) + 1 + 1) = 2 * (j : Int) + 2 by omega,
      show (2 * (k : Int) + 2 - 1) = 2 * (k : Int) + 1 by omega,
      show (2 * (k : Int) + 2 + 1) = 2 * (k : Int) + 3 by omega] at h
    show (_ + _ + (_ + _) + _ + _) % 2 = 0
    omega)
  rw [rsum_add, rsum_add, rsum_add, rsum_wrapP D La] at hE
  unfold lineS
  omega

end

section sums
variable {La Lc : Nat} {H : Bool → Int → Int → Int → Nat} {X : Int → Int → Int → Nat}
  (hH : SignSums La Lc Lz H X)
include hH

/-- every line of a layer against the line `v = 1` of that layer (even `La`) -/
theorem line_all (hpa : La % 2 = 0) {k : Nat} (hk : k < Lz) (i : Nat) (hi : i < Lc) :
    lineS La X (2 * (i : Int) + 1) (2 * (k : Int) + 1) % 2 = lineS La X 1 (2 * (k : Int) + 1) % 2 :=
  odd_chain Lc (fun g => lineS La X g (2 * (k : Int) + 1)) (fun _ hi => line_step hH hpa hi hk) i hi

/-- every wall against the wall `v = 1` -/
theorem wall_all (i : Nat) (hi : i < Lc) :
    wallS La Lz H (2 * (i : Int) + 1) % 2 = wallS La Lz H 1 % 2 :=
  odd_chain Lc (wallS La Lz H) (wall_step hH) i hi

/-- even `La`, odd `Lc`: every line of every layer against the line `v = 1` of the bottom layer
    (inside a layer through the faces; between the layers along the line `v = 3`, because the line
    `v = 1` carries no vertical faces) -/
theorem line_any (hpa : La % 2 = 0) (hpc : Lc % 2 = 1) (hLc : 2 ≤ Lc) {i k : Nat}
    (hi : i < Lc) (hk : k < Lz) :
    lineS La X (2 * (i : Int) + 1) (2 * (k : Int) + 1) % 2 = lineS La X 1 1 % 2 := by
  have h1 := line_all hH hpa hk i hi
  have h2 := line_all hH hpa hk 1 (by omega)
  have h3 := odd_chain Lz (fun c => lineS La X (2 * ((1 : Nat) : Int) + 1) c)
    (fun _ hk => line_up hH hpa (i := 1) (by omega) (by omega) hk) k hk
  have h4 := line_all hH hpa (k := 0) (by omega) 1 (by omega)
  simp only [Nat.cast_zero, Int.mul_zero, Int.zero_add] at h4
  omega

end sums

end Panqec.RotatedToric3DCode
