/-
Color488Code, all sizes `Lx, Ly ≥ 1`: the class in CSS form (`Lattice.Css`, which yields
`Lattice.WF` and `Lattice.CommPair`), and the size formulas `n = 8·Lx·Ly`,
`n_stabilizers = 2(2Lx+1)(2Ly+1)`.  Core Lean only.
-/
import PanqecVerif.Proofs.LatColor488CodeLog
import PanqecVerif.Proofs.LatCss


namespace Panqec.Color488Code
open Panqec.Lat2D Panqec.Color

theorem logX_eq (Lx Ly : Nat) : logX Lx Ly =
    [(k3 Lx Ly).map (fun q => (q, Pauli.X)), (k7 Lx Ly).map (fun q => (q, Pauli.X)),
     (r5 Lx Ly).map (fun q => (q, Pauli.X)), (r1 Lx Ly).map (fun q => (q, Pauli.X))] := by
  show [collect (col3 Ly) (isQubit Lx Ly) Pauli.X, collect (col7 Ly) (isQubit Lx Ly) Pauli.X,
    collect (row5 Lx) (isQubit Lx Ly) Pauli.X, collect (row1 Lx) (isQubit Lx Ly) Pauli.X] = _
  rw [collect_eq _ _ _ (nodup_col3 Ly), collect_eq _ _ _ (nodup_col7 Ly),
    collect_eq _ _ _ (nodup_row5 Lx), collect_eq _ _ _ (nodup_row1 Lx)]; rfl

theorem logZ_eq (Lx Ly : Nat) : logZ Lx Ly =
    [(r5 Lx Ly).map (fun q => (q, Pauli.Z)), (r1 Lx Ly).map (fun q => (q, Pauli.Z)),
     (k3 Lx Ly).map (fun q => (q, Pauli.Z)), (k7 Lx Ly).map (fun q => (q, Pauli.Z))] := by
  show [collect (row5 Lx) (isQubit Lx Ly) Pauli.Z, collect (row1 Lx) (isQubit Lx Ly) Pauli.Z,
    collect (col3 Ly) (isQubit Lx Ly) Pauli.Z, collect (col7 Ly) (isQubit Lx Ly) Pauli.Z] = _
  rw [collect_eq _ _ _ (nodup_col3 Ly), collect_eq _ _ _ (nodup_col7 Ly),
    collect_eq _ _ _ (nodup_row5 Lx), collect_eq _ _ _ (nodup_row1 Lx)]; rfl

theorem line_face_even {Lx Ly : Nat} (hx : 1 ≤ Lx) (hy : 1 ≤ Ly) {K : List Coord}
    (h : K = k3 Lx Ly ∨ K = k7 Lx Ly ∨ K = r5 Lx Ly ∨ K = r1 Lx Ly) {x y : Int} (hf : IsF Lx Ly x y) :
    interCount (supp Lx Ly x y) K % 2 = 0 := by
  rcases h with rfl | rfl | rfl | rfl
  · exact supp_line_even hx hy hf _ _ (isLine_k3 hx hy).2 (πc_pairs _ _)
  · exact supp_line_even hx hy hf _ _ (isLine_k7 hx hy).2 (πc_pairs _ _)
  · exact supp_line_even hx hy hf _ _ (isLine_r5 hx hy).2 (πc_pairs _ _)
  · exact supp_line_even hx hy hf _ _ (isLine_r1 hx hy).2 (πc_pairs _ _)

theorem pairing {Lx Ly : Nat} (hx : 1 ≤ Lx) (hy : 1 ≤ Ly) :
    ∀ i j, i < (lattice Lx Ly).logX.length → j < (lattice Lx Ly).logZ.length →
      opAntiCount ((lattice Lx Ly).logX.getD i []) ((lattice Lx Ly).logZ.getD j []) % 2
        = if i = j then 1 else 0 := by
  intro i j hi hj
  change i < (logX Lx Ly).length at hi
  change j < (logZ Lx Ly).length at hj
  show opAntiCount ((logX Lx Ly).getD i []) ((logZ Lx Ly).getD j []) % 2 = _
  rw [logX_eq] at hi ⊢
  rw [logZ_eq] at hj ⊢
  simp only [List.length_cons, List.length_nil] at hi hj
  have hXZ : Pauli.anti Pauli.X Pauli.Z = true := by decide
  have h3 := isLine_k3 hx hy; have h7 := isLine_k7 hx hy
  have h5 := isLine_r5 hx hy; have h1 := isLine_r1 hx hy
  -- the columns meet the rows in `(3, 5)` and `(7, 1)`; `(3, 1)` and `(7, 5)` are not qubits
  have q35 : IsQ Lx Ly 3 5 := by unfold IsQ; omega
  have q71 : IsQ Lx Ly 7 1 := by unfold IsQ; omega
  have n31 : ¬ IsQ Lx Ly 3 1 := by unfold IsQ; omega
  have n75 : ¬ IsQ Lx Ly 7 5 := by unfold IsQ; omega
  have c35 := cross_lines hx hy h3 h5; rw [if_pos q35] at c35
  have c71 := cross_lines hx hy h7 h1; rw [if_pos q71] at c71
  have c31 := cross_lines hx hy h3 h1; rw [if_neg n31] at c31
  have c75 := cross_lines hx hy h7 h5; rw [if_neg n75] at c75
  have hi' : i = 0 ∨ i = 1 ∨ i = 2 ∨ i = 3 := by omega
  have hj' : j = 0 ∨ j = 1 ∨ j = 2 ∨ j = 3 := by omega
  rcases hi' with rfl | rfl | rfl | rfl <;> rcases hj' with rfl | rfl | rfl | rfl <;>
    simp only [List.getD_cons_zero, List.getD_cons_succ, opAntiCount_const, hXZ, if_true]
  · rw [c35]
  · rw [c31]; rfl
  · rw [interCount_self, length_k3 hx hy]; simp
  · rw [parallel_lines hx hy h3 h7 (by decide)]; rfl
  · rw [c75]; rfl
  · rw [c71]
  · rw [parallel_lines hx hy h7 h3 (by decide)]; rfl
  · rw [interCount_self, length_k7 hx hy]; simp
  · rw [interCount_self, length_r5 hx hy]; simp
  · rw [parallel_lines hx hy h5 h1 (by decide)]; rfl
  · rw [interCount_comm _ _ h5.1 h3.1, c35]
  · rw [interCount_comm _ _ h5.1 h7.1, c75]; rfl
  · rw [parallel_lines hx hy h1 h5 (by decide)]; rfl
  · rw [interCount_self, length_r1 hx hy]; simp
  · rw [interCount_comm _ _ h1.1 h3.1, c31]; rfl
  · rw [interCount_comm _ _ h1.1 h7.1, c71]

def IsSupp (Lx Ly : Nat) (k : List Coord) : Prop := ∃ x y, IsF Lx Ly x y ∧ k = supp Lx Ly x y

def IsLog (Lx Ly : Nat) (k : List Coord) : Prop :=
  k = k3 Lx Ly ∨ k = k7 Lx Ly ∨ k = r5 Lx Ly ∨ k = r1 Lx Ly

theorem IsLog.line {Lx Ly : Nat} (hx : 1 ≤ Lx) (hy : 1 ≤ Ly) {k : List Coord} (h : IsLog Lx Ly k) :
    ∃ tr c, IsLine Lx Ly tr c k := by
  rcases h with rfl | rfl | rfl | rfl
  · exact ⟨_, _, isLine_k3 hx hy⟩
  · exact ⟨_, _, isLine_k7 hx hy⟩
  · exact ⟨_, _, isLine_r5 hx hy⟩
  · exact ⟨_, _, isLine_r1 hx hy⟩

theorem IsSupp.keys {Lx Ly : Nat} (hx : 1 ≤ Lx) (hy : 1 ≤ Ly) {k : List Coord} (hk : IsSupp Lx Ly k) :
    k.Nodup ∧ k ≠ [] ∧ ∀ q ∈ k, q ∈ (lattice Lx Ly).qubits := by
  obtain ⟨x, y, h, rfl⟩ := hk
  exact ⟨nodup_supp hx hy .., supp_nonempty Lx Ly x y,
    fun q hq => (mem_qubits_faces hx hy).mpr ⟨x, y, h, hq⟩⟩

theorem IsLog.keys {Lx Ly : Nat} (hx : 1 ≤ Lx) (hy : 1 ≤ Ly) {k : List Coord} (hk : IsLog Lx Ly k) :
    k.Nodup ∧ ∀ q ∈ k, q ∈ (lattice Lx Ly).qubits := by
  obtain ⟨tr, c, h⟩ := hk.line hx hy
  exact ⟨h.1, fun q hq => ((h.2 q).mp hq).1⟩

theorem css {Lx Ly : Nat} (hx : 1 ≤ Lx) (hy : 1 ≤ Ly) :
    (lattice Lx Ly).Css (IsSupp Lx Ly) (IsSupp Lx Ly) (IsLog Lx Ly) (IsLog Lx Ly) where
  qubits_nodup := nodup_qubits Lx Ly
  stabs_nodup := nodup_stabs Lx Ly
  disjoint := qubits_stabs_disjoint hx hy
  stab s hs := by
    obtain ⟨x, y, p, rfl, h, hp⟩ := mem_stabs.mp hs
    rcases hp with rfl | rfl
    · exact Or.inr ⟨_, ⟨x, y, h, rfl⟩, getStab_eq hx hy hs⟩
    · exact Or.inl ⟨_, ⟨x, y, h, rfl⟩, getStab_eq hx hy hs⟩
  keysZ _ hk := hk.keys hx hy
  keysX _ hk := hk.keys hx hy
  logX a ha := by
    change a ∈ logX Lx Ly at ha
    rw [logX_eq] at ha
    simp only [List.mem_cons, List.not_mem_nil, or_false] at ha
    rcases ha with rfl | rfl | rfl | rfl
    · exact ⟨_, Or.inl rfl, rfl⟩
    · exact ⟨_, Or.inr (Or.inl rfl), rfl⟩
    · exact ⟨_, Or.inr (Or.inr (Or.inl rfl)), rfl⟩
    · exact ⟨_, Or.inr (Or.inr (Or.inr rfl)), rfl⟩
  logZ a ha := by
    change a ∈ logZ Lx Ly at ha
    rw [logZ_eq] at ha
    simp only [List.mem_cons, List.not_mem_nil, or_false] at ha
    rcases ha with rfl | rfl | rfl | rfl
    · exact ⟨_, Or.inr (Or.inr (Or.inl rfl)), rfl⟩
    · exact ⟨_, Or.inr (Or.inr (Or.inr rfl)), rfl⟩
    · exact ⟨_, Or.inl rfl, rfl⟩
    · exact ⟨_, Or.inr (Or.inl rfl), rfl⟩
  keysLX _ hk := hk.keys hx hy
  keysLZ _ hk := hk.keys hx hy
  zx := by
    rintro _ _ ⟨x, y, h, rfl⟩ ⟨x', y', h', rfl⟩
    exact face_face_even hx hy h h'
  zLX := by
    rintro _ k ⟨x, y, h, rfl⟩ hk
    exact line_face_even hx hy hk h
  xLZ := by
    rintro _ k ⟨x, y, h, rfl⟩ hk
    exact line_face_even hx hy hk h
  same_k := by
    show (logX Lx Ly).length = (logZ Lx Ly).length
    rw [logX_eq, logZ_eq]; rfl
  pairing := pairing hx hy

theorem length_range4 (L : Nat) : (pyRangeStep 0 (8 * (L : Int) + 4) 4).length = 2 * L + 1 := by
  unfold pyRangeStep
  simp only [List.length_map, List.length_range']
  omega

/-- `n_stabilizers = 2(2Lx+1)(2Ly+1)` (the seam rows are listed twice) -/
theorem length_stabs (Lx Ly : Nat) : (stabs Lx Ly).length = 2 * ((2 * Lx + 1) * (2 * Ly + 1)) := by
  unfold stabs faces
  rw [length_both, length_grid, length_range4, length_range4]

/-- the eight qubits of the unit cell `(i, j)` -/
def cell (i j : Nat) : List Coord :=
  [[8 * (i : Int) + 1, 8 * (j : Int) + 1], [8 * (i : Int) + 1, 8 * (j : Int) + 7],
   [8 * (i : Int) + 7, 8 * (j : Int) + 1], [8 * (i : Int) + 7, 8 * (j : Int) + 7],
   [8 * (i : Int) + 3, 8 * (j : Int) + 3], [8 * (i : Int) + 3, 8 * (j : Int) + 5],
   [8 * (i : Int) + 5, 8 * (j : Int) + 3], [8 * (i : Int) + 5, 8 * (j : Int) + 5]]

def niceQubits (Lx Ly : Nat) : List Coord :=
  (List.range Lx).flatMap fun i => (List.range Ly).flatMap fun j => cell i j

theorem mem_cell {i j : Nat} {q : Coord} : q ∈ cell i j ↔ ∃ u v : Int,
    q = [8 * (i : Int) + u, 8 * (j : Int) + v] ∧
    (((u = 1 ∨ u = 7) ∧ (v = 1 ∨ v = 7)) ∨ ((u = 3 ∨ u = 5) ∧ (v = 3 ∨ v = 5))) := by
  unfold cell
  simp only [List.mem_cons, List.not_mem_nil, or_false]
  constructor
  · rintro (rfl | rfl | rfl | rfl | rfl | rfl | rfl | rfl) <;> exact ⟨_, _, rfl, by decide⟩
  · rintro ⟨u, v, rfl, ⟨rfl | rfl, rfl | rfl⟩ | ⟨rfl | rfl, rfl | rfl⟩⟩ <;> simp

theorem nodup_cell (i j : Nat) : (cell i j).Nodup := by
  unfold cell
  simp only [List.nodup_cons, List.mem_cons, List.cons.injEq, and_true, List.not_mem_nil,
    or_false, not_false_eq_true, List.nodup_nil]
  omega

theorem cell_offset {u v : Int} (h : ((u = 1 ∨ u = 7) ∧ (v = 1 ∨ v = 7)) ∨ ((u = 3 ∨ u = 5) ∧ (v = 3 ∨ v = 5))) :
    0 < u ∧ u < 8 ∧ 0 < v ∧ v < 8 := by omega

theorem mem_niceQubits {Lx Ly : Nat} (hx : 1 ≤ Lx) (hy : 1 ≤ Ly) {q : Coord} : q ∈ niceQubits Lx Ly ↔ q ∈ qubits Lx Ly := by
  unfold niceQubits
  simp only [List.mem_flatMap, List.mem_range]
  rw [mem_qubits hx hy]
  constructor
  · rintro ⟨i, hi, j, hj, hq⟩
    obtain ⟨u, v, rfl, h⟩ := mem_cell.mp hq
    have := cell_offset h
    refine ⟨_, _, rfl, by omega, by omega, by omega, by omega, ?_⟩
    rw [show (8 * (i : Int) + u) % 8 = u by omega, show (8 * (j : Int) + v) % 8 = v by omega]
    exact h
  · rintro ⟨a, b, rfl, a0, a1, b0, b1, h⟩
    refine ⟨(a / 8).toNat, by omega, (b / 8).toNat, by omega, mem_cell.mpr ⟨a % 8, b % 8, ?_, h⟩⟩
    rw [Int.toNat_of_nonneg (by omega), Int.toNat_of_nonneg (by omega), Int.mul_ediv_add_emod,
      Int.mul_ediv_add_emod]

theorem nodup_niceQubits (Lx Ly : Nat) : (niceQubits Lx Ly).Nodup := by
  unfold niceQubits
  apply nodup_blocks
  · intro i _
    apply nodup_blocks
    · intro j _; exact nodup_cell i j
    · intro j j' _ _ hjj q hq hr
      obtain ⟨u, v, rfl, h⟩ := mem_cell.mp hq
      obtain ⟨u', v', e, h'⟩ := mem_cell.mp hr
      have := cell_offset h; have := cell_offset h'
      simp only [List.cons.injEq, and_true] at e
      omega
  · intro i i' _ _ hii q hq hr
    simp only [List.mem_flatMap, List.mem_range] at hq hr
    obtain ⟨j, _, hq⟩ := hq
    obtain ⟨j', _, hr⟩ := hr
    obtain ⟨u, v, rfl, h⟩ := mem_cell.mp hq
    obtain ⟨u', v', e, h'⟩ := mem_cell.mp hr
    have := cell_offset h; have := cell_offset h'
    simp only [List.cons.injEq, and_true] at e
    omega

theorem length_qubits {Lx Ly : Nat} (hx : 1 ≤ Lx) (hy : 1 ≤ Ly) : (qubits Lx Ly).length = 8 * (Lx * Ly) := by
  rw [← length_eq_of_mem_iff (nodup_niceQubits Lx Ly) (nodup_qubits Lx Ly) (fun q => mem_niceQubits hx hy)]
  unfold niceQubits
  rw [length_flatMap_range _ (fun _ => 8 * Ly) (fun i => by
    rw [length_flatMap_range _ (fun _ => 8) (fun j => rfl), sum_const]),
    sum_const, Nat.mul_assoc, Nat.mul_comm Ly Lx]

end Panqec.Color488Code
