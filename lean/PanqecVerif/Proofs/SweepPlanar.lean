/-
Geometry of C10 on Planar3DCode, for every size L_x, L_y, L_z: on every edge
`SweepDecoder3D.flip_edge` (neighbour table, `np.mod` by the limits, `is_stabilizer` filter)
toggles exactly the face stabilizers (truncated at the boundaries by `is_qubit`) that contain
the edge; the edges proposed by the sweep rule are edges of the lattice; stabilizer locations
are distinct.  Qubits and stabilizers are the locations of one open box with the parities of an
edge resp. of a vertex or face; a step of length one that is wrapped by `np.mod` leaves the box,
so inside the box `flip_edge` steps without wrapping, as `get_stabilizer` does.
-/
import PanqecVerif.Proofs.SweepCubic

namespace Panqec.Sweep

/-- the box that holds the qubits and the stabilizers of Planar3DCode -/
def PBox (Lx Ly Lz : Nat) (l : Loc) : Prop :=
  (1 ≤ l.1 ∧ l.1 < 2 * (Lx : Int)) ∧ (0 ≤ l.2.1 ∧ l.2.1 < 2 * (Ly : Int) - 1) ∧
  (0 ≤ l.2.2 ∧ l.2.2 < 2 * (Lz : Int) - 1)

theorem mem_range2_x_odd (L x : Int) :
    x ∈ range2 1 (2 * L + 1) ↔ (1 ≤ x ∧ x < 2 * L) ∧ x % 2 = 1 := by
  rw [mem_range2]
  omega

theorem mem_range2_x_even (L x : Int) :
    x ∈ range2 2 (2 * L) ↔ (1 ≤ x ∧ x < 2 * L) ∧ x % 2 = 0 := by
  rw [mem_range2]
  omega

theorem mem_range2_yz_even (L y : Int) :
    y ∈ range2 0 (2 * L) ↔ (0 ≤ y ∧ y < 2 * L - 1) ∧ y % 2 = 0 := by
  rw [mem_range2]
  omega

theorem mem_range2_yz_odd (L y : Int) :
    y ∈ range2 1 (2 * L - 1) ↔ (0 ≤ y ∧ y < 2 * L - 1) ∧ y % 2 = 1 := by
  rw [mem_range2]
  omega

theorem mem_planarQubits (Lx Ly Lz : Nat) (l : Loc) :
    l ∈ planarQubits Lx Ly Lz ↔ PBox Lx Ly Lz l ∧ par l ∈ edgePars := by
  simp only [planarQubits, List.mem_append, mem_prod3, mem_range2_x_odd, mem_range2_x_even,
    mem_range2_yz_even, mem_range2_yz_odd, and3_and3, ← and_or_left, PBox, par, edgePars,
    List.mem_cons, Prod.mk.injEq, List.not_mem_nil, or_false, or_assoc]

theorem mem_planarStabs (Lx Ly Lz : Nat) (l : Loc) :
    l ∈ planarStabs Lx Ly Lz ↔ PBox Lx Ly Lz l ∧ par l ∈ stabPars := by
  simp only [planarStabs, List.mem_append, mem_prod3, mem_range2_x_odd, mem_range2_x_even,
    mem_range2_yz_even, mem_range2_yz_odd, and3_and3, ← and_or_left, PBox, par, stabPars,
    List.mem_cons, Prod.mk.injEq, List.not_mem_nil, or_false, or_assoc]

theorem planarStabs_nodup (Lx Ly Lz : Nat) : (planarStabs Lx Ly Lz).Nodup := by
  unfold planarStabs
  refine List.Nodup.append (List.Nodup.append (List.Nodup.append (nodup_prod3_range ..)
    (nodup_prod3_range ..) ?_) (nodup_prod3_range ..) ?_) (nodup_prod3_range ..) ?_
  all_goals
    rw [List.disjoint_left]
    rintro ⟨x, y, z⟩ h1 h2
    simp only [List.mem_append, mem_prod3, mem_range2] at h1 h2
    omega

/-- a step from `[1, P)` that is wrapped lands on `0` -/
theorem emod_add_of_one_le (x u P : Int) (hx : 1 ≤ x ∧ x < P) (hu : -1 ≤ u ∧ u ≤ 1)
    (h : 1 ≤ (x + u) % P) : (x + u) % P = x + u := by
  by_cases hc : x + u < P
  · exact Int.emod_eq_of_lt (by omega) hc
  · rw [show x + u = P by omega, Int.emod_self] at h
    omega

/-- a step from `[0, P - 1)` that is wrapped lands on `P - 1` -/
theorem emod_add_of_lt_pred (y u P : Int) (hy : 0 ≤ y ∧ y < P - 1) (hu : -1 ≤ u ∧ u ≤ 1)
    (h : (y + u) % P < P - 1) : (y + u) % P = y + u := by
  by_cases hc : 0 ≤ y + u
  · exact Int.emod_eq_of_lt hc (by omega)
  · have e : (-1 + P) % P = -1 % P := Int.add_emod_right _ _
    rw [Int.emod_eq_of_lt (by omega) (by omega)] at e
    rw [show y + u = -1 by omega] at h
    omega

section
variable (Lx Ly Lz : Nat)

theorem wrap3_of_pbox {l : Loc} (h : PBox Lx Ly Lz l) : wrap3 Lx Ly Lz l = l := by
  obtain ⟨h1, h2, h3⟩ := h
  exact Prod.ext (Int.emod_eq_of_lt (by omega) h1.2)
    (Prod.ext (Int.emod_eq_of_lt h2.1 (by omega)) (Int.emod_eq_of_lt h3.1 (by omega)))

/-- a short step from the box that ends in the box after `np.mod` was not wrapped -/
theorem wrap3_addLoc_of_pbox {q d : Loc} (hq : PBox Lx Ly Lz q)
    (hd : (-1 ≤ d.1 ∧ d.1 ≤ 1) ∧ (-1 ≤ d.2.1 ∧ d.2.1 ≤ 1) ∧ (-1 ≤ d.2.2 ∧ d.2.2 ≤ 1))
    (h : PBox Lx Ly Lz (wrap3 Lx Ly Lz (addLoc q d))) :
    wrap3 Lx Ly Lz (addLoc q d) = addLoc q d :=
  Prod.ext (emod_add_of_one_le _ _ _ hq.1 hd.1 h.1.1)
    (Prod.ext (emod_add_of_lt_pred _ _ _ hq.2.1 hd.2.1 h.2.1.2)
      (emod_add_of_lt_pred _ _ _ hq.2.2 hd.2.2 h.2.2.2))

theorem planar_step_iff {q s d : Loc} (hq : PBox Lx Ly Lz q) (hs : PBox Lx Ly Lz s)
    (hd : d ∈ units) : wrap3 Lx Ly Lz (addLoc q d) = s ↔ addLoc s (negLoc d) = q := by
  constructor
  · rintro rfl
    rw [wrap3_addLoc_of_pbox Lx Ly Lz hq (units_small d hd) hs, addLoc_negLoc]
  · rintro rfl
    rw [addLoc_negLoc', wrap3_of_pbox Lx Ly Lz hs]

/-- the locations on which `get_stabilizer s` tries to put an X -/
def planarKeys (s : Loc) : List Loc := (xDeltas (par s)).map (addLoc s)

theorem planarStabOp_face (s : Loc) (hf : cubicIsFace s = true) :
    planarStabOp Lx Ly Lz s =
      buildOp (planarQubits Lx Ly Lz) ((planarKeys s).map fun k => (k, Pauli.X)) := by
  unfold planarStabOp planarKeys xDeltas
  rw [List.map_map, cubicIsFace_par, cubicFaceDeltas_par]
  simp only [hf, if_true]
  cases cubicFaceDeltas s <;> rfl

theorem planar_op_face (s : Loc) (hp : par s ∈ stabPars) (hf : cubicIsFace s = true) :
    (planar3D Lx Ly Lz).stabOp s = ((planarKeys s).map fun k => (k, Pauli.X)).filter
      (fun c => (planar3D Lx Ly Lz).qubits.contains c.1) ∧ (planarKeys s).Nodup := by
  have hK : (planarKeys s).Nodup :=
    List.Nodup.map_on (fun _ _ _ _ h => addLoc_left_cancel h) (stabPars_cases _ hp).1
  refine ⟨?_, hK⟩
  change planarStabOp Lx Ly Lz s = _
  rw [planarStabOp_face Lx Ly Lz s hf]
  exact buildOp_eq_filter _ _ (by rwa [map_fst_pair])

/-- a vertex stabilizer of Planar3DCode has a Z entry (flagged in `z_indices`) -/
theorem planar_op_vertex (s : Loc) (hb : PBox Lx Ly Lz s) (hp : par s ∈ stabPars)
    (hf : cubicIsFace s = false) : ∃ e ∈ (planar3D Lx Ly Lz).stabOp s, e.2 = Pauli.Z := by
  have h0 : par s = (0, 0, 0) := (stabPars_cases _ hp).2.2 (by rw [cubicIsFace_par, hf])
  change ∃ e ∈ planarStabOp Lx Ly Lz s, _
  unfold planarStabOp
  simp only [hf, Bool.false_eq_true, if_false]
  refine ⟨_, buildOp_mem _ _ ?_ (List.mem_map.mpr ⟨(1, 0, 0), by decide, rfl⟩) ?_, rfl⟩
  · rw [List.map_map]
    exact List.Nodup.map_on (fun _ _ _ _ h => addLoc_left_cancel h) (by decide)
  · rw [mem_planarQubits, par_addLoc, h0]
    refine ⟨?_, vertex_table _ (by decide)⟩
    obtain ⟨h1, h2, h3⟩ := hb
    have hx : s.1 % 2 = 0 := congrArg Prod.fst h0
    exact ⟨by simp only [addLoc]; omega, by simp only [addLoc]; omega, by simp only [addLoc]; omega⟩

theorem planar_faceHas (s : Loc) (hs : s ∈ planarStabs Lx Ly Lz) (q : Loc)
    (hq : q ∈ planarQubits Lx Ly Lz) :
    faceHas (planar3D Lx Ly Lz) s q = decide (q ∈ planarKeys s) := by
  obtain ⟨hb, hp⟩ := (mem_planarStabs Lx Ly Lz s).mp hs
  cases hf : cubicIsFace s
  · obtain ⟨e, he, hz⟩ := planar_op_vertex Lx Ly Lz s hb hp hf
    rw [faceHas_of_Z _ _ _ e he hz, planarKeys, xDeltas, cubicIsFace_par, hf]
    rfl
  · obtain ⟨hop, hK⟩ := planar_op_face Lx Ly Lz s hp hf
    exact faceHas_of_X_filter _ _ _ _ hop hK hq

theorem pbox_of_isStab {l : Loc} (h : (planar3D Lx Ly Lz).isStab l = true) : PBox Lx Ly Lz l :=
  ((mem_planarStabs Lx Ly Lz l).mp (Lattice.isStab_iff.mp h)).1

/-- GEOMETRY, all sizes: on every edge of `Planar3DCode(L_x, L_y, L_z)`,
    `SweepDecoder3D.flip_edge` toggles exactly the face stabilizers that anticommute with Z
    on that edge. -/
theorem planar_flipTableOK :
    flipTableOK (planar3D Lx Ly Lz) (flipFaces3D (planar3D Lx Ly Lz)) = true := by
  unfold flipTableOK
  rw [List.all_eq_true]
  intro q hq
  obtain ⟨hb, hp⟩ := (mem_planarQubits Lx Ly Lz q).mp hq
  have hw : wrapLimits (planar3D Lx Ly Lz) = wrap3 Lx Ly Lz := rfl
  apply flipOK3D_of _ q hp
  · intro d hd d' hd' hst h
    have hsm := units_small d ((cubicTables.mem_eD hp d).mp hd).1
    have hsm' := units_small d' ((cubicTables.mem_eD hp d').mp hd').1
    rw [hw] at h hst
    have hb1 := pbox_of_isStab Lx Ly Lz hst
    have hb2 : PBox Lx Ly Lz (wrap3 Lx Ly Lz (addLoc q d')) := h ▸ hb1
    rw [wrap3_addLoc_of_pbox Lx Ly Lz hb hsm hb1, wrap3_addLoc_of_pbox Lx Ly Lz hb hsm' hb2] at h
    exact addLoc_left_cancel h
  · intro s hs
    obtain ⟨hsb, hsp⟩ := (mem_planarStabs Lx Ly Lz s).mp hs
    rw [planar_faceHas Lx Ly Lz s hs q hq, decide_eq_true_iff, planarKeys, List.mem_map, hw]
    exact toggled_iff_hasX _ id (par_wrap3 Lx Ly Lz) (fun _ => rfl) hp hsp
      (fun d hd => planar_step_iff Lx Ly Lz hb hsb hd)

/-- every edge the sweep rule can propose on Planar3DCode is an edge of the lattice, whenever
    the two faces that trigger the proposal exist -/
theorem planar_sweepEdgesOK : sweepEdgesOK3D (planar3D Lx Ly Lz) = true := by
  unfold sweepEdgesOK3D
  rw [List.all_eq_true]
  intro v hv
  obtain ⟨hs, hz⟩ := List.mem_filter.mp hv
  obtain ⟨hb, hp⟩ := (mem_planarStabs Lx Ly Lz v).mp hs
  have hf : cubicIsFace v = false := by
    cases hf : cubicIsFace v
    · rfl
    · have hop := (planar_op_face Lx Ly Lz v hp hf).1
      rw [List.filter_map] at hop
      rw [zIndex_of_X _ _ _ hop] at hz
      cases hz
  have h0 : par v = (0, 0, 0) := (stabPars_cases _ hp).2.2 (by rw [cubicIsFace_par, hf])
  have hw : wrapLimits (planar3D Lx Ly Lz) = wrap3 Lx Ly Lz := rfl
  -- a neighbour of the vertex that lies in the box is an edge
  have hq : ∀ d ∈ units, PBox Lx Ly Lz (addLoc v d) →
      (planar3D Lx Ly Lz).isQubit (wrapLimits (planar3D Lx Ly Lz) (addLoc v d)) = true := by
    intro d hd hbd
    rw [Lattice.isQubit_iff, hw, wrap3_of_pbox Lx Ly Lz hbd]
    change addLoc v d ∈ planarQubits Lx Ly Lz
    rw [mem_planarQubits, par_addLoc, h0]
    exact ⟨hbd, vertex_table d hd⟩
  -- the y- and the z-edge are each proposed together with the face `x_face`, which exists only
  -- if there is room for a step in both directions
  have hxF : (planar3D Lx Ly Lz).isStab (xFace3D (planar3D Lx Ly Lz) v) = true →
      v.2.1 + 1 < 2 * (Ly : Int) - 1 ∧ v.2.2 + 1 < 2 * (Lz : Int) - 1 := by
    intro h
    have hF : xFace3D (planar3D Lx Ly Lz) v = wrap3 Lx Ly Lz (addLoc v (0, 1, 1)) := by
      simp only [xFace3D, addLoc, Int.add_zero]
      rfl
    rw [hF] at h
    have hbF := pbox_of_isStab Lx Ly Lz h
    rw [wrap3_addLoc_of_pbox Lx Ly Lz hb (by decide) hbF] at hbF
    exact ⟨hbF.2.1.2, hbF.2.2.2⟩
  obtain ⟨ex, ey, ez⟩ := edges3D_eq (planar3D Lx Ly Lz) v
  obtain ⟨h1, h2, h3⟩ := hb
  have hx0 : v.1 % 2 = 0 := congrArg Prod.fst h0
  rw [ex, ey, ez, hq (1, 0, 0) (by decide)
    ⟨by simp only [addLoc]; omega, by simp only [addLoc]; omega, by simp only [addLoc]; omega⟩]
  cases hxs : (planar3D Lx Ly Lz).isStab (xFace3D (planar3D Lx Ly Lz) v)
  · simp only [Bool.false_and, Bool.not_false, Bool.true_or, Bool.or_true, Bool.and_true]
  · obtain ⟨hy1, hz1⟩ := hxF hxs
    rw [hq (0, 1, 0) (by decide)
        ⟨by simp only [addLoc]; omega, by simp only [addLoc]; omega, by simp only [addLoc]; omega⟩,
      hq (0, 0, 1) (by decide)
        ⟨by simp only [addLoc]; omega, by simp only [addLoc]; omega, by simp only [addLoc]; omega⟩]
    simp only [Bool.or_true, Bool.and_true]

end
end Panqec.Sweep
