/-
`XCubeMatchingDecoder.decode`, the slicing of the syndrome into per-plane toric syndromes: after
`syndrome[x_indices] = 0` only cube stabilizers can be marked (every vertex-operator row of the
parity-check matrix is X-flagged, for every lattice size ≥ 2), and for a cube the toric
`stabilizer_index` key and the `plane_syndrome` key exist for every axis.  The facts about rows
(X-flagged vertex rows; one row of `Toric2DCode.Hx` per face) are read off the assembled matrices
of the lattice proofs (`Lattice.stabilizerMatrix_eq`, one-letter generators).
-/
import PanqecVerif.Proofs.XCubeDecMatch
import PanqecVerif.Proofs.LatXCubeCodeCss
import PanqecVerif.Proofs.LatToric2DCodeSector

namespace Panqec.XCube

open Panqec

variable {W : Type}

theorem toric_Hx_rows (La Lb : Nat) (ha : 2 ≤ La) (hb : 2 ≤ Lb) : (Hx (toricView La Lb).H).length = La * Lb := by
  unfold toricView
  simp only
  rw [Lattice.stabilizerMatrix_eq (Toric2DCode.wf ha hb), Option.getD_some, Toric2DCode.Hx_rowsH ha hb,
    UF.incMat_length]
  exact Toric2DCode.length_cells (by decide) (by decide)

/-- vertex operators sit at the 4-tuples of `stabilizer_coordinates`; their rows are X-flagged -/
theorem face_row_flagged (Lx Ly Lz : Nat) (hx : 2 ≤ Lx) (hy : 2 ≤ Ly) (hz : 2 ≤ Lz) (H : Mat)
    (hH : stabilizerMatrix (codeData Lx Ly Lz none) = some H) (i : Nat) (ax x y z : Int)
    (hi : (XCubeCode.stabs Lx Ly Lz)[i]? = some [ax, x, y, z]) (r : List Nat) (hr : H[i]? = some r) :
    xFlag r = true := by
  have hH' : H = (XCubeCode.lattice Lx Ly Lz).rowsH :=
    Option.some.inj (hH.symm.trans (Lattice.stabilizerMatrix_eq (XCubeCode.wf Lx Ly Lz hx hy hz)))
  subst hH'
  simp only [Lattice.rowsH, List.getElem?_map, XCubeCode.lattice, hi, Option.map_some, Option.some.injEq] at hr
  subst hr
  obtain ⟨k, hk, e⟩ := XCubeCode.getStab_face hx hy hz ax x y z (List.mem_of_getElem? hi)
  rw [e]
  obtain ⟨q, hq⟩ := List.exists_mem_of_ne_nil _ hk.ne_nil
  exact xFlag_opRow_const _ _ _ rfl q (hk.qubits q hq) hq

theorem marked_is_cube (Lx Ly Lz : Nat) (hx : 2 ≤ Lx) (hy : 2 ≤ Ly) (hz : 2 ≤ Lz) (s : Vec)
    (loc : Coord) (v : Nat)
    (hm : (loc, v) ∈ (XCubeCode.stabs Lx Ly Lz).zip
      (maskX ((stabilizerMatrix (codeData Lx Ly Lz none)).getD []) s))
    (hv : v ≠ 0) : ∃ x y z, loc = [x, y, z] ∧ XCubeCode.SC Lx Ly Lz x y z := by
  obtain ⟨i, hi⟩ := List.mem_iff_getElem?.mp hm
  rw [List.getElem?_zip_eq_some] at hi
  obtain ⟨hloc, hval⟩ := hi
  have hmem : loc ∈ XCubeCode.stabs Lx Ly Lz := List.mem_of_getElem? hloc
  rcases XCubeCode.mem_stabs_shape Lx Ly Lz loc hmem with ⟨x, y, z, rfl⟩ | ⟨ax, x, y, z, rfl⟩
  · exact ⟨x, y, z, rfl, (XCubeCode.mem_stabs_cube Lx Ly Lz x y z).mp hmem⟩
  · exfalso
    unfold maskX at hval
    rw [List.getElem?_zipWith_eq_some] at hval
    obtain ⟨m, v0, hmask, _, hv0⟩ := hval
    cases hH : stabilizerMatrix (codeData Lx Ly Lz none) with
    | none => rw [hH] at hmask; simp [xIndices] at hmask
    | some H =>
      rw [hH] at hmask
      simp only [Option.getD_some, xIndices_eq, List.getElem?_map, Option.map_eq_some_iff] at hmask
      obtain ⟨r, hr, hflag⟩ := hmask
      have := face_row_flagged Lx Ly Lz hx hy hz H hH i ax x y z hloc r hr
      rw [this] at hflag
      subst hflag
      simp at hv0
      exact hv hv0.symm

/-- invariant of the `plane_syndrome` dicts -/
def PsInv (d : XCubeDec W) (ps : Per (PlaneDict Vec)) : Prop :=
  ∀ a p, p ∈ keysOf (ps.get a) ↔ Lat3Db.R1 (2 * d.side a) p

theorem psInv_empty (d : XCubeDec W) :
    PsInv d ⟨emptyPlanes d .x, emptyPlanes d .y, emptyPlanes d .z⟩ := by
  intro a p
  have key : ∀ (l : List Int) (v : Vec), ((l.map fun p => (p, v)).map (·.1)) = l := by
    intro l v
    rw [List.map_map]
    exact List.map_id'' (fun _ => rfl) l
  cases a <;> simp only [Per.get, keysOf, emptyPlanes] <;> rw [key, Lat3Db.mem_pyRange2_1]

theorem psInv_put (d : XCubeDec W) (ps : Per (PlaneDict Vec)) (h : PsInv d ps) (a : Axis) (k : Int)
    (v : Vec) : PsInv d (ps.set a ((ps.get a).put k v)) := by
  intro b p
  rw [Per.get_set]
  split
  · rename_i hb; subst hb; rw [keysOf_put]; exact h b p
  · exact h b p

theorem mem_toricStabs_face {La Lb : Nat} {a b : Int} (ha : Lat3Db.R1 (2 * La) a) (hb : Lat3Db.R1 (2 * Lb) b) :
    [a, b] ∈ Toric2DCode.stabs La Lb := by
  rw [Toric2DCode.mem_stabs']
  unfold Lat3Db.R1 at ha hb
  unfold Toric2DCode.IsF Toric2DCode.InBox
  exact Or.inr (by omega)

theorem spec_markStab (d : XCubeDec W) (g : Geom d) (ps : Per (PlaneDict Vec)) (hps : PsInv d ps)
    (x y z : Int) (hc : XCubeCode.SC d.Lx d.Ly d.Lz x y z) (E : XErr → Prop) :
    Spec (markStab d ps [x, y, z] : Out W _) E (PsInv d) := by
  unfold markStab
  refine spec_forM' (PsInv d) (fun ps a _ hps => ?_) ps hps
  have hface : tupleRemove [x, y, z] a.toNat ∈ (d.toric.get a).stabs := by
    rw [g.toric a, toricView_stabs]
    cases a
    · exact mem_toricStabs_face hc.2.1 hc.2.2
    · exact mem_toricStabs_face hc.1 hc.2.2
    · exact mem_toricStabs_face hc.1 hc.2.1
  have hplane : [x, y, z].getD a.toNat 0 ∈ keysOf (ps.get a) := by
    rw [hps a]
    cases a
    · exact hc.1
    · exact hc.2.1
    · exact hc.2.2
  exact spec_bind (spec_qubitIndex fun h => absurd hface h) fun idx _ =>
    spec_bind (spec_get_key hplane _) fun v _ => spec_pure (psInv_put d ps hps a _ _)

theorem spec_slicePlanes (d : XCubeDec W) (g : Geom d) (hx : 2 ≤ d.Lx) (hy : 2 ≤ d.Ly)
    (hz : 2 ≤ d.Lz) (hH : d.H = (stabilizerMatrix (codeData d.Lx d.Ly d.Lz none)).getD [])
    (s : Vec) (ps : Per (PlaneDict Vec)) (hps : PsInv d ps) (E : XErr → Prop) :
    Spec (slicePlanes d (maskX d.H s) ps : Out W _) E (PsInv d) := by
  unfold slicePlanes
  refine spec_forM' (PsInv d) (fun ps e he hps => ?_) ps hps
  split
  · rename_i hv
    rw [g.stabs, hH] at he
    obtain ⟨x, y, z, hloc, hc⟩ := marked_is_cube d.Lx d.Ly d.Lz hx hy hz s e.1 e.2 he hv
    rw [hloc]
    exact spec_markStab d g ps hps x y z hc E
  · exact spec_pure hps

end Panqec.XCube
