/-
Color666ToricCode, square sizes `L ≥ 1`: overlaps of the logical strings (pairing table), the class
in CSS form (`Lattice.Css`, which yields `Lattice.WF` and `Lattice.CommPair`).
-/
import PanqecVerif.Proofs.LatColor666ToricCodeStrings
import PanqecVerif.Proofs.LatCss

namespace Panqec.Color666ToricCode
open Panqec.Lat2D Panqec.Color

theorem fR_true_mem {L : Nat} (hL : 1 ≤ L) (c' t' a j : Int) :
    fR L true a j ∈ zigK L false c' t' ↔
      Cg L (t' - (j - 1)) ∧ ((-a - j - t' - c') % 3 = 0 ∨ (-a - j - t' - c') % 3 = 2) := by
  rw [fR_true]; exact fR_mem_zigK hL false c' t' _ _

theorem fL_true_mem {L : Nat} (hL : 1 ≤ L) (c' t' a j : Int) :
    fL L true a j ∈ zigK L false c' t' ↔
      Cg L (t' + 1 - (j + 1)) ∧ ((-a - j - t' - c') % 3 = 0 ∨ (-a - j - t' - c') % 3 = 1) := by
  rw [fL_true]; exact fL_mem_zigK hL false c' t' _ _

/-- a zig-zag `Z c t`, `c + t = 1`, of the frame `true` meets the zig-zag `Z c' 0` of the frame
    `false` nowhere if `c = c'`, and else in the corner `fR t 1` (of its block 0) alone -/
theorem zig_cross {L : Nat} (hL : 1 ≤ L) {c t c' : Int} {q : Coord} (hq : q ∈ zigK L true c t)
    (hq' : q ∈ zigK L false c' 0) (hct : c + t = 1) :
    c ≠ c' ∧ q = fR L true t 1 := by
  obtain ⟨i, d, hi, ⟨rfl, hd⟩ | ⟨rfl, hd⟩⟩ := mem_zigK.mp hq
  · obtain ⟨h1, h2⟩ := (fR_true_mem hL ..).mp hq'
    have := h1.mod3
    have hd0 : d = 0 := by omega
    subst hd0
    have := h1.eq_zero (by omega) (by omega)
    have hi0 : (i : Int) = 0 := by omega
    rw [hi0] at h2 ⊢
    exact ⟨by omega, by rw [show t + c + 3 * 0 + 0 = 1 by omega]⟩
  · have := ((fL_true_mem hL ..).mp hq').1.mod3
    omega

theorem kA_kC {L : Nat} (hL : 1 ≤ L) : interCount (kA L) (kC L) = 1 := by
  refine cross_one _ _ (nodup_kA hL) (fR L true 0 1) ?_ ?_ fun q hq hq' => ?_
  · exact (kA_perm hL).mem_iff.mpr (mem_zigK.mpr ⟨0, 0, by omega, Or.inl ⟨rfl, Or.inl rfl⟩⟩)
  · rw [(kC_perm hL).mem_iff, fR_true_mem hL]; exact ⟨cg_lit L 0 (by omega), by omega⟩
  · exact (zig_cross hL ((kA_perm hL).mem_iff.mp hq) ((kC_perm hL).mem_iff.mp hq') rfl).2

theorem kB_kD {L : Nat} (hL : 1 ≤ L) : interCount (kB L) (kD L) = 1 := by
  refine cross_one _ _ (nodup_kB hL) (fR L true 1 1) ?_ ?_ fun q hq hq' => ?_
  · exact (kB_perm hL).mem_iff.mpr (mem_zigK.mpr ⟨0, 0, by omega, Or.inl ⟨rfl, Or.inl rfl⟩⟩)
  · rw [(kD_perm hL).mem_iff, fR_true_mem hL]; exact ⟨cg_lit L 0 (by omega), by omega⟩
  · exact (zig_cross hL ((kB_perm hL).mem_iff.mp hq) ((kD_perm hL).mem_iff.mp hq') rfl).2

theorem kA_kD {L : Nat} (hL : 1 ≤ L) : interCount (kA L) (kD L) = 0 :=
  cross_zero _ _ fun _ hq hq' =>
    (zig_cross hL ((kA_perm hL).mem_iff.mp hq) ((kD_perm hL).mem_iff.mp hq') rfl).1 rfl

theorem kB_kC {L : Nat} (hL : 1 ≤ L) : interCount (kB L) (kC L) = 0 :=
  cross_zero _ _ fun _ hq hq' =>
    (zig_cross hL ((kB_perm hL).mem_iff.mp hq) ((kC_perm hL).mem_iff.mp hq') rfl).1 rfl

/-- the strings `A`, `B` are zig-zags of one frame in neighbouring columns -/
theorem kA_kB {L : Nat} (hL : 1 ≤ L) : interCount (kA L) (kB L) = 0 := by
  apply cross_zero
  intro q hq hq'
  refine zigK_disjoint_cols hL true 1 0 0 1 (fun h => ?_) q ((kA_perm hL).mem_iff.mp hq)
    ((kB_perm hL).mem_iff.mp hq')
  have := h.eq_zero (by omega) (by omega); omega

/-- the strings `C` and `D` are zig-zags of one column with different colour offsets: two common
    qubits per block -/
theorem kC_kD_even {L : Nat} (hL : 1 ≤ L) : interCount (kC L) (kD L) % 2 = 0 := by
  have e : interCount (kC L) (kD L) =
      (zigK L false 0 0).countP fun q => decide (q ∈ zigK L false 1 0) := by
    unfold interCount
    rw [(kC_perm hL).countP_eq]
    exact List.countP_congr fun q _ => by simp only [List.contains_eq_mem, (kD_perm hL).mem_iff]
  rw [e]
  conv => lhs; lhs; arg 2; unfold zigK
  rw [List.countP_flatMap]
  apply sum_even
  intro i _
  have c0 : Cg L (0 - 0) := cg_lit L 0 (by omega)
  have c1 : Cg L (0 + 1 - (0 + 1)) := cg_lit L 0 (by omega)
  simp only [Function.comp, List.countP_cons, List.countP_nil, decide_eq_true_eq,
    fR_mem_zigK hL, fL_mem_zigK hL, c0, c1, true_and]
  split_ifs <;> omega

/-- a string of `4 L` keys meets itself in an even number of keys -/
theorem even_of_len {n L : Nat} (h : n = 4 * L) : n % 2 = 0 := by omega

theorem string_nodup {L : Nat} (hL : 1 ≤ L) {K : List Coord}
    (h : K = kA L ∨ K = kB L ∨ K = kC L ∨ K = kD L) : K.Nodup := by
  rcases h with rfl | rfl | rfl | rfl
  · exact nodup_kA hL
  · exact nodup_kB hL
  · exact nodup_kC hL
  · exact nodup_kD hL

theorem string_qubits {L : Nat} (hL : 1 ≤ L) {K : List Coord}
    (h : K = kA L ∨ K = kB L ∨ K = kC L ∨ K = kD L) : ∀ q ∈ K, q ∈ qubits L L := by
  intro q hq
  obtain ⟨f, c, t, hp⟩ := string_zig hL h
  exact zigK_qubits hL f c t q (hp.mem_iff.mp hq)

theorem pairing {L : Nat} (hL : 1 ≤ L) :
    ∀ i j, i < (lattice L L).logX.length → j < (lattice L L).logZ.length →
      opAntiCount ((lattice L L).logX.getD i []) ((lattice L L).logZ.getD j []) % 2
        = if i = j then 1 else 0 := by
  intro i j hi hj
  change i < (logX L L).length at hi
  change j < (logZ L L).length at hj
  show opAntiCount ((logX L L).getD i []) ((logZ L L).getD j []) % 2 = _
  rw [logX_eq hL] at hi ⊢
  rw [logZ_eq hL] at hj ⊢
  simp only [List.length_cons, List.length_nil] at hi hj
  have hXZ : Pauli.anti Pauli.X Pauli.Z = true := by decide
  have cA := nodup_kA hL; have cB := nodup_kB hL; have cC := nodup_kC hL; have cD := nodup_kD hL
  have hi' : i = 0 ∨ i = 1 ∨ i = 2 ∨ i = 3 := by omega
  have hj' : j = 0 ∨ j = 1 ∨ j = 2 ∨ j = 3 := by omega
  rcases hi' with rfl | rfl | rfl | rfl <;> rcases hj' with rfl | rfl | rfl | rfl
  all_goals simp only [List.getD_cons_zero, List.getD_cons_succ, opAntiCount_const, hXZ, if_true]
  -- rows `A, B, C, D` against the columns `C, D, A, B`
  · rw [kA_kC hL]
  · rw [kA_kD hL]; rfl
  · rw [interCount_self, even_of_len (length_kA L)]; rfl
  · rw [kA_kB hL]; rfl
  · rw [kB_kC hL]; rfl
  · rw [kB_kD hL]
  · rw [interCount_comm _ _ cB cA, kA_kB hL]; rfl
  · rw [interCount_self, even_of_len (length_kB L)]; rfl
  · rw [interCount_self, even_of_len (length_kC L)]; rfl
  · rw [kC_kD_even hL]; rfl
  · rw [interCount_comm _ _ cC cA, kA_kC hL]
  · rw [interCount_comm _ _ cC cB, kB_kC hL]; rfl
  · rw [interCount_comm _ _ cD cC, kC_kD_even hL]; rfl
  · rw [interCount_self, even_of_len (length_kD L)]; rfl
  · rw [interCount_comm _ _ cD cA, kA_kD hL]; rfl
  · rw [interCount_comm _ _ cD cB, kB_kD hL]

def IsSupp (L : Nat) (k : List Coord) : Prop := ∃ x y, IsF L x y ∧ k = supp L x y

def IsString (L : Nat) (k : List Coord) : Prop := k = kA L ∨ k = kB L ∨ k = kC L ∨ k = kD L

theorem IsSupp.keys {L : Nat} (hL : 1 ≤ L) {k : List Coord} (hk : IsSupp L k) :
    k.Nodup ∧ k ≠ [] ∧ ∀ q ∈ k, q ∈ (lattice L L).qubits := by
  obtain ⟨x, y, h, rfl⟩ := hk
  exact ⟨nodup_supp hL h, supp_nonempty L x y, fun q hq => (mem_qubits_faces hL).mpr ⟨x, y, h, hq⟩⟩

theorem css {L : Nat} (hL : 1 ≤ L) :
    (lattice L L).Css (IsSupp L) (IsSupp L) (IsString L) (IsString L) where
  qubits_nodup := nodup_qubits L
  stabs_nodup := nodup_stabs L
  disjoint := qubits_stabs_disjoint hL
  stab s hs := by
    obtain ⟨x, y, p, rfl, h, hp⟩ := mem_stabs.mp hs
    rcases hp with rfl | rfl
    · exact Or.inr ⟨_, ⟨x, y, h, rfl⟩, getStab_eq hL hs⟩
    · exact Or.inl ⟨_, ⟨x, y, h, rfl⟩, getStab_eq hL hs⟩
  keysZ _ hk := hk.keys hL
  keysX _ hk := hk.keys hL
  logX a ha := by
    change a ∈ logX L L at ha
    rw [logX_eq hL] at ha
    simp only [List.mem_cons, List.not_mem_nil, or_false] at ha
    rcases ha with rfl | rfl | rfl | rfl
    · exact ⟨_, Or.inl rfl, rfl⟩
    · exact ⟨_, Or.inr (Or.inl rfl), rfl⟩
    · exact ⟨_, Or.inr (Or.inr (Or.inl rfl)), rfl⟩
    · exact ⟨_, Or.inr (Or.inr (Or.inr rfl)), rfl⟩
  logZ a ha := by
    change a ∈ logZ L L at ha
    rw [logZ_eq hL] at ha
    simp only [List.mem_cons, List.not_mem_nil, or_false] at ha
    rcases ha with rfl | rfl | rfl | rfl
    · exact ⟨_, Or.inr (Or.inr (Or.inl rfl)), rfl⟩
    · exact ⟨_, Or.inr (Or.inr (Or.inr rfl)), rfl⟩
    · exact ⟨_, Or.inl rfl, rfl⟩
    · exact ⟨_, Or.inr (Or.inl rfl), rfl⟩
  keysLX k hk := ⟨string_nodup hL hk, string_qubits hL hk⟩
  keysLZ k hk := ⟨string_nodup hL hk, string_qubits hL hk⟩
  zx := by
    rintro _ _ ⟨x, y, h, rfl⟩ ⟨x', y', h', rfl⟩
    exact face_face_even hL h h'
  zLX := by
    rintro _ k ⟨x, y, h, rfl⟩ hk
    exact face_string_even hL h hk
  xLZ := by
    rintro _ k ⟨x, y, h, rfl⟩ hk
    exact face_string_even hL h hk
  same_k := rfl
  pairing := pairing hL

/-- on the qubits 'X3Z3' never raises: `x % 12` is a key of `x_to_y` there, and one of the two maps is
    returned -/
theorem x3z3_on_qubits {L : Nat} (hL : 1 ≤ L) {q : Coord} (h : q ∈ (lattice L L).qubits) :
    getDeformation "X3Z3" q = DeformResult.map PauliMap.swapXZ ∨
    getDeformation "X3Z3" q = DeformResult.map PauliMap.id := by
  obtain ⟨x, y, rfl, hq⟩ := (mem_qubits hL).mp h
  unfold getDeformation
  simp only [if_true]
  have : ∃ v, xToY (x % 12) = some v := by
    unfold xToY
    have h12 : x % 12 = 0 ∨ x % 12 = 1 ∨ x % 12 = 3 ∨ x % 12 = 4 ∨ x % 12 = 6 ∨ x % 12 = 7 ∨
        x % 12 = 9 ∨ x % 12 = 10 := by obtain ⟨_, hm⟩ := hq; omega
    rcases h12 with e | e | e | e | e | e | e | e <;> rw [e] <;> simp
  obtain ⟨v, hv⟩ := this
  rw [hv]
  by_cases e : v = y % 8
  · left; simp [e]
  · right; simp [e]

end Panqec.Color666ToricCode
