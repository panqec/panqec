/-
Generic facts about `Except`: when a bind succeeds, what a successful `List.mapM` says of the members
and when it is total; an invariant through `List.foldl`.  Core Lean only, no model.
-/

namespace Panqec

theorem bind_eq_ok {ε α β} {x : Except ε α} {f : α → Except ε β} {b : β} :
    (x >>= f) = .ok b ↔ ∃ a, x = .ok a ∧ f a = .ok b := by
  cases x with
  | error e => exact ⟨nofun, nofun⟩
  | ok a => exact ⟨fun h => ⟨a, rfl, h⟩, fun ⟨_, h, hf⟩ => Except.ok.inj h ▸ hf⟩

theorem pure_eq_ok {ε α} {a b : α} : (pure a : Except ε α) = .ok b ↔ a = b :=
  ⟨fun h => Except.ok.inj h, fun h => h ▸ rfl⟩

theorem mapM_except_ok {α β ε : Type} (f : α → Except ε β) :
    ∀ (l : List α) (r : List β), l.mapM f = .ok r →
      (∀ b ∈ r, ∃ a ∈ l, f a = .ok b) ∧ (∀ a ∈ l, ∃ b ∈ r, f a = .ok b)
  | [], r, h => by
    obtain rfl : [] = r := Except.ok.inj h
    exact ⟨nofun, nofun⟩
  | a :: l, r, h => by
    rw [List.mapM_cons] at h
    cases hfa : f a with
    | error e => rw [hfa] at h; cases h
    | ok b =>
      cases hl : l.mapM f with
      | error e => rw [hfa, hl] at h; cases h
      | ok bs =>
        rw [hfa, hl] at h
        obtain rfl : b :: bs = r := Except.ok.inj h
        have ih := mapM_except_ok f l bs hl
        simp only [List.mem_cons, forall_eq_or_imp, exists_eq_or_imp]
        exact ⟨⟨.inl hfa, fun b' hb' => .inr (ih.1 b' hb')⟩, .inl hfa, fun a' ha' => .inr (ih.2 a' ha')⟩

theorem mapM_except_total {α β ε : Type} (f : α → Except ε β) :
    ∀ l : List α, (∀ a ∈ l, ∃ b, f a = .ok b) → ∃ r, l.mapM f = .ok r
  | [], _ => ⟨[], by simp [List.mapM_nil, pure, Except.pure]⟩
  | a :: l, h => by
    obtain ⟨b, hb⟩ := h a (by simp)
    obtain ⟨r, hr⟩ := mapM_except_total f l (fun a' ha' => h a' (by simp [ha']))
    exact ⟨b :: r, by simp [List.mapM_cons, hb, hr, bind, Except.bind, pure, Except.pure]⟩

/-- totality with the answer read off by index -/
theorem mapM_except_getElem {α β ε} (f : α → Except ε β) : ∀ (l : List α), (∀ x ∈ l, ∃ y, f x = .ok y) →
    ∃ ys, l.mapM f = .ok ys ∧ ys.length = l.length ∧
      ∀ i (h : i < l.length) (h' : i < ys.length), f l[i] = .ok ys[i] := by
  intro l
  induction l with
  | nil => intro _; exact ⟨[], rfl, rfl, fun i h => absurd h (by simp)⟩
  | cons a l ih =>
    intro h
    obtain ⟨y, hy⟩ := h a (List.mem_cons_self ..)
    obtain ⟨ys, h1, h2, h3⟩ := ih fun x hx => h x (List.mem_cons_of_mem _ hx)
    refine ⟨y :: ys, ?_, by simp [h2], ?_⟩
    · rw [List.mapM_cons, hy, h1]; rfl
    · intro i hi hi'
      cases i with
      | zero => exact hy
      | succ i => exact h3 i (by simpa using hi) (by simpa using hi')

theorem mapM_except_congr {α β ε : Type} {f g : α → Except ε β} :
    ∀ (l : List α), (∀ a ∈ l, f a = g a) → l.mapM f = l.mapM g
  | [], _ => by simp [List.mapM_nil]
  | a :: l, h => by
    rw [List.mapM_cons, List.mapM_cons, h a List.mem_cons_self,
      mapM_except_congr l fun a' ha' => h a' (List.mem_cons_of_mem _ ha')]

theorem foldl_invariant {σ α : Type} {P : σ → Prop} {f : σ → α → σ} : ∀ (l : List α) (s : σ), P s →
    (∀ s, P s → ∀ a ∈ l, P (f s a)) → P (l.foldl f s)
  | [], _, h, _ => h
  | a :: l, s, h, hf => foldl_invariant l _ (hf s h a List.mem_cons_self)
      fun s hs b hb => hf s hs b (List.mem_cons_of_mem _ hb)

end Panqec
