/-
The cubic cell complex behind `Toric3DCode`, `Planar3DCode`, `HollowPlanar3DCode`: a location is a
triple of integers, a vertex has three even coordinates, an edge one odd coordinate, a face two.
The edges at a vertex (`star`) and the
edges of a face (`rim`) are written over one axis `ax` and the lists of neighbouring coordinates
along each axis, so that the wrap-around of the periodic classes and the three orientations of a
face are parameters.  `ov_rim_star`: a face and a vertex share two edges or none, because along
each of the two axes of the face "the vertex coordinate is an end of the face coordinate" and "the
face coordinate is a neighbour of the vertex coordinate" say the same.
-/
import PanqecVerif.Proofs.LatCubic3D

namespace Panqec.Cubic3D

/-- the location with `u` at the place of the axis `ax` and `v`, `w` at the other two places, in
    coordinate order -/
def ins : Axis → Int → Int → Int → Coord
  | .x, u, v, w => [u, v, w]
  | .y, u, v, w => [v, u, w]
  | .z, u, v, w => [v, w, u]

theorem ins_inj {ax : Axis} {u v w u' v' w' : Int} :
    ins ax u v w = ins ax u' v' w' ↔ u = u' ∧ v = v' ∧ w = w' := by
  cases ax <;> simp only [ins, List.cons.injEq, and_true]
  · exact ⟨fun h => ⟨h.2.1, h.1, h.2.2⟩, fun h => ⟨h.2.1, h.1, h.2.2⟩⟩
  · exact ⟨fun h => ⟨h.2.2, h.1, h.2.1⟩, fun h => ⟨h.2.1, h.2.2, h.1⟩⟩

/-- the two axes other than `ax`, in coordinate order: the places of `v` and `w` in `ins ax u v w` -/
def Axis.fst : Axis → Axis
  | .x => .y | .y => .x | .z => .x
def Axis.snd : Axis → Axis
  | .x => .z | .y => .z | .z => .y

/-- the edges at the vertex `ins ax a b c`: `ca`, `cb`, `cc` list the neighbouring coordinates
    along the axis `ax` and the other two -/
def star (ax : Axis) (ca cb cc : List Int) (a b c : Int) : List Coord :=
  ca.map (fun t => ins ax t b c) ++ cb.map (fun t => ins ax a t c) ++ cc.map (fun t => ins ax a b t)

/-- the edges of the face `ins ax u v w` normal to `ax`: `ev`, `ew` list the neighbouring
    coordinates along the two axes of the face -/
def rim (ax : Axis) (u : Int) (ev ew : List Int) (v w : Int) : List Coord :=
  ev.map (fun t => ins ax u t w) ++ ew.map (fun t => ins ax u v t)

section
variable {ax : Axis} {ca cb cc ev ew : List Int} {a b c u v w p q r : Int}

theorem mem_star : ins ax p q r ∈ star ax ca cb cc a b c ↔
    (p ∈ ca ∧ q = b ∧ r = c) ∨ (p = a ∧ q ∈ cb ∧ r = c) ∨ (p = a ∧ q = b ∧ r ∈ cc) := by
  simp only [star, List.mem_append, List.mem_map, ins_inj, or_assoc]
  refine or_congr ⟨?_, ?_⟩ (or_congr ⟨?_, ?_⟩ ⟨?_, ?_⟩)
  · rintro ⟨t, ht, rfl, rfl, rfl⟩; exact ⟨ht, rfl, rfl⟩
  · rintro ⟨ht, rfl, rfl⟩; exact ⟨p, ht, rfl, rfl, rfl⟩
  · rintro ⟨t, ht, rfl, rfl, rfl⟩; exact ⟨rfl, ht, rfl⟩
  · rintro ⟨rfl, ht, rfl⟩; exact ⟨q, ht, rfl, rfl, rfl⟩
  · rintro ⟨t, ht, rfl, rfl, rfl⟩; exact ⟨rfl, rfl, ht⟩
  · rintro ⟨rfl, rfl, ht⟩; exact ⟨r, ht, rfl, rfl, rfl⟩

/-- the rim over two neighbours per axis is four edges, in this order -/
theorem rim_pairs (ax : Axis) (u v w v₁ v₂ w₁ w₂ : Int) :
    rim ax u [v₁, v₂] [w₁, w₂] v w =
      [ins ax u v₁ w, ins ax u v₂ w, ins ax u v w₁, ins ax u v w₂] := rfl

theorem rim_nodup (hv : ev.Nodup) (hw : ew.Nodup) (h : v ∉ ev) : (rim ax u ev ew v w).Nodup := by
  refine List.nodup_append.mpr ⟨hv.map fun _ _ e => (ins_inj.mp e).2.1,
    hw.map fun _ _ e => (ins_inj.mp e).2.2, ?_⟩
  rintro _ h1 _ h2 rfl
  obtain ⟨t, ht, rfl⟩ := List.mem_map.mp h1
  obtain ⟨s, _, e⟩ := List.mem_map.mp h2
  exact h ((ins_inj.mp e).2.1 ▸ ht)

end

/-- a duplicate-free list meets a set in one point or none -/
theorem countP_point {l : List Int} (hl : l.Nodup) {f : Int → Coord} {S : List Coord} {b : Int}
    {P : Prop} [Decidable P] (h : ∀ t ∈ l, f t ∈ S ↔ t = b ∧ P) :
    ov (l.map f) S = if b ∈ l ∧ P then 1 else 0 := by
  unfold ov
  rw [List.countP_map]
  split
  next hb =>
    rw [← hl.count (a := b) |>.trans (if_pos hb.1), List.count_eq_countP]
    refine List.countP_congr fun t ht => ?_
    simp only [Function.comp, decide_eq_true_eq, beq_iff_eq, h t ht, hb.2, and_true]
  next hb =>
    rw [List.countP_eq_zero]
    intro t ht
    simp only [Function.comp, decide_eq_true_eq, h t ht]
    rintro ⟨rfl, hP⟩
    exact hb ⟨ht, hP⟩

theorem ov_append (A B S : List Coord) : ov (A ++ B) S = ov A S + ov B S := List.countP_append

/-- two lines that each meet `S` in at most one point, and do so together, meet it evenly -/
theorem ov_two_lines {l₁ l₂ : List Int} (h₁ : l₁.Nodup) (h₂ : l₂.Nodup) {f₁ f₂ : Int → Coord}
    {S : List Coord} {b c : Int} {P Q : Prop} [Decidable P] [Decidable Q]
    (m₁ : ∀ t ∈ l₁, f₁ t ∈ S ↔ t = b ∧ P) (m₂ : ∀ t ∈ l₂, f₂ t ∈ S ↔ t = c ∧ Q)
    (h : (b ∈ l₁ ∧ P) ↔ (c ∈ l₂ ∧ Q)) : ov (l₁.map f₁ ++ l₂.map f₂) S % 2 = 0 := by
  rw [ov_append, countP_point h₁ m₁, countP_point h₂ m₂]
  by_cases hb : b ∈ l₁ ∧ P
  · rw [if_pos hb, if_pos (h.mp hb)]
  · rw [if_neg hb, if_neg (mt h.mpr hb)]

/-- A face and a vertex share two edges or none.  `hv`, `hw`: the face coordinates along its own
    axes are not vertex coordinates (parity); `ib`, `ic`: along each of these axes the vertex
    coordinate is an end of the face coordinate iff the face coordinate is a neighbour of the
    vertex coordinate. -/
theorem ov_rim_star {ax : Axis} {ca cb cc ev ew : List Int} {a b c u v w : Int}
    (nv : ev.Nodup) (nw : ew.Nodup) (hv : v ≠ b) (hw : w ≠ c)
    (ib : b ∈ ev ↔ v ∈ cb) (ic : c ∈ ew ↔ w ∈ cc) :
    ov (rim ax u ev ew v w) (star ax ca cb cc a b c) % 2 = 0 := by
  refine ov_two_lines nv nw (b := b) (c := c) (P := u = a ∧ w ∈ cc) (Q := u = a ∧ v ∈ cb)
    (fun t _ => ?_) (fun t _ => ?_) ?_
  · rw [mem_star]
    simp only [hw, and_false, false_or]
    exact ⟨fun h => ⟨h.2.1, h.1, h.2.2⟩, fun h => ⟨h.2.1, h.1, h.2.2⟩⟩
  · rw [mem_star]
    simp only [hv, false_and, and_false, false_or, or_false]
    exact ⟨fun h => ⟨h.2.2, h.1, h.2.1⟩, fun h => ⟨h.2.1, h.2.2, h.1⟩⟩
  · rw [ib, ic]
    exact ⟨fun h => ⟨h.2.2, h.2.1, h.1⟩, fun h => ⟨h.2.2, h.2.1, h.1⟩⟩

theorem star_y {cx cy cz : List Int} {x y z : Int} {q : Coord} :
    q ∈ star .x cx cy cz x y z ↔ q ∈ star .y cy cx cz y x z := by
  simp only [star, ins, List.mem_append, List.mem_map]
  exact ⟨fun h => h.elim (fun h => h.elim (fun h => .inl (.inr h)) fun h => .inl (.inl h)) .inr,
    fun h => h.elim (fun h => h.elim (fun h => .inl (.inr h)) fun h => .inl (.inl h)) .inr⟩

theorem star_z {cx cy cz : List Int} {x y z : Int} {q : Coord} :
    q ∈ star .x cx cy cz x y z ↔ q ∈ star .z cz cx cy z x y := by
  simp only [star, ins, List.mem_append, List.mem_map]
  exact ⟨fun h => h.elim (fun h => h.elim (fun h => .inl (.inr h)) .inr) fun h => .inl (.inl h),
    fun h => h.elim (fun h => h.elim .inr fun h => .inl (.inl h)) fun h => .inl (.inr h)⟩

theorem ov_cons_pair {k k' : Coord} {l K : List Coord} (h : k ∈ K ↔ k' ∈ K) :
    ov (k :: k' :: l) K % 2 = ov l K % 2 := by
  unfold ov
  simp only [List.countP_cons, decide_eq_true_eq]
  by_cases hk : k ∈ K
  · simp only [hk, h.mp hk, if_true]; omega
  · simp only [hk, mt h.mpr hk, if_false]; omega

/-- a face against a box `[a, b, c] ∈ K ↔ P .x a ∧ P .y b ∧ P .z c`: along each of its two axes the
    two edges are both in the box or both outside -/
theorem ov_rim_box {ax : Axis} {u v w v₁ v₂ w₁ w₂ : Int} {K : List Coord} {P : Axis → Int → Prop}
    (hK : ∀ {a b c : Int}, [a, b, c] ∈ K ↔ P .x a ∧ P .y b ∧ P .z c)
    (hv : P ax.fst v₁ ↔ P ax.fst v₂) (hw : P ax.snd w₁ ↔ P ax.snd w₂) :
    ov (rim ax u [v₁, v₂] [w₁, w₂] v w) K % 2 = 0 := by
  have hK' : ∀ p q r, ins ax p q r ∈ K ↔ P ax p ∧ P ax.fst q ∧ P ax.snd r := by
    intro p q r
    cases ax <;> simp only [ins, hK, Axis.fst, Axis.snd]
    exacts [and_left_comm, and_rotate.symm]
  unfold rim
  simp only [List.map_cons, List.map_nil, List.cons_append, List.nil_append]
  rw [ov_cons_pair (by rw [hK', hK', hv]), ov_cons_pair (by rw [hK', hK', hw])]
  rfl

theorem ov_congr_right {A S S' : List Coord} (h : ∀ q, q ∈ S ↔ q ∈ S') : ov A S = ov A S' := by
  unfold ov
  exact List.countP_congr fun q _ => by simp only [decide_eq_true_eq, h q]

end Panqec.Cubic3D
