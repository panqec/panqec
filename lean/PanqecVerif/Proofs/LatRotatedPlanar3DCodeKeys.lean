/-
RotatedPlanar3DCode lattice model: the two kinds of key list (vertex operators, face operators),
duplicate-free lists of qubits.
-/
import PanqecVerif.Proofs.LatRotatedPlanar3DCodeComm
import PanqecVerif.Proofs.LatRotatedPlanar3DCodeLog
open Panqec Panqec.Lat3Db
namespace Panqec.RotatedPlanar3DCode

def IsVertexKeys (Lx Ly Lz : Nat) (k : List Coord) : Prop :=
  ∃ x y z, SV Lx Ly Lz x y z ∧ k = vertexKeys Lx Ly Lz x y z

def IsFaceKeys (Lx Ly Lz : Nat) (k : List Coord) : Prop :=
  (∃ a b c, SH Lx Ly Lz a b c ∧ k = faceZKeys Lx Ly Lz a b c) ∨
  (∃ a b c, SF Lx Ly Lz a b c ∧ (a + b) % 4 = 0 ∧ k = faceXKeys Lx Ly Lz a b c) ∨
  (∃ a b c, SF Lx Ly Lz a b c ∧ (a + b) % 4 = 2 ∧ k = faceYKeys Lx Ly Lz a b c)

theorem IsVertexKeys.nodup {Lx Ly Lz : Nat} {k : List Coord} (h : IsVertexKeys Lx Ly Lz k) : k.Nodup := by
  obtain ⟨x, y, z, _, rfl⟩ := h
  exact (nodup_vertexLocs x y z).filter _

theorem IsFaceKeys.nodup {Lx Ly Lz : Nat} {k : List Coord} (h : IsFaceKeys Lx Ly Lz k) : k.Nodup := by
  rcases h with ⟨a, b, c, _, rfl⟩ | ⟨a, b, c, _, _, rfl⟩ | ⟨a, b, c, _, _, rfl⟩
  · exact (nodup_faceZLocs a b c).filter _
  · exact (nodup_faceXLocs a b c).filter _
  · exact (nodup_faceYLocs a b c).filter _

theorem IsVertexKeys.qubits {Lx Ly Lz : Nat} {k : List Coord} (h : IsVertexKeys Lx Ly Lz k) :
    ∀ q ∈ k, q ∈ qubits Lx Ly Lz := by
  obtain ⟨x, y, z, _, rfl⟩ := h
  intro q hq
  have := (List.mem_filter.mp hq).2
  unfold isQubit at this
  exact List.contains_iff_mem.mp this

theorem IsFaceKeys.qubits {Lx Ly Lz : Nat} {k : List Coord} (h : IsFaceKeys Lx Ly Lz k) :
    ∀ q ∈ k, q ∈ qubits Lx Ly Lz := by
  rcases h with ⟨a, b, c, _, rfl⟩ | ⟨a, b, c, _, _, rfl⟩ | ⟨a, b, c, _, _, rfl⟩ <;>
  · intro q hq
    have := (List.mem_filter.mp hq).2
    unfold isQubit at this
    exact List.contains_iff_mem.mp this

end Panqec.RotatedPlanar3DCode
