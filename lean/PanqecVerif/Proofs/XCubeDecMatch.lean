/-
`XCubeMatchingDecoder.decode`, "Decode all the 2D toric codes": the 3-D matching locations are
lifted toric qubits, the indices `get_matched_pairs` returns are face indices (`< La·Lb`), read as
qubit indices they are x-edges (the first `La·Lb` qubit coordinates), the `connected_planes`
look-ups find their keys, and the dict keeps "every set element is a key".
-/
import PanqecVerif.Proofs.XCubeDecProject
import PanqecVerif.Proofs.XCubeDecComps
import PanqecVerif.Proofs.DecodersGlue

namespace Panqec.XCube

open Panqec

variable {W : Type}

theorem mem_nonzeroIdx {v : Vec} {i : Nat} (h : i ∈ nonzeroIdx v) : i < v.length := by
  unfold nonzeroIdx at h
  obtain ⟨e, he, rfl⟩ := List.mem_map.mp h
  have := (List.mem_filter.mp he).1
  obtain ⟨a, i⟩ := e
  rw [List.mem_zipIdx_iff_getElem?] at this
  simp only at this ⊢
  exact (List.getElem?_eq_some_iff.mp this).1

theorem mem_colNonzero {H : Mat} {q i : Nat} (h : i ∈ colNonzero H q) : i < H.length := by
  unfold colNonzero at h
  simpa using mem_nonzeroIdx h

theorem walkStep_some {H : Mat} {corr : Vec} {sp : Nat} {prev : Option Nat} {p : Nat × Nat}
    (h : walkStep H corr sp prev = some p) :
    p.2 ∈ rowNonzero H sp ∧ (p.1 = sp ∨ p.1 ∈ colNonzero H p.2) := by
  unfold walkStep at h
  split at h
  · cases h
  · rename_i q hq
    cases h
    refine ⟨List.mem_of_find?_eq_some hq, ?_⟩
    cases hf : (colNonzero H q).find? (· != sp) with
    | none => exact Or.inl rfl
    | some i => exact Or.inr (List.mem_of_find?_eq_some hf)

theorem walkStep_lt {H : Mat} {corr : Vec} {sp B : Nat} {prev : Option Nat} {p : Nat × Nat}
    (hB : H.length ≤ B) (hsp : sp < B) (h : walkStep H corr sp prev = some p) : p.1 < B := by
  rcases (walkStep_some h).2 with e | hm
  · rw [e]; exact hsp
  · exact Nat.lt_of_lt_of_le (mem_colNonzero hm) hB

theorem walk_lt (H : Mat) (corr : Vec) (B : Nat) (hB : H.length ≤ B) :
    ∀ (fuel sp : Nat) (prev : Option Nat) (r : Nat), sp < B → walk H corr fuel sp prev = some r → r < B
  | 0, _, _, _, _, h => by simp [walk] at h
  | fuel + 1, sp, prev, r, hsp, h => by
    unfold walk at h
    cases hs : walkStep H corr sp prev with
    | none => rw [hs] at h; simp only [Option.some.injEq] at h; omega
    | some p =>
      rw [hs] at h
      exact walk_lt H corr B hB fuel p.1 (some p.2) r (walkStep_lt hB hsp hs) h

theorem spec_matchedPairs (H : Mat) (corr syn : Vec) (B : Nat) (hH : H.length ≤ B) (hs : syn.length ≤ B) :
    Spec (matchedPairs H corr syn : Out W _) DecOrHang (fun pairs => ∀ p ∈ pairs, p.1 < B ∧ p.2 < B) := by
  unfold matchedPairs
  refine spec_bind (Q := fun (st : List (Nat × Nat) × List Nat) => ∀ p ∈ st.1, p.1 < B ∧ p.2 < B) ?_
    (fun st hst => spec_pure hst)
  refine spec_forM' (fun (st : List (Nat × Nat) × List Nat) => ∀ p ∈ st.1, p.1 < B ∧ p.2 < B) ?_ _
    (by intro p hp; cases hp)
  intro st s hsm hst
  have hsB : s < B := by have := mem_nonzeroIdx hsm; omega
  split
  · exact spec_pure hst
  · cases hw : walk H corr (walkFuel H) s none with
    | none => exact spec_raise (Or.inl rfl)
    | some sp =>
      refine spec_pure ?_
      intro p hp
      rcases List.mem_append.mp hp with h | h
      · exact hst p h
      · simp only [List.mem_singleton] at h
        subst h
        exact ⟨hsB, walk_lt H corr B hH _ _ _ _ hsB hw⟩

theorem maskSelect_length_le : ∀ (mask : List Bool) (l : Vec),
    (maskSelect mask l).length ≤ (mask.filter id).length
  | [], _ => by simp [maskSelect]
  | _ :: _, [] => by simp [maskSelect]
  | b :: mask, a :: l => by
    have ih := maskSelect_length_le mask l
    unfold maskSelect at ih ⊢
    cases b <;> simp <;> omega

theorem extractX_length_le (H : Mat) (s : Vec) : (extractXSyndrome H s).length ≤ (Hx H).length := by
  unfold extractXSyndrome
  refine Nat.le_trans (maskSelect_length_le _ _) ?_
  rw [Hx_eq, xIndices_eq, List.length_map, List.filter_map, List.length_map]
  exact Nat.le_refl _

/-- invariant of the `connected_planes` dict -/
structure CpInv (d : XCubeDec W) (proj : Axis) (cp : PlaneDict (List Int)) : Prop where
  keys : ∀ p, p ∈ keysOf cp ↔ Lat3Db.R1 (2 * d.side proj) p
  ok : CpOk cp

theorem cpOk_put {cp : PlaneDict (List Int)} (h : CpOk cp) (a : Int) (sa : List Int) (b : Int)
    (hsa : (a, sa) ∈ cp) (hb : b ∈ keysOf cp) : CpOk (cp.put a (setAdd sa b)) := by
  intro e he v hv
  rw [keysOf_put]
  rcases mem_put he with h1 | h1
  · exact h e h1 v hv
  · subst h1
    rcases mem_setAdd.mp hv with h2 | rfl
    · exact h _ hsa v h2
    · exact hb

theorem spec_connect (d : XCubeDec W) (proj : Axis) (cp : PlaneDict (List Int))
    (hcp : CpInv d proj cp) (a b : Int) (ha : Lat3Db.R1 (2 * d.side proj) a)
    (hb : Lat3Db.R1 (2 * d.side proj) b) (E : XErr → Prop) :
    Spec (connect cp a b : Out W _) E (CpInv d proj) := by
  have hak := (hcp.keys a).mpr ha
  have hbk := (hcp.keys b).mpr hb
  unfold connect
  refine spec_bind (spec_get_key hak _) fun sa hsa => ?_
  have hak1 : a ∈ keysOf (cp.put a (setAdd sa b)) := by rw [keysOf_put]; exact hak
  have hbk1 : b ∈ keysOf (cp.put a (setAdd sa b)) := by rw [keysOf_put]; exact hbk
  refine spec_bind (spec_get_key hbk1 _) fun sb hsb => spec_pure ⟨fun p => ?_, ?_⟩
  · rw [keysOf_put, keysOf_put]; exact hcp.keys p
  · exact cpOk_put (cpOk_put hcp.ok a sa b (get?_eq_some_mem hsa) hbk) b sb a (get?_eq_some_mem hsb) hak1

theorem toric_first_block (La Lb i : Nat) (hi : i < La * Lb) :
    ∃ x y, (Toric2DCode.qubits La Lb)[i]? = some [x, y] ∧
      Lat3Db.R1 (2 * La) x ∧ Lat3Db.R0 (2 * Lb) y := by
  unfold Toric2DCode.qubits
  have hlen := Toric2DCode.length_cells (Lx := La) (Ly := Lb) (p := 1) (r := 0) (by decide) (by decide)
  rw [List.getElem?_append_left (by omega), List.getElem?_eq_getElem (by omega)]
  obtain ⟨x, y, hq, hb, hx, hy⟩ := (Toric2DCode.mem_cells (Lx := La) (Ly := Lb) (p := 1) (r := 0) (by decide) (by decide)).mp
    (List.getElem_mem (by omega : i < (Lat2D.grid (Lat2D.pyRange2 1 (2 * La)) (Lat2D.pyRange2 0 (2 * Lb))).length))
  unfold Toric2DCode.InBox at hb
  exact ⟨x, y, by rw [hq], by unfold Lat3Db.R1; omega, by unfold Lat3Db.R0; omega⟩

/-- `proj_component` picks the coordinate of the toric code of `axis` that runs along `proj` -/
theorem projComponent_spec (Lx Ly Lz : Nat) (proj axis : Axis) (h : axis ≠ proj) :
    (projComponent proj axis = 0 ∧ (toricSizes Lx Ly Lz axis).1 = sideOf Lx Ly Lz proj) ∨
    (projComponent proj axis = 1 ∧ (toricSizes Lx Ly Lz axis).2 = sideOf Lx Ly Lz proj) := by
  cases proj <;> cases axis <;> simp_all [projComponent, toricSizes, sideOf]

theorem spec_connectPairs (d : XCubeDec W) (g : Geom d) (proj axis : Axis) (hne : axis ≠ proj)
    (pairs : List (Nat × Nat))
    (hpairs : ∀ p ∈ pairs, p.1 < (toricSizes d.Lx d.Ly d.Lz axis).1 * (toricSizes d.Lx d.Ly d.Lz axis).2 ∧
      p.2 < (toricSizes d.Lx d.Ly d.Lz axis).1 * (toricSizes d.Lx d.Ly d.Lz axis).2)
    (cp : PlaneDict (List Int)) (hcp : CpInv d proj cp) :
    Spec (connectPairs (d.toric.get axis) (projComponent proj axis) pairs cp : Out W _) DecOrHang
      (CpInv d proj) := by
  unfold connectPairs
  refine spec_forM' (CpInv d proj) (fun cp pr hpr hcp => ?_) cp hcp
  obtain ⟨h1, h2⟩ := hpairs pr hpr
  rw [g.toric axis, toricView_qubits]
  obtain ⟨x1, y1, e1, hx1, hy1⟩ := toric_first_block _ _ pr.1 h1
  obtain ⟨x2, y2, e2, hx2, hy2⟩ := toric_first_block _ _ pr.2 h2
  rw [e1, e2]
  simp only
  rcases projComponent_spec d.Lx d.Ly d.Lz proj axis hne with ⟨hc, hs⟩ | ⟨hc, hs⟩
  · rw [hc]
    simp only [List.getD_cons_zero, Nat.zero_ne_one, beq_iff_eq, if_false]
    have hs' : d.side proj = (toricSizes d.Lx d.Ly d.Lz axis).1 := by rw [side_eq_sideOf, hs]
    split
    · exact spec_connect d proj cp hcp x1 x2 (hs' ▸ hx1) (hs' ▸ hx2) _
    · exact spec_pure hcp
  · rw [hc]
    simp only [List.getD_cons_succ, List.getD_cons_zero, beq_self_eq_true, if_true]
    have hs' : d.side proj = (toricSizes d.Lx d.Ly d.Lz axis).2 := by rw [side_eq_sideOf, hs]
    have hr : ∀ y, Lat3Db.R0 (2 * (toricSizes d.Lx d.Ly d.Lz axis).2) y →
        Lat3Db.R1 (2 * d.side proj) (y + 1) := by
      intro y hy; rw [hs']; unfold Lat3Db.R0 at hy; unfold Lat3Db.R1; omega
    split
    · exact spec_connect d proj cp hcp (y1 + 1) (y2 + 1) (hr _ hy1) (hr _ hy2) _
    · exact spec_pure hcp

end Panqec.XCube
