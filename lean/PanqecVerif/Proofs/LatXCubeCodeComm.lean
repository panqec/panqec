/-
XCubeCode lattice model: a cube operator and a vertex operator (any of the three axes) share two
qubits if the vertex is a corner of the cube and none otherwise; every stabilizer is a
constant-letter operator on a distinct list of qubits, and all pairs of stabilizers commute.
Sizes ≥ 2 (periodic wrap resolved through `up` / `dn`).
-/
import PanqecVerif.Proofs.LatXCubeCodeStab
open Panqec Panqec.Lat3Db
namespace Panqec.XCubeCode

/-- `v` is one of the two cyclic neighbours of the odd coordinate `c` -/
def A (P : Nat) (c v : Int) : Prop := v = up P c ∨ v = c - 1
instance (P : Nat) (c v : Int) : Decidable (A P c v) := by unfold A; infer_instance

theorem mem_cubeLocs (Lx Ly Lz : Nat) (x y z p q r : Int) :
    [p, q, r] ∈ cubeLocs Lx Ly Lz x y z ↔
      (r = z ∧ A (2*Lx) x p ∧ A (2*Ly) y q) ∨ (q = y ∧ A (2*Lx) x p ∧ A (2*Lz) z r) ∨
      (p = x ∧ A (2*Ly) y q ∧ A (2*Lz) z r) := by
  unfold cubeLocs A
  generalize up (2*Lx) x = xu
  generalize up (2*Ly) y = yu
  generalize up (2*Lz) z = zu
  simp only [List.mem_cons, List.cons.injEq, and_true, List.not_mem_nil, or_false]
  constructor
  · rintro (⟨rfl, rfl, rfl⟩ | ⟨rfl, rfl, rfl⟩ | ⟨rfl, rfl, rfl⟩ | ⟨rfl, rfl, rfl⟩ | ⟨rfl, rfl, rfl⟩ | ⟨rfl, rfl, rfl⟩ |
      ⟨rfl, rfl, rfl⟩ | ⟨rfl, rfl, rfl⟩ | ⟨rfl, rfl, rfl⟩ | ⟨rfl, rfl, rfl⟩ | ⟨rfl, rfl, rfl⟩ | ⟨rfl, rfl, rfl⟩) <;> simp
  · rintro (⟨rfl, (rfl | rfl), (rfl | rfl)⟩ | ⟨rfl, (rfl | rfl), (rfl | rfl)⟩ | ⟨rfl, (rfl | rfl), (rfl | rfl)⟩) <;> simp

/-- One coordinate: the odd neighbours `v + 1`, `dn v` of an even `v` are distinct (`P ≥ 4`), and the
    odd `c` is one of them iff `v` is a neighbour of `c`. -/
theorem ind_succ_add_ind_dn (P : Nat) (c v : Int) (hP : P % 2 = 0) (h4 : 4 ≤ P) (hc : R1 P c) (hv : R0 P v)
    (Q : Prop) [Decidable Q] :
    ind (v + 1 = c ∧ Q) + ind (dn P v = c ∧ Q) = ind (A P c v ∧ Q) := by
  have hA : A P c v ↔ (v + 1 = c ∨ dn P v = c) := by
    unfold A; unfold R1 at hc; unfold R0 at hv
    have := up_spec P c; have := dn_spec P v
    omega
  have hex : v + 1 = c → ¬ dn P v = c := by
    unfold R0 at hv
    have := dn_spec P v
    omega
  unfold ind
  by_cases hQ : Q
  · by_cases h1 : v + 1 = c
    · simp only [hA, h1, hex h1, hQ, and_self, true_or, false_and, if_true, if_false]
    · by_cases h2 : dn P v = c
      · simp only [hA, h1, h2, hQ, and_self, or_true, false_and, if_true, if_false]
      · simp only [hA, h1, h2, hQ, or_self, false_and, if_false]
  · simp only [hQ, and_false, if_false]

theorem odd_ne_even (P Q : Nat) (c v : Int) (hc : R1 P c) (hv : R0 Q v) : ¬ v = c := by
  unfold R1 at hc; unfold R0 at hv; omega

section
variable {Lx Ly Lz : Nat} {cx cy cz vx vy vz : Int} (hc : SC Lx Ly Lz cx cy cz) (hv : SVx Lx Ly Lz vx vy vz)
include hc hv

/-- the two x-edges at the vertex `v`: both or neither in the cube `c`, according as `v` is a corner -/
theorem ind_xedges (hx : 2 ≤ Lx) :
    ind ([vx + 1, vy, vz] ∈ cubeLocs Lx Ly Lz cx cy cz) + ind ([dn (2*Lx) vx, vy, vz] ∈ cubeLocs Lx Ly Lz cx cy cz) =
      ind (A (2*Lx) cx vx ∧ A (2*Ly) cy vy ∧ A (2*Lz) cz vz) := by
  have ny := odd_ne_even _ _ cy vy hc.2.1 hv.2.1
  have nz := odd_ne_even _ _ cz vz hc.2.2 hv.2.2
  simp only [mem_cubeLocs, ny, nz, false_and, false_or]
  exact ind_succ_add_ind_dn (2*Lx) cx vx (by omega) (by omega) hc.1 hv.1 _

theorem ind_yedges (hy : 2 ≤ Ly) :
    ind ([vx, vy + 1, vz] ∈ cubeLocs Lx Ly Lz cx cy cz) + ind ([vx, dn (2*Ly) vy, vz] ∈ cubeLocs Lx Ly Lz cx cy cz) =
      ind (A (2*Lx) cx vx ∧ A (2*Ly) cy vy ∧ A (2*Lz) cz vz) := by
  have nx := odd_ne_even _ _ cx vx hc.1 hv.1
  have nz := odd_ne_even _ _ cz vz hc.2.2 hv.2.2
  simp only [mem_cubeLocs, nx, nz, false_and, false_or, or_false]
  exact (ind_succ_add_ind_dn (2*Ly) cy vy (by omega) (by omega) hc.2.1 hv.2.1
    (A (2*Lx) cx vx ∧ A (2*Lz) cz vz)).trans (ind_congr and_left_comm)

theorem ind_zedges (hz : 2 ≤ Lz) :
    ind ([vx, vy, vz + 1] ∈ cubeLocs Lx Ly Lz cx cy cz) + ind ([vx, vy, dn (2*Lz) vz] ∈ cubeLocs Lx Ly Lz cx cy cz) =
      ind (A (2*Lx) cx vx ∧ A (2*Ly) cy vy ∧ A (2*Lz) cz vz) := by
  have nx := odd_ne_even _ _ cx vx hc.1 hv.1
  have ny := odd_ne_even _ _ cy vy hc.2.1 hv.2.1
  simp only [mem_cubeLocs, nx, ny, false_and, or_false]
  exact (ind_succ_add_ind_dn (2*Lz) cz vz (by omega) (by omega) hc.2.2 hv.2.2
    (A (2*Lx) cx vx ∧ A (2*Ly) cy vy)).trans (ind_congr and_rotate)

/-- A vertex operator shares two qubits with a cube if its vertex is a corner of the cube, none
    otherwise. -/
theorem ovl_face_cube (hx : 2 ≤ Lx) (hy : 2 ≤ Ly) (hz : 2 ≤ Lz) {kf : List Coord}
    (hk : kf = faceLocsX Lx Ly Lz vx vy vz ∨ kf = faceLocsY Lx Ly Lz vx vy vz ∨ kf = faceLocsZ Lx Ly Lz vx vy vz) :
    ovl kf (cubeLocs Lx Ly Lz cx cy cz) = 2 * ind (A (2*Lx) cx vx ∧ A (2*Ly) cy vy ∧ A (2*Lz) cz vz) := by
  have ex := ind_xedges hc hv hx
  have ey := ind_yedges hc hv hy
  have ez := ind_zedges hc hv hz
  rcases hk with rfl | rfl | rfl
  · simp only [faceLocsX, ovl_cons_ind, ovl_nil]; omega
  · simp only [faceLocsY, ovl_cons_ind, ovl_nil]; omega
  · simp only [faceLocsZ, ovl_cons_ind, ovl_nil]; omega

end

def IsCubeKeys (Lx Ly Lz : Nat) (k : List Coord) : Prop :=
  ∃ x y z, SC Lx Ly Lz x y z ∧ k = cubeLocs Lx Ly Lz x y z

def IsFaceKeys (Lx Ly Lz : Nat) (k : List Coord) : Prop :=
  ∃ x y z, SVx Lx Ly Lz x y z ∧
    (k = faceLocsX Lx Ly Lz x y z ∨ k = faceLocsY Lx Ly Lz x y z ∨ k = faceLocsZ Lx Ly Lz x y z)

section
variable {Lx Ly Lz : Nat} (hx : 2 ≤ Lx) (hy : 2 ≤ Ly) (hz : 2 ≤ Lz)
include hx hy hz

theorem IsCubeKeys.nodup {k : List Coord} (h : IsCubeKeys Lx Ly Lz k) : k.Nodup := by
  obtain ⟨x, y, z, hc, rfl⟩ := h
  exact nodup_cubeLocs Lx Ly Lz x y z hx hy hz hc

theorem IsFaceKeys.nodup {k : List Coord} (h : IsFaceKeys Lx Ly Lz k) : k.Nodup := by
  obtain ⟨x, y, z, hv, rfl | rfl | rfl⟩ := h
  · exact nodup_faceLocsX Lx Ly Lz x y z hy hz hv
  · exact nodup_faceLocsY Lx Ly Lz x y z hx hz hv
  · exact nodup_faceLocsZ Lx Ly Lz x y z hx hy hv

/-- a 3-tuple location is a cube: Z on the keys of a cube -/
theorem getStab_cubeKeys (x y z : Int) (hs : [x, y, z] ∈ stabs Lx Ly Lz) :
    ∃ k, IsCubeKeys Lx Ly Lz k ∧ getStab Lx Ly Lz [x, y, z] = constOp k Pauli.Z :=
  have h := (mem_stabs_cube Lx Ly Lz x y z).mp hs
  ⟨_, ⟨x, y, z, h, rfl⟩, getStab_cube Lx Ly Lz x y z hx hy hz h⟩

/-- a 4-tuple location is a vertex operator: X on the keys of one of the three stars -/
theorem getStab_face (ax x y z : Int) (hs : [ax, x, y, z] ∈ stabs Lx Ly Lz) :
    ∃ k, IsFaceKeys Lx Ly Lz k ∧ getStab Lx Ly Lz [ax, x, y, z] = constOp k Pauli.X := by
  obtain ⟨ha, h⟩ := (mem_stabs_face Lx Ly Lz ax x y z).mp hs
  rcases ha with rfl | rfl | rfl
  · exact ⟨_, ⟨x, y, z, h, Or.inl rfl⟩, getStab_faceX Lx Ly Lz x y z hy hz h⟩
  · exact ⟨_, ⟨x, y, z, h, Or.inr (Or.inl rfl)⟩, getStab_faceY Lx Ly Lz x y z hx hz h⟩
  · exact ⟨_, ⟨x, y, z, h, Or.inr (Or.inr rfl)⟩, getStab_faceZ Lx Ly Lz x y z hx hy h⟩

theorem getStab_cases (s : Coord) (hs : s ∈ stabs Lx Ly Lz) :
    (∃ k, IsCubeKeys Lx Ly Lz k ∧ getStab Lx Ly Lz s = constOp k Pauli.Z) ∨
    (∃ k, IsFaceKeys Lx Ly Lz k ∧ getStab Lx Ly Lz s = constOp k Pauli.X) := by
  rcases mem_stabs_shape Lx Ly Lz s hs with ⟨x, y, z, rfl⟩ | ⟨ax, x, y, z, rfl⟩
  · exact .inl (getStab_cubeKeys hx hy hz x y z hs)
  · exact .inr (getStab_face hx hy hz ax x y z hs)

theorem face_cube_even {kf kc : List Coord} (hf : IsFaceKeys Lx Ly Lz kf) (hc : IsCubeKeys Lx Ly Lz kc) :
    ovl kf kc % 2 = 0 := by
  obtain ⟨cx, cy, cz, hc, rfl⟩ := hc
  obtain ⟨x, y, z, hv, hk⟩ := hf
  rw [ovl_face_cube hc hv hx hy hz hk]
  omega

end

end Panqec.XCubeCode
