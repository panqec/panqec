/-
Color488Code, all sizes `Lx, Ly ≥ 1`: the four lines of qubits carrying the logical operators
(columns `x = 3`, `x = 7`: `k3`, `k7`, weight `2Ly`; rows `y = 5`, `y = 1`: `r5`, `r1`, weight `2Lx`).
Each is the full line of qubits with one coordinate fixed (`IsLine`, a flag `tr` telling columns
from rows); overlaps with faces and with each other, and the weights, are proved for such lines.
Core Lean only.
-/
import PanqecVerif.Proofs.LatColor488CodeComm

namespace Panqec.Color488Code
open Panqec.Lat2D Panqec.Color

/-- the keys of the four families of logical operators, in loop order -/
def k3 (Lx Ly : Nat) : List Coord := (col3 Ly).filter (isQubit Lx Ly)
def k7 (Lx Ly : Nat) : List Coord := (col7 Ly).filter (isQubit Lx Ly)
def r5 (Lx Ly : Nat) : List Coord := (row5 Lx).filter (isQubit Lx Ly)
def r1 (Lx Ly : Nat) : List Coord := (row1 Lx).filter (isQubit Lx Ly)

theorem nodup_col3 (L : Nat) : (col3 L).Nodup :=
  nodup_map_pair _ (fun a b h => by simpa using h) (nodup_pyRangeStep _ _ _ (by decide))
theorem nodup_col7 (L : Nat) : (col7 L).Nodup :=
  nodup_map_pair _ (fun a b h => by simpa using h) (nodup_pyRangeStep _ _ _ (by decide))
theorem nodup_row5 (L : Nat) : (row5 L).Nodup :=
  nodup_map_pair _ (fun a b h => by simpa using h) (nodup_pyRangeStep _ _ _ (by decide))
theorem nodup_row1 (L : Nat) : (row1 L).Nodup :=
  nodup_map_pair _ (fun a b h => by simpa using h) (nodup_pyRangeStep _ _ _ (by decide))

theorem filter_qubits {Lx Ly : Nat} {l : List Coord} : ∀ q ∈ l.filter (isQubit Lx Ly), q ∈ qubits Lx Ly := by
  intro q hq
  have := (List.mem_filter.mp hq).2
  unfold isQubit at this
  exact isIn_iff.mp this

/-- the test `x = c` (`tr = false`) resp. `y = c` (`tr = true`) -/
def πc (tr : Bool) (c : Int) (q : Coord) : Bool :=
  match q with | [a, b] => decide (cond tr b a = c) | _ => false

/-- `K` lists, without repetition, the qubits of the column `x = c` (`tr = false`) resp. of the row
    `y = c` (`tr = true`) -/
def IsLine (Lx Ly : Nat) (tr : Bool) (c : Int) (K : List Coord) : Prop :=
  K.Nodup ∧ ∀ q, q ∈ K ↔ (q ∈ qubits Lx Ly ∧ πc tr c q = true)

/-- the candidates `(c, t)` resp. `(t, c)`, `t ∈ l`, kept where `is_qubit` holds, are the whole
    line as soon as `l` reaches every qubit of it -/
theorem isLine_filter {Lx Ly : Nat} (hx : 1 ≤ Lx) (hy : 1 ≤ Ly) (tr : Bool) (c : Int) {l : List Int}
    (hl : l.Nodup) (h : ∀ a b, IsQ Lx Ly a b → cond tr b a = c → cond tr a b ∈ l) :
    IsLine Lx Ly tr c ((l.map fun t => cond tr [t, c] [c, t]).filter (isQubit Lx Ly)) := by
  refine ⟨(nodup_map_pair _ (fun a b e => ?_) hl).sublist List.filter_sublist, fun q => ?_⟩
  · cases tr <;> simpa using e
  · rw [List.mem_filter]; unfold isQubit; rw [isIn_iff]
    constructor
    · rintro ⟨hm, hq⟩
      obtain ⟨t, _, rfl⟩ := List.mem_map.mp hm
      exact ⟨hq, by cases tr <;> simp [πc]⟩
    · rintro ⟨hq, hp⟩
      obtain ⟨a, b, rfl, hab⟩ := (mem_qubits hx hy).mp hq
      simp only [πc, decide_eq_true_eq] at hp
      refine ⟨List.mem_map.mpr ⟨cond tr a b, h a b hab hp, ?_⟩, hq⟩
      subst hp
      cases tr <;> rfl

section
variable {Lx Ly : Nat} (hx : 1 ≤ Lx) (hy : 1 ≤ Ly)
include hx hy

theorem isLine_k3 : IsLine Lx Ly false 3 (k3 Lx Ly) :=
  isLine_filter hx hy false 3 (nodup_pyRangeStep _ _ _ (by decide)) fun a b h (e : a = 3) => by
    show b ∈ _
    rw [(mem_pyRangeStep (s := 2) (by decide))]; unfold IsQ at h; omega

theorem isLine_k7 : IsLine Lx Ly false 7 (k7 Lx Ly) :=
  isLine_filter hx hy false 7 (nodup_pyRangeStep _ _ _ (by decide)) fun a b h (e : a = 7) => by
    show b ∈ _
    rw [(mem_pyRangeStep (s := 2) (by decide))]; unfold IsQ at h; omega

theorem isLine_r5 : IsLine Lx Ly true 5 (r5 Lx Ly) :=
  isLine_filter hx hy true 5 (nodup_pyRangeStep _ _ _ (by decide)) fun a b h (e : b = 5) => by
    show a ∈ _
    rw [(mem_pyRangeStep (s := 2) (by decide))]; unfold IsQ at h; omega

theorem isLine_r1 : IsLine Lx Ly true 1 (r1 Lx Ly) :=
  isLine_filter hx hy true 1 (nodup_pyRangeStep _ _ _ (by decide)) fun a b h (e : b = 1) => by
    show a ∈ _
    rw [(mem_pyRangeStep (s := 2) (by decide))]; unfold IsQ at h; omega

variable {tr : Bool} {c c' : Int} {K K' : List Coord}

theorem IsLine.mem' (h : IsLine Lx Ly tr c K) {a b : Int} :
    [a, b] ∈ K ↔ (cond tr b a = c ∧ IsQ Lx Ly a b) := by
  rw [h.2, mem_qubits' hx hy]; simp only [πc, decide_eq_true_eq]; exact and_comm

theorem IsLine.shape (h : IsLine Lx Ly tr c K) {q : Coord} (hq : q ∈ K) :
    ∃ a b, q = [a, b] ∧ IsQ Lx Ly a b := (mem_qubits hx hy).mp ((h.2 q).mp hq).1

end

theorem supp_line_even {Lx Ly : Nat} (hx : 1 ≤ Lx) (hy : 1 ≤ Ly) {x y : Int} (hf : IsF Lx Ly x y) (K : List Coord)
    (π : Coord → Bool) (hK : ∀ q, q ∈ K ↔ (q ∈ qubits Lx Ly ∧ π q = true))
    (h : (∀ a b b', π [a, b] = π [a, b']) ∨ (∀ a a' b, π [a, b] = π [a', b])) :
    interCount (supp Lx Ly x y) K % 2 = 0 := by
  rw [interCount_pred (supp Lx Ly x y) K π (qubits Lx Ly)
    (fun q hq => (mem_qubits_faces hx hy).mpr ⟨x, y, hf, hq⟩) hK]
  exact countP_supp_even Lx Ly x y π h

theorem πc_pairs (tr : Bool) (c : Int) : (∀ a b b', πc tr c [a, b] = πc tr c [a, b']) ∨
    (∀ a a' b, πc tr c [a, b] = πc tr c [a', b]) := by
  cases tr
  · exact .inl fun _ _ _ => rfl
  · exact .inr fun _ _ _ => rfl

section
variable {Lx Ly : Nat} (hx : 1 ≤ Lx) (hy : 1 ≤ Ly) {tr : Bool} {c c' : Int} {K K' : List Coord}
include hx hy

theorem cross_lines (hK : IsLine Lx Ly false c K) (hK' : IsLine Lx Ly true c' K') :
    interCount K K' = if IsQ Lx Ly c c' then 1 else 0 := by
  have key : ∀ a b, [a, b] ∈ K → [a, b] ∈ K' → a = c ∧ b = c' ∧ IsQ Lx Ly a b := fun a b hq hq' =>
    ⟨((hK.mem' hx hy).mp hq).1, ((hK'.mem' hx hy).mp hq').1, ((hK.mem' hx hy).mp hq).2⟩
  by_cases h : IsQ Lx Ly c c'
  · rw [if_pos h]
    apply cross_one _ _ hK.1 [c, c'] ((hK.mem' hx hy).mpr ⟨rfl, h⟩) ((hK'.mem' hx hy).mpr ⟨rfl, h⟩)
    intro q hq hq'
    obtain ⟨a, b, rfl, _⟩ := hK.shape hx hy hq
    rw [(key a b hq hq').1, (key a b hq hq').2.1]
  · rw [if_neg h]
    apply cross_zero
    intro q hq hq'
    obtain ⟨a, b, rfl, _⟩ := hK.shape hx hy hq
    obtain ⟨rfl, rfl, hab⟩ := key a b hq hq'
    exact h hab

theorem parallel_lines (hK : IsLine Lx Ly tr c K) (hK' : IsLine Lx Ly tr c' K') (hc : c ≠ c') :
    interCount K K' = 0 := by
  apply cross_zero
  intro q hq hq'
  obtain ⟨a, b, rfl, _⟩ := hK.shape hx hy hq
  exact hc (((hK.mem' hx hy).mp hq).1.symm.trans ((hK'.mem' hx hy).mp hq').1)

end

/-- two sites per period along a line -/
def niceLine (f : Int → Coord) (c1 c2 : Int) (L : Nat) : List Coord :=
  (List.range L).flatMap fun (i : Nat) => [f (8 * (i : Int) + c1), f (8 * (i : Int) + c2)]

theorem length_niceLine (f : Int → Coord) (c1 c2 : Int) (L : Nat) :
    (niceLine f c1 c2 L).length = 2 * L := by
  unfold niceLine
  rw [length_flatMap_range _ (fun _ => 2) (fun i => rfl), sum_const]

theorem mem_niceLine {f : Int → Coord} {c1 c2 : Int} {L : Nat} {q : Coord} :
    q ∈ niceLine f c1 c2 L ↔ ∃ i : Nat, i < L ∧ (q = f (8 * (i : Int) + c1) ∨ q = f (8 * (i : Int) + c2)) := by
  unfold niceLine
  simp only [List.mem_flatMap, List.mem_range, List.mem_cons, List.not_mem_nil, or_false]

theorem nodup_niceLine (f : Int → Coord) (hf : ∀ a b, f a = f b → a = b) (c1 c2 : Int)
    (h1 : 0 ≤ c1) (h2 : c1 < c2) (h3 : c2 < 8) (L : Nat) : (niceLine f c1 c2 L).Nodup := by
  unfold niceLine
  apply nodup_blocks
  · intro i _
    simp only [List.nodup_cons, List.mem_cons, List.not_mem_nil, or_false, not_false_eq_true,
      List.nodup_nil, and_true]
    intro e; have := hf _ _ e; omega
  · intro i j _ _ hij q hq hr
    simp only [List.mem_cons, List.not_mem_nil, or_false] at hq hr
    rcases hq with rfl | rfl <;> rcases hr with e | e <;> have := hf _ _ e <;> omega

/-- a line through a qubit has two qubits per unit cell: the residues `c1 < c2` of the running
    coordinate that go with the residue of `c` -/
theorem IsLine.length {Lx Ly : Nat} (hx : 1 ≤ Lx) (hy : 1 ≤ Ly) {tr : Bool} {c : Int} {K : List Coord}
    (h : IsLine Lx Ly tr c K) (L : Nat) (c1 c2 : Int)
    (h12 : 0 ≤ c1 ∧ c1 < c2 ∧ c2 < 8)
    (hc : ∀ t, IsQ Lx Ly (cond tr t c) (cond tr c t) ↔
      0 ≤ t ∧ t < 8 * (L : Int) ∧ (t % 8 = c1 ∨ t % 8 = c2)) : K.length = 2 * L := by
  rw [← length_niceLine (fun t => cond tr [t, c] [c, t]) c1 c2 L]
  apply length_eq_of_mem_iff h.1 (nodup_niceLine _ (fun a b e => by cases tr <;> simpa using e)
    c1 c2 h12.1 h12.2.1 h12.2.2 L)
  intro q
  rw [mem_niceLine]
  constructor
  · intro hq
    obtain ⟨a, b, rfl, _⟩ := h.shape hx hy hq
    obtain ⟨e, hab⟩ := (h.mem' hx hy).mp hq
    have : ∃ t, [a, b] = cond tr [t, c] [c, t] ∧ IsQ Lx Ly (cond tr t c) (cond tr c t) := by
      subst e; cases tr
      · exact ⟨b, rfl, hab⟩
      · exact ⟨a, rfl, hab⟩
    obtain ⟨t, e', ht⟩ := this
    rw [e']
    obtain ⟨t0, t1, tr8⟩ := (hc t).mp ht
    exact ⟨(t / 8).toNat, by omega,
      tr8.imp (fun _ => congrArg (fun t => cond tr [t, c] [c, t]) (by omega))
        (fun _ => congrArg (fun t => cond tr [t, c] [c, t]) (by omega))⟩
  · rintro ⟨i, hi, rfl | rfl⟩
    · have := (hc (8 * (i : Int) + c1)).mpr (by omega)
      cases tr <;> exact (h.mem' hx hy).mpr ⟨rfl, this⟩
    · have := (hc (8 * (i : Int) + c2)).mpr (by omega)
      cases tr <;> exact (h.mem' hx hy).mpr ⟨rfl, this⟩

section
variable {Lx Ly : Nat} (hx : 1 ≤ Lx) (hy : 1 ≤ Ly)
include hx hy

theorem length_k3 : (k3 Lx Ly).length = 2 * Ly :=
  (isLine_k3 hx hy).length hx hy Ly 3 5 (by omega) fun t => by
    show IsQ Lx Ly 3 t ↔ _
    unfold IsQ; omega

theorem length_k7 : (k7 Lx Ly).length = 2 * Ly :=
  (isLine_k7 hx hy).length hx hy Ly 1 7 (by omega) fun t => by
    show IsQ Lx Ly 7 t ↔ _
    unfold IsQ; omega

theorem length_r5 : (r5 Lx Ly).length = 2 * Lx :=
  (isLine_r5 hx hy).length hx hy Lx 3 5 (by omega) fun t => by
    show IsQ Lx Ly t 5 ↔ _
    unfold IsQ; omega

theorem length_r1 : (r1 Lx Ly).length = 2 * Lx :=
  (isLine_r1 hx hy).length hx hy Lx 1 7 (by omega) fun t => by
    show IsQ Lx Ly t 1 ↔ _
    unfold IsQ; omega

end

end Panqec.Color488Code
