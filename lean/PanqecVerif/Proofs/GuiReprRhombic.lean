/-
`Servable` for `RhombicToricCode`, `RhombicPlanarCode` and `HollowRhombicCode`, all sizes of their
families.
-/
import PanqecVerif.Proofs.GuiReprEdits
import PanqecVerif.Proofs.LatRhombicToricCodeWF
import PanqecVerif.Proofs.LatRhombicPlanarCodeWF
import PanqecVerif.Proofs.LatHollowRhombicCodeCss

namespace Panqec.GuiRepr
open Panqec.Gui

theorem rhombicType_mem (s : Coord) : Rhombic.typeOf s ∈ rhombicTypes := by
  unfold Rhombic.typeOf
  split <;> decide

theorem rhombic_checkerboard_isSome {x y z : Int} {a : String} (ha : Rhombic.qubitAxis [x, y, z] = some a) :
    (Rhombic.getDeformation "Checkerboard XZZX" [x, y, z]).isSome = true := by
  rw [Rhombic.getDeformation_rule, if_neg (by simp), ha]; rfl

theorem rhombicToric_tables :
    classTablesOk Generated.GuiFull.tables "RhombicToricCode" rhombicTypes = true := by decide +kernel

theorem rhombicToric_servable (Lx Ly Lz : Nat) (hx : 2 ≤ Lx) (hy : 2 ≤ Ly) (hz : 2 ≤ Lz)
    (name : String) (hn : name = "None" ∨ name = "Checkerboard XZZX") :
    Servable (rhombicToric Lx Ly Lz) Generated.GuiFull.tables rhombicTypes name where
  wf := RhombicToricCode.wf Lx Ly Lz hx hy hz
  tables := rhombicToric_tables
  stab_types := by
    intro s hs
    have hb : RhombicToricCode.isStab Lx Ly Lz s = true := List.contains_iff_mem.mpr hs
    dsimp only [rhombicToric, RhombicToricCode.stabilizerType]
    exact guarded_type hb ⟨_, rhombicType_mem s, rfl⟩
  qubit_axes := by
    intro q hq
    obtain ⟨x, y, z, rfl⟩ := RhombicToricCode.mem_qubits_shape Lx Ly Lz q hq
    exact ⟨_, RhombicToricCode.qubitAxis_qubit Lx Ly Lz x y z hq⟩
  stab_edits := rhombicToricStabEdits_simple
  qubit_edits := noEdits_simple
  deformation := by
    refine hn.imp_right fun h q hq => ?_
    obtain ⟨x, y, z, rfl⟩ := RhombicToricCode.mem_qubits_shape Lx Ly Lz q hq
    exact h ▸ rhombic_checkerboard_isSome (RhombicToricCode.qubitAxis_qubit Lx Ly Lz x y z hq)

theorem rhombicPlanar_tables :
    classTablesOk Generated.GuiFull.tables "RhombicPlanarCode" rhombicTypes = true := by decide +kernel

theorem rhombicPlanar_servable (Lx Ly Lz : Nat) (hx : 2 ≤ Lx) (hy : 2 ≤ Ly) (_hz : 1 ≤ Lz)
    (name : String) (hn : name = "None" ∨ name = "Checkerboard XZZX") :
    Servable (rhombicPlanar Lx Ly Lz) Generated.GuiFull.tables rhombicTypes name where
  wf := RhombicPlanarCode.wf Lx Ly Lz (by omega) (by omega)
  tables := rhombicPlanar_tables
  stab_types := by
    intro s hs
    have hb : RhombicPlanarCode.isStab Lx Ly Lz s = true := List.contains_iff_mem.mpr hs
    dsimp only [rhombicPlanar, RhombicPlanarCode.stabilizerType]
    exact guarded_type hb ⟨_, rhombicType_mem s, rfl⟩
  qubit_axes := by
    intro q hq
    obtain ⟨x, y, z, rfl⟩ := RhombicPlanarCode.mem_qubits_shape Lx Ly Lz q hq
    exact ⟨_, RhombicPlanarCode.qubitAxis_qubit Lx Ly Lz x y z hq⟩
  stab_edits := rhombicPlanarStabEdits_simple Ly Lz
  qubit_edits := noEdits_simple
  deformation := by
    refine hn.imp_right fun h q hq => ?_
    obtain ⟨x, y, z, rfl⟩ := RhombicPlanarCode.mem_qubits_shape Lx Ly Lz q hq
    exact h ▸ rhombic_checkerboard_isSome (RhombicPlanarCode.qubitAxis_qubit Lx Ly Lz x y z hq)

theorem hollowRhombic_tables :
    classTablesOk Generated.GuiFull.tables "HollowRhombicCode" rhombicTypes = true := by decide +kernel

theorem hollowRhombic_axis {Lx Ly Lz : Nat} {x y z : Int}
    (hq : [x, y, z] ∈ HollowRhombicCode.qubits Lx Ly Lz) : ∃ a, Cubic3D.qubitAxis [x, y, z] = some a := by
  rcases HollowRhombicCode.qubit_parity hq with ⟨h1, h2, h3⟩ | ⟨h1, h2, h3⟩ | ⟨h1, h2, h3⟩
  · exact ⟨_, Cubic3D.qubitAxis_x h1 h2 h3⟩
  · exact ⟨_, Cubic3D.qubitAxis_y h1 h2 h3⟩
  · exact ⟨_, Cubic3D.qubitAxis_z h1 h2 h3⟩

theorem hollowRhombic_servable (Lx Ly Lz : Nat) (h : C01HollowRhombicCode.Family Lx Ly Lz) (name : String)
    (hn : name = "None" ∨ name = "Checkerboard XZZX") :
    Servable (hollowRhombic Lx Ly Lz) Generated.GuiFull.tables rhombicTypes name where
  wf := HollowRhombicCode.wf_all (by unfold C01HollowRhombicCode.Family at h; omega)
    (by unfold C01HollowRhombicCode.Family at h; omega) h.2.2
  tables := hollowRhombic_tables
  stab_types := by
    intro s _
    refine ⟨HollowRhombicCode.stabilizerType s, ?_, rfl⟩
    unfold HollowRhombicCode.stabilizerType
    split <;> decide
  qubit_axes := by
    intro q hq
    obtain ⟨x, y, z, rfl⟩ := HollowRhombicCode.shape_of_mem_qubits hq
    obtain ⟨a, ha⟩ := hollowRhombic_axis hq
    exact ⟨_, congrArg (Option.map _) ha⟩
  stab_edits := hollowRhombicStabEdits_simple Lx Ly Lz _
  qubit_edits := noEdits_simple
  deformation := by
    refine hn.imp_right fun h q hq => ?_
    obtain ⟨x, y, z, rfl⟩ := HollowRhombicCode.shape_of_mem_qubits hq
    obtain ⟨a, ha⟩ := hollowRhombic_axis hq
    show (ofDeformResult (HollowRhombicCode.getDeformation name [x, y, z])).isSome = true
    have ha' : HollowRhombicCode.qubitAxis [x, y, z] = some a := ha
    rw [h]
    unfold HollowRhombicCode.getDeformation
    simp only [if_true, ha']
    split <;> rfl

end Panqec.GuiRepr
