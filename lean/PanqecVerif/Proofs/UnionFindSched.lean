/-
Union-find (C05): the model of `Support(sy, H).decode()` as a solver of the decoder glue under
an ARBITRARY schedule of set iteration orders (the schedule may depend on the matrix and on the
syndrome of the call, as the hash order of a Python `set` does).  `ufSolve` of
`Model/UnionFind.lean` is the instance with the list order.  The solver contract `UfValidOn`
holds on every closed multigraph for every schedule.
-/
import PanqecVerif.Proofs.UnionFindTermEven
import PanqecVerif.Proofs.DecodersGlue

namespace Panqec.UF
open Panqec

/-- `Support(sy, H).decode()` under the schedule `sched H sy`; an outcome other than `ok` (the
    Python hangs or raises) is the empty vector, which fails every length check of the glue -/
def ufSolveSched (sched : Mat → Vec → List (List Int)) : USolver := fun H sy =>
  match (decodeWith H sy (sched H sy)).outcome with
  | .ok c => c
  | _ => []

theorem ufSolveSched_nil : ufSolveSched (fun _ _ => []) = ufSolve := rfl

/-- the contract `UfValidOn` holds for the model on every closed multigraph, for every schedule -/
theorem ufSolveSched_contract (sched : Mat → Vec → List (List Int)) (H : Mat)
    (hC : closedMultigraph H = true) : UfValidOn (ncols H) (ufSolveSched sched) H := by
  intro sy ⟨v, hv, hsy⟩
  subst hsy
  obtain ⟨c, hc, hlen, hbin, hsyn, _⟩ := decodeWith_total hC v hv (sched H (sectorSyndrome H v))
  unfold ufSolveSched
  rw [hc]
  exact ⟨hlen, hbin, hsyn⟩

/-- `UnionFindDecoder.decode(measure_syndrome(e))` for a CSS matrix whose two sector matrices are
    closed multigraphs on `n` qubits, under any schedule -/
theorem ufDecode_sched_valid (sched : Mat → Vec → List (List Int)) (H : Mat) (n : Nat)
    (hcss : isCss H = true) (hz : closedMultigraph (Hz H) = true) (hx : closedMultigraph (Hx H) = true)
    (hnz : ncols (Hz H) = n) (hnx : ncols (Hx H) = n) (e : Vec) (he : e.length = 2 * n) :
    ∃ c ev, ufDecode (ufSolveSched sched) H n (measureSyndrome H e) = .ok (c, ev) ∧
      c.length = 2 * n ∧ (∀ x ∈ c, x < 2) ∧ measureSyndrome H c = measureSyndrome H e := by
  obtain ⟨c, ev, h1, _, h3, h4, h5⟩ := uf_valid (ufSolveSched sched) H n hcss
    (hnz ▸ ufSolveSched_contract sched (Hz H) hz) (hnx ▸ ufSolveSched_contract sched (Hx H) hx) e he
  exact ⟨c, ev, h1, h3, h4, h5⟩

end Panqec.UF
