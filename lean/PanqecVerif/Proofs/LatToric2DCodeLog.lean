/-
Toric2DCode, all sizes: the logical operators as single-letter dicts over explicit key lists (the
rows and columns `rowKeys` / `colKeys` of `Proofs/Lat2DLines.lean`), their overlap with the
stabilizers and with each other.
-/
import PanqecVerif.Proofs.LatToric2DCodeComm
import PanqecVerif.Proofs.Lat2DLines

namespace Panqec.Toric2DCode
open Panqec.Lat2D

def kX0 (Lx : Nat) : List Coord := (pyRange2 1 (2 * Lx)).map fun x => [x, 0]
def kX1 (Ly : Nat) : List Coord := (pyRange2 1 (2 * Ly)).map fun y => [0, y]
def kZ0 (Ly : Nat) : List Coord := (pyRange2 0 (2 * Ly)).map fun y => [1, y]
def kZ1 (Lx : Nat) : List Coord := (pyRange2 0 (2 * Lx)).map fun x => [x, 1]

theorem kX0_eq (Lx : Nat) : kX0 Lx = rowKeys 0 1 Lx := by
  unfold kX0 rowKeys; rw [pyRange2_eq 1 Lx (by omega), List.map_map]; rfl
theorem kX1_eq (Ly : Nat) : kX1 Ly = colKeys 0 1 Ly := by
  unfold kX1 colKeys; rw [pyRange2_eq 1 Ly (by omega), List.map_map]; rfl
theorem kZ0_eq (Ly : Nat) : kZ0 Ly = colKeys 1 0 Ly := by
  unfold kZ0 colKeys; rw [pyRange2_eq 0 Ly (by omega), List.map_map]; rfl
theorem kZ1_eq (Lx : Nat) : kZ1 Lx = rowKeys 1 0 Lx := by
  unfold kZ1 rowKeys; rw [pyRange2_eq 0 Lx (by omega), List.map_map]; rfl

theorem nodup_kX0 (L : Nat) : (kX0 L).Nodup := kX0_eq L ▸ nodup_rowKeys ..
theorem nodup_kX1 (L : Nat) : (kX1 L).Nodup := kX1_eq L ▸ nodup_colKeys ..
theorem nodup_kZ0 (L : Nat) : (kZ0 L).Nodup := kZ0_eq L ▸ nodup_colKeys ..
theorem nodup_kZ1 (L : Nat) : (kZ1 L).Nodup := kZ1_eq L ▸ nodup_rowKeys ..

theorem mem_row {u : Int} {p L : Nat} (hp : p ≤ 1) {a b : Int} :
    [a, b] ∈ rowKeys u p L ↔ (0 ≤ a ∧ a < 2 * (L : Int) ∧ a % 2 = p ∧ b = u) := by
  simp only [mem_rowKeys, List.cons.injEq, and_true]
  constructor
  · rintro ⟨j, hj, rfl, rfl⟩; omega
  · rintro ⟨h1, h2, h3, rfl⟩; exact ⟨(a / 2).toNat, by omega, by omega, rfl⟩

theorem mem_col {u : Int} {p L : Nat} (hp : p ≤ 1) {a b : Int} :
    [a, b] ∈ colKeys u p L ↔ (0 ≤ b ∧ b < 2 * (L : Int) ∧ b % 2 = p ∧ a = u) := by
  simp only [mem_colKeys, List.cons.injEq, and_true]
  constructor
  · rintro ⟨j, hj, rfl, rfl⟩; omega
  · rintro ⟨h1, h2, h3, rfl⟩; exact ⟨(b / 2).toNat, by omega, rfl, by omega⟩

theorem logX_eq (Lx Ly : Nat) :
    logX Lx Ly = [(kX0 Lx).map (fun q => (q, Pauli.X)), (kX1 Ly).map (fun q => (q, Pauli.X))] := by
  show [lineOp (kX0 Lx) Pauli.X, lineOp (kX1 Ly) Pauli.X] = _
  rw [lineOp_eq _ _ (nodup_kX0 Lx), lineOp_eq _ _ (nodup_kX1 Ly)]
theorem logZ_eq (Lx Ly : Nat) :
    logZ Lx Ly = [(kZ0 Ly).map (fun q => (q, Pauli.Z)), (kZ1 Lx).map (fun q => (q, Pauli.Z))] := by
  show [lineOp (kZ0 Ly) Pauli.Z, lineOp (kZ1 Lx) Pauli.Z] = _
  rw [lineOp_eq _ _ (nodup_kZ0 Ly), lineOp_eq _ _ (nodup_kZ1 Lx)]

/-! ### logical vs. stabilizer: the four neighbours of a site hit a line 0 or 2 times -/

/-- a horizontal line through points whose `x` parity is not that of the site: met in the two
    `x`-neighbours of the site if it passes through the site's row, not at all otherwise -/
theorem nbrs_row {Lx Ly : Nat} {x y u : Int} {p : Nat} (hp : p ≤ 1) (hb : InBox Lx Ly x y)
    (hpar : x % 2 ≠ p) : interCount (nbrs Lx Ly x y) (rowKeys u p Lx) % 2 = 0 := by
  have hx : ∀ x', cadj (2 * (Lx : Int)) x x' → ([x', y] ∈ rowKeys u p Lx ↔ y = u) := fun x' h => by
    have := cadj_range hb.1 hb.2.1 h
    have := cadj_parity (Int.mul_emod_right 2 Lx) h
    rw [mem_row hp]; omega
  have hy : ∀ y', [x, y'] ∉ rowKeys u p Lx := fun y' h => hpar ((mem_row hp).mp h).2.2.1
  rw [show nbrs Lx Ly x y = [[predW x (2 * (Lx : Int)), y], [succW x (2 * (Lx : Int)), y],
    [x, predW y (2 * (Ly : Int))], [x, succW y (2 * (Ly : Int))]] from rfl, interCount_4,
    if_neg (hy _), if_neg (hy _)]
  simp only [hx _ (Or.inl rfl), hx _ (Or.inr rfl)]
  split <;> rfl

theorem nbrs_col {Lx Ly : Nat} {x y u : Int} {p : Nat} (hp : p ≤ 1) (hb : InBox Lx Ly x y)
    (hpar : y % 2 ≠ p) : interCount (nbrs Lx Ly x y) (colKeys u p Ly) % 2 = 0 := by
  have hy : ∀ y', cadj (2 * (Ly : Int)) y y' → ([x, y'] ∈ colKeys u p Ly ↔ x = u) := fun y' h => by
    have := cadj_range hb.2.2.1 hb.2.2.2 h
    have := cadj_parity (Int.mul_emod_right 2 Ly) h
    rw [mem_col hp]; omega
  have hx : ∀ x', [x', y] ∉ colKeys u p Ly := fun x' h => hpar ((mem_col hp).mp h).2.2.1
  rw [show nbrs Lx Ly x y = [[predW x (2 * (Lx : Int)), y], [succW x (2 * (Lx : Int)), y],
    [x, predW y (2 * (Ly : Int))], [x, succW y (2 * (Ly : Int))]] from rfl, interCount_4,
    if_neg (hx _), if_neg (hx _)]
  simp only [hy _ (Or.inl rfl), hy _ (Or.inr rfl)]
  split <;> rfl

theorem row_col_cross {u v : Int} {p r L L' : Nat} (hv : [v, u] ∈ rowKeys u p L)
    (hu : [v, u] ∈ colKeys v r L') : interCount (rowKeys u p L) (colKeys v r L') = 1 := by
  refine countP_eq_one _ _ [v, u] (nodup_rowKeys ..) hv (List.contains_iff_mem.mpr hu) ?_
  intro a ha h
  obtain ⟨j, _, rfl⟩ := mem_rowKeys.mp ha
  obtain ⟨j', _, e⟩ := mem_colKeys.mp (List.contains_iff_mem.mp h)
  rw [(List.cons.inj e).1]

theorem rows_apart {u u' : Int} (h : u ≠ u') (p p' L L' : Nat) :
    interCount (rowKeys u p L) (rowKeys u' p' L') = 0 := by
  refine List.countP_eq_zero.mpr fun a ha h' => ?_
  obtain ⟨j, _, rfl⟩ := mem_rowKeys.mp ha
  obtain ⟨j', _, e⟩ := mem_rowKeys.mp (List.contains_iff_mem.mp h')
  exact h (List.cons.inj (List.cons.inj e).2).1

theorem cols_apart {u u' : Int} (h : u ≠ u') (p p' L L' : Nat) :
    interCount (colKeys u p L) (colKeys u' p' L') = 0 := by
  refine List.countP_eq_zero.mpr fun a ha h' => ?_
  obtain ⟨j, _, rfl⟩ := mem_colKeys.mp ha
  obtain ⟨j', _, e⟩ := mem_colKeys.mp (List.contains_iff_mem.mp h')
  exact h (List.cons.inj e).1

end Panqec.Toric2DCode
