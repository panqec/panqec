/-
`Servable` for `XCubeCode`, all sizes of its family.
-/
import PanqecVerif.Proofs.GuiReprEdits
import PanqecVerif.Proofs.LatXCubeCodeCss

namespace Panqec.GuiRepr
open Panqec.Gui

theorem xcube_tables : classTablesOk Generated.GuiFull.tables "XCubeCode" fractonTypes = true := by
  decide +kernel

theorem xcube_servable (Lx Ly Lz : Nat) (hx : 2 ≤ Lx) (hy : 2 ≤ Ly) (hz : 2 ≤ Lz) (name : String)
    (hn : name = "None" ∨ name = "XZZX") :
    Servable (xcube Lx Ly Lz) Generated.GuiFull.tables fractonTypes name where
  wf := XCubeCode.wf Lx Ly Lz hx hy hz
  tables := xcube_tables
  stab_types := by
    intro s hs
    have hb : XCubeCode.isStab Lx Ly Lz s = true := List.contains_iff_mem.mpr hs
    dsimp only [xcube, XCubeCode.stabilizerType]
    refine guarded_type hb ⟨_, ?_, rfl⟩
    split <;> decide
  qubit_axes := by
    intro q hq
    obtain ⟨x, y, z, rfl⟩ := XCubeCode.mem_qubits_shape Lx Ly Lz q hq
    exact ⟨_, XCubeCode.qubitAxis_qubit Lx Ly Lz x y z hq⟩
  stab_edits := xcubeStabEdits_simple
  qubit_edits := noEdits_simple
  deformation := by
    refine hn.imp_right fun h q hq => ?_
    obtain ⟨x, y, z, rfl⟩ := XCubeCode.mem_qubits_shape Lx Ly Lz q hq
    show (XCubeCode.getDeformation name none [x, y, z]).isSome = true
    rw [h, XCubeCode.getDeformation_rule, XCubeCode.qubitAxis_qubit Lx Ly Lz x y z hq]
    simp

end Panqec.GuiRepr
