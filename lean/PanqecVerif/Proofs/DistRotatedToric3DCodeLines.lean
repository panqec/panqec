/-
RotatedToric3DCode, supported family, C17: rows and columns of horizontal qubits as one family of
lines over the transposition `Tr` of `LatRotatedToric3DCodeCommPair` (`e u v z` is the location with `u`
along the lines and `v` across), walls (a line in every layer) likewise; the key lists `LK f` of the
listed logical operators on walls have the same members; the anticommutation counts of the line and
wall operators are the sums of `Proofs/DistRotatedToric3DCodeParity.lean` (`Tr.count_lineK`,
`Tr.count_wallK_Y`, `Tr.count_wallK_Z`).
-/
import PanqecVerif.Proofs.DistRotatedToric3DCodeParity
import PanqecVerif.Proofs.DistLat3Db

namespace Panqec.RotatedToric3DCode
open Panqec.Lat3Db
open Panqec.Lat2D (rsum rsum2 rsum_congr rsum2_congr rsum_even rsum2_even rsum_add rsum2_add
  rsum_mod2_congr rsum2_mod2_congr rsum2_swap ind)

variable {Lx Ly Lz : Nat}

/-- the wall `v = g`: that line in every layer -/
def wallK (La Lz : Nat) (e : Int → Int → Int → Coord) (g : Int) : List Coord :=
  (pyRange2 1 (2 * Lz)).flatMap fun z => (pyRange2 1 (2 * La)).map fun u => e u g z
/-- the wall `x = f`: that column in every layer -/
def wallXK (Ly Lz : Nat) (f : Int) : List Coord :=
  (pyRange2 1 (2 * Lz)).flatMap fun z => (pyRange2 1 (2 * Ly)).map fun y => [f, y, z]

theorem wallXK_eq (f : Int) : wallXK Ly Lz f = wallK Ly Lz (fun u v z => [v, u, z]) f := rfl

theorem mem_wallK {La : Nat} {e : Int → Int → Int → Coord} {g : Int} {q : Coord} :
    q ∈ wallK La Lz e g ↔ ∃ u z, R1 (2 * La) u ∧ R1 (2 * Lz) z ∧ q = e u g z := by
  simp only [wallK, List.mem_flatMap, List.mem_map, mem_pyRange2_1]
  constructor
  · rintro ⟨z, hz, u, hu, rfl⟩; exact ⟨u, z, hu, hz, rfl⟩
  · rintro ⟨u, z, hu, hz, rfl⟩; exact ⟨z, hz, u, hu, rfl⟩

theorem length_wallK (La Lz : Nat) (e : Int → Int → Int → Coord) (g : Int) :
    (wallK La Lz e g).length = La * Lz := by
  unfold wallK
  rw [length_flatMap_const _ _ La (fun z _ => by simp [length_pyRange2_odd]), length_pyRange2_odd,
    Nat.mul_comm]

section tr
variable {e : Int → Int → Int → Coord} {La Lc : Nat} (hp : Tr Lx Ly e La Lc)
include hp

theorem Tr.qubit {u v z : Int} (hu : R1 (2 * La) u) (hv : R1 (2 * Lc) v) (hz : R1 (2 * Lz) z) :
    e u v z ∈ qubits Lx Ly Lz := by
  cases hp <;> rw [mem_qubits_iff]
  · exact .inl ⟨hu, hv, hz⟩
  · exact .inl ⟨hv, hu, hz⟩

theorem Tr.isQ {u v z : Int} (hu : R1 (2 * La) u) (hv : R1 (2 * Lc) v) (hz : R1 (2 * Lz) z) :
    isQubit Lx Ly Lz (e u v z) = true :=
  List.contains_iff_mem.mpr (hp.qubit hu hv hz)

theorem Tr.lineK_sub {g c : Int} (hg : R1 (2 * Lc) g) (hc : R1 (2 * Lz) c) :
    ∀ q ∈ lineK La e g c, q ∈ qubits Lx Ly Lz := by
  intro q hq
  obtain ⟨u, hu, rfl⟩ := List.mem_map.mp hq
  exact hp.qubit ((mem_pyRange2_1 _ _).mp hu) hg hc

theorem Tr.lineK_disj {g g' c c' : Int} (h : g ≠ g' ∨ c ≠ c') :
    ∀ q ∈ lineK La e g c, q ∉ lineK La e g' c' := by
  intro q hq hq'
  obtain ⟨u, _, rfl⟩ := List.mem_map.mp hq
  obtain ⟨u', _, e'⟩ := List.mem_map.mp hq'
  have := hp.inj e'
  omega

theorem Tr.wallK_nodup (g : Int) : (wallK La Lz e g).Nodup := by
  unfold wallK
  rw [List.nodup_flatMap]
  refine ⟨fun z _ => hp.lineK_nodup g z, ?_⟩
  refine List.Pairwise.imp_of_mem ?_ (nodup_pyRange2 1 (2 * Lz))
  intro a b _ _ hab
  simp only [Function.onFun, List.Disjoint, List.mem_map]
  rintro c ⟨u, _, rfl⟩ ⟨u', _, h⟩
  exact hab (hp.inj h).2.2.symm

theorem Tr.wallK_sub {g : Int} (hg : R1 (2 * Lc) g) :
    ∀ q ∈ wallK La Lz e g, q ∈ qubits Lx Ly Lz := by
  intro q hq
  obtain ⟨u, z, hu, hz, rfl⟩ := mem_wallK.mp hq
  exact hp.qubit hu hg hz

theorem Tr.wallK_disj {g g' : Int} (h : g ≠ g') :
    ∀ q ∈ wallK La Lz e g, q ∉ wallK La Lz e g' := by
  intro q hq hq'
  obtain ⟨u, z, _, _, rfl⟩ := mem_wallK.mp hq
  obtain ⟨u', z', _, _, e'⟩ := mem_wallK.mp hq'
  exact h (hp.inj e').2.1

end tr

theorem LK_wallX_perm {f : Int → Int → Int → Bool} (hLx : 1 ≤ Lx)
    (hf : ∀ x y z, f x y z = (x == 1)) : (LK Lx Ly Lz f).Perm (wallXK Ly Lz 1) := by
  rw [wallXK_eq]
  refine LK_perm ((Tr.col (Lx := Lx)).wallK_nodup 1) (fun x y z h => ?_) (fun q hq => ?_)
    (fun x y z hq h => ?_)
  · rw [hf, beq_iff_eq] at h; exact Or.inl h
  · obtain ⟨y, z, hy, hz, rfl⟩ := mem_wallK.mp hq
    exact ⟨_, _, _, rfl, ⟨r1_one hLx, hy, hz⟩, by rw [hf]; rfl⟩
  · rw [hf, beq_iff_eq] at h
    subst h
    exact mem_wallK.mpr ⟨y, z, hq.2.1, hq.2.2, rfl⟩

theorem LK_wallY_perm {f : Int → Int → Int → Bool} (hLy : 1 ≤ Ly)
    (hf : ∀ x y z, f x y z = (y == 1)) :
    (LK Lx Ly Lz f).Perm (wallK Lx Lz (fun u v z => [u, v, z]) 1) := by
  refine LK_perm ((Tr.row (Ly := Ly)).wallK_nodup 1) (fun x y z h => ?_) (fun q hq => ?_)
    (fun x y z hq h => ?_)
  · rw [hf, beq_iff_eq] at h; exact Or.inr h
  · obtain ⟨x, z, hx, hz, rfl⟩ := mem_wallK.mp hq
    exact ⟨_, _, _, rfl, ⟨hx, r1_one hLy, hz⟩, by rw [hf]; rfl⟩
  · rw [hf, beq_iff_eq] at h
    subst h
    exact mem_wallK.mpr ⟨x, z, hq.1, hq.2.2, rfl⟩

theorem opAntiCount_perm {K K' : List Coord} (h : K.Perm K') (P : Pauli) (b : Op) :
    opAntiCount (constOp K P) b = opAntiCount (constOp K' P) b := by
  rw [opAntiCount_constOp_hit, opAntiCount_constOp_hit]
  exact h.countP_eq _

theorem dl_not_col (q : Coord) : dl (!col q) q = Pauli.X := by
  unfold dl; cases col q <;> rfl
theorem dl_col (q : Coord) : dl (col q) q = Pauli.Z := by
  unfold dl; cases col q <;> rfl

theorem xH_qubit {b : Op} {q : Coord} (hq : isQubit Lx Ly Lz q = true) :
    xH Lx Ly Lz b q = if opHit Pauli.X b q = true then 1 else 0 := by
  unfold xH hS
  rw [if_pos hq, dl_not_col]
  rfl

theorem zH_add_xH {b : Op} {q : Coord} (hq : isQubit Lx Ly Lz q = true) :
    (if opHit Pauli.Z b q = true then 1 else 0) + xH Lx Ly Lz b q =
      hS Lx Ly Lz b true q + hS Lx Ly Lz b false q := by
  unfold xH hS
  simp only [hq, if_true]
  unfold opHit
  have h1 := dl_not_col q; have h2 := dl_col q
  cases hc : col q <;> rw [hc] at h1 h2 <;> simp only [Bool.not_true, Bool.not_false] at h1 ⊢ <;>
    rw [h1, h2]
  omega

theorem yH_mod2 {b : Op} {q : Coord} (hq : isQubit Lx Ly Lz q = true) :
    (if opHit Pauli.Y b q = true then 1 else 0) % 2 =
      (hS Lx Ly Lz b true q + hS Lx Ly Lz b false q) % 2 := by
  unfold hS
  simp only [hq, if_true]
  unfold opHit dl
  cases col q <;> cases Op.letter b q <;> simp [Pauli.anti]

section tr
variable {e : Int → Int → Int → Coord} {La Lc : Nat} (hp : Tr Lx Ly e La Lc)
include hp

theorem Tr.count_lineK (b : Op) {g c : Int} (hg : R1 (2 * Lc) g) (hc : R1 (2 * Lz) c) :
    (lineK La e g c).countP (opHit Pauli.X b) =
      lineS La (fun u v z => xH Lx Ly Lz b (e u v z)) g c := by
  unfold lineK lineS
  rw [countP_lineO]
  exact rsum_congr La fun j hj => (xH_qubit (hp.isQ (r1_idx hj) hg hc)).symm

theorem Tr.count_wallK_Y (b : Op) {g : Int} (hg : R1 (2 * Lc) g) :
    (wallK La Lz e g).countP (opHit Pauli.Y b) % 2 =
      wallS La Lz (fun σ u v z => hS Lx Ly Lz b σ (e u v z)) g % 2 := by
  unfold wallK wallS
  rw [countP_planeO (opHit Pauli.Y b) (fun u z => e u g z) Lz La, rsum2_swap Lz _ La]
  exact rsum2_mod2_congr fun k j hk hj => yH_mod2 (hp.isQ (r1_idx hj) hg (r1_idx hk))

theorem Tr.count_wallK_Z (b : Op) {g : Int} (hg : R1 (2 * Lc) g) :
    (wallK La Lz e g).countP (opHit Pauli.Z b)
      + rsum Lz (fun k => lineS La (fun u v z => xH Lx Ly Lz b (e u v z)) g (2 * (k : Int) + 1)) =
      wallS La Lz (fun σ u v z => hS Lx Ly Lz b σ (e u v z)) g := by
  unfold wallK wallS lineS
  rw [countP_planeO (opHit Pauli.Z b) (fun u z => e u g z) Lz La, rsum2_swap Lz _ La]
  show rsum2 Lz La _ + rsum2 Lz La
    (fun k j => xH Lx Ly Lz b (e (2 * (j : Int) + 1) g (2 * (k : Int) + 1))) = _
  rw [← rsum2_add]
  exact rsum2_congr fun k j hk hj => zH_add_xH (hp.isQ (r1_idx hj) hg (r1_idx hk))

/-- even `La`: every wall is hit by Z with the parity of the wall `v = 1` -/
theorem Tr.zWall_all (hF : Fam Lx Ly) (hpa : La % 2 = 0) (h1c : 1 ≤ Lc) {b : Op}
    (hb : CommStabs Lx Ly Lz b) (i : Nat) (hi : i < Lc) :
    (wallK La Lz e (2 * (i : Int) + 1)).countP (opHit Pauli.Z b) % 2 =
      (wallK La Lz e 1).countP (opHit Pauli.Z b) % 2 := by
  have hH := hp.signSums (Lz := Lz) hF hb
  have h1 := hp.count_wallK_Z (Lz := Lz) b (r1_idx hi)
  have h2 := hp.count_wallK_Z (Lz := Lz) b (r1_one h1c)
  have h3 := wall_all hH i hi
  have h4 := rsum_mod2_congr Lz fun k hk => line_all hH hpa hk i hi
  omega

end tr

end Panqec.RotatedToric3DCode
