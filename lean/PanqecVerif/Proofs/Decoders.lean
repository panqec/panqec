/-
Sector views of a syndrome (`Model/Decoders.lean` on top of `Proofs/CodeCss.lean`): for a CSS
matrix the X-row part of the syndrome of `[x | z]` is `Hx · z`, the Z-row part `Hz · x`; for any
matrix the syndrome is determined by these two parts.  Core Lean only.
-/
import PanqecVerif.Model.Decoders
import PanqecVerif.Proofs.CodeCss

namespace Panqec

theorem measureSyndrome_length (H : Mat) (e : Vec) : (measureSyndrome H e).length = H.length := by
  simp [measureSyndrome_eq]

theorem maskSelect_map {α β : Type} (p : α → Bool) (f : α → β) (l : List α) :
    maskSelect (l.map p) (l.map f) = (l.filter p).map f := by
  rw [maskSelect_map_map, ← List.filterMap_eq_map, List.filterMap_filter]
  rfl

theorem Hx_eq (H : Mat) : Hx H = (H.filter xFlag).map xPart := maskSelect_map xFlag xPart H

theorem Hz_eq (H : Mat) : Hz H = (H.filter zFlag).map zPart := maskSelect_map zFlag zPart H

theorem css_xrow_block (H : Mat) (hcss : isCss H = true) (v : Vec) :
    extractXSyndrome H (measureSyndrome H v) = sectorSyndrome (Hx H) (zPart v) := by
  unfold extractXSyndrome Hx sectorSyndrome
  rw [measureSyndrome_eq, xIndices_eq]
  exact maskSelect_map_congr _ _ _ _ H fun r hr hx =>
    symp_of_zFlag_false r v (zFlag_false_of_isCss hcss hr hx)

theorem css_zrow_block (H : Mat) (hcss : isCss H = true) (v : Vec) :
    extractZSyndrome H (measureSyndrome H v) = sectorSyndrome (Hz H) (xPart v) := by
  unfold extractZSyndrome Hz sectorSyndrome
  rw [measureSyndrome_eq, zIndices_eq]
  exact maskSelect_map_congr _ _ _ _ H fun r hr hz =>
    symp_of_xFlag_false r v (xFlag_false_of_isCss hcss hr hz)

theorem maskSelect_map_eq_iff {α γ} (m : α → Bool) (s t : α → γ) : ∀ H : List α,
    maskSelect (H.map m) (H.map s) = maskSelect (H.map m) (H.map t) ↔
      ∀ r ∈ H, m r = true → s r = t r
  | [] => by simp [maskSelect]
  | r :: H => by
    have ih := maskSelect_map_eq_iff m s t H
    unfold maskSelect at ih ⊢
    cases h : m r <;> simp [h, ih]

/-- no CSS hypothesis: a row flagged by neither mask is a zero row -/
theorem measureSyndrome_ext (H : Mat) (c e : Vec)
    (hx : extractXSyndrome H (measureSyndrome H c) = extractXSyndrome H (measureSyndrome H e))
    (hz : extractZSyndrome H (measureSyndrome H c) = extractZSyndrome H (measureSyndrome H e)) :
    measureSyndrome H c = measureSyndrome H e := by
  unfold extractXSyndrome at hx
  unfold extractZSyndrome at hz
  rw [measureSyndrome_eq, measureSyndrome_eq] at hx hz ⊢
  rw [xIndices_eq, maskSelect_map_eq_iff] at hx
  rw [zIndices_eq, maskSelect_map_eq_iff] at hz
  apply List.map_congr_left
  intro r hr
  cases hxf : xFlag r
  · cases hzf : zFlag r
    · rw [symp_of_xFlag_false r c hxf, symp_of_xFlag_false r e hxf,
        dot_zero_left _ _ ((flag_false_iff _).mp hzf), dot_zero_left _ _ ((flag_false_iff _).mp hzf)]
    · exact hz r hr hzf
  · exact hx r hr hxf

end Panqec
