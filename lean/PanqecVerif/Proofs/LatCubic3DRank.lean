/-
Operator-level GF(2) independence (the rank clause of C01 for hand-written lattice models):
a family of operators is independent when no non-empty sub-family multiplies to the identity up to
phase, i.e. has even X-parity and even Z-parity on every location.  `opsIndep_of_witnesses` is the
criterion used for the all-sizes families (`exists_odd_row` of `Proofs/RankCore.lean` with the
pairing "does `t` act on the witness of `s` with the component of `s`"): every member has a witness
location and an integer rank such that any other member acting (with the same component) on the
witness has smaller rank.  `opsIndep_of_letters` is the same letter by letter, for generators that
carry one letter on a key list: the condition is shown among the Z-type members and among the X-type
members separately, and no component function is written.
-/
import PanqecVerif.Proofs.LatCubic3D
import PanqecVerif.Proofs.RankCore

namespace Panqec.Cubic3D

def hitX (op : Op) (q : Coord) : Bool :=
  match op.get? q with
  | some .X => true
  | some .Y => true
  | _ => false

def hitZ (op : Op) (q : Coord) : Bool :=
  match op.get? q with
  | some .Z => true
  | some .Y => true
  | _ => false

/-- GF(2) independence of the BSF rows of a family of operators -/
def OpsIndep (F : List Op) : Prop :=
  ∀ S : List Op, S.Sublist F →
    (∀ q, (S.countP fun op => hitX op q) % 2 = 0 ∧ (S.countP fun op => hitZ op q) % 2 = 0) →
    S = []

def hit (b : Bool) (op : Op) (q : Coord) : Bool := if b then hitX op q else hitZ op q

theorem hitX_uop (ks : List Coord) (p : Pauli) (q : Coord) :
    hitX (uop ks p) q = (decide (q ∈ ks) && (p == .X || p == .Y)) := by
  unfold hitX
  rw [uop_get?]
  by_cases h : q ∈ ks <;> cases p <;> simp [h]

theorem hitZ_uop (ks : List Coord) (p : Pauli) (q : Coord) :
    hitZ (uop ks p) q = (decide (q ∈ ks) && (p == .Z || p == .Y)) := by
  unfold hitZ
  rw [uop_get?]
  by_cases h : q ∈ ks <;> cases p <;> simp [h]

/-- `w s` the witness, `xz s` the component it is acted on with (X if `true`), `r` the rank -/
theorem opsIndep_of_witnesses {B : List Coord} {g : Coord → Op} (hB : B.Nodup)
    (r : Coord → Int) (w : Coord → Coord) (xz : Coord → Bool)
    (h : ∀ s ∈ B, hit (xz s) (g s) (w s) = true ∧
      ∀ t ∈ B, hit (xz s) (g t) (w s) = true → t = s ∨ r t < r s) :
    OpsIndep (B.map g) := by
  intro S hS hpar
  obtain ⟨S', hS', rfl⟩ := List.sublist_map_iff.mp hS
  by_contra hne
  -- the pairing of `s` with `t`: does `t` act on the witness of `s` with the component of `s`?
  obtain ⟨s, -, hodd⟩ := exists_odd_row r
    (fun s t => if hit (xz s) (g t) (w s) = true then 1 else 0)
    (fun s hs => by rw [if_pos (h s hs).1])
    (fun s hs t ht hst hle => by
      rw [if_neg fun hh => ((h s hs).2 t ht hh).elim (fun e => hst e.symm) (fun lt => by omega)])
    (hB.sublist hS') hS'.subset (fun h0 => hne (by rw [h0]; rfl))
  rw [sum_indicator_eq_countP] at hodd
  have hp := hpar (w s)
  rw [List.countP_map, List.countP_map] at hp
  unfold hit at hodd
  cases hb : xz s <;> simp only [hb, if_true, Bool.false_eq_true, if_false] at hodd <;>
    simp only [Function.comp_def] at hp <;> omega

/-- for generators that carry `Z` on a key list `k` with `KZ s k` or `X` on one with `KX s k`; members
    with the other letter do not act on the witness with the component of `s` -/
theorem opsIndep_of_letters {B : List Coord} {g : Coord → Op} (hB : B.Nodup) (r : Coord → Int)
    (w : Coord → Coord) (KZ KX : Coord → List Coord → Prop)
    (hk : ∀ s ∈ B, (∃ k, KZ s k) ∨ ∃ k, KX s k)
    (hZ : ∀ s k, KZ s k → g s = uop k Pauli.Z) (hX : ∀ s k, KX s k → g s = uop k Pauli.X)
    (triZ : ∀ s ∈ B, ∀ k, KZ s k → w s ∈ k ∧
      ∀ t ∈ B, ∀ k', KZ t k' → w s ∈ k' → t = s ∨ r t < r s)
    (triX : ∀ s ∈ B, ∀ k, KX s k → w s ∈ k ∧
      ∀ t ∈ B, ∀ k', KX t k' → w s ∈ k' → t = s ∨ r t < r s) :
    OpsIndep (B.map g) := by
  refine opsIndep_of_witnesses hB r w (fun s => hitX (g s) (w s)) fun s hs => ?_
  rcases hk s hs with ⟨k, hs'⟩ | ⟨k, hs'⟩
  · obtain ⟨hw, hlt⟩ := triZ s hs k hs'
    have e : hitX (g s) (w s) = false := by rw [hZ s k hs', hitX_uop]; simp
    rw [e]
    refine ⟨by rw [hZ s k hs']; simpa [hit, hitZ_uop] using hw, fun t ht hh => ?_⟩
    rcases hk t ht with ⟨k', ht'⟩ | ⟨k', ht'⟩
    · rw [hZ t k' ht'] at hh
      exact hlt t ht k' ht' (by simpa [hit, hitZ_uop] using hh)
    · rw [hX t k' ht'] at hh
      simp [hit, hitZ_uop] at hh
  · obtain ⟨hw, hlt⟩ := triX s hs k hs'
    have e : hitX (g s) (w s) = true := by rw [hX s k hs', hitX_uop]; simpa using hw
    rw [e]
    refine ⟨by rw [hX s k hs']; simpa [hit, hitX_uop] using hw, fun t ht hh => ?_⟩
    rcases hk t ht with ⟨k', ht'⟩ | ⟨k', ht'⟩
    · rw [hZ t k' ht'] at hh
      simp [hit, hitX_uop] at hh
    · rw [hX t k' ht'] at hh
      exact hlt t ht k' ht' (by simpa [hit, hitX_uop] using hh)

theorem grid_sublist {xs ys zs zs' : List Int} (h : zs.Sublist zs') :
    (grid xs ys zs).Sublist (grid xs ys zs') := by
  unfold grid
  induction xs with
  | nil => simp
  | cons x xs ihx =>
    simp only [List.flatMap_cons]
    refine List.Sublist.append ?_ ihx
    clear ihx
    induction ys with
    | nil => simp
    | cons y ys ihy =>
      simp only [List.flatMap_cons]
      exact List.Sublist.append (h.map _) ihy

end Panqec.Cubic3D
