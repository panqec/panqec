/-
XCubeCode, all sizes, C17: the parity argument.

A dict operator `b` that commutes with every generator (cubes: Z on 12 edges; vertex operators
`(axis, v)`: X on the 4 edges at `v` perpendicular to `axis`):

* **X logicals** are ladders of parallel edges (e.g. `X̄_{A1}(y)`: the x-edges `(1, y, z)` for all
  `z`).  Translating the ladder by one lattice unit along its edges multiplies it by the vertex
  operators of the vertices in between whose plane contains the edges and the ladder direction;
  the other two edges of consecutive vertex operators cancel (cyclically).  So `b` anticommutes
  with every translate of the ladder on as many qubits (mod 2) as with the ladder.
* **Z logicals** are straight lines of edges.  The product of a row of cubes along the lines is
  the product of the four lines through the corners of the row (the transverse edges cancel
  cyclically): the parities `U j k` of `b` with the parallel lines at transverse position `(j, k)`
  satisfy the plaquette relation, hence (`Lat2D.rect`) the rectangle relation
  `U j k + U j 0 + U 0 k + U 0 0 ≡ 0`.
-/
import PanqecVerif.Proofs.DistLat3Db
import PanqecVerif.Proofs.LatXCubeCodeCss

namespace Panqec.XCubeCode
open Panqec.Lat3Db
open Panqec.Lat2D (rsum wrapP wrapS ladderP ladder4 ind)

theorem dn_even_nat {L k : Nat} (hk : k < L) :
    dn (2 * L) (2 * (k : Int)) = 2 * ((wrapP L k : Nat) : Int) + 1 := by
  rw [dn_eq]; push_cast; exact Lat2D.cdn_even_nat hk

theorem up_odd_nat (L a : Nat) :
    up (2 * L) (2 * (a : Int) + 1) = 2 * ((wrapS L a : Nat) : Int) := by
  rw [up_eq]; push_cast; exact Lat2D.cup_odd_nat L a

def CommStabs (Lx Ly Lz : Nat) (b : Op) : Prop :=
  ∀ s ∈ (lattice Lx Ly Lz).stabs, opAntiCount ((lattice Lx Ly Lz).getStab s) b % 2 = 0

variable {Lx Ly Lz : Nat}

theorem star_even {b : Op} (hb : CommStabs Lx Ly Lz b) {ax x y z : Int}
    (ha : ax = 0 ∨ ax = 1 ∨ ax = 2) (hv : SVx Lx Ly Lz x y z) {q1 q2 q3 q4 : Coord}
    (e : getStab Lx Ly Lz [ax, x, y, z] = constOp [q1, q2, q3, q4] Pauli.X) :
    (ind Pauli.X b q1 + ind Pauli.X b q2 + ind Pauli.X b q3 + ind Pauli.X b q4) % 2 = 0 := by
  have h := (lattice Lx Ly Lz).stab_even hb ((mem_stabs_face Lx Ly Lz ax x y z).mpr ⟨ha, hv⟩) e
  simp only [List.countP_cons, List.countP_nil] at h
  unfold Lat2D.ind
  omega

theorem cube_even (hx : 2 ≤ Lx) (hy : 2 ≤ Ly) (hz : 2 ≤ Lz) {b : Op}
    (hb : CommStabs Lx Ly Lz b) {x y z : Int} (hv : SC Lx Ly Lz x y z)
    {xm xp ym yp zm zp : Int} (e1 : x - 1 = xm) (e2 : up (2 * Lx) x = xp) (e3 : y - 1 = ym)
    (e4 : up (2 * Ly) y = yp) (e5 : z - 1 = zm) (e6 : up (2 * Lz) z = zp) :
    (ind Pauli.Z b [xp, yp, z] + ind Pauli.Z b [xm, ym, z] + ind Pauli.Z b [xp, ym, z]
      + ind Pauli.Z b [xm, yp, z] + ind Pauli.Z b [xm, y, zm] + ind Pauli.Z b [xp, y, zm]
      + ind Pauli.Z b [x, ym, zm] + ind Pauli.Z b [x, yp, zm] + ind Pauli.Z b [xm, y, zp]
      + ind Pauli.Z b [xp, y, zp] + ind Pauli.Z b [x, ym, zp] + ind Pauli.Z b [x, yp, zp]) % 2
      = 0 := by
  have h : opAntiCount (getStab Lx Ly Lz [x, y, z]) b % 2 = 0 :=
    hb [x, y, z] ((mem_stabs_cube Lx Ly Lz x y z).mpr hv)
  rw [getStab_cube Lx Ly Lz x y z hx hy hz hv, opAntiCount_constOp_hit] at h
  subst e1 e2 e3 e4 e5 e6
  unfold cubeLocs at h
  simp only [List.countP_cons, List.countP_nil] at h
  unfold Lat2D.ind
  omega

theorem countP_oddLine (P : Pauli) (b : Op) (f : Int → Coord) (L : Nat) :
    ((pyRange2 1 (2 * L)).map f).countP (opHit P b) = rsum L fun a => ind P b (f (2 * (a : Int) + 1)) :=
  countP_lineO _ _ _

/-- the ladder of the edges `e (2i + 1) u t`, `t` over the even sites of the axis of `w`; the
    listed X logicals are the ladders with `i = 0` (e.g. `X̄_{A1}(y)`: the x-edges `(1, y, t)`) -/
def tX (Lw : Nat) (e : Int → Int → Int → Coord) (u : Int) (i : Nat) : List Coord :=
  (pyRange2 0 (2 * Lw)).map (e (2 * (i : Int) + 1) u)

theorem tX_zero (Lw : Nat) (e : Int → Int → Int → Coord) (u : Int) : tX Lw e u 0 = gX1 Lw e u := rfl

/-- if at every even vertex of the plane of `o` and `w` the four edges of the star carry an even
    number of hits (consecutive ladders differ by these operators, whose other two edges are rungs
    that cancel cyclically), every ladder has the parity of the first -/
theorem parity_tX_of (P : Pauli) {b : Op} {Lo Lw : Nat} (e : Int → Int → Int → Coord) (u : Int)
    (h : ∀ {o w : Int}, R0 (2 * Lo) o → R0 (2 * Lw) w → ∀ {op om wp wm : Int}, o + 1 = op →
      dn (2 * Lo) o = om → w + 1 = wp → dn (2 * Lw) w = wm →
      (ind P b (e op u w) + ind P b (e om u w) + ind P b (e o u wp) + ind P b (e o u wm)) % 2 = 0)
    (i : Nat) (hi : i < Lo) :
    (tX Lw e u i).countP (opHit P b) % 2 = (tX Lw e u 0).countP (opHit P b) % 2 := by
  unfold tX
  rw [countP_lineE, countP_lineE]
  refine ladderP Lw Lo (fun i k => ind P b (e (2 * (i : Int) + 1) u (2 * (k : Int))))
    (fun i k => ind P b (e (2 * (i : Int) + 2) u (2 * (k : Int) + 1))) (fun i hi k hk => ?_) i hi
  have := h (o := 2 * (i : Int) + 2) (w := 2 * (k : Int)) (by unfold R0; omega) (by unfold R0; omega)
    (op := 2 * ((i + 1 : Nat) : Int) + 1) (om := 2 * (i : Int) + 1) (wp := 2 * (k : Int) + 1)
    (wm := 2 * ((wrapP Lw k : Nat) : Int) + 1) (by omega) (by rw [dn_pos _ (by omega)]; omega) rfl
    (dn_even_nat hk)
  omega

section placed
variable {e : Int → Int → Int → Coord} {Lo Lu Lw : Nat} (hp : Placed Lx Ly Lz e Lo Lu Lw)
include hp

/-- the vertex operator at `e o u w` whose axis is the direction of `u`: the edges along `o` and
    along `w` -/
theorem Placed.vertex_even (h2o : 2 ≤ Lo) (h2w : 2 ≤ Lw) {b : Op} (hb : CommStabs Lx Ly Lz b)
    {o u w : Int} (ho : R0 (2 * Lo) o) (hu : R0 (2 * Lu) u) (hw : R0 (2 * Lw) w)
    {op om wp wm : Int} (e1 : o + 1 = op) (e2 : dn (2 * Lo) o = om) (e3 : w + 1 = wp)
    (e4 : dn (2 * Lw) w = wm) :
    (ind Pauli.X b (e op u w) + ind Pauli.X b (e om u w) + ind Pauli.X b (e o u wp)
      + ind Pauli.X b (e o u wm)) % 2 = 0 := by
  subst e1 e2 e3 e4
  cases hp <;> dsimp only
  · exact star_even hb (.inr (.inl rfl)) ⟨ho, hu, hw⟩ (getStab_faceY Lx Ly Lz o u w h2o h2w ⟨ho, hu, hw⟩)
  · exact star_even hb (.inr (.inr rfl)) ⟨ho, hw, hu⟩ (getStab_faceZ Lx Ly Lz o w u h2o h2w ⟨ho, hw, hu⟩)
  · exact star_even hb (.inl rfl) ⟨hu, ho, hw⟩ (getStab_faceX Lx Ly Lz u o w h2o h2w ⟨hu, ho, hw⟩)
  · have := star_even hb (.inr (.inr rfl)) ⟨hw, ho, hu⟩ (getStab_faceZ Lx Ly Lz w o u h2w h2o ⟨hw, ho, hu⟩)
    omega
  · have := star_even hb (.inl rfl) ⟨hu, hw, ho⟩ (getStab_faceX Lx Ly Lz u w o h2w h2o ⟨hu, hw, ho⟩)
    omega
  · have := star_even hb (.inr (.inl rfl)) ⟨hw, hu, ho⟩ (getStab_faceY Lx Ly Lz w u o h2w h2o ⟨hw, hu, ho⟩)
    omega

theorem Placed.parity_tX (h2o : 2 ≤ Lo) (h2w : 2 ≤ Lw) {b : Op} (hb : CommStabs Lx Ly Lz b)
    {u : Int} (hu : R0 (2 * Lu) u) (i : Nat) (hi : i < Lo) :
    (tX Lw e u i).countP (opHit Pauli.X b) % 2 = (tX Lw e u 0).countP (opHit Pauli.X b) % 2 :=
  parity_tX_of Pauli.X e u (fun ho hw => hp.vertex_even h2o h2w hb ho hu hw) i hi

theorem Placed.tX_nodup (u : Int) (i : Nat) : (tX Lw e u i).Nodup :=
  (nodup_pyRange2 _ _).map fun _ _ h => (hp.inj h).2.2

theorem Placed.tX_sub {u : Int} (hu : R0 (2 * Lu) u) {i : Nat} (hi : i < Lo) :
    ∀ q ∈ tX Lw e u i, q ∈ qubits Lx Ly Lz := by
  intro q hq
  obtain ⟨t, ht, rfl⟩ := List.mem_map.mp hq
  exact hp.qubit (by unfold R1; omega) hu ((mem_pyRange2_0 _ _).mp ht)

theorem Placed.tX_disj {u : Int} {i i' : Nat} (h : i < i') :
    ∀ q ∈ tX Lw e u i, q ∉ tX Lw e u i' := by
  intro q hq1 hq2
  obtain ⟨t, _, rfl⟩ := List.mem_map.mp hq1
  obtain ⟨t', _, e'⟩ := List.mem_map.mp hq2
  have := (hp.inj e').1
  omega

/-- a ladder `tX Lw e u 0` with the letter `P`, on any lattice with these qubits: its `Lo` translates
    along its edges are representatives as soon as they have its parity -/
theorem Placed.packed_tX {l : Lattice} (hq : l.qubits = qubits Lx Ly Lz) (P : Pauli) {m : Nat}
    (hm : m ≤ Lo) {u : Int} (hu : R0 (2 * Lu) u)
    (hpar : ∀ b, l.Comm b → ∀ i, i < Lo →
      (tX Lw e u i).countP (opHit P b) % 2 = (tX Lw e u 0).countP (opHit P b) % 2) :
    l.Packed m (constOp (tX Lw e u 0) P) :=
  .of_family P _ hm (fun i hi =>
    .of_parity (hp.tX_nodup u i) (hq ▸ hp.tX_sub hu hi) fun b hb => hpar b hb i hi)
    fun _ _ h _ => hp.tX_disj h

end placed

section dir
variable {e : Int → Int → Int → Coord} {Lo Lu Lw : Nat}

theorem Dir.cube_even (hp : Dir Lx Ly Lz e Lo Lu Lw) (h2o : 2 ≤ Lo) (h2u : 2 ≤ Lu) (h2w : 2 ≤ Lw) {b : Op}
    (hb : CommStabs Lx Ly Lz b) {o u w : Int} (ho : R1 (2 * Lo) o) (hu : R1 (2 * Lu) u)
    (hw : R1 (2 * Lw) w) {om op um up' wm wp : Int} (e1 : o - 1 = om) (e2 : up (2 * Lo) o = op)
    (e3 : u - 1 = um) (e4 : up (2 * Lu) u = up') (e5 : w - 1 = wm) (e6 : up (2 * Lw) w = wp) :
    (ind Pauli.Z b (e o um wm) + ind Pauli.Z b (e o up' wm) + ind Pauli.Z b (e o um wp)
      + ind Pauli.Z b (e o up' wp) + ind Pauli.Z b (e om u wm) + ind Pauli.Z b (e op u wm)
      + ind Pauli.Z b (e om u wp) + ind Pauli.Z b (e op u wp) + ind Pauli.Z b (e om um w)
      + ind Pauli.Z b (e op um w) + ind Pauli.Z b (e om up' w) + ind Pauli.Z b (e op up' w)) % 2
      = 0 := by
  cases hp <;> dsimp only
  · have := XCubeCode.cube_even h2o h2u h2w hb ⟨ho, hu, hw⟩ e1 e2 e3 e4 e5 e6
    omega
  · have := XCubeCode.cube_even h2u h2o h2w hb ⟨hu, ho, hw⟩ e3 e4 e1 e2 e5 e6
    omega
  · have := XCubeCode.cube_even h2u h2w h2o hb ⟨hu, hw, ho⟩ e3 e4 e5 e6 e1 e2
    omega

/-- the line of the edges `e t (2j) (2k)`, `t` over the odd sites of the axis of `o`: the Z line at
    transverse position `(j, k)` -/
def zl (Lo : Nat) (e : Int → Int → Int → Coord) (j k : Nat) : List Coord :=
  zline Lo e (2 * (j : Int)) (2 * (k : Int))

/-- the product of the row of cubes `(2a + 1, 2j + 1, 2k + 1)`, `a < Lo`, is the product of the four
    lines through its corners: the transverse edges cancel cyclically -/
theorem Dir.plaquette (hp : Dir Lx Ly Lz e Lo Lu Lw) (h2o : 2 ≤ Lo) (h2u : 2 ≤ Lu) (h2w : 2 ≤ Lw) {b : Op}
    (hb : CommStabs Lx Ly Lz b) (j k : Nat) (hj : j + 1 < Lu) (hk : k + 1 < Lw) :
    ((zl Lo e j k).countP (opHit Pauli.Z b) + (zl Lo e (j + 1) k).countP (opHit Pauli.Z b)
      + (zl Lo e j (k + 1)).countP (opHit Pauli.Z b)
      + (zl Lo e (j + 1) (k + 1)).countP (opHit Pauli.Z b)) % 2 = 0 := by
  unfold zl zline
  rw [countP_oddLine, countP_oddLine, countP_oddLine, countP_oddLine]
  refine ladder4 Lo _ _ _ _
    (fun a => ind Pauli.Z b (e (2 * (a : Int)) (2 * (j : Int)) (2 * (k : Int) + 1)))
    (fun a => ind Pauli.Z b (e (2 * (a : Int)) (2 * ((j + 1 : Nat) : Int)) (2 * (k : Int) + 1)))
    (fun a => ind Pauli.Z b (e (2 * (a : Int)) (2 * (j : Int) + 1) (2 * (k : Int))))
    (fun a => ind Pauli.Z b (e (2 * (a : Int)) (2 * (j : Int) + 1) (2 * ((k + 1 : Nat) : Int)))) ?_
  intro a ha
  have h := hp.cube_even h2o h2u h2w hb (o := 2 * (a : Int) + 1) (u := 2 * (j : Int) + 1)
    (w := 2 * (k : Int) + 1) (by unfold R1; omega) (by unfold R1; omega) (by unfold R1; omega)
    (om := 2 * (a : Int)) (op := 2 * ((wrapS Lo a : Nat) : Int)) (um := 2 * (j : Int))
    (up' := 2 * ((j + 1 : Nat) : Int)) (wm := 2 * (k : Int)) (wp := 2 * ((k + 1 : Nat) : Int))
    (by omega) (up_odd_nat Lo a) (by omega) (by rw [up_nowrap _ (by omega)]; omega) (by omega)
    (by rw [up_nowrap _ (by omega)]; omega)
  omega

end dir

end Panqec.XCubeCode
