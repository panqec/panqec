/-
`Servable` for the cubic-lattice 3-D surface codes (`Toric3DCode`, `Planar3DCode`,
`HollowPlanar3DCode`), all sizes of their families.
-/
import PanqecVerif.Proofs.GuiReprEdits
import PanqecVerif.Proofs.LatToric3DCodeCss
import PanqecVerif.Proofs.LatPlanar3DCodeCss
import PanqecVerif.Proofs.LatHollowPlanar3DCodeCss

namespace Panqec.GuiRepr
open Panqec.Gui Panqec.Cubic3D

theorem cubicType_mem (t : StabType) : t.toString ∈ surfaceTypes := by
  cases t <;> decide

/-- The three classes differ in the lattice only: types and axes are the `toString` of the lattice
    model's, the override is the face normal. -/
theorem cubic_servable {cls : String} {lat : Lattice} {st : Coord → Option StabType}
    {ax : Coord → Option Axis} {defo : String → Coord → Option PauliMap} {name : String}
    (wf : lat.WF) (tables : classTablesOk Generated.GuiFull.tables cls surfaceTypes = true)
    (types : ∀ s ∈ lat.stabs, ∃ t, st s = some t) (axes : ∀ q ∈ lat.qubits, ∃ a, ax q = some a)
    (deformation : name = "None" ∨ ∀ q ∈ lat.qubits, (defo name q).isSome = true) :
    Servable ⟨cls, lat, fun s => (st s).map (·.toString), fun q => (ax q).map (·.toString), defo,
      cubicStabEdits, noEdits⟩ Generated.GuiFull.tables surfaceTypes name where
  wf := wf
  tables := tables
  stab_types := fun s hs =>
    let ⟨t, ht⟩ := types s hs
    ⟨_, cubicType_mem t, congrArg (Option.map _) ht⟩
  qubit_axes := fun q hq =>
    let ⟨_, ha⟩ := axes q hq
    ⟨_, congrArg (Option.map _) ha⟩
  stab_edits := cubicStabEdits_simple
  qubit_edits := noEdits_simple
  deformation := deformation

theorem toric3D_tables : classTablesOk Generated.GuiFull.tables "Toric3DCode" surfaceTypes = true := by
  decide +kernel
theorem planar3D_tables : classTablesOk Generated.GuiFull.tables "Planar3DCode" surfaceTypes = true := by
  decide +kernel
theorem hollowPlanar3D_tables :
    classTablesOk Generated.GuiFull.tables "HollowPlanar3DCode" surfaceTypes = true := by
  decide +kernel

theorem cubic_xzzx_isSome (ax : Axis) {q : Coord} {a : Axis} (ha : Cubic3D.qubitAxis q = some a) :
    (Cubic3D.getDeformation ax.toString "XZZX" none q).isSome = true := by
  rw [getDeformation_default, getDeformation_xzzx, ha]; rfl

theorem toric3D_servable (Lx Ly Lz : Nat) (hx : 2 ≤ Lx) (hy : 2 ≤ Ly) (hz : 2 ≤ Lz) (name : String)
    (hn : name = "None" ∨ name = "XZZX") :
    Servable (toric3D Lx Ly Lz) Generated.GuiFull.tables surfaceTypes name :=
  cubic_servable (Toric3DCode.css hx hy hz).wf toric3D_tables
    (fun _ hs => (Toric3DCode.stab_shape hx hy hz hs).elim (fun h => ⟨_, h.1⟩) fun h => ⟨_, h.1⟩)
    (fun _ hq => let ⟨_, _, _, e⟩ := Toric3DCode.shape_of_mem_qubits hq
      ⟨_, e ▸ Toric3DCode.qubitAxis_of_mem_qubits (e ▸ hq)⟩)
    (hn.imp_right fun h _ hq => by
      obtain ⟨_, _, _, rfl⟩ := Toric3DCode.shape_of_mem_qubits hq
      exact h ▸ cubic_xzzx_isSome Axis.y (Toric3DCode.qubitAxis_of_mem_qubits hq))

theorem planar3D_servable (Lx Ly Lz : Nat) (hx : 1 ≤ Lx) (hy : 1 ≤ Ly) (hz : 1 ≤ Lz) (name : String)
    (hn : name = "None" ∨ name = "XZZX") :
    Servable (planar3D Lx Ly Lz) Generated.GuiFull.tables surfaceTypes name :=
  cubic_servable (Planar3DCode.css hx hy hz).wf planar3D_tables
    (fun _ hs => (Planar3DCode.stab_shape hs).elim (fun h => ⟨_, h.1⟩) fun h => ⟨_, h.1⟩)
    (fun _ hq => let ⟨_, _, _, e⟩ := Planar3DCode.shape_of_mem_qubits hq
      ⟨_, e ▸ Planar3DCode.qubitAxis_of_mem_qubits (e ▸ hq)⟩)
    (hn.imp_right fun h _ hq => by
      obtain ⟨_, _, _, rfl⟩ := Planar3DCode.shape_of_mem_qubits hq
      exact h ▸ cubic_xzzx_isSome Axis.z (Planar3DCode.qubitAxis_of_mem_qubits hq))

/-- `HollowPlanar3DCode` offers no deformation: only the undeformed code is requested -/
theorem hollowPlanar3D_servable (Lx Ly Lz : Nat) (hx : 1 ≤ Lx) (hy : 1 ≤ Ly) (hz : 1 ≤ Lz) :
    Servable (hollowPlanar3D Lx Ly Lz) Generated.GuiFull.tables surfaceTypes "None" :=
  cubic_servable (HollowPlanar3DCode.css hx hy hz).wf hollowPlanar3D_tables
    (fun _ hs => (HollowPlanar3DCode.stab_shape hs).elim (fun h => ⟨_, h.1⟩) fun h => ⟨_, h.1⟩)
    (fun _ hq => let ⟨_, _, _, e⟩ := HollowPlanar3DCode.shape_of_mem_qubits hq
      ⟨_, e ▸ HollowPlanar3DCode.qubitAxis_of_mem_qubits (e ▸ hq)⟩)
    (Or.inl rfl)

end Panqec.GuiRepr
