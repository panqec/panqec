/-
RhombicPlanarCode lattice model, rank clause: the selected family of `n − k` generators, its
membership in arithmetic form, distinctness, and its size.  Sizes `Lx, Ly ≥ 2`, `Lz ≥ 1`.

Cubes (X-type): all of them (they are independent).
Triangles (Z-type; the four triangles of a vertex with `0 < y < 2Ly−2` multiply to the identity,
and so do the eight corner triangles of an uncoloured cube that is not cut by an x boundary):
all of axis 3 and of axis 2; of axis 1 those of the top row `y = 2Ly−2` (the others are the ones
dropped for the vertex relations); of axis 0 those of the last column `x = 2Lx−2` and, elsewhere,
one of the two that point into the same uncoloured cube from below / above: the upper one
(`(x+y+z) % 4 = 2`, `z ≥ 2`).
-/
import Mathlib.Tactic.Ring
import PanqecVerif.Proofs.LatRhombicPlanarCodeWF
import PanqecVerif.Proofs.LatRhombicCount
open Panqec Panqec.Lat3Db Panqec.Rhombic
namespace Panqec.RhombicPlanarCode

/-- selected triangle -/
def TK (Lx Ly Lz : Nat) (a x y z : Int) : Prop :=
  R2 (2*Lx) x ∧ R0 (2*Ly) y ∧ R0 (2*Lz) z ∧
    ((a = 3 ∧ y < 2*(Ly:Int)-2) ∨ (a = 2 ∧ 2 ≤ y) ∨ (a = 1 ∧ y = 2*(Ly:Int)-2) ∨
     (a = 0 ∧ y < 2*(Ly:Int)-2 ∧ (x = 2*(Lx:Int)-2 ∨ ((x + y + z) % 4 = 2 ∧ 2 ≤ z))))

theorem mem_selCubes_iff (Lx Ly Lz : Nat) (x y z : Int) :
    [x, y, z] ∈ selCubes Lx Ly Lz ↔ SC Lx Ly Lz x y z := by
  unfold selCubes SC
  simp only [mem_grid3_cons, mem_pyRange2_1, mem_rangeM1, beq_iff_eq]

/-- kinds of selected generators -/
def Kind (Lx Ly Lz : Nat) (s : Coord) : Prop :=
  (∃ x y z, s = [x, y, z] ∧ SC Lx Ly Lz x y z) ∨
  (∃ a x y z, s = [a, x, y, z] ∧ TK Lx Ly Lz a x y z)

theorem kind_of_box {Lx Ly Lz : Nat} {a : Int} {xs ys zs : List Int} {p : Int → Int → Int → Bool}
    {c : Coord} (hc : c ∈ grid3 xs ys zs p)
    (H : ∀ x y z, x ∈ xs → y ∈ ys → z ∈ zs → p x y z = true → TK Lx Ly Lz a x y z) :
    Kind Lx Ly Lz (a :: c) := by
  obtain ⟨x, y, z, rfl, hx, hy, hz, hp⟩ := (mem_grid3 _ _ _ _ _).mp hc
  exact Or.inr ⟨a, x, y, z, rfl, H x y z hx hy hz hp⟩

theorem mem_selStabs_cases {Lx Ly Lz : Nat} (hx : 2 ≤ Lx) (hy : 2 ≤ Ly) {s : Coord}
    (h : s ∈ selStabs Lx Ly Lz) : Kind Lx Ly Lz s := by
  unfold selStabs at h
  simp only [List.mem_append, List.mem_map] at h
  rcases h with h | ⟨c, hc, rfl⟩ | ⟨c, hc, rfl⟩ | ⟨c, hc, rfl⟩ | ⟨c, hc | hc, rfl⟩
  · obtain ⟨x, y, z, rfl⟩ := shape_grid3 h
    exact Or.inl ⟨x, y, z, rfl, (mem_selCubes_iff _ _ _ _ _ _).mp h⟩
  all_goals
    refine kind_of_box hc fun x y z h1 h2 h3 h4 => ?_
    rw [mem_pyRange2] at h1 h2 h3
    refine ⟨by unfold R2; omega, by unfold R0; omega, by unfold R0; omega, ?_⟩
  · exact Or.inl ⟨rfl, by omega⟩
  · exact Or.inr (Or.inl ⟨rfl, by omega⟩)
  · exact Or.inr (Or.inr (Or.inl ⟨rfl, by omega⟩))
  · exact Or.inr (Or.inr (Or.inr ⟨rfl, by omega, Or.inl (by omega)⟩))
  · exact Or.inr (Or.inr (Or.inr ⟨rfl, by omega, Or.inr ⟨beq_iff_eq.mp h4, by omega⟩⟩))

theorem TK.st {Lx Ly Lz : Nat} (hy : 2 ≤ Ly) {a x y z : Int} (h : TK Lx Ly Lz a x y z) :
    ST Lx Ly Lz a x y z := by
  obtain ⟨h1, h2, h3, h4⟩ := h
  refine ⟨?_, h1, h2, h3, ?_⟩
  · unfold IsAxis; omega
  · unfold Rough; unfold R0 at h2; omega

theorem selStabs_sub {Lx Ly Lz : Nat} (hx : 2 ≤ Lx) (hy : 2 ≤ Ly) {s : Coord}
    (h : s ∈ selStabs Lx Ly Lz) : s ∈ stabs Lx Ly Lz := by
  rcases mem_selStabs_cases hx hy h with ⟨x, y, z, rfl, hk⟩ | ⟨a, x, y, z, rfl, hk⟩
  · exact (mem_stabs_cube _ _ _ _ _ _).mpr hk
  · exact (mem_stabs_tri _ _ _ _ _ _ _).mpr (hk.st hy)

theorem disjoint_heads {a b : Int} (hab : a ≠ b) (l1 l2 : List Coord) :
    ∀ u ∈ l1.map (fun c => a :: c), ∀ v ∈ l2.map (fun c => b :: c), u ≠ v := by
  intro u hu v hv e
  simp only [List.mem_map] at hu hv
  obtain ⟨c, _, rfl⟩ := hu
  obtain ⟨d, _, rfl⟩ := hv
  simp only [List.cons.injEq] at e
  exact hab e.1

theorem nodup_selStabs (Lx Ly Lz : Nat) : (selStabs Lx Ly Lz).Nodup := by
  have n0 : (sel0a Lx Ly Lz ++ sel0b Lx Ly Lz).Nodup := by
    rw [List.nodup_append]
    refine ⟨nodup_box _ _ _ _ _ _ _, nodup_box _ _ _ _ _ _ _, ?_⟩
    intro u hu v hv e
    subst e
    obtain ⟨x, y, z, rfl⟩ := shape_grid3 hu
    unfold sel0a at hu; unfold sel0b at hv
    simp only [mem_grid3_cons, mem_pyRange2] at hu hv
    omega
  unfold selStabs
  rw [List.nodup_append]
  refine ⟨nodup_grid3 _ _ _ _ (nodup_pyRange2 _ _) (nodup_rangeM1 _) (nodup_pyRange2 _ _), ?_, ?_⟩
  · -- the four blocks of triangles are told apart by the axis
    rw [List.nodup_append]
    refine ⟨nodup_map_cons 3 (nodup_box _ _ _ _ _ _ _), ?_, ?_⟩
    · rw [List.nodup_append]
      refine ⟨nodup_map_cons 2 (nodup_box _ _ _ _ _ _ _), ?_, ?_⟩
      · rw [List.nodup_append]
        exact ⟨nodup_map_cons 1 (nodup_box _ _ _ _ _ _ _), nodup_map_cons 0 n0,
          disjoint_heads (by decide) _ _⟩
      · intro u hu v hv
        rcases List.mem_append.mp hv with hv | hv <;> exact disjoint_heads (by decide) _ _ u hu v hv
    · intro u hu v hv
      rcases List.mem_append.mp hv with hv | hv
      · exact disjoint_heads (by decide) _ _ u hu v hv
      · rcases List.mem_append.mp hv with hv | hv <;> exact disjoint_heads (by decide) _ _ u hu v hv
  · -- a cube has three coordinates, a triangle four
    intro u hu v hv e
    subst e
    obtain ⟨x, y, z, rfl⟩ := shape_grid3 hu
    simp only [List.mem_append, List.mem_map] at hv
    rcases hv with ⟨c, hc, h⟩ | ⟨c, hc, h⟩ | ⟨c, hc, h⟩ | ⟨c, hc | hc, h⟩ <;>
      (obtain ⟨p, q, r, rfl⟩ := shape_grid3 hc; cases h)

theorem rangeM1_eq_ap (b : Nat) : rangeM1 b = ap (-1) (b / 2 + 1) := by
  unfold rangeM1
  rw [pyRange2_eq_ap]
  unfold ap
  rw [List.range_succ_eq_map, List.map_cons, List.map_map]
  have : (b + 1 - 1) / 2 = b / 2 := by omega
  rw [this]
  congr 1
  apply List.map_congr_left
  intro i _
  simp only [Function.comp]
  push_cast
  omega

theorem length_selCubes (Lx Ly Lz : Nat) :
    (selCubes Lx Ly Lz).length = half (Lx * ((Ly + 1) * (Lz - 1))) true := by
  unfold selCubes
  rw [pyRange2_eq_ap, rangeM1_eq_ap, pyRange2_eq_ap]
  have e1 : (2 * Lx + 1 - 1) / 2 = Lx := by omega
  have e2 : 2 * Ly / 2 + 1 = Ly + 1 := by omega
  have e3 : (2 * Lz - 1 + 1 - 1) / 2 = Lz - 1 := by omega
  rw [e1, e2, e3]
  have := length_grid3_checker ((1 : Nat) : Int) (-1) ((1 : Nat) : Int) 1 Lx (Ly + 1) (Lz - 1)
    (by decide) (by decide)
  rw [this]
  rfl

theorem length_sel0b (Lx Ly Lz : Nat) :
    (sel0b Lx Ly Lz).length = half ((Lx - 2) * ((Ly - 1) * (Lz - 1))) false := by
  unfold sel0b
  rw [pyRange2_eq_ap, pyRange2_eq_ap, pyRange2_eq_ap]
  have e1 : (2 * Lx - 2 + 1 - 2) / 2 = Lx - 2 := by omega
  have e2 : (2 * Ly - 2 + 1 - 0) / 2 = Ly - 1 := by omega
  have e3 : (2 * Lz + 1 - 2) / 2 = Lz - 1 := by omega
  rw [e1, e2, e3]
  have := length_grid3_checker ((2 : Nat) : Int) ((0 : Nat) : Int) ((2 : Nat) : Int) 2 (Lx - 2) (Ly - 1)
    (Lz - 1) (by decide) (by decide)
  rw [this]
  rfl

theorem selStabs_count (Lx Ly Lz : Nat) (hx : 2 ≤ Lx) (hy : 2 ≤ Ly) (hz : 1 ≤ Lz) :
    (selStabs Lx Ly Lz).length + (logX Lx Ly Lz).length = (qubits Lx Ly Lz).length := by
  rw [length_logX, length_qubits]
  unfold selStabs
  simp only [List.length_append, List.length_map, length_selCubes, length_sel0b]
  unfold sel3 sel2 sel1 sel0a allTrue
  simp only [length_grid3_true, length_pyRange2]
  obtain ⟨a, rfl⟩ : ∃ a, Lx = a + 2 := ⟨Lx - 2, by omega⟩
  obtain ⟨b, rfl⟩ : ∃ b, Ly = b + 2 := ⟨Ly - 2, by omega⟩
  obtain ⟨c, rfl⟩ : ∃ c, Lz = c + 1 := ⟨Lz - 1, by omega⟩
  have e1 : (2 * (a + 2) + 1 - 2) / 2 = a + 1 := by omega
  have e2 : (2 * (b + 2) - 2 + 1 - 0) / 2 = b + 1 := by omega
  have e3 : (2 * (c + 1) + 1 - 0) / 2 = c + 1 := by omega
  have e4 : (2 * (b + 2) + 1 - 2) / 2 = b + 1 := by omega
  have e5 : (2 * (b + 2) + 1 - (2 * (b + 2) - 2)) / 2 = 1 := by omega
  have e6 : (2 * (a + 2) + 1 - (2 * (a + 2) - 2)) / 2 = 1 := by omega
  simp only [e1, e2, e3, e4, e5, e6, Nat.add_sub_cancel]
  have e8 : b + 2 - 1 = b + 1 := by omega
  have e9 : a + 2 - 1 = a + 1 := by omega
  simp only [e8, e9]
  have hK : (a + 2) * ((b + 2 + 1) * c) + a * ((b + 1) * c) = 2 * (c * (a * b + 2 * a + b + 3)) := by ring
  have h1 := half_add hK
  have hfin : c * (a * b + 2 * a + b + 3) + 2 * ((a + 1) * (b + 1) * (c + 1)) + (a + 1) * 1 * (c + 1) +
      1 * (b + 1) * (c + 1) + 1 =
      (a + 2) * (b + 2) * (c + 1) + (a + 1) * (b + 1) * (c + 1) + (a + 1) * (b + 2) * c := by ring
  rw [← hfin, ← h1]
  ring

end Panqec.RhombicPlanarCode
