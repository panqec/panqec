/-
`Served` for `Color666ToricCode` (square sizes), whose override rescales the polygon of the
configuration entry (`np.array(vertices) * a`): not a plain assignment, proved directly.
-/
import PanqecVerif.Proofs.GuiReprEdits
import PanqecVerif.Proofs.LatColor666ToricCodeCss

namespace Panqec.GuiRepr
open Panqec.Gui

/-- the entry of every listed type, in both pictures, has a `vertices` list among its `params` -/
def verticesOk (T : Tables) (cls : String) (types : List String) : Bool :=
  [false, true].all fun rot => types.all fun t =>
    match lookupFull T.cfg cls "stabilizers" (pictureName rot) t with
    | some e =>
      match getKey e.body "params" with
      | some (.obj p) => match getKey p "vertices" with | some (.arr _) => true | _ => false
      | _ => false
    | none => false

theorem verticesOk_unpack {T : Tables} {cls : String} {types : List String}
    (h : verticesOk T cls types = true) (rot : Bool) {t : String} (ht : t ∈ types) {e : REntry}
    (hl : lookupFull T.cfg cls "stabilizers" (pictureName rot) t = some e) :
    ∃ p rows, getKey e.body "params" = some (.obj p) ∧ getKey p "vertices" = some (.arr rows) := by
  unfold verticesOk at h
  have h1 := List.all_eq_true.mp (List.all_eq_true.mp h rot (by cases rot <;> simp)) t ht
  simp only [hl] at h1
  split at h1
  · next p hp =>
    split at h1
    · next rows hv => exact ⟨p, rows, hp, hv⟩
    · cases h1
  · cases h1

/-- `location = v` followed by the rescaling of `params['vertices']` -/
theorem scale_edits_ok {d : Desc} (h : Good d) {p : Dict} {rows : List JV}
    (hp : getKey d "params" = some (.obj p)) (hv : getKey p "vertices" = some (.arr rows)) (v : JV) (b : Bool) :
    ∃ d', applyEdits [.set "location" v, .scaleVertices b] d = .ok d' ∧ Good d' ∧
      getKey d' "location" = some v ∧ getKey d' "type" = getKey d "type" := by
  have hp1 : getKey (setKey d "location" v) "params" = some (.obj p) := by
    rw [getKey_setKey_ne _ _ _ _ (by decide)]; exact hp
  refine ⟨setKey (setKey d "location" v) "params" (.obj (setKey p "vertices" (.arr (scaleRows b rows)))),
    ?_, (h.setKey "location" v (by decide)).setParams _, ?_, ?_⟩
  · unfold applyEdits
    simp only [List.foldlM_cons, List.foldlM_nil, Edit.apply, bind, Except.bind, hp1, hv]
    rfl
  · rw [getKey_setKey_ne _ _ _ _ (by decide), getKey_setKey_self]
  · rw [getKey_setKey_ne _ _ _ _ (by decide), getKey_setKey_ne _ _ _ _ (by decide)]

theorem color666Toric_tables :
    classTablesOk Generated.GuiFull.tables "Color666ToricCode" color666Types = true := by decide +kernel
theorem color666Toric_vertices :
    verticesOk Generated.GuiFull.tables "Color666ToricCode" color666Types = true := by decide +kernel

theorem color666Toric_served (L : Nat) (hL : 1 ≤ L) (name : String) (hn : name = "None" ∨ name = "X3Z3") :
    Served (color666Toric L L) Generated.GuiFull.tables name where
  wf := (Color666ToricCode.css hL).wf
  qubit_ok := by
    intro rot q hq
    dsimp only [color666Toric, Color666ToricCode.lattice] at hq
    obtain ⟨a, b, rfl, _⟩ := (Color666ToricCode.mem_qubits hL).mp hq
    exact qubitRepr_ok (g := color666Toric L L) (a := "x") color666Toric_tables rot rfl rfl
  stab_ok := by
    intro rot s hs
    have hb : Lat2D.isIn (Color666ToricCode.stabs L L) s = true := List.contains_iff_mem.mpr hs
    obtain ⟨x, y, p, rfl, _⟩ := Color666ToricCode.mem_stabs.mp hs
    obtain ⟨t, ht, hty⟩ : ∃ t ∈ color666Types, (color666Toric L L).stabType [x, y, p] = some t := by
      dsimp only [color666Toric, Color666ToricCode.stabilizerType, Color666ToricCode.stabilizerTypeIn]
      refine guarded_type hb ⟨_, xzType_mem ?_ p, rfl⟩
      (repeat' split) <;> decide
    obtain ⟨_, hall⟩ := classTablesOk_unpack color666Toric_tables rot
    obtain ⟨e, hl, he⟩ := hall t ht
    obtain ⟨pp, rows, hpp, hrows⟩ := verticesOk_unpack color666Toric_vertices rot ht hl
    obtain ⟨d, hd, hg, _, htyp, hpar⟩ :=
      baseStab_ok Generated.GuiFull.tables "Color666ToricCode" rot t [x, y, p] e hl he
    obtain ⟨d', h1, h2, h3, h4⟩ := scale_edits_ok hg (hpar.trans hpp) hrows (JV.ints [x, y]) (isXType t)
    refine ⟨d', ?_, h2.complete, ?_, by rw [h4, htyp, hty]; rfl⟩
    · unfold ClassGeom.stabRepr
      rw [hty]
      dsimp only [color666Toric]
      rw [hd]; exact h1
    · unfold ClassGeom.stabLocation
      rw [h3, hty]; rfl
  deformation := by
    refine hn.imp_right fun h q hq => ?_
    show (ofDeformResult (Color666ToricCode.getDeformation name q)).isSome = true
    rw [h]
    rcases Color666ToricCode.x3z3_on_qubits hL hq with e | e <;> rw [e] <;> rfl

end Panqec.GuiRepr
