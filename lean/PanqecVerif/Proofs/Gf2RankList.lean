/-
`gf2Rank` against the elementary (xorSelect-level) rank `MaskRank` of `Gf2RankSel.lean`:
`MaskRank rows` is single-valued and its value is `gf2Rank rows`.  The proof goes through
the vector-space rank of `Gf2Rank.lean` (`maskRank`), which avoids a Steinitz exchange
argument on lists.
-/
import PanqecVerif.Proofs.Gf2Rank
import PanqecVerif.Proofs.Gf2RankSel

namespace Panqec

open Module Submodule

theorem toVecMask_xorSelect_mem (w : ℕ) : ∀ (rows : List ℕ) (sel : ℕ),
    toVecMask w (xorSelect rows sel) ∈ maskSpan w rows
  | [], _ => by rw [xorSelect_nil, toVecMask_zero]; exact zero_mem _
  | r :: rs, sel => by
    have ih := toVecMask_xorSelect_mem w rs (sel / 2)
    rw [xorSelect, toVecMask_xor, maskSpan_cons, add_comm]
    apply add_mem (mem_sup_left ih)
    by_cases hs : sel % 2 = 1
    · rw [if_pos hs]; exact mem_sup_right (mem_span_singleton_self _)
    · rw [if_neg hs, toVecMask_zero]; exact zero_mem _

theorem exists_sel_of_mem_maskSpan (w : ℕ) (rows : List ℕ) (v : Fin w → ZMod 2)
    (hv : v ∈ maskSpan w rows) :
    ∃ sel, sel < 2 ^ rows.length ∧ v = toVecMask w (xorSelect rows sel) := by
  rw [maskSpan_eq_image] at hv
  induction hv using span_induction with
  | mem x hx =>
    obtain ⟨r, hr, rfl⟩ := hx
    obtain ⟨s, hs, he⟩ := exists_sel_of_mem rows r hr
    exact ⟨s, hs, by rw [he]⟩
  | zero => exact ⟨0, Nat.two_pow_pos _, by rw [xorSelect_zero, toVecMask_zero]⟩
  | add x y _ _ hx hy =>
    obtain ⟨a, ha, rfl⟩ := hx
    obtain ⟨b, hb, rfl⟩ := hy
    exact ⟨a ^^^ b, Nat.xor_lt_two_pow ha hb, by rw [xorSelect_xor, toVecMask_xor]⟩
  | smul c x _ hx =>
    obtain ⟨a, ha, rfl⟩ := hx
    have hc : c = 0 ∨ c = 1 := by
      revert c; decide
    rcases hc with rfl | rfl
    · exact ⟨0, Nat.two_pow_pos _, by rw [zero_smul, xorSelect_zero, toVecMask_zero]⟩
    · exact ⟨a, ha, by rw [one_smul]⟩

theorem maskInSpan_iff_mem_maskSpan {w : ℕ} {rows : List ℕ} {v : ℕ}
    (hrows : ∀ r ∈ rows, r < 2 ^ w) (hv : v < 2 ^ w) :
    MaskInSpan rows v ↔ toVecMask w v ∈ maskSpan w rows := by
  constructor
  · rintro ⟨sel, rfl⟩
    exact toVecMask_xorSelect_mem w rows sel
  · intro h
    obtain ⟨sel, _, he⟩ := exists_sel_of_mem_maskSpan w rows _ h
    exact ⟨sel, (toVecMask_injective hv (xorSelect_lt w rows sel hrows) he).symm⟩

theorem maskRank_of_indep (w : ℕ) : ∀ (basis : List ℕ), (∀ b ∈ basis, b < 2 ^ w) →
    MaskIndep basis → maskRank w basis = basis.length
  | [], _, _ => by rw [maskRank_nil]; rfl
  | b :: bs, hlt, hind => by
    have hlt' : ∀ x ∈ bs, x < 2 ^ w := fun x hx => hlt x (List.mem_cons_of_mem _ hx)
    have ih := maskRank_of_indep w bs hlt' (maskIndep_tail hind)
    have hnot : toVecMask w b ∉ maskSpan w bs := by
      intro hmem
      obtain ⟨sel, hs, he⟩ := exists_sel_of_mem_maskSpan w bs _ hmem
      have := toVecMask_injective (hlt b List.mem_cons_self) (xorSelect_lt w bs sel hlt') he
      exact not_maskInSpan_of_indep_cons hind sel hs this.symm
    rw [maskRank, maskSpan_cons, finrank_sup_span_singleton hnot, List.length_cons]
    rw [maskRank] at ih
    rw [ih]

theorem maskSpan_le_of_inSpan (w : ℕ) {a b : List ℕ} (h : ∀ v ∈ a, MaskInSpan b v) :
    maskSpan w a ≤ maskSpan w b := by
  apply maskSpan_le
  intro r hr
  obtain ⟨sel, rfl⟩ := h r hr
  exact toVecMask_xorSelect_mem w b sel

/-- uniqueness: any basis of the span of the rows has `gf2Rank rows` elements -/
theorem gf2Rank_eq_of_maskRank {rows : List ℕ} {r : ℕ} (h : MaskRank rows r) :
    gf2Rank rows = r := by
  obtain ⟨basis, hlen, hind, hin, hspan⟩ := h
  obtain ⟨w, hw⟩ := exists_width rows
  have hb : ∀ b ∈ basis, b < 2 ^ w := by
    intro b hb
    obtain ⟨sel, rfl⟩ := hin b hb
    exact xorSelect_lt w rows sel hw
  have hs : maskSpan w rows = maskSpan w basis :=
    le_antisymm (maskSpan_le_of_inSpan w hspan) (maskSpan_le_of_inSpan w hin)
  rw [gf2Rank_eq_finrank w rows hw, maskRank, hs, ← maskRank, maskRank_of_indep w basis hb hind,
    hlen]

/-- existence: the span of the rows has a basis of `gf2Rank rows` elements -/
theorem maskRank_gf2Rank (rows : List ℕ) : MaskRank rows (gf2Rank rows) := by
  obtain ⟨basis, hind, hsub, hspan⟩ := exists_maskBasis rows
  have h : MaskRank rows basis.length :=
    ⟨basis, rfl, hind, fun b hb => maskInSpan_of_mem (hsub b hb), hspan⟩
  rw [gf2Rank_eq_of_maskRank h]
  exact h

/-- `gf2_rank` computes the GF(2) rank, elementary form (no width hypothesis): the
    returned number is the unique `r` for which the rows' span has a basis of `r` masks. -/
theorem gf2Rank_eq_iff_maskRank (rows : List ℕ) (r : ℕ) : gf2Rank rows = r ↔ MaskRank rows r :=
  ⟨fun h => h ▸ maskRank_gf2Rank rows, gf2Rank_eq_of_maskRank⟩

theorem maskRank_unique {rows : List ℕ} {r r' : ℕ} (h : MaskRank rows r) (h' : MaskRank rows r') :
    r = r' := by
  rw [← gf2Rank_eq_of_maskRank h, ← gf2Rank_eq_of_maskRank h']

end Panqec
