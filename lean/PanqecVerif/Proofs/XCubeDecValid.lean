/-
`XCubeMatchingDecoder.decode`: shape of the result, validity (binary, length 2n), the Z half is the
BP-OSD answer and reproduces the X-row (vertex/"face"-operator) syndrome; history independence.
Core Lean only (through `Proofs/DecodersGlue.lean`).
-/
import PanqecVerif.Proofs.XCubeDecBasic
import PanqecVerif.Proofs.DecodersGlue

namespace Panqec.XCube

open Panqec

variable {W : Type}

theorem drop_eq_zeros_of_pcOk {n m : Nat} {v : Vec} (h : PcOk n m v) :
    v.drop n = List.replicate (m - n) 0 := by
  apply List.ext_getElem
  · simp [h.1]
  · intro i h1 _
    have := h.2 (n + i) (by omega)
    simp only [List.getD] at this
    rw [List.getElem_drop, List.getElem_replicate]
    have hlt : n + i < v.length := by simp at h1; omega
    rw [List.getElem?_eq_getElem hlt] at this
    simpa using this

theorem map_mod256_mod2 (v : Vec) : (v.map (· % 256)).map (· % 2) = v.map (· % 2) := by
  rw [List.map_map]
  apply List.map_congr_left
  intro x _
  simp only [Function.comp]
  omega

theorem vadd_map_mod2_zeros : ∀ (v : Vec),
    (vadd (List.replicate v.length 0) (v.map (· % 256))).map (· % 2) = v.map (· % 2)
  | [] => by simp
  | x :: v => by
    have ih := vadd_map_mod2_zeros v
    simp only [List.length_cons, List.replicate_succ, List.map_cons, vadd_cons, Nat.zero_add, ih]
    congr 1
    omega

/-- `extract_x_syndrome` of the restored syndrome is that of the measured one -/
theorem maskSelect_restore : ∀ (mx mz : List Bool) (s : Vec),
    maskSelect mx (List.zipWith (fun (m : Bool × Bool) v => if m.1 then v else if m.2 then 0 else v)
      (mx.zip mz) s) = maskSelect (mx.take mz.length) s
  | [], _, _ => by simp [maskSelect]
  | _ :: _, [], _ => by simp [maskSelect]
  | _ :: _, _ :: _, [] => by simp [maskSelect]
  | a :: mx, b :: mz, v :: s => by
    have ih := maskSelect_restore mx mz s
    unfold maskSelect at ih ⊢
    cases a <;> simp [ih]

theorem extractX_restoreX (H : Mat) (s : Vec) :
    extractXSyndrome H (restoreX H s) = extractXSyndrome H s := by
  unfold extractXSyndrome restoreX
  rw [maskSelect_restore]
  have : (zIndices H).length = (xIndices H).length := by simp [xIndices, zIndices]
  rw [this, List.take_length]

theorem restoreX_length (H : Mat) (s : Vec) (h : s.length = H.length) :
    (restoreX H s).length = H.length := by
  unfold restoreX
  simp [xIndices, zIndices, h]

/-- the correction (or exception) `decode` returns, as a function of the immutable attributes and
    the syndrome only: the BP-OSD decoder enters through its pure function -/
def pureDecode (solve : WSolver W) (S : BpSolver) (order : List Int → List Int) (d : XCubeDec W)
    (s : Vec) : Except XErr Vec :=
  match (matchingPart solve order d s).val with
  | .error e => .error e
  | .ok pc =>
    match d.zdec.pureDecode S (restoreX d.H s) with
    | .error e => .error (.dec e)
    | .ok zc =>
      if zc.length ≠ pc.length then .error (.dec .shapeError)
      else .ok ((vadd pc (zc.map (· % 256))).map (· % 2))

variable (solve : WSolver W) (S : BpSolver) (castEv : Event Rat → Event W)
  (order : List Int → List Int) (d : XCubeDec W)

theorem decode_val (st : BpSt) (s : Vec) :
    (d.decode solve S castEv order st s).2.val =
      match (matchingPart solve order d s).val with
      | .error e => .error e
      | .ok pc =>
        match (d.zdec.decode S st (restoreX d.H s)).2.2 with
        | .error e => .error (.dec e)
        | .ok zc =>
          if zc.length ≠ pc.length then .error (.dec .shapeError)
          else .ok ((vadd pc (zc.map (· % 256))).map (· % 2)) := by
  unfold XCubeDec.decode
  simp only
  cases hm : (matchingPart solve order d s).val with
  | error e => rfl
  | ok pc =>
    simp only
    rw [Out.bind_val_ok hm]
    unfold liftBp
    cases hz : (d.zdec.decode S st (restoreX d.H s)).2.2 with
    | error e => rw [Out.bind_val_error (e := .dec e) rfl]
    | ok zc =>
      rw [Out.bind_val_ok (a := zc) rfl]
      by_cases hl : zc.length = pc.length <;> simp [hl]

theorem decode_ok_form (st : BpSt) (s c : Vec)
    (h : (d.decode solve S castEv order st s).2.val = .ok c) :
    ∃ pc zc, (matchingPart solve order d s).val = .ok pc ∧
      (d.zdec.decode S st (restoreX d.H s)).2.2 = .ok zc ∧ zc.length = pc.length ∧
      c = (vadd pc (zc.map (· % 256))).map (· % 2) := by
  rw [decode_val] at h
  split at h
  · cases h
  · rename_i pc hm
    split at h
    · cases h
    · rename_i zc hz
      split at h
      · cases h
      · rename_i hl
        exact ⟨pc, zc, hm, hz, Decidable.not_not.mp hl, by cases h; rfl⟩

theorem decode_error_cases (st : BpSt) (s : Vec) (e : XErr)
    (h : (d.decode solve S castEv order st s).2.val = .error e) :
    (matchingPart solve order d s).val = .error e ∨ ∃ x, e = .dec x := by
  rw [decode_val] at h
  split at h
  · rename_i hm; exact Or.inl (hm.trans h)
  · split at h
    · cases h; exact Or.inr ⟨_, rfl⟩
    · split at h <;> cases h
      exact Or.inr ⟨_, rfl⟩

theorem decode_matching_error (st : BpSt) (s : Vec) (e : XErr)
    (h : (matchingPart solve order d s).val = .error e) :
    (d.decode solve S castEv order st s).2.val = .error e ∧
      (d.decode solve S castEv order st s).1 = st := by
  unfold XCubeDec.decode
  simp only [h]
  exact ⟨trivial, trivial⟩

theorem decode_valid (st : BpSt) (s c : Vec)
    (h : (d.decode solve S castEv order st s).2.val = .ok c) :
    c.length = 2 * d.n ∧ ∀ x ∈ c, x < 2 := by
  obtain ⟨pc, zc, hm, _, hl, hc⟩ := decode_ok_form solve S castEv order d st s c h
  have hpc := (post_matchingPart d solve order s).post pc hm
  subst hc
  refine ⟨?_, ?_⟩
  · rw [List.length_map, vadd_length _ _ (by simp [hl]), hpc.1]
  · intro x hx
    obtain ⟨y, _, rfl⟩ := List.mem_map.mp hx
    exact Nat.mod_lt _ (by omega)

/-- **the Z half is the BP-OSD answer and reproduces the X-row syndrome**: any decoder object on a
    CSS matrix, any reachable BP-OSD state; the second conclusion rests on the ldpc contract on `Hx` -/
theorem decode_xrows (hH : d.zdec.H = d.H)
    (hcss : isCss d.H = true) (hS : BpValidOn d.n S (Hx d.H))
    (st : BpSt) (hg : d.zdec.Good st) (e : Vec) (he : e.length = 2 * d.n) (c : Vec)
    (h : (d.decode solve S castEv order st (measureSyndrome d.H e)).2.val = .ok c) :
    zPart c = S.decode (Hx d.H) true (raddv d.zdec.pz d.zdec.py)
        (extractXSyndrome d.H (measureSyndrome d.H e)) ∧
      extractXSyndrome d.H (measureSyndrome d.H c) =
        extractXSyndrome d.H (measureSyndrome d.H e) := by
  obtain ⟨pc, zc, hm, hz, hl, hc⟩ := decode_ok_form solve S castEv order d st _ c h
  have hpc := (post_matchingPart d solve order _).post pc hm
  have hclen : c.length = 2 * d.n := (decode_valid solve S castEv order d st _ c h).1
  -- the BP-OSD answer is the pure function of the restored syndrome
  rw [(d.zdec.decode_eq_pure S st _ hg).1] at hz
  have hslen : (restoreX d.H (measureSyndrome d.H e)).length = d.zdec.H.length := by
    rw [hH]; exact restoreX_length _ _ (measureSyndrome_length _ _)
  unfold BpDec_dec.pureDecode at hz
  rw [hH] at hz hslen
  simp only [hcss, if_true, hslen] at hz
  rw [extractX_restoreX] at hz
  generalize hzc' : S.decode (Hx d.H) true (raddv d.zdec.pz d.zdec.py)
    (extractXSyndrome d.H (measureSyndrome d.H e)) = zc' at hz ⊢
  generalize S.decode (Hz d.H) true _ _ = xc at hz
  have hsol : Solves d.n (Hx d.H) (extractXSyndrome d.H (measureSyndrome d.H e)) zc' := by
    rw [← hzc']; exact hS _ _ _ (feasible_x d.H hcss e d.n he)
  have hzc : zc = xc ++ zc' := by cases hz; rfl
  have hxc : xc.length = d.n := by
    have := hl
    rw [hzc, List.length_append, hsol.1, hpc.1] at this
    omega
  have hzp : zPart c = zc' := by
    have : c.length / 2 = d.n := by omega
    unfold zPart
    rw [this, hc, ← List.map_drop, vadd_drop _ _ _ (by simp [hl]), drop_eq_zeros_of_pcOk hpc,
      ← List.map_drop, hzc, List.drop_left' hxc]
    have h2 : 2 * d.n - d.n = zc'.length := by rw [hsol.1]; omega
    rw [h2, vadd_map_mod2_zeros, map_mod_two_of_binary _ hsol.2.1]
  refine ⟨hzp, ?_⟩
  rw [css_xrow_block d.H hcss c, hzp, hsol.2.2]

theorem decode_ok_of_matching_ok (hH : d.zdec.H = d.H) (hn : d.zdec.n = d.n)
    (hcss : isCss d.H = true) (hSX : BpValidOn d.n S (Hz d.H)) (hSZ : BpValidOn d.n S (Hx d.H))
    (st : BpSt) (hg : d.zdec.Good st) (e : Vec) (he : e.length = 2 * d.n) (pc : Vec)
    (hm : (matchingPart solve order d (measureSyndrome d.H e)).val = .ok pc) :
    ∃ c, (d.decode solve S castEv order st (measureSyndrome d.H e)).2.val = .ok c := by
  have hpc := (post_matchingPart d solve order _).post pc hm
  -- the restored syndrome is the syndrome of the Z part of the error
  have hrest : restoreX d.H (measureSyndrome d.H e) =
      measureSyndrome d.H (List.replicate d.n 0 ++ zPart e) := by
    unfold restoreX
    rw [measureSyndrome_eq, measureSyndrome_eq, xIndices_eq, zIndices_eq,
      List.zip_map', List.zipWith_map_left, List.zipWith_map_right, List.zipWith_self]
    apply List.map_congr_left
    intro r hr
    have hrow := (isCss_iff d.H).mp hcss r hr
    have hzl : (zPart e).length = d.n := zPart_len he
    cases hx : xFlag r
    · cases hzf : zFlag r
      · simp only [Bool.false_eq_true, if_false]
        rw [symp_of_zFlag_false r _ hzf, symp_of_zFlag_false r _ hzf,
          zPart_append _ _ (by simp [hzl])]
      · simp only [Bool.false_eq_true, if_false, if_true]
        rw [symp_of_xFlag_false r _ hx, xPart_append _ _ (by simp [hzl])]
        simp [dot_replicate_zero_right]
    · have hzf : zFlag r = false := by
        cases hzz : zFlag r
        · rfl
        · exact absurd ⟨hx, hzz⟩ hrow
      simp only [if_true]
      rw [symp_of_zFlag_false r _ hzf, symp_of_zFlag_false r _ hzf,
        zPart_append _ _ (by simp [hzl])]
  have he' : (List.replicate d.n 0 ++ zPart e).length = 2 * d.zdec.n := by
    rw [hn, List.length_append, List.length_replicate, zPart_len he]; omega
  obtain ⟨zc, hzc, hzl, _, _⟩ := bposd_css_valid S d.zdec (by rw [hH]; exact hcss)
    (by rw [hH, hn]; exact hSX) (by rw [hH, hn]; exact hSZ) _ he'
  have hz : (d.zdec.decode S st (restoreX d.H (measureSyndrome d.H e))).2.2 = .ok zc := by
    rw [(d.zdec.decode_eq_pure S st _ hg).1, hrest, ← hH]; exact hzc
  have hl : zc.length = pc.length := by rw [hzl, hpc.1, hn]
  rw [decode_val, hm]
  simp only [hz, hl, ne_eq, not_true_eq_false, if_false]
  exact ⟨_, rfl⟩

theorem decode_eq_pure (st : BpSt) (hg : d.zdec.Good st) (s : Vec) :
    (d.decode solve S castEv order st s).2.val = pureDecode solve S order d s ∧
      d.zdec.Good (d.decode solve S castEv order st s).1 := by
  refine ⟨?_, ?_⟩
  · rw [decode_val, (d.zdec.decode_eq_pure S st (restoreX d.H s) hg).1]
    rfl
  · cases hm : (matchingPart solve order d s).val with
    | error e => rw [(decode_matching_error solve S castEv order d st s e hm).2]; exact hg
    | ok pc =>
      unfold XCubeDec.decode liftBp
      simp only [hm]
      exact (d.zdec.decode_eq_pure S st (restoreX d.H s) hg).2

theorem run_good : ∀ (hist : List Vec) (st : BpSt),
    d.zdec.Good st → d.zdec.Good (d.run solve S castEv order st hist)
  | [], _, hg => hg
  | s :: rest, st, hg => by
    unfold XCubeDec.run
    exact run_good rest _ (decode_eq_pure solve S castEv order d st hg s).2

end Panqec.XCube
