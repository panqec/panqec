/-
What the all-sizes proofs for `Planar2DCode` and `RotatedPlanar2DCode` share: both classes build
every stabilizer as one letter on those of four candidate sites that pass `is_qubit`, and list one
logical pair of straight lines.  `triangular_of_supports` also serves the rank file of `Toric2DCode`.
-/
import PanqecVerif.Proofs.Lat2DRank

namespace Panqec.Lat2D

/-! ### overlaps of filtered candidate lists

The `is_qubit` filter may be dropped from an overlap count as soon as the sites the two lists have
in common are qubits, which leaves a count on bare coordinates. -/

theorem interCount_filter_left {A B : List Coord} {f : Coord → Bool}
    (h : ∀ q ∈ A, q ∈ B → f q = true) : interCount (A.filter f) B = interCount A B := by
  unfold interCount
  rw [List.countP_filter]
  apply List.countP_congr
  intro q hq
  simp only [Bool.and_eq_true, List.contains_eq_mem, decide_eq_true_eq]
  exact ⟨fun e => e.1, fun e => ⟨e, h q hq e⟩⟩

theorem interCount_filter_right {A B : List Coord} {f : Coord → Bool}
    (h : ∀ q ∈ A, q ∈ B → f q = true) : interCount A (B.filter f) = interCount A B := by
  unfold interCount
  apply List.countP_congr
  intro q hq
  simp only [List.contains_eq_mem, decide_eq_true_eq, List.mem_filter]
  exact ⟨fun e => e.1, fun e => ⟨e, h q hq e⟩⟩

theorem interCount_filter_filter {A B : List Coord} {f : Coord → Bool}
    (h : ∀ q ∈ A, q ∈ B → f q = true) :
    interCount (A.filter f) (B.filter f) = interCount A B := by
  rw [interCount_filter_left fun q _ hq => (List.mem_filter.mp hq).2, interCount_filter_right h]

theorem row_col_cross {R C : List Int} (hR : R.Nodup) {c c' : Int} (h1 : c' ∈ R) (h2 : c ∈ C) :
    interCount (R.map fun x => [x, c]) (C.map fun y => [c', y]) = 1 := by
  unfold interCount
  refine countP_eq_one _ _ [c', c] (nodup_map_pair _ (fun a b h => by simpa using h) hR)
    (List.mem_map.mpr ⟨c', h1, rfl⟩) ?_ ?_
  · simp only [List.contains_eq_mem, decide_eq_true_eq]
    exact List.mem_map.mpr ⟨c, h2, rfl⟩
  · intro a ha h
    simp only [List.contains_eq_mem, decide_eq_true_eq] at h
    obtain ⟨x, _, rfl⟩ := List.mem_map.mp ha
    obtain ⟨y, _, e⟩ := List.mem_map.mp h
    simp only [List.cons.injEq, and_true] at e
    rw [← e.1]

/-! ### stabilizers that are one letter on a key list

Every stabilizer location is a pair `[x, y]`, and its stabilizer is the letter `L x y` on the
distinct keys `S x y`. -/

def SuppKeys (l : Lattice) (S : Int → Int → List Coord) (L : Int → Int → Pauli) (P : Pauli)
    (k : List Coord) : Prop := ∃ x y, [x, y] ∈ l.stabs ∧ L x y = P ∧ k = S x y

theorem css_of_supports {l : Lattice} (S : Int → Int → List Coord) (L : Int → Int → Pauli)
    {kX kZ : List Coord} (qubits_nodup : l.qubits.Nodup) (stabs_nodup : l.stabs.Nodup)
    (disjoint : ∀ q ∈ l.qubits, q ∉ l.stabs) (shape : ∀ s ∈ l.stabs, ∃ x y, s = [x, y])
    (stab : ∀ x y, [x, y] ∈ l.stabs → l.getStab [x, y] = (S x y).map fun q => (q, L x y))
    (letters : ∀ x y, L x y = Pauli.Z ∨ L x y = Pauli.X) (supp_nodup : ∀ x y, (S x y).Nodup)
    (supp_sub : ∀ x y, ∀ q ∈ S x y, q ∈ l.qubits)
    (supp_ne : ∀ x y, [x, y] ∈ l.stabs → S x y ≠ [])
    (logX : l.logX = [kX.map fun q => (q, Pauli.X)])
    (logZ : l.logZ = [kZ.map fun q => (q, Pauli.Z)])
    (kX_nodup : kX.Nodup) (kZ_nodup : kZ.Nodup) (kX_sub : ∀ q ∈ kX, q ∈ l.qubits)
    (kZ_sub : ∀ q ∈ kZ, q ∈ l.qubits)
    (zx : ∀ x y x' y', [x, y] ∈ l.stabs → [x', y'] ∈ l.stabs → L x y = Pauli.Z →
      L x' y' = Pauli.X → interCount (S x y) (S x' y') % 2 = 0)
    (zLX : ∀ x y, [x, y] ∈ l.stabs → L x y = Pauli.Z → interCount (S x y) kX % 2 = 0)
    (xLZ : ∀ x y, [x, y] ∈ l.stabs → L x y = Pauli.X → interCount (S x y) kZ % 2 = 0)
    (cross : interCount kX kZ = 1) :
    l.Css (SuppKeys l S L .Z) (SuppKeys l S L .X) (· = kX) (· = kZ) where
  qubits_nodup := qubits_nodup
  stabs_nodup := stabs_nodup
  disjoint := disjoint
  stab s hs := by
    obtain ⟨x, y, rfl⟩ := shape s hs
    rcases letters x y with e | e
    · exact .inl ⟨_, ⟨x, y, hs, e, rfl⟩, e ▸ stab x y hs⟩
    · exact .inr ⟨_, ⟨x, y, hs, e, rfl⟩, e ▸ stab x y hs⟩
  keysZ := by rintro _ ⟨x, y, hs, _, rfl⟩; exact ⟨supp_nodup x y, supp_ne x y hs, supp_sub x y⟩
  keysX := by rintro _ ⟨x, y, hs, _, rfl⟩; exact ⟨supp_nodup x y, supp_ne x y hs, supp_sub x y⟩
  logX a ha := ⟨kX, rfl, by rwa [logX, List.mem_singleton] at ha⟩
  logZ a ha := ⟨kZ, rfl, by rwa [logZ, List.mem_singleton] at ha⟩
  keysLX := by rintro _ rfl; exact ⟨kX_nodup, kX_sub⟩
  keysLZ := by rintro _ rfl; exact ⟨kZ_nodup, kZ_sub⟩
  zx := by rintro _ _ ⟨x, y, hs, e, rfl⟩ ⟨x', y', ht, e', rfl⟩; exact zx x y x' y' hs ht e e'
  zLX := by rintro _ _ ⟨x, y, hs, e, rfl⟩ rfl; exact zLX x y hs e
  xLZ := by rintro _ _ ⟨x, y, hs, e, rfl⟩ rfl; exact xLZ x y hs e
  same_k := by rw [logX, logZ]; rfl
  pairing i j hi hj := by
    rw [logX] at hi ⊢
    rw [logZ] at hj ⊢
    obtain rfl : i = 0 := by simpa using hi
    obtain rfl : j = 0 := by simpa using hj
    rw [List.getD_cons_zero, List.getD_cons_zero, opAntiCount_const, if_pos (by decide), cross]
    rfl

/-- Triangular probes: it is enough that the probe of `[x, y]` sits on `S x y` with a letter
    anticommuting with `L x y`, and does neither on any other location of rank at least its own. -/
theorem triangular_of_supports {l : Lattice} {sel : List Coord} {probe : Coord → Coord × Pauli}
    {μ : Coord → Nat} (S : Int → Int → List Coord) (L : Int → Int → Pauli)
    (hpair : ∀ s ∈ sel, ∃ x y, s = [x, y])
    (hS : ∀ x y, [x, y] ∈ sel → l.getStab [x, y] = (S x y).map fun q => (q, L x y))
    (hq : ∀ x y, ∀ q ∈ S x y, q ∈ l.qubits)
    (hd : ∀ x y, [x, y] ∈ sel →
      Pauli.anti (probe [x, y]).2 (L x y) = true ∧ (probe [x, y]).1 ∈ S x y)
    (hl : ∀ x y x' y', [x, y] ∈ sel → [x', y'] ∈ sel → ¬ (x = x' ∧ y = y') →
      μ [x, y] ≤ μ [x', y'] →
      ¬ (Pauli.anti (probe [x, y]).2 (L x' y') = true ∧ (probe [x, y]).1 ∈ S x' y')) :
    TriangularProbes l sel probe μ :=
  .of_keys (fun | [x, y] => S x y | _ => []) (fun | [x, y] => L x y | _ => Pauli.I)
    (fun s hs => by obtain ⟨x, y, rfl⟩ := hpair s hs; exact hS x y hs)
    (fun s hs => by obtain ⟨x, y, rfl⟩ := hpair s hs; exact hq x y)
    (fun s hs => by obtain ⟨x, y, rfl⟩ := hpair s hs; exact hd x y hs)
    (fun s hs t ht hne hle => by
      obtain ⟨x, y, rfl⟩ := hpair s hs
      obtain ⟨x', y', rfl⟩ := hpair t ht
      exact hl x y x' y' hs ht (fun e => hne (by rw [e.1, e.2])) hle)

end Panqec.Lat2D
