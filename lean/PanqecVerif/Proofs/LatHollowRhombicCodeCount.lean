/-
`HollowRhombicCode`: the number of listed triangles (`n_stabilizers` = cubes + triangles), every size
with `Lx, Ly ≥ 2`.
With a hole (`Lx ≥ 3`, `Ly ≥ 4`, `Lz ≥ 4`) the listed triangles of an axis are a box minus five boxes next
to the hole (the `(Lx−3)(Ly−4)(Lz−4)` vertices in the hole, and on every face of the hole the vertices
whose triangle of that axis has a leg in the hole: all of them on one x face and one y face, those of one
colour on the two z faces); without hole they are the box.  The two colours of the z faces add up,
so the total is `4(Lx−1)(Ly−1)Lz − 4(abc + ab + ac + bc)` for a hole of `a × b × c` vertices.
-/
import PanqecVerif.Proofs.LatHollowRhombicCodeRankThinCount

namespace Panqec.HollowRhombicCode
open Panqec.Lat3Db Panqec.Rhombic
open Panqec.Planar3DCode (inE inO inE2 inO1)

theorem spec_triangles (Lx Ly Lz : Nat) : Spec (triangles Lx Ly Lz) (LT Lx Ly Lz) where
  nodup := nodup_triangles Lx Ly Lz
  mem := fun _ => mem_triangles'

section
variable {Lx Ly Lz : Nat}

/-- the four boxes of all vertices whose y leg stays inside the lattice -/
theorem spec_boxes (Lx Ly Lz : Nat) :
    Spec (bx 3 2 (Lx - 1) 0 (Ly - 1) 0 Lz tt ++ (bx 2 2 (Lx - 1) 2 (Ly - 1) 0 Lz tt ++
      (bx 1 2 (Lx - 1) 2 (Ly - 1) 0 Lz tt ++ bx 0 2 (Lx - 1) 0 (Ly - 1) 0 Lz tt)))
      fun a x y z => (a = 3 ∧ B3 Lx Ly Lz x y z) ∨ (a = 2 ∧ B2 Lx Ly Lz x y z) ∨
        (a = 1 ∧ B2 Lx Ly Lz x y z) ∨ (a = 0 ∧ B3 Lx Ly Lz x y z) :=
  (spec_bx_tt 3 2 (Lx - 1) 0 (Ly - 1) 0 Lz).append
    ((spec_bx_tt 2 2 (Lx - 1) 2 (Ly - 1) 0 Lz).append
      ((spec_bx_tt 1 2 (Lx - 1) 2 (Ly - 1) 0 Lz).append (spec_bx_tt 0 2 (Lx - 1) 0 (Ly - 1) 0 Lz)
        (by intro a x y z h1 h2; omega))
      (by intro a x y z h1 h2; omega))
    (by intro a x y z h1 h2; omega)

theorem triangles_partition (hx : 3 ≤ Lx) (hy : 4 ≤ Ly) (hz : 4 ≤ Lz) :
    (triangles Lx Ly Lz).length +
      ((L3 Lx Ly Lz).length + ((L2 Lx Ly Lz).length +
        ((nearList Lx Ly Lz 1 (2 * Lx - 2) (2 * Ly - 4) 0 2).length +
          (nearList Lx Ly Lz 0 2 2 0 2).length))) =
    (bx 3 2 (Lx - 1) 0 (Ly - 1) 0 Lz tt).length + ((bx 2 2 (Lx - 1) 2 (Ly - 1) 0 Lz tt).length +
      ((bx 1 2 (Lx - 1) 2 (Ly - 1) 0 Lz tt).length + (bx 0 2 (Lx - 1) 0 (Ly - 1) 0 Lz tt).length)) := by
  have hA := (spec_triangles Lx Ly Lz).append
    ((spec_near hx hy hz 3 2 0 (Or.inr rfl) (Or.inl rfl)).append
      ((spec_near hx hy hz 2 2 0 (Or.inl rfl) (Or.inr rfl)).append
        ((spec_near hx hy hz 1 0 2 (Or.inr rfl) (Or.inr rfl)).append
          (spec_near hx hy hz 0 0 2 (Or.inl rfl) (Or.inl rfl))
      (by intro a x y z h1 h2; omega))
      (by intro a x y z h1 h2; omega))
      (by intro a x y z h1 h2; omega))
    (by
      intro a x y z h1 h2
      rcases h2 with ⟨rfl, h2⟩ | ⟨rfl, h2⟩ | ⟨rfl, h2⟩ | ⟨rfl, h2⟩
      · exact pt3_near hx hy hz h1.2.2 h2
      · exact pt2_near hx hy hz h1.2.2 h2
      · exact lt1_disj hx hy hz x y z h1 h2
      · exact lt0_disj hx hy hz x y z h1 h2)
  have h := hA.length_eq (spec_boxes Lx Ly Lz)
    (axes_iff (fun a _ _ _ h => by have := h.elim (·.1) (by omega); omega) (fun a _ _ _ h => by omega) fun x y z => by
      simp only [Int.reduceEq, true_and, false_and, or_false, false_or, lt3_iff, lt2_iff]
      exact ⟨ax3 hx hy hz x y z, ax2 hx hy hz x y z, lt1 hx hy hz x y z, lt0 hx hy hz x y z⟩)
  simpa only [List.length_append, L3, L2] using h

theorem triangles_count_hole (hx : 3 ≤ Lx) (hy : 4 ≤ Ly) (hz : 4 ≤ Lz) :
    (triangles Lx Ly Lz).length + 4 * ((Lx - 3) * (Ly - 4) * (Lz - 4) + (Ly - 4) * (Lz - 4) +
      (Lx - 3) * (Lz - 4) + (Lx - 3) * (Ly - 4)) = 4 * ((Lx - 1) * (Ly - 1) * Lz) := by
  have h := triangles_partition hx hy hz
  have hb := length_bx3_chk_pair 4 (Lx - 3) 4 (Ly - 4) 2 1 (by decide)
  have ht := length_bx3_chk_pair 4 (Lx - 3) 4 (Ly - 4) (2 * Lz - 4) 1 (by omega)
  simp only [L3, L2, nearList, List.length_append, length_bx, length_bx3_tt, Nat.mul_one,
    Nat.one_mul] at h hb ht
  omega

theorem triangles_count_noHole (h : Lx ≤ 2 ∨ Ly ≤ 3 ∨ Lz ≤ 3) (hx : 2 ≤ Lx) (hy : 2 ≤ Ly) :
    (triangles Lx Ly Lz).length = 4 * ((Lx - 1) * (Ly - 1) * Lz) := by
  have hN : NoHole Lx Ly Lz := by
    unfold NoHole; omega
  have hl := (spec_triangles Lx Ly Lz).length_eq (spec_boxes Lx Ly Lz)
    (axes_iff (fun _ _ _ _ h => h.1) (fun a _ _ _ h => by omega) fun x y z => by
      simp only [Int.reduceEq, true_and, false_and, or_false, false_or]
      exact ⟨lt_noHole hN hx hy (by decide) (Or.inl ⟨sgnY_3, rfl⟩) x y z,
        lt_noHole hN hx hy (by decide) (Or.inr ⟨sgnY_2, rfl⟩) x y z,
        lt_noHole hN hx hy (by decide) (Or.inr ⟨sgnY_1, rfl⟩) x y z,
        lt_noHole hN hx hy (by decide) (Or.inl ⟨sgnY_0, rfl⟩) x y z⟩)
  rw [hl]
  simp only [List.length_append, length_bx_tt]
  omega

end

end Panqec.HollowRhombicCode
