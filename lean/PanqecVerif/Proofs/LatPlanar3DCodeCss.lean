/-
`Planar3DCode`, every size: distinctness / disjointness of the coordinate lists, their lengths, the
pairing of the two logical operators, and the record `Lattice.Css` (`Proofs/LatCss.lean`) filled
from the overlap lemmas; `qubit_axis` and `stabilizer_type` on the lattice.
-/
import PanqecVerif.Proofs.LatPlanar3DCodeLog

set_option linter.unusedVariables false
set_option linter.unusedSectionVars false

namespace Panqec.Planar3DCode
open Panqec.Cubic3D

theorem disjoint_grid {A : List Coord} {xs ys zs : List Int}
    (h : ∀ x y z, [x, y, z] ∈ A → [x, y, z] ∈ grid xs ys zs → False) :
    ∀ a ∈ A, ∀ b ∈ grid xs ys zs, a ≠ b := by
  intro a ha b hb hab
  subst hab
  obtain ⟨x, _, y, _, z, _, rfl⟩ := mem_grid.mp hb
  exact h x y z ha hb

theorem qubits_nodup (Lx Ly Lz : Nat) : (qubits Lx Ly Lz).Nodup := by
  unfold qubits
  have r := nodup_range2
  rw [List.nodup_append, List.nodup_append]
  refine ⟨⟨nodup_grid (r _ _) (r _ _) (r _ _), nodup_grid (r _ _) (r _ _) (r _ _), ?_⟩,
    nodup_grid (r _ _) (r _ _) (r _ _), ?_⟩ <;>
  · refine disjoint_grid fun x y z ha hb => ?_
    simp only [List.mem_append, mem_grid3, mem_rangeE, mem_rangeO, mem_rangeE2, mem_rangeO1, inE,
      inO, inE2, inO1] at ha hb
    omega

theorem stabs_nodup (Lx Ly Lz : Nat) : (stabs Lx Ly Lz).Nodup := by
  unfold stabs
  have r := nodup_range2
  rw [List.nodup_append, List.nodup_append, List.nodup_append]
  refine ⟨⟨⟨nodup_grid (r _ _) (r _ _) (r _ _), nodup_grid (r _ _) (r _ _) (r _ _), ?_⟩,
    nodup_grid (r _ _) (r _ _) (r _ _), ?_⟩, nodup_grid (r _ _) (r _ _) (r _ _), ?_⟩ <;>
  · refine disjoint_grid fun x y z ha hb => ?_
    simp only [List.mem_append, mem_grid3, mem_rangeE, mem_rangeO, mem_rangeE2, mem_rangeO1, inE,
      inO, inE2, inO1] at ha hb
    omega

theorem qubits_not_stabs {Lx Ly Lz : Nat} {q : Coord} (h : q ∈ qubits Lx Ly Lz) :
    q ∉ stabs Lx Ly Lz := by
  obtain ⟨x, y, z, rfl⟩ := shape_of_mem_qubits h
  rw [mem_qubits] at h
  rw [mem_stabs]
  simp only [inE, inO, inE2, inO1] at h ⊢; omega

theorem qubits_length (Lx Ly Lz : Nat) : (qubits Lx Ly Lz).length =
    Lx * Ly * Lz + (Lx - 1) * (Ly - 1) * Lz + (Lx - 1) * Ly * (Lz - 1) := by
  simp only [qubits, List.length_append, length_grid, length_rangeE, length_rangeO, length_rangeE2,
    length_rangeO1]

theorem stabs_length (Lx Ly Lz : Nat) : (stabs Lx Ly Lz).length =
    (Lx - 1) * Ly * Lz + Lx * (Ly - 1) * Lz + (Lx - 1) * (Ly - 1) * (Lz - 1) +
      Lx * Ly * (Lz - 1) := by
  simp only [stabs, List.length_append, length_grid, length_rangeE, length_rangeO, length_rangeE2,
    length_rangeO1]

def IsVertexKeys (Lx Ly Lz : Nat) (k : List Coord) : Prop :=
  ∃ x y z, isVertex Lx Ly Lz x y z ∧ k = vertexKeys Lx Ly Lz x y z

def IsFaceKeys (Lx Ly Lz : Nat) (k : List Coord) : Prop :=
  ∃ ax u v w, isFace Lx Ly Lz ax u v w ∧ k = faceKeys Lx Ly Lz ax u v w

section
variable {Lx Ly Lz : Nat} (hLx : 1 ≤ Lx) (hLy : 1 ≤ Ly) (hLz : 1 ≤ Lz)
include hLx hLy hLz

theorem pairing (i j : Nat) (hi : i < 1) (hj : j < 1) :
    opAntiCount ((logX Lx Ly Lz).getD i []) ((logZ Lx Ly Lz).getD j []) % 2 =
      if i = j then 1 else 0 := by
  rw [logX_eq, logZ_eq]
  have hanti : Pauli.anti Pauli.X Pauli.Z = true := rfl
  obtain rfl : i = 0 := by omega
  obtain rfl : j = 0 := by omega
  simp [opAntiCount_uop, hanti, ov_lxK_lzK hLx hLy hLz]


/-- vertex operators carry Z, face operators X (both truncated at the boundaries), the logical X is
    the line `y = z = 0`, the logical Z the plane `x = 1` -/
theorem css : (lattice Lx Ly Lz).Css (IsVertexKeys Lx Ly Lz) (IsFaceKeys Lx Ly Lz) (· = lxK Lx)
    (· = lzK Ly Lz) := by
  constructor <;> try dsimp only [lattice]
  case qubits_nodup => exact qubits_nodup Lx Ly Lz
  case stabs_nodup => exact stabs_nodup Lx Ly Lz
  case disjoint => exact fun _ => qubits_not_stabs
  case stab =>
    intro s hs
    rcases stab_cases hs with ⟨x, y, z, rfl, h⟩ | ⟨ax, u, v, w, rfl, h⟩
    · exact .inl ⟨_, ⟨x, y, z, h, rfl⟩, getStab_vertex h⟩
    · exact .inr ⟨_, ⟨ax, u, v, w, h, rfl⟩, getStab_face h⟩
  case keysZ =>
    rintro _ ⟨x, y, z, h, rfl⟩
    exact ⟨vertexKeys_nodup .., vertexKeys_ne_nil h, vertexKeys_sub _ _ _ _ _ _⟩
  case keysX =>
    rintro _ ⟨ax, u, v, w, h, rfl⟩
    exact ⟨faceKeys_nodup .., faceKeys_ne_nil h, faceKeys_sub _ _ _ _ _ _ _⟩
  case logX => rw [logX_eq]; exact fun a ha => ⟨_, rfl, List.mem_singleton.mp ha⟩
  case logZ => rw [logZ_eq]; exact fun a ha => ⟨_, rfl, List.mem_singleton.mp ha⟩
  case keysLX =>
    rintro _ rfl
    exact ⟨lxK_nodup _, lxK_sub hLy hLz⟩
  case keysLZ =>
    rintro _ rfl
    exact ⟨lzK_nodup _ _, lzK_sub hLx⟩
  case zx =>
    rintro _ _ ⟨x, y, z, hv, rfl⟩ ⟨ax, u, v, w, h, rfl⟩
    rw [overlap_eq_ov]
    exact ov_vertex_face hv h
  case zLX =>
    rintro _ _ ⟨x, y, z, hv, rfl⟩ rfl
    rw [overlap_eq_ov]
    exact ov_vertex_lxK hLy hLz hv
  case xLZ =>
    rintro _ _ ⟨ax, u, v, w, h, rfl⟩ rfl
    rw [overlap_eq_ov]
    exact ov_face_lzK hLx h
  case same_k => rfl
  case pairing => exact pairing hLx hLy hLz

end

theorem qubitAxis_of_mem_qubits {Lx Ly Lz : Nat} {x y z : Int} (h : [x, y, z] ∈ qubits Lx Ly Lz) :
    qubitAxis [x, y, z] =
      some (if x % 2 = 1 then Axis.x else if y % 2 = 1 then Axis.y else Axis.z) := by
  rw [mem_qubits] at h
  rcases h with ⟨hx, hy, hz⟩ | ⟨hx, hy, hz⟩ | ⟨hx, hy, hz⟩
  exacts [Cubic3D.qubitAxis_of_parity (.inl ⟨hx.2.2, hy.2.2, hz.2.2⟩),
    Cubic3D.qubitAxis_of_parity (.inr (.inl ⟨hx.2.2, hy.2.2, hz.2.2⟩)),
    Cubic3D.qubitAxis_of_parity (.inr (.inr ⟨hx.2.2, hy.2.2, hz.2.2⟩))]

/-- `stabilizer_type` and the letter / weight bound of `get_stabilizer` for the four kinds -/
theorem stab_shape {Lx Ly Lz : Nat} {s : Coord} (hs : s ∈ stabs Lx Ly Lz) :
    (stabilizerType Lx Ly Lz s = some StabType.vertex ∧
      ∃ ks, getStab Lx Ly Lz s = uop ks Pauli.Z ∧ ks.length ≤ 6) ∨
    (stabilizerType Lx Ly Lz s = some StabType.face ∧
      ∃ ks, getStab Lx Ly Lz s = uop ks Pauli.X ∧ ks.length ≤ 4) := by
  rcases stab_cases hs with ⟨x, y, z, rfl, h⟩ | ⟨ax, u, v, w, rfl, h⟩
  · left
    refine ⟨?_, _, getStab_vertex h, List.length_filter_le _ _⟩
    simp [stabilizerType, hs, typeOf, h.1.2.2, h.2.1.2.2]
  · right
    refine ⟨?_, _, getStab_face h, List.length_filter_le _ (faceCands ax u v w)⟩
    obtain ⟨hu, hv, hw⟩ := h
    cases ax <;> simp only [ins] at hs ⊢ <;> simp only [rE, rO, Axis.fst, Axis.snd] at hu hv hw <;>
      simp [stabilizerType, hs, typeOf, hu.2.2, hv.2.2, hw.2.2]

theorem lattice_qubits (Lx Ly Lz : Nat) : (lattice Lx Ly Lz).qubits = qubits Lx Ly Lz := by
  simp only [lattice]
theorem lattice_stabs (Lx Ly Lz : Nat) : (lattice Lx Ly Lz).stabs = stabs Lx Ly Lz := by
  simp only [lattice]
theorem lattice_getStab (Lx Ly Lz : Nat) : (lattice Lx Ly Lz).getStab = getStab Lx Ly Lz := by
  simp only [lattice]
theorem lattice_logX (Lx Ly Lz : Nat) : (lattice Lx Ly Lz).logX = logX Lx Ly Lz := by
  simp only [lattice]
theorem lattice_logZ (Lx Ly Lz : Nat) : (lattice Lx Ly Lz).logZ = logZ Lx Ly Lz := by
  simp only [lattice]

end Panqec.Planar3DCode
