/-
Toric2DCode, all sizes `Lx, Ly ≥ 2`: the pairing table, the record `Lattice.Css`
(`Proofs/LatCss.lean`) with `Lattice.WF` and `Lattice.CommPair` from it, the size formulas and the
deformation rule.
-/
import PanqecVerif.Proofs.LatToric2DCodeLog

namespace Panqec.Toric2DCode
open Panqec.Lat2D

def IsVertexKeys (Lx Ly : Nat) (k : List Coord) : Prop := ∃ x y, IsV Lx Ly x y ∧ k = nbrs Lx Ly x y
def IsFaceKeys (Lx Ly : Nat) (k : List Coord) : Prop := ∃ x y, IsF Lx Ly x y ∧ k = nbrs Lx Ly x y

theorem pairing {Lx Ly : Nat} (hx : 1 ≤ Lx) (hy : 1 ≤ Ly) :
    ∀ i j, i < (lattice Lx Ly).logX.length → j < (lattice Lx Ly).logZ.length →
      opAntiCount ((lattice Lx Ly).logX.getD i []) ((lattice Lx Ly).logZ.getD j []) % 2
        = if i = j then 1 else 0 := by
  intro i j hi hj
  change i < (logX Lx Ly).length at hi
  change j < (logZ Lx Ly).length at hj
  show opAntiCount ((logX Lx Ly).getD i []) ((logZ Lx Ly).getD j []) % 2 = _
  rw [logX_eq] at hi ⊢
  rw [logZ_eq] at hj ⊢
  simp only [List.length_cons, List.length_nil] at hi hj
  have hXZ : Pauli.anti Pauli.X Pauli.Z = true := by decide
  obtain rfl | rfl : i = 0 ∨ i = 1 := by omega
  all_goals obtain rfl | rfl : j = 0 ∨ j = 1 := by omega
  all_goals simp only [List.getD_cons_zero, List.getD_cons_succ, opAntiCount_const, hXZ, if_true]
  · rw [kX0_eq, kZ0_eq, row_col_cross ((mem_row (by decide)).mpr (by omega))
      ((mem_col (by decide)).mpr (by omega))]
  · rw [kX0_eq, kZ1_eq, rows_apart (by decide)]; rfl
  · rw [kX1_eq, kZ0_eq, cols_apart (by decide)]; rfl
  · rw [kX1_eq, kZ1_eq, interCount_comm _ _ (nodup_colKeys ..) (nodup_rowKeys ..),
      row_col_cross ((mem_row (by decide)).mpr (by omega)) ((mem_col (by decide)).mpr (by omega))]

theorem colKeys_qubits {Lx Ly : Nat} (p : Nat) (hp : p ≤ 1) (i : Nat) (hi : i < Lx) :
    ∀ q ∈ colKeys (2 * i + 1 - p) p Ly, q ∈ (lattice Lx Ly).qubits := by
  intro q hq
  obtain ⟨j, hj, rfl⟩ := mem_colKeys.mp hq
  show _ ∈ qubits Lx Ly
  rw [mem_qubits']; unfold IsQ InBox; omega

theorem rowKeys_qubits {Lx Ly : Nat} (p : Nat) (hp : p ≤ 1) (i : Nat) (hi : i < Ly) :
    ∀ q ∈ rowKeys (2 * i + 1 - p) p Lx, q ∈ (lattice Lx Ly).qubits := by
  intro q hq
  obtain ⟨j, hj, rfl⟩ := mem_rowKeys.mp hq
  show _ ∈ qubits Lx Ly
  rw [mem_qubits']; unfold IsQ InBox; omega

/-- vertex operators carry Z, face operators X on the four cyclic neighbours; the logical X are the
    row `y = 0` and the column `x = 0` of edges, the logical Z the column `x = 1` and the row `y = 1` -/
theorem css {Lx Ly : Nat} (hx : 2 ≤ Lx) (hy : 2 ≤ Ly) :
    (lattice Lx Ly).Css (IsVertexKeys Lx Ly) (IsFaceKeys Lx Ly) (fun k => k = kX0 Lx ∨ k = kX1 Ly)
      (fun k => k = kZ0 Ly ∨ k = kZ1 Lx) where
  qubits_nodup := nodup_qubits Lx Ly
  stabs_nodup := nodup_stabs Lx Ly
  disjoint := qubits_stabs_disjoint Lx Ly
  stab s hs := by
    obtain ⟨x, y, rfl, h | h⟩ := mem_stabs.mp hs
    · exact .inl ⟨_, ⟨x, y, h, rfl⟩, (getStab_eq hx hy hs).trans (by rw [letter, if_pos h.2.1])⟩
    · exact .inr ⟨_, ⟨x, y, h, rfl⟩,
        (getStab_eq hx hy hs).trans (by rw [letter, if_neg (by rw [h.2.1]; decide)])⟩
  keysZ := by
    rintro _ ⟨x, y, h, rfl⟩
    exact ⟨nodup_nbrs hx hy h.1, List.cons_ne_nil _ _, fun q hq => isIn_iff.mp (nbrs_isQ (.inl h) q hq)⟩
  keysX := by
    rintro _ ⟨x, y, h, rfl⟩
    exact ⟨nodup_nbrs hx hy h.1, List.cons_ne_nil _ _, fun q hq => isIn_iff.mp (nbrs_isQ (.inr h) q hq)⟩
  logX a ha := by
    change a ∈ logX Lx Ly at ha
    rw [logX_eq] at ha
    simp only [List.mem_cons, List.not_mem_nil, or_false] at ha
    exact ha.elim (fun e => ⟨_, .inl rfl, e⟩) fun e => ⟨_, .inr rfl, e⟩
  logZ a ha := by
    change a ∈ logZ Lx Ly at ha
    rw [logZ_eq] at ha
    simp only [List.mem_cons, List.not_mem_nil, or_false] at ha
    exact ha.elim (fun e => ⟨_, .inl rfl, e⟩) fun e => ⟨_, .inr rfl, e⟩
  keysLX := by
    rintro _ (rfl | rfl)
    · exact ⟨nodup_kX0 Lx, kX0_eq Lx ▸ rowKeys_qubits 1 (by decide) 0 (by omega)⟩
    · exact ⟨nodup_kX1 Ly, kX1_eq Ly ▸ colKeys_qubits 1 (by decide) 0 (by omega)⟩
  keysLZ := by
    rintro _ (rfl | rfl)
    · exact ⟨nodup_kZ0 Ly, kZ0_eq Ly ▸ colKeys_qubits 0 (by decide) 0 (by omega)⟩
    · exact ⟨nodup_kZ1 Lx, kZ1_eq Lx ▸ rowKeys_qubits 0 (by decide) 0 (by omega)⟩
  zx := by
    rintro _ _ ⟨x, y, ha, rfl⟩ ⟨x', y', hb, rfl⟩
    exact vertex_face_even hx hy ha hb
  zLX := by
    rintro _ _ ⟨x, y, h, rfl⟩ (rfl | rfl)
    · rw [kX0_eq]; exact nbrs_row (by decide) h.1 (by rw [h.2.1]; decide)
    · rw [kX1_eq]; exact nbrs_col (by decide) h.1 (by rw [h.2.2]; decide)
  xLZ := by
    rintro _ _ ⟨x, y, h, rfl⟩ (rfl | rfl)
    · rw [kZ0_eq]; exact nbrs_col (by decide) h.1 (by rw [h.2.2]; decide)
    · rw [kZ1_eq]; exact nbrs_row (by decide) h.1 (by rw [h.2.1]; decide)
  same_k := rfl
  pairing := pairing (by omega) (by omega)

theorem commPair {Lx Ly : Nat} (hx : 2 ≤ Lx) (hy : 2 ≤ Ly) : (lattice Lx Ly).CommPair :=
  (css hx hy).commPair

theorem wf {Lx Ly : Nat} (hx : 2 ≤ Lx) (hy : 2 ≤ Ly) : (lattice Lx Ly).WF :=
  (css hx hy).wf

theorem length_qubits (Lx Ly : Nat) : (qubits Lx Ly).length = 2 * Lx * Ly := by
  unfold qubits
  rw [List.length_append, length_cells (by decide) (by decide),
    length_cells (by decide) (by decide), Nat.mul_assoc, Nat.two_mul]

theorem length_stabs (Lx Ly : Nat) : (stabs Lx Ly).length = 2 * Lx * Ly := by
  unfold stabs
  rw [List.length_append, length_cells (by decide) (by decide),
    length_cells (by decide) (by decide), Nat.mul_assoc, Nat.two_mul]

theorem qubitAxis_of_mem {Lx Ly : Nat} {q : Coord} (h : q ∈ qubits Lx Ly) :
    ∃ x y, q = [x, y] ∧
      ((x % 2 = 1 ∧ y % 2 = 0 ∧ qubitAxis q = some "x") ∨
       (x % 2 = 0 ∧ y % 2 = 1 ∧ qubitAxis q = some "y")) := by
  obtain ⟨x, y, rfl, hq⟩ := mem_qubits.mp h
  refine ⟨x, y, rfl, ?_⟩
  unfold IsQ at hq
  unfold qubitAxis
  rcases hq.2 with ⟨h1, h2⟩ | ⟨h1, h2⟩
  · left; simp [h1, h2]
  · right; simp [h1, h2]

end Panqec.Toric2DCode
