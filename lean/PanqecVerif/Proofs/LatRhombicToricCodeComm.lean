/-
RhombicToricCode lattice model: a cube operator and a triangle operator share an even number of
qubits, also across the periodic boundary (sizes even `≥ 2`: the colouring `(x+y+z) % 4` is
consistent across the wrap because the periods `2L` are multiples of 4); hence all pairs of
stabilizer generators commute.
-/
import PanqecVerif.Proofs.LatRhombicToricCodeStab
open Panqec Panqec.Lat3Db Panqec.Rhombic
open Panqec.XCubeCode (up dn up_spec dn_spec)
namespace Panqec.RhombicToricCode

/-- `v` is one of the two cyclic neighbours of the odd coordinate `c` -/
def A (P : Nat) (c v : Int) : Prop := v = up P c ∨ v = c - 1
instance (P : Nat) (c v : Int) : Decidable (A P c v) := by unfold A; infer_instance

theorem mem_cubeLocs (Lx Ly Lz : Nat) (x y z p q r : Int) :
    [p, q, r] ∈ cubeLocs Lx Ly Lz x y z ↔
      (r = z ∧ A (2*Lx) x p ∧ A (2*Ly) y q) ∨ (q = y ∧ A (2*Lx) x p ∧ A (2*Lz) z r) ∨
      (p = x ∧ A (2*Ly) y q ∧ A (2*Lz) z r) := mem_cube6

/-- the cyclic offset from the even coordinate `v` to the odd coordinate `c`: `±1` for the two
    neighbours, `0` otherwise -/
def off (P : Nat) (v c : Int) : Int := if v + 1 = c then 1 else if dn P v = c then -1 else 0

theorem A_iff_off (P : Nat) (c v : Int) (hP : P % 4 = 0) (hc : R1 P c) (hv : R0 P v) :
    A P c v ↔ U (off P v c) := by
  unfold A off U; unfold R1 at hc; unfold R0 at hv
  have := up_spec P c; have := dn_spec P v
  split
  · simp; omega
  · split
    · simp; omega
    · simp; omega

theorem step_eq_iff_off (P : Nat) (c v s : Int) (hP4 : 4 ≤ P) (hv : R0 P v) (hs : U s) :
    step P v s = c ↔ off P v c = s := by
  unfold step off; unfold R0 at hv
  have := dn_spec P v
  rcases hs with rfl | rfl
  · simp only [if_true]
    split
    · simp [*]
    · split <;> simp [*]
  · have h1 : ¬ ((-1 : Int) = 1) := by decide
    simp only [h1, if_false]
    split
    · constructor
      · intro h; omega
      · intro h; omega
    · split <;> simp [*]

theorem off_mod4 (P : Nat) (c v : Int) (hP : P % 4 = 0) (hv : R0 P v) (h : U (off P v c)) :
    c % 4 = (v + off P v c) % 4 := by
  unfold off at *; unfold U at h; unfold R0 at hv
  have := dn_spec P v
  split
  · omega
  · split
    · omega
    · rename_i h1 h2; simp [h1, h2] at h

section legs
variable {Lx Ly Lz : Nat} {vx vy vz cx cy cz sx sy sz : Int}
  (hLx : 2 ≤ Lx) (hLy : 2 ≤ Ly) (hLz : 2 ≤ Lz) (hex : Lx % 2 = 0) (hey : Ly % 2 = 0) (hez : Lz % 2 = 0)
  (hvx : R0 (2*Lx) vx) (hvy : R0 (2*Ly) vy) (hvz : R0 (2*Lz) vz)
  (hcx : R1 (2*Lx) cx) (hcy : R1 (2*Ly) cy) (hcz : R1 (2*Lz) cz)
include hLx hLy hLz hex hey hez hvx hvy hvz hcx hcy hcz

omit hcx hLy hLz in
theorem legX_iff (hsx : U sx) :
    [step (2*Lx) vx sx, vy, vz] ∈ cubeKeys Lx Ly Lz cx cy cz ↔
      (off (2*Lx) vx cx = sx ∧ U (off (2*Ly) vy cy) ∧ U (off (2*Lz) vz cz)) := by
  have hq := step_spec (2*Lx) vx sx (by omega) hvx hsx
  have e1 := step_eq_iff_off (2*Lx) cx vx sx (by omega) hvx hsx
  have e2 := A_iff_off (2*Ly) cy vy (by omega) hcy hvy
  have e3 := A_iff_off (2*Lz) cz vz (by omega) hcz hvz
  unfold cubeKeys
  rw [List.mem_filter, mem_cubeLocs, isQubit_iff, e2, e3, e1]
  have n2 : ¬ vy = cy := by unfold R0 at hvy; unfold R1 at hcy; omega
  have n3 : ¬ vz = cz := by unfold R0 at hvz; unfold R1 at hcz; omega
  have hQ : QX Lx Ly Lz (step (2*Lx) vx sx) vy vz := ⟨hq, hvy, hvz⟩
  simp only [n2, n3, false_and, false_or, hQ, true_or, and_true]

omit hcy hLx hLz in
theorem legY_iff (hsy : U sy) :
    [vx, step (2*Ly) vy sy, vz] ∈ cubeKeys Lx Ly Lz cx cy cz ↔
      (off (2*Ly) vy cy = sy ∧ U (off (2*Lx) vx cx) ∧ U (off (2*Lz) vz cz)) := by
  have hq := step_spec (2*Ly) vy sy (by omega) hvy hsy
  have e1 := step_eq_iff_off (2*Ly) cy vy sy (by omega) hvy hsy
  have e2 := A_iff_off (2*Lx) cx vx (by omega) hcx hvx
  have e3 := A_iff_off (2*Lz) cz vz (by omega) hcz hvz
  unfold cubeKeys
  rw [List.mem_filter, mem_cubeLocs, isQubit_iff, e2, e3, e1]
  have n1 : ¬ vx = cx := by unfold R0 at hvx; unfold R1 at hcx; omega
  have n3 : ¬ vz = cz := by unfold R0 at hvz; unfold R1 at hcz; omega
  have hQ : QY Lx Ly Lz vx (step (2*Ly) vy sy) vz := ⟨hvx, hq, hvz⟩
  simp only [n1, n3, false_and, false_or, or_false, hQ, true_or, or_true, and_true]

omit hcz hLx hLy in
theorem legZ_iff (hsz : U sz) :
    [vx, vy, step (2*Lz) vz sz] ∈ cubeKeys Lx Ly Lz cx cy cz ↔
      (off (2*Lz) vz cz = sz ∧ U (off (2*Lx) vx cx) ∧ U (off (2*Ly) vy cy)) := by
  have hq := step_spec (2*Lz) vz sz (by omega) hvz hsz
  have e1 := step_eq_iff_off (2*Lz) cz vz sz (by omega) hvz hsz
  have e2 := A_iff_off (2*Lx) cx vx (by omega) hcx hvx
  have e3 := A_iff_off (2*Ly) cy vy (by omega) hcy hvy
  unfold cubeKeys
  rw [List.mem_filter, mem_cubeLocs, isQubit_iff, e2, e3, e1]
  have n1 : ¬ vx = cx := by unfold R0 at hvx; unfold R1 at hcx; omega
  have n2 : ¬ vy = cy := by unfold R0 at hvy; unfold R1 at hcy; omega
  have hQ : QZ Lx Ly Lz vx vy (step (2*Lz) vz sz) := ⟨hvx, hvy, hq⟩
  simp only [n1, n2, false_and, or_false, hQ, or_true, and_true]

end legs

theorem tri_cube_even (Lx Ly Lz : Nat) (hLx : 2 ≤ Lx) (hLy : 2 ≤ Ly) (hLz : 2 ≤ Lz)
    (hex : Lx % 2 = 0) (hey : Ly % 2 = 0) (hez : Lz % 2 = 0) (a vx vy vz cx cy cz : Int)
    (hv : ST Lx Ly Lz a vx vy vz) (hc : SC Lx Ly Lz cx cy cz) :
    ovl (triKeys Lx Ly Lz a vx vy vz) (cubeKeys Lx Ly Lz cx cy cz) % 2 = 0 := by
  obtain ⟨ha, hvx, hvy, hvz⟩ := hv
  obtain ⟨hcx, hcy, hcz, hp⟩ := hc
  have hsx : U (sgnX a) := sgnX_pm a
  have hsy : U (sgnY a) := sgnY_pm a
  have hsz : U (sgnZ a vx vy vz) := sgnZ_pm a vx vy vz
  have hpar := sgn_parity a vx vy vz ha hvx.1 hvy.1 hvz.1
  unfold triKeys
  have : cubeKeys Lx Ly Lz cx cy cz = (cubeLocs Lx Ly Lz cx cy cz).filter (isQubit Lx Ly Lz) := rfl
  rw [this, ovl_filter_filter, ← this]
  unfold triLocs
  simp only [ovl_cons_ind, ovl_nil]
  generalize sgnX a = sx at *
  generalize sgnY a = sy at *
  generalize sgnZ a vx vy vz = sz at *
  rw [ind_congr (legX_iff hLx hex hey hez hvx hvy hvz hcy hcz hsx),
    ind_congr (legY_iff hLy hex hey hez hvx hvy hvz hcx hcz hsy),
    ind_congr (legZ_iff hLz hex hey hez hvx hvy hvz hcx hcy hsz)]
  have m1 := off_mod4 (2*Lx) cx vx (by omega) hvx
  have m2 := off_mod4 (2*Ly) cy vy (by omega) hvy
  have m3 := off_mod4 (2*Lz) cz vz (by omega) hvz
  generalize off (2*Lx) vx cx = dx at *
  generalize off (2*Ly) vy cy = dy at *
  generalize off (2*Lz) vz cz = dz at *
  have := legs_even dx dy dz sx sy sz hsx hsy hsz (fun h1 h2 h3 => by
    have := m1 h1; have := m2 h2; have := m3 h3; omega)
  omega

def IsCubeKeys (Lx Ly Lz : Nat) (k : List Coord) : Prop :=
  ∃ x y z, SC Lx Ly Lz x y z ∧ k = cubeKeys Lx Ly Lz x y z

def IsTriKeys (Lx Ly Lz : Nat) (k : List Coord) : Prop :=
  ∃ a x y z, ST Lx Ly Lz a x y z ∧ k = triKeys Lx Ly Lz a x y z

section
variable {Lx Ly Lz : Nat} (hLx : 2 ≤ Lx) (hLy : 2 ≤ Ly) (hLz : 2 ≤ Lz)
include hLx hLy hLz

theorem IsCubeKeys.nodup {k : List Coord} (h : IsCubeKeys Lx Ly Lz k) : k.Nodup := by
  obtain ⟨x, y, z, hc, rfl⟩ := h; exact nodup_cubeKeys Lx Ly Lz x y z hLx hLy hLz hc

theorem getStab_cases (s : Coord) (hs : s ∈ stabs Lx Ly Lz) :
    (∃ k, IsCubeKeys Lx Ly Lz k ∧ getStab Lx Ly Lz s = constOp k Pauli.X) ∨
    (∃ k, IsTriKeys Lx Ly Lz k ∧ getStab Lx Ly Lz s = constOp k Pauli.Z) := by
  rcases mem_stabs_shape Lx Ly Lz s hs with ⟨x, y, z, rfl⟩ | ⟨a, x, y, z, rfl⟩
  · have h := (mem_stabs_cube Lx Ly Lz x y z).mp hs
    exact Or.inl ⟨_, ⟨x, y, z, h, rfl⟩, getStab_cube Lx Ly Lz x y z hLx hLy hLz h⟩
  · have h := (mem_stabs_tri Lx Ly Lz a x y z).mp hs
    exact Or.inr ⟨_, ⟨a, x, y, z, h, rfl⟩, getStab_tri Lx Ly Lz a x y z h⟩

end

theorem IsTriKeys.nodup {Lx Ly Lz : Nat} {k : List Coord} (h : IsTriKeys Lx Ly Lz k) : k.Nodup := by
  obtain ⟨a, x, y, z, hv, rfl⟩ := h; exact nodup_triKeys Lx Ly Lz a x y z hv

theorem stab_comm (Lx Ly Lz : Nat) (hLx : 2 ≤ Lx) (hLy : 2 ≤ Ly) (hLz : 2 ≤ Lz)
    (hex : Lx % 2 = 0) (hey : Ly % 2 = 0) (hez : Lz % 2 = 0) (s t : Coord)
    (hs : s ∈ stabs Lx Ly Lz) (ht : t ∈ stabs Lx Ly Lz) :
    opCommute (getStab Lx Ly Lz s) (getStab Lx Ly Lz t) = true := by
  have key : ∀ kt kc, IsTriKeys Lx Ly Lz kt → IsCubeKeys Lx Ly Lz kc → ovl kt kc % 2 = 0 := by
    rintro kt kc ⟨a, x, y, z, hv, rfl⟩ ⟨cx, cy, cz, hc, rfl⟩
    exact tri_cube_even Lx Ly Lz hLx hLy hLz hex hey hez a x y z cx cy cz hv hc
  rcases getStab_cases hLx hLy hLz s hs with ⟨k, hk, e⟩ | ⟨k, hk, e⟩ <;>
  rcases getStab_cases hLx hLy hLz t ht with ⟨k', hk', e'⟩ | ⟨k', hk', e'⟩ <;> rw [e, e']
  · exact opCommute_constOp_same _ _ _
  · exact opCommute_of_ovl_even' _ _ _ _ (hk.nodup hLx hLy hLz) hk'.nodup (key _ _ hk' hk)
  · exact opCommute_of_ovl_even _ _ _ _ (key _ _ hk hk')
  · exact opCommute_constOp_same _ _ _

end Panqec.RhombicToricCode
