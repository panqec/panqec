/-
Geometry of C10 shared by the two rotated 3-D codes, and the coordinate lists of
RotatedPlanar3DCode (`get_qubit_coordinates`, `get_stabilizer_coordinates` with their
`(x + y) % 4` sub-lattice conditions).  Both Python tables (`RotatedSweepDecoder3D.flip_edge`, the
`delta` lists of `get_stabilizer`) branch on `(x % 4, y % 4, z % 2)` only, and each lists the unit
steps, diagonal in the layer or vertical, to locations of the other kind (`rotTables`, the
instance of `NbrTables`).
-/
import PanqecVerif.Proofs.SweepTables

namespace Panqec.Sweep

private theorem int_beq_false {a b : Int} (h : a ≠ b) : (a == b) = false := by
  simpa using h

/-- Python `range(1, b, 2)`: the odd numbers from 1 -/
theorem mem_range2_odd (b x : Int) : x ∈ range2 1 b ↔ 1 ≤ x ∧ x < b ∧ x % 2 = 1 := by
  rw [mem_range2]
  omega

/-- Python `range(a, b, 2)` with even `a`: the even numbers from `a` -/
theorem mem_range2_even (a b x : Int) (ha : a % 2 = 0) :
    x ∈ range2 a b ↔ a ≤ x ∧ x < b ∧ x % 2 = 0 := by
  rw [mem_range2]
  omega

theorem mem_rotPlanarQubits (Lx Ly Lz : Nat) (x y z : Int) :
    (x, y, z) ∈ rotPlanarQubits Lx Ly Lz ↔
      (1 ≤ x ∧ x < 2 * (Lx : Int) ∧ x % 2 = 1 ∧ 1 ≤ y ∧ y < 2 * (Ly : Int) ∧ y % 2 = 1 ∧
        1 ≤ z ∧ z < 2 * (Lz : Int) ∧ z % 2 = 1) ∨
      (2 ≤ x ∧ x < 2 * (Lx : Int) ∧ x % 2 = 0 ∧ 0 ≤ y ∧ y < 2 * (Ly : Int) + 1 ∧ y % 2 = 0 ∧
        2 ≤ z ∧ z < 2 * (Lz : Int) ∧ z % 2 = 0 ∧ (x + y) % 4 = 2) := by
  simp only [rotPlanarQubits, List.mem_append, List.mem_filter, mem_prod3, mem_range2_odd,
    mem_range2_even 0 _ _ rfl, mem_range2_even 2 _ _ rfl, xyMod4, beq_iff_eq, and_assoc]

theorem mem_rotPlanarStabs (Lx Ly Lz : Nat) (x y z : Int) :
    (x, y, z) ∈ rotPlanarStabs Lx Ly Lz ↔
      (2 ≤ x ∧ x < 2 * (Lx : Int) ∧ x % 2 = 0 ∧ 0 ≤ y ∧ y < 2 * (Ly : Int) + 1 ∧ y % 2 = 0 ∧
        1 ≤ z ∧ z < 2 * (Lz : Int) ∧ z % 2 = 1 ∧ (x + y) % 4 = 2) ∨
      (0 ≤ x ∧ x < 2 * (Lx : Int) + 1 ∧ x % 2 = 0 ∧ 2 ≤ y ∧ y < 2 * (Ly : Int) ∧ y % 2 = 0 ∧
        1 ≤ z ∧ z < 2 * (Lz : Int) ∧ z % 2 = 1 ∧ (x + y) % 4 = 0) ∨
      (1 ≤ x ∧ x < 2 * (Lx : Int) + 1 ∧ x % 2 = 1 ∧ 1 ≤ y ∧ y < 2 * (Ly : Int) ∧ y % 2 = 1 ∧
        2 ≤ z ∧ z < 2 * (Lz : Int) ∧ z % 2 = 0) := by
  simp only [rotPlanarStabs, List.mem_append, List.mem_filter, mem_prod3, mem_range2_odd,
    mem_range2_even 0 _ _ rfl, mem_range2_even 2 _ _ rfl, xyMod4, beq_iff_eq, and_assoc, or_assoc]

theorem rotPlanarStabs_nodup (Lx Ly Lz : Nat) : (rotPlanarStabs Lx Ly Lz).Nodup := by
  unfold rotPlanarStabs
  refine List.Nodup.append (List.Nodup.append ((nodup_prod3_range ..).filter _)
    ((nodup_prod3_range ..).filter _) ?_) (nodup_prod3_range ..) ?_
  all_goals
    rw [List.disjoint_left]
    rintro ⟨x, y, z⟩ h1 h2
    simp only [List.mem_append, List.mem_filter, mem_prod3, mem_range2, xyMod4, beq_iff_eq] at h1 h2
    omega

theorem rotPlanarQubits_nodup (Lx Ly Lz : Nat) : (rotPlanarQubits Lx Ly Lz).Nodup := by
  unfold rotPlanarQubits
  refine List.Nodup.append (nodup_prod3_range ..) ((nodup_prod3_range ..).filter _) ?_
  rw [List.disjoint_left]
  rintro ⟨x, y, z⟩ h1 h2
  simp only [List.mem_filter, mem_prod3, mem_range2, xyMod4, beq_iff_eq] at h1 h2
  omega

/-! ### kinds of locations

Both rotated codes put edges and stabilizers on one grid: an edge has odd `x, y, z` (horizontal)
or even `x, y, z` with `(x + y) % 4 = 2` (vertical); a stabilizer is a vertex when
`(x + y) % 4 = 2` and `z` is odd, and a face otherwise. -/

def RotEdge (x y z : Int) : Prop :=
  (x % 2 = 1 ∧ y % 2 = 1 ∧ z % 2 = 1) ∨ (x % 2 = 0 ∧ y % 2 = 0 ∧ z % 2 = 0 ∧ (x + y) % 4 = 2)

theorem rotIsFace_iff (a b c : Int) :
    rotIsFace (a, b, c) = true ↔ ¬((a + b) % 4 = 2 ∧ c % 2 = 1) := by
  simp only [rotIsFace, xyMod4, Bool.not_eq_true', Bool.and_eq_false_iff, beq_eq_false_iff_ne,
    ne_eq, not_and_or]

theorem rotVertex_of_not_face {a b c : Int} (h : rotIsFace (a, b, c) = false) :
    (a + b) % 4 = 2 ∧ c % 2 = 1 :=
  Decidable.not_not.mp fun k => Bool.false_ne_true (h ▸ (rotIsFace_iff a b c).mpr k)

theorem rotPlanarQubits_edge (Lx Ly Lz : Nat) (x y z : Int) (h : (x, y, z) ∈ rotPlanarQubits Lx Ly Lz) :
    RotEdge x y z := by
  rcases (mem_rotPlanarQubits Lx Ly Lz x y z).mp h with h | h
  · obtain ⟨-, -, hx, -, -, hy, -, -, hz⟩ := h
    exact Or.inl ⟨hx, hy, hz⟩
  · obtain ⟨-, -, hx, -, -, hy, -, -, hz, h4⟩ := h
    exact Or.inr ⟨hx, hy, hz, h4⟩

theorem rotFaceDeltas_nodup (l : Loc) (ds : List Loc) (h : rotFaceDeltas l = some ds) : ds.Nodup := by
  unfold rotFaceDeltas at h
  split_ifs at h <;> cases h <;> decide

theorem rotFaceCands_nodup (l : Loc) (ds : List Loc) (hd : rotFaceDeltas l = some ds) :
    ((ds.map fun d => (addLoc l d, Pauli.X)).map Prod.fst).Nodup := by
  rw [List.map_map]
  exact (rotFaceDeltas_nodup l ds hd).map fun _ _ => addLoc_left_cancel

/-- the residue class both rotated tables branch on -/
def cls4 (l : Loc) : Loc := (l.1 % 4, l.2.1 % 4, l.2.2 % 2)

def rotUnits : List Loc := [(1, 1, 0), (-1, -1, 0), (1, -1, 0), (-1, 1, 0), (0, 0, 1), (0, 0, -1)]

/-- horizontal edges of axis x, of axis y, vertical edges -/
def rotEdgeCls : List Loc := [(1, 1, 1), (3, 3, 1), (1, 3, 1), (3, 1, 1), (0, 2, 0), (2, 0, 0)]

/-- horizontal faces, vertical faces -/
def rotFaceCls : List Loc := [(0, 0, 1), (2, 2, 1), (1, 1, 0), (3, 3, 0), (1, 3, 0), (3, 1, 0)]

/-- the neighbour table of `RotatedSweepDecoder3D.flip_edge` as offsets from the edge -/
def rotEdgeDeltas (p : Loc) : List Loc :=
  if p.2.2 == 0 then [(1, 1, 0), (-1, -1, 0), (-1, 1, 0), (1, -1, 0)]
  else if p.1 == p.2.1 then [(1, 1, 0), (-1, -1, 0), (0, 0, 1), (0, 0, -1)]
  else [(1, -1, 0), (-1, 1, 0), (0, 0, 1), (0, 0, -1)]

/-- the offsets on which `get_stabilizer` of a face puts an X -/
def rotXDeltas (p : Loc) : List Loc := (rotFaceDeltas p).getD []

theorem rotTables : NbrTables cls4 rotUnits rotEdgeCls rotFaceCls rotEdgeDeltas rotXDeltas where
  cls_add l d := by simp only [cls4, addLoc, Int.emod_add_emod]
  neg := by decide
  edge := by decide
  face := by decide

theorem rotTables_aux : (∀ p ∈ rotEdgeCls, (rotEdgeDeltas p).Nodup) ∧
    ∀ p ∈ rotFaceCls, rotFaceDeltas p = some (rotXDeltas p) := by decide

theorem rotFaceDeltas_cls4 (l : Loc) : rotFaceDeltas (cls4 l) = rotFaceDeltas l := by
  simp only [rotFaceDeltas, xyMod4, cls4, Int.emod_emod_of_dvd _ (Int.dvd_refl 2), Int.emod_add_emod,
    Int.add_emod_emod]
  rfl

theorem rotFaceDeltas_eq (s : Loc) (hs : cls4 s ∈ rotFaceCls) :
    rotFaceDeltas s = some (rotXDeltas (cls4 s)) := by
  rw [← rotFaceDeltas_cls4, rotTables_aux.2 _ hs]

theorem rawFacesRot_eq (q : Loc) (hq : cls4 q ∈ rotEdgeCls) :
    rawFacesRot q = some ((rotEdgeDeltas (cls4 q)).map (addLoc q)) := by
  obtain ⟨x, y, z⟩ := q
  simp only [rotEdgeCls, cls4, List.mem_cons, List.not_mem_nil, or_false, Prod.mk.injEq] at hq
  rcases hq with h | h | h | h | h | h <;>
    simp (decide := true) only [rawFacesRot, cls4, h, rotEdgeDeltas, addLoc, Int.sub_eq_add_neg,
      Int.add_zero, List.map_cons, List.map_nil, if_true, if_false]

theorem cls4_edge (x y z : Int) (h : RotEdge x y z) : cls4 (x, y, z) ∈ rotEdgeCls := by
  rcases h with ⟨hx, hy, hz⟩ | ⟨hx, hy, hz, h4⟩
  · have hx4 : x % 4 = 1 ∨ x % 4 = 3 := by omega
    have hy4 : y % 4 = 1 ∨ y % 4 = 3 := by omega
    rcases hx4 with hx4 | hx4 <;> rcases hy4 with hy4 | hy4 <;>
      simp only [cls4, hx4, hy4, hz] <;> decide
  · have h : (x % 4 = 0 ∧ y % 4 = 2) ∨ (x % 4 = 2 ∧ y % 4 = 0) := by omega
    rcases h with ⟨hx4, hy4⟩ | ⟨hx4, hy4⟩ <;> simp only [cls4, hx4, hy4, hz] <;> decide

theorem cls4_face (a b c : Int)
    (hs : (a % 2 = 0 ∧ b % 2 = 0 ∧ c % 2 = 1) ∨ (a % 2 = 1 ∧ b % 2 = 1 ∧ c % 2 = 0))
    (hf : rotIsFace (a, b, c) = true) : cls4 (a, b, c) ∈ rotFaceCls := by
  rw [rotIsFace_iff] at hf
  rcases hs with ⟨ha, hb, hc⟩ | ⟨ha, hb, hc⟩
  · have h : (a % 4 = 0 ∧ b % 4 = 0) ∨ (a % 4 = 2 ∧ b % 4 = 2) := by omega
    rcases h with ⟨ha4, hb4⟩ | ⟨ha4, hb4⟩ <;> simp only [cls4, ha4, hb4, hc] <;> decide
  · have ha4 : a % 4 = 1 ∨ a % 4 = 3 := by omega
    have hb4 : b % 4 = 1 ∨ b % 4 = 3 := by omega
    rcases ha4 with ha4 | ha4 <;> rcases hb4 with hb4 | hb4 <;>
      simp only [cls4, ha4, hb4, hc] <;> decide

end Panqec.Sweep
