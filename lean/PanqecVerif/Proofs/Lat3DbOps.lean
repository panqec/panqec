/-
Generic lemmas for the hand-written lattice models on the ranges of `Model/Lattices/Util3Db.lean`:
Python `range(a, b, 2)`, nested coordinate loops (`grid3`: membership, distinctness, length),
dict construction without overwrite (`dictOf` / `buildOp` on distinct keys = `constOp`), and the
anticommutation count of two constant-letter operators as an overlap count (`ovl`) of key lists.
-/
import Mathlib.Data.List.Nodup
import PanqecVerif.Proofs.LatCommon
import PanqecVerif.Proofs.LoopNest
import PanqecVerif.Model.Lattices.Util3Db
open Panqec Panqec.Lat3Db
namespace Panqec.Lat3Db

theorem mem_pyRange2 (a b : Nat) (x : Int) :
    x ∈ pyRange2 a b ↔ (a : Int) ≤ x ∧ x < b ∧ (x - a) % 2 = 0 := by
  rw [pyRange2, mem_map_ofNat_range' (by decide)]
  omega

theorem nodup_pyRange2 (a b : Nat) : (pyRange2 a b).Nodup :=
  nodup_map_ofNat_range' a _ (by decide)

theorem length_pyRange2 (a b : Nat) : (pyRange2 a b).length = (b + 1 - a) / 2 := by
  simp [pyRange2]

theorem mem_grid3 (xs ys zs : List Int) (p : Int → Int → Int → Bool) (c : Coord) :
    c ∈ grid3 xs ys zs p ↔ ∃ x y z, c = [x, y, z] ∧ x ∈ xs ∧ y ∈ ys ∧ z ∈ zs ∧ p x y z = true := by
  unfold grid3
  simp only [List.mem_flatMap, List.mem_map, List.mem_filter]
  constructor
  · rintro ⟨x, hx, y, hy, z, ⟨hz, hp⟩, rfl⟩
    exact ⟨x, y, z, rfl, hx, hy, hz, hp⟩
  · rintro ⟨x, y, z, rfl, hx, hy, hz, hp⟩
    exact ⟨x, hx, y, hy, z, ⟨hz, hp⟩, rfl⟩

theorem mem_grid3_cons (xs ys zs : List Int) (p : Int → Int → Int → Bool) (x y z : Int) :
    [x, y, z] ∈ grid3 xs ys zs p ↔ x ∈ xs ∧ y ∈ ys ∧ z ∈ zs ∧ p x y z = true := by
  simp [mem_grid3]

theorem shape_grid3 {xs ys zs : List Int} {p : Int → Int → Int → Bool} {a : Coord}
    (h : a ∈ grid3 xs ys zs p) : ∃ x y z, a = [x, y, z] := by
  obtain ⟨x, y, z, rfl, _⟩ := (mem_grid3 ..).mp h
  exact ⟨x, y, z, rfl⟩

theorem nodup_grid3 (xs ys zs : List Int) (p : Int → Int → Int → Bool)
    (hx : xs.Nodup) (hy : ys.Nodup) (hz : zs.Nodup) : (grid3 xs ys zs p).Nodup := by
  refine nodup_flatMap_of_key (·.getD 0 0) hx (fun x _ => ?_) ?_
  · refine nodup_flatMap_of_key (·.getD 1 0) hy
      (fun y _ => nodup_map_of_key (·.getD 2 0) (hz.filter _) fun _ _ => rfl) ?_
    intro y _ q hq
    obtain ⟨z, _, rfl⟩ := List.mem_map.mp hq
    rfl
  · intro x _ q hq
    obtain ⟨y, _, hq⟩ := List.mem_flatMap.mp hq
    obtain ⟨z, _, rfl⟩ := List.mem_map.mp hq
    rfl

theorem length_grid3_true (xs ys zs : List Int) :
    (grid3 xs ys zs fun _ _ _ => true).length = xs.length * ys.length * zs.length := by
  rw [Nat.mul_assoc, ← length_loop3 (fun x y z => [x, y, z]) xs ys zs]
  simp [grid3]

def constOp (keys : List Coord) (p : Pauli) : Op := keys.map fun q => (q, p)

theorem keys_constOp (k : List Coord) (p : Pauli) : (constOp k p).map Prod.fst = k :=
  map_fst_letter k p

theorem mem_constOp (k : List Coord) (p : Pauli) (e : Coord × Pauli) :
    e ∈ constOp k p ↔ e.1 ∈ k ∧ e.2 = p :=
  mem_letter

theorem buildOp_eq (isQ : Coord → Bool) (locs : List Coord) (p : Pauli) (h : locs.Nodup) :
    buildOp isQ locs p = constOp (locs.filter isQ) p := by
  unfold buildOp
  rw [Op.foldl_insert_letter isQ p locs [] h (by simp)]
  rfl

/-- with distinct keys the dict assignments never overwrite -/
theorem dictOf_eq (keys : List Coord) (p : Pauli) (h : keys.Nodup) :
    dictOf keys p = constOp keys p := by
  have := buildOp_eq (fun _ => true) keys p h
  rwa [List.filter_eq_self.mpr fun _ _ => rfl] at this

theorem length_constOp (ks : List Coord) (p : Pauli) : (constOp ks p).length = ks.length :=
  List.length_map _

def ovl (k1 k2 : List Coord) : Nat := k1.countP fun q => k2.contains q

theorem opAntiCount_constOp (k1 k2 : List Coord) (a b : Pauli) :
    opAntiCount (constOp k1 a) (constOp k2 b) = if Pauli.anti a b then ovl k1 k2 else 0 :=
  opAntiCount_letter k1 k2 a b

theorem opCommute_of_ovl_even (k1 k2 : List Coord) (a b : Pauli) (h : ovl k1 k2 % 2 = 0) :
    opCommute (constOp k1 a) (constOp k2 b) = true :=
  opCommute_letter_of k1 k2 a b fun _ => h

theorem opCommute_constOp_same (k1 k2 : List Coord) (a : Pauli) :
    opCommute (constOp k1 a) (constOp k2 a) = true :=
  opCommute_letter_of k1 k2 a a fun h => by rw [Pauli.anti_self] at h; cases h

theorem ovl_nil (k2 : List Coord) : ovl [] k2 = 0 := rfl

theorem ovl_comm (k1 k2 : List Coord) (h1 : k1.Nodup) (h2 : k2.Nodup) : ovl k1 k2 = ovl k2 k1 :=
  countP_contains_comm k1 k2 h1 h2

theorem opCommute_of_ovl_even' (k1 k2 : List Coord) (a b : Pauli) (h1 : k1.Nodup) (h2 : k2.Nodup)
    (h : ovl k2 k1 % 2 = 0) : opCommute (constOp k1 a) (constOp k2 b) = true :=
  opCommute_of_ovl_even k1 k2 a b (by rw [ovl_comm k1 k2 h1 h2]; exact h)

/-- member of `range(1, b, 2)` -/
def R1 (b : Nat) (x : Int) : Prop := x % 2 = 1 ∧ 1 ≤ x ∧ x < b
/-- member of `range(2, b, 2)` -/
def R2 (b : Nat) (x : Int) : Prop := x % 2 = 0 ∧ 2 ≤ x ∧ x < b
/-- member of `range(0, b, 2)` -/
def R0 (b : Nat) (x : Int) : Prop := x % 2 = 0 ∧ 0 ≤ x ∧ x < b

instance (b : Nat) (x : Int) : Decidable (R1 b x) := by unfold R1; infer_instance
instance (b : Nat) (x : Int) : Decidable (R2 b x) := by unfold R2; infer_instance
instance (b : Nat) (x : Int) : Decidable (R0 b x) := by unfold R0; infer_instance

theorem mem_pyRange2_1 (b : Nat) (x : Int) : x ∈ pyRange2 1 b ↔ R1 b x := by
  rw [mem_pyRange2]; unfold R1; omega
theorem mem_pyRange2_2 (b : Nat) (x : Int) : x ∈ pyRange2 2 b ↔ R2 b x := by
  rw [mem_pyRange2]; unfold R2; omega
theorem mem_pyRange2_0 (b : Nat) (x : Int) : x ∈ pyRange2 0 b ↔ R0 b x := by
  rw [mem_pyRange2]; unfold R0; omega

def ind (p : Prop) [Decidable p] : Nat := if p then 1 else 0

theorem ind_congr {p q : Prop} [Decidable p] [Decidable q] (h : p ↔ q) : ind p = ind q := by
  unfold ind; simp [h]

theorem ind_le_one (p : Prop) [Decidable p] : ind p ≤ 1 := by unfold ind; split <;> omega

theorem ovl_cons_ind (a : Coord) (t k2 : List Coord) : ovl (a :: t) k2 = ovl t k2 + ind (a ∈ k2) := by
  unfold ovl ind
  rw [List.countP_cons]
  simp

theorem ovl_filter_left (p : Coord → Bool) (l k2 : List Coord) (h : ∀ q ∈ k2, p q = true) :
    ovl (l.filter p) k2 = ovl l k2 := by
  unfold ovl; rw [List.countP_filter]
  apply List.countP_congr; intro q _
  by_cases hq : q ∈ k2
  · simp [hq, h q hq]
  · simp [hq]

theorem ovl_filter_filter (p : Coord → Bool) (l l2 : List Coord) :
    ovl (l.filter p) (l2.filter p) = ovl l (l2.filter p) :=
  ovl_filter_left p l _ (fun _ hq => (List.mem_filter.mp hq).2)

theorem ovl_eq_one {k1 k2 : List Coord} (h1 : k1.Nodup) (q : Coord) (hq : q ∈ k1)
    (h : ∀ e ∈ k1, e ∈ k2 ↔ e = q) : ovl k1 k2 = 1 := by
  unfold ovl
  have : k1.countP (fun e => k2.contains e) = k1.countP (· == q) := by
    apply List.countP_congr
    intro e he
    simp [h e he]
  rw [this, ← List.count_eq_countP, List.count_eq_one_of_mem h1 hq]

theorem ovl_of_subset {k1 k2 : List Coord} (h : ∀ e ∈ k1, e ∈ k2) : ovl k1 k2 = k1.length := by
  unfold ovl
  rw [List.countP_eq_length]
  intro e he
  simpa using h e he

theorem ind_neg {p : Prop} [Decidable p] (h : ¬ p) : ind p = 0 := by simp [ind, h]

theorem wf_of_constOp {l : Lattice} (hq : l.qubits.Nodup) (hs : l.stabs.Nodup)
    (hd : ∀ q ∈ l.qubits, q ∉ l.stabs)
    (hstab : ∀ s ∈ l.stabs, ∃ (ks : List Coord) (p : Pauli),
      l.getStab s = constOp ks p ∧ ks.Nodup ∧ ks ≠ [] ∧ (∀ q ∈ ks, q ∈ l.qubits) ∧ p ≠ Pauli.I)
    (hlog : ∀ a ∈ l.logX ++ l.logZ, ∃ (ks : List Coord) (p : Pauli),
      a = constOp ks p ∧ ks.Nodup ∧ (∀ q ∈ ks, q ∈ l.qubits) ∧ p ≠ Pauli.I) : l.WF :=
  Lattice.WF.of_letterOps hq hs hd hstab hlog

/-- the body of `get_deformation` of the 3-D classes of this base, for the axis `qa` of the
    location: an axis other than x, y, z is rejected first, then any name other than `XZZX`, then a
    location without axis -/
theorem deformation_rule (qa : Option String) (name axis : String) :
    (if !(["x", "y", "z"].contains axis) then none
      else if name == "XZZX" then
        match qa with
        | none => none
        | some a => some (if a == axis then PauliMap.swapXZ else PauliMap.id)
      else none) =
      if axis ≠ "x" ∧ axis ≠ "y" ∧ axis ≠ "z" then none
      else if name ≠ "XZZX" then none
      else qa.map fun a => if a = axis then PauliMap.swapXZ else PauliMap.id := by
  by_cases hax : axis = "x" ∨ axis = "y" ∨ axis = "z"
  · have h1 : (["x", "y", "z"].contains axis) = true := by
      rcases hax with h | h | h <;> subst h <;> decide
    have h2 : ¬ (axis ≠ "x" ∧ axis ≠ "y" ∧ axis ≠ "z") := by
      rcases hax with h | h | h <;> simp [h]
    simp only [h1, h2, Bool.not_true, Bool.false_eq_true, if_false]
    by_cases hn : name = "XZZX"
    · subst hn
      simp only [beq_self_eq_true, if_true, ne_eq, not_true_eq_false, if_false]
      cases qa <;> simp
    · have : (name == "XZZX") = false := by simpa using hn
      simp [this, hn]
  · have h2 : axis ≠ "x" ∧ axis ≠ "y" ∧ axis ≠ "z" := by
      simp only [not_or] at hax; exact hax
    simp [h2]

end Panqec.Lat3Db
