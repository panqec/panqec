/-
RotatedPlanar3DCode, all sizes, C17: translates of the two listed logical operators, the parity
argument, weights of the listed logicals.

Horizontal qubits sit at odd/odd/odd coordinates (layers `z = 2k + 1`, each a rotated planar
2-D code), vertical qubits at even/even/even coordinates with `(x + y) % 4 = 2` between layers.

`X̄` (X on the row `y = 1` of the layer `z = 1`, weight `Lx`) has the `Ly·Lz` translates
`(y, z) = (2j + 1, 2k + 1)`.  Moving up one layer multiplies by the row of vertical face
generators between the two rows: consecutive faces share one vertical qubit (zig-zag), the two
outermost vertical positions are not qubits.  Moving to the next row inside the layer `z = 1`
multiplies by the horizontal face generators between the rows, which tile both rows like dominoes
(as in the 2-D rotated code).

`Z̄` (Z on the plane `x = 1`, weight `Ly·Lz`) has the `Lx` translates `x = 2i + 1`; the vertex
generators of the slab `x = 2i + 2` tile the two neighbouring planes like dominoes in every layer,
and each vertical qubit of the slab belongs to the two vertices above and below it.
So the distance is `min Lx (Ly·Lz)`.
-/
import PanqecVerif.Proofs.DistLat3Db
import PanqecVerif.Proofs.DistPlanar2DCodeShared
import PanqecVerif.Proofs.LatRotatedPlanar3DCodeCss

namespace Panqec.RotatedPlanar3DCode
open Panqec.Lat3Db
open Panqec.Lat2D (rsum rsum2 rsum_congr rsum2_congr rsum_even rsum_add rsum2_add rsum_pairs
  rsum_shift_open ladder chain slab_domino)

/-- indicator restricted to the qubits: `0` outside the lattice -/
def indQ (Lx Ly Lz : Nat) (P : Pauli) (b : Op) (q : Coord) : Nat :=
  if isQubit Lx Ly Lz q = true then Lat2D.ind P b q else 0

theorem indQ_of {Lx Ly Lz : Nat} {x y z : Int} (P : Pauli) (b : Op)
    (h : QH Lx Ly Lz x y z ∨ QV Lx Ly Lz x y z) :
    indQ Lx Ly Lz P b [x, y, z] = Lat2D.ind P b [x, y, z] := by
  unfold indQ; rw [if_pos ((isQubit_iff Lx Ly Lz x y z).mpr h)]

theorem indQ_of_not {Lx Ly Lz : Nat} {x y z : Int} (P : Pauli) (b : Op)
    (h : ¬ (QH Lx Ly Lz x y z ∨ QV Lx Ly Lz x y z)) : indQ Lx Ly Lz P b [x, y, z] = 0 := by
  unfold indQ; rw [if_neg (fun h' => h ((isQubit_iff Lx Ly Lz x y z).mp h'))]

/-- `b` commutes with every stabilizer generator of the lattice -/
def CommStabs (Lx Ly Lz : Nat) (b : Op) : Prop :=
  ∀ s ∈ (lattice Lx Ly Lz).stabs, opAntiCount ((lattice Lx Ly Lz).getStab s) b % 2 = 0

variable {Lx Ly Lz : Nat}

theorem stab_even {b : Op} (hb : CommStabs Lx Ly Lz b) {s : Coord} (hs : s ∈ stabs Lx Ly Lz)
    {locs : List Coord} {P : Pauli}
    (e : getStab Lx Ly Lz s = constOp (locs.filter (isQubit Lx Ly Lz)) P) :
    (locs.map (indQ Lx Ly Lz P b)).sum % 2 = 0 := by
  have h := (lattice Lx Ly Lz).stab_even hb hs e
  rw [List.countP_filter, ← sum_indicator_eq_countP] at h
  rw [← h]
  congr 2
  refine List.map_congr_left fun q _ => ?_
  unfold indQ Lat2D.ind
  cases opHit P b q <;> cases isQubit Lx Ly Lz q <;> rfl

theorem vertex_even {b : Op} (hb : CommStabs Lx Ly Lz b) {x y z : Int} (hv : SV Lx Ly Lz x y z)
    {xm xp ym yp zm zp : Int} (e1 : x - 1 = xm) (e2 : x + 1 = xp) (e3 : y - 1 = ym)
    (e4 : y + 1 = yp) (e5 : z - 1 = zm) (e6 : z + 1 = zp) :
    (indQ Lx Ly Lz Pauli.Z b [xm, ym, z] + indQ Lx Ly Lz Pauli.Z b [xm, yp, z]
      + indQ Lx Ly Lz Pauli.Z b [xp, ym, z] + indQ Lx Ly Lz Pauli.Z b [xp, yp, z]
      + indQ Lx Ly Lz Pauli.Z b [x, y, zm] + indQ Lx Ly Lz Pauli.Z b [x, y, zp]) % 2 = 0 := by
  subst e1 e2 e3 e4 e5 e6
  have h := stab_even hb ((mem_stabs_iff Lx Ly Lz x y z).mpr (Or.inl hv))
    (getStab_vertex Lx Ly Lz x y z hv)
  simp only [vertexLocs, List.map_cons, List.map_nil, List.sum_cons, List.sum_nil] at h
  omega

theorem faceZ_even {b : Op} (hb : CommStabs Lx Ly Lz b) {x y z : Int} (hv : SH Lx Ly Lz x y z)
    {xm xp ym yp : Int} (e1 : x - 1 = xm) (e2 : x + 1 = xp) (e3 : y - 1 = ym) (e4 : y + 1 = yp) :
    (indQ Lx Ly Lz Pauli.X b [xm, ym, z] + indQ Lx Ly Lz Pauli.X b [xp, yp, z]
      + indQ Lx Ly Lz Pauli.X b [xm, yp, z] + indQ Lx Ly Lz Pauli.X b [xp, ym, z]) % 2 = 0 := by
  subst e1 e2 e3 e4
  have h := stab_even hb ((mem_stabs_iff Lx Ly Lz x y z).mpr (Or.inr (Or.inl hv)))
    (getStab_faceZ Lx Ly Lz x y z hv)
  simp only [faceZLocs, List.map_cons, List.map_nil, List.sum_cons, List.sum_nil] at h
  omega

/-- a vertical face at `(x, y, z)`; its two vertical qubits are `(x - 1, q₁, z)`, `(x + 1, q₂, z)` -/
theorem faceV_even {b : Op} (hb : CommStabs Lx Ly Lz b) {x y z : Int} (hv : SF Lx Ly Lz x y z)
    {xm xp q₁ q₂ zm zp : Int}
    (hq : q₁ = y - 1 ∧ q₂ = y + 1 ∧ (x + y) % 4 = 0 ∨ q₁ = y + 1 ∧ q₂ = y - 1 ∧ (x + y) % 4 = 2)
    (e1 : x - 1 = xm) (e2 : x + 1 = xp) (e5 : z - 1 = zm) (e6 : z + 1 = zp) :
    (indQ Lx Ly Lz Pauli.X b [xm, q₁, z] + indQ Lx Ly Lz Pauli.X b [xp, q₂, z]
      + indQ Lx Ly Lz Pauli.X b [x, y, zm] + indQ Lx Ly Lz Pauli.X b [x, y, zp]) % 2 = 0 := by
  subst e1 e2 e5 e6
  have hs := (mem_stabs_iff Lx Ly Lz x y z).mpr (Or.inr (Or.inr hv))
  rcases hq with ⟨rfl, rfl, h4⟩ | ⟨rfl, rfl, h4⟩
  · have h := stab_even hb hs (getStab_faceX Lx Ly Lz x y z hv h4)
    simp only [faceXLocs, List.map_cons, List.map_nil, List.sum_cons, List.sum_nil] at h
    omega
  · have h := stab_even hb hs (getStab_faceY Lx Ly Lz x y z hv h4)
    simp only [faceYLocs, List.map_cons, List.map_nil, List.sum_cons, List.sum_nil] at h
    omega

theorem countP_lineX (P : Pauli) (b : Op) {j k : Nat} (hj : j < Ly) (hk : k < Lz) :
    (lineX Lx j k).countP (opHit P b) = rsum Lx (fun a =>
      indQ Lx Ly Lz P b [2 * (a : Int) + 1, 2 * (j : Int) + 1, 2 * (k : Int) + 1]) := by
  unfold lineX
  rw [countP_lineO]
  exact rsum_congr Lx fun a ha => by
    rw [indQ_of _ _ (Or.inl (by unfold QH R1; omega))]
    rfl

theorem countP_planeX (P : Pauli) (b : Op) {i : Nat} (hi : i < Lx) :
    (planeX Ly Lz i).countP (opHit P b) = rsum2 Lz Ly (fun k j =>
      indQ Lx Ly Lz P b [2 * (i : Int) + 1, 2 * (j : Int) + 1, 2 * (k : Int) + 1]) := by
  unfold planeX
  rw [countP_planeO]
  exact rsum2_congr fun k j hk hj => by
    rw [indQ_of _ _ (Or.inl (by unfold QH R1; omega))]
    rfl

/-- the `y` coordinate of the vertical qubit shared by the vertical faces `x = 2a - 1` and
    `x = 2a + 1` of the row `y = 2j + 1` -/
def zig (j a : Nat) : Int := if (a + j) % 2 = 1 then 2 * (j : Int) else 2 * (j : Int) + 2

theorem parity_Xz {b : Op} (hb : CommStabs Lx Ly Lz b) (j : Nat) (hj : j < Ly) (i : Nat)
    (hi : i < Lz) :
    (lineX Lx j i).countP (opHit Pauli.X b) % 2 = (lineX Lx j 0).countP (opHit Pauli.X b) % 2 := by
  rw [countP_lineX _ _ hj hi, countP_lineX _ _ hj (show 0 < Lz by omega)]
  refine ladder Lx Lz
    (fun i a => indQ Lx Ly Lz Pauli.X b [2 * (a : Int) + 1, 2 * (j : Int) + 1, 2 * (i : Int) + 1])
    (fun i a => indQ Lx Ly Lz Pauli.X b [2 * (a : Int), zig j a, 2 * (i : Int) + 2])
    (fun i a => indQ Lx Ly Lz Pauli.X b [2 * ((a + 1 : Nat) : Int), zig j (a + 1), 2 * (i : Int) + 2])
    ?_ ?_ i hi
  · intro i _
    exact rsum_shift_open
      (fun a => indQ Lx Ly Lz Pauli.X b [2 * (a : Int), zig j a, 2 * (i : Int) + 2]) Lx
      (indQ_of_not _ _ (by unfold QH QV R1 R2; omega))
      (indQ_of_not _ _ (by unfold QH QV R1 R2; omega))
  · intro i hi a ha
    have hf : SF Lx Ly Lz (2 * (a : Int) + 1) (2 * (j : Int) + 1) (2 * (i : Int) + 2) := by
      unfold SF R1 R2; omega
    have h := faceV_even hb hf (q₁ := zig j a) (q₂ := zig j (a + 1)) (xm := 2 * (a : Int))
      (xp := 2 * ((a + 1 : Nat) : Int)) (zm := 2 * (i : Int) + 1) (zp := 2 * ((i + 1 : Nat) : Int) + 1)
      (by unfold zig; split <;> split <;> omega) (by omega) (by omega) (by omega) (by omega)
    omega

/-- two consecutive rows of the bottom layer: the horizontal faces between them tile both -/
theorem pair_X (hLz : 1 ≤ Lz) {b : Op} (hb : CommStabs Lx Ly Lz b) (i : Nat) (hi : i + 1 < Ly) :
    (rsum Lx (fun a => indQ Lx Ly Lz Pauli.X b
        [2 * (a : Int) + 1, 2 * (i : Int) + 1, 2 * ((0 : Nat) : Int) + 1]) +
      rsum Lx (fun a => indQ Lx Ly Lz Pauli.X b
        [2 * (a : Int) + 1, 2 * ((i + 1 : Nat) : Int) + 1, 2 * ((0 : Nat) : Int) + 1])) % 2 = 0 := by
  have hp := rsum_pairs ((i + 1) % 2) (Nat.mod_lt _ (by omega)) Lx
    (fun w => indQ Lx Ly Lz Pauli.X b [w, 2 * (i : Int) + 1, 2 * ((0 : Nat) : Int) + 1]
      + indQ Lx Ly Lz Pauli.X b [w, 2 * (i : Int) + 3, 2 * ((0 : Nat) : Int) + 1])
    (by rw [indQ_of_not _ _ (by unfold QH QV R1 R2; omega),
      indQ_of_not _ _ (by unfold QH QV R1 R2; omega)])
    (by rw [indQ_of_not _ _ (by unfold QH QV R1 R2; omega),
      indQ_of_not _ _ (by unfold QH QV R1 R2; omega)])
  have e : (2 * ((i + 1 : Nat) : Int) + 1) = 2 * (i : Int) + 3 := by omega
  rw [e, ← rsum_add, ← hp]
  apply rsum_even
  intro k hk
  by_cases hke : k % 2 = (i + 1) % 2
  · rw [if_pos hke]
    have hs : SH Lx Ly Lz (2 * (k : Int)) (2 * (i : Int) + 2) (2 * ((0 : Nat) : Int) + 1) := by
      unfold SH R0 R1 R2; omega
    have h := faceZ_even hb hs (xm := 2 * (k : Int) - 1) (xp := 2 * (k : Int) + 1)
      (ym := 2 * (i : Int) + 1) (yp := 2 * (i : Int) + 3) rfl rfl (by omega) (by omega)
    omega
  · rw [if_neg hke]

theorem parity_Xy (hLz : 1 ≤ Lz) {b : Op} (hb : CommStabs Lx Ly Lz b) (i : Nat) (hi : i < Ly) :
    (lineX Lx i 0).countP (opHit Pauli.X b) % 2 = (lineX Lx 0 0).countP (opHit Pauli.X b) % 2 := by
  rw [countP_lineX _ _ hi hLz, countP_lineX _ _ (show 0 < Ly by omega) hLz]
  exact chain Ly (fun i => rsum Lx (fun a => indQ Lx Ly Lz Pauli.X b
    [2 * (a : Int) + 1, 2 * (i : Int) + 1, 2 * ((0 : Nat) : Int) + 1]))
    (fun i hi => pair_X hLz hb i hi) i hi

theorem pair_Z {b : Op} (hb : CommStabs Lx Ly Lz b) (i : Nat) (hi : i + 1 < Lx) :
    (rsum2 Lz Ly (fun k j => indQ Lx Ly Lz Pauli.Z b
        [2 * (i : Int) + 1, 2 * (j : Int) + 1, 2 * (k : Int) + 1]) +
      rsum2 Lz Ly (fun k j => indQ Lx Ly Lz Pauli.Z b
        [2 * ((i + 1 : Nat) : Int) + 1, 2 * (j : Int) + 1, 2 * (k : Int) + 1])) % 2 = 0 := by
  have hd := slab_domino (i % 2) (Nat.mod_lt _ (by omega)) Lz Ly
    (fun k w => indQ Lx Ly Lz Pauli.Z b [2 * (i : Int) + 1, w, 2 * (k : Int) + 1]
      + indQ Lx Ly Lz Pauli.Z b [2 * (i : Int) + 3, w, 2 * (k : Int) + 1])
    (fun k m => indQ Lx Ly Lz Pauli.Z b [2 * (i : Int) + 2, 2 * (m : Int), 2 * (k : Int)])
    (fun k _ => by rw [indQ_of_not _ _ (by unfold QH QV R0 R1 R2; omega),
      indQ_of_not _ _ (by unfold QH QV R0 R1 R2; omega)])
    (fun k _ => by rw [indQ_of_not _ _ (by unfold QH QV R0 R1 R2; omega),
      indQ_of_not _ _ (by unfold QH QV R0 R1 R2; omega)])
    (fun m _ => indQ_of_not _ _ (by unfold QH QV R0 R1 R2; omega))
    (fun m _ => indQ_of_not _ _ (by unfold QH QV R0 R1 R2; omega))
    (fun k m hk hm hme => by
      have hv : SV Lx Ly Lz (2 * (i : Int) + 2) (2 * (m : Int)) (2 * (k : Int) + 1) := by
        unfold SV R0 R1 R2; omega
      have h := vertex_even hb hv (xm := 2 * (i : Int) + 1) (xp := 2 * (i : Int) + 3)
        (ym := 2 * (m : Int) - 1) (yp := 2 * (m : Int) + 1) (zm := 2 * (k : Int))
        (zp := 2 * ((k + 1 : Nat) : Int)) (by omega) (by omega) rfl rfl (by omega) (by omega)
      omega)
  have e : (2 * ((i + 1 : Nat) : Int) + 1) = 2 * (i : Int) + 3 := by omega
  rw [e, ← rsum2_add]
  exact hd

theorem parity_Z {b : Op} (hb : CommStabs Lx Ly Lz b) (i : Nat) (hi : i < Lx) :
    (planeX Ly Lz i).countP (opHit Pauli.Z b) % 2 =
      (planeX Ly Lz 0).countP (opHit Pauli.Z b) % 2 := by
  rw [countP_planeX _ _ hi, countP_planeX _ _ (show 0 < Lx by omega)]
  exact chain Lx (fun i => rsum2 Lz Ly (fun k j => indQ Lx Ly Lz Pauli.Z b
    [2 * (i : Int) + 1, 2 * (j : Int) + 1, 2 * (k : Int) + 1])) (fun i hi => pair_Z hb i hi) i hi

theorem lineX_disj {j k j' k' : Nat} (h : j ≠ j' ∨ k ≠ k') :
    ∀ q ∈ lineX Lx j k, q ∉ lineX Lx j' k' := by
  intro q hq hq'
  obtain ⟨x, _, rfl⟩ := mem_lineX.mp hq
  obtain ⟨x', _, e⟩ := mem_lineX.mp hq'
  simp only [List.cons.injEq, and_true] at e
  omega

theorem planeX_disj {i i' : Nat} (h : i < i') : ∀ q ∈ planeX Ly Lz i, q ∉ planeX Ly Lz i' := by
  intro q hq hq'
  obtain ⟨y, z, _, _, rfl⟩ := mem_planeX.mp hq
  obtain ⟨y', z', _, _, e⟩ := mem_planeX.mp hq'
  simp only [List.cons.injEq, and_true] at e; omega

/-- every non-trivial logical operator of the `Lx × Ly × Lz` rotated 3-D planar code has weight
    `≥ min Lx (Ly·Lz)` -/
theorem lower_bound (hLz : 1 ≤ Lz) (hwf : (lattice Lx Ly Lz).WF)
    {n : Nat} (hn : (qubits Lx Ly Lz).length = n)
    (hv : ValidCodeL n 1 (lattice Lx Ly Lz).rowsH (lattice Lx Ly Lz).rowsX
      (lattice Lx Ly Lz).rowsZ) :
    ∀ v, IsNontrivialLogical n (lattice Lx Ly Lz).rowsH v → min Lx (Ly * Lz) ≤ pauliWeight v := by
  refine Lattice.lower_bound_of_packed1 (lattice Lx Ly Lz) hwf hn hv (logX_eq Lx Ly Lz)
    (logZ_eq Lx Ly Lz)
    (.of_family2 Pauli.X (lineX Lx) (Nat.min_le_right ..) (fun j k hj hk =>
      ⟨lineX_nodup Lx _ _, lineX_sub hj hk, fun b hb => ?_⟩) fun _ _ _ _ h => lineX_disj h)
    (.of_family Pauli.Z (planeX Ly Lz) (Nat.min_le_left ..) (fun i hi =>
      ⟨planeX_nodup Ly Lz i, planeX_sub hi, fun b hb => ?_⟩) fun i i' h _ => planeX_disj h)
  · rw [logXKeys_eq, opAntiCount_constOp_hit, parity_Xz hb _ hj _ hk, parity_Xy hLz hb _ hj]
  · rw [logZKeys_eq, opAntiCount_constOp_hit]
    exact parity_Z hb i hi

theorem length_logZKeys (Ly Lz : Nat) : (logZKeys Ly Lz).length = Ly * Lz := by
  simp only [logZKeys, List.length_flatMap, List.length_map, length_pyRange2_odd, List.map_const',
    List.sum_replicate, smul_eq_mul]
  exact Nat.mul_comm _ _

/-- the row of `logicals_x` has weight `Lx` (a line), the row of `logicals_z` weight `Ly·Lz`
    (a plane) -/
theorem weights_listed (hwf : (lattice Lx Ly Lz).WF) :
    (lattice Lx Ly Lz).rowsX.map pauliWeight = [Lx] ∧
    (lattice Lx Ly Lz).rowsZ.map pauliWeight = [Ly * Lz] := by
  have h := Lat2D.weights_of_lines (lattice Lx Ly Lz) hwf (logX_eq Lx Ly Lz) (logZ_eq Lx Ly Lz)
  rwa [length_logZKeys, logXKeys, List.length_map, length_pyRange2_odd] at h

/-- `code.d` (minimum weight of the listed logicals) is `min Lx (Ly·Lz)` -/
theorem reported_distance (hwf : (lattice Lx Ly Lz).WF) :
    distance (lattice Lx Ly Lz).rowsX (lattice Lx Ly Lz).rowsZ = some (min Lx (Ly * Lz)) :=
  distance_of_weights (weights_listed hwf).1 (weights_listed hwf).2 rfl rfl

end Panqec.RotatedPlanar3DCode
