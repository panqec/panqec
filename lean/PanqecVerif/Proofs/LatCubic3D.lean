/-
Generic lemmas for the all-sizes lattice theorems of the classes on the cubic lattice: Python
ranges and triple loops as lists (membership, `Nodup`, length), operators with one letter on a list of keys (`uop`), the `get_stabilizer` loop as a filter,
and the anticommutation count of two such operators as the size of the key overlap (`ov`).
-/
import Mathlib.Data.List.Nodup
import Mathlib.Data.List.Count
import PanqecVerif.Proofs.LatCss
import PanqecVerif.Proofs.LoopNest
import PanqecVerif.Proofs.Cyclic
import PanqecVerif.Model.Lattices.Cubic3D

namespace Panqec.Cubic3D

theorem mem_range2 {a b x : Int} : x ∈ range2 a b ↔ a ≤ x ∧ x < b ∧ (x - a) % 2 = 0 :=
  (Cyclic.mem_progression (s := 2) (n := ((b - a + 1) / 2).toNat) (by decide)).trans (by omega)

theorem length_range2 (a b : Int) : (range2 a b).length = ((b - a + 1) / 2).toNat := by
  simp [range2]

-- the ranges of even or odd coordinates that the classes on the cubic lattice loop over
theorem length_rangeE (L : Nat) : (range2 0 (2 * (L : Int))).length = L := by
  rw [length_range2]; omega
theorem length_rangeE2 (L : Nat) : (range2 2 (2 * (L : Int))).length = L - 1 := by
  rw [length_range2]; omega
theorem length_rangeO (L : Nat) : (range2 1 (2 * (L : Int) - 1)).length = L - 1 := by
  rw [length_range2]; omega
theorem length_rangeO0 (L : Nat) : (range2 1 (2 * (L : Int))).length = L := by
  rw [length_range2]; omega
theorem length_rangeO1 (L : Nat) : (range2 1 (2 * (L : Int) + 1)).length = L := by
  rw [length_range2]; omega

theorem nodup_range2 (a b : Int) : (range2 a b).Nodup := by
  unfold range2
  refine List.Nodup.map ?_ List.nodup_range
  intro i j h
  simp only at h
  omega

theorem mem_grid {xs ys zs : List Int} {q : Coord} :
    q ∈ grid xs ys zs ↔ ∃ x ∈ xs, ∃ y ∈ ys, ∃ z ∈ zs, q = [x, y, z] :=
  mem_loop3 fun x y z => [x, y, z]

theorem mem_grid3 {xs ys zs : List Int} {x y z : Int} :
    [x, y, z] ∈ grid xs ys zs ↔ x ∈ xs ∧ y ∈ ys ∧ z ∈ zs := by
  simp [mem_grid]

theorem nodup_grid {xs ys zs : List Int} (hx : xs.Nodup) (hy : ys.Nodup) (hz : zs.Nodup) :
    (grid xs ys zs).Nodup :=
  nodup_loop3 (fun x y z => [x, y, z]) (fun _ _ _ _ _ _ h => by simpa using h) hx hy hz

theorem length_grid (xs ys zs : List Int) :
    (grid xs ys zs).length = xs.length * ys.length * zs.length :=
  (length_loop3 (fun x y z => [x, y, z]) xs ys zs).trans (Nat.mul_assoc ..).symm

def uop (ks : List Coord) (p : Pauli) : Op := ks.map fun q => (q, p)

theorem uop_keys (ks : List Coord) (p : Pauli) : (uop ks p).map Prod.fst = ks :=
  map_fst_letter ks p

theorem mem_uop {ks : List Coord} {p : Pauli} {e : Coord × Pauli} :
    e ∈ uop ks p ↔ e.1 ∈ ks ∧ e.2 = p :=
  mem_letter

/-- the loop of `get_stabilizer` over pairwise distinct candidate locations keeps, in order, the
    candidates that are qubits -/
theorem collect_eq (qs : List Coord) (p : Pauli) (cands : List Coord) (h : cands.Nodup) :
    collect qs p cands = uop (cands.filter qs.contains) p := by
  unfold collect
  rw [Op.foldl_insert_letter qs.contains p cands [] h (by simp)]
  rfl

theorem uop_get? (ks : List Coord) (p : Pauli) (q : Coord) :
    (uop ks p).get? q = if q ∈ ks then some p else none :=
  Op.get?_letter ks p q

theorem uop_length (ks : List Coord) (p : Pauli) : (uop ks p).length = ks.length :=
  List.length_map _

/-- size of the key overlap, counted along the first list -/
def ov (ka kb : List Coord) : Nat := ka.countP fun q => decide (q ∈ kb)

theorem ov_eq_countP_contains (ka kb : List Coord) :
    ov ka kb = ka.countP fun q => kb.contains q := by
  unfold ov; simp only [List.contains_eq_mem]

theorem overlap_eq_ov (ka kb : List Coord) : overlap ka kb = ov ka kb :=
  (ov_eq_countP_contains ka kb).symm

theorem opAntiCount_uop (ka kb : List Coord) (pa pb : Pauli) :
    opAntiCount (uop ka pa) (uop kb pb) = if Pauli.anti pa pb then ov ka kb else 0 := by
  rw [ov_eq_countP_contains]; exact opAntiCount_letter ka kb pa pb

theorem opCommute_uop_of_even {ka kb : List Coord} (pa pb : Pauli) (h : ov ka kb % 2 = 0) :
    opCommute (uop ka pa) (uop kb pb) = true :=
  opCommute_letter_of ka kb pa pb fun _ => by rw [← ov_eq_countP_contains]; exact h

theorem opCommute_uop_same (ka kb : List Coord) (p : Pauli) :
    opCommute (uop ka p) (uop kb p) = true :=
  opCommute_letter_of ka kb p p fun h => by rw [Pauli.anti_self] at h; cases h

theorem ov_comm {ka kb : List Coord} (ha : ka.Nodup) (hb : kb.Nodup) : ov ka kb = ov kb ka := by
  rw [ov_eq_countP_contains, ov_eq_countP_contains]; exact countP_contains_comm ka kb ha hb

theorem ov_eq_zero {ka kb : List Coord} (h : ∀ q ∈ ka, q ∉ kb) : ov ka kb = 0 := by
  unfold ov
  rw [List.countP_eq_zero]
  intro q hq
  simpa using h q hq

theorem ov_eq_one {ka kb : List Coord} (ha : ka.Nodup) (q : Coord) (hq : q ∈ ka)
    (h : ∀ e ∈ ka, e ∈ kb ↔ e = q) : ov ka kb = 1 := by
  unfold ov
  have : ka.countP (fun e => decide (e ∈ kb)) = ka.countP (· == q) := by
    apply List.countP_congr
    intro e he
    simp [h e he]
  rw [this, ← List.count_eq_countP, List.count_eq_one_of_mem ha hq]

/-- `for a in as: for b in bs: … f a b …` -/
def grid2 (as bs : List Int) (f : Int → Int → Coord) : List Coord :=
  as.flatMap fun a => bs.map fun b => f a b

theorem mem_grid2 {as bs : List Int} {f : Int → Int → Coord} {q : Coord} :
    q ∈ grid2 as bs f ↔ ∃ a ∈ as, ∃ b ∈ bs, q = f a b := by
  simp only [grid2, List.mem_flatMap, List.mem_map, eq_comm]

theorem nodup_grid2 {as bs : List Int} {f : Int → Int → Coord} (ha : as.Nodup) (hb : bs.Nodup)
    (hf : ∀ a b a' b', f a b = f a' b' → a = a' ∧ b = b') : (grid2 as bs f).Nodup := by
  unfold grid2
  rw [List.nodup_flatMap]
  refine ⟨fun a _ => ?_, ?_⟩
  · refine List.Nodup.map ?_ hb
    intro b b' h; exact (hf a b a b' h).2
  · refine List.Pairwise.imp ?_ ha
    intro a a' hne
    simp only [Function.onFun, List.disjoint_left, List.mem_map]
    rintro q ⟨b, _, rfl⟩ ⟨b', _, h⟩
    exact hne (hf a' b' a b h).1.symm

theorem length_grid2 (as bs : List Int) (f : Int → Int → Coord) :
    (grid2 as bs f).length = as.length * bs.length :=
  length_flatMap_const as _ bs.length fun _ _ => List.length_map _

theorem uop_map (as : List Int) (f : Int → Coord) (p : Pauli) :
    (as.map fun a => (f a, p)) = uop (as.map f) p := by
  simp [uop, List.map_map, Function.comp_def]

theorem uop_grid2 (as bs : List Int) (f : Int → Int → Coord) (p : Pauli) :
    (as.flatMap fun a => bs.map fun b => (f a b, p)) = uop (grid2 as bs f) p := by
  simp [uop, grid2, List.map_flatMap, List.map_map, Function.comp_def]

theorem Axis.ofString_toString (a : Axis) : Axis.ofString? a.toString = some a := by
  cases a <;> rfl

theorem getDeformation_default (dflt name : String) (loc : Coord) :
    getDeformation dflt name none loc = getDeformation dflt name (some dflt) loc := rfl

theorem getDeformation_xzzx (dflt : String) (ax : Axis) (loc : Coord) :
    getDeformation dflt "XZZX" (some ax.toString) loc =
      (qubitAxis loc).map fun a => if a = ax then PauliMap.swapXZ else PauliMap.id := by
  unfold getDeformation
  simp only [Option.getD_some, Axis.ofString_toString, beq_self_eq_true, if_true]
  cases qubitAxis loc <;> rfl

theorem getDeformation_bad_name (dflt : String) {name : String} (h : name ≠ "XZZX")
    (axis : Option String) (loc : Coord) : getDeformation dflt name axis loc = none := by
  unfold getDeformation
  have : (name == "XZZX") = false := by simpa using h
  cases Axis.ofString? (axis.getD dflt) <;> simp [this]

theorem getDeformation_bad_axis (dflt name : String) {s : String} (h : Axis.ofString? s = none)
    (loc : Coord) : getDeformation dflt name (some s) loc = none := by
  unfold getDeformation
  simp [h]

theorem getDeformation_isPerm {dflt name : String} {axis : Option String} {loc : Coord}
    {m : PauliMap} (h : getDeformation dflt name axis loc = some m) : m.isPerm = true := by
  unfold getDeformation at h
  cases h1 : Axis.ofString? (axis.getD dflt) with
  | none => simp [h1] at h
  | some ax =>
    simp only [h1] at h
    by_cases hn : (name == "XZZX") = true
    · simp only [hn, if_true] at h
      cases h2 : qubitAxis loc with
      | none => simp [h2] at h
      | some a =>
        simp only [h2, Option.some.injEq] at h
        subst h
        by_cases hax : a = ax <;> simp [hax] <;> decide
    · simp [hn] at h

theorem qubitAxis_x {x y z : Int} (hx : x % 2 = 1) (hy : y % 2 = 0) (hz : z % 2 = 0) :
    qubitAxis [x, y, z] = some Axis.x := by simp [qubitAxis, hx, hy, hz]
theorem qubitAxis_y {x y z : Int} (hx : x % 2 = 0) (hy : y % 2 = 1) (hz : z % 2 = 0) :
    qubitAxis [x, y, z] = some Axis.y := by simp [qubitAxis, hx, hy, hz]
theorem qubitAxis_z {x y z : Int} (hx : x % 2 = 0) (hy : y % 2 = 0) (hz : z % 2 = 1) :
    qubitAxis [x, y, z] = some Axis.z := by simp [qubitAxis, hx, hy, hz]

theorem qubitAxis_of_parity {x y z : Int}
    (h : (x % 2 = 1 ∧ y % 2 = 0 ∧ z % 2 = 0) ∨ (x % 2 = 0 ∧ y % 2 = 1 ∧ z % 2 = 0) ∨
      (x % 2 = 0 ∧ y % 2 = 0 ∧ z % 2 = 1)) :
    qubitAxis [x, y, z] =
      some (if x % 2 = 1 then Axis.x else if y % 2 = 1 then Axis.y else Axis.z) := by
  rcases h with ⟨h1, h2, h3⟩ | ⟨h1, h2, h3⟩ | ⟨h1, h2, h3⟩
  · rw [qubitAxis_x h1 h2 h3, if_pos h1]
  · rw [qubitAxis_y h1 h2 h3, if_neg (by omega), if_pos h2]
  · rw [qubitAxis_z h1 h2 h3, if_neg (by omega), if_neg (by omega)]

/-! ### overlap of filtered key lists (open boundaries: candidates that are not qubits are dropped) -/

theorem ov_filter_both {cV cF : List Coord} (isq : Coord → Bool)
    (h : ∀ q ∈ cV, q ∈ cF → isq q = true) : ov (cV.filter isq) (cF.filter isq) = ov cV cF := by
  unfold ov
  rw [List.countP_filter]
  apply List.countP_congr
  intro q hq
  simp only [List.mem_filter, Bool.and_eq_true, decide_eq_true_eq]
  constructor
  · rintro ⟨⟨h1, _⟩, _⟩; exact h1
  · intro h1; exact ⟨⟨h1, h q hq h1⟩, h q hq h1⟩

theorem ov_filter_left {c K : List Coord} (isq : Coord → Bool) (h : ∀ q ∈ K, isq q = true) :
    ov (c.filter isq) K = ov c K := by
  have := ov_filter_both (cV := c) (cF := K) isq fun q _ hq => h q hq
  rwa [List.filter_eq_self.mpr h] at this

end Panqec.Cubic3D
