/-
RhombicToricCode, all even sizes, C17: the translates are sets of qubits with pairwise
disjoint supports (`lower_bound`, through `Lattice.lower_bound_of_reps`), the listed logicals have weights
`2·Ly·Lz, 2·Lx·Lz, 2·Lx·Ly` (X sheets) and `Lx, Ly, Lz` (Z lines of parallel edges)
(`reported_distance`).
-/
import PanqecVerif.Proofs.DistRhombicToricCodeParity
import PanqecVerif.Proofs.LatRhombicToricCodeWF

namespace Panqec.RhombicToricCode
open Panqec.Lat3Db Panqec.Rhombic
open Panqec.XCubeCode (Placed Dir tX)
open Panqec.Lat2D (plane2 mem_plane2 nodup_plane2 length_plane2)

variable {Lx Ly Lz : Nat}

/-- the edges of a lattice plane, for an injective placement `f` of the in-plane coordinates -/
theorem nodup_planeEdges (A B : Nat) (f : Int → Int → Coord)
    (hf : ∀ a b a' b', f a b = f a' b' → a = a' ∧ b = b') :
    (plane2 A B (fun j k => f (2 * (j : Int) + 1) (2 * (k : Int))) ++
      plane2 A B (fun j k => f (2 * (j : Int)) (2 * (k : Int) + 1))).Nodup := by
  rw [List.nodup_append]
  refine ⟨nodup_plane2 _ _ _ (fun j k j' k' h => ?_), nodup_plane2 _ _ _ (fun j k j' k' h => ?_), ?_⟩
  · have := hf _ _ _ _ h; omega
  · have := hf _ _ _ _ h; omega
  · intro a ha c hc e
    subst e
    obtain ⟨j, k, _, _, rfl⟩ := mem_plane2.mp ha
    obtain ⟨j', k', _, _, e⟩ := mem_plane2.mp hc
    have := hf _ _ _ _ e; omega

/-- the double loop of a sheet writes the edges of its plane: `a + b` odd means one of them odd -/
theorem sheetLocs_perm (A B : Nat) (f : Int → Int → Coord)
    (hf : ∀ a b a' b', f a b = f a' b' → a = a' ∧ b = b') :
    (sheetLocs (2 * A) (2 * B) f).Perm
      (plane2 A B (fun j k => f (2 * (j : Int) + 1) (2 * (k : Int))) ++
        plane2 A B (fun j k => f (2 * (j : Int)) (2 * (k : Int) + 1))) := by
  rw [List.perm_ext_iff_of_nodup (nodup_sheetLocs _ _ f hf) (nodup_planeEdges A B f hf)]
  intro c
  simp only [mem_sheetLocs, List.mem_append, mem_plane2]
  constructor
  · rintro ⟨a, b, ha, hb, hab, rfl⟩
    by_cases h : a % 2 = 1
    · exact Or.inl ⟨(a / 2).toNat, (b / 2).toNat, by omega, by omega,
        congrArg₂ f (by omega) (by omega)⟩
    · exact Or.inr ⟨(a / 2).toNat, (b / 2).toNat, by omega, by omega,
        congrArg₂ f (by omega) (by omega)⟩
  · rintro (⟨j, k, hj, hk, rfl⟩ | ⟨j, k, hj, hk, rfl⟩)
    · exact ⟨_, _, by omega, by omega, by omega, rfl⟩
    · exact ⟨_, _, by omega, by omega, by omega, rfl⟩

theorem sheetX_perm (Ly Lz : Nat) : (sheetX Ly Lz).Perm (tSheetX Ly Lz 0) :=
  sheetLocs_perm Ly Lz (fun y z => [0, y, z]) (fun a b a' b' h => by simpa using h)

theorem sheetY_perm (Lx Lz : Nat) : (sheetY Lx Lz).Perm (tSheet Lx Lz (fun n u w => [u, n, w]) 0) :=
  sheetLocs_perm Lx Lz (fun x z => [x, 0, z]) (fun a b a' b' h => by simpa using h)

theorem sheetZ_perm (Lx Ly : Nat) : (sheetZ Lx Ly).Perm (tSheet Lx Ly (fun n u w => [u, w, n]) 0) :=
  sheetLocs_perm Lx Ly (fun x y => [x, y, 0]) (fun a b a' b' h => by simpa using h)

theorem mem_planeEdges {A B : Nat} {f g : Nat → Nat → Coord} {q : Coord}
    (h : q ∈ plane2 A B f ++ plane2 A B g) : ∃ j k, j < A ∧ k < B ∧ (q = f j k ∨ q = g j k) := by
  rcases List.mem_append.mp h with h | h <;> obtain ⟨j, k, hj, hk, e⟩ := mem_plane2.mp h
  · exact ⟨j, k, hj, hk, Or.inl e⟩
  · exact ⟨j, k, hj, hk, Or.inr e⟩

section dir
variable {e : Int → Int → Int → Coord} {Ln Lu Lw : Nat} (hd : Dir Lx Ly Lz e Ln Lu Lw)
include hd

theorem tSheet_nodup (i : Nat) : (tSheet Lu Lw e i).Nodup :=
  nodup_planeEdges Lu Lw (e (2 * (i : Int))) fun _ _ _ _ h =>
    ⟨(hd.placed.inj h).2.1, (hd.placed.inj h).2.2⟩

theorem tSheet_sub {i : Nat} (hi : i < Ln) : ∀ q ∈ tSheet Lu Lw e i, q ∈ qubits Lx Ly Lz := by
  intro q hq
  obtain ⟨j, k, hj, hk, rfl | rfl⟩ := mem_planeEdges hq
  -- `Placed.qubit` wants the odd coordinate first: the edge along `u`, then the edge along `w`
  · exact hd.placed.swap.flip.swap.qubit (by unfold R1; omega) (by unfold R0; omega)
      (by unfold R0; omega)
  · exact hd.placed.flip.swap.qubit (by unfold R1; omega) (by unfold R0; omega)
      (by unfold R0; omega)

theorem tSheet_disj {i i' : Nat} (h : i < i') :
    ∀ q ∈ tSheet Lu Lw e i, q ∉ tSheet Lu Lw e i' := by
  intro q hq hq'
  obtain ⟨j, k, _, _, e1⟩ := mem_planeEdges hq
  obtain ⟨j', k', _, _, e2⟩ := mem_planeEdges hq'
  rcases e1 with rfl | rfl <;> rcases e2 with e2 | e2 <;> have := (hd.placed.inj e2).1 <;> omega

theorem packed_sheet (hb : ∀ b, CommStabs Lx Ly Lz b → ∀ i, i < Ln →
      (tSheet Lu Lw e i).countP (opHit Pauli.X b) % 2 =
        (tSheet Lu Lw e 0).countP (opHit Pauli.X b) % 2) {K : List Coord} {m : Nat} (hm : m ≤ Ln)
    (hK : K.Perm (tSheet Lu Lw e 0)) : (lattice Lx Ly Lz).Packed m (constOp K Pauli.X) :=
  .of_family Pauli.X (tSheet Lu Lw e) hm (fun i hi => ⟨tSheet_nodup hd i, tSheet_sub hd hi,
    fun b hb' => by rw [opAntiCount_constOp_hit, hK.countP_eq]; exact hb b hb' i hi⟩)
    fun _ _ h _ => tSheet_disj hd h

end dir

/-- every non-trivial logical operator of the `Lx × Ly × Lz` rhombic toric code (even sizes) has
    weight `≥ min Lx (min Ly Lz)` -/
theorem lower_bound (hx : 2 ≤ Lx) (hy : 2 ≤ Ly) (hz : 2 ≤ Lz) (hex : Lx % 2 = 0) (hey : Ly % 2 = 0)
    (hez : Lz % 2 = 0) (hwf : (lattice Lx Ly Lz).WF) {n k : Nat}
    (hn : (qubits Lx Ly Lz).length = n)
    (hv : ValidCodeL n k (lattice Lx Ly Lz).rowsH (lattice Lx Ly Lz).rowsX
      (lattice Lx Ly Lz).rowsZ) :
    ∀ v, IsNontrivialLogical n (lattice Lx Ly Lz).rowsH v →
      min Lx (min Ly Lz) ≤ pauliWeight v := by
  apply Lattice.lower_bound_of_reps (lattice Lx Ly Lz) hwf hn hv
  intro a ha
  change a ∈ logX Lx Ly Lz ++ logZ Lx Ly Lz at ha
  rw [logX_eq, logZ_eq] at ha
  simp only [List.cons_append, List.nil_append, List.mem_cons, List.not_mem_nil, or_false] at ha
  have z0 : ∀ L : Nat, 2 ≤ L → R0 (2 * L) 0 := fun L h => by unfold R0; omega
  rcases ha with rfl | rfl | rfl | rfl | rfl | rfl
  · exact packed_sheet Dir.x (fun b hb => parity_sheet hb Dir.x hx hy hz hey hez) (by omega)
      (sheetX_perm Ly Lz)
  · exact packed_sheet Dir.y (fun b hb => parity_sheet hb Dir.y hy hx hz hex hez) (by omega)
      (sheetY_perm Lx Lz)
  · exact packed_sheet Dir.z (fun b hb => parity_sheet hb Dir.z hz hx hy hex hey) (by omega)
      (sheetZ_perm Lx Ly)
  · exact Placed.yzx.packed_tX rfl Pauli.Z (by omega) (z0 Lz hz) fun b hb => parity_Z0 hb (by omega)
  · exact Placed.xzy.packed_tX rfl Pauli.Z (by omega) (z0 Lz hz) fun b hb => parity_Z1 hb (by omega)
  · exact Placed.yxz.packed_tX rfl Pauli.Z (by omega) (z0 Lx hx) fun b hb => parity_Z2 hb (by omega)

theorem length_planeEdges (A B : Nat) (f g : Nat → Nat → Coord) :
    (plane2 A B f ++ plane2 A B g).length = 2 * (A * B) := by
  rw [List.length_append, length_plane2, length_plane2]; omega

/-- the weights of the rows of `logicals_x` are `[2·Ly·Lz, 2·Lx·Lz, 2·Lx·Ly]` (sheets), of
    `logicals_z` `[Lx, Ly, Lz]` (lines of parallel edges) -/
theorem weights_listed (hwf : (lattice Lx Ly Lz).WF) :
    (lattice Lx Ly Lz).rowsX.map pauliWeight = [2 * (Ly * Lz), 2 * (Lx * Lz), 2 * (Lx * Ly)] ∧
    (lattice Lx Ly Lz).rowsZ.map pauliWeight = [Lx, Ly, Lz] := by
  rw [hwf.weights.1, hwf.weights.2]
  change (logX Lx Ly Lz).map List.length = _ ∧ (logZ Lx Ly Lz).map List.length = _
  rw [logX_eq, logZ_eq]
  simp only [List.map_cons, List.map_nil]
  simp only [length_constOp, (sheetX_perm Ly Lz).length_eq, (sheetY_perm Lx Lz).length_eq,
    (sheetZ_perm Lx Ly).length_eq, tSheetX, tSheet, length_planeEdges, lineX, lineY,
    lineZ, List.length_map, length_pyRange2_even]
  exact ⟨trivial, trivial⟩

/-- `code.d` (minimum weight of the listed logicals) is `min Lx (min Ly Lz)` -/
theorem reported_distance (hLx : 1 ≤ Lx) (hLy : 1 ≤ Ly) (hLz : 1 ≤ Lz)
    (hwf : (lattice Lx Ly Lz).WF) :
    distance (lattice Lx Ly Lz).rowsX (lattice Lx Ly Lz).rowsZ = some (min Lx (min Ly Lz)) := by
  rw [distance_of_weights (weights_listed hwf).1 (weights_listed hwf).2 rfl rfl]
  simp only [List.foldl_cons, List.foldl_nil]
  congr 1
  have a1 : Ly ≤ Ly * Lz := Nat.le_mul_of_pos_right _ (by omega)
  have a2 : Lx ≤ Lx * Lz := Nat.le_mul_of_pos_right _ (by omega)
  have a3 : Lx ≤ Lx * Ly := Nat.le_mul_of_pos_right _ (by omega)
  generalize Ly * Lz = p at *
  generalize Lx * Lz = q at *
  generalize Lx * Ly = r at *
  omega

end Panqec.RhombicToricCode
