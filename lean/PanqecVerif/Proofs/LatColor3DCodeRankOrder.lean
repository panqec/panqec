/-
Color3DCode, rank clause, Z-type part: the witness qubit and the rank of a selected cell, and the
triangular property (`Proofs/LatCubic3DRank.lean`, `opsIndep_of_letters`): every other selected
cell acting on the witness of `s` has smaller rank.

The cells are the vertices of the body-centred cubic lattice, the qubits its tetrahedra (two cells at
distance 4 along one axis, two at distance 4 along a second axis, the two pairs 2 apart along the
third).  Order:
* the LINE `x ∈ {4, 6, 8}`, `z ∈ {2, 4, 6}` (cells `(6, y, 2)`, `(6, y, 6)`, `(4, y, 4)`, `(8, y, 4)`),
  by increasing `y`: a cell `(6, y, 2)` / `(6, y, 6)` uses the tetrahedron below / above the two cells
  `(4, y−2, 4)`, `(8, y−2, 4)`; a cell `(4, y, 4)` / `(8, y, 4)` the tetrahedron it shares with
  `(6, y−2, 2)`, `(6, y−2, 6)`; the first cell `(8, 4, 4)` the tetrahedron of the three left-out cells;
* then the SLAB `z ∈ {2, 4, 6}` by increasing `x` (the column `x = 2` last): the tetrahedron towards
  smaller `x` in the plane `z = 3` / `z = 5`;
* then the layers `z ≥ 8` by increasing `z`: the tetrahedron `(x−1, y, z−2)`, whose other three cells
  lie in the two layers below.
The triangular property is proved per class of selected cells.
-/
import PanqecVerif.Proofs.LatColor3DCodeRankHits

namespace Panqec.Color3DCode
open Panqec.Lat2D Panqec.Color

/-- the cells of the starting line -/
def InLine (x z : Int) : Prop := (x = 6 ∧ (z = 2 ∨ z = 6)) ∨ ((x = 4 ∨ x = 8) ∧ z = 4)

instance (x z : Int) : Decidable (InLine x z) := by unfold InLine; infer_instance

/-- the stage offset of the rank -/
def rkB (Lx Ly Lz : Nat) : Nat := 4 * (Lx + Ly + Lz) + 16

/-- line by `y`, then (offset `rkB`) slab by `x` with the column `x = 2` last, then layers by `z` -/
def rk (Lx Ly Lz : Nat) (x y z : Int) : Nat :=
  if 8 ≤ z then 2 * rkB Lx Ly Lz + z.toNat
  else if InLine x z then y.toNat
  else rkB Lx Ly Lz + (if x = 2 then 4 * Lx + 2 else x.toNat)

/-- a coordinate `4L` of a cell is the qubit coordinate `0` -/
def wr (L : Nat) (v : Int) : Int := if v = 4 * (L : Int) then 0 else v

/-- the tetrahedra of the three stages of the header, in qubit coordinates -/
def wit (Ly : Nat) (x y z : Int) : Coord :=
  if 8 ≤ z then [x - 1, wr Ly y, z - 2]
  else if z = 4 then
    (if x = 4 then [5, y - 2, 4]
     else if x = 8 then (if y = 4 then [6, 3, 4] else [7, y - 2, 4])
     else [x - 2, wr Ly y, 3])
  else if x = 6 then [6, y - 2, (z + 4) / 2]
  else [x - 2, y, (z + 4) / 2]

def cellRank (Lx Ly Lz : Nat) : Coord → Nat
  | [x, y, z] => rk Lx Ly Lz x y z
  | _ => 0

def cellWit (Ly : Nat) : Coord → Coord
  | [x, y, z] => wit Ly x y z
  | _ => []

theorem rk_bulk {Lx Ly Lz : Nat} {x y z : Int} (h : 8 ≤ z) :
    rk Lx Ly Lz x y z = 2 * rkB Lx Ly Lz + z.toNat := by
  unfold rk; rw [if_pos h]

theorem rk_line {Lx Ly Lz : Nat} {x y z : Int} (h : z < 8) (hl : InLine x z) :
    rk Lx Ly Lz x y z = y.toNat := by
  unfold rk; rw [if_neg (by omega), if_pos hl]

theorem rk_slab {Lx Ly Lz : Nat} {x y z : Int} (h : z < 8) (hl : ¬ InLine x z) (h2 : x ≠ 2) :
    rk Lx Ly Lz x y z = rkB Lx Ly Lz + x.toNat := by
  unfold rk; rw [if_neg (by omega), if_neg hl, if_neg h2]

theorem rk_slab2 {Lx Ly Lz : Nat} {y z : Int} (h : z < 8) :
    rk Lx Ly Lz 2 y z = rkB Lx Ly Lz + (4 * Lx + 2) := by
  unfold rk
  have hl : ¬ InLine 2 z := by unfold InLine; omega
  rw [if_neg (by omega), if_neg hl, if_pos rfl]

/-- below the layers `z ≥ 8` the rank is at most the slab rank of the column -/
theorem rk_le {Lx Ly Lz : Nat} {x y z : Int} (r : CellR Lx Ly Lz x y z) (h : z < 8) (h2 : x ≠ 2) :
    rk Lx Ly Lz x y z ≤ rkB Lx Ly Lz + x.toNat := by
  unfold CellR at r
  by_cases hl : InLine x z
  · rw [rk_line h hl]; unfold rkB; omega
  · rw [rk_slab h hl h2]; exact Nat.le_refl _

theorem rk_lt_bulk {Lx Ly Lz : Nat} {x y z : Int} (r : CellR Lx Ly Lz x y z) (h : z < 8) :
    rk Lx Ly Lz x y z < 2 * rkB Lx Ly Lz := by
  unfold CellR at r
  by_cases h2 : x = 2
  · subst h2; rw [rk_slab2 h]; unfold rkB; omega
  · have := rk_le r h h2; unfold rkB at *; omega

theorem rk_line_lt {Lx Ly Lz : Nat} {x y z tx ty tz : Int} (hl : InLine x z) (hlt : InLine tx tz)
    (h0 : 0 ≤ ty) (h : ty < y) : rk Lx Ly Lz tx ty tz < rk Lx Ly Lz x y z := by
  rw [rk_line (by unfold InLine at hlt; omega) hlt, rk_line (by unfold InLine at hl; omega) hl]
  omega

theorem wr_cases (L : Nat) (v : Int) :
    (wr L v = v ∧ v ≠ 4 * (L : Int)) ∨ (wr L v = 0 ∧ v = 4 * (L : Int)) := by
  unfold wr
  by_cases h : v = 4 * (L : Int)
  · rw [if_pos h]; exact Or.inr ⟨rfl, h⟩
  · rw [if_neg h]; exact Or.inl ⟨rfl, h⟩

theorem wr_range {L : Nat} {v : Int} (h0 : 2 ≤ v) (h1 : v ≤ 4 * (L : Int)) :
    0 ≤ wr L v ∧ wr L v < 4 * (L : Int) := by
  unfold wr; by_cases h : v = 4 * (L : Int)
  · rw [if_pos h]; omega
  · rw [if_neg h]; omega

theorem wr_sub {L : Nat} {v : Int} : wr L v - v = 0 ∨ wr L v - v = -(4 * (L : Int)) := by
  unfold wr; by_cases h : v = 4 * (L : Int)
  · rw [if_pos h]; omega
  · rw [if_neg h]; omega

section
variable {Lx Ly Lz : Nat} {x y z : Int}

theorem wit_bulk (h : 8 ≤ z) : wit Ly x y z = [x - 1, wr Ly y, z - 2] := by
  unfold wit; rw [if_pos h]

theorem wit_slabA (h : z = 2 ∨ z = 6) (hx : x ≠ 6) :
    wit Ly x y z = [x - 2, y, (z + 4) / 2] := by
  unfold wit; rw [if_neg (by omega), if_neg (by omega), if_neg hx]

theorem wit_lineA (h : z = 2 ∨ z = 6) : wit Ly 6 y z = [6, y - 2, (z + 4) / 2] := by
  unfold wit; rw [if_neg (by omega), if_neg (by omega), if_pos rfl]

theorem wit_slabB (hx : 12 ≤ x) : wit Ly x y 4 = [x - 2, wr Ly y, 3] := by
  unfold wit
  rw [if_neg (by omega), if_pos rfl, if_neg (by omega), if_neg (by omega)]

theorem wit_lineB4 : wit Ly 4 y 4 = [5, y - 2, 4] := by
  unfold wit; rw [if_neg (by omega), if_pos rfl, if_pos rfl]

theorem wit_lineB8 (hy : y ≠ 4) : wit Ly 8 y 4 = [7, y - 2, 4] := by
  unfold wit
  rw [if_neg (by omega), if_pos rfl, if_neg (by omega), if_pos rfl, if_neg hy]

theorem wit_first : wit Ly 8 4 4 = [6, 3, 4] := by
  unfold wit
  rw [if_neg (by omega), if_pos rfl, if_neg (by omega), if_pos rfl, if_pos rfl]

end

section tri
variable {Lx Ly Lz : Nat} {x y z tx ty tz : Int}

theorem tri_bulk (hs : IsC Lx Ly Lz x y z) (hz8 : 8 ≤ z) (ht : IsC Lx Ly Lz tx ty tz)
    (hq : [x - 1, wr Ly y, z - 2] ∈ keys Lx Ly Lz tx ty tz) :
    (tx = x ∧ ty = y ∧ tz = z) ∨ rk Lx Ly Lz tx ty tz < rk Lx Ly Lz x y z := by
  obtain ⟨sx0, -, sy0, sy1, -, sz1, spx, srx, sry⟩ := hs.cellR
  have rt := ht.cellR
  obtain ⟨-, x1, y0, y1, -, z1, -, rx, -⟩ := ht.cellR
  have hw := wr_cases Ly y
  generalize wr Ly y = b at hq hw
  have hb2 : b % 2 = 0 := by omega
  obtain ⟨g1, g2⟩ := geo_xodd ht (by omega) hb2 hq
  clear hq hs ht hb2 spx
  have G : (tx = x ∧ ty = y ∧ tz = z) ∨ tz < z := by
    rcases g2 with ⟨m, hy, hz⟩ | ⟨-, hz, -⟩
    · by_cases e3 : tz = z
      · have e1 : tx = x := by clear hw hy hz; omega
        have e2 : ty = y := by clear g1 hz; omega
        exact Or.inl ⟨e1, e2, e3⟩
      · clear hw hy g1
        exact Or.inr (by omega)
    · clear hw g1
      exact Or.inr (by omega)
  clear g1 g2 hw
  rcases G with hself | hlt
  · exact Or.inl hself
  · right
    rw [rk_bulk hz8]
    by_cases h8 : 8 ≤ tz
    · rw [rk_bulk h8]; omega
    · have := rk_lt_bulk rt (by omega); omega

/-- slab, cells `(x, y, 2)` and `(x, y, 6)` with `x ≠ 6` (`c = 3` resp. `c = 5`): on the witness
    lie a cell of the layer `z = 4` in the column `x − 2`, or the cell of the same layer in the
    column `x − 4`, one period up when `x = 2` -/
theorem tri_slabA (hs : IsC Lx Ly Lz x y z) (hx6 : x ≠ 6)
    (ht : IsC Lx Ly Lz tx ty tz) {c : Int} (hc : (z = 2 ∧ c = 3) ∨ (z = 6 ∧ c = 5))
    (hq : [x - 2, y, c] ∈ keys Lx Ly Lz tx ty tz) :
    (tx = x ∧ ty = y ∧ tz = z) ∨ rk Lx Ly Lz tx ty tz < rk Lx Ly Lz x y z := by
  obtain ⟨sx0, -, sy0, -, -, sz1, spx, srx, sry⟩ := hs.cellR
  have rt := ht.cellR
  obtain ⟨x0, x1, -, y1, -, -, -, -, -⟩ := ht.cellR
  have hx4 : x % 4 = 2 := by omega
  have hz8 : z < 8 := by omega
  have hnl : ¬ InLine x z := by unfold InLine; omega
  obtain ⟨g1, g2⟩ := geo_zodd ht (by omega) (by omega) (by omega) (by omega) hq
  have hz' : tz = 4 ∨ tz = z := by clear g2; omega
  clear hq hs ht g1 hc sz1 srx sry
  have G : (tx = x ∧ ty = y ∧ tz = z) ∨ (tx ≠ 2 ∧ (tx < x ∨ x = 2)) := by
    rcases g2 with ⟨-, hx', -⟩ | ⟨m, hy', hx'⟩
    · clear hz'
      exact Or.inr (by omega)
    · have e3 : tz = z := by clear hx' hy'; omega
      have e2 : ty = y := by clear hx' hz'; omega
      by_cases hxx : tx = x
      · exact Or.inl ⟨hxx, e2, e3⟩
      · clear hy' hz'
        exact Or.inr (by omega)
  rcases G with hself | ⟨ht2, hlt⟩
  · exact Or.inl hself
  · right
    have hle := rk_le rt (by omega) ht2
    clear hz'
    by_cases hx2 : x = 2
    · subst hx2
      rw [rk_slab2 hz8]
      omega
    · rw [rk_slab hz8 hnl hx2]
      omega

theorem tri_slabB (hs : IsC Lx Ly Lz x y 4) (hx : 12 ≤ x) (ht : IsC Lx Ly Lz tx ty tz)
    (hq : [x - 2, wr Ly y, 3] ∈ keys Lx Ly Lz tx ty tz) :
    (tx = x ∧ ty = y ∧ tz = 4) ∨ rk Lx Ly Lz tx ty tz < rk Lx Ly Lz x y 4 := by
  obtain ⟨-, -, sy0, sy1, -, sz1, -, srx, -⟩ := hs.cellR
  have rt := ht.cellR
  obtain ⟨-, x1, y0, y1, -, -, -, -, -⟩ := ht.cellR
  have hw := wr_cases Ly y
  generalize wr Ly y = b at hq hw
  obtain ⟨g1, g2⟩ := geo_zodd ht (by omega) (by omega) (by omega) (by omega) hq
  have hnl : ¬ InLine x 4 := by unfold InLine; omega
  clear hq hs ht sz1
  have G : (tx = x ∧ ty = y ∧ tz = 4) ∨ (tx ≠ 2 ∧ tx < x) := by
    rcases g2 with ⟨-, hx', -⟩ | ⟨m, hy', hx'⟩
    · clear hw g1
      exact Or.inr (by omega)
    · have e3 : tz = 4 := by clear hw hy' hx'; omega
      have e2 : ty = y := by clear g1 hx'; omega
      clear hy' hw g1 m
      by_cases hxx : tx = x
      · exact Or.inl ⟨hxx, e2, e3⟩
      · exact Or.inr (by omega)
  clear hw g2
  rcases G with hself | ⟨ht2, hlt⟩
  · exact Or.inl hself
  · right
    have hle := rk_le rt (by omega) ht2
    rw [rk_slab (by omega) hnl (by omega)]
    omega

/-- line, cells `(6, y, 2)` and `(6, y, 6)` with `y ≥ 6`: the witness is far from the seam -/
theorem tri_lineA (hy : 6 ≤ y)
    (ht : IsC Lx Ly Lz tx ty tz) {c : Int} (hc : (z = 2 ∧ c = 3) ∨ (z = 6 ∧ c = 5))
    (hq : [6, y - 2, c] ∈ keys Lx Ly Lz tx ty tz) :
    (tx = 6 ∧ ty = y ∧ tz = z) ∨ rk Lx Ly Lz tx ty tz < rk Lx Ly Lz 6 y z := by
  have hd := cell_hit_inner ht hq (by omega) (by omega) (by omega)
  obtain ⟨-, -, y0, -, -, -, px, rx, -⟩ := ht.cellR
  have hb := hd.bd
  have hd3 : c - tz = 1 ∨ c - tz = -1 := by omega
  have hl : InLine 6 z := by unfold InLine; omega
  clear hq ht hb
  rcases hd.of3 hd3 with ⟨e1, e2⟩ | ⟨e2, e1⟩
  · -- the column `x = 6`: the layer of the cell itself
    have e3 : tz = z := by clear e2; omega
    clear hd3 hc
    rcases e2 with e2 | e2
    · exact Or.inr (rk_line_lt hl (by rw [e3, show tx = 6 by omega]; exact hl) (by omega) (by omega))
    · exact Or.inl ⟨by omega, by omega, e3⟩
  · -- the row `y − 2`: the cells `(4, y − 2, 4)`, `(8, y − 2, 4)`
    have e3 : tz = 4 := by omega
    clear hd3 hc
    exact Or.inr (rk_line_lt hl (Or.inr ⟨by omega, e3⟩) (by omega) (by omega))

/-- line, cells `(4, y, 4)` and `(8, y, 4)` with `y ≥ 8`: `a = 5` resp. `a = 7` -/
theorem tri_lineB (hs : IsC Lx Ly Lz x y 4) (hy : 8 ≤ y)
    (ht : IsC Lx Ly Lz tx ty tz) {a : Int} (ha : (x = 4 ∧ a = 5) ∨ (x = 8 ∧ a = 7))
    (hq : [a, y - 2, 4] ∈ keys Lx Ly Lz tx ty tz) :
    (tx = x ∧ ty = y ∧ tz = 4) ∨ rk Lx Ly Lz tx ty tz < rk Lx Ly Lz x y 4 := by
  have hd := cell_hit_inner ht hq (by omega) (by omega) (by omega)
  have sry : y % 4 = 4 % 4 := hs.cellR.2.2.2.2.2.2.2.2
  obtain ⟨-, -, y0, -, -, -, px, rx, ry⟩ := ht.cellR
  have hb := hd.bd
  have hd1 : a - tx = 1 ∨ a - tx = -1 := by omega
  have hl : InLine x 4 := by unfold InLine; omega
  clear hq hs ht hb
  rcases hd.of1 hd1 with ⟨e2, e3⟩ | ⟨e3, e2⟩
  · -- the row `y − 2`: the cells `(6, y − 2, 2)`, `(6, y − 2, 6)`
    have e1 : tx = 6 := by clear e3; omega
    clear hd1 ha
    exact Or.inr (rk_line_lt hl (Or.inl ⟨e1, by omega⟩) (by omega) (by omega))
  · -- the layer `z = 4`: the column of the cell itself
    have e1 : tx = x := by clear e2; omega
    have e3 : tz = 4 := by omega
    clear hd1 ha
    rcases e2 with e2 | e2
    · exact Or.inr (rk_line_lt hl (by rw [e1, e3]; exact hl) (by omega) (by omega))
    · exact Or.inl ⟨e1, by omega, e3⟩

/-- the first cell `(8, 4, 4)`: the other three cells of its tetrahedron are left out -/
theorem tri_first (ht : IsK Lx Ly Lz tx ty tz) (hq : [6, 3, 4] ∈ keys Lx Ly Lz tx ty tz) :
    tx = 8 ∧ ty = 4 ∧ tz = 4 := by
  have hd := cell_hit_inner ht.1 hq (by omega) (by omega) (by omega)
  obtain ⟨-, -, -, -, -, -, px, rx, ry⟩ := ht.1.cellR
  obtain ⟨-, k1, k2, k3⟩ := ht
  have hb := hd.bd
  have hd2 : 3 - ty = 1 ∨ 3 - ty = -1 := by omega
  clear hq hb
  rcases hd.of2 hd2 with ⟨e1, e3⟩ | ⟨e3, e1⟩
  · -- `(6, 2, 2)` and `(6, 2, 6)`
    exfalso
    have e2 : ty = 2 := by clear e3 k1 k2 k3; omega
    clear hd2 k3
    omega
  · -- `(4, 4, 4)` and `(8, 4, 4)`
    have e2 : ty = 4 := by clear e1 k1 k2 k3; omega
    clear hd2 k1 k2
    omega

end tri

end Panqec.Color3DCode
