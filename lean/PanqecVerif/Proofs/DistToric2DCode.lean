/-
Toric2DCode, all sizes, C17: the lattice translates of the four listed logical operators, the
parity argument, the packing bound (`lower_bound`, through `Lattice.lower_bound_of_reps`) and the
weights `Lx, Ly, Ly, Lx` of the listed logicals (`reported_distance`).

A dict operator `b` that commutes with every stabilizer generator anticommutes (mod 2) with
every translate of a listed logical line on as many qubits as with the line itself: two
consecutive translates differ by the product of the row / column of vertex (Z lines) or face
(X lines) generators between them, the qubits across being counted twice (cyclically shifted).

The two kinds of line are told apart by the parity `c` of the positions along the line: `c = 0`
for the Z lines (odd line coordinate, vertices between the translates), `c = 1` for the X lines
(even line coordinate, faces between them).
-/
import PanqecVerif.Proofs.DistLines
import PanqecVerif.Proofs.LatToric2DCodeCss

namespace Panqec.Toric2DCode
open Panqec.Lat2D

/-- the cyclic successors of the positions `2j + c` of one parity are the positions of the other
    parity, and so are the predecessors: sums over them agree -/
theorem rsum_across (c : Nat) (hc : c ≤ 1) (L : Nat) (g : Int → Nat) :
    rsum L (fun j => g (succW (2 * j + c) (2 * L))) =
      rsum L (fun j => g (predW (2 * j + c) (2 * L))) := by
  obtain rfl | rfl : c = 0 ∨ c = 1 := by omega
  · rw [← rsum_predWrap (fun j => g (succW (2 * j + (0 : Nat)) (2 * L))) L]
    apply rsum_congr
    intro j hj
    show g _ = g _
    congr 1
    unfold predW succW
    split <;> split <;> split <;> omega
  · rw [← rsum_succWrap (fun j => g (predW (2 * j + (1 : Nat)) (2 * L))) L]
    apply rsum_congr
    intro j hj
    show g _ = g _
    congr 1
    unfold predW succW
    split <;> split <;> split <;> omega

/-- the ladder in lattice coordinates (`u` = moving coordinate, `w` = along the line): lines at
    `u = 2i + 1 - c`, positions `w = 2j + c`; the constraint at `(2i + 2 - c, 2j + c)` involves its
    two neighbours on the lines and its two cyclic neighbours across -/
theorem ladder_torus (c : Nat) (hc : c ≤ 1) (M L : Nat) (F : Int → Int → Nat)
    (hstab : ∀ i j : Nat, i + 1 < M → j < L →
      (F (2 * i + 1 - c) (2 * j + c) + F (2 * i + 3 - c) (2 * j + c)
        + F (2 * i + 2 - c) (predW (2 * j + c) (2 * L))
        + F (2 * i + 2 - c) (succW (2 * j + c) (2 * L))) % 2 = 0) :
    ∀ i : Nat, i < M →
      rsum L (fun j => F (2 * i + 1 - c) (2 * j + c)) % 2 =
        rsum L (fun j => F (1 - c) (2 * j + c)) % 2 := by
  intro i hi
  have h := ladder L M (fun i j => F (2 * i + 1 - c) (2 * j + c))
    (fun i j => F (2 * i + 2 - c) (predW (2 * j + c) (2 * L)))
    (fun i j => F (2 * i + 2 - c) (succW (2 * j + c) (2 * L)))
    (fun i _ => rsum_across c hc L _) ?_ i hi
  · simpa using h
  · intro i hi j hj
    have := hstab i j hi hj
    have e : (2 * ((i + 1 : Nat) : Int) + 1 - c) = 2 * (i : Int) + 3 - c := by omega
    simp only [e]
    omega

/-- `b` commutes with every stabilizer generator of the lattice -/
def CommStabs (Lx Ly : Nat) (b : Op) : Prop :=
  ∀ s ∈ (lattice Lx Ly).stabs, opAntiCount ((lattice Lx Ly).getStab s) b % 2 = 0

theorem stab_even {Lx Ly : Nat} (hx : 2 ≤ Lx) (hy : 2 ≤ Ly) {b : Op} (hb : CommStabs Lx Ly b)
    {x y : Int} (hs : [x, y] ∈ stabs Lx Ly) :
    (ind (letter x) b [predW x (2 * (Lx : Int)), y] + ind (letter x) b [succW x (2 * (Lx : Int)), y]
      + ind (letter x) b [x, predW y (2 * (Ly : Int))]
      + ind (letter x) b [x, succW y (2 * (Ly : Int))]) % 2 = 0 := by
  have h := hb [x, y] hs
  rw [getStab_eq hx hy hs, opAntiCount_line] at h
  unfold nbrs at h
  simp only [List.countP_cons, List.countP_nil] at h
  unfold ind
  omega

/-- the generator between two consecutive translates, `u` the coordinate across the lines -/
theorem stab_between {Lu Lw c i j : Nat} (hc : c ≤ 1) (hi : i + 1 < Lu) (hj : j < Lw) :
    0 ≤ 2 * (i : Int) + 2 - c ∧ 2 * (i : Int) + 2 - c < 2 * Lu ∧
      0 ≤ 2 * (j : Int) + c ∧ 2 * (j : Int) + c < 2 * Lw ∧
      (2 * (i : Int) + 2 - c) % 2 = c ∧ (2 * (j : Int) + c) % 2 = c ∧
      predW (2 * (i : Int) + 2 - c) (2 * Lu) = 2 * i + 1 - c ∧
      succW (2 * (i : Int) + 2 - c) (2 * Lu) = 2 * i + 3 - c := by
  unfold predW succW
  rw [if_neg (by omega), if_neg (by omega)]
  omega

variable {Lx Ly : Nat}

/-- vertical line at `x = 1 - c` (`c = 0`: `Z̄₁`, `c = 1`: `X̄₂`): translates at `x = 2i + 1 - c` -/
theorem parity_col (c : Nat) (hc : c ≤ 1) (hx : 2 ≤ Lx) (hy : 2 ≤ Ly) {b : Op}
    (hb : CommStabs Lx Ly b) (i : Nat) (hi : i < Lx) :
    (colKeys (2 * i + 1 - c) c Ly).countP (opHit (letter c) b) % 2 =
      (colKeys (1 - c) c Ly).countP (opHit (letter c) b) % 2 := by
  rw [countP_colKeys, countP_colKeys]
  have h := ladder_torus c hc Lx Ly (fun u w => ind (letter c) b [u, w]) ?_ i hi
  · simpa using h
  · intro i j hi hj
    obtain ⟨h1, h2, h3, h4, p1, p2, e1, e2⟩ := stab_between hc hi hj
    have h := stab_even hx hy hb (mem_stabs_parity hc ⟨h1, h2, h3, h4⟩ p1 p2)
    rw [e1, e2, letter_congr (x := 2 * (i : Int) + 2 - c) (y := c) (by omega)] at h
    exact h

/-- horizontal line at `y = 1 - c` (`c = 0`: `Z̄₂`, `c = 1`: `X̄₁`): translates at `y = 2i + 1 - c` -/
theorem parity_row (c : Nat) (hc : c ≤ 1) (hx : 2 ≤ Lx) (hy : 2 ≤ Ly) {b : Op}
    (hb : CommStabs Lx Ly b) (i : Nat) (hi : i < Ly) :
    (rowKeys (2 * i + 1 - c) c Lx).countP (opHit (letter c) b) % 2 =
      (rowKeys (1 - c) c Lx).countP (opHit (letter c) b) % 2 := by
  rw [countP_rowKeys, countP_rowKeys]
  have h := ladder_torus c hc Ly Lx (fun u w => ind (letter c) b [w, u]) ?_ i hi
  · simpa using h
  · intro i j hi hj
    obtain ⟨h1, h2, h3, h4, p1, p2, e1, e2⟩ := stab_between hc hi hj
    have h := stab_even hx hy hb (mem_stabs_parity hc ⟨h3, h4, h1, h2⟩ p2 p1)
    rw [e1, e2, letter_congr (x := 2 * (j : Int) + c) (y := c) (by omega)] at h
    omega

/-- every non-trivial logical operator of the `Lx × Ly` toric code has weight `≥ min Lx Ly` -/
theorem lower_bound (hx : 2 ≤ Lx) (hy : 2 ≤ Ly)
    (hv : ValidCodeL (2 * Lx * Ly) 2 (lattice Lx Ly).rowsH (lattice Lx Ly).rowsX
      (lattice Lx Ly).rowsZ) :
    ∀ v, IsNontrivialLogical (2 * Lx * Ly) (lattice Lx Ly).rowsH v →
      min Lx Ly ≤ pauliWeight v := by
  apply Lattice.lower_bound_of_reps (lattice Lx Ly) (wf hx hy) (length_qubits Lx Ly) hv
  have col := fun c (hc : c ≤ 1) => Lattice.Packed.of_family _ _ (Nat.min_le_left Lx Ly)
    (fun i hi => .of_parity (nodup_colKeys ..) (colKeys_qubits c hc i hi) fun _ hb =>
      parity_col c hc hx hy hb i hi) fun i i' h _ => by
      simpa [Int.add_sub_assoc] using colKeys_disjoint c Ly (1 - c) i i' h
  have row := fun c (hc : c ≤ 1) => Lattice.Packed.of_family _ _ (Nat.min_le_right Lx Ly)
    (fun i hi => .of_parity (nodup_rowKeys ..) (rowKeys_qubits c hc i hi) fun _ hb =>
      parity_row c hc hx hy hb i hi) fun i i' h _ => by
      simpa [Int.add_sub_assoc] using rowKeys_disjoint c Lx (1 - c) i i' h
  intro a ha
  change a ∈ logX Lx Ly ++ logZ Lx Ly at ha
  rw [logX_eq, logZ_eq] at ha
  simp only [List.cons_append, List.nil_append, List.mem_cons, List.not_mem_nil, or_false] at ha
  rcases ha with rfl | rfl | rfl | rfl
  · rw [kX0_eq]; exact row 1 (by decide)
  · rw [kX1_eq]; exact col 1 (by decide)
  · rw [kZ0_eq]; exact col 0 (by decide)
  · rw [kZ1_eq]; exact row 0 (by decide)

/-- the weights of the rows of `logicals_x` are `[Lx, Ly]`, of `logicals_z` `[Ly, Lx]` -/
theorem weights_listed (hx : 2 ≤ Lx) (hy : 2 ≤ Ly) :
    (lattice Lx Ly).rowsX.map pauliWeight = [Lx, Ly] ∧
    (lattice Lx Ly).rowsZ.map pauliWeight = [Ly, Lx] := by
  rw [(wf hx hy).weights.1, (wf hx hy).weights.2]
  change (logX Lx Ly).map _ = _ ∧ (logZ Lx Ly).map _ = _
  simp [logX_eq, logZ_eq, kX0_eq, kX1_eq, kZ0_eq, kZ1_eq, length_rowKeys, length_colKeys]

/-- `code.d` (minimum weight of the listed logicals) is `min Lx Ly` -/
theorem reported_distance (hx : 2 ≤ Lx) (hy : 2 ≤ Ly) :
    distance (lattice Lx Ly).rowsX (lattice Lx Ly).rowsZ = some (min Lx Ly) := by
  rw [distance_of_weights (weights_listed hx hy).1 (weights_listed hx hy).2 rfl rfl]
  simp only [List.foldl_cons, List.foldl_nil]
  congr 1
  omega

end Panqec.Toric2DCode
