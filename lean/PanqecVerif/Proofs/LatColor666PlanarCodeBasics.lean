/-
Color666PlanarCode, all sizes: arithmetic description of the face list, of `get_stabilizer` as the
filtered hexagon, and of the DERIVED qubit list (closed form `IsQ`).  Core Lean only.
-/
import PanqecVerif.Proofs.ColorBase
import PanqecVerif.Model.Lattices.Color666PlanarCode


namespace Panqec.Color666PlanarCode
open Panqec.Lat2D Panqec.Color

/-- `(x, y)` is the centre of a face (both `(x, y, 0)` and `(x, y, 1)` are stabilizer locations) -/
def IsF (L : Nat) (x y : Int) : Prop :=
  2 ≤ x ∧ 0 ≤ y ∧ y < 2 * x + 1 ∧ y < 12 * (L : Int) - 2 * x + 3 ∧
    ((x % 6 = 2 ∧ y % 4 = 0) ∨ (x % 6 = 5 ∧ y % 4 = 2))

/-- the triangle guard of `get_stabilizer` -/
def InT (L : Nat) (a b : Int) : Prop :=
  0 ≤ a ∧ 0 ≤ b ∧ b ≤ 2 * a + 1 ∧ b ≤ 12 * (L : Int) - 2 * a + 3

/-- `(a, b)` is a qubit coordinate (closed form of the derived list) -/
def IsQ (L : Nat) (a b : Int) : Prop :=
  InT L a b ∧ (((a % 6 = 0 ∨ a % 6 = 4) ∧ b % 4 = 0) ∨ ((a % 6 = 1 ∨ a % 6 = 3) ∧ b % 4 = 2))

instance (L : Nat) (x y : Int) : Decidable (IsF L x y) := by unfold IsF; infer_instance
instance (L : Nat) (x y : Int) : Decidable (InT L x y) := by unfold InT; infer_instance
instance (L : Nat) (x y : Int) : Decidable (IsQ L x y) := by unfold IsQ; infer_instance

/-- Faces and qubits together are the sites of the sublattice `2x + y ≡ 0 (mod 4)`; the faces are
    those with `x ≡ 2 (mod 3)`.  Arithmetic about them is done in this form (two congruences, no
    case distinction). -/
theorem isF_iff {L : Nat} {x y : Int} :
    IsF L x y ↔ 2 ≤ x ∧ 0 ≤ y ∧ y < 2 * x + 1 ∧ y < 12 * (L : Int) - 2 * x + 3 ∧
      x % 3 = 2 ∧ (2 * x + y) % 4 = 0 := by
  unfold IsF; omega

theorem isQ_iff {L : Nat} {a b : Int} :
    IsQ L a b ↔ InT L a b ∧ a % 3 ≠ 2 ∧ (2 * a + b) % 4 = 0 := by
  unfold IsQ InT; omega

theorem mem_faces {L : Nat} {q : Coord} :
    q ∈ faces L ↔ ∃ x y, q = [x, y] ∧ IsF L x y := by
  unfold faces
  rw [mem_columns]
  simp only [List.mem_filter, (mem_pyRangeStep (s := 1) (by decide)), decide_eq_true_eq]
  unfold ybound IsF
  constructor
  · rintro ⟨x, y, hx, hy, rfl⟩; refine ⟨x, y, rfl, ?_⟩; omega
  · rintro ⟨x, y, rfl, h⟩; exact ⟨x, y, by omega, by omega, rfl⟩

theorem mem_faces' {L : Nat} {x y : Int} : [x, y] ∈ faces L ↔ IsF L x y :=
  mem_pair_iff mem_faces

theorem nodup_faces (L : Nat) : (faces L).Nodup := by
  unfold faces
  exact nodup_columns _ (nodup_pyRangeStep _ _ _ (by decide))
    (fun x => (nodup_pyRangeStep _ _ _ (by decide)).sublist List.filter_sublist)

theorem mem_stabs {L L' : Nat} {s : Coord} :
    s ∈ stabs L L' ↔ ∃ x y p, s = [x, y, p] ∧ IsF L x y ∧ (p = 0 ∨ p = 1) :=
  mem_both_iff mem_faces

theorem mem_stabs' {L L' : Nat} {x y p : Int} :
    [x, y, p] ∈ stabs L L' ↔ IsF L x y ∧ (p = 0 ∨ p = 1) :=
  mem_both_iff' mem_faces

theorem nodup_stabs (L L' : Nat) : (stabs L L').Nodup := nodup_both (nodup_faces L)

/-- the six corners of the hexagon, in delta order -/
def nbrs (x y : Int) : List Coord :=
  [[x - 1, y - 2], [x + 1, y - 2], [x + 2, y], [x + 1, y + 2], [x - 1, y + 2], [x - 2, y]]

theorem candidates_eq (x y : Int) : candidates x y = nbrs x y := by
  unfold candidates delta nbrs
  simp only [List.map_cons, List.map_nil, Int.add_zero]
  rfl

theorem nodup_nbrs (x y : Int) : (nbrs x y).Nodup := by
  unfold nbrs
  simp only [List.nodup_cons, List.mem_cons, List.cons.injEq, and_true, List.not_mem_nil,
    or_false, not_false_eq_true, List.nodup_nil]
  omega

theorem mem_nbrs {x y a b : Int} :
    [a, b] ∈ nbrs x y ↔
      ((a = x - 1 ∧ b = y - 2) ∨ (a = x + 1 ∧ b = y - 2) ∨ (a = x + 2 ∧ b = y) ∨
       (a = x + 1 ∧ b = y + 2) ∨ (a = x - 1 ∧ b = y + 2) ∨ (a = x - 2 ∧ b = y)) := by
  unfold nbrs
  simp only [List.mem_cons, List.cons.injEq, and_true, List.not_mem_nil, or_false]

theorem nbrs_shape {x y : Int} {q : Coord} (h : q ∈ nbrs x y) : ∃ a b, q = [a, b] := by
  unfold nbrs at h
  simp only [List.mem_cons, List.not_mem_nil, or_false] at h
  rcases h with rfl | rfl | rfl | rfl | rfl | rfl <;> exact ⟨_, _, rfl⟩

theorem inTriangle_iff {L : Nat} {a b : Int} : inTriangle L [a, b] = true ↔ InT L a b := by
  unfold inTriangle InT ybound
  simp only [decide_eq_true_eq]
  omega

def supp (L : Nat) (x y : Int) : List Coord := (nbrs x y).filter (inTriangle L)

theorem nodup_supp (L : Nat) (x y : Int) : (supp L x y).Nodup :=
  (nodup_nbrs x y).sublist List.filter_sublist

theorem mem_supp {L : Nat} {x y a b : Int} :
    [a, b] ∈ supp L x y ↔
      (((a = x - 1 ∧ b = y - 2) ∨ (a = x + 1 ∧ b = y - 2) ∨ (a = x + 2 ∧ b = y) ∨
        (a = x + 1 ∧ b = y + 2) ∨ (a = x - 1 ∧ b = y + 2) ∨ (a = x - 2 ∧ b = y)) ∧ InT L a b) := by
  unfold supp
  rw [List.mem_filter, mem_nbrs, inTriangle_iff]

theorem supp_shape {L : Nat} {x y : Int} {q : Coord} (h : q ∈ supp L x y) : ∃ a b, q = [a, b] :=
  nbrs_shape (List.mem_filter.mp h).1

def letter (p : Int) : Pauli := if p = 0 then Pauli.X else Pauli.Z

theorem getStabIn_eq {L L' : Nat} {x y p : Int} (h : [x, y, p] ∈ stabs L L') :
    getStabilizerIn (stabs L L') L [x, y, p] = some ((supp L x y).map (fun q => (q, letter p))) := by
  have hs : isIn (stabs L L') [x, y, p] = true := isIn_iff.mpr h
  unfold getStabilizerIn
  simp only [hs, Bool.not_true, Bool.false_eq_true, if_false]
  rw [candidates_eq, collect_eq _ _ _ (nodup_nbrs x y)]
  rfl

theorem getStab_eq {L L' : Nat} {x y p : Int} (h : [x, y, p] ∈ stabs L L') :
    (lattice L L').getStab [x, y, p] = (supp L x y).map (fun q => (q, letter p)) := by
  show (getStabilizer? L L' [x, y, p]).getD [] = _
  unfold getStabilizer?
  rw [getStabIn_eq h]; rfl

theorem nodup_qubits (L L' : Nat) : (qubits L L').Nodup := nodup_derivedQubits _ _

theorem mem_qubits_faces {L L' : Nat} {q : Coord} :
    q ∈ qubits L L' ↔ ∃ x y, IsF L x y ∧ q ∈ supp L x y :=
  mem_derived_faces mem_faces fun x y p h => by
    rw [getStabIn_eq (L' := L') h, Option.getD_some, map_fst_letter]

theorem isQ_of_corner {L : Nat} {x y a b : Int} (hf : IsF L x y) (h : [a, b] ∈ supp L x y) :
    IsQ L a b := by
  obtain ⟨hd, ht⟩ := mem_supp.mp h
  obtain ⟨-, -, -, -, h3, h4⟩ := isF_iff.mp hf
  refine isQ_iff.mpr ⟨ht, ?_⟩
  rcases hd with h | h | h | h | h | h <;> omega

/-- every site of the closed form is a corner of a face (needs at least one unit cell): of the face
    beside it in its row if that is one, else of the face below or above on the other side -/
theorem corner_of_isQ {L : Nat} (hL : 1 ≤ L) {a b : Int} (h : IsQ L a b) :
    ∃ x y, IsF L x y ∧ [a, b] ∈ supp L x y := by
  obtain ⟨ht, h3, h4⟩ := isQ_iff.mp h
  have ht' := ht
  unfold InT at ht'
  by_cases c0 : a % 3 = 0
  · by_cases c1 : b < 12 * (L : Int) - 2 * a - 1
    · exact ⟨a + 2, b, isF_iff.mpr (by omega), mem_supp.mpr ⟨by omega, ht⟩⟩
    · by_cases c2 : 2 ≤ b
      · exact ⟨a - 1, b - 2, isF_iff.mpr (by omega), mem_supp.mpr ⟨by omega, ht⟩⟩
      · exact ⟨a - 1, b + 2, isF_iff.mpr (by omega), mem_supp.mpr ⟨by omega, ht⟩⟩
  · by_cases c1 : b ≤ 2 * a - 4
    · exact ⟨a - 2, b, isF_iff.mpr (by omega), mem_supp.mpr ⟨by omega, ht⟩⟩
    · by_cases c2 : 2 ≤ b
      · exact ⟨a + 1, b - 2, isF_iff.mpr (by omega), mem_supp.mpr ⟨by omega, ht⟩⟩
      · exact ⟨a + 1, b + 2, isF_iff.mpr (by omega), mem_supp.mpr ⟨by omega, ht⟩⟩

theorem mem_qubits {L L' : Nat} (hL : 1 ≤ L) {q : Coord} :
    q ∈ qubits L L' ↔ ∃ a b, q = [a, b] ∧ IsQ L a b := by
  rw [mem_qubits_faces]
  constructor
  · rintro ⟨x, y, hf, hq⟩
    obtain ⟨a, b, rfl⟩ := supp_shape hq
    exact ⟨a, b, rfl, isQ_of_corner hf hq⟩
  · rintro ⟨a, b, rfl, h⟩
    exact corner_of_isQ hL h

theorem mem_qubits' {L L' : Nat} (hL : 1 ≤ L) {a b : Int} :
    [a, b] ∈ qubits L L' ↔ IsQ L a b :=
  mem_pair_iff (mem_qubits hL)

theorem isQubit_iff {L L' : Nat} (hL : 1 ≤ L) {a b : Int} :
    isQubit L L' [a, b] = true ↔ IsQ L a b := by
  unfold isQubit; rw [isIn_iff, mem_qubits' hL]

theorem qubits_stabs_disjoint (L L' : Nat) : ∀ q ∈ qubits L L', q ∉ stabs L L' := by
  intro q hq hs
  obtain ⟨x, y, _, hq'⟩ := mem_qubits_faces.mp hq
  obtain ⟨a, b, rfl⟩ := supp_shape hq'
  obtain ⟨x', y', p, h, _⟩ := mem_stabs.mp hs
  simp at h

theorem supp_nonempty {L : Nat} {x y : Int} (h : IsF L x y) : supp L x y ≠ [] := by
  unfold IsF at h
  by_cases h0 : 2 ≤ y
  · apply List.ne_nil_of_mem (a := [x - 1, y - 2])
    rw [mem_supp]; unfold InT; omega
  · apply List.ne_nil_of_mem (a := [x + 1, y + 2])
    rw [mem_supp]; unfold InT; omega

end Panqec.Color666PlanarCode
