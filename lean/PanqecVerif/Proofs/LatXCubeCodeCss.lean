/-
XCubeCode lattice model: the class in CSS form (`css`: `Lattice.Css`, from which `Lattice.CommPair`
and `Lattice.WF`), the number of logical operators, closed forms of `qubit_axis` /
`get_deformation`; sizes ≥ 2.
-/
import PanqecVerif.Proofs.LatXCubeCodeLogComm
import PanqecVerif.Proofs.LatXCubeCodePair
import PanqecVerif.Proofs.LatCss
import PanqecVerif.Proofs.LatRhombic
open Panqec Panqec.Lat3Db
namespace Panqec.XCubeCode

theorem R0_of_E (L : Nat) (t : Int) (h : t ∈ pyRange2 0 (2*L)) : R0 (2*L) t := (mem_pyRange2_0 _ _).mp h
theorem R0_of_E2 (L : Nat) (t : Int) (h : t ∈ pyRange2 2 (2*L)) : R0 (2*L) t := by
  rw [mem_pyRange2_2] at h; unfold R2 at h; unfold R0; omega

/-- key list of a logical X operator: a ladder of some placement -/
def IsLogXKeys (Lx Ly Lz : Nat) (K : List Coord) : Prop :=
  ∃ e Lo Lu Lw u, Placed Lx Ly Lz e Lo Lu Lw ∧ R0 (2*Lu) u ∧ K = gX1 Lw e u

/-- key list of a logical Z operator: a line, or the two lines at `(0, 0)` and `(0, w)`, of some
    placement -/
def IsLogZKeys (Lx Ly Lz : Nat) (K : List Coord) : Prop :=
  ∃ e Lo Lu Lw, Placed Lx Ly Lz e Lo Lu Lw ∧
    ((∃ u, R0 (2*Lu) u ∧ K = gZ1 Lo e u) ∨ ∃ w, R2 (2*Lw) w ∧ K = gZ2 Lo e w)

section placed
variable {Lx Ly Lz : Nat} {e : Int → Int → Int → Coord} {Lo Lu Lw : Nat}
  (hp : Placed Lx Ly Lz e Lo Lu Lw)
include hp

theorem Placed.mem_bX {a : Op} (ha : a ∈ bX e Lu Lw) :
    ∃ K, IsLogXKeys Lx Ly Lz K ∧ a = constOp K Pauli.X := by
  simp only [bX, List.mem_append, List.mem_map] at ha
  rcases ha with ⟨t, ht, rfl⟩ | ⟨t, ht, rfl⟩
  · exact ⟨_, ⟨e, _, _, _, t, hp, R0_of_E _ _ ht, rfl⟩, rfl⟩
  · exact ⟨_, ⟨_, _, _, _, t, hp.swap, R0_of_E2 _ _ ht, rfl⟩, rfl⟩

theorem Placed.mem_bZ {a : Op} (ha : a ∈ bZ e Lo Lu Lw) :
    ∃ K, IsLogZKeys Lx Ly Lz K ∧ a = constOp K Pauli.Z := by
  simp only [bZ, List.mem_append, List.mem_map] at ha
  rcases ha with ⟨t, ht, rfl⟩ | ⟨t, ht, rfl⟩
  · exact ⟨_, ⟨e, _, _, _, hp, .inl ⟨t, R0_of_E _ _ ht, rfl⟩⟩, rfl⟩
  · exact ⟨_, ⟨e, _, _, _, hp, .inr ⟨t, (mem_pyRange2_2 _ _).mp ht, rfl⟩⟩, rfl⟩

end placed

theorem IsLogXKeys.keys {Lx Ly Lz : Nat} (hx : 1 ≤ Lx) (hy : 1 ≤ Ly) (hz : 1 ≤ Lz) {K : List Coord}
    (h : IsLogXKeys Lx Ly Lz K) : K.Nodup ∧ ∀ q ∈ K, q ∈ qubits Lx Ly Lz := by
  obtain ⟨e, Lo, Lu, Lw, u, hp, hu, rfl⟩ := h
  refine ⟨(nodup_pyRange2 _ _).map fun _ _ h => (hp.inj h).2.2, fun q hq => ?_⟩
  obtain ⟨w, hw, rfl⟩ := List.mem_map.mp hq
  exact hp.qubit (by unfold R1; cases hp <;> omega) hu ((mem_pyRange2_0 _ _).mp hw)

theorem IsLogZKeys.keys {Lx Ly Lz : Nat} (hx : 1 ≤ Lx) (hy : 1 ≤ Ly) (hz : 1 ≤ Lz) {K : List Coord}
    (h : IsLogZKeys Lx Ly Lz K) : K.Nodup ∧ ∀ q ∈ K, q ∈ qubits Lx Ly Lz := by
  obtain ⟨e, Lo, Lu, Lw, hp, ⟨u, hu, rfl⟩ | ⟨w, hw, rfl⟩⟩ := h
  all_goals
    have z0 : R0 (2*Lu) 0 ∧ R0 (2*Lw) 0 := by unfold R0; cases hp <;> omega
  · refine ⟨nodup_gZ1 hp u, fun q hq => ?_⟩
    obtain ⟨o, ho, rfl⟩ := List.mem_map.mp hq
    exact hp.qubit ((mem_pyRange2_1 _ _).mp ho) hu z0.2
  · have hw' : R0 (2*Lw) w := by unfold R2 at hw; unfold R0; omega
    refine ⟨nodup_gZ2 hp (by unfold R2 at hw; omega), fun q hq => ?_⟩
    rcases List.mem_append.mp hq with hq | hq <;> obtain ⟨o, ho, rfl⟩ := List.mem_map.mp hq
    · exact hp.qubit ((mem_pyRange2_1 _ _).mp ho) z0.1 z0.2
    · exact hp.qubit ((mem_pyRange2_1 _ _).mp ho) z0.1 hw'

theorem IsLogZKeys.lineInv {Lx Ly Lz : Nat} {K : List Coord} (h : IsLogZKeys Lx Ly Lz K) :
    LineInv Lx Ly Lz K := by
  obtain ⟨e, Lo, Lu, Lw, hp, ⟨u, hu, rfl⟩ | ⟨w, hw, rfl⟩⟩ := h
  · exact hp.lineInv hu.1 rfl
  · exact (hp.lineInv rfl rfl).append (hp.lineInv rfl hw.1)

theorem nodup_stabs (Lx Ly Lz : Nat) : (stabs Lx Ly Lz).Nodup := by
  unfold stabs
  have hg := nodup_grid3 (pyRange2 0 (2*Lx)) (pyRange2 0 (2*Ly)) (pyRange2 0 (2*Lz)) allTrue
    (nodup_pyRange2 _ _) (nodup_pyRange2 _ _) (nodup_pyRange2 _ _)
  rw [List.nodup_append]
  refine ⟨nodup_grid3 _ _ _ _ (nodup_pyRange2 _ _) (nodup_pyRange2 _ _) (nodup_pyRange2 _ _), ?_, ?_⟩
  · rw [List.nodup_flatMap]
    refine ⟨fun ax _ => hg.map (fun a b h => by simpa using h), ?_⟩
    have : ([0, 1, 2] : List Int).Nodup := by decide
    refine List.Pairwise.imp_of_mem ?_ this
    intro a b _ _ hab
    simp only [Function.onFun, List.Disjoint, List.mem_map]
    rintro c ⟨d, _, rfl⟩ ⟨d', _, h⟩
    simp only [List.cons.injEq] at h
    exact hab h.1.symm
  · intro a ha b hb hab
    subst hab
    rw [mem_grid3] at ha
    obtain ⟨x, y, z, rfl, _⟩ := ha
    simp only [List.mem_flatMap, List.mem_map] at hb
    obtain ⟨ax, _, c, hc, h⟩ := hb
    rw [mem_grid3] at hc
    obtain ⟨x', y', z', rfl, _⟩ := hc
    simp at h

theorem qubits_not_stabs (Lx Ly Lz : Nat) (q : Coord) (hq : q ∈ qubits Lx Ly Lz) : q ∉ stabs Lx Ly Lz := by
  obtain ⟨x, y, z, rfl⟩ := mem_qubits_shape Lx Ly Lz q hq
  rw [mem_qubits_iff] at hq
  rw [mem_stabs_cube]
  unfold QX QY QZ R0 R1 at hq
  unfold SC R1
  omega

theorem IsCubeKeys.qubits {Lx Ly Lz : Nat} {k : List Coord} (h : IsCubeKeys Lx Ly Lz k) :
    ∀ q ∈ k, q ∈ qubits Lx Ly Lz := by
  obtain ⟨x, y, z, hc, rfl⟩ := h
  exact fun q hq => mem_qubits_of_isQubit _ _ _ _ (cubeLocs_qubits Lx Ly Lz x y z hc q hq)

theorem IsFaceKeys.qubits {Lx Ly Lz : Nat} {k : List Coord} (h : IsFaceKeys Lx Ly Lz k) :
    ∀ q ∈ k, q ∈ qubits Lx Ly Lz := by
  obtain ⟨x, y, z, hv, rfl | rfl | rfl⟩ := h
  · exact fun q hq => mem_qubits_of_isQubit _ _ _ _ (faceLocsX_qubits Lx Ly Lz x y z hv q hq)
  · exact fun q hq => mem_qubits_of_isQubit _ _ _ _ (faceLocsY_qubits Lx Ly Lz x y z hv q hq)
  · exact fun q hq => mem_qubits_of_isQubit _ _ _ _ (faceLocsZ_qubits Lx Ly Lz x y z hv q hq)

theorem IsCubeKeys.ne_nil {Lx Ly Lz : Nat} {k : List Coord} (h : IsCubeKeys Lx Ly Lz k) : k ≠ [] := by
  obtain ⟨x, y, z, _, rfl⟩ := h; simp [cubeLocs]

theorem IsFaceKeys.ne_nil {Lx Ly Lz : Nat} {k : List Coord} (h : IsFaceKeys Lx Ly Lz k) : k ≠ [] := by
  obtain ⟨x, y, z, _, rfl | rfl | rfl⟩ := h <;> simp [faceLocsX, faceLocsY, faceLocsZ]

/-- the class in CSS form: cubes carry Z, vertex operators X, the logical X operators sit on
    ladders, the logical Z operators on lines -/
theorem css (Lx Ly Lz : Nat) (hx : 2 ≤ Lx) (hy : 2 ≤ Ly) (hz : 2 ≤ Lz) :
    (lattice Lx Ly Lz).Css (IsCubeKeys Lx Ly Lz) (IsFaceKeys Lx Ly Lz) (IsLogXKeys Lx Ly Lz)
      (IsLogZKeys Lx Ly Lz) := by
  have pt := pairTable Lx Ly Lz (by omega) (by omega) (by omega)
  constructor <;> try dsimp only [lattice]
  case qubits_nodup => exact nodup_qubits Lx Ly Lz
  case stabs_nodup => exact nodup_stabs Lx Ly Lz
  case disjoint => exact qubits_not_stabs Lx Ly Lz
  case stab => exact getStab_cases hx hy hz
  case keysZ => exact fun k hk => ⟨hk.nodup hx hy hz, hk.ne_nil, hk.qubits⟩
  case keysX => exact fun k hk => ⟨hk.nodup hx hy hz, hk.ne_nil, hk.qubits⟩
  case logX =>
    intro a ha
    rw [logX_blocks] at ha
    simp only [List.mem_append] at ha
    rcases ha with h | h | h
    · exact (@Placed.xyz Lx Ly Lz).mem_bX h
    · exact (@Placed.yxz Lx Ly Lz).mem_bX h
    · exact (@Placed.zxy Lx Ly Lz).mem_bX h
  case logZ =>
    intro a ha
    rw [logZ_blocks] at ha
    simp only [List.mem_append] at ha
    rcases ha with h | h | h
    · exact (@Placed.xyz Lx Ly Lz).mem_bZ h
    · exact (@Placed.yxz Lx Ly Lz).mem_bZ h
    · exact (@Placed.zxy Lx Ly Lz).mem_bZ h
  case keysLX => exact fun k hk => hk.keys (by omega) (by omega) (by omega)
  case keysLZ => exact fun k hk => hk.keys (by omega) (by omega) (by omega)
  case zx =>
    intro kz kx hkz hkx
    rw [overlap_comm (hkz.nodup hx hy hz) (hkx.nodup hx hy hz)]
    exact face_cube_even hx hy hz hkx hkz
  case zLX =>
    rintro kz k hkz ⟨e, Lo, Lu, Lw, u, hp, -, rfl⟩
    exact hp.gX1_cube_even u hkz
  case xLZ => exact fun kx k hkx hk => face_even_of_lineInv Lx Ly Lz k kx hk.lineInv hkx
  case same_k => exact pt.1
  case pairing => exact pt.2

theorem commPair (Lx Ly Lz : Nat) (hx : 2 ≤ Lx) (hy : 2 ≤ Ly) (hz : 2 ≤ Lz) :
    (lattice Lx Ly Lz).CommPair :=
  (css Lx Ly Lz hx hy hz).commPair

theorem wf (Lx Ly Lz : Nat) (hx : 2 ≤ Lx) (hy : 2 ≤ Ly) (hz : 2 ≤ Lz) : (lattice Lx Ly Lz).WF :=
  (css Lx Ly Lz hx hy hz).wf

theorem length_logX (Lx Ly Lz : Nat) (hx : 1 ≤ Lx) (hy : 1 ≤ Ly) (hz : 1 ≤ Lz) :
    (logX Lx Ly Lz).length = 2 * (Lx + Ly + Lz) - 3 := by
  simp only [logX, List.length_append, List.length_map, length_pyRange2_two_mul, Nat.reduceDiv, Nat.sub_zero]
  omega

/-- `qubit_axis` of the class is that of the rhombic classes: the same function of the parities -/
theorem qubitAxis_eq_rhombic : qubitAxis = Rhombic.qubitAxis := rfl

theorem qubitAxis_qubit (Lx Ly Lz : Nat) (x y z : Int) (h : [x, y, z] ∈ qubits Lx Ly Lz) :
    qubitAxis [x, y, z] = some (if x % 2 = 1 then "x" else if y % 2 = 1 then "y" else "z") := by
  rw [mem_qubits_iff] at h
  rw [qubitAxis_eq_rhombic]
  rcases h with h | h | h
  exacts [Rhombic.qubitAxis_eq x y z (.inl ⟨h.1.1, h.2.1.1, h.2.2.1⟩),
    Rhombic.qubitAxis_eq x y z (.inr (.inl ⟨h.1.1, h.2.1.1, h.2.2.1⟩)),
    Rhombic.qubitAxis_eq x y z (.inr (.inr ⟨h.1.1, h.2.1.1, h.2.2.1⟩))]

theorem getDeformationAt_rule (name axis : String) (loc : Coord) :
    getDeformationAt name axis loc =
      if axis ≠ "x" ∧ axis ≠ "y" ∧ axis ≠ "z" then none
      else if name ≠ "XZZX" then none
      else (qubitAxis loc).map fun a => if a = axis then PauliMap.swapXZ else PauliMap.id := by
  unfold getDeformationAt
  exact deformation_rule _ name axis

/-- `get_deformation` with the keyword given (`some axis`) or omitted (`none`: default `'z'`) -/
theorem getDeformation_rule (name : String) (axis : Option String) (loc : Coord) :
    getDeformation name axis loc =
      if axis.getD "z" ≠ "x" ∧ axis.getD "z" ≠ "y" ∧ axis.getD "z" ≠ "z" then none
      else if name ≠ "XZZX" then none
      else (qubitAxis loc).map fun a => if a = axis.getD "z" then PauliMap.swapXZ else PauliMap.id :=
  getDeformationAt_rule name (axis.getD "z") loc

end Panqec.XCubeCode
