/-
Lemmas about the table side of the visualizer model (`Model/Gui.lean`): a look-up only sees the entries
of its class, and which menu names `codeNames` lists under a dimension.  No Mathlib.
-/
import PanqecVerif.Model.Gui

namespace Panqec.Gui

theorem lookup_filter (cfg : List Entry) (cls kind picture typ : String) :
    lookup (cfg.filter (·.cls == cls)) cls kind picture typ = lookup cfg cls kind picture typ := by
  unfold lookup
  rw [List.find?_filter]
  congr 1
  funext e
  cases e.cls == cls <;>
    simp only [Bool.false_and, Bool.true_and, Bool.false_eq_true, false_and, true_and, decide_false,
      Bool.decide_eq_true]

/-- completeness can be evaluated class by class on the entries of the class: scanning the whole table
    at each look-up is slow to check -/
theorem guiComplete_filter (codes : List CodeMenu) (cfg : List Entry) (cm : List (String × String)) :
    guiComplete codes cfg cm = codes.all fun c => guiComplete [c] (cfg.filter (·.cls == c.cls)) cm := by
  unfold guiComplete
  simp only [lookup_filter, List.all_cons, List.all_nil, Bool.and_true]

theorem codeNames_contains {codes : List CodeMenu} {c : CodeMenu} {d : Nat}
    (hfind : codes.find? (·.menuName == c.menuName) = some c) (hdim : c.dimension = d) :
    (codeNames codes d).contains c.menuName = true := by
  rw [List.contains_iff_mem]
  refine List.mem_map.mpr ⟨c, List.mem_filter.mpr ⟨List.mem_of_find?_eq_some hfind, ?_⟩, rfl⟩
  simp [hdim]

theorem codeNames_not_contains {codes : List CodeMenu} {s : String} (d : Nat)
    (h : ∀ c ∈ codes, c.menuName = s → c.dimension ≠ d) : (codeNames codes d).contains s = false := by
  rw [Bool.eq_false_iff, Ne, List.contains_iff_mem]
  intro hc
  obtain ⟨c, hc', hname⟩ := List.mem_map.mp hc
  obtain ⟨hin, hd⟩ := List.mem_filter.mp hc'
  exact h c hin hname (by simpa using hd)

end Panqec.Gui
