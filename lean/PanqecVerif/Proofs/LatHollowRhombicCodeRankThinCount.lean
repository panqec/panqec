/-
`HollowRhombicCode`, rank clause: `rankFamily` has `n − 1` members for the sizes with
`Lz ≥ 5` whose hole is one layer thin in `x` or in `y` and that are not deficient:
`(3, Ly, 5)`, `(3, 4, Lz)`, `(3, 5, Lz)`, `(4, 4, Lz)`, `(Lx, 4, 5)`.  In these sizes every product of two
sides of the hole has a factor 0 or 1, so the counting equations are linear in the free side.
The same for the sizes with `Lz = 4` (the hole is the slab `z = 3`) that are not deficient and have a
hole at least two unit cells wide in `x` and `y`: `(4, Ly, 4)`, `Ly ≥ 5`, and `(Lx, 5, 4)`, `Lx ≥ 5`, where
only one of the two boxes of kept lower triangles under the hole edges is not empty.
-/
import PanqecVerif.Proofs.LatHollowRhombicCodeRankNoHole

namespace Panqec.HollowRhombicCode
open Panqec.Lat3Db Panqec.Rhombic
open Panqec.Planar3DCode (inE inO inE2 inO1)

/-- the sizes `(A+3, B+4, C+4)` with a hole one layer thin in some direction that are not deficient -/
theorem thin_count {A B C : Nat}
    (hr : (A = 0 ∧ C = 1) ∨ (A = 0 ∧ B = 0 ∧ 1 ≤ C) ∨ (A = 0 ∧ B = 1 ∧ 1 ≤ C) ∨
      (A = 1 ∧ B = 0 ∧ 1 ≤ C) ∨ (B = 0 ∧ C = 1) ∨ (A = 1 ∧ 1 ≤ B ∧ C = 0) ∨ (2 ≤ A ∧ B = 1 ∧ C = 0)) :
    (rankFamily (A + 3) (B + 4) (C + 4)).length + 1 = (qubits (A + 3) (B + 4) (C + 4)).length := by
  obtain ⟨Cc, T, N, e1, e2, h1, h2, h3⟩ := hole_eqs (spec_LB0 (by omega))
    (ax0 (Lx := A + 3) (Ly := B + 4) (Lz := C + 4) (by omega) (by omega) (by unfold Counted; omega))
  rw [e1, e2]
  rw [length_LB0] at h2
  have hny := ny_spec (A + 3) (B + 4) (C + 4)
  have hnx := nx_spec (A + 3) (B + 4) (C + 4)
  generalize ny (A + 3) (B + 4) (C + 4) = Ny at h2 hny
  generalize nx (A + 3) (B + 4) (C + 4) = Nx at h2 hnx
  unfold qn at h2
  rcases hr with ⟨rfl, rfl⟩ | ⟨rfl, rfl, _⟩ | ⟨rfl, rfl, _⟩ | ⟨rfl, rfl, _⟩ | ⟨rfl, rfl⟩ | ⟨rfl, _, rfl⟩ |
    ⟨_, rfl, rfl⟩ <;>
  (simp only [Nat.reduceSub, Nat.reduceMul, Nat.reduceAdd, Nat.zero_mul, Nat.mul_zero, Nat.one_mul,
      Nat.mul_one, Nat.add_zero, Nat.zero_add, half_zero] at h1 h2 h3
   unfold half at h1 h2
   simp at h1 h2
   omega)

theorem count_3_L_5 (Ly : Nat) (hy : 4 ≤ Ly) :
    (rankFamily 3 Ly 5).length + 1 = (qubits 3 Ly 5).length := by
  obtain ⟨B, rfl⟩ : ∃ B, Ly = B + 4 := ⟨Ly - 4, by omega⟩
  exact thin_count (A := 0) (C := 1) (by omega)

theorem count_3_4_L (Lz : Nat) (hz : 5 ≤ Lz) :
    (rankFamily 3 4 Lz).length + 1 = (qubits 3 4 Lz).length := by
  obtain ⟨C, rfl⟩ : ∃ C, Lz = C + 4 := ⟨Lz - 4, by omega⟩
  exact thin_count (A := 0) (B := 0) (by omega)

theorem count_3_5_L (Lz : Nat) (hz : 5 ≤ Lz) :
    (rankFamily 3 5 Lz).length + 1 = (qubits 3 5 Lz).length := by
  obtain ⟨C, rfl⟩ : ∃ C, Lz = C + 4 := ⟨Lz - 4, by omega⟩
  exact thin_count (A := 0) (B := 1) (by omega)

theorem count_4_4_L (Lz : Nat) (hz : 5 ≤ Lz) :
    (rankFamily 4 4 Lz).length + 1 = (qubits 4 4 Lz).length := by
  obtain ⟨C, rfl⟩ : ∃ C, Lz = C + 4 := ⟨Lz - 4, by omega⟩
  exact thin_count (A := 1) (B := 0) (by omega)

theorem count_L_4_5 (Lx : Nat) (hx : 4 ≤ Lx) :
    (rankFamily Lx 4 5).length + 1 = (qubits Lx 4 5).length := by
  obtain ⟨A, rfl⟩ : ∃ A, Lx = A + 3 := ⟨Lx - 3, by omega⟩
  exact thin_count (B := 0) (C := 1) (by omega)

theorem count_4_L_4 (Ly : Nat) (hy : 5 ≤ Ly) :
    (rankFamily 4 Ly 4).length + 1 = (qubits 4 Ly 4).length := by
  obtain ⟨B, rfl⟩ : ∃ B, Ly = B + 4 := ⟨Ly - 4, by omega⟩
  exact thin_count (A := 1) (C := 0) (by omega)

theorem count_L_5_4 (Lx : Nat) (hx : 5 ≤ Lx) :
    (rankFamily Lx 5 4).length + 1 = (qubits Lx 5 4).length := by
  obtain ⟨A, rfl⟩ : ∃ A, Lx = A + 3 := ⟨Lx - 3, by omega⟩
  exact thin_count (B := 1) (C := 0) (by omega)

end Panqec.HollowRhombicCode
