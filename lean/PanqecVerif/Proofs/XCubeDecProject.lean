/-
`XCubeMatchingDecoder.decode`, the projection loops ("Perform the projection"): every
`qubit_index` look-up succeeds, on every lattice (any sizes ≥ 1), when the matching locations are
toric-code qubits lifted to an odd plane and the components are non-empty sets of odd planes.
-/
import PanqecVerif.Proofs.XCubeDecPlane
import PanqecVerif.Proofs.LatToric2DCodeStab

namespace Panqec.XCube

open Panqec

variable {W : Type}

/-- sizes of `self.toric_code[axis]` -/
def toricSizes (Lx Ly Lz : Nat) : Axis → Nat × Nat
  | .x => (Ly, Lz) | .y => (Lx, Lz) | .z => (Lx, Ly)

theorem toricSizes_eq (Lx Ly Lz : Nat) : toricSizes Lx Ly Lz = planeSizesOf Lx Ly Lz := by
  funext a; cases a <;> rfl

/-- what the proofs use of the object built by `__init__` for an undeformed `XCubeCode` -/
structure Geom (d : XCubeDec W) : Prop where
  qubits : d.qubits = XCubeCode.qubits d.Lx d.Ly d.Lz
  stabs : d.stabs = XCubeCode.stabs d.Lx d.Ly d.Lz
  toric : ∀ a, d.toric.get a = toricView (toricSizes d.Lx d.Ly d.Lz a).1 (toricSizes d.Lx d.Ly d.Lz a).2
  hx : 1 ≤ d.Lx
  hy : 1 ≤ d.Ly
  hz : 1 ≤ d.Lz

theorem toricView_qubits (La Lb : Nat) : (toricView La Lb).qubits = Toric2DCode.qubits La Lb := rfl
theorem toricView_stabs (La Lb : Nat) : (toricView La Lb).stabs = Toric2DCode.stabs La Lb := rfl

/-- a 3-D matching location of `axis`: a qubit `(a, b)` of the toric code of that axis, lifted to
    an odd plane of that axis -/
def MatchLoc (d : XCubeDec W) (axis : Axis) (loc : Coord) : Prop :=
  ∃ a b plane, loc = tupleInsert [a, b] axis.toNat plane ∧
    [a, b] ∈ (d.toric.get axis).qubits ∧ Lat3Db.R1 (2 * d.side axis) plane

theorem tupleInsert_get (a b p : Int) (ax : Axis) : (tupleInsert [a, b] ax.toNat p).getD ax.toNat 0 = p := by
  cases ax <;> simp [tupleInsert, Axis.toNat]

theorem tupleRemove_insert (a b p : Int) (ax : Axis) :
    tupleRemove (tupleInsert [a, b] ax.toNat p) ax.toNat = [a, b] := by
  cases ax <;> simp [tupleInsert, tupleRemove, Axis.toNat]

theorem mem_rangeI2 (a b x : Int) (h : x ∈ rangeI2 a b) : (x - a) % 2 = 0 := by
  unfold rangeI2 at h
  obtain ⟨k, _, rfl⟩ := List.mem_map.mp h
  omega

theorem lifted_even_is_qubit (d : XCubeDec W) (g : Geom d) (ax : Axis) (a b e : Int)
    (hq : [a, b] ∈ (d.toric.get ax).qubits) (he : Lat3Db.R0 (2 * d.side ax) e) :
    tupleInsert [a, b] ax.toNat e ∈ d.qubits := by
  rw [g.toric ax, toricView_qubits, toricSizes_eq] at hq
  rw [side_eq_sideOf] at he
  rw [g.qubits]
  exact (insert_mem_qubits_iff ..).mpr (Or.inr ⟨he, hq⟩)

theorem side_pos (d : XCubeDec W) (g : Geom d) (ax : Axis) : 1 ≤ d.side ax := by
  cases ax
  · exact g.hx
  · exact g.hy
  · exact g.hz

theorem errs_bumpRange (d : XCubeDec W) (g : Geom d) (proj : Axis) (a b : Int)
    (hq : [a, b] ∈ (d.toric.get proj).qubits) (planes : List Int)
    (hev : ∀ p ∈ planes, p % 2 = 0) (pc : Vec) (E : XErr → Prop) :
    Errs (bumpRange d proj [a, b] planes pc) E := by
  unfold bumpRange
  refine spec_forM' (fun _ => True) ?_ pc trivial
  intro st p hp _
  simp only
  have hs := side_pos d g proj
  have hmem := lifted_even_is_qubit d g proj a b (p % (2 * (d.side proj : Int))) hq (by
    have := hev p hp
    unfold Lat3Db.R0
    have h2 : (0 : Int) < 2 * (d.side proj : Int) := by omega
    refine ⟨?_, Int.emod_nonneg _ (by omega), ?_⟩
    · have := Int.emod_emod_of_dvd p (show (2 : Int) ∣ 2 * (d.side proj : Int) from ⟨_, rfl⟩)
      omega
    · have := Int.emod_lt_of_pos p h2
      push_cast; omega)
  exact spec_bind (spec_qubitIndex fun h => absurd hmem h) fun _ _ => spec_pure trivial

theorem errs_projectLoc (d : XCubeDec W) (g : Geom d) (proj : Axis) (comp : List Int) (pp : Int)
    (hpp : pp % 2 = 1) (pc : Vec) (loc : Coord) (hloc : MatchLoc d proj loc) (E : XErr → Prop) :
    Errs (projectLoc d proj comp pp pc loc) E := by
  obtain ⟨a, b, plane, rfl, hq, hplane⟩ := hloc
  rcases projectLoc_cases d proj comp pp pc (tupleInsert [a, b] proj.toNat plane) with e | ⟨lo, hi, hlo, e⟩ <;>
    rw [e]
  · exact spec_pure trivial
  · rw [tupleInsert_get, tupleRemove_insert] at *
    refine errs_bumpRange d g proj a b hq _ (fun p hp => ?_) pc E
    have := mem_rangeI2 _ _ _ hp
    have := hplane.1
    omega

theorem errs_projectAll (d : XCubeDec W) (g : Geom d) (proj : Axis) (comps : List (List Int))
    (hcomps : ∀ comp ∈ comps, (comp.headD 0) % 2 = 1) (mp : List Coord)
    (hmp : ∀ loc ∈ mp, MatchLoc d proj loc) (pc : Vec) (E : XErr → Prop) :
    Errs (projectAll d proj comps mp pc) E := by
  unfold projectAll
  refine spec_forM' (fun _ => True) ?_ pc trivial
  intro st comp hcomp _
  refine spec_forM' (fun _ => True) ?_ st trivial
  intro st' loc hloc _
  exact errs_projectLoc d g proj comp _ (hcomps comp hcomp) st' loc (hmp loc hloc) E

end Panqec.XCube
