/-
Color3DCode, rank clause, Z-type part: the witness of a selected cell is one of its keys, and the
`2·LxLyLz − 3` selected cells are GF(2)-independent (`Cubic3D.OpsIndep`, by the triangular
criterion with the witnesses and ranks of `Proofs/LatColor3DCodeRankOrder.lean`).  Every side `≥ 2`
(odd sides included).
-/
import PanqecVerif.Proofs.LatColor3DCodeRankOrder

namespace Panqec.Color3DCode
open Panqec.Lat2D Panqec.Color

section
variable {Lx Ly Lz : Nat} {x y z : Int}

theorem IsK.cases (h : IsK Lx Ly Lz x y z) :
    8 ≤ z ∨ ((z = 2 ∨ z = 6) ∧ x ≠ 6) ∨ ((z = 2 ∨ z = 6) ∧ x = 6 ∧ 6 ≤ y) ∨
    (z = 4 ∧ 12 ≤ x) ∨ (z = 4 ∧ x = 4 ∧ 8 ≤ y) ∨ (z = 4 ∧ x = 8 ∧ 8 ≤ y) ∨
    (z = 4 ∧ x = 8 ∧ y = 4) := by
  obtain ⟨hc, k1, k2, k3⟩ := h
  obtain ⟨x0, x1, y0, y1, z0, z1, px, rx, ry⟩ := hc.cellR
  by_cases h8 : 8 ≤ z
  · exact Or.inl h8
  · right
    have hz : z = 2 ∨ z = 4 ∨ z = 6 := by omega
    rcases hz with rfl | rfl | rfl
    · by_cases h6 : x = 6
      · right; left
        have : 6 ≤ y := by omega
        exact ⟨Or.inl rfl, h6, this⟩
      · exact Or.inl ⟨Or.inl rfl, h6⟩
    · right; right
      have hx : x = 4 ∨ x = 8 ∨ 12 ≤ x := by omega
      rcases hx with rfl | rfl | hx
      · right; left
        have : 8 ≤ y := by omega
        exact ⟨rfl, rfl, this⟩
      · right; right
        have hy : y = 4 ∨ 8 ≤ y := by omega
        rcases hy with rfl | hy
        · exact Or.inr ⟨rfl, rfl, rfl⟩
        · exact Or.inl ⟨rfl, rfl, hy⟩
      · exact Or.inl ⟨rfl, hx⟩
    · by_cases h6 : x = 6
      · right; left
        have : 6 ≤ y := by omega
        exact ⟨Or.inr rfl, h6, this⟩
      · exact Or.inl ⟨Or.inr rfl, h6⟩

/-- a vertex of the cell with the `y` of the cell is a key, also for `y = 4Ly`, where it is written
    `(x + d1, 0, z + d3)` -/
theorem wit_mem_wr (hc : IsC Lx Ly Lz x y z) {d1 d3 : Int} (hd : (d1, (0 : Int), d3) ∈ deltaCell)
    (h1 : 0 ≤ x + d1 ∧ x + d1 < 4 * (Lx : Int)) (h3 : 0 ≤ z + d3 ∧ z + d3 < 4 * (Lz : Int)) :
    [x + d1, wr Ly y, z + d3] ∈ keys Lx Ly Lz x y z := by
  have hcl := hc.cellLoc
  obtain ⟨x0, x1, y0, y1, z0, z1, px, rx, ry⟩ := hc.cellR
  by_cases hyw : y = 4 * (Ly : Int)
  · rw [keys_cell Lx Ly Lz hcl, List.mem_map]
    refine ⟨(d1, 0, d3), hd, ?_⟩
    unfold wrapAt wr
    rw [if_pos hyw]
    simp only [List.cons.injEq, and_true]
    refine ⟨emod_small h1.1 h1.2, ?_, emod_small h3.1 h3.2⟩
    rw [hyw, Int.add_zero]; exact Int.emod_self
  · have e : wr Ly y = y := by unfold wr; rw [if_neg hyw]
    rw [e]
    have hs := deltaCell_spec _ hd
    exact cell_hits hcl (by rw [show x + d1 - x = d1 by omega, show y - y = 0 by omega,
      show z + d3 - z = d3 by omega]; exact hs) h1 (by omega) h3

theorem wit_mem_bulk (hc : IsC Lx Ly Lz x y z) (c : 8 ≤ z) :
    wit Ly x y z ∈ keys Lx Ly Lz x y z := by
  obtain ⟨x0, x1, y0, y1, z0, z1, px, rx, ry⟩ := hc.cellR
  rw [wit_bulk c]
  have := wit_mem_wr hc (d1 := -1) (d3 := -2) (by decide) (by omega) (by omega)
  rw [show x + -1 = x - 1 by omega, show z + -2 = z - 2 by omega] at this
  exact this

theorem wit_mem_slabB (hc : IsC Lx Ly Lz x y 4) (c : 12 ≤ x) :
    wit Ly x y 4 ∈ keys Lx Ly Lz x y 4 := by
  obtain ⟨x0, x1, y0, y1, z0, z1, px, rx, ry⟩ := hc.cellR
  rw [wit_slabB c]
  have := wit_mem_wr hc (d1 := -2) (d3 := -1) (by decide) (by omega) (by omega)
  rw [show x + -2 = x - 2 by omega, show (4 : Int) + -1 = 3 by omega] at this
  exact this

theorem wit_mem_slabA (hc : IsC Lx Ly Lz x y z) (c : z = 2 ∨ z = 6) (c' : x ≠ 6) :
    wit Ly x y z ∈ keys Lx Ly Lz x y z := by
  obtain ⟨x0, x1, y0, y1, z0, z1, px, rx, ry⟩ := hc.cellR
  rw [wit_slabA c c']
  have hyA : y < 4 * (Ly : Int) := by omega
  exact cell_hits hc.cellLoc (DSpec.c4 (by omega) (by omega) (by omega)) (by omega) (by omega)
    (by omega)

theorem wit_mem_lineA (hc : IsC Lx Ly Lz 6 y z) (c : z = 2 ∨ z = 6) (c' : 6 ≤ y) :
    wit Ly 6 y z ∈ keys Lx Ly Lz 6 y z := by
  obtain ⟨x0, x1, y0, y1, z0, z1, px, rx, ry⟩ := hc.cellR
  rw [wit_lineA c]
  exact cell_hits hc.cellLoc (DSpec.c2 (by omega) (by omega) (by omega)) (by omega) (by omega)
    (by omega)

theorem wit_mem_lineB4 (hLx : 2 ≤ Lx) (hLz : 2 ≤ Lz) (hc : IsC Lx Ly Lz 4 y 4) (c : 8 ≤ y) :
    wit Ly 4 y 4 ∈ keys Lx Ly Lz 4 y 4 := by
  obtain ⟨x0, x1, y0, y1, z0, z1, px, rx, ry⟩ := hc.cellR
  rw [wit_lineB4]
  exact cell_hits hc.cellLoc (DSpec.c5 (by omega) (by omega) (by omega)) (by omega) (by omega)
    (by omega)

theorem wit_mem_lineB8 (hLx : 2 ≤ Lx) (hLz : 2 ≤ Lz) (hc : IsC Lx Ly Lz 8 y 4) (c : 8 ≤ y) :
    wit Ly 8 y 4 ∈ keys Lx Ly Lz 8 y 4 := by
  obtain ⟨x0, x1, y0, y1, z0, z1, px, rx, ry⟩ := hc.cellR
  rw [wit_lineB8 (by omega)]
  exact cell_hits hc.cellLoc (DSpec.c5 (by omega) (by omega) (by omega)) (by omega) (by omega)
    (by omega)

theorem wit_mem_first (hLx : 2 ≤ Lx) (hLz : 2 ≤ Lz) (hc : IsC Lx Ly Lz 8 4 4) : wit Ly 8 4 4 ∈ keys Lx Ly Lz 8 4 4 := by
  obtain ⟨x0, x1, y0, y1, z0, z1, px, rx, ry⟩ := hc.cellR
  rw [wit_first]
  exact cell_hits hc.cellLoc (DSpec.c6 (by omega) (by omega) (by omega)) (by omega) (by omega)
    (by omega)

theorem wit_mem (hLx : 2 ≤ Lx) (hLz : 2 ≤ Lz) (h : IsK Lx Ly Lz x y z) : wit Ly x y z ∈ keys Lx Ly Lz x y z := by
  have hc := h.1
  rcases h.cases with c | ⟨c, c'⟩ | ⟨c, rfl, c'⟩ | ⟨rfl, c⟩ | ⟨rfl, rfl, c⟩ | ⟨rfl, rfl, c⟩ | ⟨rfl, rfl, rfl⟩
  · exact wit_mem_bulk hc c
  · exact wit_mem_slabA hc c c'
  · exact wit_mem_lineA hc c c'
  · exact wit_mem_slabB hc c
  · exact wit_mem_lineB4 hLx hLz hc c
  · exact wit_mem_lineB8 hLx hLz hc c
  · exact wit_mem_first hLx hLz hc

theorem wit_tri {tx ty tz : Int} (h : IsK Lx Ly Lz x y z) (ht : IsK Lx Ly Lz tx ty tz)
    (hq : wit Ly x y z ∈ keys Lx Ly Lz tx ty tz) :
    (tx = x ∧ ty = y ∧ tz = z) ∨ rk Lx Ly Lz tx ty tz < rk Lx Ly Lz x y z := by
  rcases h.cases with c | ⟨c, c'⟩ | ⟨c, rfl, c'⟩ | ⟨rfl, c⟩ | ⟨rfl, rfl, c⟩ | ⟨rfl, rfl, c⟩ | ⟨rfl, rfl, rfl⟩
  · rw [wit_bulk c] at hq
    exact tri_bulk h.1 c ht.1 hq
  · rw [wit_slabA c c'] at hq
    exact tri_slabA h.1 c' ht.1 (c := (z + 4) / 2) (by omega) hq
  · rw [wit_lineA c] at hq
    exact tri_lineA c' ht.1 (c := (z + 4) / 2) (by omega) hq
  · rw [wit_slabB c] at hq
    exact tri_slabB h.1 c ht.1 hq
  · rw [wit_lineB4] at hq
    exact tri_lineB h.1 c ht.1 (Or.inl ⟨rfl, rfl⟩) hq
  · rw [wit_lineB8 (by omega)] at hq
    exact tri_lineB h.1 c ht.1 (Or.inr ⟨rfl, rfl⟩) hq
  · rw [wit_first] at hq
    exact Or.inl (tri_first ht hq)

end

theorem cells_indep {Lx Ly Lz : Nat} (hx : 2 ≤ Lx) (hy : 2 ≤ Ly) (hz : 2 ≤ Lz) :
    Cubic3D.OpsIndep ((selCells Lx Ly Lz).map (lattice Lx Ly Lz).getStab) := by
  refine Cubic3D.opsIndep_of_letters (nodup_selCells Lx Ly Lz)
    (fun s => (cellRank Lx Ly Lz s : Int)) (cellWit Ly)
    (fun s k => ∃ x y z, s = [x, y, z] ∧ IsK Lx Ly Lz x y z ∧ k = keys Lx Ly Lz x y z)
    (fun _ _ => False) (fun s hs => ?_) (fun s k ⟨x, y, z, e, hk, ek⟩ => ?_) (fun _ _ h => h.elim)
    (fun s hs k ⟨x, y, z, e, hk, ek⟩ => ?_) fun _ _ _ h => h.elim
  · obtain ⟨x, y, z, rfl⟩ := shape_selCells hs
    exact Or.inl ⟨_, x, y, z, rfl, mem_selCells.mp hs, rfl⟩
  · rw [e, ek]; exact getStab_cell hx hy hz hk.1
  · subst e ek
    refine ⟨wit_mem hx hz hk, fun t ht k' ⟨tx, ty, tz, e', htk, ek'⟩ hw => ?_⟩
    subst e' ek'
    rcases wit_tri hk htk hw with ⟨rfl, rfl, rfl⟩ | hlt
    exacts [Or.inl rfl, Or.inr (Int.ofNat_lt.mpr hlt)]

end Panqec.Color3DCode
