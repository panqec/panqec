/-
RotatedPlanar3DCode lattice model: the record `Lattice.Css` (`Proofs/LatCss.lean`) with
`Lattice.WF` and `Lattice.CommPair` from it, and the closed forms of `qubit_axis` /
`get_deformation`, for every lattice size.
-/
import PanqecVerif.Proofs.LatCss
import PanqecVerif.Proofs.LatRotatedPlanar3DCodeKeys
open Panqec Panqec.Lat3Db
namespace Panqec.RotatedPlanar3DCode

theorem nodup_qubits (Lx Ly Lz : Nat) : (qubits Lx Ly Lz).Nodup := by
  unfold qubits
  rw [List.nodup_append]
  refine ⟨nodup_grid3 _ _ _ _ (nodup_pyRange2 _ _) (nodup_pyRange2 _ _) (nodup_pyRange2 _ _),
    nodup_grid3 _ _ _ _ (nodup_pyRange2 _ _) (nodup_pyRange2 _ _) (nodup_pyRange2 _ _), ?_⟩
  intro a ha b hb hab
  subst hab
  rw [mem_grid3] at ha hb
  obtain ⟨x, y, z, rfl, hx, _⟩ := ha
  obtain ⟨x', y', z', h, hx', _⟩ := hb
  simp only [List.cons.injEq, and_true] at h
  obtain ⟨rfl, rfl, rfl⟩ := h
  rw [mem_pyRange2_1] at hx; rw [mem_pyRange2_2] at hx'
  unfold R1 at hx; unfold R2 at hx'; omega

theorem nodup_stabs (Lx Ly Lz : Nat) : (stabs Lx Ly Lz).Nodup := by
  unfold stabs
  rw [List.nodup_append, List.nodup_append]
  refine ⟨⟨nodup_grid3 _ _ _ _ (nodup_pyRange2 _ _) (nodup_pyRange2 _ _) (nodup_pyRange2 _ _),
    nodup_grid3 _ _ _ _ (nodup_pyRange2 _ _) (nodup_pyRange2 _ _) (nodup_pyRange2 _ _), ?_⟩,
    nodup_grid3 _ _ _ _ (nodup_pyRange2 _ _) (nodup_pyRange2 _ _) (nodup_pyRange2 _ _), ?_⟩
  · intro a ha b hb hab
    subst hab
    rw [mem_grid3] at ha hb
    obtain ⟨x, y, z, rfl, _, _, _, hp⟩ := ha
    obtain ⟨x', y', z', h, _, _, _, hp'⟩ := hb
    simp only [List.cons.injEq, and_true] at h
    obtain ⟨rfl, rfl, rfl⟩ := h
    simp only [beq_iff_eq] at hp hp'
    omega
  · intro a ha b hb hab
    subst hab
    rw [List.mem_append, mem_grid3, mem_grid3] at ha
    rw [mem_grid3] at hb
    obtain ⟨x', y', z', rfl, hx', _⟩ := hb
    rw [mem_pyRange2_1] at hx'; unfold R1 at hx'
    rcases ha with ⟨x, y, z, h, hx, _⟩ | ⟨x, y, z, h, hx, _⟩
    · simp only [List.cons.injEq, and_true] at h
      obtain ⟨rfl, rfl, rfl⟩ := h
      rw [mem_pyRange2_2] at hx; unfold R2 at hx; omega
    · simp only [List.cons.injEq, and_true] at h
      obtain ⟨rfl, rfl, rfl⟩ := h
      rw [mem_pyRange2_0] at hx; unfold R0 at hx; omega

theorem qubits_not_stabs (Lx Ly Lz : Nat) (q : Coord) (hq : q ∈ qubits Lx Ly Lz) : q ∉ stabs Lx Ly Lz := by
  obtain ⟨x, y, z, rfl⟩ := mem_qubits_shape Lx Ly Lz q hq
  rw [mem_qubits_iff] at hq
  rw [mem_stabs_iff]
  unfold QH QV R0 R1 R2 at hq
  unfold SV SH SF R0 R1 R2
  omega

theorem vertexKeys_witness {Lx Ly Lz : Nat} {x y z : Int} (hy : 1 ≤ Ly) (h : SV Lx Ly Lz x y z) :
    [x - 1, if y < 2 * Ly then y + 1 else y - 1, z] ∈ vertexKeys Lx Ly Lz x y z := by
  have hq : R1 (2 * Ly) (if y < 2 * Ly then y + 1 else y - 1) := by
    have := h.2.1
    unfold R0 at this
    unfold R1
    split <;> omega
  rw [mem_vertexKeys_h _ _ _ _ _ _ _ _ _ h hq]
  refine ⟨rfl, Or.inl rfl, ?_⟩
  split
  · exact Or.inr rfl
  · exact Or.inl rfl

theorem faceZKeys_witness {Lx Ly Lz : Nat} {a b c : Int} (hx : 1 ≤ Lx) (h : SH Lx Ly Lz a b c) :
    [if a < 2 * Lx then a + 1 else a - 1, b - 1, c] ∈ faceZKeys Lx Ly Lz a b c := by
  obtain ⟨ha, hb, hc, -⟩ := h
  unfold R0 at ha
  unfold R2 at hb
  rw [faceZKeys, List.mem_filter, isQubit_iff]
  refine ⟨?_, Or.inl ⟨?_, ?_, hc⟩⟩
  · split <;> simp [faceZLocs]
  · unfold R1
    split <;> omega
  · unfold R1
    omega

theorem above_isQubit {Lx Ly Lz : Nat} {a b c : Int} (h : SF Lx Ly Lz a b c) :
    isQubit Lx Ly Lz [a, b, c + 1] = true := by
  obtain ⟨ha, hb, hc⟩ := h
  unfold R1 at ha
  unfold R2 at hc
  rw [isQubit_iff]
  exact Or.inl ⟨by unfold R1; omega, hb, by unfold R1; omega⟩

theorem faceXKeys_witness {Lx Ly Lz : Nat} {a b c : Int} (h : SF Lx Ly Lz a b c) :
    [a, b, c + 1] ∈ faceXKeys Lx Ly Lz a b c :=
  List.mem_filter.mpr ⟨by simp [faceXLocs], above_isQubit h⟩

theorem faceYKeys_witness {Lx Ly Lz : Nat} {a b c : Int} (h : SF Lx Ly Lz a b c) :
    [a, b, c + 1] ∈ faceYKeys Lx Ly Lz a b c :=
  List.mem_filter.mpr ⟨by simp [faceYLocs], above_isQubit h⟩

/-- vertex operators carry Z, the three kinds of face operator X (all truncated at the boundaries),
    the logical X is the line `y = z = 1`, the logical Z the plane `x = 1` -/
theorem css {Lx Ly Lz : Nat} (hx : 1 ≤ Lx) (hy : 1 ≤ Ly) (hz : 1 ≤ Lz) :
    (lattice Lx Ly Lz).Css (IsVertexKeys Lx Ly Lz) (IsFaceKeys Lx Ly Lz) (· = logXKeys Lx)
      (· = logZKeys Ly Lz) := by
  constructor <;> try dsimp only [lattice]
  case qubits_nodup => exact nodup_qubits Lx Ly Lz
  case stabs_nodup => exact nodup_stabs Lx Ly Lz
  case disjoint => exact qubits_not_stabs Lx Ly Lz
  case stab =>
    intro s hs
    obtain ⟨x, y, z, rfl⟩ := mem_stabs_shape Lx Ly Lz s hs
    rcases (mem_stabs_iff Lx Ly Lz x y z).mp hs with h | h | h
    · exact .inl ⟨_, ⟨x, y, z, h, rfl⟩, getStab_vertex Lx Ly Lz x y z h⟩
    · exact .inr ⟨_, .inl ⟨x, y, z, h, rfl⟩, getStab_faceZ Lx Ly Lz x y z h⟩
    · rcases SF_mod4 Lx Ly Lz x y z h with h4 | h4
      · exact .inr ⟨_, .inr (.inl ⟨x, y, z, h, h4, rfl⟩), getStab_faceX Lx Ly Lz x y z h h4⟩
      · exact .inr ⟨_, .inr (.inr ⟨x, y, z, h, h4, rfl⟩), getStab_faceY Lx Ly Lz x y z h h4⟩
  case keysZ =>
    intro k hk
    refine ⟨hk.nodup, ?_, hk.qubits⟩
    obtain ⟨x, y, z, hv, rfl⟩ := hk
    exact List.ne_nil_of_mem (vertexKeys_witness hy hv)
  case keysX =>
    intro k hk
    refine ⟨hk.nodup, ?_, hk.qubits⟩
    rcases hk with ⟨a, b, c, hf, rfl⟩ | ⟨a, b, c, hf, _, rfl⟩ | ⟨a, b, c, hf, _, rfl⟩
    exacts [List.ne_nil_of_mem (faceZKeys_witness hx hf), List.ne_nil_of_mem (faceXKeys_witness hf),
      List.ne_nil_of_mem (faceYKeys_witness hf)]
  case logX => rw [logX_eq]; exact fun a ha => ⟨_, rfl, List.mem_singleton.mp ha⟩
  case logZ => rw [logZ_eq]; exact fun a ha => ⟨_, rfl, List.mem_singleton.mp ha⟩
  case keysLX =>
    rintro _ rfl
    exact ⟨nodup_logXKeys Lx, lineX_sub hy hz⟩
  case keysLZ =>
    rintro _ rfl
    exact ⟨nodup_logZKeys Ly Lz, planeX_sub hx⟩
  case zx =>
    rintro kv kf ⟨x, y, z, hv, rfl⟩ hf
    rw [overlap_comm (IsVertexKeys.nodup ⟨x, y, z, hv, rfl⟩) hf.nodup]
    rcases hf with ⟨a, b, c, hf, rfl⟩ | ⟨a, b, c, hf, h4, rfl⟩ | ⟨a, b, c, hf, h4, rfl⟩
    exacts [vertex_faceZ Lx Ly Lz x y z a b c hv hf, vertex_faceX Lx Ly Lz x y z a b c hv hf h4,
      vertex_faceY Lx Ly Lz x y z a b c hv hf h4]
  case zLX =>
    rintro _ _ ⟨x, y, z, hv, rfl⟩ rfl
    exact logX_vertex Lx Ly Lz x y z hy hz hv
  case xLZ =>
    rintro kf _ hf rfl
    rcases hf with ⟨a, b, c, hf, rfl⟩ | ⟨a, b, c, hf, _, rfl⟩ | ⟨a, b, c, hf, _, rfl⟩
    exacts [logZ_faceZ Lx Ly Lz a b c hx hf, logZ_faceX Lx Ly Lz a b c hx hf,
      logZ_faceY Lx Ly Lz a b c hx hf]
  case same_k => simp only [logX_eq, logZ_eq, List.length_singleton]
  case pairing =>
    intro i j hi hj
    rw [logX_eq] at hi ⊢
    rw [logZ_eq] at hj ⊢
    obtain rfl : i = 0 := by simpa using hi
    obtain rfl : j = 0 := by simpa using hj
    rw [List.getD_cons_zero, List.getD_cons_zero, opAntiCount_constOp, if_pos rfl,
      logX_logZ Lx Ly Lz hx hy hz]
    rfl

theorem commPair (Lx Ly Lz : Nat) (hx : 1 ≤ Lx) (hy : 1 ≤ Ly) (hz : 1 ≤ Lz) :
    (lattice Lx Ly Lz).CommPair :=
  (css hx hy hz).commPair

theorem wf (Lx Ly Lz : Nat) (hx : 1 ≤ Lx) (hy : 1 ≤ Ly) (hz : 1 ≤ Lz) : (lattice Lx Ly Lz).WF :=
  (css hx hy hz).wf

/-- `qubit_axis` of a qubit in closed form: vertical qubits are `z`, horizontal ones `x` / `y` by
    the residue of `x + y` modulo 4 -/
theorem qubitAxis_qubit (Lx Ly Lz : Nat) (x y z : Int) (h : [x, y, z] ∈ qubits Lx Ly Lz) :
    qubitAxis Lx Ly Lz [x, y, z] =
      some (if z % 2 = 0 then "z" else if (x + y) % 4 = 2 then "x" else "y") := by
  have hq : isQubit Lx Ly Lz [x, y, z] = true := List.contains_iff_mem.mpr h
  unfold qubitAxis
  simp only [hq, Bool.not_true, Bool.false_eq_true, if_false, beq_iff_eq]
  by_cases h0 : z % 2 = 0
  · simp [h0]
  · simp only [h0, if_false]
    by_cases h2 : (x + y) % 4 = 2
    · simp [h2]
    · simp only [h2, if_false]
      have : (x + y) % 4 = 0 := by
        rw [mem_qubits_iff] at h
        unfold QH QV R0 R1 R2 at h
        omega
      simp [this]

theorem qubitAxis_nonqubit (Lx Ly Lz : Nat) (loc : Coord) (h : loc ∉ qubits Lx Ly Lz) :
    qubitAxis Lx Ly Lz loc = none := by
  have hq : isQubit Lx Ly Lz loc = false := by
    unfold isQubit
    simpa using h
  unfold qubitAxis
  split
  · simp [hq]
  · rfl

/-- `get_deformation`: bad axis or unknown name is a ValueError; for `XZZX` the X and Z letters
    are swapped exactly on the qubits whose axis is the deformation axis -/
theorem getDeformationAt_rule (Lx Ly Lz : Nat) (name axis : String) (loc : Coord) :
    getDeformationAt Lx Ly Lz name axis loc =
      if axis ≠ "x" ∧ axis ≠ "y" ∧ axis ≠ "z" then none
      else if name ≠ "XZZX" then none
      else (qubitAxis Lx Ly Lz loc).map fun a => if a = axis then PauliMap.swapXZ else PauliMap.id := by
  unfold getDeformationAt
  exact deformation_rule _ name axis

/-- `get_deformation` with the keyword given (`some axis`) or omitted (`none`: default `'z'`) -/
theorem getDeformation_rule (Lx Ly Lz : Nat) (name : String) (axis : Option String) (loc : Coord) :
    getDeformation Lx Ly Lz name axis loc =
      if axis.getD "z" ≠ "x" ∧ axis.getD "z" ≠ "y" ∧ axis.getD "z" ≠ "z" then none
      else if name ≠ "XZZX" then none
      else (qubitAxis Lx Ly Lz loc).map fun a =>
        if a = axis.getD "z" then PauliMap.swapXZ else PauliMap.id :=
  getDeformationAt_rule Lx Ly Lz name (axis.getD "z") loc

end Panqec.RotatedPlanar3DCode
