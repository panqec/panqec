/-
`HollowRhombicCode`, rank clause: which triangles are listed, in geometric form.  At a
vertex of the lattice the triangle `(a, x, y, z)` is listed iff neither the vertex nor one of its
three legs lies in the hole and its y leg does not point out of the lattice (`PT`); a listed
triangle has its x and y keys, and its z key unless that leg points out of the faces `z = 0`,
`z = 2Lz − 2`.  The Boolean test `presB` of the model in propositional form (`selTri`: `selTri_iff` in
`Proofs/LatHollowRhombicCodeRankProbes.lean`).
-/
import PanqecVerif.Proofs.LatHollowRhombicCodeCss

namespace Panqec.HollowRhombicCode
open Panqec.Cubic3D
open Panqec.Planar3DCode (inE inO inE2 inO1)

theorem rsX_eq (a : Int) : rsX a = sgnX a := rfl
theorem rsY_eq (a : Int) : rsY a = sgnY a := rfl
theorem rsZ_eq (a x y z : Int) : rsZ a x y z = sgnZ a x y z := rfl

/-- the triangle `(a, x, y, z)` is listed (geometric form, at a vertex of the lattice) -/
def PT (Lx Ly Lz : Nat) (a x y z : Int) : Prop :=
  ¬ Hole Lx Ly Lz x y z ∧ ¬ Hole Lx Ly Lz (x + sgnX a) y z ∧ ¬ Hole Lx Ly Lz x (y + sgnY a) z ∧
  ¬ Hole Lx Ly Lz x y (z + sgnZ a x y z) ∧ 1 ≤ y + sgnY a ∧ y + sgnY a ≤ 2 * (Ly : Int) - 3

instance (Lx Ly Lz : Nat) (a x y z : Int) : Decidable (PT Lx Ly Lz a x y z) := by
  unfold PT; infer_instance

theorem presB_iff {Lx Ly Lz : Nat} {a x y z : Int} :
    presB Lx Ly Lz a x y z = true ↔ PT Lx Ly Lz a x y z := by
  unfold presB PT
  simp only [Bool.and_eq_true, Bool.not_eq_true', inHole_false_iff, decide_eq_true_eq, and_assoc]
  simp only [rsX_eq, rsY_eq, rsZ_eq]

theorem presB_false_iff {Lx Ly Lz : Nat} {a x y z : Int} :
    presB Lx Ly Lz a x y z = false ↔ ¬ PT Lx Ly Lz a x y z := by
  rw [← presB_iff]; simp

section
variable {Lx Ly Lz : Nat} {a x y z : Int}

theorem tx_iff (hv : VertexLoc Lx Ly Lz x y z) :
    TX Lx Ly Lz a x y z ↔ ¬ Hole Lx Ly Lz (x + sgnX a) y z := by
  unfold VertexLoc inE2 inE at hv
  unfold TX Qx
  rcases sgnX_cases a with h | h <;> rw [h] <;> constructor
  · exact fun h => h.2.2.2.2.2.2
  · exact fun h => ⟨by omega, by omega, by omega, by omega, by omega, by omega, h⟩
  · exact fun h => h.2.2.2.2.2.2
  · exact fun h => ⟨by omega, by omega, by omega, by omega, by omega, by omega, h⟩

theorem ty_iff (hv : VertexLoc Lx Ly Lz x y z) :
    TY Lx Ly Lz a x y z ↔ (1 ≤ y + sgnY a ∧ y + sgnY a ≤ 2 * (Ly : Int) - 3 ∧
      ¬ Hole Lx Ly Lz x (y + sgnY a) z) := by
  unfold VertexLoc inE2 inE at hv
  unfold TY Qy
  constructor
  · intro h
    have hp : (y + sgnY a) % 2 = 1 := by rcases sgnY_cases a with e | e <;> omega
    exact ⟨h.2.2.1, by omega, h.2.2.2.2.2.2⟩
  · intro h
    exact ⟨by omega, by omega, by omega, by omega, by omega, by omega, h.2.2⟩

theorem tz_iff (hv : VertexLoc Lx Ly Lz x y z) :
    TZ Lx Ly Lz a x y z ↔ (1 ≤ z + sgnZ a x y z ∧ z + sgnZ a x y z ≤ 2 * (Lz : Int) - 3 ∧
      ¬ Hole Lx Ly Lz x y (z + sgnZ a x y z)) := by
  unfold VertexLoc inE2 inE at hv
  unfold TZ Qz
  constructor
  · intro h
    have hp : (z + sgnZ a x y z) % 2 = 1 := by rcases sgnZ_cases a x y z with e | e <;> omega
    exact ⟨h.2.2.2.2.1, by omega, h.2.2.2.2.2.2⟩
  · intro h
    exact ⟨by omega, by omega, by omega, by omega, by omega, by omega, h.2.2⟩

theorem hole_z_range (h : Hole Lx Ly Lz x y z) : 1 ≤ z ∧ z ≤ 2 * (Lz : Int) - 3 := by
  unfold Hole at h; omega

theorem pt_of_keep (hv : VertexLoc Lx Ly Lz x y z)
    (hk : TriKeep Lx Ly Lz (TX Lx Ly Lz a x y z) (TY Lx Ly Lz a x y z) (TZ Lx Ly Lz a x y z) x y z) :
    PT Lx Ly Lz a x y z := by
  have hxy := keep_xy hv (sgnX_cases a) (sgnY_cases a) (sgnZ_cases a x y z) hk
  have hyz := fun hc => keep_yz hv (sgnX_cases a) (sgnY_cases a) (sgnZ_cases a x y z) hc hk
  obtain ⟨h2, _, h4⟩ := hk
  have htx : TX Lx Ly Lz a x y z := by
    rcases h2 with h | h | h
    · exact h.1
    · exact h.1
    · exact hxy.mpr h.1
  have hty : TY Lx Ly Lz a x y z := hxy.mp htx
  have h1 := (tx_iff hv).mp htx
  have h3 := (ty_iff hv).mp hty
  refine ⟨h4, h1, h3.2.2, ?_, h3.1, h3.2.1⟩
  by_cases hc : 1 ≤ z + sgnZ a x y z ∧ z + sgnZ a x y z < 2 * (Lz : Int) - 1
  · exact ((tz_iff hv).mp ((hyz hc).mp hty)).2.2
  · intro hh
    have := hole_z_range hh
    omega

theorem keep_of_pt (hv : VertexLoc Lx Ly Lz x y z) (h : PT Lx Ly Lz a x y z) :
    TriKeep Lx Ly Lz (TX Lx Ly Lz a x y z) (TY Lx Ly Lz a x y z) (TZ Lx Ly Lz a x y z) x y z := by
  obtain ⟨h0, h1, h2, h3, h4, h5⟩ := h
  have htx : TX Lx Ly Lz a x y z := (tx_iff hv).mpr h1
  have hty : TY Lx Ly Lz a x y z := (ty_iff hv).mpr ⟨h4, h5, h2⟩
  refine ⟨Or.inl ⟨htx, hty⟩, ?_, h0⟩
  rintro ⟨_, hn, hc⟩
  by_cases htz : TZ Lx Ly Lz a x y z
  · exact hn ⟨htx, hty, htz⟩
  · rcases hc with hc | hc
    · apply hc
      have : ¬ (1 ≤ z + sgnZ a x y z ∧ z + sgnZ a x y z ≤ 2 * (Lz : Int) - 3) :=
        fun hr => htz ((tz_iff hv).mpr ⟨hr.1, hr.2, h3⟩)
      unfold VertexLoc inE2 inE at hv
      unfold EB
      rcases sgnZ_cases a x y z with e | e <;> omega
    · exact htz hc.2.1

theorem mem_triangles_iff (ha : 0 ≤ a ∧ a < 4) (hv : VertexLoc Lx Ly Lz x y z) :
    [a, x, y, z] ∈ triangles Lx Ly Lz ↔ PT Lx Ly Lz a x y z := by
  rw [mem_triangles]
  constructor
  · rintro ⟨a', x', y', z', e, _, _, _, _, hk⟩
    simp only [List.cons.injEq, and_true] at e
    obtain ⟨rfl, rfl, rfl, rfl⟩ := e
    exact pt_of_keep hv hk
  · intro h
    exact ⟨a, x, y, z, rfl, ha, hv.1, hv.2.1, hv.2.2, keep_of_pt hv h⟩

theorem mem_triangles' {s : Coord} :
    s ∈ triangles Lx Ly Lz ↔ ∃ a x y z, s = [a, x, y, z] ∧ (0 ≤ a ∧ a < 4) ∧
      VertexLoc Lx Ly Lz x y z ∧ PT Lx Ly Lz a x y z := by
  constructor
  · intro h
    obtain ⟨a, x, y, z, rfl, ha, hx, hy, hz, hk⟩ := mem_triangles.mp h
    exact ⟨a, x, y, z, rfl, ha, ⟨hx, hy, hz⟩, pt_of_keep ⟨hx, hy, hz⟩ hk⟩
  · rintro ⟨a, x, y, z, rfl, ha, hv, h⟩
    exact (mem_triangles_iff ha hv).mpr h

theorem triKeys_pt (hv : VertexLoc Lx Ly Lz x y z) (h : PT Lx Ly Lz a x y z) :
    triKeys Lx Ly Lz a x y z = [[x + sgnX a, y, z], [x, y + sgnY a, z]] ++
      (if TZ Lx Ly Lz a x y z then [[x, y, z + sgnZ a x y z]] else []) := by
  have hv' := hv
  unfold VertexLoc inE2 inE at hv'
  rw [triKeys_eq hv'.1.2.2 hv'.2.1.2.2 hv'.2.2.2.2,
    if_pos ((tx_iff hv).mpr h.2.1), if_pos ((ty_iff hv).mpr ⟨h.2.2.2.2.1, h.2.2.2.2.2, h.2.2.1⟩)]
  rfl

end

end Panqec.HollowRhombicCode
