/-
C17 under Clifford deformation: a per-qubit permutation of the letters {X, Y, Z}
(`deformBsf Ds`, the action `StabilizerCode.deform` has on every row of the three matrices,
C08) preserves the Pauli weight, the symplectic product and the span, hence the set of
non-trivial logical operators up to the relabelling, hence the distance — and the reported
distance (minimum weight of the listed logicals).  `Lattice.deformed_distance` assembles this for
a hand-written lattice model.
-/
import PanqecVerif.Proofs.Deform
import PanqecVerif.Proofs.DeformOp
import PanqecVerif.Proofs.DistLattice

namespace Panqec.Deform
open Panqec

theorem apply_ne_I (D : PauliMap) (h : D.isPerm = true) (p : Pauli) :
    (D.apply p != Pauli.I) = (p != Pauli.I) := by
  obtain ⟨x, y, z⟩ := D
  cases p <;> cases x <;> cases y <;> cases z <;> first | rfl | (exact absurd h (by decide))

theorem countP_applyAll : ∀ (Ds : List PauliMap) (ps : List Pauli),
    (∀ D ∈ Ds, D.isPerm = true) → ps.length = Ds.length →
    (applyAll Ds ps).countP (fun p => p != Pauli.I) = ps.countP (fun p => p != Pauli.I)
  | [], ps, _, hp => by
    have : ps = [] := by cases ps with | nil => rfl | cons _ _ => simp at hp
    subst this; simp
  | D :: Ds, [], _, hp => by simp at hp
  | D :: Ds, p :: ps, h, hp => by
    simp at hp
    have ih := countP_applyAll Ds ps (fun D' hD' => h D' (by simp [hD'])) hp
    simp only [applyAll_cons, List.countP_cons, ih, apply_ne_I D (h D (by simp))]

theorem pauliWeight_pauliToBsf (ps : List Pauli) :
    pauliWeight (pauliToBsf ps) = ps.countP (fun p => p != Pauli.I) := by
  unfold pauliWeight rowWeight
  rw [xPart_pauliToBsf, zPart_pauliToBsf, countP_zipWith_supp]

theorem pauliWeight_deformBsf {n : Nat} {Ds : List PauliMap} (hlen : Ds.length = n)
    (hperm : ∀ D ∈ Ds, D.isPerm = true) {v : List Nat}
    (hv : v.length = 2 * n) (hb : ∀ x ∈ v, x < 2) :
    pauliWeight (deformBsf Ds v) = pauliWeight v := by
  rw [deformBsf_eq, pauliWeight_pauliToBsf,
    countP_applyAll Ds _ hperm (by rw [bsfToPauli_length hv, hlen]),
    ← pauliWeight_pauliToBsf, pauliToBsf_bsfToPauli v (by omega) hb]

theorem map_map_inverse {n : Nat} {Ds : List PauliMap} (hlen : Ds.length = n)
    (hperm : ∀ D ∈ Ds, D.isPerm = true) {rows : List (List Nat)} (hw : WFRows n rows) :
    (rows.map (deformBsf Ds)).map (deformBsf (Ds.map PauliMap.inv)) = rows := by
  rw [List.map_map]
  conv => rhs; rw [← List.map_id rows]
  apply List.map_congr_left
  intro r hr
  exact deformBsf_inverse hlen hperm (hw r hr).1 (hw r hr).2

theorem nontrivial_deform {n : Nat} {Ds : List PauliMap} (hlen : Ds.length = n)
    (hperm : ∀ D ∈ Ds, D.isPerm = true) {H : List (List Nat)} (hH : WFRows n H)
    {v : List Nat} (h : IsNontrivialLogical n H v) :
    IsNontrivialLogical n (H.map (deformBsf Ds)) (deformBsf Ds v) := by
  obtain ⟨hl, hb, hc, hns⟩ := h
  refine ⟨deformBsf_length hlen hl, deformBsf_binary Ds v, ?_, ?_⟩
  · intro g hg
    obtain ⟨g', hg', rfl⟩ := List.mem_map.mp hg
    rw [symp_deformBsf hlen hperm (hH g' hg').1 (hH g' hg').2 hl hb]
    exact hc g' hg'
  · intro hs
    apply hns
    have hlen' : (Ds.map PauliMap.inv).length = n := by simpa using hlen
    have h1 := inSpan_map hlen' (map_inv_isPerm hperm)
      (fun r hr => ((wfRows_map hlen hH) r hr).1) hs
    rwa [map_map_inverse hlen hperm hH, deformBsf_inverse hlen hperm hl hb] at h1

theorem nontrivial_deform_inv {n : Nat} {Ds : List PauliMap} (hlen : Ds.length = n)
    (hperm : ∀ D ∈ Ds, D.isPerm = true) {H : List (List Nat)} (hH : WFRows n H)
    {w : List Nat} (h : IsNontrivialLogical n (H.map (deformBsf Ds)) w) :
    IsNontrivialLogical n H (deformBsf (Ds.map PauliMap.inv) w) ∧
      deformBsf Ds (deformBsf (Ds.map PauliMap.inv) w) = w := by
  have hlen' : (Ds.map PauliMap.inv).length = n := by simpa using hlen
  have h1 := nontrivial_deform hlen' (map_inv_isPerm hperm) (wfRows_map hlen hH) h
  rw [map_map_inverse hlen hperm hH] at h1
  exact ⟨h1, deformBsf_inverse_right hlen hperm h.1 h.2.1⟩

theorem nontrivial_deform_iff {n : Nat} {Ds : List PauliMap} (hlen : Ds.length = n)
    (hperm : ∀ D ∈ Ds, D.isPerm = true) {H : List (List Nat)} (hH : WFRows n H)
    {v : List Nat} (hl : v.length = 2 * n) (hb : ∀ x ∈ v, x < 2) :
    IsNontrivialLogical n (H.map (deformBsf Ds)) (deformBsf Ds v) ↔ IsNontrivialLogical n H v := by
  constructor
  · intro h
    have h1 := (nontrivial_deform_inv hlen hperm hH h).1
    rwa [deformBsf_inverse hlen hperm hl hb] at h1
  · exact nontrivial_deform hlen hperm hH

theorem isDistance_deform {n d : Nat} {Ds : List PauliMap} (hlen : Ds.length = n)
    (hperm : ∀ D ∈ Ds, D.isPerm = true) {H : List (List Nat)} (hH : WFRows n H)
    (h : IsDistance n H d) : IsDistance n (H.map (deformBsf Ds)) d := by
  obtain ⟨⟨v, hv, hw⟩, hlow⟩ := h
  refine ⟨⟨deformBsf Ds v, nontrivial_deform hlen hperm hH hv, ?_⟩, ?_⟩
  · rw [pauliWeight_deformBsf hlen hperm hv.1 hv.2.1, hw]
  · intro w hw'
    obtain ⟨h1, h2⟩ := nontrivial_deform_inv hlen hperm hH hw'
    have := hlow _ h1
    rw [← h2, pauliWeight_deformBsf hlen hperm h1.1 h1.2.1]
    exact this

/-- `deformBsf Ds` is a bijection (inverse: `Ds.map PauliMap.inv`) -/
theorem isDistance_deform_iff {n d : Nat} {Ds : List PauliMap} (hlen : Ds.length = n)
    (hperm : ∀ D ∈ Ds, D.isPerm = true) {H : List (List Nat)} (hH : WFRows n H) :
    IsDistance n (H.map (deformBsf Ds)) d ↔ IsDistance n H d := by
  constructor
  · intro h
    have hlen' : (Ds.map PauliMap.inv).length = n := by simpa using hlen
    have h1 := isDistance_deform hlen' (map_inv_isPerm hperm) (wfRows_map hlen hH) h
    rwa [map_map_inverse hlen hperm hH] at h1
  · exact isDistance_deform hlen hperm hH

/-- `code.d` computed from the relabelled logicals -/
theorem distance_deform {n : Nat} {Ds : List PauliMap} (hlen : Ds.length = n)
    (hperm : ∀ D ∈ Ds, D.isPerm = true) {Lx Lz : List (List Nat)}
    (hX : WFRows n Lx) (hZ : WFRows n Lz) :
    distance (Lx.map (deformBsf Ds)) (Lz.map (deformBsf Ds)) = distance Lx Lz := by
  have hm : ∀ {L : List (List Nat)}, WFRows n L →
      (L.map (deformBsf Ds)).map rowWeight = L.map rowWeight := by
    intro L hL
    rw [List.map_map]
    apply List.map_congr_left
    intro r hr
    exact pauliWeight_deformBsf hlen hperm (hL r hr).1 (hL r hr).2
  unfold distance
  rw [hm hX, hm hZ]

end Panqec.Deform

namespace Panqec

/-- Everything C17 says about a deformed lattice model.  `D` is what `get_deformation` returns
    on each qubit (a permutation of {X, Y, Z} there).  The matrices the deformed getters produce
    are the relabelled rows; they form a valid code; the reported distance and the true
    distance are those of the undeformed code. -/
theorem Lattice.deformed_distance (l : Lattice) (hwf : l.WF) {n k d : Nat}
    (hn : l.qubits.length = n) (hv : ValidCodeL n k l.rowsH l.rowsX l.rowsZ)
    (hrep : distance l.rowsX l.rowsZ = some d) (hd : IsDistance n l.rowsH d)
    (D : Coord → PauliMap) (hperm : ∀ q ∈ l.qubits, (D q).isPerm = true) :
    stabilizerMatrix (l.toCodeData.deform D) =
        some (l.rowsH.map (deformBsf (l.qubits.map D))) ∧
    logicalsX (l.toCodeData.deform D) = some (l.rowsX.map (deformBsf (l.qubits.map D))) ∧
    logicalsZ (l.toCodeData.deform D) = some (l.rowsZ.map (deformBsf (l.qubits.map D))) ∧
    ValidCodeL n k (l.rowsH.map (deformBsf (l.qubits.map D)))
      (l.rowsX.map (deformBsf (l.qubits.map D))) (l.rowsZ.map (deformBsf (l.qubits.map D))) ∧
    distance (l.rowsX.map (deformBsf (l.qubits.map D)))
      (l.rowsZ.map (deformBsf (l.qubits.map D))) = some d ∧
    IsDistance n (l.rowsH.map (deformBsf (l.qubits.map D))) d := by
  have hlen : (l.qubits.map D).length = n := by simpa using hn
  have hp : ∀ D' ∈ l.qubits.map D, D'.isPerm = true := by
    intro D' hD'
    obtain ⟨q, hq, rfl⟩ := List.mem_map.mp hD'
    exact hperm q hq
  have hS : ∀ op ∈ l.toCodeData.stabOps, KeysNodup op := by
    intro op ho
    obtain ⟨s, hs, rfl⟩ := List.mem_map.mp ho
    exact hwf.stab_keys s hs
  have hX : ∀ op ∈ l.toCodeData.logX, KeysNodup op := fun op ho =>
    hwf.log_keys op (List.mem_append.mpr (Or.inl ho))
  have hZ : ∀ op ∈ l.toCodeData.logZ, KeysNodup op := fun op ho =>
    hwf.log_keys op (List.mem_append.mpr (Or.inr ho))
  refine ⟨?_, ?_, ?_, Deform.validCode_deform hlen hp hv, ?_,
    Deform.isDistance_deform hlen hp hv.wfH hd⟩
  · rw [Deform.stabilizerMatrix_deform _ D hS, Lattice.stabilizerMatrix_eq hwf]; rfl
  · rw [Deform.logicalsX_deform _ D hX, Lattice.logicalsX_eq hwf]; rfl
  · rw [Deform.logicalsZ_deform _ D hZ, Lattice.logicalsZ_eq hwf]; rfl
  · rw [Deform.distance_deform hlen hp hv.wfX hv.wfZ]; exact hrep

end Panqec
