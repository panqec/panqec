/-
A second logical pair of `HollowRhombicCode(Lx, Ly, Lz)`: key lists `X`, `Z` of qubits such that X on
`X` meets every listed triangle, and Z on `Z` every listed cube, in an even number of qubits, `X`
and `Z` meet the declared line and sheet evenly and each other oddly (`SecondPair`).  Then the
lattice with the two operators added to its logical operators is well formed and satisfies every
commutation / pairing clause with `k = 2`, so every independent family of generators has at most
`n − 2` members.

Two ways to obtain a second pair.  At a fixed size the conditions are finitely many and are
evaluated (`SecondPair.of_check`).  And they are local: all predicates of the class compare a
coordinate with a constant or with `2L + c`, `c ≥ −5`, so from the box of coordinates `≤ 6` two sizes that
agree, or are both at least `5` in `x` and `6` in `y` and `z`, look the same (`Alike`), and a second pair
with keys in that box is one for both (`SecondPair.of_alike`).
-/
import PanqecVerif.Proofs.LatHollowRhombicCodeCss
import PanqecVerif.Proofs.OpComm
import PanqecVerif.Proofs.CodeAlgebra

namespace Panqec.HollowRhombicCode
open Panqec.Cubic3D
open Panqec.Planar3DCode (inE inO inE2 inO1)

instance (Lx Ly Lz : Nat) (x y z : Int) : Decidable (CubeLoc Lx Ly Lz x y z) := by
  unfold CubeLoc; infer_instance

instance (Lx Ly Lz : Nat) (tx ty tz : Prop) [Decidable tx] [Decidable ty] [Decidable tz] (x y z : Int) :
    Decidable (TriKeep Lx Ly Lz tx ty tz x y z) := by
  unfold TriKeep; infer_instance

/-- overlap with the keys of a generator, for a key list consisting of qubits -/
theorem ov_qubit_keys {Lx Ly Lz : Nat} (K cands : List Coord) (hK : ∀ q ∈ K, q ∈ qubits Lx Ly Lz) :
    ov K (cands.filter (isq Lx Ly Lz)) = K.countP fun q => decide (q ∈ cands) := by
  unfold ov
  apply List.countP_congr
  intro q hq
  simp only [List.mem_filter, decide_eq_true_eq, isq_iff]
  constructor
  · intro h; exact h.1
  · intro h; exact ⟨h, hK q hq⟩

/-- the lattice with X on `X` and Z on `Z` added to its logical operators -/
def withPair (Lx Ly Lz : Nat) (X Z : List Coord) : Lattice where
  qubits := (lattice Lx Ly Lz).qubits
  stabs := (lattice Lx Ly Lz).stabs
  getStab := (lattice Lx Ly Lz).getStab
  logX := (lattice Lx Ly Lz).logX ++ [uop X Pauli.X]
  logZ := (lattice Lx Ly Lz).logZ ++ [uop Z Pauli.Z]

theorem withPair_logX (Lx Ly Lz : Nat) (X Z : List Coord) :
    (withPair Lx Ly Lz X Z).logX = [uop (sheetKeys Lx Ly Lz) Pauli.X, uop X Pauli.X] :=
  congrArg (· ++ [uop X Pauli.X]) (lattice_logX Lx Ly Lz)

theorem withPair_logZ (Lx Ly Lz : Nat) (X Z : List Coord) :
    (withPair Lx Ly Lz X Z).logZ = [uop (lineKeys Lx Ly Lz) Pauli.Z, uop Z Pauli.Z] :=
  congrArg (· ++ [uop Z Pauli.Z]) (lattice_logZ Lx Ly Lz)

/-- `X`, `Z` are the keys of a second logical pair of the size.  The overlaps with the generators and
    with the sheet are counted on the candidate lists, which do not depend on the size. -/
structure SecondPair (Lx Ly Lz : Nat) (X Z : List Coord) : Prop where
  size : 1 ≤ Lx ∧ 1 ≤ Ly ∧ 3 ≤ Lz
  X_nodup : X.Nodup
  Z_nodup : Z.Nodup
  X_sub : ∀ q ∈ X, q ∈ qubits Lx Ly Lz
  Z_sub : ∀ q ∈ Z, q ∈ qubits Lx Ly Lz
  X_tri : ∀ {a x y z : Int}, 0 ≤ a ∧ a < 4 → VertexLoc Lx Ly Lz x y z →
    TriKeep Lx Ly Lz (TX Lx Ly Lz a x y z) (TY Lx Ly Lz a x y z) (TZ Lx Ly Lz a x y z) x y z →
    (X.countP fun q => decide (q ∈ triCands a x y z)) % 2 = 0
  Z_cube : ∀ {x y z : Int}, CubeLoc Lx Ly Lz x y z →
    (Z.countP fun q => decide (q ∈ cubeCands x y z)) % 2 = 0
  Z_sheet : (Z.countP fun q => decide (q ∈ sheetCands Lx Ly)) % 2 = 0
  X_line : ov X (lineKeys Lx Ly Lz) % 2 = 0
  X_Z : ov X Z % 2 = 1

namespace SecondPair
variable {Lx Ly Lz : Nat} {X Z : List Coord} (h : SecondPair Lx Ly Lz X Z)
include h

theorem wf : (withPair Lx Ly Lz X Z).WF := by
  have w := wf_all h.size.1 h.size.2.1 h.size.2.2
  have hm : ∀ a ∈ (withPair Lx Ly Lz X Z).logX ++ (withPair Lx Ly Lz X Z).logZ,
      a ∈ (lattice Lx Ly Lz).logX ++ (lattice Lx Ly Lz).logZ ∨ a = uop X Pauli.X ∨ a = uop Z Pauli.Z := by
    intro a ha
    rcases List.mem_append.mp ha with ha | ha <;> rcases List.mem_append.mp ha with ha | ha
    · exact Or.inl (List.mem_append_left _ ha)
    · exact Or.inr (Or.inl (List.mem_singleton.mp ha))
    · exact Or.inl (List.mem_append_right _ ha)
    · exact Or.inr (Or.inr (List.mem_singleton.mp ha))
  refine ⟨w.qubits_nodup, w.stabs_nodup, w.disjoint, w.stab_keys, w.stab_supported, w.stab_nonempty, ?_, ?_⟩
  · intro a ha
    rcases hm a ha with ha | rfl | rfl
    · exact w.log_keys a ha
    · rw [uop_keys]; exact h.X_nodup
    · rw [uop_keys]; exact h.Z_nodup
  · intro a ha e he
    rcases hm a ha with ha | rfl | rfl
    · exact w.log_supported a ha e he
    · obtain ⟨h1, h2⟩ := mem_uop.mp he
      exact ⟨h.X_sub _ h1, by rw [h2]; decide⟩
    · obtain ⟨h1, h2⟩ := mem_uop.mp he
      exact ⟨h.Z_sub _ h1, by rw [h2]; decide⟩

theorem commPair : (withPair Lx Ly Lz X Z).CommPair := by
  have c := HollowRhombicCode.commPair h.size.1 h.size.2.1 h.size.2.2
  have hX : ∀ s ∈ stabs Lx Ly Lz, opCommute (uop X Pauli.X) ((lattice Lx Ly Lz).getStab s) = true := by
    intro s hs
    rcases mem_stabs.mp hs with ⟨x, y, z, rfl, hc⟩ | ⟨a, x, y, z, rfl, ha, hv, hk⟩
    · rw [getStab_cube']; exact opCommute_uop_same _ _ _
    · rw [getStab_tri' _ _ _ ha]
      apply opCommute_uop_of_even
      unfold triKeys
      rw [ov_qubit_keys _ _ h.X_sub]
      exact h.X_tri ha hv hk
  have hZ : ∀ s ∈ stabs Lx Ly Lz, opCommute (uop Z Pauli.Z) ((lattice Lx Ly Lz).getStab s) = true := by
    intro s hs
    rcases mem_stabs.mp hs with ⟨x, y, z, rfl, hc⟩ | ⟨a, x, y, z, rfl, ha, hv, hk⟩
    · rw [getStab_cube']
      apply opCommute_uop_of_even
      unfold cubeKeys
      rw [ov_qubit_keys _ _ h.Z_sub]
      exact h.Z_cube hc
    · rw [getStab_tri' _ _ _ ha]; exact opCommute_uop_same _ _ _
  have hXs : ∀ a ∈ (withPair Lx Ly Lz X Z).logX, ∃ K, a = uop K Pauli.X := by
    intro a ha
    rw [withPair_logX] at ha
    simp only [List.mem_cons, List.not_mem_nil, or_false] at ha
    rcases ha with rfl | rfl <;> exact ⟨_, rfl⟩
  have hZs : ∀ a ∈ (withPair Lx Ly Lz X Z).logZ, ∃ K, a = uop K Pauli.Z := by
    intro a ha
    rw [withPair_logZ] at ha
    simp only [List.mem_cons, List.not_mem_nil, or_false] at ha
    rcases ha with rfl | rfl <;> exact ⟨_, rfl⟩
  refine ⟨c.stab_comm, ?_, ?_, ?_, ?_, ?_, ?_⟩
  · intro a ha s hs
    rcases List.mem_append.mp ha with ha | ha
    · exact c.logX_comm a ha s hs
    · rw [List.mem_singleton.mp ha]; exact hX s hs
  · intro a ha s hs
    rcases List.mem_append.mp ha with ha | ha
    · exact c.logZ_comm a ha s hs
    · rw [List.mem_singleton.mp ha]; exact hZ s hs
  · rw [withPair_logX, withPair_logZ]; rfl
  · intro i j hi hj
    rw [withPair_logX] at hi ⊢
    rw [withPair_logZ] at hj ⊢
    have hi' : i = 0 ∨ i = 1 := by change i < 2 at hi; omega
    have hj' : j = 0 ∨ j = 1 := by change j < 2 at hj; omega
    rcases hi' with rfl | rfl <;> rcases hj' with rfl | rfl
    · show opAntiCount (uop (sheetKeys Lx Ly Lz) Pauli.X) (uop (lineKeys Lx Ly Lz) Pauli.Z) % 2 = 1
      rw [opAntiCount_uop, sheet_line_one h.size.1 h.size.2.1 h.size.2.2]; rfl
    · show opAntiCount (uop (sheetKeys Lx Ly Lz) Pauli.X) (uop Z Pauli.Z) % 2 = 0
      rw [opAntiCount_uop, ov_comm (sheetKeys_nodup _ _ _) h.Z_nodup]
      unfold sheetKeys
      rw [ov_qubit_keys _ _ h.Z_sub]
      exact h.Z_sheet
    · show opAntiCount (uop X Pauli.X) (uop (lineKeys Lx Ly Lz) Pauli.Z) % 2 = 0
      rw [opAntiCount_uop]; exact h.X_line
    · show opAntiCount (uop X Pauli.X) (uop Z Pauli.Z) % 2 = 1
      rw [opAntiCount_uop]; exact h.X_Z
  · exact Lat2D.same_letter_comm Pauli.X _ hXs
  · exact Lat2D.same_letter_comm Pauli.Z _ hZs

/-- the rows of the generators with the two pairs of logical operators -/
theorem commPairL : CommPairL (lattice Lx Ly Lz).qubits.length 2 (lattice Lx Ly Lz).rowsH
    (withPair Lx Ly Lz X Z).rowsX (withPair Lx Ly Lz X Z).rowsZ := by
  have hc := Lattice.commPairL_rows h.wf h.commPair
  rwa [show (withPair Lx Ly Lz X Z).logX.length = 2 by rw [withPair_logX]; rfl] at hc

/-- every independent family of generators has at most `n − 2` members -/
theorem rank_le (r : Nat)
    (hr : HasRank (2 * (lattice Lx Ly Lz).qubits.length) (lattice Lx Ly Lz).rowsH r) :
    r + 2 ≤ (lattice Lx Ly Lz).qubits.length := by
  have h1 := hasRank_le_of_commute_pairing h.commPairL hr
  have h2 := h.commPairL.k_le
  omega

end SecondPair

/-- At a fixed size the listed generators are finitely many, so all conditions can be evaluated. -/
theorem SecondPair.of_check {Lx Ly Lz : Nat} {X Z : List Coord}
    (h : (1 ≤ Lx ∧ 1 ≤ Ly ∧ 3 ≤ Lz) ∧ X.Nodup ∧ Z.Nodup ∧
      (∀ q ∈ X, q ∈ qubits Lx Ly Lz) ∧ (∀ q ∈ Z, q ∈ qubits Lx Ly Lz) ∧
      (∀ a ∈ range1 0 4, ∀ x ∈ range2 2 (2 * (Lx : Int)), ∀ y ∈ range2 0 (2 * (Ly : Int)),
        ∀ z ∈ range2 0 (2 * (Lz : Int)),
        TriKeep Lx Ly Lz (TX Lx Ly Lz a x y z) (TY Lx Ly Lz a x y z) (TZ Lx Ly Lz a x y z) x y z →
        (X.countP fun q => decide (q ∈ triCands a x y z)) % 2 = 0) ∧
      (∀ x ∈ range2 1 (2 * (Lx : Int)), ∀ y ∈ range2 (-1) (2 * (Ly : Int)),
        ∀ z ∈ range2 1 (2 * (Lz : Int) - 1), CubeLoc Lx Ly Lz x y z →
        (Z.countP fun q => decide (q ∈ cubeCands x y z)) % 2 = 0) ∧
      (Z.countP fun q => decide (q ∈ sheetCands Lx Ly)) % 2 = 0 ∧
      ov X (lineKeys Lx Ly Lz) % 2 = 0 ∧ ov X Z % 2 = 1) :
    SecondPair Lx Ly Lz X Z := by
  obtain ⟨h0, h1, h2, h3, h4, hT, hC, h5, h6, h7⟩ := h
  refine ⟨h0, h1, h2, h3, h4, ?_, ?_, h5, h6, h7⟩
  · intro a x y z ha hv hk
    exact hT a (mem_range1.mpr ha) x (Planar3DCode.mem_rangeE2.mpr hv.1)
      y (Planar3DCode.mem_rangeE.mpr hv.2.1) z (Planar3DCode.mem_rangeE.mpr hv.2.2) hk
  · intro x y z hc
    have hc' := hc
    unfold CubeLoc at hc'
    exact hC x (mem_range2.mpr (by omega)) y (mem_range2.mpr (by omega)) z (mem_range2.mpr (by omega)) hc

/-- the two sizes agree or are both at least `5` in `x` and `6` in `y` and `z` -/
structure Alike (Lx Ly Lz Rx Ry Rz : Nat) : Prop where
  x : Lx = Rx ∨ (5 ≤ Lx ∧ 5 ≤ Rx)
  y : Ly = Ry ∨ (6 ≤ Ly ∧ 6 ≤ Ry)
  z : Lz = Rz ∨ (6 ≤ Lz ∧ 6 ≤ Rz)

theorem triKeep_congr {L1 L2 L3 M1 M2 M3 : Nat} {tx ty tz tx' ty' tz' : Prop} {x y z : Int}
    (h1 : tx ↔ tx') (h2 : ty ↔ ty') (h3 : tz ↔ tz') (h4 : MB L1 L2 L3 x y z ↔ MB M1 M2 M3 x y z)
    (h5 : EB L3 z ↔ EB M3 z)
    (h6 : ((y = 0 ∨ y = 2 * (L2 : Int) - 2) ∧ (z = 0 ∨ z = 2 * (L3 : Int) - 2)) ↔
      ((y = 0 ∨ y = 2 * (M2 : Int) - 2) ∧ (z = 0 ∨ z = 2 * (M3 : Int) - 2)))
    (h7 : Hole L1 L2 L3 x y z ↔ Hole M1 M2 M3 x y z) :
    TriKeep L1 L2 L3 tx ty tz x y z ↔ TriKeep M1 M2 M3 tx' ty' tz' x y z := by
  unfold TriKeep
  rw [h1, h2, h3, h4, h5, h6, h7]

theorem coords_le {m a b c : Int} (h : ∀ t ∈ [a, b, c], t ≤ m) : a ≤ m ∧ b ≤ m ∧ c ≤ m :=
  ⟨h a (by simp), h b (by simp), h c (by simp)⟩

theorem mem_lineKeys' {Lx Ly Lz : Nat} {a b c : Int} :
    [a, b, c] ∈ lineKeys Lx Ly Lz ↔ a = 2 * (Lx : Int) - 1 ∧ b = 2 * (Ly : Int) - 2 ∧ inE Lz c := by
  rw [mem_lineKeys]
  constructor
  · rintro ⟨z, h, hz⟩
    simp only [List.cons.injEq, and_true] at h
    obtain ⟨rfl, rfl, rfl⟩ := h
    exact ⟨rfl, rfl, hz⟩
  · rintro ⟨rfl, rfl, h⟩; exact ⟨c, rfl, h⟩

section
variable {Lx Ly Lz Rx Ry Rz : Nat} (hL : Alike Lx Ly Lz Rx Ry Rz)
include hL

theorem hole_alike {p q r : Int} (hp : p ≤ 7) (hq : q ≤ 7) (hr : r ≤ 7) :
    Hole Lx Ly Lz p q r ↔ Hole Rx Ry Rz p q r := by
  obtain ⟨h1, h2, h3⟩ := hL
  unfold Hole; omega

theorem qx_alike {p q r : Int} (hp : p ≤ 7) (hq : q ≤ 7) (hr : r ≤ 7) :
    Qx Lx Ly Lz p q r ↔ Qx Rx Ry Rz p q r := by
  unfold Qx
  refine and_congr Iff.rfl (and_congr ?_ (and_congr Iff.rfl (and_congr ?_ (and_congr Iff.rfl
    (and_congr ?_ (not_congr (hole_alike hL hp hq hr)))))))
  · have := hL.x; omega
  · have := hL.y; omega
  · have := hL.z; omega

theorem qy_alike {p q r : Int} (hp : p ≤ 7) (hq : q ≤ 7) (hr : r ≤ 7) :
    Qy Lx Ly Lz p q r ↔ Qy Rx Ry Rz p q r := by
  unfold Qy
  refine and_congr Iff.rfl (and_congr ?_ (and_congr Iff.rfl (and_congr ?_ (and_congr Iff.rfl
    (and_congr ?_ (not_congr (hole_alike hL hp hq hr)))))))
  · have := hL.x; omega
  · have := hL.y; omega
  · have := hL.z; omega

theorem qz_alike {p q r : Int} (hp : p ≤ 7) (hq : q ≤ 7) (hr : r ≤ 7) :
    Qz Lx Ly Lz p q r ↔ Qz Rx Ry Rz p q r := by
  unfold Qz
  refine and_congr Iff.rfl (and_congr ?_ (and_congr Iff.rfl (and_congr ?_ (and_congr Iff.rfl
    (and_congr ?_ (not_congr (hole_alike hL hp hq hr)))))))
  · have := hL.x; omega
  · have := hL.y; omega
  · have := hL.z; omega

theorem mem_qubits_alike {a b c : Int} (ha : a ≤ 7) (hb : b ≤ 7) (hc : c ≤ 7)
    (h : [a, b, c] ∈ qubits Rx Ry Rz) : [a, b, c] ∈ qubits Lx Ly Lz := by
  rcases qubit_parity h with ⟨h1, h2, h3⟩ | ⟨h1, h2, h3⟩ | ⟨h1, h2, h3⟩
  · rw [mem_qubits_x h1 h2 h3] at h ⊢; exact (qx_alike hL ha hb hc).mpr h
  · rw [mem_qubits_y h1 h2 h3] at h ⊢; exact (qy_alike hL ha hb hc).mpr h
  · rw [mem_qubits_z h1 h2 h3] at h ⊢; exact (qz_alike hL ha hb hc).mpr h

theorem mb_alike {x y z : Int} (hx : x ≤ 6) (hy : y ≤ 6) (hz : z ≤ 6) :
    MB Lx Ly Lz x y z ↔ MB Rx Ry Rz x y z := by
  unfold MB
  refine or_congr ?_ (or_congr Iff.rfl (or_congr ?_ (or_congr Iff.rfl (or_congr ?_ (or_congr Iff.rfl
    (or_congr Iff.rfl ?_))))))
  · have := hL.y; omega
  · have := hL.y; omega
  · have := hL.z; omega
  · have := hL.x; omega

theorem triKeep_alike {a x y z : Int} (hx : x ≤ 6) (hy : y ≤ 6) (hz : z ≤ 6) :
    TriKeep Lx Ly Lz (TX Lx Ly Lz a x y z) (TY Lx Ly Lz a x y z) (TZ Lx Ly Lz a x y z) x y z ↔
      TriKeep Rx Ry Rz (TX Rx Ry Rz a x y z) (TY Rx Ry Rz a x y z) (TZ Rx Ry Rz a x y z) x y z := by
  have hsx := sgnX_cases a
  have hsy := sgnY_cases a
  have hsz := sgnZ_cases a x y z
  have h2 := hL.y
  have h3 := hL.z
  apply triKeep_congr
  · exact qx_alike hL (by omega) (by omega) (by omega)
  · exact qy_alike hL (by omega) (by omega) (by omega)
  · exact qz_alike hL (by omega) (by omega) (by omega)
  · exact mb_alike hL hx hy hz
  · unfold EB; omega
  · omega
  · exact hole_alike hL (by omega) (by omega) (by omega)

theorem vertex_alike {x y z : Int} (hx : x ≤ 6) (hy : y ≤ 6) (hz : z ≤ 6)
    (hv : VertexLoc Lx Ly Lz x y z) : VertexLoc Rx Ry Rz x y z := by
  obtain ⟨h1, h2, h3⟩ := hL
  unfold VertexLoc inE2 inE at *; omega

theorem cubeLoc_alike {x y z : Int} (hx : x ≤ 6) (hy : y ≤ 6) (hz : z ≤ 6) :
    CubeLoc Lx Ly Lz x y z ↔ CubeLoc Rx Ry Rz x y z := by
  unfold CubeLoc
  refine and_congr ?_ (and_congr ?_ (and_congr ?_ (and_congr Iff.rfl (not_congr (and_congr
    (hole_alike hL (by omega) (by omega) (by omega)) (hole_alike hL (by omega) (by omega) (by omega)))))))
  · have := hL.x; omega
  · have := hL.y; omega
  · have := hL.z; omega

end

/-- a triangle at a vertex outside the box does not meet keys inside it -/
theorem countP_triCands_far {X : List Coord} (hX : ∀ q ∈ X, ∀ c ∈ q, c ≤ 6) {a x y z : Int}
    (hp : x % 2 = 0 ∧ y % 2 = 0 ∧ z % 2 = 0) (h : ¬ (x ≤ 6 ∧ y ≤ 6 ∧ z ≤ 6)) :
    (X.countP fun q => decide (q ∈ triCands a x y z)) = 0 := by
  rw [List.countP_eq_zero]
  intro q hq
  simp only [decide_eq_true_eq]
  intro hm
  have hb := hX q hq
  have hsx := sgnX_cases a
  have hsy := sgnY_cases a
  have hsz := sgnZ_cases a x y z
  unfold triCands at hm
  simp only [List.mem_cons, List.not_mem_nil, or_false] at hm
  rcases hm with rfl | rfl | rfl <;> have := coords_le hb <;> omega

/-- a cube outside the box does not meet keys with coordinates `≤ 5` -/
theorem countP_cubeCands_far {Lx Ly Lz : Nat} {Z : List Coord} (hZ : ∀ q ∈ Z, ∀ c ∈ q, c ≤ 5)
    (hq : ∀ q ∈ Z, q ∈ qubits Lx Ly Lz) {x y z : Int} (h : ¬ (x ≤ 6 ∧ y ≤ 6 ∧ z ≤ 6)) :
    (Z.countP fun q => decide (q ∈ cubeCands x y z)) = 0 := by
  rw [List.countP_eq_zero]
  intro q hm
  simp only [decide_eq_true_eq]
  obtain ⟨a, b, c, rfl⟩ := shape_of_mem_qubits (hq q hm)
  have := coords_le (hZ _ hm)
  rw [mem_cubeCands]
  omega

/-- A second pair of the size `R` whose keys lie in the box is a second pair of every size that
    looks the same from the box. -/
theorem SecondPair.of_alike {Lx Ly Lz Rx Ry Rz : Nat} {X Z : List Coord} (hL : Alike Lx Ly Lz Rx Ry Rz)
    (hX : ∀ q ∈ X, ∀ c ∈ q, c ≤ 6) (hZ : ∀ q ∈ Z, ∀ c ∈ q, c ≤ 5) (h : SecondPair Rx Ry Rz X Z) :
    SecondPair Lx Ly Lz X Z := by
  have hXs : ∀ q ∈ X, q ∈ qubits Lx Ly Lz := by
    intro q hq
    have hm := h.X_sub q hq
    obtain ⟨a, b, c, rfl⟩ := shape_of_mem_qubits hm
    have := coords_le (hX _ hq)
    exact mem_qubits_alike hL (by omega) (by omega) (by omega) hm
  have hZs : ∀ q ∈ Z, q ∈ qubits Lx Ly Lz := by
    intro q hq
    have hm := h.Z_sub q hq
    obtain ⟨a, b, c, rfl⟩ := shape_of_mem_qubits hm
    have := coords_le (hZ _ hq)
    exact mem_qubits_alike hL (by omega) (by omega) (by omega) hm
  refine ⟨?_, h.X_nodup, h.Z_nodup, hXs, hZs, ?_, ?_, ?_, ?_, h.X_Z⟩
  · have := h.size
    obtain ⟨h1, h2, h3⟩ := hL
    omega
  · intro a x y z ha hv hk
    by_cases hb : x ≤ 6 ∧ y ≤ 6 ∧ z ≤ 6
    · exact h.X_tri ha (vertex_alike hL hb.1 hb.2.1 hb.2.2 hv)
        ((triKeep_alike hL hb.1 hb.2.1 hb.2.2).mp hk)
    · unfold VertexLoc inE2 inE at hv
      rw [countP_triCands_far hX ⟨hv.1.2.2, hv.2.1.2.2, hv.2.2.2.2⟩ hb]
  · intro x y z hc
    by_cases hb : x ≤ 6 ∧ y ≤ 6 ∧ z ≤ 6
    · exact h.Z_cube ((cubeLoc_alike hL hb.1 hb.2.1 hb.2.2).mp hc)
    · rw [countP_cubeCands_far hZ hZs hb]
  · rw [← h.Z_sheet]
    congr 1
    apply List.countP_congr
    intro q hq
    obtain ⟨a, b, c, rfl⟩ := shape_of_mem_qubits (hZs q hq)
    have := coords_le (hZ _ hq)
    have h1 := hL.x
    have h2 := hL.y
    simp only [decide_eq_true_eq, sheetCands_eq, mem_sheetCandsH']
    omega
  · rw [← h.X_line]
    congr 1
    apply List.countP_congr
    intro q hq
    obtain ⟨a, b, c, rfl⟩ := shape_of_mem_qubits (hXs q hq)
    have := coords_le (hX _ hq)
    obtain ⟨h1, h2, h3⟩ := hL
    simp only [decide_eq_true_eq, mem_lineKeys']
    unfold inE
    omega

end Panqec.HollowRhombicCode
