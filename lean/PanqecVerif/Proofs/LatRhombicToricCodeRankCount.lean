/-
RhombicToricCode lattice model, rank clause: the selected family is duplicate-free and has exactly
`n − k = 3·Lx·Ly·Lz − 3` members (sizes even `≥ 2`).
-/
import Mathlib.Tactic.Ring
import PanqecVerif.Proofs.LatRhombicToricCodeRankFamily
open Panqec Panqec.Lat3Db Panqec.Rhombic
namespace Panqec.RhombicToricCode

/-! The triangles are listed block by block: one axis over a box of vertices, filtered by a class.  Two
blocks share no triangle because their axes, their columns or their classes differ. -/

theorem nodup_verts (xs : List Int) (Ly Lz : Nat) (p : Int → Int → Int → Bool) (h : xs.Nodup) :
    (verts xs Ly Lz p).Nodup := nodup_grid3 _ _ _ _ h (nodup_pyRange2 _ _) (nodup_pyRange2 _ _)

section block
variable {a : Int} {x0 x1 y0 y1 z0 z1 : Nat} {p : Int → Int → Int → Bool}

/-- a part of a block in front of a duplicate-free list that holds no triangle of the block -/
theorem nodup_blk_append {l rest : List Coord}
    (hl : l.Sublist ((grid3 (pyRange2 x0 x1) (pyRange2 y0 y1) (pyRange2 z0 z1) p).map fun c => a :: c))
    (hr : rest.Nodup)
    (hd : ∀ x y z, [a, x, y, z] ∈ (grid3 (pyRange2 x0 x1) (pyRange2 y0 y1) (pyRange2 z0 z1) p).map
      (fun c => a :: c) → [a, x, y, z] ∈ rest → False) : (l ++ rest).Nodup := by
  have hn := nodup_map_cons a (nodup_grid3 _ _ _ p (nodup_pyRange2 x0 x1) (nodup_pyRange2 y0 y1)
    (nodup_pyRange2 z0 z1))
  refine nodup_append_of (hn.sublist hl) hr fun s h1 h2 => ?_
  obtain ⟨c, hc, rfl⟩ := List.mem_map.mp (hl.subset h1)
  obtain ⟨x, y, z, rfl⟩ := shape_grid3 hc
  exact hd x y z (hl.subset h1) h2

end block

theorem nodup_selStabs (Lx Ly Lz : Nat) (hx : 2 ≤ Lx) (hy : 2 ≤ Ly) (hz : 2 ≤ Lz) :
    (selStabs Lx Ly Lz).Nodup := by
  unfold selStabs
  refine nodup_append_of ((nodup_grid3 _ _ _ _ (nodup_pyRange2 _ _) (nodup_pyRange2 _ _)
    (nodup_pyRange2 _ _)).filter _) ?_ fun s h1 h2 => ?_
  · unfold selBulk selLast selFirst verts
    simp only [List.append_assoc]
    iterate 5
      refine nodup_blk_append (.refl _) ?_ fun x y z h1 h2 => by
        simp only [List.mem_append, List.mem_filter, mem_blk, mem_pyRange2, par0, par2, beq_iff_eq] at h1 h2
        omega
    refine nodup_blk_append List.filter_sublist ?_ fun x y z h1 h2 => by
      simp only [List.mem_append, mem_blk, mem_pyRange2, par0, par2, beq_iff_eq] at h1 h2
      omega
    iterate 5
      refine nodup_blk_append (.refl _) ?_ fun x y z h1 h2 => by
        simp only [List.mem_append, mem_blk, mem_pyRange2, par0, par2, beq_iff_eq] at h1 h2
        omega
    exact nodup_map_cons 0 (nodup_grid3 _ _ _ _ (nodup_pyRange2 _ _) (nodup_pyRange2 _ _)
      (nodup_pyRange2 _ _))
  · obtain ⟨x, y, z, rfl⟩ := shape_grid3 (List.mem_filter.mp h1).1
    obtain ⟨a, x', y', z', e⟩ := shape_selTri h2
    simp at e

theorem length_selCubes (Lx Ly Lz : Nat) (hx : 2 ≤ Lx) (hy : 1 ≤ Ly) (hz : 1 ≤ Lz) :
    (selCubes Lx Ly Lz).length + 1 = half (Lx * (Ly * Lz)) false := by
  have hmem : [3, 1, 1] ∈ grid3 (pyRange2 1 (2*Lx)) (pyRange2 1 (2*Ly)) (pyRange2 1 (2*Lz)) cubeKeep := by
    rw [mem_grid3_cons]
    simp only [mem_pyRange2_1, cubeKeep]
    unfold R1
    refine ⟨by omega, by omega, by omega, by decide⟩
  unfold selCubes
  rw [length_filter_ne _ _ (nodup_grid3 _ _ _ _ (nodup_pyRange2 _ _) (nodup_pyRange2 _ _)
    (nodup_pyRange2 _ _)) hmem, length_cubes]
  rfl

theorem length_verts_true (xs : List Int) (Ly Lz : Nat) :
    (verts xs Ly Lz allTrue).length = xs.length * Ly * Lz := by
  unfold verts allTrue
  rw [length_grid3_true, length_pyRange2, length_pyRange2]
  have e : ∀ L : Nat, (2 * L + 1 - 0) / 2 = L := fun L => by omega
  rw [e, e]

theorem length_selBulk (Lx Ly Lz : Nat) (hx : 2 ≤ Lx) :
    (selBulk Lx Ly Lz).length = half ((Lx - 2) * (Ly * Lz)) true + 2 * ((Lx - 2) * Ly * Lz) := by
  unfold selBulk
  simp only [List.length_append, List.length_map, length_verts_true, length_pyRange2]
  have e1 : (2 * Lx - 2 + 1 - 2) / 2 = Lx - 2 := by omega
  rw [e1]
  have h1 : (verts (pyRange2 2 (2*Lx-2)) Ly Lz par2).length = half ((Lx - 2) * (Ly * Lz)) true := by
    unfold verts
    rw [pyRange2_eq_ap, pyRange2_eq_ap, pyRange2_eq_ap]
    have e : ∀ L : Nat, (2 * L + 1 - 0) / 2 = L := fun L => by omega
    rw [e1, e, e]
    have := length_grid3_checker ((2 : Nat) : Int) ((0 : Nat) : Int) ((0 : Nat) : Int) 2 (Lx - 2) Ly Lz
      (by decide) (by decide)
    unfold par2
    rw [this]
    rfl
  rw [h1]
  omega

theorem length_selLast (Lx Ly Lz : Nat) (hx : 2 ≤ Lx) (hy : 1 ≤ Ly) (hz : 1 ≤ Lz) :
    (selLast Lx Ly Lz).length + 1 = 3 * (Ly * Lz) := by
  have e1 : (2 * Lx + 1 - (2 * Lx - 2)) / 2 = 1 := by omega
  have hmem : [1, 2*(Lx:Int)-2, 0, 0] ∈ (verts (pyRange2 (2*Lx-2) (2*Lx)) Ly Lz allTrue).map
      (fun c => (1 : Int) :: c) := by
    rw [List.mem_map]
    refine ⟨[2*(Lx:Int)-2, 0, 0], ?_, rfl⟩
    rw [mem_verts, mem_pyRange2]
    unfold R0 allTrue
    refine ⟨by omega, by omega, by omega, rfl⟩
  unfold selLast
  simp only [List.length_append, List.length_map, length_verts_true, length_pyRange2, e1]
  have := length_filter_ne _ _ (nodup_map_cons 1 (nodup_verts (pyRange2 (2*Lx-2) (2*Lx)) Ly Lz allTrue
    (nodup_pyRange2 _ _))) hmem
  rw [List.length_map, length_verts_true, length_pyRange2, e1] at this
  simp only [Nat.one_mul] at this ⊢
  generalize Ly * Lz = N at *
  generalize (List.filter _ _).length = F at this ⊢
  omega

theorem length_selFirst (Lx Ly Lz : Nat) (hy : 1 ≤ Ly) (hz : 1 ≤ Lz) :
    (selFirst Lx Ly Lz).length + 1 = 2 * (Ly * Lz) := by
  unfold selFirst verts par0 par2
  simp only [List.length_append, List.length_map]
  rw [pyRange2_eq_ap 0 2, pyRange2_eq_ap 0 (2*Ly), pyRange2_eq_ap 0 (2*Lz), pyRange2_eq_ap 2 (2*Lz),
    pyRange2_eq_ap 0 (2*Ly-2), pyRange2_eq_ap (2*Lz-2) (2*Lz)]
  have e0 : (2 + 1 - 0) / 2 = 1 := by omega
  have e1 : (2 * Ly + 1 - 0) / 2 = Ly := by omega
  have e2 : (2 * Lz + 1 - 0) / 2 = Lz := by omega
  have e3 : (2 * Lz + 1 - 2) / 2 = Lz - 1 := by omega
  have e4 : (2 * Ly - 2 + 1 - 0) / 2 = Ly - 1 := by omega
  have e5 : (2 * Lz + 1 - (2 * Lz - 2)) / 2 = 1 := by omega
  rw [e0, e1, e2, e3, e4, e5]
  have a1 := length_grid3_checker_pair ((0 : Nat) : Int) ((0 : Nat) : Int) ((0 : Nat) : Int) 1 Ly Lz (by decide)
  have a2 := length_grid3_checker_pair ((0 : Nat) : Int) ((0 : Nat) : Int) ((2 : Nat) : Int) 1 Ly (Lz - 1)
    (by decide)
  have a3 := length_grid3_checker_pair ((0 : Nat) : Int) ((0 : Nat) : Int) ((2 * Lz - 2 : Nat) : Int) 1
    (Ly - 1) 1 (by omega)
  obtain ⟨b, rfl⟩ : ∃ b, Ly = b + 1 := ⟨Ly - 1, by omega⟩
  obtain ⟨c, rfl⟩ : ∃ c, Lz = c + 1 := ⟨Lz - 1, by omega⟩
  simp only [Nat.add_sub_cancel, Nat.one_mul, Nat.mul_one] at a1 a2 a3 ⊢
  have hfin : (b + 1) * (c + 1) + (b + 1) * c + b + 1 = 2 * ((b + 1) * (c + 1)) := by ring
  omega

theorem selStabs_count (Lx Ly Lz : Nat) (hx : 2 ≤ Lx) (hy : 2 ≤ Ly) (hz : 2 ≤ Lz)
    (hey : Ly % 2 = 0) :
    (selStabs Lx Ly Lz).length + (logX Lx Ly Lz).length = (qubits Lx Ly Lz).length := by
  rw [length_logX, show (qubits Lx Ly Lz).length = _ from XCubeCode.length_qubits Lx Ly Lz]
  unfold selStabs
  simp only [List.length_append]
  have h1 := length_selCubes Lx Ly Lz hx (by omega) (by omega)
  have h2 := length_selBulk Lx Ly Lz hx
  have h3 := length_selLast Lx Ly Lz hx (by omega) (by omega)
  have h4 := length_selFirst Lx Ly Lz (by omega) (by omega)
  have hN : (Ly * Lz) % 2 = 0 := by rw [Nat.mul_mod, hey]; simp
  have ev1 : (Lx * (Ly * Lz)) % 2 = 0 := by rw [Nat.mul_mod, hN]; simp
  have ev2 : ((Lx - 2) * (Ly * Lz)) % 2 = 0 := by rw [Nat.mul_mod, hN]; simp
  have k1 := two_mul_half_of_even false ev1
  have k2 := two_mul_half_of_even true ev2
  generalize half (Lx * (Ly * Lz)) false = H1 at *
  generalize half ((Lx - 2) * (Ly * Lz)) true = H2 at *
  obtain ⟨a, rfl⟩ : ∃ a, Lx = a + 2 := ⟨Lx - 2, by omega⟩
  simp only [Nat.add_sub_cancel] at *
  have e1 : (a + 2) * (Ly * Lz) = a * (Ly * Lz) + 2 * (Ly * Lz) := by ring
  have e2 : a * Ly * Lz = a * (Ly * Lz) := by ring
  have e3 : (a + 2) * Ly * Lz = a * (Ly * Lz) + 2 * (Ly * Lz) := by ring
  rw [e2] at h2
  rw [e3]
  rw [e1] at k1
  generalize a * (Ly * Lz) = P at *
  generalize Ly * Lz = N at *
  omega

end Panqec.RhombicToricCode
