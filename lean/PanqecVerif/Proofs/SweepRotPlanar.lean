/-
Geometry of C10 on RotatedPlanar3DCode, for EVERY size L_x, L_y, L_z (no lower bound is
needed): on every edge `RotatedSweepDecoder3D.flip_edge` (branch on `z % 2`, `x % 4`, `y % 4`,
neighbour list, `is_stabilizer(·, 'face')` filter) toggles exactly the face stabilizers
(rows of type `'face'`, truncated at the boundaries by `is_qubit`) that contain the edge.  The
class is not periodic: `_wrap` is the identity (`rotSeam = false`).

`get_stabilizer` of a face lists the unit steps to locations of edge class, `flip_edge` the unit
steps to locations of face class (`rotTables`), and neither wraps: `NbrTables.toggled_iff`.
-/
import PanqecVerif.Proofs.SweepRotPlanarBase

namespace Panqec.Sweep

section
variable (Lx Ly Lz : Nat)

theorem rotPlanar_op_face (l : Loc) (ds : List Loc) (hf : rotIsFace l = true)
    (hd : rotFaceDeltas l = some ds) :
    (rotPlanar3D Lx Ly Lz).stabOp l = (ds.map fun d => (addLoc l d, Pauli.X)).filter
      (fun e => (rotPlanar3D Lx Ly Lz).qubits.contains e.1) := by
  simp only [rotPlanar3D, rotPlanarStabOp, hf, hd, if_true]
  exact buildOp_eq_filter _ _ (rotFaceCands_nodup l ds hd)

/-- `get_stabilizer` of a vertex (z odd, `(x + y) % 4 = 2`) has Z entries only -/
theorem rotPlanar_op_vertex (a b c : Int) (pc : c % 2 = 1) (h4 : (a + b) % 4 = 2) :
    ∀ e ∈ (rotPlanar3D Lx Ly Lz).stabOp (a, b, c), e.2 = Pauli.Z := by
  simp only [rotPlanar3D, rotPlanarStabOp, rotIsFace, xyMod4, h4, pc, beq_self_eq_true,
    Bool.and_self, Bool.not_true, Bool.false_eq_true, if_false]
  rw [buildOp_eq_filter _ _ (by
    rw [List.map_map]
    exact (by decide : rotVertexDeltasPlanar.Nodup).map fun _ _ => addLoc_left_cancel)]
  intro e he
  obtain ⟨d, -, rfl⟩ := List.mem_map.mp (List.mem_filter.mp he).1
  rfl

theorem rotPlanar_faceHas (l : Loc) (ds : List Loc) (hf : rotIsFace l = true)
    (hd : rotFaceDeltas l = some ds) (q : Loc) (hq : q ∈ rotPlanarQubits Lx Ly Lz) :
    faceHasRot (rotPlanar3D Lx Ly Lz) l q = true ↔ q ∈ ds.map (addLoc l) := by
  rw [faceHasRot, faceHasK_of_X_filter (rotPlanar3D Lx Ly Lz).isFace _ l q _ hf (rotPlanar_op_face Lx Ly Lz l ds hf hd)
    (rotFaceCands_nodup l ds hd)
    (fun e he => by obtain ⟨d, -, rfl⟩ := List.mem_map.mp he; rfl) hq, decide_eq_true_iff,
    List.map_map]
  rfl

/-- parities of a stabilizer location: horizontal (vertex or face), or a vertical face -/
theorem rotPlanarStabs_par (a b c : Int) (hs : (a, b, c) ∈ rotPlanarStabs Lx Ly Lz) :
    (a % 2 = 0 ∧ b % 2 = 0 ∧ c % 2 = 1) ∨ (a % 2 = 1 ∧ b % 2 = 1 ∧ c % 2 = 0) := by
  rcases (mem_rotPlanarStabs Lx Ly Lz a b c).mp hs with h | h | h
  · obtain ⟨-, -, pa, -, -, pb, -, -, pc, -⟩ := h
    exact Or.inl ⟨pa, pb, pc⟩
  · obtain ⟨-, -, pa, -, -, pb, -, -, pc, -⟩ := h
    exact Or.inl ⟨pa, pb, pc⟩
  · obtain ⟨-, -, pa, -, -, pb, -, -, pc⟩ := h
    exact Or.inr ⟨pa, pb, pc⟩

/-- GEOMETRY, all sizes: on every edge of `RotatedPlanar3DCode(L_x, L_y, L_z)`,
    `RotatedSweepDecoder3D.flip_edge` toggles exactly the face stabilizers that anticommute
    with Z on that edge. -/
theorem rotPlanar_flipTableOK :
    flipTableOKRot (rotPlanar3D Lx Ly Lz) (flipFacesRot (rotPlanar3D Lx Ly Lz)) = true := by
  unfold flipTableOKRot
  rw [List.all_eq_true]
  rintro ⟨x, y, z⟩ hq
  have hqc := cls4_edge x y z (rotPlanarQubits_edge Lx Ly Lz x y z hq)
  refine flipOKRot_of_faces _ _ _ ((rotEdgeDeltas (cls4 (x, y, z))).map (addLoc (x, y, z))) ?_
    ((rotTables_aux.1 _ hqc).map fun _ _ => addLoc_left_cancel) ?_
  · rw [flipFacesRot_noSeam _ rfl, rawFacesRot_eq _ hqc]
    rfl
  · rintro ⟨a, b, c⟩ hs hf
    have hsc := cls4_face a b c (rotPlanarStabs_par Lx Ly Lz a b c hs) hf
    rw [rotPlanar_faceHas Lx Ly Lz _ _ hf (rotFaceDeltas_eq _ hsc) _ hq, List.mem_map, List.mem_map]
    -- neither side wraps: a step and its reverse
    refine (rotTables.toggled_iff id id (fun _ => rfl) (fun _ => rfl) hqc hsc fun d _ => ?_).symm
    exact ⟨fun h => h ▸ addLoc_negLoc _ _, fun h => h ▸ addLoc_negLoc' _ _⟩

end
end Panqec.Sweep
