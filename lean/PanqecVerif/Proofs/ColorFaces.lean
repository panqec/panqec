/-
The 2-D colour-code classes list, for every face `(x, y)` of a list `F`, the generators `(x, y, 0)`
(letter X) and `(x, y, 1)` (letter Z) on the same support `supp x y` (`Color.both F`).  Here: the
triangular-probe criterion for such a family, from one probe corner per face and a rank of the
faces.  Core Lean only.
-/
import PanqecVerif.Proofs.ColorBase
import PanqecVerif.Proofs.Lat2DRank

namespace Panqec.Color
open Panqec.Lat2D

theorem mem_both_faces {F : List Coord} (hF : ∀ c ∈ F, ∃ x y, c = [x, y]) {s : Coord}
    (hs : s ∈ both F) : ∃ x y p, s = [x, y, p] ∧ [x, y] ∈ F ∧ (p = 0 ∨ p = 1) := by
  obtain ⟨c, hc, h⟩ := mem_both.mp hs
  obtain ⟨x, y, rfl⟩ := hF c hc
  rcases h with rfl | rfl
  · exact ⟨x, y, 0, rfl, hc, Or.inl rfl⟩
  · exact ⟨x, y, 1, rfl, hc, Or.inr rfl⟩

/-- The triangular criterion for the X and Z generators of the faces `F`: the probe of `(x, y, p)`
    carries the other letter on a corner `pq x y` of the face, and that corner lies on no other face
    of `F` of equal or larger rank `rk`. -/
theorem triangular_of_faces {l : Lattice} {F : List Coord} {probe : Coord → Coord × Pauli}
    {μ : Coord → Nat} (supp : Int → Int → List Coord) (pq : Int → Int → Coord) (rk : Int → Int → Int)
    (hF : ∀ c ∈ F, ∃ x y, c = [x, y])
    (hstab : ∀ x y p, [x, y] ∈ F → (p = 0 ∨ p = 1) →
      l.getStab [x, y, p] = (supp x y).map fun q => (q, if p = 0 then Pauli.X else Pauli.Z))
    (hprobe : ∀ x y p, probe [x, y, p] = (pq x y, if p = 0 then Pauli.Z else Pauli.X))
    (hμ : ∀ x y p, [x, y] ∈ F → ((μ [x, y, p] : Nat) : Int) = rk x y)
    (hown : ∀ x y, [x, y] ∈ F → pq x y ∈ supp x y)
    (hq : ∀ x y, [x, y] ∈ F → ∀ q ∈ supp x y, q ∈ l.qubits)
    (hlater : ∀ x y x' y', [x, y] ∈ F → [x', y'] ∈ F → ¬ (x = x' ∧ y = y') → rk x y ≤ rk x' y' →
      pq x y ∉ supp x' y') :
    TriangularProbes l (both F) probe μ := by
  refine .of_keys (fun s => match s with | [x, y, _] => supp x y | _ => [])
    (fun s => match s with | [_, _, p] => if p = 0 then Pauli.X else Pauli.Z | _ => Pauli.I)
    (fun s hs => ?_) (fun s hs => ?_) (fun s hs => ?_) (fun s hs t ht hne hle => ?_)
  · obtain ⟨x, y, p, rfl, h, hp⟩ := mem_both_faces hF hs
    exact hstab x y p h hp
  · obtain ⟨x, y, p, rfl, h, -⟩ := mem_both_faces hF hs
    exact hq x y h
  · obtain ⟨x, y, p, rfl, h, hp⟩ := mem_both_faces hF hs
    rw [hprobe]
    exact ⟨by rcases hp with rfl | rfl <;> rfl, hown x y h⟩
  · obtain ⟨x, y, p, rfl, h, hp⟩ := mem_both_faces hF hs
    obtain ⟨x', y', p', rfl, h', hp'⟩ := mem_both_faces hF ht
    rw [hprobe]
    rintro ⟨ha, hm⟩
    -- the letters anticommute only for the same `p`
    have hpp : p = p' := by
      rcases hp with rfl | rfl <;> rcases hp' with rfl | rfl <;>
        first | rfl | exact absurd ha (Bool.false_ne_true)
    subst hpp
    refine hlater x y x' y' h h' (fun e => hne (by rw [e.1, e.2])) ?_ hm
    rw [← hμ x y p h, ← hμ x' y' p h']
    exact Int.ofNat_le.mpr hle

end Panqec.Color
