/-
`XCubeMatchingDecoder.decode` raises nothing but what its sub-decoders raise or the endless
`get_matched_pairs` walk, in particular no `KeyError`: on a lattice with all sides ≥ 2 (undeformed
code) on which the loop-scatter keys exist (`PlaneKeysOk`: every such lattice for the repaired code,
those with `Lx ≤ Ly ≤ Lz` for `XCubeDec.old`), for every syndrome vector and every answer of
PyMatching.  The stages of `decode` are composed, each with its invariant.
-/
import PanqecVerif.Proofs.XCubeDecSlice
import PanqecVerif.Proofs.XCubeDecValid
import PanqecVerif.Proofs.XCubeDecNew

namespace Panqec.XCube

open Panqec

variable {W α : Type}

/-- what the theorems use of the decoder object (nothing about the sizes handed to `decode_plane`:
    shared by the repaired code and by `XCubeDec.old`) -/
structure Built (d : XCubeDec W) : Prop where
  geom : Geom d
  matching_n : ∀ a, (d.matching.get a).n = (d.toric.get a).n
  H : d.H = (stabilizerMatrix (codeData d.Lx d.Ly d.Lz none)).getD []

theorem built_old {d : XCubeDec W} (b : Built d) : Built d.old :=
  ⟨⟨b.geom.qubits, b.geom.stabs, b.geom.toric, b.geom.hx, b.geom.hy, b.geom.hz⟩, b.matching_n, b.H⟩

theorem built_of_new (logOdds : Rat → W) (Lx Ly Lz : Nat) (px py pz : List Rat) (cfg : BpCfg)
    (hx : 1 ≤ Lx) (hy : 1 ≤ Ly) (hz : 1 ≤ Lz)
    (d : XCubeDec W) (h : XCubeDec.new logOdds Lx Ly Lz none px py pz cfg = .ok d) : Built d := by
  have f := new_ok_fields logOdds Lx Ly Lz none px py pz cfg d h
  refine ⟨⟨by rw [f.qubits, f.hLx, f.hLy, f.hLz], by rw [f.stabs, f.hLx, f.hLy, f.hLz], ?_,
    f.hLx ▸ hx, f.hLy ▸ hy, f.hLz ▸ hz⟩, f.matching_n, by rw [f.H, f.hLx, f.hLy, f.hLz]⟩
  intro a
  rw [f.toric, f.hLx, f.hLy, f.hLz]
  cases a <;> rfl

theorem matchLoc_nonneg (d : XCubeDec W) (g : Geom d) (ax : Axis) (loc : Coord) (h : MatchLoc d ax loc) :
    NonNegC loc := by
  obtain ⟨a, b, plane, rfl, hq, hp⟩ := h
  rw [g.toric ax, toricView_qubits, Toric2DCode.mem_qubits'] at hq
  unfold Toric2DCode.IsQ Toric2DCode.InBox at hq
  unfold Lat3Db.R1 at hp
  intro v hv
  cases ax <;> simp [tupleInsert, Axis.toNat] at hv <;> omega

theorem tupleRemove_nonneg (c : Coord) (i : Nat) (h : NonNegC c) : NonNegC (tupleRemove c i) :=
  fun v hv => h v (List.mem_of_mem_eraseIdx hv)

theorem toricLoop_nonneg (ortho : List Coord) (comp : List Int) (p : Nat) (h : ∀ c ∈ ortho, NonNegC c) :
    ∀ c ∈ toricLoop ortho comp p, NonNegC c := by
  intro c hc
  unfold toricLoop at hc
  simp only at hc
  have hc1 := (List.mem_filter.mp hc).1
  rw [List.mem_eraseDups] at hc1
  obtain ⟨loc, hloc, rfl⟩ := List.mem_map.mp hc1
  exact tupleRemove_nonneg _ _ (h loc (List.mem_filter.mp hloc).1)

variable (solve : WSolver W) (order : List Int → List Int) (horder : ∀ l x, x ∈ order l ↔ x ∈ l)
  (d : XCubeDec W) (b : Built d) (hx : 2 ≤ d.Lx) (hy : 2 ≤ d.Ly) (hz : 2 ≤ d.Lz) (hok : PlaneKeysOk d)
  (hsz : ∀ proj, 1 ≤ (d.planeSizes proj).1 ∧ 1 ≤ (d.planeSizes proj).2)

theorem toricSizes_ge {Lx Ly Lz : Nat} (hx : 2 ≤ Lx) (hy : 2 ≤ Ly) (hz : 2 ≤ Lz) (a : Axis) :
    2 ≤ (toricSizes Lx Ly Lz a).1 ∧ 2 ≤ (toricSizes Lx Ly Lz a).2 := by
  cases a
  · exact ⟨hy, hz⟩
  · exact ⟨hx, hz⟩
  · exact ⟨hx, hy⟩

include b hx hy hz in
theorem spec_decodePlaneSyndrome (proj axis : Axis) (plane : Int) (hplane : Lat3Db.R1 (2 * d.side axis) plane) (cur : Vec)
    (cp : PlaneDict (List Int)) (hcp : CpInv d proj cp) :
    Spec (decodePlaneSyndrome solve d proj axis plane cur cp) DecOrHang
      (fun r => (∀ loc ∈ r.1, MatchLoc d axis loc) ∧ CpInv d proj r.2) := by
  have g := b.geom
  unfold decodePlaneSyndrome
  simp only
  split
  · exact spec_pure ⟨(by intro loc h; cases h), hcp⟩
  · cases hdec : (d.matching.get axis).decode solve cur with
    | error e => exact spec_raise (Or.inr ⟨_, rfl⟩)
    | ok r =>
      obtain ⟨c, ev⟩ := r
      simp only
      have hclen : c.length = 2 * (d.toric.get axis).n := by
        rw [MatchingDec.decode_length solve _ cur c ev hdec, b.matching_n axis]
      -- the Z half of the matching answer has one entry per toric qubit, so every index read from it is a qubit of the
      -- toric view: the location lifted into the plane is a `MatchLoc`; the rest is the bind rule over the stage lemmas
      have hlocs : ∀ loc ∈ (nonzeroIdx (c.drop (d.toric.get axis).n)).map fun i =>
          tupleInsert ((d.toric.get axis).qubits.getD i []) axis.toNat plane, MatchLoc d axis loc := by
        intro loc hloc
        obtain ⟨i, hi, rfl⟩ := List.mem_map.mp hloc
        have hilt : i < (d.toric.get axis).qubits.length := by
          have := mem_nonzeroIdx hi
          rw [List.length_drop, hclen] at this
          unfold ToricView.n at this
          omega
        obtain ⟨q, hget, hmem⟩ : ∃ q, (d.toric.get axis).qubits.getD i [] = q ∧
            q ∈ (d.toric.get axis).qubits :=
          ⟨(d.toric.get axis).qubits[i], by simp [List.getD, List.getElem?_eq_getElem hilt],
            List.getElem_mem _⟩
        have hmem2 := hmem
        rw [g.toric axis, toricView_qubits, Toric2DCode.mem_qubits] at hmem2
        obtain ⟨a, bb, hab, _⟩ := hmem2
        subst hab
        exact ⟨a, bb, plane, by rw [hget], hmem, hplane⟩
      have hHx : (Hx (d.toric.get axis).H).length ≤
          (toricSizes d.Lx d.Ly d.Lz axis).1 * (toricSizes d.Lx d.Ly d.Lz axis).2 := by
        rw [g.toric axis]
        exact Nat.le_of_eq (toric_Hx_rows _ _ (toricSizes_ge hx hy hz axis).1 (toricSizes_ge hx hy hz axis).2)
      refine spec_bind (spec_emit _) fun _ _ => ?_
      refine spec_bind (spec_matchedPairs (Hx (d.toric.get axis).H) (c.drop (d.toric.get axis).n)
        (extractXSyndrome (d.toric.get axis).H cur) _ hHx
        (Nat.le_trans (extractX_length_le _ _) hHx)) fun pairs hp => ?_
      refine spec_bind (spec_note _) fun _ _ => ?_
      split
      · rename_i hne
        exact spec_bind (spec_connectPairs d g proj axis hne pairs hp cp hcp) fun cp' hcp' =>
          spec_pure ⟨hlocs, hcp'⟩
      · exact spec_pure ⟨hlocs, hcp⟩

/-- invariant of "Decode all the 2D toric codes" -/
def AllInv (d : XCubeDec W) (proj : Axis) (st : Per (List Coord) × PlaneDict (List Int)) : Prop :=
  (∀ a, ∀ loc ∈ st.1.get a, MatchLoc d a loc) ∧ CpInv d proj st.2

include b hx hy hz in
theorem spec_decodeAllPlanes (proj : Axis)
    (ps : Per (PlaneDict Vec)) (hps : PsInv d ps) (cp : PlaneDict (List Int)) (hcp : CpInv d proj cp) :
    Spec (decodeAllPlanes solve d proj ps cp) DecOrHang (AllInv d proj) := by
  unfold decodeAllPlanes
  refine spec_forM' (AllInv d proj) (fun st axis _ hst => ?_) _
    ⟨(by intro a loc h; cases a <;> cases h), hcp⟩
  refine spec_forM' (AllInv d proj) (fun st e he hst => ?_) st hst
  have hplane : Lat3Db.R1 (2 * d.side axis) e.1 := (hps axis e.1).mp (List.mem_map_of_mem (f := (·.1)) he)
  refine spec_bind (spec_decodePlaneSyndrome solve d b hx hy hz proj axis e.1 hplane e.2 st.2 hst.2) fun r hr =>
    spec_pure ⟨?_, hr.2⟩
  intro a loc hloc
  rw [Per.get_set] at hloc
  split at hloc
  · rename_i ha; subst ha
    rcases List.mem_append.mp hloc with h | h
    · exact hst.1 a loc h
    · exact hr.1 loc h
  · exact hst.1 a loc hloc

include hok hsz in
theorem errs_loopsAll (proj : Axis) (comps : List (List Int))
    (hcomps : ∀ comp ∈ comps, Lat3Db.R1 (2 * d.side proj) (comp.headD 0))
    (ortho : List Coord) (hortho : ∀ c ∈ ortho, NonNegC c) (pc : Vec) :
    Errs (loopsAll d proj comps ortho pc) DecOrHang := by
  unfold loopsAll
  refine spec_forM' (fun _ => True) (fun st comp hcomp _ => ?_) pc trivial
  refine spec_bind (spec_note _) fun _ _ => ?_
  refine spec_bind ((errs_decodePlane _ (toricLoop_nonneg ortho comp _ hortho) _ _ (hsz proj).1 (hsz proj).2 _).withPost
    (post_decodePlane _ _ _)) fun coords hcoords => ?_
  refine spec_bind (spec_note _) fun _ _ => ?_
  exact errs_loopScatter_of_keys d hok proj _ (hcomps comp hcomp) coords hcoords st _

theorem head_mem_of_ne_nil : ∀ (l : List Int), l ≠ [] → l.headD 0 ∈ l
  | [], h => absurd rfl h
  | a :: _, _ => by simp

include horder b hx hy hz hok hsz in
theorem spec_projIter (s : Vec)
    (st : Per (PlaneDict Vec) × Per Vec) (hst : PsInv d st.1) (proj : Axis) :
    Spec (projIter solve order d (maskX d.H s) st proj) DecOrHang (fun r => PsInv d r.1) := by
  have g := b.geom
  unfold projIter
  refine spec_bind (spec_slicePlanes d g hx hy hz b.H s st.1 hst _) fun ps hps => ?_
  have hcp0 : CpInv d proj ((ps.get proj).map fun e => (e.1, ([] : List Int))) := by
    refine ⟨fun p => ?_, ?_⟩
    · rw [← hps proj p]
      unfold keysOf
      rw [List.map_map]
      rfl
    · intro e he v hv
      obtain ⟨e', _, rfl⟩ := List.mem_map.mp he
      cases hv
  refine spec_bind (spec_decodeAllPlanes solve d b hx hy hz proj ps hps _ hcp0) fun r hr => ?_
  refine spec_bind (spec_connectedComponents order horder r.2 hr.2.ok) fun comps hcomps => ?_
  have hhead : ∀ comp ∈ comps, Lat3Db.R1 (2 * d.side proj) (comp.headD 0) := by
    intro comp hcomp
    obtain ⟨hne, hk⟩ := hcomps comp hcomp
    exact (hr.2.keys _).mp (hk _ (head_mem_of_ne_nil comp hne))
  refine spec_bind (spec_note _) fun _ _ => ?_
  refine spec_bind (errs_projectAll d g proj comps
    (fun comp hcomp => (hhead comp hcomp).1) _ (hr.1 proj) _ _) fun pc1 _ => ?_
  refine spec_bind (errs_loopsAll d hok hsz proj comps hhead _ ?_ pc1) fun _ _ => spec_pure hps
  intro c hc
  rw [List.mem_eraseDups] at hc
  rcases List.mem_append.mp hc with h | h
  · exact matchLoc_nonneg d g _ c (hr.1 _ c h)
  · exact matchLoc_nonneg d g _ c (hr.1 _ c h)

include horder b hx hy hz hok hsz in
/-- **Only sub-decoder exceptions when the loop-scatter keys exist**: no `KeyError`, no `ValueError`
    from the matching part of `decode`, whatever the syndrome vector (any length, any entries) -/
theorem errs_matchingPart (s : Vec) :
    Errs (matchingPart solve order d s) DecOrHang := by
  unfold matchingPart
  simp only
  split
  · exact spec_raise (Or.inr ⟨_, rfl⟩)
  · refine errs_bind ?_ fun st => errs_bind (spec_note _) (fun _ => spec_pure trivial)
    refine (spec_forM' (fun (st : Per (PlaneDict Vec) × Per Vec) => PsInv d st.1) ?_ _ (psInv_empty d)).mono fun _ _ => trivial
    intro st proj _ hst
    exact spec_projIter solve order horder d b hx hy hz hok hsz s st hst proj

include horder b hx hy hz hok hsz in
theorem decode_decOrHang (S : BpSolver) (castEv : Event Rat → Event W) (st : BpSt) (s : Vec) (e : XErr)
    (h : (d.decode solve S castEv order st s).2.val = .error e) : DecOrHang e := by
  rcases decode_error_cases solve S castEv order d st s e h with hm | hx'
  · exact (errs_matchingPart solve order horder d b hx hy hz hok hsz s).errs e hm
  · exact Or.inr hx'

theorem mem_insertAsc (a x : Int) : ∀ l : List Int, x ∈ insertAsc a l ↔ x = a ∨ x ∈ l
  | [] => by simp [insertAsc]
  | b :: rest => by
    unfold insertAsc
    split
    · simp
    · simp only [List.mem_cons, mem_insertAsc a x rest]
      constructor
      · rintro (h | h | h)
        · exact Or.inr (Or.inl h)
        · exact Or.inl h
        · exact Or.inr (Or.inr h)
      · rintro (h | h | h)
        · exact Or.inr (Or.inl h)
        · exact Or.inl h
        · exact Or.inr (Or.inr h)

theorem mem_ascending (l : List Int) (x : Int) : x ∈ ascending l ↔ x ∈ l := by
  unfold ascending
  induction l with
  | nil => simp
  | cons a l ih => simp only [List.foldr_cons, mem_insertAsc, ih, List.mem_cons]

end Panqec.XCube
