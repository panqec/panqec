/-
From an operator-level independence certificate to the rank clause on the assembled parity-check
matrix, and from there — through the generic bridge (`symp_opRow` of `Proofs/OpCommCore.lean`,
`Lattice.rowsH`, `commPairL_rows` of `Proofs/OpComm.lean`) — to `ValidCodeL`:

  `Lattice.WF` + `Lattice.CommPair` + a duplicate-free family `B ⊆ l.stabs` of `n − k` locations,
  independent at the operator level  ⇒  `HasRank (2n) l.rowsH (n − k)`  ⇒  the assembled matrices
  are a valid `[[n, k]]` code.

`B` may be listed in any order: the basis handed to `HasRank` is the sub-list of `l.stabs` with the
same members, and `IndepGenerators` only depends on the set of locations.  The certificate is
`Lat2D.IndepGenerators` (probe form, `Proofs/Lat2DRank.lean`) or `Cubic3D.OpsIndep` (parity form,
`Proofs/LatCubic3DRank.lean`); the parity form is turned into the probe form by probing a location
with odd X-parity by a single `Z`, one with odd Z-parity by a single `X`.  Generic in the lattice.
-/
import PanqecVerif.Proofs.Lat2DRank
import PanqecVerif.Proofs.LatCubic3DRank
import PanqecVerif.Proofs.MaskSelect
import PanqecVerif.Proofs.OpComm

namespace Panqec.Lat2D
open Module

theorem sum_map_mod2 (T : List Coord) (f : Coord → Nat) :
    (T.map f).sum % 2 = (T.map fun q => f q % 2).sum % 2 := by
  induction T with
  | nil => rfl
  | cons q T ih => simp only [List.map_cons, List.sum_cons]; omega

/-- the members of `ss` flagged by `bs` -/
def pick : List Bool → List Coord → List Coord
  | b :: bs, s :: ss => if b then s :: pick bs ss else pick bs ss
  | _, _ => []

theorem pick_sublist : ∀ (bs : List Bool) (ss : List Coord), (pick bs ss).Sublist ss
  | [], ss => by simp [pick]
  | _ :: _, [] => by simp [pick]
  | b :: bs, s :: ss => by
    unfold pick
    cases b
    · simpa using (pick_sublist bs ss).cons s
    · simpa using (pick_sublist bs ss).cons_cons s

theorem pick_ne_nil : ∀ (bs : List Bool) (ss : List Coord), bs.length = ss.length →
    (∃ b ∈ bs, b = true) → pick bs ss ≠ []
  | [], _, _, h => by obtain ⟨b, hb, _⟩ := h; simp at hb
  | b :: bs, [], h, _ => by simp at h
  | b :: bs, s :: ss, h, hex => by
    unfold pick
    cases b
    · obtain ⟨b', hb', rfl⟩ := hex
      exact pick_ne_nil bs ss (by simpa using h)
        ⟨true, (List.mem_cons.mp hb').resolve_left (by decide), rfl⟩
    · simp

theorem sympCombo_pick (d : List Nat) (f : Coord → List Nat) :
    ∀ (bs : List Bool) (ss : List Coord),
      sympCombo d bs (ss.map f) = ((pick bs ss).map fun t => symp (f t) d).sum
  | [], ss => by cases ss <;> simp [sympCombo, pick]
  | _ :: _, [] => by simp [sympCombo, pick]
  | b :: bs, s :: ss => by
    have ih := sympCombo_pick d f bs ss
    cases b
    · simp [sympCombo, pick, ih]
    · simp [sympCombo, pick, ih]

/-- the rows of an operator-level independent family of generators are GF(2)-independent -/
theorem indep_rows (l : Lattice) (hwf : l.WF) (sel : List Coord) (hsub : sel.Sublist l.stabs)
    (hind : IndepGenerators l sel) :
    Indep (2 * l.qubits.length) ((sel.map l.getStab).map (opRow l.qubits)) := by
  intro bs hlen hx b hb
  cases hbt : b with
  | false => rfl
  | true =>
    exfalso
    rw [List.length_map, List.length_map] at hlen
    let T := pick bs sel
    have hTsub : T.Sublist sel := pick_sublist bs sel
    have hTnd : T.Nodup := (hwf.stabs_nodup.sublist hsub).sublist hTsub
    have hTne : T ≠ [] := pick_ne_nil bs sel hlen ⟨b, hb, hbt⟩
    -- the flagged generators `T` have a probe `d` anticommuting with an odd number of them; the
    -- symplectic product of the row of `d` with the combination `bs`, which vanishes, is that number
    -- modulo 2
    obtain ⟨d, hdk, hds, hodd⟩ := hind T hTnd (fun t ht => hTsub.subset ht) hTne
    rw [List.map_map] at hx
    have hrows : ∀ r ∈ sel.map (opRow l.qubits ∘ l.getStab), r.length = 2 * l.qubits.length := by
      intro r hr
      rw [List.mem_map] at hr
      obtain ⟨s, _, rfl⟩ := hr
      exact opRow_length _ _
    have h1 := symp_xorCombo (2 * l.qubits.length) (opRow l.qubits d) bs _ hrows
    rw [hx, symp_vzero_left, sympCombo_pick] at h1
    have h2 : ((pick bs sel).map fun t =>
          symp ((opRow l.qubits ∘ l.getStab) t) (opRow l.qubits d))
        = (pick bs sel).map fun t => opAntiCount d (l.getStab t) % 2 := by
      apply List.map_congr_left
      intro t ht
      rw [symp_comm]
      exact symp_opRow l.qubits hwf.qubits_nodup d _ hdk (Lattice.WF.opSupported_of hds)
    rw [h2, ← sum_map_mod2] at h1
    change 0 = (T.map fun t => opAntiCount d (l.getStab t)).sum % 2 at h1
    omega

theorem hasRank_of_indep_sublist {n k : Nat} {H LX LZ basis : List (List Nat)}
    (hc : CommPairL n k H LX LZ) (hsub : basis.Sublist H) (hind : Indep (2 * n) basis)
    (hlen : basis.length = n - k) : HasRank (2 * n) H (n - k) := by
  have hwfb : WFRows n basis := fun r hr => hc.wfH r (hsub.subset hr)
  have hb : ∀ r ∈ basis, r.length = 2 * n := fun r hr => (hwfb r hr).1
  refine ⟨basis, hsub, hlen, hind, ?_⟩
  have hle : rowSpan n basis ≤ rowSpan n H := rowSpan_mono_of_subset (fun r hr => hsub.subset hr)
  have hfb : finrank (ZMod 2) (rowSpan n basis) = n - k := by
    rw [finrank_rowSpan_of_hasRank hb (hasRank_of_indep hwfb hind), hlen]
  -- the rows of `H` commute with each other and with `k` paired logicals, so they span at most
  -- `n − k` dimensions: `n − k` independent ones among them span the same space
  have hfH : finrank (ZMod 2) (rowSpan n H) ≤ n - k := hc.finrank_rowSpan_le
  have heq : rowSpan n basis = rowSpan n H :=
    Submodule.eq_of_le_of_finrank_le hle (by rw [hfb]; exact hfH)
  intro v hv
  have hvw := hc.wfH v hv
  rw [inSpan_iff_mem_rowSpan hb hvw.1 hvw.2, heq]
  exact toVec_mem_rowSpan n H v hv

theorem indepGenerators_mono {l : Lattice} {B B' : List Coord} (h : ∀ s ∈ B', s ∈ B)
    (hind : IndepGenerators l B) : IndepGenerators l B' :=
  fun T hnd hsub hne => hind T hnd (fun t ht => h t (hsub t ht)) hne

theorem filter_mem_perm {S B : List Coord} (hs : S.Nodup) (hB : B.Nodup) (h : ∀ s ∈ B, s ∈ S) :
    (S.filter fun s => decide (s ∈ B)).Perm B := by
  apply (List.perm_ext_iff_of_nodup (hs.sublist List.filter_sublist) hB).mpr
  intro a
  simp only [List.mem_filter, decide_eq_true_eq]
  exact ⟨fun h' => h'.2, fun h' => ⟨h a h', h'⟩⟩

theorem hasRank_of_indepGenerators (l : Lattice) (hwf : l.WF) (hcp : l.CommPair)
    (B : List Coord) (hB : B.Nodup) (hsub : ∀ s ∈ B, s ∈ l.stabs) (hind : IndepGenerators l B)
    (hcount : B.length + l.logX.length = l.qubits.length) :
    HasRank (2 * l.qubits.length) l.rowsH (l.qubits.length - l.logX.length) := by
  have hf : (l.stabs.filter fun s => decide (s ∈ B)).Sublist l.stabs := List.filter_sublist
  apply hasRank_of_indep_sublist (Lattice.commPairL_rows hwf hcp)
    ((hf.map l.getStab).map (opRow l.qubits))
    (indep_rows l hwf _ hf (indepGenerators_mono
      (fun s hs => by simpa using (List.mem_filter.mp hs).2) hind))
  rw [List.length_map, List.length_map, (filter_mem_perm hwf.stabs_nodup hB hsub).length_eq]
  omega

/-- the bridge of the header, probe form, `B` in any order -/
theorem validCode_of_lattice_subset (l : Lattice) (hwf : l.WF) (hcp : l.CommPair) (B : List Coord)
    (hB : B.Nodup) (hsub : ∀ s ∈ B, s ∈ l.stabs) (hind : IndepGenerators l B)
    (hcount : B.length + l.logX.length = l.qubits.length) :
    stabilizerMatrix l.toCodeData = some l.rowsH ∧
    logicalsX l.toCodeData = some l.rowsX ∧
    logicalsZ l.toCodeData = some l.rowsZ ∧
    ValidCodeL l.toCodeData.n l.toCodeData.k l.rowsH l.rowsX l.rowsZ :=
  ⟨Lattice.stabilizerMatrix_eq hwf, Lattice.logicalsX_eq hwf, Lattice.logicalsZ_eq hwf,
    (Lattice.commPairL_rows hwf hcp).toValid
      (hasRank_of_indepGenerators l hwf hcp B hB hsub hind hcount)⟩

/-- for a family listed in the order of `l.stabs` -/
theorem validCode_of_lattice (l : Lattice) (hwf : l.WF) (hcp : l.CommPair) (sel : List Coord)
    (hsub : sel.Sublist l.stabs) (hind : IndepGenerators l sel)
    (hcount : sel.length + l.logX.length = l.qubits.length) :
    stabilizerMatrix l.toCodeData = some l.rowsH ∧
    logicalsX l.toCodeData = some l.rowsX ∧
    logicalsZ l.toCodeData = some l.rowsZ ∧
    ValidCodeL l.toCodeData.n l.toCodeData.k l.rowsH l.rowsX l.rowsZ :=
  validCode_of_lattice_subset l hwf hcp sel (hwf.stabs_nodup.sublist hsub)
    (fun _ hs => hsub.subset hs) hind hcount

end Panqec.Lat2D

namespace Panqec.Cubic3D
open Panqec.Lat2D

/-- a single `Z` (for `b = true`; a single `X` otherwise) anticommutes with `op` exactly when `op`
    has an X (a Z) component there -/
theorem opAntiCount_probe_hit (b : Bool) (q : Coord) (op : Op) :
    opAntiCount [(q, if b then Pauli.Z else Pauli.X)] op = if hit b op q = true then 1 else 0 := by
  unfold opAntiCount hit hitX hitZ
  cases h : op.get? q with
  | none => cases b <;> simp [h]
  | some p => cases b <;> cases p <;> simp [h, Pauli.anti]

theorem key_of_hit {b : Bool} {op : Op} {q : Coord} (h : hit b op q = true) :
    ∃ e ∈ op, e.1 = q := by
  cases hg : op.find? (·.1 == q) with
  | none => cases b <;> simp [hit, hitX, hitZ, Op.get?, hg] at h
  | some e => exact ⟨e, List.mem_of_find?_eq_some hg, by simpa using List.find?_some hg⟩

theorem indepGenerators_of_opsIndep (l : Lattice) (hwf : l.WF) (B : List Coord) (hB : B.Nodup)
    (hsub : ∀ s ∈ B, s ∈ l.stabs) (h : OpsIndep (B.map l.getStab)) : IndepGenerators l B := by
  intro T hTnd hTB hTne
  -- the members of `T` in the order of `B`
  have hS'sub : (B.filter fun s => decide (s ∈ T)).Sublist B := List.filter_sublist
  have hperm := filter_mem_perm hB hTnd hTB
  have hne : (B.filter fun s => decide (s ∈ T)).map l.getStab ≠ [] := by
    intro h0
    rw [List.map_eq_nil_iff.mp h0] at hperm
    exact hTne hperm.symm.eq_nil
  have hex : ∃ q b, (T.countP fun t => hit b (l.getStab t) q) % 2 = 1 := by
    by_contra hno
    apply hne
    apply h _ (hS'sub.map _)
    intro q
    rw [List.countP_map, List.countP_map, hperm.countP_eq, hperm.countP_eq]
    have hX : ¬ (T.countP fun t => hitX (l.getStab t) q) % 2 = 1 := fun e => hno ⟨q, true, e⟩
    have hZ : ¬ (T.countP fun t => hitZ (l.getStab t) q) % 2 = 1 := fun e => hno ⟨q, false, e⟩
    simp only [Function.comp_def]
    omega
  obtain ⟨q, b, hq⟩ := hex
  obtain ⟨t, ht, hhit⟩ :=
    List.countP_pos_iff.mp (Nat.pos_of_ne_zero fun h0 => by rw [h0] at hq; cases hq)
  obtain ⟨e, he, rfl⟩ := key_of_hit hhit
  refine ⟨[(e.1, if b then Pauli.Z else Pauli.X)], by simp, ?_, ?_⟩
  · intro e' he'
    rw [List.mem_singleton.mp he']
    exact ⟨(hwf.stab_supported t (hsub t (hTB t ht)) e he).1,
      by cases b <;> exact fun h => Pauli.noConfusion h⟩
  · simp only [opAntiCount_probe_hit]
    rw [sum_indicator_eq_countP]; exact hq

/-- the bridge of the header, parity form.  The count is asked as `B.length = n − k` (the form in
    which the classes of this form prove the length of their family), where the probe form asks
    `B.length + k = n`; the `k ≤ n` that turns one into the other comes from the pairing -/
theorem validCode_of_opsIndep (l : Lattice) (hwf : l.WF) (hcp : l.CommPair) (B : List Coord)
    (hB : B.Nodup) (hsub : ∀ s ∈ B, s ∈ l.stabs)
    (hcount : B.length = l.toCodeData.n - l.toCodeData.k)
    (hind : OpsIndep (B.map l.getStab)) :
    stabilizerMatrix l.toCodeData = some l.rowsH ∧
    logicalsX l.toCodeData = some l.rowsX ∧
    logicalsZ l.toCodeData = some l.rowsZ ∧
    ValidCodeL l.toCodeData.n l.toCodeData.k l.rowsH l.rowsX l.rowsZ :=
  validCode_of_lattice_subset l hwf hcp B hB hsub
    (indepGenerators_of_opsIndep l hwf B hB hsub hind) (by
    rw [hcount]
    change l.qubits.length - l.logX.length + l.logX.length = l.qubits.length
    have := (Lattice.commPairL_rows hwf hcp).k_le
    omega)

end Panqec.Cubic3D
