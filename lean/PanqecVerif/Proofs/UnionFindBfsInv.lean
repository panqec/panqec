/-
Union-find internals (C05), spanning tree (`Peeling_Tree._build_tree`): the adjacency
matrix `(H @ H.T).astype(bool)`, connectivity, the invariant of the breadth-first loops and the
equations of one step of `for s in leaves_ind`.
-/
import PanqecVerif.Proofs.UnionFindGraph

namespace Panqec.UF

theorem shared_imp {H : Mat} {stabs qubits : Nat → Bool} {i j : Nat}
    (h : shared H stabs qubits i j = true) : ∃ q, adjq H stabs qubits i j q = true := by
  unfold shared at h
  have hne : (List.range (ncols H)).countP
      (fun q => subH H stabs qubits i q && subH H stabs qubits j q) ≠ 0 := by
    intro h0; rw [h0] at h; simp at h
  obtain ⟨q, _, hq⟩ := List.countP_pos_iff.mp (Nat.pos_of_ne_zero hne)
  exact ⟨q, hq⟩

theorem shared_stabs {H : Mat} {stabs qubits : Nat → Bool} {i j : Nat}
    (h : shared H stabs qubits i j = true) : stabs i = true ∧ stabs j = true := by
  obtain ⟨q, hq⟩ := shared_imp h
  have := (adjq_true H stabs qubits i j q).mp hq
  exact ⟨this.2.2.2.1, this.2.2.2.2⟩

theorem shared_symm (H : Mat) (stabs qubits : Nat → Bool) (i j : Nat) :
    shared H stabs qubits i j = shared H stabs qubits j i := by
  unfold shared
  congr 2
  apply countP_congr'
  intro q _
  exact Bool.and_comm _ _

/-- with fewer than 256 parallel edges the `uint8` product cannot wrap to zero off the diagonal -/
theorem shared_of {H : Mat} {stabs qubits : Nat → Bool} (G : GraphOK H) {i j : Nat} (hij : i ≠ j)
    (h : ∃ q, adjq H stabs qubits i j q = true) : shared H stabs qubits i j = true := by
  obtain ⟨q, hq⟩ := h
  have hq' := (adjq_true H stabs qubits i j q).mp hq
  have hqn := (G.inRange i q hq'.1).2
  have hpos : 0 < cnt (ncols H) (fun q => adjq H stabs qubits i j q) := cnt_pos _ _ q hqn hq
  have hle : cnt (ncols H) (fun q => adjq H stabs qubits i j q) ≤
      cnt (ncols H) (fun q => hb H i q && hb H j q) := by
    apply cnt_mono
    intro k _ hk
    have hk' := (adjq_true H stabs qubits i j k).mp hk
    simp [hk'.1, hk'.2.1]
  have hlt := G.mult i j hij
  unfold shared
  have : (List.range (ncols H)).countP
      (fun q => subH H stabs qubits i q && subH H stabs qubits j q) =
      cnt (ncols H) (fun q => adjq H stabs qubits i j q) := rfl
  rw [this, Nat.mod_eq_of_lt (by omega)]
  simp
  omega

/-- state of `_build_tree` inside round `r`: `F2` = frontier vertices still to be processed,
    `nl` = `new_leaves_ind` so far; `lv` = (ghost) depth of every visited vertex -/
structure BInv (H : Mat) (stabs qubits : Nat → Bool) (root : Nat) (r : Nat)
    (S : Nat → Nat → Bool) (unseen : Nat → Bool) (F2 nl : List Nat) (lv : Nat → Nat) : Prop where
  un_stabs : ∀ v, unseen v = true → stabs v = true ∧ v ≠ root
  un_eq : ∀ u v, unseen v = true → S u v = shared H stabs qubits u v
  le_shared : ∀ u v, S u v = true → shared H stabs qubits u v = true
  root_col : ∀ p, p ≠ root → S p root = false
  par_ex : ∀ c, stabs c = true → unseen c = false → c ≠ root → ∃ p, S p c = true
  par_spec : ∀ c, stabs c = true → unseen c = false → c ≠ root → ∀ p, S p c = true →
    p ≠ c ∧ stabs p = true ∧ unseen p = false ∧ lv p < lv c
  par_uniq : ∀ c, stabs c = true → unseen c = false → c ≠ root → ∀ p p', S p c = true →
    S p' c = true → p = p'
  pend_iff : ∀ v, stabs v = true → unseen v = false → v ≠ root →
    ((v ∈ F2 ∨ v ∈ nl) ↔ ∀ c, stabs c = true → unseen c = false → S v c = false)
  pend_nodup : (F2 ++ nl).Nodup
  pend_vis : ∀ v, (v ∈ F2 ∨ v ∈ nl) → stabs v = true ∧ unseen v = false ∧ v ≠ root
  front : ∀ u v, stabs u = true → unseen u = false → unseen v = true →
    shared H stabs qubits u v = true → (u ∈ F2 ∨ u ∈ nl)
  lv_vis : ∀ v, stabs v = true → unseen v = false → lv v ≤ r + 1
  lv_F2 : ∀ v, v ∈ F2 → lv v ≤ r

/-- the matrix after the three assignments `S[:, ch] = 0; S[ch, s] = 0; S[s, ch] = 1` of a step
    in which `s` claims the children `ch` -/
def claim (S : Nat → Nat → Bool) (s : Nat) (ch : List Nat) (i j : Nat) : Bool :=
  if i = s ∧ j ∈ ch then true
  else if i ∈ ch ∧ j = s then false
  else if j ∈ ch then false
  else S i j

/-- the column of a claimed child holds its new parent only -/
theorem claim_new {S : Nat → Nat → Bool} {s : Nat} {ch : List Nat} {i j : Nat} (hj : j ∈ ch) :
    claim S s ch i j = true ↔ i = s := by
  unfold claim
  by_cases hi : i = s <;> simp [hi, hj]

theorem claim_old {S : Nat → Nat → Bool} {s : Nat} {ch : List Nat} {i j : Nat} (hj : j ∉ ch) :
    claim S s ch i j = if i ∈ ch ∧ j = s then false else S i j := by
  unfold claim
  simp [hj]

/-- a step of a vertex that has children -/
theorem bfsStep_cons (m : Nat) (S : Nat → Nat → Bool) (unseen : Nat → Bool) (nl : List Nat) (s : Nat)
    (hne : ((List.range m).filter fun j => S s j) ≠ []) :
    bfsStep m ⟨S, unseen, nl⟩ s =
      ⟨claim S s ((List.range m).filter fun j => S s j),
        fun j => if j ∈ (List.range m).filter (fun j => S s j) then false else unseen j,
        nl ++ ((List.range m).filter fun j => S s j).filter unseen⟩ := by
  unfold bfsStep
  simp only [hne, if_false]
  rfl

/-- a step of a vertex without children -/
theorem bfsStep_nil (m : Nat) (acc : BfsAcc) (s : Nat)
    (hch : ((List.range m).filter fun j => acc.S s j) = []) :
    bfsStep m acc s = { acc with newLeaves := acc.newLeaves ++ [s] } := by
  unfold bfsStep
  simp only [hch, if_true]

end Panqec.UF
