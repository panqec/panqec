/-
Union-find internals (C05), spanning tree: the body of `for s in leaves_ind` preserves
the invariant (for a frontier vertex other than the root).
-/
import PanqecVerif.Proofs.UnionFindBfsInv

namespace Panqec.UF

section
variable {H : Mat} {stabs qubits : Nat → Bool} {root r : Nat}
  {S : Nat → Nat → Bool} {unseen : Nat → Bool} {s : Nat} {F2 nl : List Nat} {lv : Nat → Nat}

/-- the children claimed by a frontier vertex are all unseen -/
theorem ch_unseen (I : BInv H stabs qubits root r S unseen (s :: F2) nl lv) {j : Nat}
    (hj : S s j = true) : unseen j = true := by
  have hs := I.pend_vis s (Or.inl List.mem_cons_self)
  by_contra hu
  rw [Bool.not_eq_true] at hu
  rw [(I.pend_iff s hs.1 hs.2.1 hs.2.2).mp (Or.inl List.mem_cons_self) j
    (shared_stabs (I.le_shared s j hj)).2 hu] at hj
  cases hj

theorem BInv_step (hst : ∀ s, stabs s = true → s < H.length)
    (I : BInv H stabs qubits root r S unseen (s :: F2) nl lv) :
    ∃ lv', BInv H stabs qubits root r (bfsStep H.length ⟨S, unseen, nl⟩ s).S
        (bfsStep H.length ⟨S, unseen, nl⟩ s).unseen F2
        (bfsStep H.length ⟨S, unseen, nl⟩ s).newLeaves lv' ∧
      (∀ v, (bfsStep H.length ⟨S, unseen, nl⟩ s).unseen v = true → unseen v = true) ∧
      (∀ v, shared H stabs qubits s v = true →
        (bfsStep H.length ⟨S, unseen, nl⟩ s).unseen v = false) := by
  have hs := I.pend_vis s (Or.inl List.mem_cons_self)
  have hnd := I.pend_nodup
  rw [List.cons_append, List.nodup_cons] at hnd
  have hs_notin : ¬ (s ∈ F2 ∨ s ∈ nl) := fun h => hnd.1 (List.mem_append.mpr h)
  have hF2 : ∀ v, v ∈ F2 ∨ v ∈ nl → v ∈ s :: F2 ∨ v ∈ nl := fun v h => h.imp_left (List.mem_cons_of_mem s)
  by_cases hch : ((List.range H.length).filter fun j => S s j) = []
  · -- no children: `s` is carried over as a leaf
    rw [bfsStep_nil H.length ⟨S, unseen, nl⟩ s hch]
    have hmem : ∀ v, (v ∈ F2 ∨ v ∈ nl ++ [s]) ↔ (v ∈ s :: F2 ∨ v ∈ nl) := by
      intro v; simp only [List.mem_append, List.mem_cons]; tauto
    refine ⟨lv, ⟨I.un_stabs, I.un_eq, I.le_shared, I.root_col, I.par_ex, I.par_spec, I.par_uniq,
      fun v h1 h2 h3 => (hmem v).trans (I.pend_iff v h1 h2 h3), ?_, fun v hv => I.pend_vis v ((hmem v).mp hv),
      fun u v h1 h2 h3 h4 => (hmem u).mpr (I.front u v h1 h2 h3 h4), I.lv_vis,
      fun v hv => I.lv_F2 v (List.mem_cons_of_mem s hv)⟩, fun v h => h, fun v hv => ?_⟩
    · show (F2 ++ (nl ++ [s])).Nodup
      rw [← List.append_assoc]
      exact (List.perm_append_singleton s _).nodup_iff.mpr (List.nodup_cons.mpr hnd)
    · -- an unseen neighbour of `s` would be a child
      show unseen v = false
      by_contra hu
      rw [Bool.not_eq_false] at hu
      have : v ∈ (List.range H.length).filter fun j => S s j :=
        (mem_filter_range _ _ v).mpr ⟨hst v (I.un_stabs v hu).1, (I.un_eq s v hu).trans hv⟩
      rw [hch] at this
      cases this
  · -- `s` claims its children `ch`, all of them unseen so far
    rw [bfsStep_cons _ _ _ _ _ hch]
    dsimp only
    generalize hchdef : ((List.range H.length).filter fun j => S s j) = ch at hch
    have hchm : ∀ j, j ∈ ch ↔ (j < H.length ∧ S s j = true) := fun j => by
      rw [← hchdef, mem_filter_range]
    have hchu : ∀ j, j ∈ ch → unseen j = true := fun j hj => ch_unseen I ((hchm j).mp hj).2
    have hvis : ∀ j, unseen j = false → j ∉ ch := fun j hj hjc => by
      rw [hchu j hjc] at hj
      cases hj
    have hroot_ch : root ∉ ch := fun h => (I.un_stabs root (hchu root h)).2 rfl
    obtain ⟨c0, hc0⟩ := List.exists_mem_of_ne_nil ch hch
    rw [List.filter_eq_self.mpr hchu]
    have hU : ∀ v, (if v ∈ ch then false else unseen v) = true ↔ (v ∉ ch ∧ unseen v = true) := by
      intro v; by_cases h : v ∈ ch <;> simp [h]
    have hU0 : ∀ v, (if v ∈ ch then false else unseen v) = false ↔ (v ∈ ch ∨ unseen v = false) := by
      intro v; by_cases h : v ∈ ch <;> simp [h]
    -- a child was unseen, hence nobody's parent: the other columns do not change
    have hSo : ∀ p c, c ∉ ch → claim S s ch p c = S p c := by
      intro p c hc
      rw [claim_old hc]
      split
      next h =>
        obtain ⟨hp, rfl⟩ := h
        exact (Bool.eq_false_iff.mpr fun hpc =>
          hvis p (I.par_spec c hs.1 hs.2.1 hs.2.2 p hpc).2.2.1 hp).symm
      next => rfl
    have hSn : ∀ p c, c ∈ ch → p ≠ s → claim S s ch p c = false := fun p c hc hp =>
      Bool.eq_false_iff.mpr fun h => hp ((claim_new hc).mp h)
    refine ⟨fun j => if j ∈ ch then r + 1 else lv j,
      ⟨fun v hv => I.un_stabs v ((hU v).mp hv).2, ?_, ?_, ?_, ?_, ?_, ?_, ?_, ?_, ?_, ?_, ?_, ?_⟩,
      fun v hv => ((hU v).mp hv).2, fun v hv => (hU0 v).mpr ?_⟩
    · -- un_eq
      intro u v hv
      obtain ⟨hvc, hvu⟩ := (hU v).mp hv
      rw [hSo u v hvc]
      exact I.un_eq u v hvu
    · -- le_shared
      intro u v huv
      by_cases hv : v ∈ ch
      · rw [(claim_new hv).mp huv]
        exact I.le_shared s v ((hchm v).mp hv).2
      · rw [hSo u v hv] at huv
        exact I.le_shared u v huv
    · -- root_col
      intro p hp
      rw [hSo p root hroot_ch]
      exact I.root_col p hp
    · -- par_ex
      intro c hc hcu hcr
      rcases (hU0 c).mp hcu with hcc | hcu
      · exact ⟨s, (claim_new hcc).mpr rfl⟩
      · obtain ⟨p, hp⟩ := I.par_ex c hc hcu hcr
        exact ⟨p, (hSo p c (hvis c hcu)).trans hp⟩
    · -- par_spec
      intro c hc hcu hcr p hp
      by_cases hcc : c ∈ ch
      · rw [(claim_new hcc).mp hp]
        refine ⟨fun h => hvis s hs.2.1 (h ▸ hcc), hs.1, (hU0 s).mpr (Or.inr hs.2.1), ?_⟩
        rw [if_neg (hvis s hs.2.1), if_pos hcc]
        exact Nat.lt_succ_of_le (I.lv_F2 s List.mem_cons_self)
      · rw [hSo p c hcc] at hp
        have h := I.par_spec c hc (((hU0 c).mp hcu).resolve_left hcc) hcr p hp
        refine ⟨h.1, h.2.1, (hU0 p).mpr (Or.inr h.2.2.1), ?_⟩
        rw [if_neg (hvis p h.2.2.1), if_neg hcc]
        exact h.2.2.2
    · -- par_uniq
      intro c hc hcu hcr p p' hp hp'
      by_cases hcc : c ∈ ch
      · rw [(claim_new hcc).mp hp, (claim_new hcc).mp hp']
      · rw [hSo _ c hcc] at hp hp'
        exact I.par_uniq c hc (((hU0 c).mp hcu).resolve_left hcc) hcr p p' hp hp'
    · -- pend_iff
      intro v hv hvu hvr
      rw [List.mem_append, ← or_assoc]
      by_cases hvs : v = s
      · -- `s` has got children and is not pending any more
        subst hvs
        refine iff_of_false (fun h => h.elim hs_notin (hvis v hs.2.1)) fun h => ?_
        have := h c0 (I.un_stabs c0 (hchu c0 hc0)).1 ((hU0 c0).mpr (Or.inl hc0))
        rw [(claim_new hc0).mpr rfl] at this
        cases this
      · by_cases hvc : v ∈ ch
        · -- a new child is pending: it is nobody's parent
          refine iff_of_true (Or.inr hvc) fun c hc hcu => ?_
          by_cases hcc : c ∈ ch
          · exact hSn v c hcc hvs
          · rw [hSo v c hcc]
            refine Bool.eq_false_iff.mpr fun h => ?_
            by_cases hcr : c = root
            · rw [hcr, I.root_col v hvr] at h
              cases h
            · exact hvis v (I.par_spec c hc (((hU0 c).mp hcu).resolve_left hcc) hcr v h).2.2.1 hvc
        · have hold := I.pend_iff v hv (((hU0 v).mp hvu).resolve_left hvc) hvr
          rw [List.mem_cons, or_iff_right hvs] at hold
          rw [or_iff_left hvc, hold]
          constructor
          · intro h c hc hcu
            by_cases hcc : c ∈ ch
            · exact hSn v c hcc hvs
            · rw [hSo v c hcc]
              exact h c hc (((hU0 c).mp hcu).resolve_left hcc)
          · intro h c hc hcu
            rw [← hSo v c (hvis c hcu)]
            exact h c hc ((hU0 c).mpr (Or.inr hcu))
    · -- pend_nodup
      rw [← List.append_assoc]
      refine List.nodup_append.mpr ⟨hnd.2, hchdef ▸ List.nodup_range.filter _, ?_⟩
      rintro a ha _ hb rfl
      exact hvis a (I.pend_vis a (hF2 a (List.mem_append.mp ha))).2.1 hb
    · -- pend_vis
      intro v hv
      rw [List.mem_append, ← or_assoc] at hv
      rcases hv with hv | hv
      · have := I.pend_vis v (hF2 v hv)
        exact ⟨this.1, (hU0 v).mpr (Or.inr this.2.1), this.2.2⟩
      · exact ⟨(I.un_stabs v (hchu v hv)).1, (hU0 v).mpr (Or.inl hv), fun h => hroot_ch (h ▸ hv)⟩
    · -- front
      intro u v hu huu hvu huv
      obtain ⟨hvc, hvu'⟩ := (hU v).mp hvu
      rw [List.mem_append, ← or_assoc]
      rcases (hU0 u).mp huu with huc | huu'
      · exact Or.inr huc
      · refine Or.inl ((I.front u v hu huu' hvu' huv).imp_left fun h => ?_)
        rcases List.mem_cons.mp h with rfl | h
        · exact absurd ((hchm v).mpr ⟨hst v (I.un_stabs v hvu').1, (I.un_eq u v hvu').trans huv⟩) hvc
        · exact h
    · -- lv_vis
      intro v hv hvu
      by_cases hvc : v ∈ ch
      · rw [if_pos hvc]
        exact Nat.le_refl _
      · rw [if_neg hvc]
        exact I.lv_vis v hv (((hU0 v).mp hvu).resolve_left hvc)
    · -- lv_F2
      intro v hv
      rw [if_neg (hvis v (I.pend_vis v (Or.inl (List.mem_cons_of_mem s hv))).2.1)]
      exact I.lv_F2 v (List.mem_cons_of_mem s hv)
    · -- an unseen neighbour of `s` is one of the children
      by_cases hu : unseen v = true
      · exact Or.inl ((hchm v).mpr ⟨hst v (I.un_stabs v hu).1, (I.un_eq s v hu).trans hv⟩)
      · exact Or.inr (Bool.eq_false_iff.mpr hu)

end

end Panqec.UF
