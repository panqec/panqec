/-
HollowRhombicCode, C17: the undeclared logical X of a second logical pair (`SecondPair`; on the
deficient sizes with `Lx = 3` and with `Ly = 4`: `ThinA.X2keys`, `ThinB.X2keys`, a plaquette of four
qubits next to the thin hole) is a non-trivial logical operator of the assembled check matrix, of
weight the number of its keys: it commutes with every generator, and it is not a product of
generators because it anticommutes with the undeclared logical Z, which commutes with every
generator as well (`SecondPair.commPair`).
-/
import PanqecVerif.Proofs.LatHollowRhombicCodeSecondPair
import PanqecVerif.Proofs.DistLattice

namespace Panqec

/-- in a family of rows with commutation and pairing for `k = 2`, the second logical X is a
    non-trivial logical operator -/
theorem second_logical_nontrivial {n : Nat} {H Lx Lz : List (List Nat)}
    (hc : CommPairL n 2 H Lx Lz) : IsNontrivialLogical n H (Lx.getD 1 []) := by
  have hxm : Lx.getD 1 [] ∈ Lx := hc.getX_mem ⟨1, by decide⟩
  have hzm : Lz.getD 1 [] ∈ Lz := hc.getZ_mem ⟨1, by decide⟩
  refine ⟨(hc.wfX _ hxm).1, (hc.wfX _ hxm).2, ?_, ?_⟩
  · intro g hg
    rw [symp_comm]
    exact hc.logX_comm _ hxm g hg
  · intro hspan
    have h0 := symp_zero_of_inSpan hc.lenH (hc.logZ_comm _ hzm) hspan
    have h1 := hc.pairing 1 1 (by decide) (by decide)
    rw [symp_comm] at h0
    rw [h0] at h1
    simp at h1

namespace HollowRhombicCode
open Panqec.Cubic3D

/-- the X operator of a second pair is a non-trivial logical operator of the assembled check
    matrix, of weight the number of its keys -/
theorem SecondPair.light_logical {Lx Ly Lz : Nat} {X Z : List Coord} (h : SecondPair Lx Ly Lz X Z)
    {n : Nat} (hn : (lattice Lx Ly Lz).qubits.length = n) :
    ∃ v, IsNontrivialLogical n (lattice Lx Ly Lz).rowsH v ∧ pauliWeight v = X.length := by
  subst hn
  have hwf := h.wf
  refine ⟨_, second_logical_nontrivial h.commPairL, ?_⟩
  have hm : uop X Pauli.X ∈ (withPair Lx Ly Lz X Z).logX ++ (withPair Lx Ly Lz X Z).logZ := by
    rw [withPair_logX]; simp
  have e : (withPair Lx Ly Lz X Z).rowsX.getD 1 [] =
      opRow (withPair Lx Ly Lz X Z).qubits (uop X Pauli.X) := by
    unfold Lattice.rowsX
    rw [withPair_logX]; rfl
  rw [e, pauliWeight_opRow _ hwf.qubits_nodup _ (hwf.log_keys _ hm) (hwf.log_supported _ hm)]
  exact List.length_map _

end HollowRhombicCode
end Panqec
