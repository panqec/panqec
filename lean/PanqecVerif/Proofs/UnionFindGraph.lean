/-
Union-find internals (C05): the vocabulary in which the results are stated and through which the
three developments (growth, spanning tree, peeling) meet: the graph hypotheses on the matrix, the
cluster sub-graph and reachability in it, what `_build_tree` must deliver (`TreeOK`, `LeavesOK`)
and what `Support.clustering()` must deliver (`ClusterPost`).
-/
import Mathlib.Data.List.Nodup
import PanqecVerif.Proofs.UnionFindBasic

namespace Panqec.UF

/-- hypotheses on the matrix under which peeling is correct: entries outside the matrix are
    zero, every column has weight at most 2 (a multigraph, dangling and parallel edges allowed),
    and two different rows share fewer than 256 columns (the `uint8` product `H @ H.T` of
    `_build_tree` does not wrap to zero) -/
structure GraphOK (H : Mat) : Prop where
  inRange : ∀ s q, hb H s q = true → s < H.length ∧ q < ncols H
  col2 : ∀ q s1 s2 s3, hb H s1 q = true → hb H s2 q = true → hb H s3 q = true →
    s1 = s2 ∨ s1 = s3 ∨ s2 = s3
  mult : ∀ i j, i ≠ j → cnt (ncols H) (fun q => hb H i q && hb H j q) < 256

/-- `q` is a member qubit adjacent to both member stabilizers `p` and `c` -/
def adjq (H : Mat) (stabs qubits : Nat → Bool) (p c q : Nat) : Bool :=
  subH H stabs qubits p q && subH H stabs qubits c q

/-- what `_build_tree` must deliver (and does: `buildTree_spec`, `UnionFindBfsTree.lean`): a spanning tree of the
    member stabilizers, rooted at `root`, along member qubits, given as the parent→child matrix -/
structure TreeOK (H : Mat) (stabs qubits : Nat → Bool) (root : Nat) (S0 : Nat → Nat → Bool) : Prop where
  lv : ∃ (lv : Nat → Nat) (B : Nat), ∀ p c, S0 p c = true → lv p < lv c ∧ lv c ≤ B
  mem : ∀ p c, S0 p c = true → stabs p = true ∧ stabs c = true ∧ p ≠ c ∧
    ∃ q, adjq H stabs qubits p c q = true
  uniq : ∀ p p' c, S0 p c = true → S0 p' c = true → p = p'
  span : ∀ c, stabs c = true → c ≠ root → ∃ p, S0 p c = true
  rootNo : ∀ p, S0 p root = false
  rootMem : stabs root = true

theorem subH_true (H : Mat) (stabs qubits : Nat → Bool) (s q : Nat) :
    subH H stabs qubits s q = true ↔ hb H s q = true ∧ qubits q = true ∧ stabs s = true := by
  unfold subH; simp only [Bool.and_eq_true]; tauto

theorem adjq_true (H : Mat) (stabs qubits : Nat → Bool) (p c q : Nat) :
    adjq H stabs qubits p c q = true ↔
      hb H p q = true ∧ hb H c q = true ∧ qubits q = true ∧ stabs p = true ∧ stabs c = true := by
  unfold adjq; rw [Bool.and_eq_true, subH_true, subH_true]; tauto

/-- what `_build_tree` must deliver about the leaf list: duplicate-free, and — unless the
    cluster is the single stabilizer `root` — exactly the member stabilizers without children -/
def LeavesOK (stabs : Nat → Bool) (root : Nat) (S0 : Nat → Nat → Bool) (leaves : List Nat) : Prop :=
  leaves.Nodup ∧
  ((∃ v, stabs v = true ∧ v ≠ root) → ∀ v, v ∈ leaves ↔ (stabs v = true ∧ ∀ c, S0 v c = false))

/-- the member stabilizers reachable from the root through member qubits -/
inductive Reach (H : Mat) (stabs qubits : Nat → Bool) (root : Nat) : Nat → Prop
  | base : Reach H stabs qubits root root
  | step {u v : Nat} : Reach H stabs qubits root u → (∃ q, adjq H stabs qubits u v q = true) →
      Reach H stabs qubits root v

/-- `np.where(self._s_parents == r)[0]` as a membership test -/
def stabsOf (H : Mat) (sPar : Nat → Int) (r : Nat) : Nat → Bool :=
  fun s => decide (s < H.length) && decide (sPar s = (r : Int))

/-- `np.where(self._q_parents == r)[0]` as a membership test -/
def qubitsOf (H : Mat) (qPar : Nat → Int) (r : Nat) : Nat → Bool :=
  fun q => decide (q < ncols H) && decide (qPar q = (r : Int))

/-- stabilizer `s` is a defect -/
def defect (sy : Vec) (s : Nat) : Bool := sy.getD s 0 != 0

theorem stabsOf_lt {H : Mat} {sPar : Nat → Int} {r s : Nat} (h : stabsOf H sPar r s = true) :
    s < H.length := by
  unfold stabsOf at h; simp at h; exact h.1

/-- what `Support.clustering()` must deliver for `peeling` to be correct (and does, see
    `UnionFindGrow*`): -/
structure ClusterPost (H : Mat) (sy : Vec) (roots : List Nat) (sPar qPar : Nat → Int) : Prop where
  roots_nodup : roots.Nodup
  root_self : ∀ r, r ∈ roots → stabsOf H sPar r r = true
  cover : ∀ s, s < H.length → defect sy s = true → ∃ r, r ∈ roots ∧ sPar s = (r : Int)
  conn : ∀ r, r ∈ roots → ∀ v, stabsOf H sPar r v = true →
    Reach H (stabsOf H sPar r) (qubitsOf H qPar r) r v
  even : ∀ r, r ∈ roots → cnt H.length (fun s => defect sy s && stabsOf H sPar r s) % 2 = 0

/-- rows of equal length with entries 0/1 -/
structure RectBin (H : Mat) : Prop where
  rect : ∀ r, r ∈ H → r.length = ncols H
  bin : ∀ r, r ∈ H → ∀ x, x ∈ r → x ≤ 1

end Panqec.UF
