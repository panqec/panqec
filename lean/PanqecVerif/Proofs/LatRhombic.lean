/-
Shared by the three rhombic classes (`RhombicPlanarCode`, `RhombicToricCode`, `HollowRhombicCode`): the
sign vector of a triangle (its three legs point towards an uncoloured cube) and the incidence structure
of the lattice with the boundary condition left open: a cube and a triangle get the coordinates of
their neighbours by name (`x ± 1` on an open lattice, the cyclic neighbours on a torus), and a class
puts its qubit test `isQ` on top.  On this: which triangles an edge is a leg of, the order in which the
rank clauses take them, and the even overlaps cube/triangle, sheet/triangle, stack/cube.  At the end
`qubit_axis` and `get_deformation` in closed form.
-/
import PanqecVerif.Proofs.Lat3DbOps
import PanqecVerif.Proofs.Lat3DbPair
import PanqecVerif.Model.Lattices.Rhombic
open Panqec Panqec.Lat3Db
namespace Panqec.Rhombic

theorem mem_pyRange (n : Nat) (x : Int) : x ∈ pyRange n ↔ 0 ≤ x ∧ x < n := by
  unfold pyRange
  simp only [List.mem_map, List.mem_range, Int.ofNat_eq_natCast]
  constructor
  · rintro ⟨i, hi, rfl⟩; omega
  · rintro ⟨h0, h1⟩; exact ⟨x.toNat, by omega, by omega⟩

theorem nodup_pyRange (n : Nat) : (pyRange n).Nodup := by
  unfold pyRange
  exact List.Nodup.map (fun a b h => Int.ofNat.inj h) List.nodup_range

def sgnX (a : Int) : Int := if a = 0 ∨ a = 2 then 1 else -1
def sgnY (a : Int) : Int := if a = 0 ∨ a = 3 then 1 else -1
def sgnZ (a x y z : Int) : Int :=
  if (x + y + z) % 4 = 0 then (if a = 0 ∨ a = 1 then 1 else -1) else (if a = 2 ∨ a = 3 then 1 else -1)

def IsAxis (a : Int) : Prop := a = 0 ∨ a = 1 ∨ a = 2 ∨ a = 3
instance (a : Int) : Decidable (IsAxis a) := by unfold IsAxis; infer_instance

theorem sgnX_pm (a : Int) : sgnX a = 1 ∨ sgnX a = -1 := by unfold sgnX; split <;> simp
theorem sgnY_pm (a : Int) : sgnY a = 1 ∨ sgnY a = -1 := by unfold sgnY; split <;> simp
theorem sgnZ_pm (a x y z : Int) : sgnZ a x y z = 1 ∨ sgnZ a x y z = -1 := by
  unfold sgnZ; split <;> split <;> simp

/-- the legs point into an uncoloured cube -/
theorem sgn_parity (a x y z : Int) (ha : IsAxis a) (hx : x % 2 = 0) (hy : y % 2 = 0) (hz : z % 2 = 0) :
    (x + sgnX a + (y + sgnY a) + (z + sgnZ a x y z)) % 4 = 3 := by
  -- the three signs add up to 3 or -1 on a vertex of class 0, to 1 or -3 on the other class
  have hS : (sgnX a + sgnY a + sgnZ a x y z) % 4 = if (x + y + z) % 4 = 0 then 3 else 1 := by
    unfold sgnX sgnY sgnZ
    by_cases hp : (x + y + z) % 4 = 0 <;> simp only [hp, if_true, if_false] <;>
      rcases ha with rfl | rfl | rfl | rfl <;> decide
  split at hS <;> omega

theorem axis_of_signs (a b : Int) (ha : IsAxis a) (hb : IsAxis b) (h1 : sgnX a = sgnX b)
    (h2 : sgnY a = sgnY b) : a = b := by
  unfold sgnX at h1; unfold sgnY at h2
  rcases ha with rfl | rfl | rfl | rfl <;> rcases hb with rfl | rfl | rfl | rfl <;> simp at h1 h2 ⊢

/-- `delta_axis[axis]` as three unit steps with the signs of the triangle -/
theorem triDelta_eq (a x y z : Int) (ha : IsAxis a) :
    triDelta a x y z = [[sgnX a, 0, 0], [0, sgnY a, 0], [0, 0, sgnZ a x y z]] := by
  unfold triDelta sgnX sgnY sgnZ
  by_cases hp : (x + y + z) % 4 = 0
  · simp only [hp, if_true]
    rcases ha with rfl | rfl | rfl | rfl <;> simp [triDelta0]
  · have hb : ((x + y + z) % 4 == 0) = false := by simp [hp]
    simp only [hb, hp, if_false]
    rcases ha with rfl | rfl | rfl | rfl <;> simp [triDelta2]

def U (d : Int) : Prop := d = 1 ∨ d = -1
instance (d : Int) : Decidable (U d) := by unfold U; infer_instance

/-- `d` the offset from the vertex to the cube, `s` the sign vector: the number of legs that are edges
    of the cube is even, because the cube is coloured and the triangle points into an uncoloured one -/
theorem legs_even (dx dy dz sx sy sz : Int) (hsx : U sx) (hsy : U sy) (hsz : U sz)
    (hp : U dx → U dy → U dz → (dx + dy + dz - (sx + sy + sz)) % 4 = 2) :
    (ind (dx = sx ∧ U dy ∧ U dz) + ind (dy = sy ∧ U dx ∧ U dz) + ind (dz = sz ∧ U dx ∧ U dy)) % 2 = 0 := by
  by_cases h : U dx ∧ U dy ∧ U dz
  · obtain ⟨hx, hy, hz⟩ := h
    have hp := hp hx hy hz
    unfold U at *
    rcases hx with rfl | rfl <;> rcases hy with rfl | rfl <;> rcases hz with rfl | rfl <;>
      rcases hsx with rfl | rfl <;> rcases hsy with rfl | rfl <;> rcases hsz with rfl | rfl <;>
      first | (exfalso; omega) | decide
  · -- a leg that is an edge of the cube makes all three offsets units
    have h1 : ¬ (dx = sx ∧ U dy ∧ U dz) := fun h1 => h ⟨h1.1 ▸ hsx, h1.2⟩
    have h2 : ¬ (dy = sy ∧ U dx ∧ U dz) := fun h2 => h ⟨h2.2.1, h2.1 ▸ hsy, h2.2.2⟩
    have h3 : ¬ (dz = sz ∧ U dx ∧ U dy) := fun h3 => h ⟨h3.2.1, h3.2.2, h3.1 ▸ hsz⟩
    rw [ind_neg h1, ind_neg h2, ind_neg h3]

/-- the twelve edges of the cube `(x, y, z)` in the order of `cubeDelta`; `xm`, `xp` are the coordinates
    below and above `x`, and so on -/
def cube6 (xm xp ym yp zm zp x y z : Int) : List Coord :=
  [[xp, yp, z], [xm, ym, z], [xp, ym, z], [xm, yp, z],
   [xp, y, zp], [xm, y, zm], [xp, y, zm], [xm, y, zp],
   [x, yp, zp], [x, ym, zm], [x, ym, zp], [x, yp, zm]]

/-- the three legs of a triangle at the vertex `(u, v, w)`; `px`, `py`, `pz` are the coordinates the
    legs point to -/
def legs3 (px py pz u v w : Int) : List Coord := [[px, v, w], [u, py, w], [u, v, pz]]

theorem mem_cube6 {xm xp ym yp zm zp x y z p q r : Int} :
    [p, q, r] ∈ cube6 xm xp ym yp zm zp x y z ↔
      (r = z ∧ (p = xp ∨ p = xm) ∧ (q = yp ∨ q = ym)) ∨ (q = y ∧ (p = xp ∨ p = xm) ∧ (r = zp ∨ r = zm)) ∨
      (p = x ∧ (q = yp ∨ q = ym) ∧ (r = zp ∨ r = zm)) := by
  unfold cube6
  simp only [List.mem_cons, List.cons.injEq, and_true, List.not_mem_nil, or_false]
  constructor
  · rintro (⟨rfl, rfl, rfl⟩ | ⟨rfl, rfl, rfl⟩ | ⟨rfl, rfl, rfl⟩ | ⟨rfl, rfl, rfl⟩ | ⟨rfl, rfl, rfl⟩ | ⟨rfl, rfl, rfl⟩ |
      ⟨rfl, rfl, rfl⟩ | ⟨rfl, rfl, rfl⟩ | ⟨rfl, rfl, rfl⟩ | ⟨rfl, rfl, rfl⟩ | ⟨rfl, rfl, rfl⟩ | ⟨rfl, rfl, rfl⟩) <;> simp
  · rintro (⟨rfl, (rfl | rfl), (rfl | rfl)⟩ | ⟨rfl, (rfl | rfl), (rfl | rfl)⟩ | ⟨rfl, (rfl | rfl), (rfl | rfl)⟩) <;> simp

theorem nodup_cube6 {xm xp ym yp zm zp x y z : Int} (hx : xp ≠ xm ∧ xp ≠ x ∧ xm ≠ x)
    (hy : yp ≠ ym ∧ yp ≠ y ∧ ym ≠ y) (z1 : zp ≠ zm) :
    (cube6 xm xp ym yp zm zp x y z).Nodup := by
  obtain ⟨x1, x2, x3⟩ := hx
  obtain ⟨y1, y2, y3⟩ := hy
  unfold cube6
  simp [x1, x2, x3, y1, y2, y3, z1, x1.symm, y1.symm, y2.symm, y3.symm, z1.symm]

theorem mem_legs3 {px py pz u v w p q r : Int} : [p, q, r] ∈ legs3 px py pz u v w ↔
    (p = px ∧ q = v ∧ r = w) ∨ (p = u ∧ q = py ∧ r = w) ∨ (p = u ∧ q = v ∧ r = pz) := by
  unfold legs3
  simp only [List.mem_cons, List.cons.injEq, and_true, List.not_mem_nil, or_false]

theorem nodup_legs3 {px py pz u v w : Int} (hx : px ≠ u) (hy : py ≠ v) :
    (legs3 px py pz u v w).Nodup := by
  unfold legs3
  simp [hx, hy, hy.symm]

def cubeLocs (x y z : Int) : List Coord :=
  cube6 (x - 1) (x + 1) (y - 1) (y + 1) (z - 1) (z + 1) x y z

def triLocs (sx sy sz x y z : Int) : List Coord := legs3 (x + sx) (y + sy) (z + sz) x y z

theorem nodup_cubeLocs (x y z : Int) : (cubeLocs x y z).Nodup :=
  nodup_cube6 (by omega) (by omega) (by omega)

theorem nodup_triLocs (sx sy sz x y z : Int) (hx : U sx) (hy : U sy) : (triLocs sx sy sz x y z).Nodup :=
  nodup_legs3 (by unfold U at hx; omega) (by unfold U at hy; omega)

theorem U_sub {c v : Int} : U (c - v) ↔ (v = c + 1 ∨ v = c - 1) := by unfold U; omega

theorem mem_cubeLocs (x y z p q r : Int) :
    [p, q, r] ∈ cubeLocs x y z ↔
      (r = z ∧ U (x - p) ∧ U (y - q)) ∨ (q = y ∧ U (x - p) ∧ U (z - r)) ∨
      (p = x ∧ U (y - q) ∧ U (z - r)) := by
  simp only [U_sub]; exact mem_cube6

section cube
variable {x y z p q r : Int} (hx : x % 2 = 1) (hy : y % 2 = 1) (hz : z % 2 = 1)
include hx hy hz

omit hx in
theorem cube_xedge (hq : q % 2 = 0) (hr : r % 2 = 0) :
    [p, q, r] ∈ cubeLocs x y z ↔ p = x ∧ U (y - q) ∧ U (z - r) := by
  rw [mem_cubeLocs]
  exact ⟨fun h => h.elim (fun h => absurd h.1 (by omega)) fun h => h.elim (fun h => absurd h.1 (by omega)) id,
    fun h => Or.inr (Or.inr h)⟩

omit hy in
theorem cube_yedge (hp : p % 2 = 0) (hr : r % 2 = 0) :
    [p, q, r] ∈ cubeLocs x y z ↔ q = y ∧ U (x - p) ∧ U (z - r) := by
  rw [mem_cubeLocs]
  exact ⟨fun h => h.elim (fun h => absurd h.1 (by omega)) fun h => h.elim id fun h => absurd h.1 (by omega),
    fun h => Or.inr (Or.inl h)⟩

omit hz in
theorem cube_zedge (hp : p % 2 = 0) (hq : q % 2 = 0) :
    [p, q, r] ∈ cubeLocs x y z ↔ r = z ∧ U (x - p) ∧ U (y - q) := by
  rw [mem_cubeLocs]
  exact ⟨fun h => h.elim id fun h => h.elim (fun h => absurd h.1 (by omega)) fun h => absurd h.1 (by omega),
    Or.inl⟩

end cube

/-- of the four cubes around an edge the two coloured ones are diagonally opposite -/

theorem diag_pair {S a b c d : Int} (ha : U a) (hb : U b) (hc : U c) (hd : U d)
    (h1 : (S + a + b) % 4 = 1) (h2 : (S + c + d) % 4 = 1) : (a = c ∧ b = d) ∨ (a = -c ∧ b = -d) := by
  unfold U at ha hb hc hd
  rcases ha with rfl | rfl <;> rcases hb with rfl | rfl <;> rcases hc with rfl | rfl <;>
    rcases hd with rfl | rfl <;> first | exact Or.inl ⟨rfl, rfl⟩ | exact Or.inr ⟨rfl, rfl⟩ | omega

section twoCubes
variable {p q r x y z u v w : Int} (hc : (x + y + z) % 4 = 1) (hc' : (u + v + w) % 4 = 1)
include hc hc'

theorem coloured_on_xedge (hy : y % 2 = 1) (hz : z % 2 = 1) (hv : v % 2 = 1) (hw : w % 2 = 1)
    (hq : q % 2 = 0) (hr : r % 2 = 0) (h : [p, q, r] ∈ cubeLocs x y z) (h' : [p, q, r] ∈ cubeLocs u v w) :
    u = x ∧ ((v = y ∧ w = z) ∨ (v = 2 * q - y ∧ w = 2 * r - z)) := by
  obtain ⟨rfl, h1, h2⟩ := (cube_xedge hy hz hq hr).mp h
  obtain ⟨rfl, h3, h4⟩ := (cube_xedge hv hw hq hr).mp h'
  have e : ∀ s t : Int, p + q + r + (s - q) + (t - r) = p + s + t := fun s t => by omega
  have := diag_pair (S := p + q + r) h1 h2 h3 h4 (by rw [e]; exact hc) (by rw [e]; exact hc')
  clear hc hc' hy hz hv hw hq hr h h' h1 h2 h3 h4 e
  exact ⟨rfl, by omega⟩

theorem coloured_on_yedge (hx : x % 2 = 1) (hz : z % 2 = 1) (hu : u % 2 = 1) (hw : w % 2 = 1)
    (hp : p % 2 = 0) (hr : r % 2 = 0) (h : [p, q, r] ∈ cubeLocs x y z) (h' : [p, q, r] ∈ cubeLocs u v w) :
    v = y ∧ ((u = x ∧ w = z) ∨ (u = 2 * p - x ∧ w = 2 * r - z)) := by
  obtain ⟨rfl, h1, h2⟩ := (cube_yedge hx hz hp hr).mp h
  obtain ⟨rfl, h3, h4⟩ := (cube_yedge hu hw hp hr).mp h'
  have e : ∀ s t : Int, p + q + r + (s - p) + (t - r) = s + q + t := fun s t => by omega
  have := diag_pair (S := p + q + r) h1 h2 h3 h4 (by rw [e]; exact hc) (by rw [e]; exact hc')
  clear hc hc' hx hz hu hw hp hr h h' h1 h2 h3 h4 e
  exact ⟨rfl, by omega⟩

end twoCubes

theorem tri_xleg {sx sy sz u v w p q r : Int} (hu : u % 2 = 0) (hp : p % 2 = 1) :
    [p, q, r] ∈ triLocs sx sy sz u v w ↔ p = u + sx ∧ q = v ∧ r = w := by
  unfold triLocs; rw [mem_legs3]
  exact ⟨fun h => h.elim id fun h => h.elim (fun h => absurd h.1 (by omega)) fun h => absurd h.1 (by omega),
    Or.inl⟩

theorem tri_yleg {sx sy sz u v w p q r : Int} (hv : v % 2 = 0) (hq : q % 2 = 1) :
    [p, q, r] ∈ triLocs sx sy sz u v w ↔ p = u ∧ q = v + sy ∧ r = w := by
  unfold triLocs; rw [mem_legs3]
  exact ⟨fun h => h.elim (fun h => absurd h.2.1 (by omega)) fun h => h.elim id fun h => absurd h.2.1 (by omega),
    fun h => Or.inr (Or.inl h)⟩

theorem tri_zleg {sx sy sz u v w p q r : Int} (hw : w % 2 = 0) (hr : r % 2 = 1) :
    [p, q, r] ∈ triLocs sx sy sz u v w ↔ p = u ∧ q = v ∧ r = w + sz := by
  unfold triLocs; rw [mem_legs3]
  exact ⟨fun h => h.elim (fun h => absurd h.2.2 (by omega)) fun h => h.elim (fun h => absurd h.2.2 (by omega)) id,
    fun h => Or.inr (Or.inr h)⟩

def legs (b u v w : Int) : List Coord := triLocs (sgnX b) (sgnY b) (sgnZ b u v w) u v w

theorem sgnX_table {b : Int} (hb : IsAxis b) :
    (sgnX b = 1 ∧ (b = 0 ∨ b = 2)) ∨ (sgnX b = -1 ∧ (b = 1 ∨ b = 3)) := by
  unfold sgnX; rcases hb with rfl | rfl | rfl | rfl <;> simp

theorem sgnY_table {b : Int} (hb : IsAxis b) :
    (sgnY b = 1 ∧ (b = 0 ∨ b = 3)) ∨ (sgnY b = -1 ∧ (b = 1 ∨ b = 2)) := by
  unfold sgnY; rcases hb with rfl | rfl | rfl | rfl <;> simp

theorem sgnZ_table {b u v w : Int} (hb : IsAxis b) (hp : (u + v + w) % 2 = 0) :
    (sgnZ b u v w = 1 ∧ ((b ≤ 1 ∧ (u + v + w) % 4 = 0) ∨ (2 ≤ b ∧ (u + v + w) % 4 = 2))) ∨
    (sgnZ b u v w = -1 ∧ ((b ≤ 1 ∧ (u + v + w) % 4 = 2) ∨ (2 ≤ b ∧ (u + v + w) % 4 = 0))) := by
  unfold sgnZ
  by_cases h : (u + v + w) % 4 = 0
  · rcases hb with rfl | rfl | rfl | rfl <;> simp [h]
  · have h2 : (u + v + w) % 4 = 2 := by omega
    rcases hb with rfl | rfl | rfl | rfl <;> simp [h2]

section owners
variable {b u v w p q r : Int} (hb : IsAxis b)
include hb

/-- the owners of an edge (the triangles it is a leg of): here and in the next two lemmas by the
    direction of the edge -/
theorem xleg_owner (hu : u % 2 = 0) (hp : p % 2 = 1) (h : [p, q, r] ∈ legs b u v w) :
    q = v ∧ r = w ∧ ((u = p - 1 ∧ (b = 0 ∨ b = 2)) ∨ (u = p + 1 ∧ (b = 1 ∨ b = 3))) := by
  obtain ⟨h1, h2, h3⟩ := (tri_xleg hu hp).mp h
  refine ⟨h2, h3, ?_⟩
  rcases sgnX_table hb with ⟨e, hb⟩ | ⟨e, hb⟩
  · exact Or.inl ⟨by omega, hb⟩
  · exact Or.inr ⟨by omega, hb⟩

theorem yleg_owner (hv : v % 2 = 0) (hq : q % 2 = 1) (h : [p, q, r] ∈ legs b u v w) :
    p = u ∧ r = w ∧ ((v = q - 1 ∧ (b = 0 ∨ b = 3)) ∨ (v = q + 1 ∧ (b = 1 ∨ b = 2))) := by
  obtain ⟨h1, h2, h3⟩ := (tri_yleg hv hq).mp h
  refine ⟨h1, h3, ?_⟩
  rcases sgnY_table hb with ⟨e, hb⟩ | ⟨e, hb⟩
  · exact Or.inl ⟨by omega, hb⟩
  · exact Or.inr ⟨by omega, hb⟩

theorem zleg_owner (hu : u % 2 = 0) (hv : v % 2 = 0) (hw : w % 2 = 0) (hr : r % 2 = 1)
    (h : [p, q, r] ∈ legs b u v w) :
    p = u ∧ q = v ∧ (w = r - 1 ∨ w = r + 1) ∧
      ((b ≤ 1 ∧ (p + q + r) % 4 = 1) ∨ (2 ≤ b ∧ (p + q + r) % 4 = 3)) := by
  obtain ⟨h1, h2, h3⟩ := (tri_zleg hw hr).mp h
  subst h1 h2
  refine ⟨rfl, rfl, ?_⟩
  rcases sgnZ_table (u := p) (v := q) (w := w) hb (by omega) with ⟨e, hc⟩ | ⟨e, hc⟩
  · exact ⟨by omega, by omega⟩
  · exact ⟨by omega, by omega⟩

end owners

/-- `(a, x, y)` does not come after `(b, u, v)`: lexicographic in `(x, y, axis)` with the axes in the
    order `1 < 2 < 3 < 0`.  The probe of a selected triangle `s` is one of its legs; the `after_*` lemmas
    say which owners `t` of that leg do not come before `s`. -/
def Le3 (a x y b u v : Int) : Prop :=
  x < u ∨ (x = u ∧ (y < v ∨ (y = v ∧ (a + 3) % 4 ≤ (b + 3) % 4)))

section after
variable {a x y z b u v w : Int} (hb : IsAxis b) (hu : u % 2 = 0) (hv : v % 2 = 0) (hw : w % 2 = 0)
  (hle : Le3 a x y b u v)
include hb hu hv hw hle

omit hv hw in
theorem after_xleg_below (hx : x % 2 = 0) (h : [x - 1, y, z] ∈ legs b u v w) :
    u = x ∧ v = y ∧ w = z ∧ ((b = 1 ∧ (a + 3) % 4 = 0) ∨ (b = 3 ∧ (a + 3) % 4 ≤ 2)) := by
  obtain ⟨rfl, rfl, h | h⟩ := xleg_owner hb hu (by omega) h <;> unfold Le3 at hle
  · omega
  · obtain ⟨h1, rfl | rfl⟩ := h
    · exact ⟨by omega, rfl, rfl, Or.inl ⟨rfl, by omega⟩⟩
    · exact ⟨by omega, rfl, rfl, Or.inr ⟨rfl, by omega⟩⟩

omit hu hw in
theorem after_yleg_below (hy : y % 2 = 0) (h : [x, y - 1, z] ∈ legs b u v w) :
    u = x ∧ v = y ∧ w = z ∧ ((b = 1 ∧ (a + 3) % 4 = 0) ∨ (b = 2 ∧ (a + 3) % 4 ≤ 1)) := by
  obtain ⟨rfl, rfl, h | h⟩ := yleg_owner hb hv (by omega) h <;> unfold Le3 at hle
  · omega
  · obtain ⟨h1, rfl | rfl⟩ := h
    · exact ⟨rfl, by omega, rfl, Or.inl ⟨rfl, by omega⟩⟩
    · exact ⟨rfl, by omega, rfl, Or.inr ⟨rfl, by omega⟩⟩

omit hv hw in
theorem after_xleg_above (hx : x % 2 = 0) (h : [x + 1, y, z] ∈ legs b u v w) :
    v = y ∧ w = z ∧ (u = x + 2 ∨ (u = x ∧ (b = 0 ∨ (b = 2 ∧ (a + 3) % 4 ≤ 1)))) := by
  obtain ⟨rfl, rfl, h | h⟩ := xleg_owner hb hu (by omega) h <;> unfold Le3 at hle
  · obtain ⟨h1, rfl | rfl⟩ := h
    · exact ⟨rfl, rfl, Or.inr ⟨by omega, Or.inl rfl⟩⟩
    · exact ⟨rfl, rfl, Or.inr ⟨by omega, Or.inr ⟨rfl, by omega⟩⟩⟩
  · exact ⟨rfl, rfl, Or.inl (by omega)⟩

theorem after_zleg (hz : z % 2 = 0) (s : Int) (hs : U s) (ha0 : a = 0) (hc : (x + y + z + s) % 4 = 1)
    (h : [x, y, z + s] ∈ legs b u v w) : b = 0 ∧ u = x ∧ v = y ∧ (w = z ∨ w = z + 2 * s) := by
  obtain ⟨rfl, rfl, h1, h2⟩ := zleg_owner hb hu hv hw (by unfold U at hs; omega) h
  unfold U at hs; unfold Le3 at hle; unfold IsAxis at hb
  subst ha0
  have hb1 : b ≤ 1 := by omega
  clear h2 hc
  exact ⟨by omega, rfl, rfl, by omega⟩

end after

/-- `legs_even` for a truncated triangle: `tx`, `ty`, `tz` say which legs exist -/
theorem legs_present_even (dx dy dz sx sy sz : Int) (tx ty tz : Prop) [Decidable tx] [Decidable ty]
    [Decidable tz] (hsx : U sx) (hsy : U sy) (hsz : U sz)
    (hp : U dx → U dy → U dz → (dx + dy + dz - (sx + sy + sz)) % 4 = 2)
    (hxy : tx ↔ ty) (hyz : (dz = sz ∧ U dx ∧ U dy) → (ty ↔ tz)) :
    (ind (tx ∧ dx = sx ∧ U dy ∧ U dz) + ind (ty ∧ dy = sy ∧ U dx ∧ U dz) +
      ind (tz ∧ dz = sz ∧ U dx ∧ U dy)) % 2 = 0 := by
  have h := legs_even dx dy dz sx sy sz hsx hsy hsz hp
  by_cases hy : ty
  · have hx := hxy.mpr hy
    rw [ind_congr (and_iff_right hx), ind_congr (and_iff_right hy)]
    by_cases hz : tz
    · rwa [ind_congr (and_iff_right hz)]
    · -- the z leg is missing: then it is no edge of the cube
      have h3 : ¬ (dz = sz ∧ U dx ∧ U dy) := fun h3 => hz ((hyz h3).mp hy)
      rw [ind_neg h3] at h
      rwa [ind_neg (p := tz ∧ dz = sz ∧ U dx ∧ U dy) (fun h => hz h.1)]
  · rw [ind_neg (p := tx ∧ dx = sx ∧ U dy ∧ U dz) (fun h => hy (hxy.mp h.1)),
      ind_neg (p := ty ∧ dy = sy ∧ U dx ∧ U dz) (fun h => hy h.1),
      ind_neg (p := tz ∧ dz = sz ∧ U dx ∧ U dy) (fun h => hy ((hyz h.2).mpr h.1))]

section overlap
variable (isQ : Coord → Bool) {vx vy vz cx cy cz sx sy sz : Int}

/-- the commutation lemma of the family: the overlap is even for any qubit test under the two
    conditions on which legs are qubits (for `HollowRhombicCode`: `keep_xy`, `keep_yz`) -/
theorem tri_cube_even (hvx : vx % 2 = 0) (hvy : vy % 2 = 0) (hvz : vz % 2 = 0) (hcx : cx % 2 = 1)
    (hcy : cy % 2 = 1) (hcz : cz % 2 = 1) (hsx : U sx) (hsy : U sy) (hsz : U sz)
    (hcol : (cx + cy + cz) % 4 = 1) (hpar : (vx + sx + (vy + sy) + (vz + sz)) % 4 = 3)
    (hxy : isQ [vx + sx, vy, vz] = true ↔ isQ [vx, vy + sy, vz] = true)
    (hyz : cz = vz + sz → (isQ [vx, vy + sy, vz] = true ↔ isQ [vx, vy, vz + sz] = true)) :
    ovl ((triLocs sx sy sz vx vy vz).filter isQ) ((cubeLocs cx cy cz).filter isQ) % 2 = 0 := by
  -- the keys shared by the triangle and the cube, leg by leg
  have e1 : [vx + sx, vy, vz] ∈ (cubeLocs cx cy cz).filter isQ ↔
      (isQ [vx + sx, vy, vz] = true ∧ cx - vx = sx ∧ U (cy - vy) ∧ U (cz - vz)) := by
    rw [List.mem_filter, cube_xedge hcy hcz hvy hvz]
    exact ⟨fun h => ⟨h.2, by omega, h.1.2⟩, fun h => ⟨⟨by omega, h.2.2⟩, h.1⟩⟩
  have e2 : [vx, vy + sy, vz] ∈ (cubeLocs cx cy cz).filter isQ ↔
      (isQ [vx, vy + sy, vz] = true ∧ cy - vy = sy ∧ U (cx - vx) ∧ U (cz - vz)) := by
    rw [List.mem_filter, cube_yedge hcx hcz hvx hvz]
    exact ⟨fun h => ⟨h.2, by omega, h.1.2⟩, fun h => ⟨⟨by omega, h.2.2⟩, h.1⟩⟩
  have e3 : [vx, vy, vz + sz] ∈ (cubeLocs cx cy cz).filter isQ ↔
      (isQ [vx, vy, vz + sz] = true ∧ cz - vz = sz ∧ U (cx - vx) ∧ U (cy - vy)) := by
    rw [List.mem_filter, cube_zedge hcx hcy hvx hvy]
    exact ⟨fun h => ⟨h.2, by omega, h.1.2⟩, fun h => ⟨⟨by omega, h.2.2⟩, h.1⟩⟩
  rw [ovl_filter_filter]
  unfold triLocs legs3
  simp only [ovl_cons_ind, ovl_nil]
  rw [ind_congr e1, ind_congr e2, ind_congr e3]
  have := legs_present_even (cx - vx) (cy - vy) (cz - vz) sx sy sz _ _ _ hsx hsy hsz
    (fun _ _ _ => by omega) hxy (fun h => hyz (by omega))
  omega

end overlap

section sheet
variable (isQ : Coord → Bool) {vx vy vz sx sy sz : Int}

/-- `S` holds exactly the qubits of the plane `z = h`: a triangle meets it in its x and y legs or not
    at all -/
theorem tri_sheet_even (S : List Coord) (h : Int) (hSq : ∀ q ∈ S, isQ q = true)
    (hS : ∀ p q r, isQ [p, q, r] = true → ([p, q, r] ∈ S ↔ r = h)) (hh : h % 2 = 0) (hvz : vz % 2 = 0)
    (hsz : U sz) (hxy : isQ [vx + sx, vy, vz] = true ↔ isQ [vx, vy + sy, vz] = true) :
    ovl ((triLocs sx sy sz vx vy vz).filter isQ) S % 2 = 0 := by
  rw [ovl_filter_left _ _ _ hSq]
  unfold triLocs legs3
  simp only [ovl_cons_ind, ovl_nil]
  have e3 : [vx, vy, vz + sz] ∉ S := fun hm => by
    have := (hS _ _ _ (hSq _ hm)).mp hm
    unfold U at hsz; omega
  rw [ind_neg e3]
  by_cases hq : isQ [vx, vy + sy, vz] = true
  · rw [ind_congr (hS _ _ _ hq), ind_congr (hS _ _ _ (hxy.mpr hq))]; omega
  · rw [ind_neg (fun hm => hq (hSq _ hm)), ind_neg (fun hm => hq (hxy.mp (hSq _ hm)))]

end sheet

theorem countP_two (l : List Int) (u v : Int) (hl : l.Nodup) (hu : u ∈ l) (hv : v ∈ l) (huv : u ≠ v) :
    l.countP (fun z => z == u || z == v) = 2 := by
  have key : ∀ t : List Int,
      t.countP (fun z => z == u || z == v) = t.countP (· == u) + t.countP (· == v) := by
    intro t
    induction t with
    | nil => rfl
    | cons a t ih =>
      simp only [List.countP_cons, ih]
      by_cases e1 : a = u
      · have e2 : ¬ a = v := fun e2 => huv (e1.symm.trans e2)
        simp [e1, huv]; omega
      · by_cases e2 : a = v
        · subst e2; simp [e1]; omega
        · simp [e1, e2]
  rw [key l, countP_eq_point l u hl hu, countP_eq_point l v hl hv]

/-- the stack of the edges `(sx, sy, z)`, `z ∈ zs`: it meets a cube in two parallel edges or not at all -/
theorem stack_cube_even {sx sy cx cy cz : Int} (zs : List Int) (hz : ∀ z ∈ zs, z % 2 = 0)
    (hzs : zs.Nodup) (hmem : cz - 1 ∈ zs ∧ cz + 1 ∈ zs) (hcx : cx % 2 = 1) (hcy : cy % 2 = 1)
    (hcz : cz % 2 = 1) (hs : (sx % 2 = 1 ∧ sy % 2 = 0) ∨ (sx % 2 = 0 ∧ sy % 2 = 1)) :
    ovl (zs.map fun z => [sx, sy, z]) (cubeLocs cx cy cz) % 2 = 0 := by
  unfold ovl
  rw [List.countP_map]
  -- the stack is on the cube iff its column is next to the column of the cube
  obtain ⟨C, hC⟩ : ∃ C : Prop, ∀ z ∈ zs,
      [sx, sy, z] ∈ cubeLocs cx cy cz ↔ (C ∧ (z = cz + 1 ∨ z = cz - 1)) := by
    rcases hs with ⟨h1, h2⟩ | ⟨h1, h2⟩
    · exact ⟨sx = cx ∧ U (cy - sy), fun z hzz => by
        rw [cube_xedge hcy hcz h2 (hz z hzz), U_sub (c := cz), and_assoc]⟩
    · exact ⟨sy = cy ∧ U (cx - sx), fun z hzz => by
        rw [cube_yedge hcx hcz h1 (hz z hzz), U_sub (c := cz), and_assoc]⟩
  by_cases hc : C
  · rw [List.countP_congr (q := fun z => z == (cz + 1) || z == (cz - 1)) (fun z hzz => by
      simp only [Function.comp, List.contains_iff_mem, hC z hzz, hc, true_and, Bool.or_eq_true,
        beq_iff_eq]), countP_two _ _ _ hzs hmem.2 hmem.1 (by omega)]
  · rw [List.countP_eq_zero.mpr]
    intro z hzz
    simp only [Function.comp, List.contains_iff_mem, hC z hzz, hc, false_and, not_false_eq_true]

/-- the letter of a generator of a rhombic code: X on a cube (three coordinates), Z on a triangle -/
def letterOf (s : Coord) : Pauli := if s.length = 3 then Pauli.X else Pauli.Z

theorem qubitAxis_eq (x y z : Int)
    (h : (x % 2 = 1 ∧ y % 2 = 0 ∧ z % 2 = 0) ∨ (x % 2 = 0 ∧ y % 2 = 1 ∧ z % 2 = 0) ∨
      (x % 2 = 0 ∧ y % 2 = 0 ∧ z % 2 = 1)) :
    qubitAxis [x, y, z] = some (if x % 2 = 1 then "x" else if y % 2 = 1 then "y" else "z") := by
  unfold qubitAxis
  rcases h with ⟨h1, h2, h3⟩ | ⟨h1, h2, h3⟩ | ⟨h1, h2, h3⟩ <;> simp [h1, h2, h3]

theorem getDeformation_rule (name : String) (x y z : Int) :
    getDeformation name [x, y, z] =
      if name ≠ "Checkerboard XZZX" then none
      else (qubitAxis [x, y, z]).map fun a =>
            if a = "z" ∧ ((z % 4 = 3 ∧ (x + y) % 4 = 2) ∨ (z % 4 = 1 ∧ (x + y) % 4 = 0))
            then PauliMap.swapXZ else PauliMap.id := by
  unfold getDeformation
  by_cases hn : name = "Checkerboard XZZX"
  · simp only [hn, bne_self_eq_false, Bool.false_eq_true, if_false, ne_eq, not_true_eq_false]
    cases hq : qubitAxis [x, y, z] with
    | none => rfl
    | some a =>
      simp only [Option.map_some, checker, Bool.and_eq_true, beq_iff_eq, Bool.or_eq_true]
  · have : (name != "Checkerboard XZZX") = true := by simpa using hn
    simp [this, hn]

/-- a location that does not have three coordinates is rejected (`ValueError`) for every name -/
theorem getDeformation_bad_location (name : String) (loc : Coord) (h : loc.length ≠ 3) :
    getDeformation name loc = none := by
  unfold getDeformation
  split
  · rfl
  · split
    · simp at h
    · rfl

theorem getDeformation_isPerm {name : String} {loc : Coord} {m : PauliMap}
    (h : getDeformation name loc = some m) : m.isPerm = true := by
  unfold getDeformation at h
  split at h
  · cases h
  · split at h
    · split at h
      · cases h
      · simp only [Option.some.injEq] at h
        subst h
        split <;> decide
    · cases h

end Panqec.Rhombic
