/-
`RotatedToric3DCode`, supported family: for every pair of stabilizer kinds the number of candidate
pairs on the same location with different signs (`antiPairs`) is even, hence (with the signed closed
forms of `get_stabilizer`) any two stabilizer generators commute.  A vertex clashes with another
layer generator like the horizontal face at its place (`KV_eq`: same horizontal candidates; the
vertical ones all have sign `true`).  Two horizontal faces, and a vertex against a vertical face:
the count is unfolded to a sum of indicators of conjunctions of per-axis coordinate equations; the
equations are rewritten to a few adjacency atoms per axis (`a = x`, `a - 1 = sw x`,
`sw a = x - 1` for two even coordinates; `f = sw x`, `f = x - 1` for an odd against an even one;
`h - 1 = z`, `h + 1 = z` for the layers), and a finite case split on the atoms finishes.  A
horizontal face against a vertical face: on a shared qubit both have the sign given by the colour
class of the qubit (`KH_sign`), so there is no clash at all.
-/
import PanqecVerif.Proofs.LatRotatedToric3DCodeStab
open Panqec Panqec.Lat3Db
namespace Panqec.RotatedToric3DCode


/-- two even coordinates of the period: equal, `a` just after `x`, `a` just before `x` (both when
    the period is 4), or not adjacent -/
theorem axis_cases {L : Nat} {x a : Int} (hL : 2 ≤ L) (hx : Ev L x) (ha : Ev L a) :
    (a = x ∧ ¬ a - 1 = sw L x ∧ ¬ sw L a = x - 1) ∨
    (a ≠ x ∧ a - 1 = sw L x ∧ sw L a = x - 1) ∨
    (a ≠ x ∧ a - 1 = sw L x ∧ ¬ sw L a = x - 1) ∨
    (a ≠ x ∧ ¬ a - 1 = sw L x ∧ sw L a = x - 1) ∨
    (a ≠ x ∧ ¬ a - 1 = sw L x ∧ ¬ sw L a = x - 1) := by
  by_cases h1 : a = x
  · subst h1
    have : ¬ a - 1 = sw L a := by unfold Ev at ha; have := sw_spec L a; omega
    exact Or.inl ⟨rfl, this, fun h => this h.symm⟩
  · by_cases h2 : a - 1 = sw L x <;> by_cases h3 : sw L a = x - 1
    · exact Or.inr (Or.inl ⟨h1, h2, h3⟩)
    · exact Or.inr (Or.inr (Or.inl ⟨h1, h2, h3⟩))
    · exact Or.inr (Or.inr (Or.inr (Or.inl ⟨h1, h2, h3⟩)))
    · exact Or.inr (Or.inr (Or.inr (Or.inr ⟨h1, h2, h3⟩)))

theorem ee_ss {L : Nat} {x a : Int} (hx : Ev L x) (ha : Ev L a) : sw L a = sw L x ↔ a = x := by
  unfold Ev at hx ha
  have := sw_spec L x; have := sw_spec L a
  omega
theorem ee_pp {x a : Int} : a - 1 = x - 1 ↔ a = x := by omega

/-- an odd coordinate `f` against an even coordinate `x`: `f` just after `x`, just before, or
    not adjacent -/
theorem oe_cases {L : Nat} {x f : Int} (hL : 2 ≤ L) (hx : Ev L x) (hf : Od L f) :
    (f = sw L x ∧ ¬ f = x - 1) ∨ (¬ f = sw L x ∧ f = x - 1) ∨ (¬ f = sw L x ∧ ¬ f = x - 1) := by
  unfold Ev at hx; unfold Od at hf
  have := sw_spec L x
  omega

theorem oe_pw {L : Nat} {x f : Int} (hL : 2 ≤ L) (hx : Ev L x) (hf : Od L f) :
    pw L f = x ↔ f = sw L x := by
  unfold Ev at hx; unfold Od at hf
  have := sw_spec L x; have := pw_spec L f
  omega
theorem oe_succ {x f : Int} : f + 1 = x ↔ f = x - 1 := by omega
theorem oe_ne {L : Nat} {x f : Int} (hx : Ev L x) (hf : Od L f) : ¬ f = x := by
  unfold Ev at hx; unfold Od at hf; omega

/-- an even layer `h` against an odd layer `z`: just above, just below, or not adjacent -/
theorem z_cases (z h : Int) :
    (h - 1 = z ∧ ¬ h + 1 = z) ∨ (¬ h - 1 = z ∧ h + 1 = z) ∨ (¬ h - 1 = z ∧ ¬ h + 1 = z) := by omega
theorem z_up {z h : Int} : h = z + 1 ↔ h - 1 = z := by omega
theorem z_dn {z h : Int} : h = z - 1 ↔ h + 1 = z := by omega

theorem isQ_h {Lx Ly Lz : Nat} {p q r : Int} (hp : Od Lx p) (hq : Od Ly q) (hr : R1 (2 * Lz) r) :
    isQubit Lx Ly Lz [p, q, r] = true := by
  rw [isQubit_iff]; left; exact ⟨R1_Od.mpr hp, R1_Od.mpr hq, hr⟩

theorem isQ_v {Lx Ly Lz : Nat} {p q r : Int} (hp : Ev Lx p) (hq : Ev Ly q) (hr : R2 (2 * Lz) r)
    (h4 : (p + q) % 4 = 2) : isQubit Lx Ly Lz [p, q, r] = true := by
  rw [isQubit_iff]; right; exact ⟨R2_Ev.mpr hp, R2_Ev.mpr hq, hr, h4⟩

theorem antiPairs_eq_zero {Lx Ly Lz : Nat} {K1 K2 : List (Coord × Bool)}
    (h : ∀ e ∈ K1, ∀ e' ∈ K2, e'.1 = e.1 → e.2 = e'.2) : antiPairs Lx Ly Lz K1 K2 = 0 := by
  unfold antiPairs
  rw [List.countP_eq_zero]
  intro e he
  rw [Bool.and_eq_true, List.any_eq_true]
  rintro ⟨_, e', he', hk⟩
  rw [Bool.and_eq_true, beq_iff_eq, bne_iff_ne] at hk
  exact hk.2 (h e he e' he' hk.1)

/-- the four horizontal candidates of two layer generators, vertices or horizontal faces alike -/
theorem anti_LL {Lx Ly Lz : Nat} {x y z a b c : Int} (hF : Fam Lx Ly) (hx : Ev Lx x) (hy : Ev Ly y)
    (hz : R1 (2 * Lz) z) (ha : Ev Lx a) (hb : Ev Ly b) :
    antiPairs Lx Ly Lz (KH Lx Ly x y z) (KH Lx Ly a b c) % 2 = 0 := by
  obtain ⟨hLx, hLy, _⟩ := hF
  have q1 := isQ_h (Lz := Lz) (sw_od (by omega) hx) (pred_od hy) hz
  have q2 := isQ_h (Lz := Lz) (pred_od hx) (sw_od (by omega) hy) hz
  have q3 := isQ_h (Lz := Lz) (sw_od (by omega) hx) (sw_od (by omega) hy) hz
  have q4 := isQ_h (Lz := Lz) (pred_od hx) (pred_od hy) hz
  simp only [antiPairs, KH, KH, List.countP_cons, List.countP_nil, List.any_cons, List.any_nil,
    Bool.and_eq_true, Bool.or_eq_true, beq_iff_eq, bne_iff_ne, ne_eq, List.cons.injEq, and_true,
    Bool.or_false, not_true_eq_false, not_false_eq_true, and_false, or_false, false_or,
    Bool.false_eq_true, Bool.true_eq_false, true_and, Nat.zero_add, q1, q2, q3, q4, ee_ss hx ha,
    ee_ss hy hb,
    ee_pp (x := x) (a := a), ee_pp (x := y) (a := b)]
  have cx := axis_cases hLx hx ha
  have cy := axis_cases hLy hy hb
  clear q1 q2 q3 q4 hx hy ha hb hz
  rcases cx with ⟨rfl, h1', h1''⟩ | ⟨h1, h1', h1''⟩ | ⟨h1, h1', h1''⟩ | ⟨h1, h1', h1''⟩ |
      ⟨h1, h1', h1''⟩ <;>
    rcases cy with ⟨rfl, h2', h2''⟩ | ⟨h2, h2', h2''⟩ | ⟨h2, h2', h2''⟩ | ⟨h2, h2', h2''⟩ |
      ⟨h2, h2', h2''⟩ <;>
    by_cases h3 : c = z <;>
    simp only [*, and_self, and_true, and_false, or_false, false_or, or_self, if_true, if_false]

theorem KH_layer {Lx Ly : Nat} {a b c : Int} {e : Coord × Bool} (he : e ∈ KH Lx Ly a b c) :
    ∃ p q, e.1 = [p, q, c] := by
  simp only [KH, List.mem_cons, List.not_mem_nil, or_false] at he
  rcases he with rfl | rfl | rfl | rfl <;> exact ⟨_, _, rfl⟩

/-- the vertical candidates of a vertex have sign `true` like those of every other vertex, and lie
    in no odd layer: against a list whose candidates outside the odd layers have sign `true`, a
    vertex clashes like the horizontal face at its place -/
theorem antiPairs_KV_left {Lx Ly Lz : Nat} {x y z : Int} (hz : z % 2 = 1) {K : List (Coord × Bool)}
    (hK : ∀ e ∈ K, (∃ p q r, e.1 = [p, q, r] ∧ r % 2 = 1) ∨ e.2 = true) :
    antiPairs Lx Ly Lz (KV Lx Ly x y z) K = antiPairs Lx Ly Lz (KH Lx Ly x y z) K := by
  have h0 : antiPairs Lx Ly Lz [([x, y, z + 1], true), ([x, y, z - 1], true)] K = 0 := by
    refine antiPairs_eq_zero fun e he e' he' hk => ?_
    simp only [List.mem_cons, List.not_mem_nil, or_false] at he
    rcases hK e' he' with ⟨p, q, r, hr, hr2⟩ | hs
    · rcases he with rfl | rfl <;>
        rw [hr, List.cons.injEq, List.cons.injEq, List.cons.injEq] at hk <;> omega
    · rcases he with rfl | rfl <;> exact hs.symm
  unfold antiPairs at h0 ⊢
  rw [KV_eq, List.countP_append, List.countP_reverse, h0, Nat.add_zero]

theorem antiPairs_KV_right {Lx Ly Lz : Nat} {a b c : Int} (hc : c % 2 = 1)
    {K : List (Coord × Bool)} (hK : ∀ e ∈ K, ∃ p q r, e.1 = [p, q, r] ∧ r % 2 = 1) :
    antiPairs Lx Ly Lz K (KV Lx Ly a b c) = antiPairs Lx Ly Lz K (KH Lx Ly a b c) := by
  unfold antiPairs
  refine List.countP_congr fun e he => ?_
  obtain ⟨p, q, r, hr, hr2⟩ := hK e he
  have h1 : ([a, b, c + 1] == e.1) = false := by
    rw [hr, beq_eq_false_iff_ne]; intro h; simp only [List.cons.injEq] at h; omega
  have h2 : ([a, b, c - 1] == e.1) = false := by
    rw [hr, beq_eq_false_iff_ne]; intro h; simp only [List.cons.injEq] at h; omega
  rw [KV_eq, List.any_append, List.any_reverse]
  simp only [List.any_cons, List.any_nil, h1, h2, Bool.false_and, Bool.or_false]

theorem KH_odd {Lx Ly Lz : Nat} {a b c : Int} (hc : R1 (2 * Lz) c) :
    ∀ e ∈ KH Lx Ly a b c, ∃ p q r, e.1 = [p, q, r] ∧ r % 2 = 1 := fun e he => by
  obtain ⟨p, q, h⟩ := KH_layer he
  exact ⟨p, q, c, h, hc.1⟩

theorem anti_HH {Lx Ly Lz : Nat} {x y z a b c : Int} (hF : Fam Lx Ly)
    (hs : SH Lx Ly Lz x y z) (ht : SH Lx Ly Lz a b c) :
    antiPairs Lx Ly Lz (KH Lx Ly x y z) (KH Lx Ly a b c) % 2 = 0 :=
  anti_LL hF (R2_Ev.mp hs.1) (R2_Ev.mp hs.2.1) hs.2.2.1 (R2_Ev.mp ht.1) (R2_Ev.mp ht.2.1)

theorem anti_VH {Lx Ly Lz : Nat} {x y z a b c : Int} (hF : Fam Lx Ly)
    (hs : SV Lx Ly Lz x y z) (ht : SH Lx Ly Lz a b c) :
    antiPairs Lx Ly Lz (KV Lx Ly x y z) (KH Lx Ly a b c) % 2 = 0 := by
  rw [antiPairs_KV_left hs.2.2.1.1 fun e he => Or.inl (KH_odd ht.2.2.1 e he)]
  exact anti_LL hF (R2_Ev.mp hs.1) (R2_Ev.mp hs.2.1) hs.2.2.1 (R2_Ev.mp ht.1) (R2_Ev.mp ht.2.1)

theorem anti_VV {Lx Ly Lz : Nat} {x y z a b c : Int} (hF : Fam Lx Ly)
    (hs : SV Lx Ly Lz x y z) (ht : SV Lx Ly Lz a b c) :
    antiPairs Lx Ly Lz (KV Lx Ly x y z) (KV Lx Ly a b c) % 2 = 0 := by
  rw [antiPairs_KV_left hs.2.2.1.1, antiPairs_KV_right ht.2.2.1.1 (KH_odd hs.2.2.1)]
  · exact anti_LL hF (R2_Ev.mp hs.1) (R2_Ev.mp hs.2.1) hs.2.2.1 (R2_Ev.mp ht.1) (R2_Ev.mp ht.2.1)
  · intro e he
    rw [KV_eq, List.mem_append, List.mem_reverse] at he
    rcases he with he | he
    · exact Or.inl (KH_odd ht.2.2.1 e he)
    · simp only [List.mem_cons, List.not_mem_nil, or_false] at he
      rcases he with rfl | rfl <;> exact Or.inr rfl

theorem anti_VF {Lx Ly Lz : Nat} {x y z f g h : Int} (d : Bool) (hF : Fam Lx Ly)
    (hs : SV Lx Ly Lz x y z) (ht : SF Lx Ly Lz f g h) (h4 : (f + g) % 4 = if d then 2 else 0) :
    antiPairs Lx Ly Lz (KV Lx Ly x y z) (KF Lx Ly d f g h) % 2 = 0 := by
  obtain ⟨hLx, hLy, hfam⟩ := hF
  obtain ⟨hx, hy, hz, h4s⟩ := hs
  obtain ⟨hf, hg, hh, hdrop⟩ := ht
  rw [R2_Ev] at hx hy
  rw [R1_Od] at hf hg
  have q1 := isQ_h (Lz := Lz) (sw_od (by omega) hx) (pred_od hy) hz
  have q2 := isQ_h (Lz := Lz) (pred_od hx) (sw_od (by omega) hy) hz
  have q3 := isQ_h (Lz := Lz) (sw_od (by omega) hx) (sw_od (by omega) hy) hz
  have q4 := isQ_h (Lz := Lz) (pred_od hx) (pred_od hy) hz
  have qu : h - 1 = z → isQubit Lx Ly Lz [x, y, z + 1] = true := by
    intro e; exact isQ_v hx hy (by have : z + 1 = h := by omega
                                   rw [this]; exact hh) h4s
  have qd : h + 1 = z → isQubit Lx Ly Lz [x, y, z - 1] = true := by
    intro e; exact isQ_v hx hy (by have : z - 1 = h := by omega
                                   rw [this]; exact hh) h4s
  have z0 : ¬ h = z := by unfold R1 at hz; unfold R2 at hh; omega
  have cx := oe_cases hLx hx hf
  have cy := oe_cases hLy hy hg
  have cz := z_cases z h
  have sx := sw_spec Lx x; have sy := sw_spec Ly y
  cases d <;> simp only [Bool.false_eq_true, if_false, if_true] at h4 <;>
    simp only [antiPairs, KV, KF, List.countP_cons, List.countP_nil, List.any_cons, List.any_nil,
      Bool.and_eq_true, Bool.or_eq_true, beq_iff_eq, bne_iff_ne, ne_eq, List.cons.injEq, and_true,
      Bool.or_false, not_true_eq_false, not_false_eq_true, and_false, false_and, or_false, false_or,
      Bool.false_eq_true, Bool.true_eq_false, true_and, if_false, if_true, Nat.add_zero,
      Nat.zero_add, q1, q2, q3, q4, z0, oe_pw hLx hx hf, oe_pw hLy hy hg,
      oe_succ (f := f) (x := x), oe_succ (f := g) (x := y), oe_ne hx hf, oe_ne hy hg,
      z_up (z := z) (h := h), z_dn (z := z) (h := h)] <;>
    unfold Ev at hx hy <;> unfold Od at hf hg <;> unfold Dropped at hdrop <;>
    clear q1 q2 q3 q4 z0 <;>
    rcases cx with ⟨rfl, h1'⟩ | ⟨h1, rfl⟩ | ⟨h1, h1'⟩ <;>
    rcases cy with ⟨rfl, h2'⟩ | ⟨h2, rfl⟩ | ⟨h2, h2'⟩ <;>
    rcases cz with ⟨h3, h3'⟩ | ⟨h3, h3'⟩ | ⟨h3, h3'⟩ <;>
    (first | (have e5 := qu h3; simp only [*, and_self, and_true, and_false, or_false, false_or,
      or_self, if_true, if_false]) | (have e6 := qd h3'; simp only [*, and_self, and_true,
      and_false, or_false, false_or, or_self, if_true, if_false]) | simp only [*, and_self,
      and_false, or_self, if_false])

/-- a candidate of a layer generator lies in its layer; off the dropped columns the colour class
    `(p + q) % 4` of the qubit differs from that of the generator exactly when its sign is `true` -/
theorem KH_sign {Lx Ly : Nat} {x y z p q r : Int} {σ : Bool} (hx : Ev Lx x) (hy : Ev Ly y)
    (he : ([p, q, r], σ) ∈ KH Lx Ly x y z) :
    r = z ∧ (¬ Dropped Lx Ly p q → (p + q) % 4 = (x + y + if σ then 2 else 0) % 4) := by
  have mx := sw_mod4 hx; have my := sw_mod4 hy
  clear hx hy
  unfold Dropped
  simp only [KH, List.mem_cons, Prod.mk.injEq, List.cons.injEq, and_true, List.not_mem_nil,
    or_false] at he
  rcases he with ⟨⟨rfl, rfl, rfl⟩, rfl⟩ | ⟨⟨rfl, rfl, rfl⟩, rfl⟩ | ⟨⟨rfl, rfl, rfl⟩, rfl⟩ |
    ⟨⟨rfl, rfl, rfl⟩, rfl⟩ <;> refine ⟨rfl, fun hd => ?_⟩ <;>
    simp only [if_true, Bool.false_eq_true, if_false]
  · clear mx my; omega
  · rw [Int.add_emod, mx.resolve_left fun h => hd (Or.inr h),
      my.resolve_left fun h => hd (Or.inl h), ← Int.add_emod]
    omega
  · rw [Int.add_emod, my.resolve_left fun h => hd (Or.inl h), ← Int.add_emod]
    omega
  · rw [Int.add_emod, mx.resolve_left fun h => hd (Or.inr h), ← Int.add_emod]
    omega

/-- a horizontal face shares qubits with a vertical face only above or below the latter, where both
    write X -/
theorem anti_HF {Lx Ly Lz : Nat} {x y z f g h : Int} (hs : SH Lx Ly Lz x y z)
    (ht : SF Lx Ly Lz f g h) {K : List (Coord × Bool)}
    (hK : ∀ e ∈ K, (∃ a b, e.1 = [a, b, h]) ∨
      ∃ c, e.1 = [f, g, c] ∧ (e.2 = true ↔ (f + g) % 4 = 2)) :
    antiPairs Lx Ly Lz (KH Lx Ly x y z) K = 0 := by
  obtain ⟨hx, hy, hz, h4⟩ := hs
  rw [R2_Ev] at hx hy
  refine antiPairs_eq_zero fun e he e' he' hk => ?_
  obtain ⟨k, σ⟩ := e
  rcases hK e' he' with ⟨a, b, hk'⟩ | ⟨c, hk', hσ⟩ <;> rw [hk'] at hk <;> subst hk
  · have := (KH_sign hx hy he).1
    have := ht.2.2.1
    unfold R1 at hz; unfold R2 at this; omega
  · have := (KH_sign hx hy he).2 ht.2.2.2
    cases σ <;> simp only [if_true, Bool.false_eq_true, if_false] at this <;>
      rw [Bool.eq_iff_iff, hσ] <;> simp only [true_iff, Bool.false_eq_true, false_iff] <;> omega

theorem anti_HF_KF {Lx Ly Lz : Nat} {x y z f g h : Int} (d : Bool)
    (hs : SH Lx Ly Lz x y z) (ht : SF Lx Ly Lz f g h) (h4 : (f + g) % 4 = if d then 2 else 0) :
    antiPairs Lx Ly Lz (KH Lx Ly x y z) (KF Lx Ly d f g h) % 2 = 0 := by
  rw [anti_HF hs ht]
  intro e he
  simp only [KF, List.mem_cons, List.not_mem_nil, or_false] at he
  rcases he with rfl | rfl | rfl | rfl
  · exact Or.inl ⟨_, _, rfl⟩
  · exact Or.inl ⟨_, _, rfl⟩
  · exact Or.inr ⟨_, rfl, by cases d <;> simp only [Bool.false_eq_true, if_false, if_true,
    false_iff, true_iff] at h4 ⊢ <;> omega⟩
  · exact Or.inr ⟨_, rfl, by cases d <;> simp only [Bool.false_eq_true, if_false, if_true,
    false_iff, true_iff] at h4 ⊢ <;> omega⟩

theorem anti_FF_aux {Lx Ly Lz : Nat} {f g h f' g' h' : Int} (ht : SF Lx Ly Lz f g h)
    (ht' : SF Lx Ly Lz f' g' h') :
    (¬ h' - 1 = h) ∧ (¬ h' + 1 = h) ∧ (¬ h' = h - 1) ∧ (¬ h' = h + 1) := by
  obtain ⟨_, _, hh, _⟩ := ht
  obtain ⟨_, _, hh', _⟩ := ht'
  unfold R2 at hh hh'
  omega

/-- two vertical faces of the same kind write the same signs -/
theorem anti_FF_same {Lx Ly Lz : Nat} {f g h f' g' h' : Int} (d : Bool) (ht : SF Lx Ly Lz f g h)
    (ht' : SF Lx Ly Lz f' g' h') :
    antiPairs Lx Ly Lz (KF Lx Ly d f g h) (KF Lx Ly d f' g' h') % 2 = 0 := by
  obtain ⟨z1, z2, z3, z4⟩ := anti_FF_aux ht ht'
  cases d <;>
  simp only [antiPairs, KF, List.countP_cons, List.countP_nil, List.any_cons, List.any_nil,
    Bool.and_eq_true, Bool.or_eq_true, beq_iff_eq, bne_iff_ne, ne_eq, List.cons.injEq, and_true,
    Bool.or_false, not_true_eq_false, not_false_eq_true, and_false, or_false, Bool.false_eq_true,
    Bool.true_eq_false, if_false, if_true, Nat.add_zero, z1, z2, z3, z4]

/-- two vertical faces of different kinds are at different places -/
theorem anti_FF_diff {Lx Ly Lz : Nat} {f g h f' g' h' : Int} (d : Bool) (ht : SF Lx Ly Lz f g h)
    (ht' : SF Lx Ly Lz f' g' h') (h4 : (f + g) % 4 = if d then 2 else 0)
    (h4' : (f' + g') % 4 = if d then 0 else 2) :
    antiPairs Lx Ly Lz (KF Lx Ly d f g h) (KF Lx Ly (!d) f' g' h') % 2 = 0 := by
  obtain ⟨z1, z2, z3, z4⟩ := anti_FF_aux ht ht'
  have hne : f' = f → ¬ g' = g := by
    intro e1 e2; subst e1; subst e2
    cases d <;> simp only [Bool.false_eq_true, if_false, if_true] at h4 h4' <;> omega
  cases d <;>
  simp only [antiPairs, KF, Bool.not_false, Bool.not_true, List.countP_cons, List.countP_nil,
    List.any_cons, List.any_nil, Bool.and_eq_true, Bool.or_eq_true, beq_iff_eq, bne_iff_ne, ne_eq,
    List.cons.injEq, and_true, Bool.or_false, not_true_eq_false, not_false_eq_true, and_false,
    or_false, false_or, Bool.false_eq_true, Bool.true_eq_false, if_false, if_true, Nat.add_zero,
    Nat.zero_add, z1, z2, z3, z4] <;>
  by_cases e1 : f' = f <;> by_cases e2 : g' = g <;>
    simp only [e1, e2, and_self, true_and, and_false, false_and, or_self, if_false] <;>
    (first | done | (exfalso; exact hne e1 e2))

end Panqec.RotatedToric3DCode
