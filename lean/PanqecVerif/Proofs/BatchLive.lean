/-
C12 / C14 helper lemmas: progress.  The lexicographic termination measure of a micro-step and its
linear form (`lin`); a process that is not interrupted or killed is `done` after `lin w` micro-steps and
stays so (`done_within`); a process started by an admissible `start` within `(n + 1) (|spec| + 101)` of
them (`start_done`), which is the fuel of `RunFile.runBatch`.
-/
import PanqecVerif.Proofs.BatchInv

namespace Panqec.Batch

def stepN : Nat → World → World
  | 0, w => w
  | k + 1, w => stepN k (step w)

/-- program points of a process that has not been interrupted -/
def Pc.quiet : Pc → Bool
  | .trial _ => true
  | .save _ _ retry _ => !retry
  | .done => true
  | _ => false

def remWr : Wr → Nat
  | .create => 4
  | .part => 3
  | .full => 2
  | .rename => 1

def remPh : SavePh → Nat
  | .chk => 9
  | .first w => 4 + remWr w
  | .second w => remWr w

/-- termination measure (lexicographic): iterations left, then work left in the iteration -/
def measure (w : World) : Nat × Nat :=
  match w.proc.pc with
  | .trial i => (w.proc.n - i, w.proc.back.length + 100)
  | .save i more _ ph => (w.proc.n - i, more * 10 + remPh ph)
  | _ => (0, 0)

theorem lex_zero {a b : Nat} (hb : 0 < b) : Prod.Lex (· < ·) (· < ·) ((0 : Nat), (0 : Nat)) (a, b) := by
  cases a with
  | zero => exact Prod.Lex.right _ hb
  | succ a => exact Prod.Lex.left _ _ (Nat.succ_pos a)

theorem savesDue_le (n sf i : Nat) : savesDue n sf i ≤ 2 := by
  unfold savesDue; split <;> split <;> omega

theorem measure_afterIter {fmt atomic dk next spec n sf i fr bk} {b : Nat} (hb : 0 < b) :
    Prod.Lex (· < ·) (· < ·)
      (measure ⟨fmt, atomic, dk, next, ⟨spec, n, sf, afterIter n i, fr, bk⟩⟩) (n - i, b) := by
  unfold afterIter
  split
  · rename_i h
    exact Prod.Lex.left _ _ (by show n - (i + 1) < n - i; omega)
  · exact lex_zero hb

theorem measure_afterSave {fmt atomic dk next spec n sf i more retry fr bk} {b : Nat}
    (hb : more * 10 < b) :
    Prod.Lex (· < ·) (· < ·)
      (measure ⟨fmt, atomic, dk, next, ⟨spec, n, sf, afterSave n i more retry, fr, bk⟩⟩) (n - i, b) := by
  unfold afterSave
  split
  · exact lex_zero (by omega)
  · split
    · exact Prod.Lex.right _ (by simp only [remPh]; omega)
    · exact measure_afterIter (by omega)

theorem measure_step (w : World) (h : w.proc.pc.terminal = false) :
    Prod.Lex (· < ·) (· < ·) (measure (step w)) (measure w) := by
  obtain ⟨fmt, atomic, ⟨file, tmp⟩, next, ⟨spec, n, sf, pc, front, back⟩⟩ := w
  cases pc with
  | trial i =>
    cases back with
    | nil =>
      simp only [step]
      split
      · exact lex_zero (by simp)
      · split
        · exact measure_afterIter (by simp)
        · have := savesDue_le n sf i
          exact Prod.Lex.right _ (by simp only [remPh, List.length_nil]; omega)
    | cons s rest =>
      simp only [step]
      split
      · exact Prod.Lex.right _ (by simp)
      · exact Prod.Lex.right _ (by simp)
  | save i more retry ph =>
    cases ph with
    | chk =>
      simp only [step]
      split
      · exact Prod.Lex.right _ (by simp [remPh, remWr])
      · exact Prod.Lex.right _ (by simp [remPh, remWr])
    | first wr =>
      cases wr <;> cases atomic <;> simp only [step, writeStep] <;>
        first
        | exact Prod.Lex.right _ (by simp [remPh, remWr])
        | exact Prod.Lex.right _ (by simp [remPh, remWr]; omega)
    | second wr =>
      cases wr <;> cases atomic <;> simp only [step, writeStep] <;>
        first
        | exact Prod.Lex.right _ (by simp [remPh, remWr])
        | exact measure_afterSave (by simp [remPh, remWr])
  | _ => cases h

def MoreOK (w : World) : Prop :=
  match w.proc.pc with
  | .save _ more _ _ => more ≤ 1
  | _ => True

theorem moreOK_afterIter (fmt atomic dk next spec n sf i fr bk) :
    MoreOK ⟨fmt, atomic, dk, next, ⟨spec, n, sf, afterIter n i, fr, bk⟩⟩ := by
  unfold afterIter; split <;> trivial

theorem moreOK_afterSave (fmt atomic dk next spec n sf i more retry fr bk) (h : more ≤ 1) :
    MoreOK ⟨fmt, atomic, dk, next, ⟨spec, n, sf, afterSave n i more retry, fr, bk⟩⟩ := by
  unfold afterSave
  split
  · trivial
  · split
    · show more - 1 ≤ 1; omega
    · exact moreOK_afterIter ..

theorem quiet_afterIter (n i : Nat) : (afterIter n i).quiet = true := by
  unfold afterIter; split <;> rfl

theorem quiet_afterSave (n i more : Nat) : (afterSave n i more false).quiet = true := by
  unfold afterSave
  simp only [Bool.false_eq_true, if_false]
  split
  · rfl
  · exact quiet_afterIter n i

/-- what a micro-step does to the control state: specification and target stay, a pending save
    count stays ≤ 1, and an uninterrupted process stays so or fails -/
theorem step_ctl (w : World) :
    (step w).proc.spec = w.proc.spec ∧ (step w).proc.n = w.proc.n ∧ (MoreOK w → MoreOK (step w)) ∧
    (w.proc.pc.quiet = true → (step w).proc.pc.quiet = true ∨ ∃ e, (step w).proc.pc = .failed e) := by
  obtain ⟨fmt, atomic, ⟨file, tmp⟩, next, ⟨spec, n, sf, pc, front, back⟩⟩ := w
  cases pc with
  | trial i =>
    cases back with
    | nil =>
      simp only [step]
      split
      · exact ⟨rfl, rfl, fun _ => trivial, fun _ => Or.inr ⟨_, rfl⟩⟩
      · split
        · exact ⟨rfl, rfl, fun _ => moreOK_afterIter .., fun _ => Or.inl (quiet_afterIter n i)⟩
        · exact ⟨rfl, rfl, fun _ => by have := savesDue_le n sf i; show savesDue n sf i - 1 ≤ 1; omega,
            fun _ => Or.inl rfl⟩
    | cons s rest => simp only [step]; split <;> exact ⟨rfl, rfl, fun _ => trivial, fun _ => Or.inl rfl⟩
  | save i more retry ph =>
    cases retry with
    | true =>
      cases ph with
      | chk => exact ⟨rfl, rfl, id, fun hq => nomatch hq⟩
      | first wr => cases wr <;> cases atomic <;> exact ⟨rfl, rfl, id, fun hq => nomatch hq⟩
      | second wr =>
        cases wr <;> cases atomic <;>
          first
          | exact ⟨rfl, rfl, id, fun hq => nomatch hq⟩
          | exact ⟨rfl, rfl, fun hm => moreOK_afterSave _ _ _ _ _ _ _ _ _ _ _ _ hm, fun hq => nomatch hq⟩
    | false =>
      cases ph with
      | chk => exact ⟨rfl, rfl, id, fun _ => Or.inl rfl⟩
      | first wr => cases wr <;> cases atomic <;> exact ⟨rfl, rfl, id, fun _ => Or.inl rfl⟩
      | second wr =>
        cases wr <;> cases atomic <;>
          first
          | exact ⟨rfl, rfl, id, fun _ => Or.inl rfl⟩
          | exact ⟨rfl, rfl, fun hm => moreOK_afterSave _ _ _ _ _ _ _ _ _ _ _ _ hm,
              fun _ => Or.inl (quiet_afterSave n i more)⟩
  | done => exact ⟨rfl, rfl, id, fun _ => Or.inl rfl⟩
  | _ => exact ⟨rfl, rfl, id, fun hq => nomatch hq⟩

theorem startProc_proc (w : World) (p : Proc) (spec : List Nat) (n sf : Nat) :
    startProc { w with proc := p } spec n sf = startProc w spec n sf := by
  obtain ⟨fmt, atomic, dk, next, p0⟩ := w
  simp only [startProc]

/-- the same four facts for the state a new process starts in -/
theorem start_ctl (w : World) (spec : List Nat) (n sf : Nat) :
    (startProc w spec n sf).proc.spec = spec ∧ (startProc w spec n sf).proc.n = n ∧
    MoreOK (startProc w spec n sf) ∧
    ((startProc w spec n sf).proc.pc.quiet = true ∨ ∃ e, (startProc w spec n sf).proc.pc = .failed e) := by
  unfold startProc
  split
  · exact ⟨rfl, rfl, trivial, Or.inr ⟨_, rfl⟩⟩
  · split
    · exact ⟨rfl, rfl, trivial, Or.inr ⟨_, rfl⟩⟩
    · refine ⟨rfl, rfl, ?_, Or.inl ?_⟩ <;> simp only <;> split <;> first | trivial | rfl

theorem Inv.not_failed {w : World} (h : Inv w) (e : RunErr) : w.proc.pc ≠ .failed e := fun he => by
  have := h.loopOK
  simp only [LoopOK, he] at this

theorem Inv.done_counts {w : World} (h : Inv w) (hdone : w.proc.pc = .done) :
    ∀ s ∈ w.proc.mem, s.nRuns = w.proc.n ∧ (1 ≤ w.proc.n → s ∈ fileDoc w.disk.file) := by
  have hl := h.loopOK
  simp only [LoopOK, hdone] at hl
  intro s hs
  have hsb : s ∈ w.proc.back := by simpa [Proc.mem, hl.1] using hs
  exact ⟨Nat.le_antisymm (h.counts s hs) (hl.2.1 s hsb), fun hn => hl.2.2 hn s hsb⟩

theorem Inv.quiet {w : World} (h : Inv w)
    (hq : w.proc.pc.quiet = true ∨ ∃ e, w.proc.pc = .failed e) : w.proc.pc.quiet = true :=
  hq.resolve_right fun ⟨e, he⟩ => h.not_failed e he

theorem done_of_terminal_quiet {w : World} (ht : w.proc.pc.terminal = true)
    (hq : w.proc.pc.quiet = true) : w.proc.pc = .done := by
  cases hp : w.proc.pc <;> simp_all [Pc.terminal, Pc.quiet]

theorem stepN_spec_n : ∀ (k : Nat) (w : World),
    (stepN k w).proc.spec = w.proc.spec ∧ (stepN k w).proc.n = w.proc.n
  | 0, _ => ⟨rfl, rfl⟩
  | k + 1, w => by
    obtain ⟨a, b⟩ := stepN_spec_n k (step w)
    obtain ⟨c, d, -⟩ := step_ctl w
    exact ⟨a.trans c, b.trans d⟩

theorem stepN_eq_runEvs : ∀ (k : Nat) (w : World), stepN k w = runEvs w (List.replicate k .step)
  | 0, _ => rfl
  | k + 1, w => by
    rw [stepN, stepN_eq_runEvs k (step w)]
    simp [runEvs, List.replicate_succ, apply]

theorem allOK_steps : ∀ (k : Nat) (w : World), AllOK w (List.replicate k .step)
  | 0, _ => trivial
  | k + 1, _ => ⟨trivial, allOK_steps k _⟩

theorem step_terminal (w : World) (h : w.proc.pc.terminal = true) : step w = w := by
  obtain ⟨fmt, atomic, dk, next, ⟨spec, n, sf, pc, front, back⟩⟩ := w
  cases pc <;> first | rfl | cases h

theorem stepN_terminal : ∀ (k : Nat) (w : World), w.proc.pc.terminal = true → stepN k w = w
  | 0, _, _ => rfl
  | k + 1, w, h => by rw [stepN, step_terminal w h]; exact stepN_terminal k w h

theorem runToEnd_eq_stepN : ∀ (fuel : Nat) (w : World), runToEnd fuel w = stepN fuel w
  | 0, _ => rfl
  | fuel + 1, w => by
    simp only [runToEnd, stepN]
    split
    · rename_i h
      rw [step_terminal w h, stepN_terminal fuel w h]
    · exact runToEnd_eq_stepN fuel (step w)

/-- the termination measure as one number: its second component stays below `|spec| + 101`
    (`measure_snd_lt`) -/
def lin (w : World) : Nat := (measure w).1 * (w.proc.spec.length + 101) + (measure w).2

theorem measure_snd_lt (w : World) (h : Inv w) (hm : MoreOK w) :
    (measure w).2 < w.proc.spec.length + 101 := by
  have hlen : w.proc.mem.length = w.proc.spec.length := by
    rw [← h.specMem, List.length_map]
  obtain ⟨fmt, atomic, dk, next, ⟨spec, n, sf, pc, front, back⟩⟩ := w
  simp only [Proc.mem, List.length_append] at hlen
  cases pc with
  | trial i => simp only [measure]; omega
  | save i more retry ph =>
    have hm' : more ≤ 1 := hm
    have : remPh ph ≤ 9 := by
      cases ph with
      | chk => simp [remPh]
      | first wr => cases wr <;> simp [remPh, remWr]
      | second wr => cases wr <;> simp [remPh, remWr]
    simp only [measure]; omega
  | _ => simp [measure]

theorem lin_of_lex {a b a' b' B : Nat} (h : Prod.Lex (· < ·) (· < ·) (a', b') (a, b)) (hb : b' < B) :
    a' * B + b' < a * B + b := by
  cases h with
  | left _ _ hlt =>
    have : (a' + 1) * B ≤ a * B := Nat.mul_le_mul_right B hlt
    rw [Nat.add_mul, Nat.one_mul] at this
    omega
  | right _ hlt => omega

theorem lin_step (w : World) (h : Inv w) (hm : MoreOK w) (ht : w.proc.pc.terminal = false) :
    lin (step w) < lin w := by
  have hi := (inv_step h).1
  have hb := measure_snd_lt (step w) hi ((step_ctl w).2.2.1 hm)
  have hs := (step_ctl w).1
  unfold lin
  rw [hs] at hb ⊢
  exact lin_of_lex (measure_step w ht) hb

theorem done_within : ∀ (fuel : Nat) (w : World), Inv w → MoreOK w → w.proc.pc.quiet = true →
    lin w ≤ fuel →
    (stepN fuel w).proc.pc = .done ∧ Inv (stepN fuel w) ∧ FileLE w.disk.file (stepN fuel w).disk.file
  | fuel, w, h, hm, hq, hle => by
    by_cases ht : w.proc.pc.terminal = true
    · rw [stepN_terminal fuel w ht]
      exact ⟨done_of_terminal_quiet ht hq, h, FileLE.rfl' _⟩
    · have hdec := lin_step w h hm (by simpa using ht)
      obtain ⟨hi, hfile⟩ := inv_step h
      cases fuel with
      | zero => omega
      | succ f =>
        obtain ⟨a, b, c⟩ := done_within f (step w) hi ((step_ctl w).2.2.1 hm)
          (hi.quiet ((step_ctl w).2.2.2 hq)) (by omega)
        exact ⟨a, b, hfile.trans c⟩

theorem start_done {w : World} (h : Inv w) {spec : List Nat} {n sf : Nat}
    (hok : EvOK w (.start spec n sf)) {fuel : Nat} (hf : (n + 1) * (spec.length + 101) ≤ fuel) :
    (stepN fuel (startProc w spec n sf)).proc.pc = .done ∧ Inv (stepN fuel (startProc w spec n sf)) ∧
      FileLE w.disk.file (stepN fuel (startProc w spec n sf)).disk.file ∧
      (stepN fuel (startProc w spec n sf)).proc.spec = spec ∧
      (stepN fuel (startProc w spec n sf)).proc.n = n := by
  obtain ⟨hi, hfile⟩ := inv_start h hok
  obtain ⟨hs, hn, hm, hq⟩ := start_ctl w spec n sf
  generalize startProc w spec n sf = w0 at hi hfile hs hn hm hq ⊢
  have hlin : lin w0 ≤ fuel := by
    have h2 := measure_snd_lt w0 hi hm
    have h1 : (measure w0).1 ≤ n := by
      rw [← hn]; unfold measure; split <;> simp only <;> omega
    have := Nat.mul_le_mul_right (w0.proc.spec.length + 101) h1
    unfold lin
    rw [hs, Nat.add_mul, Nat.one_mul] at *
    omega
  obtain ⟨a, b, c⟩ := done_within fuel w0 hi hm (hi.quiet hq) hlin
  exact ⟨a, b, hfile ▸ c, (stepN_spec_n _ w0).1.trans hs, (stepN_spec_n _ w0).2.trans hn⟩

end Panqec.Batch
