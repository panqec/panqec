/-
Toric2DCode, all sizes `Lx, Ly ≥ 2`: the two SECTOR matrices `code.Hz`, `code.Hx` of the assembled
parity-check matrix `(lattice Lx Ly).rowsH` — the matrices `UnionFindDecoder.decode` hands to
`Support` — are the vertex/qubit and face/qubit incidence matrices of the lattice:

    Hz rowsH = incMat (verts Lx Ly) (qubits Lx Ly) (inc Lx Ly)     (Z rows = vertices, Z block)
    Hx rowsH = incMat (faces Lx Ly) (qubits Lx Ly) (inc Lx Ly)     (X rows = faces,   X block)

with `inc s q` = "`q` is one of the four wrapped neighbours of `s`"; the matrix is CSS.
-/
import PanqecVerif.Proofs.LatToric2DCodeCss
import PanqecVerif.Proofs.OpComm
import PanqecVerif.Proofs.Decoders
import PanqecVerif.Proofs.OpRowParts
import PanqecVerif.Proofs.UnionFindIncidence

namespace Panqec.Toric2DCode
open Panqec.Lat2D Panqec.UF

/-- vertex locations, in the order of `get_stabilizer_coordinates` -/
def verts (Lx Ly : Nat) : List Coord := grid (pyRange2 0 (2 * Lx)) (pyRange2 0 (2 * Ly))
def faces (Lx Ly : Nat) : List Coord := grid (pyRange2 1 (2 * Lx)) (pyRange2 1 (2 * Ly))

theorem stabs_eq (Lx Ly : Nat) : stabs Lx Ly = verts Lx Ly ++ faces Lx Ly := rfl

/-- the four wrapped neighbours of a location given as a list -/
def nbrsOf (Lx Ly : Nat) (s : Coord) : List Coord := nbrs Lx Ly (s.getD 0 0) (s.getD 1 0)

/-- incidence of a generator location and a qubit location -/
def inc (Lx Ly : Nat) (s q : Coord) : Bool := (nbrsOf Lx Ly s).contains q

theorem inc_iff {Lx Ly : Nat} {bx by' qx qy : Int} :
    inc Lx Ly [bx, by'] [qx, qy] = true ↔ nbr (2 * (Lx : Int)) (2 * (Ly : Int)) bx by' qx qy := by
  unfold inc nbrsOf
  rw [List.contains_iff_mem]
  exact mem_nbrs

theorem mem_verts {Lx Ly : Nat} {q : Coord} :
    q ∈ verts Lx Ly ↔ ∃ x y, q = [x, y] ∧ IsV Lx Ly x y :=
  mem_cells (by decide) (by decide)

theorem mem_faces {Lx Ly : Nat} {q : Coord} :
    q ∈ faces Lx Ly ↔ ∃ x y, q = [x, y] ∧ IsF Lx Ly x y :=
  mem_cells (by decide) (by decide)

theorem nodup_verts (Lx Ly : Nat) : (verts Lx Ly).Nodup :=
  nodup_grid (nodup_pyRange2 ..) (nodup_pyRange2 ..)
theorem nodup_faces (Lx Ly : Nat) : (faces Lx Ly).Nodup :=
  nodup_grid (nodup_pyRange2 ..) (nodup_pyRange2 ..)

theorem verts_ne_nil {Lx Ly : Nat} (hx : 1 ≤ Lx) (hy : 1 ≤ Ly) : verts Lx Ly ≠ [] :=
  List.ne_nil_of_mem (mem_verts.mpr ⟨0, 0, rfl, by unfold IsV InBox; omega⟩)

theorem faces_ne_nil {Lx Ly : Nat} (hx : 1 ≤ Lx) (hy : 1 ≤ Ly) : faces Lx Ly ≠ [] :=
  List.ne_nil_of_mem (mem_faces.mpr ⟨1, 1, rfl, by unfold IsF InBox; omega⟩)

/-- the assembled row of the generator at `s` -/
def rowOf (Lx Ly : Nat) (s : Coord) : List Nat :=
  opRow (qubits Lx Ly) ((lattice Lx Ly).getStab s)

theorem rowsH_eq (Lx Ly : Nat) :
    (lattice Lx Ly).rowsH = (verts Lx Ly ++ faces Lx Ly).map (rowOf Lx Ly) := by
  unfold Lattice.rowsH rowOf
  rw [List.map_map]
  rfl

theorem getStab_vert {Lx Ly : Nat} (hx : 2 ≤ Lx) (hy : 2 ≤ Ly) {s : Coord} (hs : s ∈ verts Lx Ly) :
    (lattice Lx Ly).getStab s = (nbrsOf Lx Ly s).map (fun q => (q, Pauli.Z)) := by
  obtain ⟨x, y, rfl, h⟩ := mem_verts.mp hs
  rw [getStab_eq hx hy (mem_stabs'.mpr (Or.inl h)), letter, if_pos h.2.1]
  rfl

theorem getStab_face {Lx Ly : Nat} (hx : 2 ≤ Lx) (hy : 2 ≤ Ly) {s : Coord} (hs : s ∈ faces Lx Ly) :
    (lattice Lx Ly).getStab s = (nbrsOf Lx Ly s).map (fun q => (q, Pauli.X)) := by
  obtain ⟨x, y, rfl, h⟩ := mem_faces.mp hs
  rw [getStab_eq hx hy (mem_stabs'.mpr (Or.inr h)), letter, if_neg (by rw [h.2.1]; decide)]
  rfl

/-- the first neighbour of a generator location is a qubit of the lattice -/
theorem first_nbr {Lx Ly : Nat} {s : Coord} (hs : s ∈ stabs Lx Ly) :
    ∃ q, q ∈ qubits Lx Ly ∧ q ∈ nbrsOf Lx Ly s := by
  obtain ⟨x, y, rfl, h⟩ := mem_stabs.mp hs
  refine ⟨[predW x (2 * (Lx : Int)), y], ?_, by simp [nbrsOf, nbrs]⟩
  have := nbrs_isQ h [predW x (2 * (Lx : Int)), y] (by simp [nbrs])
  unfold isQubit at this
  exact isIn_iff.mp this

theorem zFlag_vert {Lx Ly : Nat} (hx : 2 ≤ Lx) (hy : 2 ≤ Ly) {s : Coord} (hs : s ∈ verts Lx Ly) :
    zFlag (rowOf Lx Ly s) = true := by
  unfold zFlag rowOf
  rw [getStab_vert hx hy hs, zPart_row]
  obtain ⟨q, hq, hk⟩ := first_nbr (List.mem_append_left _ hs)
  exact any_ind _ _ q hq hk

theorem xFlag_vert {Lx Ly : Nat} (hx : 2 ≤ Lx) (hy : 2 ≤ Ly) {s : Coord} (hs : s ∈ verts Lx Ly) :
    xFlag (rowOf Lx Ly s) = false := by
  unfold xFlag rowOf
  rw [getStab_vert hx hy hs, xPart_row]
  exact any_zero _ _

theorem xFlag_face {Lx Ly : Nat} (hx : 2 ≤ Lx) (hy : 2 ≤ Ly) {s : Coord} (hs : s ∈ faces Lx Ly) :
    xFlag (rowOf Lx Ly s) = true := by
  unfold xFlag rowOf
  rw [getStab_face hx hy hs, xPart_row]
  obtain ⟨q, hq, hk⟩ := first_nbr (List.mem_append_right _ hs)
  exact any_ind _ _ q hq hk

theorem zFlag_face {Lx Ly : Nat} (hx : 2 ≤ Lx) (hy : 2 ≤ Ly) {s : Coord} (hs : s ∈ faces Lx Ly) :
    zFlag (rowOf Lx Ly s) = false := by
  unfold zFlag rowOf
  rw [getStab_face hx hy hs, zPart_row]
  exact any_zero _ _

theorem filter_append_left {α : Type} (p : α → Bool) (A B : List α) (hA : ∀ a ∈ A, p a = true)
    (hB : ∀ b ∈ B, p b = false) : (A ++ B).filter p = A := by
  rw [List.filter_append, List.filter_eq_self.mpr hA, List.filter_eq_nil_iff.mpr (by
    intro b hb; rw [hB b hb]; simp), List.append_nil]

theorem filter_append_right {α : Type} (p : α → Bool) (A B : List α) (hA : ∀ a ∈ A, p a = false)
    (hB : ∀ b ∈ B, p b = true) : (A ++ B).filter p = B := by
  rw [List.filter_append, List.filter_eq_self.mpr hB, List.filter_eq_nil_iff.mpr (by
    intro a ha; rw [hA a ha]; simp), List.nil_append]

/-- **`code.Hz`** of the assembled matrix is the vertex/qubit incidence matrix -/
theorem Hz_rowsH {Lx Ly : Nat} (hx : 2 ≤ Lx) (hy : 2 ≤ Ly) :
    Hz (lattice Lx Ly).rowsH = incMat (verts Lx Ly) (qubits Lx Ly) (inc Lx Ly) := by
  rw [Hz_eq, rowsH_eq, List.filter_map, List.map_map,
    filter_append_left (zFlag ∘ rowOf Lx Ly) _ _ (fun s hs => zFlag_vert hx hy hs) (fun s hs => zFlag_face hx hy hs)]
  unfold incMat
  apply List.map_congr_left
  intro s hs
  show zPart (rowOf Lx Ly s) = _
  unfold rowOf
  rw [getStab_vert hx hy hs, zPart_row]
  rfl

/-- **`code.Hx`** of the assembled matrix is the face/qubit incidence matrix -/
theorem Hx_rowsH {Lx Ly : Nat} (hx : 2 ≤ Lx) (hy : 2 ≤ Ly) :
    Hx (lattice Lx Ly).rowsH = incMat (faces Lx Ly) (qubits Lx Ly) (inc Lx Ly) := by
  rw [Hx_eq, rowsH_eq, List.filter_map, List.map_map,
    filter_append_right (xFlag ∘ rowOf Lx Ly) _ _ (fun s hs => xFlag_vert hx hy hs) (fun s hs => xFlag_face hx hy hs)]
  unfold incMat
  apply List.map_congr_left
  intro s hs
  show xPart (rowOf Lx Ly s) = _
  unfold rowOf
  rw [getStab_face hx hy hs, xPart_row]
  rfl

/-- the assembled matrix is CSS (`code.is_css`) -/
theorem isCss_rowsH {Lx Ly : Nat} (hx : 2 ≤ Lx) (hy : 2 ≤ Ly) :
    isCss (lattice Lx Ly).rowsH = true := by
  rw [isCss_iff, rowsH_eq]
  intro r hr
  rw [List.mem_map] at hr
  obtain ⟨s, hs, rfl⟩ := hr
  rw [List.mem_append] at hs
  rcases hs with hs | hs
  · rw [xFlag_vert hx hy hs]; simp
  · rw [zFlag_face hx hy hs]; simp

theorem ncols_Hz {Lx Ly : Nat} (hx : 2 ≤ Lx) (hy : 2 ≤ Ly) :
    ncols (Hz (lattice Lx Ly).rowsH) = 2 * Lx * Ly := by
  rw [Hz_rowsH hx hy, ncols_incMat _ _ _ (verts_ne_nil (by omega) (by omega)), length_qubits]

theorem ncols_Hx {Lx Ly : Nat} (hx : 2 ≤ Lx) (hy : 2 ≤ Ly) :
    ncols (Hx (lattice Lx Ly).rowsH) = 2 * Lx * Ly := by
  rw [Hx_rowsH hx hy, ncols_incMat _ _ _ (faces_ne_nil (by omega) (by omega)), length_qubits]

end Panqec.Toric2DCode
