/-
RotatedToric3DCode, supported family, C17: the parity statements in row / column form, each the
instance of a lemma of `Proofs/DistRotatedToric3DCodeParity.lean` or `…Lines.lean` at one of the two
transpositions.  They are stated for their own sake: the packing bounds
(`Proofs/DistRotatedToric3DCodeLowerBound.lean`) use the forms over `Tr`.
-/
import PanqecVerif.Proofs.DistRotatedToric3DCodeLines

namespace Panqec.RotatedToric3DCode
open Panqec.Lat3Db
open Panqec.Lat2D (rsum rsum2 rsum_congr rsum2_congr rsum_even rsum2_even rsum_add rsum2_add
  chain ind)

variable {Lx Ly Lz : Nat}

/-- X-count of the row `y = g` of the layer `z = c` -/
def xRow (Lx Ly Lz : Nat) (b : Op) (g c : Int) : Nat :=
  rsum Lx (fun j => xH Lx Ly Lz b [2 * (j : Int) + 1, g, c])
/-- X-count of the column `x = f` of the layer `z = c` -/
def xCol (Lx Ly Lz : Nat) (b : Op) (f c : Int) : Nat :=
  rsum Ly (fun j => xH Lx Ly Lz b [f, 2 * (j : Int) + 1, c])
/-- Y-count (both signs) of the wall `y = g`, all layers -/
def yWall (Lx Ly Lz : Nat) (b : Op) (g : Int) : Nat :=
  rsum2 Lx Lz (fun j k => hS Lx Ly Lz b true [2 * (j : Int) + 1, g, 2 * (k : Int) + 1]
    + hS Lx Ly Lz b false [2 * (j : Int) + 1, g, 2 * (k : Int) + 1])
/-- Y-count of the wall `x = f`, all layers -/
def xWall (Lx Ly Lz : Nat) (b : Op) (f : Int) : Nat :=
  rsum2 Ly Lz (fun j k => hS Lx Ly Lz b true [f, 2 * (j : Int) + 1, 2 * (k : Int) + 1]
    + hS Lx Ly Lz b false [f, 2 * (j : Int) + 1, 2 * (k : Int) + 1])

theorem yWall_step (hF : Fam Lx Ly) {b : Op} (hb : CommStabs Lx Ly Lz b) (i : Nat)
    (hi : i + 1 < Ly) :
    (yWall Lx Ly Lz b (2 * (i : Int) + 1) + yWall Lx Ly Lz b (2 * (i : Int) + 3)) % 2 = 0 :=
  wall_step (Tr.row.signSums hF hb) i hi

theorem xWall_step (hF : Fam Lx Ly) {b : Op} (hb : CommStabs Lx Ly Lz b) (i : Nat)
    (hi : i + 1 < Lx) :
    (xWall Lx Ly Lz b (2 * (i : Int) + 1) + xWall Lx Ly Lz b (2 * (i : Int) + 3)) % 2 = 0 :=
  wall_step (Tr.col.signSums hF hb) i hi

theorem xRow_step (hF : Fam Lx Ly) (hpx : Lx % 2 = 0) {b : Op} (hb : CommStabs Lx Ly Lz b)
    {i k : Nat} (hi : i + 1 < Ly) (hk : k < Lz) :
    (xRow Lx Ly Lz b (2 * (i : Int) + 1) (2 * (k : Int) + 1)
      + xRow Lx Ly Lz b (2 * (i : Int) + 3) (2 * (k : Int) + 1)) % 2 = 0 :=
  line_step (Tr.row.signSums hF hb) hpx hi hk

theorem xCol_step (hF : Fam Lx Ly) (hpy : Ly % 2 = 0) {b : Op} (hb : CommStabs Lx Ly Lz b)
    {i k : Nat} (hi : i + 1 < Lx) (hk : k < Lz) :
    (xCol Lx Ly Lz b (2 * (i : Int) + 1) (2 * (k : Int) + 1)
      + xCol Lx Ly Lz b (2 * (i : Int) + 3) (2 * (k : Int) + 1)) % 2 = 0 :=
  line_step (Tr.col.signSums hF hb) hpy hi hk

theorem xRow_up (hF : Fam Lx Ly) (hpx : Lx % 2 = 0) {b : Op} (hb : CommStabs Lx Ly Lz b)
    {i k : Nat} (hi : i < Ly) (hrow : ¬ (Ly % 2 = 1 ∧ i = 0)) (hk : k + 1 < Lz) :
    (xRow Lx Ly Lz b (2 * (i : Int) + 1) (2 * (k : Int) + 1)
      + xRow Lx Ly Lz b (2 * (i : Int) + 1) (2 * (k : Int) + 3)) % 2 = 0 :=
  line_up (Tr.row.signSums hF hb) hpx hi hrow hk

theorem xCol_up (hF : Fam Lx Ly) (hpy : Ly % 2 = 0) {b : Op} (hb : CommStabs Lx Ly Lz b)
    {i k : Nat} (hi : i < Lx) (hcol : ¬ (Lx % 2 = 1 ∧ i = 0)) (hk : k + 1 < Lz) :
    (xCol Lx Ly Lz b (2 * (i : Int) + 1) (2 * (k : Int) + 1)
      + xCol Lx Ly Lz b (2 * (i : Int) + 1) (2 * (k : Int) + 3)) % 2 = 0 :=
  line_up (Tr.col.signSums hF hb) hpy hi hcol hk

theorem count_wallXK_Z (b : Op) {f : Int} (hf : R1 (2 * Lx) f) :
    (wallXK Ly Lz f).countP (opHit Pauli.Z b)
      + rsum Lz (fun k => xCol Lx Ly Lz b f (2 * (k : Int) + 1)) = xWall Lx Ly Lz b f :=
  (Tr.col (Lx := Lx) (Ly := Ly)).count_wallK_Z b hf

/-- odd × even: every column of every layer against the column `x = 1` of the bottom layer -/
theorem xCol_any_OE (hF : Fam Lx Ly) (hx : Lx % 2 = 1) (hy : Ly % 2 = 0) {b : Op}
    (hb : CommStabs Lx Ly Lz b) {i k : Nat} (hi : i < Lx) (hk : k < Lz) :
    xCol Lx Ly Lz b (2 * (i : Int) + 1) (2 * (k : Int) + 1) % 2 = xCol Lx Ly Lz b 1 1 % 2 :=
  line_any (Tr.col.signSums hF hb) hy hx hF.1 hi hk

end Panqec.RotatedToric3DCode
