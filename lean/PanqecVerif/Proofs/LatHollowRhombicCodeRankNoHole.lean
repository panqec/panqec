/-
`HollowRhombicCode`, rank clause: the sizes without hole (`Lx ≤ 2`, `Ly ≤ 3` or `Lz ≤ 3`: the test
`_is_in_hole` is never true) and the sizes whose hole is one layer thin in two directions (the test is
true only at locations with at least two odd coordinates, which are neither qubits nor vertices).
The selected triangles are the boxes of `RhombicPlanarCode` (all of axis 3 and 2, the row `y = 2Ly−2`
of axis 1, the last column and the upper triangles of axis 0) and `rankFamily` has `n − 1` members.
-/
import PanqecVerif.Proofs.LatHollowRhombicCodeRankThickCount

namespace Panqec.HollowRhombicCode
open Panqec.Lat3Db Panqec.Rhombic
open Panqec.Planar3DCode (inE inO inE2 inO1)

/-- the size has no hole, or a hole that is one layer thin in two directions: no vertex, no leg of a
    triangle and no corner of a cube is ever in the hole (`_is_in_hole` is true only at locations with
    at least two odd coordinates, or nowhere) -/
def NoHole (Lx Ly Lz : Nat) : Prop :=
  Lx ≤ 2 ∨ Ly ≤ 3 ∨ Lz ≤ 3 ∨ (Lx = 3 ∧ Ly = 4) ∨ (Lx = 3 ∧ Lz = 4) ∨ (Ly = 4 ∧ Lz = 4)

instance (Lx Ly Lz : Nat) : Decidable (NoHole Lx Ly Lz) := by unfold NoHole; infer_instance

section
variable {Lx Ly Lz : Nat}

theorem noHole_hole (h : NoHole Lx Ly Lz) (x y z : Int)
    (hp : (x % 2 = 0 ∧ y % 2 = 0) ∨ (x % 2 = 0 ∧ z % 2 = 0) ∨ (y % 2 = 0 ∧ z % 2 = 0)) :
    ¬ Hole Lx Ly Lz x y z := by
  unfold NoHole at h; unfold Hole; omega

theorem pt_noHole (h : NoHole Lx Ly Lz) {a x y z : Int} (hx : x % 2 = 0) (hy : y % 2 = 0)
    (hz : z % 2 = 0) :
    PT Lx Ly Lz a x y z ↔ (1 ≤ y + sgnY a ∧ y + sgnY a ≤ 2 * (Ly : Int) - 3) := by
  unfold PT
  constructor
  · intro hp; exact hp.2.2.2.2
  · intro hp
    exact ⟨noHole_hole h _ _ _ (Or.inl ⟨hx, hy⟩), noHole_hole h _ _ _ (Or.inr (Or.inr ⟨hy, hz⟩)),
      noHole_hole h _ _ _ (Or.inr (Or.inl ⟨hx, hz⟩)), noHole_hole h _ _ _ (Or.inl ⟨hx, hy⟩), hp⟩

/-- the upper triangles of axis 0 and the last column -/
def B0N (Lx Ly Lz : Nat) (x y z : Int) : Prop :=
  (InAp (2 * Lx - 2) 1 x ∧ InAp 0 (Ly - 1) y ∧ InAp 0 Lz z) ∨
  (InAp 2 (Lx - 2) x ∧ InAp 0 (Ly - 1) y ∧ InAp 2 (Lz - 1) z ∧ (x + y + z) % 4 = 2)

/-- the row of axis 1 -/
def B1N (Lx Ly Lz : Nat) (x y z : Int) : Prop :=
  InAp 2 (Lx - 1) x ∧ InAp (2 * Ly - 2) 1 y ∧ InAp 0 Lz z

theorem lt_noHole (h : NoHole Lx Ly Lz) (hx : 2 ≤ Lx) (hy : 2 ≤ Ly) {a y0 : Int}
    (ha : 0 ≤ a ∧ a < 4) (hs : sgnY a = 1 ∧ y0 = 0 ∨ sgnY a = -1 ∧ y0 = 2) (x y z : Int) :
    LT Lx Ly Lz a x y z ↔ InAp 2 (Lx - 1) x ∧ InAp y0 (Ly - 1) y ∧ InAp 0 Lz z := by
  constructor
  · rintro ⟨_, hv, hp⟩
    have h5 := hp.2.2.2.2
    unfold VertexLoc inE2 inE at hv
    unfold InAp; omega
  · intro hb
    unfold InAp at hb
    refine ⟨ha, by unfold VertexLoc inE2 inE; omega, ?_⟩
    rw [pt_noHole h (by omega) (by omega) (by omega)]; omega

theorem ax3N (h : NoHole Lx Ly Lz) (hx : 2 ≤ Lx) (hy : 2 ≤ Ly) (x y z : Int) :
    TS Lx Ly Lz 3 x y z ↔ B3 Lx Ly Lz x y z :=
  lt3_iff.symm.trans (lt_noHole h hx hy (by decide) (Or.inl ⟨sgnY_3, rfl⟩) x y z)

theorem ax2N (h : NoHole Lx Ly Lz) (hx : 2 ≤ Lx) (hy : 2 ≤ Ly) (x y z : Int) :
    TS Lx Ly Lz 2 x y z ↔ B2 Lx Ly Lz x y z :=
  lt2_iff.symm.trans (lt_noHole h hx hy (by decide) (Or.inr ⟨sgnY_2, rfl⟩) x y z)

theorem ax1N (h : NoHole Lx Ly Lz) (hx : 2 ≤ Lx) (hy : 2 ≤ Ly) (x y z : Int) :
    TS Lx Ly Lz 1 x y z ↔ B1N Lx Ly Lz x y z := by
  unfold B1N
  constructor
  · rintro ⟨_, hv, hp, hc⟩
    have hv' := hv
    unfold VertexLoc inE2 inE at hv'
    have h5 := hp.2.2.2.2
    rw [sgnY_1] at h5
    unfold SelC at hc
    rcases hc with hc | hc | ⟨_, hc | hc⟩ | ⟨hc, _⟩
    · omega
    · omega
    · by_cases hy3 : y + 1 ≤ 2 * (Ly : Int) - 3
      · exfalso; apply hc
        rw [pt_noHole h (by omega) (by omega) (by omega), sgnY_3]; omega
      · unfold InAp; omega
    · exfalso; apply hc
      rw [pt_noHole h (by omega) (by omega) (by omega), sgnY_2]; omega
    · omega
  · intro hb
    unfold InAp at hb
    refine ⟨by decide, by unfold VertexLoc inE2 inE; omega, ?_, ?_⟩
    · rw [pt_noHole h (by omega) (by omega) (by omega), sgnY_1]; omega
    · refine Or.inr (Or.inr (Or.inl ⟨rfl, Or.inl ?_⟩))
      intro hp
      have h5 := hp.2.2.2.2
      rw [sgnY_3] at h5
      omega

theorem ax0N (h : NoHole Lx Ly Lz) (hx : 2 ≤ Lx) (hy : 2 ≤ Ly) (x y z : Int) :
    TS Lx Ly Lz 0 x y z ↔ B0N Lx Ly Lz x y z := by
  unfold B0N
  constructor
  · rintro ⟨_, hv, hp, hc⟩
    have hv' := hv
    unfold VertexLoc inE2 inE at hv'
    have h5 := hp.2.2.2.2
    rw [sgnY_0] at h5
    unfold SelC at hc
    rcases hc with hc | hc | ⟨hc, _⟩ | ⟨_, hc | hc | hc | hc | hc | hc⟩
    · omega
    · omega
    · omega
    · left; unfold InAp; omega
    · by_cases hl : x = 2 * (Lx : Int) - 2
      · left; unfold InAp; omega
      · right; unfold InAp; omega
    · exfalso; apply hc.2.2
      rw [pt_noHole h (by omega) (by omega) (by omega), sgnY_0]; omega
    · exfalso; unfold QC at hc; unfold NoHole at h; omega
    · exfalso; unfold QY at hc; unfold NoHole at h; omega
    · exfalso; unfold QX at hc; unfold NoHole at h; omega
  · intro hb
    unfold InAp at hb
    refine ⟨by decide, by unfold VertexLoc inE2 inE; omega, ?_, ?_⟩
    · rw [pt_noHole h (by omega) (by omega) (by omega), sgnY_0]; omega
    · exact Or.inr (Or.inr (Or.inr ⟨rfl, by omega⟩))

/-- the boxes of the selected triangles -/
def LN (Lx Ly Lz : Nat) : List Coord :=
  bx 3 2 (Lx - 1) 0 (Ly - 1) 0 Lz tt ++ (bx 2 2 (Lx - 1) 2 (Ly - 1) 0 Lz tt ++
  (bx 1 2 (Lx - 1) (2 * Ly - 2) 1 0 Lz tt ++ (bx 0 (2 * Lx - 2) 1 0 (Ly - 1) 0 Lz tt ++
  bx 0 2 (Lx - 2) 0 (Ly - 1) 2 (Lz - 1) (chk 2))))

theorem selTriangles_noHole (h : NoHole Lx Ly Lz) (hx : 2 ≤ Lx) (hy : 2 ≤ Ly) :
    ((triangles Lx Ly Lz).filter (selTri Lx Ly Lz)).length = (LN Lx Ly Lz).length := by
  have hB := (spec_bx_tt 3 2 (Lx - 1) 0 (Ly - 1) 0 Lz).append
    ((spec_bx_tt 2 2 (Lx - 1) 2 (Ly - 1) 0 Lz).append
    ((spec_bx_tt 1 2 (Lx - 1) (2 * Ly - 2) 1 0 Lz).append
    ((spec_bx_tt 0 (2 * Lx - 2) 1 0 (Ly - 1) 0 Lz).append_ax
    (spec_bx_chk 0 2 (Lx - 2) 0 (Ly - 1) 2 (Lz - 1) 2)
    (by intro x y z h1 h2; unfold InAp at h1 h2; omega))
    (by intro a x y z h1 h2; omega))
    (by intro a x y z h1 h2; omega))
    (by intro a x y z h1 h2; omega)
  exact (spec_selTriangles Lx Ly Lz).length_eq hB
    (axes_iff (fun _ _ _ _ h => h.1) (fun a _ _ _ h => by omega) fun x y z => by
      simp only [Int.reduceEq, true_and, false_and, or_false, false_or]
      exact ⟨ax3N h hx hy x y z, ax2N h hx hy x y z, ax1N h hx hy x y z, ax0N h hx hy x y z⟩)

theorem length_LN (Lx Ly Lz : Nat) : (LN Lx Ly Lz).length =
    (Lx - 1) * (Ly - 1) * Lz + ((Lx - 1) * (Ly - 1) * Lz + ((Lx - 1) * 1 * Lz +
    (1 * (Ly - 1) * Lz + half ((Lx - 2) * ((Ly - 1) * (Lz - 1))) false))) := by
  unfold LN
  simp only [List.length_append, length_bx_tt]
  rw [length_bx_chk _ _ _ _ _ _ _ _ (by decide) (by decide)]
  rfl

/-- the arithmetic of the count for a size without hole (the count of `RhombicPlanarCode`) -/
theorem arith_noHole (a b c C T N : Nat)
    (h1 : C = half ((a + 2) * ((b + 2 + 1) * c)) true)
    (h2 : T = (a + 1) * (b + 1) * (c + 1) + ((a + 1) * (b + 1) * (c + 1) + ((a + 1) * 1 * (c + 1) +
      (1 * (b + 1) * (c + 1) + half (a * ((b + 1) * c)) false))))
    (h3 : N = (a + 2) * (b + 2) * (c + 1) + (a + 1) * (b + 1) * (c + 1) + (a + 1) * (b + 2) * c) :
    C + T + 1 = N := by
  -- the cubes and the upper triangles of axis 0 are the two colours of boxes of equal parity
  have hK : (a + 2) * ((b + 2 + 1) * c) + a * ((b + 1) * c) = 2 * (c * (a * b + 2 * a + b + 3)) := by
    ring
  have hh := half_add hK
  have hfin : c * (a * b + 2 * a + b + 3) + 2 * ((a + 1) * (b + 1) * (c + 1)) + (a + 1) * 1 * (c + 1) +
      1 * (b + 1) * (c + 1) + 1 =
      (a + 2) * (b + 2) * (c + 1) + (a + 1) * (b + 1) * (c + 1) + (a + 1) * (b + 2) * c := by ring
  omega

theorem noHole_count (h : NoHole Lx Ly Lz) (hx : 2 ≤ Lx) (hy : 2 ≤ Ly) (hz : 1 ≤ Lz) :
    (rankFamily Lx Ly Lz).length + 1 = (qubits Lx Ly Lz).length := by
  have h1 := cubes_count Lx Ly Lz
  have h2 := selTriangles_noHole h hx hy
  have h3 := qubits_length_add Lx Ly Lz
  rw [length_LN] at h2
  unfold rankFamily
  rw [List.length_append]
  generalize (cubes Lx Ly Lz).length = C at *
  generalize ((triangles Lx Ly Lz).filter (selTri Lx Ly Lz)).length = T at *
  generalize (qubits Lx Ly Lz).length = N at *
  have z1 : (Lx - 4) * ((Ly - 5) * (Lz - 5)) = 0 := by
    simp only [Nat.mul_eq_zero]; unfold NoHole at h; omega
  have z2 : (Lx - 2) * (Ly - 4) * (Lz - 4) + (Lx - 3) * (Ly - 3) * (Lz - 4) +
      (Lx - 3) * (Ly - 4) * (Lz - 3) = 0 := by
    simp only [Nat.add_eq_zero_iff, Nat.mul_eq_zero]; unfold NoHole at h; omega
  rw [z1] at h1
  rw [z2] at h3
  have hh := half_zero false
  rw [hh] at h1
  obtain ⟨a, rfl⟩ : ∃ a, Lx = a + 2 := ⟨Lx - 2, by omega⟩
  obtain ⟨b, rfl⟩ : ∃ b, Ly = b + 2 := ⟨Ly - 2, by omega⟩
  obtain ⟨c, rfl⟩ : ∃ c, Lz = c + 1 := ⟨Lz - 1, by omega⟩
  simp only [show a + 2 - 1 = a + 1 from by omega, show a + 2 - 2 = a from by omega,
    show b + 2 - 1 = b + 1 from by omega, show c + 1 - 1 = c from by omega,
    Nat.add_zero] at h1 h2 h3
  exact arith_noHole a b c C T N h1 h2 h3

end

end Panqec.HollowRhombicCode
