/-
RotatedPlanar3DCode lattice model: the rank clause for every size `Lx, Ly, Lz ≥ 1`.

`selStabs`: all vertices, the horizontal faces of the bottom layer `z = 1`, all vertical faces.
Every member has a single-qubit probe on a witness qubit and a rank such that any other member
acting on the witness with an anticommuting letter has strictly smaller rank
(`Lat2D.TriangularProbes`):

* vertex `(x, y, z)` (Z-type): probe `X` on the horizontal qubit `(x − 1, y ± 1, z)`; the only other
  vertex on it is `(x − 2, ·, z)`; rank `x`;
* vertical face `(x, y, z)` (X-type): probe `Z` on the horizontal qubit `(x, y, z + 1)`; the other
  selected faces on it are the vertical face `(x, y, z + 2)` (the horizontal faces of the layer
  `z + 1 ≥ 3` are not selected); rank `2·Lz − z`;
* horizontal face `(x, y, 1)` (X-type): probe `Z` on the horizontal qubit `(x ± 1, y − 1, 1)`; the
  other selected faces on it are the vertical face `(x ± 1, y − 1, 2)` and the horizontal face
  `(·, y − 2, 1)`; rank `2·Lz + y`.
-/
import PanqecVerif.Proofs.LatRotatedPlanar3DCodeCss
import PanqecVerif.Proofs.Lat2DRank
open Panqec Panqec.Lat3Db
namespace Panqec.RotatedPlanar3DCode

/-! `selStabs` (vertices, horizontal faces with `z = 1`, vertical faces): defined in
    `Model/Lattices/RotatedPlanar3DCode.lean` (linked into the driver, op `rankfamily`) -/

/-- horizontal face of the bottom layer -/
def SH1 (Lx Ly : Nat) (x y z : Int) : Prop :=
  R0 (2 * Lx + 1) x ∧ R2 (2 * Ly) y ∧ z = 1 ∧ (x + y) % 4 = 0

theorem mem_selStabs_iff (Lx Ly Lz : Nat) (x y z : Int) :
    [x, y, z] ∈ selStabs Lx Ly Lz ↔ SV Lx Ly Lz x y z ∨ SH1 Lx Ly x y z ∨ SF Lx Ly Lz x y z := by
  unfold selStabs SV SH1 SF
  simp only [List.mem_append, mem_grid3_cons, mem_pyRange2_0, mem_pyRange2_1, mem_pyRange2_2,
    beq_iff_eq, and_true, or_assoc]
  have : R1 2 z ↔ z = 1 := by unfold R1; omega
  rw [this]

theorem grid3_sublist {xs ys zs zs' : List Int} (p : Int → Int → Int → Bool) (h : zs.Sublist zs') :
    (grid3 xs ys zs p).Sublist (grid3 xs ys zs' p) := by
  unfold grid3
  induction xs with
  | nil => simp
  | cons x xs ihx =>
    simp only [List.flatMap_cons]
    refine List.Sublist.append ?_ ihx
    clear ihx
    induction ys with
    | nil => simp
    | cons y ys ihy =>
      simp only [List.flatMap_cons]
      exact List.Sublist.append ((h.filter _).map _) ihy

theorem selStabs_sublist (Lx Ly Lz : Nat) (hz : 1 ≤ Lz) :
    (selStabs Lx Ly Lz).Sublist (stabs Lx Ly Lz) := by
  unfold selStabs stabs
  refine List.Sublist.append (List.Sublist.append (List.Sublist.refl _) ?_) (List.Sublist.refl _)
  apply grid3_sublist
  have h1 : pyRange2 1 2 = [1] := by decide
  rw [h1, List.singleton_sublist, mem_pyRange2_1]
  unfold R1; omega

theorem mem_stabs_of_sel {Lx Ly Lz : Nat} (hz : 1 ≤ Lz) {s : Coord} (h : s ∈ selStabs Lx Ly Lz) :
    s ∈ stabs Lx Ly Lz := (selStabs_sublist Lx Ly Lz hz).subset h

def locsOf (a b c : Int) : List Coord :=
  if c % 2 = 1 then (if (a + b) % 4 = 2 then vertexLocs a b c else faceZLocs a b c)
  else if (a + b) % 4 = 0 then faceXLocs a b c else faceYLocs a b c

def letterOf (a b c : Int) : Pauli :=
  if c % 2 = 1 ∧ (a + b) % 4 = 2 then Pauli.Z else Pauli.X

theorem locsOf_sub (a b c : Int) (q : Coord) (h : q ∈ locsOf a b c) : q ∈ vertexLocs a b c := by
  unfold locsOf at h
  split at h
  · split at h
    · exact h
    · simp only [faceZLocs, List.mem_cons, List.not_mem_nil, or_false] at h
      rcases h with rfl | rfl | rfl | rfl <;> simp [vertexLocs]
  · split at h
    · simp only [faceXLocs, List.mem_cons, List.not_mem_nil, or_false] at h
      rcases h with rfl | rfl | rfl | rfl <;> simp [vertexLocs]
    · simp only [faceYLocs, List.mem_cons, List.not_mem_nil, or_false] at h
      rcases h with rfl | rfl | rfl | rfl <;> simp [vertexLocs]

theorem getStab_eq (Lx Ly Lz : Nat) (a b c : Int) (h : [a, b, c] ∈ stabs Lx Ly Lz) :
    getStab Lx Ly Lz [a, b, c] =
      constOp ((locsOf a b c).filter (isQubit Lx Ly Lz)) (letterOf a b c) := by
  rcases (mem_stabs_iff Lx Ly Lz a b c).mp h with hv | hh | hf
  · rw [getStab_vertex Lx Ly Lz a b c hv]
    unfold SV R1 at hv
    have h1 : c % 2 = 1 := by omega
    have h2 : (a + b) % 4 = 2 := hv.2.2.2
    simp only [locsOf, letterOf, h1, h2, if_true, and_self, vertexKeys]
  · rw [getStab_faceZ Lx Ly Lz a b c hh]
    unfold SH R1 at hh
    have h1 : c % 2 = 1 := by omega
    have h2 : ¬ (a + b) % 4 = 2 := by omega
    simp only [locsOf, letterOf, h1, h2, if_true, if_false, and_false, faceZKeys]
  · have h1 : ¬ c % 2 = 1 := by unfold SF R2 at hf; omega
    rcases SF_mod4 Lx Ly Lz a b c hf with h4 | h4
    · rw [getStab_faceX Lx Ly Lz a b c hf h4]
      simp only [locsOf, letterOf, h1, h4, if_true, if_false, false_and, faceXKeys]
    · rw [getStab_faceY Lx Ly Lz a b c hf h4]
      have h40 : ¬ (a + b) % 4 = 0 := by omega
      simp only [locsOf, letterOf, h1, h40, if_false, false_and, faceYKeys]

def probe (Lx Ly : Nat) : Coord → Coord × Pauli
  | [x, y, z] =>
    if z % 2 = 1 then
      (if (x + y) % 4 = 2 then ([x - 1, if y < 2 * Ly then y + 1 else y - 1, z], Pauli.X)
        else ([if x < 2 * Lx then x + 1 else x - 1, y - 1, z], Pauli.Z))
    else ([x, y, z + 1], Pauli.Z)
  | _ => ([], Pauli.I)

def mu (Lz : Nat) : Coord → Nat
  | [x, y, z] =>
    if z % 2 = 1 then (if (x + y) % 4 = 2 then x.toNat else (2 * (Lz : Int) + y).toNat)
    else (2 * (Lz : Int) - z).toNat
  | _ => 0

theorem probe_vertex {Lx Ly Lz : Nat} {x y z : Int} (h : SV Lx Ly Lz x y z) :
    probe Lx Ly [x, y, z] = ([x - 1, if y < 2 * Ly then y + 1 else y - 1, z], Pauli.X) ∧
    mu Lz [x, y, z] = x.toNat ∧ letterOf x y z = Pauli.Z := by
  unfold SV R1 at h
  have h1' : z % 2 = 1 := by omega
  have h2 : (x + y) % 4 = 2 := h.2.2.2
  simp only [probe, mu, letterOf, h1', h2, if_true, and_self]

theorem probe_vface {Lx Ly Lz : Nat} {x y z : Int} (h : SF Lx Ly Lz x y z) :
    probe Lx Ly [x, y, z] = ([x, y, z + 1], Pauli.Z) ∧
    mu Lz [x, y, z] = (2 * (Lz : Int) - z).toNat ∧ letterOf x y z = Pauli.X := by
  unfold SF R2 at h
  have h1' : ¬ z % 2 = 1 := by omega
  simp only [probe, mu, letterOf, h1', if_false, false_and, and_self]

theorem probe_hface {Lx Ly Lz : Nat} {x y z : Int} (h : SH1 Lx Ly x y z) :
    probe Lx Ly [x, y, z] = ([if x < 2 * Lx then x + 1 else x - 1, y - 1, z], Pauli.Z) ∧
    mu Lz [x, y, z] = (2 * (Lz : Int) + y).toNat ∧ letterOf x y z = Pauli.X := by
  unfold SH1 at h
  have h1' : z % 2 = 1 := by omega
  have h2 : ¬ (x + y) % 4 = 2 := by omega
  simp only [probe, mu, letterOf, h1', h2, if_true, if_false, and_false, and_self]

theorem probe_mem {Lx Ly Lz : Nat} (hLx : 1 ≤ Lx) (hLy : 1 ≤ Ly) (hz : 1 ≤ Lz) {x y z : Int}
    (h : SV Lx Ly Lz x y z ∨ SH1 Lx Ly x y z ∨ SF Lx Ly Lz x y z) :
    (probe Lx Ly [x, y, z]).1 ∈ (locsOf x y z).filter (isQubit Lx Ly Lz) := by
  rcases h with h | h | h
  · have h1 : z % 2 = 1 := h.2.2.1.1
    rw [(probe_vertex h).1, locsOf, if_pos h1, if_pos h.2.2.2]
    exact vertexKeys_witness hLy h
  · obtain ⟨hx, hy, rfl, h4⟩ := h
    have h2 : ¬ (x + y) % 4 = 2 := by omega
    rw [(probe_hface (Lz := Lz) ⟨hx, hy, rfl, h4⟩).1, locsOf, if_pos (by decide), if_neg h2]
    exact faceZKeys_witness hLx ⟨hx, hy, by unfold R1; omega, h4⟩
  · have h1 : ¬ z % 2 = 1 := by
      have := h.2.2.1
      omega
    rw [(probe_vface h).1, locsOf, if_neg h1]
    split
    · exact faceXKeys_witness h
    · exact faceYKeys_witness h

theorem probe_letter {Lx Ly Lz : Nat} {x y z : Int}
    (h : SV Lx Ly Lz x y z ∨ SH1 Lx Ly x y z ∨ SF Lx Ly Lz x y z) :
    Pauli.anti (probe Lx Ly [x, y, z]).2 (letterOf x y z) = true := by
  rcases h with h | h | h
  · rw [(probe_vertex h).1, (probe_vertex h).2.2]; rfl
  · rw [(probe_hface (Lz := Lz) h).1, (probe_hface (Lz := Lz) h).2.2]; rfl
  · rw [(probe_vface h).1, (probe_vface h).2.2]; rfl

theorem later_core {Lx Ly Lz : Nat} {x y z a b c : Int}
    (hs : SV Lx Ly Lz x y z ∨ SH1 Lx Ly x y z ∨ SF Lx Ly Lz x y z)
    (ht : SV Lx Ly Lz a b c ∨ SH1 Lx Ly a b c ∨ SF Lx Ly Lz a b c)
    (hne : [x, y, z] ≠ [a, b, c]) (hle : mu Lz [x, y, z] ≤ mu Lz [a, b, c]) :
    ¬ (Pauli.anti (probe Lx Ly [x, y, z]).2 (letterOf a b c) = true ∧
        (probe Lx Ly [x, y, z]).1 ∈ vertexLocs a b c) := by
  have hne' : ¬ (x = a ∧ y = b ∧ z = c) := by
    rintro ⟨rfl, rfl, rfl⟩; exact hne rfl
  rintro ⟨hanti, hmem⟩
  rcases hs with hs | hs | hs
  · obtain ⟨e1, e2, _⟩ := probe_vertex hs
    rw [e1] at hanti hmem; rw [e2] at hle
    rcases ht with ht | ht | ht
    · rw [(probe_vertex ht).2.1] at hle
      rw [mem_vertexLocs] at hmem
      obtain ⟨⟨hx0, hx1, -⟩, -, -, hs4⟩ := hs
      obtain ⟨⟨ha0, ha1, -⟩, -, -, ht4⟩ := ht
      split at hmem <;> omega
    · rw [(probe_hface (Lz := Lz) ht).2.2] at hanti; simp [Pauli.anti] at hanti
    · rw [(probe_vface ht).2.2] at hanti; simp [Pauli.anti] at hanti
  · obtain ⟨e1, e2, _⟩ := probe_hface (Lz := Lz) hs
    rw [e1] at hanti hmem; rw [e2] at hle
    rcases ht with ht | ht | ht
    · rw [(probe_vertex ht).2.2] at hanti; simp [Pauli.anti] at hanti
    · rw [(probe_hface (Lz := Lz) ht).2.1] at hle
      rw [mem_vertexLocs] at hmem
      obtain ⟨⟨hx0, -⟩, ⟨-, hy1, -⟩, rfl, hs4⟩ := hs
      obtain ⟨⟨ha0, -⟩, -, rfl, ht4⟩ := ht
      split at hmem <;> omega
    · rw [(probe_vface ht).2.1] at hle
      rw [mem_vertexLocs] at hmem
      obtain ⟨-, ⟨-, hy1, -⟩, rfl, -⟩ := hs
      obtain ⟨-, -, hc0, hc1, -⟩ := ht
      omega
  · obtain ⟨e1, e2, _⟩ := probe_vface hs
    rw [e1] at hanti hmem; rw [e2] at hle
    rcases ht with ht | ht | ht
    · rw [(probe_vertex ht).2.2] at hanti; simp [Pauli.anti] at hanti
    · rw [mem_vertexLocs] at hmem
      obtain ⟨⟨hx0, -⟩, -, -, hz1, -⟩ := hs
      obtain ⟨⟨ha0, -⟩, -, rfl, -⟩ := ht
      omega
    · rw [(probe_vface ht).2.1] at hle
      rw [mem_vertexLocs] at hmem
      obtain ⟨-, -, hz0, -, hz2⟩ := hs
      obtain ⟨-, -, hc0, -⟩ := ht
      omega

theorem triangular (Lx Ly Lz : Nat) (hx : 1 ≤ Lx) (hy : 1 ≤ Ly) (hz : 1 ≤ Lz) :
    Lat2D.TriangularProbes (lattice Lx Ly Lz) (selStabs Lx Ly Lz) (probe Lx Ly) (mu Lz) := by
  have sel : ∀ {s}, s ∈ selStabs Lx Ly Lz → ∃ x y z, s = [x, y, z] ∧
      [x, y, z] ∈ stabs Lx Ly Lz ∧ (SV Lx Ly Lz x y z ∨ SH1 Lx Ly x y z ∨ SF Lx Ly Lz x y z) := by
    intro s hs
    obtain ⟨x, y, z, rfl⟩ := mem_stabs_shape Lx Ly Lz s (mem_stabs_of_sel hz hs)
    exact ⟨x, y, z, rfl, mem_stabs_of_sel hz hs, (mem_selStabs_iff Lx Ly Lz x y z).mp hs⟩
  refine .of_keys (fun | [a, b, c] => (locsOf a b c).filter (isQubit Lx Ly Lz) | _ => [])
    (fun | [a, b, c] => letterOf a b c | _ => Pauli.I) ?_ ?_ ?_ ?_
  · intro s hs
    obtain ⟨x, y, z, rfl, hst, -⟩ := sel hs
    exact getStab_eq Lx Ly Lz x y z hst
  · intro s hs q hq
    obtain ⟨x, y, z, rfl, -, -⟩ := sel hs
    exact List.contains_iff_mem.mp (List.mem_filter.mp hq).2
  · intro s hs
    obtain ⟨x, y, z, rfl, -, hk⟩ := sel hs
    exact ⟨probe_letter hk, probe_mem hx hy hz hk⟩
  · rintro s hs t ht hne hle ⟨h1, h2⟩
    obtain ⟨x, y, z, rfl, -, hks⟩ := sel hs
    obtain ⟨a, b, c, rfl, -, hkt⟩ := sel ht
    exact later_core hks hkt hne hle ⟨h1, locsOf_sub a b c _ (List.mem_filter.mp h2).1⟩

theorem indep_sel (Lx Ly Lz : Nat) (hx : 1 ≤ Lx) (hy : 1 ≤ Ly) (hz : 1 ≤ Lz) :
    Lat2D.IndepGenerators (lattice Lx Ly Lz) (selStabs Lx Ly Lz) :=
  Lat2D.indep_of_triangular (triangular Lx Ly Lz hx hy hz)

end Panqec.RotatedPlanar3DCode
