/-
Union-find internals (C05), growth phase: the cluster records (`cluster_forest`) and
the first half of `merge_clusters` (the loop `for s in s_l`: `find_root`, pop the cluster of the
root, remember the biggest).
-/
import PanqecVerif.Proofs.UnionFindGrowForest
import PanqecVerif.Proofs.UnionFindGraph

namespace Panqec.UF

/-- number of defects in the tree of root `x` -/
def clsCnt (m : Nat) (sy : Vec) (sPar : Nat → Int) (rep : Nat → Nat) (x : Nat) : Nat :=
  cnt m fun i => defect sy i && decide (sPar i ≠ -1) && decide (rep i = x)

/-- the dict `cluster_forest` describes the trees of `_s_parents`: one record per root, with the
    right parity flag -/
structure FInv (m : Nat) (sy : Vec) (sPar : Nat → Int) (rep : Nat → Nat) (forest : List Cluster) : Prop where
  roots_iff : ∀ x, (∃ c, c ∈ forest ∧ c.root = x) ↔ sPar x = (x : Int)
  roots_nodup : (forest.map (·.root)).Nodup
  size_pos : ∀ c, c ∈ forest → 0 < c.size
  odd_ok : ∀ c, c ∈ forest → b2n c.odd = clsCnt m sy sPar rep c.root % 2
  defect_live : ∀ i, i < m → defect sy i = true → sPar i ≠ -1

/-- `cluster_forest.pop(rt)` removes exactly the record of root `rt` -/
theorem mem_eraseP_root (l : List Cluster) (rt : Nat) (hnd : (l.map (·.root)).Nodup) (c : Cluster) :
    c ∈ l.eraseP (fun k => decide (k.root = rt)) ↔ (c ∈ l ∧ c.root ≠ rt) := by
  by_cases hc : c.root = rt
  · refine ⟨fun h => ?_, fun h => absurd hc h.2⟩
    -- the first record of root `rt` is removed, and no later one has that root
    obtain ⟨a, l₁, l₂, h₁, ha, rfl, he⟩ :=
      List.exists_of_eraseP (p := fun k => decide (k.root = rt)) (List.mem_of_mem_eraseP h)
        (decide_eq_true hc)
    rw [he] at h
    rw [List.map_append, List.map_cons, List.nodup_append, List.nodup_cons] at hnd
    rcases List.mem_append.mp h with h | h
    · exact absurd (decide_eq_true hc) (h₁ c h)
    · exact absurd (List.mem_map.mpr ⟨c, h, hc.trans (of_decide_eq_true ha).symm⟩) hnd.2.1.1
  · rw [List.mem_eraseP_of_neg (by simpa using hc)]
    exact ⟨fun h => ⟨h, hc⟩, fun h => h.1⟩

/-- records with equal roots in a dict are the same record -/
theorem eq_of_root_eq (l : List Cluster) (hnd : (l.map (·.root)).Nodup) (a b : Cluster)
    (ha : a ∈ l) (hb : b ∈ l) (hab : a.root = b.root) : a = b :=
  List.inj_on_of_nodup_map hnd ha hb hab

/-- the dummy record `Clustering_Tree(s, self, odd=False)` -/
def dummy (s : Nat) : Cluster := ⟨s, 1, false, [hashS s]⟩

/-- invariant of `for s in s_l` after the prefix `pre` -/
structure MInv (m : Nat) (sy : Vec) (rep d : Nat → Nat) (sPar0 : Nat → Int) (forest0 : List Cluster)
    (pre : List Nat) (acc : MergeAcc) : Prop where
  uf : UFInv m acc.sPar rep d
  fresh_iff : ∀ i, acc.sPar i = -1 ↔ sPar0 i = -1
  root_iff : ∀ i, acc.sPar i = (i : Int) ↔ sPar0 i = (i : Int)
  bad : acc.bad = false
  f_sub : acc.forest.Sublist forest0
  f_mem : ∀ c, c ∈ acc.forest ↔ (c ∈ forest0 ∧ ¬ ∃ k, k ∈ acc.clusters ∧ k.root = c.root)
  cl_src : ∀ k, k ∈ acc.clusters →
    (k ∈ forest0 ∧ ∃ s, s ∈ pre ∧ sPar0 s ≠ -1 ∧ rep s = k.root) ∨
    (∃ s, s ∈ pre ∧ sPar0 s = -1 ∧ k = dummy s)
  cl_nodup : (acc.clusters.map (·.root)).Nodup
  cl_real : ∀ s, s ∈ pre → sPar0 s ≠ -1 → ∃ k, k ∈ acc.clusters ∧ k ∈ forest0 ∧ k.root = rep s
  cl_dummy : ∀ s, s ∈ pre → sPar0 s = -1 → dummy s ∈ acc.clusters
  big_some : ∀ b, acc.biggest = some b → b ∈ acc.clusters ∧ b ∈ forest0
  big_none : acc.biggest = none → acc.max = 0 ∧ ∀ k, k ∈ acc.clusters → sPar0 k.root = -1

section
variable {m : Nat} {sy : Vec} {rep d : Nat → Nat} {sPar0 : Nat → Int} {forest0 : List Cluster}

theorem MInv_init (U : UFInv m sPar0 rep d) :
    MInv m sy rep d sPar0 forest0 [] ⟨sPar0, forest0, [], none, 0, false⟩ := by
  refine ⟨U, fun _ => Iff.rfl, fun _ => Iff.rfl, rfl, List.Sublist.refl _, ?_, by simp, by simp,
    by simp, by simp, by simp, by simp⟩
  intro c; simp

/-- a cluster of the forest has a root as its root -/
theorem forest_root (F : FInv m sy sPar0 rep forest0) {c : Cluster} (hc : c ∈ forest0) :
    sPar0 c.root = (c.root : Int) := (F.roots_iff c.root).mp ⟨c, hc, rfl⟩

theorem MInv_step (U0 : UFInv m sPar0 rep d) (F : FInv m sy sPar0 rep forest0)
    {pre : List Nat} {acc : MergeAcc} (I : MInv m sy rep d sPar0 forest0 pre acc)
    {s : Nat} (hs : s ∉ pre) :
    MInv m sy rep d sPar0 forest0 (pre ++ [s]) (mergeStep m acc s) := by
  -- the records collected so far keep their sources
  have hsrc : ∀ k, k ∈ acc.clusters →
      (k ∈ forest0 ∧ ∃ s', s' ∈ pre ++ [s] ∧ sPar0 s' ≠ -1 ∧ rep s' = k.root) ∨
      (∃ s', s' ∈ pre ++ [s] ∧ sPar0 s' = -1 ∧ k = dummy s') := by
    intro k hk
    rcases I.cl_src k hk with ⟨h1, s', hs', h2⟩ | ⟨s', hs', h2⟩
    · exact Or.inl ⟨h1, s', List.mem_append_left _ hs', h2⟩
    · exact Or.inr ⟨s', List.mem_append_left _ hs', h2⟩
  by_cases hfresh : acc.sPar s = -1
  · -- fresh stabilizer: dummy cluster
    have h0 := (I.fresh_iff s).mp hfresh
    have hstep : mergeStep m acc s =
        { acc with clusters := acc.clusters ++ [dummy s] } := by
      unfold mergeStep
      rw [findRoot_fresh m acc.sPar s hfresh]
      simp [I.bad, dummy]
    rw [hstep]
    have hnew : ∀ k, k ∈ acc.clusters → k.root ≠ s := by
      intro k hk heq
      rcases I.cl_src k hk with ⟨hkf, _⟩ | ⟨s', hs', _, rfl⟩
      · have := forest_root F hkf
        rw [heq, h0] at this; omega
      · exact hs (by simpa [dummy] using heq ▸ hs')
    refine ⟨I.uf, I.fresh_iff, I.root_iff, I.bad, I.f_sub, ?_, ?_, ?_, ?_, ?_, ?_, ?_⟩
    · intro c
      rw [I.f_mem]
      constructor
      · rintro ⟨h1, h2⟩
        refine ⟨h1, ?_⟩
        rintro ⟨k, hk, hkr⟩
        rcases List.mem_append.mp hk with hk | hk
        · exact h2 ⟨k, hk, hkr⟩
        · simp at hk; subst hk
          have := forest_root F h1
          rw [← hkr] at this; simp [dummy] at this; rw [h0] at this; omega
      · rintro ⟨h1, h2⟩
        exact ⟨h1, fun ⟨k, hk, hkr⟩ => h2 ⟨k, List.mem_append.mpr (Or.inl hk), hkr⟩⟩
    · intro k hk
      rcases List.mem_append.mp hk with hk | hk
      · exact hsrc k hk
      · simp at hk; subst hk
        exact Or.inr ⟨s, by simp, h0, rfl⟩
    · show ((acc.clusters ++ [dummy s]).map (·.root)).Nodup
      rw [List.map_append, List.nodup_append]
      refine ⟨I.cl_nodup, by simp, ?_⟩
      intro a ha b hb hab
      simp [dummy] at hb
      obtain ⟨k, hk, rfl⟩ := List.mem_map.mp ha
      exact hnew k hk (hab.trans hb)
    · intro s' hs' hlive
      rcases List.mem_append.mp hs' with h | h
      · obtain ⟨k, hk, h1, h2⟩ := I.cl_real s' h hlive
        exact ⟨k, List.mem_append.mpr (Or.inl hk), h1, h2⟩
      · simp at h; subst h; exact absurd h0 hlive
    · intro s' hs' hf
      rcases List.mem_append.mp hs' with h | h
      · exact List.mem_append.mpr (Or.inl (I.cl_dummy s' h hf))
      · simp at h; subst h; simp
    · intro b hb
      obtain ⟨h1, h2⟩ := I.big_some b hb
      exact ⟨List.mem_append.mpr (Or.inl h1), h2⟩
    · intro hb
      obtain ⟨h1, h2⟩ := I.big_none hb
      refine ⟨h1, ?_⟩
      intro k hk
      rcases List.mem_append.mp hk with hk | hk
      · exact h2 k hk
      · simp at hk; subst hk; simpa [dummy] using h0
  · -- stabilizer that already belongs to a tree
    have h0 : sPar0 s ≠ -1 := fun h => hfresh ((I.fresh_iff s).mpr h)
    obtain ⟨par', hfr, U', hf', hr', _⟩ := findRoot_spec I.uf hfresh
    have hrep_root : sPar0 (rep s) = (rep s : Int) := U0.rep_root s h0
    obtain ⟨c0, hc0, hc0r⟩ := (F.roots_iff (rep s)).mpr hrep_root
    have hne1 : ¬ ((rep s : Int) = -1) := by omega
    have htn : ((rep s : Int)).toNat = rep s := by omega
    have hfi : ∀ i, par' i = -1 ↔ sPar0 i = -1 := fun i => (hf' i).trans (I.fresh_iff i)
    have hri : ∀ i, par' i = (i : Int) ↔ sPar0 i = (i : Int) := fun i => (hr' i).trans (I.root_iff i)
    cases hfind : acc.forest.find? (fun c => decide (c.root = rep s)) with
    | none =>
      -- "have popped"
      have hstep : mergeStep m acc s = { acc with sPar := par' } := by
        unfold mergeStep
        rw [hfr]
        simp only [hne1, if_false, htn, hfind]
      rw [hstep]
      have hpopped : ∃ k, k ∈ acc.clusters ∧ k.root = rep s := by
        by_contra hno
        have : c0 ∈ acc.forest := (I.f_mem c0).mpr ⟨hc0, by rw [hc0r]; exact hno⟩
        have := List.find?_eq_none.mp hfind c0 this
        simp [hc0r] at this
      refine ⟨U', hfi, hri, I.bad, I.f_sub, I.f_mem, ?_, I.cl_nodup, ?_, ?_, I.big_some, I.big_none⟩
      · intro k hk
        exact hsrc k hk
      · intro s' hs' hlive
        rcases List.mem_append.mp hs' with h | h
        · exact I.cl_real s' h hlive
        · simp at h; subst h
          obtain ⟨k, hk, hkr⟩ := hpopped
          rcases I.cl_src k hk with ⟨h1, _⟩ | ⟨s'', _, hs''f, rfl⟩
          · exact ⟨k, hk, h1, hkr⟩
          · simp [dummy] at hkr
            rw [hkr, hrep_root] at hs''f; omega
      · intro s' hs' hf
        rcases List.mem_append.mp hs' with h | h
        · exact I.cl_dummy s' h hf
        · simp at h; subst h; exact absurd hf h0
    | some c =>
      have hcmem : c ∈ acc.forest := List.mem_of_find?_eq_some hfind
      have hcroot : c.root = rep s := by
        have := List.find?_some hfind; simpa using this
      have hcf0 := ((I.f_mem c).mp hcmem).1
      have hcnew := ((I.f_mem c).mp hcmem).2
      have hstep : mergeStep m acc s =
          { acc with sPar := par',
                     forest := acc.forest.eraseP (fun c => decide (c.root = rep s)),
                     clusters := acc.clusters ++ [c],
                     biggest := if c.size > acc.max then some c else acc.biggest,
                     max := if c.size > acc.max then c.size else acc.max } := by
        unfold mergeStep
        rw [hfr]
        simp only [hne1, if_false, htn, hfind]
      rw [hstep]
      have hfnd : (acc.forest.map (·.root)).Nodup := (I.f_sub.map _).nodup F.roots_nodup
      refine ⟨U', hfi, hri, I.bad, (List.eraseP_sublist).trans I.f_sub, ?_, ?_, ?_, ?_, ?_, ?_, ?_⟩
      · intro c'
        show c' ∈ acc.forest.eraseP _ ↔ _
        rw [mem_eraseP_root acc.forest (rep s) hfnd, I.f_mem]
        constructor
        · rintro ⟨⟨h1, h2⟩, h3⟩
          refine ⟨h1, ?_⟩
          rintro ⟨k, hk, hkr⟩
          rcases List.mem_append.mp hk with hk | hk
          · exact h2 ⟨k, hk, hkr⟩
          · simp at hk; subst hk; exact h3 (hkr.symm.trans hcroot)
        · rintro ⟨h1, h2⟩
          refine ⟨⟨h1, fun ⟨k, hk, hkr⟩ => h2 ⟨k, List.mem_append.mpr (Or.inl hk), hkr⟩⟩, ?_⟩
          intro h3
          exact h2 ⟨c, by simp, hcroot.trans h3.symm⟩
      · intro k hk
        rcases List.mem_append.mp hk with hk | hk
        · exact hsrc k hk
        · simp at hk; subst hk
          exact Or.inl ⟨hcf0, s, by simp, h0, hcroot.symm⟩
      · show ((acc.clusters ++ [c]).map (·.root)).Nodup
        rw [List.map_append, List.nodup_append]
        refine ⟨I.cl_nodup, by simp, ?_⟩
        intro a ha b hb hab
        simp at hb
        obtain ⟨k, hk, rfl⟩ := List.mem_map.mp ha
        exact hcnew ⟨k, hk, hab.trans hb⟩
      · intro s' hs' hlive
        rcases List.mem_append.mp hs' with h | h
        · obtain ⟨k, hk, h1, h2⟩ := I.cl_real s' h hlive
          exact ⟨k, List.mem_append.mpr (Or.inl hk), h1, h2⟩
        · simp at h; subst h
          exact ⟨c, by simp, hcf0, hcroot⟩
      · intro s' hs' hf
        rcases List.mem_append.mp hs' with h | h
        · exact List.mem_append.mpr (Or.inl (I.cl_dummy s' h hf))
        · simp at h; subst h; exact absurd hf h0
      · intro b hb
        show b ∈ acc.clusters ++ [c] ∧ _
        by_cases hgt : c.size > acc.max
        · simp only [hgt, if_true, Option.some.injEq] at hb
          subst hb; exact ⟨by simp, hcf0⟩
        · simp only [hgt, if_false] at hb
          obtain ⟨h1, h2⟩ := I.big_some b hb
          exact ⟨List.mem_append.mpr (Or.inl h1), h2⟩
      · intro hb
        exfalso
        by_cases hgt : c.size > acc.max
        · simp [hgt] at hb
        · simp only [hgt, if_false] at hb
          have := (I.big_none hb).1
          have := F.size_pos c hcf0
          omega

/-- the whole loop `for s in s_l` -/
theorem MInv_fold (U0 : UFInv m sPar0 rep d) (F : FInv m sy sPar0 rep forest0) :
    ∀ (ss pre : List Nat) (acc : MergeAcc), MInv m sy rep d sPar0 forest0 pre acc →
      (pre ++ ss).Nodup → MInv m sy rep d sPar0 forest0 (pre ++ ss) (ss.foldl (mergeStep m) acc) := by
  intro ss
  induction ss with
  | nil => intro pre acc I _; simpa using I
  | cons s ss ih =>
    intro pre acc I hnd
    have hs : s ∉ pre := by
      intro h
      rw [List.nodup_append] at hnd
      exact hnd.2.2 s h s (by simp) rfl
    have := ih (pre ++ [s]) (mergeStep m acc s) (MInv_step U0 F I hs) (by simpa using hnd)
    simpa using this

end

end Panqec.UF
