/-
Color3DCode, even sides `≥ 2`: every logical operator commutes with every generator (normal forms and
finite checks of `Proofs/LatColor3DCodeNormalForms.lean`), and `Lattice.CommPair`.  Core Lean only.
-/
import PanqecVerif.Proofs.LatColor3DCodePair
import PanqecVerif.Proofs.LatColor3DCodeComm

namespace Panqec.Color3DCode
open Panqec.Lat2D Panqec.Color

section
variable {Lx Ly Lz : Nat} (hx : 2 ≤ Lx) (hy : 2 ≤ Ly) (hz : 2 ≤ Lz) (ex : Lx % 2 = 0)
  (ey : Ly % 2 = 0) (ez : Lz % 2 = 0)
include hx hy hz ex ey ez

/-- an operator of one letter whose check passes on the generators of the other letter commutes with
    every generator: an X string on the cells (`c = true`), a Z membrane on the faces -/
theorem log_comm_one {K : List Coord} {M : Int → Int → Int → Bool} {kx ky kz : Kind}
    (hK : NF Lx Ly Lz K M kx ky kz) (gx : kx.Good) (gy : ky.Good) (gz : kz.Good) {c : Bool}
    (hc : chk c M kx ky kz = true) :
    ∀ s ∈ (lattice Lx Ly Lz).stabs,
      opCommute (lineOp K (if c then Pauli.X else Pauli.Z)) ((lattice Lx Ly Lz).getStab s) = true := by
  intro s hs
  obtain ⟨x, y, z, rfl, hS⟩ := mem_stabs.mp hs
  rw [getStab_eq hx hy hz hs, lineOp_firstOcc]
  apply opCommute_const_of
  intro hanti
  rw [interCount_firstOcc _ _ (nodup_keysOf hx hy hz x y z)]
  refine keys_even hx hy hz ex ey ez hK gx gy gz hc
    (isS_parity hS) ?_
  by_cases hcell : IsCellLoc x y z
  · rw [letterOf_cell hcell] at hanti
    cases c
    · exact absurd hanti (by decide)
    · exact iff_of_true hcell rfl
  · rw [letterOf_face hcell] at hanti
    cases c
    · exact iff_of_false hcell (by decide)
    · exact absurd hanti (by decide)

theorem logX_comm_all : ∀ a ∈ (lattice Lx Ly Lz).logX, ∀ s ∈ (lattice Lx Ly Lz).stabs,
    opCommute a ((lattice Lx Ly Lz).getStab s) = true := by
  intro a ha
  obtain ⟨i, hi, rfl⟩ := exists_getD_of_mem (show a ∈ logX Lx Ly Lz from ha)
  obtain ⟨K, eK, hK⟩ := logX_NF ex ey ez i hi
  obtain ⟨gx, gy, gz⟩ := xN_good i hi
  rw [eK]
  exact log_comm_one (c := true) hx hy hz ex ey ez hK gx gy gz (chkX_all i)

theorem logZ_comm_all : ∀ a ∈ (lattice Lx Ly Lz).logZ, ∀ s ∈ (lattice Lx Ly Lz).stabs,
    opCommute a ((lattice Lx Ly Lz).getStab s) = true := by
  intro a ha
  obtain ⟨j, hj, rfl⟩ := exists_getD_of_mem (show a ∈ logZ Lx Ly Lz from ha)
  obtain ⟨K, eK, hK⟩ := logZ_NF hx hy hz ex ey ez j hj
  obtain ⟨gx, gy, gz⟩ := zT_good j hj
  rw [eK]
  exact log_comm_one (c := false) hx hy hz ex ey ez hK gx gy gz (chkZ_all j)

omit hx hy hz ex ey ez in
theorem lineOp_same_comm (A B : List Coord) (P : Pauli) :
    opCommute (lineOp A P) (lineOp B P) = true := by
  rw [lineOp_firstOcc, lineOp_firstOcc]; exact opCommute_same _ _ P

end

theorem commPair_all {Lx Ly Lz : Nat} (hx : 2 ≤ Lx) (hy : 2 ≤ Ly) (hz : 2 ≤ Lz) (ex : Lx % 2 = 0)
    (ey : Ly % 2 = 0) (ez : Lz % 2 = 0) : (lattice Lx Ly Lz).CommPair where
  stab_comm := stab_comm_all hx hy hz
  logX_comm := logX_comm_all hx hy hz ex ey ez
  logZ_comm := logZ_comm_all hx hy hz ex ey ez
  same_k := rfl
  pairing := by
    obtain ⟨Mx, rfl⟩ : ∃ M, Lx = 2 * M := ⟨Lx / 2, by omega⟩
    obtain ⟨My, rfl⟩ : ∃ M, Ly = 2 * M := ⟨Ly / 2, by omega⟩
    obtain ⟨Mz, rfl⟩ : ∃ M, Lz = 2 * M := ⟨Lz / 2, by omega⟩
    exact pairing_all hx hy hz
  logXX := by
    intro a ha b hb
    obtain ⟨A, -, rfl⟩ := List.mem_map.mp (show a ∈ (kXs Lx Ly Lz).map _ from ha)
    obtain ⟨B, -, rfl⟩ := List.mem_map.mp (show b ∈ (kXs Lx Ly Lz).map _ from hb)
    exact lineOp_same_comm A B _
  logZZ := by
    intro a ha b hb
    obtain ⟨A, -, rfl⟩ := List.mem_map.mp (show a ∈ (kZs Lx Ly Lz).map _ from ha)
    obtain ⟨B, -, rfl⟩ := List.mem_map.mp (show b ∈ (kZs Lx Ly Lz).map _ from hb)
    exact lineOp_same_comm A B _

end Panqec.Color3DCode
