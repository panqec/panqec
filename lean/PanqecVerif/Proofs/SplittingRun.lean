/-
Bookkeeping of `SplittingSimulation._run` (`Model/Splitting.lean`).  Each layer (`chainStep`, `sweepGo`,
`sweep`, `sweeps`, `_run`) has one inversion lemma, and whatever every chain step keeps is kept by the
layers above it; from that come the lengths of `current_error` and of the lists in
`_results['log_p_errors']`, `n_runs`, the read position of the draws, and `run a` then `run b` being
`run (a + b)`.  `Rec` and `Confined` are what `Properties/C18Splitting.lean` proves of the recorded values.
-/
import PanqecVerif.Proofs.SplittingStep

namespace Panqec.Split

open Panqec

theorem chainStep_inv {cfg : Cfg} {draws : Nat → Draw} {s s' : State} {i : Nat} {rate : Rat}
    {t : StepTrace} (h : chainStep cfg draws s i rate = .ok (s', t)) :
    ∃ dec prev ds, cfg.decoders[i]? = some dec ∧ s.current[i]? = some prev ∧ cfg.dists[i]? = some ds ∧
      getNextError cfg.dt cfg.code cfg.n dec rate ds prev (draws s.pos) = .ok t ∧
      s' = { s with current := s.current.set i t.next
                    logP := s.logP.modify i (· ++ [t.pNext])
                    pos := s.pos + 1 } := by
  unfold chainStep at h
  split at h
  · rename_i dec prev ds hd hc hds
    split at h
    · cases h
    · rename_i t' hg
      simp only [Except.ok.injEq, Prod.mk.injEq] at h
      obtain ⟨rfl, rfl⟩ := h
      exact ⟨dec, prev, ds, hd, hc, hds, hg, rfl⟩
  · cases h

theorem sweepGo_cons_inv {cfg : Cfg} {draws : Nat → Draw} {r : Rat} {i : Nat}
    {L : List (Rat × Nat)} {s s' : State} {acc tr : List StepTrace}
    (h : sweepGo cfg draws ((r, i) :: L) s acc = .ok (s', tr)) :
    ∃ s1 t, chainStep cfg draws s i r = .ok (s1, t) ∧
      sweepGo cfg draws L s1 (acc ++ [t]) = .ok (s', tr) := by
  unfold sweepGo at h
  split at h
  · cases h
  · exact ⟨_, _, ‹_›, h⟩

theorem sweep_inv {cfg : Cfg} {draws : Nat → Draw} {s s' : State} {tr : List StepTrace}
    (h : sweep cfg draws s = .ok (s', tr)) :
    ∃ s1, sweepGo cfg draws cfg.rates.zipIdx s [] = .ok (s1, tr) ∧
      s' = { s1 with nRuns := s1.nRuns + 1 } := by
  unfold sweep at h
  split at h
  · cases h
  · simp only [Except.ok.injEq, Prod.mk.injEq] at h
    obtain ⟨rfl, rfl⟩ := h
    exact ⟨_, ‹_›, rfl⟩

theorem sweeps_zero_inv {cfg : Cfg} {draws : Nat → Draw} {s s' : State} {acc tr : List StepTrace}
    (h : sweeps cfg draws 0 s acc = .ok (s', tr)) : s' = s ∧ tr = acc := by
  simp only [sweeps, Except.ok.injEq, Prod.mk.injEq] at h
  exact ⟨h.1.symm, h.2.symm⟩

theorem sweeps_succ_inv {cfg : Cfg} {draws : Nat → Draw} {k : Nat} {s s' : State}
    {acc tr : List StepTrace} (h : sweeps cfg draws (k + 1) s acc = .ok (s', tr)) :
    ∃ s1 tr1, sweep cfg draws s = .ok (s1, tr1) ∧
      sweeps cfg draws k s1 (acc ++ tr1) = .ok (s', tr) := by
  unfold sweeps at h
  split at h
  · cases h
  · exact ⟨_, _, ‹_›, h⟩

/-- the initial error (the same for all chains) is checked against `decoders[0]` only -/
theorem initialise_spec (cfg : Cfg) (cur : List (List Nat)) (h : initialise cfg = .ok cur) :
    cur.length = cfg.rates.length ∧
    ∀ dec e, cfg.decoders[0]? = some dec → e ∈ cur → fails cfg.dt cfg.code dec e = true := by
  unfold initialise at h
  split at h
  · cases h
  split at h
  · cases h
  rename_i dec hd
  dsimp only at h
  split at h
  · cases h
  rename_i hns
  cases h
  refine ⟨List.length_replicate, fun dec' e hdec he => ?_⟩
  cases hd.symm.trans hdec
  rw [(List.mem_replicate.mp he).2, fails_eq_not_isSuccess]
  simpa using hns

theorem runTr_init_inv {cfg : Cfg} {draws : Nat → Draw} {k : Nat} {s' : State}
    {tr : List StepTrace} (h : runTr cfg draws k (State.init cfg) = .ok (s', tr)) :
    ∃ cur, initialise cfg = .ok cur ∧
      sweeps cfg draws k { State.init cfg with current := cur } [] = .ok (s', tr) := by
  unfold runTr at h
  simp only [State.init, List.length_nil, beq_self_eq_true, if_true] at h
  split at h
  · cases h
  · exact ⟨_, ‹_›, h⟩

theorem runTr_of_current (cfg : Cfg) (draws : Nat → Draw) (k : Nat) (s : State)
    (h : s.current.length ≠ 0) : runTr cfg draws k s = sweeps cfg draws k s [] := by
  simp [runTr, h]

/-- a predicate on (number of chains advanced, state) that every chain step carries one further
    is carried through the rest of the sweep; the trace grows by one entry per chain -/
theorem sweepGo_ind (cfg : Cfg) (draws : Nat → Draw) (P : Nat → State → Prop)
    (hstep : ∀ s s' j rate t, P j s → chainStep cfg draws s j rate = .ok (s', t) → P (j + 1) s') :
    ∀ (L : List Rat) (j : Nat) (s s' : State) (acc tr : List StepTrace),
      P j s → sweepGo cfg draws (L.zipIdx j) s acc = .ok (s', tr) →
      P (j + L.length) s' ∧ tr.length = acc.length + L.length
  | [], j, s, s', acc, tr, hp, h => by
    simp only [List.zipIdx_nil, sweepGo, Except.ok.injEq, Prod.mk.injEq] at h
    obtain ⟨rfl, rfl⟩ := h
    exact ⟨hp, rfl⟩
  | r :: L, j, s, s', acc, tr, hp, h => by
    rw [List.zipIdx_cons] at h
    obtain ⟨s1, t, hc, h⟩ := sweepGo_cons_inv h
    obtain ⟨h1, h2⟩ := sweepGo_ind cfg draws P hstep L (j + 1) s1 s' (acc ++ [t]) tr
      (hstep s s1 j r t hp hc) h
    rw [Nat.add_right_comm, Nat.add_assoc] at h1
    exact ⟨h1, by simp at h2 ⊢; omega⟩

/-- a predicate on states that does not look at `n_runs` and is kept by every chain step is
    kept by `sweeps` -/
theorem sweeps_preserves (cfg : Cfg) (draws : Nat → Draw) (P : State → Prop)
    (hstep : ∀ s s' j rate t, P s → chainStep cfg draws s j rate = .ok (s', t) → P s')
    (hn : ∀ s n, P s → P { s with nRuns := n }) :
    ∀ (k : Nat) (s s' : State) (acc tr : List StepTrace),
      P s → sweeps cfg draws k s acc = .ok (s', tr) → P s'
  | 0, s, s', acc, tr, hp, h => by
    rw [(sweeps_zero_inv h).1]; exact hp
  | k + 1, s, s', acc, tr, hp, h => by
    obtain ⟨s1, tr1, hs, h⟩ := sweeps_succ_inv h
    obtain ⟨s2, hg, rfl⟩ := sweep_inv hs
    exact sweeps_preserves cfg draws P hstep hn k _ s' _ tr
      (hn _ _ (sweepGo_ind cfg draws (fun _ => P) hstep _ 0 s s2 [] tr1 hp hg).1) h

theorem runTr_init_preserves (cfg : Cfg) (draws : Nat → Draw) (P : State → Prop)
    (hstep : ∀ s s' j rate t, P s → chainStep cfg draws s j rate = .ok (s', t) → P s')
    (hn : ∀ s n, P s → P { s with nRuns := n })
    (h0 : ∀ cur, initialise cfg = .ok cur → P { State.init cfg with current := cur })
    (k : Nat) (s' : State) (tr : List StepTrace)
    (h : runTr cfg draws k (State.init cfg) = .ok (s', tr)) : P s' := by
  obtain ⟨cur, hi, h⟩ := runTr_init_inv h
  exact sweeps_preserves cfg draws P hstep hn k _ s' [] tr (h0 cur hi) h

theorem sweeps_frame {cfg : Cfg} {draws : Nat → Draw} {k : Nat} {s s' : State}
    {acc tr : List StepTrace} (h : sweeps cfg draws k s acc = .ok (s', tr)) :
    s'.pEst = s.pEst ∧ s'.current.length = s.current.length := by
  refine sweeps_preserves cfg draws (fun x => x.pEst = s.pEst ∧ x.current.length = s.current.length)
    (fun x x' j r t hp hc => ?_) (fun _ _ hp => hp) k s s' acc tr ⟨rfl, rfl⟩ h
  obtain ⟨_, _, _, _, _, _, _, rfl⟩ := chainStep_inv hc
  simpa using hp

/-- invariant in the middle of sweep number `N` (0-based), after chains `0 … j-1` -/
structure Mid (cfg : Cfg) (s : State) (N j : Nat) : Prop where
  logLen : s.logP.length = cfg.rates.length
  rows : ∀ i (h : i < s.logP.length), (s.logP[i]).length = if i < j then N + 1 else N
  curLen : s.current.length = cfg.rates.length
  pos : s.pos = N * cfg.rates.length + j
  nRuns : s.nRuns = N

theorem chainStep_mid {cfg : Cfg} {draws : Nat → Draw} {s s' : State} {N j : Nat} {rate : Rat}
    {t : StepTrace} (hm : Mid cfg s N j) (h : chainStep cfg draws s j rate = .ok (s', t)) :
    Mid cfg s' N (j + 1) := by
  obtain ⟨dec, prev, ds, _, _, _, _, rfl⟩ := chainStep_inv h
  refine ⟨by simpa using hm.logLen, ?_, by simpa using hm.curLen, by simp [hm.pos]; omega, hm.nRuns⟩
  intro i hi
  simp only [List.length_modify] at hi
  have := hm.rows i hi
  simp only [List.getElem_modify]
  by_cases hij : j = i
  · subst hij
    simp [this]
  · have : (i < j + 1) = (i < j) := by simp only [eq_iff_iff]; omega
    simp only [hij, if_false, this, hm.rows i hi]

/-- well-formed state between two sweeps -/
structure Wf (cfg : Cfg) (s : State) : Prop where
  logLen : s.logP.length = cfg.rates.length
  rows : ∀ l ∈ s.logP, l.length = s.nRuns
  curLen : s.current.length = cfg.rates.length
  pos : s.pos = s.nRuns * cfg.rates.length

theorem sweep_wf {cfg : Cfg} {draws : Nat → Draw} {s s' : State} {tr : List StepTrace}
    (hw : Wf cfg s) (h : sweep cfg draws s = .ok (s', tr)) :
    Wf cfg s' ∧ s'.nRuns = s.nRuns + 1 ∧ tr.length = cfg.rates.length := by
  obtain ⟨s1, hg, rfl⟩ := sweep_inv h
  have hm0 : Mid cfg s s.nRuns 0 :=
    ⟨hw.logLen, fun i hi => by simpa using hw.rows _ (List.getElem_mem hi), hw.curLen, by simp [hw.pos], rfl⟩
  obtain ⟨hm, hl⟩ := sweepGo_ind cfg draws (fun j x => Mid cfg x s.nRuns j)
    (fun _ _ _ _ _ => chainStep_mid) cfg.rates 0 s s1 [] tr hm0 hg
  simp only [Nat.zero_add, List.length_nil] at hm hl
  refine ⟨⟨hm.logLen, ?_, hm.curLen, ?_⟩, by simp [hm.nRuns], hl⟩
  · intro l hl'
    obtain ⟨i, hi, rfl⟩ := List.getElem_of_mem hl'
    rw [hm.rows i hi, if_pos (hm.logLen ▸ hi), hm.nRuns]
  · simp only [hm.pos, hm.nRuns, Nat.add_mul, Nat.one_mul]

theorem sweeps_wf (cfg : Cfg) (draws : Nat → Draw) :
    ∀ (k : Nat) (s s' : State) (acc tr : List StepTrace), Wf cfg s →
      sweeps cfg draws k s acc = .ok (s', tr) →
      Wf cfg s' ∧ s'.nRuns = s.nRuns + k ∧ tr.length = acc.length + k * cfg.rates.length
  | 0, s, s', acc, tr, hw, h => by
    obtain ⟨rfl, rfl⟩ := sweeps_zero_inv h
    exact ⟨hw, rfl, by simp⟩
  | k + 1, s, s', acc, tr, hw, h => by
    obtain ⟨s1, tr1, hs, h⟩ := sweeps_succ_inv h
    obtain ⟨hw1, hn1, hl1⟩ := sweep_wf hw hs
    obtain ⟨hw2, hn2, hl2⟩ := sweeps_wf cfg draws k s1 s' (acc ++ tr1) tr hw1 h
    refine ⟨hw2, by omega, ?_⟩
    rw [hl2, List.length_append, hl1, Nat.add_mul]
    omega

theorem init_logLen (cfg : Cfg) : (State.init cfg).logP.length = cfg.rates.length := by
  simp [State.init]

theorem runTr_init (cfg : Cfg) (draws : Nat → Draw) (k : Nat) (s' : State) (tr : List StepTrace)
    (h : runTr cfg draws k (State.init cfg) = .ok (s', tr)) :
    Wf cfg s' ∧ s'.nRuns = k ∧ tr.length = k * cfg.rates.length ∧ s'.pEst = none := by
  obtain ⟨cur, hi, h⟩ := runTr_init_inv h
  have hw : Wf cfg { State.init cfg with current := cur } :=
    ⟨init_logLen cfg, fun l hl => (List.mem_replicate.mp hl).2 ▸ rfl, (initialise_spec cfg cur hi).1,
      (Nat.zero_mul _).symm⟩
  obtain ⟨h1, h2, h3⟩ := sweeps_wf cfg draws k _ s' [] tr hw h
  exact ⟨h1, by simpa [State.init] using h2, by simpa using h3, (sweeps_frame h).1⟩

theorem runTr_wf (cfg : Cfg) (draws : Nat → Draw) (k : Nat) (s s' : State) (tr : List StepTrace)
    (hw : Wf cfg s) (hne : cfg.rates ≠ []) (h : runTr cfg draws k s = .ok (s', tr)) :
    Wf cfg s' ∧ s'.nRuns = s.nRuns + k ∧ tr.length = k * cfg.rates.length ∧ s'.pEst = s.pEst := by
  rw [runTr_of_current cfg draws k s (by rw [hw.curLen]; exact mt List.length_eq_zero_iff.mp hne)] at h
  obtain ⟨h1, h2, h3⟩ := sweeps_wf cfg draws k s s' [] tr hw h
  exact ⟨h1, h2, by simpa using h3, (sweeps_frame h).1⟩

theorem sweeps_acc (cfg : Cfg) (draws : Nat → Draw) (acc' : List StepTrace) :
    ∀ (k : Nat) (s s' : State) (acc tr : List StepTrace),
      sweeps cfg draws k s acc = .ok (s', tr) →
      sweeps cfg draws k s (acc' ++ acc) = .ok (s', acc' ++ tr)
  | 0, s, s', acc, tr, h => by
    obtain ⟨rfl, rfl⟩ := sweeps_zero_inv h
    rfl
  | k + 1, s, s', acc, tr, h => by
    obtain ⟨s1, tr1, hs, h⟩ := sweeps_succ_inv h
    simp only [sweeps, hs, List.append_assoc]
    exact sweeps_acc cfg draws acc' k s1 s' _ tr h

theorem sweeps_add (cfg : Cfg) (draws : Nat → Draw) (b : Nat) (s2 : State) (tr2 : List StepTrace) :
    ∀ (a : Nat) (s s1 : State) (acc tr1 : List StepTrace),
      sweeps cfg draws a s acc = .ok (s1, tr1) → sweeps cfg draws b s1 [] = .ok (s2, tr2) →
      sweeps cfg draws (a + b) s acc = .ok (s2, tr1 ++ tr2)
  | 0, s, s1, acc, tr1, h1, h2 => by
    obtain ⟨rfl, rfl⟩ := sweeps_zero_inv h1
    simpa using sweeps_acc cfg draws tr1 b s1 s2 [] tr2 h2
  | a + 1, s, s1, acc, tr1, h1, h2 => by
    obtain ⟨s0, tr0, hs, h1⟩ := sweeps_succ_inv h1
    rw [Nat.add_right_comm]
    simp only [sweeps, hs]
    exact sweeps_add cfg draws b s2 tr2 a s0 s1 _ tr1 h1 h2

theorem runTr_add (cfg : Cfg) (draws : Nat → Draw) (a b : Nat) (s s1 s2 : State)
    (tr1 tr2 : List StepTrace) (hne : cfg.rates ≠ [])
    (hs : s.current.length = 0 ∨ s.current.length = cfg.rates.length)
    (h1 : runTr cfg draws a s = .ok (s1, tr1)) (h2 : runTr cfg draws b s1 = .ok (s2, tr2)) :
    runTr cfg draws (a + b) s = .ok (s2, tr1 ++ tr2) := by
  have hR : cfg.rates.length ≠ 0 := mt List.length_eq_zero_iff.mp hne
  rcases hs with h0 | hfull
  · -- the first call initialises
    unfold runTr at h1 ⊢
    simp only [h0, beq_self_eq_true, if_true] at h1 ⊢
    cases hi : initialise cfg with
    | error e => simp [hi] at h1
    | ok cur =>
      simp only [hi] at h1 ⊢
      have hl1 : s1.current.length ≠ 0 := by
        rw [(sweeps_frame h1).2]
        simpa [(initialise_spec cfg cur hi).1] using hR
      rw [runTr_of_current cfg draws b s1 hl1] at h2
      exact sweeps_add cfg draws b s2 tr2 a _ s1 [] tr1 h1 h2
  · have hl : s.current.length ≠ 0 := hfull ▸ hR
    rw [runTr_of_current cfg draws a s hl] at h1
    rw [runTr_of_current cfg draws b s1 ((sweeps_frame h1).2 ▸ hl)] at h2
    rw [runTr_of_current cfg draws (a + b) s hl]
    exact sweeps_add cfg draws b s2 tr2 a s s1 [] tr1 h1 h2

/-- the last value recorded for every chain is the probability, at that chain's rate, of
    the error that chain is currently in -/
def Rec (cfg : Cfg) (s : State) : Prop :=
  ∀ (i : Nat) (ds : List Dist) (cur : List Nat) (l : List Rat), cfg.dists[i]? = some ds →
    s.current[i]? = some cur → s.logP[i]? = some l →
    ∀ x, l.getLast? = some x → errorProbability ds cur = some x

/-- chain `i` is inside the failure set of its own decoder -/
def Confined (cfg : Cfg) (s : State) (i : Nat) : Prop :=
  ∀ dec cur, cfg.decoders[i]? = some dec → s.current[i]? = some cur →
    fails cfg.dt cfg.code dec cur = true

end Panqec.Split
