/-
Union-find internals (C05), growth phase: `_update_parents` (both arrays end up pointing
at the roots) and the post-condition of `Support.clustering()`: whenever the `while` loop
terminates, every cluster is connected through the qubits assigned to it and carries an even
number of defects (`ClusterPost`).
-/
import PanqecVerif.Proofs.UnionFindGrowLoop

namespace Panqec.UF

/-- `_update_parents(self._s_parents, roots)` -/
theorem updateSParents_spec {m : Nat} {roots : List Nat} {rep d : Nat → Nat} :
    ∀ (is : List Nat) (sp : Nat → Int), UFInv m sp rep d → (∀ x, x ∈ roots ↔ sp x = (x : Int)) →
      ∃ sp', updateSParents m roots is (sp, false) = (sp', false) ∧ UFInv m sp' rep d ∧
        (∀ i, sp' i = -1 ↔ sp i = -1) ∧ (∀ i, sp' i = (i : Int) ↔ sp i = (i : Int)) ∧
        (∀ i, sp i = (rep i : Int) → sp' i = (rep i : Int)) ∧
        (∀ i, i ∈ is → sp i ≠ -1 → sp' i = (rep i : Int)) := by
  intro is
  induction is with
  | nil =>
    intro sp U _
    exact ⟨sp, rfl, U, fun _ => Iff.rfl, fun _ => Iff.rfl, fun _ h => h, by simp⟩
  | cons i is ih =>
    intro sp U hroots
    unfold updateSParents
    rcases U.rng i with hfresh | ⟨x, hxm, hx⟩
    · -- fresh: untouched
      have hc : ¬ (sp i ≠ -1 ∧ (sp i).toNat ∉ roots) := fun h => h.1 hfresh
      simp only [hc, if_false]
      obtain ⟨sp', h1, h2, h3, h4, h5, h6⟩ := ih sp U hroots
      refine ⟨sp', h1, h2, h3, h4, h5, ?_⟩
      intro j hj hlive
      rcases List.mem_cons.mp hj with rfl | hj
      · exact absurd hfresh hlive
      · exact h6 j hj hlive
    · have htn : (sp i).toNat = x := by omega
      by_cases hxr : x ∈ roots
      · -- already points at a root
        have hc : ¬ (sp i ≠ -1 ∧ (sp i).toNat ∉ roots) := fun h => h.2 (by rw [htn]; exact hxr)
        simp only [hc, if_false]
        have hxroot := (hroots x).mp hxr
        have hrepi : sp i = (rep i : Int) := by
          rw [← U.rep_par i x hx, U.root_rep x hxroot]; exact hx
        obtain ⟨sp', h1, h2, h3, h4, h5, h6⟩ := ih sp U hroots
        refine ⟨sp', h1, h2, h3, h4, h5, ?_⟩
        intro j hj hlive
        rcases List.mem_cons.mp hj with rfl | hj
        · exact h5 j hrepi
        · exact h6 j hj hlive
      · simp only [htn]
        rw [if_pos (⟨by omega, hxr⟩ : sp i ≠ -1 ∧ x ∉ roots)]
        have hxlive := U.par_live i x hx
        obtain ⟨sp1, hfr, U1, hf1, hr1, hs1⟩ := findRoot_spec U hxlive
        have hrepx : rep x = rep i := U.rep_par i x hx
        rw [hfr]
        simp only [Bool.or_false]
        -- the assignment `parents[i] = root` is a path compression of the single vertex `i`
        have hi1 : sp1 i ≠ -1 := fun h => by have := (hf1 i).mp h; omega
        have hinr : sp1 i ≠ (i : Int) := by
          intro h
          have h2 := (hr1 i).mp h
          have : x = i := by omega
          subst this
          exact hxr ((hroots x).mpr h2)
        have hroot1 : sp1 (rep i) = (rep i : Int) := U1.rep_root i hi1
        have hd0 : d (rep i) = 0 := U1.d_root _ hroot1
        have hdi : 0 < d i := by
          rcases U1.rng i with h | ⟨p, _, hp⟩
          · exact absurd h hi1
          · have hne : p ≠ i := fun h => hinr (by rw [hp, h])
            have := U1.d_par i p hp hne; omega
        obtain ⟨U2, hf2, hr2⟩ := compress_path U1 (rep i) hroot1 [i] (by
          intro y hy
          simp at hy; subst hy
          exact ⟨hi1, rfl, hinr, by omega⟩)
        have hfun : (fun j => if j = i then ((rep x : Nat) : Int) else sp1 j) =
            (fun j => if j ∈ [i] then ((rep i : Nat) : Int) else sp1 j) := by
          funext j; simp [hrepx]
        rw [hfun]
        obtain ⟨sp', h1, h2, h3, h4, h5, h6⟩ := ih _ U2 (by
          intro y; rw [hr2 y, hr1 y]; exact hroots y)
        refine ⟨sp', h1, h2, ?_, ?_, ?_, ?_⟩
        · intro j; rw [h3 j, hf2 j, hf1 j]
        · intro j; rw [h4 j, hr2 j, hr1 j]
        · intro j hj
          apply h5
          by_cases hji : j ∈ [i]
          · simp at hji; subst hji; simp
          · simp only [hji, if_false]; exact hs1 j hj
        · intro j hj hlive
          rcases List.mem_cons.mp hj with rfl | hj
          · apply h5; simp
          · apply h6 j hj
            intro h
            exact hlive ((hf1 j).mp ((hf2 j).mp h))

/-- `_update_parents(self._q_parents, roots)` -/
theorem updateParents_spec {m : Nat} {roots : List Nat} {rep d : Nat → Nat} :
    ∀ (is : List Nat) (par : Nat → Int) (sp : Nat → Int), is.Nodup → UFInv m sp rep d →
      (∀ x, x ∈ roots ↔ sp x = (x : Int)) →
      (∀ q, par q = -1 ∨ ∃ x : Nat, par q = (x : Int) ∧ sp x ≠ -1) →
      ∃ par' sp', updateParents m roots is (par, sp, false) = (par', sp', false) ∧
        UFInv m sp' rep d ∧ (∀ i, sp' i = -1 ↔ sp i = -1) ∧
        (∀ i, sp i = (rep i : Int) → sp' i = (rep i : Int)) ∧
        (∀ q, q ∉ is → par' q = par q) ∧
        (∀ q (x : Nat), q ∈ is → par q = (x : Int) → par' q = (rep x : Int)) ∧
        (∀ q, par q = -1 → par' q = -1) := by
  intro is
  induction is with
  | nil =>
    intro par sp _ U _ _
    exact ⟨par, sp, rfl, U, fun _ => Iff.rfl, fun _ h => h, fun _ _ => rfl, by simp, fun _ h => h⟩
  | cons i is ih =>
    intro par sp hnd U hroots hq
    rw [List.nodup_cons] at hnd
    unfold updateParents
    rcases hq i with hfresh | ⟨x, hx, hxlive⟩
    · have hc : ¬ (par i ≠ -1 ∧ (par i).toNat ∉ roots) := fun h => h.1 hfresh
      simp only [hc, if_false]
      obtain ⟨par', sp', h1, h2, h3, h4, h5, h6, h7⟩ := ih par sp hnd.2 U hroots hq
      refine ⟨par', sp', h1, h2, h3, h4, fun q hq' => h5 q (fun h => hq' (by simp [h])), ?_, h7⟩
      intro q y hqm hqy
      rcases List.mem_cons.mp hqm with rfl | hqm
      · rw [hfresh] at hqy; omega
      · exact h6 q y hqm hqy
    · have htn : (par i).toNat = x := by omega
      by_cases hxr : x ∈ roots
      · have hc : ¬ (par i ≠ -1 ∧ (par i).toNat ∉ roots) := fun h => h.2 (by rw [htn]; exact hxr)
        simp only [hc, if_false]
        have hrx : rep x = x := U.root_rep x ((hroots x).mp hxr)
        obtain ⟨par', sp', h1, h2, h3, h4, h5, h6, h7⟩ := ih par sp hnd.2 U hroots hq
        refine ⟨par', sp', h1, h2, h3, h4, fun q hq' => h5 q (fun h => hq' (by simp [h])), ?_, h7⟩
        intro q y hqm hqy
        rcases List.mem_cons.mp hqm with rfl | hqm
        · have : y = x := by omega
          subst this
          rw [h5 q hnd.1, hrx]; exact hqy
        · exact h6 q y hqm hqy
      · simp only [htn]
        rw [if_pos (⟨by omega, hxr⟩ : par i ≠ -1 ∧ x ∉ roots)]
        -- `parents[i] = find_root(x)`: the root of the tree of `x`; `_s_parents` is only compressed (same trees)
        obtain ⟨sp1, hfr, U1, hf1, hr1, hs1⟩ := findRoot_spec U hxlive
        rw [hfr]
        simp only [Bool.or_false]
        have hq1 : ∀ q, (if q = i then ((rep x : Nat) : Int) else par q) = -1 ∨
            ∃ y : Nat, (if q = i then ((rep x : Nat) : Int) else par q) = (y : Int) ∧ sp1 y ≠ -1 := by
          intro q
          by_cases hqi : q = i
          · refine Or.inr ⟨rep x, by simp [hqi], ?_⟩
            have := U1.rep_root x (fun h => hxlive ((hf1 x).mp h))
            rw [this]; omega
          · simp only [hqi, if_false]
            rcases hq q with h | ⟨y, h1, h2⟩
            · exact Or.inl h
            · exact Or.inr ⟨y, h1, fun h => h2 ((hf1 y).mp h)⟩
        obtain ⟨par', sp', h1, h2, h3, h4, h5, h6, h7⟩ := ih _ sp1 hnd.2 U1 (by
          intro y; rw [hr1 y]; exact hroots y) hq1
        refine ⟨par', sp', h1, h2, fun j => (h3 j).trans (hf1 j), fun j hj => h4 j (hs1 j hj), ?_, ?_, ?_⟩
        · intro q hq'
          have hqi : q ≠ i := fun h => hq' (by simp [h])
          rw [h5 q (fun h => hq' (by simp [h]))]; simp [hqi]
        · intro q y hqm hqy
          rcases List.mem_cons.mp hqm with rfl | hqm
          · have : y = x := by omega
            subst this
            rw [h5 q hnd.1]; simp
          · have hqi : q ≠ i := fun h => hnd.1 (h ▸ hqm)
            exact h6 q y hqm (by simp [hqi, hqy])
        · intro q hqf
          have hqi : q ≠ i := fun h => by subst h; rw [hqf] at hx; omega
          exact h7 q (by simp [hqi, hqf])

/-- **post-condition of `Support.clustering()`** on a multigraph (`GraphOK`): if the growth loop
    terminates (within the fuel), the model never left the modelled fragment and the clusters
    it returns are connected and even. -/
theorem clustering_post {H : Mat} (G : GraphOK H) (sy : Vec) (sched : List (List Int))
    (hterm : (clustering H sy sched).terminated = true) :
    ClusterPost H sy (clustering H sy sched).roots (clustering H sy sched).sPar
      (clustering H sy sched).qPar ∧ (clustering H sy sched).bad = false := by
  obtain ⟨rep, d, I, hodd⟩ := clusterLoop_inv (growFuel H) _ _ _ (GInv_init H sy sched)
  unfold clustering at hterm ⊢
  simp only [] at hterm ⊢
  generalize clusterLoop H (growFuel H) (initState H sy sched) = r at I hodd hterm ⊢
  obtain ⟨st, term⟩ := r
  simp only [] at I hodd hterm ⊢
  have hroots : ∀ x, x ∈ st.forest.map (·.root) ↔ st.sPar x = (x : Int) := by
    intro x
    rw [← I.fi.roots_iff, List.mem_map]
  rw [I.nbad]
  obtain ⟨sp1, hrun1, U1, hf1, hr1, _, hfin1⟩ := updateSParents_spec (List.range H.length) st.sPar
    I.uf hroots
  rw [hrun1]
  obtain ⟨qp2, sp2, hrun2, U2, hf2, hs2, hout2, hin2, hfr2⟩ := updateParents_spec
    (List.range (ncols H)) st.qPar sp1 List.nodup_range U1 (by intro x; rw [hr1 x]; exact hroots x)
    (by
      intro q
      rcases I.qrng q with h | ⟨x, h1, h2⟩
      · exact Or.inl h
      · exact Or.inr ⟨x, h1, fun h => h2 ((hf1 x).mp h)⟩)
  simp only []
  rw [hrun2]
  simp only []
  -- the final arrays in terms of `rep`
  have hlive : ∀ i, sp2 i = -1 ↔ st.sPar i = -1 := fun i => (hf2 i).trans (hf1 i)
  have hsp2 : ∀ i, st.sPar i ≠ -1 → sp2 i = (rep i : Int) := by
    intro i hi
    apply hs2
    exact hfin1 i (List.mem_range.mpr (I.uf.lt hi)) hi
  have hstabs : ∀ r, st.sPar r = (r : Int) → ∀ s, stabsOf H sp2 r s = true ↔ (st.sPar s ≠ -1 ∧ rep s = r) := by
    intro r hr s
    unfold stabsOf
    simp only [Bool.and_eq_true, decide_eq_true_eq]
    constructor
    · rintro ⟨_, h⟩
      have hl : st.sPar s ≠ -1 := fun hh => by rw [(hlive s).mpr hh] at h; omega
      rw [hsp2 s hl] at h
      exact ⟨hl, by omega⟩
    · rintro ⟨h1, h2⟩
      exact ⟨I.uf.lt h1, by rw [hsp2 s h1, h2]⟩
  refine ⟨⟨I.fi.roots_nodup, ?_, ?_, ?_, ?_⟩, trivial⟩
  · -- root_self
    intro r hr
    have hrr := (hroots r).mp hr
    exact (hstabs r hrr r).mpr ⟨by rw [hrr]; omega, I.uf.root_rep r hrr⟩
  · -- cover
    intro s hs hd
    have hl := I.fi.defect_live s hs hd
    exact ⟨rep s, (hroots _).mpr (I.uf.rep_root s hl), hsp2 s hl⟩
  · -- conn
    intro r hr v hv
    have hrr := (hroots r).mp hr
    obtain ⟨hvl, hvr⟩ := (hstabs r hrr v).mp hv
    have hc := I.conn v hvl
    rw [hvr] at hc
    have hrl : st.sPar r ≠ -1 := by rw [hrr]; omega
    have hrrep : rep r = r := I.uf.root_rep r hrr
    -- a path of grown member qubits is a path in the cluster sub-graph
    have key : ∀ a b, Conn H st.rowDead st.colDead st.sPar st.qPar rep a b → a = r →
        Reach H (stabsOf H sp2 r) (qubitsOf H qp2 r) r b := by
      intro a b hab
      induction hab with
      | refl => intro h; subst h; exact Reach.base
      | step hc' e ih =>
        rename_i u q w
        intro ha
        have hreach := ih ha
        have hsame : rep u = r := by
          have := Conn.same hc'; rw [ha, hrrep] at this; exact this.symm
        refine Reach.step hreach ⟨q, ?_⟩
        rw [adjq_true]
        have hgu : hb H u q = true := ((grown_iff ..).mp e.gu).1
        have hgw : hb H w q = true := ((grown_iff ..).mp e.gv).1
        refine ⟨hgu, hgw, ?_, (hstabs r hrr u).mpr ⟨e.lu, hsame⟩,
          (hstabs r hrr w).mpr ⟨e.lv, e.same.symm.trans hsame⟩⟩
        obtain ⟨x, hx1, hx2, hx3⟩ := e.qp
        have hqn : q < ncols H := (G.inRange u q hgu).2
        unfold qubitsOf
        simp only [hqn, decide_true, Bool.true_and, decide_eq_true_eq]
        rw [hin2 q x (List.mem_range.mpr hqn) hx1, hx3, hsame]
    exact key r v hc rfl
  · -- even
    intro r hr
    have hrr := (hroots r).mp hr
    obtain ⟨c, hc, hcr⟩ := (I.fi.roots_iff r).mpr hrr
    have h1 := I.fi.odd_ok c hc
    rw [hodd hterm c hc, hcr] at h1
    have h2 : cnt H.length (fun s => defect sy s && stabsOf H sp2 r s) =
        clsCnt H.length sy st.sPar rep r :=
      clsCnt_eq_cnt r _ fun s _ _ => hstabs r hrr s
    rw [h2]; simp at h1; omega

end Panqec.UF
