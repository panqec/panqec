/-
The per-qubit relabelling `deformBsf` on BSF vectors (C08): it preserves the symplectic form,
is GF(2)-linear and invertible, and so preserves validity, syndrome and logical effect of a
code.  The argument runs on Pauli strings, `deformBsf Ds = pauliToBsf ∘ applyAll Ds ∘
bsfToPauli`: there `symp` counts the anticommuting positions and `vxor` is the letterwise
product.  Core Lean only.
-/
import PanqecVerif.Model.Code
import PanqecVerif.Model.Deform
import PanqecVerif.Proofs.ValidCode
import PanqecVerif.Proofs.RowCombos

namespace Panqec.Deform

open Panqec

/-- 1 iff the two letters anticommute -/
def acomm (p q : Pauli) : Nat := (p.xBit * q.zBit + p.zBit * q.xBit) % 2

/-- product of two letters up to phase -/
def pmul (p q : Pauli) : Pauli := Pauli.ofBits (p.xBit + q.xBit) (p.zBit + q.zBit)

/-- number of positions where the letters anticommute -/
def acommCount : List Pauli → List Pauli → Nat
  | p :: ps, q :: qs => acomm p q + acommCount ps qs
  | _, _ => 0

theorem isPerm_cases (D : PauliMap) (h : D.isPerm = true) :
    D = ⟨.X, .Y, .Z⟩ ∨ D = ⟨.X, .Z, .Y⟩ ∨ D = ⟨.Y, .X, .Z⟩ ∨ D = ⟨.Y, .Z, .X⟩ ∨
      D = ⟨.Z, .X, .Y⟩ ∨ D = ⟨.Z, .Y, .X⟩ := by
  rcases D with ⟨x, y, z⟩
  cases x <;> cases y <;> cases z <;> first | exact absurd h (by decide) | simp

theorem acomm_apply (D : PauliMap) (h : D.isPerm = true) (p q : Pauli) :
    acomm (D.apply p) (D.apply q) = acomm p q := by
  rcases isPerm_cases D h with rfl | rfl | rfl | rfl | rfl | rfl <;> cases p <;> cases q <;> rfl

/-- a permutation of {X,Y,Z} fixing I is multiplicative (= GF(2)-linear on the bits) -/
theorem apply_pmul (D : PauliMap) (h : D.isPerm = true) (p q : Pauli) :
    D.apply (pmul p q) = pmul (D.apply p) (D.apply q) := by
  rcases isPerm_cases D h with rfl | rfl | rfl | rfl | rfl | rfl <;> cases p <;> cases q <;> rfl

theorem inv_isPerm (D : PauliMap) (h : D.isPerm = true) : D.inv.isPerm = true := by
  rcases isPerm_cases D h with rfl | rfl | rfl | rfl | rfl | rfl <;> rfl

theorem inv_apply (D : PauliMap) (h : D.isPerm = true) (p : Pauli) :
    D.inv.apply (D.apply p) = p := by
  rcases isPerm_cases D h with rfl | rfl | rfl | rfl | rfl | rfl <;> cases p <;> rfl

theorem apply_inv (D : PauliMap) (h : D.isPerm = true) (p : Pauli) :
    D.apply (D.inv.apply p) = p := by
  rcases isPerm_cases D h with rfl | rfl | rfl | rfl | rfl | rfl <;> cases p <;> rfl

theorem id_isPerm : PauliMap.id.isPerm = true := by decide
theorem swapXZ_isPerm : PauliMap.swapXZ.isPerm = true := by decide
theorem swapYZ_isPerm : PauliMap.swapYZ.isPerm = true := by decide

theorem ofBits_congr {x z x' z' : Nat} (hx : x % 2 = x' % 2) (hz : z % 2 = z' % 2) :
    Pauli.ofBits x z = Pauli.ofBits x' z' := by
  unfold Pauli.ofBits
  rw [hx, hz]

theorem ofBits_mod (x z : Nat) : Pauli.ofBits (x % 2) (z % 2) = Pauli.ofBits x z :=
  ofBits_congr (by omega) (by omega)

theorem ofBits_vxor (x x' z z' : Nat) :
    Pauli.ofBits ((x + x') % 2) ((z + z') % 2) =
      pmul (Pauli.ofBits x z) (Pauli.ofBits x' z') := by
  unfold pmul
  rw [ofBits_xBit, ofBits_xBit, ofBits_zBit, ofBits_zBit]
  exact ofBits_congr (by omega) (by omega)

theorem dot_bits_acommCount : ∀ ps qs : List Pauli,
    (dot (ps.map Pauli.xBit) (qs.map Pauli.zBit) +
      dot (ps.map Pauli.zBit) (qs.map Pauli.xBit)) % 2 = acommCount ps qs % 2
  | [], qs => by simp [dot, acommCount]
  | p :: ps, [] => by simp [dot_nil_right, acommCount]
  | p :: ps, q :: qs => by
    have ih := dot_bits_acommCount ps qs
    simp only [List.map_cons, dot_cons, acommCount, acomm]
    omega

theorem symp_pauliToBsf (ps qs : List Pauli) :
    symp (pauliToBsf ps) (pauliToBsf qs) = acommCount ps qs % 2 := by
  unfold symp
  rw [xPart_pauliToBsf, zPart_pauliToBsf, xPart_pauliToBsf, zPart_pauliToBsf]
  exact dot_bits_acommCount ps qs

/-- apply the i-th map to the i-th letter -/
def applyAll (Ds : List PauliMap) (ps : List Pauli) : List Pauli :=
  List.zipWith (fun (D : PauliMap) p => D.apply p) Ds ps

theorem deformBsf_eq (Ds : List PauliMap) (v : List Nat) :
    deformBsf Ds v = pauliToBsf (applyAll Ds (bsfToPauli v)) := rfl

@[simp] theorem applyAll_nil_left (ps : List Pauli) : applyAll [] ps = [] := by simp [applyAll]
@[simp] theorem applyAll_nil_right (Ds : List PauliMap) : applyAll Ds [] = [] := by
  simp [applyAll]
@[simp] theorem applyAll_cons (D : PauliMap) (Ds : List PauliMap) (p : Pauli) (ps : List Pauli) :
    applyAll (D :: Ds) (p :: ps) = D.apply p :: applyAll Ds ps := by simp [applyAll]

theorem applyAll_length (Ds : List PauliMap) (ps : List Pauli) :
    (applyAll Ds ps).length = min Ds.length ps.length := by simp [applyAll]

theorem bsfToPauli_length {n : Nat} {v : List Nat} (h : v.length = 2 * n) :
    (bsfToPauli v).length = n := by
  unfold bsfToPauli
  rw [List.length_zipWith, xPart_length, zPart_length]
  omega

theorem acommCount_applyAll : ∀ (Ds : List PauliMap) (ps qs : List Pauli),
    (∀ D ∈ Ds, D.isPerm = true) → ps.length = Ds.length → qs.length = Ds.length →
    acommCount (applyAll Ds ps) (applyAll Ds qs) = acommCount ps qs
  | [], ps, qs, _, hp, _ => by simp [List.eq_nil_of_length_eq_zero hp, acommCount]
  | D :: Ds, [], _, _, hp, _ => by simp at hp
  | D :: Ds, _ :: _, [], _, _, hq => by simp at hq
  | D :: Ds, p :: ps, q :: qs, h, hp, hq => by
    simp at hp hq
    have ih := acommCount_applyAll Ds ps qs (fun D' hD' => h D' (by simp [hD'])) hp hq
    simp only [applyAll_cons, acommCount, ih, acomm_apply D (h D (by simp))]

theorem applyAll_zipWith_pmul : ∀ (Ds : List PauliMap) (ps qs : List Pauli),
    (∀ D ∈ Ds, D.isPerm = true) →
    applyAll Ds (List.zipWith pmul ps qs) =
      List.zipWith pmul (applyAll Ds ps) (applyAll Ds qs)
  | [], ps, qs, _ => by simp
  | D :: Ds, [], qs, _ => by simp
  | D :: Ds, p :: ps, [], _ => by simp
  | D :: Ds, p :: ps, q :: qs, h => by
    have ih := applyAll_zipWith_pmul Ds ps qs (fun D' hD' => h D' (by simp [hD']))
    simp only [List.zipWith_cons_cons, applyAll_cons, ih, apply_pmul D (h D (by simp))]

theorem applyAll_cancel (f g : PauliMap → PauliMap) : ∀ (Ds : List PauliMap) (ps : List Pauli),
    (∀ D ∈ Ds, ∀ p, (f D).apply ((g D).apply p) = p) → ps.length = Ds.length →
    applyAll (Ds.map f) (applyAll (Ds.map g) ps) = ps
  | [], ps, _, hp => by simp [List.eq_nil_of_length_eq_zero hp]
  | D :: Ds, [], _, hp => by simp at hp
  | D :: Ds, p :: ps, h, hp => by
    simp at hp
    have ih := applyAll_cancel f g Ds ps (fun D' hD' => h D' (by simp [hD'])) hp
    simp only [List.map_cons, applyAll_cons, ih, h D (by simp)]

/-- both sides truncate to the shortest of the four lists -/
theorem zipWith_ofBits_vxor : ∀ (xs xs' zs zs' : List Nat),
    List.zipWith Pauli.ofBits (vxor xs xs') (vxor zs zs') =
      List.zipWith pmul (List.zipWith Pauli.ofBits xs zs) (List.zipWith Pauli.ofBits xs' zs')
  | [], _, _, _ => by simp [vxor]
  | _ :: _, [], _, _ => by simp [vxor]
  | _ :: _, _ :: _, [], _ => by simp [vxor]
  | _ :: _, _ :: _, _ :: _, [] => by simp [vxor]
  | x :: xs, x' :: xs', z :: zs, z' :: zs' => by
    have ih := zipWith_ofBits_vxor xs xs' zs zs'
    simp only [vxor] at ih ⊢
    simp only [vadd_cons, List.map_cons, List.zipWith_cons_cons, ih, ofBits_vxor]

theorem bsfToPauli_vxor (a b : List Nat) (h : a.length = b.length) :
    bsfToPauli (vxor a b) = List.zipWith pmul (bsfToPauli a) (bsfToPauli b) := by
  unfold bsfToPauli vxor
  rw [xPart_map, zPart_map, xPart_vadd a b h, zPart_vadd a b h]
  exact zipWith_ofBits_vxor _ _ _ _

/-- `bsfToPauli_vxor` read through the bijection between binary vectors and Pauli strings -/
theorem pauliToBsf_zipWith_pmul (ps qs : List Pauli) (h : ps.length = qs.length) :
    pauliToBsf (List.zipWith pmul ps qs) = vxor (pauliToBsf ps) (pauliToBsf qs) := by
  have hl : (pauliToBsf ps).length = (pauliToBsf qs).length := by
    rw [pauliToBsf_length, pauliToBsf_length, h]
  have he : (vxor (pauliToBsf ps) (pauliToBsf qs)).length % 2 = 0 := by
    rw [vxor_length _ _ hl, pauliToBsf_length]; omega
  rw [← pauliToBsf_bsfToPauli _ he (vxor_binary _ _), bsfToPauli_vxor _ _ hl,
    bsfToPauli_pauliToBsf, bsfToPauli_pauliToBsf]

/-! ### `deformBsf`: the theorems on vectors

Standing hypotheses: `Ds.length = n`, every `D ∈ Ds` a permutation of {X,Y,Z}. -/

theorem deformBsf_binary (Ds : List PauliMap) (v : List Nat) : ∀ x ∈ deformBsf Ds v, x < 2 :=
  pauliToBsf_binary _

theorem deformBsf_length {n : Nat} {Ds : List PauliMap} (hlen : Ds.length = n) {v : List Nat}
    (hv : v.length = 2 * n) : (deformBsf Ds v).length = 2 * n := by
  rw [deformBsf_eq, pauliToBsf_length, applyAll_length, bsfToPauli_length hv, hlen]
  omega

theorem bsfToPauli_map_mod (v : List Nat) : bsfToPauli (v.map (· % 2)) = bsfToPauli v := by
  unfold bsfToPauli
  rw [xPart_map, zPart_map, List.zipWith_map]
  simp only [ofBits_mod]

theorem deformBsf_map_mod (Ds : List PauliMap) (v : List Nat) :
    deformBsf Ds (v.map (· % 2)) = deformBsf Ds v := by
  rw [deformBsf_eq, deformBsf_eq, bsfToPauli_map_mod]

theorem symp_deformBsf {n : Nat} {Ds : List PauliMap} (hlen : Ds.length = n)
    (hperm : ∀ D ∈ Ds, D.isPerm = true) {a b : List Nat}
    (ha : a.length = 2 * n) (hab : ∀ x ∈ a, x < 2)
    (hb : b.length = 2 * n) (hbb : ∀ x ∈ b, x < 2) :
    symp (deformBsf Ds a) (deformBsf Ds b) = symp a b := by
  rw [deformBsf_eq, deformBsf_eq, symp_pauliToBsf,
    acommCount_applyAll Ds _ _ hperm (by rw [bsfToPauli_length ha, hlen])
      (by rw [bsfToPauli_length hb, hlen]),
    ← symp_pauliToBsf, pauliToBsf_bsfToPauli a (by omega) hab,
    pauliToBsf_bsfToPauli b (by omega) hbb]

/-- the same for arbitrary integer entries (numpy arrays are not forced to be 0/1):
    both sides only depend on the entries modulo 2 -/
theorem symp_deformBsf_any {n : Nat} {Ds : List PauliMap} (hlen : Ds.length = n)
    (hperm : ∀ D ∈ Ds, D.isPerm = true) {a b : List Nat}
    (ha : a.length = 2 * n) (hb : b.length = 2 * n) :
    symp (deformBsf Ds a) (deformBsf Ds b) = symp a b := by
  rw [← deformBsf_map_mod Ds a, ← deformBsf_map_mod Ds b,
    symp_deformBsf hlen hperm (by simpa using ha) (map_mod_binary a) (by simpa using hb)
      (map_mod_binary b),
    symp_map_mod_left, symp_comm, symp_map_mod_left, symp_comm]

theorem deformBsf_vxor {n : Nat} {Ds : List PauliMap}
    (hperm : ∀ D ∈ Ds, D.isPerm = true) {a b : List Nat}
    (ha : a.length = 2 * n) (hb : b.length = 2 * n) :
    deformBsf Ds (vxor a b) = vxor (deformBsf Ds a) (deformBsf Ds b) := by
  rw [deformBsf_eq, deformBsf_eq, deformBsf_eq,
    bsfToPauli_vxor a b (by omega), applyAll_zipWith_pmul Ds _ _ hperm,
    pauliToBsf_zipWith_pmul]
  rw [applyAll_length, applyAll_length, bsfToPauli_length ha, bsfToPauli_length hb]

theorem deformBsf_cancel (f g : PauliMap → PauliMap) {n : Nat} {Ds : List PauliMap}
    (hlen : Ds.length = n) (h : ∀ D ∈ Ds, ∀ p, (f D).apply ((g D).apply p) = p) {a : List Nat}
    (ha : a.length = 2 * n) (hab : ∀ x ∈ a, x < 2) :
    deformBsf (Ds.map f) (deformBsf (Ds.map g) a) = a := by
  rw [deformBsf_eq, deformBsf_eq, bsfToPauli_pauliToBsf,
    applyAll_cancel f g Ds _ h (by rw [bsfToPauli_length ha, hlen]),
    pauliToBsf_bsfToPauli a (by omega) hab]

theorem deformBsf_inverse {n : Nat} {Ds : List PauliMap} (hlen : Ds.length = n)
    (hperm : ∀ D ∈ Ds, D.isPerm = true) {a : List Nat}
    (ha : a.length = 2 * n) (hab : ∀ x ∈ a, x < 2) :
    deformBsf (Ds.map PauliMap.inv) (deformBsf Ds a) = a := by
  have h := deformBsf_cancel PauliMap.inv id hlen (fun D hD => inv_apply D (hperm D hD)) ha hab
  rwa [List.map_id] at h

theorem deformBsf_inverse_right {n : Nat} {Ds : List PauliMap} (hlen : Ds.length = n)
    (hperm : ∀ D ∈ Ds, D.isPerm = true) {a : List Nat}
    (ha : a.length = 2 * n) (hab : ∀ x ∈ a, x < 2) :
    deformBsf Ds (deformBsf (Ds.map PauliMap.inv) a) = a := by
  have h := deformBsf_cancel id PauliMap.inv hlen (fun D hD => apply_inv D (hperm D hD)) ha hab
  rwa [List.map_id] at h

theorem map_inv_isPerm {Ds : List PauliMap} (hperm : ∀ D ∈ Ds, D.isPerm = true) :
    ∀ D ∈ Ds.map PauliMap.inv, D.isPerm = true :=
  List.forall_mem_map.mpr fun D hD => inv_isPerm D (hperm D hD)

theorem deformBsf_vzero {n : Nat} {Ds : List PauliMap} (hlen : Ds.length = n)
    (hperm : ∀ D ∈ Ds, D.isPerm = true) :
    deformBsf Ds (vzero (2 * n)) = vzero (2 * n) := by
  have h := deformBsf_vxor (n := n) hperm (vzero_length _) (vzero_length _)
  rw [vxor_self, vxor_self, deformBsf_length hlen (vzero_length _), vzero_length] at h
  exact h

theorem wfRows_map {n : Nat} {Ds : List PauliMap} (hlen : Ds.length = n)
    {rows : List (List Nat)} (h : WFRows n rows) : WFRows n (rows.map (deformBsf Ds)) :=
  List.forall_mem_map.mpr fun r hr => ⟨deformBsf_length hlen (h r hr).1, deformBsf_binary Ds r⟩

theorem xorCombo_map {n : Nat} {Ds : List PauliMap} (hlen : Ds.length = n)
    (hperm : ∀ D ∈ Ds, D.isPerm = true) : ∀ (sel : List Bool) (rows : List (List Nat)),
    (∀ r ∈ rows, r.length = 2 * n) →
    xorCombo (2 * n) sel (rows.map (deformBsf Ds)) =
      deformBsf Ds (xorCombo (2 * n) sel rows)
  | [], _, _ => by simp [xorCombo, deformBsf_vzero hlen hperm]
  | _ :: _, [], _ => by simp [xorCombo, deformBsf_vzero hlen hperm]
  | s :: sel, r :: rows, h => by
    have hrows : ∀ r' ∈ rows, r'.length = 2 * n := fun r' hr' => h r' (by simp [hr'])
    have ih := xorCombo_map hlen hperm sel rows hrows
    simp only [List.map_cons, xorCombo]
    cases s
    · simpa using ih
    · simp only [if_true]
      rw [ih, deformBsf_vxor hperm (h r (by simp)) (xorCombo_length _ sel rows hrows)]

theorem inSpan_map {n : Nat} {Ds : List PauliMap} (hlen : Ds.length = n)
    (hperm : ∀ D ∈ Ds, D.isPerm = true) {rows : List (List Nat)} {v : List Nat}
    (hw : ∀ r ∈ rows, r.length = 2 * n) (h : InSpan (2 * n) rows v) :
    InSpan (2 * n) (rows.map (deformBsf Ds)) (deformBsf Ds v) := by
  obtain ⟨sel, hs, hv⟩ := h
  exact ⟨sel, by simpa using hs, by rw [xorCombo_map hlen hperm sel rows hw, hv]⟩

theorem indep_map {n : Nat} {Ds : List PauliMap} (hlen : Ds.length = n)
    (hperm : ∀ D ∈ Ds, D.isPerm = true) {rows : List (List Nat)}
    (hw : ∀ r ∈ rows, r.length = 2 * n) (h : Indep (2 * n) rows) :
    Indep (2 * n) (rows.map (deformBsf Ds)) := by
  intro sel hs hz
  apply h sel (by simpa using hs)
  rw [xorCombo_map hlen hperm sel rows hw, ← deformBsf_vzero hlen hperm] at hz
  have := congrArg (deformBsf (Ds.map PauliMap.inv)) hz
  rwa [deformBsf_inverse hlen hperm (xorCombo_length _ sel rows hw) (xorCombo_binary _ sel rows),
    deformBsf_inverse hlen hperm (vzero_length _) (vzero_binary _)] at this

theorem hasRank_map {n r : Nat} {Ds : List PauliMap} (hlen : Ds.length = n)
    (hperm : ∀ D ∈ Ds, D.isPerm = true) {rows : List (List Nat)}
    (hw : ∀ r ∈ rows, r.length = 2 * n) (h : HasRank (2 * n) rows r) :
    HasRank (2 * n) (rows.map (deformBsf Ds)) r := by
  obtain ⟨basis, hsub, hl, hind, hspan⟩ := h
  have hwb : ∀ r ∈ basis, r.length = 2 * n := fun r hr => hw r (hsub.subset hr)
  refine ⟨basis.map (deformBsf Ds), hsub.map _, by simpa using hl,
    indep_map hlen hperm hwb hind,
    List.forall_mem_map.mpr fun v hv => inSpan_map hlen hperm hwb (hspan v hv)⟩

/-- validity is preserved: every clause of C01, including the rank -/
theorem validCode_deform {n k : Nat} {Ds : List PauliMap} (hlen : Ds.length = n)
    (hperm : ∀ D ∈ Ds, D.isPerm = true) {H Lx Lz : List (List Nat)}
    (hv : ValidCodeL n k H Lx Lz) :
    ValidCodeL n k (H.map (deformBsf Ds)) (Lx.map (deformBsf Ds)) (Lz.map (deformBsf Ds)) := by
  have pres : ∀ {A B : List (List Nat)}, WFRows n A → WFRows n B →
      (∀ a ∈ A, ∀ b ∈ B, symp a b = 0) →
      ∀ a ∈ A.map (deformBsf Ds), ∀ b ∈ B.map (deformBsf Ds), symp a b = 0 := by
    intro A B hA hB h
    refine List.forall_mem_map.mpr fun a ha => List.forall_mem_map.mpr fun b hb => ?_
    rw [symp_deformBsf hlen hperm (hA a ha).1 (hA a ha).2 (hB b hb).1 (hB b hb).2]
    exact h a ha b hb
  refine
    { wfH := wfRows_map hlen hv.wfH
      wfX := wfRows_map hlen hv.wfX
      wfZ := wfRows_map hlen hv.wfZ
      kX := by simpa using hv.kX
      kZ := by simpa using hv.kZ
      stab_comm := pres hv.wfH hv.wfH hv.stab_comm
      logX_comm := pres hv.wfX hv.wfH hv.logX_comm
      logZ_comm := pres hv.wfZ hv.wfH hv.logZ_comm
      pairing := ?_
      logXX := pres hv.wfX hv.wfX hv.logXX
      logZZ := pres hv.wfZ hv.wfZ hv.logZZ
      rank := hasRank_map hlen hperm (fun r hr => (hv.wfH r hr).1) hv.rank
      k_le := hv.k_le }
  intro i j hi hj
  have hi' : i < Lx.length := hv.kX ▸ hi
  have hj' : j < Lz.length := hv.kZ ▸ hj
  have hx : Lx.getD i [] ∈ Lx := by simp [List.getD_eq_getElem?_getD, hi']
  have hz : Lz.getD j [] ∈ Lz := by simp [List.getD_eq_getElem?_getD, hj']
  rw [getD_map_of_lt _ _ [] [] hi', getD_map_of_lt _ _ [] [] hj',
    symp_deformBsf hlen hperm (hv.wfX _ hx).1 (hv.wfX _ hx).2 (hv.wfZ _ hz).1 (hv.wfZ _ hz).2]
  exact hv.pairing i j hi hj

theorem map_symp_deform {n : Nat} {Ds : List PauliMap} (hlen : Ds.length = n)
    (hperm : ∀ D ∈ Ds, D.isPerm = true) {L : List (List Nat)} (hL : WFRows n L)
    {e : List Nat} (he : e.length = 2 * n) (heb : ∀ x ∈ e, x < 2) :
    ((L.map (deformBsf Ds)).map fun r => symp r (deformBsf Ds e)) = L.map fun r => symp r e := by
  rw [List.map_map]
  apply List.map_congr_left
  intro r hr
  exact symp_deformBsf hlen hperm (hL r hr).1 (hL r hr).2 he heb

theorem syndrome_deform {n : Nat} {Ds : List PauliMap} (hlen : Ds.length = n)
    (hperm : ∀ D ∈ Ds, D.isPerm = true) {H : List (List Nat)} (hH : WFRows n H)
    {e : List Nat} (he : e.length = 2 * n) (heb : ∀ x ∈ e, x < 2) :
    measureSyndrome (H.map (deformBsf Ds)) (deformBsf Ds e) = measureSyndrome H e := by
  rw [measureSyndrome_eq, measureSyndrome_eq, map_symp_deform hlen hperm hH he heb]

theorem logicalErrors_deform {n : Nat} {Ds : List PauliMap} (hlen : Ds.length = n)
    (hperm : ∀ D ∈ Ds, D.isPerm = true) (dt : DType) {Lx Lz : List (List Nat)}
    (hX : WFRows n Lx) (hZ : WFRows n Lz)
    {e : List Nat} (he : e.length = 2 * n) (heb : ∀ x ∈ e, x < 2) :
    logicalErrors dt (Lx.map (deformBsf Ds)) (Lz.map (deformBsf Ds)) (deformBsf Ds e) =
      logicalErrors dt Lx Lz e := by
  rw [logicalErrors_eq, logicalErrors_eq, map_symp_deform hlen hperm hX he heb,
    map_symp_deform hlen hperm hZ he heb]

theorem isSuccess_deform {n : Nat} {Ds : List PauliMap} (hlen : Ds.length = n)
    (hperm : ∀ D ∈ Ds, D.isPerm = true) (dt : DType) {H Lx Lz : List (List Nat)}
    (hH : WFRows n H) (hX : WFRows n Lx) (hZ : WFRows n Lz)
    {e : List Nat} (he : e.length = 2 * n) (heb : ∀ x ∈ e, x < 2) :
    isSuccess dt (H.map (deformBsf Ds)) (Lx.map (deformBsf Ds)) (Lz.map (deformBsf Ds))
        (deformBsf Ds e) = isSuccess dt H Lx Lz e := by
  unfold isSuccess inCodespace isLogicalError
  rw [syndrome_deform hlen hperm hH he heb, logicalErrors_deform hlen hperm dt hX hZ he heb]

end Panqec.Deform
