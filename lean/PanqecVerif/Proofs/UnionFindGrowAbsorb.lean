/-
Union-find internals (C05), growth phase: counting the defects of a tree, and the second
half of `merge_clusters` (`biggest.merge(clusters)`) in closed form: `_s_parents` after the links,
and root, size, boundary list and parity of the accumulated record.
-/
import PanqecVerif.Proofs.UnionFindGrowCollect

namespace Panqec.UF

theorem cnt_or_disjoint (m : Nat) (f g : Nat → Bool) (h : ∀ i, i < m → ¬ (f i = true ∧ g i = true)) :
    cnt m (fun i => f i || g i) = cnt m f + cnt m g :=
  countP_or_disjoint _ f g fun i hi => h i (List.mem_range.mp hi)

theorem b2n_xor (a b : Bool) : b2n (xor a b) % 2 = (b2n a + b2n b) % 2 := by
  cases a <;> cases b <;> rfl

section
variable {m : Nat} {sy : Vec}

theorem clsCnt_assoc {sp : Nat → Int} {rp : Nat → Nat} (x : Nat) : clsCnt m sy sp rp x =
    cnt m fun i => defect sy i && (decide (sp i ≠ -1) && decide (rp i = x)) :=
  cnt_congr m _ _ fun _ _ => Bool.and_assoc ..

/-- the defect count of a tree only looks at defects -/
theorem clsCnt_eq_cnt {sp : Nat → Int} {rp : Nat → Nat} (x : Nat) (P : Nat → Bool)
    (h : ∀ i, i < m → defect sy i = true → (P i = true ↔ (sp i ≠ -1 ∧ rp i = x))) :
    cnt m (fun i => defect sy i && P i) = clsCnt m sy sp rp x := by
  rw [clsCnt_assoc]
  apply cnt_congr
  intro i hi
  cases hd : defect sy i
  · rfl
  · rw [Bool.true_and, Bool.true_and, ← Bool.decide_and, Bool.eq_iff_iff, decide_eq_true_iff]
    exact h i hi hd

theorem clsCnt_congr {sp sp' : Nat → Int} {rp rp' : Nat → Nat} (x y : Nat)
    (h : ∀ i, i < m → defect sy i = true →
      ((sp' i ≠ -1 ∧ rp' i = y) ↔ (sp i ≠ -1 ∧ rp i = x))) :
    clsCnt m sy sp' rp' y = clsCnt m sy sp rp x := by
  rw [clsCnt_assoc]
  apply clsCnt_eq_cnt
  intro i hi hd
  rw [Bool.and_eq_true, decide_eq_true_iff, decide_eq_true_iff]
  exact h i hi hd

/-- `_s_parents` after `self.support._s_parents[rt] = self._root` for every absorbed record -/
theorem foldl_link_apply (b : Int) : ∀ (l : List Cluster) (p : Nat → Int) (i : Nat),
    l.foldl (fun p c => fun i => if i = c.root then b else p i) p i =
      if i ∈ l.map (·.root) then b else p i := by
  intro l
  induction l with
  | nil => intro p i; simp
  | cons c l ih =>
    intro p i
    rw [List.foldl_cons, ih]
    by_cases h1 : i ∈ l.map (·.root) <;> by_cases h2 : i = c.root <;> simp [h1, h2]

/-- root, size and `_boundary_list` of `biggest` after `Clustering_Tree.merge` of the records `l` -/
theorem absorbFold_spec : ∀ (l : List Cluster) (a : Cluster),
    (l.foldl absorb a).root = a.root ∧ a.size ≤ (l.foldl absorb a).size ∧
    ∀ x, x ∈ (l.foldl absorb a).bnd ↔ (x ∈ a.bnd ∨ ∃ k, k ∈ l ∧ x ∈ k.bnd) := by
  intro l
  induction l with
  | nil => intro a; exact ⟨rfl, Nat.le_refl _, fun x => by simp⟩
  | cons k l ih =>
    intro a
    obtain ⟨h1, h2, h3⟩ := ih (absorb a k)
    refine ⟨h1, Nat.le_trans (Nat.le_add_right _ _) h2, fun x => ?_⟩
    rw [List.foldl_cons, h3]
    show x ∈ sunion a.bnd k.bnd ∨ _ ↔ _
    rw [mem_sunion]
    constructor
    · rintro ((h | h) | ⟨k', hk', h⟩)
      · exact Or.inl h
      · exact Or.inr ⟨k, by simp, h⟩
      · exact Or.inr ⟨k', by simp [hk'], h⟩
    · rintro (h | ⟨k', hk', h⟩)
      · exact Or.inl (Or.inl h)
      · rcases List.mem_cons.mp hk' with rfl | hk'
        · exact Or.inl (Or.inr h)
        · exact Or.inr ⟨k', hk', h⟩

/-- the parity flag after the merge: if the flag of the accumulator is the parity of the defects
    in the trees with roots in `Y` and every absorbed flag that of its own tree, the result is the
    parity of the defects in all these trees together -/
theorem absorbFold_odd {sp : Nat → Int} {rp : Nat → Nat} :
    ∀ (l : List Cluster) (a : Cluster) (Y : List Nat), (l.map (·.root)).Nodup →
      (∀ k, k ∈ l → k.root ∉ Y) → (∀ k, k ∈ l → b2n k.odd = clsCnt m sy sp rp k.root % 2) →
      b2n a.odd = (cnt m fun i => defect sy i && (decide (sp i ≠ -1) && decide (rp i ∈ Y))) % 2 →
      b2n (l.foldl absorb a).odd = (cnt m fun i =>
        defect sy i && (decide (sp i ≠ -1) && decide (rp i ∈ Y ++ l.map (·.root)))) % 2 := by
  intro l
  induction l with
  | nil => intro a Y _ _ _ ha; simpa using ha
  | cons k l ih =>
    intro a Y hnd hY hodd ha
    rw [List.map_cons, List.nodup_cons] at hnd
    have hstep : (cnt m fun i =>
          defect sy i && (decide (sp i ≠ -1) && decide (rp i ∈ Y ++ [k.root]))) =
        (cnt m fun i => defect sy i && (decide (sp i ≠ -1) && decide (rp i ∈ Y))) +
          clsCnt m sy sp rp k.root := by
      rw [clsCnt_assoc, ← cnt_or_disjoint]
      · apply cnt_congr
        intro i _
        simp only [List.mem_append, List.mem_singleton, Bool.decide_or, Bool.and_or_distrib_left]
      · intro i _ ⟨h1, h2⟩
        simp only [Bool.and_eq_true, decide_eq_true_eq] at h1 h2
        exact hY k (by simp) (h2.2.2 ▸ h1.2.2)
    have := ih (absorb a k) (Y ++ [k.root]) hnd.2
      (fun k' hk' h => (List.mem_append.mp h).elim (hY k' (List.mem_cons_of_mem _ hk'))
        fun h => hnd.1 (List.mem_map.mpr ⟨k', hk', List.mem_singleton.mp h⟩))
      (fun k' hk' => hodd k' (List.mem_cons_of_mem _ hk')) (by
        show b2n (xor a.odd k.odd) = _
        have h1 := b2n_xor a.odd k.odd
        have h2 := hodd k (by simp)
        have h3 := b2n_le (xor a.odd k.odd)
        rw [hstep]; omega)
    simp only [List.foldl_cons, this, List.append_assoc, List.map_cons, List.singleton_append]

end

end Panqec.UF
