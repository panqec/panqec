/-
Operator-level commutation of a lattice model ⇒ the list-level clauses of C01.

`Proofs/OpCommCore.lean` (core Lean) shows that the symplectic product of the BSF rows the
generic code assembles from two dict operators is the parity of `opAntiCount`.  Here this is
lifted to a whole `Lattice`: if the coordinate system is well formed (`Lattice.WF`) and the
operators commute / pair at the dict level (`Lattice.CommPair`), then `stabilizer_matrix`,
`logicals_x`, `logicals_z` are assembled without `KeyError`, the rows are well-formed binary
BSF vectors and every clause of `CommPairL` holds; with the rank clause this is `ValidCodeL`.

All-sizes lattice theorems therefore only have to establish `Lattice.WF`, `Lattice.CommPair`
(statements about dicts and coordinates) and the rank.
-/
import PanqecVerif.Proofs.OpCommCore
import PanqecVerif.Proofs.CodeAlgebra

namespace Panqec

/-- a list of operators each of which is a dict supported on the qubits -/
def DictsOn (qs : List Coord) (L : List Op) : Prop :=
  ∀ a ∈ L, KeysNodup a ∧ opSupported qs a = true

theorem wfRows_map_opRow (qs : List Coord) (L : List Op) :
    WFRows qs.length (L.map (opRow qs)) := by
  intro r hr
  obtain ⟨op, _, rfl⟩ := List.mem_map.mp hr
  exact ⟨opRow_length qs op, opRow_binary qs op⟩

theorem mapM_toBsf_eq (qs : List Coord) (L : List Op) (hL : DictsOn qs L) :
    L.mapM (toBsf qs) = some (L.map (opRow qs)) :=
  mapM_eq_some_map_of_forall _ _ L (fun a ha => toBsf_eq_opRow qs a (hL a ha).1 (hL a ha).2)

theorem mapM_stabRow_eq (qs : List Coord) (L : List Op) (hL : DictsOn qs L) :
    L.mapM (stabRow qs) = some (L.map (opRow qs)) :=
  mapM_eq_some_map_of_forall _ _ L (fun a ha => stabRow_eq_opRow qs a (hL a ha).1 (hL a ha).2)

theorem symp_rows_zero (qs : List Coord) (hnd : qs.Nodup) (A B : List Op) (hA : DictsOn qs A)
    (h : ∀ a ∈ A, ∀ b ∈ B, opCommute a b = true) :
    ∀ x ∈ A.map (opRow qs), ∀ y ∈ B.map (opRow qs), symp x y = 0 := by
  intro x hx y hy
  obtain ⟨a, ha, rfl⟩ := List.mem_map.mp hx
  obtain ⟨b, hb, rfl⟩ := List.mem_map.mp hy
  rw [symp_opRow qs hnd a b (hA a ha).1 (hA a ha).2]
  exact (opCommute_iff a b).mp (h a ha b hb)

theorem getD_map_opRow (qs : List Coord) (L : List Op) (i : Nat) (hi : i < L.length) :
    (L.map (opRow qs)).getD i [] = opRow qs (L.getD i []) :=
  getD_map_of_lt _ L [] [] hi

namespace Lattice

variable (l : Lattice)

/-- the parity-check matrix the generic code assembles for the lattice -/
def rowsH : List (List Nat) := (l.stabs.map l.getStab).map (opRow l.qubits)
/-- the logical-operator stacks the generic code assembles for the lattice -/
def rowsX : List (List Nat) := l.logX.map (opRow l.qubits)
def rowsZ : List (List Nat) := l.logZ.map (opRow l.qubits)

variable {l}

theorem WF.opSupported_of {op : Op} {qs : List Coord} (h : ∀ e ∈ op, e.1 ∈ qs ∧ e.2 ≠ Pauli.I) :
    opSupported qs op = true :=
  (opSupported_iff qs op).mpr fun e he => (h e he).1

theorem WF.stabs_dicts (hwf : l.WF) : DictsOn l.qubits (l.stabs.map l.getStab) := by
  intro a ha
  obtain ⟨s, hs, rfl⟩ := List.mem_map.mp ha
  exact ⟨hwf.stab_keys s hs, WF.opSupported_of (hwf.stab_supported s hs)⟩

theorem WF.logX_dicts (hwf : l.WF) : DictsOn l.qubits l.logX := fun a ha =>
  ⟨hwf.log_keys a (List.mem_append_left _ ha),
    WF.opSupported_of (hwf.log_supported a (List.mem_append_left _ ha))⟩

theorem WF.logZ_dicts (hwf : l.WF) : DictsOn l.qubits l.logZ := fun a ha =>
  ⟨hwf.log_keys a (List.mem_append_right _ ha),
    WF.opSupported_of (hwf.log_supported a (List.mem_append_right _ ha))⟩

/-- `stabilizer_matrix` is assembled without `KeyError` -/
theorem stabilizerMatrix_eq (hwf : l.WF) : stabilizerMatrix l.toCodeData = some l.rowsH :=
  mapM_stabRow_eq l.qubits _ hwf.stabs_dicts

theorem logicalsX_eq (hwf : l.WF) : logicalsX l.toCodeData = some l.rowsX :=
  mapM_toBsf_eq l.qubits _ hwf.logX_dicts

theorem logicalsZ_eq (hwf : l.WF) : logicalsZ l.toCodeData = some l.rowsZ :=
  mapM_toBsf_eq l.qubits _ hwf.logZ_dicts

theorem commPairL_rows (hwf : l.WF) (hc : l.CommPair) :
    CommPairL l.qubits.length l.logX.length l.rowsH l.rowsX l.rowsZ where
  wfH := wfRows_map_opRow _ _
  wfX := wfRows_map_opRow _ _
  wfZ := wfRows_map_opRow _ _
  kX := by simp [rowsX]
  kZ := by simp [rowsZ, hc.same_k]
  stab_comm := symp_rows_zero l.qubits hwf.qubits_nodup _ _ hwf.stabs_dicts (by
    intro a ha b hb
    obtain ⟨s, hs, rfl⟩ := List.mem_map.mp ha
    obtain ⟨t, ht, rfl⟩ := List.mem_map.mp hb
    exact hc.stab_comm s hs t ht)
  logX_comm := symp_rows_zero l.qubits hwf.qubits_nodup _ _ hwf.logX_dicts (by
    intro a ha b hb
    obtain ⟨t, ht, rfl⟩ := List.mem_map.mp hb
    exact hc.logX_comm a ha t ht)
  logZ_comm := symp_rows_zero l.qubits hwf.qubits_nodup _ _ hwf.logZ_dicts (by
    intro a ha b hb
    obtain ⟨t, ht, rfl⟩ := List.mem_map.mp hb
    exact hc.logZ_comm a ha t ht)
  pairing := by
    intro i j hi hj
    have hj' : j < l.logZ.length := hc.same_k ▸ hj
    have hm := hwf.logX_dicts _ (getD_mem' l.logX [] i hi)
    unfold rowsX rowsZ
    rw [getD_map_opRow _ _ i hi, getD_map_opRow _ _ j hj',
      symp_opRow l.qubits hwf.qubits_nodup _ _ hm.1 hm.2]
    exact hc.pairing i j hi hj'
  logXX := symp_rows_zero l.qubits hwf.qubits_nodup _ _ hwf.logX_dicts hc.logXX
  logZZ := symp_rows_zero l.qubits hwf.qubits_nodup _ _ hwf.logZ_dicts hc.logZZ

end Lattice

/-- For a lattice with a well-formed coordinate system whose operators commute and pair at the dict
    level, the three matrices are assembled (no `KeyError`) and satisfy every commutation and pairing
    clause of C01 (`CommPairL`; `k ≤ n` and `rank H ≤ n - k` follow: `CommPairL.k_le`,
    `hasRank_le_of_commute_pairing`). -/
theorem commPairL_of_lattice (l : Lattice) (hwf : l.WF) (hc : l.CommPair) :
    ∃ H Lx Lz, stabilizerMatrix l.toCodeData = some H ∧ logicalsX l.toCodeData = some Lx ∧
      logicalsZ l.toCodeData = some Lz ∧ CommPairL l.qubits.length l.logX.length H Lx Lz :=
  ⟨l.rowsH, l.rowsX, l.rowsZ, Lattice.stabilizerMatrix_eq hwf, Lattice.logicalsX_eq hwf,
    Lattice.logicalsZ_eq hwf, Lattice.commPairL_rows hwf hc⟩

/-- the same for whatever matrices the assembly returned -/
theorem commPairL_of_lattice_assembled (l : Lattice) (hwf : l.WF) (hc : l.CommPair)
    {H Lx Lz : List (List Nat)} (hH : stabilizerMatrix l.toCodeData = some H)
    (hX : logicalsX l.toCodeData = some Lx) (hZ : logicalsZ l.toCodeData = some Lz) :
    CommPairL l.qubits.length l.logX.length H Lx Lz := by
  rw [Lattice.stabilizerMatrix_eq hwf] at hH
  rw [Lattice.logicalsX_eq hwf] at hX
  rw [Lattice.logicalsZ_eq hwf] at hZ
  cases hH; cases hX; cases hZ
  exact Lattice.commPairL_rows hwf hc

theorem validCodeL_of_lattice (l : Lattice) (hwf : l.WF) (hc : l.CommPair)
    {H Lx Lz : List (List Nat)} (hH : stabilizerMatrix l.toCodeData = some H)
    (hX : logicalsX l.toCodeData = some Lx) (hZ : logicalsZ l.toCodeData = some Lz)
    (hr : HasRank (2 * l.qubits.length) H (l.qubits.length - l.logX.length)) :
    ValidCodeL l.qubits.length l.logX.length H Lx Lz :=
  (commPairL_of_lattice_assembled l hwf hc hH hX hZ).toValid hr

theorem validCodeL_of_lattice_exists (l : Lattice) (hwf : l.WF) (hc : l.CommPair)
    (hr : HasRank (2 * l.qubits.length) l.rowsH (l.qubits.length - l.logX.length)) :
    ∃ H Lx Lz, stabilizerMatrix l.toCodeData = some H ∧ logicalsX l.toCodeData = some Lx ∧
      logicalsZ l.toCodeData = some Lz ∧ ValidCodeL l.qubits.length l.logX.length H Lx Lz :=
  ⟨l.rowsH, l.rowsX, l.rowsZ, Lattice.stabilizerMatrix_eq hwf, Lattice.logicalsX_eq hwf,
    Lattice.logicalsZ_eq hwf, (Lattice.commPairL_rows hwf hc).toValid hr⟩

/-! ### non-vacuity: the `[[4,2,2]]` code as a hand-written lattice

Qubits on the corners of a square, one X-type and one Z-type stabilizer (both on all four
qubits) at two further coordinates; `X̄₁ = X(0,0)X(0,1)`, `X̄₂ = X(0,0)X(1,0)`,
`Z̄₁ = Z(0,0)Z(1,0)`, `Z̄₂ = Z(0,0)Z(0,1)`. -/

namespace Example422

def lat : Lattice where
  qubits := [[0, 0], [0, 1], [1, 0], [1, 1]]
  stabs := [[2, 0], [2, 1]]
  getStab := fun s =>
    if s = [2, 0] then [([0, 0], .X), ([0, 1], .X), ([1, 0], .X), ([1, 1], .X)]
    else [([1, 1], .Z), ([1, 0], .Z), ([0, 1], .Z), ([0, 0], .Z)]
  logX := [[([0, 0], .X), ([0, 1], .X)], [([1, 0], .X), ([0, 0], .X)]]
  logZ := [[([1, 0], .Z), ([0, 0], .Z)], [([0, 0], .Z), ([0, 1], .Z)]]

theorem lat_wf : lat.WF where
  qubits_nodup := by decide
  stabs_nodup := by decide
  disjoint := by decide
  stab_keys := by decide
  stab_supported := by decide
  stab_nonempty := by decide
  log_keys := by decide
  log_supported := by decide

theorem lat_commPair : lat.CommPair where
  stab_comm := by decide
  logX_comm := by decide
  logZ_comm := by decide
  same_k := rfl
  pairing := by
    intro i j hi hj
    have hi' : i = 0 ∨ i = 1 := by simp [lat] at hi; omega
    have hj' : j = 0 ∨ j = 1 := by simp [lat] at hj; omega
    rcases hi' with rfl | rfl <;> rcases hj' with rfl | rfl <;> decide
  logXX := by decide
  logZZ := by decide

/-- the assembled matrices (dict entries in any order land in the qubit order) -/
example : stabilizerMatrix lat.toCodeData = some [[1,1,1,1, 0,0,0,0], [0,0,0,0, 1,1,1,1]] ∧
    logicalsX lat.toCodeData = some [[1,1,0,0, 0,0,0,0], [1,0,1,0, 0,0,0,0]] ∧
    logicalsZ lat.toCodeData = some [[0,0,0,0, 1,0,1,0], [0,0,0,0, 1,1,0,0]] := by decide

/-- the bridge on one pair: one anticommuting qubit, symplectic product 1 -/
example : opAntiCount (lat.logX.getD 0 []) (lat.logZ.getD 0 []) = 1 ∧
    symp (lat.rowsX.getD 0 []) (lat.rowsZ.getD 0 []) = 1 := by decide

theorem lat_rows_indep : Indep (2 * 4) lat.rowsH := by
  intro sel hl
  have hH : lat.rowsH = [[1,1,1,1, 0,0,0,0], [0,0,0,0, 1,1,1,1]] := by decide
  rw [hH] at hl ⊢
  match sel, hl with
  | [a, b], _ => revert a b; decide

/-- the hypotheses of `validCodeL_of_lattice_exists` are satisfiable (k = 2) -/
example : ∃ H Lx Lz, stabilizerMatrix lat.toCodeData = some H ∧
    logicalsX lat.toCodeData = some Lx ∧ logicalsZ lat.toCodeData = some Lz ∧
    ValidCodeL 4 2 H Lx Lz :=
  validCodeL_of_lattice_exists lat lat_wf lat_commPair
    (hasRank_of_indep (wfRows_map_opRow _ _) lat_rows_indep)

/-- a lattice whose generators anticommute does not satisfy `CommPair` (the hypothesis is
    not vacuous): X on one qubit against Z on the same qubit -/
example : opCommute [([0, 0], .X)] [([0, 0], .Z)] = false := by decide

end Example422

end Panqec
