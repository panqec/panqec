/-
XCubeCode lattice model: every ladder of parallel edges (logical X) shares an even number of
qubits with every cube operator, every union of full lines of edges (logical Z) with every vertex
operator.  Sizes ≥ 2.
-/
import PanqecVerif.Proofs.LatXCubeCodeComm
import PanqecVerif.Proofs.LatXCubeCodeLog
open Panqec Panqec.Lat3Db
namespace Panqec.XCubeCode

theorem cube_even_free_z (Lx Ly Lz : Nat) (x y z : Int) (K : List Coord)
    (h1 : ∀ p q, [p, q, up (2*Lz) z] ∈ K ↔ [p, q, z - 1] ∈ K) (h2 : ∀ p q, [p, q, z] ∉ K) :
    ovl (cubeLocs Lx Ly Lz x y z) K % 2 = 0 := by
  simp only [cubeLocs, ovl_cons_ind, ovl_nil, ind_neg (h2 _ _), ind_congr (h1 _ _)]
  omega

theorem cube_even_free_y (Lx Ly Lz : Nat) (x y z : Int) (K : List Coord)
    (h1 : ∀ p r, [p, up (2*Ly) y, r] ∈ K ↔ [p, y - 1, r] ∈ K) (h2 : ∀ p r, [p, y, r] ∉ K) :
    ovl (cubeLocs Lx Ly Lz x y z) K % 2 = 0 := by
  simp only [cubeLocs, ovl_cons_ind, ovl_nil, ind_neg (h2 _ _), ind_congr (h1 _ _)]
  omega

theorem cube_even_free_x (Lx Ly Lz : Nat) (x y z : Int) (K : List Coord)
    (h1 : ∀ q r, [up (2*Lx) x, q, r] ∈ K ↔ [x - 1, q, r] ∈ K) (h2 : ∀ q r, [x, q, r] ∉ K) :
    ovl (cubeLocs Lx Ly Lz x y z) K % 2 = 0 := by
  simp only [cubeLocs, ovl_cons_ind, ovl_nil, ind_neg (h2 _ _), ind_congr (h1 _ _)]
  omega

theorem not_R0_of_R1 (P Q : Nat) (c : Int) (h : R1 P c) : ¬ R0 Q c := by
  unfold R1 at h; unfold R0; omega

/-- a ladder of parallel edges is free in the coordinate along which it runs: it meets every cube
    in an even number of keys -/
theorem Placed.gX1_cube_even {Lx Ly Lz Lo Lu Lw : Nat} {e : Int → Int → Int → Coord}
    (hp : Placed Lx Ly Lz e Lo Lu Lw) (u : Int) {kc : List Coord} (hc : IsCubeKeys Lx Ly Lz kc) :
    ovl kc (gX1 Lw e u) % 2 = 0 := by
  obtain ⟨x, y, z, ⟨hx, hy, hz⟩, rfl⟩ := hc
  have ux := up_R0 (2*Lx) x (by omega) hx
  have uy := up_R0 (2*Ly) y (by omega) hy
  have uz := up_R0 (2*Lz) z (by omega) hz
  have px := pred_R0 (2*Lx) x hx
  have py := pred_R0 (2*Ly) y hy
  have pz := pred_R0 (2*Lz) z hz
  have nx := not_R0_of_R1 _ (2*Lx) x hx
  have ny := not_R0_of_R1 _ (2*Ly) y hy
  have nz := not_R0_of_R1 _ (2*Lz) z hz
  cases hp
  · apply cube_even_free_z <;> intros <;>
      simp only [mem_gX1 (@Placed.xyz Lx Ly Lz), uz, pz, nz, and_false, not_false_eq_true]
  · apply cube_even_free_y <;> intros <;>
      simp only [mem_gX1 (@Placed.xzy Lx Ly Lz), uy, py, ny, and_false, not_false_eq_true]
  · apply cube_even_free_z <;> intros <;>
      simp only [mem_gX1 (@Placed.yxz Lx Ly Lz), uz, pz, nz, and_false, not_false_eq_true]
  · apply cube_even_free_x <;> intros <;>
      simp only [mem_gX1 (@Placed.yzx Lx Ly Lz), ux, px, nx, and_false, not_false_eq_true]
  · apply cube_even_free_y <;> intros <;>
      simp only [mem_gX1 (@Placed.zxy Lx Ly Lz), uy, py, ny, and_false, not_false_eq_true]
  · apply cube_even_free_x <;> intros <;>
      simp only [mem_gX1 (@Placed.zyx Lx Ly Lz), ux, px, nx, and_false, not_false_eq_true]

/-- membership does not depend on which odd value (edge midpoint) a coordinate takes -/
def LineInv (Lx Ly Lz : Nat) (K : List Coord) : Prop :=
  (∀ p p' q r, R1 (2*Lx) p → R1 (2*Lx) p' → ([p, q, r] ∈ K ↔ [p', q, r] ∈ K)) ∧
  (∀ p q q' r, R1 (2*Ly) q → R1 (2*Ly) q' → ([p, q, r] ∈ K ↔ [p, q', r] ∈ K)) ∧
  (∀ p q r r', R1 (2*Lz) r → R1 (2*Lz) r' → ([p, q, r] ∈ K ↔ [p, q, r'] ∈ K))

theorem face_even_of_lineInv (Lx Ly Lz : Nat) (K kf : List Coord) (hK : LineInv Lx Ly Lz K)
    (hf : IsFaceKeys Lx Ly Lz kf) : ovl kf K % 2 = 0 := by
  obtain ⟨x, y, z, ⟨hx, hy, hz⟩, hk⟩ := hf
  obtain ⟨ix, iy, iz⟩ := hK
  have dx := dn_R1 (2*Lx) x (by omega) hx
  have dy := dn_R1 (2*Ly) y (by omega) hy
  have dz := dn_R1 (2*Lz) z (by omega) hz
  have sx := succ_R1 (2*Lx) x (by omega) hx
  have sy := succ_R1 (2*Ly) y (by omega) hy
  have sz := succ_R1 (2*Lz) z (by omega) hz
  rcases hk with rfl | rfl | rfl
  · simp only [faceLocsX, ovl_cons_ind, ovl_nil, ind_congr (iy x (y + 1) (dn (2*Ly) y) z sy dy),
      ind_congr (iz x y (z + 1) (dn (2*Lz) z) sz dz)]
    omega
  · simp only [faceLocsY, ovl_cons_ind, ovl_nil, ind_congr (ix (x + 1) (dn (2*Lx) x) y z sx dx),
      ind_congr (iz x y (z + 1) (dn (2*Lz) z) sz dz)]
    omega
  · simp only [faceLocsZ, ovl_cons_ind, ovl_nil, ind_congr (ix (x + 1) (dn (2*Lx) x) y z sx dx),
      ind_congr (iy x (y + 1) (dn (2*Ly) y) z sy dy)]
    omega

theorem LineInv.append {Lx Ly Lz : Nat} {K K' : List Coord} (h : LineInv Lx Ly Lz K)
    (h' : LineInv Lx Ly Lz K') : LineInv Lx Ly Lz (K ++ K') := by
  refine ⟨fun p p' q r a b => ?_, fun p q q' r a b => ?_, fun p q r r' a b => ?_⟩ <;>
    simp only [List.mem_append]
  · rw [h.1 p p' q r a b, h'.1 p p' q r a b]
  · rw [h.2.1 p q q' r a b, h'.2.1 p q q' r a b]
  · rw [h.2.2 p q r r' a b, h'.2.2 p q r r' a b]

/-- a full line of edges at an even transverse position -/
theorem Placed.lineInv {Lx Ly Lz Lo Lu Lw : Nat} {e : Int → Int → Int → Coord}
    (hp : Placed Lx Ly Lz e Lo Lu Lw) {u w : Int} (hu : u % 2 = 0) (hw : w % 2 = 0) :
    LineInv Lx Ly Lz (zline Lo e u w) := by
  cases hp <;> refine ⟨?_, ?_, ?_⟩ <;> intros
  all_goals simp only [mem_zline (@Placed.xyz Lx Ly Lz), mem_zline (@Placed.xzy Lx Ly Lz),
    mem_zline (@Placed.yxz Lx Ly Lz), mem_zline (@Placed.yzx Lx Ly Lz),
    mem_zline (@Placed.zxy Lx Ly Lz), mem_zline (@Placed.zyx Lx Ly Lz)]
  all_goals unfold R1 at *; omega

end Panqec.XCubeCode
