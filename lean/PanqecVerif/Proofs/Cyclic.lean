/-
One coordinate of a periodic lattice: residues modulo the period, and the cyclic successor and
predecessor on a window `[lo, lo + P)`.  The classes that count from `0` (`succW`/`predW` of the
toric codes, `up`/`dn` of XCube) are the window `0`; the seam rules of the rotated lattices, which
count from `1`, are the window `1`.  And Python's `range(a, b, step)` as an arithmetic progression.

No import: the sweep proofs use this file, and a module that imports `Model/Lattices/Common` would
make `Lattice` in `Properties/C10.lean` resolve to `Panqec.Lattice`, not `Panqec.Sweep.Lattice`.
What needs the model's `pmod` is in `LatCyclic`.
-/

namespace Panqec.Cyclic

theorem eq_zero_of_emod_of_abs_lt {v m : Int} (h : v % m = 0) (h1 : -m < v) (h2 : v < m) : v = 0 := by
  obtain ⟨k, rfl⟩ := Int.dvd_of_emod_eq_zero h
  have hm : 0 < m := by omega
  have : -1 < k := Int.lt_of_mul_lt_mul_left (a := m) (by omega) (by omega)
  have : k < 1 := Int.lt_of_mul_lt_mul_left (a := m) (by omega) (by omega)
  rw [show k = 0 by omega, Int.mul_zero]

theorem add_emod_inj {x d e m : Int} (h : (x + d) % m = (x + e) % m) (h1 : -m < d - e)
    (h2 : d - e < m) : d = e := by
  have := eq_zero_of_emod_of_abs_lt
    (by rw [← Int.emod_eq_emod_iff_emod_sub_eq_zero.mp h, show x + d - (x + e) = d - e by omega])
    h1 h2
  omega

theorem emod_add_cancel (a u P : Int) (h : 0 ≤ a ∧ a < P) : ((a + u) % P + -u) % P = a := by
  rw [Int.emod_add_emod, Int.add_neg_cancel_right, Int.emod_eq_of_lt h.1 h.2]

theorem emod_add_eq_iff (a b u P : Int) (ha : 0 ≤ a ∧ a < P) (hb : 0 ≤ b ∧ b < P) :
    (a + u) % P = b ↔ (b + -u) % P = a := by
  constructor
  · rintro rfl
    exact emod_add_cancel a u P ha
  · rintro rfl
    have := emod_add_cancel b (-u) P hb
    rwa [Int.neg_neg] at this

theorem emod_of_near {a r P : Int} (h0 : 0 ≤ r) (h1 : r < P) (h : a = r ∨ a + P = r ∨ a = r + P) :
    a % P = r := by
  rcases h with rfl | rfl | rfl
  · exact Int.emod_eq_of_lt h0 h1
  · rw [← Int.add_emod_right]; exact Int.emod_eq_of_lt h0 h1
  · rw [Int.add_emod_right]; exact Int.emod_eq_of_lt h0 h1

/-- what a wrapped coordinate keeps of the point: the residues modulo the divisors of the period
    (Color488Code: the class mod 8 of a coordinate of period `8·L`) -/
theorem emod_window {m : Int} (hm : 0 < m) (v : Int) {k : Int} (hk : k ∣ m) :
    0 ≤ v % m ∧ v % m < m ∧ v % m % k = v % k :=
  ⟨Int.emod_nonneg _ (by omega), Int.emod_lt_of_pos _ hm, Int.emod_emod_of_dvd _ hk⟩

/-- successor (`cup`) and predecessor (`cdn`) on the cycle `lo, …, lo + P - 1` -/
def cup (lo P x : Int) : Int := if x + 1 = lo + P then lo else x + 1
def cdn (lo P x : Int) : Int := if x = lo then lo + P - 1 else x - 1

theorem cup_spec (lo P x : Int) :
    (x + 1 = lo + P ∧ cup lo P x = lo) ∨ (x + 1 ≠ lo + P ∧ cup lo P x = x + 1) := by
  unfold cup; split <;> simp_all
theorem cdn_spec (lo P x : Int) :
    (x = lo ∧ cdn lo P x = lo + P - 1) ∨ (x ≠ lo ∧ cdn lo P x = x - 1) := by
  unfold cdn; split <;> simp_all

theorem cup_zero (P x : Int) : cup 0 P x = if x + 1 = P then 0 else x + 1 := by
  unfold cup; rw [Int.zero_add]
theorem cdn_zero (P x : Int) : cdn 0 P x = if x = 0 then P - 1 else x - 1 := by
  unfold cdn; rw [Int.zero_add]
theorem cup_one (P x : Int) : cup 1 P x = if x = P then 1 else x + 1 := by
  unfold cup
  by_cases h : x = P
  · rw [if_pos h, if_pos (by omega)]
  · rw [if_neg h, if_neg (by omega)]
theorem cdn_one (P x : Int) : cdn 1 P x = if x = 1 then P else x - 1 := by
  unfold cdn
  by_cases h : x = 1
  · rw [if_pos h, if_pos h]; omega
  · rw [if_neg h, if_neg h]

section window
variable {lo P x y : Int}

theorem emod_succ (hx : lo ≤ x ∧ x < lo + P) : (x + 1 - lo) % P + lo = cup lo P x := by
  rcases cup_spec lo P x with ⟨h, e⟩ | ⟨h, e⟩ <;> rw [e]
  · rw [show x + 1 - lo = P by omega, Int.emod_self]; omega
  · rw [Int.emod_eq_of_lt (by omega) (by omega)]; omega

theorem emod_pred (hx : lo ≤ x ∧ x < lo + P) : (x - 1 - lo) % P + lo = cdn lo P x := by
  rcases cdn_spec lo P x with ⟨h, e⟩ | ⟨h, e⟩ <;> rw [e]
  · rw [emod_of_near (r := P - 1) (by omega) (by omega) (.inr (.inl (by omega)))]; omega
  · rw [Int.emod_eq_of_lt (by omega) (by omega)]; omega

theorem cup_eq_iff (hx : lo ≤ x ∧ x < lo + P) (hy : lo ≤ y ∧ y < lo + P) :
    cup lo P x = y ↔ x = cdn lo P y := by
  have := cup_spec lo P x; have := cdn_spec lo P y; omega

theorem cdn_ne_cup (hP : 3 ≤ P) : cdn lo P x ≠ cup lo P x := by
  have := cup_spec lo P x; have := cdn_spec lo P x; omega

end window

theorem mem_progression {a : Int} {s n : Nat} (hs : 0 < s) {x : Int} :
    x ∈ (List.range n).map (fun i : Nat => a + (s : Int) * (i : Int)) ↔
      a ≤ x ∧ x < a + s * n ∧ (x - a) % s = 0 := by
  simp only [List.mem_map, List.mem_range]
  constructor
  · rintro ⟨i, hi, rfl⟩
    have := Nat.mul_lt_mul_of_pos_left hi hs
    rw [show a + (s : Int) * i - a = s * i by omega, Int.mul_emod_right]
    have : ((s * i : Nat) : Int) < ((s * n : Nat) : Int) := by omega
    rw [Int.natCast_mul, Int.natCast_mul] at this
    have : (0 : Int) ≤ (s : Int) * i := Int.mul_nonneg (by omega) (by omega)
    omega
  · rintro ⟨h1, h2, h3⟩
    obtain ⟨q, hq⟩ := Int.dvd_of_emod_eq_zero h3
    have hs' : (0 : Int) < s := by omega
    have q0 : 0 ≤ q := Int.le_of_mul_le_mul_left (a := (s : Int)) (by omega) hs'
    have qn : q < n := Int.lt_of_mul_lt_mul_left (a := (s : Int)) (by omega) (by omega)
    refine ⟨q.toNat, by omega, ?_⟩
    rw [Int.toNat_of_nonneg q0]
    omega

/-- `((b - a).toNat + s - 1) / s` is `⌈(b - a) / s⌉`, the number of terms of `range(a, b, s)` -/
theorem lt_terms_iff {a b x : Int} {s : Nat} (hs : 0 < s) (h1 : a ≤ x) (h3 : (x - a) % s = 0) :
    x < a + s * ((((b - a).toNat + s - 1) / s : Nat) : Int) ↔ x < b := by
  obtain ⟨q, hq⟩ := Int.dvd_of_emod_eq_zero h3
  have hs' : (0 : Int) < s := by omega
  have q0 : 0 ≤ q := Int.le_of_mul_le_mul_left (a := (s : Int)) (by omega) hs'
  obtain ⟨k, rfl⟩ := Int.eq_ofNat_of_zero_le q0
  generalize hN : (b - a).toNat = N
  have key : k < (N + s - 1) / s ↔ s * k < N := by
    rw [Nat.lt_div_iff_mul_lt hs, Nat.mul_comm]
    omega
  have e1 : x < a + (s : Int) * (((N + s - 1) / s : Nat) : Int) ↔ k < (N + s - 1) / s := by
    rw [show x = a + (s : Int) * k by omega, ← Int.natCast_mul, ← Int.natCast_mul]
    constructor <;> intro h
    · exact Nat.lt_of_mul_lt_mul_left (a := s) (by omega)
    · have := Nat.mul_lt_mul_of_pos_left h hs; omega
  rw [e1, key, ← Int.natCast_mul] at *
  omega

/-- `range(a, b, s)` from an integer start, as `Color.pyRangeI` writes it -/
theorem mem_py_rangeI {a b : Int} {s : Nat} (hs : 0 < s) {x : Int} :
    x ∈ (List.range (((b - a).toNat + s - 1) / s)).map (fun i : Nat => a + (s : Int) * (i : Int)) ↔
      a ≤ x ∧ x < b ∧ (x - a) % s = 0 := by
  rw [mem_progression hs]
  constructor
  · rintro ⟨h1, h2, h3⟩; exact ⟨h1, (lt_terms_iff hs h1 h3).mp h2, h3⟩
  · rintro ⟨h1, h2, h3⟩; exact ⟨h1, (lt_terms_iff hs h1 h3).mpr h2, h3⟩

end Panqec.Cyclic
