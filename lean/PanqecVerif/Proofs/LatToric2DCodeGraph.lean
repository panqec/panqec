/-
Toric2DCode, all sizes: the vertex/qubit and the face/qubit incidence structures of the lattice
model are simple 2-regular graphs when both sides are ≥ 3 — every qubit lies on exactly two
generators of each type (already for sides ≥ 2), two different generators of one type share at
most one qubit (sides ≥ 3) — and have PARALLEL EDGES as soon as one side is 2.

With `Proofs/LatToric2DCodeSector.lean` (the sector matrices are these incidence matrices) and
`Proofs/UnionFindIncidence.lean` (incidence criterion) this gives `closedGraph` of `code.Hz` and
`code.Hx` for every `Lx, Ly ≥ 3` and `graphLike = false` for every size with a side equal to 2;
`closedMultigraph` (parallel edges allowed: the hypothesis of the union-find theorems since the
repair of `Peeling_Tree.peel`) holds for EVERY `Lx, Ly ≥ 2`.
-/
import PanqecVerif.Proofs.LatToric2DCodeSector

set_option linter.unusedVariables false

namespace Panqec.Toric2DCode
open Panqec.Lat2D Panqec.UF

/-! ### generators of one type (`t = 0` vertices, `t = 1` faces) -/

/-- location of a generator of type `t` -/
def IsS (t : Int) (Lx Ly : Nat) (x y : Int) : Prop := InBox Lx Ly x y ∧ x % 2 = t ∧ y % 2 = t

theorem isS_zero {Lx Ly : Nat} {x y : Int} : IsS 0 Lx Ly x y ↔ IsV Lx Ly x y := Iff.rfl
theorem isS_one {Lx Ly : Nat} {x y : Int} : IsS 1 Lx Ly x y ↔ IsF Lx Ly x y := Iff.rfl

section oneType
variable {Lx Ly : Nat} {t : Int}

/-- **every qubit lies on exactly two generators of type `t`** (sides ≥ 2): its two cyclic
    neighbours in the coordinate whose parity is not `t` -/
theorem two_per_qubit (ht : t = 0 ∨ t = 1) (hx : 2 ≤ Lx) (hy : 2 ≤ Ly) (V : List Coord)
    (hnd : V.Nodup) (hmem : ∀ s, s ∈ V ↔ ∃ x y, s = [x, y] ∧ IsS t Lx Ly x y)
    (q : Coord) (hq : q ∈ qubits Lx Ly) : V.countP (fun v => inc Lx Ly v q) = 2 := by
  obtain ⟨qx, qy, rfl, hQ⟩ := mem_qubits.mp hq
  have hpar := hQ.2
  by_cases hpx : qx % 2 = t
  · have hpy : qy % 2 ≠ t := by omega
    have hS : ∀ y, cadj (2 * (Ly : Int)) qy y → [qx, y] ∈ V := fun y h =>
      (hmem _).mpr ⟨_, _, rfl, ⟨hQ.1.1, hQ.1.2.1, cadj_range hQ.1.2.2.1 hQ.1.2.2.2 h⟩, hpx,
        by have := cadj_parity (Int.mul_emod_right 2 Ly) h; omega⟩
    apply countP_eq_two_of_ends V hnd _ [qx, predW qy (2 * (Ly : Int))]
      [qx, succW qy (2 * (Ly : Int))] (hS _ (Or.inl rfl)) (hS _ (Or.inr rfl))
    · intro h
      simp only [List.cons.injEq, and_true, true_and] at h
      exact pred_ne_succ (by omega) h
    · intro v hv
      obtain ⟨bx, by', rfl, hB⟩ := (hmem v).mp hv
      rw [inc_iff, nbr_V (by rw [hB.2.2]; exact hpy),
        cadj_symm hB.1.2.2.1 hB.1.2.2.2 hQ.1.2.2.1 hQ.1.2.2.2]
      simp only [List.cons.injEq, and_true]
      exact and_or_left
  · have hpy : qy % 2 = t := by omega
    have hS : ∀ x, cadj (2 * (Lx : Int)) qx x → [x, qy] ∈ V := fun x h =>
      (hmem _).mpr ⟨_, _, rfl, ⟨(cadj_range hQ.1.1 hQ.1.2.1 h).1, (cadj_range hQ.1.1 hQ.1.2.1 h).2,
        hQ.1.2.2⟩, by have := cadj_parity (Int.mul_emod_right 2 Lx) h; omega, hpy⟩
    apply countP_eq_two_of_ends V hnd _ [predW qx (2 * (Lx : Int)), qy]
      [succW qx (2 * (Lx : Int)), qy] (hS _ (Or.inl rfl)) (hS _ (Or.inr rfl))
    · intro h
      simp only [List.cons.injEq, and_true] at h
      exact pred_ne_succ (by omega) h
    · intro v hv
      obtain ⟨bx, by', rfl, hB⟩ := (hmem v).mp hv
      rw [inc_iff, nbr_H (by rw [hB.2.1]; exact hpx), cadj_symm hB.1.1 hB.1.2.1 hQ.1.1 hQ.1.2.1]
      simp only [List.cons.injEq, and_true]
      exact or_and_right

/-- a qubit on two generators `a`, `b` neither of whose coordinates are cyclic neighbours lies on
    a common line with both -/
theorem common_nbr {PX PY ax ay bx by' qx qy : Int} (hx : ¬ cadj PX ax bx) (hy : ¬ cadj PY ay by')
    (ha : nbr PX PY ax ay qx qy) (hb : nbr PX PY bx by' qx qy) :
    (ax = qx ∧ bx = qx ∧ cadj PY ay qy ∧ cadj PY by' qy) ∨
      (ay = qy ∧ by' = qy ∧ cadj PX ax qx ∧ cadj PX bx qx) := by
  rcases nbr_iff.mp ha with ⟨ca, ea⟩ | ⟨ea, ca⟩ <;> rcases nbr_iff.mp hb with ⟨cb, eb⟩ | ⟨eb, cb⟩
  · exact Or.inr ⟨ea, eb, ca, cb⟩
  · exact absurd (eb ▸ ca) hx
  · exact absurd (eb ▸ ca) hy
  · exact Or.inl ⟨ea, eb, ca, cb⟩

/-- **two different generators of type `t` share at most one qubit** (sides ≥ 3): generators of
    one type are not cyclic neighbours in either coordinate, so they share a qubit only on a
    common line, where two points at distance 2 on a cycle of length ≥ 6 have one common
    neighbour -/
theorem share_unique (ht : t = 0 ∨ t = 1) (hx : 3 ≤ Lx) (hy : 3 ≤ Ly)
    {ax ay bx by' : Int} (ha : IsS t Lx Ly ax ay) (hb : IsS t Lx Ly bx by')
    (hab : ¬ (ax = bx ∧ ay = by'))
    {q1x q1y q2x q2y : Int} (h1 : IsQ Lx Ly q1x q1y) (h2 : IsQ Lx Ly q2x q2y)
    (ha1 : nbr (2 * (Lx : Int)) (2 * (Ly : Int)) ax ay q1x q1y)
    (hb1 : nbr (2 * (Lx : Int)) (2 * (Ly : Int)) bx by' q1x q1y)
    (ha2 : nbr (2 * (Lx : Int)) (2 * (Ly : Int)) ax ay q2x q2y)
    (hb2 : nbr (2 * (Lx : Int)) (2 * (Ly : Int)) bx by' q2x q2y) :
    q1x = q2x ∧ q1y = q2y := by
  have nx : ¬ cadj (2 * (Lx : Int)) ax bx := fun h => by
    have := cadj_parity (Int.mul_emod_right 2 Lx) h; have := ha.2.1; have := hb.2.1; omega
  have ny : ¬ cadj (2 * (Ly : Int)) ay by' := fun h => by
    have := cadj_parity (Int.mul_emod_right 2 Ly) h; have := ha.2.2; have := hb.2.2; omega
  rcases common_nbr nx ny ha1 hb1 with ⟨ea, eb, ca, cb⟩ | ⟨ea, eb, ca, cb⟩ <;>
    rcases common_nbr nx ny ha2 hb2 with ⟨ea', eb', ca', cb'⟩ | ⟨ea', eb', ca', cb'⟩
  · exact ⟨ea.symm.trans ea', cyc_unique (by omega) ha.1.2.2.1 ha.1.2.2.2 hb.1.2.2.1 hb.1.2.2.2
      (fun h => hab ⟨ea.trans eb.symm, h⟩) ca cb ca' cb'⟩
  · exact absurd ⟨ea.trans eb.symm, ea'.trans eb'.symm⟩ hab
  · exact absurd ⟨ea'.trans eb'.symm, ea.trans eb.symm⟩ hab
  · exact ⟨cyc_unique (by omega) ha.1.1 ha.1.2.1 hb.1.1 hb.1.2.1
      (fun h => hab ⟨h, ea.trans eb.symm⟩) ca cb ca' cb', ea.symm.trans ea'⟩

/-- the incidence matrix of the generators of one type is a closed graph (sides ≥ 3) -/
theorem closedGraph_type (ht : t = 0 ∨ t = 1) (hx : 3 ≤ Lx) (hy : 3 ≤ Ly) (V : List Coord)
    (hV : V ≠ []) (hnd : V.Nodup)
    (hmem : ∀ s, s ∈ V ↔ ∃ x y, s = [x, y] ∧ IsS t Lx Ly x y) :
    closedGraph (incMat V (qubits Lx Ly) (inc Lx Ly)) = true := by
  apply closedGraph_incMat V _ _ hV hnd
  · intro q hq
    exact two_per_qubit ht (by omega) (by omega) V hnd hmem q hq
  · intro v hv w hw hvw
    obtain ⟨ax, ay, rfl, ha⟩ := (hmem v).mp hv
    obtain ⟨bx, by', rfl, hb⟩ := (hmem w).mp hw
    apply countP_le_one_of_unique _ _ (nodup_qubits Lx Ly)
    intro q1 hq1 q2 hq2 hi1 hi2
    obtain ⟨q1x, q1y, rfl, h1⟩ := mem_qubits.mp hq1
    obtain ⟨q2x, q2y, rfl, h2⟩ := mem_qubits.mp hq2
    rw [Bool.and_eq_true, inc_iff, inc_iff] at hi1 hi2
    have := share_unique ht hx hy ha hb (by
      rintro ⟨rfl, rfl⟩; exact hvw rfl) h1 h2 hi1.1 hi1.2 hi2.1 hi2.2
    rw [this.1, this.2]

/-- a generator acts on at most four qubits, so two generators share at most four -/
theorem share_le_four (v w : Coord) :
    (qubits Lx Ly).countP (fun q => inc Lx Ly v q && inc Lx Ly w q) ≤ 4 := by
  have h1 : (qubits Lx Ly).countP (fun q => inc Lx Ly v q && inc Lx Ly w q) ≤
      (qubits Lx Ly).countP (fun q => (nbrsOf Lx Ly v).contains q) := by
    apply List.countP_mono_left
    intro q _ hq
    rw [Bool.and_eq_true] at hq
    exact hq.1
  have h2 := countP_contains_le (qubits Lx Ly) (nodup_qubits Lx Ly) (nbrsOf Lx Ly v)
  have h3 : (nbrsOf Lx Ly v).length = 4 := rfl
  omega

/-- the incidence matrix of the generators of one type is a closed MULTIgraph already for
    sides ≥ 2 (two generators share up to two qubits when a side is 2) -/
theorem closedMultigraph_type (ht : t = 0 ∨ t = 1) (hx : 2 ≤ Lx) (hy : 2 ≤ Ly) (V : List Coord)
    (hV : V ≠ []) (hnd : V.Nodup)
    (hmem : ∀ s, s ∈ V ↔ ∃ x y, s = [x, y] ∧ IsS t Lx Ly x y) :
    closedMultigraph (incMat V (qubits Lx Ly) (inc Lx Ly)) = true := by
  apply closedMultigraph_incMat V _ _ hV hnd
  · intro q hq
    exact two_per_qubit ht hx hy V hnd hmem q hq
  · intro v _ w _ _
    have := share_le_four (Lx := Lx) (Ly := Ly) v w
    omega

end oneType

theorem mem_verts_S {Lx Ly : Nat} (s : Coord) :
    s ∈ verts Lx Ly ↔ ∃ x y, s = [x, y] ∧ IsS 0 Lx Ly x y := mem_verts
theorem mem_faces_S {Lx Ly : Nat} (s : Coord) :
    s ∈ faces Lx Ly ↔ ∃ x y, s = [x, y] ∧ IsS 1 Lx Ly x y := mem_faces

/-- `code.Hz` of every `Toric2DCode` with sides ≥ 3 is a closed graph -/
theorem closedGraph_Hz {Lx Ly : Nat} (hx : 3 ≤ Lx) (hy : 3 ≤ Ly) :
    closedGraph (Hz (lattice Lx Ly).rowsH) = true := by
  rw [Hz_rowsH (by omega) (by omega)]
  exact closedGraph_type (Or.inl rfl) hx hy _ (verts_ne_nil (by omega) (by omega))
    (nodup_verts Lx Ly) mem_verts_S

/-- `code.Hx` of every `Toric2DCode` with sides ≥ 3 is a closed graph -/
theorem closedGraph_Hx {Lx Ly : Nat} (hx : 3 ≤ Lx) (hy : 3 ≤ Ly) :
    closedGraph (Hx (lattice Lx Ly).rowsH) = true := by
  rw [Hx_rowsH (by omega) (by omega)]
  exact closedGraph_type (Or.inr rfl) hx hy _ (faces_ne_nil (by omega) (by omega))
    (nodup_faces Lx Ly) mem_faces_S

/-- `code.Hz` of EVERY supported `Toric2DCode` (sides ≥ 2) is a closed multigraph -/
theorem closedMultigraph_Hz {Lx Ly : Nat} (hx : 2 ≤ Lx) (hy : 2 ≤ Ly) :
    closedMultigraph (Hz (lattice Lx Ly).rowsH) = true := by
  rw [Hz_rowsH hx hy]
  exact closedMultigraph_type (Or.inl rfl) hx hy _ (verts_ne_nil (by omega) (by omega))
    (nodup_verts Lx Ly) mem_verts_S

/-- `code.Hx` of EVERY supported `Toric2DCode` (sides ≥ 2) is a closed multigraph -/
theorem closedMultigraph_Hx {Lx Ly : Nat} (hx : 2 ≤ Lx) (hy : 2 ≤ Ly) :
    closedMultigraph (Hx (lattice Lx Ly).rowsH) = true := by
  rw [Hx_rowsH hx hy]
  exact closedMultigraph_type (Or.inr rfl) hx hy _ (faces_ne_nil (by omega) (by omega))
    (nodup_faces Lx Ly) mem_faces_S

theorem isQ_mem {Lx Ly : Nat} {x y : Int} (h : IsQ Lx Ly x y) : [x, y] ∈ qubits Lx Ly :=
  mem_qubits'.mpr h

/-- `Lx = 2`: the vertices `(0,0)`, `(2,0)` are joined by the qubits `(1,0)` and `(3,0)`, the
    faces `(1,1)`, `(3,1)` by the qubits `(0,1)` and `(2,1)` -/
theorem parallel_x {Ly : Nat} (hy : 2 ≤ Ly) :
    graphLike (Hz (lattice 2 Ly).rowsH) = false ∧ graphLike (Hx (lattice 2 Ly).rowsH) = false := by
  rw [Hz_rowsH (by omega) hy, Hx_rowsH (by omega) hy]
  constructor
  · apply not_graphLike_incMat _ _ _ [0, 0] [2, 0] [1, 0] [3, 0]
    · exact mem_verts.mpr ⟨0, 0, rfl, by unfold IsV InBox; omega⟩
    · exact mem_verts.mpr ⟨2, 0, rfl, by unfold IsV InBox; omega⟩
    · exact isQ_mem (by unfold IsQ InBox; omega)
    · exact isQ_mem (by unfold IsQ InBox; omega)
    · decide
    · decide
    · rw [inc_iff]; unfold nbr; right; left; exact ⟨by decide, rfl⟩
    · rw [inc_iff]; unfold nbr; left; exact ⟨by decide, rfl⟩
    · rw [inc_iff]; unfold nbr; left; exact ⟨by decide, rfl⟩
    · rw [inc_iff]; unfold nbr; right; left; exact ⟨by decide, rfl⟩
  · apply not_graphLike_incMat _ _ _ [1, 1] [3, 1] [0, 1] [2, 1]
    · exact mem_faces.mpr ⟨1, 1, rfl, by unfold IsF InBox; omega⟩
    · exact mem_faces.mpr ⟨3, 1, rfl, by unfold IsF InBox; omega⟩
    · exact isQ_mem (by unfold IsQ InBox; omega)
    · exact isQ_mem (by unfold IsQ InBox; omega)
    · decide
    · decide
    · rw [inc_iff]; unfold nbr; left; exact ⟨by decide, rfl⟩
    · rw [inc_iff]; unfold nbr; right; left; exact ⟨by decide, rfl⟩
    · rw [inc_iff]; unfold nbr; right; left; exact ⟨by decide, rfl⟩
    · rw [inc_iff]; unfold nbr; left; exact ⟨by decide, rfl⟩

/-- `Ly = 2`: the vertices `(0,0)`, `(0,2)` are joined by the qubits `(0,1)` and `(0,3)`, the
    faces `(1,1)`, `(1,3)` by the qubits `(1,0)` and `(1,2)` -/
theorem parallel_y {Lx : Nat} (hx : 2 ≤ Lx) :
    graphLike (Hz (lattice Lx 2).rowsH) = false ∧ graphLike (Hx (lattice Lx 2).rowsH) = false := by
  rw [Hz_rowsH hx (by omega), Hx_rowsH hx (by omega)]
  constructor
  · apply not_graphLike_incMat _ _ _ [0, 0] [0, 2] [0, 1] [0, 3]
    · exact mem_verts.mpr ⟨0, 0, rfl, by unfold IsV InBox; omega⟩
    · exact mem_verts.mpr ⟨0, 2, rfl, by unfold IsV InBox; omega⟩
    · exact isQ_mem (by unfold IsQ InBox; omega)
    · exact isQ_mem (by unfold IsQ InBox; omega)
    · decide
    · decide
    · rw [inc_iff]; unfold nbr; right; right; right; exact ⟨rfl, by decide⟩
    · rw [inc_iff]; unfold nbr; right; right; left; exact ⟨rfl, by decide⟩
    · rw [inc_iff]; unfold nbr; right; right; left; exact ⟨rfl, by decide⟩
    · rw [inc_iff]; unfold nbr; right; right; right; exact ⟨rfl, by decide⟩
  · apply not_graphLike_incMat _ _ _ [1, 1] [1, 3] [1, 0] [1, 2]
    · exact mem_faces.mpr ⟨1, 1, rfl, by unfold IsF InBox; omega⟩
    · exact mem_faces.mpr ⟨1, 3, rfl, by unfold IsF InBox; omega⟩
    · exact isQ_mem (by unfold IsQ InBox; omega)
    · exact isQ_mem (by unfold IsQ InBox; omega)
    · decide
    · decide
    · rw [inc_iff]; unfold nbr; right; right; left; exact ⟨rfl, by decide⟩
    · rw [inc_iff]; unfold nbr; right; right; right; exact ⟨rfl, by decide⟩
    · rw [inc_iff]; unfold nbr; right; right; right; exact ⟨rfl, by decide⟩
    · rw [inc_iff]; unfold nbr; right; right; left; exact ⟨rfl, by decide⟩

end Panqec.Toric2DCode
