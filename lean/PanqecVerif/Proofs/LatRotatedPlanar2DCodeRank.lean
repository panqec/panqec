/-
RotatedPlanar2DCode, all sizes: all stabilizer generators are independent (triangular probes
on a corner qubit of each plaquette).  Core Lean only.
-/
import PanqecVerif.Proofs.LatRotatedPlanar2DCodeCss

namespace Panqec.RotatedPlanar2DCode
open Panqec.Lat2D

/-- vertex `(x, y)`: `X` on the corner `(x−1, y−1)` (`(x−1, 1)` on the bottom row `y = 0`);
    face `(x, y)`: `Z` on the corner `(x−1, y−1)` (`(1, y−1)` on the left column `x = 0`) -/
def probe (s : Coord) : Coord × Pauli :=
  match s with
  | [x, y] =>
    if (x + y) % 4 = 2 then (if y = 0 then ([x - 1, y + 1], Pauli.X) else ([x - 1, y - 1], Pauli.X))
    else (if x = 0 then ([x + 1, y - 1], Pauli.Z) else ([x - 1, y - 1], Pauli.Z))
  | _ => ([], Pauli.I)

/-- vertices are ranked by `x`, faces by `y` -/
def rankOf (s : Coord) : Nat :=
  match s with
  | [x, y] => if (x + y) % 4 = 2 then x.toNat else y.toNat
  | _ => 0

theorem probe_V {x y : Int} (h : (x + y) % 4 = 2) :
    ∃ b, (y = 0 ∧ b = y + 1 ∨ y ≠ 0 ∧ b = y - 1) ∧ probe [x, y] = ([x - 1, b], Pauli.X) := by
  dsimp only [probe]
  rw [if_pos h]
  by_cases h0 : y = 0
  · exact ⟨y + 1, Or.inl ⟨h0, rfl⟩, if_pos h0⟩
  · exact ⟨y - 1, Or.inr ⟨h0, rfl⟩, if_neg h0⟩

theorem probe_F {x y : Int} (h : (x + y) % 4 ≠ 2) :
    ∃ a, (x = 0 ∧ a = x + 1 ∨ x ≠ 0 ∧ a = x - 1) ∧ probe [x, y] = ([a, y - 1], Pauli.Z) := by
  dsimp only [probe]
  rw [if_neg h]
  by_cases h0 : x = 0
  · exact ⟨x + 1, Or.inl ⟨h0, rfl⟩, if_pos h0⟩
  · exact ⟨x - 1, Or.inr ⟨h0, rfl⟩, if_neg h0⟩

theorem rankOf_V {x y : Int} (h : (x + y) % 4 = 2) : rankOf [x, y] = x.toNat := if_pos h
theorem rankOf_F {x y : Int} (h : (x + y) % 4 ≠ 2) : rankOf [x, y] = y.toNat := if_neg h

/-- A plaquette `(x', y')` with `x ≤ x'` that has the corner `(x − 1, b)` of `(x, y)` lies in the
    same column, at most two rows away; two rows away `(x + y) % 4` differs. -/
theorem corner_unique {x y x' y' b : Int} (hle : x ≤ x') (hb : b = y - 1 ∨ b = y + 1)
    (hx : x - 1 = x' - 1 ∨ x - 1 = x' + 1) (hy : b = y' - 1 ∨ b = y' + 1)
    (h4 : (x + y) % 4 = (x' + y') % 4) : x = x' ∧ y = y' := by
  omega

/-- The probe of a vertex is its lower left (on the bottom row: upper left) corner, and vertices
    are ranked by column: `corner_unique`.  Faces likewise with the coordinates exchanged. -/
theorem triangular {Lx Ly : Nat} (hx : 1 ≤ Lx) (hy : 1 ≤ Ly) :
    TriangularProbes (lattice Lx Ly) (stabs Lx Ly) probe rankOf := by
  refine triangular_of_supports (supp Lx Ly) letter
    (fun s hs => by obtain ⟨x, y, e, _⟩ := mem_stabs.mp hs; exact ⟨x, y, e⟩)
    (fun x y h => getStab_eq h) (supp_subset Lx Ly) ?_ ?_
  · intro x y hs
    rcases mem_stabs'.mp hs with h | h
    · obtain ⟨b, hb, e⟩ := probe_V h.mod4
      rw [e, letter_V h.mod4]
      unfold IsV at h
      exact ⟨rfl, mem_supp.mpr ⟨⟨Or.inl rfl, by omega⟩, by unfold IsQ; omega⟩⟩
    · obtain ⟨a, ha, e⟩ := probe_F h.ne2
      rw [e, letter_F h.ne2]
      unfold IsF at h
      exact ⟨rfl, mem_supp.mpr ⟨⟨by omega, Or.inl rfl⟩, by unfold IsQ; omega⟩⟩
  · intro x y x' y' hs ht hne hle
    rcases mem_stabs'.mp hs with h | h <;> rcases mem_stabs'.mp ht with h' | h'
    · obtain ⟨b, hb, e⟩ := probe_V h.mod4
      rw [rankOf_V h.mod4, rankOf_V h'.mod4] at hle
      have hle' : x ≤ x' := by have := h.2.2.1; have := h'.2.2.1; omega
      have hb' : b = y - 1 ∨ b = y + 1 := by omega
      rw [e]
      rintro ⟨-, hm⟩
      obtain ⟨hmx, hmy⟩ := (mem_supp.mp hm).1
      exact hne (corner_unique hle' hb' hmx hmy (by rw [h.mod4, h'.mod4]))
    · obtain ⟨b, hb, e⟩ := probe_V h.mod4
      rw [e, letter_F h'.ne2]
      exact fun e => Bool.false_ne_true e.1
    · obtain ⟨a, ha, e⟩ := probe_F h.ne2
      rw [e, letter_V h'.mod4]
      exact fun e => Bool.false_ne_true e.1
    · obtain ⟨a, ha, e⟩ := probe_F h.ne2
      rw [rankOf_F h.ne2, rankOf_F h'.ne2] at hle
      have hle' : y ≤ y' := by have := h.2.2.2.2.1; have := h'.2.2.2.2.1; omega
      have ha' : a = x - 1 ∨ a = x + 1 := by omega
      rw [e]
      rintro ⟨-, hm⟩
      obtain ⟨hmx, hmy⟩ := (mem_supp.mp hm).1
      exact hne (corner_unique hle' ha' hmy hmx
        (by rw [Int.add_comm, h.mod4, Int.add_comm, h'.mod4])).symm

/-- the generators at all stabilizer locations are independent, for every size `Lx, Ly ≥ 1` -/
theorem indep_all {Lx Ly : Nat} (hx : 1 ≤ Lx) (hy : 1 ≤ Ly) :
    IndepGenerators (lattice Lx Ly) (stabs Lx Ly) :=
  indep_of_triangular (triangular hx hy)

end Panqec.RotatedPlanar2DCode
