/-
Planar2DCode, all sizes `Lx, Ly ≥ 1`: the record `Lattice.Css` of the class (`css`, through
`css_of_supports`), its projections `wf` and `commPair`, the size formulas and `qubit_axis` on
qubits.
-/
import PanqecVerif.Proofs.LatPlanar2DCodeComm

namespace Panqec.Planar2DCode
open Panqec.Lat2D

theorem isV_of_letter {Lx Ly : Nat} {x y : Int} (h : [x, y] ∈ (lattice Lx Ly).stabs)
    (e : letter x = Pauli.Z) : IsV Lx Ly x y := by
  rcases mem_stabs'.mp h with h | h
  · exact h
  · rw [letter_F h.1] at e; exact absurd e (by decide)
theorem isF_of_letter {Lx Ly : Nat} {x y : Int} (h : [x, y] ∈ (lattice Lx Ly).stabs)
    (e : letter x = Pauli.X) : IsF Lx Ly x y := by
  rcases mem_stabs'.mp h with h | h
  · rw [letter_V h.1] at e; exact absurd e (by decide)
  · exact h

theorem stabs_pair {Lx Ly : Nat} : ∀ s ∈ (lattice Lx Ly).stabs, ∃ x y, s = [x, y] := fun s hs => by
  obtain ⟨x, y, e, _⟩ := mem_stabs.mp hs; exact ⟨x, y, e⟩

theorem css {Lx Ly : Nat} (hx : 1 ≤ Lx) (hy : 1 ≤ Ly) :
    (lattice Lx Ly).Css (SuppKeys (lattice Lx Ly) (supp Lx Ly) (fun x _ => letter x) .Z)
      (SuppKeys (lattice Lx Ly) (supp Lx Ly) (fun x _ => letter x) .X) (· = kX Lx) (· = kZ Ly) :=
  css_of_supports (supp Lx Ly) (fun x _ => letter x)
    (qubits_nodup := nodup_qubits Lx Ly) (stabs_nodup := nodup_stabs Lx Ly)
    (disjoint := qubits_stabs_disjoint Lx Ly) (shape := stabs_pair)
    (stab := fun _ _ h => getStab_eq h)
    (letters := fun x _ => (letter_cases x).imp And.right And.right)
    (supp_nodup := nodup_supp Lx Ly) (supp_sub := supp_subset Lx Ly)
    (supp_ne := fun _ _ h => supp_nonempty (mem_stabs'.mp h))
    (logX := logX_eq Lx Ly) (logZ := logZ_eq Lx Ly) (kX_nodup := nodup_kX Lx)
    (kZ_nodup := nodup_kZ Ly) (kX_sub := kX_subset hy) (kZ_sub := kZ_subset hx)
    (zx := fun _ _ _ _ hs ht e e' => vertex_face_even (isV_of_letter hs e) (isF_of_letter ht e'))
    (zLX := fun _ _ hs e => supp_kX (isV_of_letter hs e))
    (xLZ := fun _ _ hs e => supp_kZ (isF_of_letter hs e)) (cross := kX_kZ hx hy)

theorem commPair {Lx Ly : Nat} (hx : 1 ≤ Lx) (hy : 1 ≤ Ly) : (lattice Lx Ly).CommPair :=
  (css hx hy).commPair

theorem pairing {Lx Ly : Nat} (hx : 1 ≤ Lx) (hy : 1 ≤ Ly) :
    ∀ i j, i < (lattice Lx Ly).logX.length → j < (lattice Lx Ly).logZ.length →
      opAntiCount ((lattice Lx Ly).logX.getD i []) ((lattice Lx Ly).logZ.getD j []) % 2
        = if i = j then 1 else 0 :=
  (commPair hx hy).pairing

theorem wf {Lx Ly : Nat} (hx : 1 ≤ Lx) (hy : 1 ≤ Ly) : (lattice Lx Ly).WF :=
  (css hx hy).wf

theorem length_qubits (Lx Ly : Nat) :
    (qubits Lx Ly).length = Lx * Ly + (Lx - 1) * (Ly - 1) := by
  unfold qubits
  simp only [List.length_append, length_grid, length_pyRange2]
  congr 2 <;> omega

theorem length_stabs (Lx Ly : Nat) :
    (stabs Lx Ly).length = (Lx - 1) * Ly + Lx * (Ly - 1) := by
  unfold stabs
  simp only [List.length_append, length_grid, length_pyRange2]
  congr 2 <;> omega

theorem qubitAxis_of_mem {Lx Ly : Nat} {q : Coord} (h : q ∈ qubits Lx Ly) :
    ∃ x y, q = [x, y] ∧
      ((x % 2 = 1 ∧ y % 2 = 0 ∧ qubitAxis q = some "x") ∨
       (x % 2 = 0 ∧ y % 2 = 1 ∧ qubitAxis q = some "y")) := by
  obtain ⟨x, y, rfl, hq⟩ := mem_qubits.mp h
  refine ⟨x, y, rfl, ?_⟩
  unfold IsQ at hq
  unfold qubitAxis
  rcases hq with ⟨h1, h2, _⟩ | ⟨h1, h2, _⟩
  · left; simp [h1, h2]
  · right; simp [h1, h2]

end Panqec.Planar2DCode
