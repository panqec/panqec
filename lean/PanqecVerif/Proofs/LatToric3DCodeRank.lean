/-
`Toric3DCode`, every size with `2 ≤ Lx, Ly, Lz`: an explicit family of `n − k = 3·Lx·Ly·Lz − 3`
stabilizer generators that is GF(2)-independent (the rank clause).  With `T = 2Lz − 1` the top
layer:
* vertices: all but the origin (the product of all vertex operators is the identity);
* xz and yz faces of the layers `z < T`, plus, in the top layer, a spanning tree of the 2-D torus
  graph whose edges are the vertical faces: the "teeth" yz `(x, y, T)` with `y ≤ 2Ly − 3` and the
  "spine" xz `(x, 0, T)` with `x ≤ 2Lx − 3`;
* xy faces of the layer `z = 0` only, all but the corner `(2Lx−1, 2Ly−1, 0)`.
`Lx·Ly·Lz + 2` faces are left out (one per independent cube relation and the three torus planes).
Independence by the triangular criterion (`opsIndep_of_letters`): each member has a witness edge
(a vertex: the edge towards the origin along the first non-zero coordinate; a face below the top
layer: the edge above it; a tooth / spine face: the z edge at its far end; an xy face: its far
y / x edge).  The other vertex on the witness of a vertex is nearer to the origin; every other
member face on the witness of a face is nearer to the far corner (the faces that would be reached
across the period are the ones left out).  So the coordinate sum serves as rank, with the opposite
sign for the faces.
-/
import Mathlib.Tactic.Ring
import PanqecVerif.Proofs.LatCubic3DRank
import PanqecVerif.Proofs.LatToric3DCodeCss

namespace Panqec.Toric3DCode
open Panqec.Cubic3D

variable {Lx Ly Lz : Nat} {x y z : Int}

/-- a face of the family, with the key list of its operator -/
def FamFace (Lx Ly Lz : Nat) (x y z : Int) (ks : List Coord) : Prop :=
  (isFace Lx Ly Lz .z z x y ∧ z = 0 ∧ (x < 2 * Lx - 1 ∨ y < 2 * Ly - 1) ∧
    ks = faceKeys Lx Ly Lz .z z x y) ∨
  (isFace Lx Ly Lz .x x y z ∧ (z = 2 * Lz - 1 → y < 2 * Ly - 1) ∧
    ks = faceKeys Lx Ly Lz .x x y z) ∨
  (isFace Lx Ly Lz .y y x z ∧ (z = 2 * Lz - 1 → y = 0 ∧ x < 2 * Lx - 1) ∧
    ks = faceKeys Lx Ly Lz .y y x z)

theorem rankFamily_cases (hLx : 1 ≤ Lx) (hLy : 1 ≤ Ly) (hLz : 1 ≤ Lz) {s : Coord}
    (h : s ∈ rankFamily Lx Ly Lz) :
    ∃ x y z, s = [x, y, z] ∧
      ((isVertex Lx Ly Lz x y z ∧ 0 < x + y + z) ∨ ∃ ks, FamFace Lx Ly Lz x y z ks) := by
  simp only [rankFamily, List.mem_append, mem_grid, mem_range2, List.mem_singleton] at h
  rcases h with (((((((h | h) | h) | h) | h) | h) | h) | h) | h <;>
    obtain ⟨x, hx, y, hy, z, hz, rfl⟩ := h <;> refine ⟨x, y, z, rfl, ?_⟩ <;>
    simp only [FamFace, isVertex, isFace, sz, Axis.fst, Axis.snd, isE, isO]
  · exact .inl (by omega)
  · exact .inl (by omega)
  · exact .inl (by omega)
  · exact .inr ⟨_, .inr (.inr ⟨by omega, by omega, rfl⟩)⟩
  · exact .inr ⟨_, .inr (.inl ⟨by omega, by omega, rfl⟩)⟩
  · exact .inr ⟨_, .inr (.inl ⟨by omega, by omega, rfl⟩)⟩
  · exact .inr ⟨_, .inr (.inr ⟨by omega, by omega, rfl⟩)⟩
  · exact .inr ⟨_, .inl ⟨by omega, by omega, by omega, rfl⟩⟩
  · exact .inr ⟨_, .inl ⟨by omega, by omega, by omega, rfl⟩⟩

theorem FamFace.isStab (h : FamFace Lx Ly Lz x y z ks) : [x, y, z] ∈ stabs Lx Ly Lz :=
  mem_stabs.mpr (.inr (h.imp (fun h => ⟨h.1.2.1, h.1.2.2, h.1.1⟩)
    (Or.imp And.left fun h => ⟨h.1.2.1, h.1.1, h.1.2.2⟩)))

theorem rankFamily_sub (hLx : 1 ≤ Lx) (hLy : 1 ≤ Ly) (hLz : 1 ≤ Lz) :
    ∀ s ∈ rankFamily Lx Ly Lz, s ∈ stabs Lx Ly Lz := by
  intro s hs
  obtain ⟨x, y, z, rfl, hv | ⟨ks, hf⟩⟩ := rankFamily_cases hLx hLy hLz hs
  · exact mem_stabs.mpr (.inl hv.1)
  · exact hf.isStab

theorem nodup_append_grid {l : List Coord} {xs ys zs : List Int} (hl : l.Nodup) (hx : xs.Nodup)
    (hy : ys.Nodup) (hz : zs.Nodup) (h : ∀ x ∈ xs, ∀ y ∈ ys, ∀ z ∈ zs, [x, y, z] ∉ l) :
    (l ++ grid xs ys zs).Nodup := by
  refine List.nodup_append.mpr ⟨hl, nodup_grid hx hy hz, ?_⟩
  rintro q hq _ hq' rfl
  obtain ⟨x, hx, y, hy, z, hz, rfl⟩ := mem_grid.mp hq'
  exact h x hx y hy z hz hq

theorem rankFamily_nodup : (rankFamily Lx Ly Lz).Nodup := by
  have r := nodup_range2
  have s := List.nodup_singleton (α := Int)
  unfold rankFamily
  refine nodup_append_grid (nodup_append_grid (nodup_append_grid (nodup_append_grid
    (nodup_append_grid (nodup_append_grid (nodup_append_grid (nodup_append_grid
    (nodup_grid (r _ _) (r _ _) (r _ _)) (s _) (r _ _) (r _ _) ?_) (s _) (s _) (r _ _) ?_)
    (r _ _) (r _ _) (r _ _) ?_) (r _ _) (r _ _) (r _ _) ?_) (r _ _) (r _ _) (s _) ?_)
    (r _ _) (s _) (s _) ?_) (s _) (r _ _) (s _) ?_) (r _ _) (r _ _) (s _) ?_
  -- each block differs from the earlier ones in a parity, a layer or a bound
  all_goals
    intro x hx y hy z hz h
    simp only [List.mem_append, mem_grid3, mem_range2, List.mem_singleton] at hx hy hz h
    omega

theorem rankFamily_length (hLx : 1 ≤ Lx) (hLy : 1 ≤ Ly) (hLz : 1 ≤ Lz) :
    (rankFamily Lx Ly Lz).length = (qubits Lx Ly Lz).length - 3 := by
  rw [qubits_length]
  simp only [rankFamily, List.length_append, length_grid, length_rangeE, length_rangeO0,
    length_rangeE2, length_rangeO, List.length_singleton]
  obtain ⟨a, rfl⟩ : ∃ a, Lx = a + 1 := ⟨Lx - 1, by omega⟩
  obtain ⟨b, rfl⟩ : ∃ b, Ly = b + 1 := ⟨Ly - 1, by omega⟩
  obtain ⟨c, rfl⟩ : ∃ c, Lz = c + 1 := ⟨Lz - 1, by omega⟩
  simp only [Nat.add_sub_cancel]
  have : a * (b + 1) * (c + 1) + 1 * b * (c + 1) + 1 * 1 * c + (a + 1) * (b + 1) * c +
      (a + 1) * (b + 1) * c + (a + 1) * b * 1 + a * 1 * 1 + 1 * b * 1 + a * (b + 1) * 1 + 3 =
      3 * ((a + 1) * (b + 1) * (c + 1)) := by ring
  omega

/-- vertices by their distance from the origin, faces by their distance from the far corner -/
def rk : Coord → Int
  | [x, y, z] => if x % 2 = 0 ∧ y % 2 = 0 then x + y + z else -(x + y + z)
  | _ => 0

def wit (Lx _ Lz : Nat) : Coord → Coord
  | [x, y, z] =>
    if x % 2 = 0 ∧ y % 2 = 0 then
      if x ≠ 0 then [x - 1, y, z] else if y ≠ 0 then [x, y - 1, z] else [x, y, z - 1]
    else if z % 2 = 0 then
      if x = 2 * (Lx : Int) - 1 then [x, y + 1, z] else [x + 1, y, z]
    else if z ≠ 2 * (Lz : Int) - 1 then [x, y, z + 1]
    else if x % 2 = 0 then [x, y + 1, z] else [x + 1, y, z]
  | q => q

section triangular
variable (hLx : 2 ≤ Lx) (hLy : 2 ≤ Ly) (hLz : 2 ≤ Lz)

include hLx hLy hLz in
theorem getStab_famFace {ks : List Coord} (h : FamFace Lx Ly Lz x y z ks) :
    getStab Lx Ly Lz [x, y, z] = uop ks Pauli.X := by
  rcases h with ⟨h, _, _, rfl⟩ | ⟨h, _, rfl⟩ | ⟨h, _, rfl⟩
  · exact getStab_face (ax := .z) hLx hLy h
  · exact getStab_face (ax := .x) hLy hLz h
  · exact getStab_face (ax := .y) hLx hLz h

theorem predW_of_ne {u P : Int} (h : u ≠ 0) : predW u P = u - 1 := if_neg h

/-- the witness of a vertex `s` is the edge from `s` towards the origin; its other end is nearer
    to the origin -/
theorem tri_vertex (hs : isVertex Lx Ly Lz x y z) (h0 : 0 < x + y + z) :
    wit Lx Ly Lz [x, y, z] ∈ vertexKeys Lx Ly Lz x y z ∧
      ∀ a b c, isVertex Lx Ly Lz a b c → wit Lx Ly Lz [x, y, z] ∈ vertexKeys Lx Ly Lz a b c →
        [a, b, c] = [x, y, z] ∨ rk [a, b, c] < rk [x, y, z] := by
  simp only [isVertex, isE] at hs
  have hw : wit Lx Ly Lz [x, y, z] =
      if x ≠ 0 then [x - 1, y, z] else if y ≠ 0 then [x, y - 1, z] else [x, y, z - 1] := by
    simp [wit, hs.1.2.2, hs.2.1.2.2]
  have hr : rk [x, y, z] = x + y + z := by simp [rk, hs.1.2.2, hs.2.1.2.2]
  rw [hw, hr]
  constructor
  · split_ifs with hx hy
    · simp [vertexKeys, predW_of_ne hx]
    · simp [vertexKeys, predW_of_ne hy]
    · simp [vertexKeys, predW_of_ne (show z ≠ 0 by omega)]
  · intro a b c ht hm
    simp only [isVertex, isE] at ht
    have hr' : rk [a, b, c] = a + b + c := by simp [rk, ht.1.2.2, ht.2.1.2.2]
    rw [hr']
    -- by parity only the two neighbours of `t` along the axis of the witness can be the witness
    have ea : ¬ x - 1 = a := by omega
    have eb : ¬ y - 1 = b := by omega
    have ec : ¬ z - 1 = c := by omega
    simp only [vertexKeys, List.mem_cons, List.not_mem_nil, or_false] at hm
    simp only [List.cons.injEq, and_true]
    split_ifs at hm <;>
      simp only [List.cons.injEq, and_true, ea, eb, ec, false_and, and_false, or_false,
        false_or] at hm
    · have := predW_spec a (2 * (Lx : Int)); omega
    · have := predW_spec b (2 * (Ly : Int)); omega
    · have := predW_spec c (2 * (Lz : Int)); omega

theorem rk_face {u v w : Int} (h : ¬ (u % 2 = 0 ∧ v % 2 = 0)) : rk [u, v, w] = -(u + v + w) :=
  if_neg h

include hLx hLy hLz in
/-- the witness of a face `s` is an edge of `s` on its far side; the other faces of the family on
    that edge lie further from the origin -/
theorem tri_face {ks : List Coord} (hs : FamFace Lx Ly Lz x y z ks) :
    wit Lx Ly Lz [x, y, z] ∈ ks ∧
      ∀ a b c kt, FamFace Lx Ly Lz a b c kt → wit Lx Ly Lz [x, y, z] ∈ kt →
        [a, b, c] = [x, y, z] ∨ rk [a, b, c] < rk [x, y, z] := by
  simp only [FamFace, isFace, sz, Axis.fst, Axis.snd, isE, isO] at hs
  have hw : wit Lx Ly Lz [x, y, z] =
      if z % 2 = 0 then if x = 2 * (Lx : Int) - 1 then [x, y + 1, z] else [x + 1, y, z]
      else if z ≠ 2 * (Lz : Int) - 1 then [x, y, z + 1]
      else if x % 2 = 0 then [x, y + 1, z] else [x + 1, y, z] :=
    if_neg (by omega)
  rw [hw, rk_face (u := x) (v := y) (by omega)]
  clear hw
  -- the three kinds of `s`; in each the parities decide all but one test of the witness
  rcases hs with ⟨hs, h1, h2, rfl⟩ | ⟨hs, h1, rfl⟩ | ⟨hs, h1, rfl⟩ <;>
    [simp only [hs.2.1.2.2, hs.1.2.2, one_ne_zero, if_true, if_false];
     simp only [hs.1.2.2, hs.2.2.2.2, one_ne_zero, if_true, if_false];
     simp only [hs.2.1.2.2, hs.2.2.2.2, one_ne_zero, if_false]]
  all_goals
    refine ⟨?_, fun a b c kt ht hm => ?_⟩
    · have sx := succW_spec x (2 * (Lx : Int))
      have sy := succW_spec y (2 * (Ly : Int))
      have sz := succW_spec z (2 * (Lz : Int))
      simp only [mem_faceKeys, ins, Toric3DCode.sz, Axis.fst, Axis.snd]
      split_ifs <;> simp only [List.cons.injEq, and_true, true_and] <;> omega
    · have sa := succW_spec a (2 * (Lx : Int))
      have sb := succW_spec b (2 * (Ly : Int))
      have sc := succW_spec c (2 * (Lz : Int))
      simp only [FamFace, isFace, sz, Axis.fst, Axis.snd, isE, isO] at ht
      rw [rk_face (u := a) (v := b) (by omega)]
      simp only [List.cons.injEq, and_true]
      -- all coordinates lie inside the periods, so it is enough to compare the coordinate sums
      refine Or.imp_right (fun h => ?_) (?_ : _ ∨ x + y + z < a + b + c)
      · clear ht hm; omega
      rcases ht with ⟨ht, h3, h4, rfl⟩ | ⟨ht, h3, rfl⟩ | ⟨ht, h3, rfl⟩ <;>
        simp only [mem_faceKeys, ins, Toric3DCode.sz, Axis.fst, Axis.snd] at hm <;>
        split_ifs at hm <;> simp only [List.cons.injEq, and_true] at hm <;> omega

include hLx hLy hLz in
theorem rankFamily_indep : OpsIndep ((rankFamily Lx Ly Lz).map (getStab Lx Ly Lz)) := by
  have h1 : ∀ {L : Nat}, 2 ≤ L → 1 ≤ L := fun h => by omega
  refine opsIndep_of_letters rankFamily_nodup rk (wit Lx Ly Lz)
    (fun s k => ∃ x y z, s = [x, y, z] ∧ isVertex Lx Ly Lz x y z ∧ 0 < x + y + z ∧
      k = vertexKeys Lx Ly Lz x y z)
    (fun s k => ∃ x y z, s = [x, y, z] ∧ FamFace Lx Ly Lz x y z k) ?_ ?_ ?_ ?_ ?_
  · intro s hs
    obtain ⟨x, y, z, rfl, ⟨hv, h0⟩ | ⟨ks, hf⟩⟩ := rankFamily_cases (h1 hLx) (h1 hLy) (h1 hLz) hs
    exacts [.inl ⟨_, x, y, z, rfl, hv, h0, rfl⟩, .inr ⟨ks, x, y, z, rfl, hf⟩]
  · rintro _ _ ⟨x, y, z, rfl, hv, -, rfl⟩
    exact getStab_vertex hLx hLy hLz hv
  · rintro _ _ ⟨x, y, z, rfl, hf⟩
    exact getStab_famFace hLx hLy hLz hf
  · rintro _ - _ ⟨x, y, z, rfl, hv, h0, rfl⟩
    refine ⟨(tri_vertex hv h0).1, ?_⟩
    rintro _ - _ ⟨a, b, c, rfl, hv', -, rfl⟩ hm
    exact (tri_vertex hv h0).2 a b c hv' hm
  · rintro _ - _ ⟨x, y, z, rfl, hf⟩
    refine ⟨(tri_face hLx hLy hLz hf).1, ?_⟩
    rintro _ - _ ⟨a, b, c, rfl, hf'⟩ hm
    exact (tri_face hLx hLy hLz hf).2 a b c _ hf' hm

end triangular

end Panqec.Toric3DCode
