/-
Helper lemmas about `Model/Analysis.lean` (C15): containers, grouping, pooled counts.
Core Lean only.
-/
import PanqecVerif.Model.Analysis
import PanqecVerif.Proofs.ExceptList

namespace Panqec.An

theorem flattenList_eq_flatMap : ∀ l : List Data, flattenList l = l.flatMap Data.flatten
  | [] => by simp [flattenList]
  | d :: ds => by simp [flattenList, flattenList_eq_flatMap ds]

theorem flattenList_append (a b : List Data) : flattenList (a ++ b) = flattenList a ++ flattenList b := by
  simp [flattenList_eq_flatMap]

theorem flatten_list (l : List Data) : (Data.list l).flatten = flattenList l := by
  simp [Data.flatten]

theorem flattenList_perm {a b : List Data} (h : a.Perm b) : (flattenList a).Perm (flattenList b) := by
  rw [flattenList_eq_flatMap, flattenList_eq_flatMap]
  exact h.flatMap_right _

/-- one Monte-Carlo trial record: effective error (2k bits), success, codespace -/
structure Trial where
  row : List Nat
  su : Bool
  cs : Bool
  deriving Repr, DecidableEq

/-- the entry that stores the given trials (what `get_results_to_save` writes) -/
def Entry.ofTrials (id : Nat) (rate : Rat) (k : Nat) (wall : Rat) (ts : List Trial) : Entry :=
  { inputId := id, rate := rate, k := k, wall := wall, ee := ts.map (·.row),
    success := ts.map (·.su), codespace := ts.map (·.cs) }

/-- the three columns have the same length -/
def Entry.WF (e : Entry) : Prop :=
  e.success.length = e.ee.length ∧ e.codespace.length = e.ee.length

def zip3 : List (List Nat) → List Bool → List Bool → List Trial
  | r :: rs, s :: ss, c :: cs => ⟨r, s, c⟩ :: zip3 rs ss cs
  | _, _, _ => []

/-- the trials stored in an entry -/
def Entry.trials (e : Entry) : List Trial := zip3 e.ee e.success e.codespace

theorem zip3_map (ts : List Trial) : zip3 (ts.map (·.row)) (ts.map (·.su)) (ts.map (·.cs)) = ts := by
  induction ts with
  | nil => rfl
  | cons t ts ih => simp [zip3, ih]

theorem zip3_cols : ∀ (a : List (List Nat)) (b c : List Bool), b.length = a.length → c.length = a.length →
    (zip3 a b c).map (·.row) = a ∧ (zip3 a b c).map (·.su) = b ∧ (zip3 a b c).map (·.cs) = c
  | [], [], [], _, _ => by simp [zip3]
  | [], _ :: _, _, h, _ => by simp at h
  | [], [], _ :: _, _, h => by simp at h
  | _ :: _, [], _, h, _ => by simp at h
  | _ :: _, _ :: _, [], _, h => by simp at h
  | r :: rs, s :: ss, c :: cs, h1, h2 => by
    have := zip3_cols rs ss cs (by simpa using h1) (by simpa using h2)
    simp [zip3, this]

theorem Entry.trials_ofTrials (id : Nat) (rate : Rat) (k : Nat) (wall : Rat) (ts : List Trial) :
    (Entry.ofTrials id rate k wall ts).trials = ts := zip3_map ts

theorem Entry.ofTrials_wf (id : Nat) (rate : Rat) (k : Nat) (wall : Rat) (ts : List Trial) :
    (Entry.ofTrials id rate k wall ts).WF := by simp [Entry.WF, Entry.ofTrials]

theorem Entry.WF.cols {e : Entry} (h : e.WF) :
    e.ee = e.trials.map (·.row) ∧ e.success = e.trials.map (·.su) ∧ e.codespace = e.trials.map (·.cs) := by
  have := zip3_cols e.ee e.success e.codespace h.1 h.2
  exact ⟨this.1.symm, this.2.1.symm, this.2.2.symm⟩

/-- the pooled trials of a list of entries (in reading order) -/
def pool (ms : List Entry) : List Trial := ms.flatMap Entry.trials

theorem pool_append (a b : List Entry) : pool (a ++ b) = pool a ++ pool b := by simp [pool]

theorem pool_perm {a b : List Entry} (h : a.Perm b) : (pool a).Perm (pool b) := h.flatMap_right _

theorem flatMap_cols : ∀ ms : List Entry, (∀ e ∈ ms, e.WF) →
    ms.flatMap (·.ee) = (pool ms).map (·.row) ∧ ms.flatMap (·.success) = (pool ms).map (·.su) ∧
    ms.flatMap (·.codespace) = (pool ms).map (·.cs)
  | [], _ => by simp [pool]
  | e :: ms, h => by
    have he := (h e (by simp)).cols
    have ih := flatMap_cols ms (fun e' h' => h e' (by simp [h']))
    simp only [List.flatMap_cons, pool, List.map_append] at ih ⊢
    refine ⟨?_, ?_, ?_⟩
    · rw [ih.1, ← he.1]
    · rw [ih.2.1, ← he.2.1]
    · rw [ih.2.2, ← he.2.2]

theorem sum_lengths : ∀ ms : List Entry, (ms.map fun e => e.ee.length).sum = (ms.flatMap (·.ee)).length
  | [] => rfl
  | e :: ms => by
    have ih := sum_lengths ms
    simp only [List.map_cons, List.sum_cons, List.flatMap_cons, List.length_append, ih]

structure Group.IsPool (g : Group) (P : List Trial) : Prop where
  ee : g.ee = P.map (·.row)
  success : g.success = P.map (·.su)
  codespace : g.codespace = P.map (·.cs)
  nTrials : g.nTrials = P.length

theorem mkGroup_isPool {κ : Key} {ms : List Entry} {g : Group} (h : mkGroup κ ms = .ok g)
    (wf : ∀ e ∈ ms, e.WF) : g.IsPool (pool ms) := by
  unfold mkGroup at h
  split at h
  · injection h with h
    subst h
    have c := flatMap_cols ms wf
    refine ⟨c.1, c.2.1, c.2.2, ?_⟩
    show (ms.map fun e => e.ee.length).sum = (pool ms).length
    rw [sum_lengths, c.1, List.length_map]
  · cases h

theorem mkGroup_key {κ : Key} {ms : List Entry} {g : Group} (h : mkGroup κ ms = .ok g) :
    g.key = κ ∧ g.k = (ms.head?.map (·.k)).getD 0 ∧
    g.shape = ((nonEmptyMembers ms).head?.map (·.shape)).getD none ∧
    g.wall = (ms.map (·.wall)).sum := by
  unfold mkGroup at h
  split at h
  · injection h with h; subst h; exact ⟨rfl, rfl, rfl, rfl⟩
  · cases h

/-- every stored row of the entry has width `W` (an entry without trials qualifies for every `W`) -/
def Entry.HasWidth (e : Entry) (W : Nat) : Prop := ∀ r ∈ e.ee, r.length = W

theorem Entry.HasWidth.shape {e : Entry} {W : Nat} (h : e.HasWidth W) (hne : e.ee ≠ []) :
    e.shape = some W := by
  unfold Entry.shape
  cases hee : e.ee with
  | nil => exact absurd hee hne
  | cons r rs => simp [h r (by simp [hee])]

theorem mem_nonEmptyMembers {ms : List Entry} {e : Entry} :
    e ∈ nonEmptyMembers ms ↔ e ∈ ms ∧ e.ee ≠ [] := by
  simp [nonEmptyMembers]

theorem shapesAgree_of_width {ms : List Entry} {W : Nat} (h : ∀ e ∈ ms, e.HasWidth W) :
    shapesAgree ms = true := by
  unfold shapesAgree
  cases hne : nonEmptyMembers ms with
  | nil => rfl
  | cons e rest =>
    have hmem : ∀ e' ∈ e :: rest, e' ∈ ms ∧ e'.ee ≠ [] := by
      intro e' he'; rw [← hne] at he'; exact mem_nonEmptyMembers.mp he'
    simp only [List.all_eq_true]
    intro e' he'
    have h1 := hmem e' (by simp [he'])
    have h2 := hmem e (by simp)
    rw [(h e' h1.1).shape h1.2, (h e h2.1).shape h2.2]
    simp

theorem mkGroup_ok_of_width {κ : Key} {ms : List Entry} {W : Nat} (h : ∀ e ∈ ms, e.HasWidth W) :
    ∃ g, mkGroup κ ms = .ok g := by
  unfold mkGroup
  rw [shapesAgree_of_width h]
  exact ⟨_, rfl⟩

/-- shape of the pooled array: `(0,)` when no member has trials, else `(rows, W)` -/
theorem head_shape_of_width : ∀ {ms : List Entry} {W : Nat}, (∀ e ∈ ms, e.HasWidth W) →
    ((nonEmptyMembers ms).head?.map (·.shape)).getD none =
      if ms.flatMap (·.ee) = [] then none else some W
  | [], _, _ => by simp [nonEmptyMembers]
  | e :: ms, W, h => by
    have ih := head_shape_of_width (ms := ms) (W := W) (fun e' he' => h e' (by simp [he']))
    by_cases hee : e.ee = []
    · have : nonEmptyMembers (e :: ms) = nonEmptyMembers ms := by
        simp [nonEmptyMembers, hee]
      rw [this, ih]
      simp [hee]
    · have : nonEmptyMembers (e :: ms) = e :: nonEmptyMembers ms := by
        simp [nonEmptyMembers, hee]
      rw [this]
      simp [(h e (by simp)).shape hee, hee]

theorem mkGroup_shape_of_width {κ : Key} {ms : List Entry} {W : Nat} {g : Group}
    (hg : mkGroup κ ms = .ok g) (wf : ∀ e ∈ ms, e.WF) (h : ∀ e ∈ ms, e.HasWidth W) :
    g.shape = if pool ms = [] then none else some W := by
  rw [(mkGroup_key hg).2.2.1, head_shape_of_width h, (flatMap_cols ms wf).1]
  simp

def specNFail (P : List Trial) : Nat := P.countP fun t => !t.su
def specCodespace (P : List Trial) : Nat := P.countP (·.cs)
/-- flagged logical bits of one sector among the in-codespace trials -/
def specSectorFails (kq : Nat) (sectorX : Bool) (P : List Trial) : Nat :=
  ((P.filter (·.cs)).map fun t => (if sectorX then t.row.take kq else t.row.drop kq).sum).sum
def specPattern (kq i t : Nat) (P : List Trial) : Nat :=
  P.countP fun tr => pauliHit t (tr.row.getD i 0) (tr.row.getD (kq + i) 0)

theorem specNFail_perm {P Q : List Trial} (h : P.Perm Q) : specNFail P = specNFail Q :=
  h.countP_eq _
theorem specCodespace_perm {P Q : List Trial} (h : P.Perm Q) : specCodespace P = specCodespace Q :=
  h.countP_eq _
theorem specSectorFails_perm (kq : Nat) (b : Bool) {P Q : List Trial} (h : P.Perm Q) :
    specSectorFails kq b P = specSectorFails kq b Q :=
  ((h.filter _).map _).sum_nat
theorem specPattern_perm (kq i t : Nat) {P Q : List Trial} (h : P.Perm Q) :
    specPattern kq i t P = specPattern kq i t Q := h.countP_eq _

theorem specNFail_append (P Q : List Trial) : specNFail (P ++ Q) = specNFail P + specNFail Q := by
  simp [specNFail]
theorem specCodespace_append (P Q : List Trial) :
    specCodespace (P ++ Q) = specCodespace P + specCodespace Q := by simp [specCodespace]
theorem specSectorFails_append (kq : Nat) (b : Bool) (P Q : List Trial) :
    specSectorFails kq b (P ++ Q) = specSectorFails kq b P + specSectorFails kq b Q := by
  simp [specSectorFails]
theorem specPattern_append (kq i t : Nat) (P Q : List Trial) :
    specPattern kq i t (P ++ Q) = specPattern kq i t P + specPattern kq i t Q := by
  simp [specPattern]

theorem countTrue_map_su (P : List Trial) : countTrue (P.map (·.su)) = P.countP (·.su) := by
  simp [countTrue, List.countP_map, Function.comp_def]

theorem countTrue_map_cs (P : List Trial) : countTrue (P.map (·.cs)) = specCodespace P := by
  simp [countTrue, specCodespace, List.countP_map, Function.comp_def]

theorem length_eq_su_add_fail (P : List Trial) : P.length = P.countP (·.su) + specNFail P := by
  unfold specNFail
  induction P with
  | nil => rfl
  | cons t P ih =>
    cases hs : t.su <;> simp [hs] <;> omega

theorem Group.IsPool.nFail {g : Group} {P : List Trial} (h : g.IsPool P) :
    g.nFail = (specNFail P : Int) := by
  unfold Group.nFail
  rw [h.nTrials, h.success, countTrue_map_su]
  have := length_eq_su_add_fail P
  omega

theorem Group.IsPool.nTrialsSector {g : Group} {P : List Trial} (h : g.IsPool P) :
    g.nTrialsSector = g.k * specCodespace P := by
  unfold Group.nTrialsSector
  rw [h.codespace, countTrue_map_cs]

theorem Group.IsPool.nResults {g : Group} {P : List Trial} (h : g.IsPool P) :
    g.nResults = P.length := by
  unfold Group.nResults
  rw [h.ee, List.length_map]

theorem zip_filter_cols (P : List Trial) :
    (((P.map (·.row)).zip (P.map (·.cs))).filter (·.2)).map (·.1) = (P.filter (·.cs)).map (·.row) := by
  induction P with
  | nil => rfl
  | cons t P ih =>
    cases hc : t.cs <;> simp [hc, ih]

theorem Group.IsPool.countFails {g : Group} {P : List Trial} (h : g.IsPool P) {w : Nat}
    (hs : g.shape = some w) (b : Bool) : g.countFails b = .ok (specSectorFails (w / 2) b P) := by
  unfold Group.countFails
  rw [hs]
  simp only
  have hl : g.codespace.length = g.ee.length := by rw [h.codespace, h.ee]; simp
  rw [if_neg (by simp [hl])]
  rw [h.ee, h.codespace, zip_filter_cols]
  simp [specSectorFails, List.map_map, Function.comp_def]

theorem Group.IsPool.patternCount {g : Group} {P : List Trial} (h : g.IsPool P) (kq i t : Nat) :
    An.patternCount g.ee kq i t = specPattern kq i t P := by
  unfold An.patternCount specPattern
  rw [h.ee, List.countP_map]
  rfl

theorem Group.IsPool.singleCounts {g : Group} {P : List Trial} (h : g.IsPool P) {w : Nat}
    (hs : g.shape = some w) (hk : 0 < g.k) (hw : w / 2 + (g.k - 1) < w) :
    g.singleCounts = .ok (some ((List.range g.k).map fun i =>
      (List.range 4).map fun t => specPattern (w / 2) i t P)) := by
  unfold Group.singleCounts
  rw [hs]
  simp only
  rw [if_neg (by omega), if_pos hw]
  simp only [h.patternCount]

theorem groupOf_perm {a b : List Entry} (h : a.Perm b) (κ : Key) : (groupOf a κ).Perm (groupOf b κ) :=
  h.filter _

theorem groupOf_append (a b : List Entry) (κ : Key) : groupOf (a ++ b) κ = groupOf a κ ++ groupOf b κ := by
  simp [groupOf]

theorem mem_keysOf {es : List Entry} {κ : Key} : κ ∈ keysOf es ↔ ∃ e ∈ es, e.key = κ := by
  simp [keysOf, List.mem_eraseDups]

theorem mem_keysOf_perm {a b : List Entry} (h : a.Perm b) (κ : Key) : κ ∈ keysOf a ↔ κ ∈ keysOf b := by
  simp only [mem_keysOf]
  constructor
  · rintro ⟨e, he, hk⟩; exact ⟨e, h.mem_iff.mp he, hk⟩
  · rintro ⟨e, he, hk⟩; exact ⟨e, h.mem_iff.mpr he, hk⟩

theorem aggregate_spec {es : List Entry} {gs : List Group} (h : aggregate es = .ok gs) :
    (∀ g ∈ gs, ∃ κ ∈ keysOf es, mkGroup κ (groupOf es κ) = .ok g) ∧
    (∀ κ ∈ keysOf es, ∃ g ∈ gs, mkGroup κ (groupOf es κ) = .ok g) :=
  mapM_except_ok _ _ _ h

/-! ### behaviour before commit ad5e045 (kept for the regression example of C15) -/

/-- `np.concatenate(x.values)` over *all* members: a member without trials (1-dimensional
    array) next to members with trials is a dimension mismatch -/
def oldShapesAgree : List Entry → Bool
  | [] => true
  | e :: rest => rest.all fun e' => e'.shape == e.shape

def oldAggregateOk (es : List Entry) : Bool :=
  (keysOf es).all fun κ => oldShapesAgree (groupOf es κ)

def isConcatError : Except Err (List Group) → Bool
  | .error .concat => true
  | _ => false

theorem isConcatError_iff (r : Except Err (List Group)) :
    isConcatError r = true ↔ r = .error .concat := by
  cases r with
  | error e => cases e <;> simp [isConcatError]
  | ok gs => simp [isConcatError]

/-! ### the four letters partition the trials of a qubit -/

theorem pauliHit_partition (x z : Nat) (hx : x < 2) (hz : z < 2) :
    (if pauliHit 0 x z then 1 else 0 : Nat) =
      (if pauliHit 1 x z then 1 else 0) + (if pauliHit 2 x z then 1 else 0) + (if pauliHit 3 x z then 1 else 0) := by
  have hx' : x = 0 ∨ x = 1 := by omega
  have hz' : z = 0 ∨ z = 1 := by omega
  rcases hx' with rfl | rfl <;> rcases hz' with rfl | rfl <;> decide

theorem getD_lt_two (r : List Nat) (h : ∀ x ∈ r, x < 2) (i : Nat) : r.getD i 0 < 2 := by
  rw [List.getD_eq_getElem?_getD]
  cases hi : r[i]? with
  | none => simp
  | some v => simpa using h v (List.mem_of_getElem? hi)

theorem countP_toNat {α : Type} (p : α → Bool) : ∀ l : List α, l.countP p = (l.map fun a => (p a).toNat).sum
  | [] => rfl
  | a :: l => by
    cases h : p a <;> simp [h, countP_toNat p l] <;> omega

theorem specPattern_partition (kq i : Nat) (P : List Trial) (hbin : ∀ t ∈ P, ∀ x ∈ t.row, x < 2) :
    specPattern kq i 0 P = specPattern kq i 1 P + specPattern kq i 2 P + specPattern kq i 3 P := by
  unfold specPattern
  induction P with
  | nil => rfl
  | cons t P ih =>
    have hb := hbin t List.mem_cons_self
    simp only [List.countP_cons, ih fun t' ht' => hbin t' (List.mem_cons_of_mem _ ht'),
      pauliHit_partition _ _ (getD_lt_two _ hb i) (getD_lt_two _ hb (kq + i))]
    omega

end Panqec.An
