/-
C12 helper lemmas: every event preserves the invariant `Inv`, and the file only grows (`FileLE`).
A micro-step outside the two renames and `runOne` keeps file, counter and the list in memory, so only
the rename and the loop condition are left to show (`Inv.frame`).  A results file left by any process
satisfies `Inv` (`inv_ghost`).
-/
import PanqecVerif.Proofs.Batch

namespace Panqec.Batch

theorem FileLE.rfl' (f : FileSt) : FileLE f f :=
  fun r hr => ⟨r, hr, rfl, List.prefix_rfl, List.prefix_rfl, List.prefix_rfl⟩

/-- reflexivity of `FileLE`, for a well-formed file; `FileLE.rfl'` is the same for any file -/
theorem FileLE.refl {f : FileSt} (_h : ∀ r ∈ fileDoc f, r.WF) : FileLE f f := FileLE.rfl' f

theorem FileLE.trans {f g h : FileSt} (a : FileLE f g) (b : FileLE g h) : FileLE f h := by
  intro r hr
  obtain ⟨r1, h1, i1, p1, q1, s1⟩ := a r hr
  obtain ⟨r2, h2, i2, p2, q2, s2⟩ := b r1 h1
  exact ⟨r2, h2, i2.trans i1, p1.trans p2, q1.trans q2, s1.trans s2⟩

/-- renaming the complete temporary file onto the results file -/
theorem fileLE_rename {f : FileSt} {mem : Doc} {next : Nat}
    (hdoc : IdsOK (fileDoc f) next) (hmem : IdsOK mem next)
    (pre : ∀ r ∈ fileDoc f, ∃ s ∈ mem, s.inputs = r.inputs ∧ r.ee <+: s.ee) :
    FileLE f (.complete mem) := by
  intro r hr
  obtain ⟨s, hs, hi, hp⟩ := pre r hr
  obtain ⟨⟨a1, a2, _⟩, _, _⟩ := hdoc.each r hr
  obtain ⟨⟨b1, b2, _⟩, _, _⟩ := hmem.each s hs
  refine ⟨s, hs, hi, hp, ?_, ?_⟩
  · rw [a1, b1]; exact hp
  · rw [a2, b2]; exact hp

theorem atRename_afterIter (n i : Nat) : (afterIter n i).atRename = false := by
  unfold afterIter; split <;> rfl

theorem atRename_afterSave (n i more : Nat) (retry : Bool) : (afterSave n i more retry).atRename = false := by
  unfold afterSave
  split
  · rfl
  · split
    · rfl
    · exact atRename_afterIter n i

theorem savesDue_last {n sf i : Nat} (h : i < n) (h2 : ¬ i + 1 < n) : savesDue n sf i ≠ 0 := by
  have : i = n - 1 := by omega
  unfold savesDue
  simp only [this]
  split <;> simp

/-- a move that keeps the results file, the identifier counter and the list of simulations in memory:
    only the rename condition and the loop condition are left to show -/
theorem Inv.frame {w : World} (h : Inv w) (p : Proc) (tmp : FileSt)
    (hspec : p.spec = w.proc.spec) (hn : p.n = w.proc.n) (hsf : p.sf = w.proc.sf)
    (hmem : p.mem = w.proc.mem)
    (hr : p.pc.atRename = true → tmp = .complete p.mem) (hl : LoopOK p w.disk.file) :
    Inv { w with disk := ⟨w.disk.file, tmp⟩, proc := p } :=
  ⟨h.atomicOK, h.fileOK, hmem ▸ h.memOK, h.docOK, by rw [hmem, hspec]; exact h.specMem,
    hsf ▸ h.sfOK, hmem ▸ h.pre, hr, by rw [hmem, hn]; exact h.counts, hl⟩

theorem Inv.set_pc {w : World} (h : Inv w) (pc : Pc) (ha : pc.atRename = false)
    (hl : LoopOK { w.proc with pc := pc } w.disk.file) : Inv { w with proc := { w.proc with pc := pc } } :=
  h.frame _ w.disk.tmp rfl rfl rfl rfl (fun hr => by rw [ha] at hr; cases hr) hl

theorem inv_step_trial {w : World} (h : Inv w) (i : Nat) (hpc : w.proc.pc = .trial i) :
    Inv (step w) ∧ (step w).disk.file = w.disk.file := by
  obtain ⟨fmt, atomic, ⟨file, tmp⟩, next, ⟨spec, n, sf, pc, front, back⟩⟩ := w
  simp only at hpc
  subst hpc
  obtain ⟨hi, hfront, hback⟩ : i < n ∧ (∀ s ∈ front, i + 1 ≤ s.nRuns) ∧ ∀ s ∈ back, i ≤ s.nRuns :=
    h.loopOK
  cases back with
  | nil =>
    have hne : ¬ (i > 0 ∧ sf = 0) := fun hh => absurd h.sfOK (by simp only [hh.2]; omega)
    simp only [step, if_neg hne]
    refine ⟨h.frame _ tmp rfl rfl rfl (by simp [Proc.mem]) (fun hr => ?_) ?_, trivial⟩
    · exfalso
      revert hr
      simp only
      split
      · simp [atRename_afterIter]
      · simp [Pc.atRename]
    · simp only [LoopOK]
      by_cases k : savesDue n sf i = 0
      · simp only [k, if_true]
        by_cases hi' : i + 1 < n
        · simp only [afterIter, hi', if_true]
          exact ⟨trivial, by simp, hfront⟩
        · exact absurd k (savesDue_last hi hi')
      · simp only [k, if_false]
        exact ⟨hi, trivial, hfront⟩
  | cons s rest =>
    obtain ⟨hs, hrest⟩ := List.forall_mem_cons.mp hback
    -- only a trial that is run changes memory (`runOne`: identifiers stay distinct, file records stay prefixes);
    -- the other moves regroup `front` and `back`, and the end of an iteration only sets the program counter
    by_cases hlt : s.nRuns < n
    · obtain ⟨hat, hfile, hmem, hdoc, hspec, hsf, hpre, -, hcnt, -⟩ := h
      simp only [Proc.mem, List.forall_mem_append, List.forall_mem_cons] at hmem hspec hpre hcnt
      simp only [step, hlt, if_true]
      refine ⟨⟨hat, hfile, idsOK_runOne hmem, hdoc.mono (Nat.le_succ _), ?_, hsf, pre_runOne hpre,
        by simp [Pc.atRename], ?_, ?_⟩, trivial⟩
      · show ((front ++ [s.runOne next]) ++ rest).map _ = spec
        rw [← hspec]; simp [runOne_inputs]
      · simp only [Proc.mem, List.forall_mem_append, List.forall_mem_singleton]
        exact ⟨⟨hcnt.1, hlt⟩, hcnt.2.2⟩
      · simp only [LoopOK, List.forall_mem_append, List.forall_mem_singleton]
        exact ⟨hi, ⟨hfront, Nat.succ_le_succ hs⟩, hrest⟩
    · simp only [step, hlt, if_false]
      refine ⟨h.frame _ tmp rfl rfl rfl (by simp [Proc.mem]) (fun hr => nomatch hr) ?_, trivial⟩
      have hn := h.counts s (by simp [Proc.mem])
      simp only [LoopOK, List.forall_mem_append, List.forall_mem_singleton]
      exact ⟨hi, ⟨hfront, by simp only at hn; omega⟩, hrest⟩

theorem loopOK_afterSave {spec : List Nat} {n sf i more : Nat} {retry : Bool} {mem : List Sim}
    (hi : i < n) (hb : ∀ s ∈ mem, i + 1 ≤ s.nRuns) :
    LoopOK ⟨spec, n, sf, afterSave n i more retry, [], mem⟩ (.complete mem) := by
  unfold afterSave
  split
  · simp [LoopOK]
  · split
    · exact ⟨hi, rfl, hb⟩
    · unfold afterIter
      split
      · rename_i h3
        exact ⟨h3, by simp, hb⟩
      · refine ⟨rfl, ?_, ?_⟩
        · intro s hs
          have := hb s hs
          show n ≤ s.nRuns
          omega
        · intro _ s hs
          exact hs

/-- inside `save_results`: the `isfile` test and the micro-operations of `save_json` -/
theorem inv_step_save {w : World} (h : Inv w) (i more : Nat) (retry : Bool) (ph : SavePh)
    (hpc : w.proc.pc = .save i more retry ph) :
    Inv (step w) ∧ FileLE w.disk.file (step w).disk.file := by
  obtain ⟨fmt, atomic, ⟨file, tmp⟩, next, ⟨spec, n, sf, pc, front, back⟩⟩ := w
  simp only at hpc
  subst hpc
  obtain rfl : atomic = true := h.atomicOK
  obtain ⟨hi, rfl, hb⟩ : i < n ∧ front = [] ∧ ∀ s ∈ back, i + 1 ≤ s.nRuns := h.loopOK
  cases ph with
  | chk =>
    simp only [step]
    refine ⟨h.set_pc _ ?_ ⟨hi, rfl, hb⟩, FileLE.rfl' _⟩
    split <;> rfl
  | first wr =>
    cases wr with
    | rename =>
      -- the file becomes the list in memory: `docOK` is `memOK`, `pre` is reflexivity
      obtain rfl : tmp = .complete back := h.renameOK rfl
      simp only [step, writeStep]
      exact ⟨⟨rfl, Or.inr ⟨_, rfl⟩, h.memOK, h.memOK, h.specMem, h.sfOK,
        fun r hr => ⟨r, hr, rfl, List.prefix_rfl⟩, nofun, h.counts, ⟨hi, rfl, hb⟩⟩,
        fileLE_rename h.docOK h.memOK h.pre⟩
    | _ =>
      simp only [step, writeStep, if_true]
      exact ⟨h.frame _ _ rfl rfl rfl rfl (by intro hr; first | rfl | cases hr) ⟨hi, rfl, hb⟩, FileLE.rfl' _⟩
  | second wr =>
    cases wr with
    | rename =>
      obtain rfl : tmp = .complete back := h.renameOK rfl
      simp only [step, writeStep]
      exact ⟨⟨rfl, Or.inr ⟨_, rfl⟩, h.memOK, h.memOK, h.specMem, h.sfOK,
        fun r hr => ⟨r, hr, rfl, List.prefix_rfl⟩,
        (fun hr => by rw [atRename_afterSave] at hr; cases hr), h.counts, loopOK_afterSave hi hb⟩,
        fileLE_rename h.docOK h.memOK h.pre⟩
    | _ =>
      simp only [step, writeStep, if_true]
      exact ⟨h.frame _ _ rfl rfl rfl rfl (by intro hr; first | rfl | cases hr) ⟨hi, rfl, hb⟩, FileLE.rfl' _⟩

theorem inv_step {w : World} (h : Inv w) : Inv (step w) ∧ FileLE w.disk.file (step w).disk.file := by
  cases hpc : w.proc.pc with
  | trial i =>
    obtain ⟨a, b⟩ := inv_step_trial h i hpc
    exact ⟨a, b ▸ FileLE.rfl' _⟩
  | save i more retry ph => exact inv_step_save h i more retry ph hpc
  | _ => simp only [step, hpc]; exact ⟨h, FileLE.rfl' _⟩

theorem inv_crash {w : World} (h : Inv w) : Inv (crash w) :=
  h.set_pc .killed rfl trivial

theorem inv_kbint {w : World} (h : Inv w) : Inv (kbint w) ∧ (kbint w).disk.file = w.disk.file := by
  have hl := h.loopOK
  cases hpc : w.proc.pc with
  | trial i => simp only [kbint, hpc]; exact ⟨h.set_pc .paused rfl trivial, trivial⟩
  | save i more retry ph =>
    cases retry with
    | false =>
      simp only [kbint, hpc]
      exact ⟨h.set_pc _ rfl (by simpa only [LoopOK, hpc] using hl), trivial⟩
    | true => simp only [kbint, hpc]; exact ⟨h.set_pc .paused rfl trivial, trivial⟩
  | _ => simp only [kbint, hpc]; exact ⟨h, trivial⟩

/-- the state right after `load_results` and `min(...)` of a new process -/
theorem inv_start_core {w : World} (h : Inv w) {spec : List Nat} {n sf : Nat}
    (hnd : spec.Nodup) (hsf : 1 ≤ sf)
    (hfile : ∀ r ∈ fileDoc w.disk.file, r.inputs ∈ spec ∧ r.nRuns ≤ n)
    (od : Option Doc) (hod : od = none ∨ od = some (fileDoc w.disk.file))
    (hnone : od = none → fileDoc w.disk.file = []) :
    Inv { w with proc := ⟨spec, n, sf,
      if minRuns (spec.map (loadSim od)) < n then .trial (minRuns (spec.map (loadSim od))) else .done,
      [], spec.map (loadSim od)⟩ } := by
  have hcases := loadSim_fresh_or_mem hod
  have hmemOK : IdsOK (spec.map (loadSim od)) w.next := idsOK_load h.docOK od hod hnd
  have hcounts : ∀ s ∈ spec.map (loadSim od), s.nRuns ≤ n := by
    intro s hs
    obtain ⟨x, _, rfl⟩ := List.mem_map.mp hs
    rcases hcases x with hx | ⟨hm, _⟩
    · rw [hx]; simp [fresh]
    · exact (hfile _ hm).2
  refine ⟨h.atomicOK, h.fileOK, by simpa [Proc.mem] using hmemOK, h.docOK, ?_, hsf, ?_, ?_,
    by simpa [Proc.mem] using hcounts, ?_⟩
  · simp [Proc.mem, List.map_map, Function.comp_def, loadSim_inputs]
  · intro r hr
    rcases hod with hh | hh
    · rw [hnone hh] at hr; cases hr
    · refine ⟨r, ?_, rfl, List.prefix_rfl⟩
      simp only [Proc.mem, List.nil_append]
      refine List.mem_map.mpr ⟨r.inputs, (hfile r hr).1, ?_⟩
      rw [hh]
      exact loadSim_of_mem h.docOK.inputsNodup hr
  · intro hr; exfalso; revert hr; simp only; split <;> simp [Pc.atRename]
  · by_cases hlt : minRuns (spec.map (loadSim od)) < n
    · simp only [LoopOK, if_pos hlt]
      exact ⟨hlt, by simp, fun s hs => minRuns_le _ s hs⟩
    · simp only [LoopOK, if_neg hlt]
      refine ⟨trivial, fun s hs => ?_, fun hn s hs => ?_⟩
      · have := minRuns_le _ s hs
        omega
      · have h1 := minRuns_le _ s hs
        obtain ⟨x, _, rfl⟩ := List.mem_map.mp hs
        rcases hcases x with hx | ⟨hm, _⟩
        · rw [hx] at h1; simp only [fresh] at h1; omega
        · exact hm

theorem inv_start {w : World} (h : Inv w) {spec : List Nat} {n sf : Nat}
    (hok : EvOK w (.start spec n sf)) :
    Inv (startProc w spec n sf) ∧ (startProc w spec n sf).disk.file = w.disk.file := by
  obtain ⟨hne, hnd, hsf, hfile⟩ := hok
  unfold startProc
  rw [if_neg hne]
  rcases h.fileOK with hf | ⟨d, hf⟩
  · have hr : readFile w.fmt w.disk.file = .ok none := by rw [hf]; rfl
    rw [hr]
    exact ⟨inv_start_core h hnd hsf hfile none (Or.inl rfl) (fun _ => by rw [hf]; rfl), rfl⟩
  · have hr : readFile w.fmt w.disk.file = .ok (some d) := by rw [hf]; rfl
    rw [hr]
    have hd : fileDoc w.disk.file = d := by rw [hf]; rfl
    exact ⟨inv_start_core h hnd hsf hfile (some d) (Or.inr (by rw [hd])) (fun hh => by cases hh), rfl⟩

theorem inv_apply {w : World} (h : Inv w) (e : Ev) (hok : EvOK w e) :
    Inv (apply w e) ∧ FileLE w.disk.file (apply w e).disk.file := by
  cases e with
  | start spec n sf =>
    obtain ⟨a, b⟩ := inv_start h hok
    exact ⟨a, by simp only [apply]; rw [b]; exact FileLE.rfl' _⟩
  | step => exact inv_step h
  | kbint =>
    obtain ⟨a, b⟩ := inv_kbint h
    exact ⟨a, by simp only [apply]; rw [b]; exact FileLE.rfl' _⟩
  | crash => exact ⟨inv_crash h, FileLE.rfl' _⟩
  | put f => exact absurd hok (by simp [EvOK])

theorem inv_run : ∀ (evs : List Ev) {w : World}, Inv w → AllOK w evs →
    Inv (runEvs w evs) ∧ FileLE w.disk.file (runEvs w evs).disk.file
  | [], w, h, _ => ⟨h, FileLE.rfl' _⟩
  | e :: es, w, h, hok => by
    obtain ⟨a, b⟩ := inv_apply h e hok.1
    obtain ⟨c, d⟩ := inv_run es a hok.2
    exact ⟨c, b.trans d⟩

/-- a world whose results file is an arbitrary well-formed document (left by whatever process:
    the ghost process below is killed and holds exactly the file's records) satisfies `Inv` -/
theorem inv_ghost (fmt : Fmt) (pre : FileSt) (next0 N : Nat)
    (hpre : pre = .absent ∨ ∃ d, pre = .complete d) (hd : IdsOK (fileDoc pre) next0)
    (hN : ∀ s ∈ fileDoc pre, s.nRuns ≤ N) :
    Inv ⟨fmt, true, ⟨pre, .absent⟩, next0,
      ⟨(fileDoc pre).map (·.inputs), N, 1, .killed, [], fileDoc pre⟩⟩ := by
  refine ⟨rfl, hpre, ?_, hd, ?_, Nat.le_refl _, ?_, ?_, ?_, ?_⟩
  · simpa [Proc.mem] using hd
  · simp [Proc.mem]
  · intro r hr
    exact ⟨r, by simpa [Proc.mem] using hr, rfl, List.prefix_rfl⟩
  · intro hr; cases hr
  · intro s hs
    exact hN s (by simpa [Proc.mem] using hs)
  · trivial

theorem inv_init (fmt : Fmt) : Inv (World.init fmt true) :=
  inv_ghost fmt .absent 0 0 (Or.inl rfl) (IdsOK.nil _) nofun

theorem runEvs_append (w : World) (a b : List Ev) : runEvs w (a ++ b) = runEvs (runEvs w a) b := by
  simp [runEvs, List.foldl_append]

theorem allOK_append : ∀ (a b : List Ev) (w : World), AllOK w (a ++ b) ↔ AllOK w a ∧ AllOK (runEvs w a) b
  | [], b, w => by simp [AllOK, runEvs]
  | e :: a, b, w => by
    have ih := allOK_append a b (apply w e)
    simp only [List.cons_append, AllOK, ih, runEvs, List.foldl_cons, and_assoc]

instance (w : World) (e : Ev) : Decidable (EvOK w e) := by
  cases e <;> unfold EvOK <;> infer_instance

instance decAllOK : (w : World) → (evs : List Ev) → Decidable (AllOK w evs)
  | _, [] => isTrue trivial
  | w, e :: es =>
    have := decAllOK (apply w e) es
    by unfold AllOK; infer_instance

end Panqec.Batch
