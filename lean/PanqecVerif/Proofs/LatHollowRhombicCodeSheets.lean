/-
HollowRhombicCode: sheets and stacks.  The listed logical X is the sheet `z = 4`, the listed logical
Z the stack over `(2Lx−1, 2Ly−2)`; the packing argument of C17 uses the sheets of every even height
and the stacks over every key of the listed sheet, so everything is proved for those and the listed
operators are instances.  A stack over a qubit of the sheet consists of qubits because the hole has
the same cross-section at every height it reaches, and reaches the height 4 whenever it reaches an
even height.  Unlike `RhombicPlanarCode`, no generator products are exhibited: a representative only
has to commute with all generators and to have the parities of the listed logical against the two
listed logicals (`Lattice.same_class`, C04 on the valid code).
-/
import PanqecVerif.Proofs.LatHollowRhombicCodeGenerators

-- `sheetH_tri_even` (a fixed statement) has the hypothesis `ha`, which its proof does not use
set_option linter.unusedVariables false

namespace Panqec.HollowRhombicCode
open Panqec.Cubic3D
open Panqec.Planar3DCode (inE inO inE2 inO1)

theorem mem_range1 {b x : Int} : x ∈ range1 0 b ↔ 0 ≤ x ∧ x < b := by
  unfold range1 Color.pyRangeI
  simp only [List.mem_map, List.mem_range]
  constructor
  · rintro ⟨i, hi, rfl⟩; omega
  · intro h; exact ⟨x.toNat, by omega, by omega⟩

theorem nodup_range1 (b : Int) : (range1 0 b).Nodup := by
  unfold range1 Color.pyRangeI
  show List.Pairwise _ _
  rw [List.pairwise_map]
  refine List.Pairwise.imp ?_ List.nodup_range
  intro a b' h e
  apply h
  omega

def sheetCandsH (Lx Ly : Nat) (h : Int) : List Coord :=
  (range1 0 (2 * Lx)).flatMap fun x => (range1 0 (2 * Ly)).map fun y => [x, y, h]

def sheetCands (Lx Ly : Nat) : List Coord :=
  (range1 0 (2 * Lx)).flatMap fun x => (range1 0 (2 * Ly)).map fun y => [x, y, 4]

theorem sheetCands_eq (Lx Ly : Nat) : sheetCands Lx Ly = sheetCandsH Lx Ly 4 := rfl

theorem mem_sheetCandsH {Lx Ly : Nat} {h : Int} {q : Coord} :
    q ∈ sheetCandsH Lx Ly h ↔
      ∃ x y, q = [x, y, h] ∧ 0 ≤ x ∧ x < 2 * (Lx : Int) ∧ 0 ≤ y ∧ y < 2 * (Ly : Int) := by
  unfold sheetCandsH
  simp only [List.mem_flatMap, List.mem_map, mem_range1]
  constructor
  · rintro ⟨x, hx, y, hy, rfl⟩; exact ⟨x, y, rfl, hx.1, hx.2, hy.1, hy.2⟩
  · rintro ⟨x, y, rfl, h1, h2, h3, h4⟩; exact ⟨x, ⟨h1, h2⟩, y, ⟨h3, h4⟩, rfl⟩

theorem mem_sheetCandsH' {Lx Ly : Nat} {h a b c : Int} :
    [a, b, c] ∈ sheetCandsH Lx Ly h ↔ c = h ∧ 0 ≤ a ∧ a < 2 * (Lx : Int) ∧ 0 ≤ b ∧ b < 2 * (Ly : Int) := by
  rw [mem_sheetCandsH]
  constructor
  · rintro ⟨x, y, e, hx⟩
    simp only [List.cons.injEq, and_true] at e
    obtain ⟨rfl, rfl, rfl⟩ := e
    exact ⟨rfl, hx⟩
  · rintro ⟨rfl, hx⟩; exact ⟨a, b, rfl, hx⟩

theorem nodup_sheetCandsH (Lx Ly : Nat) (h : Int) : (sheetCandsH Lx Ly h).Nodup := by
  unfold sheetCandsH
  show List.Pairwise _ _
  rw [List.pairwise_flatMap]
  constructor
  · intro x _
    rw [List.pairwise_map]
    exact (nodup_range1 _).imp (fun h e => h (by simpa using e))
  · refine List.Pairwise.imp ?_ (nodup_range1 _)
    intro a b hab q hq r hr e
    subst e
    simp only [List.mem_map] at hq hr
    obtain ⟨y, _, rfl⟩ := hq
    obtain ⟨y', _, e⟩ := hr
    apply hab
    simp only [List.cons.injEq, and_true] at e
    exact e.1.symm

def sheetH (Lx Ly Lz : Nat) (h : Int) : List Coord := (sheetCandsH Lx Ly h).filter (isq Lx Ly Lz)

def sheetKeys (Lx Ly Lz : Nat) : List Coord := (sheetCands Lx Ly).filter (isq Lx Ly Lz)

theorem sheetKeys_eq (Lx Ly Lz : Nat) : sheetKeys Lx Ly Lz = sheetH Lx Ly Lz 4 := rfl

theorem nodup_sheetH (Lx Ly Lz : Nat) (h : Int) : (sheetH Lx Ly Lz h).Nodup :=
  (nodup_sheetCandsH Lx Ly h).filter _

theorem sheetKeys_nodup (Lx Ly Lz : Nat) : (sheetKeys Lx Ly Lz).Nodup := nodup_sheetH Lx Ly Lz 4

theorem filter_isq_sub {Lx Ly Lz : Nat} (l : List Coord) :
    ∀ q ∈ l.filter (isq Lx Ly Lz), q ∈ qubits Lx Ly Lz :=
  fun _ hq => isq_iff.mp (List.mem_filter.mp hq).2

theorem sheetH_sub {Lx Ly Lz : Nat} {h : Int} : ∀ q ∈ sheetH Lx Ly Lz h, q ∈ qubits Lx Ly Lz :=
  filter_isq_sub _

theorem sheetH_height {Lx Ly Lz : Nat} {h : Int} {q : Coord} (hq : q ∈ sheetH Lx Ly Lz h) :
    ∃ x y, q = [x, y, h] := by
  obtain ⟨x, y, e, _⟩ := mem_sheetCandsH.mp (List.mem_filter.mp hq).1
  exact ⟨x, y, e⟩

theorem logX_eq (Lx Ly Lz : Nat) : logX Lx Ly Lz = [uop (sheetKeys Lx Ly Lz) Pauli.X] := by
  show [collect (qubits Lx Ly Lz) Pauli.X (sheetCands Lx Ly)] = _
  rw [collect_eq _ _ _ (show (sheetCands Lx Ly).Nodup from nodup_sheetCandsH Lx Ly 4)]
  rfl

theorem lattice_logX (Lx Ly Lz : Nat) :
    (lattice Lx Ly Lz).logX = [uop (sheetKeys Lx Ly Lz) Pauli.X] := logX_eq Lx Ly Lz

theorem mem_logX {Lx Ly Lz : Nat} {a : Op} :
    a ∈ (lattice Lx Ly Lz).logX ↔ a = uop (sheetKeys Lx Ly Lz) Pauli.X := by
  rw [lattice_logX, List.mem_singleton]

theorem isq_and_sheet {Lx Ly Lz : Nat} {h a b c : Int} :
    (isq Lx Ly Lz [a, b, c] && decide ([a, b, c] ∈ sheetCandsH Lx Ly h)) =
      (isq Lx Ly Lz [a, b, c] && decide (c = h)) := by
  rw [Bool.eq_iff_iff]
  simp only [Bool.and_eq_true, decide_eq_true_eq, mem_sheetCandsH', isq_iff]
  refine and_congr_right fun hq => ⟨fun hm => hm.1, fun hc => ⟨hc, ?_⟩⟩
  have := Planar3DCode.mem_qubits.mp (qubits_sub hq)
  unfold inE inO inE2 inO1 at this
  omega

/-- the sheet `z = h` (`h` even) against a listed triangle: its x and y keys at height `h` -/
theorem sheetH_tri_even {Lx Ly Lz : Nat} {h a x y z : Int} (hh : h % 2 = 0) (ha : 0 ≤ a ∧ a < 4)
    (hv : VertexLoc Lx Ly Lz x y z)
    (hk : TriKeep Lx Ly Lz (TX Lx Ly Lz a x y z) (TY Lx Ly Lz a x y z) (TZ Lx Ly Lz a x y z) x y z) :
    ov (triKeys Lx Ly Lz a x y z) (sheetH Lx Ly Lz h) % 2 = 0 := by
  have hv' := hv
  unfold VertexLoc inE2 inE at hv'
  obtain ⟨⟨x0, x1, ex⟩, ⟨y0, y1, ey⟩, z0, z1, ez⟩ := hv'
  rw [ov_eq_countP_contains]
  refine Rhombic.tri_sheet_even (isq Lx Ly Lz) (sheetH Lx Ly Lz h) h
    (fun q hq => (List.mem_filter.mp hq).2) (fun p q r hq => ?_) hh ez (sgnZ_cases a x y z) ?_
  · have := isq_and_sheet (Lx := Lx) (Ly := Ly) (Lz := Lz) (h := h) (a := p) (b := q) (c := r)
    unfold sheetH
    rw [List.mem_filter]
    simp only [hq, Bool.true_and, decide_eq_decide] at this
    exact ⟨fun hm => this.mp hm.1, fun hm => ⟨this.mpr hm, hq⟩⟩
  · rw [isq_tx ex ey ez, isq_ty ex ey ez]
    exact keep_xy hv (sgnX_cases a) (sgnY_cases a) (sgnZ_cases a x y z) hk

/-- the sheet against a triangle: the x and y keys of a triangle at height 4 -/
theorem sheet_tri_even {Lx Ly Lz : Nat} {a x y z : Int} (ha : 0 ≤ a ∧ a < 4)
    (hv : VertexLoc Lx Ly Lz x y z)
    (hk : TriKeep Lx Ly Lz (TX Lx Ly Lz a x y z) (TY Lx Ly Lz a x y z) (TZ Lx Ly Lz a x y z) x y z) :
    ov (triKeys Lx Ly Lz a x y z) (sheetKeys Lx Ly Lz) % 2 = 0 :=
  sheetH_tri_even (h := 4) (by decide) ha hv hk

def stackK (Lz : Nat) (sx sy : Int) : List Coord :=
  (range2 0 (2 * Lz)).map fun z => [sx, sy, z]

def lineKeys (Lx Ly Lz : Nat) : List Coord :=
  (range2 0 (2 * Lz)).map fun z => [2 * (Lx : Int) - 1, 2 * (Ly : Int) - 2, z]

theorem lineKeys_eq_stack (Lx Ly Lz : Nat) :
    lineKeys Lx Ly Lz = stackK Lz (2 * (Lx : Int) - 1) (2 * (Ly : Int) - 2) := rfl

theorem logZ_eq (Lx Ly Lz : Nat) : logZ Lx Ly Lz = [uop (lineKeys Lx Ly Lz) Pauli.Z] := by
  unfold logZ lineKeys uop
  rw [List.map_map]; rfl

theorem lattice_logZ (Lx Ly Lz : Nat) :
    (lattice Lx Ly Lz).logZ = [uop (lineKeys Lx Ly Lz) Pauli.Z] := logZ_eq Lx Ly Lz

theorem mem_logZ {Lx Ly Lz : Nat} {a : Op} :
    a ∈ (lattice Lx Ly Lz).logZ ↔ a = uop (lineKeys Lx Ly Lz) Pauli.Z := by
  rw [lattice_logZ, List.mem_singleton]

theorem mem_logicals {Lx Ly Lz : Nat} {a : Op} :
    a ∈ (lattice Lx Ly Lz).logX ++ (lattice Lx Ly Lz).logZ ↔
      a = uop (sheetKeys Lx Ly Lz) Pauli.X ∨ a = uop (lineKeys Lx Ly Lz) Pauli.Z := by
  rw [List.mem_append, mem_logX, mem_logZ]

theorem nodup_stackK (Lz : Nat) (sx sy : Int) : (stackK Lz sx sy).Nodup := by
  unfold stackK
  show List.Pairwise _ _
  rw [List.pairwise_map]
  exact (nodup_range2 _ _).imp (fun h e => h (by simpa using e))

theorem nodup_lineKeys (Lx Ly Lz : Nat) : (lineKeys Lx Ly Lz).Nodup := nodup_stackK _ _ _

theorem mem_stackK {Lz : Nat} {sx sy : Int} {q : Coord} :
    q ∈ stackK Lz sx sy ↔ ∃ z, q = [sx, sy, z] ∧ inE Lz z := by
  unfold stackK
  simp only [List.mem_map, Planar3DCode.mem_rangeE]
  constructor
  · rintro ⟨z, hz, rfl⟩; exact ⟨z, rfl, hz⟩
  · rintro ⟨z, rfl, hz⟩; exact ⟨z, hz, rfl⟩

theorem mem_lineKeys {Lx Ly Lz : Nat} {q : Coord} :
    q ∈ lineKeys Lx Ly Lz ↔ ∃ z, q = [2 * (Lx : Int) - 1, 2 * (Ly : Int) - 2, z] ∧ inE Lz z :=
  mem_stackK

/-- the edge `(sx, sy, 4)` is an x edge or a y edge of the lattice outside the hole -/
def StackBase (Lx Ly Lz : Nat) (sx sy : Int) : Prop :=
  (sx % 2 = 1 ∧ sy % 2 = 0 ∧ Qx Lx Ly Lz sx sy 4) ∨ (sx % 2 = 0 ∧ sy % 2 = 1 ∧ Qy Lx Ly Lz sx sy 4)

theorem line_base {Lx Ly Lz : Nat} (hx : 1 ≤ Lx) (hy : 1 ≤ Ly) (hz : 3 ≤ Lz) :
    StackBase Lx Ly Lz (2 * (Lx : Int) - 1) (2 * (Ly : Int) - 2) := by
  left
  refine ⟨by omega, by omega, ?_⟩
  unfold Qx Hole
  omega

theorem stackBase_of_mem {Lx Ly Lz : Nat} {q : Coord} (hq : q ∈ sheetKeys Lx Ly Lz) :
    ∃ sx sy, q = [sx, sy, 4] ∧ StackBase Lx Ly Lz sx sy := by
  rw [sheetKeys_eq] at hq
  obtain ⟨sx, sy, rfl⟩ := sheetH_height hq
  have hq' := sheetH_sub _ hq
  refine ⟨sx, sy, rfl, ?_⟩
  rcases qubit_parity hq' with ⟨h1, h2, h3⟩ | ⟨h1, h2, h3⟩ | ⟨h1, h2, h3⟩
  · exact Or.inl ⟨h1, h2, (mem_qubits_x h1 h2 h3).mp hq'⟩
  · exact Or.inr ⟨h1, h2, (mem_qubits_y h1 h2 h3).mp hq'⟩
  · omega

/-- the hole has the same cross-section at every height, and an even height in the hole means that
    the height 4 is in the hole -/
theorem stack_sub {Lx Ly Lz : Nat} {sx sy : Int} (hb : StackBase Lx Ly Lz sx sy) :
    ∀ q ∈ stackK Lz sx sy, q ∈ qubits Lx Ly Lz := by
  intro q hq
  obtain ⟨z, rfl, hz⟩ := mem_stackK.mp hq
  unfold inE at hz
  rcases hb with ⟨h1, h2, h3⟩ | ⟨h1, h2, h3⟩
  · rw [mem_qubits_x h1 h2 hz.2.2]
    unfold Qx Hole at *
    omega
  · rw [mem_qubits_y h1 h2 hz.2.2]
    unfold Qy Hole at *
    omega

theorem lineKeys_sub {Lx Ly Lz : Nat} (hx : 1 ≤ Lx) (hy : 1 ≤ Ly) :
    ∀ q ∈ lineKeys Lx Ly Lz, q ∈ qubits Lx Ly Lz := by
  intro q hq
  obtain ⟨z, rfl, hz⟩ := mem_lineKeys.mp hq
  unfold inE at hz
  rw [mem_qubits_x (by omega) (by omega) hz.2.2]
  unfold Qx Hole
  omega

theorem base_mem_sheet {Lx Ly Lz : Nat} {sx sy : Int} (hb : StackBase Lx Ly Lz sx sy) :
    [sx, sy, 4] ∈ sheetKeys Lx Ly Lz := by
  rw [sheetKeys_eq]
  unfold sheetH
  rw [List.mem_filter, isq_iff]
  rcases hb with ⟨h1, h2, h3⟩ | ⟨h1, h2, h3⟩
  · refine ⟨mem_sheetCandsH.mpr ⟨_, _, rfl, ?_⟩, (mem_qubits_x h1 h2 (by decide)).mpr h3⟩
    unfold Qx at h3; omega
  · refine ⟨mem_sheetCandsH.mpr ⟨_, _, rfl, ?_⟩, (mem_qubits_y h1 h2 (by decide)).mpr h3⟩
    unfold Qy at h3; omega

theorem line_sheetH_one {Lx Ly Lz : Nat} (hx : 1 ≤ Lx) (hy : 1 ≤ Ly) {h : Int} (hh : inE Lz h) :
    ov (lineKeys Lx Ly Lz) (sheetH Lx Ly Lz h) = 1 := by
  apply ov_eq_one (nodup_lineKeys Lx Ly Lz) [2 * (Lx : Int) - 1, 2 * (Ly : Int) - 2, h]
  · exact mem_lineKeys.mpr ⟨h, rfl, hh⟩
  · intro e he
    obtain ⟨z, rfl, hz'⟩ := mem_lineKeys.mp he
    have hq := lineKeys_sub (Lz := Lz) hx hy _ he
    unfold sheetH
    constructor
    · intro h'
      rw [(mem_sheetCandsH'.mp (List.mem_filter.mp h').1).1]
    · intro h'
      have hz4 : z = h := by simpa using h'
      subst hz4
      exact List.mem_filter.mpr ⟨mem_sheetCandsH.mpr ⟨_, _, rfl, by omega, by omega, by omega, by omega⟩,
        isq_iff.mpr hq⟩

theorem stack_cube_even {Lx Ly Lz : Nat} {sx sy : Int} (hb : StackBase Lx Ly Lz sx sy)
    {cx cy cz : Int} (hc : CubeLoc Lx Ly Lz cx cy cz) :
    ov (stackK Lz sx sy) (cubeKeys Lx Ly Lz cx cy cz) % 2 = 0 := by
  obtain ⟨c1, c2, c3, _, _⟩ := hc
  rw [ov_eq_countP_contains]
  unfold cubeKeys
  change Lat3Db.ovl (stackK Lz sx sy) ((cubeCands cx cy cz).filter (isq Lx Ly Lz)) % 2 = 0
  rw [Lat3Db.ovl_comm _ _ (nodup_stackK Lz sx sy) ((cubeCands_nodup cx cy cz).filter _),
    Lat3Db.ovl_filter_left _ _ _ (fun q hq => isq_iff.mpr (stack_sub hb q hq)),
    Lat3Db.ovl_comm _ _ (cubeCands_nodup cx cy cz) (nodup_stackK Lz sx sy), cubeCands_eq]
  refine Rhombic.stack_cube_even _ (fun z hz => (Planar3DCode.mem_rangeE.mp hz).2.2)
    (nodup_range2 _ _) ?_ c1.2.2 c2.2.2 c3.2.2 (hb.imp (fun h => ⟨h.1, h.2.1⟩) fun h => ⟨h.1, h.2.1⟩)
  exact ⟨Planar3DCode.mem_rangeE.mpr (by unfold inE; omega),
    Planar3DCode.mem_rangeE.mpr (by unfold inE; omega)⟩

theorem sheet_stack_one {Lx Ly Lz : Nat} (hz : 3 ≤ Lz) {sx sy : Int} (hb : StackBase Lx Ly Lz sx sy) :
    ov (sheetKeys Lx Ly Lz) (stackK Lz sx sy) = 1 := by
  rw [sheetKeys_eq, ov_comm (nodup_sheetH Lx Ly Lz 4) (nodup_stackK Lz sx sy), ← sheetKeys_eq]
  apply ov_eq_one (nodup_stackK Lz sx sy) [sx, sy, 4]
  · exact mem_stackK.mpr ⟨4, rfl, by unfold inE; omega⟩
  · intro e he
    obtain ⟨z, rfl, _⟩ := mem_stackK.mp he
    constructor
    · intro h'
      rw [sheetKeys_eq] at h'
      obtain ⟨x', y', hq'⟩ := sheetH_height h'
      simp only [List.cons.injEq, and_true] at hq'
      rw [hq'.2.2]
    · intro h'
      have hz4 : z = 4 := by simpa using h'
      subst hz4
      exact base_mem_sheet hb

/-- the listed line is the stack over `(2Lx−1, 2Ly−2)` -/
theorem line_cube_even {Lx Ly Lz : Nat} (hx : 1 ≤ Lx) (hy : 1 ≤ Ly) (hz : 3 ≤ Lz) {cx cy cz : Int}
    (hc : CubeLoc Lx Ly Lz cx cy cz) :
    ov (lineKeys Lx Ly Lz) (cubeKeys Lx Ly Lz cx cy cz) % 2 = 0 :=
  stack_cube_even (line_base hx hy hz) hc

theorem sheet_line_one {Lx Ly Lz : Nat} (hx : 1 ≤ Lx) (hy : 1 ≤ Ly) (hz : 3 ≤ Lz) :
    ov (sheetKeys Lx Ly Lz) (lineKeys Lx Ly Lz) = 1 :=
  sheet_stack_one hz (line_base hx hy hz)

theorem stack_disjoint {Lz : Nat} {sx sy sx' sy' : Int} (hne : ([sx, sy, 4] : Coord) ≠ [sx', sy', 4]) :
    ∀ q ∈ stackK Lz sx sy, q ∉ stackK Lz sx' sy' := by
  intro q hq hq'
  obtain ⟨z, rfl, _⟩ := mem_stackK.mp hq
  obtain ⟨z', e, _⟩ := mem_stackK.mp hq'
  simp only [List.cons.injEq, and_true] at e
  apply hne
  rw [e.1, e.2.1]

end Panqec.HollowRhombicCode
