/-
Helper lemmas for C19: `read_range_input` over exact rationals and the noise
direction of a bias ratio.
-/
import PanqecVerif.Model.Cli
import Mathlib.Tactic.Linarith
import Mathlib.Tactic.Ring
import Mathlib.Tactic.FieldSimp
import Mathlib.Tactic.Positivity
import Mathlib.Algebra.Order.Field.Rat
import Mathlib.Data.Rat.Floor

namespace Panqec.Cli

theorem eps_pos : 0 < eps := by unfold eps; norm_num

theorem ceil_eq_of_floor {y : Rat} {k : Int} (hk : (k : Rat) < y) (hf : y.floor = k) :
    y.ceil = k + 1 := by
  apply Int.le_antisymm
  · rw [Rat.ceil_le_iff]
    have := Rat.lt_floor_add_one y
    rw [hf] at this
    exact le_of_lt this
  · have : k < y.ceil := Rat.lt_ceil_iff.mpr hk
    omega

/-- number of elements `np.arange(min, max + 1e-9*step, step)` has, when adding the tolerance
    does not move `(max-min)/step` across an integer -/
theorem arange_count {mn mx st : Rat} (hst : 0 < st)
    (htol : ((mx - mn) / st + eps).floor = ((mx - mn) / st).floor) :
    ((mx + eps * st - mn) / st).ceil = ((mx - mn) / st).floor + 1 := by
  have hx : (mx + eps * st - mn) / st = (mx - mn) / st + eps := by
    field_simp
    ring
  rw [hx]
  apply ceil_eq_of_floor _ htol
  have h1 := Rat.floor_le ((mx - mn) / st)
  have := eps_pos
  linarith

theorem no_clamp {mn mx st : Rat} (hst : 0 < st) {i : Nat}
    (hi : (i : Int) ≤ ((mx - mn) / st).floor) : mn + (i : Rat) * st ≤ mx := by
  have h1 : ((i : Int) : Rat) ≤ (mx - mn) / st := Rat.le_floor_iff.mp hi
  have h2 : ((i : Int) : Rat) * st ≤ mx - mn := by
    rwa [le_div_iff₀ hst] at h1
  have h3 : ((i : Int) : Rat) = (i : Rat) := by norm_cast
  rw [h3] at h2
  linarith

theorem rangeValues_eq {mn mx st : Rat} (hst : 0 < st) (hle : mn ≤ mx)
    (htol : ((mx - mn) / st + eps).floor = ((mx - mn) / st).floor) :
    rangeValues mn mx st =
      (List.range (((mx - mn) / st).floor.toNat + 1)).map fun (i : Nat) => mn + (i : Rat) * st := by
  have hk : 0 ≤ ((mx - mn) / st).floor := by
    rw [Rat.le_floor_iff]
    have : 0 ≤ mx - mn := by linarith
    simpa using div_nonneg this (le_of_lt hst)
  unfold rangeValues arange
  rw [arange_count hst htol]
  have hn : (((mx - mn) / st).floor + 1).toNat = ((mx - mn) / st).floor.toNat + 1 := by omega
  rw [hn, List.map_map]
  apply List.map_congr_left
  intro i hi
  have hi' := List.mem_range.mp hi
  have : (i : Int) ≤ ((mx - mn) / st).floor := by omega
  simp only [Function.comp, no_clamp hst this, if_true]

theorem rangeValues_le_max (mn mx st : Rat) : ∀ v ∈ rangeValues mn mx st, v ≤ mx := by
  intro v hv
  unfold rangeValues at hv
  obtain ⟨w, _, rfl⟩ := List.mem_map.mp hv
  by_cases h : w ≤ mx
  · simp [h]
  · simp [h]

theorem grid_quotient {u : Rat} (hu : 0 < u) (a b : Int) (s : Nat) :
    ((b : Rat) * u - (a : Rat) * u) / ((s : Rat) * u) = ((b - a : Int) : Rat) / (s : Rat) := by
  push_cast
  field_simp

/-- on a grid of unit `u` (`min = a·u`, `max = b·u`, `step = s·u`) with fewer than `10^9` units
    per step, the tolerance `1e-9·step` never crosses a grid point -/
theorem grid_tolerance {u : Rat} (hu : 0 < u) (a b : Int) (s : Nat) (hs : 0 < s)
    (hs9 : s < 1000000000) :
    (((b : Rat) * u - (a : Rat) * u) / ((s : Rat) * u) + eps).floor =
      (((b : Rat) * u - (a : Rat) * u) / ((s : Rat) * u)).floor := by
  have hsQ : (0 : Rat) < (s : Rat) := by exact_mod_cast hs
  rw [grid_quotient hu a b s]
  generalize hxd : ((b - a : Int) : Rat) / (s : Rat) = x
  generalize hk : x.floor = k
  apply Int.le_antisymm
  · -- ⌊x + eps⌋ ≤ k  ⇔  x + eps < k + 1
    have hlt : x < ((k + 1 : Int) : Rat) := by rw [← hk]; exact Rat.lt_floor_add_one x
    -- integrality: (b - a) < (k+1)*s  ⇒  (b - a) + 1 ≤ (k+1)*s
    have h1 : ((b - a : Int) : Rat) < ((k + 1 : Int) : Rat) * (s : Rat) := by
      rw [← hxd, div_lt_iff₀ hsQ] at hlt; exact hlt
    have h2 : (b - a : Int) < (k + 1) * (s : Int) := by exact_mod_cast h1
    have h3 : (b - a : Int) + 1 ≤ (k + 1) * (s : Int) := by omega
    have h4 : ((b - a : Int) : Rat) + 1 ≤ ((k + 1 : Int) : Rat) * (s : Rat) := by exact_mod_cast h3
    have h5 : x + 1 / (s : Rat) ≤ ((k + 1 : Int) : Rat) := by
      rw [← hxd, ← add_div, div_le_iff₀ hsQ]; exact h4
    have h6 : eps < 1 / (s : Rat) := by
      unfold eps
      rw [div_lt_div_iff₀ (by norm_num) hsQ]
      have : (s : Rat) < 1000000000 := by exact_mod_cast hs9
      linarith
    have h7 : (x + eps).floor < k + 1 := by
      rw [Rat.floor_lt_iff]; linarith
    omega
  · rw [Rat.le_floor_iff]
    have := Rat.floor_le x
    rw [hk] at this
    have := eps_pos
    linarith

theorem grid_floor {u : Rat} (hu : 0 < u) (a b : Int) (s : Nat) :
    (((b : Rat) * u - (a : Rat) * u) / ((s : Rat) * u)).floor = (b - a) / (s : Int) := by
  rw [grid_quotient hu a b s]
  exact Rat.floor_intCast_div_natCast (b - a) s

/-- the range of a grid specification, without any side condition on the tolerance -/
theorem rangeValues_on_grid {u : Rat} (hu : 0 < u) (a b : Int) (hab : a ≤ b) (s : Nat)
    (hs : 0 < s) (hs9 : s < 1000000000) :
    rangeValues ((a : Rat) * u) ((b : Rat) * u) ((s : Rat) * u) =
      (List.range (((b - a) / (s : Int)).toNat + 1)).map
        fun (i : Nat) => (a : Rat) * u + (i : Rat) * ((s : Rat) * u) := by
  have hsQ : (0 : Rat) < (s : Rat) := by exact_mod_cast hs
  have hst : 0 < (s : Rat) * u := mul_pos hsQ hu
  have hle : (a : Rat) * u ≤ (b : Rat) * u := by
    have : (a : Rat) ≤ (b : Rat) := by exact_mod_cast hab
    exact mul_le_mul_of_nonneg_right this (le_of_lt hu)
  rw [rangeValues_eq hst hle (grid_tolerance hu a b s hs hs9), grid_floor hu a b s]

theorem direction_algebra {e : Rat} (h1 : 1 + e ≠ 0) :
    e / (1 + e) + (1 - e / (1 + e)) / 2 + (1 - e / (1 + e)) / 2 = 1 ∧
    e / (1 + e) = e * ((1 - e / (1 + e)) / 2 + (1 - e / (1 + e)) / 2) := by
  constructor
  · ring
  · field_simp
    ring

theorem direction_nonneg_algebra {e : Rat} (he : 0 ≤ e) :
    0 ≤ e / (1 + e) ∧ 0 ≤ (1 - e / (1 + e)) / 2 := by
  have h1 : 0 < 1 + e := by linarith
  constructor
  · exact div_nonneg he (le_of_lt h1)
  · have : e / (1 + e) ≤ 1 := by rw [div_le_one h1]; linarith
    linarith

end Panqec.Cli
