/-
XCubeCode lattice model, rank clause: single-qubit probes, ranks and the arithmetic core of the
triangular criterion for the family `selStabs` of `Proofs/LatXCubeCodeRankFamily.lean`.

* cube `(x, y, z)` (Z-type), probe `X`: on the x-edge `(x, y − 1, z − 1)` if `y, z ≥ 3`, on the y-edge
  `(x − 1, 1, z − 1)` if `y = 1`, on the z-edge `(x − 1, y − 1, 1)` if `z = 1`; the other cubes on that
  edge have a smaller coordinate sum; rank `x + y + z`;
* axis-1 vertex operator at `(x, y, z)` (X-type), probe `Z`: on the x-edge `(x − 1, y, z)` if `x ≥ 2`
  (other: axis 1 at `(x − 2, y, z)`), on the z-edge `(0, y, z − 1)` if `x = 0`, `z ≥ 2`;
* axis-0 vertex operator at `(x, y, z)`, probe `Z`: on the y-edge `(x, y − 1, z)` if `y ≥ 2` (other:
  axis 0 at `(x, y − 2, z)`), on the z-edge `(x, 0, z − 1)` if `y = 0`, `x, z ≥ 2`;
* ranks: axis 0 with `x = 0`, `y ≥ 2` < axis 1 with `x = 0` < axis 1 with `x ≥ 2` < axis 0 with
  `y = 0` < axis 0 with `x, y ≥ 2`.
-/
import PanqecVerif.Proofs.LatXCubeCodeRankFamily
open Panqec Panqec.Lat3Db
namespace Panqec.XCubeCode

def probe : Coord → Coord × Pauli
  | [x, y, z] =>
    if 3 ≤ y ∧ 3 ≤ z then ([x, y - 1, z - 1], Pauli.X)
    else if y = 1 then ([x - 1, y, z - 1], Pauli.X)
    else ([x - 1, y - 1, z], Pauli.X)
  | [ax, x, y, z] =>
    if ax = 1 then (if 2 ≤ x then ([x - 1, y, z], Pauli.Z) else ([x, y, z - 1], Pauli.Z))
    else (if 2 ≤ y then ([x, y - 1, z], Pauli.Z) else ([x, y, z - 1], Pauli.Z))
  | _ => ([], Pauli.I)

def mu (Lx Ly Lz : Nat) : Coord → Nat
  | [x, y, z] => (x + y + z).toNat
  | [ax, x, y, z] =>
    if ax = 1 then
      (if 2 ≤ x then (2 * (Ly : Int) + 2 * (Lz : Int) + x).toNat else (2 * (Ly : Int) + z).toNat)
    else
      (if 2 ≤ y then
        (if 2 ≤ x then (2 * (Ly : Int) + 4 * (Lz : Int) + 2 * (Lx : Int) + y).toNat else y.toNat)
       else (2 * (Ly : Int) + 2 * (Lz : Int) + 2 * (Lx : Int) + z).toNat)
  | _ => 0

def keysOf (Lx Ly Lz : Nat) : Coord → List Coord
  | [x, y, z] => cubeLocs Lx Ly Lz x y z
  | [ax, x, y, z] => if ax = 1 then faceLocsY Lx Ly Lz x y z else faceLocsX Lx Ly Lz x y z
  | _ => []

def letterOf : Coord → Pauli
  | [_, _, _] => Pauli.Z
  | _ => Pauli.X

theorem probe_axis1 (x y z : Int) :
    (probe [1, x, y, z]).1 = if 2 ≤ x then [x - 1, y, z] else [x, y, z - 1] := by
  simp only [probe, if_true]
  split <;> rfl

theorem probe_axis0 (x y z : Int) :
    (probe [0, x, y, z]).1 = if 2 ≤ y then [x, y - 1, z] else [x, y, z - 1] := by
  simp only [probe, show ¬ (0 : Int) = 1 by decide, if_false]
  split <;> rfl

theorem mu_axis1 (Lx Ly Lz : Nat) (x y z : Int) : mu Lx Ly Lz [1, x, y, z] =
    if 2 ≤ x then (2 * (Ly : Int) + 2 * (Lz : Int) + x).toNat else (2 * (Ly : Int) + z).toNat := rfl

theorem mu_axis0 (Lx Ly Lz : Nat) (x y z : Int) : mu Lx Ly Lz [0, x, y, z] =
    if 2 ≤ y then
      (if 2 ≤ x then (2 * (Ly : Int) + 4 * (Lz : Int) + 2 * (Lx : Int) + y).toNat else y.toNat)
    else (2 * (Ly : Int) + 2 * (Lz : Int) + 2 * (Lx : Int) + z).toNat := rfl

/-! ### the generators that reach a witness qubit

A witness qubit is reached without wrapping: on a cube none of its coordinates is `0`, on a vertex
operator none is the last site. -/

theorem A.near {P : Nat} {c v : Int} (h : A P c v) (hv : v ≠ 0) : c - 1 ≤ v ∧ v ≤ c + 1 := by
  unfold A up at h
  split at h <;> omega

theorem near_of_mem_cubeLocs {Lx Ly Lz : Nat} {a b c p q r : Int} (hm : [p, q, r] ∈ cubeLocs Lx Ly Lz a b c)
    (hp : p ≠ 0) (hq : q ≠ 0) (hr : r ≠ 0) :
    (a - 1 ≤ p ∧ p ≤ a + 1) ∧ (b - 1 ≤ q ∧ q ≤ b + 1) ∧ (c - 1 ≤ r ∧ r ≤ c + 1) := by
  rw [mem_cubeLocs] at hm
  rcases hm with ⟨rfl, h1, h2⟩ | ⟨rfl, h1, h2⟩ | ⟨rfl, h1, h2⟩
  · exact ⟨h1.near hp, h2.near hq, by omega⟩
  · exact ⟨h1.near hp, by omega, h2.near hr⟩
  · exact ⟨by omega, h1.near hq, h2.near hr⟩

theorem near_of_dn {P : Nat} {v p : Int} (h : p = dn P v) (hp : p + 1 ≠ P) : p = v - 1 := by
  have := dn_spec P v
  omega

theorem near_of_mem_faceLocsX {Lx Ly Lz : Nat} {a b c p q r : Int} (hm : [p, q, r] ∈ faceLocsX Lx Ly Lz a b c)
    (hq : q + 1 ≠ 2*Ly) (hr : r + 1 ≠ 2*Lz) :
    p = a ∧ ((r = c ∧ (q = b + 1 ∨ q = b - 1)) ∨ (q = b ∧ (r = c + 1 ∨ r = c - 1))) := by
  simp only [faceLocsX, List.mem_cons, List.cons.injEq, and_true, List.not_mem_nil, or_false] at hm
  rcases hm with ⟨rfl, rfl, rfl⟩ | ⟨rfl, h, rfl⟩ | ⟨rfl, rfl, rfl⟩ | ⟨rfl, rfl, h⟩
  · exact ⟨rfl, Or.inl ⟨rfl, Or.inl rfl⟩⟩
  · exact ⟨rfl, Or.inl ⟨rfl, Or.inr (near_of_dn h hq)⟩⟩
  · exact ⟨rfl, Or.inr ⟨rfl, Or.inl rfl⟩⟩
  · exact ⟨rfl, Or.inr ⟨rfl, Or.inr (near_of_dn h hr)⟩⟩

theorem near_of_mem_faceLocsY {Lx Ly Lz : Nat} {a b c p q r : Int} (hm : [p, q, r] ∈ faceLocsY Lx Ly Lz a b c)
    (hp : p + 1 ≠ 2*Lx) (hr : r + 1 ≠ 2*Lz) :
    q = b ∧ ((r = c ∧ (p = a + 1 ∨ p = a - 1)) ∨ (p = a ∧ (r = c + 1 ∨ r = c - 1))) := by
  simp only [faceLocsY, List.mem_cons, List.cons.injEq, and_true, List.not_mem_nil, or_false] at hm
  rcases hm with ⟨rfl, rfl, rfl⟩ | ⟨h, rfl, rfl⟩ | ⟨rfl, rfl, rfl⟩ | ⟨rfl, rfl, h⟩
  · exact ⟨rfl, Or.inl ⟨rfl, Or.inl rfl⟩⟩
  · exact ⟨rfl, Or.inl ⟨rfl, Or.inr (near_of_dn h hp)⟩⟩
  · exact ⟨rfl, Or.inr ⟨rfl, Or.inl rfl⟩⟩
  · exact ⟨rfl, Or.inr ⟨rfl, Or.inr (near_of_dn h hr)⟩⟩

/-- a selected cube other than `s` of rank at least that of `s` does not reach the witness edge -/
theorem later_cube_cube {Lx Ly Lz : Nat} (hy : 1 ≤ Ly) (hz : 1 ≤ Lz) {x y z a b c : Int}
    (hs : CK Lx Ly Lz x y z) (ht : CK Lx Ly Lz a b c) (hne : ¬ (x = a ∧ y = b ∧ z = c))
    (hle : (x + y + z).toNat ≤ (a + b + c).toNat) :
    (probe [x, y, z]).1 ∉ cubeLocs Lx Ly Lz a b c := by
  intro hm
  obtain ⟨⟨ha, -⟩, ⟨hb, -⟩, ⟨hc, -⟩⟩ := ht.sc hy hz
  unfold CK R1 R3 at hs
  -- the cubes around the witness edge are `s` and cubes with one or two coordinates smaller by 2
  rcases hs with hs | hs | hs
  · rw [probe, if_pos ⟨hs.2.1.2.1, hs.2.2.2.1⟩] at hm
    have := near_of_mem_cubeLocs hm (by omega) (by omega) (by omega)
    omega
  · rw [probe, if_neg (by omega), if_pos hs.2.1] at hm
    have := near_of_mem_cubeLocs hm (by omega) (by omega) (by omega)
    omega
  · rw [probe, if_neg (by omega), if_neg (by omega)] at hm
    have := near_of_mem_cubeLocs hm (by omega) (by omega) (by omega)
    omega

/-- axis 1 probed, axis 1 reaching -/
theorem later_11 {Lx Ly Lz : Nat} {x y z a b c : Int}
    (hs : F1 Lx Ly Lz x y z) (ht : F1 Lx Ly Lz a b c) (hne : ¬ (x = a ∧ y = b ∧ z = c))
    (hle : mu Lx Ly Lz [1, x, y, z] ≤ mu Lx Ly Lz [1, a, b, c]) :
    (probe [1, x, y, z]).1 ∉ faceLocsY Lx Ly Lz a b c := by
  intro hm
  unfold F1 R0 R2 at hs ht
  rw [mu_axis1, mu_axis1] at hle
  rw [probe_axis1] at hm
  rcases hs with hs | hs
  · rw [if_pos hs.1.2.1] at hm hle
    have := near_of_mem_faceLocsY hm (by omega) (by omega)
    rcases ht with ht | ht
    · rw [if_pos ht.1.2.1] at hle; omega
    · rw [if_neg (show ¬ 2 ≤ a by omega)] at hle; omega
  · rw [if_neg (show ¬ 2 ≤ x by omega)] at hm hle
    have := near_of_mem_faceLocsY hm (by omega) (by omega)
    rcases ht with ht | ht
    · rw [if_pos ht.1.2.1] at hle; omega
    · rw [if_neg (show ¬ 2 ≤ a by omega)] at hle; omega

/-- axis 1 probed, axis 0 reaching -/
theorem later_10 {Lx Ly Lz : Nat} {x y z a b c : Int}
    (hs : F1 Lx Ly Lz x y z) (ht : F0 Lx Ly Lz a b c)
    (hle : mu Lx Ly Lz [1, x, y, z] ≤ mu Lx Ly Lz [0, a, b, c]) :
    (probe [1, x, y, z]).1 ∉ faceLocsX Lx Ly Lz a b c := by
  intro hm
  unfold F1 R0 R2 at hs
  unfold F0 R0 R2 at ht
  rw [mu_axis1, mu_axis0] at hle
  rw [probe_axis1] at hm
  rcases hs with hs | hs
  · rw [if_pos hs.1.2.1] at hm
    have := near_of_mem_faceLocsX hm (by omega) (by omega)
    omega
  · rw [if_neg (show ¬ 2 ≤ x by omega)] at hm hle
    have := near_of_mem_faceLocsX hm (by omega) (by omega)
    rcases ht with ht | ht
    · rw [if_pos ht.2.1.2.1, if_neg (show ¬ 2 ≤ a by omega)] at hle; omega
    · omega

/-- axis 0 probed, axis 0 reaching -/
theorem later_00 {Lx Ly Lz : Nat} {x y z a b c : Int}
    (hs : F0 Lx Ly Lz x y z) (ht : F0 Lx Ly Lz a b c) (hne : ¬ (x = a ∧ y = b ∧ z = c))
    (hle : mu Lx Ly Lz [0, x, y, z] ≤ mu Lx Ly Lz [0, a, b, c]) :
    (probe [0, x, y, z]).1 ∉ faceLocsX Lx Ly Lz a b c := by
  intro hm
  unfold F0 R0 R2 at hs ht
  rw [mu_axis0, mu_axis0] at hle
  rw [probe_axis0] at hm
  rcases hs with hs | hs
  · rw [if_pos hs.2.1.2.1] at hm hle
    have := near_of_mem_faceLocsX hm (by omega) (by omega)
    rcases ht with ht | ht
    · rw [if_pos ht.2.1.2.1] at hle
      by_cases h3 : 2 ≤ x
      · rw [if_pos h3, if_pos (show 2 ≤ a by omega)] at hle; omega
      · rw [if_neg h3, if_neg (show ¬ 2 ≤ a by omega)] at hle; omega
    · rw [if_neg (show ¬ 2 ≤ b by omega)] at hle
      by_cases h3 : 2 ≤ x
      · rw [if_pos h3] at hle; omega
      · omega
  · rw [if_neg (show ¬ 2 ≤ y by omega)] at hm hle
    have := near_of_mem_faceLocsX hm (by omega) (by omega)
    rcases ht with ht | ht
    · omega
    · rw [if_neg (show ¬ 2 ≤ b by omega)] at hle; omega

/-- axis 0 probed, axis 1 reaching -/
theorem later_01 {Lx Ly Lz : Nat} {x y z a b c : Int}
    (hs : F0 Lx Ly Lz x y z) (ht : F1 Lx Ly Lz a b c)
    (hle : mu Lx Ly Lz [0, x, y, z] ≤ mu Lx Ly Lz [1, a, b, c]) :
    (probe [0, x, y, z]).1 ∉ faceLocsY Lx Ly Lz a b c := by
  intro hm
  unfold F0 R0 R2 at hs
  unfold F1 R0 R2 at ht
  rw [mu_axis0, mu_axis1] at hle
  rw [probe_axis0] at hm
  rcases hs with hs | hs
  · rw [if_pos hs.2.1.2.1] at hm
    have := near_of_mem_faceLocsY hm (by omega) (by omega)
    omega
  · rw [if_neg (show ¬ 2 ≤ y by omega)] at hm hle
    have := near_of_mem_faceLocsY hm (by omega) (by omega)
    rw [if_pos (show 2 ≤ a by omega)] at hle
    omega

end Panqec.XCubeCode
