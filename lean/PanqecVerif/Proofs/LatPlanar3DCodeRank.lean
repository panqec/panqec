/-
`Planar3DCode`, every size with `1 ≤ Lx, Ly, Lz`: an explicit family of `n − k = n − 1` stabilizer
generators that is GF(2)-independent — all vertices, the xy faces of the layer `z = 0`, all yz
faces and all xz faces (one xy face per cube is left out: the product of the six faces of a cube is
the identity).  Independence by the triangular criterion (`opsIndep_of_witnesses`): every generator
acts only on neighbours of its location (`hit_adj`), so a generator acting on the witness of `s` sits
at a neighbour of that witness, and one linear integer rank `x + y − 2z` does for all members: a
vertex `(x,y,z)` has the witness `(x−1,y,z)`, whose other vertex is nearer to `x = 0`; a yz / xz
face has the witness `(x,y,z+1)` above it, all of whose other neighbours are higher up; an xy face
`(x,y,0)` has the witness `(x,y−1,0)`, whose only neighbour of larger rank would be the vertical
face under it, below the lattice.
-/
import Mathlib.Tactic.Ring
import PanqecVerif.Proofs.LatCubic3DRank
import PanqecVerif.Proofs.LatPlanar3DCodeCss


namespace Panqec.Planar3DCode
open Panqec.Cubic3D

theorem rankFamily_sublist {Lx Ly Lz : Nat} (hLz : 1 ≤ Lz) :
    (rankFamily Lx Ly Lz).Sublist (stabs Lx Ly Lz) := by
  unfold rankFamily stabs
  refine List.Sublist.append (List.Sublist.append (List.Sublist.append (List.Sublist.refl _) ?_)
    (List.Sublist.refl _)) (List.Sublist.refl _)
  apply grid_sublist
  rw [List.singleton_sublist, mem_range2]
  omega

theorem rankFamily_nodup {Lx Ly Lz : Nat} (hLz : 1 ≤ Lz) : (rankFamily Lx Ly Lz).Nodup :=
  (stabs_nodup Lx Ly Lz).sublist (rankFamily_sublist hLz)

theorem rankFamily_cases {Lx Ly Lz : Nat} (hLz : 1 ≤ Lz) {s : Coord}
    (h : s ∈ rankFamily Lx Ly Lz) :
    ∃ x y z, s = [x, y, z] ∧ (isVertex Lx Ly Lz x y z ∨ (isFace Lx Ly Lz .z z x y ∧ z = 0) ∨
      isFace Lx Ly Lz .x x y z ∨ isFace Lx Ly Lz .y y x z) := by
  obtain ⟨x, y, z, rfl⟩ := shape_of_mem_stabs ((rankFamily_sublist hLz).subset h)
  refine ⟨x, y, z, rfl, ?_⟩
  simp only [rankFamily, List.mem_append, mem_grid3, mem_rangeE, mem_rangeO, mem_rangeE2,
    mem_rangeO1, List.mem_singleton] at h
  rcases h with ((h | h) | h) | h
  · exact Or.inl h
  · refine Or.inr (Or.inl ⟨⟨?_, h.1, h.2.1⟩, h.2.2⟩)
    rw [h.2.2]; simp only [rE, inE]; omega
  · exact Or.inr (Or.inr (Or.inl h))
  · exact Or.inr (Or.inr (Or.inr ⟨h.2.1, h.1, h.2.2⟩))

theorem rankFamily_length {Lx Ly Lz : Nat} (hLx : 1 ≤ Lx) (hLy : 1 ≤ Ly) (hLz : 1 ≤ Lz) :
    (rankFamily Lx Ly Lz).length = (qubits Lx Ly Lz).length - 1 := by
  rw [qubits_length]
  simp only [rankFamily, List.length_append, length_grid, length_rangeE, length_rangeO,
    length_rangeE2, length_rangeO1, List.length_singleton]
  obtain ⟨a, rfl⟩ : ∃ a, Lx = a + 1 := ⟨Lx - 1, by omega⟩
  obtain ⟨b, rfl⟩ : ∃ b, Ly = b + 1 := ⟨Ly - 1, by omega⟩
  obtain ⟨c, rfl⟩ : ∃ c, Lz = c + 1 := ⟨Lz - 1, by omega⟩
  simp only [Nat.add_sub_cancel]
  have : (a + 1) * (b + 1) * (c + 1) + a * b * (c + 1) + a * (b + 1) * c =
      (a * (b + 1) * (c + 1) + (a + 1) * b * 1 + a * b * c + (a + 1) * (b + 1) * c) + 1 := by ring
  omega

def Adj (u v w a b c : Int) : Prop :=
  (u = a + 1 ∧ v = b ∧ w = c) ∨ (u = a - 1 ∧ v = b ∧ w = c) ∨ (u = a ∧ v = b + 1 ∧ w = c) ∨
    (u = a ∧ v = b - 1 ∧ w = c) ∨ (u = a ∧ v = b ∧ w = c + 1) ∨ (u = a ∧ v = b ∧ w = c - 1)

theorem adj_of_mem_vertexCands {u v w a b c : Int} (h : [u, v, w] ∈ vertexCands a b c) :
    Adj u v w a b c := by
  simpa only [Adj, vertexCands, List.mem_cons, List.cons.injEq, List.not_mem_nil, and_true,
    or_false] using h

theorem hit_uop_Z (bx : Bool) (ks : List Coord) (q : Coord) :
    hit bx (uop ks Pauli.Z) q = (!bx && decide (q ∈ ks)) := by
  cases bx <;> simp [hit, hitX_uop, hitZ_uop]

theorem hit_uop_X (bx : Bool) (ks : List Coord) (q : Coord) :
    hit bx (uop ks Pauli.X) q = (bx && decide (q ∈ ks)) := by
  cases bx <;> simp [hit, hitX_uop, hitZ_uop]

theorem faceCands_sub (a b c : Int) : faceCands .z c a b ⊆ vertexCands a b c ∧
    faceCands .x a b c ⊆ vertexCands a b c ∧ faceCands .y b a c ⊆ vertexCands a b c := by
  simp only [faceCands_eq, ins, vertexCands, List.cons_subset, List.mem_cons, List.nil_subset,
    true_or, or_true, and_self]

/-- a generator acts only on neighbours of its location: a vertex (even `a`, `b`) with Z, a face
    with X -/
theorem hit_adj {Lx Ly Lz : Nat} {a b c u v w : Int} (ht : [a, b, c] ∈ stabs Lx Ly Lz) {bx : Bool}
    (h : hit bx (getStab Lx Ly Lz [a, b, c]) [u, v, w] = true) :
    Adj u v w a b c ∧ (a % 2 = 0 ∧ b % 2 = 0 ↔ bx = false) := by
  have face : ∀ {cs : List Coord}, cs ⊆ vertexCands a b c → ¬ (a % 2 = 0 ∧ b % 2 = 0) →
      getStab Lx Ly Lz [a, b, c] = uop (cs.filter (isq Lx Ly Lz)) Pauli.X →
      Adj u v w a b c ∧ (a % 2 = 0 ∧ b % 2 = 0 ↔ bx = false) := by
    intro cs hsub hpar e
    rw [e, hit_uop_X, Bool.and_eq_true, decide_eq_true_eq] at h
    exact ⟨adj_of_mem_vertexCands (hsub (List.mem_filter.mp h.2).1),
      iff_of_false hpar (by rw [h.1]; decide)⟩
  rcases mem_stabs.mp ht with k | k | k | k
  · rw [getStab_vertex k, hit_uop_Z, Bool.and_eq_true, Bool.not_eq_true', decide_eq_true_eq] at h
    exact ⟨adj_of_mem_vertexCands (List.mem_filter.mp h.2).1, iff_of_true ⟨k.1.2.2, k.2.1.2.2⟩ h.1⟩
  · exact face (faceCands_sub a b c).1 (by have := k.1.2.2; omega)
      (getStab_face (ax := .z) (u := c) ⟨k.2.2, k.1, k.2.1⟩)
  · exact face (faceCands_sub a b c).2.1 (by have := k.2.1.2.2; omega) (getStab_face (ax := .x) k)
  · exact face (faceCands_sub a b c).2.2 (by have := k.1.2.2; omega)
      (getStab_face (ax := .y) (u := b) ⟨k.2.1, k.1, k.2.2⟩)

def rk : Coord → Int
  | [x, y, z] => x + y - 2 * z
  | _ => 0

def wit : Coord → Coord
  | [x, y, z] =>
    if x % 2 = 0 ∧ y % 2 = 0 then [x - 1, y, z]
    else if z % 2 = 0 then [x, y - 1, z] else [x, y, z + 1]
  | q => q

/-- `true`: the witness is hit with an X component (faces); `false`: with a Z component (vertices) -/
def wx : Coord → Bool
  | [x, y, _] => !(decide (x % 2 = 0 ∧ y % 2 = 0))
  | _ => false

section eval
variable {Lx Ly Lz : Nat} {x y z : Int}

theorem eval_vertex (h : isVertex Lx Ly Lz x y z) :
    wit [x, y, z] = [x - 1, y, z] ∧ wx [x, y, z] = false := by
  simp [wit, wx, h.1.2.2, h.2.1.2.2]

theorem eval_faceXY (h : isFace Lx Ly Lz .z z x y) :
    wit [x, y, z] = [x, y - 1, z] ∧ wx [x, y, z] = true := by
  simp [wit, wx, h.2.1.2.2, h.1.2.2]

theorem eval_faceYZ (h : isFace Lx Ly Lz .x x y z) :
    wit [x, y, z] = [x, y, z + 1] ∧ wx [x, y, z] = true := by
  simp [wit, wx, h.2.1.2.2, h.2.2.2.2]

theorem eval_faceXZ (h : isFace Lx Ly Lz .y y x z) :
    wit [x, y, z] = [x, y, z + 1] ∧ wx [x, y, z] = true := by
  simp [wit, wx, h.2.1.2.2, h.2.2.2.2]
end eval

/-! ### any other generator acting on a witness has smaller rank

The generator sits at a neighbour `(a, b, c)` of the witness. -/

/-- the witness of a vertex: the other vertex on that x edge is nearer to `x = 0` -/
theorem tri_vertex {x y z a b c : Int} (hx0 : x % 2 = 0) (ha : a % 2 = 0)
    (hadj : Adj (x - 1) y z a b c) :
    (a = x ∧ b = y ∧ c = z) ∨ a + b - 2 * c < x + y - 2 * z := by
  unfold Adj at hadj
  omega

/-- the witness above a yz / xz face: all its other neighbours are higher up -/
theorem tri_up {x y z a b c : Int} (hadj : Adj x y (z + 1) a b c) :
    (a = x ∧ b = y ∧ c = z) ∨ a + b - 2 * c < x + y - 2 * z := by
  unfold Adj at hadj
  omega

/-- the witness `(x, y − 1, z)` beside an xy face: of its other neighbours only the vertical face
    under it has larger rank; two are vertex locations -/
theorem tri_side {x y z a b c : Int} (hx1 : x % 2 = 1) (hy1 : y % 2 = 1)
    (hadj : Adj x (y - 1) z a b c) (hab : ¬ (a % 2 = 0 ∧ b % 2 = 0)) (hc : c ≠ z - 1) :
    (a = x ∧ b = y ∧ c = z) ∨ a + b - 2 * c < x + y - 2 * z := by
  rcases hadj with h | h | h | h | h | h
  · exact absurd ⟨by omega, by omega⟩ hab
  · exact absurd ⟨by omega, by omega⟩ hab
  · exact Or.inr (by omega)
  · exact Or.inl (by omega)
  · exact absurd (by omega) hc
  · exact Or.inr (by omega)

/-- the second clause of the triangular criterion for the member `(x, y, z)` with witness
    `(u, v, w)`, from the neighbours of the witness -/
theorem others {Lx Ly Lz : Nat} (hLz : 1 ≤ Lz) {x y z u v w : Int} {bx : Bool}
    (H : ∀ a b c, [a, b, c] ∈ stabs Lx Ly Lz → Adj u v w a b c →
      (a % 2 = 0 ∧ b % 2 = 0 ↔ bx = false) →
      (a = x ∧ b = y ∧ c = z) ∨ a + b - 2 * c < x + y - 2 * z) :
    ∀ t ∈ rankFamily Lx Ly Lz, hit bx (getStab Lx Ly Lz t) [u, v, w] = true →
      t = [x, y, z] ∨ rk t < rk [x, y, z] := by
  intro t ht hh
  have hts := (rankFamily_sublist hLz).subset ht
  obtain ⟨a, b, c, rfl⟩ := shape_of_mem_stabs hts
  obtain ⟨hadj, hpar⟩ := hit_adj hts hh
  simpa only [rk, List.cons.injEq, and_true] using H a b c hts hadj hpar

theorem hit_face {Lx Ly Lz : Nat} {ax : Axis} {u v w : Int} {q : Coord}
    (h : isFace Lx Ly Lz ax u v w) (hq : q ∈ faceKeys Lx Ly Lz ax u v w) :
    hit true (getStab Lx Ly Lz (ins ax u v w)) q = true := by
  rw [getStab_face h, hit_uop_X]
  simpa using hq

theorem rankFamily_indep {Lx Ly Lz : Nat} (hLz : 1 ≤ Lz) :
    OpsIndep ((rankFamily Lx Ly Lz).map (getStab Lx Ly Lz)) := by
  refine opsIndep_of_witnesses (rankFamily_nodup hLz) rk wit wx ?_
  intro s hs
  obtain ⟨x, y, z, rfl, h | ⟨h, h0⟩ | h | h⟩ := rankFamily_cases hLz hs
  · rw [(eval_vertex h).1, (eval_vertex h).2]
    exact ⟨by rw [getStab_vertex h, hit_uop_Z]; simpa using self_vertex h,
      others hLz fun a b c _ hadj hpar => tri_vertex h.1.2.2 (hpar.mpr rfl).1 hadj⟩
  · rw [(eval_faceXY h).1, (eval_faceXY h).2]
    exact ⟨hit_face (ax := .z) h (self_faceXY h),
      others hLz fun a b c ht hadj hpar =>
        tri_side h.2.1.2.2 h.2.2.2.2 hadj (mt hpar.mp (by decide))
          (by have := mem_stabs.mp ht; simp only [inE, inO, inE2, inO1] at this; omega)⟩
  · rw [(eval_faceYZ h).1, (eval_faceYZ h).2]
    exact ⟨hit_face (ax := .x) h (self_faceYZ h),
      others hLz fun a b c _ hadj _ => tri_up hadj⟩
  · rw [(eval_faceXZ h).1, (eval_faceXZ h).2]
    exact ⟨hit_face (ax := .y) h (self_faceXZ h),
      others hLz fun a b c _ hadj _ => tri_up hadj⟩

end Panqec.Planar3DCode
