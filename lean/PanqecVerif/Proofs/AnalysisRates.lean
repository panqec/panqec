/-
Helper lemmas (C15), the part over `Rat`: pooled rates, the standard-error radius, `absR` and the
relative-plus-absolute test `within`.  The part over the reals is `Proofs/AnalysisWordRate.lean`.
-/
import PanqecVerif.Proofs.Analysis
import Mathlib.Tactic.Linarith
import Mathlib.Tactic.Ring
import Mathlib.Tactic.FieldSimp
import Mathlib.Tactic.Positivity
import Mathlib.Algebra.Order.Field.Rat

namespace Panqec.An

theorem Group.IsPool.pEst {g : Group} {P : List Trial} (h : g.IsPool P) (hne : P ≠ []) :
    g.pEst = some ((specNFail P : Rat) / (P.length : Rat)) := by
  unfold Group.pEst
  have hl : g.success.length = P.length := by rw [h.success, List.length_map]
  have hpos : 0 < P.length := List.length_pos_iff.mpr hne
  rw [if_neg (by omega), hl, h.success, countTrue_map_su]
  have hn : (P.length : Rat) ≠ 0 := by exact_mod_cast (by omega : P.length ≠ 0)
  have hsum : (P.length : Rat) = (P.countP (·.su) : Rat) + (specNFail P : Rat) := by
    exact_mod_cast length_eq_su_add_fail P
  congr 1
  field_simp
  linarith

theorem Group.IsPool.pEst_empty {g : Group} (h : g.IsPool []) : g.pEst = none := by
  unfold Group.pEst
  rw [h.success]; simp

theorem specNFail_le_length (P : List Trial) : specNFail P ≤ P.length := List.countP_le_length

theorem rate_mem_unit (a n : Nat) (h : a ≤ n) (hn : 0 < n) :
    0 ≤ (a : Rat) / (n : Rat) ∧ (a : Rat) / (n : Rat) ≤ 1 := by
  have hn' : (0 : Rat) < n := by exact_mod_cast hn
  have ha : (a : Rat) ≤ n := by exact_mod_cast h
  constructor
  · positivity
  · rw [div_le_one hn']; exact ha

theorem seRad_nonneg (p : Rat) (n : Nat) (h0 : 0 ≤ p) (h1 : p ≤ 1) : 0 ≤ seRad p n := by
  unfold seRad
  have : (0 : Rat) < (n : Rat) + 1 := by positivity
  apply div_nonneg _ this.le
  nlinarith

theorem seRad_le_quarter (p : Rat) (n : Nat) : seRad p n ≤ 1 / (4 * ((n : Rat) + 1)) := by
  unfold seRad
  have hn : (0 : Rat) < (n : Rat) + 1 := by positivity
  rw [div_le_div_iff₀ hn (by positivity)]
  nlinarith [sq_nonneg (2 * p - 1)]

theorem sum_wall_perm {a b : List Entry} (h : a.Perm b) : (a.map (·.wall)).sum = (b.map (·.wall)).sum :=
  (h.map _).sum_eq

/-! ### soundness of the bracketing tests (what the driver's verdict `ok` means) -/

theorem absR_eq_abs (x : Rat) : absR x = |x| := by
  unfold absR
  split
  · rw [abs_of_neg ‹_›]
  · rw [abs_of_nonneg (not_lt.mp ‹_›)]

theorem within_sound {ε δ f r : Rat} (h : within ε δ f r = true) : |f - r| ≤ ε * |r| + δ := by
  unfold within at h
  rw [absR_eq_abs, absR_eq_abs] at h
  exact of_decide_eq_true h

end Panqec.An
