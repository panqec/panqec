/-
Union-find (C05): the well-formedness predicates `graphLike` / `closedGraph` of
`Model/UnionFindWF.lean` for an INCIDENCE matrix given by two lists and a Boolean relation
(`incMat V Q inc`: one row per `v ∈ V`, one column per `q ∈ Q`, entry 1 iff `inc v q`).

If every column is incident to exactly two rows, then two different rows sharing at most one
column give `closedGraph`, sharing fewer than 256 columns `closedMultigraph`; two rows sharing two
columns refute `graphLike`.  The hypotheses are counting statements (`countP`) about `inc`, with
the tools to get "exactly two" from an explicit pair of end points and "at most one" from
uniqueness.

Core Lean only.
-/
import PanqecVerif.Proofs.UnionFindWF

namespace Panqec.UF

/-- the 0/1 incidence matrix of a relation between two lists -/
def incMat {α β : Type} (V : List α) (Q : List β) (inc : α → β → Bool) : Mat :=
  V.map fun v => Q.map fun q => if inc v q then 1 else 0

theorem incMat_length {α β : Type} (V : List α) (Q : List β) (inc : α → β → Bool) :
    (incMat V Q inc).length = V.length := by simp [incMat]

theorem ncols_incMat {α β : Type} (V : List α) (Q : List β) (inc : α → β → Bool) (hV : V ≠ []) :
    ncols (incMat V Q inc) = Q.length := by
  cases V with
  | nil => exact absurd rfl hV
  | cons v V => simp [ncols, incMat]

theorem hb_incMat {α β : Type} (V : List α) (Q : List β) (inc : α → β → Bool) (s q : Nat)
    (hs : s < V.length) (hq : q < Q.length) :
    hb (incMat V Q inc) s q = inc V[s] Q[q] := by
  simp only [hb, incMat, List.getD_eq_getElem?_getD, List.getElem?_map, List.getElem?_eq_getElem hs,
    List.getElem?_eq_getElem hq, Option.map_some, Option.getD_some]
  cases inc V[s] Q[q] <;> rfl

/-- counting over the indices of a list = counting over its members -/
theorem cnt_eq_countP {α : Type} : ∀ (l : List α) (f : Nat → Bool) (p : α → Bool),
    (∀ i (hi : i < l.length), f i = p l[i]) → cnt l.length f = l.countP p
  | [], f, p, _ => rfl
  | a :: l, f, p, h => by
    have ih := cnt_eq_countP l (fun i => f (i + 1)) p (fun i hi => by
      have := h (i + 1) (by simp; omega)
      simpa using this)
    have h0 : f 0 = p a := h 0 (by simp)
    unfold cnt at ih ⊢
    rw [List.length_cons, List.range_succ_eq_map, List.countP_cons, List.countP_map, h0,
      List.countP_cons]
    have : (List.range l.length).countP (f ∘ Nat.succ) =
        (List.range l.length).countP (fun i => f (i + 1)) := rfl
    rw [this, ih]

theorem countP_eq_two_of_ends {α : Type} [DecidableEq α] (V : List α) (hnd : V.Nodup)
    (p : α → Bool) (a b : α) (ha : a ∈ V) (hb' : b ∈ V) (hab : a ≠ b)
    (h : ∀ v ∈ V, p v = true ↔ (v = a ∨ v = b)) : V.countP p = 2 := by
  rw [List.countP_eq_length_filter]
  have hperm : (V.filter p).Perm [a, b] := by
    rw [List.perm_ext_iff_of_nodup (hnd.filter _) (by simp [hab])]
    intro v
    simp only [List.mem_filter, List.mem_cons, List.not_mem_nil, or_false]
    constructor
    · rintro ⟨hv, hp⟩; exact (h v hv).mp hp
    · rintro (rfl | rfl)
      · exact ⟨ha, (h _ ha).mpr (Or.inl rfl)⟩
      · exact ⟨hb', (h _ hb').mpr (Or.inr rfl)⟩
  rw [hperm.length_eq]; rfl

theorem countP_le_one_of_unique {β : Type} : ∀ (Q : List β) (p : β → Bool), Q.Nodup →
    (∀ a ∈ Q, ∀ b ∈ Q, p a = true → p b = true → a = b) → Q.countP p ≤ 1
  | [], _, _, _ => by simp
  | a :: Q, p, hnd, h => by
    rw [List.nodup_cons] at hnd
    rw [List.countP_cons]
    by_cases hp : p a = true
    · have h0 : Q.countP p = 0 := by
        rw [List.countP_eq_zero]
        intro b hb' hpb
        have := h a (by simp) b (by simp [hb']) hp hpb
        subst this
        exact hnd.1 hb'
      rw [h0, if_pos hp]; omega
    · have := countP_le_one_of_unique Q p hnd.2
        (fun x hx y hy => h x (by simp [hx]) y (by simp [hy]))
      rw [if_neg hp]; omega

/-- weight of a column of an incidence matrix = number of incident rows -/
theorem cnt_col_incMat {α β : Type} (V : List α) (Q : List β) (inc : α → β → Bool) (q : Nat)
    (hq : q < Q.length) :
    cnt (incMat V Q inc).length (fun s => hb (incMat V Q inc) s q) =
      V.countP (fun v => inc v Q[q]) := by
  rw [incMat_length,
    cnt_eq_countP V _ (fun v => inc v Q[q]) (fun i hi => hb_incMat V Q inc i q hi hq)]

/-- what `closedGraph` and `closedMultigraph` ask of an incidence matrix whose columns are
    incident to exactly two rows each; `P` is the bound on the number of columns two different
    rows share (`· ≤ 1` resp. `· < 256`) -/
theorem incMat_closed {α β : Type} (V : List α) (Q : List β) (inc : α → β → Bool)
    (hV : V ≠ []) (hnd : V.Nodup)
    (hcol : ∀ q ∈ Q, V.countP (fun v => inc v q) = 2) (P : Nat → Prop)
    (hpair : ∀ v ∈ V, ∀ w ∈ V, v ≠ w → P (Q.countP (fun q => inc v q && inc w q))) :
    (((∀ r, r ∈ incMat V Q inc → r.length = ncols (incMat V Q inc) ∧ ∀ x, x ∈ r → x ≤ 1) ∧
      ∀ q, q < ncols (incMat V Q inc) →
        cnt (incMat V Q inc).length (fun s => hb (incMat V Q inc) s q) ≤ 2) ∧
      ∀ i, i < (incMat V Q inc).length → ∀ j, j < (incMat V Q inc).length → i = j ∨
        P (cnt (ncols (incMat V Q inc))
          (fun q => hb (incMat V Q inc) i q && hb (incMat V Q inc) j q))) ∧
    ∀ q, q < ncols (incMat V Q inc) →
      ¬ cnt (incMat V Q inc).length (fun s => hb (incMat V Q inc) s q) = 1 := by
  have hcnt : ∀ q (hq : q < Q.length),
      cnt (incMat V Q inc).length (fun s => hb (incMat V Q inc) s q) = 2 := fun q hq =>
    (cnt_col_incMat V Q inc q hq).trans (hcol _ (List.getElem_mem hq))
  rw [ncols_incMat V Q inc hV, incMat_length]
  refine ⟨⟨⟨fun r hr => ?_, fun q hq => ?_⟩, fun i hi j hj => ?_⟩, fun q hq => ?_⟩
  · obtain ⟨v, _, rfl⟩ := List.mem_map.mp hr
    refine ⟨List.length_map _, fun x hx => ?_⟩
    obtain ⟨q, _, rfl⟩ := List.mem_map.mp hx
    split <;> omega
  · rw [← incMat_length V Q inc, hcnt q hq]
    omega
  · by_cases hij : i = j
    · exact Or.inl hij
    · right
      rw [cnt_eq_countP Q _ (fun q => inc V[i] q && inc V[j] q) fun q hq => by
        rw [hb_incMat V Q inc i q hi hq, hb_incMat V Q inc j q hj hq]]
      exact hpair _ (List.getElem_mem hi) _ (List.getElem_mem hj) fun h =>
        hij ((List.Nodup.getElem_inj_iff hnd).mp h)
  · rw [← incMat_length V Q inc, hcnt q hq]
    omega

/-- **incidence matrices of simple 2-regular-column structures are closed graphs** -/
theorem closedGraph_incMat {α β : Type} (V : List α) (Q : List β) (inc : α → β → Bool)
    (hV : V ≠ []) (hnd : V.Nodup)
    (hcol : ∀ q ∈ Q, V.countP (fun v => inc v q) = 2)
    (hpair : ∀ v ∈ V, ∀ w ∈ V, v ≠ w → Q.countP (fun q => inc v q && inc w q) ≤ 1) :
    closedGraph (incMat V Q inc) = true := by
  unfold closedGraph graphLike
  simp only [Bool.and_eq_true, List.all_eq_true, decide_eq_true_eq, List.mem_range,
    Bool.or_eq_true, bne_iff_ne, ne_eq]
  exact incMat_closed V Q inc hV hnd hcol (· ≤ 1) hpair

/-- **incidence matrices of 2-regular-column structures are closed multigraphs**: every column
    incident to exactly two rows; two different rows may share several columns (parallel
    edges), fewer than 256 -/
theorem closedMultigraph_incMat {α β : Type} (V : List α) (Q : List β) (inc : α → β → Bool)
    (hV : V ≠ []) (hnd : V.Nodup)
    (hcol : ∀ q ∈ Q, V.countP (fun v => inc v q) = 2)
    (hpair : ∀ v ∈ V, ∀ w ∈ V, v ≠ w → Q.countP (fun q => inc v q && inc w q) < 256) :
    closedMultigraph (incMat V Q inc) = true := by
  unfold closedMultigraph multigraphLike
  simp only [Bool.and_eq_true, List.all_eq_true, decide_eq_true_eq, List.mem_range,
    Bool.or_eq_true, bne_iff_ne, ne_eq]
  exact incMat_closed V Q inc hV hnd hcol (· < 256) hpair

theorem countP_or_le {β : Type} (p r : β → Bool) : ∀ (Q : List β),
    Q.countP (fun q => p q || r q) ≤ Q.countP p + Q.countP r
  | [] => by simp
  | b :: Q => by
    have ih := countP_or_le p r Q
    rw [List.countP_cons, List.countP_cons, List.countP_cons]
    cases p b <;> cases r b <;> simp <;> omega

/-- a duplicate-free list has at most `L.length` members in `L` -/
theorem countP_contains_le {β : Type} [BEq β] [LawfulBEq β] (Q : List β) (hnd : Q.Nodup) :
    ∀ (L : List β), Q.countP (fun q => L.contains q) ≤ L.length
  | [] => by simp
  | a :: L => by
    have ih := countP_contains_le Q hnd L
    have h0 : (fun q => (a :: L).contains q) = (fun q => (q == a) || L.contains q) := by
      funext q; exact List.contains_cons
    have h1 := countP_or_le (fun q => q == a) (fun q => L.contains q) Q
    have h2 : Q.countP (fun q => q == a) ≤ 1 := by
      apply countP_le_one_of_unique Q _ hnd
      intro x _ y _ hx hy
      rw [beq_iff_eq] at hx hy
      rw [hx, hy]
    rw [h0]
    simp only [List.length_cons]
    omega

/-- two different rows sharing two different columns: not graph-like -/
theorem not_graphLike_of_parallel (H : Mat) (i j q q' : Nat) (hij : i ≠ j) (hq : q ≠ q')
    (h1 : hb H i q = true) (h2 : hb H j q = true) (h3 : hb H i q' = true)
    (h4 : hb H j q' = true) : graphLike H = false := by
  cases h : graphLike H
  · rfl
  · exact absurd (graphLike_simple h i j q q' hij h1 h2 h3 h4) hq

/-- parallel edges of an incidence matrix, by members -/
theorem not_graphLike_incMat {α β : Type} [DecidableEq α] [DecidableEq β] (V : List α)
    (Q : List β) (inc : α → β → Bool) (v w : α) (q q' : β) (hv : v ∈ V) (hw : w ∈ V)
    (hq : q ∈ Q) (hq' : q' ∈ Q) (hvw : v ≠ w) (hqq : q ≠ q')
    (h1 : inc v q = true) (h2 : inc w q = true) (h3 : inc v q' = true) (h4 : inc w q' = true) :
    graphLike (incMat V Q inc) = false := by
  obtain ⟨i, hi, rfl⟩ := List.getElem_of_mem hv
  obtain ⟨j, hj, rfl⟩ := List.getElem_of_mem hw
  obtain ⟨a, ha, rfl⟩ := List.getElem_of_mem hq
  obtain ⟨b, hb', rfl⟩ := List.getElem_of_mem hq'
  apply not_graphLike_of_parallel _ i j a b
  · intro h; subst h; exact hvw rfl
  · intro h; subst h; exact hqq rfl
  · rw [hb_incMat V Q inc i a hi ha]; exact h1
  · rw [hb_incMat V Q inc j a hj ha]; exact h2
  · rw [hb_incMat V Q inc i b hi hb']; exact h3
  · rw [hb_incMat V Q inc j b hj hb']; exact h4

end Panqec.UF
