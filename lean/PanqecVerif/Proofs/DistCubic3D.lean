/-
Counting lemmas for the all-sizes distance proofs of the 3-D codes: double sums (`rsum2`), cyclic
shifts of either index, the slab argument (planes `P 0, …, P (M-1)`; consecutive planes differ by the
slab of generators between them, every rung of the slab being counted twice), ladders with a wrap,
lines and planes of qubits as key lists over `range2`, and the anticommutation count of a line /
plane operator as a (double) sum of indicators.
-/
import PanqecVerif.Proofs.DistLines
import PanqecVerif.Proofs.LatCubic3D

namespace Panqec.Lat2D

def rsum2 (A B : Nat) (f : Nat → Nat → Nat) : Nat := rsum A (fun j => rsum B (f j))

theorem rsum2_congr {A B : Nat} {f g : Nat → Nat → Nat}
    (h : ∀ j k, j < A → k < B → f j k = g j k) : rsum2 A B f = rsum2 A B g :=
  rsum_congr A (fun j hj => rsum_congr B (fun k hk => h j k hj hk))

theorem rsum2_add (A B : Nat) (f g : Nat → Nat → Nat) :
    rsum2 A B (fun j k => f j k + g j k) = rsum2 A B f + rsum2 A B g := by
  unfold rsum2
  rw [← rsum_add]
  exact rsum_congr A (fun j _ => rsum_add (f j) (g j) B)

theorem rsum2_even {A B : Nat} {f : Nat → Nat → Nat}
    (h : ∀ j k, j < A → k < B → f j k % 2 = 0) : rsum2 A B f % 2 = 0 :=
  rsum_even A (fun j hj => rsum_even B (fun k hk => h j k hj hk))

/-- cyclic predecessor / successor of an index `< L` -/
def wrapP (L j : Nat) : Nat := if j = 0 then L - 1 else j - 1
def wrapS (L j : Nat) : Nat := if j + 1 = L then 0 else j + 1

/-- the cyclic step of the coordinates `2k`, `2a + 1` of a period `2L`, in indices -/
theorem cdn_even_nat {L k : Nat} (hk : k < L) :
    Cyclic.cdn 0 (2 * (L : Int)) (2 * (k : Int)) = 2 * ((wrapP L k : Nat) : Int) + 1 := by
  rw [Cyclic.cdn_zero]
  unfold wrapP
  by_cases h : k = 0
  · subst h
    simp only [Int.natCast_zero, Int.mul_zero, if_true]
    omega
  · rw [if_neg (by omega), if_neg h]
    omega

theorem cup_odd_nat (L a : Nat) :
    Cyclic.cup 0 (2 * (L : Int)) (2 * (a : Int) + 1) = 2 * ((wrapS L a : Nat) : Int) := by
  rw [Cyclic.cup_zero]
  unfold wrapS
  by_cases h : a + 1 = L
  · rw [if_pos (by omega), if_pos h]
    rfl
  · rw [if_neg (by omega), if_neg h]
    omega

theorem rsum_wrapP (g : Nat → Nat) (L : Nat) : rsum L (fun j => g (wrapP L j)) = rsum L g :=
  rsum_predWrap g L
theorem rsum_wrapS (g : Nat → Nat) (L : Nat) : rsum L (fun j => g (wrapS L j)) = rsum L g :=
  rsum_succWrap g L

/-- **Slab, general form.**  Planes `P 0, …, P (M-1)` of `A × B` sites; between `P i` and
    `P (i+1)` a slab with two families of rungs, each listed twice (`R1' i` is a rearrangement of
    `R1 i`, `R2' i` of `R2 i`); the constraint at site `(j, k)` of slab `i` involves `P i j k`,
    `P (i+1) j k` and one entry of each of the four rung lists.  If every constraint is even, all
    planes have the same parity. -/
theorem slabG (A B M : Nat) (P R1 R1' R2 R2' : Nat → Nat → Nat → Nat)
    (h1 : ∀ i, i + 1 < M → rsum2 A B (R1' i) = rsum2 A B (R1 i))
    (h2 : ∀ i, i + 1 < M → rsum2 A B (R2' i) = rsum2 A B (R2 i))
    (h : ∀ i, i + 1 < M → ∀ j k, j < A → k < B →
      (P i j k + P (i + 1) j k + R1' i j k + R1 i j k + R2' i j k + R2 i j k) % 2 = 0) :
    ∀ i, i < M → rsum2 A B (P i) % 2 = rsum2 A B (P 0) % 2 := by
  apply chain M (fun i => rsum2 A B (P i))
  intro i hi
  have he := rsum2_even (h i hi)
  simp only [rsum2_add] at he
  rw [h1 i hi, h2 i hi] at he
  show (rsum2 A B (P i) + rsum2 A B (P (i + 1))) % 2 = 0
  omega

/-- **Slab, periodic.**  The rungs of site `(j, k)` are `R1 i (j-1) k`, `R1 i j k`,
    `R2 i j (k-1)`, `R2 i j k` (cyclically), so every rung occurs in exactly two constraints. -/
theorem slab (A B M : Nat) (P R1 R2 : Nat → Nat → Nat → Nat)
    (h : ∀ i, i + 1 < M → ∀ j k, j < A → k < B →
      (P i j k + P (i + 1) j k + R1 i (wrapP A j) k + R1 i j k
        + R2 i j (wrapP B k) + R2 i j k) % 2 = 0) :
    ∀ i, i < M → rsum2 A B (P i) % 2 = rsum2 A B (P 0) % 2 :=
  slabG A B M P R1 (fun i j k => R1 i (wrapP A j) k) R2 (fun i j k => R2 i j (wrapP B k))
    (fun i _ => rsum_wrapP (fun j => rsum B (R1 i j)) A)
    (fun i _ => rsum_congr A fun j _ => rsum_wrapP (R2 i j) B) h

theorem rsum_zero {g : Nat → Nat} : ∀ L : Nat, (∀ j, j < L → g j = 0) → rsum L g = 0
  | 0, _ => rfl
  | L + 1, h => by
    simp only [rsum]
    rw [rsum_zero L (fun j hj => h j (by omega)), h L (by omega)]

/-- **Slab with open boundaries**, in lattice coordinates (`u` = normal coordinate, `v`, `w` =
    in-plane coordinates): planes at `u = 2i + 1`, sites `(2j, 2k)`; the constraint at
    `(2i + 2, 2j, 2k)` involves its six neighbours, and `F` vanishes on the positions just
    outside the slab. -/
theorem slab_open (M A B : Nat) (F : Int → Int → Int → Nat)
    (hv0 : ∀ (i k : Nat), F (2 * i + 2) (-1) (2 * k) = 0)
    (hvA : ∀ (i k : Nat), F (2 * i + 2) (2 * A - 1) (2 * k) = 0)
    (hw0 : ∀ (i j : Nat), F (2 * i + 2) (2 * j) (-1) = 0)
    (hwB : ∀ (i j : Nat), F (2 * i + 2) (2 * j) (2 * B - 1) = 0)
    (hstab : ∀ i j k : Nat, i + 1 < M → j < A → k < B →
      (F (2 * i + 1) (2 * j) (2 * k) + F (2 * i + 3) (2 * j) (2 * k)
        + F (2 * i + 2) (2 * j - 1) (2 * k) + F (2 * i + 2) (2 * j + 1) (2 * k)
        + F (2 * i + 2) (2 * j) (2 * k - 1) + F (2 * i + 2) (2 * j) (2 * k + 1)) % 2 = 0) :
    ∀ i : Nat, i < M →
      rsum2 A B (fun j k => F (2 * i + 1) (2 * j) (2 * k)) % 2 =
        rsum2 A B (fun j k => F 1 (2 * j) (2 * k)) % 2 := by
  intro i hi
  have h := slabG A B M (fun i j k => F (2 * i + 1) (2 * j) (2 * k))
    (fun i j k => F (2 * i + 2) (2 * j + 1) (2 * k)) (fun i j k => F (2 * i + 2) (2 * j - 1) (2 * k))
    (fun i j k => F (2 * i + 2) (2 * j) (2 * k + 1)) (fun i j k => F (2 * i + 2) (2 * j) (2 * k - 1))
    ?_ ?_ ?_ i hi
  · simpa using h
  · intro i _
    exact (rsum_reindex_open (fun v => rsum B fun k => F (2 * i + 2) v (2 * k)) (fun j => 2 * j - 1)
      (fun j => 2 * j + 1) (fun j => by omega) A
      (rsum_zero B fun k _ => by simpa using hv0 i k) (rsum_zero B fun k _ => hvA i k)).symm
  · intro i _
    exact rsum_congr A fun j _ => (rsum_reindex_open (F (2 * i + 2) (2 * j)) (fun k => 2 * k - 1)
      (fun k => 2 * k + 1) (fun k => by omega) B (by simpa using hw0 i j) (hwB i j)).symm
  · intro i hi j k hj hk
    have := hstab i j k hi hj hk
    have e : (2 * ((i + 1 : Nat) : Int) + 1) = 2 * (i : Int) + 3 := by omega
    simp only [e]
    omega

/-- **Slab tiled by dominoes** (rotated lattices).  Layers `k < A`; in layer `k` the sites `2m`
    (`0 ≤ m ≤ B`) of one parity class `m % 2 = e` each cover the two positions `2m ± 1` of the
    line `g k` (which vanishes just outside `1 … 2B - 1`) and the two vertical rungs `W k m`,
    `W (k+1) m` below and above (which vanish at the bottom `k = 0` and at the top `k = A`).  If
    the constraint of every site is even, the total of all lines is even. -/
theorem slab_domino (e : Nat) (he : e < 2) (A B : Nat) (g : Nat → Int → Nat) (W : Nat → Nat → Nat)
    (hg0 : ∀ k, k < A → g k (-1) = 0) (hgB : ∀ k, k < A → g k (2 * B + 1) = 0)
    (hW0 : ∀ m, m < B + 1 → W 0 m = 0) (hWA : ∀ m, m < B + 1 → W A m = 0)
    (hc : ∀ k m, k < A → m < B + 1 → m % 2 = e →
      (g k (2 * m - 1) + g k (2 * m + 1) + W k m + W (k + 1) m) % 2 = 0) :
    rsum2 A B (fun k j => g k (2 * j + 1)) % 2 = 0 := by
  have hC : rsum2 A (B + 1) (fun k m =>
      (if m % 2 = e then g k (2 * m - 1) + g k (2 * m + 1) else 0) +
        ((if m % 2 = e then W k m else 0) + (if m % 2 = e then W (k + 1) m else 0))) % 2 = 0 := by
    apply rsum2_even
    intro k m hk hm
    by_cases h : m % 2 = e
    · have := hc k m hk hm h
      simp only [if_pos h]
      omega
    · simp only [if_neg h]
  rw [rsum2_add, rsum2_add] at hC
  dsimp only [rsum2] at hC ⊢
  -- dominoes tile every line; the rungs above the sites are the rungs below the next layer
  rw [rsum_congr A fun k hk => rsum_pairs e he B (g k) (hg0 k hk) (hgB k hk),
    rsum_shift_open (fun k => rsum (B + 1) fun m => if m % 2 = e then W k m else 0) A
      (rsum_zero (B + 1) fun m hm => by rw [hW0 m hm]; simp)
      (rsum_zero (B + 1) fun m hm => by rw [hWA m hm]; simp)] at hC
  omega

/-- **Ladder with a `+1` wrap**: lines `F 0, …, F (M-1)` of `L` sites, rungs `G i`; the `j`-th
    constraint of rung line `i` involves `F i j`, `F (i+1) j`, `G i j` and `G i (j+1)`
    (cyclically). -/
theorem ladderS (L M : Nat) (F G : Nat → Nat → Nat)
    (h : ∀ i, i + 1 < M → ∀ j, j < L →
      (F i j + F (i + 1) j + G i j + G i (wrapS L j)) % 2 = 0) :
    ∀ i, i < M → rsum L (F i) % 2 = rsum L (F 0) % 2 :=
  ladder L M F G (fun i j => G i (wrapS L j)) (fun i _ => rsum_wrapS (G i) L) h

/-- **Ladder with a `-1` wrap**: the `j`-th constraint of rung line `i` involves `F i j`,
    `F (i+1) j`, `G i j` and `G i (j-1)` (cyclically). -/
theorem ladderP (L M : Nat) (F G : Nat → Nat → Nat)
    (h : ∀ i, i + 1 < M → ∀ j, j < L →
      (F i j + F (i + 1) j + G i j + G i (wrapP L j)) % 2 = 0) :
    ∀ i, i < M → rsum L (F i) % 2 = rsum L (F 0) % 2 :=
  ladder L M F G (fun i j => G i (wrapP L j)) (fun i _ => rsum_wrapP (G i) L) h

/-- **Row of cubes**: four lines `A1 … A4` of `L` sites and four lines of rungs `G1 … G4`; the
    `a`-th constraint involves the `a`-th site of each line and the rungs `a`, `a + 1`
    (cyclically) of each rung line.  If every constraint is even, the four lines together are
    even. -/
theorem ladder4 (L : Nat) (A1 A2 A3 A4 G1 G2 G3 G4 : Nat → Nat)
    (h : ∀ a, a < L → (A1 a + A2 a + A3 a + A4 a + G1 a + G1 (wrapS L a) + G2 a + G2 (wrapS L a)
      + G3 a + G3 (wrapS L a) + G4 a + G4 (wrapS L a)) % 2 = 0) :
    (rsum L A1 + rsum L A2 + rsum L A3 + rsum L A4) % 2 = 0 := by
  have he := rsum_even L h
  simp only [rsum_add, rsum_wrapS] at he
  omega

/-- **Plaquette relations imply rectangle relations**: if `U j k + U (j+1) k + U j (k+1) +
    U (j+1) (k+1)` is even for every plaquette of an `A × B` grid, then so is
    `U j k + U j 0 + U 0 k + U 0 0` for every site. -/
theorem rect (A B : Nat) (U : Nat → Nat → Nat)
    (h : ∀ j k, j + 1 < A → k + 1 < B →
      (U j k + U (j + 1) k + U j (k + 1) + U (j + 1) (k + 1)) % 2 = 0) :
    ∀ j k, j < A → k < B → (U j k + U j 0 + U 0 k + U 0 0) % 2 = 0 := by
  intro j k hj hk
  have hD : ∀ j, j + 1 < A → (U j k + U (j + 1) k) % 2 = (U j 0 + U (j + 1) 0) % 2 := by
    intro j hj
    exact chain B (fun k => U j k + U (j + 1) k) (fun k hk => by
      have := h j k hj hk
      show (U j k + U (j + 1) k + (U j (k + 1) + U (j + 1) (k + 1))) % 2 = 0
      omega) k hk
  have hE := chain A (fun j => U j k + U j 0) (fun j hj => by
    have := hD j hj
    show (U j k + U j 0 + (U (j + 1) k + U (j + 1) 0)) % 2 = 0
    omega) j hj
  have hE' : (U j k + U j 0) % 2 = (U 0 k + U 0 0) % 2 := hE
  omega

theorem wrapP_wrapS (L m : Nat) : wrapP L (wrapS L m) = m := by
  unfold wrapP wrapS
  by_cases h : m + 1 = L
  · rw [if_pos h, if_pos rfl]; omega
  · rw [if_neg h, if_neg (by omega)]; omega

theorem rsum2_wrapS_left (A B : Nat) (g : Nat → Nat → Nat) :
    rsum2 A B (fun j k => g (wrapS A j) k) = rsum2 A B g :=
  rsum_wrapS (fun j => rsum B (g j)) A

theorem rsum_mod2_congr {f g : Nat → Nat} : ∀ L : Nat, (∀ j, j < L → f j % 2 = g j % 2) →
    rsum L f % 2 = rsum L g % 2
  | 0, _ => rfl
  | L + 1, h => by
    have ih := rsum_mod2_congr L (fun j hj => h j (by omega))
    have hl := h L (by omega)
    simp only [rsum]
    omega

theorem rsum2_mod2_congr {A B : Nat} {f g : Nat → Nat → Nat}
    (h : ∀ j k, j < A → k < B → f j k % 2 = g j k % 2) : rsum2 A B f % 2 = rsum2 A B g % 2 :=
  rsum_mod2_congr A (fun j hj => rsum_mod2_congr B (fun k hk => h j k hj hk))

theorem rsum2_swap (B : Nat) (f : Nat → Nat → Nat) : ∀ A : Nat,
    rsum2 A B f = rsum2 B A (fun k j => f j k)
  | 0 => by
    unfold rsum2
    simp only [rsum]
    exact (Lat2D.rsum_zero B (fun _ _ => rfl)).symm
  | A + 1 => by
    have ih := rsum2_swap B f A
    unfold rsum2 at ih ⊢
    simp only [rsum]
    rw [rsum_add, ih]

theorem odd_chain (M : Nat) (S : Int → Nat)
    (h : ∀ i : Nat, i + 1 < M → (S (2 * (i : Int) + 1) + S (2 * (i : Int) + 3)) % 2 = 0) (i : Nat)
    (hi : i < M) : S (2 * (i : Int) + 1) % 2 = S 1 % 2 := by
  have h' := chain M (fun i => S (2 * (i : Int) + 1)) (fun i hi => by
    have e : (2 * ((i + 1 : Nat) : Int) + 1) = 2 * (i : Int) + 3 := by omega
    simp only [e]
    exact h i hi) i hi
  simpa using h'

end Panqec.Lat2D

namespace Panqec.Cubic3D
open Panqec.Lat2D

theorem range2_eq {a b : Int} {L : Nat} (h : ((b - a + 1) / 2).toNat = L) (f : Nat → Int)
    (hf : ∀ j : Nat, a + 2 * (j : Int) = f j) : range2 a b = (List.range L).map f := by
  unfold range2
  rw [h]
  exact List.map_congr_left fun j _ => hf j

theorem range2_even (L : Nat) :
    range2 0 (2 * (L : Int)) = (List.range L).map (fun (j : Nat) => 2 * (j : Int)) :=
  range2_eq (by omega) _ fun j => by omega

theorem countP_lineO1 (p : Coord → Bool) (f : Int → Coord) (L : Nat) :
    ((range2 1 (2 * (L : Int) + 1)).map f).countP p =
      rsum L (fun j => if p (f (2 * (j : Int) + 1)) = true then 1 else 0) := by
  rw [range2_eq (L := L) (by omega) (fun j => 2 * (j : Int) + 1) fun j => by omega, List.map_map]
  exact countP_range_map p _ L

theorem countP_lineO (p : Coord → Bool) (f : Int → Coord) (L : Nat) :
    ((range2 1 (2 * (L : Int))).map f).countP p =
      rsum L (fun j => if p (f (2 * (j : Int) + 1)) = true then 1 else 0) := by
  rw [range2_eq (L := L) (by omega) (fun j => 2 * (j : Int) + 1) fun j => by omega, List.map_map]
  exact countP_range_map p _ L

theorem countP_planeE (p : Coord → Bool) (f : Int → Int → Coord) (A B : Nat) :
    (grid2 (range2 0 (2 * (A : Int))) (range2 0 (2 * (B : Int))) f).countP p =
      rsum2 A B (fun j k => if p (f (2 * (j : Int)) (2 * (k : Int))) = true then 1 else 0) := by
  unfold grid2 rsum2
  rw [range2_even A, List.flatMap_map, countP_flatMap_range]
  apply rsum_congr
  intro j _
  rw [range2_even B, List.map_map]
  exact countP_range_map p _ B

/-- one-letter operators are the single-letter dicts of `Proofs/DistLattice.lean` -/
theorem opAntiCount_uop_hit (K : List Coord) (P : Pauli) (b : Op) :
    opAntiCount (uop K P) b = K.countP (opHit P b) :=
  opAntiCount_line K P b

end Panqec.Cubic3D
