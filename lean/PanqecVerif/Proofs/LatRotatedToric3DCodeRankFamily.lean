/-
`RotatedToric3DCode`, supported family, rank clause: the family `rankFamily` of
`Model/Lattices/RotatedToric3DCode.lean` — arithmetic characterisation of its four parts,
distinctness, membership in `get_stabilizer_coordinates`, and the count `n − k`
(`Lx·Ly − k` generators in the bottom layer; one vertex per vertical qubit above it; vertical faces
plus the horizontal faces next to the dropped column: `Lx·Ly` per layer of vertical qubits).
-/
import PanqecVerif.Proofs.LatRotatedToric3DCodeRankHits
import Mathlib.Tactic.Ring
open Panqec Panqec.Lat3Db
namespace Panqec.RotatedToric3DCode

set_option linter.unusedVariables false
set_option linter.unusedSimpArgs false

theorem mem_pyRange4 (L : Nat) (y : Int) :
    y ∈ pyRange4 L ↔ y % 4 = 2 ∧ 2 ≤ y ∧ y ≤ 2 * (L : Int) := by
  unfold pyRange4
  simp only [List.mem_map, List.mem_range]
  constructor
  · rintro ⟨i, hi, rfl⟩; omega
  · rintro ⟨h1, h2, h3⟩
    exact ⟨((y - 2) / 4).toNat, by omega, by omega⟩

theorem nodup_pyRange4 (L : Nat) : (pyRange4 L).Nodup := by
  unfold pyRange4
  refine List.Nodup.map ?_ List.nodup_range
  intro a b h
  simp only at h
  omega

theorem length_pyRange4 (L : Nat) : (pyRange4 L).length = (L + 1) / 2 := by
  simp [pyRange4]

/-- odd layer above the bottom one -/
def ZU (Lz : Nat) (z : Int) : Prop := z % 2 = 1 ∧ 3 ≤ z ∧ z < 2 * (Lz : Int)

def InL1 (Lx Ly : Nat) (x y z : Int) : Prop :=
  Ev Lx x ∧ Ev Ly y ∧ z = 1 ∧ ¬ (x = 2 ∧ y = 4) ∧ ¬ (Lx % 2 = 0 ∧ Ly % 2 = 0 ∧ x = 2 ∧ y = 2)
def InVU (Lx Ly Lz : Nat) (x y z : Int) : Prop :=
  Ev Lx x ∧ Ev Ly y ∧ ZU Lz z ∧ (x + y) % 4 = 2
def InHU (Lx Ly Lz : Nat) (x y z : Int) : Prop :=
  ZU Lz z ∧
    ((Lx % 2 = 1 ∧ (x = 2 ∨ x = 2 * (Lx : Int)) ∧ y % 4 = 2 ∧ 2 ≤ y ∧ y ≤ 2 * (Ly : Int)) ∨
     (Lx % 2 = 0 ∧ Ly % 2 = 1 ∧ (x % 4 = 2 ∧ 2 ≤ x ∧ x ≤ 2 * (Lx : Int)) ∧
        (y = 2 ∨ y = 2 * (Ly : Int))))
def InVF (Lx Ly Lz : Nat) (x y z : Int) : Prop :=
  Od Lx x ∧ Od Ly y ∧ R2 (2 * Lz) z ∧ (Lx % 2 = 1 → 3 ≤ x) ∧ (Lx % 2 = 0 → Ly % 2 = 1 → 3 ≤ y)

theorem mem_pyRange2_3 (b : Nat) (z : Int) : z ∈ pyRange2 3 b ↔ z % 2 = 1 ∧ 3 ≤ z ∧ z < b := by
  rw [mem_pyRange2]; omega

theorem beq_parity (L r : Nat) (p : Prop) [Decidable p] (h : (L % 2 = r) ↔ p) :
    (L % 2 == r) = decide p := by
  by_cases hp : p
  · simp [hp, h.mpr hp]
  · have : ¬ L % 2 = r := fun e => hp (h.mp e)
    simp [hp, this]

theorem g1_nodup (Lx Ly : Nat) :
    (grid3 (pyRange2 2 (2*Lx+1)) (pyRange2 2 (2*Ly+1)) [1] (fun _ _ _ => true)).Nodup :=
  nodup_grid3 _ _ _ _ (nodup_pyRange2 _ _) (nodup_pyRange2 _ _) (by simp)

theorem mem_g1 (Lx Ly : Nat) (x y z : Int) :
    [x, y, z] ∈ grid3 (pyRange2 2 (2*Lx+1)) (pyRange2 2 (2*Ly+1)) [1] (fun _ _ _ => true) ↔
      Ev Lx x ∧ Ev Ly y ∧ z = 1 := by
  rw [mem_grid3_cons, mem_pyRange2_2, mem_pyRange2_2, R2_Ev, R2_Ev]
  simp

theorem mem_famLayer1 (Lx Ly : Nat) (x y z : Int) :
    [x, y, z] ∈ famLayer1 Lx Ly ↔ InL1 Lx Ly x y z := by
  unfold famLayer1 InL1
  by_cases hee : Lx % 2 = 0 ∧ Ly % 2 = 0
  · have e : (Lx % 2 == 0 && Ly % 2 == 0) = true := by simp [hee.1, hee.2]
    rw [if_pos e, ((g1_nodup Lx Ly).erase _).mem_erase_iff, (g1_nodup Lx Ly).mem_erase_iff, mem_g1]
    simp only [ne_eq, List.cons.injEq, and_true]
    constructor
    · rintro ⟨h1, h2, hx, hy, hz⟩
      exact ⟨hx, hy, hz, fun h => h2 ⟨h.1, h.2, hz⟩, fun h => h1 ⟨h.2.2.1, h.2.2.2, hz⟩⟩
    · rintro ⟨hx, hy, hz, h2, h1⟩
      exact ⟨fun h => h1 ⟨hee.1, hee.2, h.1, h.2.1⟩, fun h => h2 ⟨h.1, h.2.1⟩, hx, hy, hz⟩
  · have e : ¬ (Lx % 2 == 0 && Ly % 2 == 0) = true := by
      simp only [Bool.and_eq_true, beq_iff_eq]; exact hee
    rw [if_neg e, (g1_nodup Lx Ly).mem_erase_iff, mem_g1]
    simp only [ne_eq, List.cons.injEq, and_true]
    constructor
    · rintro ⟨h2, hx, hy, hz⟩
      exact ⟨hx, hy, hz, fun h => h2 ⟨h.1, h.2, hz⟩, fun h => hee ⟨h.1, h.2.1⟩⟩
    · rintro ⟨hx, hy, hz, h2, _⟩
      exact ⟨fun h => h2 ⟨h.1, h.2.1⟩, hx, hy, hz⟩

theorem mem_famVerticesUp (Lx Ly Lz : Nat) (x y z : Int) :
    [x, y, z] ∈ famVerticesUp Lx Ly Lz ↔ InVU Lx Ly Lz x y z := by
  unfold famVerticesUp InVU ZU
  rw [mem_grid3_cons, mem_pyRange2_2, mem_pyRange2_2, R2_Ev, R2_Ev, mem_pyRange2_3]
  simp only [beq_iff_eq]
  constructor
  · rintro ⟨hx, hy, hz, h4⟩; exact ⟨hx, hy, ⟨hz.1, hz.2.1, by omega⟩, h4⟩
  · rintro ⟨hx, hy, hz, h4⟩; exact ⟨hx, hy, ⟨hz.1, hz.2.1, by omega⟩, h4⟩

theorem mem_famFacesUp (Lx Ly Lz : Nat) (x y z : Int) :
    [x, y, z] ∈ famFacesUp Lx Ly Lz ↔ InHU Lx Ly Lz x y z := by
  unfold famFacesUp InHU ZU
  by_cases hx : Lx % 2 = 1
  · have e : (Lx % 2 == 1) = true := by simp [hx]
    rw [if_pos e, mem_grid3_cons, mem_pyRange4, mem_pyRange2_3]
    simp only [List.mem_cons, List.not_mem_nil, or_false, and_true]
    constructor
    · rintro ⟨h1, h2, h3⟩; exact ⟨⟨h3.1, h3.2.1, by omega⟩, Or.inl ⟨hx, h1, h2⟩⟩
    · rintro ⟨h3, h | h⟩
      · exact ⟨h.2.1, h.2.2, ⟨h3.1, h3.2.1, by omega⟩⟩
      · omega
  · have e : ¬ (Lx % 2 == 1) = true := by simp [hx]
    rw [if_neg e]
    by_cases hy : Ly % 2 = 1
    · have e' : (Ly % 2 == 1) = true := by simp [hy]
      rw [if_pos e', mem_grid3_cons, mem_pyRange4, mem_pyRange2_3]
      simp only [List.mem_cons, List.not_mem_nil, or_false, and_true]
      constructor
      · rintro ⟨h1, h2, h3⟩
        exact ⟨⟨h3.1, h3.2.1, by omega⟩, Or.inr ⟨by omega, hy, h1, h2⟩⟩
      · rintro ⟨h3, h | h⟩
        · omega
        · exact ⟨h.2.2.1, h.2.2.2, ⟨h3.1, h3.2.1, by omega⟩⟩
    · have e' : ¬ (Ly % 2 == 1) = true := by simp [hy]
      rw [if_neg e']
      simp only [List.not_mem_nil, false_iff]
      rintro ⟨_, h | h⟩ <;> omega

theorem mem_famVFaces (Lx Ly Lz : Nat) (x y z : Int) :
    [x, y, z] ∈ famVFaces Lx Ly Lz ↔ InVF Lx Ly Lz x y z := by
  unfold famVFaces InVF
  by_cases hx : Lx % 2 = 1
  · have e : (Lx % 2 == 1) = true := by simp [hx]
    rw [if_pos e, mem_grid3_cons, mem_pyRange2_3, mem_pyRange2_1, mem_pyRange2_2, R1_Od]
    unfold Od
    simp only [and_true]
    constructor
    · rintro ⟨h1, h2, h3⟩; exact ⟨⟨h1.1, by omega, by omega⟩, h2, h3, fun _ => h1.2.1, by omega⟩
    · rintro ⟨h1, h2, h3, h4, _⟩; exact ⟨⟨h1.1, h4 hx, by omega⟩, h2, h3⟩
  · have e : ¬ (Lx % 2 == 1) = true := by simp [hx]
    rw [if_neg e]
    by_cases hy : Ly % 2 = 1
    · have e' : (Ly % 2 == 1) = true := by simp [hy]
      rw [if_pos e', mem_grid3_cons, mem_pyRange2_3, mem_pyRange2_1, mem_pyRange2_2, R1_Od]
      unfold Od
      simp only [and_true]
      constructor
      · rintro ⟨h1, h2, h3⟩
        exact ⟨h1, ⟨h2.1, by omega, by omega⟩, h3, fun h => absurd h hx, fun _ _ => h2.2.1⟩
      · rintro ⟨h1, h2, h3, _, h5⟩; exact ⟨h1, ⟨h2.1, h5 (by omega) hy, by omega⟩, h3⟩
    · have e' : ¬ (Ly % 2 == 1) = true := by simp [hy]
      rw [if_neg e', mem_grid3_cons, mem_pyRange2_1, mem_pyRange2_1, mem_pyRange2_2, R1_Od, R1_Od]
      simp only [and_true]
      constructor
      · rintro ⟨h1, h2, h3⟩; exact ⟨h1, h2, h3, fun h => absurd h hx, fun _ h => absurd h hy⟩
      · rintro ⟨h1, h2, h3, _, _⟩; exact ⟨h1, h2, h3⟩

theorem shape_famLayer1 {Lx Ly : Nat} {s : Coord} (h : s ∈ famLayer1 Lx Ly) :
    ∃ x y z, s = [x, y, z] := by
  unfold famLayer1 at h
  have h' : s ∈ grid3 (pyRange2 2 (2*Lx+1)) (pyRange2 2 (2*Ly+1)) [1] (fun _ _ _ => true) := by
    split at h
    · exact List.mem_of_mem_erase (List.mem_of_mem_erase h)
    · exact List.mem_of_mem_erase h
  rw [mem_grid3] at h'
  obtain ⟨x, y, z, rfl, _⟩ := h'; exact ⟨x, y, z, rfl⟩

theorem shape_famVerticesUp {Lx Ly Lz : Nat} {s : Coord} (h : s ∈ famVerticesUp Lx Ly Lz) :
    ∃ x y z, s = [x, y, z] := by
  unfold famVerticesUp at h
  rw [mem_grid3] at h
  obtain ⟨x, y, z, rfl, _⟩ := h; exact ⟨x, y, z, rfl⟩

theorem shape_famFacesUp {Lx Ly Lz : Nat} {s : Coord} (h : s ∈ famFacesUp Lx Ly Lz) :
    ∃ x y z, s = [x, y, z] := by
  unfold famFacesUp at h
  split at h
  · rw [mem_grid3] at h; obtain ⟨x, y, z, rfl, _⟩ := h; exact ⟨x, y, z, rfl⟩
  · split at h
    · rw [mem_grid3] at h; obtain ⟨x, y, z, rfl, _⟩ := h; exact ⟨x, y, z, rfl⟩
    · cases h

theorem shape_famVFaces {Lx Ly Lz : Nat} {s : Coord} (h : s ∈ famVFaces Lx Ly Lz) :
    ∃ x y z, s = [x, y, z] := by
  unfold famVFaces at h
  split at h
  · rw [mem_grid3] at h; obtain ⟨x, y, z, rfl, _⟩ := h; exact ⟨x, y, z, rfl⟩
  · split at h
    · rw [mem_grid3] at h; obtain ⟨x, y, z, rfl, _⟩ := h; exact ⟨x, y, z, rfl⟩
    · rw [mem_grid3] at h; obtain ⟨x, y, z, rfl, _⟩ := h; exact ⟨x, y, z, rfl⟩

/-- membership in the family, by parts -/
def InB (Lx Ly Lz : Nat) (x y z : Int) : Prop :=
  InL1 Lx Ly x y z ∨ InVU Lx Ly Lz x y z ∨ InHU Lx Ly Lz x y z ∨ InVF Lx Ly Lz x y z

theorem shape_of_mem_rankFamily {Lx Ly Lz : Nat} {s : Coord} (h : s ∈ rankFamily Lx Ly Lz) :
    ∃ x y z, s = [x, y, z] := by
  unfold rankFamily at h
  simp only [List.mem_append] at h
  rcases h with ((h | h) | h) | h
  · exact shape_famLayer1 h
  · exact shape_famVerticesUp h
  · exact shape_famFacesUp h
  · exact shape_famVFaces h

theorem mem_rankFamily (Lx Ly Lz : Nat) (x y z : Int) :
    [x, y, z] ∈ rankFamily Lx Ly Lz ↔ InB Lx Ly Lz x y z := by
  unfold rankFamily InB
  simp only [List.mem_append, mem_famLayer1, mem_famVerticesUp, mem_famFacesUp, mem_famVFaces]
  tauto

theorem famLayer1_nodup (Lx Ly : Nat) : (famLayer1 Lx Ly).Nodup := by
  unfold famLayer1
  split
  · exact ((g1_nodup Lx Ly).erase _).erase _
  · exact (g1_nodup Lx Ly).erase _

theorem famFacesUp_nodup {Lx Ly : Nat} (hLx : 2 ≤ Lx) (hLy : 2 ≤ Ly) (Lz : Nat) :
    (famFacesUp Lx Ly Lz).Nodup := by
  unfold famFacesUp
  have h2x : ([2, 2 * (Lx : Int)] : List Int).Nodup := by
    simp only [List.nodup_cons, List.mem_cons, List.not_mem_nil, or_false,
      not_false_eq_true, List.nodup_nil, and_true]; omega
  have h2y : ([2, 2 * (Ly : Int)] : List Int).Nodup := by
    simp only [List.nodup_cons, List.mem_cons, List.not_mem_nil, or_false,
      not_false_eq_true, List.nodup_nil, and_true]; omega
  split
  · exact nodup_grid3 _ _ _ _ h2x (nodup_pyRange4 _) (nodup_pyRange2 _ _)
  · split
    · exact nodup_grid3 _ _ _ _ (nodup_pyRange4 _) h2y (nodup_pyRange2 _ _)
    · exact List.nodup_nil

theorem famVFaces_nodup (Lx Ly Lz : Nat) : (famVFaces Lx Ly Lz).Nodup := by
  unfold famVFaces
  split
  · exact nodup_grid3 _ _ _ _ (nodup_pyRange2 _ _) (nodup_pyRange2 _ _) (nodup_pyRange2 _ _)
  · split
    · exact nodup_grid3 _ _ _ _ (nodup_pyRange2 _ _) (nodup_pyRange2 _ _) (nodup_pyRange2 _ _)
    · exact nodup_grid3 _ _ _ _ (nodup_pyRange2 _ _) (nodup_pyRange2 _ _) (nodup_pyRange2 _ _)

theorem rankFamily_nodup {Lx Ly : Nat} (hLx : 2 ≤ Lx) (hLy : 2 ≤ Ly) (Lz : Nat) :
    (rankFamily Lx Ly Lz).Nodup := by
  unfold rankFamily
  refine List.Nodup.append (List.Nodup.append (List.Nodup.append (famLayer1_nodup Lx Ly)
    (nodup_grid3 _ _ _ _ (nodup_pyRange2 _ _) (nodup_pyRange2 _ _) (nodup_pyRange2 _ _)) ?_)
    (famFacesUp_nodup hLx hLy Lz) ?_) (famVFaces_nodup Lx Ly Lz) ?_
  · intro s h1 h2
    obtain ⟨x, y, z, rfl⟩ := shape_famLayer1 h1
    rw [mem_famLayer1] at h1; rw [mem_famVerticesUp] at h2
    unfold InL1 at h1; unfold InVU ZU at h2; omega
  · intro s h1 h2
    obtain ⟨x, y, z, rfl⟩ := shape_famFacesUp h2
    rw [mem_famFacesUp] at h2
    simp only [List.mem_append, mem_famLayer1, mem_famVerticesUp] at h1
    unfold InHU ZU at h2
    rcases h1 with h1 | h1
    · unfold InL1 at h1; omega
    · unfold InVU at h1; omega
  · intro s h1 h2
    obtain ⟨x, y, z, rfl⟩ := shape_famVFaces h2
    rw [mem_famVFaces] at h2
    simp only [List.mem_append, mem_famLayer1, mem_famVerticesUp, mem_famFacesUp] at h1
    unfold InVF R2 at h2
    rcases h1 with (h1 | h1) | h1
    · unfold InL1 at h1; omega
    · unfold InVU ZU at h1; omega
    · unfold InHU ZU at h1; omega

theorem stab_of_InB {Lx Ly Lz : Nat} (hF : Fam Lx Ly) (hLz : 1 ≤ Lz) {x y z : Int}
    (h : InB Lx Ly Lz x y z) :
    SV Lx Ly Lz x y z ∨ SH Lx Ly Lz x y z ∨ SF Lx Ly Lz x y z := by
  obtain ⟨hLx, hLy, hodd⟩ := hF
  rcases h with h | h | h | h
  · obtain ⟨hx, hy, hz, _, _⟩ := h
    have hx' := hx; have hy' := hy
    unfold Ev at hx' hy'
    have hz1 : R1 (2 * Lz) z := by unfold R1; omega
    rcases (show (x + y) % 4 = 2 ∨ (x + y) % 4 = 0 by omega) with h4 | h4
    · exact Or.inl ⟨R2_Ev.mpr hx, R2_Ev.mpr hy, hz1, h4⟩
    · exact Or.inr (Or.inl ⟨R2_Ev.mpr hx, R2_Ev.mpr hy, hz1, h4⟩)
  · obtain ⟨hx, hy, hz, h4⟩ := h
    unfold ZU at hz
    exact Or.inl ⟨R2_Ev.mpr hx, R2_Ev.mpr hy, by unfold R1; omega, h4⟩
  · obtain ⟨hz, h⟩ := h
    unfold ZU at hz
    right; left
    refine ⟨R2_Ev.mpr ?_, R2_Ev.mpr ?_, by unfold R1; omega, by omega⟩ <;> unfold Ev <;> omega
  · obtain ⟨hx, hy, hz, h1, h2⟩ := h
    right; right
    refine ⟨R1_Od.mpr hx, R1_Od.mpr hy, hz, ?_⟩
    unfold Od at hx hy
    unfold Dropped
    omega

theorem rankFamily_subset {Lx Ly Lz : Nat} (hF : Fam Lx Ly) (hLz : 1 ≤ Lz) {s : Coord}
    (h : s ∈ rankFamily Lx Ly Lz) : s ∈ stabs Lx Ly Lz := by
  obtain ⟨x, y, z, rfl⟩ := shape_of_mem_rankFamily h
  rw [mem_rankFamily] at h
  rw [mem_stabs_iff]
  exact stab_of_InB hF hLz h

theorem length_famLayer1 {Lx Ly : Nat} (hLx : 2 ≤ Lx) (hLy : 2 ≤ Ly) :
    (famLayer1 Lx Ly).length + (if Lx % 2 = 0 ∧ Ly % 2 = 0 then 2 else 1) = Lx * Ly := by
  have hlen : (grid3 (pyRange2 2 (2*Lx+1)) (pyRange2 2 (2*Ly+1)) [1]
      (fun _ _ _ => true)).length = Lx * Ly := by
    rw [length_grid3_true, length_pyRange2, length_pyRange2]
    have e1 : (2 * Lx + 1 + 1 - 2) / 2 = Lx := by omega
    have e2 : (2 * Ly + 1 + 1 - 2) / 2 = Ly := by omega
    rw [e1, e2]; simp
  have hpos : 4 ≤ Lx * Ly := Nat.mul_le_mul hLx hLy
  have m1 : [2, 4, 1] ∈ grid3 (pyRange2 2 (2*Lx+1)) (pyRange2 2 (2*Ly+1)) [1]
      (fun _ _ _ => true) := by
    rw [mem_g1]; unfold Ev; omega
  unfold famLayer1
  by_cases hee : Lx % 2 = 0 ∧ Ly % 2 = 0
  · have e : (Lx % 2 == 0 && Ly % 2 == 0) = true := by simp [hee.1, hee.2]
    have m2 : [2, 2, 1] ∈ (grid3 (pyRange2 2 (2*Lx+1)) (pyRange2 2 (2*Ly+1)) [1]
        (fun _ _ _ => true)).erase [2, 4, 1] := by
      rw [(g1_nodup Lx Ly).mem_erase_iff, mem_g1]
      refine ⟨by simp, ?_⟩
      unfold Ev; omega
    rw [if_pos e, if_pos hee, List.length_erase_of_mem m2, List.length_erase_of_mem m1, hlen]
    omega
  · have e : ¬ (Lx % 2 == 0 && Ly % 2 == 0) = true := by
      simp only [Bool.and_eq_true, beq_iff_eq]; exact hee
    rw [if_neg e, if_neg hee, List.length_erase_of_mem m1, hlen]
    omega

theorem length_famVerticesUp (Lx Ly Lz : Nat) :
    (famVerticesUp Lx Ly Lz).length =
      (((Lx + 1) / 2) * (Ly / 2) + (Lx / 2) * ((Ly + 1) / 2)) * (Lz - 1) := by
  unfold famVerticesUp
  rw [length_grid3_xy, cnt2_checker_periodic, length_pyRange2]
  have e : (2 * Lz + 1 - 3) / 2 = Lz - 1 := by omega
  rw [e]

theorem length_upper {Lx Ly : Nat} (hF : Fam Lx Ly) (Lz : Nat) :
    (famFacesUp Lx Ly Lz).length + (famVFaces Lx Ly Lz).length = Lx * Ly * (Lz - 1) := by
  obtain ⟨hLx, hLy, hodd⟩ := hF
  unfold famFacesUp famVFaces
  have e3 : (2 * Lz + 1 - 3) / 2 = Lz - 1 := by omega
  have e2 : (2 * Lz + 1 - 2) / 2 = Lz - 1 := by omega
  have ex1 : (2 * Lx + 1 - 1) / 2 = Lx := by omega
  have ey1 : (2 * Ly + 1 - 1) / 2 = Ly := by omega
  have ex3 : (2 * Lx + 1 - 3) / 2 = Lx - 1 := by omega
  have ey3 : (2 * Ly + 1 - 3) / 2 = Ly - 1 := by omega
  generalize Lz - 1 = m at e2 e3
  by_cases hx : Lx % 2 = 1
  · have e : (Lx % 2 == 1) = true := by simp [hx]
    rw [if_pos e, if_pos e, length_grid3_true, length_grid3_true]
    simp only [length_pyRange2, length_pyRange4, List.length_cons, List.length_nil, e2, e3, ex3, ey1]
    obtain ⟨a, rfl⟩ : ∃ a, Lx = a + 1 := ⟨Lx - 1, by omega⟩
    obtain ⟨b, rfl⟩ : ∃ b, Ly = 2 * b := ⟨Ly / 2, by omega⟩
    have : (2 * b + 1) / 2 = b := by omega
    rw [this]; simp only [Nat.add_sub_cancel]; ring
  · have e : ¬ (Lx % 2 == 1) = true := by simp [hx]
    rw [if_neg e, if_neg e]
    by_cases hy : Ly % 2 = 1
    · have e' : (Ly % 2 == 1) = true := by simp [hy]
      rw [if_pos e', if_pos e', length_grid3_true, length_grid3_true]
      simp only [length_pyRange2, length_pyRange4, List.length_cons, List.length_nil, e2, e3, ey3,
        ex1]
      obtain ⟨a, rfl⟩ : ∃ a, Ly = a + 1 := ⟨Ly - 1, by omega⟩
      obtain ⟨b, rfl⟩ : ∃ b, Lx = 2 * b := ⟨Lx / 2, by omega⟩
      have : (2 * b + 1) / 2 = b := by omega
      rw [this]; simp only [Nat.add_sub_cancel]; ring
    · have e' : ¬ (Ly % 2 == 1) = true := by simp [hy]
      rw [if_neg e', if_neg e', length_grid3_true]
      simp only [length_pyRange2, List.length_nil, e2, ex1, ey1, Nat.zero_add]

/-- the family has `n − k` members -/
theorem rankFamily_length {Lx Ly Lz : Nat} (hF : Fam Lx Ly) (hLz : 1 ≤ Lz) :
    (rankFamily Lx Ly Lz).length =
      (qubits Lx Ly Lz).length - (if Lx % 2 = 0 ∧ Ly % 2 = 0 then 2 else 1) := by
  have h1 := length_famLayer1 hF.1 hF.2.1
  have h2 := length_famVerticesUp Lx Ly Lz
  have h3 := length_upper hF Lz
  unfold rankFamily
  rw [List.length_append, List.length_append, List.length_append, length_qubits]
  obtain ⟨m, rfl⟩ : ∃ m, Lz = m + 1 := ⟨Lz - 1, by omega⟩
  simp only [Nat.add_sub_cancel] at h2 h3 ⊢
  rw [h2]
  have h4 : Lx * Ly * (m + 1) = Lx * Ly * m + Lx * Ly := by ring
  rw [h4]
  generalize ((Lx + 1) / 2 * (Ly / 2) + Lx / 2 * ((Ly + 1) / 2)) * m = C at *
  generalize Lx * Ly * m = P at *
  generalize Lx * Ly = Q at *
  clear h4
  by_cases hee : Lx % 2 = 0 ∧ Ly % 2 = 0
  · simp only [hee, and_self, if_true] at h1 ⊢; omega
  · simp only [hee, if_false] at h1 ⊢; omega

end Panqec.RotatedToric3DCode
