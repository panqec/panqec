/-
Counting lemmas for the all-sizes distance proofs: sums over `0 … L-1` (`rsum`), cyclic shifts of the
summation index, counts along a parametrised key list, and the "ladder" argument: if consecutive
lines `A i`, `A (i+1)` differ by rungs that are each counted twice, all lines have the same parity.
-/
import PanqecVerif.Proofs.Lat2DBase

namespace Panqec.Lat2D

def rsum : Nat → (Nat → Nat) → Nat
  | 0, _ => 0
  | L + 1, g => rsum L g + g L

theorem rsum_congr {g h : Nat → Nat} : ∀ L : Nat, (∀ j, j < L → g j = h j) → rsum L g = rsum L h
  | 0, _ => rfl
  | L + 1, hgh => by
    simp only [rsum]
    rw [rsum_congr L (fun j hj => hgh j (by omega)), hgh L (by omega)]

theorem rsum_add (g h : Nat → Nat) : ∀ L : Nat,
    rsum L (fun j => g j + h j) = rsum L g + rsum L h
  | 0 => rfl
  | L + 1 => by simp only [rsum, rsum_add g h L]; omega

theorem rsum_even {g : Nat → Nat} : ∀ L : Nat, (∀ j, j < L → g j % 2 = 0) → rsum L g % 2 = 0
  | 0, _ => rfl
  | L + 1, h => by
    simp only [rsum]
    have := rsum_even L (fun j hj => h j (by omega))
    have := h L (by omega)
    omega

theorem rsum_succ' (g : Nat → Nat) : ∀ L : Nat, rsum (L + 1) g = g 0 + rsum L (fun j => g (j + 1))
  | 0 => by simp [rsum]
  | L + 1 => by
    rw [rsum, rsum_succ' g L]
    simp only [rsum]
    omega

theorem rsum_predWrap (g : Nat → Nat) (L : Nat) :
    rsum L (fun j => g (if j = 0 then L - 1 else j - 1)) = rsum L g := by
  cases L with
  | zero => rfl
  | succ L =>
    rw [rsum_succ']
    simp only [if_true, Nat.add_sub_cancel]
    have h : rsum L (fun j => g (if j + 1 = 0 then L else j)) = rsum L g :=
      rsum_congr L (fun j _ => by rw [if_neg (by omega)])
    rw [h, rsum]
    omega

theorem rsum_succWrap (g : Nat → Nat) (L : Nat) :
    rsum L (fun j => g (if j + 1 = L then 0 else j + 1)) = rsum L g := by
  cases L with
  | zero => rfl
  | succ L =>
    rw [rsum_succ' g L, rsum]
    have h : rsum L (fun j => g (if j + 1 = L + 1 then 0 else j + 1)) =
        rsum L (fun j => g (j + 1)) :=
      rsum_congr L (fun j hj => by rw [if_neg (by omega)])
    rw [h, if_pos rfl]
    omega

theorem rsum_shift_open (g : Nat → Nat) (L : Nat) (h0 : g 0 = 0) (hL : g L = 0) :
    rsum L (fun j => g (j + 1)) = rsum L g := by
  have h1 := rsum_succ' g L
  have h2 : rsum (L + 1) g = rsum L g + g L := rfl
  omega

theorem rsum_reindex_open (g : Int → Nat) (p q : Nat → Int) (hpq : ∀ j, p (j + 1) = q j) (L : Nat)
    (h0 : g (p 0) = 0) (hL : g (p L) = 0) :
    rsum L (fun j => g (q j)) = rsum L (fun j => g (p j)) := by
  rw [← rsum_shift_open (fun j => g (p j)) L h0 hL]
  exact rsum_congr L fun j _ => by rw [hpq]

theorem countP_range_map (p : Coord → Bool) (c : Nat → Coord) : ∀ L : Nat,
    ((List.range L).map c).countP p = rsum L (fun j => if p (c j) = true then 1 else 0)
  | 0 => rfl
  | L + 1 => by
    rw [List.range_succ, List.map_append, List.countP_append, countP_range_map p c L]
    simp [rsum, List.countP_cons]

theorem countP_flatMap_range (p : Coord → Bool) (c : Nat → List Coord) : ∀ A : Nat,
    ((List.range A).flatMap c).countP p = rsum A (fun j => (c j).countP p)
  | 0 => rfl
  | A + 1 => by
    rw [List.range_succ, List.flatMap_append, List.countP_append, countP_flatMap_range p c A]
    simp [rsum]

theorem chain (M : Nat) (S : Nat → Nat) (h : ∀ i, i + 1 < M → (S i + S (i + 1)) % 2 = 0) :
    ∀ i, i < M → S i % 2 = S 0 % 2
  | 0, _ => rfl
  | i + 1, hi => by
    have := chain M S h i (by omega)
    have := h i hi
    omega

/-- **Ladder.**  Lines `A 0, …, A (M-1)`; between `A i` and `A (i+1)` a rung line `B i`, and the
    `j`-th constraint involves `A i j`, `A (i+1) j` and two rung entries, each rung entry
    occurring in exactly two constraints (`B' i` is a rearrangement of `B i`).  If every
    constraint is even, all lines have the same parity. -/
theorem ladder (L M : Nat) (A B B' : Nat → Nat → Nat)
    (hB : ∀ i, i + 1 < M → rsum L (B' i) = rsum L (B i))
    (h : ∀ i, i + 1 < M → ∀ j, j < L → (A i j + A (i + 1) j + B i j + B' i j) % 2 = 0) :
    ∀ i, i < M → rsum L (A i) % 2 = rsum L (A 0) % 2 := by
  apply chain M (fun i => rsum L (A i))
  intro i hi
  have he := rsum_even L (h i hi)
  simp only [rsum_add] at he
  rw [hB i hi] at he
  show (rsum L (A i) + rsum L (A (i + 1))) % 2 = 0
  omega

theorem range'_two : ∀ (n s : Nat), List.range' s n 2 = (List.range n).map (fun i => s + 2 * i)
  | 0, _ => rfl
  | n + 1, s => by
    rw [List.range'_succ, range'_two n (s + 2), List.range_succ_eq_map, List.map_cons,
      List.map_map]
    congr 1
    apply List.map_congr_left
    intro i _
    simp only [Function.comp]
    omega

/-- **Ladder with open boundaries**, in lattice coordinates (`u` = moving coordinate, `w` =
    coordinate along the line): lines at `u = 2i + a`, positions `w = 2j + c`; the constraint
    at `(2i + a + 1, 2j + c)` involves its four neighbours, and `F` vanishes on the two
    positions just outside the rung line. -/
theorem ladder_open (a c : Int) (M L : Nat) (F : Int → Int → Nat)
    (hz0 : ∀ i : Nat, F (2 * i + a + 1) (c - 1) = 0)
    (hzL : ∀ i : Nat, F (2 * i + a + 1) (2 * L + c - 1) = 0)
    (hstab : ∀ i j : Nat, i + 1 < M → j < L →
      (F (2 * i + a) (2 * j + c) + F (2 * i + a + 2) (2 * j + c)
        + F (2 * i + a + 1) (2 * j + c - 1) + F (2 * i + a + 1) (2 * j + c + 1)) % 2 = 0) :
    ∀ i : Nat, i < M →
      rsum L (fun j => F (2 * i + a) (2 * j + c)) % 2 = rsum L (fun j => F a (2 * j + c)) % 2 := by
  intro i hi
  have h := ladder L M (fun i j => F (2 * i + a) (2 * j + c))
    (fun i j => F (2 * i + a + 1) (2 * j + c - 1))
    (fun i j => F (2 * i + a + 1) (2 * j + c + 1)) ?_ ?_ i hi
  · simpa using h
  · intro i _
    exact rsum_reindex_open (F (2 * i + a + 1)) (fun j => 2 * j + c - 1) (fun j => 2 * j + c + 1)
      (fun j => by omega) L (by simpa using hz0 i) (hzL i)
  · intro i hi j hj
    have := hstab i j hi hj
    have e : (2 * ((i + 1 : Nat) : Int) + a) = 2 * (i : Int) + a + 2 := by omega
    simp only [e]
    omega

/-- **Domino tiling of a line.**  The sites `2k` (`0 ≤ k ≤ L`) of one parity class `k % 2 = e`
    each cover the two positions `2k - 1`, `2k + 1`; together they cover every position
    `1, 3, …, 2L - 1` exactly once (`g` vanishes at the two positions outside). -/
theorem rsum_pairs (e : Nat) (he : e < 2) (L : Nat) (g : Int → Nat) (h0 : g (-1) = 0)
    (hL : g (2 * L + 1) = 0) :
    rsum (L + 1) (fun k => if k % 2 = e then g (2 * k - 1) + g (2 * k + 1) else 0) =
      rsum L (fun j => g (2 * j + 1)) := by
  -- the sites up to `L` cover the positions up to `2L - 1` once, and `2L + 1` if `L` is a site
  have key : ∀ L : Nat,
      rsum (L + 1) (fun k => if k % 2 = e then g (2 * k - 1) + g (2 * k + 1) else 0) =
        rsum L (fun j => g (2 * j + 1)) + (if L % 2 = e then g (2 * L + 1) else 0) := by
    intro L
    induction L with
    | zero =>
      simp only [rsum, Nat.zero_add]
      split
      · simpa using h0
      · rfl
    | succ L ih =>
      rw [rsum, ih, rsum]
      have eL : 2 * ((L + 1 : Nat) : Int) - 1 = 2 * (L : Int) + 1 := by omega
      rw [eL]
      by_cases h1 : L % 2 = e
      · rw [if_pos h1, if_neg (by omega), if_neg (by omega)]
      · rw [if_neg h1, if_pos (by omega), if_pos (by omega)]
        omega
  rw [key, hL]
  split <;> rfl

/-- a Python `range(s, …, 2)` of `n` entries, as integers -/
theorem map_range'_two (s n : Nat) (f : Nat → Int) (hf : ∀ j : Nat, ((s + 2 * j : Nat) : Int) = f j) :
    (List.range' s n 2).map Int.ofNat = (List.range n).map f := by
  rw [range'_two, List.map_map]
  exact List.map_congr_left fun j _ => hf j

/-- Python `range(1, 2L + 1, 2)` -/
theorem pyRange2_odd (L : Nat) :
    pyRange2 1 (2 * L + 1) = (List.range L).map (fun j => ((2 * j + 1 : Nat) : Int)) := by
  unfold pyRange2
  rw [show (2 * L + 1 - 1 + 1) / 2 = L by omega]
  exact map_range'_two _ _ _ fun j => by rw [Nat.add_comm]

/-- Python `range(p, 2L, 2)` for `p ≤ 1` -/
theorem pyRange2_eq (p L : Nat) (hp : p ≤ 1) :
    pyRange2 p (2 * L) = (List.range L).map (fun j => ((2 * j + p : Nat) : Int)) := by
  unfold pyRange2
  rw [show (2 * L - p + 1) / 2 = L by omega]
  exact map_range'_two _ _ _ fun j => by rw [Nat.add_comm]

end Panqec.Lat2D
