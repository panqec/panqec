/-
Soundness of the exhaustive check `checkExhaustive` (Model/Dist.lean).

The enumeration visits (the effect of) every Pauli operator of weight `≤ b` (`exhB_cover`); the xor
of the table entries selected by an operator `v = (xs | zs)` is the packed vector of the symplectic
products of `v` with all rows (`effList_table`, `rowEff_symp`); and the effect of a non-trivial
logical operator is never harmless (`effect_not_harmless`, C04).
-/
import PanqecVerif.Proofs.DistPlain
import PanqecVerif.Proofs.MaskPrimitives
import PanqecVerif.Proofs.CodeAlgebra

namespace Panqec

def wtXZ (xs zs : List Nat) : Nat :=
  (List.zipWith (fun x z => x != 0 || z != 0) xs zs).countP id

/-- xor of the table entries selected by the operator `(xs | zs)` -/
def effList : List (Nat × Nat) → List Nat → List Nat → Nat
  | (ex, ez) :: t, x :: xs, z :: zs =>
    (if x ≠ 0 then ex else 0) ^^^ (if z ≠ 0 then ez else 0) ^^^ effList t xs zs
  | _, _, _ => 0

theorem rowWeight_eq_wtXZ (v : List Nat) : rowWeight v = wtXZ (xPart v) (zPart v) := rfl

theorem wtXZ_cons_pos {x z : Nat} (h : x ≠ 0 ∨ z ≠ 0) (xs zs : List Nat) :
    wtXZ (x :: xs) (z :: zs) = wtXZ xs zs + 1 := by
  have : (x != 0 || z != 0) = true := by simpa using h
  simp only [wtXZ, List.zipWith_cons_cons, this, List.countP_cons_of_pos, id]

theorem xor_effList_cons (acc ex ez x z : Nat) (t : List (Nat × Nat)) (xs zs : List Nat) :
    acc ^^^ effList ((ex, ez) :: t) (x :: xs) (z :: zs) =
      (acc ^^^ (if x ≠ 0 then ex else 0) ^^^ (if z ≠ 0 then ez else 0)) ^^^ effList t xs zs := by
  simp only [effList, Nat.xor_assoc]

theorem effList_of_wt_zero : ∀ (tbl : List (Nat × Nat)) (xs zs : List Nat), wtXZ xs zs = 0 →
    effList tbl xs zs = 0
  | [], _, _, _ => rfl
  | _ :: _, [], _, _ => rfl
  | _ :: _, _ :: _, [], _ => rfl
  | (ex, ez) :: t, x :: xs, z :: zs, h => by
    by_cases hxz : x ≠ 0 ∨ z ≠ 0
    · rw [wtXZ_cons_pos hxz] at h
      omega
    · obtain ⟨rfl, rfl⟩ : x = 0 ∧ z = 0 := by omega
      simp [effList, effList_of_wt_zero t xs zs h]

theorem exhTails_cover (T b : Nat) (f : List (Nat × Nat) → Nat → Bool)
    (hf : ∀ tbl acc, f tbl acc = true → ∀ xs zs, wtXZ xs zs ≤ b →
      goodEff T (acc ^^^ effList tbl xs zs) = true) :
    ∀ (tbl : List (Nat × Nat)) (acc : Nat), goodEff T acc = true →
      exhTails f tbl acc = true → ∀ xs zs, wtXZ xs zs ≤ b + 1 →
      goodEff T (acc ^^^ effList tbl xs zs) = true
  | [], acc, hg, _, xs, zs, _ => by simpa [effList] using hg
  | _ :: _, acc, hg, _, [], zs, _ => by simpa [effList] using hg
  | _ :: _, acc, hg, _, _ :: _, [], _ => by simpa [effList] using hg
  | (ex, ez) :: t, acc, hg, h, x :: xs, z :: zs, hw => by
    simp only [exhTails, forceNat_eq, Bool.and_eq_true] at h
    obtain ⟨⟨⟨h1, h2⟩, h3⟩, h4⟩ := h
    rw [xor_effList_cons]
    by_cases hx : x = 0 <;> by_cases hz : z = 0
    · subst hx hz
      rw [if_neg (fun h => h rfl), if_neg (fun h => h rfl), Nat.xor_zero, Nat.xor_zero]
      exact exhTails_cover T b f hf t acc hg h4 xs zs hw
    · rw [wtXZ_cons_pos (Or.inr hz)] at hw
      rw [if_neg (not_not.mpr hx), if_pos hz, Nat.xor_zero]
      exact hf t _ h2 xs zs (by omega)
    · rw [wtXZ_cons_pos (Or.inl hx)] at hw
      rw [if_pos hx, if_neg (not_not.mpr hz), Nat.xor_zero]
      exact hf t _ h1 xs zs (by omega)
    · rw [wtXZ_cons_pos (Or.inl hx)] at hw
      rw [if_pos hx, if_pos hz]
      exact hf t _ h3 xs zs (by omega)

/-- `exhB` accepts only if every operator of weight `≤ b` (composed with `acc`) is harmless -/
theorem exhB_cover (T : Nat) : ∀ (b : Nat) (tbl : List (Nat × Nat)) (acc : Nat),
    exhB T b tbl acc = true → ∀ xs zs, wtXZ xs zs ≤ b →
      goodEff T (acc ^^^ effList tbl xs zs) = true
  | 0, tbl, acc, h, xs, zs, hw => by
    rw [effList_of_wt_zero tbl xs zs (by omega), Nat.xor_zero]
    exact h
  | b + 1, tbl, acc, h, xs, zs, hw => by
    simp only [exhB, Bool.and_eq_true] at h
    exact exhTails_cover T b (exhB T b) (exhB_cover T b) tbl acc h.1 h.2 xs zs hw

/-- `x·(Z bit q of r) + z·(X bit q of r) + …` over the qubits `q, q+1, …`: the (unreduced)
    symplectic product of row `r` with the operator `(xs | zs)` living on those qubits -/
def rowEff (r n : Nat) : Nat → List Nat → List Nat → Nat
  | q, x :: xs, z :: zs =>
    x * ((r >>> (n + q)) % 2) + z * ((r >>> q) % 2) + rowEff r n (q + 1) xs zs
  | _, _, _ => 0

/-- packed vector of the products of all rows with `(xs | zs)` -/
def effVec (rows : List Nat) (n q : Nat) (xs zs : List Nat) : Nat :=
  packBits (rows.map fun r => rowEff r n q xs zs)

theorem packBits_eq_zero_iff : ∀ a : List Nat, packBits a = 0 ↔ ∀ x ∈ a, x % 2 = 0
  | [] => by simp [packBits]
  | x :: a => by
    simp only [packBits, List.forall_mem_cons, ← packBits_eq_zero_iff a]
    omega

theorem packBits_append : ∀ (a b : List Nat),
    packBits (a ++ b) = packBits a + 2 ^ a.length * packBits b
  | [], b => by simp [packBits]
  | x :: a, b => by
    simp only [List.cons_append, packBits, packBits_append a b, List.length_cons, Nat.pow_succ]
    rw [Nat.mul_add, ← Nat.mul_assoc, Nat.mul_comm 2 (2 ^ a.length)]
    omega

theorem lowBitsAt_eq (p : Nat) : ∀ rows : List Nat,
    lowBitsAt p rows = packBits (rows.map fun r => (r >>> p) % 2)
  | [] => rfl
  | r :: rs => by simp [lowBitsAt, packBits, lowBitsAt_eq p rs]

theorem xor_pack (p q P Q : Nat) (hp : p < 2) (hq : q < 2) :
    (p + 2 * P) ^^^ (q + 2 * Q) = (p + q) % 2 + 2 * (P ^^^ Q) := by
  have h1 : ((p + 2 * P) ^^^ (q + 2 * Q)) % 2 = (p + q) % 2 := by rw [xor_mod_two]; omega
  have h2 : ((p + 2 * P) ^^^ (q + 2 * Q)) / 2 = P ^^^ Q := by
    rw [Nat.xor_div_two]
    congr 1 <;> omega
  omega

/-- an instance of `Nat.zero_xor` -/
theorem zero_xor_pack (q Q : Nat) : 0 ^^^ (q % 2 + 2 * Q) = q % 2 + 2 * Q := Nat.zero_xor _

theorem packBits_map_add (f g : Nat → Nat) : ∀ rows : List Nat,
    packBits (rows.map fun r => f r + g r) = packBits (rows.map f) ^^^ packBits (rows.map g)
  | [] => by simp [packBits]
  | r :: rs => by
    simp only [List.map_cons, packBits, packBits_map_add f g rs]
    rw [xor_pack _ _ _ _ (Nat.mod_lt _ (by omega)) (Nat.mod_lt _ (by omega))]
    omega

theorem packBits_map_mul {x : Nat} (hx : x < 2) (f : Nat → Nat) (rows : List Nat) :
    packBits (rows.map fun r => x * f r) = if x ≠ 0 then packBits (rows.map f) else 0 := by
  obtain rfl | rfl : x = 0 ∨ x = 1 := by omega
  · simp [packBits_eq_zero_iff]
  · simp

theorem effVec_cons (n q : Nat) {x z : Nat} (xs zs : List Nat) (hx : x < 2) (hz : z < 2)
    (rows : List Nat) : effVec rows n q (x :: xs) (z :: zs) =
      (if x ≠ 0 then lowBitsAt (n + q) rows else 0) ^^^
        (if z ≠ 0 then lowBitsAt q rows else 0) ^^^ effVec rows n (q + 1) xs zs := by
  unfold effVec
  rw [lowBitsAt_eq, lowBitsAt_eq, ← packBits_map_mul hx, ← packBits_map_mul hz,
    ← packBits_map_add, ← packBits_map_add]
  rfl

theorem effVec_nil_left (rows : List Nat) (n q : Nat) (zs : List Nat) :
    effVec rows n q [] zs = 0 := by
  simp [effVec, rowEff, packBits_eq_zero_iff]

theorem effVec_nil_right (rows : List Nat) (n q : Nat) (xs : List Nat) :
    effVec rows n q xs [] = 0 := by
  cases xs <;> simp [effVec, rowEff, packBits_eq_zero_iff]

theorem effList_table (rows : List Nat) (n : Nat) : ∀ (len : Nat), len ≤ n →
    ∀ xs zs : List Nat, xs.length = len → zs.length = len →
      (∀ x ∈ xs, x < 2) → (∀ z ∈ zs, z < 2) →
      effList (effTableAt rows n len) xs zs = effVec rows n (n - len) xs zs
  | 0, _, [], zs, _, _, _, _ => by simp [effTableAt, effList, effVec_nil_left]
  | len + 1, hl, x :: xs, z :: zs, hxl, hzl, hx, hz => by
    have ih := effList_table rows n len (by omega) xs zs (by simpa using hxl) (by simpa using hzl)
      (fun a ha => hx a (by simp [ha])) (fun a ha => hz a (by simp [ha]))
    have e : n - (len + 1) + 1 = n - len := by omega
    rw [effVec_cons n _ xs zs (hx x (by simp)) (hz z (by simp)) rows, e, ← ih]
    rfl

theorem rowEff_eq_dot (r n : Nat) : ∀ (len q : Nat) (xs zs : List Nat),
    xs.length = len → zs.length = len →
    rowEff r n q xs zs =
      dot (unpackBits len (r >>> q)) zs + dot (unpackBits len (r >>> (n + q))) xs
  | 0, q, [], zs, _, _ => by simp [rowEff, unpackBits, dot_nil_left]
  | len + 1, q, x :: xs, z :: zs, hx, hz => by
    have ih := rowEff_eq_dot r n len (q + 1) xs zs (by simpa using hx) (by simpa using hz)
    have e1 : r >>> q / 2 = r >>> (q + 1) := by rw [Nat.shiftRight_succ]
    have e2 : r >>> (n + q) / 2 = r >>> (n + (q + 1)) := by
      rw [← Nat.add_assoc, Nat.shiftRight_succ]
    simp only [rowEff, unpackBits, dot_cons, ih, e1, e2]
    rw [Nat.mul_comm x, Nat.mul_comm z]
    omega

theorem rowEff_symp (r n : Nat) (v : List Nat) (hv : v.length = 2 * n) :
    rowEff r n 0 (xPart v) (zPart v) % 2 = symp (unpackBits (2 * n) r) v := by
  rw [rowEff_eq_dot r n n 0 _ _ (xPart_len hv) (zPart_len hv)]
  unfold symp
  rw [xPart_unpackBits', zPart_unpackBits', unpackBits_mod, Nat.shiftRight_zero, Nat.add_zero]

/-- The effect of a non-trivial logical operator is never harmless: it commutes with every
    generator (no generator bit) and anticommutes with some listed logical (C04). -/
theorem effect_not_harmless (c : MaskCode)
    (hv : ValidCodeL c.n c.k (c.stabs.map (unpackBits (2 * c.n)))
      (c.logX.map (unpackBits (2 * c.n))) (c.logZ.map (unpackBits (2 * c.n))))
    (v : List Nat) (hnt : IsNontrivialLogical c.n (c.stabs.map (unpackBits (2 * c.n))) v)
    (hgood : goodEff (2 ^ (c.logX.length + c.logZ.length))
      (effList (effTableAt (effRows c) c.n c.n) (xPart v) (zPart v)) = true) : False := by
  obtain ⟨l, hl, hlv⟩ := nontrivial_anticommutes_listed hv hnt
  obtain ⟨hlen, hbin, hcomm, _⟩ := hnt
  rw [effList_table _ c.n c.n (Nat.le_refl _) _ _ (xPart_len hlen) (zPart_len hlen)
    (fun x hx => hbin x (List.mem_of_mem_take hx)) (fun x hx => hbin x (List.mem_of_mem_drop hx)),
    Nat.sub_self] at hgood
  -- split the effect vector into the logical part (low) and the generator part (high)
  unfold effVec effRows at hgood
  rw [List.map_append, packBits_append] at hgood
  have hstab : packBits (c.stabs.map fun r => rowEff r c.n 0 (xPart v) (zPart v)) = 0 := by
    rw [packBits_eq_zero_iff]
    intro x hx
    obtain ⟨r, hr, rfl⟩ := List.mem_map.mp hx
    rw [rowEff_symp r c.n v hlen]
    exact hcomm _ (List.mem_map.mpr ⟨r, hr, rfl⟩)
  have hlt := packBits_lt ((c.logX ++ c.logZ).map fun r => rowEff r c.n 0 (xPart v) (zPart v))
  rw [List.length_map, List.length_append] at hlt
  rw [hstab, Nat.mul_zero, Nat.add_zero] at hgood
  simp only [goodEff, Bool.or_eq_true, beq_iff_eq, Nat.ble_eq] at hgood
  have hzero := hgood.resolve_right (Nat.not_le.mpr hlt)
  -- but `v` anticommutes with the listed logical `l`
  rw [← List.map_append] at hl
  obtain ⟨lm, hlm, rfl⟩ := List.mem_map.mp hl
  have := (packBits_eq_zero_iff _).mp hzero _ (List.mem_map.mpr ⟨lm, hlm, rfl⟩)
  rw [rowEff_symp lm c.n v hlen, hlv] at this
  exact absurd this (by decide)

theorem checkExhaustive_sound (c : MaskCode)
    (hv : ValidCodeL c.n c.k (c.stabs.map (unpackBits (2 * c.n)))
      (c.logX.map (unpackBits (2 * c.n))) (c.logZ.map (unpackBits (2 * c.n))))
    (h : checkExhaustive c = true) :
    ∀ v, IsNontrivialLogical c.n (c.stabs.map (unpackBits (2 * c.n))) v →
      c.d ≤ pauliWeight v := by
  intro v hnt
  by_contra hlt
  have hw : wtXZ (xPart v) (zPart v) ≤ c.d - 1 := by
    have := rowWeight_eq_wtXZ v
    unfold pauliWeight at hlt
    omega
  rw [checkExhaustive_eq, checkExhaustiveP] at h
  have hgood := exhB_cover _ _ _ _ h (xPart v) (zPart v) hw
  rw [Nat.zero_xor] at hgood
  exact effect_not_harmless c hv v hnt hgood

end Panqec
