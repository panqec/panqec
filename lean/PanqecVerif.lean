import PanqecVerif.Generated.Deformations
import PanqecVerif.Generated.DistColor3DCode
import PanqecVerif.Generated.DistColor488Code
import PanqecVerif.Generated.DistColor666PlanarCode
import PanqecVerif.Generated.DistColor666ToricCode
import PanqecVerif.Generated.DistHollowPlanar3DCode
import PanqecVerif.Generated.DistHollowRhombicCode
import PanqecVerif.Generated.DistPlanar2DCode
import PanqecVerif.Generated.DistPlanar3DCode
import PanqecVerif.Generated.DistRhombicPlanarCode
import PanqecVerif.Generated.DistRhombicToricCode
import PanqecVerif.Generated.DistRotatedPlanar2DCode
import PanqecVerif.Generated.DistRotatedPlanar3DCode
import PanqecVerif.Generated.DistRotatedToric3DCode
import PanqecVerif.Generated.DistToric2DCode
import PanqecVerif.Generated.DistToric3DCode
import PanqecVerif.Generated.DistXCubeCode
import PanqecVerif.Generated.Gui
import PanqecVerif.Generated.GuiFull
import PanqecVerif.Generated.GuiRoutes
import PanqecVerif.Generated.InstColor3DCode
import PanqecVerif.Generated.InstColor488Code
import PanqecVerif.Generated.InstColor666PlanarCode
import PanqecVerif.Generated.InstColor666ToricCode
import PanqecVerif.Generated.InstHollowPlanar3DCode
import PanqecVerif.Generated.InstHollowRhombicCode
import PanqecVerif.Generated.InstPlanar2DCode
import PanqecVerif.Generated.InstPlanar3DCode
import PanqecVerif.Generated.InstRhombicPlanarCode
import PanqecVerif.Generated.InstRhombicToricCode
import PanqecVerif.Generated.InstRotatedPlanar2DCode
import PanqecVerif.Generated.InstRotatedPlanar3DCode
import PanqecVerif.Generated.InstRotatedToric3DCode
import PanqecVerif.Generated.InstToric2DCode
import PanqecVerif.Generated.InstToric3DCode
import PanqecVerif.Generated.InstXCubeCode
import PanqecVerif.Generated.Registry
import PanqecVerif.Instances.All
import PanqecVerif.Instances.Color3DCode
import PanqecVerif.Instances.Color488Code
import PanqecVerif.Instances.Color666PlanarCode
import PanqecVerif.Instances.Color666ToricCode
import PanqecVerif.Instances.DistAll
import PanqecVerif.Instances.DistColor3DCode
import PanqecVerif.Instances.DistColor488Code
import PanqecVerif.Instances.DistColor666PlanarCode
import PanqecVerif.Instances.DistColor666ToricCode
import PanqecVerif.Instances.DistHollowPlanar3DCode
import PanqecVerif.Instances.DistHollowRhombicCode
import PanqecVerif.Instances.DistPlanar2DCode
import PanqecVerif.Instances.DistPlanar3DCode
import PanqecVerif.Instances.DistRhombicPlanarCode
import PanqecVerif.Instances.DistRhombicToricCode
import PanqecVerif.Instances.DistRotatedPlanar2DCode
import PanqecVerif.Instances.DistRotatedPlanar3DCode
import PanqecVerif.Instances.DistRotatedToric3DCode
import PanqecVerif.Instances.DistToric2DCode
import PanqecVerif.Instances.DistToric3DCode
import PanqecVerif.Instances.DistXCubeCode
import PanqecVerif.Instances.HollowPlanar3DCode
import PanqecVerif.Instances.HollowRhombicCode
import PanqecVerif.Instances.Planar2DCode
import PanqecVerif.Instances.Planar3DCode
import PanqecVerif.Instances.RhombicPlanarCode
import PanqecVerif.Instances.RhombicToricCode
import PanqecVerif.Instances.RotatedPlanar2DCode
import PanqecVerif.Instances.RotatedPlanar3DCode
import PanqecVerif.Instances.RotatedToric3DCode
import PanqecVerif.Instances.Toric2DCode
import PanqecVerif.Instances.Toric3DCode
import PanqecVerif.Instances.XCubeCode
import PanqecVerif.Model.Analysis
import PanqecVerif.Model.AnalysisWindow
import PanqecVerif.Model.BSparse
import PanqecVerif.Model.Batch
import PanqecVerif.Model.Bits
import PanqecVerif.Model.Cli
import PanqecVerif.Model.Code
import PanqecVerif.Model.Decoders
import PanqecVerif.Model.Deform
import PanqecVerif.Model.Dist
import PanqecVerif.Model.Gui
import PanqecVerif.Model.GuiRepr
import PanqecVerif.Model.GuiReprClasses
import PanqecVerif.Model.GuiRoutes
import PanqecVerif.Model.GuiRoutesLib
import PanqecVerif.Model.Lattices.Color3DCode
import PanqecVerif.Model.Lattices.Color488Code
import PanqecVerif.Model.Lattices.Color666PlanarCode
import PanqecVerif.Model.Lattices.Color666ToricCode
import PanqecVerif.Model.Lattices.ColorBase
import PanqecVerif.Model.Lattices.Common
import PanqecVerif.Model.Lattices.Cubic3D
import PanqecVerif.Model.Lattices.HollowPlanar3DCode
import PanqecVerif.Model.Lattices.HollowRhombicCode
import PanqecVerif.Model.Lattices.Lat2DBase
import PanqecVerif.Model.Lattices.Planar2DCode
import PanqecVerif.Model.Lattices.Planar3DCode
import PanqecVerif.Model.Lattices.Rhombic
import PanqecVerif.Model.Lattices.RhombicPlanarCode
import PanqecVerif.Model.Lattices.RhombicToricCode
import PanqecVerif.Model.Lattices.RotatedPlanar2DCode
import PanqecVerif.Model.Lattices.RotatedPlanar3DCode
import PanqecVerif.Model.Lattices.RotatedToric3DCode
import PanqecVerif.Model.Lattices.Toric2DCode
import PanqecVerif.Model.Lattices.Toric3DCode
import PanqecVerif.Model.Lattices.Util3Db
import PanqecVerif.Model.Lattices.XCubeCode
import PanqecVerif.Model.Mask
import PanqecVerif.Model.MbpDecoder
import PanqecVerif.Model.Noise
import PanqecVerif.Model.RunFile
import PanqecVerif.Model.Sim
import PanqecVerif.Model.Spec
import PanqecVerif.Model.Splitting
import PanqecVerif.Model.Sweep
import PanqecVerif.Model.SweepLattices
import PanqecVerif.Model.UnionFind
import PanqecVerif.Model.UnionFindWF
import PanqecVerif.Model.UtilsPure
import PanqecVerif.Model.XCubeDecoder
import PanqecVerif.Proofs.Analysis
import PanqecVerif.Proofs.AnalysisFss
import PanqecVerif.Proofs.AnalysisQuantile
import PanqecVerif.Proofs.AnalysisRates
import PanqecVerif.Proofs.AnalysisWindowBasic
import PanqecVerif.Proofs.AnalysisWindowCalc
import PanqecVerif.Proofs.AnalysisWindowLines
import PanqecVerif.Proofs.AnalysisWindowNearest
import PanqecVerif.Proofs.AnalysisWindowOrder
import PanqecVerif.Proofs.AnalysisWindowSd
import PanqecVerif.Proofs.AnalysisWindowVShape
import PanqecVerif.Proofs.AnalysisWordRate
import PanqecVerif.Proofs.BSparse
import PanqecVerif.Proofs.Batch
import PanqecVerif.Proofs.BatchInv
import PanqecVerif.Proofs.BatchLive
import PanqecVerif.Proofs.Bits
import PanqecVerif.Proofs.CliFiles
import PanqecVerif.Proofs.CliPlan
import PanqecVerif.Proofs.CliRange
import PanqecVerif.Proofs.Code
import PanqecVerif.Proofs.CodeAlgebra
import PanqecVerif.Proofs.CodeAssembly
import PanqecVerif.Proofs.CodeCss
import PanqecVerif.Proofs.CodeDictBsf
import PanqecVerif.Proofs.ColorBase
import PanqecVerif.Proofs.ColorFaces
import PanqecVerif.Proofs.Cyclic
import PanqecVerif.Proofs.Decoders
import PanqecVerif.Proofs.DecodersDistance
import PanqecVerif.Proofs.DecodersGlue
import PanqecVerif.Proofs.DecodersState
import PanqecVerif.Proofs.DecodersWeights
import PanqecVerif.Proofs.Deform
import PanqecVerif.Proofs.DeformHistory
import PanqecVerif.Proofs.DeformOp
import PanqecVerif.Proofs.DeformTable
import PanqecVerif.Proofs.DictRow
import PanqecVerif.Proofs.Dist
import PanqecVerif.Proofs.DistCSS
import PanqecVerif.Proofs.DistCheckerboard
import PanqecVerif.Proofs.DistCheckerboardOpen
import PanqecVerif.Proofs.DistColor488CodeLowerBound
import PanqecVerif.Proofs.DistColor488CodeParity
import PanqecVerif.Proofs.DistColor666ToricCodeLadder
import PanqecVerif.Proofs.DistColor666ToricCodeLineParity
import PanqecVerif.Proofs.DistColor666ToricCodeLowerBound
import PanqecVerif.Proofs.DistColor666ToricCodeReps
import PanqecVerif.Proofs.DistCubic3D
import PanqecVerif.Proofs.DistDeform
import PanqecVerif.Proofs.DistExhaustive
import PanqecVerif.Proofs.DistHollowPlanar3DCodeLowerBound
import PanqecVerif.Proofs.DistHollowPlanar3DCodeParity
import PanqecVerif.Proofs.DistHollowPlanar3DCodeWeights
import PanqecVerif.Proofs.DistHollowRhombicCodeLowerBound
import PanqecVerif.Proofs.DistHollowRhombicCodeSecondPair
import PanqecVerif.Proofs.DistLadder
import PanqecVerif.Proofs.DistLat3Db
import PanqecVerif.Proofs.DistLattice
import PanqecVerif.Proofs.DistLines
import PanqecVerif.Proofs.DistPacking
import PanqecVerif.Proofs.DistPlain
import PanqecVerif.Proofs.DistPlanar2DCode
import PanqecVerif.Proofs.DistPlanar2DCodeShared
import PanqecVerif.Proofs.DistPlanar3DCode
import PanqecVerif.Proofs.DistRhombicPlanarCodeLowerBound
import PanqecVerif.Proofs.DistRhombicPlanarCodeParity
import PanqecVerif.Proofs.DistRhombicToricCodeLowerBound
import PanqecVerif.Proofs.DistRhombicToricCodeParity
import PanqecVerif.Proofs.DistRotatedPlanar2DCode
import PanqecVerif.Proofs.DistRotatedPlanar3DCode
import PanqecVerif.Proofs.DistRotatedToric3DCodeGenerators
import PanqecVerif.Proofs.DistRotatedToric3DCodeLines
import PanqecVerif.Proofs.DistRotatedToric3DCodeLowerBound
import PanqecVerif.Proofs.DistRotatedToric3DCodeParity
import PanqecVerif.Proofs.DistRotatedToric3DCodeRowColumn
import PanqecVerif.Proofs.DistRotatedToric3DCodeWeights
import PanqecVerif.Proofs.DistSameClass
import PanqecVerif.Proofs.DistToric2DCode
import PanqecVerif.Proofs.DistToric3DCodeLowerBound
import PanqecVerif.Proofs.DistToric3DCodeParity
import PanqecVerif.Proofs.DistXCubeCodeLowerBound
import PanqecVerif.Proofs.DistXCubeCodeParity
import PanqecVerif.Proofs.DistXCubeCodeWeights
import PanqecVerif.Proofs.ExceptList
import PanqecVerif.Proofs.Gf2Rank
import PanqecVerif.Proofs.Gf2RankBits
import PanqecVerif.Proofs.Gf2RankBrank
import PanqecVerif.Proofs.Gf2RankList
import PanqecVerif.Proofs.Gf2RankSel
import PanqecVerif.Proofs.GuiRepr
import PanqecVerif.Proofs.GuiReprColor
import PanqecVerif.Proofs.GuiReprColor666Toric
import PanqecVerif.Proofs.GuiReprCubic3D
import PanqecVerif.Proofs.GuiReprDict
import PanqecVerif.Proofs.GuiReprEdits
import PanqecVerif.Proofs.GuiReprPayload
import PanqecVerif.Proofs.GuiReprRhombic
import PanqecVerif.Proofs.GuiReprRotated3D
import PanqecVerif.Proofs.GuiReprSurface2D
import PanqecVerif.Proofs.GuiReprXCube
import PanqecVerif.Proofs.GuiRoutes
import PanqecVerif.Proofs.GuiTables
import PanqecVerif.Proofs.KeyedOverlap
import PanqecVerif.Proofs.Lat2DBase
import PanqecVerif.Proofs.Lat2DLines
import PanqecVerif.Proofs.Lat2DRank
import PanqecVerif.Proofs.Lat3DbCount
import PanqecVerif.Proofs.Lat3DbOps
import PanqecVerif.Proofs.Lat3DbPair
import PanqecVerif.Proofs.LatColor3DCodeComm
import PanqecVerif.Proofs.LatColor3DCodeCommPair
import PanqecVerif.Proofs.LatColor3DCodeLineOp
import PanqecVerif.Proofs.LatColor3DCodeMembranes
import PanqecVerif.Proofs.LatColor3DCodeNormalForms
import PanqecVerif.Proofs.LatColor3DCodePair
import PanqecVerif.Proofs.LatColor3DCodeQubits
import PanqecVerif.Proofs.LatColor3DCodeRankHits
import PanqecVerif.Proofs.LatColor3DCodeRankIndep
import PanqecVerif.Proofs.LatColor3DCodeRankOrder
import PanqecVerif.Proofs.LatColor3DCodeStab
import PanqecVerif.Proofs.LatColor3DCodeStrings
import PanqecVerif.Proofs.LatColor3DCodeSym
import PanqecVerif.Proofs.LatColor3DCodeWF
import PanqecVerif.Proofs.LatColor3DCodeWrap
import PanqecVerif.Proofs.LatColor488CodeBasics
import PanqecVerif.Proofs.LatColor488CodeComm
import PanqecVerif.Proofs.LatColor488CodeCss
import PanqecVerif.Proofs.LatColor488CodeLog
import PanqecVerif.Proofs.LatColor488CodeOld
import PanqecVerif.Proofs.LatColor488CodeRank
import PanqecVerif.Proofs.LatColor666PlanarCodeBasics
import PanqecVerif.Proofs.LatColor666PlanarCodeComm
import PanqecVerif.Proofs.LatColor666PlanarCodeCount
import PanqecVerif.Proofs.LatColor666PlanarCodeCss
import PanqecVerif.Proofs.LatColor666PlanarCodeRank
import PanqecVerif.Proofs.LatColor666ToricCodeCss
import PanqecVerif.Proofs.LatColor666ToricCodeFaces
import PanqecVerif.Proofs.LatColor666ToricCodeQubits
import PanqecVerif.Proofs.LatColor666ToricCodeRank
import PanqecVerif.Proofs.LatColor666ToricCodeStrings
import PanqecVerif.Proofs.LatColor666ToricCodeWrap
import PanqecVerif.Proofs.LatColor666ToricCodeZig
import PanqecVerif.Proofs.LatCommon
import PanqecVerif.Proofs.LatCss
import PanqecVerif.Proofs.LatCubic3D
import PanqecVerif.Proofs.LatCubic3DGeom
import PanqecVerif.Proofs.LatCubic3DRank
import PanqecVerif.Proofs.LatCyclic
import PanqecVerif.Proofs.LatHollowPlanar3DCodeBasics
import PanqecVerif.Proofs.LatHollowPlanar3DCodeCss
import PanqecVerif.Proofs.LatHollowPlanar3DCodeOldCss
import PanqecVerif.Proofs.LatHollowPlanar3DCodeRank
import PanqecVerif.Proofs.LatHollowPlanar3DCodeRankCount
import PanqecVerif.Proofs.LatHollowPlanar3DCodeStab
import PanqecVerif.Proofs.LatHollowRhombicCodeBasics
import PanqecVerif.Proofs.LatHollowRhombicCodeComm
import PanqecVerif.Proofs.LatHollowRhombicCodeCount
import PanqecVerif.Proofs.LatHollowRhombicCodeCss
import PanqecVerif.Proofs.LatHollowRhombicCodeGenerators
import PanqecVerif.Proofs.LatHollowRhombicCodeRankAxisZero
import PanqecVerif.Proofs.LatHollowRhombicCodeRankBoxes
import PanqecVerif.Proofs.LatHollowRhombicCodeRankCount
import PanqecVerif.Proofs.LatHollowRhombicCodeRankCubes
import PanqecVerif.Proofs.LatHollowRhombicCodeRankEdgeProbes
import PanqecVerif.Proofs.LatHollowRhombicCodeRankIndep
import PanqecVerif.Proofs.LatHollowRhombicCodeRankListed
import PanqecVerif.Proofs.LatHollowRhombicCodeRankNoHole
import PanqecVerif.Proofs.LatHollowRhombicCodeRankProbes
import PanqecVerif.Proofs.LatHollowRhombicCodeRankSlabProbes
import PanqecVerif.Proofs.LatHollowRhombicCodeRankSpec
import PanqecVerif.Proofs.LatHollowRhombicCodeRankThickCount
import PanqecVerif.Proofs.LatHollowRhombicCodeRankThinCount
import PanqecVerif.Proofs.LatHollowRhombicCodeSecondPair
import PanqecVerif.Proofs.LatHollowRhombicCodeSheets
import PanqecVerif.Proofs.LatHollowRhombicCodeStab
import PanqecVerif.Proofs.LatHollowRhombicCodeThin
import PanqecVerif.Proofs.LatPlanar2DCodeComm
import PanqecVerif.Proofs.LatPlanar2DCodeCss
import PanqecVerif.Proofs.LatPlanar2DCodeRank
import PanqecVerif.Proofs.LatPlanar2DCodeShared
import PanqecVerif.Proofs.LatPlanar2DCodeStab
import PanqecVerif.Proofs.LatPlanar3DCodeBasics
import PanqecVerif.Proofs.LatPlanar3DCodeComm
import PanqecVerif.Proofs.LatPlanar3DCodeCss
import PanqecVerif.Proofs.LatPlanar3DCodeLog
import PanqecVerif.Proofs.LatPlanar3DCodeRank
import PanqecVerif.Proofs.LatPlanar3DCodeStab
import PanqecVerif.Proofs.LatRankBridge
import PanqecVerif.Proofs.LatRhombic
import PanqecVerif.Proofs.LatRhombicCount
import PanqecVerif.Proofs.LatRhombicPlanarCodeCount
import PanqecVerif.Proofs.LatRhombicPlanarCodeLog
import PanqecVerif.Proofs.LatRhombicPlanarCodeRankFamily
import PanqecVerif.Proofs.LatRhombicPlanarCodeRankIndep
import PanqecVerif.Proofs.LatRhombicPlanarCodeStab
import PanqecVerif.Proofs.LatRhombicPlanarCodeWF
import PanqecVerif.Proofs.LatRhombicToricCodeComm
import PanqecVerif.Proofs.LatRhombicToricCodeLog
import PanqecVerif.Proofs.LatRhombicToricCodeRankCount
import PanqecVerif.Proofs.LatRhombicToricCodeRankFamily
import PanqecVerif.Proofs.LatRhombicToricCodeRankIndep
import PanqecVerif.Proofs.LatRhombicToricCodeRankOrder
import PanqecVerif.Proofs.LatRhombicToricCodeRankProbes
import PanqecVerif.Proofs.LatRhombicToricCodeStab
import PanqecVerif.Proofs.LatRhombicToricCodeWF
import PanqecVerif.Proofs.LatRotatedPlanar2DCodeComm
import PanqecVerif.Proofs.LatRotatedPlanar2DCodeCount
import PanqecVerif.Proofs.LatRotatedPlanar2DCodeCss
import PanqecVerif.Proofs.LatRotatedPlanar2DCodeRank
import PanqecVerif.Proofs.LatRotatedPlanar2DCodeStab
import PanqecVerif.Proofs.LatRotatedPlanar3DCodeComm
import PanqecVerif.Proofs.LatRotatedPlanar3DCodeCount
import PanqecVerif.Proofs.LatRotatedPlanar3DCodeCss
import PanqecVerif.Proofs.LatRotatedPlanar3DCodeKeys
import PanqecVerif.Proofs.LatRotatedPlanar3DCodeLog
import PanqecVerif.Proofs.LatRotatedPlanar3DCodeRank
import PanqecVerif.Proofs.LatRotatedPlanar3DCodeRankCount
import PanqecVerif.Proofs.LatRotatedPlanar3DCodeStab
import PanqecVerif.Proofs.LatRotatedToric3DCodeBasics
import PanqecVerif.Proofs.LatRotatedToric3DCodeCandidates
import PanqecVerif.Proofs.LatRotatedToric3DCodeComm
import PanqecVerif.Proofs.LatRotatedToric3DCodeCommPair
import PanqecVerif.Proofs.LatRotatedToric3DCodeKinds
import PanqecVerif.Proofs.LatRotatedToric3DCodeLog
import PanqecVerif.Proofs.LatRotatedToric3DCodeLogComm
import PanqecVerif.Proofs.LatRotatedToric3DCodeRankFamily
import PanqecVerif.Proofs.LatRotatedToric3DCodeRankHits
import PanqecVerif.Proofs.LatRotatedToric3DCodeRankIndep
import PanqecVerif.Proofs.LatRotatedToric3DCodeSigned
import PanqecVerif.Proofs.LatRotatedToric3DCodeStab
import PanqecVerif.Proofs.LatToric2DCodeComm
import PanqecVerif.Proofs.LatToric2DCodeCss
import PanqecVerif.Proofs.LatToric2DCodeGraph
import PanqecVerif.Proofs.LatToric2DCodeLog
import PanqecVerif.Proofs.LatToric2DCodeRank
import PanqecVerif.Proofs.LatToric2DCodeSector
import PanqecVerif.Proofs.LatToric2DCodeStab
import PanqecVerif.Proofs.LatToric3DCodeBasics
import PanqecVerif.Proofs.LatToric3DCodeComm
import PanqecVerif.Proofs.LatToric3DCodeCss
import PanqecVerif.Proofs.LatToric3DCodeLists
import PanqecVerif.Proofs.LatToric3DCodeLog
import PanqecVerif.Proofs.LatToric3DCodeRank
import PanqecVerif.Proofs.LatToric3DCodeStab
import PanqecVerif.Proofs.LatToricStep
import PanqecVerif.Proofs.LatXCubeCodeBasics
import PanqecVerif.Proofs.LatXCubeCodeComm
import PanqecVerif.Proofs.LatXCubeCodeCss
import PanqecVerif.Proofs.LatXCubeCodeLog
import PanqecVerif.Proofs.LatXCubeCodeLogComm
import PanqecVerif.Proofs.LatXCubeCodePair
import PanqecVerif.Proofs.LatXCubeCodeRankFamily
import PanqecVerif.Proofs.LatXCubeCodeRankIndep
import PanqecVerif.Proofs.LatXCubeCodeRankProbes
import PanqecVerif.Proofs.LatXCubeCodeStab
import PanqecVerif.Proofs.LoopNest
import PanqecVerif.Proofs.Mask
import PanqecVerif.Proofs.MaskBatched
import PanqecVerif.Proofs.MaskFast
import PanqecVerif.Proofs.MaskLanes
import PanqecVerif.Proofs.MaskPrimitives
import PanqecVerif.Proofs.MaskSelect
import PanqecVerif.Proofs.MaskTagged
import PanqecVerif.Proofs.MbpDecoder
import PanqecVerif.Proofs.Noise
import PanqecVerif.Proofs.NoiseLog
import PanqecVerif.Proofs.NoiseProb
import PanqecVerif.Proofs.NoiseSplit
import PanqecVerif.Proofs.OpComm
import PanqecVerif.Proofs.OpCommCore
import PanqecVerif.Proofs.OpRowParts
import PanqecVerif.Proofs.RankCore
import PanqecVerif.Proofs.RowCombos
import PanqecVerif.Proofs.RunFile
import PanqecVerif.Proofs.Sim
import PanqecVerif.Proofs.SimDist
import PanqecVerif.Proofs.SimGrid
import PanqecVerif.Proofs.Spec
import PanqecVerif.Proofs.SpecInst
import PanqecVerif.Proofs.SpecSims
import PanqecVerif.Proofs.SpecSplit
import PanqecVerif.Proofs.SplittingEst
import PanqecVerif.Proofs.SplittingRun
import PanqecVerif.Proofs.SplittingStep
import PanqecVerif.Proofs.SweepCubic
import PanqecVerif.Proofs.SweepGeneric
import PanqecVerif.Proofs.SweepInstances
import PanqecVerif.Proofs.SweepLattice
import PanqecVerif.Proofs.SweepPlanar
import PanqecVerif.Proofs.SweepRotPlanar
import PanqecVerif.Proofs.SweepRotPlanarBase
import PanqecVerif.Proofs.SweepRotPlanarEdges
import PanqecVerif.Proofs.SweepRotToric
import PanqecVerif.Proofs.SweepRotToricBase
import PanqecVerif.Proofs.SweepRotToricBridge
import PanqecVerif.Proofs.SweepRotToricEdges
import PanqecVerif.Proofs.SweepTables
import PanqecVerif.Proofs.SweepToric
import PanqecVerif.Proofs.Symplectic
import PanqecVerif.Proofs.UnionFindBasic
import PanqecVerif.Proofs.UnionFindBfsInv
import PanqecVerif.Proofs.UnionFindBfsStep
import PanqecVerif.Proofs.UnionFindBfsTree
import PanqecVerif.Proofs.UnionFindDecodeClusters
import PanqecVerif.Proofs.UnionFindDecodeVector
import PanqecVerif.Proofs.UnionFindGraph
import PanqecVerif.Proofs.UnionFindGrowAbsorb
import PanqecVerif.Proofs.UnionFindGrowCollect
import PanqecVerif.Proofs.UnionFindGrowForest
import PanqecVerif.Proofs.UnionFindGrowFuse
import PanqecVerif.Proofs.UnionFindGrowLoop
import PanqecVerif.Proofs.UnionFindGrowMerge
import PanqecVerif.Proofs.UnionFindGrowPost
import PanqecVerif.Proofs.UnionFindIncidence
import PanqecVerif.Proofs.UnionFindOld
import PanqecVerif.Proofs.UnionFindPeelLeaves
import PanqecVerif.Proofs.UnionFindPeelLoop
import PanqecVerif.Proofs.UnionFindPeelParity
import PanqecVerif.Proofs.UnionFindPeelRound
import PanqecVerif.Proofs.UnionFindSched
import PanqecVerif.Proofs.UnionFindTermBoundary
import PanqecVerif.Proofs.UnionFindTermEven
import PanqecVerif.Proofs.UnionFindTermGrow
import PanqecVerif.Proofs.UnionFindTermProgress
import PanqecVerif.Proofs.UnionFindWF
import PanqecVerif.Proofs.UtilsPure
import PanqecVerif.Proofs.ValidCode
import PanqecVerif.Proofs.XCubeDecBasic
import PanqecVerif.Proofs.XCubeDecComps
import PanqecVerif.Proofs.XCubeDecCss
import PanqecVerif.Proofs.XCubeDecHoare
import PanqecVerif.Proofs.XCubeDecKeys
import PanqecVerif.Proofs.XCubeDecMatch
import PanqecVerif.Proofs.XCubeDecNew
import PanqecVerif.Proofs.XCubeDecNoKeyError
import PanqecVerif.Proofs.XCubeDecPlane
import PanqecVerif.Proofs.XCubeDecProject
import PanqecVerif.Proofs.XCubeDecSlice
import PanqecVerif.Proofs.XCubeDecValid
import PanqecVerif.Proofs.XCubeDecWalk
import PanqecVerif.Proofs.XCubeDecWitness
import PanqecVerif.Properties.C01
import PanqecVerif.Properties.C01Color3DCode
import PanqecVerif.Properties.C01Color488Code
import PanqecVerif.Properties.C01Color666PlanarCode
import PanqecVerif.Properties.C01Color666ToricCode
import PanqecVerif.Properties.C01HollowPlanar3DCode
import PanqecVerif.Properties.C01HollowRhombicCode
import PanqecVerif.Properties.C01Planar2DCode
import PanqecVerif.Properties.C01Planar3DCode
import PanqecVerif.Properties.C01RhombicPlanarCode
import PanqecVerif.Properties.C01RhombicToricCode
import PanqecVerif.Properties.C01RotatedPlanar2DCode
import PanqecVerif.Properties.C01RotatedPlanar3DCode
import PanqecVerif.Properties.C01RotatedToric3DCode
import PanqecVerif.Properties.C01Toric2DCode
import PanqecVerif.Properties.C01Toric3DCode
import PanqecVerif.Properties.C01XCubeCode
import PanqecVerif.Properties.C02
import PanqecVerif.Properties.C03
import PanqecVerif.Properties.C03BSparse
import PanqecVerif.Properties.C03Rank
import PanqecVerif.Properties.C03Utils
import PanqecVerif.Properties.C04
import PanqecVerif.Properties.C05
import PanqecVerif.Properties.C05Mbp
import PanqecVerif.Properties.C05UnionFind
import PanqecVerif.Properties.C05UnionFindToric
import PanqecVerif.Properties.C05XCube
import PanqecVerif.Properties.C06
import PanqecVerif.Properties.C06XCube
import PanqecVerif.Properties.C07
import PanqecVerif.Properties.C08
import PanqecVerif.Properties.C09
import PanqecVerif.Properties.C10
import PanqecVerif.Properties.C10RotatedToric3DModel
import PanqecVerif.Properties.C11
import PanqecVerif.Properties.C12
import PanqecVerif.Properties.C13
import PanqecVerif.Properties.C14
import PanqecVerif.Properties.C15
import PanqecVerif.Properties.C16
import PanqecVerif.Properties.C16Window
import PanqecVerif.Properties.C17
import PanqecVerif.Properties.C17Color488Code
import PanqecVerif.Properties.C17Color666ToricCode
import PanqecVerif.Properties.C17HollowPlanar3DCode
import PanqecVerif.Properties.C17HollowRhombicCode
import PanqecVerif.Properties.C17Planar2DCode
import PanqecVerif.Properties.C17Planar3DCode
import PanqecVerif.Properties.C17RhombicPlanarCode
import PanqecVerif.Properties.C17RhombicToricCode
import PanqecVerif.Properties.C17RotatedPlanar2DCode
import PanqecVerif.Properties.C17RotatedPlanar3DCode
import PanqecVerif.Properties.C17RotatedToric3DCode
import PanqecVerif.Properties.C17Toric2DCode
import PanqecVerif.Properties.C17Toric3DCode
import PanqecVerif.Properties.C17XCubeCode
import PanqecVerif.Properties.C18
import PanqecVerif.Properties.C18Splitting
import PanqecVerif.Properties.C19
import PanqecVerif.Properties.C20
import PanqecVerif.Properties.C20Repr
import PanqecVerif.Properties.C20Routes
import PanqecVerif.Properties.C20RoutesNoise
